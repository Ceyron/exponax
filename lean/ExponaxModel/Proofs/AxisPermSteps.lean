import ExponaxModel.Proofs.AxisPermTerms
import ExponaxModel.Proofs.SymbolAlgebra
import ExponaxModel.Proofs.StageRel
/-
C08: `n` ETDRK steps (orders 0–4) of an isotropic stepper commute with permutations of the spatial axes on
real Nyquist-free states: `physCh (step^n (rfftn u')) (τ ch) = P_σ (physCh (step^n (rfftn u)) ch)` whenever
`u'_{τ ch} = P_σ u_ch`; `τ = id` for the single-channel-type terms, `τ = chanMap σ` for multi-channel convection.
`GoodMC` is the relation on spectral states and `IsoCoef` that on coefficient arrays, in the sense of `Etdrk.StepRel`:
the step level of the stage relation `permRel` (`Proofs/StageRel`).
-/
set_option linter.unusedVariables false
namespace Exponax.AxisPerm
open Exponax.Layout Exponax.Transform Exponax.AliasND Exponax.Nonlin Exponax.Alias
open Exponax.Gen.Etdrk
open Exponax.EquivND (liftTermND specMC physCh liftTermND_apply)

def GoodMC (c : Cfg ℂ) (σ : Equiv.Perm (Fin c.D)) (τ : ℕ → ℕ) (v v' : ℕ → ℕ → ℂ) : Prop :=
  ∀ ch, SpecPerm c.D c.N σ (tab (modes c) (v ch)) (tab (modes c) (v' (τ ch)))

def IsoCoef (c : Cfg ℂ) (σ : Equiv.Perm (Fin c.D)) (τ : ℕ → ℕ) (e e' : ℕ → ℕ → ℂ) : Prop :=
  ∀ ch, ∃ g : (Fin c.D → ℤ) → ℂ, (∀ k, g (-k) = (starRingEnd ℂ) (g k)) ∧ (∀ k, g (k ∘ σ) = g k) ∧
    (∀ h, h < modes c → e ch h = g (kvec c.D c.N h)) ∧ (∀ h, h < modes c → e' (τ ch) h = g (kvec c.D c.N h))

/-- an isotropic pair of coefficient arrays is covariant: a `σ`-invariant `g` is its own partner -/
theorem fnCov_of_isoCoef (c : Cfg ℂ) (hc : PermCfg c) (σ : Equiv.Perm (Fin c.D)) (τ : ℕ → ℕ) {e e' : ℕ → ℕ → ℂ}
    (h : IsoCoef c σ τ e e') : Stage.FnCov (permRel c hc σ) τ e e' := fun ch => by
  obtain ⟨g, hg, hgσ, he, he'⟩ := h ch
  exact ⟨g, hg, he, fun m hm => by rw [he' m hm, hgσ]⟩

/-- `GoodMC c σ τ` unfolds to `Stage.FnS (permRel c hc σ) τ`, so this is `StageRel.stepRel` with the coefficient side
    narrowed to `IsoCoef` -/
theorem goodMC_stepRel (c : Cfg ℂ) (hc : PermCfg c) (σ : Equiv.Perm (Fin c.D)) (τ : ℕ → ℕ) :
    Etdrk.StepRel (GoodMC c σ τ) (IsoCoef c σ τ) :=
  have h := (permRel c hc σ).stepRel τ
  ⟨h.add, h.sub, fun he => h.mul (fnCov_of_isoCoef c hc σ τ he), fun _ =>
    ⟨fun _ => ((2 : ℕ) : ℂ), fun _ => (Complex.conj_natCast 2).symm, fun _ => rfl, fun _ _ => rfl, fun _ _ => rfl⟩⟩

theorem convection_multi_termPerm (c : Cfg ℂ) (hc : PermCfg c) (σ : Equiv.Perm (Fin c.D)) (scale : ℂ)
    (hsc : scale.im = 0) (conservative : Bool) :
    TermPerm c σ (chanMap σ) (convection c c.D scale false conservative) := by
  intro uh uh' h
  cases conservative
  · exact convection_multi_noncons_mcSpecPerm c hc σ scale hsc uh uh' h
  · exact convection_multi_cons_mcSpecPerm c hc σ scale hsc uh uh' h

theorem isoCoef_of_fn (c : Cfg ℂ) (σ : Equiv.Perm (Fin c.D)) (τ : ℕ → ℕ) (g : (Fin c.D → ℤ) → ℂ)
    (hg : ∀ k, g (-k) = (starRingEnd ℂ) (g k)) (hgσ : ∀ k, g (k ∘ σ) = g k) :
    IsoCoef c σ τ (fun _ h => g (kvec c.D c.N h)) (fun _ h => g (kvec c.D c.N h)) :=
  fun _ => ⟨g, hg, hgσ, fun _ _ => rfl, fun _ _ => rfl⟩

/-- the isotropic `general_linear` symbol `Σ_j a_j Σ_d (i s k_d)^j` as a function of the wavenumber vector -/
noncomputable def generalLinearFn (c : Cfg ℂ) (a : List ℂ) (k : Fin c.D → ℤ) : ℂ :=
  ∑ j ∈ Finset.range a.length, a.getD j 0 * ∑ e : Fin c.D, derivFn c e k ^ j

theorem polySymbol_generalLinear_eq_fn (c : Cfg ℂ) (a : List ℂ) (h : ℕ) :
    polySymbol c (generalLinear c.D a) h = generalLinearFn c a (kvec c.D c.N h) := by
  have := polyAt_generalLinear (kappa c h) a
  rw [kappa_length] at this
  rw [polySymbol_eq_polyAt, this, generalLinearFn]
  apply Finset.sum_congr rfl
  intro j _
  congr 1
  rw [Finset.sum_range]
  apply Finset.sum_congr rfl
  intro e _
  rw [kappa_getD c h e e.2]
  rfl

theorem generalLinearFn_neg (c : Cfg ℂ) (hs : c.s.im = 0) (a : List ℂ) (ha : ∀ x ∈ a, x.im = 0)
    (k : Fin c.D → ℤ) : generalLinearFn c a (-k) = (starRingEnd ℂ) (generalLinearFn c a k) := by
  unfold generalLinearFn
  rw [map_sum]
  apply Finset.sum_congr rfl
  intro j hj
  have hj' := Finset.mem_range.mp hj
  have haj : (starRingEnd ℂ) (a.getD j 0) = a.getD j 0 := by
    apply Complex.conj_eq_iff_im.mpr
    rw [List.getD_eq_getElem?_getD, List.getElem?_eq_getElem hj', Option.getD_some]
    exact ha _ (List.getElem_mem hj')
  rw [map_mul, map_sum, haj]
  congr 1
  apply Finset.sum_congr rfl
  intro e _
  rw [map_pow, derivFn_neg c hs]

theorem generalLinearFn_comp (c : Cfg ℂ) (σ : Equiv.Perm (Fin c.D)) (a : List ℂ) (k : Fin c.D → ℤ) :
    generalLinearFn c a (k ∘ σ) = generalLinearFn c a k := by
  unfold generalLinearFn
  apply Finset.sum_congr rfl
  intro j _
  congr 1
  simp only [derivFn_comp]
  exact Equiv.sum_comp σ (fun e => derivFn c e k ^ j)

/-- `IsoCoef` holds for every conj-equivariant function `F` (`exp(dt·)`, the ETDRK `φ`-type coefficients) of
    the isotropic `general_linear` symbol with real coefficients -/
theorem isoCoef_generalLinear (c : Cfg ℂ) (hs : c.s.im = 0) (σ : Equiv.Perm (Fin c.D)) (τ : ℕ → ℕ) (a : List ℂ)
    (ha : ∀ x ∈ a, x.im = 0) (F : ℂ → ℂ) (hF : ∀ z, F ((starRingEnd ℂ) z) = (starRingEnd ℂ) (F z)) :
    IsoCoef c σ τ (fun _ h => F (polySymbol c (generalLinear c.D a) h))
      (fun _ h => F (polySymbol c (generalLinear c.D a) h)) := by
  simp only [polySymbol_generalLinear_eq_fn]
  exact isoCoef_of_fn c σ τ (fun k => F (generalLinearFn c a k))
    (fun k => (congrArg F (generalLinearFn_neg c hs a ha k)).trans (hF _))
    (fun k => congrArg F (generalLinearFn_comp c σ a k))

theorem goodMC_specMC (c : Cfg ℂ) (hD : 0 < c.D) (hN : 0 < c.N) (σ : Equiv.Perm (Fin c.D)) (τ : ℕ → ℕ)
    (u u' : MC ℂ) (hreal : ∀ ch, IsRealND c.D c.N (u.getD ch #[]))
    (hfree : ∀ ch, NyqFreeS c.D c.N (rfftnM c.D c.N (u.getD ch #[])))
    (hperm : ∀ ch, FieldPerm c.D c.N σ (u.getD ch #[]) (u'.getD (τ ch) #[])) :
    GoodMC c σ τ (specMC c.D c.N u) (specMC c.D c.N u') := by
  intro ch
  refine specPerm_congr c.D c.N hN σ _ _ _ _ ?_ ?_
    (specPerm_rfftn c.D c.N hD hN σ _ _ (hreal ch) (hfree ch) (hperm ch))
  · intro m hm
    rw [DFT.tab_getD _ _ _ _ (show m < modes c from hm)]
    rfl
  · intro m hm
    rw [DFT.tab_getD _ _ _ _ (show m < modes c from hm)]
    rfl

theorem physCh_good (c : Cfg ℂ) (σ : Equiv.Perm (Fin c.D)) (τ : ℕ → ℕ) (v v' : ℕ → ℕ → ℂ)
    (h : GoodMC c σ τ v v') (ch : ℕ) :
    physCh c.D c.N v' (τ ch) = permField c.D c.N σ (physCh c.D c.N v ch) :=
  eq_permField_of_fieldPerm (DFT.irfftnM_size _ _ _) (h ch).2.2

/-- related states, tabulated with `C` channels; with `0 < c.N` alone, as `C08_term_axis_permutation_physical` has no `PermCfg` -/
theorem mcSpecPerm_of_goodMC (c : Cfg ℂ) (hN : 0 < c.N) (σ : Equiv.Perm (Fin c.D)) (τ : ℕ → ℕ) (C : ℕ)
    (hτ : ∀ ch, τ ch < C ↔ ch < C) (v v' : ℕ → ℕ → ℂ) (h : GoodMC c σ τ v v') :
    MCSpecPerm c σ τ (tab2 C (modes c) v) (tab2 C (modes c) v') := by
  intro ch
  by_cases hc : ch < C
  · refine specPerm_congr c.D c.N hN σ _ _ _ _ (fun m (hm : m < modes c) => ?_) (fun m (hm : m < modes c) => ?_) (h ch)
    · rw [DFT.tab_getD _ _ _ _ hm, DFT.tab_getD _ _ _ _ hm, at2_tab2 _ _ _ _ _ hc hm]
    · rw [DFT.tab_getD _ _ _ _ hm, DFT.tab_getD _ _ _ _ hm, at2_tab2 _ _ _ _ _ ((hτ ch).mpr hc) hm]
  · refine specPerm_zero c.D c.N σ _ _ (fun m hm => ?_) (fun m hm => ?_)
    · rw [DFT.tab_getD _ _ _ _ (show m < modes c from hm), at2_tab2_any, if_neg fun h' => hc h'.1]
    · rw [DFT.tab_getD _ _ _ _ (show m < modes c from hm), at2_tab2_any, if_neg fun h' => hc ((hτ ch).mp h'.1)]

/-- C08 for any pair of step maps preserving `GoodMC` -/
theorem physical_axisPerm (c : Cfg ℂ) (hD : 0 < c.D) (hN : 0 < c.N) (σ : Equiv.Perm (Fin c.D)) (τ : ℕ → ℕ)
    (step step' : (ℕ → ℕ → ℂ) → (ℕ → ℕ → ℂ))
    (hstep : ∀ v v', GoodMC c σ τ v v' → GoodMC c σ τ (step v) (step' v')) (n : ℕ)
    (u u' : MC ℂ) (hreal : ∀ ch, IsRealND c.D c.N (u.getD ch #[]))
    (hfree : ∀ ch, NyqFreeS c.D c.N (rfftnM c.D c.N (u.getD ch #[])))
    (hperm : ∀ ch, FieldPerm c.D c.N σ (u.getD ch #[]) (u'.getD (τ ch) #[])) (ch : ℕ) :
    physCh c.D c.N (step'^[n] (specMC c.D c.N u')) (τ ch)
      = permField c.D c.N σ (physCh c.D c.N (step^[n] (specMC c.D c.N u)) ch) :=
  physCh_good c σ τ _ _ (Etdrk.iterate_rel (GoodMC c σ τ) step step' hstep n _ _
    (goodMC_specMC c hD hN σ τ u u' hreal hfree hperm)) ch

section Physical
variable (c : Cfg ℂ) (hc : PermCfg c) (σ : Equiv.Perm (Fin c.D)) (τ : ℕ → ℕ) (C : ℕ)
  (hτ : ∀ ch, τ ch < C ↔ ch < C) (T : MC ℂ → MC ℂ) (hT : TermPerm c σ τ T)
  (u u' : MC ℂ) (hreal : ∀ ch, IsRealND c.D c.N (u.getD ch #[]))
  (hfree : ∀ ch, NyqFreeS c.D c.N (rfftnM c.D c.N (u.getD ch #[])))
  (hperm : ∀ ch, FieldPerm c.D c.N σ (u.getD ch #[]) (u'.getD (τ ch) #[]))
include hc hreal hfree hperm

/-- C08, linear isotropic steppers (ETDRK0) -/
theorem E0_axisPerm_physical {E : ℕ → ℕ → ℂ} (hE : IsoCoef c σ τ E E) (n : ℕ) (ch : ℕ) :
    physCh c.D c.N ((E0step E)^[n] (specMC c.D c.N u')) (τ ch)
      = permField c.D c.N σ (physCh c.D c.N ((E0step E)^[n] (specMC c.D c.N u)) ch) :=
  physical_axisPerm c hc.hD hc.hN σ τ _ _ (fun _ _ hv => Etdrk.E0step_rel (goodMC_stepRel c hc σ τ) hE hv) n u u'
    hreal hfree hperm ch

include hτ hT

theorem E1_axisPerm_physical {E c1 : ℕ → ℕ → ℂ} (hE : IsoCoef c σ τ E E) (h1 : IsoCoef c σ τ c1 c1)
    (n : ℕ) (ch : ℕ) :
    physCh c.D c.N ((E1step E c1 (liftTermND c C T))^[n] (specMC c.D c.N u')) (τ ch)
      = permField c.D c.N σ (physCh c.D c.N ((E1step E c1 (liftTermND c C T))^[n] (specMC c.D c.N u)) ch) :=
  physical_axisPerm c hc.hD hc.hN σ τ _ _ (fun _ _ hv => Etdrk.E1step_rel (goodMC_stepRel c hc σ τ)
    ((permRel c hc σ).liftTermND_rel τ hτ hT) hE h1 hv) n u u' hreal hfree hperm ch

theorem E2_axisPerm_physical {E c1 c2 : ℕ → ℕ → ℂ} (hE : IsoCoef c σ τ E E) (h1 : IsoCoef c σ τ c1 c1)
    (h2 : IsoCoef c σ τ c2 c2) (n : ℕ) (ch : ℕ) :
    physCh c.D c.N ((E2step E c1 c2 (liftTermND c C T))^[n] (specMC c.D c.N u')) (τ ch)
      = permField c.D c.N σ
          (physCh c.D c.N ((E2step E c1 c2 (liftTermND c C T))^[n] (specMC c.D c.N u)) ch) :=
  physical_axisPerm c hc.hD hc.hN σ τ _ _ (fun _ _ hv => Etdrk.E2step_rel (goodMC_stepRel c hc σ τ)
    ((permRel c hc σ).liftTermND_rel τ hτ hT) hE h1 h2 hv) n u u' hreal hfree hperm ch

theorem E3_axisPerm_physical {E Eh c1 c2 c3 c4 c5 : ℕ → ℕ → ℂ} (hE : IsoCoef c σ τ E E)
    (hEh : IsoCoef c σ τ Eh Eh) (h1 : IsoCoef c σ τ c1 c1) (h2 : IsoCoef c σ τ c2 c2)
    (h3 : IsoCoef c σ τ c3 c3) (h4 : IsoCoef c σ τ c4 c4) (h5 : IsoCoef c σ τ c5 c5) (n : ℕ) (ch : ℕ) :
    physCh c.D c.N ((E3step E Eh c1 c2 c3 c4 c5 (liftTermND c C T))^[n] (specMC c.D c.N u')) (τ ch)
      = permField c.D c.N σ
          (physCh c.D c.N ((E3step E Eh c1 c2 c3 c4 c5 (liftTermND c C T))^[n] (specMC c.D c.N u)) ch) :=
  physical_axisPerm c hc.hD hc.hN σ τ _ _
    (fun _ _ hv => Etdrk.E3step_rel (goodMC_stepRel c hc σ τ) ((permRel c hc σ).liftTermND_rel τ hτ hT)
      hE hEh h1 h2 h3 h4 h5 hv) n u u' hreal hfree hperm ch

theorem E4_axisPerm_physical {E Eh c1 c2 c3 c4 c5 c6 : ℕ → ℕ → ℂ} (hE : IsoCoef c σ τ E E)
    (hEh : IsoCoef c σ τ Eh Eh) (h1 : IsoCoef c σ τ c1 c1) (h2 : IsoCoef c σ τ c2 c2)
    (h3 : IsoCoef c σ τ c3 c3) (h4 : IsoCoef c σ τ c4 c4) (h5 : IsoCoef c σ τ c5 c5)
    (h6 : IsoCoef c σ τ c6 c6) (n : ℕ) (ch : ℕ) :
    physCh c.D c.N ((E4step E Eh c1 c2 c3 c4 c5 c6 (liftTermND c C T))^[n] (specMC c.D c.N u')) (τ ch)
      = permField c.D c.N σ
          (physCh c.D c.N ((E4step E Eh c1 c2 c3 c4 c5 c6 (liftTermND c C T))^[n] (specMC c.D c.N u)) ch) :=
  physical_axisPerm c hc.hD hc.hN σ τ _ _
    (fun _ _ hv => Etdrk.E4step_rel (goodMC_stepRel c hc σ τ) ((permRel c hc σ).liftTermND_rel τ hτ hT)
      hE hEh h1 h2 h3 h4 h5 h6 hv) n u u' hreal hfree hperm ch

end Physical

def permMC (c : Cfg ℂ) (σ : Equiv.Perm (Fin c.D)) (u : MC ℂ) : MC ℂ := u.map (permField c.D c.N σ)

theorem fieldPerm_permMC (c : Cfg ℂ) (σ : Equiv.Perm (Fin c.D)) (u : MC ℂ) (ch : ℕ) :
    FieldPerm c.D c.N σ (u.getD ch #[]) ((permMC c σ u).getD (id ch) #[]) := by
  intro j hj
  unfold permMC
  rw [id, EquivND.getD_map]
  split_ifs with hc
  · exact permField_getD c.D c.N σ _ j hj
  · simp [Array.getD]

/-- the `D`-channel state with the axes AND the velocity channels permuted: `u'_{σ i} = P_σ u_i` -/
def permVecMC (c : Cfg ℂ) (σ : Equiv.Perm (Fin c.D)) (u : MC ℂ) : MC ℂ :=
  tabC c.D (fun ch' => permField c.D c.N σ (u.getD (chanMap σ⁻¹ ch') #[]))

theorem chanMap_inv {D : ℕ} (σ : Equiv.Perm (Fin D)) (ch : ℕ) : chanMap σ⁻¹ (chanMap σ ch) = ch := by
  by_cases h : ch < D
  · have h1 : chanMap σ ch = (σ ⟨ch, h⟩ : ℕ) := chanMap_fin σ ⟨ch, h⟩
    rw [h1, chanMap_fin σ⁻¹ (σ ⟨ch, h⟩)]
    simp
  · simp [chanMap, h]

theorem fieldPerm_permVecMC (c : Cfg ℂ) (σ : Equiv.Perm (Fin c.D)) (u : MC ℂ) (hsz : u.size ≤ c.D) (ch : ℕ) :
    FieldPerm c.D c.N σ (u.getD ch #[]) ((permVecMC c σ u).getD (chanMap σ ch) #[]) := by
  intro j hj
  show at2 (permVecMC c σ u) (chanMap σ ch) j = _
  unfold permVecMC
  rw [at2_tabC_any]
  by_cases h : ch < c.D
  · rw [if_pos ((chanMap_lt_iff σ ch).mpr h), chanMap_inv, permField_getD c.D c.N σ _ j hj]
  · rw [if_neg (fun h' => h ((chanMap_lt_iff σ ch).mp h'))]
    have : u.getD ch #[] = #[] := by simp [Array.getD, show ¬ ch < u.size by omega]
    rw [this]
    simp

example (c : Cfg ℂ) (hc : PermCfg c) (σ : Equiv.Perm (Fin c.D)) : ∃ T, TermPerm c σ id T :=
  ⟨_, general_mcSpecPerm c hc σ 1 1 1 1 (by simp) (by simp) (by simp) true⟩

example (c : Cfg ℂ) (hc : PermCfg c) (σ : Equiv.Perm (Fin c.D)) : ∃ E, IsoCoef c σ id E E :=
  ⟨_, isoCoef_generalLinear c hc.hs σ id [0, 0, 1]
    (by simp only [List.forall_mem_cons, Complex.zero_im, Complex.one_im, List.not_mem_nil, false_imp_iff,
      implies_true, and_self])
    Complex.exp (fun z => by rw [← Complex.exp_conj])⟩

/-- real Nyquist-free states exist: the constant state -/
example (D N : ℕ) (hD : 0 < D) (hN : 0 < N) :
    ∃ u : Array ℂ, IsRealND D N u ∧ NyqFreeS D N (rfftnM D N u) := by
  refine ⟨tab (N ^ D) (fun _ => 1), fun j hj => ?_, fun h hh hny => ?_⟩
  · rw [DFT.tab_getD _ _ _ _ hj, Complex.one_im]
  · obtain ⟨d, _, hn⟩ := hny
    rw [rfftn_eq_dftV D N hN _ h hh, dftV_const D N hN, if_neg (fun hall => hn (hall d))]

end Exponax.AxisPerm
