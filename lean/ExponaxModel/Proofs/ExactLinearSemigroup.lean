import ExponaxModel.Proofs.MultiplierCalc
/-
C01 support (semigroup, inverse, and the `polySymbol` instance).

* On band-limited states (finite superpositions of modes strictly below Nyquist) the linear step is a
  one-parameter group: `n` steps of `t` equal one step of `n·t`, two steps add, and a step with `−t` undoes a
  step with `t` (no restriction on `Re Λ`): `linStep_group` of `MultiplierCalc` at `realBL_stateOf`.
* On a state with Nyquist content this FAILS (the c2r transform projects the Nyquist coefficient onto its real
  part): explicit counterexample `N = 2`, `D = 1`.
* For `Λ = polySymbol c terms` (real scale, real coefficients) the Hermitian symmetry holds and the symbol at the
  wave vector `κ` is the polynomial `Σ coef·Π_d (i s κ_d)^{α_d}` — the eigenvalue of the documented operator on
  the plane wave `e^{i s κ·x}` (`C01_symbol_is_eigenvalue`).
-/
namespace Exponax.ExactLinear
open Exponax Exponax.Layout Exponax.Transform Exponax.DFT Exponax.Gen.Etdrk Exponax.Nonlin Finset
open scoped ComplexConjugate

theorem linStep_linStep (D N : ℕ) (hD : 0 < D) (hN : 0 < N) (Λ : ℕ → ℂ) (hΛ : HermSym D N Λ) (t₁ t₂ : ℝ)
    (ms : Modes) (hms : ∀ m ∈ ms, BelowNyquist D N m.1) :
    linStep D N Λ t₂ (linStep D N Λ t₁ (stateOf D N ms))
      = linStep D N Λ ((t₁ + t₂ : ℝ) : ℂ) (stateOf D N ms) :=
  linStep_add D N hD hN Λ hΛ t₁ t₂ _ (realBL_stateOf D N hD hN ms hms)

theorem linStep_zero_time (D N : ℕ) (hD : 0 < D) (hN : 0 < N) (Λ : ℕ → ℂ) (hΛ : HermSym D N Λ)
    (ms : Modes) (hms : ∀ m ∈ ms, BelowNyquist D N m.1) :
    linStep D N Λ ((0 : ℝ) : ℂ) (stateOf D N ms) = stateOf D N ms :=
  linStep_zero D N hD hN Λ _ (realBL_stateOf D N hD hN ms hms)

/-- the Nyquist mode `u_j = cos(π j) = (1, −1)` on the 2-point grid -/
noncomputable def nyqState : Array ℂ := modeField 1 2 [1] 1 0

theorem nyqState_getD_zero : nyqState.getD 0 0 = 1 := by
  rw [nyqState, modeField_getD 1 2 _ _ _ 0 (by norm_num), phaseK_zero_point]
  simp

theorem nyqState_getD_one : nyqState.getD 1 0 = -1 := by
  rw [nyqState, modeField_getD 1 2 _ _ _ 1 (by norm_num), phaseK_one_of_lt 2 _ 1 (by norm_num)]
  have : 2 * Real.pi * (((1 : ℤ) * ((1 : ℕ) : ℤ) : ℤ) : ℝ) / ((2 : ℕ) : ℝ) + 0 = Real.pi := by
    push_cast; ring
  rw [this, Real.cos_pi]
  simp

theorem rfftn_nyqState_zero : (rfftnM 1 2 nyqState).getD 0 0 = 0 := by
  rw [C2R.rfft2_zero, nyqState_getD_zero, nyqState_getD_one, add_neg_cancel]

theorem rfftn_nyqState_one : (rfftnM 1 2 nyqState).getD 1 0 = 2 := by
  rw [C2R.rfft2_one, nyqState_getD_zero, nyqState_getD_one]
  norm_num

/-- a Fourier multiplier on the Nyquist mode of the 2-point grid: only the real part of `G 1` survives -/
theorem specApply_nyqState (G : ℕ → ℂ) (j : ℕ) (hj : j < 2) :
    (ReadOff.specApply 1 2 G nyqState).getD j 0 = (((G 1).re * (-1) ^ j : ℝ) : ℂ) := by
  rw [ReadOff.specApply_getD 1 2 (by norm_num) G _ j (by simpa using hj)]
  have hM : numModes 1 2 = 2 := by rw [numModes_one]
  rw [hM, Finset.sum_range_succ, Finset.sum_range_one, rfftn_nyqState_zero, rfftn_nyqState_one,
    herm_weight_one 2 1, wnFlat_one 2 1, phaseK_one_of_lt 2 _ j hj, zeta_two]
  interval_cases j
  · simp
  · simp
    ring

theorem linStep_nyqState (Λ : ℕ → ℂ) (t : ℂ) (j : ℕ) (hj : j < 2) :
    (linStep 1 2 Λ t nyqState).getD j 0 = (((Complex.exp (t * Λ 1)).re * (-1) ^ j : ℝ) : ℂ) :=
  specApply_nyqState (fun h => Complex.exp (t * Λ h)) j hj

/-- the symbol of the counterexample: purely imaginary, `Λ 0 = 0`, `Λ 1 = iπ` (an advection symbol) -/
noncomputable def nyqSym : ℕ → ℂ := fun h => if h = 0 then 0 else Real.pi * Complex.I

theorem nyqSym_re (h : ℕ) : (nyqSym h).re = 0 := by
  unfold nyqSym; split_ifs <;> simp

theorem nyqSym_hermSym : HermSym 1 2 nyqSym := by
  intro h hh h' hh' hk
  have := hk 0 (by norm_num)
  rw [wnFlat_one, wnFlat_one] at this
  simp only [List.getD_cons_zero] at this
  have h0 : h = 0 := by omega
  have h0' : h' = 0 := by omega
  subst h0 h0'
  simp [nyqSym]

theorem exp_half_pi_I : Complex.exp ((1 / 2 : ℂ) * (Real.pi * Complex.I)) = Complex.I := by
  rw [show (1 / 2 : ℂ) * (Real.pi * Complex.I) = ((Real.pi / 2 : ℝ) : ℂ) * Complex.I by push_cast; ring,
    Complex.exp_mul_I, ← Complex.ofReal_cos, ← Complex.ofReal_sin, Real.cos_pi_div_two,
    Real.sin_pi_div_two]
  simp

/-- half a unit of time annihilates the Nyquist state: the propagated Nyquist coefficient `2i` is purely
    imaginary and the c2r transform keeps only its real part -/
theorem linStep_nyqState_half : linStep 1 2 nyqSym (1 / 2 : ℂ) nyqState = vzero (2 ^ 1) := by
  apply array_ext_getD _ _ (2 ^ 1) (by simp) (by simp)
  intro j hj
  rw [linStep_nyqState nyqSym _ j (by simpa using hj), vzero_getD]
  have : nyqSym 1 = Real.pi * Complex.I := by simp [nyqSym]
  rw [this, exp_half_pi_I]
  have hj' : j = 0 ∨ j = 1 := by omega
  rcases hj' with rfl | rfl <;> simp

/-- **Counterexample (inverse).** With Nyquist content a step with `−t` does NOT undo a step with `t`, even for
    a purely imaginary, Hermitian-symmetric symbol: `N = 2`, `D = 1`, `u = (1, −1)`, `Λ = (0, iπ)`, `t = 1/2`. -/
theorem nyquist_inverse_fails :
    (∀ h, (nyqSym h).re = 0) ∧ HermSym 1 2 nyqSym ∧ (∀ j < 2 ^ 1, (nyqState.getD j 0).im = 0) ∧
      linStep 1 2 nyqSym (-(1 / 2 : ℂ)) (linStep 1 2 nyqSym (1 / 2 : ℂ) nyqState) ≠ nyqState := by
  refine ⟨nyqSym_re, nyqSym_hermSym, fun j hj => modeField_real 1 2 _ _ _ j hj, ?_⟩
  rw [linStep_nyqState_half, linStep_vzero 1 2 (by norm_num)]
  intro h
  have := congrArg (fun a : Array ℂ => a.getD 0 0) h
  simp only [vzero_getD, nyqState_getD_zero] at this
  exact zero_ne_one this

/-- **Counterexample (semigroup).** Two steps of `t = 1/2` give `0`, one step of `t = 1` gives `−u`. -/
theorem nyquist_semigroup_fails :
    (linStep 1 2 nyqSym (1 / 2 : ℂ))^[2] nyqState ≠ linStep 1 2 nyqSym (((2 : ℕ) : ℂ) * (1 / 2 : ℂ)) nyqState := by
  rw [Function.iterate_succ_apply', Function.iterate_one, linStep_nyqState_half,
    linStep_vzero 1 2 (by norm_num)]
  intro h
  have := congrArg (fun a : Array ℂ => a.getD 0 0) h
  simp only [vzero_getD] at this
  rw [linStep_nyqState nyqSym _ 0 (by norm_num)] at this
  have h1 : nyqSym 1 = Real.pi * Complex.I := by simp [nyqSym]
  rw [h1, show ((2 : ℕ) : ℂ) * (1 / 2 : ℂ) * (Real.pi * Complex.I) = Real.pi * Complex.I by push_cast; ring,
    Complex.exp_pi_mul_I] at this
  norm_num at this

theorem hermSym_polySymbol (c : Cfg ℂ) (s : ℝ) (hs : c.s = (s : ℂ)) (terms : List (ℂ × List ℕ))
    (hc : ∀ t ∈ terms, t.1.im = 0) : HermSym c.D c.N (polySymbol c terms) := by
  intro h _ h' _ hk
  exact polySymbol_neg_wn_eq_conj c s hs terms h h' (fun d hd => hk d hd) hc

theorem symAt_polySymbol (c : Cfg ℂ) (hD : 0 < c.D) (hN : 0 < c.N) (s : ℝ) (hs : c.s = (s : ℂ))
    (terms : List (ℂ × List ℕ)) (hc : ∀ t ∈ terms, t.1.im = 0) (κ : List ℤ)
    (hκ : BelowNyquist c.D c.N κ) :
    symAt c.D c.N (polySymbol c terms) κ
      = polyAt (imagVec c.D (fun d => s * ((κ.getD d 0 : ℤ) : ℝ))) terms := by
  by_cases hl : 0 ≤ κ.getD (c.D - 1) 0
  · have hw := wnFlat_modeIdx c.D c.N hD hN κ hκ hl
    rw [symAt, if_pos hl, polySymbol_eq_polyAt_imag c s hs]
    congr 2
    funext d
    rw [skAt, wnAt_def, hw]
  · have hl' : 0 ≤ (negK κ).getD (c.D - 1) 0 := by rw [negK_getD]; omega
    have hw := wnFlat_modeIdx c.D c.N hD hN _ hκ.negK hl'
    rw [symAt, if_neg hl, polySymbol_eq_polyAt_imag c s hs]
    have e : imagVec c.D (skAt c s (modeIdx c.D c.N (negK κ)))
        = (imagVec c.D (fun d => s * ((κ.getD d 0 : ℤ) : ℝ))).map (fun z => -z) := by
      rw [← imagVec_neg]
      congr 1
      funext d
      rw [skAt, wnAt_def, hw, negK_getD]
      push_cast
      ring
    rw [e, polyAt_neg_eq_conj _ _ (imagVec_re_zero _ _) hc, Complex.conj_conj]

/-- semigroup / inverse for the documented linear steppers on band-limited states -/
theorem linStep_polySymbol_iterate (c : Cfg ℂ) (hD : 0 < c.D) (hN : 0 < c.N) (s : ℝ) (hs : c.s = (s : ℂ))
    (terms : List (ℂ × List ℕ)) (hc : ∀ t ∈ terms, t.1.im = 0) (t : ℝ) (ms : Modes)
    (hms : ∀ m ∈ ms, BelowNyquist c.D c.N m.1) (n : ℕ) :
    (linStep c.D c.N (polySymbol c terms) (t : ℂ))^[n] (stateOf c.D c.N ms)
        = linStep c.D c.N (polySymbol c terms) (((n : ℝ) * t : ℝ) : ℂ) (stateOf c.D c.N ms) ∧
      linStep c.D c.N (polySymbol c terms) ((-t : ℝ) : ℂ)
          (linStep c.D c.N (polySymbol c terms) t (stateOf c.D c.N ms)) = stateOf c.D c.N ms :=
  have g := linStep_group c.D c.N hD hN _ (hermSym_polySymbol c s hs terms hc) t _
    (realBL_stateOf c.D c.N hD hN ms hms)
  ⟨g.1 n, g.2⟩

/-! non-vacuity -/
example : ∃ (c : Cfg ℂ) (s : ℝ) (terms : List (ℂ × List ℕ)), 0 < c.D ∧ 0 < c.N ∧ c.s = (s : ℂ) ∧
    (∀ t ∈ terms, t.1.im = 0) ∧ BelowNyquist c.D c.N [1, -1, 0] :=
  ⟨{ D := 3, N := 5, s := ((2 : ℝ) : ℂ), fp := 0, fq := 0 }, 2, [((-1 : ℝ), [1, 0, 0])], by norm_num,
    by norm_num, rfl, by simp, rfl, by
      intro d hd
      interval_cases d <;> simp⟩

end Exponax.ExactLinear
