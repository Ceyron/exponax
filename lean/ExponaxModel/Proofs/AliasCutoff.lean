import ExponaxModel.Proofs.DFT1D
import ExponaxModel.Proofs.LayoutLemmas
import ExponaxModel.Proofs.LerayBasic
/-
C03: the model mask `Nonlin.mask` is a cut at the largest retained wavenumber `Kc` (`3 Kc < N` for the
fraction 2/3, `4 Kc < N` for 1/2); the arithmetic of `Kc`; the mask takes the values 0 and 1 only.
-/
namespace Exponax.Alias
open Exponax Exponax.Layout Exponax.Transform Exponax.DFT Exponax.Nonlin Finset

/-- the largest retained wavenumber `⌊(fp·(N/2) − fq)/fq⌋` (an integer; negative when NO mode is
    retained, which happens for very small `N`) -/
def Kc (c : Cfg ℂ) : ℤ := ((c.fp : ℤ) * ((c.N / 2 : ℕ) : ℤ) - (c.fq : ℤ)) / (c.fq : ℤ)

theorem le_Kc_iff (c : Cfg ℂ) (hq : c.fq ≠ 0) (k : ℤ) :
    k ≤ Kc c ↔ k * (c.fq : ℤ) ≤ (c.fp : ℤ) * ((c.N / 2 : ℕ) : ℤ) - (c.fq : ℤ) := by
  unfold Kc
  exact Int.le_ediv_iff_mul_le (by exact_mod_cast Nat.pos_of_ne_zero hq)

theorem mask_one_eq (c : Cfg ℂ) (hD : c.D = 1) (hq : c.fq ≠ 0) (h : ℕ) :
    mask c h = if |(h : ℤ)| * (c.fq : ℤ) ≤ (c.fp : ℤ) * ((c.N / 2 : ℕ) : ℤ) - (c.fq : ℤ) then 1 else 0 := by
  unfold mask
  rw [if_neg hq, hD, wnFlat_one]
  simp only [dealiasMask_iff, List.mem_singleton, forall_eq]

theorem mask_one (c : Cfg ℂ) (hD : c.D = 1) (hq : c.fq ≠ 0) (h : ℕ) :
    mask c h = if (h : ℤ) ≤ Kc c then 1 else 0 := by
  rw [mask_one_eq c hD hq, Nat.abs_cast]
  simp only [le_Kc_iff c hq]

theorem mask_retained (c : Cfg ℂ) (hD : c.D = 1) (hq : c.fq ≠ 0) (h : ℕ) (hk : (h : ℤ) ≤ Kc c) :
    mask c h = 1 := by rw [mask_one c hD hq, if_pos hk]

theorem mask_dropped (c : Cfg ℂ) (hD : c.D = 1) (hq : c.fq ≠ 0) (h : ℕ) (hk : ¬ (h : ℤ) ≤ Kc c) :
    mask c h = 0 := by rw [mask_one c hD hq, if_neg hk]

theorem mask_eq_one_iff (c : Cfg ℂ) (hD : c.D = 1) (hq : c.fq ≠ 0) (h : ℕ) :
    mask c h = 1 ↔ (h : ℤ) ≤ Kc c := by
  rw [mask_one c hD hq, ite_eq_left_iff]
  exact ⟨fun h' => by_contra fun hk => zero_ne_one (h' hk), fun hk hk' => absurd hk hk'⟩

theorem mask_eq_zero_iff (c : Cfg ℂ) (hD : c.D = 1) (hq : c.fq ≠ 0) (h : ℕ) :
    mask c h = 0 ↔ ¬ (h : ℤ) ≤ Kc c := by
  rw [mask_one c hD hq, ite_eq_right_iff]
  exact ⟨fun h' hk => one_ne_zero (h' hk), fun hk hk' => absurd hk' hk⟩

theorem Kc_mul_le (c : Cfg ℂ) (hq : c.fq ≠ 0) :
    Kc c * (c.fq : ℤ) ≤ (c.fp : ℤ) * ((c.N / 2 : ℕ) : ℤ) - (c.fq : ℤ) :=
  (le_Kc_iff c hq _).mp le_rfl

theorem Kc_two_thirds (c : Cfg ℂ) (hp : c.fp = 2) (hq : c.fq = 3) :
    3 * Kc c < (c.N : ℤ) ∧ 2 * Kc c < (c.N : ℤ) := by
  have := Kc_mul_le c (by omega)
  rw [hp, hq] at this
  constructor <;> omega

theorem Kc_half (c : Cfg ℂ) (hp : c.fp = 1) (hq : c.fq = 2) : 4 * Kc c < (c.N : ℤ) := by
  have := Kc_mul_le c (by omega)
  rw [hp, hq] at this
  omega

/-- any fraction `fp/fq ≤ 1`: the Nyquist mode is never retained, `2·Kc < N` -/
theorem Kc_two_lt (c : Cfg ℂ) (hq : c.fq ≠ 0) (hpq : c.fp ≤ c.fq) : 2 * Kc c < (c.N : ℤ) := by
  have hqpos : (0 : ℤ) < (c.fq : ℤ) := by exact_mod_cast Nat.pos_of_ne_zero hq
  -- `Kc·fq ≤ fp·(N/2) − fq ≤ (N/2 − 1)·fq`
  have h : Kc c * (c.fq : ℤ) ≤ (((c.N / 2 : ℕ) : ℤ) - 1) * (c.fq : ℤ) := by
    rw [sub_one_mul, mul_comm ((c.N / 2 : ℕ) : ℤ)]
    exact (Kc_mul_le c hq).trans (sub_le_sub_right
      (mul_le_mul_of_nonneg_right (by exact_mod_cast hpq) (Int.natCast_nonneg _)) _)
  have := le_of_mul_le_mul_right h hqpos
  omega

/-! Cut-off form of the hypotheses (effective fractions).  The library evaluates `frac·(N//2) − 1` in
binary64, so the retained band can be one smaller than the rational one (e.g. `N = 49`, `frac = 2/3`:
`14.999999999999998`, `K = 14` instead of `15`).  The harness drives the model with the effective fraction
`(K+1)/(N/2)`; the main theorems are therefore stated with the cut-off hypotheses `3·Kc < N` / `4·Kc < N`
(`…_of_cutoff`), and the lemmas below make the float case a corollary of the documented fractions. -/

theorem Kc_mono (c c' : Cfg ℂ) (hN : c'.N = c.N) (hle : Kc c' ≤ Kc c)
    (h3 : 3 * Kc c < (c.N : ℤ)) : 3 * Kc c' < (c'.N : ℤ) := by
  rw [hN]
  omega

theorem Kc_mono_four (c c' : Cfg ℂ) (hN : c'.N = c.N) (hle : Kc c' ≤ Kc c)
    (h4 : 4 * Kc c < (c.N : ℤ)) : 4 * Kc c' < (c'.N : ℤ) := by
  rw [hN]
  omega

/-- the effective fraction `(K+1)/(N/2)` retains exactly the wavenumbers `≤ K` -/
theorem Kc_of_effective (c : Cfg ℂ) (K : ℕ) (hp : c.fp = K + 1) (hq : c.fq = c.N / 2)
    (hN : 0 < c.N / 2) : Kc c = (K : ℤ) := by
  unfold Kc
  rw [hp, hq]
  have hpos : ((c.N / 2 : ℕ) : ℤ) ≠ 0 := by exact_mod_cast hN.ne'
  have : (((K + 1 : ℕ) : ℤ)) * ((c.N / 2 : ℕ) : ℤ) - ((c.N / 2 : ℕ) : ℤ)
      = (K : ℤ) * ((c.N / 2 : ℕ) : ℤ) := by push_cast; ring
  rw [this, Int.mul_ediv_cancel _ hpos]

/-- the float-derived band of the 2/3 rule: an effective configuration whose `K` does not exceed the
    rational `Kc` of the documented fraction 2/3 on the same grid satisfies `3·Kc < N` -/
theorem Kc_effective_two_thirds (c' : Cfg ℂ) (K : ℕ) (hp : c'.fp = K + 1) (hq : c'.fq = c'.N / 2)
    (hN : 0 < c'.N / 2) (hK : (K : ℤ) * 3 ≤ 2 * ((c'.N / 2 : ℕ) : ℤ) - 3) :
    3 * Kc c' < (c'.N : ℤ) := by
  rw [Kc_of_effective c' K hp hq hN]
  omega

/-- the float-derived band of the 1/2 rule -/
theorem Kc_effective_half (c' : Cfg ℂ) (K : ℕ) (hp : c'.fp = K + 1) (hq : c'.fq = c'.N / 2)
    (hN : 0 < c'.N / 2) (hK : (K : ℤ) * 2 ≤ ((c'.N / 2 : ℕ) : ℤ) - 2) :
    4 * Kc c' < (c'.N : ℤ) := by
  rw [Kc_of_effective c' K hp hq hN]
  omega
end Exponax.Alias

namespace Exponax.Conserve
open Exponax Exponax.Nonlin

theorem mask_zero_or_one (c : Cfg ℂ) (h : ℕ) : mask c h = 1 ∨ mask c h = 0 := by
  unfold mask
  split_ifs <;> simp

theorem conj_mask (c : Cfg ℂ) (h : ℕ) : (starRingEnd ℂ) (mask c h) = mask c h := by
  rcases mask_zero_or_one c h with h1 | h0
  · rw [h1, map_one]
  · rw [h0, map_zero]

end Exponax.Conserve
