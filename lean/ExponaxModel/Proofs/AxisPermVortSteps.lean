import ExponaxModel.Proofs.AxisPermVort
import ExponaxModel.Proofs.LerayAlgebra
/-
C08, step level: ETDRK steps of the 2-D vorticity Navier–Stokes stepper (no injection) commute with
`ω ↦ −P_σ ω`, `σ` the transposition of the two axes (the vorticity is a pseudo-scalar).

The relation carried through the stages is `NegGood c σ v v'`: "`v' = −P_σ v`" (`GoodMC c σ id v (−v')`); it is compatible
with the ring operations of the stage formulas and isotropic coefficient arrays, and the lifted vorticity term preserves it
(`vorticity2d_swap`, `vorticity2d_even`).  Hence `n` steps of any order from `ω' = −P_σ ω` (real, Nyquist-free) end in
`ω'_n = −P_σ ω_n` on the grid.
-/
namespace Exponax.SmallGaps3
open Exponax Exponax.Layout Exponax.Transform Exponax.DFT Exponax.AliasND Exponax.Nonlin Exponax.Alias Exponax.AxisPerm
open Finset
open Exponax.Gen.Etdrk
open Exponax.EquivND (liftTermND specMC physCh liftTermND_apply)

def NegGood (c : Cfg ℂ) (σ : Equiv.Perm (Fin c.D)) (v v' : ℕ → ℕ → ℂ) : Prop := GoodMC c σ id v (-v')

theorem negGood_stepRel (c : Cfg ℂ) (hc : PermCfg c) (σ : Equiv.Perm (Fin c.D)) :
    Etdrk.StepRel (NegGood c σ) (IsoCoef c σ id) := (goodMC_stepRel c hc σ id).neg_right

theorem tab2_neg_eq (c : Cfg ℂ) (v' : ℕ → ℕ → ℂ) :
    tab2 1 (modes c) (-v') = negMC c (tab2 1 (modes c) v') := by
  unfold negMC
  apply Nonlin.tab2_congr
  intro ch i hch hi
  rw [Nonlin.at2_tab2 _ _ _ _ _ hch hi]
  rfl

theorem liftTermND_negGood (c : Cfg ℂ) (hc : PermCfg c) (hD : 2 ≤ c.D) (scale : ℂ) (hsc : scale.im = 0)
    (v v' : ℕ → ℕ → ℂ) (h : NegGood c (swapσ c hD) v v') :
    NegGood c (swapσ c hD) (liftTermND c 1 (vorticity2d c scale none) v)
      (liftTermND c 1 (vorticity2d c scale none) v') := by
  intro ch
  refine (permRel c hc _).S_congr (fun _ _ => rfl) (fun m hm => ?_)
    ((permRel c hc _).liftTermND_rel id (id_lt_iff 1) (T' := fun uh' => negMC c (vorticity2d c scale none uh'))
      (vorticity2d_swap c hc hD scale hsc) v (-v') h ch)
  rw [DFT.tab_getD _ _ _ _ hm, DFT.tab_getD _ _ _ _ hm, id_eq, liftTermND_apply c 1 _ (-v') ch m hm, tab2_neg_eq]
  show at2 (negMC c _) ch m = -(liftTermND c 1 (vorticity2d c scale none) v' ch m)
  rw [liftTermND_apply c 1 _ v' ch m hm, at2_negMC_any, vorticity2d_even c hD scale _ ch m]
  split_ifs with hc1
  · rfl
  · rw [vorticity2d_at2_out c scale none _ ch m ((not_and_or.mp hc1).imp not_lt.mp not_lt.mp), neg_zero]

section Steps
variable (c : Cfg ℂ) (hc : PermCfg c) (hD : 2 ≤ c.D) (scale : ℂ) (hsc : scale.im = 0)
include hc hsc

omit hsc in
theorem E0step_negGood {E E' u u' : ℕ → ℕ → ℂ} (hE : IsoCoef c (swapσ c hD) id E E')
    (hu : NegGood c (swapσ c hD) u u') : NegGood c (swapσ c hD) (E0step E u) (E0step E' u') :=
  Etdrk.E0step_rel (negGood_stepRel c hc _) hE hu

theorem E1step_negGood {E c1 E' c1' u u' : ℕ → ℕ → ℂ} (hE : IsoCoef c (swapσ c hD) id E E')
    (h1 : IsoCoef c (swapσ c hD) id c1 c1') (hu : NegGood c (swapσ c hD) u u') :
    NegGood c (swapσ c hD) (E1step E c1 (liftTermND c 1 (vorticity2d c scale none)) u)
      (E1step E' c1' (liftTermND c 1 (vorticity2d c scale none)) u') :=
  Etdrk.E1step_rel (negGood_stepRel c hc _) (liftTermND_negGood c hc hD scale hsc) hE h1 hu

theorem E2step_negGood {E c1 c2 E' c1' c2' u u' : ℕ → ℕ → ℂ} (hE : IsoCoef c (swapσ c hD) id E E')
    (h1 : IsoCoef c (swapσ c hD) id c1 c1') (h2 : IsoCoef c (swapσ c hD) id c2 c2')
    (hu : NegGood c (swapσ c hD) u u') :
    NegGood c (swapσ c hD) (E2step E c1 c2 (liftTermND c 1 (vorticity2d c scale none)) u)
      (E2step E' c1' c2' (liftTermND c 1 (vorticity2d c scale none)) u') :=
  Etdrk.E2step_rel (negGood_stepRel c hc _) (liftTermND_negGood c hc hD scale hsc) hE h1 h2 hu

theorem E3step_negGood {E Eh c1 c2 c3 c4 c5 E' Eh' c1' c2' c3' c4' c5' u u' : ℕ → ℕ → ℂ}
    (hE : IsoCoef c (swapσ c hD) id E E') (hEh : IsoCoef c (swapσ c hD) id Eh Eh')
    (h1 : IsoCoef c (swapσ c hD) id c1 c1') (h2 : IsoCoef c (swapσ c hD) id c2 c2')
    (h3 : IsoCoef c (swapσ c hD) id c3 c3') (h4 : IsoCoef c (swapσ c hD) id c4 c4')
    (h5 : IsoCoef c (swapσ c hD) id c5 c5') (hu : NegGood c (swapσ c hD) u u') :
    NegGood c (swapσ c hD) (E3step E Eh c1 c2 c3 c4 c5 (liftTermND c 1 (vorticity2d c scale none)) u)
      (E3step E' Eh' c1' c2' c3' c4' c5' (liftTermND c 1 (vorticity2d c scale none)) u') :=
  Etdrk.E3step_rel (negGood_stepRel c hc _) (liftTermND_negGood c hc hD scale hsc) hE hEh h1 h2 h3 h4 h5 hu

theorem E4step_negGood {E Eh c1 c2 c3 c4 c5 c6 E' Eh' c1' c2' c3' c4' c5' c6' u u' : ℕ → ℕ → ℂ}
    (hE : IsoCoef c (swapσ c hD) id E E') (hEh : IsoCoef c (swapσ c hD) id Eh Eh')
    (h1 : IsoCoef c (swapσ c hD) id c1 c1') (h2 : IsoCoef c (swapσ c hD) id c2 c2')
    (h3 : IsoCoef c (swapσ c hD) id c3 c3') (h4 : IsoCoef c (swapσ c hD) id c4 c4')
    (h5 : IsoCoef c (swapσ c hD) id c5 c5') (h6 : IsoCoef c (swapσ c hD) id c6 c6')
    (hu : NegGood c (swapσ c hD) u u') :
    NegGood c (swapσ c hD) (E4step E Eh c1 c2 c3 c4 c5 c6 (liftTermND c 1 (vorticity2d c scale none)) u)
      (E4step E' Eh' c1' c2' c3' c4' c5' c6' (liftTermND c 1 (vorticity2d c scale none)) u') :=
  Etdrk.E4step_rel (negGood_stepRel c hc _) (liftTermND_negGood c hc hD scale hsc) hE hEh h1 h2 h3 h4 h5 h6 hu

end Steps

theorem negGood_specMC (c : Cfg ℂ) (hD : 0 < c.D) (hN : 0 < c.N) (σ : Equiv.Perm (Fin c.D)) (u u' : MC ℂ)
    (hreal : ∀ ch, IsRealND c.D c.N (u.getD ch #[]))
    (hfree : ∀ ch, NyqFreeS c.D c.N (rfftnM c.D c.N (u.getD ch #[])))
    (hperm : ∀ ch j, j < c.N ^ c.D → (u'.getD ch #[]).getD j 0 = -(u.getD ch #[]).getD (permIdx c.D c.N σ j) 0) :
    NegGood c σ (specMC c.D c.N u) (specMC c.D c.N u') := by
  intro ch
  have base := specPerm_rfftn c.D c.N hD hN σ (u.getD ch #[]) (permField c.D c.N σ (u.getD ch #[])) (hreal ch)
    (hfree ch) (fieldPerm_permField c.D c.N σ _)
  refine specPerm_congr c.D c.N hN σ _ _ _ _ ?_ ?_ base
  · intro m hm
    rw [DFT.tab_getD _ _ _ _ (show m < modes c from hm)]
    rfl
  · intro m hm
    rw [DFT.tab_getD _ _ _ _ (show m < modes c from hm)]
    show _ = -(rfftnM c.D c.N (u'.getD ch #[])).getD m 0
    rw [rfftnM_getD c.D c.N hN _ m hm, rfftnM_getD c.D c.N hN _ m hm, ← Finset.sum_neg_distrib]
    apply Finset.sum_congr rfl
    intro j hj
    have hj' := Finset.mem_range.mp hj
    rw [permField_getD c.D c.N σ _ j hj', hperm ch j hj']
    ring

theorem physCh_negGood (c : Cfg ℂ) (σ : Equiv.Perm (Fin c.D)) (v v' : ℕ → ℕ → ℂ)
    (h : NegGood c σ v v') (ch j : ℕ) (hj : j < c.N ^ c.D) :
    (physCh c.D c.N v' ch).getD j 0 = -(physCh c.D c.N v ch).getD (permIdx c.D c.N σ j) 0 := by
  have h1 := (h ch).2.2 j hj
  have e : (tab (modes c) ((-v') (id ch))) = tab (numModes c.D c.N) fun m => -(v' ch m) := rfl
  rw [e, irfftnM_neg_getD c.D c.N _ j] at h1
  have h2 : (irfftnM c.D c.N (tab (numModes c.D c.N) (v ch))).getD (permIdx c.D c.N σ j) 0
      = -(irfftnM c.D c.N (tab (numModes c.D c.N) (v' ch))).getD j 0 := h1.symm
  unfold physCh
  rw [h2, neg_neg]

/-- any pair of step maps preserving the relation, `n` steps -/
theorem physical_axisSwapNeg (c : Cfg ℂ) (hD : 0 < c.D) (hN : 0 < c.N) (σ : Equiv.Perm (Fin c.D))
    (step step' : (ℕ → ℕ → ℂ) → (ℕ → ℕ → ℂ))
    (hstep : ∀ v v', NegGood c σ v v' → NegGood c σ (step v) (step' v')) (n : ℕ) (u u' : MC ℂ)
    (hreal : ∀ ch, IsRealND c.D c.N (u.getD ch #[]))
    (hfree : ∀ ch, NyqFreeS c.D c.N (rfftnM c.D c.N (u.getD ch #[])))
    (hperm : ∀ ch j, j < c.N ^ c.D → (u'.getD ch #[]).getD j 0 = -(u.getD ch #[]).getD (permIdx c.D c.N σ j) 0)
    (ch j : ℕ) (hj : j < c.N ^ c.D) :
    (physCh c.D c.N (step'^[n] (specMC c.D c.N u')) ch).getD j 0
      = -(physCh c.D c.N (step^[n] (specMC c.D c.N u)) ch).getD (permIdx c.D c.N σ j) 0 :=
  physCh_negGood c σ _ _ (Etdrk.iterate_rel (NegGood c σ) step step' hstep n _ _
    (negGood_specMC c hD hN σ u u' hreal hfree hperm)) ch j hj

/-! non-vacuity: the hypotheses on the states are met by `u = u' = ` the empty state (all channels zero), and by
`u' := −P_σ u` for any real Nyquist-free `u` (e.g. constants) -/
example (c : Cfg ℂ) (hN : 0 < c.N) (σ : Equiv.Perm (Fin c.D)) :
    ∃ u u' : MC ℂ, (∀ ch, IsRealND c.D c.N (u.getD ch #[])) ∧
      (∀ ch, NyqFreeS c.D c.N (rfftnM c.D c.N (u.getD ch #[]))) ∧
      (∀ ch j, j < c.N ^ c.D → (u'.getD ch #[]).getD j 0 = -(u.getD ch #[]).getD (permIdx c.D c.N σ j) 0) := by
  refine ⟨#[], #[], fun ch j _ => by simp, ?_, fun ch j _ => by simp⟩
  intro ch m hm _
  rw [rfftnM_getD c.D c.N hN _ m hm]
  apply Finset.sum_eq_zero
  intro j _
  simp

example (c : Cfg ℂ) (hc : PermCfg c) (hD : 2 ≤ c.D) : ∃ E, IsoCoef c (swapσ c hD) id E E := by
  have hre : ∀ x ∈ ([0, 0, 1] : List ℂ), x.im = 0 := by
    intro x hx
    simp at hx
    rcases hx with rfl | rfl <;> simp
  exact ⟨_, isoCoef_generalLinear c hc.hs (swapσ c hD) id [0, 0, 1] hre Complex.exp
    (fun z => by rw [← Complex.exp_conj])⟩

end Exponax.SmallGaps3
