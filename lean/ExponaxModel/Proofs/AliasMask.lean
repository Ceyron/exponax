import ExponaxModel.Proofs.AliasConv
import ExponaxModel.Proofs.AliasNDMask
/-
C03, the two ends of the pipeline in 1-D, as the `D = 1` case of `AliasNDMask`: the full DFT of
`irfftnM 1 N c` for ANY stored half spectrum `c` (Hermitian completion); `nifft c ûh` is band-limited
to `|m| ≤ Kc`, and for a reachable `ûh = rfftnM 1 N x` (`x` real) it is the band truncation `P_K x`.
-/
namespace Exponax.Alias
open Exponax Exponax.Layout Exponax.Transform Exponax.DFT Exponax.Nonlin Exponax.AliasND Finset

def IsRealField (N : ℕ) (x : Array ℂ) : Prop := ∀ j < N, (x.getD j 0).im = 0

theorem isRealND_iff {D N : ℕ} (hD : D = 1) (x : Array ℂ) : IsRealND D N x ↔ IsRealField N x := by
  subst hD
  unfold IsRealND IsRealField
  rw [pow_one]

theorem kvec_one {D N : ℕ} (hD : D = 1) (h : ℕ) : kvec D N h = cst D (h : ℤ) := by
  subst hD
  funext d
  rw [kvec, wnFlat_one, Subsingleton.elim d 0]
  rfl

/-- for ANY array `c` of stored coefficients the full DFT of `irfftnM 1 N c` is the Hermitian
    completion of `c` -/
theorem dft_irfft (N : ℕ) (hN : 0 < N) (c : Array ℂ) (m : ℤ) :
    dft N (irfftnM 1 N c) m
      = ∑ h ∈ range (N / 2 + 1), ((herm_weight 1 N h : ℂ) / 2) *
          (c.getD h 0 * (if (N : ℤ) ∣ m - (h : ℤ) then 1 else 0)
            + (starRingEnd ℂ) (c.getD h 0) * (if (N : ℤ) ∣ m + (h : ℤ) then 1 else 0)) := by
  have := dftV_irfftn 1 N hN c (cst 1 m)
  simpa only [dftV_cst rfl, kvec_one rfl, numModes_one, Fin.forall_fin_one] using this

theorem modes_one (c : Cfg ℂ) (hD : c.D = 1) : modes c = c.N / 2 + 1 := by
  unfold modes
  rw [hD, numModes_one]

theorem lt_numModes_one (c : Cfg ℂ) (hD : c.D = 1) {h : ℕ} (hh : h ≤ c.N / 2) : h < numModes c.D c.N := by
  rw [hD, numModes_one]
  exact Nat.lt_succ_of_le hh

theorem nifft_bandLimited (c : Cfg ℂ) (hD : c.D = 1) (hq : c.fq ≠ 0) (hN : 0 < c.N) (uh : Array ℂ) :
    BandLimited c.N (Kc c) (nifft c uh) :=
  (bandLimitedV_iff hD _ _).mp (nifft_bandLimitedV c hq hN uh)

theorem dft_nifft_rfft (c : Cfg ℂ) (hD : c.D = 1) (hq : c.fq ≠ 0) (hN : 0 < c.N)
    (h2 : 2 * Kc c < (c.N : ℤ)) (x : Array ℂ) (hx : IsRealField c.N x) (m : ℤ) (hm : |m| ≤ Kc c) :
    dft c.N (nifft c (rfftnM 1 c.N x)) m = dft c.N x m := by
  have := dftV_nifft_rfftn c (hD ▸ Nat.one_pos) hq hN h2 x ((isRealND_iff hD x).mpr hx) (cst c.D m) fun _ => hm
  rwa [dftV_cst hD, dftV_cst hD, hD] at this

theorem dft_nifft_rfft_off (c : Cfg ℂ) (hD : c.D = 1) (hq : c.fq ≠ 0) (hN : 0 < c.N)
    (x : Array ℂ) (a : ℤ) (ha : ¬ ∃ m : ℤ, |m| ≤ Kc c ∧ (c.N : ℤ) ∣ (a - m)) :
    dft c.N (nifft c (rfftnM 1 c.N x)) a = 0 :=
  nifft_bandLimited c hD hq hN _ a ha

end Exponax.Alias
