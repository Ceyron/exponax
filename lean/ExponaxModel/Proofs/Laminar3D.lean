import ExponaxModel.Proofs.LaminarWholeExact
/-
C12, 3-D — the rotational term of `Nonlin.projected3d` vanishes identically (all three channels, all modes)
on velocity spectra of the form `(û₀, 0, 0)` with `û₀` carried by the two conjugate Kolmogorov modes
`k = (0, ±m, 0)`, `0 < m`, `2m < N` — ARBITRARY complex amplitudes `a`, `b` (no Hermitian symmetry assumed), any
dealiasing mask, `s ≠ 0` real (`projected3d_shear_none_partial` in `Laminar3DTerm`).  Here: the two stored modes `hP`, `hM`,
the inverse transform of a spectrum carried by them (`nifft_two_mode`) and the projection step (`leray_kills`).

Mechanism (read off the model): `ω = ∇×u = (0, 0, −∂₁u₀)`, `u × ω = (0, −u₀ ω₂, 0)`, and on the grid `u₀ ω₂ = −u₀ ∂₁u₀` is a
function of `x₁` with no mean (`Laminar3DLine.sum_vel_curl_line`: the two modes are not Nyquist modes), whose masked
transform lives on stored modes with `k₀ = k₂ = 0`, `k₁ ≠ 0`; there the Leray projection removes the channel-1 entry
(`1 − d₁²/d₁² = 0`) and adds nothing to channels 0, 2 (`d₀ = d₂ = 0`).
-/
namespace Exponax.Laminar3D
open Exponax Exponax.Layout Exponax.Transform Exponax.DFT Exponax.ExactLinear Finset
open Exponax.Nonlin (Cfg MC at2 tab2 tabC modes gridSize mask nfft nifft projected3d leray kInt proj3
  invLapZero laplace specDiv)
open scoped ComplexConjugate

def hP (c : Cfg ℂ) (m : ℕ) : ℕ := modeIdx c.D c.N [0, (m : ℤ), 0]
def hM (c : Cfg ℂ) (m : ℕ) : ℕ := modeIdx c.D c.N (negK [0, (m : ℤ), 0])

section modes
variable (c : Cfg ℂ) (hD : c.D = 3) (m : ℕ) (hm : 2 * m < c.N)
include hD hm

theorem bn : BelowNyquist c.D c.N [0, (m : ℤ), 0] := by rw [hD]; exact ReadOff.belowNyquist_3d c.N m hm

theorem hP_lt : hP c m < modes c :=
  modeIdx_lt c.D c.N (hD ▸ Nat.succ_pos 2) (Nat.zero_lt_of_lt hm) _ (bn c hD m hm) (by rw [hD]; simp)

theorem hM_lt : hM c m < modes c :=
  modeIdx_lt c.D c.N (hD ▸ Nat.succ_pos 2) (Nat.zero_lt_of_lt hm) _ (bn c hD m hm).negK (by rw [hD]; simp [negK])

theorem wnFlat_hP : wnFlat c.D c.N (hP c m) = [0, (m : ℤ), 0] :=
  wnFlat_modeIdx c.D c.N (hD ▸ Nat.succ_pos 2) (Nat.zero_lt_of_lt hm) _ (bn c hD m hm) (by rw [hD]; simp)

theorem wnFlat_hM : wnFlat c.D c.N (hM c m) = negK [0, (m : ℤ), 0] :=
  wnFlat_modeIdx c.D c.N (hD ▸ Nat.succ_pos 2) (Nat.zero_lt_of_lt hm) _ (bn c hD m hm).negK (by rw [hD]; simp [negK])

theorem kInt_hP : kInt c 0 (hP c m) = 0 ∧ kInt c 1 (hP c m) = (m : ℤ) ∧ kInt c 2 (hP c m) = 0 := by
  unfold kInt
  rw [wnFlat_hP c hD m hm]
  simp

theorem kInt_hM : kInt c 0 (hM c m) = 0 ∧ kInt c 1 (hM c m) = -(m : ℤ) ∧ kInt c 2 (hM c m) = 0 := by
  unfold kInt
  rw [wnFlat_hM c hD m hm]
  simp [negK]

theorem eq_hP_iff (h : ℕ) (hh : h < modes c) :
    (kInt c 0 h = 0 ∧ kInt c 2 h = 0 ∧ kInt c 1 h = (m : ℤ)) ↔ h = hP c m := by
  constructor
  · rintro ⟨h0, h2, h1⟩
    apply wnFlat_inj c.D c.N (hD ▸ Nat.succ_pos 2) (Nat.zero_lt_of_lt hm) h _ hh (hP_lt c hD m hm)
    rw [wnFlat_hP c hD m hm]
    exact (ReadOff.wnFlat_eq_3d c hD h 0 m 0).mpr ⟨h0, h1, h2⟩
  · rintro rfl
    obtain ⟨a, b, e⟩ := kInt_hP c hD m hm
    exact ⟨a, e, b⟩

theorem eq_hM_iff (h : ℕ) (hh : h < modes c) :
    (kInt c 0 h = 0 ∧ kInt c 2 h = 0 ∧ kInt c 1 h = -(m : ℤ)) ↔ h = hM c m := by
  constructor
  · rintro ⟨h0, h2, h1⟩
    apply wnFlat_inj c.D c.N (hD ▸ Nat.succ_pos 2) (Nat.zero_lt_of_lt hm) h _ hh (hM_lt c hD m hm)
    rw [wnFlat_hM c hD m hm]
    have : negK [0, (m : ℤ), 0] = [0, -(m : ℤ), 0] := by simp [negK]
    rw [this]
    exact (ReadOff.wnFlat_eq_3d c hD h 0 (-(m : ℤ)) 0).mpr ⟨h0, h1, h2⟩
  · rintro rfl
    obtain ⟨a, b, e⟩ := kInt_hM c hD m hm
    exact ⟨a, e, b⟩

theorem hP_ne_hM (hm0 : 0 < m) : hP c m ≠ hM c m := by
  intro he
  have h1 := (kInt_hP c hD m hm).2.1
  have h2 := (kInt_hM c hD m hm).2.1
  rw [he] at h1
  omega

theorem herm_weight_hP : herm_weight c.D c.N (hP c m) = 1 := by
  rw [herm_weight_of_wn c.D c.N _ (hD ▸ Nat.succ_pos 2), wnFlat_hP c hD m hm, hD]
  exact if_pos (Or.inl rfl)

theorem herm_weight_hM : herm_weight c.D c.N (hM c m) = 1 := by
  rw [herm_weight_of_wn c.D c.N _ (hD ▸ Nat.succ_pos 2), wnFlat_hM c hD m hm, hD]
  exact if_pos (Or.inl (by simp [negK]))

end modes

/-- `ζ^{p(x)}`, `p = κ·x = m x₁` -/
noncomputable def wph (c : Cfg ℂ) (m x : ℕ) : ℂ := zeta c.N ^ (phaseK c.D c.N [0, (m : ℤ), 0] x)

theorem nifft_two_mode (c : Cfg ℂ) (hD : c.D = 3) (m : ℕ) (hm0 : 0 < m) (hm : 2 * m < c.N) (z : Array ℂ)
    (hz : ∀ h, h < modes c → h ≠ hP c m → h ≠ hM c m → z.getD h 0 = 0) (x : ℕ) (hx : x < gridSize c) :
    (nifft c z).getD x 0
      = (((((mask c (hP c m) * z.getD (hP c m) 0) * (wph c m x)⁻¹).re : ℝ) : ℂ)
          + ((((mask c (hM c m) * z.getD (hM c m) 0) * wph c m x).re : ℝ) : ℂ)) / ((c.N ^ c.D : ℕ) : ℂ) := by
  have hN : 0 < c.N := Nat.zero_lt_of_lt hm
  unfold nifft
  rw [irfftnM_getD c.D c.N hN _ x hx, Finset.sum_eq_add (hP c m) (hM c m) (hP_ne_hM c hD m hm hm0)]
  · rw [herm_weight_hP c hD m hm, herm_weight_hM c hD m hm, Nonlin.tab_getD _ _ _ _ (hP_lt c hD m hm),
      Nonlin.tab_getD _ _ _ _ (hM_lt c hD m hm), wnFlat_hP c hD m hm, wnFlat_hM c hD m hm, phaseK_negK, neg_neg,
      twiddle_eq_zpow, twiddle_eq_zpow, zpow_neg]
    unfold wph
    push_cast
    ring
  · intro h hh hne
    have hh' : h < modes c := Finset.mem_range.mp hh
    rw [Nonlin.tab_getD _ _ _ _ hh', hz h hh' hne.1 hne.2, mul_zero, zero_mul, Complex.zero_re, Complex.ofReal_zero,
      mul_zero]
  · intro hn
    exact absurd (Finset.mem_range.mpr (hP_lt c hD m hm)) hn
  · intro hn
    exact absurd (Finset.mem_range.mpr (hM_lt c hD m hm)) hn

theorem leray_kills (c : Cfg ℂ) (hD : c.D = 3) (s : ℝ) (hs : c.s = (s : ℂ)) (hs0 : s ≠ 0) (wh : MC ℂ)
    (h02 : ∀ h, h < modes c → at2 wh 0 h = 0 ∧ at2 wh 2 h = 0)
    (h1 : ∀ h, h < modes c → at2 wh 1 h ≠ 0 → kInt c 0 h = 0 ∧ kInt c 2 h = 0 ∧ kInt c 1 h ≠ 0)
    (i h : ℕ) (hi : i < 3) (hh : h < modes c) : at2 (leray c wh) i h = 0 := by
  rw [Nonlin.at2_leray c wh i h (by omega) hh, Nonlin.specDiv_eq_sum, hD]
  simp only [Finset.sum_range_succ, Finset.sum_range_zero, zero_add]
  rw [(h02 h hh).1, (h02 h hh).2, mul_zero, mul_zero, zero_add, add_zero]
  by_cases hw : at2 wh 1 h = 0
  · rw [hw, mul_zero, mul_zero, mul_zero, add_zero]
    interval_cases i
    · exact (h02 h hh).1
    · exact hw
    · exact (h02 h hh).2
  · obtain ⟨k0, k2, k1⟩ := h1 h hh hw
    have d0 : Nonlin.deriv c 0 h = 0 := Nonlin.deriv_eq_zero_of_k c 0 h k0
    have d2 : Nonlin.deriv c 2 h = 0 := Nonlin.deriv_eq_zero_of_k c 2 h k2
    have d1 : Nonlin.deriv c 1 h ≠ 0 := by
      rw [Nonlin.deriv_eq, hs]
      exact mul_ne_zero Complex.I_ne_zero
        (mul_ne_zero (Complex.ofReal_ne_zero.mpr hs0) (Int.cast_ne_zero.mpr k1))
    have hl : laplace c 2 h = Nonlin.deriv c 1 h ^ 2 := by
      rw [Nonlin.laplace_two_eq_sum, hD]
      simp only [Finset.sum_range_succ, Finset.sum_range_zero, zero_add, d0, d2]
      ring
    have hl0 : laplace c 2 h ≠ 0 := by rw [hl]; exact pow_ne_zero 2 d1
    rw [Nonlin.invLapZero_eq, if_neg hl0, hl]
    interval_cases i
    · rw [(h02 h hh).1, d0]; ring
    · field_simp; ring
    · rw [(h02 h hh).2, d2]; ring

end Exponax.Laminar3D
