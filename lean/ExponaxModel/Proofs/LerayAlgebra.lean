import ExponaxModel.Proofs.LerayBasic
import ExponaxModel.Proofs.CrossProduct
import ExponaxModel.Proofs.LayoutLemmas
/-
Mode-by-mode algebra of the Leray projection, of `projected3d` and of the stream-function velocity in
`vorticity2d`, at `K := ℂ`.

Most lemmas take a real scale `c.s = ((s : ℝ) : ℂ)`, `s ≠ 0`.  The projection lemmas use it only through `c.s ≠ 0`, for
`Δ̂(h) = 0 → d_d(h) = 0` (`deriv_eq_zero_of_laplace`: the wavenumbers are integers, and a sum of squares of integers
vanishes only termwise); the `vorticity2d` lemmas also use the converse (`laplace_two_eq_zero_iff_real`) and rewrite with
the value of `c.s`.
-/
set_option linter.unusedVariables false
namespace Exponax.Nonlin
open Exponax Exponax.Layout Exponax.Transform

theorem proj3_cross_zero (a b : ℂ × ℂ × ℂ) :
    proj3 (Gen.Misc.cross_product_3d a b) 0 = a.2.1 * b.2.2 - a.2.2 * b.2.1 := by
  simp [proj3, Gen.Misc.cross_product_3d]

theorem proj3_cross_one (a b : ℂ × ℂ × ℂ) :
    proj3 (Gen.Misc.cross_product_3d a b) 1 = a.2.2 * b.1 - a.1 * b.2.2 := by
  simp [proj3, Gen.Misc.cross_product_3d]

theorem proj3_cross_two (a b : ℂ × ℂ × ℂ) :
    proj3 (Gen.Misc.cross_product_3d a b) 2 = a.1 * b.2.1 - a.2.1 * b.1 := by
  simp [proj3, Gen.Misc.cross_product_3d]

theorem proj3_zero_cross (b : ℂ × ℂ × ℂ) (i : ℕ) :
    proj3 (Gen.Misc.cross_product_3d ((0 : ℂ), (0 : ℂ), (0 : ℂ)) b) i = 0 := by
  simp only [proj3, Gen.Misc.cross_product_3d, zero_mul, sub_zero, ite_self]

/-- `Σ_d d_d(h) · û_d(h)` — literally the expression `div` inside `leray` -/
noncomputable def specDiv (c : Cfg ℂ) (uh : MC ℂ) (h : ℕ) : ℂ :=
  sumList ((List.range c.D).map (fun d => deriv c d h * at2 uh d h))

/-- the same for a channel vector `v : ℕ → ℂ` at mode `h` -/
noncomputable def vecDiv (c : Cfg ℂ) (h : ℕ) (v : ℕ → ℂ) : ℂ := ∑ d ∈ Finset.range c.D, deriv c d h * v d

theorem specDiv_eq_sum (c : Cfg ℂ) (uh : MC ℂ) (h : ℕ) :
    specDiv c uh h = ∑ d ∈ Finset.range c.D, deriv c d h * at2 uh d h :=
  sumList_range_eq _ _

theorem specDiv_eq_vecDiv (c : Cfg ℂ) (uh : MC ℂ) (h : ℕ) :
    specDiv c uh h = vecDiv c h (fun d => at2 uh d h) := specDiv_eq_sum c uh h

theorem specDiv_tab2 (c : Cfg ℂ) (f : ℕ → ℕ → ℂ) (h : ℕ) (hh : h < modes c) :
    specDiv c (tab2 c.D (modes c) f) h = vecDiv c h (fun d => f d h) := by
  rw [specDiv_eq_sum]
  exact Finset.sum_congr rfl (fun d hd => by rw [at2_tab2 _ _ _ _ _ (Finset.mem_range.1 hd) hh])

/-- at `k = 0` the divergence of anything vanishes -/
theorem vecDiv_eq_zero_of_laplace (c : Cfg ℂ) (hs0 : c.s ≠ 0) (h : ℕ) (hl : laplace c 2 h = 0) (v : ℕ → ℂ) :
    vecDiv c h v = 0 :=
  Finset.sum_eq_zero (fun d hd => by
    rw [deriv_eq_zero_of_laplace c hs0 h hl d (Finset.mem_range.1 hd), zero_mul])

theorem at2_leray (c : Cfg ℂ) (uh : MC ℂ) (d h : ℕ) (hd : d < c.D) (hh : h < modes c) :
    at2 (leray c uh) d h = at2 uh d h + deriv c d h * (-(invLapZero c h) * specDiv c uh h) := by
  unfold leray
  simp only []
  rw [at2_tab2 _ _ _ _ _ hd hh, tab_getD _ _ _ _ hh, tab_getD _ _ _ _ hh]
  rfl

theorem leray_eq_tab2 (c : Cfg ℂ) (uh : MC ℂ) :
    leray c uh = tab2 c.D (modes c)
      (fun d h => at2 uh d h + deriv c d h * (-(invLapZero c h) * specDiv c uh h)) := by
  unfold leray
  simp only []
  apply tab2_congr
  intro d h hd hh
  rw [tab_getD _ _ _ _ hh, tab_getD _ _ _ _ hh]
  rfl

theorem at2_leray_out (c : Cfg ℂ) (uh : MC ℂ) (d h : ℕ) (ho : c.D ≤ d ∨ modes c ≤ h) :
    at2 (leray c uh) d h = 0 := by
  rw [leray_eq_tab2]
  rcases ho with ho | ho
  · exact at2_tab2_of_le_ch _ _ _ _ _ ho
  · exact at2_tab2_of_le_idx _ _ _ _ _ ho

theorem at2_leray_zero_of_zero (c : Cfg ℂ) (uh : MC ℂ) (h : ℕ) (hh : h < modes c)
    (hz : ∀ e < c.D, at2 uh e h = 0) (d : ℕ) (hd : d < c.D) : at2 (leray c uh) d h = 0 := by
  rw [at2_leray c uh d h hd hh, specDiv_eq_sum, hz d hd,
    Finset.sum_eq_zero (fun e he => by rw [hz e (Finset.mem_range.mp he), mul_zero])]
  ring

/-- the Leray projection commutes with conjugation between two stored modes carrying opposite wave vectors -/
theorem leray_conj_pair (c : Cfg ℂ) (uh : MC ℂ) (h h' : ℕ) (hh : h < modes c) (hh' : h' < modes c)
    (hd : ∀ d < c.D, Nonlin.deriv c d h' = (starRingEnd ℂ) (Nonlin.deriv c d h))
    (hu : ∀ d < c.D, at2 uh d h' = (starRingEnd ℂ) (at2 uh d h)) (d : ℕ) (hdD : d < c.D) :
    at2 (leray c uh) d h' = (starRingEnd ℂ) (at2 (leray c uh) d h) := by
  have hl : laplace c 2 h' = (starRingEnd ℂ) (laplace c 2 h) := by
    rw [laplace_two_eq_sum, laplace_two_eq_sum, map_sum]
    exact Finset.sum_congr rfl (fun e he => by rw [hd e (Finset.mem_range.mp he), map_pow])
  have hi : invLapZero c h' = (starRingEnd ℂ) (invLapZero c h) := by
    rw [invLapZero_eq, invLapZero_eq, hl, apply_ite (starRingEnd ℂ), map_zero, map_div₀, map_one]
    simp only [map_eq_zero]
  have hs : specDiv c uh h' = (starRingEnd ℂ) (specDiv c uh h) := by
    rw [specDiv_eq_sum, specDiv_eq_sum, map_sum]
    exact Finset.sum_congr rfl (fun e he => by
      rw [hd e (Finset.mem_range.mp he), hu e (Finset.mem_range.mp he), map_mul])
  rw [at2_leray c uh d h' hdD hh', at2_leray c uh d h hdD hh, hu d hdD, hd d hdD, hi, hs, map_add, map_mul, map_mul,
    map_neg]

theorem at2_leray_matrix (c : Cfg ℂ) (uh : MC ℂ) (d h : ℕ) (hd : d < c.D) (hh : h < modes c) :
    at2 (leray c uh) d h
      = ∑ e ∈ Finset.range c.D,
          ((if d = e then 1 else 0) - deriv c d h * invLapZero c h * deriv c e h) * at2 uh e h := by
  rw [at2_leray c uh d h hd hh, specDiv_eq_sum]
  simp only [sub_mul, Finset.sum_sub_distrib, ite_mul, one_mul, zero_mul]
  rw [Finset.sum_ite_eq, if_pos (Finset.mem_range.2 hd), Finset.mul_sum, Finset.mul_sum, sub_eq_add_neg,
    ← Finset.sum_neg_distrib]
  congr 1
  exact Finset.sum_congr rfl (fun e _ => by ring)

theorem specDiv_leray_eq (c : Cfg ℂ) (uh : MC ℂ) (h : ℕ) (hh : h < modes c) :
    specDiv c (leray c uh) h = (1 - laplace c 2 h * invLapZero c h) * specDiv c uh h := by
  rw [leray_eq_tab2, specDiv_tab2 _ _ _ hh, vecDiv, laplace_two_eq_sum]
  have hS := specDiv_eq_sum c uh h
  generalize specDiv c uh h = S at hS ⊢
  have h2 : ∑ d ∈ Finset.range c.D, deriv c d h * (deriv c d h * (-(invLapZero c h) * S))
      = (∑ d ∈ Finset.range c.D, deriv c d h ^ 2) * (-(invLapZero c h) * S) := by
    rw [Finset.sum_mul]
    exact Finset.sum_congr rfl (fun d _ => by ring)
  simp only [mul_add, Finset.sum_add_distrib]
  rw [← hS, h2]
  ring

theorem specDiv_leray_of_ne (c : Cfg ℂ) (hs0 : c.s ≠ 0) (uh : MC ℂ) (h : ℕ) (hh : h < modes c) :
    specDiv c (leray c uh) h = 0 := by
  rw [specDiv_leray_eq c uh h hh, laplace_mul_invLapZero]
  split_ifs with hl
  · rw [specDiv_eq_vecDiv, vecDiv_eq_zero_of_laplace c hs0 h hl, mul_zero]
  · rw [sub_self, zero_mul]

theorem specDiv_leray (c : Cfg ℂ) (s : ℝ) (hs : c.s = (s : ℂ)) (hs0 : s ≠ 0) (uh : MC ℂ) (h : ℕ)
    (hh : h < modes c) : specDiv c (leray c uh) h = 0 :=
  specDiv_leray_of_ne c (hs ▸ Complex.ofReal_ne_zero.mpr hs0) uh h hh

theorem leray_div_free (c : Cfg ℂ) (s : ℝ) (hs : c.s = (s : ℂ)) (hs0 : s ≠ 0) (uh : MC ℂ) (h : ℕ)
    (hh : h < modes c) :
    sumList ((List.range c.D).map (fun d => deriv c d h * at2 (leray c uh) d h)) = 0 :=
  specDiv_leray c s hs hs0 uh h hh

theorem leray_idempotent_of_ne (c : Cfg ℂ) (hs0 : c.s ≠ 0) (uh : MC ℂ) :
    leray c (leray c uh) = leray c uh := by
  rw [leray_eq_tab2 c (leray c uh)]
  conv_rhs => rw [leray_eq_tab2 c uh]
  apply tab2_congr
  intro d h hd hh
  rw [specDiv_leray_of_ne c hs0 uh h hh, at2_leray c uh d h hd hh]
  ring

theorem leray_idempotent (c : Cfg ℂ) (s : ℝ) (hs : c.s = (s : ℂ)) (hs0 : s ≠ 0) (uh : MC ℂ) :
    leray c (leray c uh) = leray c uh :=
  leray_idempotent_of_ne c (hs ▸ Complex.ofReal_ne_zero.mpr hs0) uh

theorem leray_idempotent_entry (c : Cfg ℂ) (s : ℝ) (hs : c.s = (s : ℂ)) (hs0 : s ≠ 0) (uh : MC ℂ)
    (d h : ℕ) (hd : d < c.D) (hh : h < modes c) :
    at2 (leray c (leray c uh)) d h = at2 (leray c uh) d h := by
  rw [leray_idempotent c s hs hs0 uh]

theorem leray_congr (c : Cfg ℂ) (uh vh : MC ℂ)
    (hv : ∀ d h, d < c.D → h < modes c → at2 vh d h = at2 uh d h) : leray c vh = leray c uh := by
  rw [leray_eq_tab2, leray_eq_tab2]
  apply tab2_congr
  intro d h hd hh
  have : specDiv c vh h = specDiv c uh h := by
    rw [specDiv_eq_sum, specDiv_eq_sum]
    exact Finset.sum_congr rfl (fun e he => by rw [hv e h (Finset.mem_range.1 he) hh])
  rw [this, hv d h hd hh]

theorem vecDiv_add (c : Cfg ℂ) (h : ℕ) (v w : ℕ → ℂ) :
    vecDiv c h (fun d => v d + w d) = vecDiv c h v + vecDiv c h w := by
  simp only [vecDiv, mul_add, Finset.sum_add_distrib]

theorem vecDiv_smul (c : Cfg ℂ) (h : ℕ) (a : ℂ) (v : ℕ → ℂ) :
    vecDiv c h (fun d => a * v d) = a * vecDiv c h v := by
  simp only [vecDiv, Finset.mul_sum]
  exact Finset.sum_congr rfl (fun d _ => by ring)

/-- `leray` commutes with a per-mode scalar applied to all channels (e.g. `e^{Δt·λ(h)}` of a linear symbol that
    is the same for all channels) -/
theorem leray_mode_scalar (c : Cfg ℂ) (a : ℕ → ℂ) (uh : MC ℂ) :
    leray c (tab2 c.D (modes c) (fun d h => a h * at2 uh d h))
      = tab2 c.D (modes c) (fun d h => a h * at2 (leray c uh) d h) := by
  rw [leray_eq_tab2]
  apply tab2_congr
  intro d h hd hh
  rw [at2_tab2 _ _ _ _ _ hd hh, specDiv_tab2 _ _ _ hh, vecDiv_smul, ← specDiv_eq_vecDiv,
    at2_leray c uh d h hd hh]
  ring

theorem leray_mode_linear (c : Cfg ℂ) (a b : ℕ → ℂ) (uh vh : MC ℂ) :
    leray c (tab2 c.D (modes c) (fun d h => a h * at2 uh d h + b h * at2 vh d h))
      = tab2 c.D (modes c) (fun d h => a h * at2 (leray c uh) d h + b h * at2 (leray c vh) d h) := by
  rw [leray_eq_tab2]
  apply tab2_congr
  intro d h hd hh
  rw [at2_tab2 _ _ _ _ _ hd hh, specDiv_tab2 _ _ _ hh, vecDiv_add, vecDiv_smul, vecDiv_smul,
    ← specDiv_eq_vecDiv, ← specDiv_eq_vecDiv, at2_leray c uh d h hd hh, at2_leray c vh d h hd hh]
  ring

theorem leray_linear (c : Cfg ℂ) (a b : ℂ) (uh vh : MC ℂ) :
    leray c (tab2 c.D (modes c) (fun d h => a * at2 uh d h + b * at2 vh d h))
      = tab2 c.D (modes c) (fun d h => a * at2 (leray c uh) d h + b * at2 (leray c vh) d h) :=
  leray_mode_linear c (fun _ => a) (fun _ => b) uh vh

theorem vecDiv_free_smul (c : Cfg ℂ) (h : ℕ) (a : ℂ) (v : ℕ → ℂ) (hv : vecDiv c h v = 0) :
    vecDiv c h (fun d => a * v d) = 0 := by
  rw [vecDiv_smul, hv, mul_zero]

theorem vecDiv_free_add (c : Cfg ℂ) (h : ℕ) (v w : ℕ → ℂ) (hv : vecDiv c h v = 0) (hw : vecDiv c h w = 0) :
    vecDiv c h (fun d => v d + w d) = 0 := by
  rw [vecDiv_add, hv, hw, add_zero]

/-- ETDRK stages: linear combinations of divergence-free vectors (the state and up to four nonlinear evaluations) stay
    divergence-free -/
theorem vecDiv_free_stage4 (c : Cfg ℂ) (h : ℕ) (E c1 c2 c3 c4 : ℂ) (u n1 n2 n3 n4 : ℕ → ℂ)
    (hu : vecDiv c h u = 0) (h1 : vecDiv c h n1 = 0) (h2 : vecDiv c h n2 = 0) (h3 : vecDiv c h n3 = 0)
    (h4 : vecDiv c h n4 = 0) :
    vecDiv c h (fun d => E * u d + c1 * n1 d + c2 * n2 d + c3 * n3 d + c4 * n4 d) = 0 := by
  simp only [vecDiv_add, vecDiv_smul, hu, h1, h2, h3, h4, mul_zero, add_zero]

theorem specDiv_free_stage1 (c : Cfg ℂ) (E c1 : ℕ → ℂ) (uh n1 : MC ℂ) (h : ℕ) (hh : h < modes c)
    (hu : specDiv c uh h = 0) (h1 : specDiv c n1 h = 0) :
    specDiv c (tab2 c.D (modes c) (fun d h => E h * at2 uh d h + c1 h * at2 n1 d h)) h = 0 := by
  rw [specDiv_eq_vecDiv] at hu h1
  simp only [specDiv_tab2 _ _ _ hh, vecDiv_add, vecDiv_smul, hu, h1, mul_zero, add_zero]

theorem specDiv_free_stage2 (c : Cfg ℂ) (E c1 c2 : ℕ → ℂ) (uh n1 n2 : MC ℂ) (h : ℕ) (hh : h < modes c)
    (hu : specDiv c uh h = 0) (h1 : specDiv c n1 h = 0) (h2 : specDiv c n2 h = 0) :
    specDiv c (tab2 c.D (modes c) (fun d h => E h * at2 uh d h + c1 h * at2 n1 d h + c2 h * at2 n2 d h)) h = 0 := by
  rw [specDiv_eq_vecDiv] at hu h1 h2
  simp only [specDiv_tab2 _ _ _ hh, vecDiv_add, vecDiv_smul, hu, h1, h2, mul_zero, add_zero]

theorem specDiv_free_stage3 (c : Cfg ℂ) (E c1 c2 c3 : ℕ → ℂ) (uh n1 n2 n3 : MC ℂ) (h : ℕ) (hh : h < modes c)
    (hu : specDiv c uh h = 0) (h1 : specDiv c n1 h = 0) (h2 : specDiv c n2 h = 0) (h3 : specDiv c n3 h = 0) :
    specDiv c (tab2 c.D (modes c)
      (fun d h => E h * at2 uh d h + c1 h * at2 n1 d h + c2 h * at2 n2 d h + c3 h * at2 n3 d h)) h = 0 := by
  rw [specDiv_eq_vecDiv] at hu h1 h2 h3
  simp only [specDiv_tab2 _ _ _ hh, vecDiv_add, vecDiv_smul, hu, h1, h2, h3, mul_zero, add_zero]

/-- the Kolmogorov term of `projected3d` (it does not depend on the state): on channel `0`, `−i·γ·scaling` at
    `k = (0, m, 0)` and `+i·γ·scaling` at the conjugate mode `(0, −m, 0)` -/
noncomputable def inj3 (c : Cfg ℂ) (inj : Option (ℕ × ℂ)) (i h : ℕ) : ℂ :=
  match inj with
  | none => 0
  | some (m, gam) =>
    if i = 0 ∧ kInt c 0 h = 0 ∧ kInt c 2 h = 0 ∧ kInt c 1 h = (m : ℤ)
    then -Complex.I * gam * scaling c.D c.N 2 (unflatten (wavenumberShape c.D c.N) h)
    else if i = 0 ∧ kInt c 0 h = 0 ∧ kInt c 2 h = 0 ∧ kInt c 1 h = -(m : ℤ)
    then Complex.I * gam * scaling c.D c.N 2 (unflatten (wavenumberShape c.D c.N) h)
    else 0

theorem projected3d_inj (c : Cfg ℂ) (inj : Option (ℕ × ℂ)) (uh : MC ℂ) (i h : ℕ) (hi : i < 3) (hh : h < modes c) :
    at2 (projected3d c inj uh) i h = at2 (projected3d c none uh) i h + inj3 c inj i h := by
  unfold projected3d
  simp only []
  rw [at2_tab2 _ _ _ _ _ hi hh, at2_tab2 _ _ _ _ _ hi hh]
  generalize at2 (leray c _) i h = P
  rcases inj with _ | ⟨m, gam⟩
  · exact (add_zero P).symm
  · simp only [inj3, ← kInt.eq_1, Bool.and_eq_true, decide_eq_true_eq, beq_iff_eq, and_assoc, hasI_complex, mul_assoc]
    split_ifs <;> rfl

theorem projected3d_at2_out (c : Cfg ℂ) (inj : Option (ℕ × ℂ)) (uh : MC ℂ) (i h : ℕ)
    (ho : 3 ≤ i ∨ modes c ≤ h) : at2 (projected3d c inj uh) i h = 0 := by
  unfold projected3d
  exact ho.elim (at2_tab2_of_le_ch _ _ _ _ _) (at2_tab2_of_le_idx _ _ _ _ _)

/-- the grid velocity, grid vorticity and their cross product inside `projected3d`
    (verbatim the expressions of the model) -/
noncomputable def _root_.Exponax.Conserve.velGrid (c : Cfg ℂ) (uh : MC ℂ) (k x : ℕ) : ℂ :=
  (nifft c (uh.getD k #[])).getD x 0

noncomputable def _root_.Exponax.Conserve.curlGrid (c : Cfg ℂ) (uh : MC ℂ) (k x : ℕ) : ℂ :=
  (nifft c (tab (modes c) (fun h =>
    proj3 (Gen.Misc.cross_product_3d (deriv c 0 h, deriv c 1 h, deriv c 2 h)
      (at2 uh 0 h, at2 uh 1 h, at2 uh 2 h)) k))).getD x 0

noncomputable def _root_.Exponax.Conserve.crossGrid (c : Cfg ℂ) (uh : MC ℂ) (i x : ℕ) : ℂ :=
  proj3 (Gen.Misc.cross_product_3d (Conserve.velGrid c uh 0 x, Conserve.velGrid c uh 1 x, Conserve.velGrid c uh 2 x)
    (Conserve.curlGrid c uh 0 x, Conserve.curlGrid c uh 1 x, Conserve.curlGrid c uh 2 x)) i

/-- read-off of `projected3d` without injection: the Leray projection of the masked transforms of
    the three grid fields `(u × ω)_i` -/
theorem _root_.Exponax.Conserve.projected3d_none_eq (c : Cfg ℂ) (uh : MC ℂ) (i h : ℕ) (hi : i < 3)
    (hh : h < modes c) :
    at2 (projected3d c none uh) i h
      = at2 (leray c (tabC 3 fun i => nfft c (tab (gridSize c) (Conserve.crossGrid c uh i)))) i h := by
  unfold projected3d
  simp only []
  rw [at2_tab2 _ _ _ _ _ hi hh]
  refine congrArg (fun w => at2 (leray c w) i h) (tab_congr _ _ _ fun k hk => ?_)
  refine congrArg (nfft c) ?_
  have t2 : ∀ (n : ℕ) (F : ℕ → ℕ → ℂ), (tab2 3 n F).getD k #[] = tab n (F k) :=
    fun n F => tab_getD _ _ _ _ hk
  rw [t2]
  refine tab_congr _ _ _ fun x hx => ?_
  have hv : ∀ k, k < 3 → at2 (tabC 3 fun i => nifft c (uh.getD i #[])) k x = Conserve.velGrid c uh k x :=
    fun k hk => at2_tabC _ _ _ _ hk
  have hc : ∀ k, k < 3 →
      at2 (tabC 3 fun i => nifft c ((tab2 3 (modes c) fun i h =>
        proj3 (Gen.Misc.cross_product_3d (deriv c 0 h, deriv c 1 h, deriv c 2 h)
          (at2 uh 0 h, at2 uh 1 h, at2 uh 2 h)) i).getD i #[])) k x = Conserve.curlGrid c uh k x := by
    intro k hk
    rw [at2_tabC _ _ _ _ hk]
    unfold Conserve.curlGrid tab2
    rw [tab_getD _ _ _ _ hk]
  rw [hv 0 (by norm_num), hv 1 (by norm_num), hv 2 (by norm_num),
    hc 0 (by norm_num), hc 1 (by norm_num), hc 2 (by norm_num)]
  rfl

/-- a vanishing velocity spectrum gives a vanishing unforced term: `u = 0` on the grid, so `u × ω = 0`
    (any configuration, every entry) -/
theorem projected3d_none_zero (c : Cfg ℂ) (uh : MC ℂ) (h0 : ∀ i h, at2 uh i h = 0) (i h : ℕ) :
    at2 (projected3d c none uh) i h = 0 := by
  by_cases hin : i < 3 ∧ h < modes c
  · rw [Conserve.projected3d_none_eq c uh i h hin.1 hin.2]
    rcases Nat.lt_or_ge i c.D with hi | hi
    · refine at2_leray_zero_of_zero c _ h hin.2 (fun d _ => ?_) i hi
      rw [at2_tabC_any]
      split_ifs
      · refine nfft_zero c _ (fun x hx => ?_) h
        have hv : ∀ k, Conserve.velGrid c uh k x = 0 := fun k => nifft_zero c _ (fun h' _ => h0 k h') x
        rw [tab_getD _ _ _ _ hx, Conserve.crossGrid, hv 0, hv 1, hv 2, proj3_zero_cross]
      · rfl
    · exact at2_leray_out c _ i h (Or.inl hi)
  · exact projected3d_at2_out c none uh i h ((not_and_or.1 hin).imp not_lt.1 not_lt.1)

/-- the Kolmogorov term sits at modes with `k₀ = 0` of channel `0`: it has no divergence -/
theorem deriv_mul_inj3 (c : Cfg ℂ) (inj : Option (ℕ × ℂ)) (d h : ℕ) : deriv c d h * inj3 c inj d h = 0 := by
  rcases inj with _ | ⟨m, gam⟩
  · exact mul_zero _
  · simp only [inj3]
    split_ifs with hc hn
    · rw [hc.1, deriv_eq_zero_of_k c 0 h hc.2.1, zero_mul]
    · rw [hn.1, deriv_eq_zero_of_k c 0 h hn.2.1, zero_mul]
    · exact mul_zero _

/-- the output of `projected3d` is divergence-free at every stored mode, with or without the
    Kolmogorov injection (`c.D ≤ 3`; the function is meant for `c.D = 3`) -/
theorem projected3d_div_free (c : Cfg ℂ) (s : ℝ) (hs : c.s = (s : ℂ)) (hs0 : s ≠ 0) (hD : c.D ≤ 3)
    (inj : Option (ℕ × ℂ)) (uh : MC ℂ) (h : ℕ) (hh : h < modes c) :
    sumList ((List.range c.D).map (fun d => deriv c d h * at2 (projected3d c inj uh) d h)) = 0 := by
  change specDiv c (projected3d c inj uh) h = 0
  rw [specDiv_eq_sum, ← specDiv_leray c s hs hs0 (tabC 3 fun i => nfft c (tab (gridSize c) (Conserve.crossGrid c uh i))) h hh,
    specDiv_eq_sum]
  refine Finset.sum_congr rfl fun d hd => ?_
  have hd3 : d < 3 := (Finset.mem_range.1 hd).trans_le hD
  rw [projected3d_inj c inj uh d h hd3 hh, Conserve.projected3d_none_eq c uh d h hd3 hh, mul_add, deriv_mul_inj3,
    add_zero]

theorem projected3d_none_div_free (c : Cfg ℂ) (s : ℝ) (hs : c.s = (s : ℂ)) (hs0 : s ≠ 0) (hD : c.D ≤ 3)
    (uh : MC ℂ) (h : ℕ) (hh : h < modes c) :
    sumList ((List.range c.D).map (fun d => deriv c d h * at2 (projected3d c none uh) d h)) = 0 :=
  projected3d_div_free c s hs hs0 hD none uh h hh

/-- the Kolmogorov term of `vorticity2d` (it does not depend on the state): `−(s·k₁)·γ·scaling` on the modes
    `k = (0, m)` -/
noncomputable def inj2 (c : Cfg ℂ) (inj : Option (ℕ × ℂ)) (h : ℕ) : ℂ :=
  match inj with
  | none => 0
  | some (m, gam) =>
    if kInt c 0 h = 0 ∧ kInt c 1 h = (m : ℤ)
    then -(c.s * ((kInt c 1 h : ℤ) : ℂ)) * gam * scaling c.D c.N 2 (unflatten (wavenumberShape c.D c.N) h)
    else 0

theorem vorticity2d_inj (c : Cfg ℂ) (scale : ℂ) (inj : Option (ℕ × ℂ)) (uh : MC ℂ) (h : ℕ) (hh : h < modes c) :
    at2 (vorticity2d c scale inj uh) 0 h = at2 (vorticity2d c scale none uh) 0 h + inj2 c inj h := by
  unfold vorticity2d
  simp only []
  rw [at2_tab2 _ _ _ _ _ Nat.one_pos hh, at2_tab2 _ _ _ _ _ Nat.one_pos hh]
  generalize -scale * _ = P
  rcases inj with _ | ⟨m, gam⟩
  · exact (add_zero P).symm
  · simp only [inj2, ← kInt.eq_1, Bool.and_eq_true, beq_iff_eq]
    split_ifs <;> rfl

theorem vorticity2d_at2_out (c : Cfg ℂ) (scale : ℂ) (inj : Option (ℕ × ℂ)) (uh : MC ℂ) (ch h : ℕ)
    (ho : 1 ≤ ch ∨ modes c ≤ h) : at2 (vorticity2d c scale inj uh) ch h = 0 := by
  unfold vorticity2d
  exact ho.elim (at2_tab2_of_le_ch _ _ _ _ _) (at2_tab2_of_le_idx _ _ _ _ _)

/-- read-off of `vorticity2d`: the four spectra handed to the inverse transform are
    `û = d₁ψ̂`, `v̂ = −d₀ψ̂`, `d₀ω̂`, `d₁ω̂` with `ψ̂ = invLapOne · ω̂`, and the unforced output is
    `−scale · fft(u ω_x + v ω_y)` -/
theorem vorticity2d_spec (c : Cfg ℂ) (scale : ℂ) (uh : MC ℂ) :
    ∃ (uH vH wxH wyH : Array ℂ),
      (∀ h, h < modes c →
          at2 (vorticity2d c scale none uh) 0 h
            = -scale * (nfft c (tab (gridSize c) (fun x =>
                (nifft c uH).getD x 0 * (nifft c wxH).getD x 0
                  + (nifft c vH).getD x 0 * (nifft c wyH).getD x 0))).getD h 0) ∧
      (∀ h, h < modes c → uH.getD h 0 = deriv c 1 h * (invLapOne c h * at2 uh 0 h)) ∧
      (∀ h, h < modes c → vH.getD h 0 = -(deriv c 0 h) * (invLapOne c h * at2 uh 0 h)) ∧
      (∀ h, h < modes c → wxH.getD h 0 = deriv c 0 h * at2 uh 0 h) ∧
      (∀ h, h < modes c → wyH.getD h 0 = deriv c 1 h * at2 uh 0 h) :=
  ⟨_, _, _, _,
    fun h hh => by
      unfold vorticity2d
      simp only []
      rw [at2_tab2 _ _ _ _ _ Nat.one_pos hh],
    fun h hh => by rw [tab_getD _ _ _ _ hh, tab_getD _ _ _ _ hh],
    fun h hh => by rw [tab_getD _ _ _ _ hh, tab_getD _ _ _ _ hh],
    fun h hh => by rw [tab_getD _ _ _ _ hh],
    fun h hh => by rw [tab_getD _ _ _ _ hh]⟩

/-- a vanishing vorticity spectrum gives a vanishing unforced term: the advecting velocity vanishes
    (any configuration, every entry) -/
theorem vorticity2d_none_zero (c : Cfg ℂ) (scale : ℂ) (uh : MC ℂ) (h0 : ∀ h, at2 uh 0 h = 0) (ch h : ℕ) :
    at2 (vorticity2d c scale none uh) ch h = 0 := by
  by_cases hin : ch < 1 ∧ h < modes c
  · obtain ⟨uH, vH, wxH, wyH, hval, hu, hv, -, -⟩ := vorticity2d_spec c scale uh
    obtain rfl : ch = 0 := Nat.lt_one_iff.1 hin.1
    rw [hval h hin.2, nfft_zero c _ (fun x hx => ?_), mul_zero]
    rw [tab_getD _ _ _ _ hx, nifft_zero c uH (fun h' hh' => by rw [hu h' hh', h0, mul_zero, mul_zero]),
      nifft_zero c vH (fun h' hh' => by rw [hv h' hh', h0, mul_zero, mul_zero]), zero_mul, zero_mul, add_zero]
  · exact vorticity2d_at2_out c scale none uh ch h ((not_and_or.1 hin).imp not_lt.1 not_lt.1)

/-- stream function, velocity components at one mode for a vorticity coefficient `w = ω̂(h)` — exactly the
    expressions tabulated inside `vorticity2d` (see `vorticity2d_spec`) -/
noncomputable def psiHat (c : Cfg ℂ) (h : ℕ) (w : ℂ) : ℂ := invLapOne c h * w
noncomputable def uHat (c : Cfg ℂ) (h : ℕ) (w : ℂ) : ℂ := deriv c 1 h * psiHat c h w
noncomputable def vHat (c : Cfg ℂ) (h : ℕ) (w : ℂ) : ℂ := -(deriv c 0 h) * psiHat c h w

theorem vorticity_velocity_div_free (c : Cfg ℂ) (h : ℕ) (w : ℂ) :
    deriv c 0 h * uHat c h w + deriv c 1 h * vHat c h w = 0 := by
  simp only [uHat, vHat]
  ring

/-- the same in the `specDiv` wording for a 2-D configuration -/
theorem vorticity_velocity_specDiv (c : Cfg ℂ) (hD : c.D = 2) (wh : MC ℂ) (h : ℕ) (hh : h < modes c) :
    specDiv c (tab2 c.D (modes c)
      (fun d h => if d = 0 then uHat c h (at2 wh 0 h) else vHat c h (at2 wh 0 h))) h = 0 := by
  rw [specDiv_tab2 _ _ _ hh, vecDiv, hD, Finset.sum_range_succ, Finset.sum_range_one]
  simp only [if_true, one_ne_zero, if_false]
  exact vorticity_velocity_div_free c h _

theorem laplace_mul_psiHat (c : Cfg ℂ) (h : ℕ) (w : ℂ) :
    laplace c 2 h * psiHat c h w = if laplace c 2 h = 0 then 0 else w := by
  rw [psiHat, ← mul_assoc, laplace_mul_invLapOne]
  split_ifs <;> simp

theorem laplace_mul_psiHat_of_k_ne_zero (c : Cfg ℂ) (s : ℝ) (hs : c.s = (s : ℂ)) (hs0 : s ≠ 0) (h : ℕ) (w : ℂ)
    (hk : ¬ ∀ d, d < c.D → kInt c d h = 0) :
    laplace c 2 h * psiHat c h w = w := by
  rw [laplace_mul_psiHat, if_neg]
  rwa [laplace_two_eq_zero_iff_real c s hs hs0 h]

/-- at the mean mode the guard value `1` makes `ψ̂ = ω̂`, but the velocity vanishes there (`s ≠ 0`) -/
theorem velocity_at_mean_mode (c : Cfg ℂ) (hs0 : c.s ≠ 0) (hD : c.D = 2) (h : ℕ) (w : ℂ)
    (hl : laplace c 2 h = 0) : psiHat c h w = w ∧ uHat c h w = 0 ∧ vHat c h w = 0 := by
  have h0 := deriv_eq_zero_of_laplace c hs0 h hl 0 (by omega)
  have h1 := deriv_eq_zero_of_laplace c hs0 h hl 1 (by omega)
  simp [psiHat, uHat, vHat, invLapOne_at_zero c h hl, h0, h1]

/-- the curl of the model velocity is MINUS `Δ̂ψ̂`: `d₀v̂ − d₁û = −Δ̂ψ̂` (2-D, any `s`) -/
theorem vorticity_curl_eq_neg_laplace_psi (c : Cfg ℂ) (hD : c.D = 2) (h : ℕ) (w : ℂ) :
    deriv c 0 h * vHat c h w - deriv c 1 h * uHat c h w = -(laplace c 2 h * psiHat c h w) := by
  rw [laplace_two_eq_sum, hD, Finset.sum_range_succ, Finset.sum_range_one]
  simp only [uHat, vHat]
  ring

/-- hence `curl(û, v̂) = −ω̂` at `k ≠ 0` and `0` at the mean mode: with the model's (= the library's)
    conventions `ψ = Δ⁻¹ω`, `u = ∂_yψ`, `v = −∂_xψ` the state `ω` is `∂_y u − ∂_x v`, the NEGATIVE of the usual
    `∂_x v − ∂_y u` -/
theorem vorticity_curl (c : Cfg ℂ) (hD : c.D = 2) (h : ℕ) (w : ℂ) :
    deriv c 0 h * vHat c h w - deriv c 1 h * uHat c h w = if laplace c 2 h = 0 then 0 else -w := by
  rw [vorticity_curl_eq_neg_laplace_psi c hD, laplace_mul_psiHat]
  split_ifs <;> simp

theorem vorticity_curl_of_k_ne_zero (c : Cfg ℂ) (s : ℝ) (hs : c.s = (s : ℂ)) (hs0 : s ≠ 0) (hD : c.D = 2)
    (h : ℕ) (w : ℂ) (hk : ¬ ∀ d, d < c.D → kInt c d h = 0) :
    deriv c 0 h * vHat c h w - deriv c 1 h * uHat c h w = -w := by
  rw [vorticity_curl c hD, if_neg]
  rwa [laplace_two_eq_zero_iff_real c s hs hs0 h]

theorem vorticity_from_velocity (c : Cfg ℂ) (s : ℝ) (hs : c.s = (s : ℂ)) (hs0 : s ≠ 0) (hD : c.D = 2)
    (h : ℕ) (w : ℂ) (hk : ¬ ∀ d, d < c.D → kInt c d h = 0) :
    deriv c 1 h * uHat c h w - deriv c 0 h * vHat c h w = w := by
  have := vorticity_curl_of_k_ne_zero c s hs hs0 hD h w hk
  linear_combination -this

theorem velocity_closed_form (c : Cfg ℂ) (s : ℝ) (hs : c.s = (s : ℂ)) (hs0 : s ≠ 0) (h : ℕ) (w : ℂ)
    (hk : ¬ ∀ d, d < c.D → kInt c d h = 0) :
    uHat c h w = -(Complex.I * ((kInt c 1 h : ℤ) : ℂ) * w) / ((s : ℂ) * ((kSq c h : ℤ) : ℂ)) ∧
    vHat c h w = (Complex.I * ((kInt c 0 h : ℤ) : ℂ) * w) / ((s : ℂ) * ((kSq c h : ℤ) : ℂ)) := by
  have hl : laplace c 2 h ≠ 0 := by rwa [Ne, laplace_two_eq_zero_iff_real c s hs hs0 h]
  have hks : ((kSq c h : ℤ) : ℂ) ≠ 0 := Int.cast_ne_zero.mpr (mt (kSq_eq_zero_iff c h).mp hk)
  have hsc : (s : ℂ) ≠ 0 := Complex.ofReal_ne_zero.mpr hs0
  -- `invLapOne = −1/(s²|k|²)`; both claims are multiples of this after clearing the denominator `s|k|²`
  have hX : invLapOne c h * ((s : ℂ) ^ 2 * ((kSq c h : ℤ) : ℂ)) = -1 := by
    rw [invLapOne_eq, if_neg hl, laplace_two_eq, hs, one_div, inv_neg, neg_mul,
      inv_mul_cancel₀ (mul_ne_zero (pow_ne_zero 2 hsc) hks)]
  simp only [uHat, vHat, psiHat, deriv_eq, hs]
  constructor
  · rw [eq_div_iff (mul_ne_zero hsc hks)]
    linear_combination (Complex.I * ((kInt c 1 h : ℤ) : ℂ) * w) * hX
  · rw [eq_div_iff (mul_ne_zero hsc hks)]
    linear_combination (-(Complex.I * ((kInt c 0 h : ℤ) : ℂ) * w)) * hX

/-- 2-D: the injected coefficient (output with injection minus output without) is
    `−(m·s)·γ·scaling` at the stored mode `k = (0, m)` and `0` elsewhere, `s = 2π/L`: in coefficient-extraction units
    the vorticity forcing `−m·(2π/L)·γ·cos(m·(2π/L)·x₁)` -/
theorem vorticity2d_injection_documented (c : Cfg ℂ) (s : ℝ) (hs : c.s = (s : ℂ)) (scale : ℂ) (m : ℕ) (gam : ℂ)
    (uh : MC ℂ) (h : ℕ) (hh : h < modes c) :
    at2 (vorticity2d c scale (some (m, gam)) uh) 0 h - at2 (vorticity2d c scale none uh) 0 h
      = if kInt c 0 h = 0 ∧ kInt c 1 h = (m : ℤ)
        then -(((m : ℝ) * s : ℝ) : ℂ) * gam * scaling c.D c.N 2 (unflatten (wavenumberShape c.D c.N) h)
        else 0 := by
  rw [vorticity2d_inj c scale _ uh h hh, add_sub_cancel_left]
  simp only [inj2]
  split_ifs with hc
  · rw [hc.2, hs]
    push_cast
    ring
  · rfl

theorem projected3d_injection_documented (c : Cfg ℂ) (m : ℕ) (gam : ℂ) (uh : MC ℂ) (i h : ℕ) (hi : i < 3)
    (hh : h < modes c) :
    at2 (projected3d c (some (m, gam)) uh) i h - at2 (projected3d c none uh) i h
      = if i = 0 ∧ kInt c 0 h = 0 ∧ kInt c 2 h = 0 ∧ kInt c 1 h = (m : ℤ)
        then -Complex.I * gam * scaling c.D c.N 2 (unflatten (wavenumberShape c.D c.N) h)
        else if i = 0 ∧ kInt c 0 h = 0 ∧ kInt c 2 h = 0 ∧ kInt c 1 h = -(m : ℤ)
        then Complex.I * gam * scaling c.D c.N 2 (unflatten (wavenumberShape c.D c.N) h)
        else 0 := by
  rw [projected3d_inj c _ uh i h hi hh, add_sub_cancel_left]
  rfl

/-- the conjugate pair `(−i·a, +i·a)` at wavenumbers `(+m, −m)` is the sine: for `a : ℂ` (the model's `γ` is a
    `K`-value) and real `θ`
    (`θ = m·s·x₁`), `(−i a) e^{iθ} + (i a) e^{−iθ} = 2 a sin θ`; with `a = γ·N³/2` (the coefficient-extraction
    scaling of a non-special mode pair) this is `N³ · γ sin(m s x₁)`, the unnormalised inverse transform of the
    injected pair -/
theorem kolmogorov_pair_is_sine' (a : ℂ) (θ : ℝ) :
    (-Complex.I * a) * Complex.exp (Complex.I * θ) + (Complex.I * a) * Complex.exp (-(Complex.I * θ))
      = 2 * a * Complex.sin θ := by
  rw [Complex.sin, neg_mul (θ : ℂ) Complex.I, mul_comm (θ : ℂ) Complex.I]
  ring

theorem kolmogorov_pair_is_sine (a θ : ℝ) :
    (-Complex.I * (a : ℂ)) * Complex.exp (Complex.I * θ) + (Complex.I * (a : ℂ)) * Complex.exp (-(Complex.I * θ))
      = ((2 * a * Real.sin θ : ℝ) : ℂ) := by
  rw [kolmogorov_pair_is_sine']
  push_cast
  rfl

/-- likewise the single stored half-spectrum mode `(0, m)` with real coefficient `A` and Hermitian weight 2 is the
    cosine: `A e^{iθ} + A e^{−iθ} = 2 A cos θ` (2-D forcing `−m s γ cos(m s x₁)`) -/
theorem kolmogorov_mode_is_cosine (A θ : ℝ) :
    (A : ℂ) * Complex.exp (Complex.I * θ) + (A : ℂ) * Complex.exp (-(Complex.I * θ))
      = ((2 * A * Real.cos θ : ℝ) : ℂ) := by
  have hcos : Complex.cos (θ : ℂ)
      = (Complex.exp (Complex.I * θ) + Complex.exp (-(Complex.I * θ))) / 2 := by
    rw [Complex.cos]
    congr 3 <;> ring
  push_cast
  rw [hcos]
  ring

theorem scaling_coef_extraction_3d (c : Cfg ℂ) (hD : c.D = 3) (h : ℕ) :
    (scaling c.D c.N 2 (unflatten (wavenumberShape c.D c.N) h) : ℂ)
      = axisScale c.N 2 false (kInt c 0 h) * axisScale c.N 2 false (kInt c 1 h)
          * axisScale c.N 2 true (kInt c 2 h) := by
  obtain ⟨D, N, s, fp, fq⟩ := c
  simp only at hD
  subst hD
  simp [scaling, kInt, wnFlat, wnVec, prodList, List.range_succ]

theorem scaling_coef_extraction_2d (c : Cfg ℂ) (hD : c.D = 2) (h : ℕ) :
    (scaling c.D c.N 2 (unflatten (wavenumberShape c.D c.N) h) : ℂ)
      = axisScale c.N 2 false (kInt c 0 h) * axisScale c.N 2 true (kInt c 1 h) := by
  obtain ⟨D, N, s, fp, fq⟩ := c
  simp only at hD
  subst hD
  simp [scaling, kInt, wnFlat, wnVec, prodList, List.range_succ]

theorem isSpecial_zero (N : ℕ) (b : Bool) : isSpecial N b 0 = true := (isSpecial_iff N b 0).mpr (Or.inl rfl)

theorem isSpecial_of_lt (N : ℕ) (b : Bool) (k : ℤ) (h0 : k ≠ 0) (hk : 2 * k < N) (hk' : -(N : ℤ) < 2 * k) :
    isSpecial N b k = false := by
  rw [Bool.eq_false_iff]
  intro hsp
  rcases (isSpecial_iff N b k).mp hsp with h | ⟨_, h⟩
  · exact h0 h
  · split_ifs at h <;> omega

theorem scaling_at_kolmogorov_3d (c : Cfg ℂ) (hD : c.D = 3) (h : ℕ) (m : ℕ) (hm : 0 < m) (hmN : 2 * m < c.N)
    (hk0 : kInt c 0 h = 0) (hk2 : kInt c 2 h = 0) (hk1 : kInt c 1 h = (m : ℤ) ∨ kInt c 1 h = -(m : ℤ)) :
    (scaling c.D c.N 2 (unflatten (wavenumberShape c.D c.N) h) : ℂ) = (c.N : ℂ) * ((c.N : ℂ) / 2) * (c.N : ℂ) := by
  rw [scaling_coef_extraction_3d c hD h, hk0, hk2, axisScale_eq, axisScale_eq, axisScale_eq, isSpecial_zero,
    isSpecial_zero, isSpecial_of_lt c.N false _ (by omega) (by omega) (by omega), if_pos rfl,
    if_neg Bool.false_ne_true, Nat.cast_ofNat]

theorem scaling_at_kolmogorov_2d (c : Cfg ℂ) (hD : c.D = 2) (h : ℕ) (m : ℕ) (hm : 0 < m) (hmN : 2 * m < c.N)
    (hk0 : kInt c 0 h = 0) (hk1 : kInt c 1 h = (m : ℤ)) :
    (scaling c.D c.N 2 (unflatten (wavenumberShape c.D c.N) h) : ℂ) = (c.N : ℂ) * ((c.N : ℂ) / 2) := by
  rw [scaling_coef_extraction_2d c hD h, hk0, hk1, axisScale_eq, axisScale_eq, isSpecial_zero,
    isSpecial_of_lt c.N true _ (by omega) (by omega) (by omega), if_pos rfl, if_neg Bool.false_ne_true,
    Nat.cast_ofNat]

/-- 2-D Kolmogorov forcing, fully evaluated: at `k = (0, m)`, `0 < m < N/2`, the injected coefficient is
    `−(m s)·γ·N²/2`, the rfft coefficient of `−m s γ cos(m s x₁)` on the `N²` grid -/
theorem vorticity2d_injection_value (c : Cfg ℂ) (s : ℝ) (hs : c.s = (s : ℂ)) (hD : c.D = 2) (scale : ℂ) (m : ℕ)
    (gam : ℂ) (uh : MC ℂ) (h : ℕ) (hh : h < modes c) (hm : 0 < m) (hmN : 2 * m < c.N)
    (hk0 : kInt c 0 h = 0) (hk1 : kInt c 1 h = (m : ℤ)) :
    at2 (vorticity2d c scale (some (m, gam)) uh) 0 h - at2 (vorticity2d c scale none uh) 0 h
      = -(((m : ℝ) * s : ℝ) : ℂ) * gam * ((c.N : ℂ) * ((c.N : ℂ) / 2)) := by
  rw [vorticity2d_injection_documented c s hs scale m gam uh h hh, if_pos ⟨hk0, hk1⟩,
    scaling_at_kolmogorov_2d c hD h m hm hmN hk0 hk1]

/-- 3-D Kolmogorov forcing, fully evaluated: on channel `0`, `0 < m < N/2`, the injected coefficients are
    `−i·γ·N³/2` at `(0, m, 0)` and `+i·γ·N³/2` at `(0, −m, 0)`: the fft coefficients of `γ sin(m s x₁)` on the
    `N³` grid (`kolmogorov_pair_is_sine` with `a = γ N³/2`) -/
theorem projected3d_injection_value (c : Cfg ℂ) (hD : c.D = 3) (m : ℕ) (gam : ℂ) (uh : MC ℂ) (h : ℕ)
    (hh : h < modes c) (hm : 0 < m) (hmN : 2 * m < c.N) (hk0 : kInt c 0 h = 0) (hk2 : kInt c 2 h = 0) :
    (kInt c 1 h = (m : ℤ) →
      at2 (projected3d c (some (m, gam)) uh) 0 h - at2 (projected3d c none uh) 0 h
        = -Complex.I * gam * ((c.N : ℂ) * ((c.N : ℂ) / 2) * (c.N : ℂ))) ∧
    (kInt c 1 h = -(m : ℤ) →
      at2 (projected3d c (some (m, gam)) uh) 0 h - at2 (projected3d c none uh) 0 h
        = Complex.I * gam * ((c.N : ℂ) * ((c.N : ℂ) / 2) * (c.N : ℂ))) := by
  constructor
  · intro hk1
    rw [projected3d_injection_documented c m gam uh 0 h (by norm_num) hh, if_pos ⟨rfl, hk0, hk2, hk1⟩,
      scaling_at_kolmogorov_3d c hD h m hm hmN hk0 hk2 (Or.inl hk1)]
  · intro hk1
    have hne : ¬ (0 = 0 ∧ kInt c 0 h = 0 ∧ kInt c 2 h = 0 ∧ kInt c 1 h = (m : ℤ)) := by
      rintro ⟨_, _, _, h1⟩; omega
    rw [projected3d_injection_documented c m gam uh 0 h (by norm_num) hh, if_neg hne, if_pos ⟨rfl, hk0, hk2, hk1⟩,
      scaling_at_kolmogorov_3d c hD h m hm hmN hk0 hk2 (Or.inr hk1)]

/-! non-vacuity -/

example : ∃ (c : Cfg ℂ) (s : ℝ), c.s = (s : ℂ) ∧ s ≠ 0 ∧ c.D = 3 ∧ c.D ≤ 3 ∧ 0 < modes c :=
  ⟨⟨3, 4, ((1 : ℝ) : ℂ), 2, 3⟩, 1, rfl, one_ne_zero, rfl, le_refl _, by decide⟩

example : ∃ (c : Cfg ℂ) (s : ℝ), c.s = (s : ℂ) ∧ s ≠ 0 ∧ c.D = 2 ∧ 1 < modes c ∧
    ¬ ∀ d, d < c.D → kInt c d 1 = 0 :=
  ⟨⟨2, 4, ((1 : ℝ) : ℂ), 2, 3⟩, 1, rfl, one_ne_zero, rfl, by decide, fun hk => by
    have := hk 1 (by decide)
    revert this
    decide⟩

end Exponax.Nonlin
