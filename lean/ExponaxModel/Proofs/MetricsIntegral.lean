import Mathlib.MeasureTheory.Integral.Pi
import Mathlib.MeasureTheory.Constructions.Pi
import Mathlib.Analysis.SpecialFunctions.Integrals.Basic
import Mathlib.MeasureTheory.Measure.Lebesgue.Basic
import ExponaxModel.Proofs.MetricsL2
/-
C16 — the Mathlib integral.  For `u(x) = Σ_i a_i cos((2π/L) κ_i·x + φ_i)` (`trigPoly D L ms`, any integer
wave vectors of length `D`) the Lebesgue integral over the period cell is

    ∫_{[0,L]^D} u(x)² dx = L^D · msClosed ms                       (`integral_sq_trigPoly`)

and the model state `stateOf D N ms` is the sample of `u` at the grid points `x_d = j_d L/N` (`stateOf_eq_trigPoly`).
With `spatialAggregator_stateOf` (`MetricsL2.lean`):  for Nyquist-free modes

    Metrics.spatialAggregator D N L 2 q (sample of u) = (∫_{[0,L]^D} u(x)² dx)^q    (`spatialAggregator_eq_integral_rpow`)

— at `q = 1` the metric is the continuous squared L² norm it documents, exactly (not only up to quadrature error).
-/
set_option linter.unusedVariables false
namespace Exponax.SmallGaps2
open Exponax Exponax.Layout Exponax.Transform Exponax.DFT Exponax.ExactLinear Exponax.Metrics Exponax.SmallGaps
open MeasureTheory Finset

/-- the period cell `[0, L]^D` -/
def box (D : ℕ) (L : ℝ) : Set (Fin D → ℝ) := Set.univ.pi (fun _ => Set.Icc 0 L)

theorem isCompact_box (D : ℕ) (L : ℝ) : IsCompact (box D L) := isCompact_univ_pi (fun _ => isCompact_Icc)

theorem integrable_box {E : Type} [NormedAddCommGroup E] (D : ℕ) (L : ℝ) (f : (Fin D → ℝ) → E)
    (hf : Continuous f) : Integrable f (volume.restrict (box D L)) :=
  hf.continuousOn.integrableOn_compact (isCompact_box D L)

theorem volume_restrict_box (D : ℕ) (L : ℝ) :
    (volume : Measure (Fin D → ℝ)).restrict (box D L)
      = Measure.pi (fun _ : Fin D => (volume : Measure ℝ).restrict (Set.Icc 0 L)) := by
  rw [volume_pi, box, Measure.restrict_pi_pi]

theorem integral_exp_period (L : ℝ) (hL : 0 < L) (m : ℤ) :
    ∫ x in Set.Icc 0 L, Complex.exp (((2 * Real.pi / L * (m : ℝ) * x : ℝ) : ℂ) * Complex.I)
      = if m = 0 then (L : ℂ) else 0 := by
  rw [integral_Icc_eq_integral_Ioc, ← intervalIntegral.integral_of_le hL.le]
  by_cases hm : m = 0
  · subst hm
    simp
  · rw [if_neg hm]
    have hL' : (L : ℂ) ≠ 0 := by exact_mod_cast hL.ne'
    have hm' : (m : ℂ) ≠ 0 := by exact_mod_cast hm
    have hpi : (Real.pi : ℂ) ≠ 0 := by exact_mod_cast Real.pi_ne_zero
    set c : ℂ := 2 * Real.pi / L * m * Complex.I with hc
    have hc0 : c ≠ 0 := by
      rw [hc]
      exact mul_ne_zero (mul_ne_zero (div_ne_zero (mul_ne_zero two_ne_zero hpi) hL') hm') Complex.I_ne_zero
    have e : ∀ x : ℝ, Complex.exp (((2 * Real.pi / L * (m : ℝ) * x : ℝ) : ℂ) * Complex.I)
        = Complex.exp (c * (x : ℂ)) := by
      intro x
      congr 1
      rw [hc]
      push_cast
      ring
    simp only [e]
    rw [integral_exp_mul_complex hc0]
    have e1 : c * (L : ℂ) = (m : ℂ) * (2 * Real.pi * Complex.I) := by
      rw [hc]; field_simp
    rw [e1, Complex.exp_int_mul_two_pi_mul_I]
    simp

theorem integral_exp_box (D : ℕ) (L : ℝ) (hL : 0 < L) (m : Fin D → ℤ) :
    ∫ x in box D L, Complex.exp (((2 * Real.pi / L * (∑ d, (m d : ℝ) * x d) : ℝ) : ℂ) * Complex.I)
      = if ∀ d, m d = 0 then (L : ℂ) ^ D else 0 := by
  have e : ∀ x : Fin D → ℝ,
      Complex.exp (((2 * Real.pi / L * (∑ d, (m d : ℝ) * x d) : ℝ) : ℂ) * Complex.I)
        = ∏ d, Complex.exp (((2 * Real.pi / L * (m d : ℝ) * x d : ℝ) : ℂ) * Complex.I) := by
    intro x
    rw [← Complex.exp_sum]
    congr 1
    rw [Finset.mul_sum, Complex.ofReal_sum, Finset.sum_mul]
    apply Finset.sum_congr rfl
    intro d _
    push_cast
    ring
  simp only [e]
  rw [volume_restrict_box,
    integral_fintype_prod_eq_prod (𝕜 := ℂ) (E := fun _ : Fin D => ℝ)
      (fun d (t : ℝ) => Complex.exp (((2 * Real.pi / L * (m d : ℝ) * t : ℝ) : ℂ) * Complex.I))]
  simp only [integral_exp_period L hL]
  rw [Finset.prod_ite_zero]
  simp

theorem integral_cos_box (D : ℕ) (L : ℝ) (hL : 0 < L) (m : Fin D → ℤ) (φ : ℝ) :
    ∫ x in box D L, Real.cos (2 * Real.pi / L * (∑ d, (m d : ℝ) * x d) + φ)
      = L ^ D * if ∀ d, m d = 0 then Real.cos φ else 0 := by
  have e : ∀ x : Fin D → ℝ, Real.cos (2 * Real.pi / L * (∑ d, (m d : ℝ) * x d) + φ)
      = RCLike.re (Complex.exp ((φ : ℂ) * Complex.I)
          * Complex.exp (((2 * Real.pi / L * (∑ d, (m d : ℝ) * x d) : ℝ) : ℂ) * Complex.I)) := by
    intro x
    rw [← Complex.exp_add, ← add_mul, ← Complex.ofReal_add, add_comm (φ : ℝ)]
    exact (Complex.exp_ofReal_mul_I_re _).symm
  simp only [e]
  rw [integral_re, integral_const_mul, integral_exp_box D L hL m, RCLike.re_eq_complex_re]
  · split_ifs
    · rw [← Complex.ofReal_pow, mul_comm, Complex.re_ofReal_mul, Complex.exp_ofReal_mul_I_re]
    · rw [mul_zero, mul_zero, Complex.zero_re]
  · exact integrable_box D L _ (by fun_prop)

/-- `u(x) = Σ_i a_i cos((2π/L) κ_i·x + φ_i)` on `ℝ^D` -/
noncomputable def trigPoly (D : ℕ) (L : ℝ) (ms : Modes) (x : Fin D → ℝ) : ℝ :=
  (ms.map (fun q => q.2.1 * Real.cos (2 * Real.pi / L * (∑ d : Fin D, (q.1.getD d 0 : ℝ) * x d) + q.2.2))).sum

theorem integral_list_sum {α : Type} (D : ℕ) (L : ℝ) (l : List α) (g : α → (Fin D → ℝ) → ℝ)
    (hg : ∀ q ∈ l, Continuous (g q)) :
    ∫ x in box D L, (l.map (fun q => g q x)).sum = (l.map (fun q => ∫ x in box D L, g q x)).sum := by
  induction l with
  | nil => simp
  | cons a l ih =>
    simp only [List.map_cons, List.sum_cons]
    rw [integral_add (integrable_box D L _ (hg a List.mem_cons_self))
      (integrable_box D L _ (continuous_list_sum l (fun q hq => hg q (List.mem_cons_of_mem _ hq)))),
      ih (fun q hq => hg q (List.mem_cons_of_mem _ hq))]

theorem integral_mode_mul_mode (D : ℕ) (L : ℝ) (hL : 0 < L) (q q' : List ℤ × ℝ × ℝ)
    (hq : q.1.length = D) (hq' : q'.1.length = D) :
    ∫ x in box D L,
        (q.2.1 * Real.cos (2 * Real.pi / L * (∑ d : Fin D, (q.1.getD d 0 : ℝ) * x d) + q.2.2))
          * (q'.2.1 * Real.cos (2 * Real.pi / L * (∑ d : Fin D, (q'.1.getD d 0 : ℝ) * x d) + q'.2.2))
      = L ^ D * msB q q' := by
  have e : ∀ x : Fin D → ℝ,
      (q.2.1 * Real.cos (2 * Real.pi / L * (∑ d : Fin D, (q.1.getD d 0 : ℝ) * x d) + q.2.2))
          * (q'.2.1 * Real.cos (2 * Real.pi / L * (∑ d : Fin D, (q'.1.getD d 0 : ℝ) * x d) + q'.2.2))
        = q.2.1 * q'.2.1 / 2 *
            Real.cos (2 * Real.pi / L * (∑ d : Fin D, ((q.1.getD d 0 + q'.1.getD d 0 : ℤ) : ℝ) * x d)
              + (q.2.2 + q'.2.2))
          + q.2.1 * q'.2.1 / 2 *
            Real.cos (2 * Real.pi / L * (∑ d : Fin D, ((q.1.getD d 0 - q'.1.getD d 0 : ℤ) : ℝ) * x d)
              + (q.2.2 - q'.2.2)) := by
    intro x
    simp only [Int.cast_add, Int.cast_sub, add_mul, sub_mul, Finset.sum_add_distrib, Finset.sum_sub_distrib]
    rw [mul_mul_mul_comm, cos_mul_cos, mul_add (2 * Real.pi / L), mul_sub (2 * Real.pi / L),
      add_add_add_comm, add_sub_add_comm]
    ring
  have p₁ : (∀ d : Fin D, q.1.getD d 0 + q'.1.getD d 0 = 0) ↔ q.1 = negK q'.1 :=
    Fin.forall_iff.trans (eq_negK_iff_add_eq_zero D q.1 q'.1 hq hq').symm
  have p₂ : (∀ d : Fin D, q.1.getD d 0 - q'.1.getD d 0 = 0) ↔ q.1 = q'.1 :=
    Fin.forall_iff.trans (eq_iff_sub_eq_zero D q.1 q'.1 hq hq').symm
  simp only [e]
  rw [integral_add, integral_const_mul, integral_const_mul,
    integral_cos_box D L hL (fun d => q.1.getD d 0 + q'.1.getD d 0),
    integral_cos_box D L hL (fun d => q.1.getD d 0 - q'.1.getD d 0), msB_eq q q' p₁ p₂]
  · ring
  · exact integrable_box D L _ (by fun_prop)
  · exact integrable_box D L _ (by fun_prop)

/-- **`∫_{[0,L]^D} u(x)² dx = L^D · msClosed ms`** for every trigonometric polynomial with integer wave vectors -/
theorem integral_sq_trigPoly (D : ℕ) (L : ℝ) (hL : 0 < L) (ms : Modes) (hlen : ∀ q ∈ ms, q.1.length = D) :
    ∫ x in box D L, trigPoly D L ms x ^ 2 = L ^ D * msClosed ms := by
  unfold trigPoly
  simp only [list_sum_sq]
  rw [integral_list_sum D L ms _ (fun q _ => continuous_list_sum ms (fun q' _ => by fun_prop))]
  unfold msClosed dsum
  rw [← List.sum_map_mul_left]
  congr 1
  apply List.map_congr_left
  intro q hq
  rw [integral_list_sum D L ms _ (fun q' _ => by fun_prop), ← List.sum_map_mul_left]
  congr 1
  apply List.map_congr_left
  intro q' hq'
  exact integral_mode_mul_mode D L hL q q' (hlen q hq) (hlen q' hq')

/-- the grid point of the flat index `j`: `x_d = j_d · L / N` -/
noncomputable def gridPoint (D N : ℕ) (L : ℝ) (j : ℕ) : Fin D → ℝ := fun d => (digit D N j d : ℝ) * L / N

theorem stateOf_eq_trigPoly (D N : ℕ) (hN : 0 < N) (L : ℝ) (hL : L ≠ 0) (ms : Modes) (j : ℕ) (hj : j < N ^ D) :
    (stateOf D N ms).getD j 0 = ((trigPoly D L ms (gridPoint D N L j) : ℝ) : ℂ) := by
  have e : ∀ κ : List ℤ, 2 * Real.pi / L * (∑ d : Fin D, (κ.getD d 0 : ℝ) * gridPoint D N L j d)
      = 2 * Real.pi * ((phaseK D N κ j : ℤ) : ℝ) / N := by
    intro κ
    unfold gridPoint
    rw [phaseK_eq_sum, Int.cast_sum, Finset.mul_sum, Finset.mul_sum, Finset.sum_div,
      Fin.sum_univ_eq_sum_range (fun d => 2 * Real.pi / L * ((κ.getD d 0 : ℝ) * ((digit D N j d : ℝ) * L / N))) D]
    refine Finset.sum_congr rfl fun d _ => ?_
    rw [Int.cast_mul, Int.cast_natCast]
    calc 2 * Real.pi / L * ((κ.getD d 0 : ℝ) * ((digit D N j d : ℝ) * L / N))
        = 2 * Real.pi * ((κ.getD d 0 : ℝ) * (digit D N j d : ℝ)) * (L / L) / N := by ring
      _ = 2 * Real.pi * ((κ.getD d 0 : ℝ) * (digit D N j d : ℝ)) / N := by rw [div_self hL, mul_one]
  rw [stateOf_getD D N ms j hj, trigPoly]
  simp only [e]

/-- the p = 2 metric of the grid sample of a Nyquist-free trigonometric polynomial is the
    exact integral of its square over `[0, L]^D`, raised to the outer exponent `q` -/
theorem spatialAggregator_eq_integral_rpow (D N : ℕ) (hN : 0 < N) (L : ℝ) (hL : 0 < L) (q : ℝ) (ms : Modes)
    (hms : ∀ x ∈ ms, BelowNyquist D N x.1) :
    spatialAggregator D N L 2 q (reArr (stateOf D N ms)) = (∫ x in box D L, trigPoly D L ms x ^ 2) ^ q := by
  rw [spatialAggregator_stateOf D N hN L q ms hms, integral_sq_trigPoly D L hL ms (fun x hx => (hms x hx).1)]

/-- the RMS-type value (`q = 1/2`): the L² norm -/
theorem spatialAggregator_eq_integral_sqrt (D N : ℕ) (hN : 0 < N) (L : ℝ) (hL : 0 < L) (ms : Modes)
    (hms : ∀ x ∈ ms, BelowNyquist D N x.1) :
    spatialAggregator D N L 2 (1 / 2) (reArr (stateOf D N ms))
      = Real.sqrt (∫ x in box D L, trigPoly D L ms x ^ 2) := by
  rw [spatialAggregator_eq_integral_rpow D N hN L hL (1 / 2) ms hms, Real.sqrt_eq_rpow]

example : ∃ ms : Modes, (∀ x ∈ ms, BelowNyquist 2 8 x.1) ∧ (0 : ℝ) < 3 := by
  obtain ⟨ms, hms, _⟩ := exists_distinct_modes_2_8
  exact ⟨ms, hms, by norm_num⟩

end Exponax.SmallGaps2
