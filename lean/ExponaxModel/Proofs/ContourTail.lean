import ExponaxModel.Proofs.Contour
import Mathlib.Analysis.Complex.CauchyIntegral
import Mathlib.Analysis.SpecificLimits.Normed
/-
C02 support — accuracy of the Kassam–Trefethen `M`-point contour rule `Spec.contourMean` on the regenerated
nodes `Gen.Etdrk.roots_of_unity M`: the rule aliases the Taylor coefficients `b_{mM}` onto `b_0`
(`contourMean_hasSum` in Contour.lean), so for `f` holomorphic on a disc of radius `R > ‖r‖` the error is at most
`S q^M / (1 − q^M)`, `q = ‖r‖/R` (`norm_contourMean_sub_le_cauchy`).
-/
namespace Exponax.ContourTail
open Exponax Exponax.Spec Exponax.Gen.Etdrk

theorem contourMean_sub_hasSum (M : ℕ) (hM : 0 < M) (r z : ℂ) (f : ℂ → ℂ) (b : ℕ → ℂ)
    (hf : ∀ ζ ∈ (roots_of_unity M : List ℂ),
      HasSum (fun n => b n * (r * ζ) ^ n) (f (r * ζ + z))) :
    HasSum (fun m => (-1) ^ (m + 1) * b ((m + 1) * M) * r ^ ((m + 1) * M))
      (contourMean (roots_of_unity M) r f z - b 0) := by
  simpa only [Finset.sum_range_one, zero_mul, pow_zero, one_mul, mul_one] using
    (hasSum_nat_add_iff' 1).mpr (contourMean_hasSum M hM r z f b hf)

private theorem norm_alias_term (b r : ℂ) (m k : ℕ) :
    ‖(-1 : ℂ) ^ m * b * r ^ k‖ = ‖b‖ * ‖r‖ ^ k := by
  rw [norm_mul, norm_mul, norm_pow, norm_pow, norm_neg, norm_one, one_pow, one_mul]

theorem contourMean_tail_summable (M : ℕ) (hM : 0 < M) (r z : ℂ) (f : ℂ → ℂ) (b : ℕ → ℂ)
    (hf : ∀ ζ ∈ (roots_of_unity M : List ℂ),
      HasSum (fun n => b n * (r * ζ) ^ n) (f (r * ζ + z))) :
    Summable (fun m => ‖b ((m + 1) * M)‖ * ‖r‖ ^ ((m + 1) * M)) := by
  simpa only [norm_alias_term] using (contourMean_sub_hasSum M hM r z f b hf).summable.norm

/-- the `tsum` is a genuine sum (`contourMean_tail_summable`) -/
theorem norm_contourMean_sub_le (M : ℕ) (hM : 0 < M) (r z : ℂ) (f : ℂ → ℂ) (b : ℕ → ℂ)
    (hf : ∀ ζ ∈ (roots_of_unity M : List ℂ),
      HasSum (fun n => b n * (r * ζ) ^ n) (f (r * ζ + z))) :
    ‖contourMean (roots_of_unity M) r f z - b 0‖
      ≤ ∑' m, ‖b ((m + 1) * M)‖ * ‖r‖ ^ ((m + 1) * M) := by
  have h := contourMean_sub_hasSum M hM r z f b hf
  rw [← h.tsum_eq]
  simpa only [norm_alias_term] using norm_tsum_le_tsum_norm h.summable.norm

theorem norm_contourMean_sub_le_geometric (M : ℕ) (hM : 0 < M) (r z : ℂ) (f : ℂ → ℂ) (b : ℕ → ℂ)
    (hf : ∀ ζ ∈ (roots_of_unity M : List ℂ),
      HasSum (fun n => b n * (r * ζ) ^ n) (f (r * ζ + z)))
    (S q : ℝ) (hq0 : 0 ≤ q) (hq1 : q < 1)
    (hb : ∀ m, ‖b ((m + 1) * M)‖ * ‖r‖ ^ ((m + 1) * M) ≤ S * q ^ ((m + 1) * M)) :
    ‖contourMean (roots_of_unity M) r f z - b 0‖ ≤ S * q ^ M / (1 - q ^ M) := by
  have hqM0 : 0 ≤ q ^ M := pow_nonneg hq0 M
  have hqM1 : q ^ M < 1 := pow_lt_one₀ hq0 hq1 hM.ne'
  have hgeo := (hasSum_geometric_of_lt_one hqM0 hqM1).mul_left (S * q ^ M)
  have hb' : ∀ m, ‖b ((m + 1) * M)‖ * ‖r‖ ^ ((m + 1) * M) ≤ S * q ^ M * (q ^ M) ^ m := by
    intro m
    refine (hb m).trans (le_of_eq ?_)
    rw [← pow_mul, mul_assoc, ← pow_add]
    congr 2
    ring
  have hle := hasSum_le hb' (contourMean_tail_summable M hM r z f b hf).hasSum hgeo
  exact (norm_contourMean_sub_le M hM r z f b hf).trans (hle.trans (le_of_eq (by rw [div_eq_mul_inv])))

theorem hasSum_at_nodes_of_hasFPowerSeriesOnBall (M : ℕ) (r z : ℂ) (f : ℂ → ℂ)
    (p : FormalMultilinearSeries ℂ ℂ ℂ) (ρ : ENNReal) (hp : HasFPowerSeriesOnBall f p z ρ)
    (hr : (‖r‖₊ : ENNReal) < ρ) :
    ∀ ζ ∈ (roots_of_unity M : List ℂ),
      HasSum (fun n => p.coeff n * (r * ζ) ^ n) (f (r * ζ + z)) := by
  intro ζ hζ
  have hn : ‖ζ‖ = 1 := norm_of_mem_roots M ζ hζ
  have hmem : r * ζ ∈ Metric.eball (0 : ℂ) ρ := by
    rw [Metric.mem_eball, edist_zero_right, enorm_mul]
    have : ‖ζ‖ₑ = 1 := by
      rw [← ofReal_norm, hn]
      simp
    rw [this, mul_one]
    exact hr
  have h := hp.hasSum hmem
  rw [add_comm] at h
  have h' : (fun n => p.coeff n * (r * ζ) ^ n) = fun n => p n fun _ => r * ζ := by
    funext n
    rw [FormalMultilinearSeries.apply_eq_pow_smul_coeff, smul_eq_mul, mul_comm]
  rw [h']
  exact h

theorem contourMean_hasSum_of_hasFPowerSeriesOnBall (M : ℕ) (hM : 0 < M) (r z : ℂ) (f : ℂ → ℂ)
    (p : FormalMultilinearSeries ℂ ℂ ℂ) (ρ : ENNReal) (hp : HasFPowerSeriesOnBall f p z ρ)
    (hr : (‖r‖₊ : ENNReal) < ρ) :
    HasSum (fun m => (-1) ^ m * p.coeff (m * M) * r ^ (m * M))
      (contourMean (roots_of_unity M) r f z) :=
  contourMean_hasSum M hM r z f p.coeff
    (hasSum_at_nodes_of_hasFPowerSeriesOnBall M r z f p ρ hp hr)

theorem coeff_zero_of_hasFPowerSeriesOnBall (z : ℂ) (f : ℂ → ℂ)
    (p : FormalMultilinearSeries ℂ ℂ ℂ) (ρ : ENNReal) (hp : HasFPowerSeriesOnBall f p z ρ) :
    p.coeff 0 = f z := by
  have h := hp.coeff_zero (fun _ => (1 : ℂ))
  rw [← h]
  rfl

theorem norm_contourMean_sub_le_of_hasFPowerSeriesOnBall (M : ℕ) (hM : 0 < M) (r z : ℂ)
    (f : ℂ → ℂ) (p : FormalMultilinearSeries ℂ ℂ ℂ) (ρ : ENNReal)
    (hp : HasFPowerSeriesOnBall f p z ρ) (hr : (‖r‖₊ : ENNReal) < ρ) :
    ‖contourMean (roots_of_unity M) r f z - f z‖
      ≤ ∑' m, ‖p.coeff ((m + 1) * M)‖ * ‖r‖ ^ ((m + 1) * M) := by
  rw [← coeff_zero_of_hasFPowerSeriesOnBall z f p ρ hp]
  exact norm_contourMean_sub_le M hM r z f p.coeff
    (hasSum_at_nodes_of_hasFPowerSeriesOnBall M r z f p ρ hp hr)

theorem norm_cauchyPowerSeries_coeff_le (f : ℂ → ℂ) (z : ℂ) (R S : ℝ) (hR : 0 < R)
    (hS : ∀ w ∈ Metric.sphere z R, ‖f w‖ ≤ S) (n : ℕ) :
    ‖(cauchyPowerSeries f z R).coeff n‖ ≤ S * R⁻¹ ^ n := by
  rw [← FormalMultilinearSeries.norm_apply_eq_norm_coef]
  refine (norm_cauchyPowerSeries_le f z R n).trans ?_
  rw [abs_of_pos hR]
  have hpi : 0 < 2 * Real.pi := by positivity
  have hint : (∫ θ : ℝ in 0..2 * Real.pi, ‖f (circleMap z R θ)‖) ≤ S * (2 * Real.pi) := by
    have hθ : ∀ θ ∈ Set.uIoc (0 : ℝ) (2 * Real.pi), ‖(‖f (circleMap z R θ)‖ : ℝ)‖ ≤ S := by
      intro θ _
      rw [norm_norm]
      exact hS _ (circleMap_mem_sphere z hR.le θ)
    have h := intervalIntegral.norm_integral_le_of_norm_le_const hθ
    rw [sub_zero, abs_of_pos hpi] at h
    exact (le_abs_self _).trans (by simpa [Real.norm_eq_abs] using h)
  have hpow : 0 ≤ R⁻¹ ^ n := by positivity
  refine mul_le_mul_of_nonneg_right ?_ hpow
  calc (2 * Real.pi)⁻¹ * ∫ θ : ℝ in 0..2 * Real.pi, ‖f (circleMap z R θ)‖
      ≤ (2 * Real.pi)⁻¹ * (S * (2 * Real.pi)) := by
        exact mul_le_mul_of_nonneg_left hint (by positivity)
    _ = S := by field_simp

theorem norm_contourMean_sub_le_cauchy (M : ℕ) (hM : 0 < M) (r z : ℂ) (f : ℂ → ℂ) (R S : ℝ)
    (hrR : ‖r‖ < R) (hf : DiffContOnCl ℂ f (Metric.ball z R))
    (hS : ∀ w ∈ Metric.sphere z R, ‖f w‖ ≤ S) :
    ‖contourMean (roots_of_unity M) r f z - f z‖
      ≤ S * (‖r‖ / R) ^ M / (1 - (‖r‖ / R) ^ M) := by
  have hR : 0 < R := (norm_nonneg r).trans_lt hrR
  lift R to NNReal using hR.le
  have hp := hf.hasFPowerSeriesOnBall (by exact_mod_cast hR)
  have hr' : (‖r‖₊ : ENNReal) < (R : ENNReal) := by
    rw [ENNReal.coe_lt_coe]
    exact_mod_cast hrR
  have hnodes := hasSum_at_nodes_of_hasFPowerSeriesOnBall M r z f _ _ hp hr'
  rw [← coeff_zero_of_hasFPowerSeriesOnBall z f _ _ hp]
  have hq0 : 0 ≤ ‖r‖ / (R : ℝ) := div_nonneg (norm_nonneg r) hR.le
  have hq1 : ‖r‖ / (R : ℝ) < 1 := (div_lt_one hR).mpr hrR
  refine norm_contourMean_sub_le_geometric M hM r z f _ hnodes S _ hq0 hq1 ?_
  intro m
  have hc := norm_cauchyPowerSeries_coeff_le f z R S hR hS ((m + 1) * M)
  calc ‖(cauchyPowerSeries f z R).coeff ((m + 1) * M)‖ * ‖r‖ ^ ((m + 1) * M)
      ≤ S * (R : ℝ)⁻¹ ^ ((m + 1) * M) * ‖r‖ ^ ((m + 1) * M) :=
        mul_le_mul_of_nonneg_right hc (by positivity)
    _ = S * (‖r‖ / (R : ℝ)) ^ ((m + 1) * M) := by
        rw [div_eq_mul_inv, mul_pow]
        ring

theorem norm_contourMean_sub_le_cauchy' (M : ℕ) (hM : 0 < M) (r z : ℂ) (f : ℂ → ℂ) (R S : ℝ)
    (U : Set ℂ) (hrR : ‖r‖ < R) (hf : DifferentiableOn ℂ f U) (hU : Metric.closedBall z R ⊆ U)
    (hS : ∀ w ∈ Metric.sphere z R, ‖f w‖ ≤ S) :
    ‖contourMean (roots_of_unity M) r f z - f z‖
      ≤ S * (‖r‖ / R) ^ M / (1 - (‖r‖ / R) ^ M) :=
  norm_contourMean_sub_le_cauchy M hM r z f R S hrR (hf.diffContOnCl_ball hU) hS

/-- non-vacuity of `norm_contourMean_sub_le_cauchy`: `f = exp`, `z = 0`, `r = 1`, `R = 2`, `S = e²` -/
example : ‖contourMean (roots_of_unity 16) 1 Complex.exp 0 - Complex.exp 0‖
    ≤ Real.exp 2 * (‖(1 : ℂ)‖ / 2) ^ 16 / (1 - (‖(1 : ℂ)‖ / 2) ^ 16) := by
  refine norm_contourMean_sub_le_cauchy' 16 (by norm_num) 1 0 Complex.exp 2 (Real.exp 2) Set.univ
    (by simp) Complex.differentiable_exp.differentiableOn (Set.subset_univ _) ?_
  intro w hw
  rw [Complex.norm_exp]
  apply Real.exp_le_exp.mpr
  have : ‖w‖ = 2 := by simpa using hw
  exact (Complex.re_le_norm w).trans this.le

/-- non-vacuity of `contourMean_hasSum`: `f = exp`, `b_n = 1/n!` -/
example (M : ℕ) (hM : 0 < M) (r : ℂ) :
    HasSum (fun m => (-1) ^ m * ((1 : ℂ) / ((m * M).factorial : ℂ)) * r ^ (m * M))
      (contourMean (roots_of_unity M) r Complex.exp 0) := by
  refine contourMean_hasSum M hM r 0 Complex.exp (fun n => 1 / (n.factorial : ℂ)) ?_
  intro ζ _
  have h := NormedSpace.expSeries_div_hasSum_exp (𝔸 := ℂ) (r * ζ)
  rw [← Complex.exp_eq_exp_ℂ] at h
  rw [add_zero]
  have h' : (fun n => 1 / (n.factorial : ℂ) * (r * ζ) ^ n)
      = fun n => (r * ζ) ^ n / (n.factorial : ℂ) := by
    funext n
    ring
  rw [h']
  exact h

/-- non-vacuity of the `HasFPowerSeriesOnBall` form: `f = exp` with its Cauchy power series -/
example (M : ℕ) (hM : 0 < M) :
    HasSum (fun m => (-1) ^ m * (cauchyPowerSeries Complex.exp 0 2).coeff (m * M) * (1 : ℂ) ^ (m * M))
      (contourMean (roots_of_unity M) 1 Complex.exp 0) :=
  contourMean_hasSum_of_hasFPowerSeriesOnBall M hM 1 0 Complex.exp _ _
    (Complex.differentiable_exp.hasFPowerSeriesOnBall 0 (R := 2) (by norm_num)) (by simp)

end Exponax.ContourTail
