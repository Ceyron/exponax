import Mathlib.Tactic
import ExponaxModel.Proofs.SpectralLayoutEq
import ExponaxModel.Proofs.ExactLinearModes
/-
C04 — `indexing="ij"` versus `indexing="xy"` for every `D ≥ 2`, on the layout helpers regenerated from
`exponax/_spectral.py` / `_utils.py` (`Gen.SpectralLayout.*`).

`numpy.meshgrid(*xs, indexing="xy")` (as `Gen.SpectralLayout.stack_meshgrid` defines it) gives the `"ij"` stack with the
first two ARRAY AXES transposed: `stack(xy)[:, idx] = stack(ij)[:, swapIdx idx]`.  At the SAME trailing index this means:
the wavenumber array has its first two COMPONENT entries swapped (`swap01`; for `D = 2` the source reverses the list of
axis vectors first, for `D ≥ 3` the first two axis vectors are equal); so has the grid, because every axis carries the
same 1-D grid (transposing the array axes IS swapping the components; doing both would be the identity); the scaling
arrays do not depend on the indexing.  Hence `a cos(s κ·x + φ)` sampled on the `"xy"` grid is the model field with wave
vector `swap01 κ` (array-axis order) and appears exactly at the stored modes where the `"xy"` wavenumber array reads
`κ` / `−κ`: the `"xy"` pair (grid, wavenumbers) is consistent with the transform as the `"ij"` pair is
(`C04_single_mode_xy` in `Properties/C04.lean`, `single_mode_ij` here).
-/
set_option linter.unusedVariables false
namespace Exponax.SmallGaps2
open Exponax Exponax.Layout Exponax.Transform Exponax.DFT Exponax.ExactLinear Exponax.Gen.SpectralLayout Finset

def swap01 {α : Type} : List α → List α
  | a :: b :: t => b :: a :: t
  | l => l

def sw (d : ℕ) : ℕ := if d = 0 then 1 else if d = 1 then 0 else d

theorem sw_sw (d : ℕ) : sw (sw d) = d := by
  unfold sw
  by_cases h0 : d = 0
  · subst h0; simp
  · by_cases h1 : d = 1
    · subst h1; simp
    · simp [h0, h1]

theorem sw_lt (D d : ℕ) (hD : 2 ≤ D) (hd : d < D) : sw d < D := by
  unfold sw; split_ifs <;> omega

@[simp] theorem swap01_swap01 {α : Type} (l : List α) : swap01 (swap01 l) = l := by
  rcases l with _ | ⟨a, _ | ⟨b, t⟩⟩ <;> rfl

@[simp] theorem swap01_length {α : Type} (l : List α) : (swap01 l).length = l.length := by
  rcases l with _ | ⟨a, _ | ⟨b, t⟩⟩ <;> rfl

theorem swap01_getD {α : Type} (l : List α) (hl : 2 ≤ l.length) (d : ℕ) (x : α) :
    (swap01 l).getD d x = l.getD (sw d) x := by
  rcases l with _ | ⟨a, _ | ⟨b, t⟩⟩
  · simp at hl
  · simp at hl
  · rcases d with _ | _ | d <;> rfl

theorem swap01_eq_iff {α : Type} (l m : List α) : swap01 l = m ↔ l = swap01 m := by
  constructor
  · intro h; rw [← h, swap01_swap01]
  · intro h; rw [h, swap01_swap01]

theorem swap01_map {α β : Type} (f : α → β) (l : List α) : swap01 (l.map f) = (swap01 l).map f := by
  rcases l with _ | ⟨a, _ | ⟨b, t⟩⟩ <;> rfl

theorem negK_swap01 (κ : List ℤ) : negK (swap01 κ) = swap01 (negK κ) := by
  unfold negK; rw [swap01_map]

def swapIdx (idx : List ℕ) : List ℕ := idx.getD 1 0 :: idx.getD 0 0 :: idx.drop 2

theorem swapIdx_getD (idx : List ℕ) (d : ℕ) : (swapIdx idx).getD d 0 = xyIndex idx d := by
  rcases d with _ | _ | d
  · rfl
  · rfl
  · rw [swapIdx, List.getD_cons_succ, List.getD_cons_succ, List.getD_eq_getElem?_getD, List.getElem?_drop,
      Nat.add_comm]
    rfl

theorem range_two_add (n : ℕ) : List.range (n + 2) = 0 :: 1 :: (List.range n).map (· + 2) := by
  rw [List.range_succ_eq_map, List.range_succ_eq_map]
  simp [Function.comp]

theorem range_map_sw {α : Type} (D : ℕ) (hD : 2 ≤ D) (f : ℕ → α) :
    (List.range D).map (fun d => f (sw d)) = swap01 ((List.range D).map f) := by
  obtain ⟨n, rfl⟩ : ∃ n, D = n + 2 := ⟨D - 2, by omega⟩
  rw [range_two_add]
  simp [swap01, sw]

theorem stack_meshgrid_xy_eq_ij_swapIdx {T : Type} (xs : List (Vec T)) (hx : 2 ≤ xs.length) (idx : List ℕ) :
    stack_meshgrid xs "xy" idx = stack_meshgrid xs "ij" (swapIdx idx) := by
  rw [stack_meshgrid_xy xs hx, stack_meshgrid_ij]
  simp only [swapIdx_getD]

theorem stack_meshgrid_xy_one {T : Type} (x : Vec T) (idx : List ℕ) :
    stack_meshgrid [x] "xy" idx = stack_meshgrid [x] "ij" idx := by
  simp [stack_meshgrid, meshgrid_axis_xy_one]

/-- the form `build_wavenumbers` / `_build_scaling_array` unfold to: `D − 1` equal axis vectors and a last one, the list
    reversed for `"xy"` when `D = 2` -/
theorem stack_axes_xy {T : Type} (D : ℕ) (hD : 2 ≤ D) (a b : Vec T) (h : List ℕ) :
    stack_meshgrid (if (("xy" : String) == "xy" && D == 2) = true then (List.replicate (D - 1) a ++ [b]).reverse
        else List.replicate (D - 1) a ++ [b]) "xy" h
      = swap01 (stack_meshgrid (List.replicate (D - 1) a ++ [b]) "ij" h) := by
  rcases Nat.lt_or_ge D 3 with h3 | h3
  · obtain rfl : D = 2 := by omega
    rfl
  · have h2 : (D == 2) = false := by rw [beq_eq_false_iff_ne]; omega
    simp only [h2, Bool.and_false, Bool.false_eq_true, if_false]
    rw [stack_meshgrid_xy _ (by simp; omega), stack_meshgrid_ij, mapIdx_replicate_append,
      mapIdx_replicate_append]
    have e : D - 1 + 1 = D := by omega
    rw [e, ← range_map_sw D (by omega)]
    refine List.map_congr_left fun d _ => ?_
    have hsw : sw d = D - 1 ↔ d = D - 1 := by unfold sw; split_ifs <;> omega
    exact (if_congr hsw rfl rfl).symm

theorem build_wavenumbers_xy_swap (D N : ℕ) (hD : 2 ≤ D) (hN : 0 < N) (h : List ℕ) :
    build_wavenumbers D N "xy" h = swap01 (build_wavenumbers D N "ij" h) ∧
    build_wavenumbers D N "xy" h = swap01 (wnVec D N h) ∧
    build_wavenumbers_shape D N "xy" = build_wavenumbers_shape D N "ij" := by
  have e : build_wavenumbers D N "xy" h = swap01 (build_wavenumbers D N "ij" h) := by
    rw [build_wavenumbers_unfold D N hN, build_wavenumbers_unfold D N hN]
    simp only [str_ij_ne_xy, Bool.false_and, Bool.false_eq_true, if_false]
    exact stack_axes_xy D hD _ _ h
  refine ⟨e, ?_, ?_⟩
  · rw [e, build_wavenumbers_ij D N (by omega) hN]
  · rw [build_wavenumbers_shape_xy D N (by omega) hN, build_wavenumbers_shape_ij D N (by omega) hN]

theorem build_wavenumbers_xy_flat (D N : ℕ) (hD : 2 ≤ D) (hN : 0 < N) (i : ℕ) :
    build_wavenumbers D N "xy" (unflatten (wavenumberShape D N) i) = swap01 (wnFlat D N i) :=
  (build_wavenumbers_xy_swap D N hD hN _).2.1

theorem build_wavenumbers_xy_two_three (N : ℕ) (hN : 0 < N) (h : List ℕ) :
    build_wavenumbers 2 N "xy" h = [rfftfreq N (h.getD 1 0), fftfreq N (h.getD 0 0)] ∧
    build_wavenumbers 2 N "ij" h = [fftfreq N (h.getD 0 0), rfftfreq N (h.getD 1 0)] ∧
    build_wavenumbers 3 N "xy" h = [fftfreq N (h.getD 1 0), fftfreq N (h.getD 0 0), rfftfreq N (h.getD 2 0)] ∧
    build_wavenumbers 3 N "ij" h = [fftfreq N (h.getD 0 0), fftfreq N (h.getD 1 0), rfftfreq N (h.getD 2 0)] := by
  have h2 := (build_wavenumbers_xy_swap 2 N le_rfl hN h).2.1
  have h3 := (build_wavenumbers_xy_swap 3 N (by norm_num) hN h).2.1
  rw [h2, h3, build_wavenumbers_ij 2 N (by norm_num) hN, build_wavenumbers_ij 3 N (by norm_num) hN]
  simp [wnVec, wn, List.range_succ, swap01]

/-- `D ≥ 3`: the two transposed axes are both full (`fftfreq`) axes -/
theorem build_wavenumbers_xy_transposed (D N : ℕ) (hD : 3 ≤ D) (hN : 0 < N) (h : List ℕ) :
    build_wavenumbers D N "xy" h = build_wavenumbers D N "ij" (swapIdx h) := by
  rw [build_wavenumbers_unfold D N hN, build_wavenumbers_unfold D N hN]
  have h2 : (D == 2) = false := by rw [beq_eq_false_iff_ne]; omega
  simp only [h2, Bool.and_false, Bool.false_eq_true, if_false]
  exact stack_meshgrid_xy_eq_ij_swapIdx _ (by simp [wnAxes]; omega) h

theorem prod_axis0_swap01 (l : List ℚ) : prod_axis0 (swap01 l) = prod_axis0 l := by
  rcases l with _ | ⟨a, _ | ⟨b, t⟩⟩
  · rfl
  · rfl
  · simp only [swap01, prod_axis0, List.foldl_cons, one_mul]
    rw [mul_comm]

theorem _build_scaling_array_xy (D N r o : ℕ) (hD : 1 ≤ D) (hN : 0 < N) (h : List ℕ) :
    _build_scaling_array D N r o "xy" h = _build_scaling_array D N r o "ij" h := by
  rw [build_scaling_array_unfold D N r o hN, build_scaling_array_unfold D N r o hN]
  simp only [str_ij_ne_xy, Bool.false_and, Bool.false_eq_true, if_false]
  rcases Nat.lt_or_ge D 2 with h1 | h2
  · have : D = 1 := by omega
    subst this
    simp only [scAxes, Nat.sub_self, List.replicate_zero, List.nil_append]
    have : ((("xy" : String) == "xy") && (1 == 2)) = false := by decide
    rw [this]
    simp only [Bool.false_eq_true, if_false]
    rw [stack_meshgrid_xy_one]
  · unfold scAxes
    rw [stack_axes_xy D h2, prod_axis0_swap01]

theorem build_scaling_array_xy (D N : ℕ) (hD : 1 ≤ D) (hN : 0 < N) (mode : String) (h : List ℕ) :
    build_scaling_array D N mode "xy" h = build_scaling_array D N mode "ij" h := by
  unfold build_scaling_array
  simp only [_build_scaling_array_xy D N _ _ hD hN]

theorem build_scaling_array_xy_model (D N : ℕ) (hD : 1 ≤ D) (hN : 0 < N) (h : List ℕ) :
    build_scaling_array D N "norm_compensation" "xy" h = some (scaling D N 0 h) ∧
    build_scaling_array D N "reconstruction" "xy" h = some (scaling D N 1 h) ∧
    build_scaling_array D N "coef_extraction" "xy" h = some (scaling D N 2 h) := by
  simp only [build_scaling_array_xy D N hD hN]
  exact ⟨build_scaling_array_norm_compensation D N hD hN h, build_scaling_array_reconstruction D N hD hN h,
    build_scaling_array_coef_extraction D N hD hN h⟩

section grid
variable {K : Type} [Field K]

theorem make_grid_xy_swap (D N : ℕ) (hD : 2 ≤ D) (L : K) (full zc : Bool) (idx : List ℕ) :
    make_grid D L N full zc "xy" idx = swap01 (make_grid D L N full zc "ij" idx) ∧
    make_grid D L N full zc "xy" idx = make_grid D L N full zc "ij" (swapIdx idx) ∧
    make_grid D L N full zc "xy" idx = (List.range D).map (fun d => gridCoord L N zc (idx.getD (sw d) 0)) := by
  have e3 : make_grid D L N full zc "xy" idx
      = (List.range D).map (fun d => gridCoord L N zc (idx.getD (sw d) 0)) := by
    rw [make_grid_unfold, stack_meshgrid_xy _ (by simpa using hD), mapIdx_replicate]
    rfl
  refine ⟨?_, ?_, e3⟩
  · rw [e3, make_grid_ij, ← range_map_sw D hD (fun d => gridCoord L N zc (idx.getD d 0))]
  · rw [make_grid_unfold, make_grid_unfold]
    exact stack_meshgrid_xy_eq_ij_swapIdx _ (by simpa using hD) idx

theorem make_grid_xy_getD (D N : ℕ) (hD : 2 ≤ D) (L : K) (full zc : Bool) (idx : List ℕ) (d : ℕ) (hd : d < D) :
    (make_grid D L N full zc "xy" idx).getD d 0 = gridCoord L N zc (idx.getD (sw d) 0) := by
  rw [(make_grid_xy_swap D N hD L full zc idx).2.2]
  simp [List.getD_eq_getElem?_getD, hd]

theorem make_grid_ij_getD (D N : ℕ) (L : K) (full zc : Bool) (idx : List ℕ) (d : ℕ) (hd : d < D) :
    (make_grid D L N full zc "ij" idx).getD d 0 = gridCoord L N zc (idx.getD d 0) := by
  rw [make_grid_ij]
  simp [List.getD_eq_getElem?_getD, hd]

/-- numpy's `X[j₀, j₁, …] = x[j₁]`, `Y[j₀, j₁, …] = x[j₀]` -/
theorem make_grid_xy_two_three (N : ℕ) (L : K) (full zc : Bool) (idx : List ℕ) :
    make_grid 2 L N full zc "xy" idx = [gridCoord L N zc (idx.getD 1 0), gridCoord L N zc (idx.getD 0 0)] ∧
    make_grid 3 L N full zc "xy" idx =
      [gridCoord L N zc (idx.getD 1 0), gridCoord L N zc (idx.getD 0 0), gridCoord L N zc (idx.getD 2 0)] := by
  rw [(make_grid_xy_swap 2 N le_rfl L full zc idx).2.2, (make_grid_xy_swap 3 N (by norm_num) L full zc idx).2.2]
  exact ⟨rfl, rfl⟩

theorem meshgrid_shape_replicate_xy {T : Type} (D : ℕ) (v : Vec T) :
    meshgrid_shape (List.replicate D v) "xy" = meshgrid_shape (List.replicate D v) "ij" := by
  rw [meshgrid_shape_ij]
  unfold meshgrid_shape
  apply List.ext_getElem
  · simp
  · intro i h1 h2
    have hi : i < D := by simpa using h1
    simp only [List.length_replicate, List.getElem_map, List.getElem_range, List.map_replicate,
      List.getElem_replicate]
    rcases Nat.lt_or_ge D 2 with hD | hD
    · have : D = 1 := by omega
      subst this
      rw [meshgrid_axis_xy_one]
      simp [List.getD_eq_getElem?_getD, hi]
    · rw [meshgrid_axis_xy _ _ hD]
      have : (if i = 0 then 1 else if i = 1 then 0 else i) < D := by split_ifs <;> omega
      simp [List.getD_eq_getElem?_getD, this]

theorem make_grid_shape_xy (D N : ℕ) (L : K) (full zc : Bool) :
    make_grid_shape D L N full zc "xy" = make_grid_shape D L N full zc "ij" := by
  unfold make_grid_shape
  simp only [meshgrid_shape_replicate_xy]

end grid

theorem unflatten_grid_getD (D N j d : ℕ) (hd : d < D) (hj : j < N ^ D) :
    (unflatten (List.replicate D N) j).getD d 0 = digit D N j d := by
  obtain ⟨E, rfl⟩ : ∃ E, D = E + 1 := ⟨D - 1, by omega⟩
  have e : List.replicate (E + 1) N = List.replicate E N ++ [N] := by
    rw [List.replicate_succ']
  rw [e]
  rw [pow_succ] at hj
  rcases Nat.lt_succ_iff_lt_or_eq.mp hd with h1 | h1
  · rw [unflatten_rep_getD_lt N N E j d h1 hj]
    unfold digit
    congr 2
    rw [show E + 1 - 1 - d = (E - 1 - d) + 1 by omega, pow_succ]
  · subst h1
    rw [unflatten_rep_getD_last N N d j hj]
    simp [digit]

/-- `a cos(Σ_d (2π/L) κ_d x_d + φ)` sampled at the points `x = make_grid(D, L, N, indexing)[:, idx(j)]` of the
    regenerated grid, as a flat (C-order) state of `N^D` entries -/
noncomputable def sampledOnGrid (D N : ℕ) (L : ℝ) (ix : String) (κ : List ℤ) (a φ : ℝ) : Array ℂ :=
  tab (N ^ D) (fun j => (((a * Real.cos (∑ d ∈ range D, (2 * Real.pi / L * (κ.getD d 0 : ℝ)) *
    (make_grid D L N false false ix (unflatten (List.replicate D N) j)).getD d 0 + φ)) : ℝ) : ℂ))

theorem gridCoord_real (L : ℝ) (N j : ℕ) : gridCoord L N false j = (j : ℝ) * L / (N : ℝ) := by
  simp [gridCoord, lit]

theorem sampledOnGrid_ij (D N : ℕ) (L : ℝ) (hL : L ≠ 0) (κ : List ℤ) (a φ : ℝ) :
    sampledOnGrid D N L "ij" κ a φ = modeField D N κ a φ := by
  refine array_ext_getD _ _ (N ^ D) (tab_size _ _) (modeField_size D N κ a φ) fun j hj => ?_
  have e : ∑ d ∈ range D, 2 * Real.pi / L * (κ.getD d 0 : ℝ) *
        (make_grid D L N false false "ij" (unflatten (List.replicate D N) j)).getD d 0
      = 2 * Real.pi * ((phaseK D N κ j : ℤ) : ℝ) / N := by
    rw [phaseK_eq_sum, Int.cast_sum, Finset.mul_sum, Finset.sum_div]
    refine Finset.sum_congr rfl fun d hd => ?_
    have hd' := Finset.mem_range.mp hd
    rw [make_grid_ij_getD D N L false false _ d hd', unflatten_grid_getD D N j d hd' hj, gridCoord_real,
      Int.cast_mul, Int.cast_natCast]
    calc 2 * Real.pi / L * (κ.getD d 0 : ℝ) * ((digit D N j d : ℝ) * L / N)
        = 2 * Real.pi * ((κ.getD d 0 : ℝ) * (digit D N j d : ℝ)) * (L / L) / N := by ring
      _ = 2 * Real.pi * ((κ.getD d 0 : ℝ) * (digit D N j d : ℝ)) / N := by rw [div_self hL, mul_one]
  rw [sampledOnGrid, tab_getD _ _ _ _ hj, modeField_getD D N κ a φ j hj, e]

theorem sum_range_sw (D : ℕ) (hD : 2 ≤ D) (F : ℕ → ℝ) : ∑ d ∈ range D, F (sw d) = ∑ d ∈ range D, F d :=
  Finset.sum_nbij' sw sw (fun d hd => mem_range.mpr (sw_lt D d hD (mem_range.mp hd)))
    (fun d hd => mem_range.mpr (sw_lt D d hD (mem_range.mp hd))) (fun d _ => sw_sw d) (fun d _ => sw_sw d)
    (fun _ _ => rfl)

theorem sampledOnGrid_xy_eq_ij (D N : ℕ) (hD : 2 ≤ D) (hN : 0 < N) (L : ℝ) (hL : L ≠ 0) (κ : List ℤ)
    (hκ : κ.length = D) (a φ : ℝ) :
    sampledOnGrid D N L "xy" κ a φ = sampledOnGrid D N L "ij" (swap01 κ) a φ := by
  have e (idx : List ℕ) : ∑ d ∈ range D, 2 * Real.pi / L * (κ.getD d 0 : ℝ) *
        (make_grid D L N false false "xy" idx).getD d 0
      = ∑ d ∈ range D, 2 * Real.pi / L * ((swap01 κ).getD d 0 : ℝ) *
        (make_grid D L N false false "ij" idx).getD d 0 := by
    rw [← sum_range_sw D hD (fun d => 2 * Real.pi / L * ((swap01 κ).getD d 0 : ℝ) *
        (make_grid D L N false false "ij" idx).getD d 0)]
    refine Finset.sum_congr rfl fun d hd => ?_
    have hd' := Finset.mem_range.mp hd
    rw [make_grid_xy_getD D N hD L false false idx d hd',
      make_grid_ij_getD D N L false false idx (sw d) (sw_lt D d hD hd'), swap01_getD κ (by omega), sw_sw]
  simp only [sampledOnGrid, e]

theorem sampledOnGrid_xy (D N : ℕ) (hD : 2 ≤ D) (hN : 0 < N) (L : ℝ) (hL : L ≠ 0) (κ : List ℤ)
    (hκ : κ.length = D) (a φ : ℝ) :
    sampledOnGrid D N L "xy" κ a φ = modeField D N (swap01 κ) a φ := by
  rw [sampledOnGrid_xy_eq_ij D N hD hN L hL κ hκ, sampledOnGrid_ij D N L hL]

theorem belowNyquist_swap01 {D N : ℕ} (hD : 2 ≤ D) {κ : List ℤ} (hκ : BelowNyquist D N κ) :
    BelowNyquist D N (swap01 κ) := by
  refine ⟨by rw [swap01_length]; exact hκ.1, ?_⟩
  intro d hd
  rw [swap01_getD κ (by rw [hκ.1]; exact hD)]
  exact hκ.2 _ (sw_lt D d hD hd)

theorem single_mode_ij (D N : ℕ) (hD : 1 ≤ D) (hN : 0 < N) (L : ℝ) (hL : L ≠ 0) (κ : List ℤ)
    (hκ : BelowNyquist D N κ) (a φ : ℝ) (h : ℕ) (hh : h < numModes D N) :
    (rfftnM D N (sampledOnGrid D N L "ij" κ a φ)).getD h 0 =
      (if build_wavenumbers D N "ij" (unflatten (wavenumberShape D N) h) = κ
        then (a : ℂ) / 2 * ((N ^ D : ℕ) : ℂ) * Complex.exp ((φ : ℂ) * Complex.I) else 0) +
      if build_wavenumbers D N "ij" (unflatten (wavenumberShape D N) h) = negK κ
        then (a : ℂ) / 2 * ((N ^ D : ℕ) : ℂ) * Complex.exp (-((φ : ℂ) * Complex.I)) else 0 := by
  rw [sampledOnGrid_ij D N L hL, build_wavenumbers_ij_flat D N hD hN]
  exact rfftnM_modeField D N hD hN κ hκ a φ h hh

example : BelowNyquist 2 8 [1, -2] ∧ BelowNyquist 3 5 [2, -2, 1] ∧ (2 : ℝ) ≠ 0 :=
  ⟨⟨rfl, by intro d hd; interval_cases d <;> simp⟩, ⟨rfl, by intro d hd; interval_cases d <;> simp⟩, by norm_num⟩
example : build_wavenumbers 2 8 "xy" [6, 1] = [1, -2] ∧ build_wavenumbers 2 8 "ij" [6, 1] = [-2, 1] := by
  have h := build_wavenumbers_xy_two_three 8 (by norm_num) [6, 1]
  rw [h.1, h.2.1]
  decide
example : swap01 [1, 2, 3] = [2, 1, 3] ∧ swapIdx [4, 5, 6] = [5, 4, 6] := by decide

end Exponax.SmallGaps2
