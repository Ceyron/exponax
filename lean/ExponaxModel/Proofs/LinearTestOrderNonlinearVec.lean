import ExponaxModel.Proofs.LinearTestOrderNonlinear
/-
C02 support: exponential Euler (the regenerated `Gen.Etdrk.E1step`) with a nonlinear, globally Lipschitz term, for systems:
vectors `ι → ℂ` with pointwise operations (how the stepper acts on a Fourier coefficient array),

      u' = L u + N(u),   L = diag(l k)  (the Fourier symbol),   N : (ι → ℂ) → (ι → ℂ)  K-Lipschitz (sup norm),

with the exact coefficients `e^{l k dt}`, `dt·φ₁(l k dt)` per mode; the exact solution `u` is a hypothesis and `M` bounds
`‖u'‖ = ‖L u + N(u)‖` on `[0,T]`.  The error constant depends on the spectrum only through `ω ≥ max(0, sup_k Re l k)`,
not on `sup_k |l k|`.  The scalar equation `u' = λu + N(u)` is the case `ι = Unit`.
-/
noncomputable section
namespace Exponax.LinearOrder
open Exponax Exponax.Spec Exponax.ContourTail Exponax.Gen.Etdrk

variable {ι : Type} [Fintype ι]

/-- the exponential-Euler step on vectors: the regenerated `E1step` with per-mode exact coefficients -/
def expEulerVec (l : ι → ℂ) (N : (ι → ℂ) → (ι → ℂ)) (dt : ℝ) : (ι → ℂ) → (ι → ℂ) :=
  E1step (fun k => Complex.exp (l k * dt)) (fun k => dt * phi1e (l k * dt)) N

omit [Fintype ι] in
theorem expEulerVec_eq (l : ι → ℂ) (N : (ι → ℂ) → (ι → ℂ)) (dt : ℝ) (x : ι → ℂ) :
    expEulerVec l N dt x = (fun k => Complex.exp (l k * dt)) * x + (dt : ℂ) • (fun k => phi1e (l k * dt)) * N x := rfl

/-- `u` solves `u' = l u + f` with `f s = N (u s)`, and `f` is `K M`-Lipschitz in time because `u` is `M`-Lipschitz -/
theorem expEulerVec_local_error (l : ι → ℂ) (N : (ι → ℂ) → (ι → ℂ)) (K : NNReal)
    (hN : LipschitzWith K N) (u : ℝ → (ι → ℂ)) (T M ω : ℝ) (hω : 0 ≤ ω) (hl : ∀ k, (l k).re ≤ ω)
    (hu : ∀ t ∈ Set.Icc (0 : ℝ) T, HasDerivAt u (l * u t + N (u t)) t)
    (hM : ∀ t ∈ Set.Icc (0 : ℝ) T, ‖l * u t + N (u t)‖ ≤ M)
    (t h : ℝ) (ht : 0 ≤ t) (hh : 0 ≤ h) (hth : t + h ≤ T) :
    ‖u (t + h) - expEulerVec l N h (u t)‖ ≤ Real.exp (ω * T) * (K * M) * h ^ 2 / 2 := by
  have hM0 : 0 ≤ M := (norm_nonneg _).trans (hM t ⟨ht, (le_add_of_nonneg_right hh).trans hth⟩)
  have hlip : ∀ s : ℝ, 0 ≤ s → t + s ≤ T → ‖N (u (t + s)) - N (u t)‖ ≤ K * M * s := fun s hs hsT => by
    have hsub : Set.Icc t (t + s) ⊆ Set.Icc (0 : ℝ) T := fun x hx => ⟨ht.trans hx.1, hx.2.trans hsT⟩
    have := norm_image_sub_le_of_norm_deriv_le_segment' (fun x hx => (hu x (hsub hx)).hasDerivWithinAt)
      (fun x hx => hM x (hsub ⟨hx.1, hx.2.le⟩)) (t + s) ⟨le_add_of_nonneg_right hs, le_rfl⟩
    rw [add_sub_cancel_left] at this
    exact (hN.norm_sub_le_of_le this).trans_eq (mul_assoc _ _ _).symm
  exact etd_defectV1 l ω (K * M) T u (fun s => N (u s)) hω hl hu
    (hN.continuous.comp_continuousOn fun s hs => (hu s hs).continuousAt.continuousWithinAt) t ht
    (mul_nonneg K.coe_nonneg hM0) hlip h hh hth

theorem expEulerVec_stable (l : ι → ℂ) (N : (ι → ℂ) → (ι → ℂ)) (K : NNReal)
    (hN : LipschitzWith K N) (ω dt : ℝ) (hω : 0 ≤ ω) (hl : ∀ k, (l k).re ≤ ω) (hdt : 0 ≤ dt)
    (x y : ι → ℂ) :
    ‖expEulerVec l N dt x - expEulerVec l N dt y‖ ≤ Real.exp (ω * dt) * (1 + K * dt) * ‖x - y‖ := by
  obtain ⟨bp1, -, -, -, -, -, -, bE, -⟩ := etd_phi_boundsV l ω dt dt hω hl hdt le_rfl
  rw [expEulerVec_eq, expEulerVec_eq]
  exact (norm_add_mul_sub_le (norm_mul_sub_mul_le bE le_rfl) (norm_smul_le_of_le (nrm_ofReal hdt le_rfl) bp1)
    (hN.norm_sub_le x y)).trans_eq (by ring)

theorem expEulerVec_global_error (l : ι → ℂ) (N : (ι → ℂ) → (ι → ℂ)) (K : NNReal)
    (hN : LipschitzWith K N) (u : ℝ → (ι → ℂ)) (T M ω : ℝ) (hω : 0 ≤ ω) (hl : ∀ k, (l k).re ≤ ω)
    (hu : ∀ t ∈ Set.Icc (0 : ℝ) T, HasDerivAt u (l * u t + N (u t)) t)
    (hM : ∀ t ∈ Set.Icc (0 : ℝ) T, ‖l * u t + N (u t)‖ ≤ M)
    (n : ℕ) (dt : ℝ) (hdt : 0 ≤ dt) (hn : n * dt ≤ T) :
    ‖u (n * dt) - (expEulerVec l N dt)^[n] (u 0)‖
      ≤ K * M * T / 2 * Real.exp ((2 * ω + K) * T) * dt := by
  have hT : 0 ≤ T := (mul_nonneg n.cast_nonneg hdt).trans hn
  have hM0 : 0 ≤ M := (norm_nonneg _).trans (hM 0 ⟨le_rfl, hT⟩)
  have h := fan_grid (expEulerVec l N dt) u (Real.exp (ω * dt) * (1 + K * dt))
    (Real.exp (ω * T) * (K * M) / 2) (ω + K) T dt 1 n (by positivity) (by positivity) hdt hn
    (fun t ht htT => (expEulerVec_local_error l N K hN u T M ω hω hl hu hM t dt ht hdt htT).trans_eq (by ring))
    (fun _ => by
      rw [add_mul, Real.exp_add]
      exact mul_le_mul_of_nonneg_left (by linarith [Real.add_one_le_exp ((K : ℝ) * dt)]) (Real.exp_pos _).le)
    (fun _ => expEulerVec_stable l N K hN ω dt hω hl hdt)
  refine h.trans_eq ?_
  rw [show (2 * ω + K) * T = ω * T + (ω + K) * T by ring, Real.exp_add]
  ring

/-- global error of exponential Euler (the regenerated `E1step` with the exact coefficients) for a nonlinear
    `K`-Lipschitz `N`: first order; `M` bounds `‖u'‖` on `[0,T]`, `ω ≥ max(0, Re λ)`, and the constant does not depend on
    `|λ|` (stiffness-uniform). -/
theorem expEuler_global_error (l : ℂ) (N : ℂ → ℂ) (K : NNReal) (hN : LipschitzWith K N) (u : ℝ → ℂ)
    (T M ω : ℝ) (hω : 0 ≤ ω) (hl : l.re ≤ ω)
    (hu : ∀ t ∈ Set.Icc (0 : ℝ) T, HasDerivAt u (l * u t + N (u t)) t)
    (hM : ∀ t ∈ Set.Icc (0 : ℝ) T, ‖l * u t + N (u t)‖ ≤ M)
    (n : ℕ) (dt : ℝ) (hdt : 0 ≤ dt) (hn : n * dt ≤ T) :
    ‖u (n * dt) - (E1step (Complex.exp (l * dt)) (dt * phi1e (l * dt)) N)^[n] (u 0)‖
      ≤ K * M * T / 2 * Real.exp ((2 * ω + K) * T) * dt := by
  have h := expEulerVec_global_error (ι := Unit) (fun _ => l) (fun v k => N (v k)) K
    (lipschitzWith_modewise hN) (fun t _ => u t) T M ω hω (fun _ => hl)
    (fun t ht => hasDerivAt_pi.mpr fun _ => hu t ht)
    (fun t ht => (pi_norm_const (l * u t + N (u t))).trans_le (hM t ht)) n dt hdt hn
  rw [iterate_modewise (E1step (Complex.exp (l * dt)) (dt * phi1e (l * dt)) N)
    (expEulerVec (fun _ => l) (fun v k => N (v k)) dt) (fun _ => rfl)] at h
  exact (pi_norm_const _).symm.trans_le h

example : ∃ (l : ℂ) (N : ℂ → ℂ) (K : NNReal) (u : ℝ → ℂ) (T M ω : ℝ), LipschitzWith K N ∧ 0 ≤ ω ∧ l.re ≤ ω ∧
    (∀ t ∈ Set.Icc (0 : ℝ) T, HasDerivAt u (l * u t + N (u t)) t) ∧
    (∀ t ∈ Set.Icc (0 : ℝ) T, ‖l * u t + N (u t)‖ ≤ M) ∧ 0 < T := by
  obtain ⟨l, N, K, u, _, T, M, ω, _, hN, hω, hl, _, hT, hu, hM, _⟩ := etd2_nonvacuous
  exact ⟨l, N, K, u, T, M, ω, hN, hω, hl, hu, hM, hT⟩

/-- the same problem in each of two modes -/
example : ∃ (l : Fin 2 → ℂ) (N : (Fin 2 → ℂ) → (Fin 2 → ℂ)) (K : NNReal) (u : ℝ → (Fin 2 → ℂ))
    (T M ω : ℝ), LipschitzWith K N ∧ 0 ≤ ω ∧ (∀ k, (l k).re ≤ ω) ∧
    (∀ t ∈ Set.Icc (0 : ℝ) T, HasDerivAt u (l * u t + N (u t)) t) ∧
    (∀ t ∈ Set.Icc (0 : ℝ) T, ‖l * u t + N (u t)‖ ≤ M) ∧ 0 < T := by
  obtain ⟨l, N, K, u, _, T, M, ω, _, hN, hω, hl, _, hT, hu, hM, _⟩ := etd2_nonvacuous
  exact ⟨fun _ => l, fun v k => N (v k), K, fun t _ => u t, T, M, ω, lipschitzWith_modewise hN, hω,
    fun _ => hl, fun t ht => hasDerivAt_pi.mpr fun _ => hu t ht,
    fun t ht => (pi_norm_const (l * u t + N (u t))).trans_le (hM t ht), hT⟩

end Exponax.LinearOrder
end
