import ExponaxModel.Proofs.EquilibriaWhole
import ExponaxModel.Proofs.StepperSymbols
import ExponaxModel.Proofs.StepperWiringEq
import ExponaxModel.Proofs.OperatorAlgebra
/-
C09 — reaction terms on constant states, and the constant equilibria of the reaction steppers.

`Nonlin.polynomial` and `Nonlin.reaction` map the spectrum of the constant state `u₀` to the spectrum of the constant
`p(u₀)` resp. `react(u₀)` (`polynomial_const`, `reaction_const`), so `L(0) u₀ + p(u₀) = 0` gives
`L(h) û(h) + N(û)(h) = 0` at EVERY index `h` (`polynomial_equilibrium`).  FisherKPP (`u₀ ∈ {0, 1}`), AllenCahn (`u₀ = 0`
or `c₁ + c₃u₀² = 0`), SwiftHohenberg (`(r − k²)u₀ + p(u₀) = 0`), Gray–Scott (`(1, 0)` and every solution of
`f(1−a) = ab²`, `(f+k)b = ab²`) are stated in `Properties/C09.lean` (`C09_*_equilibria`) with the REGENERATED linear
operators (`Gen.Steppers.*_linear_operator (kappa c h) …`, at the mean mode `*_linear_operator_mean` here) and wiring
(`Gen.StepperWiring.*_stepper_nonlinear_fun`).
Hypothesis throughout: the dealiasing mask keeps the mean mode (`mask c 0 = 1`).
-/
namespace Exponax.Equilibria
open Exponax Exponax.Layout Exponax.Transform Exponax.DFT Finset
open Exponax.Nonlin (Cfg MC at2 tab2 tabC modes gridSize mask nfft nifft deriv polynomial polyEval reaction
  grayScottReact)
open Exponax.Gen.Steppers Exponax.Gen.StepperWiring Exponax.StepperWiringEq

theorem nfft_size (c : Cfg ℂ) (v : Array ℂ) : (nfft c v).size = modes c := by
  unfold nfft
  simp

theorem tabC_ext (C n : ℕ) (f g : ℕ → Array ℂ) (hf : ∀ ch < C, (f ch).size = n) (hg : ∀ ch < C, (g ch).size = n)
    (h : ∀ ch < C, ∀ i < n, (f ch).getD i 0 = (g ch).getD i 0) : tabC C f = tabC C g := by
  unfold tabC
  apply Nonlin.tab_congr
  intro ch hch
  exact DFT.array_ext_getD _ _ n (hf ch hch) (hg ch hch) (h ch hch)

theorem tabC_nfft_const (c : Cfg ℂ) (hD : 0 < c.D) (hN : 0 < c.N) (hm : mask c 0 = 1) (C : ℕ) (f : ℕ → Array ℂ)
    (v : ℕ → ℂ) (hf : ∀ ch < C, ∀ x < gridSize c, (f ch).getD x 0 = v ch) :
    tabC C (fun ch => nfft c (f ch)) = constSpec c C v := by
  unfold constSpec
  apply tabC_ext C (modes c) _ _ (fun ch _ => nfft_size c _) (fun ch _ => rfftnM_size _ _ _)
  intro ch hch h hh
  rw [nfft_const c hD hN _ (v ch) (hf ch hch) h, hm, one_mul]
  exact (rfftnM_const c.D c.N hD hN (v ch) h hh).symm

theorem polynomial_const (c : Cfg ℂ) (hD : 0 < c.D) (hN : 0 < c.N) (hm : mask c 0 = 1) (C : ℕ) (coeffs : List ℂ)
    (u0 : ℕ → ℝ) :
    polynomial c C coeffs (constSpec c C (fun k => (u0 k : ℂ)))
      = constSpec c C (fun k => polyEval coeffs (u0 k : ℂ)) := by
  have hu := constSpec_meanSpec c hD hN C (fun k => (u0 k : ℂ))
  unfold polynomial
  exact tabC_nfft_const c hD hN hm C _ _ (fun ch hch x hx => by
    rw [Nonlin.tab_getD _ _ _ _ hx, Nonlin.at2_tabC _ _ _ _ hch, nifft_channel_mean c hN _ hu ch x hx,
      meanValue_constSpec c hD hN hm C u0 ch hch])

theorem nifft_masked_mean (c : Cfg ℂ) (hN : 0 < c.N) (hm : mask c 0 = 1) (uh : MC ℂ) (hu : MeanSpec c uh) (ch x : ℕ)
    (hx : x < gridSize c) :
    (nifft c (tab (modes c) (fun h => mask c h * at2 uh ch h))).getD x 0 = meanValue c uh ch := by
  rw [nifft_mean c hN _ (fun h h0 hh => by rw [Nonlin.tab_getD _ _ _ _ hh, hu ch h h0 hh, mul_zero]) x hx,
    Nonlin.tab_getD _ _ _ _ (Conserve.modes_pos c hN), hm, one_mul]
  unfold meanValue
  rw [hm, one_mul]

theorem reaction_const (c : Cfg ℂ) (hD : 0 < c.D) (hN : 0 < c.N) (hm : mask c 0 = 1) (C : ℕ)
    (react : List ℂ → List ℂ) (u0 : ℕ → ℝ) :
    reaction c C react (constSpec c C (fun k => (u0 k : ℂ)))
      = constSpec c C (fun ch => (react ((List.range C).map (fun k => (u0 k : ℂ)))).getD ch 0) := by
  have hu := constSpec_meanSpec c hD hN C (fun k => (u0 k : ℂ))
  unfold reaction
  refine tabC_nfft_const c hD hN hm C _ _ (fun ch hch x hx => ?_)
  change at2 _ ch x = _
  rw [Nonlin.at2_tab2 _ _ _ _ _ hch hx, List.map_congr_left (fun k hk => by
    rw [Nonlin.at2_tabC _ _ _ _ (List.mem_range.mp hk), nifft_masked_mean c hN hm _ hu k x hx,
      meanValue_constSpec c hD hN hm C u0 k (List.mem_range.mp hk)])]

/-- at the mean mode the sum is `N^D (L(0)u₀ + p(u₀))`; elsewhere both terms vanish -/
theorem polynomial_equilibrium (c : Cfg ℂ) (hD : 0 < c.D) (hN : 0 < c.N) (hm : mask c 0 = 1) (C : ℕ)
    (coeffs : List ℂ) (L : ℕ → ℕ → ℂ) (u0 : ℕ → ℝ)
    (hroot : ∀ ch < C, L ch 0 * (u0 ch : ℂ) + polyEval coeffs (u0 ch : ℂ) = 0) (ch h : ℕ) (hch : ch < C) :
    L ch h * at2 (constSpec c C (fun k => (u0 k : ℂ))) ch h
      + at2 (polynomial c C coeffs (constSpec c C (fun k => (u0 k : ℂ)))) ch h = 0 := by
  rw [polynomial_const c hD hN hm C coeffs u0, at2_constSpec c hD hN C _ ch h hch,
    at2_constSpec c hD hN C _ ch h hch]
  split_ifs with h0
  · rw [h0]
    linear_combination ((c.N ^ c.D : ℕ) : ℂ) * hroot ch hch
  · ring

theorem laplace_op_mean (c : Cfg ℂ) : laplace_op (kappa c 0) 2 = 0 := by
  rw [laplace_op_kappa, Conserve.laplace_zero_mode]

theorem FisherKPP_linear_operator_mean (c : Cfg ℂ) (ν r : ℂ) : FisherKPP_linear_operator (kappa c 0) ν r = r := by
  unfold FisherKPP_linear_operator
  simp only [laplace_op_mean]
  ring

theorem AllenCahn_linear_operator_mean (c : Cfg ℂ) (ν c1 : ℂ) : AllenCahn_linear_operator (kappa c 0) ν c1 = c1 := by
  unfold AllenCahn_linear_operator
  simp only [laplace_op_mean]
  ring

theorem SwiftHohenberg_linear_operator_mean (c : Cfg ℂ) (r k : ℂ) :
    SwiftHohenberg_linear_operator (kappa c 0) r k = r - k ^ 2 := by
  unfold SwiftHohenberg_linear_operator
  simp only [laplace_op_mean, npow_eq]
  ring

theorem GrayScott_linear_operator_mean (c : Cfg ℂ) (d1 d2 : ℂ) :
    GrayScott_linear_operator (kappa c 0) d1 d2 = [0, 0] := by
  unfold GrayScott_linear_operator
  simp only [laplace_op_mean, mul_zero]

theorem GrayScott_trivial_state (f k : ℂ) :
    f * (1 - ((1 : ℝ) : ℂ)) = ((1 : ℝ) : ℂ) * (((0 : ℝ) : ℂ) * ((0 : ℝ) : ℂ)) ∧
    (f + k) * ((0 : ℝ) : ℂ) = ((1 : ℝ) : ℂ) * (((0 : ℝ) : ℂ) * ((0 : ℝ) : ℂ)) := by
  constructor <;> simp

/-- a nontrivial Gray–Scott steady state: `f = 0.04`, `k = 0.06` (saddle-node point): `(u, v) = (1/2, 1/5)` -/
theorem GrayScott_nontrivial_state :
    ((0.04 : ℝ) : ℂ) * (1 - ((0.5 : ℝ) : ℂ)) = ((0.5 : ℝ) : ℂ) * (((0.2 : ℝ) : ℂ) * ((0.2 : ℝ) : ℂ)) ∧
    (((0.04 : ℝ) : ℂ) + ((0.06 : ℝ) : ℂ)) * ((0.2 : ℝ) : ℂ) = ((0.5 : ℝ) : ℂ) * (((0.2 : ℝ) : ℂ) * ((0.2 : ℝ) : ℂ)) := by
  constructor <;> · push_cast; norm_num

/-- without dealiasing (`fq = 0`) the mask keeps every mode -/
example (c : Cfg ℂ) (hq : c.fq = 0) : mask c 0 = 1 := by simp [mask, hq]

/-- the 2/3 rule on `N = 16` keeps the mean mode -/
example : mask (⟨1, 16, 1, 2, 3⟩ : Cfg ℂ) 0 = 1 := by
  simp [mask, dealiasMask, dealiasCutoff, lowPassSep, absLe, wnFlat, wnVec, wn, rfftfreq, unflatten, wavenumberShape,
    shapeSize, List.range_succ]

end Exponax.Equilibria
