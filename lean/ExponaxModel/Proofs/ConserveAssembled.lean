import ExponaxModel.Proofs.InterfaceAssembly
import ExponaxModel.Proofs.InterfaceSpecific
import ExponaxModel.Proofs.ConserveEtdrk
import ExponaxModel.Proofs.ConserveMean
import ExponaxModel.Proofs.AliasNDBasic
/-
C09 support — the spatial mean on the ASSEMBLED regenerated step (`Interface.baseStep` / `Interface.etdrkStep`:
regenerated propagators, contour coefficients with the STORED contour sums, stage formulas, linear operator and
`__init__ → _build_nonlinear_fun` wiring), every order; then the linear operators of the convection family at the mean
mode, and the physical form (grid sums).
-/
namespace Exponax.ConserveAssembled
open Exponax Exponax.Layout Exponax.Transform Exponax.Nonlin Exponax.Gen.Etdrk Exponax.Interface
open Exponax.Gen.StepperWiring Exponax.Gen.Steppers Exponax.StepperWiringEq
open Exponax.EquivND (liftTermND)

/-- **one assembled ETDRK step keeps the entry `(ch, 0)`** when the symbol vanishes there and the nonlinear map has no
    `(ch, 0)` output — every order (for `p > 4` the assembly returns the state), every contour, every `dt`:
    `exp_term dt 0 = 1`, and every stage enters the update only through `N`, so neither the half propagator nor any
    contour coefficient matters -/
theorem etdrkStep_mean_mode (p : ℕ) (dt : ℂ) (lam : Spec) (M : ℕ) (r : ℂ) (N : Spec → Spec) (u : Spec) (ch : ℕ)
    (hlam : lam ch 0 = 0) (hN : ∀ v, N v ch 0 = 0) :
    etdrkStep p dt lam M r N u ch 0 = u ch 0 := by
  by_cases hp : p ≤ 4
  -- evaluation at `(ch, 0)` is a ring homomorphism; under it the step becomes the step with the zero nonlinear map
  · rw [etdrkStep_eq_gen]
    refine (Etdrk.etdrkGen_rel
      (Etdrk.StepRel.ringHom ((Pi.evalRingHom (fun _ => ℂ) 0).comp (Pi.evalRingHom (fun _ => ℕ → ℂ) ch)))
      (N' := fun _ => 0) (κ := fun g ch h => g (lam ch h)) (κ' := fun g => g (lam ch 0)) (fun v _ _ => hN v) (fun _ => rfl) p dt M r rfl).trans ?_
    rw [Etdrk.etdrkGen_zeroN _ p hp]
    show exp_term dt (lam ch 0) * u ch 0 = u ch 0
    rw [hlam, Conserve.exp_term_zero, one_mul]
  · obtain ⟨n, rfl⟩ : ∃ n, p = n + 5 := ⟨p - 5, by omega⟩
    rfl

theorem etdrkStep_mean_iterate (p : ℕ) (dt : ℂ) (lam : Spec) (M : ℕ) (r : ℂ) (N : Spec → Spec) (ch : ℕ)
    (hlam : lam ch 0 = 0) (hN : ∀ v, N v ch 0 = 0) (n : ℕ) (u : Spec) :
    ((etdrkStep p dt lam M r N)^[n] u) ch 0 = u ch 0 :=
  Function.Iterate.rec (fun w : Spec => w ch 0 = u ch 0) rfl
    (fun w hw => (etdrkStep_mean_mode p dt lam M r N w ch hlam hN).trans hw) n

theorem liftTermND_mean (c : Cfg ℂ) (C : ℕ) (T : MC ℂ → MC ℂ) (hT : ∀ uh ch, at2 (T uh) ch 0 = 0) (v : Spec)
    (ch : ℕ) : liftTermND c C T v ch 0 = 0 := by
  unfold liftTermND
  split_ifs
  · exact hT _ ch
  · rfl

/-- **`BaseStepper.__init__` + `step_fourier` keep the mean mode of every channel** for any class whose regenerated
    linear operator vanishes on the derivative entries of the stored mode `0` and whose regenerated nonlinear function
    is, on the stepper's grid, a model term `T` (`X_stepper_nonlinear_fun_eq`) with zero mean-mode output — every order,
    every `dt`, every contour, any number of steps -/
theorem baseStep_mean_iterate (b : BaseStepperArgs ℂ) (linop : List ℂ → ℂ) (nonlin : Cfg ℂ → MC ℂ → MC ℂ)
    (T : MC ℂ → MC ℂ) (hl : linop (kappa (baseCfg b.num_spatial_dims b.num_points b.domain_extent) 0) = 0)
    (hnl : ∀ uh, nonlin (baseCfg b.num_spatial_dims b.num_points b.domain_extent) uh = T uh)
    (hT : ∀ uh ch, at2 (T uh) ch 0 = 0) (n : ℕ) (u : Spec) (ch : ℕ) :
    ((baseStep b linop nonlin)^[n] u) ch 0 = u ch 0 := by
  unfold baseStep
  exact etdrkStep_mean_iterate _ _ _ _ _ _ ch hl
    (fun v => liftTermND_mean _ _ _ (fun uh ch => (hnl uh).symm ▸ hT uh ch) v ch) n u

theorem kappa_zero_mode_getD (c : Cfg ℂ) (d : ℕ) (hd : d < (kappa c 0).length) : (kappa c 0).getD d 0 = 0 := by
  rw [kappa_length] at hd
  rw [kappa_getD c 0 d hd, Conserve.deriv_zero_mode]

theorem psum_kappa_zero_mode (c : Cfg ℂ) (j : ℕ) : psum (kappa c 0) (j + 1) = 0 := by
  unfold psum
  apply Finset.sum_eq_zero
  intro d hd
  rw [kappa_zero_mode_getD c d (Finset.mem_range.mp hd), zero_pow (Nat.succ_ne_zero j)]

/-- at the mean mode the regenerated general linear operator is `D · a₀`, hence the hypothesis `a₀ = 0` -/
theorem GeneralConvectionStepper_linear_operator_mean (c : Cfg ℂ) (a : List ℂ) (h0 : a.getD 0 0 = 0) :
    GeneralConvectionStepper_linear_operator (kappa c 0) a = 0 := by
  rw [GeneralConvectionStepper_linear_operator_eq]
  apply Finset.sum_eq_zero
  intro j _
  cases j with
  | zero => rw [h0, zero_mul]
  | succ j => rw [psum_kappa_zero_mode, mul_zero]

theorem KortewegDeVries_linear_operator_mean (c : Cfg ℂ) (a3 ν μ : ℂ) (aod dod : Bool) :
    KortewegDeVries_linear_operator (kappa c 0) a3 ν μ aod dod c.D = 0 := by
  rw [KortewegDeVries_linear_operator_eq _ _ _ _ _ _ _ (kappa_length c 0)]
  have h1 := psum_kappa_zero_mode c 0
  have h2 := psum_kappa_zero_mode c 1
  have h3 := psum_kappa_zero_mode c 2
  have h4 := psum_kappa_zero_mode c 3
  simp only [Nat.zero_add, Nat.reduceAdd] at h1 h2 h3 h4
  rw [h1, h2, h3, h4]
  cases aod <;> cases dod <;> simp

noncomputable def gridOf (D N : ℕ) (v : Spec) (ch : ℕ) : Array ℂ := irfftnM D N (tab (numModes D N) (v ch))

theorem sum_gridOf (D N : ℕ) (hD : 0 < D) (hN : 0 < N) (v : Spec) (ch : ℕ) :
    ∑ j ∈ Finset.range (N ^ D), (gridOf D N v ch).getD j 0 = (((v ch 0).re : ℝ) : ℂ) := by
  unfold gridOf
  have hm : 0 < numModes D N := shapeSize_pos _ (wavenumberShape_pos D N hN)
  rw [Interp.sum_irfftnM D N hD hN, DFT.tab_getD (numModes D N) (v ch) 0 0 hm]

theorem sum_gridOf_of_mean (D N : ℕ) (hD : 0 < D) (hN : 0 < N) (v w : Spec) (ch : ℕ) (h : v ch 0 = w ch 0) :
    ∑ j ∈ Finset.range (N ^ D), (gridOf D N v ch).getD j 0 = ∑ j ∈ Finset.range (N ^ D), (gridOf D N w ch).getD j 0 := by
  rw [sum_gridOf D N hD hN, sum_gridOf D N hD hN, h]

noncomputable def specOf (D N : ℕ) (x : ℕ → Array ℂ) : Spec := fun ch h => (rfftnM D N (x ch)).getD h 0

theorem sum_gridOf_specOf (D N : ℕ) (hD : 0 < D) (hN : 0 < N) (x : ℕ → Array ℂ) (ch : ℕ)
    (hx : ∀ j < N ^ D, ((x ch).getD j 0).im = 0) (v : Spec) (h : v ch 0 = specOf D N x ch 0) :
    ∑ j ∈ Finset.range (N ^ D), (gridOf D N v ch).getD j 0 = ∑ j ∈ Finset.range (N ^ D), (x ch).getD j 0 := by
  rw [sum_gridOf D N hD hN, h]
  unfold specOf
  rw [Conserve.rfftnM_zero_mode D N hN]
  apply Complex.ext
  · simp
  · rw [Complex.ofReal_im, Complex.im_sum]
    exact (Finset.sum_eq_zero (fun j hj => hx j (Finset.mem_range.mp hj))).symm

/-- a third-order conservative configuration with `a₀ = 0` (the defaults with `conservative=True`, `order=3`) -/
example : ∃ g : GeneralConvectionStepperArgs ℂ, g.conservative = true ∧ g.linear_coefficients.getD 0 0 = 0 ∧
    g.order = 3 ∧ 0 < g.num_spatial_dims ∧ 0 < g.num_points :=
  ⟨{ GeneralConvectionStepper_with_defaults 1 ((3 : ℝ) : ℂ) 32 (1 / 10) with conservative := true, order := 3 },
    rfl, by simp [GeneralConvectionStepper_with_defaults], rfl, Nat.one_pos, by decide⟩

example : ∃ a : BurgersArgs ℂ, a.conservative = true ∧ a.order = 3 :=
  ⟨{ Burgers_with_defaults 1 1 32 (1 / 10) with conservative := true, order := 3 }, rfl, rfl⟩

example : ∃ a : KortewegDeVriesArgs ℂ, a.conservative = true ∧ a.advect_over_diffuse = true :=
  ⟨{ KortewegDeVries_with_defaults 2 1 16 1 with conservative := true, advect_over_diffuse := true }, rfl, rfl⟩

example : ∃ a : KuramotoSivashinskyConservativeArgs ℂ, a.conservative = true :=
  ⟨KuramotoSivashinskyConservative_with_defaults 1 1 32 (1 / 10), rfl⟩

/-- a real grid field -/
example : ∃ x : ℕ → Array ℂ, ∀ j < 32 ^ 1, ((x 0).getD j 0).im = 0 :=
  ⟨fun _ => tab 32 (fun j => ((j : ℝ) : ℂ)), fun j hj => by rw [DFT.tab_getD _ _ _ _ (by simpa using hj)]; simp⟩

end Exponax.ConserveAssembled
