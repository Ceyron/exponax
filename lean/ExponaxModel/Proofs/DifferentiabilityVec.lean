import ExponaxModel.Proofs.Differentiability
import ExponaxModel.Proofs.EtdrkStages
import Mathlib.Analysis.Calculus.FDeriv.Add
import Mathlib.Analysis.Calculus.FDeriv.Comp
import Mathlib.Analysis.Calculus.FDeriv.Pi
import Mathlib.Analysis.Calculus.FDeriv.Mul
import Mathlib.Analysis.Normed.Operator.Mul
import Mathlib.Analysis.Normed.Ring.Lemmas
/-
C07 support: differentiability of the regenerated ETDRK stage formulas `E1step … E4step` in the state (coefficients fixed),
whenever the nonlinear term is differentiable at the points the step visits.

`V` is any normed ring that is a normed algebra over `𝕜` (not necessarily commutative or finite-dimensional); the model
case is `V = ι → ℂ` (`ι` finite: all stored modes / all grid values) with pointwise operations, which is how `E?step` acts
on whole arrays.  The nonlinear term `N : V → V` is Fréchet differentiable at the points visited, `N' x : V →L[𝕜] V`;
`mulL c` is `x ↦ c * x`.  The derivative of a rollout is the ordered composition `iterFDeriv`; the pointwise polynomial on
`ι → 𝕜` has the diagonal derivative.  The scalar statements (`HasDerivAt`, derivative formulas `Diff.E3step'`, `Diff.E4step'`
of `Differentiability`, rollouts with the product of the per-step derivatives along the orbit) are the case `V = 𝕜`, where
`mulL c` is the derivative `c`.
-/
namespace Exponax.Diff
open Exponax Exponax.Gen.Etdrk Exponax.Nonlin

section Vec
variable {𝕜 : Type} [NontriviallyNormedField 𝕜] {V : Type} [NormedRing V] [NormedAlgebra 𝕜 V]

noncomputable def mulL (c : V) : V →L[𝕜] V := ContinuousLinearMap.mul 𝕜 V c

@[simp] theorem mulL_apply (c x : V) : (mulL (𝕜 := 𝕜) c) x = c * x := rfl

theorem hasFDerivAt_mulL (c u : V) : HasFDerivAt (fun x : V => c * x) (mulL (𝕜 := 𝕜) c) u :=
  (mulL (𝕜 := 𝕜) c).hasFDerivAt

theorem _root_.HasFDerivAt.const_mulL {f : V → V} {f' : V →L[𝕜] V} {u : V} (c : V) (hf : HasFDerivAt f f' u) :
    HasFDerivAt (fun x => c * f x) ((mulL (𝕜 := 𝕜) c).comp f') u :=
  HasFDerivAt.comp u (hasFDerivAt_mulL (𝕜 := 𝕜) c (f u)) hf

theorem E0stepV_hasFDerivAt (E u : V) : HasFDerivAt (E0step E) (mulL (𝕜 := 𝕜) E) u :=
  hasFDerivAt_mulL E u

theorem E1stepV_hasFDerivAt (E c1 : V) (N : V → V) (u : V) (N'u : V →L[𝕜] V) (hN : HasFDerivAt N N'u u) :
    HasFDerivAt (E1step E c1 N) (mulL E + (mulL c1).comp N'u) u :=
  (hasFDerivAt_mulL (𝕜 := 𝕜) E u).add (hN.const_mulL c1)

theorem E2stepV_hasFDerivAt (E c1 c2 : V) (N : V → V) (u : V) (N'u N'a : V →L[𝕜] V)
    (hu : HasFDerivAt N N'u u) (ha : HasFDerivAt N N'a (E * u + c1 * N u)) :
    HasFDerivAt (E2step E c1 c2 N)
      ((mulL E + (mulL c1).comp N'u)
        + (mulL c2).comp (N'a.comp (mulL E + (mulL c1).comp N'u) - N'u)) u := by
  have h1 := E1stepV_hasFDerivAt E c1 N u N'u hu
  exact h1.add (((ha.comp u h1).sub hu).const_mulL c2)

def stageAV (Eh c1 : V) (N : V → V) (u : V) : V := Eh * u + c1 * N u
noncomputable def stageAV' (Eh c1 : V) (N' : V → V →L[𝕜] V) (u : V) : V →L[𝕜] V :=
  mulL Eh + (mulL c1).comp (N' u)

def E3stageBV (E Eh c1 c2 : V) (N : V → V) (u : V) : V :=
  E * u + c2 * (2 * N (stageAV Eh c1 N u) - N u)
noncomputable def E3stageBV' (E Eh c1 c2 : V) (N : V → V) (N' : V → V →L[𝕜] V) (u : V) : V →L[𝕜] V :=
  mulL E + (mulL c2).comp
    ((mulL 2).comp ((N' (stageAV Eh c1 N u)).comp (stageAV' Eh c1 N' u)) - N' u)

noncomputable def E3stepV' (E Eh c1 c2 c3 c4 c5 : V) (N : V → V) (N' : V → V →L[𝕜] V) (u : V) :
    V →L[𝕜] V :=
  mulL E + (mulL c3).comp (N' u)
    + (mulL c4).comp ((N' (stageAV Eh c1 N u)).comp (stageAV' Eh c1 N' u))
    + (mulL c5).comp ((N' (E3stageBV E Eh c1 c2 N u)).comp (E3stageBV' E Eh c1 c2 N N' u))

def E4stageBV (Eh c1 c2 : V) (N : V → V) (u : V) : V := Eh * u + c2 * N (stageAV Eh c1 N u)
noncomputable def E4stageBV' (Eh c1 c2 : V) (N : V → V) (N' : V → V →L[𝕜] V) (u : V) : V →L[𝕜] V :=
  mulL Eh + (mulL c2).comp ((N' (stageAV Eh c1 N u)).comp (stageAV' Eh c1 N' u))

def E4stageCV (Eh c1 c2 c3 : V) (N : V → V) (u : V) : V :=
  Eh * stageAV Eh c1 N u + c3 * (2 * N (E4stageBV Eh c1 c2 N u) - N u)
noncomputable def E4stageCV' (Eh c1 c2 c3 : V) (N : V → V) (N' : V → V →L[𝕜] V) (u : V) : V →L[𝕜] V :=
  (mulL Eh).comp (stageAV' Eh c1 N' u)
    + (mulL c3).comp
      ((mulL 2).comp ((N' (E4stageBV Eh c1 c2 N u)).comp (E4stageBV' Eh c1 c2 N N' u)) - N' u)

noncomputable def E4stepV' (E Eh c1 c2 c3 c4 c5 c6 : V) (N : V → V) (N' : V → V →L[𝕜] V) (u : V) :
    V →L[𝕜] V :=
  mulL E + (mulL c4).comp (N' u)
    + (mulL (c5 * 2)).comp
      ((N' (stageAV Eh c1 N u)).comp (stageAV' Eh c1 N' u)
        + (N' (E4stageBV Eh c1 c2 N u)).comp (E4stageBV' Eh c1 c2 N N' u))
    + (mulL c6).comp ((N' (E4stageCV Eh c1 c2 c3 N u)).comp (E4stageCV' Eh c1 c2 c3 N N' u))

section Stages
variable (E Eh c1 c2 c3 c4 c5 c6 : V) (N : V → V) (N' : V → V →L[𝕜] V) (u : V)

theorem E3stepV_hasFDerivAt (hu : HasFDerivAt N (N' u) u)
    (ha : HasFDerivAt N (N' (stageAV Eh c1 N u)) (stageAV Eh c1 N u))
    (hb : HasFDerivAt N (N' (E3stageBV E Eh c1 c2 N u)) (E3stageBV E Eh c1 c2 N u)) :
    HasFDerivAt (E3step E Eh c1 c2 c3 c4 c5 N) (E3stepV' E Eh c1 c2 c3 c4 c5 N N' u) u := by
  have hA : HasFDerivAt (stageAV Eh c1 N) (stageAV' Eh c1 N' u) u := E1stepV_hasFDerivAt Eh c1 N u (N' u) hu
  have hNa := ha.comp u hA
  have hB : HasFDerivAt (E3stageBV E Eh c1 c2 N) (E3stageBV' E Eh c1 c2 N N' u) u :=
    (hasFDerivAt_mulL (𝕜 := 𝕜) E u).add (((hNa.const_mulL (2 : V)).sub hu).const_mulL c2)
  have hNb := hb.comp u hB
  rw [funext (Etdrk.E3step_eq_stages E Eh c1 c2 c3 c4 c5 N)]
  exact (((hasFDerivAt_mulL (𝕜 := 𝕜) E u).add (hu.const_mulL c3)).add (hNa.const_mulL c4)).add (hNb.const_mulL c5)

theorem E4stepV_hasFDerivAt (hu : HasFDerivAt N (N' u) u)
    (ha : HasFDerivAt N (N' (stageAV Eh c1 N u)) (stageAV Eh c1 N u))
    (hb : HasFDerivAt N (N' (E4stageBV Eh c1 c2 N u)) (E4stageBV Eh c1 c2 N u))
    (hc : HasFDerivAt N (N' (E4stageCV Eh c1 c2 c3 N u)) (E4stageCV Eh c1 c2 c3 N u)) :
    HasFDerivAt (E4step E Eh c1 c2 c3 c4 c5 c6 N) (E4stepV' E Eh c1 c2 c3 c4 c5 c6 N N' u) u := by
  have hA : HasFDerivAt (stageAV Eh c1 N) (stageAV' Eh c1 N' u) u := E1stepV_hasFDerivAt Eh c1 N u (N' u) hu
  have hNa := ha.comp u hA
  have hB : HasFDerivAt (E4stageBV Eh c1 c2 N) (E4stageBV' Eh c1 c2 N N' u) u :=
    (hasFDerivAt_mulL (𝕜 := 𝕜) Eh u).add (hNa.const_mulL c2)
  have hNb := hb.comp u hB
  have hC : HasFDerivAt (E4stageCV Eh c1 c2 c3 N) (E4stageCV' Eh c1 c2 c3 N N' u) u :=
    (hA.const_mulL Eh).add (((hNb.const_mulL (2 : V)).sub hu).const_mulL c3)
  have hNc := hc.comp u hC
  rw [funext (Etdrk.E4step_eq_stages E Eh c1 c2 c3 c4 c5 c6 N)]
  exact (((hasFDerivAt_mulL (𝕜 := 𝕜) E u).add (hu.const_mulL c4)).add
    ((hNa.add hNb).const_mulL (c5 * 2))).add (hNc.const_mulL c6)

theorem E4stepV_differentiableAt (hu : HasFDerivAt N (N' u) u)
    (ha : HasFDerivAt N (N' (stageAV Eh c1 N u)) (stageAV Eh c1 N u))
    (hb : HasFDerivAt N (N' (E4stageBV Eh c1 c2 N u)) (E4stageBV Eh c1 c2 N u))
    (hc : HasFDerivAt N (N' (E4stageCV Eh c1 c2 c3 N u)) (E4stageCV Eh c1 c2 c3 N u)) :
    DifferentiableAt 𝕜 (E4step E Eh c1 c2 c3 c4 c5 c6 N) u :=
  (E4stepV_hasFDerivAt E Eh c1 c2 c3 c4 c5 c6 N N' u hu ha hb hc).differentiableAt

end Stages
end Vec

section Iterate
variable {𝕜 : Type} [NontriviallyNormedField 𝕜] {X : Type} [NormedAddCommGroup X] [NormedSpace 𝕜 X]

noncomputable def iterFDeriv (S : X → X) (S' : X → X →L[𝕜] X) (u : X) : ℕ → X →L[𝕜] X
  | 0 => ContinuousLinearMap.id 𝕜 X
  | n + 1 => (S' (S^[n] u)).comp (iterFDeriv S S' u n)

theorem iterate_hasFDerivAt (S : X → X) (S' : X → X →L[𝕜] X) (u : X) (n : ℕ)
    (h : ∀ k < n, HasFDerivAt S (S' (S^[k] u)) (S^[k] u)) :
    HasFDerivAt (S^[n]) (iterFDeriv S S' u n) u := by
  induction n with
  | zero => exact hasFDerivAt_id u
  | succ n ih =>
    have ih' := ih (fun k hk => h k (Nat.lt_succ_of_lt hk))
    have hn := h n (Nat.lt_succ_self n)
    rw [Function.iterate_succ']
    exact HasFDerivAt.comp u hn ih'

end Iterate

section VecRollout
variable {𝕜 : Type} [NontriviallyNormedField 𝕜] {V : Type} [NormedRing V] [NormedAlgebra 𝕜 V]

theorem E4V_rollout_hasFDerivAt (E Eh c1 c2 c3 c4 c5 c6 : V) (N : V → V) (N' : V → V →L[𝕜] V)
    (hN : ∀ x, HasFDerivAt N (N' x) x) (u : V) (n : ℕ) :
    HasFDerivAt ((E4step E Eh c1 c2 c3 c4 c5 c6 N)^[n])
      (iterFDeriv (E4step E Eh c1 c2 c3 c4 c5 c6 N) (E4stepV' E Eh c1 c2 c3 c4 c5 c6 N N') u n) u :=
  iterate_hasFDerivAt _ _ u n
    (fun _ _ => E4stepV_hasFDerivAt E Eh c1 c2 c3 c4 c5 c6 N N' _ (hN _) (hN _) (hN _) (hN _))

theorem E3V_rollout_hasFDerivAt (E Eh c1 c2 c3 c4 c5 : V) (N : V → V) (N' : V → V →L[𝕜] V)
    (hN : ∀ x, HasFDerivAt N (N' x) x) (u : V) (n : ℕ) :
    HasFDerivAt ((E3step E Eh c1 c2 c3 c4 c5 N)^[n])
      (iterFDeriv (E3step E Eh c1 c2 c3 c4 c5 N) (E3stepV' E Eh c1 c2 c3 c4 c5 N N') u n) u :=
  iterate_hasFDerivAt _ _ u n
    (fun _ _ => E3stepV_hasFDerivAt E Eh c1 c2 c3 c4 c5 N N' _ (hN _) (hN _) (hN _))

theorem E1V_rollout_hasFDerivAt (E c1 : V) (N : V → V) (N' : V → V →L[𝕜] V)
    (hN : ∀ x, HasFDerivAt N (N' x) x) (u : V) (n : ℕ) :
    HasFDerivAt ((E1step E c1 N)^[n])
      (iterFDeriv (E1step E c1 N) (fun x => mulL E + (mulL c1).comp (N' x)) u n) u :=
  iterate_hasFDerivAt _ _ u n (fun _ _ => E1stepV_hasFDerivAt E c1 N _ _ (hN _))

end VecRollout

section Scalar
open Finset
variable {𝕜 : Type} [NontriviallyNormedField 𝕜]

/-- on `V = 𝕜` the Fréchet derivative `mulL c` is the derivative `c`: the scalar stage theorems are the vector ones -/
theorem hasFDerivAt_mulL_iff {f : 𝕜 → 𝕜} {c u : 𝕜} : HasFDerivAt f (mulL (𝕜 := 𝕜) c) u ↔ HasDerivAt f c u := by
  rw [hasFDerivAt_iff_hasDerivAt, mulL_apply, mul_one]

theorem E0step_hasDerivAt (E u : 𝕜) : HasDerivAt (E0step E) E u :=
  hasFDerivAt_mulL_iff.1 (E0stepV_hasFDerivAt E u)

theorem E1step_hasDerivAt (E c1 : 𝕜) (N : 𝕜 → 𝕜) (u N'u : 𝕜) (hN : HasDerivAt N N'u u) :
    HasDerivAt (E1step E c1 N) (E + c1 * N'u) u := by
  have h := (E1stepV_hasFDerivAt E c1 N u _ (hasFDerivAt_mulL_iff.2 hN)).hasDerivAt
  simpa only [_root_.add_apply, ContinuousLinearMap.comp_apply, mulL_apply, mul_one] using h

theorem E2step_hasDerivAt (E c1 c2 : 𝕜) (N : 𝕜 → 𝕜) (u N'u N'a : 𝕜) (hu : HasDerivAt N N'u u)
    (ha : HasDerivAt N N'a (E * u + c1 * N u)) :
    HasDerivAt (E2step E c1 c2 N) ((E + c1 * N'u) + c2 * (N'a * (E + c1 * N'u) - N'u)) u := by
  have h := (E2stepV_hasFDerivAt E c1 c2 N u _ _ (hasFDerivAt_mulL_iff.2 hu) (hasFDerivAt_mulL_iff.2 ha)).hasDerivAt
  simpa only [_root_.add_apply, _root_.sub_apply, ContinuousLinearMap.comp_apply, mulL_apply, mul_one] using h

section Stages
variable (E Eh c1 c2 c3 c4 c5 c6 : 𝕜) (N N' : 𝕜 → 𝕜) (u : 𝕜)

theorem E3step_hasDerivAt (hu : HasDerivAt N (N' u) u)
    (ha : HasDerivAt N (N' (stageA Eh c1 N u)) (stageA Eh c1 N u))
    (hb : HasDerivAt N (N' (E3stageB E Eh c1 c2 N u)) (E3stageB E Eh c1 c2 N u)) :
    HasDerivAt (E3step E Eh c1 c2 c3 c4 c5 N) (E3step' E Eh c1 c2 c3 c4 c5 N N' u) u := by
  have h := (E3stepV_hasFDerivAt E Eh c1 c2 c3 c4 c5 N (fun x => mulL (N' x)) u (hasFDerivAt_mulL_iff.2 hu)
    (hasFDerivAt_mulL_iff.2 ha) (hasFDerivAt_mulL_iff.2 hb)).hasDerivAt
  simpa only [E3stepV', E3stageBV', stageAV', E3stageBV, stageAV, E3step', E3stageB', stageA', E3stageB, stageA,
    _root_.add_apply, _root_.sub_apply, ContinuousLinearMap.comp_apply, mulL_apply, mul_one] using h

theorem E4step_hasDerivAt (hu : HasDerivAt N (N' u) u)
    (ha : HasDerivAt N (N' (stageA Eh c1 N u)) (stageA Eh c1 N u))
    (hb : HasDerivAt N (N' (E4stageB Eh c1 c2 N u)) (E4stageB Eh c1 c2 N u))
    (hc : HasDerivAt N (N' (E4stageC Eh c1 c2 c3 N u)) (E4stageC Eh c1 c2 c3 N u)) :
    HasDerivAt (E4step E Eh c1 c2 c3 c4 c5 c6 N) (E4step' E Eh c1 c2 c3 c4 c5 c6 N N' u) u := by
  have h := (E4stepV_hasFDerivAt E Eh c1 c2 c3 c4 c5 c6 N (fun x => mulL (N' x)) u (hasFDerivAt_mulL_iff.2 hu)
    (hasFDerivAt_mulL_iff.2 ha) (hasFDerivAt_mulL_iff.2 hb) (hasFDerivAt_mulL_iff.2 hc)).hasDerivAt
  simpa only [E4stepV', E4stageCV', E4stageBV', stageAV', E4stageCV, E4stageBV, stageAV, E4step', E4stageC',
    E4stageB', stageA', E4stageC, E4stageB, stageA, _root_.add_apply, _root_.sub_apply,
    ContinuousLinearMap.comp_apply, mulL_apply, mul_one] using h

end Stages

theorem iterate_hasDerivAt (S S' : 𝕜 → 𝕜) (u : 𝕜) (n : ℕ)
    (h : ∀ k < n, HasDerivAt S (S' (S^[k] u)) (S^[k] u)) :
    HasDerivAt (S^[n]) (∏ k ∈ range n, S' (S^[k] u)) u := by
  induction n with
  | zero =>
    simp only [Function.iterate_zero, range_zero, prod_empty]
    exact hasDerivAt_id u
  | succ n ih =>
    have ih' := ih (fun k hk => h k (Nat.lt_succ_of_lt hk))
    have hn := h n (Nat.lt_succ_self n)
    have hc : HasDerivAt (S ∘ S^[n]) (S' (S^[n] u) * ∏ k ∈ range n, S' (S^[k] u)) u :=
      HasDerivAt.comp u hn ih'
    rw [Function.iterate_succ', prod_range_succ, mul_comm]
    exact hc

theorem E1_rollout_hasDerivAt (E c1 : 𝕜) (N N' : 𝕜 → 𝕜) (hN : ∀ x, HasDerivAt N (N' x) x) (u : 𝕜) (n : ℕ) :
    HasDerivAt ((E1step E c1 N)^[n]) (∏ k ∈ range n, (E + c1 * N' ((E1step E c1 N)^[k] u))) u :=
  iterate_hasDerivAt (E1step E c1 N) (fun x => E + c1 * N' x) u n
    (fun _ _ => E1step_hasDerivAt E c1 N _ _ (hN _))

theorem E2_rollout_hasDerivAt (E c1 c2 : 𝕜) (N N' : 𝕜 → 𝕜) (hN : ∀ x, HasDerivAt N (N' x) x) (u : 𝕜)
    (n : ℕ) :
    HasDerivAt ((E2step E c1 c2 N)^[n])
      (∏ k ∈ range n, (fun x => (E + c1 * N' x) + c2 * (N' (E * x + c1 * N x) * (E + c1 * N' x) - N' x))
        ((E2step E c1 c2 N)^[k] u)) u :=
  iterate_hasDerivAt (E2step E c1 c2 N)
    (fun x => (E + c1 * N' x) + c2 * (N' (E * x + c1 * N x) * (E + c1 * N' x) - N' x)) u n
    (fun _ _ => E2step_hasDerivAt E c1 c2 N _ _ _ (hN _) (hN _))

theorem E3_rollout_hasDerivAt (E Eh c1 c2 c3 c4 c5 : 𝕜) (N N' : 𝕜 → 𝕜) (hN : ∀ x, HasDerivAt N (N' x) x)
    (u : 𝕜) (n : ℕ) :
    HasDerivAt ((E3step E Eh c1 c2 c3 c4 c5 N)^[n])
      (∏ k ∈ range n, E3step' E Eh c1 c2 c3 c4 c5 N N' ((E3step E Eh c1 c2 c3 c4 c5 N)^[k] u)) u :=
  iterate_hasDerivAt (E3step E Eh c1 c2 c3 c4 c5 N) _ u n
    (fun _ _ => E3step_hasDerivAt E Eh c1 c2 c3 c4 c5 N N' _ (hN _) (hN _) (hN _))

theorem E4_rollout_hasDerivAt (E Eh c1 c2 c3 c4 c5 c6 : 𝕜) (N N' : 𝕜 → 𝕜)
    (hN : ∀ x, HasDerivAt N (N' x) x) (u : 𝕜) (n : ℕ) :
    HasDerivAt ((E4step E Eh c1 c2 c3 c4 c5 c6 N)^[n])
      (∏ k ∈ range n, E4step' E Eh c1 c2 c3 c4 c5 c6 N N' ((E4step E Eh c1 c2 c3 c4 c5 c6 N)^[k] u)) u :=
  iterate_hasDerivAt (E4step E Eh c1 c2 c3 c4 c5 c6 N) _ u n
    (fun _ _ => E4step_hasDerivAt E Eh c1 c2 c3 c4 c5 c6 N N' _ (hN _) (hN _) (hN _) (hN _))

theorem E0_rollout_hasDerivAt (E u : 𝕜) (n : ℕ) : HasDerivAt ((E0step E)^[n]) (E ^ n) u := by
  have h := iterate_hasDerivAt (E0step E) (fun _ => E) u n (fun _ _ => E0step_hasDerivAt E _)
  simpa using h

theorem E4_poly_rollout_hasDerivAt (E Eh c1 c2 c3 c4 c5 c6 : 𝕜) (cs : List 𝕜) (u : 𝕜) (n : ℕ) :
    HasDerivAt ((E4step E Eh c1 c2 c3 c4 c5 c6 (polyEval cs))^[n])
      (∏ k ∈ range n, E4step' E Eh c1 c2 c3 c4 c5 c6 (polyEval cs) (polyDeriv cs)
        ((E4step E Eh c1 c2 c3 c4 c5 c6 (polyEval cs))^[k] u)) u :=
  E4_rollout_hasDerivAt E Eh c1 c2 c3 c4 c5 c6 _ _ (polyEval_hasDerivAt cs) u n

theorem E1_poly_hasDerivAt_zero (E c1 : 𝕜) (cs : List 𝕜) :
    HasDerivAt (E1step E c1 (polyEval cs)) (E + c1 * cs.getD 1 0) (0 : 𝕜) :=
  E1step_hasDerivAt E c1 _ 0 _ (polyEval_hasDerivAt_zero cs)

/-! non-vacuity of the hypotheses "`N` differentiable at the points visited": the polynomial nonlinearity -/
example (E c1 c2 u : 𝕜) (cs : List 𝕜) : DifferentiableAt 𝕜 (E2step E c1 c2 (polyEval cs)) u :=
  (E2step_hasDerivAt E c1 c2 _ u _ _ (polyEval_hasDerivAt cs u) (polyEval_hasDerivAt cs _)).differentiableAt

example (E Eh c1 c2 c3 c4 c5 u : 𝕜) (cs : List 𝕜) :
    DifferentiableAt 𝕜 (E3step E Eh c1 c2 c3 c4 c5 (polyEval cs)) u :=
  (E3step_hasDerivAt E Eh c1 c2 c3 c4 c5 _ (polyDeriv cs) u (polyEval_hasDerivAt cs _)
    (polyEval_hasDerivAt cs _) (polyEval_hasDerivAt cs _)).differentiableAt

example (E Eh c1 c2 c3 c4 c5 c6 : ℂ) : DifferentiableAt ℂ (E4step E Eh c1 c2 c3 c4 c5 c6 (polyEval [0, 1, 0, -1])) 0 :=
  (E4step_hasDerivAt E Eh c1 c2 c3 c4 c5 c6 _ (polyDeriv [0, 1, 0, -1]) 0 (polyEval_hasDerivAt _ _)
    (polyEval_hasDerivAt _ _) (polyEval_hasDerivAt _ _) (polyEval_hasDerivAt _ _)).differentiableAt

end Scalar

section Pointwise
variable {𝕜 : Type} [NontriviallyNormedField 𝕜] {ι : Type} [Fintype ι]

/-- `PolynomialNonlinearFun` on physical values: the regenerated Horner loop applied entrywise -/
def pointwisePoly (cs : List 𝕜) (v : ι → 𝕜) : ι → 𝕜 := fun i => polyEval cs (v i)

theorem pointwisePoly_hasFDerivAt (cs : List 𝕜) (v : ι → 𝕜) :
    HasFDerivAt (pointwisePoly (ι := ι) cs) (mulL (𝕜 := 𝕜) (fun i => polyDeriv cs (v i))) v := by
  rw [hasFDerivAt_pi']
  intro i
  have h1 : HasFDerivAt (fun w : ι → 𝕜 => w i) (ContinuousLinearMap.proj (R := 𝕜) (φ := fun _ => 𝕜) i) v :=
    (ContinuousLinearMap.proj (R := 𝕜) (φ := fun _ => 𝕜) i).hasFDerivAt
  have h2 := (polyEval_hasDerivAt cs (v i)).hasFDerivAt
  have h3 := HasFDerivAt.comp v h2 h1
  have e : (ContinuousLinearMap.proj (R := 𝕜) (φ := fun _ => 𝕜) i).comp
        (mulL (𝕜 := 𝕜) (fun i => polyDeriv cs (v i)))
      = (ContinuousLinearMap.toSpanSingleton 𝕜 (polyDeriv cs (v i))).comp
          (ContinuousLinearMap.proj (R := 𝕜) (φ := fun _ => 𝕜) i) := by
    ext w
    simp [mul_comm]
  rw [e]
  exact h3

theorem pointwisePoly_hasFDerivAt_zero (cs : List 𝕜) :
    HasFDerivAt (pointwisePoly (ι := ι) cs) (mulL (𝕜 := 𝕜) (fun _ : ι => cs.getD 1 0)) 0 := by
  have h := pointwisePoly_hasFDerivAt (ι := ι) cs 0
  simpa only [Pi.zero_apply, polyDeriv_zero] using h

theorem E4_pointwisePoly_rollout_hasFDerivAt (E Eh c1 c2 c3 c4 c5 c6 : ι → 𝕜) (cs : List 𝕜) (u : ι → 𝕜)
    (n : ℕ) :
    HasFDerivAt ((E4step E Eh c1 c2 c3 c4 c5 c6 (pointwisePoly cs))^[n])
      (iterFDeriv (E4step E Eh c1 c2 c3 c4 c5 c6 (pointwisePoly cs))
        (E4stepV' (𝕜 := 𝕜) E Eh c1 c2 c3 c4 c5 c6 (pointwisePoly cs)
          (fun v => mulL (fun i => polyDeriv cs (v i)))) u n) u :=
  E4V_rollout_hasFDerivAt E Eh c1 c2 c3 c4 c5 c6 _ _ (pointwisePoly_hasFDerivAt cs) u n

/-- the shape of a pseudo-spectral nonlinear term: `A`, `B` the inverse / forward transform with masks, `P` pointwise -/
theorem sandwich_hasFDerivAt {X Y : Type} [NormedAddCommGroup X] [NormedSpace 𝕜 X]
    [NormedAddCommGroup Y] [NormedSpace 𝕜 Y] (A : X →L[𝕜] Y) (B : Y →L[𝕜] X) (P : Y → Y)
    (P' : Y →L[𝕜] Y) (u : X) (hP : HasFDerivAt P P' (A u)) :
    HasFDerivAt (fun x => B (P (A x))) (B.comp (P'.comp A)) u :=
  HasFDerivAt.comp u B.hasFDerivAt (HasFDerivAt.comp u hP A.hasFDerivAt)

/-- non-vacuity of `sandwich_hasFDerivAt`: identity transforms around the pointwise polynomial -/
example (cs : List 𝕜) (u : ι → 𝕜) :
    DifferentiableAt 𝕜 (fun x : ι → 𝕜 => (ContinuousLinearMap.id 𝕜 (ι → 𝕜)) (pointwisePoly cs
      ((ContinuousLinearMap.id 𝕜 (ι → 𝕜)) x))) u :=
  (sandwich_hasFDerivAt (ContinuousLinearMap.id 𝕜 (ι → 𝕜)) (ContinuousLinearMap.id 𝕜 (ι → 𝕜))
    (pointwisePoly cs) _ u (pointwisePoly_hasFDerivAt cs _)).differentiableAt

end Pointwise

/-- the instance the model uses: arrays of `n` complex numbers -/
example (n : ℕ) (E Eh c1 c2 c3 c4 c5 c6 u : Fin n → ℂ) (cs : List ℂ) :
    DifferentiableAt ℂ (E4step E Eh c1 c2 c3 c4 c5 c6 (pointwisePoly cs)) u :=
  (E4_pointwisePoly_rollout_hasFDerivAt E Eh c1 c2 c3 c4 c5 c6 cs u 1).differentiableAt

end Exponax.Diff
