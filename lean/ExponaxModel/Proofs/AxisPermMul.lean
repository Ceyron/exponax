import ExponaxModel.Proofs.AxisPermBasic
import ExponaxModel.Proofs.AliasNDMask
/-
C08: what a per-mode multiplier `g(k(h))` on the stored half spectrum does to the full spectrum of the
c2r transform.  For conj-symmetric `g`, `dftV (irfftn (g(k(·)) ⊙ a)) m = g(centV m) · dftV (irfftn a) m` at every
integer `m` (`dftV_irfftn_mul`) under ONE proviso, `NyqBlind`: where `a` has content, `g` takes the same value on all
representatives of a class in the closed box `|k_d| ≤ N/2`.  It holds for a Nyquist-free `a` (`NyqFreeS`), for a `g`
that vanishes on Nyquist wavenumber vectors (anything containing the dealiasing mask of a fraction `≤ 1`)
(`nyqBlind_of_nyq`) and for a `g` that does not see the sign of a Nyquist component (`nyqBlind_of_box`,
`box_congr_apply`).  Without it the statement is false: the leading axes store the Nyquist wavenumber as `−N/2`, the
last axis as `+N/2` (`SymmetryND.fullMul_counterexample` in `SymmetryND2Steps.lean`).
-/
namespace Exponax.AxisPerm
open Exponax.Layout Exponax.Transform Exponax.AliasND Exponax.Nonlin Exponax.Alias

/-- some component of `m` is `≡ N/2 (mod N)`: `N ∣ 2 m_d` but `N ∤ m_d` -/
def NyqVec {D : ℕ} (N : ℕ) (m : Fin D → ℤ) : Prop := ∃ d, (N : ℤ) ∣ 2 * m d ∧ ¬ (N : ℤ) ∣ m d

def NyqFreeS (D N : ℕ) (a : Array ℂ) : Prop :=
  ∀ h, h < numModes D N → NyqVec N (kvec D N h) → a.getD h 0 = 0

theorem not_nyqVec_of_odd {D : ℕ} (N : ℕ) (hodd : N % 2 = 1) (m : Fin D → ℤ) : ¬ NyqVec N m := by
  rintro ⟨d, h2, hn⟩
  apply hn
  have hco : IsCoprime (N : ℤ) 2 := by
    rw [Int.isCoprime_iff_gcd_eq_one]
    have : Nat.gcd N 2 = 1 := by
      rw [Nat.gcd_comm, Nat.gcd_rec]
      simp [hodd]
    simpa [Int.gcd] using this
  exact hco.dvd_of_dvd_mul_left h2

theorem nyqFreeS_of_odd (D N : ℕ) (hodd : N % 2 = 1) (a : Array ℂ) : NyqFreeS D N a :=
  fun _ _ hny => absurd hny (not_nyqVec_of_odd N hodd _)

theorem NyqVec.congr {D N : ℕ} {m m' : Fin D → ℤ} (hc : VCongr D N m m') (h : NyqVec N m) : NyqVec N m' := by
  obtain ⟨d, h2, hn⟩ := h
  refine ⟨d, ?_, ?_⟩
  · have : 2 * m' d = 2 * m d - 2 * (m d - m' d) := by ring
    rw [this]
    exact Dvd.dvd.sub h2 (Dvd.dvd.mul_left (hc d) 2)
  · intro h'
    apply hn
    have : m d = m' d + (m d - m' d) := by ring
    rw [this]
    exact Dvd.dvd.add h' (hc d)

theorem NyqVec.neg {D N : ℕ} {m : Fin D → ℤ} (h : NyqVec N m) : NyqVec N (-m) := by
  obtain ⟨d, h2, hn⟩ := h
  refine ⟨d, ?_, ?_⟩
  · rw [Pi.neg_apply, mul_neg]
    exact (dvd_neg).mpr h2
  · rw [Pi.neg_apply]
    exact fun h' => hn ((dvd_neg).mp h')

theorem NyqVec.comp {D N : ℕ} {m : Fin D → ℤ} (σ : Equiv.Perm (Fin D)) (h : NyqVec N m) : NyqVec N (m ∘ σ) := by
  obtain ⟨d, h2, hn⟩ := h
  have hd : (m ∘ σ) (σ.symm d) = m d := by rw [Function.comp_apply, σ.apply_symm_apply]
  exact ⟨σ.symm d, hd ▸ h2, hd ▸ hn⟩

theorem nyqVec_comp_iff {D N : ℕ} (m : Fin D → ℤ) (σ : Equiv.Perm (Fin D)) : NyqVec N (m ∘ σ) ↔ NyqVec N m := by
  constructor
  · intro h
    have := h.comp σ.symm
    have e : (m ∘ σ) ∘ σ.symm = m := by funext d; simp
    rwa [e] at this
  · exact fun h => h.comp σ

theorem le_two_abs_of_nyq {N : ℕ} {x : ℤ} (h2 : (N : ℤ) ∣ 2 * x) (hn : ¬ (N : ℤ) ∣ x) : (N : ℤ) ≤ 2 * |x| := by
  have hx : 0 < |x| := abs_pos.mpr fun h0 => hn (h0 ▸ dvd_zero _)
  have := (dvd_abs _ _).mpr h2
  rw [abs_mul, abs_two] at this
  exact Int.le_of_dvd (by omega) this

theorem kvec_lt_of_not_nyq (D N h : ℕ) (hD : 0 < D) (hN : 0 < N) (hh : h < numModes D N)
    (hny : ¬ NyqVec N (kvec D N h)) (d : Fin D) : 2 * |kvec D N h d| < (N : ℤ) := by
  have hb := kvec_abs_le D N h hD hN hh d
  by_contra hcon
  have heq : (N : ℤ) = |2 * kvec D N h d| := by rw [abs_mul, abs_two]; omega
  refine hny ⟨d, heq ▸ (abs_dvd _ _).mpr dvd_rfl, fun hdvd => ?_⟩
  have := Int.eq_zero_of_abs_lt_dvd hdvd (by rw [abs_mul, abs_two] at heq; omega)
  rw [this] at heq
  simp at heq
  omega

/-- the representative of `x` modulo `N` in `[−N/2, N/2)` -/
def cent (N : ℕ) (x : ℤ) : ℤ := if 2 * (x % (N : ℤ)) < (N : ℤ) then x % (N : ℤ) else x % (N : ℤ) - (N : ℤ)

def centV {D : ℕ} (N : ℕ) (m : Fin D → ℤ) : Fin D → ℤ := fun d => cent N (m d)

theorem centV_comp {D : ℕ} (N : ℕ) (m : Fin D → ℤ) (σ : Equiv.Perm (Fin D)) : centV N (m ∘ σ) = centV N m ∘ σ := rfl

theorem cent_dvd (N : ℕ) (x : ℤ) : (N : ℤ) ∣ cent N x - x := by
  unfold cent
  split_ifs <;> rw [Int.emod_def]
  · exact ⟨-(x / (N : ℤ)), by ring⟩
  · exact ⟨-(x / (N : ℤ)) - 1, by ring⟩

theorem cent_congr (N : ℕ) {x y : ℤ} (h : (N : ℤ) ∣ x - y) : cent N x = cent N y := by
  have : x % (N : ℤ) = y % (N : ℤ) := Int.modEq_iff_dvd.mpr (by
    have := h.neg_right; rwa [neg_sub] at this)
  unfold cent
  rw [this]

theorem cent_of_small (N : ℕ) (y : ℤ) (hy : 2 * |y| < (N : ℤ)) : cent N y = y := by
  have hb := abs_lt.mp (show |2 * y| < (N : ℤ) by rwa [abs_mul, abs_two])
  unfold cent
  rcases le_or_gt 0 y with h0 | h0
  · rw [Int.emod_eq_of_lt h0 (by omega), if_pos (by omega)]
  · rw [← Int.add_emod_right, Int.emod_eq_of_lt (by omega) (by omega), if_neg (by omega), add_sub_cancel_right]

theorem centV_of_congr_small {D N : ℕ} (m k : Fin D → ℤ) (hc : VCongr D N m k) (hk : ∀ d, 2 * |k d| < (N : ℤ)) :
    centV N m = k := by
  funext d
  show cent N (m d) = k d
  rw [cent_congr N (hc d), cent_of_small N _ (hk d)]

theorem centV_congr_self {D : ℕ} (N : ℕ) (m : Fin D → ℤ) : VCongr D N (centV N m) m := fun d => cent_dvd N (m d)

theorem abs_cent_le (N : ℕ) (hN : 0 < N) (x : ℤ) : |cent N x| ≤ ((N / 2 : ℕ) : ℤ) := by
  have h0 := Int.emod_nonneg x (show (N : ℤ) ≠ 0 from Int.natCast_ne_zero.mpr hN.ne')
  have h1 := Int.emod_lt_of_pos x (show (0 : ℤ) < N from Int.natCast_pos.mpr hN)
  unfold cent
  split_ifs with h
  · rw [abs_of_nonneg h0]
    omega
  · rw [abs_of_neg (by omega)]
    omega

/-- two representatives of a class in the closed box `|x| ≤ N/2` are equal or the two signs of the Nyquist
    wavenumber: a nonzero multiple of `N` between two points of the box is `±N = ±2(N/2)` -/
theorem box_congr_apply {α : Type} (N : ℕ) (f : ℤ → α) (hf : N % 2 = 0 → f (-((N / 2 : ℕ) : ℤ)) = f ((N / 2 : ℕ) : ℤ))
    {x y : ℤ} (h : (N : ℤ) ∣ x - y) (hx : |x| ≤ ((N / 2 : ℕ) : ℤ)) (hy : |y| ≤ ((N / 2 : ℕ) : ℤ)) : f x = f y := by
  obtain ⟨hx1, hx2⟩ := abs_le.mp hx
  obtain ⟨hy1, hy2⟩ := abs_le.mp hy
  have h2 : 2 * ((N / 2 : ℕ) : ℤ) ≤ N := by exact_mod_cast Nat.mul_div_le N 2
  have hev : 2 * ((N / 2 : ℕ) : ℤ) = N → N % 2 = 0 := fun e => by
    have : 2 * (N / 2) = N := by exact_mod_cast e
    omega
  rcases lt_trichotomy x y with hlt | heq | hgt
  · have := Int.le_of_dvd (sub_pos.mpr hlt) ((dvd_sub_comm).mp h)
    obtain ⟨rfl, rfl, e⟩ : x = -((N / 2 : ℕ) : ℤ) ∧ y = ((N / 2 : ℕ) : ℤ) ∧ 2 * ((N / 2 : ℕ) : ℤ) = N := by omega
    exact hf (hev e)
  · rw [heq]
  · have := Int.le_of_dvd (sub_pos.mpr hgt) h
    obtain ⟨rfl, rfl, e⟩ : x = ((N / 2 : ℕ) : ℤ) ∧ y = -((N / 2 : ℕ) : ℤ) ∧ 2 * ((N / 2 : ℕ) : ℤ) = N := by omega
    exact (hf (hev e)).symm

/-- the one proviso of the multiplier theorem: wherever `a` has content, `g` does not tell the stored wavenumber
    vector `k(h)` from the other representatives of its class in the closed box `|k_d| ≤ N/2` (they differ from it in
    the sign of Nyquist components only) -/
def NyqBlind (D N : ℕ) (g : (Fin D → ℤ) → ℂ) (a : Array ℂ) : Prop :=
  ∀ h, h < numModes D N → ∀ k : Fin D → ℤ, VCongr D N k (kvec D N h) → (∀ d, |k d| ≤ ((N / 2 : ℕ) : ℤ)) →
    g k * a.getD h 0 = g (kvec D N h) * a.getD h 0

/-- `a` Nyquist-free, or `g` zero on Nyquist wavenumber vectors: off the Nyquist modes `k(h)` is the only
    representative in the closed box -/
theorem nyqBlind_of_nyq (D N : ℕ) (hD : 0 < D) (hN : 0 < N) (g : (Fin D → ℤ) → ℂ) (a : Array ℂ)
    (hNy : NyqFreeS D N a ∨ ∀ k : Fin D → ℤ, NyqVec N k → g k = 0) : NyqBlind D N g a := by
  intro h hh k hc hbox
  by_cases hny : NyqVec N (kvec D N h)
  · rcases hNy with hfree | hzero
    · rw [hfree h hh hny, mul_zero, mul_zero]
    · rw [hzero _ hny, hzero _ (hny.congr hc.symm)]
  · have e : k = kvec D N h := funext fun d => by
      have h1 := kvec_lt_of_not_nyq D N h hD hN hh hny d
      have h2 := hbox d
      have := Int.eq_zero_of_abs_lt_dvd (hc d) (lt_of_le_of_lt (abs_sub _ _) (by omega))
      omega
    rw [e]

theorem nyqBlind_of_box (D N : ℕ) (hD : 0 < D) (hN : 0 < N) (g : (Fin D → ℤ) → ℂ) (a : Array ℂ)
    (hbl : ∀ k k' : Fin D → ℤ, VCongr D N k k' → (∀ d, |k d| ≤ ((N / 2 : ℕ) : ℤ)) → (∀ d, |k' d| ≤ ((N / 2 : ℕ) : ℤ)) → g k = g k') :
    NyqBlind D N g a := fun h hh k hc hbox => by
  rw [hbl k _ hc hbox (kvec_abs_le D N h hD hN hh)]

/-- the multiplier `g(k(h))` comes out of the full-spectrum read-off as `g` at ANY representative of `κ` in the
    closed box: the stored entry carries `g(k(h))` with `k(h) ≡ κ`, the partner's entry `conj g(k(h)) = g(−k(h))`
    with `−k(h) ≡ κ` -/
theorem fullCoef_symbol_mul (D N : ℕ) (hD : 0 < D) (hN : 0 < N) (g : (Fin D → ℤ) → ℂ)
    (hg : ∀ k, g (-k) = (starRingEnd ℂ) (g k)) (a : Array ℂ) (hb : NyqBlind D N g a) (κ k : Fin D → ℤ)
    (hk : VCongr D N k κ) (hbox : ∀ d, |k d| ≤ ((N / 2 : ℕ) : ℤ)) :
    fullCoef D N (tab (numModes D N) fun h => g (kvec D N h) * a.getD h 0) κ = g k * fullCoef D N a κ := by
  obtain ⟨E, rfl⟩ : ∃ E, D = E + 1 := ⟨D - 1, (Nat.succ_pred_eq_of_pos hD).symm⟩
  unfold fullCoef
  by_cases hl : resid (E + 1) N κ (E + 1 - 1) ≤ N / 2
  · have hlt := storedIdx_lt E N hN κ hl
    rw [if_pos hl, if_pos hl, DFT.tab_getD _ _ _ _ hlt]
    exact (hb _ hlt k (hk.trans (kvec_storedIdx E N hN κ hl).symm) hbox).symm
  · have hl' := resid_neg_last E N hN κ hl
    have hlt := storedIdx_lt E N hN (-κ) hl'
    rw [if_neg hl, if_neg hl, DFT.tab_getD _ _ _ _ hlt,
      ← hb _ hlt (-k) (hk.neg.trans (kvec_storedIdx E N hN (-κ) hl').symm)
        (fun d => by rw [Pi.neg_apply, abs_neg]; exact hbox d),
      map_mul, hg, Complex.conj_conj]

/-- **multiplier theorem**, every integer `m`; `centV N m` and `−centV N m` are representatives of `m`, `−m` in the
    closed box -/
theorem dftV_irfftn_mul (D N : ℕ) (hD : 0 < D) (hN : 0 < N) (g : (Fin D → ℤ) → ℂ)
    (hg : ∀ k, g (-k) = (starRingEnd ℂ) (g k)) (a : Array ℂ) (hb : NyqBlind D N g a) (m : Fin D → ℤ) :
    dftV D N (irfftnM D N (tab (numModes D N) fun h => g (kvec D N h) * a.getD h 0)) m
      = g (centV N m) * dftV D N (irfftnM D N a) m := by
  rw [dftV_irfftn_fullCoef D N hD hN, dftV_irfftn_fullCoef D N hD hN,
    fullCoef_symbol_mul D N hD hN g hg a hb m (centV N m) (centV_congr_self N m)
      (fun d => abs_cent_le N hN (m d)),
    fullCoef_symbol_mul D N hD hN g hg a hb (-m) (-centV N m) (centV_congr_self N m).neg
      (fun d => by rw [Pi.neg_apply, abs_neg]; exact abs_cent_le N hN (m d)),
    map_mul, hg, Complex.conj_conj]
  ring

def FieldPerm (D N : ℕ) (σ : Equiv.Perm (Fin D)) (v v' : Array ℂ) : Prop :=
  ∀ j, j < N ^ D → v'.getD j 0 = v.getD (permIdx D N σ j) 0

theorem fieldPerm_permField (D N : ℕ) (σ : Equiv.Perm (Fin D)) (v : Array ℂ) :
    FieldPerm D N σ v (permField D N σ v) := fun j hj => permField_getD D N σ v j hj

theorem eq_permField_of_fieldPerm {D N : ℕ} {σ : Equiv.Perm (Fin D)} {v v' : Array ℂ} (hsz : v'.size = N ^ D)
    (h : FieldPerm D N σ v v') : v' = permField D N σ v :=
  DFT.array_ext_getD _ _ (N ^ D) hsz (permField_size D N σ v)
    (fun j hj => (h j hj).trans (permField_getD D N σ v j hj).symm)

theorem eq_of_dftV_eq (D N : ℕ) (hN : 0 < N) (u v : Array ℂ) (h : ∀ m, dftV D N u m = dftV D N v m)
    (j : ℕ) (hj : j < N ^ D) : u.getD j 0 = v.getD j 0 := by
  rw [dftV_inversion D N hN u j hj, funext h, ← dftV_inversion D N hN v j hj]

theorem fieldPerm_iff_dftV (D N : ℕ) (hN : 0 < N) (σ : Equiv.Perm (Fin D)) (v v' : Array ℂ) :
    FieldPerm D N σ v v' ↔ ∀ m, dftV D N v' m = dftV D N v (m ∘ σ) := by
  constructor
  · intro h m
    rw [← dftV_permField D N hN σ v m]
    exact dftV_congr D N _ _ (fun j hj => by rw [h j hj, permField_getD D N σ v j hj]) m
  · intro h j hj
    rw [← permField_getD D N σ v j hj]
    exact eq_of_dftV_eq D N hN _ _ (fun m => by rw [h m, dftV_permField D N hN]) j hj

theorem fieldPerm_real (D N : ℕ) (σ : Equiv.Perm (Fin D)) (v v' : Array ℂ) (h : FieldPerm D N σ v v')
    (hv : IsRealND D N v) : IsRealND D N v' := by
  intro j hj
  rw [h j hj]
  exact hv _ (permIdx_lt_of_lt D N σ j hj)

noncomputable def maskFn (c : Cfg ℂ) (k : Fin c.D → ℤ) : ℂ :=
  if c.fq = 0 then 1 else if ∀ d, |k d| ≤ Kc c then 1 else 0

theorem mask_eq_maskFn (c : Cfg ℂ) (h : ℕ) : mask c h = maskFn c (kvec c.D c.N h) := by
  unfold maskFn
  by_cases hq : c.fq = 0
  · unfold mask; rw [if_pos hq, if_pos hq]
  · rw [if_neg hq, mask_nd c hq]

theorem maskFn_neg (c : Cfg ℂ) (k : Fin c.D → ℤ) : maskFn c (-k) = (starRingEnd ℂ) (maskFn c k) := by
  unfold maskFn
  simp only [Pi.neg_apply, abs_neg]
  split_ifs <;> simp

theorem maskFn_comp (c : Cfg ℂ) (σ : Equiv.Perm (Fin c.D)) (k : Fin c.D → ℤ) : maskFn c (k ∘ σ) = maskFn c k := by
  unfold maskFn
  have : (∀ d, |(k ∘ σ) d| ≤ Kc c) ↔ (∀ d, |k d| ≤ Kc c) :=
    σ.forall_congr_right (q := fun d => |k d| ≤ Kc c)
  simp only [this]

/-- the configuration kills (or does not have) Nyquist modes: `N` odd, or an active dealiasing mask
    with fraction `fp/fq ≤ 1` -/
def NyqCfg (c : Cfg ℂ) : Prop := c.N % 2 = 1 ∨ (c.fq ≠ 0 ∧ c.fp ≤ c.fq)

theorem maskFn_nyq (c : Cfg ℂ) (hq : c.fq ≠ 0) (hp : c.fp ≤ c.fq) (k : Fin c.D → ℤ)
    (hny : NyqVec c.N k) : maskFn c k = 0 := by
  unfold maskFn
  rw [if_neg hq, if_neg]
  intro H
  obtain ⟨d, h2, hn⟩ := hny
  -- `N ≤ 2|k_d| ≤ 2·Kc < N`
  have hNle := le_two_abs_of_nyq h2 hn
  have hK := Kc_two_lt c hq hp
  have hd := H d
  omega

noncomputable def derivFn (c : Cfg ℂ) (e : Fin c.D) (k : Fin c.D → ℤ) : ℂ := Complex.I * (c.s * ((k e : ℤ) : ℂ))

theorem deriv_eq_derivFn (c : Cfg ℂ) (e : Fin c.D) (h : ℕ) : Nonlin.deriv c e h = derivFn c e (kvec c.D c.N h) := rfl

theorem deriv_of_ge (c : Cfg ℂ) (e h : ℕ) (he : c.D ≤ e) : Nonlin.deriv c e h = 0 := by
  unfold Nonlin.deriv
  have : (wnFlat c.D c.N h).getD e 0 = 0 := by
    unfold wnFlat wnVec
    rw [List.getD_eq_getElem?_getD, List.getElem?_eq_none (by simpa using he)]
    rfl
  rw [this]
  simp

theorem derivFn_neg (c : Cfg ℂ) (hs : c.s.im = 0) (e : Fin c.D) (k : Fin c.D → ℤ) :
    derivFn c e (-k) = (starRingEnd ℂ) (derivFn c e k) := by
  unfold derivFn
  have hsc : (starRingEnd ℂ) c.s = c.s := Complex.conj_eq_iff_im.mpr hs
  rw [map_mul, map_mul, Complex.conj_I, hsc, map_intCast, Pi.neg_apply]
  push_cast
  ring

theorem derivFn_comp (c : Cfg ℂ) (σ : Equiv.Perm (Fin c.D)) (e : Fin c.D) (k : Fin c.D → ℤ) :
    derivFn c e (k ∘ σ) = derivFn c (σ e) k := rfl

example : ∃ (N : ℕ) (m : Fin 2 → ℤ), NyqVec N m := ⟨4, ![2, 1], 0, by decide, by decide⟩
example : ∃ c : Cfg ℂ, NyqCfg c ∧ c.N % 2 = 0 := ⟨⟨2, 8, 1, 2, 3⟩, Or.inr ⟨by norm_num, by norm_num⟩, rfl⟩
example (D N : ℕ) : NyqFreeS D N #[] := fun _ _ _ => by simp
example : ∃ g : (Fin 2 → ℤ) → ℂ, ∀ k, g (-k) = (starRingEnd ℂ) (g k) := ⟨fun _ => 1, fun _ => by simp⟩

end Exponax.AxisPerm
