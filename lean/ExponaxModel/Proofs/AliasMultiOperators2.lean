import ExponaxModel.Proofs.AliasMultiOperators
import ExponaxModel.Proofs.AliasMultiChannels
/-
C03 in `D` variables, link to the model: the pointwise polynomial `c₀ + c₁u + c₂u² (+ c₃u³)` and the
single-channel non-conservative convection `−b·u·Σ_d ∂_d u` as continuous operators applied to the continuous
band-truncated field `P_K u = PKfield c s x`.
-/
namespace Exponax.AliasMulti
open Exponax Exponax.Layout Exponax.Transform Exponax.DFT Exponax.Nonlin Exponax.Alias Exponax.AliasND Finset

noncomputable def opPoly2 {D : ℕ} (c0 c1 c2 : ℂ) (u : (Fin D → ℝ) → ℂ) : (Fin D → ℝ) → ℂ :=
  fun ξ => c0 + c1 * u ξ + c2 * (u ξ * u ξ)

noncomputable def opPoly3 {D : ℕ} (c0 c1 c2 c3 : ℂ) (u : (Fin D → ℝ) → ℂ) : (Fin D → ℝ) → ℂ :=
  fun ξ => c0 + c1 * u ξ + c2 * (u ξ * u ξ) + c3 * (u ξ * u ξ * u ξ)

/-- `−b·u·Σ_d ∂_d u` (`ConvectionNonlinearFun(single_channel=True, conservative=False)`) -/
noncomputable def opNonConsConv {D : ℕ} (b : ℂ) (u : (Fin D → ℝ) → ℂ) : (Fin D → ℝ) → ℂ :=
  fun ξ => -b * ∑ d : Fin D, u ξ * pderiv d u ξ

noncomputable def poly2Coef {D : ℕ} (K : ℤ) (c0 c1 c2 : ℂ) (U : (Fin D → ℤ) → ℂ) : (Fin D → ℤ) → ℂ :=
  fun r => (if r = 0 then c0 else 0) + c1 * truncV K U r + c2 * conv K K U U r

noncomputable def poly3Coef {D : ℕ} (K : ℤ) (c0 c1 c2 c3 : ℂ) (U : (Fin D → ℤ) → ℂ) : (Fin D → ℤ) → ℂ :=
  fun r => (if r = 0 then c0 else 0) + c1 * truncV K U r + c2 * truncV (K + K) (conv K K U U) r
    + c3 * conv3 K U U U r

noncomputable def nonConsConvCoef {D : ℕ} (s : ℝ) (K : ℤ) (b : ℂ) (U : (Fin D → ℤ) → ℂ) :
    (Fin D → ℤ) → ℂ :=
  fun r => -b * ∑ d : Fin D, conv K K U (dcoef s d U) r

theorem opPoly2_hasCoeffs {D : ℕ} {s : ℝ} {K : ℤ} (hK : 0 ≤ K) (c0 c1 c2 : ℂ) {u : (Fin D → ℝ) → ℂ}
    {U : (Fin D → ℤ) → ℂ} (hu : HasCoeffs s K u U) :
    HasCoeffs s (K + K) (opPoly2 c0 c1 c2 u) (poly2Coef K c0 c1 c2 U) := by
  unfold opPoly2 poly2Coef
  exact hasCoeffs_add (hasCoeffs_add (hasCoeffs_const s (by omega) c0)
    (hasCoeffs_smul c1 (hasCoeffs_raise (by omega) hu))) (hasCoeffs_smul c2 (hasCoeffs_mul hu hu))

theorem opPoly3_hasCoeffs {D : ℕ} {s : ℝ} {K : ℤ} (hK : 0 ≤ K) (c0 c1 c2 c3 : ℂ) {u : (Fin D → ℝ) → ℂ}
    {U : (Fin D → ℤ) → ℂ} (hu : HasCoeffs s K u U) :
    HasCoeffs s (K + K + K) (opPoly3 c0 c1 c2 c3 u) (poly3Coef K c0 c1 c2 c3 U) := by
  unfold opPoly3 poly3Coef
  exact hasCoeffs_add (hasCoeffs_add (hasCoeffs_add (hasCoeffs_const s (by omega) c0)
    (hasCoeffs_smul c1 (hasCoeffs_raise (by omega) hu)))
    (hasCoeffs_smul c2 (hasCoeffs_raise (by omega) (hasCoeffs_mul hu hu))))
    (hasCoeffs_smul c3 (hasCoeffs_mul3 hu hu hu))

theorem opNonConsConv_hasCoeffs {D : ℕ} {s : ℝ} {K : ℤ} (b : ℂ) {u : (Fin D → ℝ) → ℂ}
    {U : (Fin D → ℤ) → ℂ} (hu : HasCoeffs s K u U) :
    HasCoeffs s (K + K) (opNonConsConv b u) (nonConsConvCoef s K b U) := by
  unfold opNonConsConv nonConsConvCoef
  exact hasCoeffs_smul (-b)
    (hasCoeffs_sum Finset.univ _ _ (fun d _ => hasCoeffs_mul hu (hasCoeffs_pderiv d hu)))

theorem polynomial_quadratic_continuous_nd (c : Cfg ℂ) (hD : 0 < c.D) (hq : c.fq ≠ 0)
    (hK : 3 * Kc c < (c.N : ℤ)) (hN : 0 < c.N) (s : ℝ) (c0 c1 c2 : ℂ) (x : Array ℂ)
    (hx : IsRealND c.D c.N x) :
    (0 ≤ Kc c → HasCoeffs s (Kc c + Kc c) (opPoly2 c0 c1 c2 (PKfield c s x))
      (poly2Coef (Kc c) c0 c1 c2 (ucoef c x))) ∧
    ∀ h, h < numModes c.D c.N →
      (mask c h = 1 → at2 (polynomial c 1 [c0, c1, c2] #[rfftnM c.D c.N x]) 0 h
          = ((c.N ^ c.D : ℕ) : ℂ) * poly2Coef (Kc c) c0 c1 c2 (ucoef c x) (kvec c.D c.N h)) ∧
      (mask c h = 0 → at2 (polynomial c 1 [c0, c1, c2] #[rfftnM c.D c.N x]) 0 h = 0) := by
  refine ⟨fun hK0 => opPoly2_hasCoeffs hK0 c0 c1 c2 (PKfield_hasCoeffs c s x), fun h hh => ?_⟩
  have := polynomial_quadratic_alias_free_nd c hD hq hK hN 1 c0 c1 c2 _ (fun _ => x) (fun _ _ => hx) (single_getD _) 0
    Nat.zero_lt_one h hh
  refine ⟨fun hm => ?_, this.2⟩
  have hk : ∀ d, |kvec c.D c.N h d| ≤ Kc c := (mask_nd_eq_one_iff c hq h).mp hm
  rw [this.1 hm]
  unfold poly2Coef
  rw [truncV_of_le _ _ _ hk, conv_ucoef, rfftn_eq_dftV c.D c.N hN x h hh]
  unfold ucoef
  generalize linConv c.D c.N (Kc c) (dftV c.D c.N x) (dftV c.D c.N x) (kvec c.D c.N h) = Lc
  generalize dftV c.D c.N x (kvec c.D c.N h) = X
  linear_combination -natPow_mul_constCoef c hD hN h hh c0 - c1 * natPow_mul_scaled c hN X
    - c2 * natPow_mul_scaled c hN Lc

theorem polynomial_cubic_continuous_nd (c : Cfg ℂ) (hD : 0 < c.D) (hq : c.fq ≠ 0)
    (hK : 4 * Kc c < (c.N : ℤ)) (hN : 0 < c.N) (s : ℝ) (c0 c1 c2 c3 : ℂ) (x : Array ℂ)
    (hx : IsRealND c.D c.N x) :
    (0 ≤ Kc c → HasCoeffs s (Kc c + Kc c + Kc c) (opPoly3 c0 c1 c2 c3 (PKfield c s x))
      (poly3Coef (Kc c) c0 c1 c2 c3 (ucoef c x))) ∧
    ∀ h, h < numModes c.D c.N →
      (mask c h = 1 → at2 (polynomial c 1 [c0, c1, c2, c3] #[rfftnM c.D c.N x]) 0 h
          = ((c.N ^ c.D : ℕ) : ℂ) * poly3Coef (Kc c) c0 c1 c2 c3 (ucoef c x) (kvec c.D c.N h)) ∧
      (mask c h = 0 → at2 (polynomial c 1 [c0, c1, c2, c3] #[rfftnM c.D c.N x]) 0 h = 0) := by
  refine ⟨fun hK0 => opPoly3_hasCoeffs hK0 c0 c1 c2 c3 (PKfield_hasCoeffs c s x), fun h hh => ?_⟩
  have := polynomial_cubic_alias_free_nd c hD hq hK hN 1 c0 c1 c2 c3 _ (fun _ => x) (fun _ _ => hx) (single_getD _) 0
    Nat.zero_lt_one h hh
  refine ⟨fun hm => ?_, this.2⟩
  have hk : ∀ d, |kvec c.D c.N h d| ≤ Kc c := (mask_nd_eq_one_iff c hq h).mp hm
  rw [this.1 hm]
  unfold poly3Coef
  rw [truncV_of_le _ _ _ hk, truncV_of_le _ _ _ (box_le_add hk hk), conv_ucoef, conv3_ucoef,
    rfftn_eq_dftV c.D c.N hN x h hh]
  unfold ucoef
  generalize linConv c.D c.N (Kc c) (dftV c.D c.N x) (dftV c.D c.N x) (kvec c.D c.N h) = Lc
  generalize linConv3 c.D c.N (Kc c) (dftV c.D c.N x) (dftV c.D c.N x) (dftV c.D c.N x) (kvec c.D c.N h) = L3
  generalize dftV c.D c.N x (kvec c.D c.N h) = X
  linear_combination -natPow_mul_constCoef c hD hN h hh c0 - c1 * natPow_mul_scaled c hN X
    - c2 * natPow_mul_scaled c hN Lc - c3 * natPow_mul_scaled c hN L3

theorem nonConsConvCoef_model (c : Cfg ℂ) (hN : 0 < c.N) (s : ℝ) (hs : c.s = (s : ℂ)) (b : ℂ) (x : Array ℂ)
    (k : Fin c.D → ℤ) :
    ((c.N ^ c.D : ℕ) : ℂ) * nonConsConvCoef s (Kc c) b (ucoef c x) k
      = -b * ∑ d ∈ range c.D, linConv c.D c.N (Kc c) (dftV c.D c.N x) (dspec c d x) k := by
  unfold nonConsConvCoef
  rw [← Fin.sum_univ_eq_sum_range (fun d => linConv c.D c.N (Kc c) (dftV c.D c.N x) (dspec c d x) k) c.D]
  have e : ∀ d : Fin c.D, conv (Kc c) (Kc c) (ucoef c x) (dcoef s d (ucoef c x)) k
      = (1 / ((c.N ^ c.D : ℕ) : ℂ)) * linConv c.D c.N (Kc c) (dftV c.D c.N x) (dspec c d x) k := by
    intro d
    rw [dcoef_ucoef c s hs x d]
    exact conv_scaled c.D c.N (Kc c) _ _ k
  simp only [e, ← Finset.mul_sum]
  generalize (∑ d : Fin c.D, linConv c.D c.N (Kc c) (dftV c.D c.N x) (dspec c d x) k) = T
  linear_combination (-b) * natPow_mul_scaled c hN T

theorem convection_single_nc_continuous_nd (c : Cfg ℂ) (hD : 0 < c.D) (hq : c.fq ≠ 0)
    (hK : 3 * Kc c < (c.N : ℤ)) (hN : 0 < c.N) (s : ℝ) (hs : c.s = (s : ℂ)) (b : ℂ) (x : Array ℂ)
    (hx : IsRealND c.D c.N x) :
    HasCoeffs s (Kc c + Kc c) (opNonConsConv b (PKfield c s x)) (nonConsConvCoef s (Kc c) b (ucoef c x)) ∧
    ∀ h, h < numModes c.D c.N →
      (mask c h = 1 → at2 (convection c 1 b true false #[rfftnM c.D c.N x]) 0 h
          = ((c.N ^ c.D : ℕ) : ℂ) * nonConsConvCoef s (Kc c) b (ucoef c x) (kvec c.D c.N h)) ∧
      (mask c h = 0 → at2 (convection c 1 b true false #[rfftnM c.D c.N x]) 0 h = 0) := by
  refine ⟨opNonConsConv_hasCoeffs b (PKfield_hasCoeffs c s x), fun h hh => ?_⟩
  have := convection_single_nc_alias_free_nd c hD hq hK hN s hs 1 Nat.zero_lt_one b #[rfftnM c.D c.N x] x hx rfl
    h hh
  refine ⟨fun hm => ?_, this.2⟩
  rw [this.1 hm, nonConsConvCoef_model c hN s hs b x]

end Exponax.AliasMulti
