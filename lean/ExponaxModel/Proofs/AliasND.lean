import ExponaxModel.Proofs.AliasNDMask
import ExponaxModel.Proofs.AliasOffBand
/-
C03 in general dimension: alias-free statements through the MODEL pipeline
`ifft(mask·û) → pointwise product → mask·fft(·) → symbol` of `Model/Nonlin.lean`: `polynomial`
(degree ≤ 2 with `3·Kc < N`, degree ≤ 3 with `4·Kc < N`), conservative `convection` (multi- and
single-channel), `cahnHilliard`, and the documented fractions 2/3, 1/2.
"Zero outside the retained band" for these terms is `*_zero_off_band` of `AliasOffBand.lean` (any `D`).
-/
namespace Exponax.AliasND
open Exponax Exponax.Layout Exponax.Transform Exponax.DFT Exponax.Nonlin Exponax.Alias Finset

/-- the linear (non-circular) convolution over the box of two truncated spectra, normalised by
    `N^{-D}` (the normalisation of the un-normalised forward transform) -/
noncomputable def linConv (D N : ℕ) (K : ℤ) (F G : (Fin D → ℤ) → ℂ) (k : Fin D → ℤ) : ℂ :=
  (1 / ((N ^ D : ℕ) : ℂ)) * ∑ p ∈ box D K, truncV K F p * truncV K G (k - p)

noncomputable def linConv3 (D N : ℕ) (K : ℤ) (F G H : (Fin D → ℤ) → ℂ) (k : Fin D → ℤ) : ℂ :=
  (1 / ((N ^ D : ℕ) : ℂ)) ^ 2 * ∑ a ∈ box D K, ∑ b ∈ box D K,
    truncV K F a * truncV K G b * truncV K H (k - a - b)

theorem linConv_eq_pairs (D N : ℕ) (K : ℤ) (F G : (Fin D → ℤ) → ℂ) (k : Fin D → ℤ) :
    linConv D N K F G k = (1 / ((N ^ D : ℕ) : ℂ)) *
      ∑ pq ∈ (box D K ×ˢ box D K).filter (fun pq => pq.1 + pq.2 = k), F pq.1 * G pq.2 := by
  unfold linConv
  rw [sum_box_trunc_eq_pairs]

theorem linConv_sub_right (D N : ℕ) (K : ℤ) (F G H : (Fin D → ℤ) → ℂ) (k : Fin D → ℤ) :
    linConv D N K F (fun q => G q - H q) k = linConv D N K F G k - linConv D N K F H k := by
  unfold linConv
  rw [← mul_sub, ← Finset.sum_sub_distrib]
  congr 1
  apply Finset.sum_congr rfl
  intro p _
  rw [truncV_sub, mul_sub]

theorem linConv_mul_explicit (D N : ℕ) (K : ℤ) (μ ν F G : (Fin D → ℤ) → ℂ) (k : Fin D → ℤ) :
    linConv D N K (fun p => μ p * F p) (fun p => ν p * G p) k
      = (1 / ((N ^ D : ℕ) : ℂ)) * ∑ p ∈ box D K,
          (μ p * truncV K F p) * (ν (k - p) * truncV K G (k - p)) := by
  unfold linConv
  congr 1
  apply Finset.sum_congr rfl
  intro p _
  rw [truncV_mul, truncV_mul]

theorem dftV_mul_of_box (D N : ℕ) (hN : 0 < N) (K : ℤ) (hK : 3 * K < (N : ℤ)) (f g : Array ℂ)
    (hf : BandLimitedV D N K f) (hg : BandLimitedV D N K g) (F G : (Fin D → ℤ) → ℂ)
    (hF : ∀ p : Fin D → ℤ, (∀ d, |p d| ≤ K) → dftV D N f p = F p)
    (hG : ∀ p : Fin D → ℤ, (∀ d, |p d| ≤ K) → dftV D N g p = G p)
    (k : Fin D → ℤ) (hk : ∀ d, |k d| ≤ K) :
    dftV D N (tab (N ^ D) fun j => f.getD j 0 * g.getD j 0) k = linConv D N K F G k := by
  rw [dftV_mul_no_alias' D N hN K hK f g hf hg k hk, linConv]
  simp only [truncV_congr K hF, truncV_congr K hG]

/-- `w` is band-limited to the retained box and its spectrum on the box is `F`: what a product lemma
    asks of each factor -/
def BoxSpec (c : Cfg ℂ) (w : Array ℂ) (F : (Fin c.D → ℤ) → ℂ) : Prop :=
  BandLimitedV c.D c.N (Kc c) w ∧ ∀ p : Fin c.D → ℤ, (∀ d, |p d| ≤ Kc c) → dftV c.D c.N w p = F p

theorem BoxSpec.dftV_mul {c : Cfg ℂ} {f g : Array ℂ} {F G : (Fin c.D → ℤ) → ℂ} (hf : BoxSpec c f F)
    (hg : BoxSpec c g G) (hN : 0 < c.N) (hK : 3 * Kc c < (c.N : ℤ)) (k : Fin c.D → ℤ)
    (hk : ∀ d, |k d| ≤ Kc c) :
    dftV c.D c.N (tab (c.N ^ c.D) fun j => f.getD j 0 * g.getD j 0) k = linConv c.D c.N (Kc c) F G k :=
  dftV_mul_of_box c.D c.N hN (Kc c) hK f g hf.1 hg.1 F G hf.2 hg.2 k hk

theorem BoxSpec.dftV_mul3 {c : Cfg ℂ} {f g w : Array ℂ} {F G H : (Fin c.D → ℤ) → ℂ}
    (hf : BoxSpec c f F) (hg : BoxSpec c g G) (hw : BoxSpec c w H) (hN : 0 < c.N)
    (hK : 4 * Kc c < (c.N : ℤ)) (k : Fin c.D → ℤ) (hk : ∀ d, |k d| ≤ Kc c) :
    dftV c.D c.N (tab (c.N ^ c.D) fun j => f.getD j 0 * g.getD j 0 * w.getD j 0) k
      = linConv3 c.D c.N (Kc c) F G H k := by
  rw [dftV_mul3_no_alias' c.D c.N hN (Kc c) hK f g w hf.1 hg.1 hw.1 k hk, linConv3]
  simp only [truncV_congr (Kc c) hf.2, truncV_congr (Kc c) hg.2, truncV_congr (Kc c) hw.2]

theorem boxSpec_nifft_rfftn (c : Cfg ℂ) (hD : 0 < c.D) (hq : c.fq ≠ 0) (hN : 0 < c.N)
    (h2 : 2 * Kc c < (c.N : ℤ)) (x : Array ℂ) (hx : IsRealND c.D c.N x) :
    BoxSpec c (nifft c (rfftnM c.D c.N x)) (dftV c.D c.N x) :=
  ⟨nifft_bandLimitedV c hq hN _, dftV_nifft_rfftn c hD hq hN h2 x hx⟩

theorem nfft_nd (c : Cfg ℂ) (hN : 0 < c.N) (v : Array ℂ) (h : ℕ) (hh : h < numModes c.D c.N) :
    (nfft c v).getD h 0 = mask c h * dftV c.D c.N v (kvec c.D c.N h) := by
  rw [nfft_getD c v h hh, rfftn_eq_dftV c.D c.N hN v h hh]

theorem qlit_half : (qlit 1 2 : ℂ) = 1 / 2 := by simp

/-- the one-channel input `#[a]`, in the form the `C`-channel statements ask for at `C = 1` -/
theorem single_getD (a : Array ℂ) : ∀ ch, ch < 1 → (#[a] : MC ℂ).getD ch #[] = a := fun ch hch => by
  obtain rfl := Nat.lt_one_iff.mp hch
  rfl

theorem polynomial_getD (c : Cfg ℂ) (C : ℕ) (coeffs : List ℂ) (uh : MC ℂ) (ch : ℕ) (hch : ch < C) :
    (polynomial c C coeffs uh).getD ch #[]
      = nfft c (tab (c.N ^ c.D) fun j => polyEval coeffs ((nifft c (uh.getD ch #[])).getD j 0)) := by
  unfold polynomial
  simp only []
  rw [Nonlin.tabC_getD _ _ _ hch]
  refine congrArg (nfft c) (Nonlin.tab_congr _ _ _ fun x _ => ?_)
  rw [at2_tabC _ _ _ _ hch]

theorem polynomial_nd_readoff (c : Cfg ℂ) (hN : 0 < c.N) (C : ℕ) (coeffs : List ℂ)
    (uh : MC ℂ) (ch : ℕ) (hch : ch < C) (h : ℕ) (hh : h < numModes c.D c.N) :
    at2 (polynomial c C coeffs uh) ch h
      = mask c h * dftV c.D c.N
          (tab (c.N ^ c.D) fun j => polyEval coeffs ((nifft c (uh.getD ch #[])).getD j 0)) (kvec c.D c.N h) := by
  rw [at2, polynomial_getD c C coeffs uh ch hch, nfft_nd c hN _ h hh]

theorem polyEval_cubic_full (c0 c1 c2 c3 y : ℂ) :
    polyEval [c0, c1, c2, c3] y = c0 + c1 * y + c2 * (y * y) + c3 * (y * y * y) := by
  simp [polyEval]

/-- `PolynomialNonlinearFun` with coefficients `[c0, c1, c2]`, any channel count: for real states `xs ch` with
    `û_ch = rfftnM D N (xs ch)`, channel `ch` of the output at a retained stored mode holds the coefficients of
    `c0 + c1·P_K u + c2·(P_K u)²`, alias-free -/
theorem polynomial_quadratic_alias_free_nd (c : Cfg ℂ) (hD : 0 < c.D) (hq : c.fq ≠ 0)
    (hK : 3 * Kc c < (c.N : ℤ)) (hN : 0 < c.N) (C : ℕ) (c0 c1 c2 : ℂ) (uh : MC ℂ) (xs : ℕ → Array ℂ)
    (hx : ∀ ch, ch < C → IsRealND c.D c.N (xs ch))
    (huh : ∀ ch, ch < C → uh.getD ch #[] = rfftnM c.D c.N (xs ch))
    (ch : ℕ) (hch : ch < C) (h : ℕ) (hh : h < numModes c.D c.N) :
    (mask c h = 1 →
      at2 (polynomial c C [c0, c1, c2] uh) ch h
        = c0 * (if h = 0 then ((c.N ^ c.D : ℕ) : ℂ) else 0) + c1 * (rfftnM c.D c.N (xs ch)).getD h 0
          + c2 * linConv c.D c.N (Kc c) (dftV c.D c.N (xs ch)) (dftV c.D c.N (xs ch)) (kvec c.D c.N h))
    ∧ (mask c h = 0 → at2 (polynomial c C [c0, c1, c2] uh) ch h = 0) := by
  have h2 := two_lt_of_three c.N (Kc c) hK
  have hX := boxSpec_nifft_rfftn c hD hq hN h2 _ (hx ch hch)
  rw [polynomial_nd_readoff c hN C _ _ ch hch h hh, huh ch hch]
  refine ⟨fun hm => ?_, fun hm => by rw [hm, zero_mul]⟩
  have hk : ∀ d, |kvec c.D c.N h d| ≤ Kc c := (mask_nd_eq_one_iff c hq h).mp hm
  simp only [polyEval_quadratic]
  rw [hm, one_mul, dftV_add, dftV_add, dftV_smul, dftV_smul, dftV_const c.D c.N hN, dftV_self_tab,
    dftV_nifft_rfftn_stored c hD hq hN h2 _ (hx ch hch) h hh hk, hX.dftV_mul hX hN hK _ hk]
  simp only [stored_dvd_iff c.D c.N h hD hN hh, mul_ite, mul_zero]

/-- the same with `[c0, c1, c2, c3]` under `4·Kc < N`: the coefficients of
    `c0 + c1·P_K u + c2·(P_K u)² + c3·(P_K u)³` -/
theorem polynomial_cubic_alias_free_nd (c : Cfg ℂ) (hD : 0 < c.D) (hq : c.fq ≠ 0)
    (hK : 4 * Kc c < (c.N : ℤ)) (hN : 0 < c.N) (C : ℕ) (c0 c1 c2 c3 : ℂ) (uh : MC ℂ) (xs : ℕ → Array ℂ)
    (hx : ∀ ch, ch < C → IsRealND c.D c.N (xs ch))
    (huh : ∀ ch, ch < C → uh.getD ch #[] = rfftnM c.D c.N (xs ch))
    (ch : ℕ) (hch : ch < C) (h : ℕ) (hh : h < numModes c.D c.N) :
    (mask c h = 1 →
      at2 (polynomial c C [c0, c1, c2, c3] uh) ch h
        = c0 * (if h = 0 then ((c.N ^ c.D : ℕ) : ℂ) else 0) + c1 * (rfftnM c.D c.N (xs ch)).getD h 0
          + c2 * linConv c.D c.N (Kc c) (dftV c.D c.N (xs ch)) (dftV c.D c.N (xs ch)) (kvec c.D c.N h)
          + c3 * linConv3 c.D c.N (Kc c) (dftV c.D c.N (xs ch)) (dftV c.D c.N (xs ch))
              (dftV c.D c.N (xs ch)) (kvec c.D c.N h))
    ∧ (mask c h = 0 → at2 (polynomial c C [c0, c1, c2, c3] uh) ch h = 0) := by
  have h2 := two_lt_of_four c.N (Kc c) hK
  have h3 := three_lt_of_four c.N (Kc c) hK
  have hX := boxSpec_nifft_rfftn c hD hq hN h2 _ (hx ch hch)
  rw [polynomial_nd_readoff c hN C _ _ ch hch h hh, huh ch hch]
  refine ⟨fun hm => ?_, fun hm => by rw [hm, zero_mul]⟩
  have hk : ∀ d, |kvec c.D c.N h d| ≤ Kc c := (mask_nd_eq_one_iff c hq h).mp hm
  simp only [polyEval_cubic_full]
  rw [hm, one_mul, dftV_add, dftV_add, dftV_add, dftV_smul, dftV_smul, dftV_smul,
    dftV_const c.D c.N hN, dftV_self_tab, dftV_nifft_rfftn_stored c hD hq hN h2 _ (hx ch hch) h hh hk,
    hX.dftV_mul hX hN h3 _ hk, hX.dftV_mul3 hX hX hN hK _ hk]
  simp only [stored_dvd_iff c.D c.N h hD hN hh, mul_ite, mul_zero]

/-- `ConvectionNonlinearFun(single_channel=False, conservative=True)` read off the pipeline, for any input.  The
    factor `½` IS in the model / library for this variant. -/
theorem convection_multi_conservative_readoff (c : Cfg ℂ) (hN : 0 < c.N) (C : ℕ) (scale : ℂ)
    (uh : MC ℂ) (i : ℕ) (hi : i < C) (h : ℕ) (hh : h < numModes c.D c.N) :
    at2 (convection c C scale false true uh) i h
      = -scale * ((1 : ℂ) / 2 * ∑ j ∈ range C, Nonlin.deriv c j h * (mask c h *
          dftV c.D c.N (tab (c.N ^ c.D) fun x =>
            (nifft c (uh.getD j #[])).getD x 0 * (nifft c (uh.getD i #[])).getD x 0)
            (kvec c.D c.N h))) := by
  have hM : h < modes c := hh
  unfold convection
  simp only [↓reduceIte, Bool.false_eq_true]
  rw [at2_tab2 _ _ _ _ _ hi hM, sumList_range_eq, qlit_half]
  refine congrArg (fun s => -scale * (1 / 2 * s)) (Finset.sum_congr rfl fun j hj => ?_)
  have hj' := Finset.mem_range.mp hj
  rw [at2_tabC _ _ _ _ (pair_lt hi hj'), nfft_nd c hN _ h hh, Nat.mul_add_mod_of_lt hj', pair_div _ i _ hj']
  simp only [at2_tabC _ _ _ _ hj', at2_tabC _ _ _ _ hi]
  rfl

/-- for real states `xs ch` with `û_ch = rfftnM D N (xs ch)`, output channel `i` at a retained stored mode holds the
    coefficients of `−scale·½·Σ_j ∂_j (P_K u_j · P_K u_i)`, alias-free -/
theorem convection_multi_conservative_alias_free_nd (c : Cfg ℂ) (hD : 0 < c.D) (hq : c.fq ≠ 0)
    (hK : 3 * Kc c < (c.N : ℤ)) (hN : 0 < c.N) (C : ℕ) (scale : ℂ) (uh : MC ℂ) (xs : ℕ → Array ℂ)
    (hx : ∀ ch, ch < C → IsRealND c.D c.N (xs ch))
    (huh : ∀ ch, ch < C → uh.getD ch #[] = rfftnM c.D c.N (xs ch))
    (i : ℕ) (hi : i < C) (h : ℕ) (hh : h < numModes c.D c.N) :
    (mask c h = 1 →
      at2 (convection c C scale false true uh) i h
        = -scale * ((1 : ℂ) / 2 * ∑ j ∈ range C, Nonlin.deriv c j h *
            linConv c.D c.N (Kc c) (dftV c.D c.N (xs j)) (dftV c.D c.N (xs i)) (kvec c.D c.N h)))
    ∧ (mask c h = 0 → at2 (convection c C scale false true uh) i h = 0) := by
  refine ⟨fun hm => ?_, fun hm => convection_zero_off_band c C scale false true uh i h hm⟩
  have hk : ∀ d, |kvec c.D c.N h d| ≤ Kc c := (mask_nd_eq_one_iff c hq h).mp hm
  have h2 := two_lt_of_three c.N (Kc c) hK
  rw [convection_multi_conservative_readoff c hN C scale uh i hi h hh]
  congr 2
  apply Finset.sum_congr rfl
  intro j hj
  have hj' := Finset.mem_range.mp hj
  rw [hm, one_mul, huh j hj', huh i hi, (boxSpec_nifft_rfftn c hD hq hN h2 _ (hx j hj')).dftV_mul
    (boxSpec_nifft_rfftn c hD hq hN h2 _ (hx i hi)) hN hK _ hk]

theorem convection_2d_conservative_alias_free (c : Cfg ℂ) (hD : c.D = 2) (hq : c.fq ≠ 0)
    (hK : 3 * Kc c < (c.N : ℤ)) (hN : 0 < c.N) (scale : ℂ) (x0 x1 : Array ℂ)
    (hx0 : IsRealND c.D c.N x0) (hx1 : IsRealND c.D c.N x1)
    (i : ℕ) (hi : i < 2) (h : ℕ) (hh : h < numModes c.D c.N) :
    let xs : ℕ → Array ℂ := fun ch => if ch = 0 then x0 else x1
    (mask c h = 1 →
      at2 (convection c 2 scale false true #[rfftnM c.D c.N x0, rfftnM c.D c.N x1]) i h
        = -scale * ((1 : ℂ) / 2 *
            (deriv c 0 h * linConv c.D c.N (Kc c) (dftV c.D c.N x0) (dftV c.D c.N (xs i)) (kvec c.D c.N h)
              + deriv c 1 h * linConv c.D c.N (Kc c) (dftV c.D c.N x1) (dftV c.D c.N (xs i)) (kvec c.D c.N h))))
    ∧ (mask c h = 0 →
      at2 (convection c 2 scale false true #[rfftnM c.D c.N x0, rfftnM c.D c.N x1]) i h = 0) := by
  intro xs
  have hxs : ∀ ch, ch < 2 → IsRealND c.D c.N (xs ch) := by
    intro ch _
    show IsRealND c.D c.N (if ch = 0 then x0 else x1)
    split_ifs
    · exact hx0
    · exact hx1
  have huh : ∀ ch, ch < 2 →
      (#[rfftnM c.D c.N x0, rfftnM c.D c.N x1] : MC ℂ).getD ch #[] = rfftnM c.D c.N (xs ch) := by
    intro ch hch
    interval_cases ch <;> rfl
  have := convection_multi_conservative_alias_free_nd c (by omega) hq hK hN 2 scale _ xs hxs huh i hi h hh
  refine ⟨fun hm => ?_, this.2⟩
  rw [this.1 hm, Finset.sum_range_succ, Finset.sum_range_succ, Finset.sum_range_zero, zero_add]
  rfl

theorem deriv_eq_kvec (c : Cfg ℂ) (j : Fin c.D) (h : ℕ) :
    deriv c j h = Complex.I * (c.s * ((kvec c.D c.N h j : ℤ) : ℂ)) := rfl

theorem convection_single_conservative_readoff (c : Cfg ℂ) (hN : 0 < c.N) (C : ℕ) (scale : ℂ)
    (uh : MC ℂ) (ch : ℕ) (hch : ch < C) (h : ℕ) (hh : h < numModes c.D c.N) :
    at2 (convection c C scale true true uh) ch h
      = -scale * ((1 : ℂ) / 2 * (∑ d ∈ range c.D, Nonlin.deriv c d h) * (mask c h *
          dftV c.D c.N (tab (c.N ^ c.D) fun x =>
            (nifft c (uh.getD ch #[])).getD x 0 * (nifft c (uh.getD ch #[])).getD x 0)
            (kvec c.D c.N h))) := by
  have hM : h < modes c := hh
  unfold convection
  simp only [↓reduceIte]
  rw [at2_tab2 _ _ _ _ _ hch hM, sumList_range_eq, at2_tabC _ _ _ _ hch, nfft_nd c hN _ h hh]
  simp only [at2_tabC _ _ _ _ hch, qlit_half]
  rfl

/-- `ConvectionNonlinearFun(single_channel=True, conservative=True)`: channel `ch` at a retained stored mode holds
    the coefficients of `−scale·½·Σ_d ∂_d (P_K u_ch)²`, alias-free -/
theorem convection_single_conservative_alias_free_nd (c : Cfg ℂ) (hD : 0 < c.D) (hq : c.fq ≠ 0)
    (hK : 3 * Kc c < (c.N : ℤ)) (hN : 0 < c.N) (C : ℕ) (scale : ℂ) (uh : MC ℂ) (xs : ℕ → Array ℂ)
    (hx : ∀ ch, ch < C → IsRealND c.D c.N (xs ch))
    (huh : ∀ ch, ch < C → uh.getD ch #[] = rfftnM c.D c.N (xs ch))
    (ch : ℕ) (hch : ch < C) (h : ℕ) (hh : h < numModes c.D c.N) :
    (mask c h = 1 →
      at2 (convection c C scale true true uh) ch h
        = -scale * ((1 : ℂ) / 2 * (∑ d ∈ range c.D, Nonlin.deriv c d h) *
            linConv c.D c.N (Kc c) (dftV c.D c.N (xs ch)) (dftV c.D c.N (xs ch)) (kvec c.D c.N h)))
    ∧ (mask c h = 0 → at2 (convection c C scale true true uh) ch h = 0) := by
  refine ⟨fun hm => ?_, fun hm => convection_zero_off_band c C scale true true uh ch h hm⟩
  have hk : ∀ d, |kvec c.D c.N h d| ≤ Kc c := (mask_nd_eq_one_iff c hq h).mp hm
  have hX := boxSpec_nifft_rfftn c hD hq hN (two_lt_of_three c.N (Kc c) hK) _ (hx ch hch)
  rw [convection_single_conservative_readoff c hN C scale uh ch hch h hh, hm, one_mul, huh ch hch,
    hX.dftV_mul hX hN hK _ hk]

theorem cahnHilliard_nd_readoff (c : Cfg ℂ) (hN : 0 < c.N) (scale : ℂ)
    (uh : Array ℂ) (h : ℕ) (hh : h < numModes c.D c.N) :
    at2 (cahnHilliard c scale #[uh]) 0 h
      = laplace c 2 h * (mask c h * dftV c.D c.N (tab (c.N ^ c.D) fun j =>
          (nifft c uh).getD j 0 * (nifft c uh).getD j 0 * (nifft c uh).getD j 0) (kvec c.D c.N h))
          * scale := by
  have hM : h < modes c := hh
  have e : (tab (modes c) fun h => mask c h * at2 (#[uh] : MC ℂ) 0 h)
      = tab (modes c) fun h => mask c h * uh.getD h 0 := rfl
  unfold cahnHilliard
  simp only []
  rw [at2_tab2 _ _ _ _ _ Nat.zero_lt_one hM, nfft_nd c hN _ h hh, e, nifft_mask_idem]
  rfl

/-- `CahnHilliardNonlinearFun`: at a retained stored mode the output is the coefficient of `scale · Δ (P_K u)³`,
    alias-free (`4·Kc < N`, e.g. the 1/2 rule) -/
theorem cahnHilliard_alias_free_nd (c : Cfg ℂ) (hD : 0 < c.D) (hq : c.fq ≠ 0)
    (hK : 4 * Kc c < (c.N : ℤ)) (hN : 0 < c.N) (scale : ℂ) (x : Array ℂ) (hx : IsRealND c.D c.N x)
    (h : ℕ) (hh : h < numModes c.D c.N) :
    (mask c h = 1 →
      at2 (cahnHilliard c scale #[rfftnM c.D c.N x]) 0 h
        = laplace c 2 h * linConv3 c.D c.N (Kc c) (dftV c.D c.N x) (dftV c.D c.N x) (dftV c.D c.N x)
            (kvec c.D c.N h) * scale)
    ∧ (mask c h = 0 → at2 (cahnHilliard c scale #[rfftnM c.D c.N x]) 0 h = 0) := by
  refine ⟨fun hm => ?_, fun hm => cahnHilliard_zero_off_band c scale _ 0 h hm⟩
  have hk : ∀ d, |kvec c.D c.N h d| ≤ Kc c := (mask_nd_eq_one_iff c hq h).mp hm
  have hX := boxSpec_nifft_rfftn c hD hq hN (two_lt_of_four c.N (Kc c) hK) x hx
  rw [cahnHilliard_nd_readoff c hN scale _ h hh, hm, one_mul,
    hX.dftV_mul3 hX hX hN hK _ hk]

theorem polynomial_quadratic_alias_free_nd_two_thirds (c : Cfg ℂ) (hD : 0 < c.D) (hp : c.fp = 2)
    (hq : c.fq = 3) (hN : 0 < c.N) (c0 c1 c2 : ℂ) (x : Array ℂ) (hx : IsRealND c.D c.N x)
    (h : ℕ) (hh : h < numModes c.D c.N) :
    (mask c h = 1 →
      at2 (polynomial c 1 [c0, c1, c2] #[rfftnM c.D c.N x]) 0 h
        = c0 * (if h = 0 then ((c.N ^ c.D : ℕ) : ℂ) else 0) + c1 * (rfftnM c.D c.N x).getD h 0
          + c2 * linConv c.D c.N (Kc c) (dftV c.D c.N x) (dftV c.D c.N x) (kvec c.D c.N h))
    ∧ (mask c h = 0 → at2 (polynomial c 1 [c0, c1, c2] #[rfftnM c.D c.N x]) 0 h = 0) :=
  polynomial_quadratic_alias_free_nd c hD (by omega) (Kc_two_thirds c hp hq).1 hN 1 c0 c1 c2 _ (fun _ => x)
    (fun _ _ => hx) (single_getD _) 0 Nat.zero_lt_one h hh

theorem polynomial_cubic_alias_free_nd_half (c : Cfg ℂ) (hD : 0 < c.D) (hp : c.fp = 1)
    (hq : c.fq = 2) (hN : 0 < c.N) (c0 c1 c2 c3 : ℂ) (x : Array ℂ)
    (hx : IsRealND c.D c.N x) (h : ℕ) (hh : h < numModes c.D c.N) :
    (mask c h = 1 →
      at2 (polynomial c 1 [c0, c1, c2, c3] #[rfftnM c.D c.N x]) 0 h
        = c0 * (if h = 0 then ((c.N ^ c.D : ℕ) : ℂ) else 0) + c1 * (rfftnM c.D c.N x).getD h 0
          + c2 * linConv c.D c.N (Kc c) (dftV c.D c.N x) (dftV c.D c.N x) (kvec c.D c.N h)
          + c3 * linConv3 c.D c.N (Kc c) (dftV c.D c.N x) (dftV c.D c.N x) (dftV c.D c.N x)
              (kvec c.D c.N h))
    ∧ (mask c h = 0 → at2 (polynomial c 1 [c0, c1, c2, c3] #[rfftnM c.D c.N x]) 0 h = 0) :=
  polynomial_cubic_alias_free_nd c hD (by omega) (Kc_half c hp hq) hN 1 c0 c1 c2 c3 _ (fun _ => x)
    (fun _ _ => hx) (single_getD _) 0 Nat.zero_lt_one h hh

theorem convection_multi_conservative_alias_free_nd_two_thirds (c : Cfg ℂ) (hD : 0 < c.D)
    (hp : c.fp = 2) (hq : c.fq = 3) (hN : 0 < c.N) (C : ℕ) (scale : ℂ) (uh : MC ℂ)
    (xs : ℕ → Array ℂ) (hx : ∀ ch, ch < C → IsRealND c.D c.N (xs ch))
    (huh : ∀ ch, ch < C → uh.getD ch #[] = rfftnM c.D c.N (xs ch))
    (i : ℕ) (hi : i < C) (h : ℕ) (hh : h < numModes c.D c.N) :
    (mask c h = 1 →
      at2 (convection c C scale false true uh) i h
        = -scale * ((1 : ℂ) / 2 * ∑ j ∈ range C, deriv c j h *
            linConv c.D c.N (Kc c) (dftV c.D c.N (xs j)) (dftV c.D c.N (xs i)) (kvec c.D c.N h)))
    ∧ (mask c h = 0 → at2 (convection c C scale false true uh) i h = 0) :=
  convection_multi_conservative_alias_free_nd c hD (by omega) (Kc_two_thirds c hp hq).1 hN C scale uh
    xs hx huh i hi h hh

end Exponax.AliasND
