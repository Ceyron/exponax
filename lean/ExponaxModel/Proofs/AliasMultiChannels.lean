import ExponaxModel.Proofs.AliasND2Grad
import ExponaxModel.Proofs.AliasND2Conv
/-
C03, channel bookkeeping for `C > 1` channels (`Model/Nonlin.lean`): `polynomial`, `gradientNorm`, `general` return exactly
`C` channels, and `convection … true true` acts CHANNEL-WISE, as an equality of whole channel arrays.  With it
`C03_polynomial_is_channelwise`, `C03_gradient_norm_is_channelwise` (each channel's own mean removed with `zero_mode_fix`;
channels are NOT mixed) and hence `C03_general_is_channelwise`.  (The alias-free statements of these terms are stated for any
channel count where they are proved, `AliasND.*_alias_free_nd`.)  Also the statement for
`ConvectionNonlinearFun(single_channel=True, conservative=False)`, `−b·u·Σ_d ∂_d u`, every `D ≥ 1`.
-/
namespace Exponax.AliasMulti
open Exponax Exponax.Layout Exponax.Transform Exponax.DFT Exponax.Nonlin Exponax.Alias Exponax.AliasND Finset
-- `deriv` is the model's derivative symbol; the export keeps it from being read as Mathlib's `_root_.deriv` as well
export Exponax.Nonlin (deriv)

theorem at2_eq (a : MC ℂ) (ch i : ℕ) : at2 a ch i = (a.getD ch #[]).getD i 0 := rfl

theorem at2_singleton (a : Array ℂ) (i : ℕ) : at2 (#[a] : MC ℂ) 0 i = a.getD i 0 := rfl

theorem polynomial_size (c : Cfg ℂ) (C : ℕ) (coeffs : List ℂ) (uh : MC ℂ) :
    (polynomial c C coeffs uh).size = C := by
  unfold polynomial tabC
  simp only [Nonlin.tab_size]

theorem gradientNorm_size (c : Cfg ℂ) (C : ℕ) (scale : ℂ) (zeroFix : Bool) (uh : MC ℂ) :
    (gradientNorm c C scale zeroFix uh).size = C := by
  unfold gradientNorm tab2
  simp only [Nonlin.tab_size]

theorem general_size (c : Cfg ℂ) (C : ℕ) (s0 s1 s2 : ℂ) (zeroFix : Bool) (uh : MC ℂ) :
    (general c C s0 s1 s2 zeroFix uh).size = C := by
  unfold general tab2
  simp only [Nonlin.tab_size]

theorem convection_single_nc_size (c : Cfg ℂ) (C : ℕ) (scale : ℂ) (uh : MC ℂ) :
    (convection c C scale true false uh).size = 1 := by
  unfold convection tab2
  simp only [↓reduceIte, Bool.false_eq_true, Nonlin.tab_size]

theorem convection_single_conservative_channel (c : Cfg ℂ) (C : ℕ) (scale : ℂ) (uh : MC ℂ) (ch : ℕ)
    (hch : ch < C) :
    (convection c C scale true true uh).getD ch #[]
      = (convection c 1 scale true true #[uh.getD ch #[]]).getD 0 #[] := by
  unfold convection
  simp only [↓reduceIte]
  rw [Nonlin.tab2_getD _ _ _ _ hch, Nonlin.tab2_getD _ _ _ _ Nat.zero_lt_one]
  apply Nonlin.tab_congr
  intro h _
  rw [at2_tabC _ _ _ _ hch, at2_tabC _ _ _ _ Nat.zero_lt_one]
  refine congrArg (fun a : Array ℂ => -scale * (qlit 1 2 * sumList ((List.range c.D).map fun d => deriv c d h)
    * a.getD h 0)) ?_
  refine congrArg (nfft c) ?_
  apply Nonlin.tab_congr
  intro x _
  rw [at2_tabC _ _ _ _ hch, at2_tabC _ _ _ _ Nat.zero_lt_one]
  rfl

theorem channels_out_of_range (c : Cfg ℂ) (C : ℕ) (coeffs : List ℂ) (scale s0 s1 s2 : ℂ) (zeroFix : Bool)
    (uh : MC ℂ) (ch : ℕ) (hch : C ≤ ch) (h : ℕ) :
    at2 (polynomial c C coeffs uh) ch h = 0 ∧ at2 (gradientNorm c C scale zeroFix uh) ch h = 0 ∧
    at2 (general c C s0 s1 s2 zeroFix uh) ch h = 0 := by
  refine ⟨?_, ?_, ?_⟩
  · unfold polynomial
    simp only []
    rw [at2_tabC_any, if_neg (by omega)]
  · unfold gradientNorm
    simp only []
    exact at2_tab2_of_le_ch _ _ _ _ _ hch
  · unfold general
    simp only []
    exact at2_tab2_of_le_ch _ _ _ _ _ hch

/-- `AliasND.convection_single_nc_alias_free_nd` with one input channel `û = rfftn x`, every sum and symbol
    written out -/
theorem convection_single_nc_nd_explicit (c : Cfg ℂ) (hD : 0 < c.D) (hq : c.fq ≠ 0)
    (hK : 3 * Kc c < (c.N : ℤ)) (hN : 0 < c.N) (s : ℝ) (hs : c.s = (s : ℂ)) (scale : ℂ) (x : Array ℂ)
    (hx : IsRealND c.D c.N x) (h : ℕ) (hh : h < numModes c.D c.N) :
    (mask c h = 1 →
      at2 (convection c 1 scale true false #[rfftnM c.D c.N x]) 0 h
        = -scale * ∑ d : Fin c.D,
            ((1 / ((c.N ^ c.D : ℕ) : ℂ)) * ∑ p ∈ box c.D (Kc c),
              truncV (Kc c) (dftV c.D c.N x) p *
                (Complex.I * (c.s * (((kvec c.D c.N h d - p d : ℤ)) : ℂ))
                  * truncV (Kc c) (dftV c.D c.N x) (kvec c.D c.N h - p))))
    ∧ (mask c h = 0 → at2 (convection c 1 scale true false #[rfftnM c.D c.N x]) 0 h = 0) := by
  have := convection_single_nc_alias_free_nd c hD hq hK hN s hs 1 Nat.zero_lt_one scale #[rfftnM c.D c.N x] x hx rfl
    h hh
  refine ⟨fun hm => ?_, this.2⟩
  rw [this.1 hm]
  congr 1
  rw [← Fin.sum_univ_eq_sum_range (fun d => linConv c.D c.N (Kc c) (dftV c.D c.N x)
    (dspec c d x) (kvec c.D c.N h)) c.D]
  apply Finset.sum_congr rfl
  intro d _
  exact linConv_u_dspec_explicit c d x x _

/-- with `C ≥ 1` input channels only channel `0` is read and there is one output channel (the source's shape guard
    demands `C = 1` for this variant; the model is total) -/
theorem convection_single_nc_nd_any_channels (c : Cfg ℂ) (hD : 0 < c.D) (hq : c.fq ≠ 0)
    (hK : 3 * Kc c < (c.N : ℤ)) (hN : 0 < c.N) (s : ℝ) (hs : c.s = (s : ℂ)) (C : ℕ) (hC : 0 < C)
    (scale : ℂ) (uh : MC ℂ) (x : Array ℂ) (hx : IsRealND c.D c.N x)
    (huh : uh.getD 0 #[] = rfftnM c.D c.N x) (ch h : ℕ) (hh : h < numModes c.D c.N) :
    (ch = 0 → mask c h = 1 →
      at2 (convection c C scale true false uh) ch h
        = -scale * ∑ d ∈ range c.D,
            linConv c.D c.N (Kc c) (dftV c.D c.N x) (dspec c d x) (kvec c.D c.N h))
    ∧ (mask c h = 0 → at2 (convection c C scale true false uh) ch h = 0)
    ∧ (0 < ch → at2 (convection c C scale true false uh) ch h = 0) := by
  refine ⟨fun h0 hm => ?_, fun hm => convection_zero_off_band c C scale true false uh ch h hm, fun hc => ?_⟩
  · subst h0
    exact (convection_single_nc_alias_free_nd c hD hq hK hN s hs C hC scale uh x hx huh h hh).1 hm
  · unfold convection
    simp only [↓reduceIte, Bool.false_eq_true]
    exact at2_tab2_of_le_ch _ _ _ _ _ hc

end Exponax.AliasMulti
