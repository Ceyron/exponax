import ExponaxModel.Proofs.EquivarianceND
/-
C08 in general dimension: the nonlinear model terms are translation equivariant in every dimension
`D`, for every channel count, every `N ≥ 1`, every shift vector `s : List ℤ`, arbitrary complex
stored spectra and any dealiasing fraction: convection (all four flag combinations), polynomial,
reaction (any pointwise reaction function, hence Gray–Scott and Belousov–Zhabotinsky), Cahn–Hilliard,
gradient norm (both `zeroFix`), `GeneralNonlinearFun`, `VorticityConvection2d`, `ProjectedConvection3d`.

Each term `T` comes as `T_termEquivariant : TermEquivariant c s T`; the explicit form on the input
`shiftMC c.D c.N s uh` is `TermEquivariant.shiftMC` (written out for Gray–Scott and BZ).  Each is the walk
`Stage.T_termRel` of the term at the translation instance `shiftRel`; the side conditions of the walks are empty
there (`P = ⊤`, `Cov g g`).  `vorticity2d` and `projected3d` have no walk in `StageRel`: they are taken stage by
stage from the fields of `shiftRel`.

The last two terms: without injection for every shift vector, with Kolmogorov injection `(m, γ)` for the
shift vectors with `N ∣ m · s₁` (the injected spectrum is supported on `(0, m)` in 2-D and `(0, ±m, 0)`
in 3-D, whose shift phase `e^{-2πi (±m) s₁ / N}` must be `1`); arbitrary shifts along the other axes.
In particular (`dvd_of_forcing_period`) for `m ∣ N` every shift of axis 1 by a multiple of the forcing
period `N / m`.
-/
namespace Exponax.EquivND
open Exponax Exponax.Layout Exponax.Transform Exponax.Nonlin Exponax.Alias Exponax.Symmetry
open Exponax.SymmetryND

theorem convection_termEquivariant (c : Cfg ℂ) (hN : 0 < c.N) (C : ℕ) (scale : ℂ)
    (single conservative : Bool) (s : List ℤ) :
    TermEquivariant c s (convection c C scale single conservative) := by
  cases single <;> cases conservative
  -- multi-channel walks: the channel map is `id` (injective), every `deriv c j` is its own partner
  · exact termEquivariant_of_termRel (Stage.convection_multi_noncons_termRel (shiftRel c hN s) C
      (AxisPerm.id_lt_iff C) (fun _ _ _ _ h => h) (fun _ _ => shiftRel_cov c hN s _) scale (Subfield.mem_top _))
  · exact termEquivariant_of_termRel (Stage.convection_multi_cons_termRel (shiftRel c hN s) C
      (AxisPerm.id_lt_iff C) (fun _ _ _ _ h => h) (fun _ _ => shiftRel_cov c hN s _) scale (Subfield.mem_top _))
  · exact termEquivariant_of_termRel
      (Stage.convection_noncons_termRel (shiftRel c hN s) C scale (Subfield.mem_top _))
  · exact termEquivariant_of_termRel
      (Stage.convection_cons_termRel (shiftRel c hN s) C (AxisPerm.id_lt_iff C) scale (Subfield.mem_top _))

theorem polynomial_termEquivariant (c : Cfg ℂ) (hN : 0 < c.N) (C : ℕ) (coeffs : List ℂ) (s : List ℤ) :
    TermEquivariant c s (polynomial c C coeffs) :=
  termEquivariant_of_termRel
    (Stage.polynomial_termRel (shiftRel c hN s) C (AxisPerm.id_lt_iff C) coeffs fun _ _ => Subfield.mem_top _)

theorem reaction_termEquivariant (c : Cfg ℂ) (hN : 0 < c.N) (C : ℕ) (react : List ℂ → List ℂ)
    (s : List ℤ) : TermEquivariant c s (reaction c C react) :=
  termEquivariant_of_termRel (Stage.reaction_termRel (shiftRel c hN s) C react fun _ _ _ => Subfield.mem_top _)

theorem grayScott_equivariant_nd (c : Cfg ℂ) (hN : 0 < c.N) (feed kill : ℂ) (s : List ℤ)
    (uh : MC ℂ) (ch h : ℕ) (hh : h < modes c) :
    at2 (reaction c 2 (grayScottReact feed kill) (shiftMC c.D c.N s uh)) ch h
      = shiftPhaseND c.D c.N s h * at2 (reaction c 2 (grayScottReact feed kill) uh) ch h :=
  (reaction_termEquivariant c hN 2 _ s).shiftMC uh ch h hh

theorem bz_equivariant_nd (c : Cfg ℂ) (hN : 0 < c.N) (s : List ℤ) (uh : MC ℂ) (ch h : ℕ)
    (hh : h < modes c) :
    at2 (reaction c 3 bzReact (shiftMC c.D c.N s uh)) ch h
      = shiftPhaseND c.D c.N s h * at2 (reaction c 3 bzReact uh) ch h :=
  (reaction_termEquivariant c hN 3 _ s).shiftMC uh ch h hh

theorem cahnHilliard_termEquivariant (c : Cfg ℂ) (hN : 0 < c.N) (scale : ℂ) (s : List ℤ) :
    TermEquivariant c s (cahnHilliard c scale) :=
  termEquivariant_of_termRel (Stage.cahnHilliard_termRel (shiftRel c hN s) scale (Subfield.mem_top _))

open Finset

theorem gradientNorm_termEquivariant (c : Cfg ℂ) (hN : 0 < c.N) (C : ℕ) (scale : ℂ) (zeroFix : Bool)
    (s : List ℤ) : TermEquivariant c s (gradientNorm c C scale zeroFix) :=
  termEquivariant_of_termRel (Stage.gradientNorm_termRel (shiftRel c hN s) C scale (Subfield.mem_top _) zeroFix)

/-- `GeneralNonlinearFun`: quadratic polynomial + single-channel conservative convection + gradient norm -/
theorem general_termEquivariant (c : Cfg ℂ) (hN : 0 < c.N) (C : ℕ) (s0 s1 s2 : ℂ) (zeroFix : Bool)
    (s : List ℤ) : TermEquivariant c s (general c C s0 s1 s2 zeroFix) :=
  termEquivariant_of_termRel (Stage.general_termRel (shiftRel c hN s) C s0 s1 s2 (Subfield.mem_top _)
    (Subfield.mem_top _) (Subfield.mem_top _) zeroFix)

theorem twiddle_zero (N : ℕ) : (twiddle N 0 : ℂ) = 1 := by
  rw [DFT.twiddle_eq_zpow, zpow_zero]

theorem shiftPhaseND_eq_one (D N : ℕ) (s : List ℤ) (h : ℕ)
    (hd : (N : ℤ) ∣ dotKS D (wnFlat D N h) s) : shiftPhaseND D N s h = 1 := by
  rw [shiftPhaseND, ← twiddle_zero N]
  exact twiddle_congr N ((Int.modEq_zero_iff_dvd).mpr hd)

theorem dotKS_two (k s : List ℤ) : dotKS 2 k s = k.getD 0 0 * s.getD 0 0 + k.getD 1 0 * s.getD 1 0 := by
  rw [dotKS, Finset.sum_range_succ, Finset.sum_range_one]

theorem dotKS_three (k s : List ℤ) :
    dotKS 3 k s = k.getD 0 0 * s.getD 0 0 + k.getD 1 0 * s.getD 1 0 + k.getD 2 0 * s.getD 2 0 := by
  rw [dotKS, Finset.sum_range_succ, Finset.sum_range_succ, Finset.sum_range_one]

/-- for `m ∣ N`, a shift by a multiple `t` of the forcing period `N / m` satisfies the hypothesis
    `N ∣ m · s₁` of the injection theorems -/
theorem dvd_of_forcing_period (N m : ℕ) (hm : m ∣ N) (t : ℤ) :
    (N : ℤ) ∣ (m : ℤ) * (t * ((N / m : ℕ) : ℤ)) := by
  refine ⟨t, ?_⟩
  have : (m : ℤ) * ((N / m : ℕ) : ℤ) = (N : ℤ) := by
    exact_mod_cast Nat.mul_div_cancel' hm
  calc (m : ℤ) * (t * ((N / m : ℕ) : ℤ)) = ((m : ℤ) * ((N / m : ℕ) : ℤ)) * t := by ring
    _ = (N : ℤ) * t := by rw [this]

/-- `mask·fft(u p + v q)` of four fields given by their spectra -/
theorem conv2_specShift (c : Cfg ℂ) (hN : 0 < c.N) (s : List ℤ) (a b p q a' b' p' q' : Array ℂ)
    (ha : SpecShift c s a a') (hb : SpecShift c s b b') (hp : SpecShift c s p p')
    (hq : SpecShift c s q q') :
    SpecShift c s
      (nfft c (tab (gridSize c) fun x =>
        (nifft c a).getD x 0 * (nifft c p).getD x 0 + (nifft c b).getD x 0 * (nifft c q).getD x 0))
      (nfft c (tab (gridSize c) fun x =>
        (nifft c a').getD x 0 * (nifft c p').getD x 0 + (nifft c b').getD x 0 * (nifft c q').getD x 0)) :=
  (shiftRel c hN s).nfft_tab (fun _ _ => Subfield.mem_top _) fun x hx => by
    rw [(shiftRel c hN s).nifft_rel ha x hx, (shiftRel c hN s).nifft_rel hb x hx,
      (shiftRel c hN s).nifft_rel hp x hx, (shiftRel c hN s).nifft_rel hq x hx]

/-- Without injection for every shift vector and every `c` (`c.D = 2` is not used); with Kolmogorov
    injection `(m, γ)` for `D = 2` and the shift vectors with `N ∣ m · s₁` (arbitrary `s₀`), under
    which the injected modes `(0, m)` keep their phase. -/
theorem vorticity2d_termEquivariant_of (c : Cfg ℂ) (hN : 0 < c.N) (scale : ℂ) (inj : Option (ℕ × ℂ))
    (s : List ℤ)
    (hs : ∀ m gam, inj = some (m, gam) → c.D = 2 ∧ (c.N : ℤ) ∣ (m : ℤ) * s.getD 1 0) :
    TermEquivariant c s (vorticity2d c scale inj) := by
  intro uh uh' h
  have hw : ∀ d, SpecShift c s (tab (modes c) fun m => Nonlin.deriv c d m * at2 uh 0 m)
      (tab (modes c) fun m => Nonlin.deriv c d m * at2 uh' 0 m) :=
    fun d => specShift_tab c s _ _ (fun m hm => phase_mul_left _ (h 0 m hm))
  have hpsi : SpecShift c s (tab (modes c) fun k => invLapOne c k * at2 uh 0 k)
      (tab (modes c) fun k => invLapOne c k * at2 uh' 0 k) :=
    specShift_tab c s _ _ (fun m hm => phase_mul_left _ (h 0 m hm))
  have hconv := conv2_specShift c hN s _ _ _ _ _ _ _ _
    ((shiftRel c hN s).S_mul (shiftRel_cov c hN s fun m => Nonlin.deriv c 1 m) hpsi)
    ((shiftRel c hN s).S_mul (shiftRel_cov c hN s fun m => -(Nonlin.deriv c 0 m)) hpsi) (hw 0) (hw 1)
  unfold vorticity2d
  simp only []
  refine mcShift_tab2 c s 1 _ _ (fun i _ k hk => ?_)
  rw [hconv k hk]
  generalize (nfft c _).getD k 0 = X
  rcases inj with _ | ⟨m, gam⟩
  · show -scale * _ = _ * (-scale * X)
    ring
  · obtain ⟨hD, hdvd⟩ := hs m gam rfl
    show (if _ then _ else _) = _ * (if _ then _ else _)
    split_ifs with hcond
    · simp only [Bool.and_eq_true, beq_iff_eq] at hcond
      have hp : shiftPhaseND c.D c.N s k = 1 := by
        apply shiftPhaseND_eq_one
        rw [hD, dotKS_two]
        rw [hD] at hcond
        rw [hcond.1, hcond.2, zero_mul, zero_add]
        exact hdvd
      rw [hp]
      ring
    · ring

theorem vorticity2d_termEquivariant (c : Cfg ℂ) (hN : 0 < c.N) (scale : ℂ) (s : List ℤ) :
    TermEquivariant c s (vorticity2d c scale none) :=
  vorticity2d_termEquivariant_of c hN scale none s (fun _ _ e => (Option.some_ne_none _ e.symm).elim)

theorem vorticity2d_inj_termEquivariant (c : Cfg ℂ) (hD : c.D = 2) (hN : 0 < c.N) (scale : ℂ) (m : ℕ)
    (gam : ℂ) (s : List ℤ) (hs : (c.N : ℤ) ∣ (m : ℤ) * s.getD 1 0) :
    TermEquivariant c s (vorticity2d c scale (some (m, gam))) :=
  vorticity2d_termEquivariant_of c hN scale _ s (fun _ _ e => by
    cases e
    exact ⟨hD, hs⟩)

/-- for `m ∣ N`: shift of axis 1 by `t` forcing periods `N / m`, axis 0 by any `s₀` -/
theorem vorticity2d_inj_equivariant_period (c : Cfg ℂ) (hD : c.D = 2) (hN : 0 < c.N) (scale : ℂ)
    (m : ℕ) (hm : m ∣ c.N) (gam : ℂ) (s0 t : ℤ) (uh : MC ℂ) (ch h : ℕ) (hh : h < modes c) :
    at2 (vorticity2d c scale (some (m, gam))
        (shiftMC c.D c.N [s0, t * ((c.N / m : ℕ) : ℤ)] uh)) ch h
      = shiftPhaseND c.D c.N [s0, t * ((c.N / m : ℕ) : ℤ)] h
        * at2 (vorticity2d c scale (some (m, gam)) uh) ch h :=
  (vorticity2d_inj_termEquivariant c hD hN scale m gam [s0, t * ((c.N / m : ℕ) : ℤ)]
    (dvd_of_forcing_period c.N m hm t)).shiftMC uh ch h hh

/-- the spectral curl `i k × û` -/
theorem curl_mcShift (c : Cfg ℂ) (s : List ℤ) (uh uh' : MC ℂ) (h : MCShift c s uh uh') :
    MCShift c s
      (tab2 3 (modes c) fun i k => proj3 (Gen.Misc.cross_product_3d
        (Nonlin.deriv c 0 k, Nonlin.deriv c 1 k, Nonlin.deriv c 2 k) (at2 uh 0 k, at2 uh 1 k, at2 uh 2 k)) i)
      (tab2 3 (modes c) fun i k => proj3 (Gen.Misc.cross_product_3d
        (Nonlin.deriv c 0 k, Nonlin.deriv c 1 k, Nonlin.deriv c 2 k) (at2 uh' 0 k, at2 uh' 1 k, at2 uh' 2 k)) i) := by
  refine mcShift_tab2 c s 3 _ _ (fun i _ k hk => ?_)
  rw [h 0 k hk, h 1 k hk, h 2 k hk]
  simp only [proj3, Gen.Misc.cross_product_3d]
  split_ifs <;> ring

/-- `leray(mask·fft(u × curl u))`: every shift vector, every `c` (`c.D = 3` is not used) -/
theorem projected3d_termEquivariant (c : Cfg ℂ) (hN : 0 < c.N) (s : List ℤ) :
    TermEquivariant c s (projected3d c none) := by
  intro uh uh' h
  -- the ascriptions read the `id ch` of `field_nifft` at `τ = id` as `ch`, for `simp only` below
  have hvel : ∀ ch x, x < gridSize c → at2 _ ch x = _ :=
    (shiftRel c hN s).field_nifft (AxisPerm.id_lt_iff 3) ((mcs_shiftRel_iff c hN s _ _).mpr h)
  have hcurl : ∀ ch x, x < gridSize c → at2 _ ch x = _ :=
    (shiftRel c hN s).field_nifft (AxisPerm.id_lt_iff 3)
      ((mcs_shiftRel_iff c hN s _ _).mpr (curl_mcShift c s uh uh' h))
  unfold projected3d
  simp only []
  refine mcShift_tab2 c s 3 _ _ (fun i _ k hk => ?_)
  refine leray_mcShift c s _ _ ((mcs_shiftRel_iff c hN s _ _).mp
    ((shiftRel c hN s).mcs_tabC (AxisPerm.id_lt_iff 3) fun i hi => ?_)) i k hk
  rw [id_eq, tab2_getD _ _ _ _ hi, tab2_getD _ _ _ _ hi]
  exact (shiftRel c hN s).nfft_tab (fun _ _ => Subfield.mem_top _)
    fun x hx => by simp only [hvel _ x hx, hcurl _ x hx]

/-- the modes `(0, ±m, 0)` keep their phase under the shifts with `N ∣ m · s₁` -/
theorem inj3_phase (c : Cfg ℂ) (hD : c.D = 3) (m : ℕ) (gam : ℂ) (s : List ℤ)
    (hs : (c.N : ℤ) ∣ (m : ℤ) * s.getD 1 0) (i h : ℕ) :
    shiftPhaseND c.D c.N s h * inj3 c (some (m, gam)) i h = inj3 c (some (m, gam)) i h := by
  have hp : ∀ z : ℤ, (c.N : ℤ) ∣ z * s.getD 1 0 → kInt c 0 h = 0 → kInt c 2 h = 0 → kInt c 1 h = z →
      shiftPhaseND c.D c.N s h = 1 := by
    intro z hz h0 h2 h1
    apply shiftPhaseND_eq_one
    unfold kInt at h0 h1 h2
    rw [hD, dotKS_three]
    rw [hD] at h0 h1 h2
    rwa [h0, h2, h1, zero_mul, zero_mul, zero_add, add_zero]
  simp only [inj3]
  split_ifs with h1 h2
  · rw [hp _ hs h1.2.1 h1.2.2.1 h1.2.2.2, one_mul]
  · rw [hp _ (by rw [neg_mul]; exact dvd_neg.mpr hs) h2.2.1 h2.2.2.1 h2.2.2.2, one_mul]
  · rw [mul_zero]

theorem projected3d_inj_termEquivariant (c : Cfg ℂ) (hD : c.D = 3) (hN : 0 < c.N) (m : ℕ) (gam : ℂ)
    (s : List ℤ) (hs : (c.N : ℤ) ∣ (m : ℤ) * s.getD 1 0) :
    TermEquivariant c s (projected3d c (some (m, gam))) := by
  intro uh uh' h i k hk
  rcases Nat.lt_or_ge i 3 with hi | hi
  · rw [projected3d_inj c _ uh' i k hi hk, projected3d_inj c _ uh i k hi hk,
      projected3d_termEquivariant c hN s uh uh' h i k hk, mul_add, inj3_phase c hD m gam s hs]
  · rw [projected3d_at2_out c _ uh' i k (Or.inl hi), projected3d_at2_out c _ uh i k (Or.inl hi), mul_zero]

/-- for `m ∣ N`: shift of axis 1 by `t` forcing periods `N / m`, axes 0, 2 arbitrary -/
theorem projected3d_inj_equivariant_period (c : Cfg ℂ) (hD : c.D = 3) (hN : 0 < c.N) (m : ℕ)
    (hm : m ∣ c.N) (gam : ℂ) (s0 t s2 : ℤ) (uh : MC ℂ) (ch h : ℕ) (hh : h < modes c) :
    at2 (projected3d c (some (m, gam))
        (shiftMC c.D c.N [s0, t * ((c.N / m : ℕ) : ℤ), s2] uh)) ch h
      = shiftPhaseND c.D c.N [s0, t * ((c.N / m : ℕ) : ℤ), s2] h
        * at2 (projected3d c (some (m, gam)) uh) ch h :=
  (projected3d_inj_termEquivariant c hD hN m gam [s0, t * ((c.N / m : ℕ) : ℤ), s2]
    (dvd_of_forcing_period c.N m hm t)).shiftMC uh ch h hh

/-- `D = 2`, `N = 8`, forcing mode `m = 2` (period 4): shifts `(s₀, 4t)` satisfy the hypothesis -/
example : ∃ (c : Cfg ℂ) (m : ℕ) (s : List ℤ), c.D = 2 ∧ 0 < c.N ∧ (c.N : ℤ) ∣ (m : ℤ) * s.getD 1 0 ∧
    s.getD 1 0 ≠ 0 ∧ ∃ h, h < modes c :=
  ⟨⟨2, 8, 1, 2, 3⟩, 2, [3, 4], rfl, by norm_num, by norm_num, by norm_num, 7, by decide⟩

example : ∃ (c : Cfg ℂ) (m : ℕ) (s : List ℤ), c.D = 3 ∧ 0 < c.N ∧ (c.N : ℤ) ∣ (m : ℤ) * s.getD 1 0 ∧
    s.getD 1 0 ≠ 0 ∧ ∃ h, h < modes c :=
  ⟨⟨3, 4, 1, 2, 3⟩, 2, [1, 2, 3], rfl, by norm_num, by norm_num, by norm_num, 11, by decide⟩

example : ∃ (N m : ℕ), 0 < m ∧ m ∣ N := ⟨8, 2, by norm_num, by norm_num⟩

set_option linter.unusedVariables false

example : ∃ (c : Cfg ℂ) (ch h : ℕ), 0 < c.N ∧ h < modes c :=
  ⟨⟨2, 4, 1, 2, 3⟩, 1, 5, by norm_num, by decide⟩
example : ∃ (c : Cfg ℂ) (ch h : ℕ), 0 < c.N ∧ h < modes c :=
  ⟨⟨3, 3, 1, 2, 3⟩, 2, 17, by norm_num, by decide⟩

end Exponax.EquivND
