import ExponaxModel.Proofs.AliasND2Vort
import ExponaxModel.Proofs.LerayAlgebra
/-
C03: `ProjectedConvection3d` without injection (`projected3d c none`), `D = 3`, cut-off
`3·Kc < N`.

Model pipeline (`Model/Nonlin.lean`, `projected3d`), all cross products being the REGENERATED
`Gen.Misc.cross_product_3d`:

  `ω̂ = (i s k) × û` (stored modes) → `ω = ifft(mask·ω̂)`, `u = ifft(mask·û)` → `u × ω` pointwise
  → `mask·fft(·)` → Leray projection `P = 1 − d Δ̂⁻¹ dᵀ` with the guarded inverse
  `Δ̂⁻¹ = where(Δ̂ ≠ 0, 1/Δ̂, 0)` (so `P = identity` at `k = 0`).
-/
namespace Exponax.AliasND
open Exponax Exponax.Layout Exponax.Transform Exponax.DFT Exponax.Nonlin Exponax.Alias Finset
open Exponax.Gen.Misc

theorem map_proj3_cross (φ : ℂ →+* ℂ) (a b : ℂ × ℂ × ℂ) (i : ℕ) :
    φ (proj3 (cross_product_3d a b) i)
      = proj3 (cross_product_3d (φ a.1, φ a.2.1, φ a.2.2) (φ b.1, φ b.2.1, φ b.2.2)) i := by
  simp only [proj3, cross_product_3d, apply_ite φ, map_sub, map_mul]

noncomputable def lerayPsym (c : Cfg ℂ) (i e : ℕ) (p : Fin c.D → ℤ) : ℂ :=
  (if i = e then 1 else 0) - dsym c i p * invLapZeroSym c p * dsym c e p

theorem dsym_zero (c : Cfg ℂ) (d : ℕ) : dsym c d 0 = 0 := by
  unfold dsym comp
  split_ifs <;> simp

theorem lerayPsym_zero (c : Cfg ℂ) (i e : ℕ) : lerayPsym c i e 0 = if i = e then 1 else 0 := by
  unfold lerayPsym
  rw [dsym_zero, zero_mul, zero_mul, sub_zero]

theorem lapsym_eq_zero_iff (c : Cfg ℂ) (s : ℝ) (hs : c.s = (s : ℂ)) (hs0 : s ≠ 0)
    (p : Fin c.D → ℤ) : lapsym c p = 0 ↔ p = 0 := by
  have hcs : c.s ^ 2 ≠ 0 := by
    rw [hs]
    exact pow_ne_zero 2 (Complex.ofReal_ne_zero.mpr hs0)
  rw [lapsym_eq, neg_eq_zero, mul_eq_zero, or_iff_right hcs]
  constructor
  · intro h0
    have h1 : ∑ d : Fin c.D, p d ^ 2 = 0 := by exact_mod_cast h0
    exact funext fun d => pow_eq_zero_iff two_ne_zero |>.mp
      ((Finset.sum_eq_zero_iff_of_nonneg fun d _ => sq_nonneg (p d)).mp h1 d (Finset.mem_univ d))
  · rintro rfl
    exact Finset.sum_eq_zero fun d _ => by rw [Pi.zero_apply, Int.cast_zero, zero_pow two_ne_zero]

theorem invLapZeroSym_eq (c : Cfg ℂ) (s : ℝ) (hs : c.s = (s : ℂ)) (hs0 : s ≠ 0)
    (p : Fin c.D → ℤ) :
    invLapZeroSym c p
      = if p = 0 then 0 else -(1 / (c.s ^ 2 * ∑ d : Fin c.D, ((p d : ℤ) : ℂ) ^ 2)) := by
  unfold invLapZeroSym
  simp only [lapsym_eq_zero_iff c s hs hs0 p]
  split_ifs
  · rfl
  · rw [lapsym_eq, one_div, one_div, inv_neg]

theorem leray_entry_eq_lerayPsym (c : Cfg ℂ) (i e : ℕ) (hi : i < c.D) (he : e < c.D) (h : ℕ) :
    (if i = e then (1 : ℂ) else 0) - Nonlin.deriv c i h * invLapZero c h * Nonlin.deriv c e h
      = lerayPsym c i e (kvec c.D c.N h) := by
  rw [deriv_eq_dsym c i hi h, deriv_eq_dsym c e he h, invLapZero_eq_invLapZeroSym]
  rfl

noncomputable def dsymVec (c : Cfg ℂ) (p : Fin c.D → ℤ) : ℂ × ℂ × ℂ :=
  (dsym c 0 p, dsym c 1 p, dsym c 2 p)

noncomputable def velSpec (c : Cfg ℂ) (xs : ℕ → Array ℂ) (p : Fin c.D → ℤ) : ℂ × ℂ × ℂ :=
  (dftV c.D c.N (xs 0) p, dftV c.D c.N (xs 1) p, dftV c.D c.N (xs 2) p)

noncomputable def curlSpec (c : Cfg ℂ) (xs : ℕ → Array ℂ) (i : ℕ) : (Fin c.D → ℤ) → ℂ :=
  fun p => proj3 (cross_product_3d (dsymVec c p) (velSpec c xs p)) i

theorem conj_curlSpec (c : Cfg ℂ) (s : ℝ) (hs : c.s = (s : ℂ)) (xs : ℕ → Array ℂ)
    (hx : ∀ ch, ch < 3 → IsRealND c.D c.N (xs ch)) (i : ℕ) (p : Fin c.D → ℤ) :
    (starRingEnd ℂ) (curlSpec c xs i p) = curlSpec c xs i (-p) := by
  unfold curlSpec
  rw [map_proj3_cross]
  simp only [dsymVec, velSpec]
  rw [conj_dsym c s hs, conj_dsym c s hs, conj_dsym c s hs,
    conj_dftV c.D c.N _ (hx 0 (by norm_num)), conj_dftV c.D c.N _ (hx 1 (by norm_num)),
    conj_dftV c.D c.N _ (hx 2 (by norm_num))]

theorem curlSpec_zero (c : Cfg ℂ) (xs : ℕ → Array ℂ) :
    curlSpec c xs 0 = fun p => dspec c 1 (xs 2) p - dspec c 2 (xs 1) p := by
  funext p
  unfold curlSpec
  rw [proj3_cross_zero]
  rfl

theorem curlSpec_one (c : Cfg ℂ) (xs : ℕ → Array ℂ) :
    curlSpec c xs 1 = fun p => dspec c 2 (xs 0) p - dspec c 0 (xs 2) p := by
  funext p
  unfold curlSpec
  rw [proj3_cross_one]
  rfl

theorem curlSpec_two (c : Cfg ℂ) (xs : ℕ → Array ℂ) :
    curlSpec c xs 2 = fun p => dspec c 0 (xs 1) p - dspec c 1 (xs 0) p := by
  funext p
  unfold curlSpec
  rw [proj3_cross_two]
  rfl

/-- the stored spectrum `((i s k) × û)_i` built by `projected3d` -/
noncomputable def curlHat (c : Cfg ℂ) (uh : MC ℂ) (i : ℕ) : Array ℂ :=
  tab (modes c) fun h =>
    proj3 (cross_product_3d (deriv c 0 h, deriv c 1 h, deriv c 2 h)
      (at2 uh 0 h, at2 uh 1 h, at2 uh 2 h)) i

noncomputable def curlField (c : Cfg ℂ) (uh : MC ℂ) (i : ℕ) : Array ℂ := nifft c (curlHat c uh i)

theorem boxSpec_curlField (c : Cfg ℂ) (hD : c.D = 3) (hq : c.fq ≠ 0) (hN : 0 < c.N)
    (h2 : 2 * Kc c < (c.N : ℤ)) (s : ℝ) (hs : c.s = (s : ℂ)) (uh : MC ℂ) (xs : ℕ → Array ℂ)
    (hx : ∀ ch, ch < 3 → IsRealND c.D c.N (xs ch))
    (huh : ∀ ch, ch < 3 → uh.getD ch #[] = rfftnM c.D c.N (xs ch)) (i : ℕ) :
    BoxSpec c (curlField c uh i) (curlSpec c xs i) := by
  refine ⟨nifft_bandLimitedV c hq hN _,
    dftV_nifft_of_hermitian c (by omega) hq hN h2 _ (curlSpec c xs i) fun h hh _ => ?_⟩
  have hM : h < modes c := hh
  have hu : ∀ j, j < 3 → at2 uh j h = dftV c.D c.N (xs j) (kvec c.D c.N h) := by
    intro j hj
    show (uh.getD j #[]).getD h 0 = _
    rw [huh j hj, rfftn_eq_dftV c.D c.N hN _ h hh]
  have e : (curlHat c uh i).getD h 0 = curlSpec c xs i (kvec c.D c.N h) := by
    unfold curlHat
    rw [Nonlin.tab_getD _ _ _ _ hM, deriv_eq_dsym c 0 (by omega) h, deriv_eq_dsym c 1 (by omega) h,
      deriv_eq_dsym c 2 (by omega) h, hu 0 (by norm_num), hu 1 (by norm_num), hu 2 (by norm_num)]
    rfl
  exact ⟨e, by rw [e, conj_curlSpec c s hs xs hx]⟩

noncomputable def crossConv (D N : ℕ) (K : ℤ) (V W : ℕ → (Fin D → ℤ) → ℂ) (i : ℕ)
    (k : Fin D → ℤ) : ℂ :=
  (1 / ((N ^ D : ℕ) : ℂ)) * ∑ p ∈ box D K,
    proj3 (cross_product_3d (truncV K (V 0) p, truncV K (V 1) p, truncV K (V 2) p)
      (truncV K (W 0) (k - p), truncV K (W 1) (k - p), truncV K (W 2) (k - p))) i

theorem crossConv_zero (D N : ℕ) (K : ℤ) (V W : ℕ → (Fin D → ℤ) → ℂ) (k : Fin D → ℤ) :
    crossConv D N K V W 0 k = linConv D N K (V 1) (W 2) k - linConv D N K (V 2) (W 1) k := by
  unfold crossConv linConv
  rw [← mul_sub, ← Finset.sum_sub_distrib]
  simp only [proj3_cross_zero]

theorem crossConv_one (D N : ℕ) (K : ℤ) (V W : ℕ → (Fin D → ℤ) → ℂ) (k : Fin D → ℤ) :
    crossConv D N K V W 1 k = linConv D N K (V 2) (W 0) k - linConv D N K (V 0) (W 2) k := by
  unfold crossConv linConv
  rw [← mul_sub, ← Finset.sum_sub_distrib]
  simp only [proj3_cross_one]

theorem crossConv_two (D N : ℕ) (K : ℤ) (V W : ℕ → (Fin D → ℤ) → ℂ) (k : Fin D → ℤ) :
    crossConv D N K V W 2 k = linConv D N K (V 0) (W 1) k - linConv D N K (V 1) (W 0) k := by
  unfold crossConv linConv
  rw [← mul_sub, ← Finset.sum_sub_distrib]
  simp only [proj3_cross_two]

theorem dftV_cross_of_box {c : Cfg ℂ} (hN : 0 < c.N) (hK : 3 * Kc c < (c.N : ℤ))
    (v w : ℕ → Array ℂ) (V W : ℕ → (Fin c.D → ℤ) → ℂ)
    (hv : ∀ j, j < 3 → BoxSpec c (v j) (V j)) (hw : ∀ j, j < 3 → BoxSpec c (w j) (W j))
    (i : ℕ) (hi : i < 3) (k : Fin c.D → ℤ) (hk : ∀ d, |k d| ≤ Kc c) :
    dftV c.D c.N (tab (c.N ^ c.D) fun x =>
        proj3 (cross_product_3d ((v 0).getD x 0, (v 1).getD x 0, (v 2).getD x 0)
          ((w 0).getD x 0, (w 1).getD x 0, (w 2).getD x 0)) i) k
      = crossConv c.D c.N (Kc c) V W i k := by
  have key : ∀ a b, a < 3 → b < 3 →
      dftV c.D c.N (tab (c.N ^ c.D) fun x => (v a).getD x 0 * (w b).getD x 0) k
        = linConv c.D c.N (Kc c) (V a) (W b) k := fun a b ha hb =>
    (hv a ha).dftV_mul (hw b hb) hN hK k hk
  interval_cases i
  · rw [crossConv_zero, ← key 1 2 (by norm_num) (by norm_num), ← key 2 1 (by norm_num) (by norm_num),
      ← dftV_sub]
    simp only [proj3_cross_zero]
  · rw [crossConv_one, ← key 2 0 (by norm_num) (by norm_num), ← key 0 2 (by norm_num) (by norm_num),
      ← dftV_sub]
    simp only [proj3_cross_one]
  · rw [crossConv_two, ← key 0 1 (by norm_num) (by norm_num), ← key 1 0 (by norm_num) (by norm_num),
      ← dftV_sub]
    simp only [proj3_cross_two]

/-- `ProjectedConvection3d` without injection read off the pipeline, for any stored input; `(u × ω)_e` is
    `Conserve.crossGrid c uh e`, whose `curlGrid c uh j x` is entry `x` of `curlField c uh j` -/
theorem projected3d_nd_readoff (c : Cfg ℂ) (hD : c.D = 3) (hN : 0 < c.N) (uh : MC ℂ)
    (i : ℕ) (hi : i < 3) (h : ℕ) (hh : h < numModes c.D c.N) :
    at2 (projected3d c none uh) i h
      = ∑ e ∈ range 3, ((if i = e then (1 : ℂ) else 0) - Nonlin.deriv c i h * invLapZero c h * Nonlin.deriv c e h)
          * (mask c h * dftV c.D c.N (tab (gridSize c) (Conserve.crossGrid c uh e)) (kvec c.D c.N h)) := by
  have hM : h < modes c := hh
  have hr : range c.D = range 3 := by rw [hD]
  rw [Conserve.projected3d_none_eq c uh i h hi hM, at2_leray_matrix c _ i h (by omega) hM, hr]
  refine Finset.sum_congr rfl fun e he => ?_
  rw [at2_tabC _ _ _ _ (Finset.mem_range.mp he), nfft_nd c hN _ h hh]

theorem projected3d_zero_off_band (c : Cfg ℂ) (hD : c.D = 3) (hN : 0 < c.N) (uh : MC ℂ)
    (i : ℕ) (hi : i < 3) (h : ℕ) (hh : h < numModes c.D c.N) (hm : mask c h = 0) :
    at2 (projected3d c none uh) i h = 0 := by
  rw [projected3d_nd_readoff c hD hN uh i hi h hh]
  apply Finset.sum_eq_zero
  intro e _
  rw [hm, zero_mul, mul_zero]

noncomputable def rotSpec (c : Cfg ℂ) (xs : ℕ → Array ℂ) (e : ℕ) (k : Fin c.D → ℤ) : ℂ :=
  crossConv c.D c.N (Kc c) (fun j => dftV c.D c.N (xs j)) (curlSpec c xs) e k

theorem dftV_crossGrid (c : Cfg ℂ) (hD : c.D = 3) (hq : c.fq ≠ 0) (hK : 3 * Kc c < (c.N : ℤ))
    (hN : 0 < c.N) (s : ℝ) (hs : c.s = (s : ℂ)) (uh : MC ℂ) (xs : ℕ → Array ℂ)
    (hx : ∀ ch, ch < 3 → IsRealND c.D c.N (xs ch))
    (huh : ∀ ch, ch < 3 → uh.getD ch #[] = rfftnM c.D c.N (xs ch))
    (e : ℕ) (he : e < 3) (k : Fin c.D → ℤ) (hk : ∀ d, |k d| ≤ Kc c) :
    dftV c.D c.N (tab (gridSize c) (Conserve.crossGrid c uh e)) k = rotSpec c xs e k := by
  have h2 := two_lt_of_three c.N (Kc c) hK
  exact dftV_cross_of_box hN hK (fun j => nifft c (uh.getD j #[])) (curlField c uh)
    (fun j => dftV c.D c.N (xs j)) (curlSpec c xs)
    (fun j hj => huh j hj ▸ boxSpec_nifft_rfftn c (by omega) hq hN h2 (xs j) (hx j hj))
    (fun j _ => boxSpec_curlField c hD hq hN h2 s hs uh xs hx huh j) e he k hk

/-- for real velocity components `xs 0, xs 1, xs 2` with `û_j = rfftnM 3 N (xs j)`, output channel `i` at a retained
    stored mode is the Leray projector symbol (`lerayPsym`, the identity at `p = 0`) applied to `rotSpec`, the
    ALIAS-FREE spectrum of `u × ω` for the band-truncated velocity, `ω̂(p) = (i s p) × U(p)`, both `×` the
    regenerated `cross_product_3d` -/
theorem projected3d_alias_free (c : Cfg ℂ) (hD : c.D = 3) (hq : c.fq ≠ 0)
    (hK : 3 * Kc c < (c.N : ℤ)) (hN : 0 < c.N) (s : ℝ) (hs : c.s = (s : ℂ)) (uh : MC ℂ)
    (xs : ℕ → Array ℂ) (hx : ∀ ch, ch < 3 → IsRealND c.D c.N (xs ch))
    (huh : ∀ ch, ch < 3 → uh.getD ch #[] = rfftnM c.D c.N (xs ch))
    (i : ℕ) (hi : i < 3) (h : ℕ) (hh : h < numModes c.D c.N) :
    (mask c h = 1 →
      at2 (projected3d c none uh) i h
        = ∑ e ∈ range 3, lerayPsym c i e (kvec c.D c.N h) * rotSpec c xs e (kvec c.D c.N h))
    ∧ (mask c h = 0 → at2 (projected3d c none uh) i h = 0) := by
  refine ⟨fun hm => ?_, fun hm => projected3d_zero_off_band c hD hN uh i hi h hh hm⟩
  have hk : ∀ d, |kvec c.D c.N h d| ≤ Kc c := (mask_nd_eq_one_iff c hq h).mp hm
  rw [projected3d_nd_readoff c hD hN uh i hi h hh]
  apply Finset.sum_congr rfl
  intro e he
  have he' := Finset.mem_range.mp he
  rw [hm, one_mul, leray_entry_eq_lerayPsym c i e (by omega) (by omega) h,
    dftV_crossGrid c hD hq hK hN s hs uh xs hx huh e he' _ hk]

/-- `rotSpec` is the alias-free coefficient of `(u × ω)_e = Σ_j u_j ∂_e u_j − Σ_j u_j ∂_j u_e
    = ∂_e(½|u|²) − (u·∇)u_e` for the band-truncated velocity -/
theorem rotSpec_eq_linConv (c : Cfg ℂ) (xs : ℕ → Array ℂ) (e : ℕ) (he : e < 3) (k : Fin c.D → ℤ) :
    rotSpec c xs e k
      = ∑ j ∈ range 3, (linConv c.D c.N (Kc c) (dftV c.D c.N (xs j)) (dspec c e (xs j)) k
          - linConv c.D c.N (Kc c) (dftV c.D c.N (xs j)) (dspec c j (xs e)) k) := by
  rw [Finset.sum_range_succ, Finset.sum_range_succ, Finset.sum_range_one, rotSpec]
  interval_cases e
  · rw [crossConv_zero, curlSpec_two, curlSpec_one, linConv_sub_right, linConv_sub_right]
    ring
  · rw [crossConv_one, curlSpec_zero, curlSpec_two, linConv_sub_right, linConv_sub_right]
    ring
  · rw [crossConv_two, curlSpec_one, curlSpec_zero, linConv_sub_right, linConv_sub_right]
    ring

/-- `projected3d_alias_free` with `rotSpec` written out by `rotSpec_eq_linConv` -/
theorem projected3d_alias_free_explicit (c : Cfg ℂ) (hD : c.D = 3) (hq : c.fq ≠ 0)
    (hK : 3 * Kc c < (c.N : ℤ)) (hN : 0 < c.N) (s : ℝ) (hs : c.s = (s : ℂ)) (uh : MC ℂ)
    (xs : ℕ → Array ℂ) (hx : ∀ ch, ch < 3 → IsRealND c.D c.N (xs ch))
    (huh : ∀ ch, ch < 3 → uh.getD ch #[] = rfftnM c.D c.N (xs ch))
    (i : ℕ) (hi : i < 3) (h : ℕ) (hh : h < numModes c.D c.N) :
    (mask c h = 1 →
      at2 (projected3d c none uh) i h
        = ∑ e ∈ range 3, lerayPsym c i e (kvec c.D c.N h) *
            ∑ j ∈ range 3,
              (linConv c.D c.N (Kc c) (dftV c.D c.N (xs j)) (dspec c e (xs j)) (kvec c.D c.N h)
                - linConv c.D c.N (Kc c) (dftV c.D c.N (xs j)) (dspec c j (xs e)) (kvec c.D c.N h)))
    ∧ (mask c h = 0 → at2 (projected3d c none uh) i h = 0) := by
  have := projected3d_alias_free c hD hq hK hN s hs uh xs hx huh i hi h hh
  refine ⟨fun hm => ?_, this.2⟩
  rw [this.1 hm]
  apply Finset.sum_congr rfl
  intro e he
  rw [rotSpec_eq_linConv c xs e (Finset.mem_range.mp he)]

theorem projected3d_alias_free_two_thirds (c : Cfg ℂ) (hD : c.D = 3) (hp : c.fp = 2) (hq : c.fq = 3)
    (hN : 0 < c.N) (s : ℝ) (hs : c.s = (s : ℂ)) (uh : MC ℂ)
    (xs : ℕ → Array ℂ) (hx : ∀ ch, ch < 3 → IsRealND c.D c.N (xs ch))
    (huh : ∀ ch, ch < 3 → uh.getD ch #[] = rfftnM c.D c.N (xs ch))
    (i : ℕ) (hi : i < 3) (h : ℕ) (hh : h < numModes c.D c.N) :
    (mask c h = 1 →
      at2 (projected3d c none uh) i h
        = ∑ e ∈ range 3, lerayPsym c i e (kvec c.D c.N h) * rotSpec c xs e (kvec c.D c.N h))
    ∧ (mask c h = 0 → at2 (projected3d c none uh) i h = 0) :=
  projected3d_alias_free c hD (by omega) (Kc_two_thirds c hp hq).1 hN s hs uh xs hx huh i hi h hh

end Exponax.AliasND
