import Mathlib.Tactic
import Mathlib.Data.Int.ModEq
import Mathlib.Analysis.Real.Sqrt
import Mathlib.Algebra.Order.Floor.Ring
import Mathlib.Data.Rat.Floor
import ExponaxModel.Proofs.LayoutLemmas
import ExponaxModel.Generated.SpectralLayout
/-
The per-entry semantics of the library primitives that `harness/translate_layout.py` writes into
`Generated/SpectralLayout.lean` (`jnp_round`, `jnp_fftfreq`, `jnp_rfftfreq`, `stack_meshgrid`, `l2norm_le`,
`itertools_product`, `py_range`, `jnp_linspace`, `wrap_index`).  `l2norm_ge`, `l2norm_lt` and `lax_scan` are treated in
`SpectralOpsBasic.lean`.
-/
namespace Exponax
open Exponax.Layout Exponax.Gen.SpectralLayout

theorem rat_floor_eq (q : ℚ) : q.floor = ⌊q⌋ := rfl

theorem jnp_round_intCast (z : ℤ) : jnp_round (z : ℚ) = z := by
  unfold jnp_round
  simp [rat_floor_eq]

/-- robustness (the reason for the `jnp.round` in `build_wavenumbers`): every value within `1/2` of
    an integer is rounded to that integer -/
theorem jnp_round_near (q : ℚ) (z : ℤ) (h : |q - z| < 1 / 2) : jnp_round q = z := by
  obtain ⟨h1, h2⟩ := abs_lt.1 h
  unfold jnp_round
  rcases le_or_gt (z : ℚ) q with hq | hq
  · have hf : q.floor = z := Int.floor_eq_iff.2 ⟨hq, by linarith only [h2]⟩
    simp only [hf]
    rw [if_pos h2]
  · have hf : q.floor = z - 1 := by
      rw [rat_floor_eq, Int.floor_eq_iff, Int.cast_sub, Int.cast_one, sub_add_cancel]
      exact ⟨by linarith only [h1], hq⟩
    have h4 : (1 : ℚ) / 2 < q - ((z - 1 : ℤ) : ℚ) := by
      rw [Int.cast_sub, Int.cast_one]; linarith only [h1]
    simp only [hf]
    rw [if_neg (not_lt.2 h4.le), if_pos h4, sub_add_cancel]

theorem toNat_pred (D : ℕ) : Int.toNat ((D : ℤ) - (1 : ℤ)) = D - 1 := by omega

theorem jnp_rfftfreq_get (N i : ℕ) (hN : 0 < N) :
    (jnp_rfftfreq N (((1 : ℕ) : ℚ) / ((N : ℕ) : ℚ))).get i = ((rfftfreq N i : ℤ) : ℚ) := by
  have h : (N : ℚ) ≠ 0 := Nat.cast_ne_zero.2 hN.ne'
  simp only [jnp_rfftfreq, rfftfreq, Nat.cast_one, one_div_mul_cancel h, div_one, Int.cast_natCast]

theorem jnp_fftfreq_get (N i : ℕ) (hN : 0 < N) :
    (jnp_fftfreq N (((1 : ℕ) : ℚ) / ((N : ℕ) : ℚ))).get i = ((fftfreq N i : ℤ) : ℚ) := by
  have h : (N : ℚ) ≠ 0 := Nat.cast_ne_zero.2 hN.ne'
  have hk : (if i < (N - 1) / 2 + 1 then (i : ℤ)
      else -((N / 2 : ℕ) : ℤ) + ((i : ℤ) - (((N - 1) / 2 + 1 : ℕ) : ℤ))) = fftfreq N i := by
    unfold fftfreq
    split_ifs <;> omega
  simp only [jnp_fftfreq, hk, Nat.cast_one, one_div_mul_cancel h, div_one]

@[simp] theorem jnp_rfftfreq_len (N : ℕ) (d : ℚ) : (jnp_rfftfreq N d).len = N / 2 + 1 := rfl
@[simp] theorem jnp_fftfreq_len (N : ℕ) (d : ℚ) : (jnp_fftfreq N d).len = N := rfl

theorem rightmost_vec (N : ℕ) (hN : 0 < N) :
    Vec.mk (jnp_rfftfreq N (((1 : ℕ) : ℚ) / ((N : ℕ) : ℚ))).len
        (fun i_ => jnp_round ((jnp_rfftfreq N (((1 : ℕ) : ℚ) / ((N : ℕ) : ℚ))).get i_)) =
      Vec.mk (N / 2 + 1) (fun i => rfftfreq N i) := by
  congr 1
  funext i
  rw [jnp_rfftfreq_get N i hN, jnp_round_intCast]

theorem other_vec (N : ℕ) (hN : 0 < N) :
    Vec.mk (jnp_fftfreq N (((1 : ℕ) : ℚ) / ((N : ℕ) : ℚ))).len
        (fun i_ => jnp_round ((jnp_fftfreq N (((1 : ℕ) : ℚ) / ((N : ℕ) : ℚ))).get i_)) =
      Vec.mk N (fun i => fftfreq N i) := by
  congr 1
  funext i
  rw [jnp_fftfreq_get N i hN, jnp_round_intCast]

theorem str_ij_ne_xy : (("ij" : String) == "xy") = false := by decide

@[simp] theorem meshgrid_axis_ij (n a : ℕ) : meshgrid_axis n "ij" a = a := by
  simp [meshgrid_axis, str_ij_ne_xy]

theorem meshgrid_axis_xy (n a : ℕ) (hn : 2 ≤ n) :
    meshgrid_axis n "xy" a = if a = 0 then 1 else if a = 1 then 0 else a := by
  simp [meshgrid_axis, hn]

theorem meshgrid_axis_xy_one (a : ℕ) : meshgrid_axis 1 "xy" a = a := by
  simp [meshgrid_axis]

theorem stack_meshgrid_ij {T : Type} (xs : List (Vec T)) (idx : List ℕ) :
    stack_meshgrid xs "ij" idx = xs.mapIdx (fun d x => x.get (idx.getD d 0)) := by
  simp [stack_meshgrid]

@[simp] theorem stack_meshgrid_length {T : Type} (xs : List (Vec T)) (ix : String) (idx : List ℕ) :
    (stack_meshgrid xs ix idx).length = xs.length := by
  simp [stack_meshgrid]

theorem map_getD_range {α β : Type} (f : α → β) (xs : List α) (d : β) :
    (List.range xs.length).map (fun i => (xs.map f).getD i d) = xs.map f := by
  apply List.ext_getElem
  · rw [List.length_map, List.length_range, List.length_map]
  · intro i h1 h2
    rw [List.getElem_map, List.getElem_range, List.getD_eq_getElem?_getD, List.getElem?_eq_getElem h2,
      Option.getD_some]

theorem meshgrid_shape_ij {T : Type} (xs : List (Vec T)) :
    meshgrid_shape xs "ij" = xs.map Vec.len := by
  simp only [meshgrid_shape, meshgrid_axis_ij, map_getD_range]

theorem meshgrid_shape_xy {T : Type} (a b : Vec T) (xs : List (Vec T)) :
    meshgrid_shape (a :: b :: xs) "xy" = b.len :: a.len :: xs.map Vec.len := by
  simp only [meshgrid_shape, List.length_cons, List.range_succ_eq_map, List.map_cons, List.map_map,
    Function.comp_def, meshgrid_axis_xy _ _ (Nat.le_add_left 2 _), List.getD_cons_succ, List.getD_cons_zero,
    Nat.succ_ne_zero, if_false, if_true, Nat.succ_inj, map_getD_range]

theorem mapIdx_replicate_append {α β : Type} (n : ℕ) (a b : α) (f : ℕ → α → β) :
    (List.replicate n a ++ [b]).mapIdx f =
      (List.range (n + 1)).map (fun d => if d = n then f d b else f d a) := by
  apply List.ext_getElem
  · simp
  · intro i h1 h2
    simp at h1
    by_cases hi : i = n
    · subst hi; simp
    · have : i < n := by omega
      simp [this, hi]

theorem mapIdx_replicate {α β : Type} (n : ℕ) (a : α) (f : ℕ → α → β) :
    (List.replicate n a).mapIdx f = (List.range n).map (fun d => f d a) := by
  apply List.ext_getElem <;> simp

theorem getD_cons_replicate {α : Type} (x y d : α) (D a : ℕ) (ha : a < D) :
    (x :: List.replicate D y).getD (a + 1) d = y := by
  rw [List.getD_cons_succ, List.getD_eq_getElem?_getD, List.getElem?_replicate, if_pos ha, Option.getD_some]

theorem foldl_and_eq_all {α : Type} (p : α → Bool) (l : List α) (b : Bool) :
    l.foldl (fun m x => m && p x) b = (b && l.all p) := by
  induction l generalizing b with
  | nil => simp
  | cons a l ih => simp [ih, Bool.and_assoc]

theorem decide_abs_le_div (k p q : ℤ) (hq : 0 < q) :
    decide (((((Int.natAbs k : ℕ) : ℤ) : ℤ) : ℚ) ≤ (p : ℚ) / (q : ℚ)) = absLe k p q := by
  unfold absLe
  have hq' : (0 : ℚ) < (q : ℚ) := by exact_mod_cast hq
  rw [decide_eq_decide, le_div_iff₀ hq']
  exact_mod_cast Iff.rfl

theorem foldl_add_cast (l : List ℤ) : ((l.foldl (· + ·) 0 : ℤ) : ℚ) = ((l.sum : ℤ) : ℚ) := by
  rw [foldl_add_eq_sum]

theorem l2norm_le_intCast (ks : List ℤ) (c : ℤ) : l2norm_le ks (c : ℚ) = lowPassSphere ks c := by
  simp only [l2norm_le, lowPassSphere, ← Int.cast_mul, Int.cast_le, Int.cast_nonneg_iff]

/-- `l2norm_le` decides `sqrt(Σ kᵢ²) ≤ c` over the reals (this justifies the prelude definition the
    translator uses for `jnp.linalg.norm(·, axis=0) <= cutoff`) -/
theorem l2norm_le_iff_sqrt (ks : List ℤ) (c : ℚ) :
    l2norm_le ks c = true ↔ Real.sqrt ((normSq ks : ℤ) : ℝ) ≤ (c : ℝ) := by
  have hs : (ks.map (fun k => k * k)).foldl (· + ·) 0 = normSq ks := rfl
  unfold l2norm_le
  rw [hs, Bool.and_eq_true, decide_eq_true_eq, decide_eq_true_eq, Real.sqrt_le_iff, sq]
  exact_mod_cast Iff.rfl

theorem itertools_product_append_single {T : Type} (xs : List (List T)) (y : List T) :
    itertools_product (xs ++ [y]) =
      (itertools_product xs).flatMap (fun p => y.map (fun a => p ++ [a])) := by
  induction xs with
  | nil =>
    have h : ∀ y : List T, (List.map (fun a => [[a]]) y).flatten = List.map (fun a => [a]) y := by
      intro y
      induction y with
      | nil => rfl
      | cons b y ih => simp [ih]
    simpa [itertools_product, List.flatMap_def] using h y
  | cons x xs ih =>
    simp only [List.cons_append, itertools_product, ih, List.flatMap_assoc, List.map_flatMap,
      List.flatMap_map, List.map_map]
    rfl

theorem mem_itertools_product {T : Type} (xs : List (List T)) (p : List T) :
    p ∈ itertools_product xs ↔ List.Forall₂ (fun a x => a ∈ x) p xs := by
  induction xs generalizing p with
  | nil => simp [itertools_product]
  | cons x xs ih =>
    simp only [itertools_product, List.mem_flatMap, List.mem_map]
    constructor
    · rintro ⟨a, ha, q, hq, rfl⟩
      exact List.Forall₂.cons ha ((ih q).1 hq)
    · intro h
      cases h with
      | cons ha hq => exact ⟨_, ha, _, (ih _).2 hq, rfl⟩

theorem itertools_product_length {T : Type} (xs : List (List T)) :
    (itertools_product xs).length = (xs.map List.length).prod := by
  induction xs with
  | nil => simp [itertools_product]
  | cons x xs ih =>
    simp only [itertools_product, List.length_flatMap, List.length_map, ih, List.map_cons, List.prod_cons]
    induction x with
    | nil => simp
    | cons b x ihx => simp [Nat.add_mul]; ring

theorem itertools_product_replicate (l r : Option ℤ × Option ℤ) (n : ℕ) :
    itertools_product (List.replicate n [l, r]) = modeSlices.prod l r n := by
  induction n with
  | zero => rfl
  | succ n ih =>
    rw [List.replicate_succ', itertools_product_append_single, ih]
    rfl

theorem itertools_product_cons_singleton {T : Type} (a : T) (xs : List (List T)) :
    itertools_product ([a] :: xs) = (itertools_product xs).map (fun p => a :: p) := by
  simp [itertools_product]

theorem py_range_zero (n : ℤ) : py_range 0 n = (List.range n.toNat).map (fun (i : ℕ) => (i : ℤ)) := by
  simp [py_range]

theorem map_const_py_range {α : Type} (x : α) (D : ℕ) :
    List.map (fun _ => x) (py_range (0 : ℤ) ((D : ℤ) - (1 : ℤ))) = List.replicate (D - 1) x := by
  rw [py_range_zero, toNat_pred, List.map_map]
  apply List.ext_getElem <;> simp

theorem jnp_linspace_zero {K : Type} [Field K] (L : K) (num : ℕ) (ep : Bool) :
    jnp_linspace (lit 0) L num ep = Vec.mk num (fun j => lit j * L / lit (if ep then num - 1 else num)) := by
  simp only [jnp_linspace, lit, Nat.cast_zero, zero_add, sub_zero, mul_div_assoc]

theorem wrap_index_zero (n j : ℕ) : wrap_index n 0 j = j % n := by
  simp only [wrap_index, Nat.cast_zero, sub_zero]
  exact_mod_cast Int.toNat_natCast (j % n)

end Exponax
