import ExponaxModel.Proofs.LinearTestOrderNonlinear3
import ExponaxModel.Proofs.LinearTestOrderNonlinearVec
import ExponaxModel.Proofs.EtdrkStages
/-
C02 support: ETDRK3 (the regenerated `Gen.Etdrk.E3step`) for systems `u' = L u + N(u)` on `ι → ℂ`, `L = diag(l k)`, sup
norm: classical order 3.  Hypotheses as listed in `LinearTestOrderNonlinear3.lean`, with `f₁, f₂ : ℝ → ι → ℂ` and real-linear
`L τ : (ι → ℂ) →ₗ[ℝ] (ι → ℂ)` (`= N'(u τ)`, it may couple the modes); `Lam = ‖l‖ = sup_k |l k|`.

The local error is the chain stage `a`, `N`, stage `b`, `N`, final update of the lemmas of that file at `V = ι → ℂ`; the modes
appear only in the exact solution (`etd_defectV`) and in the scalar functions `φ_n`.  The scalar equation is the system with
one mode.
-/
noncomputable section
namespace Exponax.LinearOrder
open Exponax Exponax.Spec Exponax.ContourTail Exponax.Gen.Etdrk

section Vec

variable {ι : Type} [Fintype ι]

/-- the ETDRK3 step on vectors: the regenerated `E3step` with per-mode exact coefficients -/
def etd3Vec (l : ι → ℂ) (N : (ι → ℂ) → (ι → ℂ)) (dt : ℝ) : (ι → ℂ) → (ι → ℂ) :=
  E3step (fun k => Complex.exp (l k * dt)) (fun k => Complex.exp (l k * dt / 2))
    (fun k => dt * (phi1e (l k * dt / 2) / 2)) (fun k => dt * phi1e (l k * dt))
    (fun k => dt * (phi1e (l k * dt) - 3 * phi2e (l k * dt) + 4 * phi3e (l k * dt)))
    (fun k => dt * (4 * phi2e (l k * dt) - 8 * phi3e (l k * dt)))
    (fun k => dt * (4 * phi3e (l k * dt) - phi2e (l k * dt))) N

def etd3VecA (l : ι → ℂ) (N : (ι → ℂ) → (ι → ℂ)) (dt : ℝ) (x : ι → ℂ) : ι → ℂ :=
  fun k => Complex.exp (l k * dt / 2) * x k + dt * (phi1e (l k * dt / 2) / 2) * N x k
def etd3VecB (l : ι → ℂ) (N : (ι → ℂ) → (ι → ℂ)) (dt : ℝ) (x : ι → ℂ) : ι → ℂ :=
  fun k => Complex.exp (l k * dt) * x k
    + dt * phi1e (l k * dt) * (2 * N (etd3VecA l N dt x) k - N x k)

omit [Fintype ι] in
/-- a half-step stage of ETDRK3/4 (`etd3VecA`, `etd4VecA/B/C`) in terms of the coefficient vectors -/
theorem half_stage_eq (l : ι → ℂ) (dt : ℝ) (x y : ι → ℂ) :
    (fun k => Complex.exp (l k * dt / 2) * x k + dt * (phi1e (l k * dt / 2) / 2) * y k)
      = (fun k => Complex.exp (l k * dt / 2)) * x + ((dt : ℂ) / 2) • (fun k => phi1e (l k * dt / 2)) * y := by
  funext k
  simp only [Pi.add_apply, Pi.mul_apply, Pi.smul_apply, smul_eq_mul]
  ring

omit [Fintype ι] in
theorem etd3VecA_eq (l : ι → ℂ) (N : (ι → ℂ) → (ι → ℂ)) (dt : ℝ) (x : ι → ℂ) :
    etd3VecA l N dt x = (fun k => Complex.exp (l k * dt / 2)) * x
      + ((dt : ℂ) / 2) • (fun k => phi1e (l k * dt / 2)) * N x :=
  half_stage_eq l dt x (N x)

omit [Fintype ι] in
theorem etd3VecB_eq (l : ι → ℂ) (N : (ι → ℂ) → (ι → ℂ)) (dt : ℝ) (x : ι → ℂ) :
    etd3VecB l N dt x = (fun k => Complex.exp (l k * dt)) * x
      + (dt : ℂ) • (fun k => phi1e (l k * dt)) * (2 * N (etd3VecA l N dt x) - N x) := rfl

omit [Fintype ι] in
theorem etd3Vec_eq (l : ι → ℂ) (N : (ι → ℂ) → (ι → ℂ)) (dt : ℝ) (x : ι → ℂ) :
    etd3Vec l N dt x = (fun k => Complex.exp (l k * dt)) * x
      + (dt : ℂ) • ((fun k => phi1e (l k * dt)) - 3 * (fun k => phi2e (l k * dt)) + 4 * fun k => phi3e (l k * dt)) * N x
      + (dt : ℂ) • (4 * (fun k => phi2e (l k * dt)) - 8 * fun k => phi3e (l k * dt)) * N (etd3VecA l N dt x)
      + (dt : ℂ) • (4 * (fun k => phi3e (l k * dt)) - fun k => phi2e (l k * dt)) * N (etd3VecB l N dt x) := by
  rw [etd3Vec, Etdrk.E3step_eq_stages]
  rfl

theorem etd3Vec_local_error (l : ι → ℂ) (N : (ι → ℂ) → (ι → ℂ)) (K : NNReal)
    (hN : LipschitzWith K N) (u : ℝ → (ι → ℂ)) (T ω M1 M2 G3 H HL : ℝ) (hω : 0 ≤ ω)
    (hl : ∀ k, (l k).re ≤ ω) (hG3 : 0 ≤ G3) (hH : 0 ≤ H) (hHL : 0 ≤ HL)
    (hu : ∀ t ∈ Set.Icc (0 : ℝ) T, HasDerivAt u (l * u t + N (u t)) t)
    (f1 f2 : ℝ → (ι → ℂ)) (hM1 : ∀ t ∈ Set.Icc (0 : ℝ) T, ‖f1 t‖ ≤ M1)
    (hM2 : ∀ t ∈ Set.Icc (0 : ℝ) T, ‖f2 t‖ ≤ M2)
    (hTay : ∀ t s : ℝ, 0 ≤ t → 0 ≤ s → t + s ≤ T →
      ‖N (u (t + s)) - N (u t) - (s : ℂ) • f1 t - ((s : ℂ) ^ 2 / 2) • f2 t‖ ≤ G3 * s ^ 3 / 6)
    (L : ℝ → (ι → ℂ) →ₗ[ℝ] (ι → ℂ))
    (hLK : ∀ τ ∈ Set.Icc (0 : ℝ) T, ∀ v, ‖L τ v‖ ≤ K * ‖v‖)
    (hLin : ∀ τ ∈ Set.Icc (0 : ℝ) T, ∀ y, ‖N y - N (u τ) - L τ (y - u τ)‖ ≤ H / 2 * ‖y - u τ‖ ^ 2)
    (hLlip : ∀ τ ∈ Set.Icc (0 : ℝ) T, ∀ τ' ∈ Set.Icc (0 : ℝ) T, ∀ v,
      ‖L τ v - L τ' v‖ ≤ HL * |τ - τ'| * ‖v‖)
    (t h : ℝ) (ht : 0 ≤ t) (hh : 0 ≤ h) (hth : t + h ≤ T) :
    ‖u (t + h) - etd3Vec l N h (u t)‖ ≤ NL3.Cloc ⟨K, M1, M2, G3, H, HL, ‖l‖, ω, T⟩ * h ^ 4 := by
  have hh' : 0 ≤ h / 2 := div_nonneg hh zero_le_two
  have hhT : h ≤ T := (le_add_of_nonneg_left ht).trans hth
  have htm : t ∈ Set.Icc (0 : ℝ) T := ⟨ht, (le_add_of_nonneg_right hh).trans hth⟩
  have hthm : t + h / 2 ∈ Set.Icc (0 : ℝ) T :=
    ⟨add_nonneg ht hh', (add_le_add_right (half_le_self hh) t).trans hth⟩
  have ht1m : t + h ∈ Set.Icc (0 : ℝ) T := ⟨add_nonneg ht hh, hth⟩
  set c : NL3 := ⟨K, M1, M2, G3, H, HL, ‖l‖, ω, T⟩
  have hc : c.Nonneg := ⟨K.coe_nonneg, (norm_nonneg _).trans (hM1 t htm), (norm_nonneg _).trans (hM2 t htm),
    hG3, hH, hHL, norm_nonneg l, hω, hh.trans hhT⟩
  obtain ⟨nρa, nρb, nρ3, nσh, nτh, nτe⟩ := etd3_exact_facts c hc l hl u (fun s => N (u s)) f1 f2 hu
    (hN.continuous.comp_continuousOn fun s hs => (hu s hs).continuousAt.continuousWithinAt) hM2 hTay t h ht hh hth
  obtain ⟨bp1, -⟩ := etd_phi_boundsV l ω h T hω hl hh hhT
  obtain ⟨d_q2, d_p12, d_gb, b4β, bγ, -⟩ := etd3_phi_diffsV l ω h T hω hl hh hhT
  have hd1M : ‖f1 t‖ ≤ c.M1 := hM1 t htm
  -- the stages; between them `N` by its linearisations at `u (t + h/2)`, `u (t + h)`
  obtain ⟨nεa, nea⟩ := etd3_stageA c hc hh hhT (etd3VecA_eq l N h (u t)) d_q2 hd1M nρa
  obtain ⟨nδa, e1, nA1, nqa⟩ := lin_along hN (L (t + h / 2)) hc.H (hLK _ hthm) (hLin _ hthm) nεa nea
  obtain ⟨nεb, neb⟩ := etd3_stageB c hc hh hhT (etd3VecB_eq l N h (u t)) bp1 d_p12 hd1M nρb nσh nδa
  obtain ⟨-, e2, nB1, nqb⟩ := lin_along hN (L (t + h)) hc.H (hLK _ ht1m) (hLin _ ht1m) nεb neb
  have nBA : ‖L (t + h) (f1 t) - L (t + h / 2) (f1 t)‖ ≤ c.HL * (h / 2) * c.M1 := by
    have := hLlip (t + h) ht1m (t + h / 2) hthm (f1 t)
    rw [add_sub_add_left_eq_sub, sub_half, abs_of_nonneg hh'] at this
    exact this.trans (mul_le_mul_of_nonneg_left hd1M (mul_nonneg hc.HL hh'))
  rw [etd3Vec_eq]
  exact etd3_final c hc hh hhT d_gb b4β bγ nρ3 nτh nτe e1 e2 nA1 nB1
    ((hLK _ hthm _).trans (mul_le_mul_of_nonneg_left hd1M hc.K)) nBA nqa nqb

theorem etd3Vec_stable (l : ι → ℂ) (N : (ι → ℂ) → (ι → ℂ)) (K : NNReal) (hN : LipschitzWith K N)
    (ω T dt : ℝ) (hω : 0 ≤ ω) (hl : ∀ k, (l k).re ≤ ω) (hdt : 0 ≤ dt) (hdtT : dt ≤ T) (x y : ι → ℂ) :
    ‖etd3Vec l N dt x - etd3Vec l N dt y‖ ≤ (Real.exp (ω * dt) + dt * etd3Θ K ω T) * ‖x - y‖ := by
  obtain ⟨bp1, -, -, -, bq1, -, -, vET, vEh⟩ := etd_phi_boundsV l ω dt T hω hl hdt hdtT
  obtain ⟨-, -, -, b4β, bγ, bα⟩ := etd3_phi_diffsV l ω dt T hω hl hdt hdtT
  have bdt : ‖(dt : ℂ)‖ ≤ dt := nrm_ofReal hdt le_rfl
  obtain ⟨-, -, -, -, -, -, -, vE, -⟩ := etd_phi_boundsV l ω dt dt hω hl hdt le_rfl
  have vch := norm_smul_le_of_le ((nrm_half hdt).trans (div_le_div_of_nonneg_right hdtT zero_le_two)) bq1
  have vc2 := norm_smul_le_of_le (nrm_ofReal hdt hdtT) bp1
  have hNl : ∀ {p q : ι → ℂ} {A : ℝ}, ‖p - q‖ ≤ A → ‖N p - N q‖ ≤ K * A := fun h => hN.norm_sub_le_of_le h
  have nx := hNl (le_refl ‖x - y‖)
  have na : ‖etd3VecA l N dt x - etd3VecA l N dt y‖ ≤ etd3Aa K ω T * ‖x - y‖ := by
    rw [etd3VecA_eq, etd3VecA_eq]
    exact (norm_add_mul_sub_le (norm_mul_sub_mul_le vEh le_rfl) vch nx).trans_eq (by unfold etd3Aa; ring)
  have nb : ‖etd3VecB l N dt x - etd3VecB l N dt y‖ ≤ etd3Ab K ω T * ‖x - y‖ := by
    rw [etd3VecB_eq, etd3VecB_eq]
    exact (norm_add_mul_sub_le (norm_mul_sub_mul_le vET le_rfl) vc2
      (norm_two_mul_sub_sub_le (hNl na) nx)).trans_eq (by unfold etd3Ab; ring)
  rw [etd3Vec_eq, etd3Vec_eq]
  exact (norm_add_mul_sub_le (norm_add_mul_sub_le (norm_add_mul_sub_le (norm_mul_sub_mul_le vE le_rfl)
    (norm_smul_le_of_le bdt bα) nx) (norm_smul_le_of_le bdt b4β) (hNl na)) (norm_smul_le_of_le bdt bγ) (hNl nb)).trans_eq
    (by unfold etd3Θ; ring)

end Vec

/-! ### the scalar equation: the system with the one mode `()` -/

/-- ETDRK3: local error `O(h⁴)` of one regenerated `E3step` with the exact coefficients, started on the
    exact solution, for a nonlinear `N` (classical order; the constant involves `‖λ‖`) -/
theorem etd3_local_error (l : ℂ) (N : ℂ → ℂ) (K : NNReal) (hN : LipschitzWith K N) (u : ℝ → ℂ)
    (T ω M1 M2 G3 H HL : ℝ) (hω : 0 ≤ ω) (hl : l.re ≤ ω) (hG3 : 0 ≤ G3) (hH : 0 ≤ H) (hHL : 0 ≤ HL)
    (hu : ∀ t ∈ Set.Icc (0 : ℝ) T, HasDerivAt u (l * u t + N (u t)) t)
    (f1 f2 : ℝ → ℂ) (hM1 : ∀ t ∈ Set.Icc (0 : ℝ) T, ‖f1 t‖ ≤ M1)
    (hM2 : ∀ t ∈ Set.Icc (0 : ℝ) T, ‖f2 t‖ ≤ M2)
    (hTay : ∀ t s : ℝ, 0 ≤ t → 0 ≤ s → t + s ≤ T →
      ‖N (u (t + s)) - N (u t) - (s : ℂ) * f1 t - (s : ℂ) ^ 2 / 2 * f2 t‖ ≤ G3 * s ^ 3 / 6)
    (L : ℝ → ℂ →ₗ[ℝ] ℂ)
    (hLK : ∀ τ ∈ Set.Icc (0 : ℝ) T, ∀ v, ‖L τ v‖ ≤ K * ‖v‖)
    (hLin : ∀ τ ∈ Set.Icc (0 : ℝ) T, ∀ y, ‖N y - N (u τ) - L τ (y - u τ)‖ ≤ H / 2 * ‖y - u τ‖ ^ 2)
    (hLlip : ∀ τ ∈ Set.Icc (0 : ℝ) T, ∀ τ' ∈ Set.Icc (0 : ℝ) T, ∀ v,
      ‖L τ v - L τ' v‖ ≤ HL * |τ - τ'| * ‖v‖)
    (t h : ℝ) (ht : 0 ≤ t) (hh : 0 ≤ h) (hth : t + h ≤ T) :
    ‖u (t + h) - E3step (Complex.exp (l * h)) (Complex.exp (l * h / 2)) (h * (phi1e (l * h / 2) / 2))
        (h * phi1e (l * h)) (h * (phi1e (l * h) - 3 * phi2e (l * h) + 4 * phi3e (l * h)))
        (h * (4 * phi2e (l * h) - 8 * phi3e (l * h))) (h * (4 * phi3e (l * h) - phi2e (l * h))) N (u t)‖
      ≤ NL3.Cloc ⟨K, M1, M2, G3, H, HL, ‖l‖, ω, T⟩ * h ^ 4 := by
  have key := etd3Vec_local_error (fun _ : Unit => l) (fun v k => N (v k)) K (lipschitzWith_modewise hN)
    (fun s _ => u s) T ω M1 M2 G3 H HL hω (fun _ => hl) hG3 hH hHL
    (fun s hs => hasDerivAt_pi.mpr fun _ => hu s hs) (fun s _ => f1 s) (fun s _ => f2 s)
    (fun s hs => (unit_norm _).trans_le (hM1 s hs)) (fun s hs => (unit_norm _).trans_le (hM2 s hs))
    (fun t s ht hs hts => (unit_norm _).trans_le (hTay t s ht hs hts))
    (fun τ => LinearMap.pi fun _ => L τ ∘ₗ LinearMap.proj ())
    (fun τ hτ v => by rw [unit_norm, unit_norm]; exact hLK τ hτ (v ()))
    (fun τ hτ y => by rw [unit_norm, unit_norm]; exact hLin τ hτ (y ()))
    (fun τ hτ τ' hτ' v => by rw [unit_norm, unit_norm]; exact hLlip τ hτ τ' hτ' (v ()))
    t h ht hh hth
  -- the mode `()` of `etd3Vec … (fun _ => u t)` is the scalar `E3step … (u t)`, by unfolding
  rwa [unit_norm, pi_norm_const l] at key

/-- ETDRK3: global error `O(dt³)` for a nonlinear `N` (classical order) -/
theorem etd3_global_error (l : ℂ) (N : ℂ → ℂ) (K : NNReal) (hN : LipschitzWith K N) (u : ℝ → ℂ)
    (T ω M1 M2 G3 H HL : ℝ) (hω : 0 ≤ ω) (hl : l.re ≤ ω) (hG3 : 0 ≤ G3) (hH : 0 ≤ H) (hHL : 0 ≤ HL)
    (hu : ∀ t ∈ Set.Icc (0 : ℝ) T, HasDerivAt u (l * u t + N (u t)) t)
    (f1 f2 : ℝ → ℂ) (hM1 : ∀ t ∈ Set.Icc (0 : ℝ) T, ‖f1 t‖ ≤ M1)
    (hM2 : ∀ t ∈ Set.Icc (0 : ℝ) T, ‖f2 t‖ ≤ M2)
    (hTay : ∀ t s : ℝ, 0 ≤ t → 0 ≤ s → t + s ≤ T →
      ‖N (u (t + s)) - N (u t) - (s : ℂ) * f1 t - (s : ℂ) ^ 2 / 2 * f2 t‖ ≤ G3 * s ^ 3 / 6)
    (L : ℝ → ℂ →ₗ[ℝ] ℂ)
    (hLK : ∀ τ ∈ Set.Icc (0 : ℝ) T, ∀ v, ‖L τ v‖ ≤ K * ‖v‖)
    (hLin : ∀ τ ∈ Set.Icc (0 : ℝ) T, ∀ y, ‖N y - N (u τ) - L τ (y - u τ)‖ ≤ H / 2 * ‖y - u τ‖ ^ 2)
    (hLlip : ∀ τ ∈ Set.Icc (0 : ℝ) T, ∀ τ' ∈ Set.Icc (0 : ℝ) T, ∀ v,
      ‖L τ v - L τ' v‖ ≤ HL * |τ - τ'| * ‖v‖)
    (n : ℕ) (dt : ℝ) (hdt : 0 ≤ dt) (hn : n * dt ≤ T) :
    ‖u (n * dt) - (E3step (Complex.exp (l * dt)) (Complex.exp (l * dt / 2)) (dt * (phi1e (l * dt / 2) / 2))
        (dt * phi1e (l * dt)) (dt * (phi1e (l * dt) - 3 * phi2e (l * dt) + 4 * phi3e (l * dt)))
        (dt * (4 * phi2e (l * dt) - 8 * phi3e (l * dt))) (dt * (4 * phi3e (l * dt) - phi2e (l * dt)))
        N)^[n] (u 0)‖
      ≤ NL3.Cglob ⟨K, M1, M2, G3, H, HL, ‖l‖, ω, T⟩ * dt ^ 3 := by
  have hT : 0 ≤ T := (mul_nonneg n.cast_nonneg hdt).trans hn
  have h0 : (0 : ℝ) ∈ Set.Icc (0 : ℝ) T := ⟨le_rfl, hT⟩
  have hc : NL3.Nonneg ⟨K, M1, M2, G3, H, HL, ‖l‖, ω, T⟩ := ⟨K.coe_nonneg, (norm_nonneg _).trans (hM1 0 h0),
    (norm_nonneg _).trans (hM2 0 h0), hG3, hH, hHL, norm_nonneg l, hω, hT⟩
  exact fan_grid_exp_add _ u _ ω (etd3Θ K ω T) T dt 3 n hc.Cloc hω (etd3Θ_nonneg K.coe_nonneg hT) hdt hn
    (fun t ht hth => etd3_local_error l N K hN u T ω M1 M2 G3 H HL hω hl hG3 hH hHL hu f1 f2 hM1 hM2 hTay
      L hLK hLin hLlip t dt ht hdt hth)
    (fun hdtT x y => by
      have key := etd3Vec_stable (fun _ : Unit => l) (fun v k => N (v k)) K (lipschitzWith_modewise hN) ω T dt hω
        (fun _ => hl) hdt hdtT (fun _ => x) (fun _ => y)
      rwa [unit_norm, unit_norm] at key)

/-! ### non-vacuity

`N v = i·v` is its own linearisation (`L τ v = i·v`, `H = HL = 0`); the solution and the derivatives of `f = N ∘ u` are
those of `LinearTestOrderNonlinear.lean`, `expI_*`. -/

/-- `N v = i·v` with `‖i‖ ≤ 1` in a normed ring: Lipschitz constant `1`, linearisation `L τ = (i·)` with `H = HL = 0` -/
theorem mulLeft_linearisation {V : Type} [NormedRing V] [Module ℝ V] [SMulCommClass ℝ V V] (i : V) (hi : ‖i‖ ≤ 1)
    (u : ℝ → V) (T : ℝ) :
    LipschitzWith 1 (fun v => i * v) ∧
    (∀ τ ∈ Set.Icc (0 : ℝ) T, ∀ v, ‖LinearMap.mulLeft ℝ i v‖ ≤ (1 : NNReal) * ‖v‖) ∧
    (∀ τ ∈ Set.Icc (0 : ℝ) T, ∀ y,
      ‖i * y - i * u τ - LinearMap.mulLeft ℝ i (y - u τ)‖ ≤ (0 : ℝ) / 2 * ‖y - u τ‖ ^ 2) ∧
    (∀ τ ∈ Set.Icc (0 : ℝ) T, ∀ τ' ∈ Set.Icc (0 : ℝ) T, ∀ v,
      ‖LinearMap.mulLeft ℝ i v - LinearMap.mulLeft ℝ i v‖ ≤ (0 : ℝ) * |τ - τ'| * ‖v‖) := by
  have hmul : ∀ v, ‖i * v‖ ≤ (1 : NNReal) * ‖v‖ := fun v =>
    (norm_mul_le i v).trans (mul_le_mul_of_nonneg_right hi (norm_nonneg v))
  refine ⟨lipschitzWith_iff_norm_sub_le.mpr fun x y => ?_, fun _ _ => hmul, fun τ _ y => ?_, fun _ _ _ _ v => ?_⟩
  · rw [← mul_sub]
    exact hmul (x - y)
  · rw [LinearMap.mulLeft_apply, ← mul_sub, sub_self, norm_zero, zero_div, zero_mul]
  · rw [sub_self, norm_zero, zero_mul, zero_mul]

theorem expI_taylor2 {c : ℂ} {C : ℝ} (hc : ‖c‖ ≤ C) (hre : c.re ≤ 0) (t s : ℝ) (ht : 0 ≤ t) (hs : 0 ≤ s)
    (hts : t + s ≤ 1) :
    ‖Complex.I * Complex.exp (c * (t + s : ℝ)) - Complex.I * Complex.exp (c * t)
        - (s : ℂ) * (Complex.I * (c ^ 1 * Complex.exp (c * t)))
        - (s : ℂ) ^ 2 / 2 * (Complex.I * (c ^ 2 * Complex.exp (c * t)))‖ ≤ C ^ 3 * s ^ 3 / 6 := by
  have := taylor2_of_lipschitz_deriv _ _ _ 1 (C ^ 3) (fun x _ => expI_hasDerivAt c 0 x)
    (fun x _ => expI_hasDerivAt c 1 x) (expI_lipschitz hc hre 2 1) t s ht hs hts
  simpa only [pow_zero, one_mul, zero_add] using this

/-- the two modes of the examples for systems: `l = (−1, −100)`, `c k = l k + i` -/
theorem twoModes (k : Fin 2) :
    (![(-1 : ℂ), -100] k).re ≤ 0 ∧ ‖![(-1 : ℂ), -100] k + Complex.I‖ ≤ 101 ∧
      (![(-1 : ℂ), -100] k + Complex.I).re ≤ 0 := by
  refine ⟨?_, (norm_add_le _ _).trans ?_, ?_⟩
  all_goals fin_cases k <;> simp <;> norm_num

/- the hypotheses of the scalar theorems can be met: `λ = −100`, `u t = e^{(−100+i)t}`, `f₁ = i c u`, `f₂ = i c² u`,
   `G₃ = 101³` -/
example : ∃ (l : ℂ) (N : ℂ → ℂ) (K : NNReal) (u f1 f2 : ℝ → ℂ) (L : ℝ → ℂ →ₗ[ℝ] ℂ)
    (T ω M1 M2 G3 H HL : ℝ), LipschitzWith K N ∧ 0 ≤ ω ∧ l.re ≤ ω ∧ 0 ≤ G3 ∧ 0 ≤ H ∧ 0 ≤ HL ∧ 0 < T ∧
    (∀ t ∈ Set.Icc (0 : ℝ) T, HasDerivAt u (l * u t + N (u t)) t) ∧
    (∀ t ∈ Set.Icc (0 : ℝ) T, ‖f1 t‖ ≤ M1) ∧ (∀ t ∈ Set.Icc (0 : ℝ) T, ‖f2 t‖ ≤ M2) ∧
    (∀ t s : ℝ, 0 ≤ t → 0 ≤ s → t + s ≤ T →
      ‖N (u (t + s)) - N (u t) - (s : ℂ) * f1 t - (s : ℂ) ^ 2 / 2 * f2 t‖ ≤ G3 * s ^ 3 / 6) ∧
    (∀ τ ∈ Set.Icc (0 : ℝ) T, ∀ v, ‖L τ v‖ ≤ K * ‖v‖) ∧
    (∀ τ ∈ Set.Icc (0 : ℝ) T, ∀ y, ‖N y - N (u τ) - L τ (y - u τ)‖ ≤ H / 2 * ‖y - u τ‖ ^ 2) ∧
    (∀ τ ∈ Set.Icc (0 : ℝ) T, ∀ τ' ∈ Set.Icc (0 : ℝ) T, ∀ v,
      ‖L τ v - L τ' v‖ ≤ HL * |τ - τ'| * ‖v‖) := by
  set c : ℂ := -100 + Complex.I with hcdef
  obtain ⟨hc, hre⟩ : ‖c‖ ≤ 101 ∧ c.re ≤ 0 := expI_c
  obtain ⟨hN, hLK, hLin, hLlip⟩ :=
    mulLeft_linearisation Complex.I Complex.norm_I.le (fun t : ℝ => Complex.exp (c * t)) 1
  exact ⟨-100, fun v => Complex.I * v, 1, fun t => Complex.exp (c * t),
    fun t => Complex.I * (c ^ 1 * Complex.exp (c * t)), fun t => Complex.I * (c ^ 2 * Complex.exp (c * t)),
    fun _ => LinearMap.mulLeft ℝ Complex.I, 1, 0, 101 ^ 1, 101 ^ 2, 101 ^ 3, 0, 0,
    hN, le_rfl, by simp, by norm_num, le_rfl, le_rfl, one_pos,
    fun t _ => (hasDerivAt_exp_mul c t).congr_deriv (by simp only [hcdef]; ring),
    fun t ht => expI_norm_le hc hre 1 ht.1, fun t ht => expI_norm_le hc hre 2 ht.1,
    expI_taylor2 hc hre, hLK, hLin, hLlip⟩

/- … and those of the theorems for systems: two modes `l = (−1, −100)`, `u_k = e^{(l_k+i)t}` -/
example : ∃ (l : Fin 2 → ℂ) (N : (Fin 2 → ℂ) → (Fin 2 → ℂ)) (K : NNReal) (u f1 f2 : ℝ → (Fin 2 → ℂ))
    (L : ℝ → (Fin 2 → ℂ) →ₗ[ℝ] (Fin 2 → ℂ)) (T ω M1 M2 G3 H HL : ℝ), LipschitzWith K N ∧ 0 ≤ ω ∧
    (∀ k, (l k).re ≤ ω) ∧ 0 ≤ G3 ∧ 0 ≤ H ∧ 0 ≤ HL ∧ 0 < T ∧
    (∀ t ∈ Set.Icc (0 : ℝ) T, HasDerivAt u (l * u t + N (u t)) t) ∧
    (∀ t ∈ Set.Icc (0 : ℝ) T, ‖f1 t‖ ≤ M1) ∧ (∀ t ∈ Set.Icc (0 : ℝ) T, ‖f2 t‖ ≤ M2) ∧
    (∀ t s : ℝ, 0 ≤ t → 0 ≤ s → t + s ≤ T →
      ‖N (u (t + s)) - N (u t) - (s : ℂ) • f1 t - ((s : ℂ) ^ 2 / 2) • f2 t‖ ≤ G3 * s ^ 3 / 6) ∧
    (∀ τ ∈ Set.Icc (0 : ℝ) T, ∀ v, ‖L τ v‖ ≤ K * ‖v‖) ∧
    (∀ τ ∈ Set.Icc (0 : ℝ) T, ∀ y, ‖N y - N (u τ) - L τ (y - u τ)‖ ≤ H / 2 * ‖y - u τ‖ ^ 2) ∧
    (∀ τ ∈ Set.Icc (0 : ℝ) T, ∀ τ' ∈ Set.Icc (0 : ℝ) T, ∀ v,
      ‖L τ v - L τ' v‖ ≤ HL * |τ - τ'| * ‖v‖) := by
  set c : Fin 2 → ℂ := fun k => ![-1, -100] k + Complex.I with hcdef
  have hc : ∀ k, ‖c k‖ ≤ 101 := fun k => (twoModes k).2.1
  have hre : ∀ k, (c k).re ≤ 0 := fun k => (twoModes k).2.2
  obtain ⟨hN, hLK, hLin, hLlip⟩ := mulLeft_linearisation (fun _ => Complex.I : Fin 2 → ℂ)
    ((pi_norm_const_le _).trans Complex.norm_I.le) (fun (t : ℝ) k => Complex.exp (c k * t)) 1
  exact ⟨![-1, -100], fun v => (fun _ => Complex.I) * v, 1, fun t k => Complex.exp (c k * t),
    fun t k => Complex.I * (c k ^ 1 * Complex.exp (c k * t)),
    fun t k => Complex.I * (c k ^ 2 * Complex.exp (c k * t)),
    fun _ => LinearMap.mulLeft ℝ (fun _ => Complex.I : Fin 2 → ℂ), 1, 0, 101 ^ 1, 101 ^ 2, 101 ^ 3, 0, 0,
    hN, le_rfl, fun k => (twoModes k).1, by norm_num, le_rfl, le_rfl, one_pos,
    fun t _ => hasDerivAt_pi.mpr fun k => (hasDerivAt_exp_mul (c k) t).congr_deriv (by
      simp only [Pi.add_apply, Pi.mul_apply, hcdef]; ring),
    fun t ht => (pi_norm_le_iff_of_nonneg (by norm_num)).mpr fun k => expI_norm_le (hc k) (hre k) 1 ht.1,
    fun t ht => (pi_norm_le_iff_of_nonneg (by norm_num)).mpr fun k => expI_norm_le (hc k) (hre k) 2 ht.1,
    fun t s ht hs hts => (pi_norm_le_iff_of_nonneg (by positivity)).mpr fun k =>
      expI_taylor2 (hc k) (hre k) t s ht hs hts,
    hLK, hLin, hLlip⟩

end Exponax.LinearOrder
end
