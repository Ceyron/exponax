import ExponaxModel.Proofs.EtdrkStages
import ExponaxModel.Properties.C02
/-
C09 — equilibria and the STORED (contour-mean) ETDRK coefficients.

"A state with `λ·u + N(u) = 0` is a fixed point of `E{p}step` with the regenerated `E{p}_coef_i dt λ M r`" is FALSE for
the model as written (`stored_fixed_point_false`, `stored_fixed_point_false_M2` in `EquilibriaStoredDefect.lean`): the stored coefficient is
`dt · mean_j φ₁(z + r ζ_j)`; the node-by-node identity `e^w − 1 = w φ₁(w)` has the NODE `w_j` as its factor, not `z`, so
`e^z − 1 = z · mean_j φ₁(w_j)` fails by `z ×` the aliasing tail of the contour rule
(e.g. `M = 1, r = 1, dt = 1, λ = 2`: defect `(e − 1)²`).

What IS exact, for every `dt, λ, M, r`, are the LINEAR relations among the stored coefficients (`stored_E2_1`,
`stored_E3_2`, `stored_E3_sum`, `stored_E4_sum`, `stored_E4_half`): the contour mean is linear and the integrands
satisfy them node by node.  Hence an equilibrium spectrum is a fixed point of the regenerated step with ALL
coefficients stored as soon as the two scalar defects `fpDefect` (orders 1..4) and `fpDefectHalf` (orders 3, 4) vanish
on the support of `u`; for ETDRK1 this is also necessary, and `E1step … u − u = fpDefect · u`.
-/
namespace Exponax.EquilibriaStored
open Exponax Exponax.Spec Exponax.Gen.Etdrk

theorem contourMean_lincomb3 (roots : List ℂ) (r z a b c : ℂ) (f g h k : ℂ → ℂ)
    (H : ∀ w, a * f w + b * g w + c * h w = k w) :
    a * contourMean roots r f z + b * contourMean roots r g z + c * contourMean roots r h z
      = contourMean roots r k z := by
  simp only [contourMean_eq]
  have key : (roots.map (fun ζ => k (r * ζ + z))).sum
      = a * (roots.map (fun ζ => f (r * ζ + z))).sum + b * (roots.map (fun ζ => g (r * ζ + z))).sum
        + c * (roots.map (fun ζ => h (r * ζ + z))).sum := by
    induction roots with
    | nil => simp
    | cons x xs ih =>
      simp only [List.map_cons, List.sum_cons]
      rw [ih, ← H]
      ring
  rw [key]
  ring

theorem stored_E2_1 (dt lam r : ℂ) (M : ℕ) : E2_coef_1 dt lam M r = E1_coef_1 dt lam M r := by
  rw [C02_coef_E2_1, C02_coef_E1_1]

theorem stored_E3_2 (dt lam r : ℂ) (M : ℕ) : E3_coef_2 dt lam M r = E1_coef_1 dt lam M r := by
  rw [C02_coef_E3_2, C02_coef_E1_1]

theorem stored_E3_sum (dt lam r : ℂ) (M : ℕ) :
    E3_coef_3 dt lam M r + E3_coef_4 dt lam M r + E3_coef_5 dt lam M r = E1_coef_1 dt lam M r := by
  rw [C02_coef_E3_3, C02_coef_E3_4, C02_coef_E3_5, C02_coef_E1_1, ← mul_add, ← mul_add]
  congr 1
  have h := contourMean_lincomb3 (roots_of_unity M) r (lam * dt) 1 1 1
    (fun w => phi1 w - 3 * phi2 w + 4 * phi3 w) (fun w => 4 * phi2 w - 8 * phi3 w)
    (fun w => 4 * phi3 w - phi2 w) phi1 (fun w => by ring)
  simpa only [one_mul] using h

/-- `coef_4 + 2·(2·coef_5) + coef_6` are the weights the ETDRK4 stage formula applies -/
theorem stored_E4_sum (dt lam r : ℂ) (M : ℕ) :
    E4_coef_4 dt lam M r + 4 * E4_coef_5 dt lam M r + E4_coef_6 dt lam M r = E1_coef_1 dt lam M r := by
  rw [C02_coef_E4_4, C02_coef_E4_5, C02_coef_E4_6, C02_coef_E1_1]
  have h := contourMean_lincomb3 (roots_of_unity M) r (lam * dt) 1 4 1
    (fun w => phi1 w - 3 * phi2 w + 4 * phi3 w) (fun w => phi2 w - 2 * phi3 w)
    (fun w => 4 * phi3 w - phi2 w) phi1 (fun w => by ring)
  rw [← h]
  ring

theorem stored_E4_half (dt lam r : ℂ) (M : ℕ) :
    E4_coef_2 dt lam M r = E4_coef_1 dt lam M r ∧ E4_coef_3 dt lam M r = E4_coef_1 dt lam M r ∧
    E3_coef_1 dt lam M r = E4_coef_1 dt lam M r ∧ E3_half_exp_term dt lam M r = E4_half_exp_term dt lam M r :=
  ⟨rfl, rfl, rfl, rfl⟩

/-- `e^{dt λ} − 1 − λ · (stored dt φ₁)` -/
noncomputable def fpDefect (dt lam : ℂ) (M : ℕ) (r : ℂ) : ℂ :=
  exp_term dt lam - 1 - lam * E1_coef_1 dt lam M r

/-- `e^{dt λ/2} − 1 − λ · (stored dt φ₁(·/2)/2)` -/
noncomputable def fpDefectHalf (dt lam : ℂ) (M : ℕ) (r : ℂ) : ℂ :=
  E4_half_exp_term dt lam M r - 1 - lam * E4_coef_1 dt lam M r

theorem fpDefect_zero (dt r : ℂ) (M : ℕ) : fpDefect dt 0 M r = 0 ∧ fpDefectHalf dt 0 M r = 0 := by
  constructor
  · simp [fpDefect, exp_term]
  · simp [fpDefectHalf, E4_half_exp_term]

theorem stored_fixed_point_E1 (dt r : ℂ) (M : ℕ) (L u : ℕ → ℂ) (N : (ℕ → ℂ) → ℕ → ℂ)
    (heq : ∀ h, L h * u h + N u h = 0) (hd : ∀ h, u h ≠ 0 → fpDefect dt (L h) M r = 0) :
    E1step (fun h => exp_term dt (L h)) (fun h => E1_coef_1 dt (L h) M r) N u = u :=
  Etdrk.fixed_E1step_of_defect N u L (funext heq) _ _
    (Etdrk.defect_mul_spectrum (fun h => fpDefect dt (L h) M r) u hd)

theorem stored_E1step_sub (dt r : ℂ) (M : ℕ) (L u : ℕ → ℂ) (N : (ℕ → ℂ) → ℕ → ℂ)
    (heq : ∀ h, L h * u h + N u h = 0) (h : ℕ) :
    E1step (fun h => exp_term dt (L h)) (fun h => E1_coef_1 dt (L h) M r) N u h - u h
      = fpDefect dt (L h) M r * u h := by
  have hNu : N u h = -(L h * u h) := by linear_combination heq h
  simp only [E1step, Pi.add_apply, Pi.mul_apply, hNu, fpDefect]
  ring

theorem stored_fixed_point_E1_iff (dt r : ℂ) (M : ℕ) (L u : ℕ → ℂ) (N : (ℕ → ℂ) → ℕ → ℂ)
    (heq : ∀ h, L h * u h + N u h = 0) :
    E1step (fun h => exp_term dt (L h)) (fun h => E1_coef_1 dt (L h) M r) N u = u ↔
      ∀ h, u h ≠ 0 → fpDefect dt (L h) M r = 0 := by
  constructor
  · intro hfix h hu
    have := stored_E1step_sub dt r M L u N heq h
    rw [hfix, sub_self] at this
    rcases mul_eq_zero.mp this.symm with h0 | h0
    · exact h0
    · exact absurd h0 hu
  · exact stored_fixed_point_E1 dt r M L u N heq

theorem stored_fixed_point_E2 (dt r : ℂ) (M : ℕ) (L u : ℕ → ℂ) (N : (ℕ → ℂ) → ℕ → ℂ)
    (heq : ∀ h, L h * u h + N u h = 0) (hd : ∀ h, u h ≠ 0 → fpDefect dt (L h) M r = 0) :
    E2step (fun h => exp_term dt (L h)) (fun h => E2_coef_1 dt (L h) M r) (fun h => E2_coef_2 dt (L h) M r) N u
      = u := by
  refine Etdrk.fixed_E2step_of_defect N u L (funext heq) _ _ _ (Etdrk.defect_mul_spectrum
    (fun h => exp_term dt (L h) - 1 - L h * E2_coef_1 dt (L h) M r) u fun h hu => ?_)
  rw [stored_E2_1]
  exact hd h hu

/-- no hypothesis on the output weights: they telescope exactly (`stored_E3_sum`) -/
theorem stored_fixed_point_E3 (dt r : ℂ) (M : ℕ) (L u : ℕ → ℂ) (N : (ℕ → ℂ) → ℕ → ℂ)
    (heq : ∀ h, L h * u h + N u h = 0) (hd : ∀ h, u h ≠ 0 → fpDefect dt (L h) M r = 0)
    (hdh : ∀ h, u h ≠ 0 → fpDefectHalf dt (L h) M r = 0) :
    E3step (fun h => exp_term dt (L h)) (fun h => E3_half_exp_term dt (L h) M r)
      (fun h => E3_coef_1 dt (L h) M r) (fun h => E3_coef_2 dt (L h) M r) (fun h => E3_coef_3 dt (L h) M r)
      (fun h => E3_coef_4 dt (L h) M r) (fun h => E3_coef_5 dt (L h) M r) N u = u := by
  refine Etdrk.fixed_E3step_of_defect N u L (funext heq) _ _ _ _ _ _ _
    (Etdrk.defect_mul_spectrum (fun h => fpDefectHalf dt (L h) M r) u hdh)
    (Etdrk.defect_mul_spectrum (fun h => exp_term dt (L h) - 1 - L h * E3_coef_2 dt (L h) M r) u fun h hu => ?_)
    (Etdrk.defect_mul_spectrum (fun h => exp_term dt (L h) - 1 - L h *
      (E3_coef_3 dt (L h) M r + E3_coef_4 dt (L h) M r + E3_coef_5 dt (L h) M r)) u fun h hu => ?_)
  · rw [stored_E3_2]
    exact hd h hu
  · rw [stored_E3_sum]
    exact hd h hu

theorem stored_fixed_point_E4 (dt r : ℂ) (M : ℕ) (L u : ℕ → ℂ) (N : (ℕ → ℂ) → ℕ → ℂ)
    (heq : ∀ h, L h * u h + N u h = 0) (hd : ∀ h, u h ≠ 0 → fpDefect dt (L h) M r = 0)
    (hdh : ∀ h, u h ≠ 0 → fpDefectHalf dt (L h) M r = 0) :
    E4step (fun h => exp_term dt (L h)) (fun h => E4_half_exp_term dt (L h) M r)
      (fun h => E4_coef_1 dt (L h) M r) (fun h => E4_coef_2 dt (L h) M r) (fun h => E4_coef_3 dt (L h) M r)
      (fun h => E4_coef_4 dt (L h) M r) (fun h => E4_coef_5 dt (L h) M r) (fun h => E4_coef_6 dt (L h) M r)
      N u = u := by
  have hh := Etdrk.defect_mul_spectrum (fun h => fpDefectHalf dt (L h) M r) u hdh
  refine Etdrk.fixed_E4step_of_defect N u L (funext heq) _ _ _ _ _ _ _ _ hh hh hh
    (Etdrk.defect_mul_spectrum (fun h => exp_term dt (L h) - 1 - L h *
      (E4_coef_4 dt (L h) M r + 4 * E4_coef_5 dt (L h) M r + E4_coef_6 dt (L h) M r)) u fun h hu => ?_)
  rw [stored_E4_sum]
  exact hd h hu

/-- in particular: equilibria carried by modes where the linear symbol vanishes (constant states of
    conservation-form equations: `L 0 = 0`, `N(u) = 0`) are fixed points of every order with the stored
    coefficients, any `M`, `r` (no node hypothesis) -/
theorem stored_fixed_point_of_symbol_zero (dt r : ℂ) (M : ℕ) (L u : ℕ → ℂ) (N : (ℕ → ℂ) → ℕ → ℂ)
    (heq : ∀ h, L h * u h + N u h = 0) (hL : ∀ h, u h ≠ 0 → L h = 0) :
    E1step (fun h => exp_term dt (L h)) (fun h => E1_coef_1 dt (L h) M r) N u = u ∧
    E2step (fun h => exp_term dt (L h)) (fun h => E2_coef_1 dt (L h) M r) (fun h => E2_coef_2 dt (L h) M r) N u
      = u ∧
    E3step (fun h => exp_term dt (L h)) (fun h => E3_half_exp_term dt (L h) M r)
      (fun h => E3_coef_1 dt (L h) M r) (fun h => E3_coef_2 dt (L h) M r) (fun h => E3_coef_3 dt (L h) M r)
      (fun h => E3_coef_4 dt (L h) M r) (fun h => E3_coef_5 dt (L h) M r) N u = u ∧
    E4step (fun h => exp_term dt (L h)) (fun h => E4_half_exp_term dt (L h) M r)
      (fun h => E4_coef_1 dt (L h) M r) (fun h => E4_coef_2 dt (L h) M r) (fun h => E4_coef_3 dt (L h) M r)
      (fun h => E4_coef_4 dt (L h) M r) (fun h => E4_coef_5 dt (L h) M r) (fun h => E4_coef_6 dt (L h) M r)
      N u = u := by
  have hd : ∀ h, u h ≠ 0 → fpDefect dt (L h) M r = 0 := fun h hu => by
    rw [hL h hu]; exact (fpDefect_zero dt r M).1
  have hdh : ∀ h, u h ≠ 0 → fpDefectHalf dt (L h) M r = 0 := fun h hu => by
    rw [hL h hu]; exact (fpDefect_zero dt r M).2
  exact ⟨stored_fixed_point_E1 dt r M L u N heq hd, stored_fixed_point_E2 dt r M L u N heq hd,
    stored_fixed_point_E3 dt r M L u N heq hd hdh, stored_fixed_point_E4 dt r M L u N heq hd hdh⟩

end Exponax.EquilibriaStored
