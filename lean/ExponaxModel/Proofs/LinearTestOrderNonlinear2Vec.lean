import ExponaxModel.Proofs.LinearTestOrderNonlinearVec
/-
C02 support: ETDRK2 (the regenerated `Gen.Etdrk.E2step`) for systems `u' = L u + N(u)` on `ι → ℂ` as in
`LinearTestOrderNonlinearVec.lean`, with the exact per-mode coefficients `e^{l k dt}`, `dt·φ₁(l k dt)`, `dt·φ₂(l k dt)`:
order 2, with constants that depend on the spectrum only through `ω`.  Smoothness hypothesis on `f t := N (u t)`:
`‖f (t+s) − f t − s • f' t‖ ≤ G s²/2` (sup norm) for some `f'`, which a `G`-Lipschitz derivative of `f` implies
(`taylor_of_lipschitz_deriv`).  The scalar equation is the case `ι = Unit`.
-/
noncomputable section
namespace Exponax.LinearOrder
open Exponax Exponax.Spec Exponax.ContourTail Exponax.Gen.Etdrk

/-- local error of ETDRK2 from the second-order expansion `nρ` of the exact solution, about variables of a commutative normed
    `ℂ`-algebra (a system: `ι → ℂ`): the corrector uses `Na = N(a)` with `‖Na − f(t+h)‖ ≤ D` in place of `f1 = f(t+h)`, and
    `(f(t+h) − f t)/h` in place of `d` -/
theorem etd2_local_core {V : Type} [NormedCommRing V] [NormedAlgebra ℂ V] {h : ℝ} (hh : 0 ≤ h)
    {a u0 u1 f0 f1 d Na E p1 p2 : V} {R W G D : ℝ} (ha : a = E * u0 + (h : ℂ) • p1 * f0) (bp2 : ‖p2‖ ≤ W / 2)
    (nρ : ‖u1 - (E * u0 + (h : ℂ) • p1 * f0 + ((h : ℂ) ^ 2) • p2 * d)‖ ≤ R)
    (nσ : ‖f1 - f0 - (h : ℂ) • d‖ ≤ G * h ^ 2 / 2) (hNa : ‖Na - f1‖ ≤ D) :
    ‖u1 - (a + (h : ℂ) • p2 * (Na - f0))‖ ≤ R + h * (W / 2) * (D + G * h ^ 2 / 2) := by
  rw [show u1 - (a + (h : ℂ) • p2 * (Na - f0))
      = (u1 - (E * u0 + (h : ℂ) • p1 * f0 + ((h : ℂ) ^ 2) • p2 * d))
        - (h : ℂ) • p2 * ((Na - f1) + (f1 - f0 - (h : ℂ) • d)) by rw [ha]; algebra]
  exact norm_sub_le_of_le nρ (norm_mul_le_of_le (norm_smul_le_of_le (nrm_ofReal hh le_rfl) bp2)
    (norm_add_le_of_le hNa nσ))

/-- the regenerated ETDRK2 step is the exponential-Euler stage plus the `φ₂` corrector -/
theorem E2step_eq_stage {V : Type} [Add V] [Sub V] [Mul V] (E a1 a2 : V) (N : V → V) (x : V) :
    E2step E a1 a2 N x = E1step E a1 N x + a2 * (N (E1step E a1 N x) - N x) := rfl

def etd2Stab (ω K h : ℝ) : ℝ :=
  Real.exp (ω * h) * ((1 + K * h) * (1 + K * h * Real.exp (ω * h) / 2) + K * h / 2)

theorem etd2Stab_aux (a b : ℝ) (ha : 0 ≤ a) (hb : 0 ≤ b) :
    (1 + a) * (1 + b) + a / 2 ≤ Real.exp (a + b + a / 2) :=
  have hexp : ∀ x : ℝ, 1 + x ≤ Real.exp x := fun x => (add_comm 1 x).trans_le (Real.add_one_le_exp x)
  calc (1 + a) * (1 + b) + a / 2
      ≤ (1 + a) * (1 + b) + a / 2 + a / 2 * (a + b + a * b) := le_add_of_nonneg_right (by positivity)
    _ = (1 + a) * (1 + b) * (1 + a / 2) := by ring
    _ ≤ Real.exp a * Real.exp b * Real.exp (a / 2) :=
        mul_le_mul (mul_le_mul (hexp a) (hexp b) (by positivity) (Real.exp_pos _).le) (hexp _)
          (by positivity) (by positivity)
    _ = Real.exp (a + b + a / 2) := by rw [Real.exp_add, Real.exp_add]

theorem etd2Stab_le_exp (ω K h T : ℝ) (hω : 0 ≤ ω) (hK : 0 ≤ K) (hh : 0 ≤ h) (hT : h ≤ T) :
    etd2Stab ω K h ≤ Real.exp ((ω + K * (3 + Real.exp (ω * T)) / 2) * h) := by
  have hW : Real.exp (ω * h) ≤ Real.exp (ω * T) :=
    Real.exp_le_exp.mpr (mul_le_mul_of_nonneg_left hT hω)
  have hb : K * h * Real.exp (ω * h) / 2 ≤ K * h * Real.exp (ω * T) / 2 :=
    div_le_div_of_nonneg_right (mul_le_mul_of_nonneg_left hW (mul_nonneg hK hh)) zero_le_two
  calc etd2Stab ω K h
      ≤ Real.exp (ω * h) * Real.exp (K * h + K * h * Real.exp (ω * h) / 2 + K * h / 2) :=
        mul_le_mul_of_nonneg_left (etd2Stab_aux _ _ (mul_nonneg hK hh) (by positivity)) (Real.exp_pos _).le
    _ = Real.exp (ω * h + (K * h + K * h * Real.exp (ω * h) / 2 + K * h / 2)) := (Real.exp_add _ _).symm
    _ ≤ _ := Real.exp_le_exp.mpr (by linarith)

def etd2C (K M G ω T : ℝ) : ℝ :=
  T * (Real.exp (ω * T) * (K ^ 2 * M * Real.exp (ω * T) / 4 + 5 * G / 12))
    * Real.exp ((ω + K * (3 + Real.exp (ω * T)) / 2) * T)

variable {ι : Type} [Fintype ι]

/-- the ETDRK2 step on vectors: the regenerated `E2step` with per-mode exact coefficients -/
def etd2Vec (l : ι → ℂ) (N : (ι → ℂ) → (ι → ℂ)) (dt : ℝ) : (ι → ℂ) → (ι → ℂ) :=
  E2step (fun k => Complex.exp (l k * dt)) (fun k => dt * phi1e (l k * dt))
    (fun k => dt * phi2e (l k * dt)) N

omit [Fintype ι] in
theorem etd2Vec_eq (l : ι → ℂ) (N : (ι → ℂ) → (ι → ℂ)) (dt : ℝ) (x : ι → ℂ) :
    etd2Vec l N dt x = expEulerVec l N dt x
      + (dt : ℂ) • (fun k => phi2e (l k * dt)) * (N (expEulerVec l N dt x) - N x) :=
  E2step_eq_stage _ _ _ N x

/-- the stage `a` is an exponential-Euler step, so `‖N a − N(u(t+h))‖` is `K` times the local error of exponential Euler -/
theorem etd2Vec_local_error (l : ι → ℂ) (N : (ι → ℂ) → (ι → ℂ)) (K : NNReal)
    (hN : LipschitzWith K N) (u : ℝ → (ι → ℂ)) (T M ω G : ℝ) (hω : 0 ≤ ω) (hl : ∀ k, (l k).re ≤ ω)
    (hG : 0 ≤ G)
    (hu : ∀ t ∈ Set.Icc (0 : ℝ) T, HasDerivAt u (l * u t + N (u t)) t)
    (hM : ∀ t ∈ Set.Icc (0 : ℝ) T, ‖l * u t + N (u t)‖ ≤ M)
    (f' : ℝ → (ι → ℂ))
    (hTay : ∀ t s : ℝ, 0 ≤ t → 0 ≤ s → t + s ≤ T →
      ‖N (u (t + s)) - N (u t) - (s : ℂ) • f' t‖ ≤ G * s ^ 2 / 2)
    (t h : ℝ) (ht : 0 ≤ t) (hh : 0 ≤ h) (hth : t + h ≤ T) :
    ‖u (t + h) - etd2Vec l N h (u t)‖
      ≤ Real.exp (ω * T) * (K ^ 2 * M * Real.exp (ω * T) / 4 + 5 * G / 12) * h ^ 3 := by
  obtain ⟨-, bp2, -⟩ := etd_phi_boundsV l ω h T hω hl hh ((le_add_of_nonneg_left ht).trans hth)
  have nρ := etd_defectV2 l ω G T u (fun s => N (u s)) hω hl hu
    (hN.continuous.comp_continuousOn fun s hs => (hu s hs).continuousAt.continuousWithinAt) (f' t) t ht hG
    (fun s => hTay t s ht) h hh hth
  rw [etd2Vec_eq]
  exact (etd2_local_core hh (expEulerVec_eq l N h (u t)) bp2 nρ (hTay t h ht hh hth) (hN.norm_sub_le_of_le
    ((norm_sub_rev _ _).trans_le (expEulerVec_local_error l N K hN u T M ω hω hl hu hM t h ht hh hth)))).trans_eq
    (by ring)

theorem etd2Vec_stable (l : ι → ℂ) (N : (ι → ℂ) → (ι → ℂ)) (K : NNReal)
    (hN : LipschitzWith K N) (ω dt : ℝ) (hω : 0 ≤ ω) (hl : ∀ k, (l k).re ≤ ω) (hdt : 0 ≤ dt)
    (x y : ι → ℂ) :
    ‖etd2Vec l N dt x - etd2Vec l N dt y‖ ≤ etd2Stab ω K dt * ‖x - y‖ := by
  obtain ⟨-, bp2, -⟩ := etd_phi_boundsV l ω dt dt hω hl hdt le_rfl
  have h1 := expEulerVec_stable l N K hN ω dt hω hl hdt x y
  rw [etd2Vec_eq, etd2Vec_eq]
  exact (norm_add_mul_sub_le h1 (norm_smul_le_of_le (nrm_ofReal hdt le_rfl) bp2)
    ((congrArg norm (sub_sub_sub_comm _ _ _ _)).trans_le
      (norm_sub_le_of_le (hN.norm_sub_le_of_le h1) (hN.norm_sub_le x y)))).trans_eq (by unfold etd2Stab; ring)

theorem etd2Vec_global_error (l : ι → ℂ) (N : (ι → ℂ) → (ι → ℂ)) (K : NNReal)
    (hN : LipschitzWith K N) (u : ℝ → (ι → ℂ)) (T M ω G : ℝ) (hω : 0 ≤ ω) (hl : ∀ k, (l k).re ≤ ω)
    (hG : 0 ≤ G)
    (hu : ∀ t ∈ Set.Icc (0 : ℝ) T, HasDerivAt u (l * u t + N (u t)) t)
    (hM : ∀ t ∈ Set.Icc (0 : ℝ) T, ‖l * u t + N (u t)‖ ≤ M)
    (f' : ℝ → (ι → ℂ))
    (hTay : ∀ t s : ℝ, 0 ≤ t → 0 ≤ s → t + s ≤ T →
      ‖N (u (t + s)) - N (u t) - (s : ℂ) • f' t‖ ≤ G * s ^ 2 / 2)
    (n : ℕ) (dt : ℝ) (hdt : 0 ≤ dt) (hn : n * dt ≤ T) :
    ‖u (n * dt) - (etd2Vec l N dt)^[n] (u 0)‖ ≤ etd2C K M G ω T * dt ^ 2 := by
  have hT : 0 ≤ T := (mul_nonneg n.cast_nonneg hdt).trans hn
  have hM0 : 0 ≤ M := (norm_nonneg _).trans (hM 0 ⟨le_rfl, hT⟩)
  exact fan_grid (etd2Vec l N dt) u (etd2Stab ω K dt)
    (Real.exp (ω * T) * (K ^ 2 * M * Real.exp (ω * T) / 4 + 5 * G / 12))
    (ω + K * (3 + Real.exp (ω * T)) / 2) T dt 2 n (by positivity) (by positivity) hdt hn
    (fun t ht htT => etd2Vec_local_error l N K hN u T M ω G hω hl hG hu hM f' hTay t dt ht hdt htT)
    (fun hdtT => etd2Stab_le_exp ω K dt T hω K.coe_nonneg hdt hdtT)
    (fun _ => etd2Vec_stable l N K hN ω dt hω hl hdt)

/-- global error of ETDRK2 (the regenerated `E2step` with the exact coefficients) for a nonlinear
    `K`-Lipschitz `N`: second order, constant independent of `|λ|` -/
theorem etd2_global_error (l : ℂ) (N : ℂ → ℂ) (K : NNReal) (hN : LipschitzWith K N) (u : ℝ → ℂ)
    (T M ω G : ℝ) (hω : 0 ≤ ω) (hl : l.re ≤ ω) (hG : 0 ≤ G)
    (hu : ∀ t ∈ Set.Icc (0 : ℝ) T, HasDerivAt u (l * u t + N (u t)) t)
    (hM : ∀ t ∈ Set.Icc (0 : ℝ) T, ‖l * u t + N (u t)‖ ≤ M)
    (f' : ℝ → ℂ)
    (hTay : ∀ t s : ℝ, 0 ≤ t → 0 ≤ s → t + s ≤ T →
      ‖N (u (t + s)) - N (u t) - (s : ℂ) * f' t‖ ≤ G * s ^ 2 / 2)
    (n : ℕ) (dt : ℝ) (hdt : 0 ≤ dt) (hn : n * dt ≤ T) :
    ‖u (n * dt) - (E2step (Complex.exp (l * dt)) (dt * phi1e (l * dt)) (dt * phi2e (l * dt)) N)^[n] (u 0)‖
      ≤ etd2C K M G ω T * dt ^ 2 := by
  have h := etd2Vec_global_error (ι := Unit) (fun _ => l) (fun v k => N (v k)) K
    (lipschitzWith_modewise hN) (fun t _ => u t) T M ω G hω (fun _ => hl) hG
    (fun t ht => hasDerivAt_pi.mpr fun _ => hu t ht)
    (fun t ht => (pi_norm_const (l * u t + N (u t))).trans_le (hM t ht)) (fun t _ => f' t)
    (fun t s ht hs hts => (pi_norm_const (N (u (t + s)) - N (u t) - (s : ℂ) * f' t)).trans_le
      (hTay t s ht hs hts)) n dt hdt hn
  rw [iterate_modewise (E2step (Complex.exp (l * dt)) (dt * phi1e (l * dt)) (dt * phi2e (l * dt)) N)
    (etd2Vec (fun _ => l) (fun v k => N (v k)) dt) (fun _ => rfl)] at h
  exact (pi_norm_const _).symm.trans_le h

example : ∃ (l : ℂ) (N : ℂ → ℂ) (K : NNReal) (u f' : ℝ → ℂ) (T M ω G : ℝ), LipschitzWith K N ∧ 0 ≤ ω ∧
    l.re ≤ ω ∧ 0 ≤ G ∧ 0 < T ∧
    (∀ t ∈ Set.Icc (0 : ℝ) T, HasDerivAt u (l * u t + N (u t)) t) ∧
    (∀ t ∈ Set.Icc (0 : ℝ) T, ‖l * u t + N (u t)‖ ≤ M) ∧
    (∀ t s : ℝ, 0 ≤ t → 0 ≤ s → t + s ≤ T →
      ‖N (u (t + s)) - N (u t) - (s : ℂ) * f' t‖ ≤ G * s ^ 2 / 2) :=
  etd2_nonvacuous

/-- the same problem in each of two modes -/
example : ∃ (l : Fin 2 → ℂ) (N : (Fin 2 → ℂ) → (Fin 2 → ℂ)) (K : NNReal) (u f' : ℝ → (Fin 2 → ℂ))
    (T M ω G : ℝ), LipschitzWith K N ∧ 0 ≤ ω ∧ (∀ k, (l k).re ≤ ω) ∧ 0 ≤ G ∧ 0 < T ∧
    (∀ t ∈ Set.Icc (0 : ℝ) T, HasDerivAt u (l * u t + N (u t)) t) ∧
    (∀ t ∈ Set.Icc (0 : ℝ) T, ‖l * u t + N (u t)‖ ≤ M) ∧
    (∀ t s : ℝ, 0 ≤ t → 0 ≤ s → t + s ≤ T →
      ‖N (u (t + s)) - N (u t) - (s : ℂ) • f' t‖ ≤ G * s ^ 2 / 2) := by
  obtain ⟨l, N, K, u, f', T, M, ω, G, hN, hω, hl, hG, hT, hu, hM, hTay⟩ := etd2_nonvacuous
  exact ⟨fun _ => l, fun v k => N (v k), K, fun t _ => u t, fun t _ => f' t, T, M, ω, G,
    lipschitzWith_modewise hN, hω, fun _ => hl, hG, hT, fun t ht => hasDerivAt_pi.mpr fun _ => hu t ht,
    fun t ht => (pi_norm_const (l * u t + N (u t))).trans_le (hM t ht),
    fun t s ht hs hts => (pi_norm_const (N (u (t + s)) - N (u t) - (s : ℂ) * f' t)).trans_le
      (hTay t s ht hs hts)⟩

end Exponax.LinearOrder
end
