import Mathlib.Tactic
import ExponaxModel.Proofs.GenPreludeLemmas
import ExponaxModel.Model.Metrics
import ExponaxModel.Generated.MetricsGen
/-
The definitions regenerated from `exponax/metrics/*.py` (`Generated/MetricsGen.lean`), over an ARBITRARY scalar
type (no algebraic law is used, so the equalities hold for the IEEE scalar of the driver as well).  The spatial
metrics equal `spatialModel`, defined below from `combine` and `spatialAggregator` of `Model/Metrics.lean`; the
Fourier and H1 metrics are reduced to `fourierGen`, the `combine` of the regenerated `fourier_aggregator`;
`correlation` is unfolded by `rfl`.  The model theorems for the Fourier family and the correlation are in
`MetricsGenFourierEq.lean`.
-/
set_option linter.unusedSectionVars false
namespace Exponax.Gen.MetricsGen
open Exponax Exponax.Layout Exponax.Transform Exponax.DFT Exponax.Gen Exponax.Gen.Prelude

/-- the list of regenerated metric functions; their theorems are here and in `MetricsGenFourierEq.lean` -/
theorem generated_metrics_pinned : generated_metrics =
    ["H1_MAE", "H1_MSE", "H1_RMSE", "H1_nMAE", "H1_nMSE", "H1_nRMSE", "MAE", "MSE", "RMSE", "_correlation",
     "correlation", "fourier_MAE", "fourier_MSE", "fourier_RMSE", "fourier_aggregator", "fourier_nMAE",
     "fourier_nMSE", "fourier_nRMSE", "fourier_norm", "nMAE", "nMSE", "nRMSE", "sMAE", "sMSE", "sRMSE",
     "spatial_aggregator", "spatial_norm"] := rfl

section
variable {K : Type} [Add K] [Sub K] [Mul K] [Div K] [Neg K] [Zero K] [One K] [NatCast K] [IntCast K]
  [HasRpow K] [HasAbs K] [HasLtB K] [HasSqrt K]

/-- `spatial_aggregator` with all defaults resolved is the model aggregator -/
theorem spatial_aggregator_eq (D N : ℕ) (u : Array K) (nsd : Option ℕ) (L : K) (np : Option ℕ) (p : K)
    (oq : Option K) :
    spatial_aggregator D N u nsd L np p oq
      = Metrics.spatialAggregator (nsd.getD D) (np.getD N) L p (oq.getD (lit 1 / p)) u := by
  unfold spatial_aggregator Metrics.spatialAggregator
  rw [sumRange_size_getD u 0 (fun x => HasRpow.rpow (HasAbs.abs x) p)]
  cases nsd <;> cases np <;> cases oq
  all_goals rfl

/-- the call made by `spatial_norm` (`num_spatial_dims`, `num_points` inferred from the array) -/
theorem spatial_aggregator_inferred (D N : ℕ) (u : Array K) (L p q : K) :
    spatial_aggregator D N u none L none p (some q) = Metrics.spatialAggregator D N L p q u := by
  rw [spatial_aggregator_eq]; rfl

/-- documented default of the outer exponent: `q = 1/p` -/
theorem spatial_aggregator_default_outer (D N : ℕ) (u : Array K) (L p : K) :
    spatial_aggregator D N u none L none p none = Metrics.spatialAggregator D N L p (lit 1 / p) u := by
  rw [spatial_aggregator_eq]; rfl

/-- `state - state_ref` channel by channel, entry by entry -/
def chanSub (u r : List (Array K)) : List (Array K) :=
  List.zipWith (fun (a : Array K) (b : Array K) => tab a.size (fun j => a.getD j 0 - b.getD j 0)) u r

theorem chanSub_length (u r : List (Array K)) : (chanSub u r).length = min u.length r.length :=
  List.length_zipWith

/-- mode string ↦ the mode code of `Metrics.combine` -/
def modeCode (mode : String) : ℕ := if mode = "normalized" then 1 else if mode = "symmetric" then 2 else 0

def chanAgg (D N : ℕ) (L p q : K) (us : List (Array K)) : List K :=
  us.map (Metrics.spatialAggregator D N L p q)

theorem combine_zero (dn rn sn : List K) : Metrics.combine 0 dn rn sn = sumList dn := by
  unfold Metrics.combine
  simp only [show ¬ ((0 : ℕ) = 1) by decide, show ¬ ((0 : ℕ) = 2) by decide, if_false]
  rw [list_range_map_getD]

theorem combine_one (dn rn sn : List K) (h : dn.length ≤ rn.length) :
    Metrics.combine 1 dn rn sn = sumList (List.zipWith (fun a b => a / b) dn rn) := by
  unfold Metrics.combine
  simp only [if_true]
  rw [zipWith_eq_range_map _ dn rn 0 0 h]

theorem combine_two (dn rn sn : List K) (h1 : dn.length ≤ rn.length) (h2 : dn.length ≤ sn.length) :
    Metrics.combine 2 dn rn sn
      = sumList (List.zipWith (fun a b => a / b) (List.map (fun a => lit 2 * a) dn)
          (List.zipWith (fun a b => a + b) sn rn)) := by
  unfold Metrics.combine
  simp only [show ¬ ((2 : ℕ) = 1) by decide, if_false, if_true]
  rw [zipWith_eq_range_map _ (List.map (fun a => lit 2 * a) dn) _ 0 0 (by simp; omega)]
  congr 1
  rw [List.length_map]
  apply List.map_congr_left
  intro c hc
  have hc' : c < dn.length := List.mem_range.mp hc
  have hr : c < rn.length := lt_of_lt_of_le hc' h1
  have hs : c < sn.length := lt_of_lt_of_le hc' h2
  simp [List.getD_eq_getElem?_getD, hc', hr, hs]

/-- `spatial_norm` with a reference state: the model combination of the per-channel model aggregates of the
    difference, the reference and the state -/
theorem spatial_norm_eq (D N : ℕ) (u r : List (Array K)) (mode : String) (L p q : K) :
    spatial_norm D N u (some r) mode L p (some q)
      = some (Metrics.combine (modeCode mode) (chanAgg D N L p q (chanSub u r)) (chanAgg D N L p q r)
          (chanAgg D N L p q u)) := by
  have hd : (chanAgg D N L p q (chanSub u r)).length ≤ (chanAgg D N L p q r).length := by
    simp [chanAgg, chanSub_length]
  have hs : (chanAgg D N L p q (chanSub u r)).length ≤ (chanAgg D N L p q u).length := by
    simp [chanAgg, chanSub_length]
  unfold spatial_norm modeCode
  simp only [Option.bind_some, spatial_aggregator_inferred]
  have hne : ¬ ("symmetric" = "normalized") := by decide
  by_cases h1 : mode = "normalized"
  · subst h1
    simp only [if_true, Option.bind_some]
    rw [combine_one _ _ _ hd]; rfl
  · by_cases h2 : mode = "symmetric"
    · subst h2
      simp only [hne, if_true, if_false, Option.bind_some]
      rw [combine_two _ _ _ hd hs]; rfl
    · simp only [h1, h2, if_false, Option.bind_some]
      rw [combine_zero]; rfl

/-- `spatial_norm` without a reference state: the relative modes raise, the absolute mode aggregates the state -/
theorem spatial_norm_none (D N : ℕ) (u : List (Array K)) (mode : String) (L p q : K) :
    spatial_norm D N u none mode L p (some q)
      = if mode = "normalized" ∨ mode = "symmetric" then none
        else some (Metrics.combine 0 (chanAgg D N L p q u) [] []) := by
  unfold spatial_norm
  by_cases h1 : mode = "normalized"
  · subst h1; simp
  · by_cases h2 : mode = "symmetric"
    · subst h2; simp
    · simp only [h1, h2, if_false, or_self, Option.bind_some, spatial_aggregator_inferred]
      rw [combine_zero]; rfl

/-! ### the thin wrappers of `_spatial.py`: mode code, inner exponent `p`, outer exponent `q` -/

/-- the model value of a spatial metric: `combine` of the per-channel aggregates -/
def spatialModel (code D N : ℕ) (L p q : K) (u r : List (Array K)) : K :=
  Metrics.combine code (chanAgg D N L p q (chanSub u r)) (chanAgg D N L p q r) (chanAgg D N L p q u)

/-- the three modes of `spatial_norm`; the wrappers below are instances of these -/
theorem spatial_norm_absolute (D N : ℕ) (u r : List (Array K)) (L p q : K) :
    spatial_norm D N u (some r) "absolute" L p (some q) = some (spatialModel 0 D N L p q u r) := by
  rw [spatial_norm_eq]; rfl
theorem spatial_norm_normalized (D N : ℕ) (u r : List (Array K)) (L p q : K) :
    spatial_norm D N u (some r) "normalized" L p (some q) = some (spatialModel 1 D N L p q u r) := by
  rw [spatial_norm_eq]; rfl
theorem spatial_norm_symmetric (D N : ℕ) (u r : List (Array K)) (L p q : K) :
    spatial_norm D N u (some r) "symmetric" L p (some q) = some (spatialModel 2 D N L p q u r) := by
  rw [spatial_norm_eq]; rfl
theorem spatial_norm_none_absolute (D N : ℕ) (u : List (Array K)) (L p q : K) :
    spatial_norm D N u none "absolute" L p (some q) = some (Metrics.combine 0 (chanAgg D N L p q u) [] []) := by
  rw [spatial_norm_none]; rfl

theorem MAE_eq (D N : ℕ) (u r : List (Array K)) (L : K) :
    MAE D N u (some r) L = some (spatialModel 0 D N L (lit 1) (lit 1) u r) := spatial_norm_absolute D N u r L _ _
theorem nMAE_eq (D N : ℕ) (u r : List (Array K)) (L : K) :
    nMAE D N u r L = some (spatialModel 1 D N L (lit 1) (lit 1) u r) := spatial_norm_normalized D N u r L _ _
theorem sMAE_eq (D N : ℕ) (u r : List (Array K)) (L : K) :
    sMAE D N u r L = some (spatialModel 2 D N L (lit 1) (lit 1) u r) := spatial_norm_symmetric D N u r L _ _
theorem MSE_eq (D N : ℕ) (u r : List (Array K)) (L : K) :
    MSE D N u (some r) L = some (spatialModel 0 D N L (lit 2) (lit 1) u r) := spatial_norm_absolute D N u r L _ _
theorem nMSE_eq (D N : ℕ) (u r : List (Array K)) (L : K) :
    nMSE D N u r L = some (spatialModel 1 D N L (lit 2) (lit 1) u r) := spatial_norm_normalized D N u r L _ _
theorem sMSE_eq (D N : ℕ) (u r : List (Array K)) (L : K) :
    sMSE D N u r L = some (spatialModel 2 D N L (lit 2) (lit 1) u r) := spatial_norm_symmetric D N u r L _ _
theorem RMSE_eq (D N : ℕ) (u r : List (Array K)) (L : K) :
    RMSE D N u (some r) L = some (spatialModel 0 D N L (lit 2) (qlit 1 2) u r) := spatial_norm_absolute D N u r L _ _
theorem nRMSE_eq (D N : ℕ) (u r : List (Array K)) (L : K) :
    nRMSE D N u r L = some (spatialModel 1 D N L (lit 2) (qlit 1 2) u r) := spatial_norm_normalized D N u r L _ _
theorem sRMSE_eq (D N : ℕ) (u r : List (Array K)) (L : K) :
    sRMSE D N u r L = some (spatialModel 2 D N L (lit 2) (qlit 1 2) u r) := spatial_norm_symmetric D N u r L _ _

/-- without a reference the absolute metrics are the norms of the state itself -/
theorem MAE_none (D N : ℕ) (u : List (Array K)) (L : K) :
    MAE D N u none L = some (Metrics.combine 0 (chanAgg D N L (lit 1) (lit 1) u) [] []) :=
  spatial_norm_none_absolute D N u L _ _
theorem MSE_none (D N : ℕ) (u : List (Array K)) (L : K) :
    MSE D N u none L = some (Metrics.combine 0 (chanAgg D N L (lit 2) (lit 1) u) [] []) :=
  spatial_norm_none_absolute D N u L _ _
theorem RMSE_none (D N : ℕ) (u : List (Array K)) (L : K) :
    RMSE D N u none L = some (Metrics.combine 0 (chanAgg D N L (lit 2) (qlit 1 2) u) [] []) :=
  spatial_norm_none_absolute D N u L _ _

end

/-! ### the Fourier family: structure, over an arbitrary scalar type -/
section
variable {K : Type} [Add K] [Sub K] [Mul K] [Div K] [Neg K] [Zero K] [One K] [NatCast K] [IntCast K]
  [HasRpow K] [HasAbs K] [HasLtB K] [HasSqrt K] [HasExp K] [HasI K] [HasPi K] [HasCpow K]

/-- explicit `num_spatial_dims = D`, `num_points = N` are the inferred ones -/
theorem fourier_aggregator_explicit_shape (D N : ℕ) (u : Array K) (L p : K) (oq : Option K) (lo hi : Option ℕ)
    (m : Option K) :
    fourier_aggregator D N u (some D) L (some N) p oq lo hi m = fourier_aggregator D N u none L none p oq lo hi m :=
  rfl

/-- documented default of the outer exponent: `q = 1/p` -/
theorem fourier_aggregator_default_outer (D N : ℕ) (u : Array K) (nsd : Option ℕ) (L : K) (np : Option ℕ) (p : K)
    (lo hi : Option ℕ) (m : Option K) :
    fourier_aggregator D N u nsd L np p none lo hi m
      = fourier_aggregator D N u nsd L np p (some (lit 1 / p)) lo hi m := rfl

/-- the spectrum that `fourier_aggregator` aggregates: floored at `1e-5`, then band-masked if a limit is given
    (defaults `0`, `N/2+1`) -/
def keptHat (D N : ℕ) (u : Array K) (lo hi : Option ℕ) : Array K :=
  let F : Array K := tab (ext_fft D N u).size (fun h =>
    bif HasLtB.ltb (HasAbs.abs ((ext_fft D N u).getD h 0)) (qlit 1 100000) then 0 else (ext_fft D N u).getD h 0)
  if lo.isSome = true ∨ hi.isSome = true then
    let low_mask := ext_low_pass_filter_mask D N (((lo.getD 0 : ℕ) : ℤ) - 1) true
    let high_mask := ext_low_pass_filter_mask D N ((hi.getD (N / 2 + 1) : ℕ) : ℤ) true
    let mask : Array Bool := tab low_mask.size (fun h => !(low_mask.getD h false) && high_mask.getD h false)
    tab F.size (fun h => F.getD h 0 * (bif mask.getD h false then 1 else 0))
  else F

/-- one aggregate `((L/N)^D Σ_h |s_h|^p / scaling_h)^q` of `fourier_aggregator` -/
def aggOne (D N : ℕ) (L p q : K) (s : Array K) : K :=
  HasRpow.rpow (npow (L / lit N) D * sumRange (tab s.size fun h => HasRpow.rpow (HasAbs.abs (s.getD h 0)) p /
    (ext_build_scaling_array D N "reconstruction").getD h 0).size fun h =>
      (tab s.size fun h => HasRpow.rpow (HasAbs.abs (s.getD h 0)) p /
        (ext_build_scaling_array D N "reconstruction").getD h 0).getD h 0) q

/-- `fourier_aggregator` without derivative is the one aggregate of the kept spectrum -/
theorem fourier_aggregator_none_eq (D N : ℕ) (u : Array K) (L p q : K) (lo hi : Option ℕ) :
    fourier_aggregator D N u none L none p (some q) lo hi none = sumList [aggOne D N L p q (keptHat D N u lo hi)] := by
  cases lo <;> cases hi
  all_goals rfl

/-- `fourier_aggregator` with derivative order `m`: one aggregate per axis `d`, of the kept spectrum times
    `(i 2π/L k_d)^m` -/
theorem fourier_aggregator_some_eq (D N : ℕ) (u : Array K) (L p q m : K) (lo hi : Option ℕ) :
    fourier_aggregator D N u none L none p (some q) lo hi (some m)
      = sumList (List.map (aggOne D N L p q)
          (List.map (fun a => tab (keptHat D N u lo hi).size fun h => (keptHat D N u lo hi).getD h 0 * a.getD h 0)
            (List.map (fun a => tab a.size fun h => HasCpow.cpow (a.getD h 0) m)
              (ext_build_derivative_operator D L N)))) := by
  cases lo <;> cases hi
  all_goals rfl

/-- per-channel regenerated Fourier aggregates (the call made by `fourier_norm`) -/
def chanFAgg (D N : ℕ) (L p q : K) (lo hi : Option ℕ) (m : Option K) (us : List (Array K)) : List K :=
  us.map (fun s => fourier_aggregator D N s none L none p (some q) lo hi m)

/-- mode string ↦ mode code for `fourier_norm` (no symmetric mode there) -/
def fmodeCode (mode : String) : ℕ := if mode = "normalized" then 1 else 0

/-- `fourier_norm` with a reference state is the model combination (`Metrics.combine`) of the per-channel
    regenerated aggregates -/
theorem fourier_norm_eq (D N : ℕ) (u r : List (Array K)) (mode : String) (L p q : K) (lo hi : Option ℕ)
    (m : Option K) :
    fourier_norm D N u (some r) mode L p (some q) lo hi m
      = some (Metrics.combine (fmodeCode mode) (chanFAgg D N L p q lo hi m (chanSub u r))
          (chanFAgg D N L p q lo hi m r) []) := by
  have hd : (chanFAgg D N L p q lo hi m (chanSub u r)).length ≤ (chanFAgg D N L p q lo hi m r).length := by
    simp [chanFAgg, chanSub_length]
  unfold fourier_norm fmodeCode
  simp only [Option.bind_some]
  by_cases h1 : mode = "normalized"
  · subst h1
    simp only [if_true, Option.bind_some]
    rw [combine_one _ _ _ hd]; rfl
  · simp only [h1, if_false, Option.bind_some]
    rw [combine_zero]; rfl

theorem fourier_norm_none (D N : ℕ) (u : List (Array K)) (mode : String) (L p q : K) (lo hi : Option ℕ)
    (m : Option K) :
    fourier_norm D N u none mode L p (some q) lo hi m
      = if mode = "normalized" then none
        else some (Metrics.combine 0 (chanFAgg D N L p q lo hi m u) [] []) := by
  unfold fourier_norm
  by_cases h1 : mode = "normalized"
  · subst h1; simp
  · simp only [h1, if_false, Option.bind_some]
    rw [combine_zero]; rfl

/-- the value of a Fourier metric: `combine` of the per-channel regenerated aggregates -/
def fourierGen (code D N : ℕ) (L p q : K) (lo hi : Option ℕ) (m : Option K) (u r : List (Array K)) : K :=
  Metrics.combine code (chanFAgg D N L p q lo hi m (chanSub u r)) (chanFAgg D N L p q lo hi m r) []

theorem fourier_norm_absolute (D N : ℕ) (u r : List (Array K)) (L p q : K) (lo hi : Option ℕ) (m : Option K) :
    fourier_norm D N u (some r) "absolute" L p (some q) lo hi m = some (fourierGen 0 D N L p q lo hi m u r) := by
  rw [fourier_norm_eq]; rfl
theorem fourier_norm_normalized (D N : ℕ) (u r : List (Array K)) (L p q : K) (lo hi : Option ℕ) (m : Option K) :
    fourier_norm D N u (some r) "normalized" L p (some q) lo hi m = some (fourierGen 1 D N L p q lo hi m u r) := by
  rw [fourier_norm_eq]; rfl

theorem fourier_MAE_eq (D N : ℕ) (u r : List (Array K)) (L : K) (lo hi : Option ℕ) (m : Option K) :
    fourier_MAE D N u (some r) L lo hi m = some (fourierGen 0 D N L (lit 1) (lit 1) lo hi m u r) :=
  fourier_norm_absolute D N u r L _ _ lo hi m
theorem fourier_nMAE_eq (D N : ℕ) (u r : List (Array K)) (L : K) (lo hi : Option ℕ) (m : Option K) :
    fourier_nMAE D N u r L lo hi m = some (fourierGen 1 D N L (lit 1) (lit 1) lo hi m u r) :=
  fourier_norm_normalized D N u r L _ _ lo hi m
theorem fourier_MSE_eq (D N : ℕ) (u r : List (Array K)) (L : K) (lo hi : Option ℕ) (m : Option K) :
    fourier_MSE D N u (some r) L lo hi m = some (fourierGen 0 D N L (lit 2) (lit 1) lo hi m u r) :=
  fourier_norm_absolute D N u r L _ _ lo hi m
theorem fourier_nMSE_eq (D N : ℕ) (u r : List (Array K)) (L : K) (lo hi : Option ℕ) (m : Option K) :
    fourier_nMSE D N u r L lo hi m = some (fourierGen 1 D N L (lit 2) (lit 1) lo hi m u r) :=
  fourier_norm_normalized D N u r L _ _ lo hi m
theorem fourier_RMSE_eq (D N : ℕ) (u r : List (Array K)) (L : K) (lo hi : Option ℕ) (m : Option K) :
    fourier_RMSE D N u (some r) L lo hi m = some (fourierGen 0 D N L (lit 2) (qlit 1 2) lo hi m u r) :=
  fourier_norm_absolute D N u r L _ _ lo hi m
theorem fourier_nRMSE_eq (D N : ℕ) (u r : List (Array K)) (L : K) (lo hi : Option ℕ) (m : Option K) :
    fourier_nRMSE D N u r L lo hi m = some (fourierGen 1 D N L (lit 2) (qlit 1 2) lo hi m u r) :=
  fourier_norm_normalized D N u r L _ _ lo hi m

/-! ### `_derivative.py`: `H1_X = fourier_X(derivative_order=None) + fourier_X(derivative_order=1)` -/

theorem H1_MAE_eq (D N : ℕ) (u r : List (Array K)) (L : K) (lo hi : Option ℕ) :
    H1_MAE D N u (some r) L lo hi = some (fourierGen 0 D N L (lit 1) (lit 1) lo hi none u r
      + fourierGen 0 D N L (lit 1) (lit 1) lo hi (some (lit 1)) u r) := by
  unfold H1_MAE
  rw [fourier_MAE_eq, fourier_MAE_eq]
  rfl
theorem H1_nMAE_eq (D N : ℕ) (u r : List (Array K)) (L : K) (lo hi : Option ℕ) :
    H1_nMAE D N u r L lo hi = some (fourierGen 1 D N L (lit 1) (lit 1) lo hi none u r
      + fourierGen 1 D N L (lit 1) (lit 1) lo hi (some (lit 1)) u r) := by
  unfold H1_nMAE
  rw [fourier_nMAE_eq, fourier_nMAE_eq]
  rfl
theorem H1_MSE_eq (D N : ℕ) (u r : List (Array K)) (L : K) (lo hi : Option ℕ) :
    H1_MSE D N u (some r) L lo hi = some (fourierGen 0 D N L (lit 2) (lit 1) lo hi none u r
      + fourierGen 0 D N L (lit 2) (lit 1) lo hi (some (lit 1)) u r) := by
  unfold H1_MSE
  rw [fourier_MSE_eq, fourier_MSE_eq]
  rfl
theorem H1_nMSE_eq (D N : ℕ) (u r : List (Array K)) (L : K) (lo hi : Option ℕ) :
    H1_nMSE D N u r L lo hi = some (fourierGen 1 D N L (lit 2) (lit 1) lo hi none u r
      + fourierGen 1 D N L (lit 2) (lit 1) lo hi (some (lit 1)) u r) := by
  unfold H1_nMSE
  rw [fourier_nMSE_eq, fourier_nMSE_eq]
  rfl
theorem H1_RMSE_eq (D N : ℕ) (u r : List (Array K)) (L : K) (lo hi : Option ℕ) :
    H1_RMSE D N u (some r) L lo hi = some (fourierGen 0 D N L (lit 2) (qlit 1 2) lo hi none u r
      + fourierGen 0 D N L (lit 2) (qlit 1 2) lo hi (some (lit 1)) u r) := by
  unfold H1_RMSE
  rw [fourier_RMSE_eq, fourier_RMSE_eq]
  rfl
theorem H1_nRMSE_eq (D N : ℕ) (u r : List (Array K)) (L : K) (lo hi : Option ℕ) :
    H1_nRMSE D N u r L lo hi = some (fourierGen 1 D N L (lit 2) (qlit 1 2) lo hi none u r
      + fourierGen 1 D N L (lit 2) (qlit 1 2) lo hi (some (lit 1)) u r) := by
  unfold H1_nRMSE
  rw [fourier_nRMSE_eq, fourier_nRMSE_eq]
  rfl

end

section
variable {K : Type} [Add K] [Sub K] [Mul K] [Div K] [Neg K] [Zero K] [One K] [NatCast K] [IntCast K] [HasSqrt K]

theorem correlation_eq (u r : List (Array K)) :
    correlation u r = sumList (List.zipWith (fun a b => priv_correlation a b) u r)
      / lit (List.zipWith (fun (a b : Array K) => priv_correlation a b) u r).length := rfl

end
end Exponax.Gen.MetricsGen
