import ExponaxModel.Proofs.LinearTestOrderConst
/-
C02: the order theorems on the linear test family `u' = λu + μu` for PERTURBED coefficients.  If every coefficient handed to
the regenerated `Gen.Etdrk.E{p}step` differs from the exact Cox–Matthews value `dt·(φ-combination)(λ dt)` by at most `δ·dt`
in norm (the propagators `e^{λdt}`, `e^{λdt/2}` being exact), then for `n·dt ≤ T`

   ‖(E{p}step …)ⁿ u − e^{(λ+μ) n dt} u‖ ≤ Cfloor · (Cloc{p} · dt^p + pertD{p}) · ‖u‖,      pertD{p} = δ · κ_p ,

the order-`p` decay down to a consistency floor proportional to `δ`, with `κ_p = pertK{p} ‖μ‖ W …` polynomials in
`‖μ‖, W = max(1, e^{T Re λ}), T, δ`.  The perturbed step multiplies by `amp{p}`, which is within `δ·dt·κ_p` of
`R_p(λdt, μdt)`; `OrderOnTestFamily.perturbed` turns that one-step distance into the global bound.
-/
noncomputable section
namespace Exponax.LinearOrder
open Exponax Exponax.Spec Exponax.ContourTail Exponax.Gen.Etdrk

theorem norm_le_of_close {c a : ℂ} {A e q : ℝ} (ha : ‖a‖ ≤ A) (h : ‖c - a‖ ≤ e) (hq : A + e ≤ q) :
    ‖c‖ ≤ q :=
  (norm_le_insert' c a).trans ((add_le_add ha h).trans hq)

def pertK1 (mm : ℝ) : ℝ := mm

theorem amp1_pert (m E a1 c1 : ℂ) (e : ℝ) (h1 : ‖c1 - a1‖ ≤ e) :
    ‖amp1 m E c1 - amp1 m E a1‖ ≤ e * pertK1 ‖m‖ :=
  (norm_stage_sub_le (norm_sub_self_le E) h1 le_rfl (le_refl ‖a1‖) (norm_sub_self_le m)).trans_eq
    (by unfold pertK1; ring)

/-- `κ₂`: `W ≥ ‖E‖`, `q1 ≥ ‖c₁‖`, `a2 ≥ ‖a₂‖` -/
def pertK2 (mm W q1 a2 : ℝ) : ℝ := mm * (1 + (W + q1 * mm + 1) + a2 * mm)

theorem amp2_pert (m E a1 a2 c1 c2 : ℂ) (e W q1 a1B a2B : ℝ) (hE : ‖E‖ ≤ W)
    (ha1 : ‖a1‖ ≤ a1B) (hq1 : a1B + e ≤ q1) (ha2 : ‖a2‖ ≤ a2B)
    (h1 : ‖c1 - a1‖ ≤ e) (h2 : ‖c2 - a2‖ ≤ e) :
    ‖amp2 m E c1 c2 - amp2 m E a1 a2‖ ≤ e * pertK2 ‖m‖ W q1 a2B := by
  have hm : ‖m‖ ≤ ‖m‖ := le_rfl
  have hc1 : ‖c1‖ ≤ q1 := norm_le_of_close ha1 h1 hq1
  -- the stage `a − 1` with the perturbed coefficient: its size, and its distance from the exact one
  have sA1 : ‖(E + c1 * m) - 1‖ ≤ (W + q1 * ‖m‖) + 1 :=
    norm_sub_le_of_le (norm_add_le_of_le hE (norm_mul_le_of_le hc1 hm)) norm_one.le
  have dA := norm_stage_sub_le (norm_sub_self_le E) h1 hm ha1 (norm_sub_self_le m)
  have dA1 := (congrArg norm (sub_sub_sub_cancel_right _ _ (1 : ℂ))).trans_le dA
  exact (norm_stage_sub_le dA (norm_mul_sub_mul_right_le h2 hm) sA1 (norm_mul_le_of_le ha2 hm) dA1).trans_eq
    (by unfold pertK2; ring)

/-- `κ₃`: `W ≥ ‖E‖,‖Eh‖`; `a1 ≥ ‖a₁‖`; `q1 ≥ ‖c₁‖`, `qh ≥ ‖c_h‖`; `b2, b3 ≥ ‖b₂‖, ‖b₃‖` -/
def pertK3 (mm W a1 q1 qh b2 b3 : ℝ) : ℝ :=
  mm * (1 + (W + qh * mm) + b2 * mm + (W + q1 * mm * (2 * (W + qh * mm) + 1))
    + b3 * mm * ((2 * (W + qh * mm) + 1) + 2 * a1 * mm))

theorem amp3_pert (m E Eh ah a1 b1 b2 b3 ch c1 cb1 cb2 cb3 : ℂ) (e W ahB a1B q1 qh b2B b3B : ℝ)
    (hE : ‖E‖ ≤ W) (hEh : ‖Eh‖ ≤ W) (hah : ‖ah‖ ≤ ahB) (hqh : ahB + e ≤ qh)
    (ha1 : ‖a1‖ ≤ a1B) (hq1 : a1B + e ≤ q1) (hb2 : ‖b2‖ ≤ b2B) (hb3 : ‖b3‖ ≤ b3B)
    (hh : ‖ch - ah‖ ≤ e) (h1 : ‖c1 - a1‖ ≤ e) (h3 : ‖cb1 - b1‖ ≤ e) (h4 : ‖cb2 - b2‖ ≤ e)
    (h5 : ‖cb3 - b3‖ ≤ e) :
    ‖amp3 m E Eh ch c1 cb1 cb2 cb3 - amp3 m E Eh ah a1 b1 b2 b3‖
      ≤ e * pertK3 ‖m‖ W a1B q1 qh b2B b3B := by
  have hm : ‖m‖ ≤ ‖m‖ := le_rfl
  have z := norm_sub_self_le (V := ℂ)
  have hch : ‖ch‖ ≤ qh := norm_le_of_close hah hh hqh
  have hc1 : ‖c1‖ ≤ q1 := norm_le_of_close ha1 h1 hq1
  -- the stages `a`, `2a − 1`, `b` with the perturbed coefficients: their size, and their distance from the exact ones
  have sA : ‖Eh + ch * m‖ ≤ W + qh * ‖m‖ := norm_add_le_of_le hEh (norm_mul_le_of_le hch hm)
  have dA := norm_stage_sub_le (z Eh) hh hm hah (z m)
  have sA2 : ‖2 * (Eh + ch * m) - 1‖ ≤ 2 * (W + qh * ‖m‖) + 1 :=
    norm_sub_le_of_le (norm_mul_le_of_le Complex.norm_two.le sA) norm_one.le
  have dA2 := norm_two_mul_sub_sub_le dA (z 1)
  have sB : ‖E + c1 * m * (2 * (Eh + ch * m) - 1)‖ ≤ W + q1 * ‖m‖ * (2 * (W + qh * ‖m‖) + 1) :=
    norm_add_le_of_le hE (norm_mul_le_of_le (norm_mul_le_of_le hc1 hm) sA2)
  have dB := norm_stage_sub_le (z E) (norm_mul_sub_mul_right_le h1 hm) sA2 (norm_mul_le_of_le ha1 hm) dA2
  -- the update, term by term
  exact (norm_stage_sub_le (norm_stage_sub_le (norm_stage_sub_le (z E) h3 hm le_rfl (z m))
    (norm_mul_sub_mul_right_le h4 hm) sA (norm_mul_le_of_le hb2 hm) dA)
    (norm_mul_sub_mul_right_le h5 hm) sB (norm_mul_le_of_le hb3 hm) dB).trans_eq (by unfold pertK3; ring)

/-- `κ₄`: `W ≥ ‖Eh‖`; `a ≥ ‖a_h‖`; `q ≥ ‖c₁‖,‖c₂‖,‖c₃‖`; `b2, b3 ≥ ‖b₂‖, ‖b₃‖` -/
def pertK4 (mm W a q b2 b3 : ℝ) : ℝ :=
  mm * (1 + 2 * ((W + q * mm) + (W + q * mm * (W + q * mm)))
    + 2 * b2 * mm * (1 + (W + q * mm) + a * mm)
    + (W * (W + q * mm) + q * mm * (2 * (W + q * mm * (W + q * mm)) + 1))
    + b3 * (W * mm + mm * ((2 * (W + q * mm * (W + q * mm)) + 1)
        + 2 * a * mm * ((W + q * mm) + a * mm))))

theorem amp4_pert (m E Eh ah b1 b2 b3 c1 c2 c3 c4 c5 c6 : ℂ) (e W a q b2B b3B : ℝ)
    (hEh : ‖Eh‖ ≤ W) (hah : ‖ah‖ ≤ a) (hq : a + e ≤ q) (hb2 : ‖b2‖ ≤ b2B)
    (hb3 : ‖b3‖ ≤ b3B) (h1 : ‖c1 - ah‖ ≤ e) (h2 : ‖c2 - ah‖ ≤ e) (h3 : ‖c3 - ah‖ ≤ e)
    (h4 : ‖c4 - b1‖ ≤ e) (h5 : ‖c5 - b2‖ ≤ e) (h6 : ‖c6 - b3‖ ≤ e) :
    ‖amp4 m E Eh c1 c2 c3 c4 c5 c6 - amp4 m E Eh ah ah ah b1 b2 b3‖
      ≤ e * pertK4 ‖m‖ W a q b2B b3B := by
  have hm : ‖m‖ ≤ ‖m‖ := le_rfl
  have z := norm_sub_self_le (V := ℂ)
  have hc1 : ‖c1‖ ≤ q := norm_le_of_close hah h1 hq
  have hc2 : ‖c2‖ ≤ q := norm_le_of_close hah h2 hq
  have hc3 : ‖c3‖ ≤ q := norm_le_of_close hah h3 hq
  have ham := norm_mul_le_of_le hah hm
  -- the stages `a`, `b`, `2b − 1`, `c` with the perturbed coefficients: their size, and their distance from the exact ones
  have sA : ‖Eh + c1 * m‖ ≤ W + q * ‖m‖ := norm_add_le_of_le hEh (norm_mul_le_of_le hc1 hm)
  have dA := norm_stage_sub_le (z Eh) h1 hm hah (z m)
  have sB : ‖Eh + c2 * m * (Eh + c1 * m)‖ ≤ W + q * ‖m‖ * (W + q * ‖m‖) :=
    norm_add_le_of_le hEh (norm_mul_le_of_le (norm_mul_le_of_le hc2 hm) sA)
  have dB := norm_stage_sub_le (z Eh) (norm_mul_sub_mul_right_le h2 hm) sA ham dA
  have sB2 : ‖2 * (Eh + c2 * m * (Eh + c1 * m)) - 1‖ ≤ 2 * (W + q * ‖m‖ * (W + q * ‖m‖)) + 1 :=
    norm_sub_le_of_le (norm_mul_le_of_le Complex.norm_two.le sB) norm_one.le
  have dB2 := norm_two_mul_sub_sub_le dB (z 1)
  have sC : ‖Eh * (Eh + c1 * m) + c3 * m * (2 * (Eh + c2 * m * (Eh + c1 * m)) - 1)‖
      ≤ W * (W + q * ‖m‖) + q * ‖m‖ * (2 * (W + q * ‖m‖ * (W + q * ‖m‖)) + 1) :=
    norm_add_le_of_le (norm_mul_le_of_le hEh sA) (norm_mul_le_of_le (norm_mul_le_of_le hc3 hm) sB2)
  have dC := norm_stage_sub_le (norm_mul_sub_mul_le hEh dA) (norm_mul_sub_mul_right_le h3 hm) sB2 ham dB2
  -- the update, term by term
  exact (norm_stage_sub_le (norm_stage_sub_le (norm_stage_sub_le (z E) h4 hm le_rfl (z m))
    (norm_mul_sub_mul_right_le (norm_two_mul_sub_le h5) hm) (norm_add_le_of_le sA sB)
    (norm_mul_le_of_le (norm_mul_le_of_le Complex.norm_two.le hb2) hm)
    ((congrArg norm (add_sub_add_comm _ _ _ _)).trans_le (norm_add_le_of_le dA dB)))
    (norm_mul_sub_mul_right_le h6 hm) sC (norm_mul_le_of_le hb3 hm) dC).trans_eq (by unfold pertK4; ring)

theorem norm_exp_ray (x : ℂ) (t T : ℝ) (h0 : 0 ≤ t) (hT : t ≤ T) :
    ‖Complex.exp (x * t)‖ ≤ expMax x.re T := by
  rw [Complex.norm_exp, Complex.re_mul_ofReal]
  exact (le_max_right _ _).trans (max_one_exp_ray x.re t T h0 hT)

theorem norm_exp_ray_half (x : ℂ) (t T : ℝ) (h0 : 0 ≤ t) (hT : t ≤ T) :
    ‖Complex.exp (x * t / 2)‖ ≤ expMax x.re T := by
  rw [half_ray]
  exact norm_exp_ray x (t / 2) T (div_nonneg h0 zero_le_two) ((half_le_self h0).trans hT)

theorem norm_phi1e_ray (x : ℂ) (t T : ℝ) (h0 : 0 ≤ t) (hT : t ≤ T) :
    ‖phi1e (x * t)‖ ≤ expMax x.re T := by
  simpa [phiE_one] using norm_phiE_ray 0 1 rfl x t T h0 hT

/-- the half-step coefficient `φ₁(λt/2)/2` of ETDRK3/4 -/
theorem norm_phi1e_ray_half (x : ℂ) (t T : ℝ) (h0 : 0 ≤ t) (hT : t ≤ T) :
    ‖phi1e (x * t / 2) / 2‖ ≤ expMax x.re T / 2 := by
  rw [norm_div, Complex.norm_ofNat]
  refine div_le_div_of_nonneg_right ?_ zero_le_two
  simpa [phiE_one] using norm_phiE_ray_half 0 1 rfl x t T h0 hT

theorem norm_phi2e_ray (x : ℂ) (t T : ℝ) (h0 : 0 ≤ t) (hT : t ≤ T) :
    ‖phi2e (x * t)‖ ≤ expMax x.re T / 2 := by
  simpa [phiE_two] using norm_phiE_ray 1 2 rfl x t T h0 hT

theorem norm_phi3e_ray (x : ℂ) (t T : ℝ) (h0 : 0 ≤ t) (hT : t ≤ T) :
    ‖phi3e (x * t)‖ ≤ expMax x.re T / 6 := by
  simpa [phiE_three] using norm_phiE_ray 2 6 rfl x t T h0 hT

theorem norm_dt_mul_le (dt T : ℝ) (x : ℂ) (X : ℝ) (h0 : 0 ≤ dt) (hT : dt ≤ T) (hx : ‖x‖ ≤ X) :
    ‖(dt : ℂ) * x‖ ≤ T * X :=
  norm_mul_le_of_le (nrm_ofReal h0 hT) hx

/-- the weights `φ₂ − 2φ₃` and `4φ₃ − φ₂` of ETDRK3/4 -/
theorem norm_wB_ray (x : ℂ) (t T : ℝ) (h0 : 0 ≤ t) (hT : t ≤ T) :
    ‖phi2e (x * t) - 2 * phi3e (x * t)‖ ≤ expMax x.re T * (5 / 6) :=
  (norm_sub_le_of_le (norm_phi2e_ray x t T h0 hT)
    (norm_mul_le_of_le Complex.norm_two.le (norm_phi3e_ray x t T h0 hT))).trans_eq (by ring)

theorem norm_wC_ray (x : ℂ) (t T : ℝ) (h0 : 0 ≤ t) (hT : t ≤ T) :
    ‖4 * phi3e (x * t) - phi2e (x * t)‖ ≤ expMax x.re T * (7 / 6) :=
  (norm_sub_le_of_le (norm_mul_le_of_le (Complex.norm_ofNat 4).le (norm_phi3e_ray x t T h0 hT))
    (norm_phi2e_ray x t T h0 hT)).trans_eq (by ring)

/-- a coefficient bounded by `T·a` and perturbed by `δ·dt`, `dt ≤ T`, is bounded by `T·(a + δ)` -/
theorem add_floor_le (a δ dt T : ℝ) (hδ : 0 ≤ δ) (h : dt ≤ T) : T * a + δ * dt ≤ T * (a + δ) := by
  rw [mul_add, mul_comm T δ]
  exact add_le_add_right (mul_le_mul_of_nonneg_left h hδ) _

/-- floor constants `D_p = δ·κ_p` -/
def pertD1 (m : ℂ) (δ : ℝ) : ℝ := δ * pertK1 ‖m‖
def pertD2 (l m : ℂ) (T δ : ℝ) : ℝ :=
  δ * pertK2 ‖m‖ (expMax l.re T) (T * (expMax l.re T + δ)) (T * (expMax l.re T / 2))
def pertD3 (l m : ℂ) (T δ : ℝ) : ℝ :=
  δ * pertK3 ‖m‖ (expMax l.re T) (T * expMax l.re T) (T * (expMax l.re T + δ))
    (T * (expMax l.re T / 2 + δ)) (T * (expMax l.re T * (10 / 3))) (T * (expMax l.re T * (7 / 6)))
def pertD4 (l m : ℂ) (T δ : ℝ) : ℝ :=
  δ * pertK4 ‖m‖ (expMax l.re T) (T * (expMax l.re T / 2)) (T * (expMax l.re T / 2 + δ))
    (T * (expMax l.re T * (5 / 6))) (T * (expMax l.re T * (7 / 6)))

theorem pertK1_nonneg (mm : ℝ) (h : 0 ≤ mm) : 0 ≤ pertK1 mm := h
theorem pertK2_nonneg (mm W q1 a2 : ℝ) (h : 0 ≤ mm) (hW : 0 ≤ W) (hq : 0 ≤ q1) (ha : 0 ≤ a2) :
    0 ≤ pertK2 mm W q1 a2 := by unfold pertK2; positivity
theorem pertK3_nonneg (mm W a1 q1 qh b2 b3 : ℝ) (h : 0 ≤ mm) (hW : 0 ≤ W) (h1 : 0 ≤ a1)
    (h2 : 0 ≤ q1) (h3 : 0 ≤ qh) (h4 : 0 ≤ b2) (h5 : 0 ≤ b3) : 0 ≤ pertK3 mm W a1 q1 qh b2 b3 := by
  unfold pertK3; positivity
theorem pertK4_nonneg (mm W a q b2 b3 : ℝ) (h : 0 ≤ mm) (hW : 0 ≤ W) (h1 : 0 ≤ a) (h2 : 0 ≤ q)
    (h4 : 0 ≤ b2) (h5 : 0 ≤ b3) : 0 ≤ pertK4 mm W a q b2 b3 := by
  unfold pertK4; positivity

theorem E1step_perturbed_global (l m : ℂ) (T δ : ℝ) (hδ : 0 ≤ δ) (n : ℕ) (dt : ℝ) (hdt : 0 ≤ dt)
    (hn : n * dt ≤ T) (c1 : ℂ) (h1 : ‖c1 - dt * phi1e (l * dt)‖ ≤ δ * dt) (u : ℂ) :
    ‖(E1step (Complex.exp (l * dt)) c1 (fun v => m * v))^[n] u
        - Complex.exp ((l + m) * (n * dt)) * u‖
      ≤ Cfloor (Cloc1 l m T) (pertD1 m δ) (l + m) 1 T * (Cloc1 l m T * dt ^ 1 + pertD1 m δ) * ‖u‖ := by
  refine (order1 l m T (T_nonneg_of_steps hdt hn)).perturbed (pertK1_nonneg _ (norm_nonneg _)) hδ rfl hdt hn
    (fun v => E1step_amp m _ c1 v) (fun _ => ?_) u
  rw [← amp1_exact (l * dt) dt m]
  exact amp1_pert m _ _ c1 (δ * dt) h1

theorem E2step_perturbed_global (l m : ℂ) (T δ : ℝ) (hδ : 0 ≤ δ) (n : ℕ) (dt : ℝ) (hdt : 0 ≤ dt)
    (hn : n * dt ≤ T) (c1 c2 : ℂ) (h1 : ‖c1 - dt * phi1e (l * dt)‖ ≤ δ * dt)
    (h2 : ‖c2 - dt * phi2e (l * dt)‖ ≤ δ * dt) (u : ℂ) :
    ‖(E2step (Complex.exp (l * dt)) c1 c2 (fun v => m * v))^[n] u
        - Complex.exp ((l + m) * (n * dt)) * u‖
      ≤ Cfloor (Cloc2 l m T) (pertD2 l m T δ) (l + m) 2 T
          * (Cloc2 l m T * dt ^ 2 + pertD2 l m T δ) * ‖u‖ := by
  have hT : 0 ≤ T := T_nonneg_of_steps hdt hn
  have hW := (expMax_pos l.re T).le
  refine (order2 l m T hT).perturbed (pertK2_nonneg _ _ _ _ (norm_nonneg _) hW (by positivity) (by positivity)) hδ rfl
    hdt hn (fun v => E2step_amp m _ c1 c2 v) (fun hdtT => ?_) u
  rw [← amp2_exact (l * dt) dt m]
  refine amp2_pert m _ _ _ c1 c2 (δ * dt) (expMax l.re T) _ (T * expMax l.re T) _
    (norm_exp_ray l dt T hdt hdtT)
    (norm_dt_mul_le dt T _ _ hdt hdtT (norm_phi1e_ray l dt T hdt hdtT)) (add_floor_le _ δ dt T hδ hdtT)
    (norm_dt_mul_le dt T _ _ hdt hdtT (norm_phi2e_ray l dt T hdt hdtT)) h1 h2

theorem E3step_perturbed_global (l m : ℂ) (T δ : ℝ) (hδ : 0 ≤ δ) (n : ℕ) (dt : ℝ) (hdt : 0 ≤ dt)
    (hn : n * dt ≤ T) (ch c1 cb1 cb2 cb3 : ℂ)
    (hh : ‖ch - dt * (phi1e (l * dt / 2) / 2)‖ ≤ δ * dt)
    (h1 : ‖c1 - dt * phi1e (l * dt)‖ ≤ δ * dt)
    (h3 : ‖cb1 - dt * (phi1e (l * dt) - 3 * phi2e (l * dt) + 4 * phi3e (l * dt))‖ ≤ δ * dt)
    (h4 : ‖cb2 - dt * (4 * phi2e (l * dt) - 8 * phi3e (l * dt))‖ ≤ δ * dt)
    (h5 : ‖cb3 - dt * (4 * phi3e (l * dt) - phi2e (l * dt))‖ ≤ δ * dt) (u : ℂ) :
    ‖(E3step (Complex.exp (l * dt)) (Complex.exp (l * dt / 2)) ch c1 cb1 cb2 cb3 (fun v => m * v))^[n] u
        - Complex.exp ((l + m) * (n * dt)) * u‖
      ≤ Cfloor (Cloc3 l m T) (pertD3 l m T δ) (l + m) 3 T
          * (Cloc3 l m T * dt ^ 3 + pertD3 l m T δ) * ‖u‖ := by
  have hT : 0 ≤ T := T_nonneg_of_steps hdt hn
  have hW := (expMax_pos l.re T).le
  refine (order3 l m T hT).perturbed (pertK3_nonneg _ _ _ _ _ _ _ (norm_nonneg _) hW (by positivity) (by positivity)
    (by positivity) (by positivity) (by positivity)) hδ rfl hdt hn
    (fun v => E3step_amp m _ _ ch c1 cb1 cb2 cb3 v) (fun hdtT => ?_) u
  have hb2 : ‖4 * phi2e (l * dt) - 8 * phi3e (l * dt)‖ ≤ expMax l.re T * (10 / 3) := by
    rw [show 4 * phi2e (l * dt) - 8 * phi3e (l * dt) = 4 * (phi2e (l * dt) - 2 * phi3e (l * dt)) by ring]
    exact (norm_mul_le_of_le (Complex.norm_ofNat 4).le (norm_wB_ray l dt T hdt hdtT)).trans_eq (by ring)
  rw [← amp3_exact (l * dt) dt m]
  exact amp3_pert m _ _ _ _ _ _ _ ch c1 cb1 cb2 cb3 (δ * dt) (expMax l.re T)
    (T * (expMax l.re T / 2)) (T * expMax l.re T) _ _ _ _
    (norm_exp_ray l dt T hdt hdtT) (norm_exp_ray_half l dt T hdt hdtT)
    (norm_dt_mul_le dt T _ _ hdt hdtT (norm_phi1e_ray_half l dt T hdt hdtT)) (add_floor_le _ δ dt T hδ hdtT)
    (norm_dt_mul_le dt T _ _ hdt hdtT (norm_phi1e_ray l dt T hdt hdtT)) (add_floor_le _ δ dt T hδ hdtT)
    (norm_dt_mul_le dt T _ _ hdt hdtT hb2)
    (norm_dt_mul_le dt T _ _ hdt hdtT (norm_wC_ray l dt T hdt hdtT)) hh h1 h3 h4 h5

/-- the three stored copies of the half-step coefficient may be perturbed independently -/
theorem E4step_perturbed_global (l m : ℂ) (T δ : ℝ) (hδ : 0 ≤ δ) (n : ℕ) (dt : ℝ) (hdt : 0 ≤ dt)
    (hn : n * dt ≤ T) (c1 c2 c3 c4 c5 c6 : ℂ)
    (h1 : ‖c1 - dt * (phi1e (l * dt / 2) / 2)‖ ≤ δ * dt)
    (h2 : ‖c2 - dt * (phi1e (l * dt / 2) / 2)‖ ≤ δ * dt)
    (h3 : ‖c3 - dt * (phi1e (l * dt / 2) / 2)‖ ≤ δ * dt)
    (h4 : ‖c4 - dt * (phi1e (l * dt) - 3 * phi2e (l * dt) + 4 * phi3e (l * dt))‖ ≤ δ * dt)
    (h5 : ‖c5 - dt * (phi2e (l * dt) - 2 * phi3e (l * dt))‖ ≤ δ * dt)
    (h6 : ‖c6 - dt * (4 * phi3e (l * dt) - phi2e (l * dt))‖ ≤ δ * dt) (u : ℂ) :
    ‖(E4step (Complex.exp (l * dt)) (Complex.exp (l * dt / 2)) c1 c2 c3 c4 c5 c6 (fun v => m * v))^[n] u
        - Complex.exp ((l + m) * (n * dt)) * u‖
      ≤ Cfloor (Cloc4 l m T) (pertD4 l m T δ) (l + m) 4 T
          * (Cloc4 l m T * dt ^ 4 + pertD4 l m T δ) * ‖u‖ := by
  have hT : 0 ≤ T := T_nonneg_of_steps hdt hn
  have hW := (expMax_pos l.re T).le
  refine (order4 l m T hT).perturbed (pertK4_nonneg _ _ _ _ _ _ (norm_nonneg _) hW (by positivity) (by positivity)
    (by positivity) (by positivity)) hδ rfl hdt hn
    (fun v => E4step_amp m _ _ c1 c2 c3 c4 c5 c6 v) (fun hdtT => ?_) u
  rw [← amp4_exact (l * dt) dt m]
  exact amp4_pert m _ _ _ _ _ _ c1 c2 c3 c4 c5 c6 (δ * dt) (expMax l.re T)
    (T * (expMax l.re T / 2)) _ _ _
    (norm_exp_ray_half l dt T hdt hdtT)
    (norm_dt_mul_le dt T _ _ hdt hdtT (norm_phi1e_ray_half l dt T hdt hdtT)) (add_floor_le _ δ dt T hδ hdtT)
    (norm_dt_mul_le dt T _ _ hdt hdtT (norm_wB_ray l dt T hdt hdtT))
    (norm_dt_mul_le dt T _ _ hdt hdtT (norm_wC_ray l dt T hdt hdtT)) h1 h2 h3 h4 h5 h6

/-- the bound of `E?step_perturbed_global` split into the order term and the floor term, `C'·dt^p + C''·δ` -/
theorem floor_split (Cf Cl κ δ dt : ℝ) (p : ℕ) (nu : ℝ) :
    Cf * (Cl * dt ^ p + δ * κ) * nu = (Cf * Cl) * dt ^ p * nu + (Cf * κ) * δ * nu := by ring

/-! ### non-vacuity: the exact coefficients are an admissible perturbation (`δ = 0`), and so is `+ δ·dt` -/
example : ∃ (l : ℂ) (dt δ : ℝ) (c1 : ℂ), 0 < δ ∧ 0 < dt ∧ c1 ≠ dt * phi1e (l * dt) ∧
    ‖c1 - dt * phi1e (l * dt)‖ ≤ δ * dt := by
  refine ⟨-1, 1, 1, (1 : ℝ) * phi1e (-1 * (1 : ℝ)) + 1, one_pos, one_pos, ?_, ?_⟩
  · intro h
    have : (1 : ℂ) = 0 := by linear_combination h
    exact one_ne_zero this
  · simp

end Exponax.LinearOrder
end
