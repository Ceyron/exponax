import ExponaxModel.Proofs.ExactLinearBand
import ExponaxModel.Proofs.RepeatedPhysicalInvariant
/-
The Fourier multiplier `ReadOff.specApply D N G u = irfftn (G ⊙ rfftn u)` on real arrays without content at or above
Nyquist (`WaveWhole.RealBL`): for a symbol with `HermSym` the spectrum of the result is `G ⊙ rfftn u` and the result is
again in the class (`rfftnM_specApply`).  The proof is the invariant `Realisable ∧ NyqFree` of the repeated stepper
(`C2R.diag_preserves_realisable_nyqFree`); `BandLimited`/`HermSym` are `NyqFree`/`HermOffNyq` in another spelling
(`bandLimited_iff_nyqFree`, `hermOffNyq_of_hermSym`).  Multipliers then compose by multiplying symbols, the symbol `1` is
the identity, and a family `t ↦ T_{G t}` with `G (t + s) = G t · G s`, `G 0 = 1` is a one-parameter group
(`iterate_of_add`): the linear step (`linStep_group`) and, channel by channel, the wave step.  The model derivative is
such a multiplier (`rfftnM_derivativeM`).
-/
namespace Exponax.WaveWhole
open Exponax Exponax.ExactLinear

/-- a real grid array with no content at or above Nyquist -/
def RealBL (D N : ℕ) (u : Array ℂ) : Prop :=
  u.size = N ^ D ∧ (∀ j < N ^ D, (u.getD j 0).im = 0) ∧ BandLimited D N u

end Exponax.WaveWhole

namespace Exponax.ExactLinear
open Exponax Exponax.Layout Exponax.Transform Exponax.DFT Exponax.Gen.Etdrk Exponax.ReadOff Exponax.C2R
open Exponax.WaveWhole (RealBL)
open scoped ComplexConjugate

theorem nyqMode_iff_not_belowNyquist (D N h : ℕ) (hD : 0 < D) (hN : 0 < N) (hh : h < numModes D N) :
    NyqMode D N h ↔ ¬ BelowNyquist D N (wnFlat D N h) := by
  constructor
  · rintro ⟨hev, d, hd, hk⟩
    exact not_belowNyquist_of_nyquist_component D N _ d hd hev hk
  · intro hnb
    by_contra hq
    refine hnb ⟨wnFlat_length D N h, fun d hd => not_not.mp fun hlt => hq ?_⟩
    -- a stored component has `2|k_d| ≤ N`, so it is not below Nyquist only at `|k_d| = N/2`, `N` even
    have hle := wnFlat_getD_abs_le D N h hD hN hh d hd
    rw [Int.abs_eq_natAbs] at hle hlt
    exact ⟨by omega, d, hd, by omega⟩

theorem bandLimited_iff_nyqFree (D N : ℕ) (hD : 0 < D) (hN : 0 < N) (u : Array ℂ) :
    BandLimited D N u ↔ NyqFree D N (rfftnM D N u) :=
  forall₂_congr fun h hh => by rw [nyqMode_iff_not_belowNyquist D N h hD hN hh]

/-- an odd grid has no Nyquist modes -/
theorem bandLimited_of_odd (D N : ℕ) (hD : 0 < D) (hodd : N % 2 = 1) (u : Array ℂ) : BandLimited D N u :=
  (bandLimited_iff_nyqFree D N hD (Nat.odd_iff.mpr hodd).pos u).mpr (odd_grid_nyqFree D N hodd _)

theorem hermOffNyq_of_hermSym (D N : ℕ) (hD : 0 < D) (hN : 0 < N) (G : ℕ → ℂ) (hG : HermSym D N G) :
    HermOffNyq D N G := fun h hh hw hq =>
  hG h hh _ (conjIdx_lt D N h hD hN) fun d _ => by
    rw [wnFlat_conjIdx_of_not_nyq D N h hD hN hh hw hq]
    exact negK_getD _ d

theorem rfftnM_specApply (D N : ℕ) (hD : 0 < D) (hN : 0 < N) (G : ℕ → ℂ) (hG : HermSym D N G) (u : Array ℂ)
    (hre : ∀ j < N ^ D, (u.getD j 0).im = 0) (hb : BandLimited D N u) :
    rfftnM D N (specApply D N G u) = diagStep D N G (rfftnM D N u) ∧ RealBL D N (specApply D N G u) := by
  have inv := diag_preserves_realisable_nyqFree D N hD hN G (hermOffNyq_of_hermSym D N hD hN G hG) _
    (rfftn_realisable' D N hD hN u hre) ((bandLimited_iff_nyqFree D N hD hN u).mp hb)
  have e : rfftnM D N (specApply D N G u) = diagStep D N G (rfftnM D N u) :=
    rfftn_irfftn_of_realisable D N hD hN _ inv.1
  exact ⟨e, specApply_size D N G u, (irfftn_realState D N _).2,
    (bandLimited_iff_nyqFree D N hD hN _).mpr (e ▸ inv.2)⟩

theorem specApply_specApply (D N : ℕ) (hD : 0 < D) (hN : 0 < N) (G G' : ℕ → ℂ) (hG : HermSym D N G)
    (u : Array ℂ) (hu : RealBL D N u) :
    specApply D N G' (specApply D N G u) = specApply D N (fun h => G h * G' h) u := by
  rw [specApply, (rfftnM_specApply D N hD hN G hG u hu.2.1 hu.2.2).1, specApply]
  exact congrArg (irfftnM D N) (tab_congr _ _ _ fun h hh => by rw [diagStep_getD D N G _ h hh]; ring)

theorem specApply_one (D N : ℕ) (hD : 0 < D) (hN : 0 < N) (u : Array ℂ) (hu : RealBL D N u) :
    specApply D N (fun _ => 1) u = u := by
  have e : tab (numModes D N) (fun h => (1 : ℂ) * (rfftnM D N u).getD h 0) = rfftnM D N u :=
    array_ext_getD _ _ _ (tab_size ..) (rfftnM_size ..) fun h hh => by rw [tab_getD _ _ _ _ hh, one_mul]
  unfold specApply
  rw [e, irfftn_rfftn_of_realState D N hD hN u ⟨hu.1, hu.2.1⟩]

/-- `P` need not be closed under the maps -/
theorem iterate_of_add {α : Type} (S : ℝ → α → α) (P : α → Prop)
    (h0 : ∀ x, P x → S 0 x = x) (hadd : ∀ t s x, P x → S s (S t x) = S (t + s) x) (t : ℝ) (x : α) (hx : P x) :
    (∀ n : ℕ, (S t)^[n] x = S ((n : ℝ) * t) x) ∧ S (-t) (S t x) = x := by
  refine ⟨fun n => ?_, by rw [hadd t (-t) x hx, add_neg_cancel, h0 x hx]⟩
  induction n with
  | zero => rw [Function.iterate_zero, id, Nat.cast_zero, zero_mul, h0 x hx]
  | succ n ih =>
    rw [Function.iterate_succ_apply', ih, hadd _ t x hx]
    congr 1
    push_cast
    ring

theorem hermSym_exp (D N : ℕ) (Λ : ℕ → ℂ) (hΛ : HermSym D N Λ) (t : ℝ) :
    HermSym D N (fun h => Complex.exp ((t : ℂ) * Λ h)) := fun h hh h' hh' hk => by
  show Complex.exp (t * Λ h') = conj (Complex.exp (t * Λ h))
  rw [hΛ h hh h' hh' hk, ← Complex.exp_conj, map_mul, Complex.conj_ofReal]

theorem linStep_zero (D N : ℕ) (hD : 0 < D) (hN : 0 < N) (Λ : ℕ → ℂ) (u : Array ℂ) (hu : RealBL D N u) :
    linStep D N Λ ((0 : ℝ) : ℂ) u = u := by
  simp only [linStep_eq_specApply, Complex.ofReal_zero, zero_mul, Complex.exp_zero]
  exact specApply_one D N hD hN u hu

theorem linStep_add (D N : ℕ) (hD : 0 < D) (hN : 0 < N) (Λ : ℕ → ℂ) (hΛ : HermSym D N Λ) (t s : ℝ) (u : Array ℂ)
    (hu : RealBL D N u) : linStep D N Λ s (linStep D N Λ t u) = linStep D N Λ ((t + s : ℝ) : ℂ) u := by
  simp only [linStep_eq_specApply]
  rw [specApply_specApply D N hD hN _ _ (hermSym_exp D N Λ hΛ t) u hu]
  exact specApply_congr D N _ _ u fun h _ => by rw [← Complex.exp_add]; push_cast; ring_nf

/-- the linear step is a one-parameter group on real arrays without Nyquist content (no restriction on `Re Λ`) -/
theorem linStep_group (D N : ℕ) (hD : 0 < D) (hN : 0 < N) (Λ : ℕ → ℂ) (hΛ : HermSym D N Λ) (t : ℝ) (u : Array ℂ)
    (hu : RealBL D N u) :
    (∀ n : ℕ, (linStep D N Λ (t : ℂ))^[n] u = linStep D N Λ (((n : ℝ) * t : ℝ) : ℂ) u) ∧
      linStep D N Λ ((-t : ℝ) : ℂ) (linStep D N Λ t u) = u :=
  iterate_of_add (fun t : ℝ => linStep D N Λ (t : ℂ)) (RealBL D N) (linStep_zero D N hD hN Λ)
    (fun t s => linStep_add D N hD hN Λ hΛ t s) t u hu

theorem realBL_stateOf (D N : ℕ) (hD : 0 < D) (hN : 0 < N) (ms : Modes) (hms : ∀ m ∈ ms, BelowNyquist D N m.1) :
    RealBL D N (stateOf D N ms) :=
  ⟨stateOf_size D N ms, stateOf_real D N ms, bandLimited_stateOf D N hD hN ms hms⟩

theorem rfftnM_derivativeM (c : Nonlin.Cfg ℂ) (s : ℝ) (hs : c.s = (s : ℂ)) (hD : 0 < c.D)
    (hN : 0 < c.N) (m d : ℕ) (hd : d < c.D) (u : Array ℂ) (hu : RealBL c.D c.N u) (k : ℕ)
    (hk : k < numModes c.D c.N) :
    (rfftnM c.D c.N (Nonlin.derivativeM c m d u)).getD k 0
      = Nonlin.deriv c d k ^ m * (rfftnM c.D c.N u).getD k 0 := by
  rw [derivativeM_eq_specApply, (rfftnM_specApply c.D c.N hD hN _ (hermSym_deriv c s hs m d hd) u hu.2.1 hu.2.2).1,
    diagStep_getD _ _ _ _ k hk, npow_eq]

end Exponax.ExactLinear
