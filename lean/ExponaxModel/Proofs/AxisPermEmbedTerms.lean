import ExponaxModel.Proofs.AxisPermEmbed
import ExponaxModel.Proofs.AliasNDMask
import ExponaxModel.Proofs.StageRel
import ExponaxModel.Proofs.AliasOffBand
/-
C08, terms: the `D`-dimensional pseudo-spectral pipeline applied to a spectrum supported on the last axis is
the embedding of the 1-D pipeline of `cfg1 c` (same `N`, `s = 2π/L`, dealiasing fraction).  The relations are
`EmbSpec` on stored spectra (`a[h] = N^{D-1}·a₁[h]` for `h ≤ N/2`, else `0`) and `EmbField` on the grid
(`v[j] = v₁[j mod N]`); `TermEmbed c T T1` says that `T` carries `MCEmbSpec` to `T1`.  Arbitrary complex spectra,
every `N ≥ 1`, any dealiasing fraction, Nyquist content allowed.
The embedding enters as the instance `embRel : Stage.StageRel (cfg1 c) c` (the 1-D run is the unprimed side, since the
grid map `j ↦ j mod N` goes from the big grid to the small one; the only axis of `cfg1 c` is the last axis of `c`, the
others are dead); `TermEmbed c T T1` is `Stage.TermRel embRel id T1 T` (`termEmbed_iff_termRel`), so each term is the
walk `Stage.*_termRel` at `embRel`.
-/
namespace Exponax.AxisPerm
open Exponax.Layout Exponax.Transform Exponax.Nonlin Exponax.AliasND Exponax.Alias Finset
open Exponax.DFT (numModes_succ numModes_one wnFlat_one digit_succ_last sum_range_mul_div_mod)

def cfg1 (c : Cfg ℂ) : Cfg ℂ := ⟨1, c.N, c.s, c.fp, c.fq⟩

/-- the factor `N^{D-1}` between the 1-D spectrum and the `D`-dimensional spectrum of the embedding -/
noncomputable def embScale (c : Cfg ℂ) : ℂ := ((c.N ^ (c.D - 1) : ℕ) : ℂ)

def EmbSpec (c : Cfg ℂ) (a a1 : Array ℂ) : Prop :=
  ∀ h, h < modes c → a.getD h 0 = if h < c.N / 2 + 1 then embScale c * a1.getD h 0 else 0

def EmbField (c : Cfg ℂ) (v v1 : Array ℂ) : Prop :=
  ∀ j, j < gridSize c → v.getD j 0 = v1.getD (j % c.N) 0

def MCEmbSpec (c : Cfg ℂ) (uh uh1 : MC ℂ) : Prop :=
  ∀ ch h, h < modes c → at2 uh ch h = if h < c.N / 2 + 1 then embScale c * at2 uh1 ch h else 0

/-- C08 for the pair of terms `T` (`D`-dimensional) and `T1` (1-D) -/
def TermEmbed (c : Cfg ℂ) (T T1 : MC ℂ → MC ℂ) : Prop :=
  ∀ uh uh1 : MC ℂ, MCEmbSpec c uh uh1 → MCEmbSpec c (T uh) (T1 uh1)

theorem modes_cfg1 (c : Cfg ℂ) : modes (cfg1 c) = c.N / 2 + 1 := numModes_one c.N

theorem gridSize_cfg1 (c : Cfg ℂ) : gridSize (cfg1 c) = c.N := pow_one c.N

/-- on the last axis the box condition of the mask only sees the last wavenumber -/
theorem kvec_lastAxis_abs_le (D N h : ℕ) (hD : 0 < D) (hN : 0 < N) (hh : h < N / 2 + 1) (K : ℤ) :
    (∀ d : Fin D, |kvec D N h d| ≤ K) ↔ |(h : ℤ)| ≤ K := by
  constructor
  · intro H
    have := H ⟨D - 1, by omega⟩
    rwa [kvec_lastAxis D N h hD hN hh, if_pos rfl] at this
  · intro H d
    rw [kvec_lastAxis D N h hD hN hh]
    split_ifs
    · exact H
    · rw [abs_zero]
      exact le_trans (abs_nonneg _) H

theorem mask_embed (c : Cfg ℂ) (hD : 0 < c.D) (hN : 0 < c.N) (h : ℕ) (hh : h < c.N / 2 + 1) :
    mask c h = mask (cfg1 c) h := by
  by_cases hq : c.fq = 0
  · unfold mask
    rw [if_pos hq, if_pos (show (cfg1 c).fq = 0 from hq)]
  · rw [mask_nd c hq, mask_nd (cfg1 c) hq]
    exact if_congr ((kvec_lastAxis_abs_le c.D c.N h hD hN hh _).trans
      (kvec_lastAxis_abs_le 1 c.N h Nat.one_pos hN hh _).symm) rfl rfl

theorem deriv_embed_lead (c : Cfg ℂ) (hN : 0 < c.N) (d h : ℕ) (hd : d + 1 < c.D) (hh : h < c.N / 2 + 1) :
    Nonlin.deriv c d h = 0 := by
  have hk := kvec_lastAxis c.D c.N h (by omega) hN hh ⟨d, by omega⟩
  rw [if_neg (show d ≠ c.D - 1 by omega)] at hk
  unfold Nonlin.deriv
  rw [show (wnFlat c.D c.N h).getD d 0 = 0 from hk]
  simp

theorem deriv_embed_last (c : Cfg ℂ) (hD : 0 < c.D) (hN : 0 < c.N) (h : ℕ) (hh : h < c.N / 2 + 1) :
    Nonlin.deriv c (c.D - 1) h = Nonlin.deriv (cfg1 c) 0 h := by
  have hk := kvec_lastAxis c.D c.N h hD hN hh ⟨c.D - 1, by omega⟩
  rw [if_pos rfl] at hk
  unfold Nonlin.deriv
  rw [show (wnFlat c.D c.N h).getD (c.D - 1) 0 = (h : ℤ) from hk,
    show (wnFlat (cfg1 c).D (cfg1 c).N h).getD 0 0 = (h : ℤ) from kvec_one c.N h 0]
  rfl

theorem sumList_range_succ_of_zero (E : ℕ) (F : ℕ → ℂ) (hF : ∀ d < E, F d = 0) :
    sumList ((List.range (E + 1)).map F) = F E := by
  rw [Nonlin.sumList_range_eq, Finset.sum_range_succ, Finset.sum_eq_zero (fun d hd => hF d (Finset.mem_range.mp hd)),
    zero_add]

theorem sumList_axes_embed (c : Cfg ℂ) (hD : 0 < c.D) (F F1 : ℕ → ℂ) (hF : ∀ d, d + 1 < c.D → F d = 0)
    (hl : F (c.D - 1) = F1 0) :
    sumList ((List.range c.D).map F) = sumList ((List.range (cfg1 c).D).map F1) := by
  obtain ⟨E, hE⟩ : ∃ E, c.D = E + 1 := ⟨c.D - 1, by omega⟩
  rw [show (cfg1 c).D = 1 from rfl, Nonlin.sumList_range_eq 1 F1, Finset.sum_range_one, ← hl, hE, Nat.add_sub_cancel]
  exact sumList_range_succ_of_zero E F (fun d hd => hF d (by omega))

theorem embSpec_tab_iff (c : Cfg ℂ) (f f1 : ℕ → ℂ) :
    EmbSpec c (tab (modes c) f) (tab (modes (cfg1 c)) f1)
      ↔ ∀ m, m < modes c → f m = if m < c.N / 2 + 1 then embScale c * f1 m else 0 := by
  refine forall_congr' fun m => imp_congr_right fun hm => ?_
  rw [DFT.tab_getD _ _ _ _ hm]
  by_cases hlt : m < c.N / 2 + 1
  · rw [if_pos hlt, if_pos hlt, DFT.tab_getD _ _ _ _ (by rw [modes_cfg1]; exact hlt)]
  · rw [if_neg hlt, if_neg hlt]

theorem nifft_embed (c : Cfg ℂ) (hD : 0 < c.D) (hN : 0 < c.N) (a a1 : Array ℂ) (h : EmbSpec c a a1) :
    nifft c a = embedAxis c.D c.N (c.D - 1) (nifft (cfg1 c) a1) := by
  refine irfftn_embedLast c.D c.N hD hN _ _ (fun m (hm : m < modes c) => ?_)
  rw [DFT.tab_getD _ _ _ _ hm, h m hm]
  split_ifs with hlt
  · rw [DFT.tab_getD _ _ _ _ (by rw [modes_cfg1]; exact hlt), mask_embed c hD hN m hlt]
    exact mul_left_comm _ _ _
  · rw [mul_zero]

theorem nifft_embField (c : Cfg ℂ) (hD : 0 < c.D) (hN : 0 < c.N) (a a1 : Array ℂ) (h : EmbSpec c a a1) :
    EmbField c (nifft c a) (nifft (cfg1 c) a1) := by
  rw [nifft_embed c hD hN a a1 h]
  exact fun j hj => embedLast_getD c.D c.N hD _ j hj

theorem nfft_embSpec (c : Cfg ℂ) (hD : 0 < c.D) (hN : 0 < c.N) (v v1 : Array ℂ) (h : EmbField c v v1) :
    EmbSpec c (nfft c v) (nfft (cfg1 c) v1) := by
  intro m hm
  rw [nfft_getD c v m hm, DFT.rfftnM_congr c.D c.N v (embedAxis c.D c.N (c.D - 1) v1)
      (fun j hj => by rw [h j hj, embedLast_getD c.D c.N hD v1 j hj]),
    rfftn_embedLast_pos c.D c.N hD hN v1 m hm]
  split_ifs with hlt
  · rw [nfft_getD (cfg1 c) v1 m (by rw [modes_cfg1]; exact hlt), mask_embed c hD hN m hlt]
    exact mul_left_comm _ _ _
  · rw [mul_zero]

theorem sum_embed (E N : ℕ) (f : ℕ → ℂ) :
    ∑ j ∈ range (N ^ (E + 1)), f (j % N) = ((N ^ E : ℕ) : ℂ) * ∑ i ∈ range N, f i := by
  rw [pow_succ, sum_range_mul_div_mod (N ^ E) N (fun _ y => f y), Finset.sum_const, Finset.card_range,
    nsmul_eq_mul]

theorem mean_embed (c : Cfg ℂ) (hD : 0 < c.D) (hN : 0 < c.N) (f f1 : ℕ → ℂ)
    (h : ∀ j, j < gridSize c → f j = f1 (j % c.N)) :
    sumRange (gridSize c) f / lit (gridSize c)
      = sumRange (gridSize (cfg1 c)) f1 / lit (gridSize (cfg1 c)) := by
  obtain ⟨E, hE⟩ : ∃ E, c.D = E + 1 := ⟨c.D - 1, by omega⟩
  rw [DFT.sumRange_eq, DFT.sumRange_eq, gridSize_cfg1]
  have hG : gridSize c = c.N ^ (E + 1) := by rw [← hE]; rfl
  rw [hG, Finset.sum_congr rfl (fun j hj => h j (by rw [hG]; exact Finset.mem_range.mp hj)),
    sum_embed E c.N f1]
  have hNc : (c.N : ℂ) ≠ 0 := by exact_mod_cast hN.ne'
  simp only [lit_eq]
  push_cast
  field_simp
  ring

/-- the embedding along the last axis as a stage relation: `EmbSpec` on spectra, `v_j = v₁_{j mod N}` on grid fields,
    multiplier pairs that agree on the stored modes `h ≤ N/2` of the last axis -/
noncomputable def embRel (c : Cfg ℂ) (hD : 0 < c.D) (hN : 0 < c.N) : Stage.StageRel (cfg1 c) c where
  S a1 a := EmbSpec c a a1
  ρ j := j % c.N
  P := ⊤
  Cov g1 g := ∀ m, m < c.N / 2 + 1 → g m = g1 m
  ρ_lt j _ := by rw [gridSize_cfg1]; exact Nat.mod_lt _ hN
  S_congr h1 h2 h m hm := by
    rw [← h2 m hm, h m hm]
    split_ifs with hlt
    · rw [h1 m (by rw [modes_cfg1]; exact hlt)]
    · rfl
  S_zero := (embSpec_tab_iff c _ _).mpr fun _ _ => by rw [mul_zero, ite_self]
  S_add {f g f' g'} h1 h2 := (embSpec_tab_iff c _ _).mpr fun m hm => by
    have e1 := h1 m hm
    have e2 := h2 m hm
    rw [DFT.tab_getD _ _ _ _ hm] at e1 e2
    rw [e1, e2]
    split_ifs with hlt
    · rw [DFT.tab_getD _ _ _ _ (by rw [modes_cfg1]; exact hlt), DFT.tab_getD _ _ _ _ (by rw [modes_cfg1]; exact hlt),
        mul_add]
    · rw [add_zero]
  S_mul hg h := (embSpec_tab_iff c _ _).mpr fun m hm => by
    rw [h m hm]
    split_ifs with hlt
    · rw [hg m hlt, mul_left_comm]
    · rw [mul_zero]
  nifft_rel h := nifft_embField c hD hN _ _ h
  nifft_mem _ _ _ := Subfield.mem_top _
  nfft_rel _ h := nfft_embSpec c hD hN _ _ h
  mean f := mean_embed c hD hN _ f fun _ _ => rfl
  cov_const _ _ _ _ := rfl
  cov_mul hg hk m hm := by show _ * _ = _ * _; rw [hg m hm, hk m hm]
  cov_mask m hm := mask_embed c hD hN m hm
  cov_sumDeriv m hm := sumList_axes_embed c hD _ _ (fun d hd => deriv_embed_lead c hN d m hd hm)
    (deriv_embed_last c hD hN m hm)
  cov_laplace m hm := by
    rw [laplace_two_eq_sum, laplace_two_eq_sum, ← Nonlin.sumList_range_eq, ← Nonlin.sumList_range_eq]
    exact sumList_axes_embed c hD _ _ (fun d hd => by rw [deriv_embed_lead c hN d m hd hm]; exact zero_pow two_ne_zero)
      (by rw [deriv_embed_last c hD hN m hm])
  ι _ := c.D - 1
  ι_lt _ _ := Nat.sub_lt hD Nat.one_pos
  ι_inj e₁ h₁ e₂ h₂ _ := (Nat.lt_one_iff.mp h₁).trans (Nat.lt_one_iff.mp h₂).symm
  cov_deriv e he m hm := by
    rw [show e = 0 from Nat.lt_one_iff.mp he]
    exact deriv_embed_last c hD hN m hm
  -- a derivative along a leading axis kills a spectrum supported on the last axis
  dead {a1 a} d' hd' hni h j hj := by
    refine DFT.irfftnM_eq_zero c.D c.N _ (fun m (hm : m < modes c) => ?_) j
    rw [DFT.tab_getD _ _ _ _ hm, DFT.tab_getD _ _ _ _ hm, h m hm]
    split_ifs with hlt
    · rw [deriv_embed_lead c hN d' m (Nat.add_lt_of_lt_sub (Nat.lt_of_le_of_ne (Nat.le_sub_one_of_lt hd')
        (hni 0 Nat.one_pos).symm)) hlt, zero_mul, mul_zero]
    · rw [mul_zero, mul_zero]

theorem mcs_embRel_iff (c : Cfg ℂ) (hD : 0 < c.D) (hN : 0 < c.N) (uh uh1 : MC ℂ) :
    Stage.MCS (embRel c hD hN) id uh1 uh ↔ MCEmbSpec c uh uh1 :=
  forall_congr' fun ch => embSpec_tab_iff c (at2 uh ch) (at2 uh1 ch)

theorem termEmbed_iff_termRel {c : Cfg ℂ} {hD : 0 < c.D} {hN : 0 < c.N} {T T1 : MC ℂ → MC ℂ} :
    TermEmbed c T T1 ↔ Stage.TermRel (embRel c hD hN) id T1 T :=
  ⟨fun h uh1 uh hu => (mcs_embRel_iff c hD hN _ _).mpr (h uh uh1 ((mcs_embRel_iff c hD hN _ _).mp hu)),
    fun h uh uh1 hu => (mcs_embRel_iff c hD hN _ _).mp (h uh1 uh ((mcs_embRel_iff c hD hN _ _).mpr hu))⟩

/-- C08, convection, `single_channel = True`, conservative (`½ Σ_d ∂_d u²` on every channel) -/
theorem convection_cons_termEmbed (c : Cfg ℂ) (hD : 0 < c.D) (hN : 0 < c.N) (C : ℕ) (scale : ℂ) :
    TermEmbed c (convection c C scale true true) (convection (cfg1 c) C scale true true) :=
  termEmbed_iff_termRel.mpr
    (Stage.convection_cons_termRel (embRel c hD hN) C (id_lt_iff C) scale (Subfield.mem_top _))

/-- C08, convection, `single_channel = True`, non-conservative (`u Σ_d ∂_d u`, one channel) -/
theorem convection_noncons_termEmbed (c : Cfg ℂ) (hD : 0 < c.D) (hN : 0 < c.N) (C : ℕ) (scale : ℂ) :
    TermEmbed c (convection c C scale true false) (convection (cfg1 c) C scale true false) :=
  termEmbed_iff_termRel.mpr (Stage.convection_noncons_termRel (embRel c hD hN) C scale (Subfield.mem_top _))

/-- C08, polynomial nonlinearity, any coefficient list -/
theorem polynomial_termEmbed (c : Cfg ℂ) (hD : 0 < c.D) (hN : 0 < c.N) (C : ℕ) (coeffs : List ℂ) :
    TermEmbed c (polynomial c C coeffs) (polynomial (cfg1 c) C coeffs) :=
  termEmbed_iff_termRel.mpr
    (Stage.polynomial_termRel (embRel c hD hN) C (id_lt_iff C) coeffs fun _ _ => Subfield.mem_top _)

/-- C08, gradient norm (`½ Σ_d (∂_d u)²`), both `zeroFix` -/
theorem gradientNorm_termEmbed (c : Cfg ℂ) (hD : 0 < c.D) (hN : 0 < c.N) (C : ℕ) (scale : ℂ)
    (zeroFix : Bool) :
    TermEmbed c (gradientNorm c C scale zeroFix) (gradientNorm (cfg1 c) C scale zeroFix) :=
  termEmbed_iff_termRel.mpr (Stage.gradientNorm_termRel (embRel c hD hN) C scale (Subfield.mem_top _) zeroFix)

/-- C08, `GeneralNonlinearFun` -/
theorem general_embed (c : Cfg ℂ) (hD : 0 < c.D) (hN : 0 < c.N) (C : ℕ) (s0 s1 s2 : ℂ) (zeroFix : Bool)
    (uh uh1 : MC ℂ) (h : MCEmbSpec c uh uh1) :
    MCEmbSpec c (general c C s0 s1 s2 zeroFix uh) (general (cfg1 c) C s0 s1 s2 zeroFix uh1) :=
  termEmbed_iff_termRel.mpr (Stage.general_termRel (embRel c hD hN) C s0 s1 s2 (Subfield.mem_top _) (Subfield.mem_top _)
    (Subfield.mem_top _) zeroFix) uh uh1 h

example (c : Cfg ℂ) (uh1 : MC ℂ) : ∃ uh : MC ℂ, MCEmbSpec c uh uh1 :=
  ⟨tab2 uh1.size (modes c) (fun ch h => if h < c.N / 2 + 1 then embScale c * at2 uh1 ch h else 0), by
    intro ch h hh
    rw [at2_tab2_any]
    by_cases hc : ch < uh1.size
    · rw [if_pos ⟨hc, hh⟩]
    · rw [if_neg (fun h' => hc h'.1), EquivND.at2_of_size_le uh1 ch h (by omega), mul_zero, ite_self]⟩

example : ∃ c : Cfg ℂ, 0 < c.D ∧ 0 < c.N := ⟨⟨3, 4, 1, 2, 3⟩, by norm_num, by norm_num⟩

end Exponax.AxisPerm
