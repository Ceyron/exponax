import Mathlib.Tactic
import ExponaxModel.Proofs.MetricsAlgebra
import ExponaxModel.Proofs.MetricsGenEq
import ExponaxModel.Proofs.MetricsGenFourierEq
/-
C16 — multi-channel `correlation` (`exponax/metrics/_correlation.py`): the code returns the MEAN over the
channels of the per-channel correlations.  For `C` channels the value lies in `[−1, 1]`, and it is `+1` / `−1` when
every channel of the second field is a positive / negative multiple of the same channel of the first (the factor may
differ per channel).  Stated for the channel mean of the model `Metrics.correlationChannel`, which the regenerated
`Gen.MetricsGen.correlation` is (`correlation_eq_mean`).
-/
namespace Exponax.SmallGaps2
open Exponax.Metrics Exponax.Gen.MetricsGen

/-- the channel mean of the model per-channel correlations (what `correlation` computes) -/
noncomputable def correlationMean (D N : ℕ) (L : ℝ) (u r : List (Array ℝ)) : ℝ :=
  (List.zipWith (correlationChannel D N L) u r).sum / ((List.zipWith (correlationChannel D N L) u r).length : ℝ)

theorem correlation_eq_mean (D N : ℕ) (L : ℝ) (hL : 0 < L) (hN : 0 < N) (u r : List (Array ℝ))
    (hu : ∀ a ∈ u, a.size = N ^ D) (hr : ∀ a ∈ r, a.size = N ^ D) :
    correlation u r = correlationMean D N L u r :=
  correlation_eq_model_partial D N L hL hN u r hu hr

theorem mean_mem_Icc (l : List ℝ) (h : ∀ x ∈ l, -1 ≤ x ∧ x ≤ 1) :
    -1 ≤ l.sum / (l.length : ℝ) ∧ l.sum / (l.length : ℝ) ≤ 1 := by
  have h1 := List.card_nsmul_le_sum l (-1) (fun x hx => (h x hx).1)
  have h2 := List.sum_le_card_nsmul l 1 (fun x hx => (h x hx).2)
  rw [nsmul_eq_mul] at h1 h2
  rcases Nat.eq_zero_or_pos l.length with h0 | hpos
  · rw [h0, Nat.cast_zero, div_zero]
    exact ⟨neg_one_lt_zero.le, zero_le_one⟩
  · have hp : (0 : ℝ) < (l.length : ℝ) := Nat.cast_pos.mpr hpos
    exact ⟨(le_div_iff₀ hp).mpr (by rw [mul_comm]; exact h1), (div_le_iff₀ hp).mpr (by rw [mul_comm]; exact h2)⟩

theorem mean_const (l : List ℝ) (c : ℝ) (hne : l ≠ []) (h : ∀ x ∈ l, x = c) : l.sum / (l.length : ℝ) = c := by
  have hp : (l.length : ℝ) ≠ 0 := Nat.cast_ne_zero.mpr (List.length_pos_iff.mpr hne).ne'
  rw [List.sum_eq_card_nsmul l c h, nsmul_eq_mul, mul_div_cancel_left₀ _ hp]

/-- **multi-channel correlation lies in `[−1, 1]`** (model channel mean; any number of channels, also zero) -/
theorem correlationMean_mem_Icc (D N : ℕ) (L : ℝ) (hL : 0 ≤ L) (u r : List (Array ℝ))
    (hu : ∀ a ∈ u, a.size = N ^ D) (hr : ∀ a ∈ r, a.size = N ^ D) :
    -1 ≤ correlationMean D N L u r ∧ correlationMean D N L u r ≤ 1 := by
  unfold correlationMean
  apply mean_mem_Icc
  intro x hx
  obtain ⟨c, hc, rfl⟩ := List.getElem_of_mem hx
  rw [List.getElem_zipWith]
  exact correlationChannel_mem_Icc D N L hL _ _ (hu _ (List.getElem_mem _)) (hr _ (List.getElem_mem _))

theorem correlationMean_prop (D N : ℕ) (L : ℝ) (hL : 0 < L) (hN : 0 < N) (σ : ℝ) (u r : List (Array ℝ))
    (hne : u ≠ []) (hlen : r.length = u.length) (hu : ∀ a ∈ u, a.size = N ^ D)
    (hu0 : ∀ a ∈ u, ∃ x ∈ a.toList, x ≠ 0)
    (hprop : ∀ c (h1 : c < u.length) (h2 : c < r.length), ∃ a : ℝ, a ≠ 0 ∧ a / |a| = σ ∧
      r[c] = (u[c]).map (fun x => a * x)) :
    correlationMean D N L u r = σ := by
  unfold correlationMean
  apply mean_const
  · intro h
    have := congrArg List.length h
    simp only [List.length_zipWith, List.length_nil, hlen, Nat.min_self] at this
    exact hne (List.length_eq_zero_iff.mp this)
  · intro x hx
    obtain ⟨c, hc, rfl⟩ := List.getElem_of_mem hx
    have hc' := hc
    simp only [List.length_zipWith, hlen, Nat.min_self] at hc'
    rw [List.getElem_zipWith]
    obtain ⟨a, ha, hσ, hr⟩ := hprop c hc' (by omega)
    rw [hr, correlationChannel_smul D N L a hL hN ha (u[c]) (hu _ (List.getElem_mem _))
      (hu0 _ (List.getElem_mem _)), hσ]

/-- **`+1` for positively proportional fields** (factor `a_c > 0` may differ per channel) -/
theorem correlationMean_pos (D N : ℕ) (L : ℝ) (hL : 0 < L) (hN : 0 < N) (u r : List (Array ℝ))
    (hne : u ≠ []) (hlen : r.length = u.length) (hu : ∀ a ∈ u, a.size = N ^ D)
    (hu0 : ∀ a ∈ u, ∃ x ∈ a.toList, x ≠ 0)
    (hprop : ∀ c (h1 : c < u.length) (h2 : c < r.length), ∃ a : ℝ, 0 < a ∧ r[c] = (u[c]).map (fun x => a * x)) :
    correlationMean D N L u r = 1 := by
  apply correlationMean_prop D N L hL hN 1 u r hne hlen hu hu0
  intro c h1 h2
  obtain ⟨a, ha, hr⟩ := hprop c h1 h2
  exact ⟨a, ha.ne', by rw [abs_of_pos ha, div_self ha.ne'], hr⟩

/-- **`−1` for negatively proportional fields** (factor `a_c < 0` may differ per channel) -/
theorem correlationMean_neg (D N : ℕ) (L : ℝ) (hL : 0 < L) (hN : 0 < N) (u r : List (Array ℝ))
    (hne : u ≠ []) (hlen : r.length = u.length) (hu : ∀ a ∈ u, a.size = N ^ D)
    (hu0 : ∀ a ∈ u, ∃ x ∈ a.toList, x ≠ 0)
    (hprop : ∀ c (h1 : c < u.length) (h2 : c < r.length), ∃ a : ℝ, a < 0 ∧ r[c] = (u[c]).map (fun x => a * x)) :
    correlationMean D N L u r = -1 := by
  apply correlationMean_prop D N L hL hN (-1) u r hne hlen hu hu0
  intro c h1 h2
  obtain ⟨a, ha, hr⟩ := hprop c h1 h2
  exact ⟨a, ha.ne, by rw [abs_of_neg ha, div_neg, div_self ha.ne], hr⟩

theorem size_of_prop (n : ℕ) (u r : List (Array ℝ)) (hlen : r.length = u.length) (hu : ∀ a ∈ u, a.size = n)
    (hprop : ∀ c (h1 : c < u.length) (h2 : c < r.length), ∃ a : ℝ, r[c] = (u[c]).map (fun x => a * x)) :
    ∀ b ∈ r, b.size = n := by
  intro b hb
  obtain ⟨c, hc, rfl⟩ := List.getElem_of_mem hb
  obtain ⟨a, hr⟩ := hprop c (by omega) hc
  rw [hr, Array.size_map]
  exact hu _ (List.getElem_mem _)

/-- with zero channels the mean is `0/0 = 0` (so the `u ≠ []` hypothesis of the `±1` statements is needed) -/
theorem correlationMean_nil (D N : ℕ) (L : ℝ) : correlationMean D N L [] [] = 0 := by
  simp [correlationMean]

/-! non-vacuity: two channels on a 2-point grid, factors 2 and 3 (resp. −2 and −3) -/
example : ∃ (u r : List (Array ℝ)), u ≠ [] ∧ r.length = u.length ∧ (∀ a ∈ u, a.size = 2 ^ 1) ∧
    (∀ a ∈ u, ∃ x ∈ a.toList, x ≠ 0) ∧
    (∀ c (h1 : c < u.length) (h2 : c < r.length), ∃ a : ℝ, 0 < a ∧ r[c] = (u[c]).map (fun x => a * x)) := by
  refine ⟨[#[1, 0], #[0, 1]], [#[2 * 1, 2 * 0], #[3 * 0, 3 * 1]], by simp, rfl, ?_, ?_, ?_⟩
  · intro a ha
    simp at ha
    rcases ha with rfl | rfl <;> rfl
  · intro a ha
    simp at ha
    rcases ha with rfl | rfl <;> simp
  · intro c h1 h2
    simp only [List.length_cons, List.length_nil] at h1
    interval_cases c
    · exact ⟨2, by norm_num, by simp⟩
    · exact ⟨3, by norm_num, by simp⟩

example : ∃ (u r : List (Array ℝ)), u ≠ [] ∧ r.length = u.length ∧ (∀ a ∈ u, a.size = 2 ^ 1) ∧
    (∀ a ∈ u, ∃ x ∈ a.toList, x ≠ 0) ∧
    (∀ c (h1 : c < u.length) (h2 : c < r.length), ∃ a : ℝ, a < 0 ∧ r[c] = (u[c]).map (fun x => a * x)) := by
  refine ⟨[#[1, 0], #[0, 1]], [#[(-2) * 1, (-2) * 0], #[(-3) * 0, (-3) * 1]], by simp, rfl, ?_, ?_, ?_⟩
  · intro a ha
    simp at ha
    rcases ha with rfl | rfl <;> rfl
  · intro a ha
    simp at ha
    rcases ha with rfl | rfl <;> simp
  · intro c h1 h2
    simp only [List.length_cons, List.length_nil] at h1
    interval_cases c
    · exact ⟨-2, by norm_num, by simp⟩
    · exact ⟨-3, by norm_num, by simp⟩

end Exponax.SmallGaps2
