import ExponaxModel.Proofs.RepeatedPhysical
import ExponaxModel.Proofs.C2RProjection
/-
C14 — which diagonal Fourier steps `C ↦ e ⊙ C` preserve `Realisable`: exactly those with `e_{σh} = conj e_h` on the
self-conjugate columns (`HermSymbol`; `diag_preserves_realisable_iff`), which are the last-axis wavenumbers `0` and, for
even `N`, `N/2`.
-/
namespace Exponax.C2R
open Exponax Exponax.Layout Exponax.Transform Exponax.DFT Exponax.Conserve Finset

/-- the diagonal (linear, mode-by-mode) Fourier step `C ↦ e ⊙ C` on the stored modes -/
noncomputable def diagStep (D N : ℕ) (e : ℕ → ℂ) (C : Array ℂ) : Array ℂ :=
  tab (numModes D N) (fun h => e h * C.getD h 0)

theorem physStep_diagStep (D N : ℕ) (e : ℕ → ℂ) (u : Array ℂ) :
    irfftnM D N (diagStep D N e (rfftnM D N u)) = linStep D N e u := rfl

theorem diagStep_getD (D N : ℕ) (e : ℕ → ℂ) (C : Array ℂ) (h : ℕ) (hh : h < numModes D N) :
    (diagStep D N e C).getD h 0 = e h * C.getD h 0 :=
  tab_getD _ _ _ _ hh

/-- the condition on the symbol: Hermitian on the self-conjugate columns -/
def HermSymbol (D N : ℕ) (e : ℕ → ℂ) : Prop :=
  ∀ h < numModes D N, herm_weight D N h = 1 → e (conjIdx D N h) = (starRingEnd ℂ) (e h)

/-- the two conditions are the same condition read from either end of `h ↦ σh`; `HermSymbol` is kept for
    coefficient arrays, `HermSpec` for states -/
theorem hermSymbol_iff_hermSpec {D N : ℕ} {e : ℕ → ℂ} : HermSymbol D N e ↔ HermSpec D N e :=
  forall₃_congr fun _ _ _ => eq_star_iff_eq_star

alias ⟨HermSymbol.hermSpec, HermSpec.hermSymbol⟩ := hermSymbol_iff_hermSpec

theorem HermSpec.mul_symbol {D N : ℕ} {e f : ℕ → ℂ} (he : HermSymbol D N e) (hf : HermSpec D N f) :
    HermSpec D N (e * f) := by
  intro h hh hw
  rw [Pi.mul_apply, Pi.mul_apply, map_mul, he h hh hw, Complex.conj_conj, ← hf h hh hw]

theorem diag_preserves_realisable (D N : ℕ) (hD : 0 < D) (hN : 0 < N) (e : ℕ → ℂ)
    (he : HermSymbol D N e) (C : Array ℂ) (hC : Realisable D N C) :
    Realisable D N (diagStep D N e C) :=
  (realisable_tab_iff D N hD hN _).mpr (hC.hermSpec.mul_symbol he)

/-- the two-point test spectrum `δ_h + δ_{σh}` (one point if `σh = h`) -/
noncomputable def pairSpec (D N h : ℕ) : Array ℂ :=
  tab (numModes D N) (fun i => if i = h ∨ i = conjIdx D N h then (1 : ℂ) else 0)

theorem pairSpec_realisable (D N : ℕ) (hD : 0 < D) (hN : 0 < N) (h : ℕ) (hh : h < numModes D N) :
    Realisable D N (pairSpec D N h) := by
  refine ⟨tab_size _ _, fun h' hh' _ => ?_⟩
  have hiff : (conjIdx D N h' = h ∨ conjIdx D N h' = conjIdx D N h) ↔ (h' = h ∨ h' = conjIdx D N h) := by
    rw [conjIdx_eq_iff D N hD hN hh' hh, conjIdx_eq_iff D N hD hN hh' (conjIdx_lt D N h hD hN),
      conjIdx_conjIdx D N h hD hN hh, or_comm]
  unfold pairSpec
  rw [tab_getD _ _ _ _ hh', tab_getD _ _ _ _ (conjIdx_lt D N h' hD hN), if_congr hiff rfl rfl,
    apply_ite (starRingEnd ℂ), map_one, map_zero]

theorem diag_preserves_realisable_iff (D N : ℕ) (hD : 0 < D) (hN : 0 < N) (e : ℕ → ℂ) :
    (∀ C, Realisable D N C → Realisable D N (diagStep D N e C)) ↔ HermSymbol D N e := by
  constructor
  · intro H h hh hw
    have := (H _ (pairSpec_realisable D N hD hN h hh)).2 h hh hw
    rw [diagStep_getD D N e _ h hh, diagStep_getD D N e _ _ (conjIdx_lt D N h hD hN)] at this
    unfold pairSpec at this
    rw [tab_getD _ _ _ _ hh, tab_getD _ _ _ _ (conjIdx_lt D N h hD hN), if_pos (Or.inl rfl),
      if_pos (Or.inr rfl), mul_one, mul_one] at this
    rw [this, Complex.conj_conj]
  · exact fun he C hC => diag_preserves_realisable D N hD hN e he C hC

/-- the self-conjugate columns: last-axis stored index `0`, or `N/2` for even `N` -/
theorem herm_weight_one_iff_nd (D N h : ℕ) (hD : 0 < D) (hh : h < numModes D N) :
    herm_weight D N h = 1
      ↔ (h % (N / 2 + 1) = 0 ∨ (N % 2 = 0 ∧ h % (N / 2 + 1) = N / 2)) := by
  obtain ⟨E, rfl⟩ : ∃ E, D = E + 1 := ⟨D - 1, by omega⟩
  rw [herm_weight_succ E N h hh, herm_weight_one_iff]

theorem odd_grid_herm_weight_one_iff (D N h : ℕ) (hD : 0 < D) (hodd : N % 2 = 1)
    (hh : h < numModes D N) : herm_weight D N h = 1 ↔ h % (N / 2 + 1) = 0 := by
  rw [herm_weight_one_iff_nd D N h hD hh]
  constructor
  · rintro (h0 | ⟨hev, _⟩)
    · exact h0
    · omega
  · exact Or.inl

theorem odd_grid_diag_preserves_realisable (D N : ℕ) (hD : 0 < D) (hodd : N % 2 = 1) (e : ℕ → ℂ)
    (he : ∀ h < numModes D N, h % (N / 2 + 1) = 0 → e (conjIdx D N h) = (starRingEnd ℂ) (e h))
    (C : Array ℂ) (hC : Realisable D N C) : Realisable D N (diagStep D N e C) := by
  have hN : 0 < N := by omega
  apply diag_preserves_realisable D N hD hN e _ C hC
  intro h hh hw
  exact he h hh ((odd_grid_herm_weight_one_iff D N h hD hodd hh).mp hw)

theorem hermSymbol_1d_iff (N : ℕ) (_hN : 0 < N) (e : ℕ → ℂ) :
    HermSymbol 1 N e ↔ ((e 0).im = 0 ∧ (N % 2 = 0 → (e (N / 2)).im = 0)) := by
  rw [← forall_selfConj_one_iff N fun h => (e h).im = 0, ← numModes_one]
  refine forall₂_congr fun h hh => imp_congr_right fun _ => ?_
  rw [conjIdx_one N h hh, eq_comm, Complex.conj_eq_iff_im]

theorem diag_preserves_realisable_1d_iff (N : ℕ) (hN : 0 < N) (e : ℕ → ℂ) :
    (∀ C, Realisable 1 N C → Realisable 1 N (diagStep 1 N e C))
      ↔ ((e 0).im = 0 ∧ (N % 2 = 0 → (e (N / 2)).im = 0)) := by
  rw [diag_preserves_realisable_iff 1 N (by norm_num) hN e, hermSymbol_1d_iff N hN e]

theorem odd_grid_diag_preserves_realisable_1d (N : ℕ) (hodd : N % 2 = 1) (e : ℕ → ℂ)
    (h0 : (e 0).im = 0) (C : Array ℂ) (hC : Realisable 1 N C) :
    Realisable 1 N (diagStep 1 N e C) :=
  (diag_preserves_realisable_1d_iff N (by omega) e).mpr ⟨h0, fun hev => by omega⟩ C hC

/-- e.g. even-order derivatives, which depend on the wavenumbers only through their squares -/
theorem diag_preserves_realisable_of_real_even (D N : ℕ) (hD : 0 < D) (hN : 0 < N) (e : ℕ → ℂ)
    (he : ∀ h < numModes D N, herm_weight D N h = 1 → (e h).im = 0 ∧ e (conjIdx D N h) = e h)
    (C : Array ℂ) (hC : Realisable D N C) : Realisable D N (diagStep D N e C) := by
  apply diag_preserves_realisable D N hD hN e _ C hC
  intro h hh hw
  rw [(he h hh hw).2, Complex.conj_eq_iff_im.mpr (he h hh hw).1]

theorem repeated_loop_diag (D N : ℕ) (hD : 0 < D) (hN : 0 < N) (e : ℕ → ℂ) (he : HermSymbol D N e)
    (u : Array ℂ) (hu : RealState D N u) (n : ℕ) :
    Loops.repeatN (fun v => irfftnM D N (diagStep D N e (rfftnM D N v))) n u
      = irfftnM D N (Loops.repeatedStepFourier (diagStep D N e) n (rfftnM D N u)) :=
  repeatedStepper_eq_loop D N hD hN (diagStep D N e)
    (fun C hC => diag_preserves_realisable D N hD hN e he C hC) u hu n

theorem hermSymbol_const_real (D N : ℕ) (r : ℝ) : HermSymbol D N (fun _ => (r : ℂ)) :=
  fun _ _ _ => (Complex.conj_ofReal r).symm

/-- non-vacuity of `HermSymbol`: real constants, any grid -/
example (D N : ℕ) (r : ℝ) : HermSymbol D N (fun _ => (r : ℂ)) :=
  hermSymbol_const_real D N r

/-- non-vacuity: a genuinely complex symbol on the odd 1-D grid `N = 3` (`e_1 = I`) -/
example : ∀ C, Realisable 1 3 C → Realisable 1 3 (diagStep 1 3 (fun h => if h = 1 then Complex.I else 1) C) :=
  odd_grid_diag_preserves_realisable_1d 3 (by norm_num) _ (by simp)

end Exponax.C2R
