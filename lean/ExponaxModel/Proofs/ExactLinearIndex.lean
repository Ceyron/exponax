import ExponaxModel.Proofs.ExactLinearModes
/-
C01 support: which wave vectors are stored in the half layout.  The last axis keeps the non-negative wavenumbers
only, so a wave vector `κ` strictly below Nyquist with `κ_last ≥ 0` sits at exactly one stored flat index,
`modeIdx D N κ`, and `-κ` is stored as well exactly when `κ_last = 0` (the last-axis DC column).
-/
namespace Exponax.ExactLinear
open Exponax Exponax.Layout Exponax.Transform Exponax.DFT Finset

theorem wnFlat_last_nonneg (D N h : ℕ) (hD : 0 < D) : 0 ≤ (wnFlat D N h).getD (D - 1) 0 := by
  rw [wnFlat_getD D N h (D - 1) (by omega), wn_last D N _ (D - 1) (by omega)]
  positivity

theorem wnFlat_inj (D N : ℕ) (hD : 0 < D) (hN : 0 < N) (h h' : ℕ) (hh : h < numModes D N)
    (hh' : h' < numModes D N) (he : wnFlat D N h = wnFlat D N h') : h = h' := by
  obtain ⟨E, rfl⟩ : ∃ E, D = E + 1 := ⟨D - 1, by omega⟩
  exact AliasND.kvec_inj E N hN h h' hh hh' (funext fun d => congrArg (·.getD d 0) he)

def modeIdxList (D N : ℕ) (κ : List ℤ) : List ℕ :=
  (List.range D).map (fun d => if d + 1 = D then (κ.getD d 0).toNat else fftfreqInv N (κ.getD d 0))

def modeIdx (D N : ℕ) (κ : List ℤ) : ℕ := flatten (wavenumberShape D N) (modeIdxList D N κ)

theorem modeIdxList_getD (D N : ℕ) (κ : List ℤ) (d : ℕ) (hd : d < D) :
    (modeIdxList D N κ).getD d 0
      = if d + 1 = D then (κ.getD d 0).toNat else fftfreqInv N (κ.getD d 0) := by
  simp [modeIdxList, List.getD_eq_getElem?_getD, hd]

theorem modeIdxList_lt (D N : ℕ) (hD : 0 < D) (hN : 0 < N) (κ : List ℤ) (hκ : BelowNyquist D N κ) :
    List.Forall₂ (· < ·) (modeIdxList D N κ) (wavenumberShape D N) := by
  rw [List.forall₂_iff_get]
  refine ⟨by simp [modeIdxList, wavenumberShape_length D N hD], ?_⟩
  intro d h1 h2
  have hd : d < D := by simpa [modeIdxList] using h1
  have hw := wavenumberShape_getD D N d hd
  rw [List.getD_eq_getElem?_getD, List.getElem?_eq_getElem h2] at hw
  simp only [Option.getD_some] at hw
  have hm := modeIdxList_getD D N κ d hd
  rw [List.getD_eq_getElem?_getD, List.getElem?_eq_getElem h1] at hm
  simp only [Option.getD_some] at hm
  rw [List.get_eq_getElem, List.get_eq_getElem, hw, hm]
  have hb := hκ.2 d hd
  have b1 : κ.getD d 0 ≤ |κ.getD d 0| := le_abs_self _
  have b2 : -(κ.getD d 0) ≤ |κ.getD d 0| := neg_le_abs _
  split_ifs with hl
  · omega
  · apply fftfreqInv_lt N _ hN <;> omega

theorem modeIdx_lt (D N : ℕ) (hD : 0 < D) (hN : 0 < N) (κ : List ℤ) (hκ : BelowNyquist D N κ)
    (_ : 0 ≤ κ.getD (D - 1) 0) : modeIdx D N κ < numModes D N :=
  flatten_lt _ _ (modeIdxList_lt D N hD hN κ hκ)

theorem wnFlat_modeIdx (D N : ℕ) (hD : 0 < D) (hN : 0 < N) (κ : List ℤ) (hκ : BelowNyquist D N κ)
    (hlast : 0 ≤ κ.getD (D - 1) 0) : wnFlat D N (modeIdx D N κ) = κ := by
  apply list_ext_getD _ _ D (wnFlat_length D N _) hκ.1
  intro d hd
  rw [wnFlat_getD D N _ d hd, modeIdx, unflatten_flatten _ _ (modeIdxList_lt D N hD hN κ hκ)]
  have hb := hκ.2 d hd
  have b1 : κ.getD d 0 ≤ |κ.getD d 0| := le_abs_self _
  have b2 : -(κ.getD d 0) ≤ |κ.getD d 0| := neg_le_abs _
  by_cases hl : d + 1 = D
  · rw [wn_last D N _ d hl, modeIdxList_getD D N κ d hd, if_pos hl]
    have hdl : D - 1 = d := by omega
    rw [hdl] at hlast
    omega
  · rw [wn_leading D N _ d hl, modeIdxList_getD D N κ d hd, if_neg hl]
    apply fftfreq_fftfreqInv N _ hN <;> omega

theorem stored_existsUnique (D N : ℕ) (hD : 0 < D) (hN : 0 < N) (κ : List ℤ) (hκ : BelowNyquist D N κ)
    (hlast : 0 ≤ κ.getD (D - 1) 0) : ∃! h, h < numModes D N ∧ wnFlat D N h = κ := by
  refine ⟨modeIdx D N κ, ⟨modeIdx_lt D N hD hN κ hκ hlast, wnFlat_modeIdx D N hD hN κ hκ hlast⟩, ?_⟩
  rintro h ⟨hh, hk⟩
  exact wnFlat_inj D N hD hN h _ hh (modeIdx_lt D N hD hN κ hκ hlast)
    (by rw [hk, wnFlat_modeIdx D N hD hN κ hκ hlast])

theorem partner_stored_iff (D N : ℕ) (hD : 0 < D) (hN : 0 < N) (κ : List ℤ) (hκ : BelowNyquist D N κ)
    (hlast : 0 ≤ κ.getD (D - 1) 0) :
    (∃ h, h < numModes D N ∧ wnFlat D N h = negK κ) ↔ κ.getD (D - 1) 0 = 0 := by
  constructor
  · rintro ⟨h, _, hk⟩
    have := wnFlat_last_nonneg D N h hD
    rw [hk, negK_getD] at this
    omega
  · intro h0
    have hl : 0 ≤ (negK κ).getD (D - 1) 0 := by rw [negK_getD, h0]; simp
    exact ⟨modeIdx D N (negK κ), modeIdx_lt D N hD hN _ hκ.negK hl,
      wnFlat_modeIdx D N hD hN _ hκ.negK hl⟩

theorem herm_weight_of_wn (D N h : ℕ) (hD : 0 < D) :
    herm_weight D N h
      = if (wnFlat D N h).getD (D - 1) 0 = 0 ∨
          (N % 2 = 0 ∧ (wnFlat D N h).getD (D - 1) 0 = ((N / 2 : ℕ) : ℤ)) then 1 else 2 := by
  rw [wnFlat_getD D N h (D - 1) (by omega), wn_last D N _ (D - 1) (by omega)]
  unfold herm_weight
  simp only [Nat.cast_inj, Nat.cast_eq_zero]

theorem rfftnM_modeField_modeIdx (D N : ℕ) (hD : 0 < D) (hN : 0 < N) (κ : List ℤ) (hκ : BelowNyquist D N κ)
    (hlast : 0 ≤ κ.getD (D - 1) 0) (hne : ∃ d < D, κ.getD d 0 ≠ 0) (a φ : ℝ) :
    (rfftnM D N (modeField D N κ a φ)).getD (modeIdx D N κ) 0
      = (a / 2 : ℂ) * ((N ^ D : ℕ) : ℂ) * Complex.exp (φ * Complex.I) :=
  rfftnM_modeField_at D N hD hN κ hκ hne a φ _ (modeIdx_lt D N hD hN κ hκ hlast)
    (wnFlat_modeIdx D N hD hN κ hκ hlast)

theorem rfftnM_modeField_modeIdx_partner (D N : ℕ) (hD : 0 < D) (hN : 0 < N) (κ : List ℤ)
    (hκ : BelowNyquist D N κ) (hlast : κ.getD (D - 1) 0 = 0) (hne : ∃ d < D, κ.getD d 0 ≠ 0) (a φ : ℝ) :
    (rfftnM D N (modeField D N κ a φ)).getD (modeIdx D N (negK κ)) 0
      = (starRingEnd ℂ) ((a / 2 : ℂ) * ((N ^ D : ℕ) : ℂ) * Complex.exp (φ * Complex.I)) := by
  have hl : 0 ≤ (negK κ).getD (D - 1) 0 := by rw [negK_getD, hlast]; simp
  exact rfftnM_modeField_partner D N hD hN κ hκ hne a φ _ (modeIdx_lt D N hD hN _ hκ.negK hl)
    (wnFlat_modeIdx D N hD hN _ hκ.negK hl)

/-! non-vacuity -/
example : ∃ h, h < numModes 2 4 ∧ wnFlat 2 4 h = [1, 1] ∧ ∃ d < 2, ([1, 1] : List ℤ).getD d 0 ≠ 0 := by
  have hκ : BelowNyquist 2 4 [1, 1] := belowNyquist_of_forall_mem (by decide)
  obtain ⟨h, ⟨h1, h2⟩, _⟩ := stored_existsUnique 2 4 (by norm_num) (by norm_num) [1, 1] hκ (by decide)
  exact ⟨h, h1, h2, 0, by norm_num, by decide⟩
example : ∃ h, h < numModes 2 4 ∧ wnFlat 2 4 h = negK [-1, 0] := by
  have hκ : BelowNyquist 2 4 [-1, 0] := belowNyquist_of_forall_mem (by decide)
  exact (partner_stored_iff 2 4 (by norm_num) (by norm_num) [-1, 0] hκ (by decide)).mpr (by decide)
example : BelowNyquist 3 8 [3, -2, 1] ∧ 0 ≤ ([3, -2, 1] : List ℤ).getD (3 - 1) 0 :=
  ⟨belowNyquist_of_forall_mem (by decide), by decide⟩
example : BelowNyquist 2 5 [-2, 0] ∧ ([-2, 0] : List ℤ).getD (2 - 1) 0 = 0 :=
  ⟨belowNyquist_of_forall_mem (by decide), by decide⟩

end Exponax.ExactLinear
