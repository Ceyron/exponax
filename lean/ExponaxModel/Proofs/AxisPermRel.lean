import ExponaxModel.Proofs.AxisPermMul
import ExponaxModel.Proofs.AliasOffBand
/-
C08: the stages of the pseudo-spectral pipeline (per-mode multipliers, `+`, `nifft`, `nfft`) carry the
relation `SpecPerm σ a a'` on stored half spectra: both Nyquist-free and `irfftn a' = P_σ (irfftn a)` on the grid.
It holds for `a = rfftn u`, `a' = rfftn (P_σ u)` with `u` real and Nyquist-free (`specPerm_rfftn`).
-/
namespace Exponax.AxisPerm
open Exponax.Layout Exponax.Transform Exponax.DFT Exponax.AliasND Exponax.Nonlin Exponax.Alias

def SpecPerm (D N : ℕ) (σ : Equiv.Perm (Fin D)) (a a' : Array ℂ) : Prop :=
  NyqFreeS D N a ∧ NyqFreeS D N a' ∧ FieldPerm D N σ (irfftnM D N a) (irfftnM D N a')

theorem nyqFreeS_tab_mul (D N : ℕ) (m : ℕ → ℂ) (a : Array ℂ) (ha : NyqFreeS D N a) :
    NyqFreeS D N (tab (numModes D N) fun h => m h * a.getD h 0) := by
  intro h hh hny
  rw [DFT.tab_getD _ _ _ _ hh, ha h hh hny, mul_zero]

theorem nyqFreeS_congr (D N : ℕ) (a b : Array ℂ) (h : ∀ m, m < numModes D N → a.getD m 0 = b.getD m 0)
    (ha : NyqFreeS D N a) : NyqFreeS D N b := fun m hm hny => by rw [← h m hm, ha m hm hny]

theorem fieldPerm_congr (D N : ℕ) (σ : Equiv.Perm (Fin D)) (v w v' w' : Array ℂ)
    (h1 : ∀ j, j < N ^ D → v.getD j 0 = w.getD j 0) (h2 : ∀ j, j < N ^ D → v'.getD j 0 = w'.getD j 0)
    (h : FieldPerm D N σ v v') : FieldPerm D N σ w w' := fun j hj => by
  rw [← h2 j hj, h j hj, h1 _ (permIdx_lt_of_lt D N σ j hj)]

theorem fieldPerm_irfftn_congr (D N : ℕ) (σ : Equiv.Perm (Fin D)) (a b a' b' : Array ℂ)
    (h1 : ∀ m, m < numModes D N → a.getD m 0 = b.getD m 0)
    (h2 : ∀ m, m < numModes D N → a'.getD m 0 = b'.getD m 0)
    (h : FieldPerm D N σ (irfftnM D N a) (irfftnM D N a')) : FieldPerm D N σ (irfftnM D N b) (irfftnM D N b') :=
  fieldPerm_congr D N σ _ _ _ _ (fun j _ => by rw [DFT.irfftnM_congr D N a b h1]) (fun j _ => by rw [DFT.irfftnM_congr D N a' b' h2]) h

theorem specPerm_congr (D N : ℕ) (_ : 0 < N) (σ : Equiv.Perm (Fin D)) (a b a' b' : Array ℂ)
    (h1 : ∀ m, m < numModes D N → a.getD m 0 = b.getD m 0)
    (h2 : ∀ m, m < numModes D N → a'.getD m 0 = b'.getD m 0) (h : SpecPerm D N σ a a') :
    SpecPerm D N σ b b' :=
  ⟨nyqFreeS_congr D N a b h1 h.1, nyqFreeS_congr D N a' b' h2 h.2.1,
    fieldPerm_irfftn_congr D N σ a b a' b' h1 h2 h.2.2⟩

/-- The multiplier `g(k(h))` on `a` corresponds to `g(k(h) ∘ σ)` on `a'`; compared on the full spectra. -/
theorem fieldPerm_irfftn_mul (D N : ℕ) (hD : 0 < D) (hN : 0 < N) (σ : Equiv.Perm (Fin D))
    (g : (Fin D → ℤ) → ℂ) (hg : ∀ k, g (-k) = (starRingEnd ℂ) (g k)) (a a' : Array ℂ)
    (hNy : (NyqFreeS D N a ∧ NyqFreeS D N a') ∨ ∀ k : Fin D → ℤ, NyqVec N k → g k = 0)
    (h : FieldPerm D N σ (irfftnM D N a) (irfftnM D N a')) :
    FieldPerm D N σ (irfftnM D N (tab (numModes D N) fun h => g (kvec D N h) * a.getD h 0))
      (irfftnM D N (tab (numModes D N) fun h => g (kvec D N h ∘ σ) * a'.getD h 0)) := by
  rw [fieldPerm_iff_dftV D N hN] at h ⊢
  intro m
  have hg' : ∀ k : Fin D → ℤ, (fun k => g (k ∘ σ)) (-k) = (starRingEnd ℂ) ((fun k => g (k ∘ σ)) k) := by
    intro k
    show g ((-k) ∘ σ) = _
    rw [show (-k) ∘ σ = -(k ∘ σ) from rfl, hg]
  have hNy1 := nyqBlind_of_nyq D N hD hN g a (hNy.imp (fun x => x.1) id)
  have hNy2 := nyqBlind_of_nyq D N hD hN (fun k => g (k ∘ σ)) a'
    (hNy.imp (fun x => x.2) (fun hz k hk => hz _ (hk.comp σ)))
  rw [dftV_irfftn_mul D N hD hN (fun k => g (k ∘ σ)) hg' a' hNy2 m,
    dftV_irfftn_mul D N hD hN g hg a hNy1 (m ∘ σ), h m]
  rfl

theorem specPerm_mul (D N : ℕ) (hD : 0 < D) (hN : 0 < N) (σ : Equiv.Perm (Fin D))
    (g : (Fin D → ℤ) → ℂ) (hg : ∀ k, g (-k) = (starRingEnd ℂ) (g k)) (a a' : Array ℂ)
    (h : SpecPerm D N σ a a') :
    SpecPerm D N σ (tab (numModes D N) fun h => g (kvec D N h) * a.getD h 0)
      (tab (numModes D N) fun h => g (kvec D N h ∘ σ) * a'.getD h 0) :=
  ⟨nyqFreeS_tab_mul D N _ a h.1, nyqFreeS_tab_mul D N _ a' h.2.1,
    fieldPerm_irfftn_mul D N hD hN σ g hg a a' (Or.inl ⟨h.1, h.2.1⟩) h.2.2⟩

theorem nyqFreeS_tab_op (D N : ℕ) (op : ℂ → ℂ → ℂ) (hop : op 0 0 = 0) (f g : ℕ → ℂ)
    (hf : NyqFreeS D N (tab (numModes D N) f)) (hg : NyqFreeS D N (tab (numModes D N) g)) :
    NyqFreeS D N (tab (numModes D N) fun h => op (f h) (g h)) := by
  intro h hh hny
  have e1 := hf h hh hny
  have e2 := hg h hh hny
  rw [DFT.tab_getD _ _ _ _ hh] at e1 e2 ⊢
  rw [e1, e2, hop]

theorem specPerm_add (D N : ℕ) (σ : Equiv.Perm (Fin D)) (f g f' g' : ℕ → ℂ)
    (h1 : SpecPerm D N σ (tab (numModes D N) f) (tab (numModes D N) f'))
    (h2 : SpecPerm D N σ (tab (numModes D N) g) (tab (numModes D N) g')) :
    SpecPerm D N σ (tab (numModes D N) fun h => f h + g h) (tab (numModes D N) fun h => f' h + g' h) :=
  ⟨nyqFreeS_tab_op D N (· + ·) (add_zero 0) f g h1.1 h2.1,
    nyqFreeS_tab_op D N (· + ·) (add_zero 0) f' g' h1.2.1 h2.2.1, fun j hj => by
    rw [irfftnM_add_getD D N f' g' j, irfftnM_add_getD D N f g,
      h1.2.2 j hj, h2.2.2 j hj]⟩

theorem specPerm_zero (D N : ℕ) (σ : Equiv.Perm (Fin D)) (a a' : Array ℂ)
    (ha : ∀ m, m < numModes D N → a.getD m 0 = 0) (ha' : ∀ m, m < numModes D N → a'.getD m 0 = 0) :
    SpecPerm D N σ a a' :=
  ⟨fun h hh _ => ha h hh, fun h hh _ => ha' h hh, fun j hj => by
    rw [irfftnM_eq_zero D N a' ha' j, irfftnM_eq_zero D N a ha]⟩

/-- mask, then c2r, with a per-mode multiplier: the mask joins `g` -/
theorem nifft_mul_fieldPerm (c : Cfg ℂ) (hD : 0 < c.D) (hN : 0 < c.N) (σ : Equiv.Perm (Fin c.D))
    (g : (Fin c.D → ℤ) → ℂ) (hg : ∀ k, g (-k) = (starRingEnd ℂ) (g k)) (a a' : Array ℂ)
    (h : SpecPerm c.D c.N σ a a') :
    FieldPerm c.D c.N σ (nifft c (tab (modes c) fun m => g (kvec c.D c.N m) * a.getD m 0))
      (nifft c (tab (modes c) fun m => g (kvec c.D c.N m ∘ σ) * a'.getD m 0)) := by
  have hgm : ∀ k : Fin c.D → ℤ, (fun k => maskFn c k * g k) (-k)
      = (starRingEnd ℂ) ((fun k => maskFn c k * g k) k) := by
    intro k
    show maskFn c (-k) * g (-k) = _
    rw [maskFn_neg, hg, map_mul]
  have key := fieldPerm_irfftn_mul c.D c.N hD hN σ (fun k => maskFn c k * g k) hgm a a'
    (Or.inl ⟨h.1, h.2.1⟩) h.2.2
  unfold nifft
  refine fieldPerm_irfftn_congr c.D c.N σ _ _ _ _ (fun m hm => ?_) (fun m hm => ?_) key
  · have hm' : m < modes c := hm
    rw [DFT.tab_getD _ _ _ _ hm, DFT.tab_getD _ _ _ _ hm', DFT.tab_getD _ _ _ _ hm', mask_eq_maskFn]
    ring
  · have hm' : m < modes c := hm
    rw [DFT.tab_getD _ _ _ _ hm, DFT.tab_getD _ _ _ _ hm', DFT.tab_getD _ _ _ _ hm', mask_eq_maskFn,
      maskFn_comp]
    ring

theorem nifft_fieldPerm (c : Cfg ℂ) (hD : 0 < c.D) (hN : 0 < c.N) (σ : Equiv.Perm (Fin c.D)) (a a' : Array ℂ)
    (h : SpecPerm c.D c.N σ a a') : FieldPerm c.D c.N σ (nifft c a) (nifft c a') := by
  have e : ∀ b : Array ℂ, nifft c (tab (modes c) fun m => 1 * b.getD m 0) = nifft c b := fun b =>
    Nonlin.nifft_congr c _ b (fun m hm => by rw [DFT.tab_getD _ _ _ _ hm, one_mul])
  have key := nifft_mul_fieldPerm c hD hN σ (fun _ => 1) (fun _ => by simp) a a' h
  rwa [e a, e a'] at key

theorem fieldPerm_irfftn_rfftn (D N : ℕ) (hD : 0 < D) (hN : 0 < N) (σ : Equiv.Perm (Fin D)) (v v' : Array ℂ)
    (hv : IsRealND D N v) (h : FieldPerm D N σ v v') :
    FieldPerm D N σ (irfftnM D N (rfftnM D N v)) (irfftnM D N (rfftnM D N v')) := by
  intro j hj
  rw [irfftn_rfftn D N hD hN v' (fieldPerm_real D N σ v v' h hv) j hj,
    irfftn_rfftn D N hD hN v hv _ (permIdx_lt_of_lt D N σ j hj), h j hj]

theorem dftV_eq_zero_of_nyq (D N : ℕ) (hD : 0 < D) (hN : 0 < N) (v : Array ℂ) (hv : IsRealND D N v)
    (hfree : NyqFreeS D N (rfftnM D N v)) (m : Fin D → ℤ) (hm : NyqVec N m) : dftV D N v m = 0 := by
  obtain ⟨h, hh, hc | hc⟩ := exists_stored_congr D N hD hN m
  · rw [← dftV_of_congr v hc, ← rfftn_eq_dftV D N hN v h hh]
    exact hfree h hh (hm.congr hc.symm)
  · have h1 : dftV D N v (-m) = 0 := by
      rw [← dftV_of_congr v hc, ← rfftn_eq_dftV D N hN v h hh]
      exact hfree h hh (hm.neg.congr hc.symm)
    have h2 := conj_dftV D N v hv m
    rw [h1] at h2
    exact (map_eq_zero (starRingEnd ℂ)).mp h2

theorem specPerm_rfftn (D N : ℕ) (hD : 0 < D) (hN : 0 < N) (σ : Equiv.Perm (Fin D)) (v v' : Array ℂ)
    (hv : IsRealND D N v) (hfree : NyqFreeS D N (rfftnM D N v)) (h : FieldPerm D N σ v v') :
    SpecPerm D N σ (rfftnM D N v) (rfftnM D N v') := by
  refine ⟨hfree, ?_, fieldPerm_irfftn_rfftn D N hD hN σ v v' hv h⟩
  intro m hm hny
  rw [rfftn_eq_dftV D N hN v' m hm, (fieldPerm_iff_dftV D N hN σ v v').mp h]
  exact dftV_eq_zero_of_nyq D N hD hN v hv hfree _ (hny.comp σ)

/-- r2c, then mask: under `NyqCfg c` the mask removes whatever Nyquist content `v` has -/
theorem nfft_specPerm (c : Cfg ℂ) (hD : 0 < c.D) (hN : 0 < c.N) (hcfg : NyqCfg c) (σ : Equiv.Perm (Fin c.D))
    (v v' : Array ℂ) (hv : IsRealND c.D c.N v) (h : FieldPerm c.D c.N σ v v') :
    SpecPerm c.D c.N σ (nfft c v) (nfft c v') := by
  have hfree : ∀ w : Array ℂ, NyqFreeS c.D c.N (nfft c w) := by
    intro w m hm hny
    rw [nfft_getD c w m hm, mask_eq_maskFn]
    rcases hcfg with hodd | ⟨hq, hp⟩
    · exact absurd hny (not_nyqVec_of_odd c.N hodd _)
    · rw [maskFn_nyq c hq hp _ hny, zero_mul]
  refine ⟨hfree v, hfree v', ?_⟩
  have hNy : (NyqFreeS c.D c.N (rfftnM c.D c.N v) ∧ NyqFreeS c.D c.N (rfftnM c.D c.N v')) ∨
      ∀ k : Fin c.D → ℤ, NyqVec c.N k → maskFn c k = 0 := by
    rcases hcfg with hodd | ⟨hq, hp⟩
    · exact Or.inl ⟨nyqFreeS_of_odd c.D c.N hodd _, nyqFreeS_of_odd c.D c.N hodd _⟩
    · exact Or.inr (maskFn_nyq c hq hp)
  have key := fieldPerm_irfftn_mul c.D c.N hD hN σ (maskFn c) (maskFn_neg c) _ _ hNy
    (fieldPerm_irfftn_rfftn c.D c.N hD hN σ v v' hv h)
  refine fieldPerm_irfftn_congr c.D c.N σ _ _ _ _ (fun m hm => ?_) (fun m hm => ?_) key
  · rw [DFT.tab_getD _ _ _ _ hm, nfft_getD c v m hm, mask_eq_maskFn]
  · rw [DFT.tab_getD _ _ _ _ hm, nfft_getD c v' m hm, mask_eq_maskFn, maskFn_comp]

example (D N : ℕ) (hN : 0 < N) (σ : Equiv.Perm (Fin D)) : ∃ a a', SpecPerm D N σ a a' :=
  ⟨#[], #[], specPerm_zero D N σ _ _ (fun _ _ => by simp) (fun _ _ => by simp)⟩

example (D N : ℕ) (σ : Equiv.Perm (Fin D)) (v : Array ℂ) : ∃ v', FieldPerm D N σ v v' :=
  ⟨_, fieldPerm_permField D N σ v⟩

end Exponax.AxisPerm
