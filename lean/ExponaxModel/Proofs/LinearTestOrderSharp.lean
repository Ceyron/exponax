import ExponaxModel.Proofs.LinearTestOrder
/-
C02: sharpness of the order statements — the theorems would notice a wrong coefficient.
 (a) `(R_p(λt, μt) − e^{(λ+μ)t}) / t^{p+1} → L_p(λ, μ)` as `t → 0`, and `L_p(0, 1) = −1/(p+1)! ≠ 0`: the local error is not
     `O(t^{p+2})`, the order is exactly `p`.
 (b) one wrong coefficient per scheme (`ε ≠ 0` an arbitrary relative error) destroys the order; ETDRK4 with the sign typo
     `(−4 + z + e^z(4 − 3z + z²))/z³` in `b₁` (correct: `−4 − z + …`) has amplification `R₄ + 2μ/(λ² t)`, so its local
     error blows up like `2μ/(λ²t)`.
-/
noncomputable section
namespace Exponax.LinearOrder
open Exponax Exponax.Spec Exponax.ContourTail Exponax.Gen.Etdrk Filter Topology

theorem tendsto_div_pow (F G : ℝ → ℂ) (k : ℕ) (hG : Continuous G)
    (h : ∀ t : ℝ, t ≠ 0 → F t = (t : ℂ) ^ k * G t) :
    Tendsto (fun t : ℝ => F t / (t : ℂ) ^ k) (𝓝[≠] 0) (𝓝 (G 0)) := by
  have h1 : Tendsto G (𝓝[≠] 0) (𝓝 (G 0)) := hG.continuousAt.tendsto.mono_left nhdsWithin_le_nhds
  refine h1.congr' ?_
  filter_upwards [self_mem_nhdsWithin] with t ht
  have hne : (t : ℂ) ^ k ≠ 0 := pow_ne_zero _ (Complex.ofReal_ne_zero.mpr ht)
  rw [h t ht]
  field_simp

/-- `g = t^{p+1} Q` (order `p`) plus a defect `t^k D`, `k ≤ p`: the quotient by `t^k` tends to `D 0` -/
theorem perturbed_limit (F g Q D : ℝ → ℂ) (p k : ℕ) (hk : k ≤ p) (L : ℂ) (hQ : Continuous Q)
    (hD : Continuous D) (hg : ∀ t : ℝ, g t = (t : ℂ) ^ (p + 1) * Q t)
    (hF : ∀ t : ℝ, F t = g t + (t : ℂ) ^ k * D t) (hL : D 0 = L) :
    Tendsto (fun t : ℝ => F t / (t : ℂ) ^ k) (𝓝[≠] 0) (𝓝 L) := by
  have hFk : ∀ t : ℝ, t ≠ 0 → F t = (t : ℂ) ^ k * ((t : ℂ) ^ (p + 1 - k) * Q t + D t) := fun t _ => by
    have hp : (t : ℂ) ^ (p + 1) = (t : ℂ) ^ k * (t : ℂ) ^ (p + 1 - k) := by
      rw [← pow_add, Nat.add_sub_of_le (hk.trans p.le_succ)]
    rw [hF, hg, hp]
    ring
  have h := tendsto_div_pow F _ k (by fun_prop) hFk
  rwa [Complex.ofReal_zero, zero_pow (by omega), zero_mul, zero_add, hL] at h

theorem not_isBigO_of_limit (g : ℝ → ℂ) (k j : ℕ) (hj : k < j) (L : ℂ) (hL : L ≠ 0)
    (h : Tendsto (fun t : ℝ => g t / (t : ℂ) ^ k) (𝓝[≠] 0) (𝓝 L)) (T : ℝ) (hT : 0 < T) :
    ¬ ∃ C : ℝ, ∀ t : ℝ, 0 < t → t ≤ T → ‖g t‖ ≤ C * t ^ j := by
  rintro ⟨C, hC⟩
  have hgt : Tendsto (fun t : ℝ => g t / (t : ℂ) ^ k) (𝓝[>] 0) (𝓝 L) :=
    h.mono_left (nhdsWithin_mono _ (fun t (ht : 0 < t) => ht.ne'))
  have h1 : Tendsto (fun t : ℝ => ‖g t / (t : ℂ) ^ k‖) (𝓝[>] 0) (𝓝 ‖L‖) := hgt.norm
  have h2 : Tendsto (fun t : ℝ => C * t ^ (j - k)) (𝓝[>] 0) (𝓝 0) := by
    have hc : Continuous fun t : ℝ => C * t ^ (j - k) := by fun_prop
    have := hc.continuousAt.tendsto (x := (0 : ℝ))
    rw [zero_pow (by omega), mul_zero] at this
    exact this.mono_left nhdsWithin_le_nhds
  have hle : ‖L‖ ≤ 0 := by
    refine le_of_tendsto_of_tendsto h1 h2 ?_
    filter_upwards [Ioc_mem_nhdsGT hT] with t ht
    have htk : 0 < t ^ k := pow_pos ht.1 k
    rw [norm_div, norm_pow, Complex.norm_real, Real.norm_eq_abs, abs_of_pos ht.1,
      div_le_iff₀ htk, mul_assoc, ← pow_add]
    rw [show j - k + k = j by omega]
    exact hC t ht.1 ht.2
  exact hL (norm_le_zero_iff.mp hle)

/-- the leading error coefficient read off a table: at `t = 0` only the `t`-free monomials survive, and
    `φ_n(0) = 1/n!` (`d = n!` as a literal) -/
theorem error_constant_of_table (tab : List Mono) (n d : ℕ) (hd : n.factorial = d) (l m L : ℂ) (g b : ℝ → ℂ)
    (hb : Continuous b)
    (hg : ∀ t : ℝ, g t = (t : ℂ) ^ n * evalTab tab l m t (phiE n (l * t)) (b t) (phiE n ((l + m) * t)))
    (hL : evalTab (tab.filter (·.kt = 0)) l m 0 (1 / d) (b 0) (1 / d) = L) :
    Tendsto (fun t : ℝ => g t / (t : ℂ) ^ n) (𝓝[≠] 0) (𝓝 L) := by
  have h := tendsto_div_pow g _ n (by fun_prop) (fun t _ => hg t)
  simp only [Complex.ofReal_zero, mul_zero, phiE_at_zero, hd] at h
  rwa [evalTab_t_zero, hL] at h

/-- the leading local-error coefficients of ETDRK1–4 -/
def L1 (l m : ℂ) : ℂ := -(m * (l + m)) / 2
def L2 (l m : ℂ) : ℂ := -m ^ 3 / 6 - l * m ^ 2 / 12 + l ^ 2 * m / 12
def L3 (l m : ℂ) : ℂ := -m ^ 4 / 24 - l * m ^ 3 / 24
def L4 (l m : ℂ) : ℂ :=
  -m ^ 5 / 120 - l * m ^ 4 / 96 + l ^ 2 * m ^ 3 / 720 + 7 * l ^ 3 * m ^ 2 / 2880 - l ^ 4 * m / 960

theorem R1_error_constant (l m : ℂ) :
    Tendsto (fun t : ℝ => (R1 (l * t) (m * t) - Complex.exp ((l + m) * t)) / (t : ℂ) ^ 2)
      (𝓝[≠] 0) (𝓝 (L1 l m)) := by
  refine error_constant_of_table Q1tab 2 2 rfl l m _ _ (fun _ => 1) (by fun_prop)
    (fun t => R1_sub_exp l m t) ?_
  rw [show Q1tab.filter (·.kt = 0) = Q1tab.take 5 from rfl]
  simp only [Q1tab, List.take, evalTab_cons, evalTab_nil, Mono.val_mk, L1]
  push_cast
  ring

theorem R2_error_constant (l m : ℂ) :
    Tendsto (fun t : ℝ => (R2 (l * t) (m * t) - Complex.exp ((l + m) * t)) / (t : ℂ) ^ 3)
      (𝓝[≠] 0) (𝓝 (L2 l m)) := by
  refine error_constant_of_table Q2tab 3 6 rfl l m _ _ (fun _ => 1) (by fun_prop)
    (fun t => R2_sub_exp l m t) ?_
  rw [show Q2tab.filter (·.kt = 0) = Q2tab.take 9 from rfl]
  simp only [Q2tab, List.take, evalTab_cons, evalTab_nil, Mono.val_mk, L2]
  push_cast
  ring

theorem R3_error_constant (l m : ℂ) :
    Tendsto (fun t : ℝ => (R3 (l * t) (m * t) - Complex.exp ((l + m) * t)) / (t : ℂ) ^ 4)
      (𝓝[≠] 0) (𝓝 (L3 l m)) := by
  refine error_constant_of_table Q3tab 4 24 rfl l m _ _ (fun t => phiE 4 (l * t / 2)) (by fun_prop)
    (fun t => R3_sub_exp l m t) ?_
  rw [show Q3tab.filter (·.kt = 0) = Q3tab.take 11 from rfl]
  simp only [Q3tab, List.take, evalTab_cons, evalTab_nil, Mono.val_mk, L3]
  push_cast
  ring

theorem R4_error_constant (l m : ℂ) :
    Tendsto (fun t : ℝ => (R4 (l * t) (m * t) - Complex.exp ((l + m) * t)) / (t : ℂ) ^ 5)
      (𝓝[≠] 0) (𝓝 (L4 l m)) := by
  refine error_constant_of_table Q4tab 5 120 rfl l m _ _ (fun t => phiE 5 (l * t / 2)) (by fun_prop)
    (fun t => R4_sub_exp l m t) ?_
  rw [show Q4tab.filter (·.kt = 0) = Q4tab.take 14 from rfl]
  simp only [Q4tab, List.take, evalTab_cons, evalTab_nil, Mono.val_mk, L4]
  push_cast
  ring

attribute [local fun_prop] continuous_phi1e continuous_phi2e continuous_phi3e

/-- ETDRK1 with `a₁` off by the relative error `ε` -/
theorem cm1_perturbed (z dt μ ε u : ℂ) :
    cm1 (Complex.exp z) (dt * ((1 + ε) * phi1e z)) (fun v => μ * v) u
      = (R1 z (μ * dt) + ε * (μ * dt) * phi1e z) * u := by
  rw [cm1_amp]
  simp only [amp1, R1]
  ring

/-- ETDRK2 with `a₂` off by the relative error `ε` -/
theorem cm2_perturbed (z dt μ ε u : ℂ) :
    cm2 (Complex.exp z) (dt * phi1e z) (dt * ((1 + ε) * phi2e z)) (fun v => μ * v) u
      = (R2 z (μ * dt) + ε * (μ * dt) * phi2e z * ((z + μ * dt) * phi1e z)) * u := by
  rw [cm2_amp]
  simp only [amp2, R2]
  linear_combination (ε * (μ * dt) * phi2e z * u) * exp_eq_one_add_mul_phi1e z

/-- ETDRK3 with the inner weight `a₁` (stage `b`) off by the relative error `ε` -/
theorem cm3_perturbed (z dt μ ε u : ℂ) :
    cm3 (Complex.exp z) (Complex.exp (z / 2)) (dt * (phi1e (z / 2) / 2)) (dt * ((1 + ε) * phi1e z))
      (dt * (phi1e z - 3 * phi2e z + 4 * phi3e z)) (dt * (4 * phi2e z - 8 * phi3e z))
      (dt * (4 * phi3e z - phi2e z)) (fun v => μ * v) u
      = (R3 z (μ * dt) + ε * (μ * dt) ^ 2 * wC z * phi1e z
          * (2 * (Complex.exp (z / 2) + μ * dt / 2 * phi1e (z / 2)) - 1)) * u := by
  rw [cm3_amp]
  simp only [amp3, R3, wA, wB, wC]
  ring

/-- ETDRK4 with the last weight `b₃` off by the relative error `ε` -/
theorem cm4_perturbed (z dt μ ε u : ℂ) :
    cm4 (Complex.exp z) (Complex.exp (z / 2)) (dt * (phi1e (z / 2) / 2))
      (dt * (phi1e z - 3 * phi2e z + 4 * phi3e z)) (dt * (phi2e z - 2 * phi3e z))
      (dt * ((1 + ε) * (4 * phi3e z - phi2e z))) (fun v => μ * v) u
      = (R4 z (μ * dt) + ε * (μ * dt) * wC z
          * (Complex.exp z + μ * dt / 2 * phi1e (z / 2) * (3 * Complex.exp (z / 2) - 1)
            + (μ * dt) ^ 2 / 2 * phi1e (z / 2) ^ 2 * Complex.exp (z / 2)
            + (μ * dt) ^ 3 / 4 * phi1e (z / 2) ^ 3)) * u := by
  rw [cm4_amp]
  simp only [amp4, R4, wA, wB, wC]
  linear_combination (μ * dt * (1 + ε) * (4 * phi3e z - phi2e z) * u) * exp_half_sq z

/-- the correct closed form of the `b₁` combination and the one with the sign typo differ by `2/z²` -/
theorem wA_sign_typo (z : ℂ) (hz : z ≠ 0) :
    (-4 + z + Complex.exp z * (4 - 3 * z + z ^ 2)) / z ^ 3 = wA z + 2 / z ^ 2 := by
  unfold wA
  rw [phi1e_of_ne z hz, phi2e_of_ne z hz, phi3e_of_ne z hz, phi1_closed, phi2_closed, phi3_closed]
  field_simp
  ring

/-- ETDRK4 with the SIGN TYPO in `b₁` (`−4 + z + …` instead of `−4 − z + …`) -/
theorem cm4_sign_typo (z dt μ u : ℂ) (hz : z ≠ 0) :
    cm4 (Complex.exp z) (Complex.exp (z / 2)) (dt * (phi1e (z / 2) / 2))
      (dt * ((-4 + z + Complex.exp z * (4 - 3 * z + z ^ 2)) / z ^ 3)) (dt * (phi2e z - 2 * phi3e z))
      (dt * (4 * phi3e z - phi2e z)) (fun v => μ * v) u
      = (R4 z (μ * dt) + 2 * (μ * dt) / z ^ 2) * u := by
  rw [cm4_amp, wA_sign_typo z hz, ← amp4_exact z dt μ]
  simp only [amp4, wA]
  ring

/-- the same for the regenerated `E4step` -/
theorem E4step_sign_typo (z dt μ u : ℂ) (hz : z ≠ 0) :
    E4step (Complex.exp z) (Complex.exp (z / 2)) (dt * (phi1e (z / 2) / 2))
      (dt * (phi1e (z / 2) / 2)) (dt * (phi1e (z / 2) / 2))
      (dt * ((-4 + z + Complex.exp z * (4 - 3 * z + z ^ 2)) / z ^ 3)) (dt * (phi2e z - 2 * phi3e z))
      (dt * (4 * phi3e z - phi2e z)) (fun v => μ * v) u
      = (R4 z (μ * dt) + 2 * (μ * dt) / z ^ 2) * u := by
  rw [C02_step_E4]
  exact cm4_sign_typo z dt μ u hz

theorem R1_perturbed_limit (l m ε : ℂ) :
    Tendsto (fun t : ℝ => (R1 (l * t) (m * t) + ε * (m * t) * phi1e (l * t)
        - Complex.exp ((l + m) * t)) / (t : ℂ) ^ 1) (𝓝[≠] 0) (𝓝 (ε * m)) := by
  refine perturbed_limit _ _ _ (fun t : ℝ => ε * m * phi1e (l * t)) 1 1 le_rfl _ (by fun_prop) (by fun_prop)
    (fun t => R1_sub_exp l m t) (fun t => by ring) ?_
  simp only [Complex.ofReal_zero, mul_zero, phi1e_zero, mul_one]

theorem R2_perturbed_limit (l m ε : ℂ) :
    Tendsto (fun t : ℝ => (R2 (l * t) (m * t)
        + ε * (m * t) * phi2e (l * t) * ((l * t + m * t) * phi1e (l * t))
        - Complex.exp ((l + m) * t)) / (t : ℂ) ^ 2) (𝓝[≠] 0) (𝓝 (ε * m * (l + m) / 2)) := by
  refine perturbed_limit _ _ _ (fun t : ℝ => ε * m * (l + m) * phi2e (l * t) * phi1e (l * t)) 2 2 le_rfl _
    (by fun_prop) (by fun_prop) (fun t => R2_sub_exp l m t) (fun t => by ring) ?_
  simp only [Complex.ofReal_zero, mul_zero, phi1e_zero, phi2e_zero, mul_one]
  ring

theorem R3_perturbed_limit (l m ε : ℂ) :
    Tendsto (fun t : ℝ => (R3 (l * t) (m * t) + ε * (m * t) ^ 2 * wC (l * t) * phi1e (l * t)
          * (2 * (Complex.exp (l * t / 2) + m * t / 2 * phi1e (l * t / 2)) - 1)
        - Complex.exp ((l + m) * t)) / (t : ℂ) ^ 2) (𝓝[≠] 0) (𝓝 (ε * m ^ 2 / 6)) := by
  refine perturbed_limit _ _ _
    (fun t : ℝ => ε * m ^ 2 * wC (l * t) * phi1e (l * t)
      * (2 * (Complex.exp (l * t / 2) + m * t / 2 * phi1e (l * t / 2)) - 1))
    3 2 (by norm_num) _ (by fun_prop) (by unfold wC; fun_prop) (fun t => R3_sub_exp l m t)
    (fun t => by ring) ?_
  simp only [wC, Complex.ofReal_zero, mul_zero, zero_div, phi1e_zero, phi2e_zero, phi3e_zero,
    Complex.exp_zero, zero_mul]
  ring

theorem R4_perturbed_limit (l m ε : ℂ) :
    Tendsto (fun t : ℝ => (R4 (l * t) (m * t) + ε * (m * t) * wC (l * t)
          * (Complex.exp (l * t) + m * t / 2 * phi1e (l * t / 2) * (3 * Complex.exp (l * t / 2) - 1)
            + (m * t) ^ 2 / 2 * phi1e (l * t / 2) ^ 2 * Complex.exp (l * t / 2)
            + (m * t) ^ 3 / 4 * phi1e (l * t / 2) ^ 3)
        - Complex.exp ((l + m) * t)) / (t : ℂ) ^ 1) (𝓝[≠] 0) (𝓝 (ε * m / 6)) := by
  refine perturbed_limit _ _ _
    (fun t : ℝ => ε * m * wC (l * t)
      * (Complex.exp (l * t) + m * t / 2 * phi1e (l * t / 2) * (3 * Complex.exp (l * t / 2) - 1)
        + (m * t) ^ 2 / 2 * phi1e (l * t / 2) ^ 2 * Complex.exp (l * t / 2)
        + (m * t) ^ 3 / 4 * phi1e (l * t / 2) ^ 3))
    4 1 (by norm_num) _ (by fun_prop) (by unfold wC; fun_prop) (fun t => R4_sub_exp l m t)
    (fun t => by ring) ?_
  simp only [wC, Complex.ofReal_zero, mul_zero, zero_div, phi1e_zero, phi2e_zero, phi3e_zero,
    Complex.exp_zero, zero_mul]
  ring

/-- sign typo: the local error blows up like `2μ/(λ²t)` -/
theorem R4_sign_typo_limit (l m : ℂ) (hl : l ≠ 0) :
    Tendsto (fun t : ℝ => (t : ℂ) * (R4 (l * t) (m * t) + 2 * (m * t) / (l * t) ^ 2
        - Complex.exp ((l + m) * t))) (𝓝[≠] 0) (𝓝 (2 * m / l ^ 2)) := by
  have h := tendsto_div_pow
    (fun t : ℝ => (t : ℂ) * (R4 (l * t) (m * t) + 2 * (m * t) / (l * t) ^ 2 - Complex.exp ((l + m) * t)))
    (fun t : ℝ => (t : ℂ) ^ 6 * evalTab Q4tab l m t (phiE 5 (l * t)) (phiE 5 (l * t / 2)) (phiE 5 ((l + m) * t))
      + 2 * m / l ^ 2) 0 (by fun_prop) (fun t ht => ?_)
  · simpa using h
  · have hne : (t : ℂ) ≠ 0 := Complex.ofReal_ne_zero.mpr ht
    rw [add_sub_right_comm, R4_sub_exp l m t]
    field_simp

/-- none of the perturbed schemes has local error `O(t^{p+1})` (here with `λ = 0`, `μ = 1`, any `ε ≠ 0`) -/
theorem perturbed_not_order_p (ε : ℂ) (hε : ε ≠ 0) (T : ℝ) (hT : 0 < T) :
    (¬ ∃ C : ℝ, ∀ t : ℝ, 0 < t → t ≤ T →
      ‖R1 (0 * t) (1 * t) + ε * (1 * t) * phi1e (0 * t) - Complex.exp ((0 + 1) * t)‖ ≤ C * t ^ 2) ∧
    (¬ ∃ C : ℝ, ∀ t : ℝ, 0 < t → t ≤ T →
      ‖R2 (0 * t) (1 * t) + ε * (1 * t) * phi2e (0 * t) * ((0 * t + 1 * t) * phi1e (0 * t))
        - Complex.exp ((0 + 1) * t)‖ ≤ C * t ^ 3) ∧
    (¬ ∃ C : ℝ, ∀ t : ℝ, 0 < t → t ≤ T →
      ‖R3 (0 * t) (1 * t) + ε * (1 * t) ^ 2 * wC (0 * t) * phi1e (0 * t)
          * (2 * (Complex.exp (0 * t / 2) + 1 * t / 2 * phi1e (0 * t / 2)) - 1)
        - Complex.exp ((0 + 1) * t)‖ ≤ C * t ^ 4) ∧
    (¬ ∃ C : ℝ, ∀ t : ℝ, 0 < t → t ≤ T →
      ‖R4 (0 * t) (1 * t) + ε * (1 * t) * wC (0 * t)
          * (Complex.exp (0 * t) + 1 * t / 2 * phi1e (0 * t / 2) * (3 * Complex.exp (0 * t / 2) - 1)
            + (1 * t) ^ 2 / 2 * phi1e (0 * t / 2) ^ 2 * Complex.exp (0 * t / 2)
            + (1 * t) ^ 3 / 4 * phi1e (0 * t / 2) ^ 3)
        - Complex.exp ((0 + 1) * t)‖ ≤ C * t ^ 5) := by
  refine ⟨?_, ?_, ?_, ?_⟩
  · exact not_isBigO_of_limit _ 1 2 (by norm_num) _ (by simpa using hε)
      (R1_perturbed_limit 0 1 ε) T hT
  · exact not_isBigO_of_limit _ 2 3 (by norm_num) _ (by simpa using hε)
      (R2_perturbed_limit 0 1 ε) T hT
  · exact not_isBigO_of_limit _ 2 4 (by norm_num) _ (by simpa using hε)
      (R3_perturbed_limit 0 1 ε) T hT
  · exact not_isBigO_of_limit _ 1 5 (by norm_num) _ (by simpa using hε)
      (R4_perturbed_limit 0 1 ε) T hT

/-- ETDRK4 with the sign typo is not even bounded as `t → 0` (`λ = μ = 1`): in particular its local error is not
    `O(t⁵)` -/
theorem sign_typo_not_order_4 (T : ℝ) (hT : 0 < T) :
    ¬ ∃ C : ℝ, ∀ t : ℝ, 0 < t → t ≤ T →
      ‖R4 (1 * t) (1 * t) + 2 * (1 * t) / (1 * (t : ℂ)) ^ 2 - Complex.exp ((1 + 1) * t)‖ ≤ C * t ^ 5 := by
  rintro ⟨C, hC⟩
  have hlim := R4_sign_typo_limit 1 1 one_ne_zero
  have hlim' : Tendsto (fun t : ℝ => ((t : ℂ) * (R4 (1 * t) (1 * t) + 2 * (1 * t) / (1 * (t : ℂ)) ^ 2
      - Complex.exp ((1 + 1) * t))) / (t : ℂ) ^ 0) (𝓝[≠] 0) (𝓝 (2 * 1 / 1 ^ 2)) := by
    simpa using hlim
  refine not_isBigO_of_limit _ 0 6 (by norm_num) _ (by norm_num) hlim' T hT ⟨C, fun t h0 h1 => ?_⟩
  rw [norm_mul, Complex.norm_real, Real.norm_eq_abs, abs_of_pos h0]
  calc t * _ ≤ t * (C * t ^ 5) := mul_le_mul_of_nonneg_left (hC t h0 h1) h0.le
    _ = C * t ^ 6 := by ring

/-! ### non-vacuity -/
example : (1 : ℂ) ≠ 0 := one_ne_zero
example : (0 : ℝ) < 1 := one_pos
example : ∃ ε : ℂ, ε ≠ 0 := ⟨1, one_ne_zero⟩

end Exponax.LinearOrder
end
