import ExponaxModel.Proofs.InterpBasic
import ExponaxModel.Proofs.AliasNDBasic
/-
C15 support — `map_between_resolutions` preserves the mean (any `D ≥ 1`, any `N_old, N_new ≥ 1`,
both values of `oddballZero`).
-/
namespace Exponax.Interp
open Exponax Exponax.Layout Exponax.Transform Exponax.DFT Finset

theorem srcAxis_zero (m lenNew lenOld : ℕ) (isLast : Bool) (hl : 0 < lenNew) (hm : m / 2 < lenNew) :
    srcAxis m lenNew lenOld isLast 0 = some 0 := by
  unfold srcAxis
  cases isLast
  · simp only [Bool.false_eq_true, if_false]
    rcases Nat.eq_zero_or_pos (m / 2) with h0 | hpos
    · rw [h0, pySlice_negZero_none, pySlice_negZero_none]
      simp [hl]
    · rw [pySlice_someNeg_none lenNew (m / 2) hpos]
      have : ¬ (lenNew - min (m / 2) lenNew ≤ 0 ∧ 0 < lenNew) := by omega
      simp only [this, if_false]
      rw [pySlice_leftBlock, if_pos (by omega)]
  · simp only [if_true]
    have : (((m / 2 : ℕ) : ℤ) + 1) = ((m / 2 + 1 : ℕ) : ℤ) := by push_cast; ring
    rw [this, pySlice_none_some]
    simp only
    rw [if_pos (by omega)]

theorem srcIndex_zero (D Nold Nnew : ℕ) (hNn : 0 < Nnew) (h' : List ℕ)
    (h0 : ∀ d, h'.getD d 0 = 0) :
    srcIndex D Nold Nnew h' = some (List.replicate D 0) := by
  have hax : ∀ d ∈ List.range D, axisSrc D Nold Nnew h' d = some 0 := by
    intro d hd
    have hd' := List.mem_range.mp hd
    unfold axisSrc
    rw [h0 d, wavenumberShape_getD D Nnew d hd']
    apply srcAxis_zero
    · split_ifs <;> omega
    · split_ifs <;> omega
  rw [srcIndex_eq, if_pos (fun d hd => by rw [hax d hd]; rfl),
    List.map_congr_left (g := fun _ => 0) (fun d hd => by rw [hax d hd]; rfl), List.map_const',
    List.length_range]

theorem oddball_zero_mode (D N : ℕ) (hN : 0 < N) : oddball N (wnFlat D N 0) = true := by
  by_cases he : N % 2 = 0
  · rw [oddball_even_iff N _ he]
    intro kd hkd
    obtain ⟨d, hd, rfl⟩ := (mem_wnVec D N _ kd).1 hkd
    have : wn D N (unflatten (wavenumberShape D N) 0) d = 0 := by
      unfold wn
      rw [unflatten_zero_getD]
      simp [rfftfreq, fftfreq]
    rw [this]
    simp
    omega
  · exact oddball_odd N _ (by omega)

theorem mapSpectrum_zero_mode (D Nold Nnew : ℕ) (hNo : 0 < Nold) (hNn : 0 < Nnew) (ob : Bool)
    (uh : Array ℂ) :
    (mapSpectrum D Nold Nnew ob uh).getD 0 0 = uh.getD 0 0 / (Nold : ℂ) ^ D * (Nnew : ℂ) ^ D := by
  have hmn : 0 < numModes D Nnew := shapeSize_pos _ (wavenumberShape_pos D Nnew hNn)
  have hmo : 0 < numModes D Nold := shapeSize_pos _ (wavenumberShape_pos D Nold hNo)
  rw [mapSpectrum_getD D Nold Nnew ob uh 0 hmn, oddball_zero_mode D Nnew hNn,
    srcIndex_zero D Nold Nnew hNn _ (unflatten_zero_getD _)]
  simp only [flatten_zero, Bool.true_eq_false, and_false, if_false]
  rw [oldSpec_of_lt D Nold Nnew ob uh hmo, oddball_zero_mode D Nold hNo]
  simp

theorem mapBetween_sum (D Nold Nnew : ℕ) (hD : 0 < D) (hNo : 0 < Nold) (hNn : 0 < Nnew)
    (hne : Nold ≠ Nnew) (ob : Bool) (u : Array ℂ) :
    ∑ j ∈ range (Nnew ^ D), (mapBetween D Nold Nnew ob u).getD j 0
      = (((∑ j ∈ range (Nold ^ D), u.getD j 0).re : ℝ) : ℂ) / (Nold : ℂ) ^ D * (Nnew : ℂ) ^ D := by
  rw [mapBetween_of_ne hne, sum_irfftnM D Nnew hD hNn, mapSpectrum_zero_mode D Nold Nnew hNo hNn,
    Conserve.rfftnM_zero_mode D Nold hNo]
  set S := ∑ j ∈ range (Nold ^ D), u.getD j 0
  have : S / (Nold : ℂ) ^ D * (Nnew : ℂ) ^ D
      = (((Nnew : ℝ) ^ D / (Nold : ℝ) ^ D : ℝ) : ℂ) * S := by push_cast; ring
  rw [this, Complex.re_ofReal_mul]
  push_cast
  ring

/-- **Mean preservation.** For every real field `u` on the `N_old^D` grid, every `D ≥ 1`,
    `N_old ≥ 1`, `N_new ≥ 1` and both values of `oddballZero`, the mean of
    `map_between_resolutions(u)` equals the mean of `u`. -/
theorem mapBetween_mean (D Nold Nnew : ℕ) (hD : 0 < D) (hNo : 0 < Nold) (hNn : 0 < Nnew)
    (ob : Bool) (u : Array ℂ) (hu : ∀ j < Nold ^ D, (u.getD j 0).im = 0) :
    (∑ j ∈ range (Nnew ^ D), (mapBetween D Nold Nnew ob u).getD j 0) / (Nnew : ℂ) ^ D
      = (∑ j ∈ range (Nold ^ D), u.getD j 0) / (Nold : ℂ) ^ D := by
  by_cases hne : Nold = Nnew
  · subst hne
    rw [mapBetween, if_pos rfl]
  · have hre : (((∑ j ∈ range (Nold ^ D), u.getD j 0).re : ℝ) : ℂ) = ∑ j ∈ range (Nold ^ D), u.getD j 0 := by
      apply Complex.ext (Complex.ofReal_re _)
      rw [Complex.ofReal_im, Complex.im_sum]
      exact (Finset.sum_eq_zero (fun j hj => hu j (Finset.mem_range.mp hj))).symm
    rw [mapBetween_sum D Nold Nnew hD hNo hNn hne, hre,
      mul_div_cancel_right₀ _ (pow_ne_zero _ (by exact_mod_cast hNn.ne'))]

theorem mapBetween_mean_one (Nold Nnew : ℕ) (hNo : 0 < Nold) (hNn : 0 < Nnew)
    (ob : Bool) (u : Array ℂ) (hu : ∀ j < Nold, (u.getD j 0).im = 0) :
    (∑ j ∈ range Nnew, (mapBetween 1 Nold Nnew ob u).getD j 0) / (Nnew : ℂ)
      = (∑ j ∈ range Nold, u.getD j 0) / (Nold : ℂ) := by
  have := mapBetween_mean 1 Nold Nnew Nat.one_pos hNo hNn ob u (fun j hj => hu j (by rwa [pow_one] at hj))
  simp only [pow_one] at this
  exact this

/-! non-vacuity -/
example : ∃ (D Nold Nnew : ℕ) (u : Array ℂ), 0 < D ∧ 0 < Nold ∧ 0 < Nnew ∧ Nold ≠ Nnew ∧
    ∀ j < Nold ^ D, (u.getD j 0).im = 0 :=
  ⟨2, 4, 6, #[], by norm_num, by norm_num, by norm_num, by norm_num, fun j _ => by simp⟩

end Exponax.Interp
