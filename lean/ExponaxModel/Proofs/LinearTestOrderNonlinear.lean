import ExponaxModel.Proofs.LinearTestOrder
import Mathlib.Analysis.Calculus.MeanValue
/-
C02 support: the analytic tools behind the order theorems for a nonlinear term.  For `y' = c y + f` on `[a,b]`: variation
of constants and the defect when `f` is replaced by its Taylor polynomial (`etd_defect_gen`; the weights are the entire
`phiE`, so `c = 0` is covered), and the same for a diagonal system in the sup norm over a step inside `[0,T]`
(`etd_defectV`, which all four orders use).  Around it: bounds of `e^w`, `φ_k(w)` by any `W ≥ max(1, e^{Re w})`, Taylor
bounds from Lipschitz derivatives, Lady Windermere's fan on a time grid, the reading of the scalar equation as the system
with `ι = Unit` (`iterate_modewise`), and the non-vacuity data `expI_*`, `etd2_nonvacuous`.
-/
noncomputable section
namespace Exponax.LinearOrder
open Exponax Exponax.Spec Exponax.ContourTail Exponax.Gen.Etdrk intervalIntegral MeasureTheory

theorem variation_of_constants (c : ℂ) (y f : ℝ → ℂ) (a b : ℝ) (hab : a ≤ b)
    (hy : ∀ s ∈ Set.Icc a b, HasDerivAt y (c * y s + f s) s) (hf : ContinuousOn f (Set.Icc a b)) :
    y b = Complex.exp (c * ((b : ℂ) - a)) * y a
      + ∫ s in a..b, Complex.exp (c * ((b : ℂ) - s)) * f s := by
  have hderiv : ∀ s ∈ Set.uIcc a b,
      HasDerivAt (fun s : ℝ => Complex.exp (c * ((b : ℂ) - s)) * y s)
        (Complex.exp (c * ((b : ℂ) - s)) * f s) s := by
    intro s hs
    rw [Set.uIcc_of_le hab] at hs
    have h1 : HasDerivAt (fun s : ℝ => Complex.exp (c * ((b : ℂ) - s)))
        (Complex.exp (c * ((b : ℂ) - s)) * (c * -1)) s :=
      (((hasDerivAt_ofReal s).const_sub (b : ℂ)).const_mul c).cexp
    exact (h1.mul (hy s hs)).congr_deriv (by ring)
  have hint : IntervalIntegrable (fun s : ℝ => Complex.exp (c * ((b : ℂ) - s)) * f s) volume a b := by
    apply ContinuousOn.intervalIntegrable
    rw [Set.uIcc_of_le hab]
    exact (Continuous.continuousOn (by fun_prop)).mul hf
  have h := integral_eq_sub_of_hasDerivAt hderiv hint
  simp only [sub_self, mul_zero, Complex.exp_zero, one_mul] at h
  rw [h]; ring

theorem etd_weight (k : ℕ) (c : ℂ) (a b : ℝ) :
    ((b - a : ℝ) : ℂ) ^ (k + 1) * phiE (k + 1) (c * ((b - a : ℝ) : ℂ))
      = ∫ s in a..b, Complex.exp (c * ((b : ℂ) - s)) * (((s - a : ℝ) : ℂ) ^ k / (k.factorial : ℂ)) := by
  set F : ℝ → ℂ := fun x =>
    Complex.exp (c * (x : ℂ)) * ((((b - a : ℝ) : ℂ) - (x : ℂ)) ^ k / (k.factorial : ℂ)) with hF
  have h1 := intervalIntegral.integral_comp_sub_left (a := a) (b := b) F b
  have h2 := intervalIntegral.smul_integral_comp_mul_left (a := (0 : ℝ)) (b := 1) F (b - a)
  simp only [sub_self, mul_zero, mul_one] at h1 h2
  have h3 : ∫ s in a..b, Complex.exp (c * ((b : ℂ) - s)) * (((s - a : ℝ) : ℂ) ^ k / (k.factorial : ℂ))
      = ∫ s in a..b, F (b - s) := by
    refine integral_congr (fun s _ => ?_)
    simp only [hF]
    have e1 : (((b - a : ℝ) : ℂ) - ((b - s : ℝ) : ℂ)) = ((s - a : ℝ) : ℂ) := by push_cast; ring
    have e2 : (((b - s : ℝ) : ℂ)) = (b : ℂ) - s := by push_cast; ring
    rw [e1, e2]
  have h4 : ∫ τ in (0 : ℝ)..1, F ((b - a) * τ)
      = ((b - a : ℝ) : ℂ) ^ k * ∫ τ in (0 : ℝ)..1,
          ((1 - (τ : ℂ)) ^ k / (k.factorial : ℂ)) * Complex.exp (c * ((b - a : ℝ) : ℂ) * τ) := by
    rw [← intervalIntegral.integral_const_mul]
    refine integral_congr (fun τ _ => ?_)
    simp only [hF]
    have e1 : (((b - a : ℝ) : ℂ) - (((b - a) * τ : ℝ) : ℂ)) = ((b - a : ℝ) : ℂ) * (1 - (τ : ℂ)) := by
      push_cast; ring
    have e2 : c * ((((b - a) * τ : ℝ)) : ℂ) = c * ((b - a : ℝ) : ℂ) * τ := by push_cast; ring
    rw [e1, e2, mul_pow]
    ring
  rw [h3, h1, ← h2, h4, phiE_succ_eq, Complex.real_smul]
  unfold phiI
  rw [pow_succ]
  ring

theorem real_int_pow_fact (n : ℕ) (a b : ℝ) :
    ∫ s in a..b, (s - a) ^ n / (n.factorial : ℝ) = (b - a) ^ (n + 1) / ((n + 1).factorial : ℝ) := by
  have h := intervalIntegral.integral_comp_sub_right (a := a) (b := b)
    (fun x : ℝ => x ^ n / (n.factorial : ℝ)) a
  simp only [sub_self] at h
  rw [h, intervalIntegral.integral_div, integral_pow, zero_pow n.succ_ne_zero, sub_zero, div_div,
    Nat.factorial_succ, Nat.cast_mul, Nat.cast_succ]

theorem norm_exp_prop_le (c : ℂ) (ω : ℝ) (a b s : ℝ) (hω : 0 ≤ ω) (hc : c.re ≤ ω) (hs : s ∈ Set.Icc a b) :
    ‖Complex.exp (c * ((b : ℂ) - s))‖ ≤ Real.exp (ω * (b - a)) := by
  rw [Complex.norm_exp, ← Complex.ofReal_sub, Complex.re_mul_ofReal]
  refine Real.exp_le_exp.mpr ?_
  have h1 : c.re * (b - s) ≤ ω * (b - s) := mul_le_mul_of_nonneg_right hc (by linarith [hs.2])
  have h2 : ω * (b - s) ≤ ω * (b - a) := mul_le_mul_of_nonneg_left (by linarith [hs.1]) hω
  linarith

theorem max_exp_le_W (l : ℂ) (ω h T : ℝ) (hω : 0 ≤ ω) (hl : l.re ≤ ω) (hh : 0 ≤ h) (hT : h ≤ T) :
    max 1 (Real.exp ((l * (h : ℂ)).re)) ≤ Real.exp (ω * T) := by
  rw [Complex.re_mul_ofReal]
  refine max_le (Real.one_le_exp (mul_nonneg hω (hh.trans hT))) (Real.exp_le_exp.mpr ?_)
  calc l.re * h ≤ ω * h := mul_le_mul_of_nonneg_right hl hh
    _ ≤ ω * T := mul_le_mul_of_nonneg_left hT hω

theorem norm_exp_le_W (w : ℂ) (W : ℝ) (hw : max 1 (Real.exp w.re) ≤ W) : ‖Complex.exp w‖ ≤ W := by
  rw [Complex.norm_exp]; exact (le_max_right _ _).trans hw

theorem norm_phiE_le_W (k : ℕ) (w : ℂ) (W : ℝ) (hw : max 1 (Real.exp w.re) ≤ W) :
    ‖phiE (k + 1) w‖ ≤ W / ((k + 1).factorial : ℝ) :=
  (norm_phiE_succ_le k w).trans (div_le_div_of_nonneg_right hw (by positivity))

/-- `norm_phiE_le_W` for `φ₁, …, φ₅`, the factorials evaluated -/
theorem norm_phi_le_W (w : ℂ) (W : ℝ) (hw : max 1 (Real.exp w.re) ≤ W) :
    ‖phi1e w‖ ≤ W ∧ ‖phi2e w‖ ≤ W / 2 ∧ ‖phi3e w‖ ≤ W / 6 ∧ ‖phiE 4 w‖ ≤ W / 24 ∧ ‖phiE 5 w‖ ≤ W / 120 := by
  have p1 := norm_phiE_le_W 0 w W hw
  have p2 := norm_phiE_le_W 1 w W hw
  have p3 := norm_phiE_le_W 2 w W hw
  have p4 := norm_phiE_le_W 3 w W hw
  have p5 := norm_phiE_le_W 4 w W hw
  rw [phiE_one] at p1
  rw [phiE_two] at p2
  rw [phiE_three] at p3
  norm_num [Nat.factorial] at p1 p2 p3 p4 p5
  exact ⟨p1, p2, p3, p4, p5⟩

theorem max_exp_le_W_half (l : ℂ) (ω h T : ℝ) (hω : 0 ≤ ω) (hl : l.re ≤ ω) (hh : 0 ≤ h) (hT : h ≤ T) :
    max 1 (Real.exp ((l * (h : ℂ) / 2).re)) ≤ Real.exp (ω * T) := by
  have e : l * (h : ℂ) / 2 = l * ((h / 2 : ℝ) : ℂ) := by push_cast; ring
  rw [e]
  exact max_exp_le_W l ω (h / 2) T hω hl (by linarith) (by linarith)

/-- the bounds of the coefficients of one step, for `z = λh`, `0 ≤ h ≤ T`, `W = e^{ωT}` -/
theorem etd_phi_bounds (l : ℂ) (ω h T : ℝ) (hω : 0 ≤ ω) (hl : l.re ≤ ω) (hh : 0 ≤ h) (hhT : h ≤ T) :
    ‖phi1e (l * h)‖ ≤ Real.exp (ω * T) ∧ ‖phi2e (l * h)‖ ≤ Real.exp (ω * T) / 2 ∧
    ‖phi3e (l * h)‖ ≤ Real.exp (ω * T) / 6 ∧ ‖phiE 4 (l * h)‖ ≤ Real.exp (ω * T) / 24 ∧
    ‖phi1e (l * h / 2)‖ ≤ Real.exp (ω * T) ∧ ‖phi2e (l * h / 2)‖ ≤ Real.exp (ω * T) / 2 ∧
    ‖phi3e (l * h / 2)‖ ≤ Real.exp (ω * T) / 6 ∧
    ‖Complex.exp (l * h)‖ ≤ Real.exp (ω * T) ∧ ‖Complex.exp (l * h / 2)‖ ≤ Real.exp (ω * T) := by
  have hwz := max_exp_le_W l ω h T hω hl hh hhT
  have hwz2 := max_exp_le_W_half l ω h T hω hl hh hhT
  obtain ⟨p1, p2, p3, p4, -⟩ := norm_phi_le_W (l * h) _ hwz
  obtain ⟨q1, q2, q3, -, -⟩ := norm_phi_le_W (l * h / 2) _ hwz2
  exact ⟨p1, p2, p3, p4, q1, q2, q3, norm_exp_le_W _ _ hwz, norm_exp_le_W _ _ hwz2⟩

/-- variation of constants with `f` expanded to order `n` -/
theorem etd_defect_gen (n : ℕ) (c : ℂ) (ω G : ℝ) (y f : ℝ → ℂ) (a b : ℝ) (hab : a ≤ b)
    (hω : 0 ≤ ω) (hc : c.re ≤ ω)
    (hy : ∀ s ∈ Set.Icc a b, HasDerivAt y (c * y s + f s) s) (hf : ContinuousOn f (Set.Icc a b))
    (d : ℕ → ℂ)
    (hTay : ∀ s ∈ Set.Icc a b,
      ‖f s - ∑ j ∈ Finset.range n, ((s - a : ℝ) : ℂ) ^ j / (j.factorial : ℂ) * d j‖
        ≤ G * (s - a) ^ n / (n.factorial : ℝ)) :
    ‖y b - (Complex.exp (c * ((b - a : ℝ) : ℂ)) * y a
        + ∑ j ∈ Finset.range n,
            ((b - a : ℝ) : ℂ) ^ (j + 1) * phiE (j + 1) (c * ((b - a : ℝ) : ℂ)) * d j)‖
      ≤ Real.exp (ω * (b - a)) * G * (b - a) ^ (n + 1) / ((n + 1).factorial : ℝ) := by
  set e : ℝ → ℂ := fun s => Complex.exp (c * ((b : ℂ) - s)) with he
  set P : ℝ → ℂ := fun s => ∑ j ∈ Finset.range n, ((s - a : ℝ) : ℂ) ^ j / (j.factorial : ℂ) * d j with hP
  have hcont : Continuous e := by simp only [he]; fun_prop
  have hPc : Continuous P := by
    simp only [hP]
    exact continuous_finsetSum _ fun j _ => by fun_prop
  have hif : IntervalIntegrable (fun s => e s * f s) volume a b :=
    (hcont.continuousOn.mul hf).intervalIntegrable_of_Icc hab
  have hiP : IntervalIntegrable (fun s => e s * P s) volume a b := (hcont.mul hPc).intervalIntegrable _ _
  have hPint : ∫ s in a..b, e s * P s
      = ∑ j ∈ Finset.range n,
          ((b - a : ℝ) : ℂ) ^ (j + 1) * phiE (j + 1) (c * ((b - a : ℝ) : ℂ)) * d j := by
    simp only [hP, he, Finset.mul_sum, ← mul_assoc]
    rw [intervalIntegral.integral_finsetSum]
    · refine Finset.sum_congr rfl (fun j _ => ?_)
      rw [intervalIntegral.integral_mul_const, ← etd_weight j c a b]
    · exact fun j _ => Continuous.intervalIntegrable (by fun_prop) _ _
  -- the defect is the propagated remainder `∫ e^{c(b−s)} (f − P)(s) ds`
  have hkey : y b - (Complex.exp (c * ((b - a : ℝ) : ℂ)) * y a
        + ∑ j ∈ Finset.range n,
            ((b - a : ℝ) : ℂ) ^ (j + 1) * phiE (j + 1) (c * ((b - a : ℝ) : ℂ)) * d j)
      = ∫ s in a..b, e s * (f s - P s) := by
    rw [variation_of_constants c y f a b hab hy hf, ← hPint, ← Complex.ofReal_sub, add_sub_add_left_eq_sub,
      ← integral_sub hif hiP]
    exact integral_congr fun s _ => (mul_sub _ _ _).symm
  rw [hkey]
  have hbound : ∀ s ∈ Set.Ioc a b,
      ‖e s * (f s - P s)‖ ≤ Real.exp (ω * (b - a)) * G * ((s - a) ^ n / (n.factorial : ℝ)) := by
    intro s hs
    have hs' : s ∈ Set.Icc a b := ⟨hs.1.le, hs.2⟩
    rw [norm_mul, mul_assoc, ← mul_div_assoc]
    exact mul_le_mul (norm_exp_prop_le c ω a b s hω hc hs') (hTay s hs') (norm_nonneg _) (Real.exp_pos _).le
  have hg : IntervalIntegrable
      (fun s : ℝ => Real.exp (ω * (b - a)) * G * ((s - a) ^ n / (n.factorial : ℝ))) volume a b :=
    Continuous.intervalIntegrable (by fun_prop) _ _
  refine (norm_integral_le_of_norm_le hab (Filter.Eventually.of_forall hbound) hg).trans (le_of_eq ?_)
  rw [intervalIntegral.integral_const_mul, real_int_pow_fact]
  ring

theorem norm_smul_le_of_le {E : Type} [SeminormedAddCommGroup E] [NormedSpace ℂ E] {s : ℂ} {x : E} {S X : ℝ}
    (hs : ‖s‖ ≤ S) (hx : ‖x‖ ≤ X) : ‖s • x‖ ≤ S * X :=
  (norm_smul_le s x).trans (mul_le_mul hs hx (norm_nonneg _) ((norm_nonneg _).trans hs))

section Systems
variable {ι : Type} [Fintype ι]

/-- `etd_defect_gen` for a diagonal system `u' = l u + f` on `ι → ℂ` (sup norm, pointwise product), for a step `t → t + s` inside
    `[0,T]`: the Taylor hypothesis is about `f (t + s)`, and `e^{ωT}` bounds the propagator of every such step -/
theorem etd_defectV (n : ℕ) (l : ι → ℂ) (ω G T : ℝ) (u f : ℝ → ι → ℂ) (hω : 0 ≤ ω) (hl : ∀ k, (l k).re ≤ ω)
    (hu : ∀ t ∈ Set.Icc (0 : ℝ) T, HasDerivAt u (l * u t + f t) t) (hf : ContinuousOn f (Set.Icc (0 : ℝ) T))
    (d : ℕ → ι → ℂ) (t : ℝ) (ht : 0 ≤ t) (hG : 0 ≤ G)
    (hTay : ∀ s : ℝ, 0 ≤ s → t + s ≤ T →
      ‖f (t + s) - ∑ j ∈ Finset.range n, ((s : ℂ) ^ j / (j.factorial : ℂ)) • d j‖ ≤ G * s ^ n / (n.factorial : ℝ))
    (s : ℝ) (hs : 0 ≤ s) (hsT : t + s ≤ T) :
    ‖u (t + s) - ((fun k => Complex.exp (l k * s)) * u t
        + ∑ j ∈ Finset.range n, ((s : ℂ) ^ (j + 1)) • (fun k => phiE (j + 1) (l k * s)) * d j)‖
      ≤ Real.exp (ω * T) * G * s ^ (n + 1) / ((n + 1).factorial : ℝ) := by
  have hsub : Set.Icc t (t + s) ⊆ Set.Icc (0 : ℝ) T := fun x hx => ⟨ht.trans hx.1, hx.2.trans hsT⟩
  refine (pi_norm_le_iff_of_nonneg (by positivity)).mpr fun k => ?_
  have key := etd_defect_gen n (l k) ω G (fun x => u x k) (fun x => f x k) t (t + s) (le_add_of_nonneg_right hs) hω (hl k)
    (fun x hx => hasDerivAt_pi.mp (hu x (hsub hx)) k) ((continuous_apply k).comp_continuousOn (hf.mono hsub))
    (fun j => d j k) (fun x hx => by
      have := (norm_le_pi_norm _ k).trans (hTay (x - t) (sub_nonneg.mpr hx.1) (by rw [add_sub_cancel]; exact hx.2.trans hsT))
      simpa only [add_sub_cancel, Pi.sub_apply, Finset.sum_apply, Pi.smul_apply, smul_eq_mul, Complex.ofReal_sub] using this)
  rw [add_sub_cancel_left] at key
  simp only [Pi.sub_apply, Pi.add_apply, Pi.mul_apply, Finset.sum_apply, Pi.smul_apply, smul_eq_mul]
  exact key.trans (div_le_div_of_nonneg_right (mul_le_mul_of_nonneg_right (mul_le_mul_of_nonneg_right
    (Real.exp_le_exp.mpr (mul_le_mul_of_nonneg_left ((le_add_of_nonneg_left ht).trans hsT) hω)) hG)
    (pow_nonneg hs _)) (Nat.cast_nonneg _))

/-- `n = 1`, written out with `phi1e`: the one-step defect of exponential Euler -/
theorem etd_defectV1 (l : ι → ℂ) (ω G T : ℝ) (u f : ℝ → ι → ℂ) (hω : 0 ≤ ω) (hl : ∀ k, (l k).re ≤ ω)
    (hu : ∀ t ∈ Set.Icc (0 : ℝ) T, HasDerivAt u (l * u t + f t) t) (hf : ContinuousOn f (Set.Icc (0 : ℝ) T))
    (t : ℝ) (ht : 0 ≤ t) (hG : 0 ≤ G) (hTay : ∀ s : ℝ, 0 ≤ s → t + s ≤ T → ‖f (t + s) - f t‖ ≤ G * s)
    (s : ℝ) (hs : 0 ≤ s) (hsT : t + s ≤ T) :
    ‖u (t + s) - ((fun k => Complex.exp (l k * s)) * u t + (s : ℂ) • (fun k => phi1e (l k * s)) * f t)‖
      ≤ Real.exp (ω * T) * G * s ^ 2 / 2 := by
  have h := etd_defectV 1 l ω G T u f hω hl hu hf (fun _ => f t) t ht hG (fun s hs hsT => by
    simpa only [Finset.sum_range_one, pow_zero, Nat.factorial_zero, Nat.factorial_one, Nat.cast_one,
      div_one, one_smul, pow_one] using hTay s hs hsT) s hs hsT
  simpa only [Finset.sum_range_one, zero_add, pow_one, phiE_one, Nat.reduceAdd, Nat.factorial_two,
    Nat.cast_ofNat] using h

/-- `n = 2`, written out with `phi1e`, `phi2e` -/
theorem etd_defectV2 (l : ι → ℂ) (ω G T : ℝ) (u f : ℝ → ι → ℂ) (hω : 0 ≤ ω) (hl : ∀ k, (l k).re ≤ ω)
    (hu : ∀ t ∈ Set.Icc (0 : ℝ) T, HasDerivAt u (l * u t + f t) t) (hf : ContinuousOn f (Set.Icc (0 : ℝ) T))
    (d1 : ι → ℂ) (t : ℝ) (ht : 0 ≤ t) (hG : 0 ≤ G)
    (hTay : ∀ s : ℝ, 0 ≤ s → t + s ≤ T → ‖f (t + s) - f t - (s : ℂ) • d1‖ ≤ G * s ^ 2 / 2)
    (s : ℝ) (hs : 0 ≤ s) (hsT : t + s ≤ T) :
    ‖u (t + s) - ((fun k => Complex.exp (l k * s)) * u t + (s : ℂ) • (fun k => phi1e (l k * s)) * f t
        + ((s : ℂ) ^ 2) • (fun k => phi2e (l k * s)) * d1)‖ ≤ Real.exp (ω * T) * G * s ^ 3 / 6 := by
  have h := etd_defectV 2 l ω G T u f hω hl hu hf (fun j => if j = 0 then f t else d1) t ht hG
    (fun s hs hsT => by
      simpa only [Finset.sum_range_succ, Finset.sum_range_zero, zero_add, pow_zero, pow_one,
        Nat.factorial, Nat.succ_eq_add_one, Nat.reduceAdd, Nat.reduceMul, Nat.cast_one, Nat.cast_ofNat,
        div_one, one_smul, if_true, if_false, one_ne_zero, sub_add_eq_sub_sub] using hTay s hs hsT) s hs hsT
  simpa only [Finset.sum_range_succ, Finset.sum_range_zero, zero_add, pow_one, phiE_one, phiE_two,
    Nat.reduceAdd, Nat.factorial, Nat.succ_eq_add_one, Nat.reduceMul, Nat.cast_ofNat, if_true, if_false,
    one_ne_zero, add_assoc] using h

/-- `n = 3`, written out with `phi1e, phi2e, phi3e` -/
theorem etd_defectV3 (l : ι → ℂ) (ω G T : ℝ) (u f : ℝ → ι → ℂ) (hω : 0 ≤ ω) (hl : ∀ k, (l k).re ≤ ω)
    (hu : ∀ t ∈ Set.Icc (0 : ℝ) T, HasDerivAt u (l * u t + f t) t) (hf : ContinuousOn f (Set.Icc (0 : ℝ) T))
    (d1 d2 : ι → ℂ) (t : ℝ) (ht : 0 ≤ t) (hG : 0 ≤ G)
    (hTay : ∀ s : ℝ, 0 ≤ s → t + s ≤ T →
      ‖f (t + s) - f t - (s : ℂ) • d1 - ((s : ℂ) ^ 2 / 2) • d2‖ ≤ G * s ^ 3 / 6)
    (s : ℝ) (hs : 0 ≤ s) (hsT : t + s ≤ T) :
    ‖u (t + s) - ((fun k => Complex.exp (l k * s)) * u t + (s : ℂ) • (fun k => phi1e (l k * s)) * f t
        + ((s : ℂ) ^ 2) • (fun k => phi2e (l k * s)) * d1 + ((s : ℂ) ^ 3) • (fun k => phi3e (l k * s)) * d2)‖
      ≤ Real.exp (ω * T) * G * s ^ 4 / 24 := by
  have h := etd_defectV 3 l ω G T u f hω hl hu hf (fun j => if j = 0 then f t else if j = 1 then d1 else d2) t ht hG
    (fun s hs hsT => by
      simpa only [Finset.sum_range_succ, Finset.sum_range_zero, zero_add, pow_zero, pow_one,
        Nat.factorial, Nat.succ_eq_add_one, Nat.reduceAdd, Nat.reduceMul, Nat.cast_one, Nat.cast_ofNat,
        div_one, one_smul, if_true, if_false, one_ne_zero, OfNat.ofNat_ne_zero, OfNat.ofNat_ne_one,
        sub_add_eq_sub_sub] using hTay s hs hsT) s hs hsT
  simpa only [Finset.sum_range_succ, Finset.sum_range_zero, zero_add, pow_one, phiE_one, phiE_two, phiE_three,
    Nat.reduceAdd, Nat.factorial, Nat.succ_eq_add_one, Nat.reduceMul, Nat.cast_ofNat, if_true, if_false,
    one_ne_zero, OfNat.ofNat_ne_zero, OfNat.ofNat_ne_one, add_assoc] using h

theorem etd_phi_boundsV (l : ι → ℂ) (ω h T : ℝ) (hω : 0 ≤ ω) (hl : ∀ k, (l k).re ≤ ω) (hh : 0 ≤ h) (hhT : h ≤ T) :
    ‖fun k => phi1e (l k * h)‖ ≤ Real.exp (ω * T) ∧ ‖fun k => phi2e (l k * h)‖ ≤ Real.exp (ω * T) / 2 ∧
    ‖fun k => phi3e (l k * h)‖ ≤ Real.exp (ω * T) / 6 ∧ ‖fun k => phiE 4 (l k * h)‖ ≤ Real.exp (ω * T) / 24 ∧
    ‖fun k => phi1e (l k * h / 2)‖ ≤ Real.exp (ω * T) ∧ ‖fun k => phi2e (l k * h / 2)‖ ≤ Real.exp (ω * T) / 2 ∧
    ‖fun k => phi3e (l k * h / 2)‖ ≤ Real.exp (ω * T) / 6 ∧
    ‖fun k => Complex.exp (l k * h)‖ ≤ Real.exp (ω * T) ∧ ‖fun k => Complex.exp (l k * h / 2)‖ ≤ Real.exp (ω * T) := by
  have b := fun k => etd_phi_bounds (l k) ω h T hω (hl k) hh hhT
  simp only [forall_and] at b
  obtain ⟨p1, p2, p3, p4, q1, q2, q3, bE, bEh⟩ := b
  have hW := (Real.exp_pos (ω * T)).le
  exact ⟨(pi_norm_le_iff_of_nonneg hW).mpr p1, (pi_norm_le_iff_of_nonneg (by positivity)).mpr p2,
    (pi_norm_le_iff_of_nonneg (by positivity)).mpr p3, (pi_norm_le_iff_of_nonneg (by positivity)).mpr p4,
    (pi_norm_le_iff_of_nonneg hW).mpr q1, (pi_norm_le_iff_of_nonneg (by positivity)).mpr q2,
    (pi_norm_le_iff_of_nonneg (by positivity)).mpr q3, (pi_norm_le_iff_of_nonneg hW).mpr bE,
    (pi_norm_le_iff_of_nonneg hW).mpr bEh⟩

end Systems

/-- one Taylor step, by the mean-value inequality against `B s = G s^{n+1}/(n+1)!` -/
theorem taylor_step (F F1 P Q : ℝ → ℂ) (n : ℕ) (t S G : ℝ)
    (hF : ∀ x ∈ Set.Icc t (t + S), HasDerivAt F (F1 x) x)
    (hQ : ∀ s, HasDerivAt Q (P s) s) (hQ0 : Q 0 = 0)
    (hb : ∀ s ∈ Set.Icc 0 S, ‖F1 (t + s) - P s‖ ≤ G * s ^ n / (n.factorial : ℝ)) :
    ∀ s ∈ Set.Icc 0 S, ‖F (t + s) - F t - Q s‖ ≤ G * s ^ (n + 1) / ((n + 1).factorial : ℝ) := by
  have hder : ∀ s ∈ Set.Icc 0 S, HasDerivAt (fun s => F (t + s) - F t - Q s) (F1 (t + s) - P s) s :=
    fun s hs => (((hF (t + s) ⟨by linarith [hs.1], by linarith [hs.2]⟩).comp_const_add t s).sub_const
      (F t)).sub (hQ s)
  have hB : ∀ s : ℝ, HasDerivAt (fun s : ℝ => G * s ^ (n + 1) / ((n + 1).factorial : ℝ))
      (G * s ^ n / (n.factorial : ℝ)) s := by
    intro s
    refine (((hasDerivAt_pow (n + 1) s).const_mul G).div_const _).congr_deriv ?_
    rw [Nat.factorial_succ, Nat.add_sub_cancel, Nat.cast_mul, mul_left_comm,
      mul_div_mul_left _ _ (Nat.cast_ne_zero.mpr n.succ_ne_zero)]
  intro s hs
  exact image_norm_le_of_norm_deriv_right_le_deriv_boundary
    (fun x hx => (hder x hx).continuousAt.continuousWithinAt)
    (fun x hx => (hder x ⟨hx.1, hx.2.le⟩).hasDerivWithinAt)
    (by simp [hQ0]) hB (fun x hx => hb x ⟨hx.1, hx.2.le⟩) hs

theorem taylor_of_lipschitz_deriv (f f' : ℝ → ℂ) (T G : ℝ)
    (hf : ∀ t ∈ Set.Icc (0 : ℝ) T, HasDerivAt f (f' t) t)
    (hG : ∀ x ∈ Set.Icc (0 : ℝ) T, ∀ y ∈ Set.Icc (0 : ℝ) T, ‖f' x - f' y‖ ≤ G * |x - y|)
    (t s : ℝ) (ht : 0 ≤ t) (hs : 0 ≤ s) (hts : t + s ≤ T) :
    ‖f (t + s) - f t - (s : ℂ) * f' t‖ ≤ G * s ^ 2 / 2 := by
  have h := taylor_step f f' (fun _ => f' t) (fun σ => (σ : ℂ) * f' t) 1 t s G
    (fun x hx => hf x ⟨ht.trans hx.1, hx.2.trans hts⟩)
    (fun σ => by simpa using (hasDerivAt_ofReal σ).mul_const (f' t)) (by simp)
    (fun σ hσ => by
      simpa [abs_of_nonneg hσ.1] using
        hG (t + σ) ⟨by linarith [hσ.1], by linarith [hσ.2]⟩ t ⟨ht, by linarith⟩)
    s ⟨hs, le_rfl⟩
  simpa [Nat.factorial] using h

theorem taylor2_of_lipschitz_deriv (f f1 f2 : ℝ → ℂ) (T G : ℝ)
    (hf : ∀ t ∈ Set.Icc (0 : ℝ) T, HasDerivAt f (f1 t) t)
    (hf1 : ∀ t ∈ Set.Icc (0 : ℝ) T, HasDerivAt f1 (f2 t) t)
    (hG : ∀ x ∈ Set.Icc (0 : ℝ) T, ∀ y ∈ Set.Icc (0 : ℝ) T, ‖f2 x - f2 y‖ ≤ G * |x - y|)
    (t s : ℝ) (ht : 0 ≤ t) (hs : 0 ≤ s) (hts : t + s ≤ T) :
    ‖f (t + s) - f t - (s : ℂ) * f1 t - (s : ℂ) ^ 2 / 2 * f2 t‖ ≤ G * s ^ 3 / 6 := by
  have h := taylor_step f f1 (fun σ => f1 t + (σ : ℂ) * f2 t)
    (fun σ => (σ : ℂ) * f1 t + (σ : ℂ) ^ 2 / 2 * f2 t) 2 t s G
    (fun x hx => hf x ⟨ht.trans hx.1, hx.2.trans hts⟩)
    (fun σ => by
      have h1 := (hasDerivAt_ofReal σ).mul_const (f1 t)
      have h2 := (((hasDerivAt_ofReal σ).pow 2).div_const 2).mul_const (f2 t)
      exact (h1.add h2).congr_deriv (by push_cast; ring))
    (by simp)
    (fun σ hσ => by
      have := taylor_of_lipschitz_deriv f1 f2 T G hf1 hG t σ ht hσ.1 (by linarith [hσ.2])
      rwa [sub_sub] at this)
    s ⟨hs, le_rfl⟩
  simpa only [sub_add_eq_sub_sub, Nat.factorial, Nat.succ_eq_add_one, Nat.reduceAdd, Nat.reduceMul,
    Nat.cast_ofNat] using h

/-- `fan_sum` for a uniform local defect `≤ B` and a stability constant `A ≥ 1` -/
theorem fan {V : Type} [NormedAddCommGroup V] (S : V → V) (U : ℕ → V) (A B : ℝ) (hA : 1 ≤ A)
    (hB : 0 ≤ B) (n : ℕ) (hloc : ∀ k < n, ‖U (k + 1) - S (U k)‖ ≤ B)
    (hstab : ∀ x y, ‖S x - S y‖ ≤ A * ‖x - y‖) :
    ‖U n - S^[n] (U 0)‖ ≤ n * B * A ^ n := by
  refine (fan_sum S U A (fun _ => B) (zero_le_one.trans hA) hstab n hloc).trans
    ((Finset.sum_le_card_nsmul _ _ (A ^ n * B) fun k _ => mul_le_mul_of_nonneg_right
      (pow_le_pow_right₀ hA ((Nat.sub_le _ _).trans (Nat.sub_le _ _))) hB).trans_eq ?_)
  rw [Finset.card_range, nsmul_eq_mul, mul_comm (A ^ n), mul_assoc]

/-- the fan on the grid `k·dt`: a one-step method `S` of local error `≤ C dt^{p+1}` along `u` and stability
    constant `A ≤ e^{Λ dt}` converges with order `p` on `[0,T]`.  (Stability is only asked for `dt ≤ T`; for `n = 0`
    nothing is needed.) -/
theorem fan_grid {V : Type} [NormedAddCommGroup V] (S : V → V) (u : ℝ → V) (A C Λ T dt : ℝ) (p n : ℕ)
    (hΛ : 0 ≤ Λ) (hC : 0 ≤ C) (hdt : 0 ≤ dt) (hn : n * dt ≤ T)
    (hloc : ∀ t, 0 ≤ t → t + dt ≤ T → ‖u (t + dt) - S (u t)‖ ≤ C * dt ^ (p + 1))
    (hA : dt ≤ T → A ≤ Real.exp (Λ * dt))
    (hstab : dt ≤ T → ∀ x y, ‖S x - S y‖ ≤ A * ‖x - y‖) :
    ‖u (n * dt) - S^[n] (u 0)‖ ≤ T * C * Real.exp (Λ * T) * dt ^ p := by
  have hT : 0 ≤ T := (mul_nonneg n.cast_nonneg hdt).trans hn
  rcases Nat.eq_zero_or_pos n with rfl | hnpos
  · simp only [Nat.cast_zero, zero_mul, Function.iterate_zero, id_eq, sub_self, norm_zero]
    positivity
  have hdtT : dt ≤ T := (le_mul_of_one_le_left hdt (by exact_mod_cast hnpos)).trans hn
  have h := fan S (fun k : ℕ => u (k * dt)) (Real.exp (Λ * dt)) (C * dt ^ (p + 1))
    (Real.one_le_exp (mul_nonneg hΛ hdt)) (by positivity) n
    (fun k hk => by
      have hkt : ((k + 1 : ℕ) : ℝ) * dt = k * dt + dt := by push_cast; ring
      have hk1 : ((k + 1 : ℕ) : ℝ) * dt ≤ n * dt :=
        mul_le_mul_of_nonneg_right (by exact_mod_cast hk) hdt
      simp only [hkt] at hk1 ⊢
      exact hloc (k * dt) (mul_nonneg k.cast_nonneg hdt) (hk1.trans hn))
    (fun x y => (hstab hdtT x y).trans (mul_le_mul_of_nonneg_right (hA hdtT) (norm_nonneg _)))
  simp only [Nat.cast_zero, zero_mul] at h
  calc ‖u (n * dt) - S^[n] (u 0)‖ ≤ n * (C * dt ^ (p + 1)) * Real.exp (Λ * dt) ^ n := h
    _ = (n * dt) * C * Real.exp (Λ * (n * dt)) * dt ^ p := by
        rw [← Real.exp_nat_mul, mul_left_comm (n : ℝ) Λ dt]; ring
    _ ≤ T * C * Real.exp (Λ * T) * dt ^ p :=
        mul_le_mul_of_nonneg_right (mul_le_mul (mul_le_mul_of_nonneg_right hn hC)
          (Real.exp_le_exp.mpr (mul_le_mul_of_nonneg_left hn hΛ)) (Real.exp_pos _).le (mul_nonneg hT hC))
          (pow_nonneg hdt p)

/-- `fan_grid` for a stability constant of the form `e^{ω dt} + dt·Θ`, which is `≤ e^{(ω+Θ) dt}` -/
theorem fan_grid_exp_add {V : Type} [NormedAddCommGroup V] (S : V → V) (u : ℝ → V) (C ω Θ T dt : ℝ) (p n : ℕ)
    (hC : 0 ≤ C) (hω : 0 ≤ ω) (hΘ : 0 ≤ Θ) (hdt : 0 ≤ dt) (hn : n * dt ≤ T)
    (hloc : ∀ t, 0 ≤ t → t + dt ≤ T → ‖u (t + dt) - S (u t)‖ ≤ C * dt ^ (p + 1))
    (hstab : dt ≤ T → ∀ x y, ‖S x - S y‖ ≤ (Real.exp (ω * dt) + dt * Θ) * ‖x - y‖) :
    ‖u (n * dt) - S^[n] (u 0)‖ ≤ T * C * Real.exp ((ω + Θ) * T) * dt ^ p :=
  fan_grid S u (Real.exp (ω * dt) + dt * Θ) C (ω + Θ) T dt p n (add_nonneg hω hΘ) hC hdt hn hloc
    (fun _ => by
      rw [add_mul, Real.exp_add]
      have h1 := mul_le_mul_of_nonneg_left (Real.add_one_le_exp (Θ * dt)) (Real.exp_pos (ω * dt)).le
      have h2 := le_mul_of_one_le_left (mul_nonneg hdt hΘ) (Real.one_le_exp (mul_nonneg hω hdt))
      linarith)
    hstab

/-! ### a scalar problem in every mode

`l`, `N : ℂ → ℂ`, `u : ℝ → ℂ` give the decoupled system `fun _ => l`, `fun v k => N (v k)`, `fun t _ => u t` on `ι → ℂ`;
with `ι = Unit` this is how the scalar theorems are read off from those for systems. -/

theorem lipschitzWith_modewise {ι : Type} [Fintype ι] {N : ℂ → ℂ} {K : NNReal} (hN : LipschitzWith K N) :
    LipschitzWith K (fun (v : ι → ℂ) k => N (v k)) :=
  LipschitzWith.of_dist_le_mul fun v w =>
    (dist_pi_le_iff (mul_nonneg K.coe_nonneg dist_nonneg)).mpr fun k =>
      (hN.dist_le_mul (v k) (w k)).trans
        (mul_le_mul_of_nonneg_left (dist_le_pi_dist v w k) K.coe_nonneg)

theorem unit_norm (v : Unit → ℂ) : ‖v‖ = ‖v ()‖ := pi_norm_const (v ())

theorem iterate_modewise {ι : Type} (S : ℂ → ℂ) (S' : (ι → ℂ) → ι → ℂ) (h : ∀ x, S' (fun _ => x) = fun _ => S x)
    (n : ℕ) (x : ℂ) : S'^[n] (fun _ => x) = fun _ => S^[n] x :=
  (Function.Semiconj.iterate_right (f := fun x (_ : ι) => x) (fun x => (h x).symm) n).eq x |>.symm

/-! ### the hypotheses can be met

The non-vacuity examples of the order theorems take `N v = i·v` and, per mode, `u t = e^{ct}` with `c = λ + i`,
`Re c ≤ 0`, `‖c‖ ≤ C` on `[0,T]`; then `f = N ∘ u = i·u` has the derivatives `f_j = i·cʲ·e^{ct}`, bounded by `Cʲ` for
`t ≥ 0`, so `f_j` is `C^{j+1}`-Lipschitz there. -/

/-- the exponent `c = λ + i` of the scalar examples, `λ = −100` -/
theorem expI_c : ‖(-100 + Complex.I : ℂ)‖ ≤ 101 ∧ (-100 + Complex.I : ℂ).re ≤ 0 :=
  ⟨(norm_add_le _ _).trans (by simp; norm_num), by simp⟩

theorem lipschitzWith_I_mul : LipschitzWith 1 (fun v : ℂ => Complex.I * v) :=
  lipschitzWith_iff_norm_sub_le.mpr fun x y => by
    rw [← mul_sub, norm_mul, Complex.norm_I, NNReal.coe_one]

theorem expI_hasDerivAt (c : ℂ) (j : ℕ) (x : ℝ) :
    HasDerivAt (fun x : ℝ => Complex.I * (c ^ j * Complex.exp (c * x)))
      (Complex.I * (c ^ (j + 1) * Complex.exp (c * x))) x :=
  (((hasDerivAt_exp_mul c x).const_mul (c ^ j)).const_mul Complex.I).congr_deriv (by ring)

theorem expI_norm_le {c : ℂ} {C : ℝ} (hc : ‖c‖ ≤ C) (hre : c.re ≤ 0) (j : ℕ) {x : ℝ} (hx : 0 ≤ x) :
    ‖Complex.I * (c ^ j * Complex.exp (c * x))‖ ≤ C ^ j := by
  rw [norm_mul, Complex.norm_I, one_mul, norm_mul, norm_pow, Complex.norm_exp, Complex.re_mul_ofReal]
  calc ‖c‖ ^ j * Real.exp (c.re * x) ≤ C ^ j * 1 :=
        mul_le_mul (pow_le_pow_left₀ (norm_nonneg c) hc j)
          (Real.exp_le_one_iff.mpr (mul_nonpos_of_nonpos_of_nonneg hre hx)) (Real.exp_pos _).le
          (pow_nonneg ((norm_nonneg c).trans hc) j)
    _ = C ^ j := mul_one _

theorem expI_lipschitz {c : ℂ} {C : ℝ} (hc : ‖c‖ ≤ C) (hre : c.re ≤ 0) (j : ℕ) (T : ℝ) :
    ∀ x ∈ Set.Icc (0 : ℝ) T, ∀ y ∈ Set.Icc (0 : ℝ) T,
      ‖Complex.I * (c ^ j * Complex.exp (c * x)) - Complex.I * (c ^ j * Complex.exp (c * y))‖
        ≤ C ^ (j + 1) * |x - y| := by
  intro x hx y hy
  have := Convex.norm_image_sub_le_of_norm_hasDerivWithin_le (s := Set.Icc (0 : ℝ) T)
    (fun z _ => (expI_hasDerivAt c j z).hasDerivWithinAt) (fun z hz => expI_norm_le hc hre (j + 1) hz.1)
    (convex_Icc 0 T) hy hx
  rwa [Real.norm_eq_abs] at this

/-- `λ = −100`, `u t = e^{(−100+i)t}` on `[0,1]`, `ω = 0`, `f' = i c u`, `M = 101`, `G = 101²` -/
theorem etd2_nonvacuous : ∃ (l : ℂ) (N : ℂ → ℂ) (K : NNReal) (u f' : ℝ → ℂ) (T M ω G : ℝ), LipschitzWith K N ∧
    0 ≤ ω ∧ l.re ≤ ω ∧ 0 ≤ G ∧ 0 < T ∧
    (∀ t ∈ Set.Icc (0 : ℝ) T, HasDerivAt u (l * u t + N (u t)) t) ∧
    (∀ t ∈ Set.Icc (0 : ℝ) T, ‖l * u t + N (u t)‖ ≤ M) ∧
    (∀ t s : ℝ, 0 ≤ t → 0 ≤ s → t + s ≤ T →
      ‖N (u (t + s)) - N (u t) - (s : ℂ) * f' t‖ ≤ G * s ^ 2 / 2) := by
  set c : ℂ := -100 + Complex.I with hcdef
  obtain ⟨hc, hre⟩ : ‖c‖ ≤ 101 ∧ c.re ≤ 0 := expI_c
  refine ⟨-100, fun v => Complex.I * v, 1, fun t => Complex.exp (c * t),
    fun t => Complex.I * (c ^ 1 * Complex.exp (c * t)), 1, 101, 0, 101 ^ 2, lipschitzWith_I_mul, le_rfl, by simp,
    by norm_num, one_pos, fun t _ => (hasDerivAt_exp_mul c t).congr_deriv (by simp only [hcdef]; ring),
    fun t ht => ?_, fun t s ht hs hts => ?_⟩
  · have := expI_norm_le hc hre 1 ht.1
    rw [norm_mul, Complex.norm_I, one_mul, pow_one, pow_one] at this
    rwa [show -100 * Complex.exp (c * t) + Complex.I * Complex.exp (c * t) = c * Complex.exp (c * t) by
      simp only [hcdef]; ring]
  · have := taylor_of_lipschitz_deriv _ _ 1 (101 ^ 2) (fun x _ => expI_hasDerivAt c 0 x)
      (expI_lipschitz hc hre 1 1) t s ht hs hts
    simpa only [pow_zero, one_mul, zero_add] using this

end Exponax.LinearOrder
end
