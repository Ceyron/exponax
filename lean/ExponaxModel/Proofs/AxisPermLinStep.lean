import ExponaxModel.Proofs.AxisPermMul
import ExponaxModel.Proofs.SymmetryND
/-
C08: a diagonal stepper `irfftn ∘ (E ⊙ ·) ∘ rfftn` acts on a real field as the circular convolution with its
impulse response `irfftn E` (`dftV_linStep`; any multiplier array, no Nyquist proviso).  Hence it is carried along
by an axis permutation exactly when its impulse response is (`linStep_fieldPerm`, `kernel_of_linStep_permField`).
A multiplier that is a symbol `g(k(h))` multiplies the full spectrum by `g(cent m)` (`dftV_linStep_symbol`), hence
permuted anisotropic coefficients for every `D` and `σ` (`linStep_symbol_permField`).
-/
namespace Exponax.AxisPerm
open Exponax.Layout Exponax.Transform Exponax.AliasND
open Exponax.SymmetryND (linStep specFun)

/-- **convolution theorem**, every integer wavenumber vector: `E ⊙ v̂` reads off as the product of the read-offs,
    and the full spectrum of a real `v` is its own Hermitian part -/
theorem dftV_linStep (D N : ℕ) (hD : 0 < D) (hN : 0 < N) (E : ℕ → ℂ) (v : Array ℂ) (hv : IsRealND D N v)
    (m : Fin D → ℤ) :
    dftV D N (linStep D N E v) m
      = dftV D N (irfftnM D N (tab (numModes D N) E)) m * dftV D N v m := by
  have hmul : ∀ κ, fullCoef D N (tab (numModes D N) (Gen.Etdrk.E0step E (specFun D N v))) κ
      = fullCoef D N (tab (numModes D N) E) κ * dftV D N v κ := fun κ => by
    rw [← fullCoef_rfftn D N hD hN v hv]
    exact fullCoef_mul D N hD hN E (rfftnM D N v) κ
  unfold linStep
  rw [dftV_irfftn_fullCoef D N hD hN, dftV_irfftn_fullCoef D N hD hN, hmul, hmul, map_mul, conj_dftV D N v hv,
    neg_neg]
  ring

theorem linStep_fieldPerm (D N : ℕ) (hD : 0 < D) (hN : 0 < N) (σ : Equiv.Perm (Fin D)) (E E' : ℕ → ℂ)
    (hE : FieldPerm D N σ (irfftnM D N (tab (numModes D N) E)) (irfftnM D N (tab (numModes D N) E')))
    (v v' : Array ℂ) (hv : IsRealND D N v) (h : FieldPerm D N σ v v') :
    FieldPerm D N σ (linStep D N E v) (linStep D N E' v') := by
  have hv' := fieldPerm_real D N σ v v' h hv
  rw [fieldPerm_iff_dftV D N hN] at hE h ⊢
  intro m
  rw [dftV_linStep D N hD hN E' v' hv', dftV_linStep D N hD hN E v hv, hE m, h m]

theorem linStep_permField (D N : ℕ) (hD : 0 < D) (hN : 0 < N) (σ : Equiv.Perm (Fin D)) (E E' : ℕ → ℂ)
    (hE : FieldPerm D N σ (irfftnM D N (tab (numModes D N) E)) (irfftnM D N (tab (numModes D N) E')))
    (u : Array ℂ) (hu : IsRealND D N u) :
    linStep D N E' (permField D N σ u) = permField D N σ (linStep D N E u) :=
  eq_permField_of_fieldPerm (DFT.irfftnM_size D N _)
    (linStep_fieldPerm D N hD hN σ E E' hE u _ hu (fieldPerm_permField D N σ u))

/-- converse of `linStep_permField`, read off the unit impulse -/
theorem kernel_of_linStep_permField (D N : ℕ) (hD : 0 < D) (hN : 0 < N) (σ : Equiv.Perm (Fin D)) (E E' : ℕ → ℂ)
    (h : linStep D N E' (permField D N σ (delta0 D N)) = permField D N σ (linStep D N E (delta0 D N)))
    (m : Fin D → ℤ) :
    dftV D N (irfftnM D N (tab (numModes D N) E')) m = dftV D N (irfftnM D N (tab (numModes D N) E)) (m ∘ σ) := by
  have : dftV D N (linStep D N E' (permField D N σ (delta0 D N))) m
      = dftV D N (permField D N σ (linStep D N E (delta0 D N))) m := congrArg (fun v => dftV D N v m) h
  rwa [dftV_linStep D N hD hN E' _ (permField_real D N σ _ (delta0_real D N)), dftV_permField D N hN,
    dftV_permField D N hN, dftV_linStep D N hD hN E _ (delta0_real D N), dftV_delta0 D N hN, mul_one, mul_one] at this

theorem dftV_linStep_symbol (D N : ℕ) (hD : 0 < D) (hN : 0 < N) (g : (Fin D → ℤ) → ℂ)
    (hg : ∀ k, g (-k) = (starRingEnd ℂ) (g k)) (u : Array ℂ) (hu : IsRealND D N u)
    (hb : NyqBlind D N g (rfftnM D N u)) (m : Fin D → ℤ) :
    dftV D N (linStep D N (fun h => g (kvec D N h)) u) m = g (centV N m) * dftV D N u m :=
  (dftV_irfftn_mul D N hD hN g hg _ hb m).trans
    (congrArg (g (centV N m) * ·) (dftV_congr D N _ u (DFT.irfftn_rfftn D N hD hN u hu) m))

/-- **permuted anisotropic coefficients**, every `D` and `σ`: for a conj-symmetric symbol that is constant on the
    classes of the closed box `|k_d| ≤ N/2` (does not see the sign of a Nyquist component), the axis permutation maps
    the stepper of `g` to the stepper of `g(· ∘ σ)` -/
theorem linStep_symbol_permField (D N : ℕ) (hD : 0 < D) (hN : 0 < N) (σ : Equiv.Perm (Fin D))
    (g : (Fin D → ℤ) → ℂ) (hg : ∀ k, g (-k) = (starRingEnd ℂ) (g k))
    (hbl : ∀ k k' : Fin D → ℤ, VCongr D N k k' → (∀ d, |k d| ≤ ((N / 2 : ℕ) : ℤ)) → (∀ d, |k' d| ≤ ((N / 2 : ℕ) : ℤ)) → g k = g k')
    (u : Array ℂ) (hu : IsRealND D N u) :
    linStep D N (fun h => g (kvec D N h ∘ σ)) (permField D N σ u)
      = permField D N σ (linStep D N (fun h => g (kvec D N h)) u) := by
  refine eq_permField_of_fieldPerm (DFT.irfftnM_size D N _) ((fieldPerm_iff_dftV D N hN σ _ _).mpr fun m => ?_)
  rw [dftV_linStep_symbol D N hD hN (fun k => g (k ∘ σ)) (fun k => hg (k ∘ σ)) _ (permField_real D N σ u hu)
      (nyqBlind_of_box D N hD hN _ _ fun k k' hc hk hk' =>
        hbl _ _ (fun d => hc (σ d)) (fun d => hk (σ d)) (fun d => hk' (σ d))) m,
    dftV_linStep_symbol D N hD hN g hg u hu (nyqBlind_of_box D N hD hN g _ hbl) (m ∘ σ), dftV_permField D N hN]
  rfl

end Exponax.AxisPerm
