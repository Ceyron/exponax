import ExponaxModel.Proofs.MetricsAlgebra
import ExponaxModel.Proofs.MetricsGenEq
/-
The metric laws (zero for identical inputs, positivity, symmetry, homogeneity / scale freedom) for
`spatialModel code …` (`MetricsGenEq.lean`), the value that the spatial metrics regenerated from
`exponax/metrics/_spatial.py` equal by `MSE_eq`, `RMSE_eq`, `MAE_eq`, `nMSE_eq`, … there; over `ℝ`, on
multi-channel states `List (Array ℝ)`, from the model lemmas of `MetricsAlgebra.lean`.  No statement here names a
regenerated metric.
-/
namespace Exponax.MetricsGenAxioms
open Exponax Exponax.Layout Exponax.Transform Exponax.Gen Exponax.Gen.Prelude Exponax.Metrics
open Exponax.Gen.MetricsGen

def scaleState (a : ℝ) (u : List (Array ℝ)) : List (Array ℝ) := u.map (fun c => c.map (fun x => a * x))

def SameShape (u r : List (Array ℝ)) : Prop := List.Forall₂ (fun a b => a.size = b.size) u r

/-- every channel is a whole `(N,)*D` array -/
def OnGrid (D N : ℕ) (u : List (Array ℝ)) : Prop := ∀ a ∈ u, a.size = N ^ D

theorem sameShape_of_grid (D N : ℕ) (u r : List (Array ℝ)) (hlen : u.length = r.length) (hu : OnGrid D N u)
    (hr : OnGrid D N r) : SameShape u r :=
  List.forall₂_iff_get.2 ⟨hlen, fun i h1 h2 => by rw [hu _ (List.get_mem _ _), hr _ (List.get_mem _ _)]⟩

theorem sameShape_refl (u : List (Array ℝ)) : SameShape u u :=
  List.forall₂_same.2 fun _ _ => rfl

theorem sameShape_scale (t : ℝ) (u r : List (Array ℝ)) (h : SameShape u r) :
    SameShape (scaleState t u) (scaleState t r) := by
  unfold SameShape at *
  induction h with
  | nil => exact List.Forall₂.nil
  | cons hab _ ih => exact List.Forall₂.cons (by simpa using hab) ih

theorem onGrid_scale (D N : ℕ) (t : ℝ) (u : List (Array ℝ)) (h : OnGrid D N u) : OnGrid D N (scaleState t u) := by
  intro a ha
  simp only [scaleState, List.mem_map] at ha
  obtain ⟨c, hc, rfl⟩ := ha
  simpa using h c hc

/-- the difference channel `a − b` of `spatial_norm` -/
def subChan (a b : Array ℝ) : Array ℝ := tab a.size (fun j => a.getD j 0 - b.getD j 0)

theorem chanSub_cons (a b : Array ℝ) (u r : List (Array ℝ)) :
    chanSub (a :: u) (b :: r) = subChan a b :: chanSub u r := rfl

theorem chanSub_nil_left (r : List (Array ℝ)) : chanSub ([] : List (Array ℝ)) r = [] := rfl

theorem chanSub_nil_right (u : List (Array ℝ)) : chanSub u ([] : List (Array ℝ)) = [] := by
  simp [chanSub]

theorem chanAgg_cons (D N : ℕ) (L p q : ℝ) (a : Array ℝ) (u : List (Array ℝ)) :
    chanAgg D N L p q (a :: u) = spatialAggregator D N L p q a :: chanAgg D N L p q u := rfl

theorem chanAgg_nil (D N : ℕ) (L p q : ℝ) : chanAgg D N L p q ([] : List (Array ℝ)) = [] := rfl

theorem tab_map {α β : Type} (n : ℕ) (f : ℕ → α) (g : α → β) : (tab n f).map g = tab n (fun j => g (f j)) := by
  simp [tab, Function.comp_def]

theorem subChan_scale (t : ℝ) (a b : Array ℝ) :
    subChan (a.map fun x => t * x) (b.map fun x => t * x) = (subChan a b).map fun x => t * x := by
  unfold subChan
  rw [Array.size_map, tab_map]
  apply tab_congr
  intro i _
  rw [map_mul_getD, map_mul_getD, mul_sub]

theorem subChan_comm (D N : ℕ) (L p q : ℝ) (a b : Array ℝ) (h : a.size = b.size) :
    spatialAggregator D N L p q (subChan a b) = spatialAggregator D N L p q (subChan b a) := by
  unfold subChan
  rw [← h]
  exact spatialAggregator_sub_comm_tab D N a.size L p q a b

theorem subChan_self (a : Array ℝ) : subChan a a = tab a.size (fun _ => (0 : ℝ)) := by
  unfold subChan
  apply tab_congr
  intro i _
  exact sub_self _

theorem spatialAggregator_zero_chan (D N n : ℕ) (L p q : ℝ) (hp : p ≠ 0) (hq : q ≠ 0) :
    spatialAggregator D N L p q (tab n (fun _ => (0 : ℝ))) = 0 := by
  rw [spatialAggregator_eq_sum, DFT.tab_size]
  have : ∑ j ∈ Finset.range n, |(tab n (fun _ => (0 : ℝ))).getD j 0| ^ p = 0 := by
    apply Finset.sum_eq_zero
    intro j hj
    rw [DFT.tab_getD _ _ _ _ (Finset.mem_range.mp hj), abs_zero, Real.zero_rpow hp]
  rw [this, mul_zero, Real.zero_rpow hq]

theorem subChan_allzero_iff (a b : Array ℝ) (h : a.size = b.size) :
    (∀ x ∈ (subChan a b).toList, x = 0) ↔ a = b := by
  constructor
  · intro hz
    apply Array.ext h
    intro i hi hi'
    have hmem : a.getD i 0 - b.getD i 0 ∈ (subChan a b).toList := by
      simp only [subChan, tab, Array.toList_map, Array.toList_range, List.mem_map, List.mem_range]
      exact ⟨i, hi, rfl⟩
    have h0 := hz _ hmem
    simp only [Array.getD, hi, hi', dif_pos] at h0
    simpa using sub_eq_zero.mp h0
  · rintro rfl x hx
    rw [subChan_self] at hx
    simp only [tab, Array.toList_map, List.mem_map] at hx
    obtain ⟨j, _, rfl⟩ := hx
    rfl

theorem chanSub_scale (t : ℝ) (u r : List (Array ℝ)) :
    chanSub (scaleState t u) (scaleState t r) = scaleState t (chanSub u r) := by
  induction u generalizing r with
  | nil => rfl
  | cons a u ih =>
    cases r with
    | nil => simp [scaleState, chanSub]
    | cons b r =>
      have := ih r
      simp only [scaleState, List.map_cons, chanSub_cons] at this ⊢
      rw [this, subChan_scale]

theorem chanAgg_scale (D N : ℕ) (L p q t : ℝ) (hL : 0 ≤ L) (d : List (Array ℝ)) :
    chanAgg D N L p q (scaleState t d) = (chanAgg D N L p q d).map (fun x => |t| ^ (p * q) * x) := by
  induction d with
  | nil => rfl
  | cons a d ih =>
    simp only [scaleState, List.map_cons, chanAgg_cons] at ih ⊢
    rw [ih, spatialAggregator_smul D N L p q t hL]

theorem chanAgg_chanSub_comm (D N : ℕ) (L p q : ℝ) (u r : List (Array ℝ)) (h : SameShape u r) :
    chanAgg D N L p q (chanSub u r) = chanAgg D N L p q (chanSub r u) := by
  unfold SameShape at h
  induction h with
  | nil => rfl
  | cons hab _ ih =>
    rw [chanSub_cons, chanSub_cons, chanAgg_cons, chanAgg_cons, ih, subChan_comm D N L p q _ _ hab]

theorem chanAgg_chanSub_self (D N : ℕ) (L p q : ℝ) (hp : p ≠ 0) (hq : q ≠ 0) (u : List (Array ℝ)) :
    ∀ x ∈ chanAgg D N L p q (chanSub u u), x = 0 := by
  induction u with
  | nil => intro x hx; simp [chanSub_nil_left, chanAgg_nil] at hx
  | cons a u ih =>
    intro x hx
    rw [chanSub_cons, chanAgg_cons, List.mem_cons] at hx
    rcases hx with rfl | hx
    · rw [subChan_self, spatialAggregator_zero_chan D N _ L p q hp hq]
    · exact ih x hx

theorem chanAgg_nonneg (D N : ℕ) (L p q : ℝ) (hL : 0 ≤ L) (d : List (Array ℝ)) :
    ∀ x ∈ chanAgg D N L p q d, 0 ≤ x := by
  intro x hx
  simp only [chanAgg, List.mem_map] at hx
  obtain ⟨a, _, rfl⟩ := hx
  exact spatialAggregator_nonneg D N L p q hL a

theorem getD_eq_zero_of_all_zero (dn : List ℝ) (h : ∀ x ∈ dn, x = 0) (c : ℕ) : dn.getD c 0 = 0 := by
  rw [List.getD_eq_getElem?_getD]
  by_cases hc : c < dn.length
  · rw [List.getElem?_eq_getElem hc]
    exact h _ (List.getElem_mem hc)
  · rw [List.getElem?_eq_none (by omega)]
    rfl

theorem combine_of_dn_zero (mode : ℕ) (dn rn sn : List ℝ) (h : ∀ x ∈ dn, x = 0) : combine mode dn rn sn = 0 := by
  rw [combine_eq_sum]
  apply Finset.sum_eq_zero
  intro c _
  rw [getD_eq_zero_of_all_zero dn h c]
  split_ifs <;> simp

/-- ZERO: every spatial metric of a state against itself is zero -/
theorem spatialModel_self (code D N : ℕ) (L p q : ℝ) (hp : p ≠ 0) (hq : q ≠ 0) (u : List (Array ℝ)) :
    spatialModel code D N L p q u u = 0 :=
  combine_of_dn_zero code _ _ _ (chanAgg_chanSub_self D N L p q hp hq u)

/-- SYMMETRY of the absolute metrics -/
theorem spatialModel_zero_symm (D N : ℕ) (L p q : ℝ) (u r : List (Array ℝ)) (h : SameShape u r) :
    spatialModel 0 D N L p q u r = spatialModel 0 D N L p q r u := by
  unfold spatialModel
  rw [Metrics.combine_zero, Metrics.combine_zero, chanAgg_chanSub_comm D N L p q u r h]

/-- SYMMETRY of the symmetric metrics -/
theorem spatialModel_two_symm (D N : ℕ) (L p q : ℝ) (u r : List (Array ℝ)) (h : SameShape u r) :
    spatialModel 2 D N L p q u r = spatialModel 2 D N L p q r u := by
  unfold spatialModel
  rw [chanAgg_chanSub_comm D N L p q u r h, combine_two_symm]

/-- HOMOGENEITY of the absolute metrics: degree `p·q` -/
theorem spatialModel_zero_scale (D N : ℕ) (L p q t : ℝ) (hL : 0 ≤ L) (u r : List (Array ℝ)) :
    spatialModel 0 D N L p q (scaleState t u) (scaleState t r) = |t| ^ (p * q) * spatialModel 0 D N L p q u r := by
  unfold spatialModel
  rw [Metrics.combine_zero, Metrics.combine_zero, chanSub_scale, chanAgg_scale D N L p q t hL, List.sum_map_mul_left, List.map_id']

/-- … also without a reference state -/
theorem combine_zero_scale (D N : ℕ) (L p q t : ℝ) (hL : 0 ≤ L) (u : List (Array ℝ)) :
    combine 0 (chanAgg D N L p q (scaleState t u)) [] [] = |t| ^ (p * q) * combine 0 (chanAgg D N L p q u) [] [] := by
  rw [Metrics.combine_zero, Metrics.combine_zero, chanAgg_scale D N L p q t hL, List.sum_map_mul_left, List.map_id']

/-- SCALE FREEDOM of the normalized metrics -/
theorem spatialModel_one_scale (D N : ℕ) (L p q t : ℝ) (hL : 0 ≤ L) (ht : t ≠ 0) (u r : List (Array ℝ)) :
    spatialModel 1 D N L p q (scaleState t u) (scaleState t r) = spatialModel 1 D N L p q u r := by
  unfold spatialModel
  rw [chanSub_scale, chanAgg_scale D N L p q t hL, chanAgg_scale D N L p q t hL, chanAgg_scale D N L p q t hL]
  exact combine_one_scale_free _ (Real.rpow_pos_of_pos (abs_pos.mpr ht) _).ne' _ _ _

/-- SCALE FREEDOM of the symmetric metrics -/
theorem spatialModel_two_scale (D N : ℕ) (L p q t : ℝ) (hL : 0 ≤ L) (ht : t ≠ 0) (u r : List (Array ℝ)) :
    spatialModel 2 D N L p q (scaleState t u) (scaleState t r) = spatialModel 2 D N L p q u r := by
  unfold spatialModel
  rw [chanSub_scale, chanAgg_scale D N L p q t hL, chanAgg_scale D N L p q t hL, chanAgg_scale D N L p q t hL]
  exact combine_two_scale_free _ (Real.rpow_pos_of_pos (abs_pos.mpr ht) _).ne' _ _ _

/-- the contribution of one channel pair to `spatialModel` -/
noncomputable def chanTerm (code D N : ℕ) (L p q : ℝ) (a b : Array ℝ) : ℝ :=
  if code = 1 then spatialAggregator D N L p q (subChan a b) / spatialAggregator D N L p q b
  else if code = 2 then 2 * spatialAggregator D N L p q (subChan a b)
    / (spatialAggregator D N L p q a + spatialAggregator D N L p q b)
  else spatialAggregator D N L p q (subChan a b)

theorem combine_cons (mode : ℕ) (d r s : ℝ) (dn rn sn : List ℝ) :
    combine mode (d :: dn) (r :: rn) (s :: sn)
      = (if mode = 1 then d / r else if mode = 2 then 2 * d / (s + r) else d) + combine mode dn rn sn := by
  rw [combine_eq_sum, combine_eq_sum, List.length_cons, Finset.sum_range_succ', add_comm]
  simp only [List.getD_cons_zero, List.getD_cons_succ]

theorem spatialModel_cons (code D N : ℕ) (L p q : ℝ) (a b : Array ℝ) (u r : List (Array ℝ)) :
    spatialModel code D N L p q (a :: u) (b :: r)
      = chanTerm code D N L p q a b + spatialModel code D N L p q u r := by
  unfold spatialModel chanTerm
  rw [chanSub_cons, chanAgg_cons, chanAgg_cons, chanAgg_cons, combine_cons]

theorem spatialModel_nil (code D N : ℕ) (L p q : ℝ) : spatialModel code D N L p q [] [] = 0 := by
  unfold spatialModel
  rw [combine_eq_sum]
  rfl

/-- every channel of the state has a non-zero entry (the denominators of the relative metrics are positive) -/
def ChannelsNonzero (r : List (Array ℝ)) : Prop := ∀ b ∈ r, ∃ x ∈ b.toList, x ≠ 0

theorem aggSub_nonneg_eq_zero_iff (D N : ℕ) (L p q : ℝ) (hp : 0 < p) (hq : 0 < q) (hL : 0 < L) (hN : 0 < N)
    (a b : Array ℝ) (hab : a.size = b.size) :
    0 ≤ spatialAggregator D N L p q (subChan a b) ∧ (spatialAggregator D N L p q (subChan a b) = 0 ↔ a = b) :=
  ⟨spatialAggregator_nonneg D N L p q hL.le _,
    by rw [spatialAggregator_eq_zero_iff D N L p q hp hq hL hN, subChan_allzero_iff a b hab]⟩

theorem spatialModel_nonneg_eq_zero_iff (code D N : ℕ) (L p q : ℝ) (u r : List (Array ℝ)) (h : SameShape u r)
    (hT : ∀ a b, a.size = b.size → b ∈ r →
      0 ≤ chanTerm code D N L p q a b ∧ (chanTerm code D N L p q a b = 0 ↔ a = b)) :
    0 ≤ spatialModel code D N L p q u r ∧ (spatialModel code D N L p q u r = 0 ↔ u = r) := by
  unfold SameShape at h
  induction h with
  | nil => rw [spatialModel_nil]; exact ⟨le_rfl, iff_of_true rfl rfl⟩
  | @cons a b u r hab _ ih =>
    obtain ⟨h1, h1z⟩ := hT a b hab List.mem_cons_self
    obtain ⟨h2, h2z⟩ := ih fun a' b' hs hb => hT a' b' hs (List.mem_cons_of_mem _ hb)
    rw [spatialModel_cons, add_eq_zero_iff_of_nonneg h1 h2, h1z, h2z, List.cons.injEq]
    exact ⟨add_nonneg h1 h2, Iff.rfl⟩

/-- POSITIVITY of the absolute metrics: non-negative, and zero exactly for identical states -/
theorem spatialModel_zero_nonneg_eq_zero_iff (D N : ℕ) (L p q : ℝ) (hp : 0 < p) (hq : 0 < q) (hL : 0 < L) (hN : 0 < N)
    (u r : List (Array ℝ)) (h : SameShape u r) :
    0 ≤ spatialModel 0 D N L p q u r ∧ (spatialModel 0 D N L p q u r = 0 ↔ u = r) :=
  spatialModel_nonneg_eq_zero_iff 0 D N L p q u r h fun a b hab _ => by
    rw [chanTerm, if_neg (by decide), if_neg (by decide)]
    exact aggSub_nonneg_eq_zero_iff D N L p q hp hq hL hN a b hab

theorem spatialModel_zero_pos (D N : ℕ) (L p q : ℝ) (hp : 0 < p) (hq : 0 < q) (hL : 0 < L) (hN : 0 < N)
    (u r : List (Array ℝ)) (h : SameShape u r) (hne : u ≠ r) : 0 < spatialModel 0 D N L p q u r := by
  obtain ⟨h0, hiff⟩ := spatialModel_zero_nonneg_eq_zero_iff D N L p q hp hq hL hN u r h
  exact lt_of_le_of_ne h0 (fun he => hne (hiff.mp he.symm))


/-- POSITIVITY of the normalized metrics (reference channels not identically zero) -/
theorem spatialModel_one_nonneg_eq_zero_iff (D N : ℕ) (L p q : ℝ) (hp : 0 < p) (hq : 0 < q) (hL : 0 < L) (hN : 0 < N)
    (u r : List (Array ℝ)) (h : SameShape u r) (hr : ChannelsNonzero r) :
    0 ≤ spatialModel 1 D N L p q u r ∧ (spatialModel 1 D N L p q u r = 0 ↔ u = r) :=
  spatialModel_nonneg_eq_zero_iff 1 D N L p q u r h fun a b hab hb => by
    obtain ⟨hd, hz⟩ := aggSub_nonneg_eq_zero_iff D N L p q hp hq hL hN a b hab
    have hb' : 0 < spatialAggregator D N L p q b := spatialAggregator_pos D N L p q hp hq hL hN b (hr b hb)
    rw [chanTerm, if_pos rfl]
    exact ⟨div_nonneg hd hb'.le, by rw [div_eq_zero_iff, or_iff_left hb'.ne', hz]⟩

/-- POSITIVITY of the symmetric metrics (reference channels not identically zero) -/
theorem spatialModel_two_nonneg_eq_zero_iff (D N : ℕ) (L p q : ℝ) (hp : 0 < p) (hq : 0 < q) (hL : 0 < L) (hN : 0 < N)
    (u r : List (Array ℝ)) (h : SameShape u r) (hr : ChannelsNonzero r) :
    0 ≤ spatialModel 2 D N L p q u r ∧ (spatialModel 2 D N L p q u r = 0 ↔ u = r) :=
  spatialModel_nonneg_eq_zero_iff 2 D N L p q u r h fun a b hab hb => by
    obtain ⟨hd, hz⟩ := aggSub_nonneg_eq_zero_iff D N L p q hp hq hL hN a b hab
    have hab' : 0 < spatialAggregator D N L p q a + spatialAggregator D N L p q b :=
      add_pos_of_nonneg_of_pos (spatialAggregator_nonneg D N L p q hL.le a)
        (spatialAggregator_pos D N L p q hp hq hL hN b (hr b hb))
    rw [chanTerm, if_neg (by decide), if_pos rfl]
    exact ⟨div_nonneg (mul_nonneg zero_le_two hd) hab'.le,
      by rw [div_eq_zero_iff, or_iff_left hab'.ne', mul_eq_zero, or_iff_right two_ne_zero, hz]⟩

/-! ### constant channels: the normalized metrics are NOT symmetric -/

def constChan (n : ℕ) (c : ℝ) : Array ℝ := tab n (fun _ => c)

theorem spatialAggregator_const (D N n : ℕ) (L p q c : ℝ) :
    spatialAggregator D N L p q (constChan n c) = ((L / (N : ℝ)) ^ D * ((n : ℝ) * |c| ^ p)) ^ q := by
  unfold constChan
  rw [spatialAggregator_eq_sum, DFT.tab_size]
  have : ∑ j ∈ Finset.range n, |(tab n (fun _ => c)).getD j 0| ^ p = (n : ℝ) * |c| ^ p := by
    rw [Finset.sum_congr rfl (fun j hj => by rw [DFT.tab_getD _ _ _ _ (Finset.mem_range.mp hj)]),
      Finset.sum_const, Finset.card_range, nsmul_eq_mul]
  rw [this]

theorem subChan_const (n : ℕ) (c d : ℝ) : subChan (constChan n c) (constChan n d) = constChan n (c - d) := by
  unfold subChan constChan
  rw [DFT.tab_size]
  apply tab_congr
  intro i hi
  rw [DFT.tab_getD _ _ _ _ hi, DFT.tab_getD _ _ _ _ hi]

theorem spatialModel_one_const (D N n : ℕ) (L p c d : ℝ) :
    spatialModel 1 D N L p 1 [constChan n c] [constChan n d]
      = ((L / (N : ℝ)) ^ D * ((n : ℝ) * |c - d| ^ p)) / ((L / (N : ℝ)) ^ D * ((n : ℝ) * |d| ^ p)) := by
  rw [spatialModel_cons, spatialModel_nil, chanTerm, if_pos rfl, add_zero]
  rw [subChan_const, spatialAggregator_const, spatialAggregator_const, Real.rpow_one, Real.rpow_one]

theorem onGrid_const (D N : ℕ) (c : ℝ) : OnGrid D N [constChan (N ^ D) c] := by
  intro a ha
  rw [List.mem_singleton] at ha
  rw [ha]; exact DFT.tab_size _ _

theorem lit_one_real : (lit 1 : ℝ) = 1 := by simp
theorem lit_two_pos : (0 : ℝ) < lit 2 := by rw [lit_two_real]; norm_num
theorem lit_one_pos : (0 : ℝ) < lit 1 := by rw [lit_one_real]; norm_num
theorem qlit_half_pos : (0 : ℝ) < qlit 1 2 := by rw [qlit_half_real]; norm_num

theorem abs_rpow_two_one (t : ℝ) : |t| ^ ((lit 2 : ℝ) * lit 1) = t ^ 2 := by
  rw [lit_two_real, lit_one_real, mul_one, Real.rpow_two, sq_abs]
theorem abs_rpow_two_half (t : ℝ) : |t| ^ ((lit 2 : ℝ) * qlit 1 2) = |t| := by
  rw [lit_two_real, qlit_half_real]; norm_num
theorem abs_rpow_one_one (t : ℝ) : |t| ^ ((lit 1 : ℝ) * lit 1) = |t| := by
  rw [lit_one_real]; norm_num

end Exponax.MetricsGenAxioms
