import ExponaxModel.Proofs.StepperSymbols
import ExponaxModel.Properties.C13
import ExponaxModel.Proofs.LerayBasic
/-
C13: how the model's linear symbol and nonlinear terms depend on the domain extent.  A configuration
`c : Nonlin.Cfg ℂ` enters them only through the derivative-operator entry `Nonlin.deriv c d h = i·s·k_d(h)`, `s = 2π/L`;
`withS c s'` replaces the scale, `cfgOf D N L df` is the configuration of a stepper on a domain of extent `L`.
Dividing the scale by `L` and multiplying by `dt` turns each term into the same term with the normalised coefficient
(`polySymbol_generalLinear_scaling`, `convection_scaling`, `gradientNorm_scaling`, `polynomial_scaling`,
`general_scaling`), at every channel and index, with no non-vanishing hypothesis (`x / 0 = 0` on both sides).

The extent in the nonlinear statements is real: `irfftn` takes real parts and the derivative is applied before it, so
for non-real `L` they are false (`Proofs/InterfaceCounterexample.lean`, `L = i`).
-/
namespace Exponax.Interface
open Exponax Exponax.Layout Exponax.Transform Exponax.Nonlin Exponax.Gen.Convert Finset

/-- the configuration `c` with its scale (`s = 2π/L`) replaced by `s'` -/
def withS (c : Cfg ℂ) (s' : ℂ) : Cfg ℂ := { c with s := s' }

/-- the configuration of a stepper with `D` dimensions, `N` points per axis on a domain of extent `L`
    (`build_derivative_operator(D, L, N)`: `s = 2π/L`) and dealiasing fraction `df = (fp, fq)` -/
noncomputable def cfgOf (D N : ℕ) (L : ℂ) (df : ℕ × ℕ) : Cfg ℂ :=
  { D := D, N := N, s := 2 * (Real.pi : ℂ) / L, fp := df.1, fq := df.2 }

@[simp] theorem withS_D (c : Cfg ℂ) (s' : ℂ) : (withS c s').D = c.D := rfl
@[simp] theorem withS_N (c : Cfg ℂ) (s' : ℂ) : (withS c s').N = c.N := rfl
@[simp] theorem withS_s (c : Cfg ℂ) (s' : ℂ) : (withS c s').s = s' := rfl
@[simp] theorem cfgOf_D (D N : ℕ) (L : ℂ) (df : ℕ × ℕ) : (cfgOf D N L df).D = D := rfl
@[simp] theorem cfgOf_N (D N : ℕ) (L : ℂ) (df : ℕ × ℕ) : (cfgOf D N L df).N = N := rfl
@[simp] theorem nifft_withS (c : Cfg ℂ) (s' : ℂ) : nifft (withS c s') = nifft c := rfl
@[simp] theorem nfft_withS (c : Cfg ℂ) (s' : ℂ) : nfft (withS c s') = nfft c := rfl
@[simp] theorem gridSize_withS (c : Cfg ℂ) (s' : ℂ) : gridSize (withS c s') = gridSize c := rfl
@[simp] theorem modes_withS (c : Cfg ℂ) (s' : ℂ) : modes (withS c s') = modes c := rfl

theorem cfgOf_eq_withS (D N : ℕ) (L : ℂ) (df : ℕ × ℕ) :
    cfgOf D N L df = withS (cfgOf D N 1 df) ((cfgOf D N 1 df).s / L) := by
  simp [cfgOf, withS]

/-- `cfgOf` is the derivative operator of the source: entry `(d, h)` of the translated boundary function
    `build_derivative_operator(D, L, N)` is `Nonlin.deriv (cfgOf D N L df) d h` -/
theorem deriv_cfgOf_eq_build (D N : ℕ) (L : ℂ) (df : ℕ × ℕ) (d h : ℕ) (hd : d < D) (hh : h < numModes D N) :
    Nonlin.deriv (cfgOf D N L df) d h
      = (((List.range D).map (fun d => tab (numModes D N) (fun h =>
          (HasI.I : ℂ) * ((lit 2 * HasPi.pi / L) * (IntCast.intCast ((wnFlat D N h).getD d 0) : ℂ))))).getD d
            #[]).getD h 0 := by
  rw [List.getD_eq_getElem?_getD, List.getElem?_map, List.getElem?_range hd]
  simp only [Option.map_some, Option.getD_some]
  rw [DFT.tab_getD _ _ _ _ hh]
  simp [Nonlin.deriv, cfgOf]

theorem deriv_withS_div (c : Cfg ℂ) (L : ℂ) (d h : ℕ) :
    Nonlin.deriv (withS c (c.s / L)) d h = Nonlin.deriv c d h / L := by
  simp only [Nonlin.deriv, withS]
  ring

theorem deriv_cfgOf (D N : ℕ) (L : ℂ) (df : ℕ × ℕ) (d h : ℕ) :
    Nonlin.deriv (cfgOf D N L df) d h = Nonlin.deriv (cfgOf D N 1 df) d h / L := by
  rw [cfgOf_eq_withS, deriv_withS_div]

theorem deriv_withS_mul (c : Cfg ℂ) (z : ℂ) (d h : ℕ) :
    Nonlin.deriv (withS c (z * c.s)) d h = z * Nonlin.deriv c d h := by
  simp only [Nonlin.deriv, withS]
  ring

theorem withS_div_real (c : Cfg ℂ) (ℓ : ℝ) : withS c (c.s / (ℓ : ℂ)) = withS c (((ℓ⁻¹ : ℝ) : ℂ) * c.s) := by
  rw [div_eq_inv_mul, Complex.ofReal_inv]

theorem polySymbol_generalLinear_sum (c : Cfg ℂ) (a : List ℂ) (h : ℕ) :
    polySymbol c (generalLinear c.D a) h
      = ∑ j ∈ range a.length, a.getD j 0 * ∑ d ∈ range c.D, Nonlin.deriv c d h ^ j := by
  rw [polySymbol_eq_polyAt]
  have h1 := polyAt_generalLinear (kappa c h) a
  rw [kappa_length] at h1
  rw [h1]
  apply Finset.sum_congr rfl
  intro j _
  congr 1
  apply Finset.sum_congr rfl
  intro d hd
  rw [kappa_getD c h d (Finset.mem_range.mp hd)]

theorem normalize_coefficients_length (a : List ℂ) (L dt : ℂ) :
    (normalize_coefficients a L dt).length = a.length := by
  rw [C13_normalize_coefficients_formula]; simp

theorem normalize_coefficients_getD (a : List ℂ) (L dt : ℂ) (j : ℕ) (hj : j < a.length) :
    (normalize_coefficients a L dt).getD j 0 = a.getD j 0 * dt / L ^ j := by
  rw [C13_normalize_coefficients_formula]
  simp [List.getD_eq_getElem?_getD, hj]

/-- **Linear symbol.**  `dt · Σ_j a_j Σ_d (i k_d s/L)^j = Σ_j α_j Σ_d (i k_d s)^j` with
    `α_j = a_j dt / L^j` (`normalize_coefficients`); every complex `L`, `dt`, every stored mode. -/
theorem polySymbol_generalLinear_scaling (c : Cfg ℂ) (L dt : ℂ) (a : List ℂ) (h : ℕ) :
    dt * polySymbol (withS c (c.s / L)) (generalLinear c.D a) h
      = polySymbol c (generalLinear c.D (normalize_coefficients a L dt)) h := by
  have h1 := polySymbol_generalLinear_sum (withS c (c.s / L)) a h
  rw [withS_D] at h1
  rw [h1, polySymbol_generalLinear_sum, normalize_coefficients_length, Finset.mul_sum]
  apply Finset.sum_congr rfl
  intro j hj
  rw [normalize_coefficients_getD a L dt j (Finset.mem_range.mp hj)]
  simp only [deriv_withS_div, div_pow, ← Finset.sum_div]
  ring

/-- the same on `cfgOf`: the symbol of the physical stepper `(L, dt, a)` times `dt` is the symbol of the
    normalised stepper (`L = 1`) with `α = normalize_coefficients a L dt` -/
theorem polySymbol_generalLinear_cfgOf (D N : ℕ) (L dt : ℂ) (df : ℕ × ℕ) (a : List ℂ) (h : ℕ) :
    dt * polySymbol (cfgOf D N L df) (generalLinear D a) h
      = polySymbol (cfgOf D N 1 df) (generalLinear D (normalize_coefficients a L dt)) h := by
  rw [cfgOf_eq_withS]
  exact polySymbol_generalLinear_scaling (cfgOf D N 1 df) L dt a h

/-- the documented form: `Σ_j a_j (i k s/L)^j = (1/dt) · Σ_j α_j (i k s)^j` (`dt ≠ 0`) -/
theorem polySymbol_generalLinear_cfgOf_div (D N : ℕ) (L dt : ℂ) (hdt : dt ≠ 0) (df : ℕ × ℕ) (a : List ℂ) (h : ℕ) :
    polySymbol (cfgOf D N L df) (generalLinear D a) h
      = (1 / dt) * polySymbol (cfgOf D N 1 df) (generalLinear D (normalize_coefficients a L dt)) h := by
  rw [← polySymbol_generalLinear_cfgOf]
  field_simp

example : ∃ dt : ℂ, dt ≠ 0 := ⟨1, one_ne_zero⟩

/-! ## homogeneity of the transforms (relation forms: `v = z·u` entrywise gives `T v = z·T u`; no hypothesis on `N`) -/

theorem sumList_scale (l : List ℕ) (z : ℂ) (f g : ℕ → ℂ) (hfg : ∀ j, g j = z * f j) :
    sumList (l.map g) = z * sumList (l.map f) := by
  rw [sumList_eq, sumList_eq]
  induction l with
  | nil => simp
  | cons x xs ih => simp only [List.map_cons, List.sum_cons, ih, hfg x]; ring

theorem sumRange_scale (n : ℕ) (z : ℂ) (f g : ℕ → ℂ) (hfg : ∀ j, j < n → g j = z * f j) :
    sumRange n g = z * sumRange n f := by
  rw [DFT.sumRange_eq, DFT.sumRange_eq, Finset.mul_sum]
  exact Finset.sum_congr rfl (fun j hj => hfg j (Finset.mem_range.mp hj))

theorem rfftnM_scale (D N : ℕ) (z : ℂ) (u v : Array ℂ) (huv : ∀ j, j < N ^ D → v.getD j 0 = z * u.getD j 0)
    (h : ℕ) : (rfftnM D N v).getD h 0 = z * (rfftnM D N u).getD h 0 := by
  have := DFT.rfftnM_lin D N z 0 u u v (fun j hj => by rw [huv j hj, zero_mul, add_zero]) h
  rwa [zero_mul, add_zero] at this

/-- `irfftn` is homogeneous for REAL scalars (it takes real parts), at every index -/
theorem irfftnM_scale_real (D N : ℕ) (r : ℝ) (a b : Array ℂ)
    (hab : ∀ h, h < numModes D N → b.getD h 0 = (r : ℂ) * a.getD h 0) (j : ℕ) :
    (irfftnM D N b).getD j 0 = (r : ℂ) * (irfftnM D N a).getD j 0 := by
  have := DFT.irfftnM_lin_real D N r 0 a a b
    (fun m hm => by rw [hab m hm, Complex.ofReal_zero, zero_mul, add_zero]) j
  rwa [Complex.ofReal_zero, zero_mul, add_zero] at this

theorem nfft_scale (c : Cfg ℂ) (z : ℂ) (u v : Array ℂ)
    (huv : ∀ j, j < gridSize c → v.getD j 0 = z * u.getD j 0) (h : ℕ) :
    (nfft c v).getD h 0 = z * (nfft c u).getD h 0 := by
  unfold nfft
  simp only []
  rcases Nat.lt_or_ge h (modes c) with hh | hh
  · rw [DFT.tab_getD _ _ _ _ hh, DFT.tab_getD _ _ _ _ hh, rfftnM_scale c.D c.N z u v huv h]
    ring
  · rw [DFT.tab_getD_of_le _ _ _ _ hh, DFT.tab_getD_of_le _ _ _ _ hh, mul_zero]

theorem nifft_scale_real (c : Cfg ℂ) (r : ℝ) (a b : Array ℂ)
    (hab : ∀ h, h < modes c → b.getD h 0 = (r : ℂ) * a.getD h 0) (j : ℕ) :
    (nifft c b).getD j 0 = (r : ℂ) * (nifft c a).getD j 0 := by
  unfold nifft
  apply irfftnM_scale_real
  intro h hh
  have hh' : h < modes c := hh
  rw [DFT.tab_getD _ _ _ _ hh', DFT.tab_getD _ _ _ _ hh', hab h hh']
  ring

theorem tab_scale (n : ℕ) (z : ℂ) (f g : ℕ → ℂ) (hfg : ∀ i, i < n → g i = z * f i) (i : ℕ) :
    (tab n g).getD i 0 = z * (tab n f).getD i 0 := by
  rcases Nat.lt_or_ge i n with hi | hi
  · rw [DFT.tab_getD _ _ _ _ hi, DFT.tab_getD _ _ _ _ hi, hfg i hi]
  · rw [DFT.tab_getD_of_le _ _ _ _ hi, DFT.tab_getD_of_le _ _ _ _ hi, mul_zero]

theorem at2_tabC_scale (nc : ℕ) (z : ℂ) (F G : ℕ → Array ℂ)
    (hFG : ∀ k, k < nc → ∀ x, (G k).getD x 0 = z * (F k).getD x 0) (k x : ℕ) :
    at2 (tabC nc G) k x = z * at2 (tabC nc F) k x := by
  rw [at2_tabC_any, at2_tabC_any]
  split_ifs with hk
  · exact hFG k hk x
  · rw [mul_zero]

theorem at2_tab2_scale (nc n : ℕ) (z : ℂ) (f g : ℕ → ℕ → ℂ)
    (hfg : ∀ k, k < nc → ∀ x, x < n → g k x = z * f k x) (k x : ℕ) :
    at2 (tab2 nc n g) k x = z * at2 (tab2 nc n f) k x := by
  rw [at2_tab2_any, at2_tab2_any]
  split_ifs with hk
  · exact hfg k hk.1 x hk.2
  · rw [mul_zero]

/-- the fields `∂_{ax i} u_{chn i}` computed with the derivative operator multiplied by a real `r` -/
theorem nabla_scale_real (c : Cfg ℂ) (r : ℝ) (nc : ℕ) (ax chn : ℕ → ℕ) (uh : MC ℂ) (k x : ℕ) :
    at2 (tabC nc fun i => nifft c (tab (modes c) fun m =>
        (r : ℂ) * Nonlin.deriv c (ax i) m * at2 uh (chn i) m)) k x
      = (r : ℂ) * at2 (tabC nc fun i => nifft c (tab (modes c) fun m =>
        Nonlin.deriv c (ax i) m * at2 uh (chn i) m)) k x :=
  at2_tabC_scale _ _ _ _ (fun _ _ x => nifft_scale_real c r _ _
    (fun m _ => tab_scale _ _ _ _ (fun _ _ => mul_assoc _ _ _) m) x) k x

theorem convection_scale_mul (c : Cfg ℂ) (C : ℕ) (z b : ℂ) (single conservative : Bool) (uh : MC ℂ)
    (ch h : ℕ) :
    at2 (convection c C (z * b) single conservative uh) ch h
      = z * at2 (convection c C b single conservative uh) ch h := by
  unfold convection
  simp only []
  cases single <;> cases conservative
  all_goals
    simp only [↓reduceIte, Bool.false_eq_true]
    exact at2_tab2_scale _ _ z _ _ (fun k _ x _ => by ring) ch h

/-- multiplying the scale `s = 2π/L` by a REAL factor `r` multiplies the convection term by `r`
    (all four variants: one derivative) -/
theorem convection_withS_real (c : Cfg ℂ) (r : ℝ) (C : ℕ) (b : ℂ) (single conservative : Bool)
    (uh : MC ℂ) (ch h : ℕ) :
    at2 (convection (withS c ((r : ℂ) * c.s)) C b single conservative uh) ch h
      = (r : ℂ) * at2 (convection c C b single conservative uh) ch h := by
  unfold convection
  simp only [nifft_withS, nfft_withS, gridSize_withS, modes_withS, withS_D, deriv_withS_mul]
  generalize (tabC C fun ch => nifft c (uh.getD ch #[])) = U
  -- in each variant the derivative enters once: either through `nabla_scale_real` inside the product that is
  -- transformed (non-conservative), or as a factor of the transformed product (conservative)
  cases single <;> cases conservative
  all_goals
    simp only [↓reduceIte, Bool.false_eq_true]
    refine at2_tab2_scale _ _ _ _ _ (fun i _ m _ => ?_) ch h
  · simp only [nabla_scale_real c r (C * C) (· % C) (· / C)]
    rw [mul_left_comm]
    congr 1
    exact at2_tabC_scale _ _ _ _ (fun i _ m => nfft_scale c r _ _ (fun x _ => tab_scale _ _ _ _
      (fun x _ => sumList_scale _ _ _ _ (fun j => mul_left_comm _ _ _)) x) m) i m
  · rw [sumList_scale (List.range C) (r : ℂ) _ _ (fun j => mul_assoc _ _ _)]
    ring
  · simp only [nabla_scale_real c r c.D (·) (fun _ => 0)]
    rw [mul_left_comm]
    congr 1
    exact nfft_scale c r _ _ (fun x _ => tab_scale _ _ _ _
      (fun x _ => sumList_scale _ _ _ _ (fun j => mul_left_comm _ _ _)) x) m
  · rw [sumList_scale (List.range c.D) (r : ℂ) _ _ (fun j => rfl)]
    ring

/-- **Convection.**  `dt · convection(L = ℓ; b) = convection(L = 1; b dt / ℓ)`: all four variants, every channel
    and index, any `D`, `N`, dealiasing fraction, arbitrary complex spectrum; `normalize_convection_scale` is the
    regenerated conversion. -/
theorem convection_scaling (c : Cfg ℂ) (ℓ : ℝ) (dt b : ℂ) (C : ℕ) (single conservative : Bool) (uh : MC ℂ)
    (ch h : ℕ) :
    dt * at2 (convection (withS c (c.s / (ℓ : ℂ))) C b single conservative uh) ch h
      = at2 (convection c C (normalize_convection_scale b (ℓ : ℂ) dt) single conservative uh) ch h := by
  have e2 : normalize_convection_scale b (ℓ : ℂ) dt = (dt * ((ℓ⁻¹ : ℝ) : ℂ)) * b := by
    simp only [normalize_convection_scale]
    push_cast
    ring
  rw [withS_div_real, e2, convection_withS_real, convection_scale_mul]
  ring

theorem gradientNorm_scale_mul (c : Cfg ℂ) (C : ℕ) (z b : ℂ) (zeroFix : Bool) (uh : MC ℂ) (ch h : ℕ) :
    at2 (gradientNorm c C (z * b) zeroFix uh) ch h = z * at2 (gradientNorm c C b zeroFix uh) ch h := by
  unfold gradientNorm
  simp only []
  exact at2_tab2_scale _ _ z _ _ (fun k _ x _ => by ring) ch h

theorem meanFix_scale (z : ℂ) (C G : ℕ) (zeroFix : Bool) (Q Q' : MC ℂ)
    (hq : ∀ k x, at2 Q' k x = z * at2 Q k x) (k x : ℕ) :
    at2 (tab2 C G fun ch x => if zeroFix = true then
        at2 Q' ch x - (tab C fun ch => sumRange G (fun x => at2 Q' ch x) / lit G).getD ch 0 else at2 Q' ch x) k x
      = z * at2 (tab2 C G fun ch x => if zeroFix = true then
        at2 Q ch x - (tab C fun ch => sumRange G (fun x => at2 Q ch x) / lit G).getD ch 0 else at2 Q ch x) k x := by
  refine at2_tab2_scale _ _ _ _ _ (fun k _ x _ => ?_) k x
  cases zeroFix
  · exact hq k x
  · simp only [↓reduceIte, hq]
    rw [tab_scale C z (fun ch => sumRange G (fun x => at2 Q ch x) / lit G) _
      (fun k _ => by rw [sumRange_scale G z (fun x => at2 Q k x) _ (fun _ _ => rfl), mul_div_assoc])]
    ring

/-- multiplying the scale `s = 2π/L` by a REAL factor `r` multiplies the gradient-norm term by `r²`
    (two derivatives, applied before `irfftn`), with or without the mean fix -/
theorem gradientNorm_withS_real (c : Cfg ℂ) (r : ℝ) (C : ℕ) (b : ℂ) (zeroFix : Bool) (uh : MC ℂ) (ch h : ℕ) :
    at2 (gradientNorm (withS c ((r : ℂ) * c.s)) C b zeroFix uh) ch h
      = ((r : ℂ) * (r : ℂ)) * at2 (gradientNorm c C b zeroFix uh) ch h := by
  unfold gradientNorm
  simp only [nifft_withS, nfft_withS, gridSize_withS, modes_withS, withS_D, deriv_withS_mul,
    nabla_scale_real c r (C * c.D) (· % c.D) (· / c.D)]
  refine at2_tab2_scale _ _ _ _ _ (fun i _ m _ => ?_) ch h
  rw [mul_left_comm ((r : ℂ) * r), mul_left_comm ((r : ℂ) * r)]
  congr 2
  exact at2_tabC_scale _ _ _ _ (fun k _ m => nfft_scale c _ _ _ (fun x _ =>
    meanFix_scale _ _ _ _ _ _ (fun k x => at2_tab2_scale _ _ _ _ _ (fun k _ x _ =>
      sumList_scale _ _ _ _ (fun d => mul_mul_mul_comm _ _ _ _)) k x) k x) m) i m

/-- **Gradient norm.**  `dt · gradientNorm(L = ℓ; b) = gradientNorm(L = 1; b dt / ℓ²)`; with or without the mean
    fix, every channel and index; `normalize_gradient_norm_scale` is the regenerated conversion. -/
theorem gradientNorm_scaling (c : Cfg ℂ) (ℓ : ℝ) (dt b : ℂ) (C : ℕ) (zeroFix : Bool) (uh : MC ℂ) (ch h : ℕ) :
    dt * at2 (gradientNorm (withS c (c.s / (ℓ : ℂ))) C b zeroFix uh) ch h
      = at2 (gradientNorm c C (normalize_gradient_norm_scale b (ℓ : ℂ) dt) zeroFix uh) ch h := by
  have e2 : normalize_gradient_norm_scale b (ℓ : ℂ) dt
      = (dt * (((ℓ⁻¹ : ℝ) : ℂ) * ((ℓ⁻¹ : ℝ) : ℂ))) * b := by
    simp only [normalize_gradient_norm_scale, npow_eq]
    push_cast
    ring
  rw [withS_div_real, e2, gradientNorm_withS_real, gradientNorm_scale_mul]
  ring

theorem polynomial_withS (c : Cfg ℂ) (s' : ℂ) (C : ℕ) (coeffs : List ℂ) (uh : MC ℂ) :
    polynomial (withS c s') C coeffs uh = polynomial c C coeffs uh := rfl

theorem polyEval_foldl_scale (dt u : ℂ) (coeffs : List ℂ) (a1 a2 : ℂ) :
    ((coeffs.map (fun co => co * dt)).foldl
        (fun (acc : ℂ × ℂ) co => (acc.1 + co * acc.2, acc.2 * u)) (dt * a1, a2)).1
      = dt * (coeffs.foldl (fun (acc : ℂ × ℂ) co => (acc.1 + co * acc.2, acc.2 * u)) (a1, a2)).1 := by
  induction coeffs generalizing a1 a2 with
  | nil => rfl
  | cons co cs ih =>
    simp only [List.map_cons, List.foldl_cons]
    have e : dt * a1 + co * dt * a2 = dt * (a1 + co * a2) := by ring
    rw [e]
    exact ih _ _

theorem polyEval_scale (dt u : ℂ) (coeffs : List ℂ) :
    polyEval (coeffs.map (fun co => co * dt)) u = dt * polyEval coeffs u := by
  unfold polyEval
  have h := polyEval_foldl_scale dt u coeffs 0 1
  rw [mul_zero] at h
  exact h

/-- **Polynomial.**  `dt · polynomial(coeffs) = polynomial(coeffs · dt)` (`normalize_polynomial_scales`), every
    complex `dt`, every channel and index. -/
theorem polynomial_scaling (c : Cfg ℂ) (L dt : ℂ) (C : ℕ) (coeffs : List ℂ) (uh : MC ℂ) (ch h : ℕ) :
    dt * at2 (polynomial c C coeffs uh) ch h
      = at2 (polynomial c C (normalize_polynomial_scales coeffs L dt) uh) ch h := by
  unfold polynomial normalize_polynomial_scales
  simp only []
  exact (at2_tabC_scale _ dt _ _ (fun k _ m => nfft_scale c dt _ _
    (fun x _ => tab_scale _ _ _ _ (fun x _ => polyEval_scale dt _ coeffs) x) m) ch h).symm

/-- **General nonlinear term** (quadratic + single-channel conservative convection + gradient norm),
    componentwise: `dt · general(L = ℓ; b₀, b₁, b₂) = general(L = 1; b₀ dt, b₁ dt/ℓ, b₂ dt/ℓ²)`. -/
theorem general_scaling (c : Cfg ℂ) (ℓ : ℝ) (dt b0 b1 b2 : ℂ) (C : ℕ) (zeroFix : Bool) (uh : MC ℂ) (ch h : ℕ) :
    dt * at2 (general (withS c (c.s / (ℓ : ℂ))) C b0 b1 b2 zeroFix uh) ch h
      = at2 (general c C (b0 * dt) (normalize_convection_scale b1 (ℓ : ℂ) dt)
          (normalize_gradient_norm_scale b2 (ℓ : ℂ) dt) zeroFix uh) ch h := by
  have hp : normalize_polynomial_scales [0, 0, b0] (ℓ : ℂ) dt = [0, 0, b0 * dt] := by
    simp [normalize_polynomial_scales]
  have hc : normalize_convection_scale (-b1) (ℓ : ℂ) dt = -normalize_convection_scale b1 (ℓ : ℂ) dt := by
    simp only [normalize_convection_scale]; ring
  have hg : normalize_gradient_norm_scale (-b2) (ℓ : ℂ) dt
      = -normalize_gradient_norm_scale b2 (ℓ : ℂ) dt := by
    simp only [normalize_gradient_norm_scale]; ring
  unfold general
  simp only [modes_withS, polynomial_withS]
  rw [at2_tab2_any, at2_tab2_any]
  split_ifs with hk
  · rw [mul_add, mul_add, polynomial_scaling c (ℓ : ℂ) dt, convection_scaling, gradientNorm_scaling, hp, hc, hg]
  · rw [mul_zero]

/-- `sumList_scale`, `sumRange_scale`, `tab_scale`, `at2_tab2_scale`, `at2_tabC_scale` -/
example : ∃ (z : ℂ) (f g : ℕ → ℂ), ∀ j, g j = z * f j := ⟨2, fun j => j, fun j => 2 * j, fun _ => rfl⟩

/-- `rfftnM_scale`, `nfft_scale`, `irfftnM_scale_real`, `nifft_scale_real`: scaled arrays exist -/
example : ∃ (r : ℝ) (u v : Array ℂ), ∀ j, j < 4 ^ 2 → v.getD j 0 = (r : ℂ) * u.getD j 0 :=
  ⟨3, tab 16 (fun j => (j : ℂ)), tab 16 (fun j => ((3 : ℝ) : ℂ) * (j : ℂ)), fun j hj => by
    have hj' : j < 16 := by simpa using hj
    rw [DFT.tab_getD _ _ _ _ hj', DFT.tab_getD _ _ _ _ hj']⟩

end Exponax.Interface
