import ExponaxModel.Proofs.ReadOffND
import ExponaxModel.Proofs.ExactLinearModes
import ExponaxModel.Proofs.MetricsAlgebra
import ExponaxModel.Model.Spectrum
/-
C17: the radial spectrum of the model (`Spectrum.quantity`, `Spectrum.spectrum`) as sums over the stored modes, and
the amplitude read-off of one resolved mode `u = a cos(2π κ·j/N + φ)`, `κ` strictly below Nyquist, every `D ≥ 1`.
The per-mode amplitude is `|û_h| · w_h / N^D` (`w = herm_weight`, because the `reconstruction` scaling is `N^D / w_h`).
When `κ_last ≠ 0` one stored mode (`κ` or `−κ`) carries `|a|/2 · N^D` with weight `2`; when `κ_last = 0` both are
stored with weight `1` and fall into the same bin.  The proofs treat the two cases as one: the stored copies of `±κ`
have total Hermitian weight `2` (`SmallGaps3.sum_weight_ind2`, which allows Nyquist components: `namespace SmallGaps3`
below reads off every `κ` with `|κ_d| ≤ N/2`, and the statements below Nyquist are its cases).
-/
namespace Exponax.ReadOff
open Exponax Exponax.Layout Exponax.Transform Exponax.DFT Exponax.ExactLinear Finset
open Exponax.Spectrum (quantity)
open scoped ComplexConjugate

theorem inv_scaling_one (D N h : ℕ) (hD : 1 ≤ D) (hN : 0 < N) (hh : h < numModes D N) :
    (1 : ℂ) / (scaling D N 1 (unflatten (wavenumberShape D N) h) : ℂ)
      = (herm_weight D N h : ℂ) / (N : ℂ) ^ D := by
  have h1 := Metrics.one_div_reconScale D N h hD hN hh
  have h2 : ((Metrics.reconScale D N h : ℝ) : ℂ) = (scaling D N 1 (unflatten (wavenumberShape D N) h) : ℂ) := by
    unfold Metrics.reconScale
    rw [scaling_mode_one D N hD, scaling_mode_one D N hD]
    split_ifs <;> push_cast <;> rfl
  rw [← h2]
  have := congrArg (fun x : ℝ => (x : ℂ)) h1
  push_cast at this
  exact this

theorem quantity_amp (D N : ℕ) (hD : 1 ≤ D) (hN : 0 < N) (uh : Array ℂ) (h : ℕ) (hh : h < numModes D N) :
    quantity D N false uh h
      = ((‖uh.getD h 0‖ : ℝ) : ℂ) * ((herm_weight D N h : ℂ) / (N : ℂ) ^ D) := by
  unfold quantity
  simp only [Bool.false_eq_true, if_false]
  rw [div_eq_mul_one_div, inv_scaling_one D N h hD hN hh]
  rfl

theorem quantity_pow (D N : ℕ) (hD : 1 ≤ D) (hN : 0 < N) (uh : Array ℂ) (h : ℕ) (hh : h < numModes D N) :
    quantity D N true uh h
      = 1 / 2 * (((‖uh.getD h 0‖ : ℝ) : ℂ) * ((herm_weight D N h : ℂ) / (N : ℂ) ^ D))
          * (((‖uh.getD h 0‖ : ℝ) : ℂ) / (N : ℂ) ^ D) := by
  unfold quantity
  simp only [if_true]
  rw [div_eq_mul_one_div _ (scaling D N 1 _ : ℂ), inv_scaling_one D N h hD hN hh, scaling_mode_zero]
  simp only [qlit_eq, Nat.cast_one, Nat.cast_ofNat]
  rfl

theorem sumList_filter_range (M : ℕ) (p : ℕ → Bool) (f : ℕ → ℂ) :
    sumList (((List.range M).filter p).map f) = ∑ h ∈ range M, if p h = true then f h else 0 := by
  rw [sumList_eq]
  induction M with
  | zero => simp
  | succ M ih =>
    rw [List.range_succ, List.filter_append, List.map_append, List.sum_append, ih, Finset.sum_range_succ]
    congr 1
    cases hp : p M <;> simp [hp]

theorem spectrum_getD_sum_nd (D N : ℕ) (hD1 : D ≠ 1) (power : Bool) (u : Array ℂ) (b : ℕ)
    (hb : b < N / 2 + 1) :
    (Spectrum.spectrum D N power false u).getD b 0
      = ∑ h ∈ range (numModes D N),
          if inBin (wnFlat D N h) b = true then quantity D N power (rfftnM D N u) h else 0 := by
  unfold Spectrum.spectrum
  simp only [if_neg hD1, Bool.false_eq_true, if_false]
  rw [tab_getD _ _ _ _ hb, sumList_filter_range]
  apply Finset.sum_congr rfl
  intro h hh
  have hh' := Finset.mem_range.mp hh
  rw [tab_getD _ _ _ _ hh', tab_getD _ _ _ _ hh']

theorem inBin_singleton (h b : ℕ) : inBin [(h : ℤ)] b = true ↔ b = h := by
  have hself : inBin [(h : ℤ)] h = true := by
    rw [inBin_iff, normSq_cons, normSq_nil, add_zero, show 4 * (h : ℤ) ^ 2 = (2 * h) ^ 2 by ring]
    exact ⟨(le_or_gt _ 0).imp_right fun hp => pow_le_pow_left₀ hp.le (by omega) 2,
      pow_lt_pow_left₀ (by omega) (by positivity) two_ne_zero⟩
  constructor
  · intro hb; exact inBin_unique _ b h hb hself
  · rintro rfl; exact hself

/-- 1-D (no binning in the model, any `average`): entry `b` is mode `b`, which is the same sum -/
theorem spectrum_getD_sum_1d (N : ℕ) (power average : Bool) (u : Array ℂ) (b : ℕ) (hb : b < N / 2 + 1) :
    (Spectrum.spectrum 1 N power average u).getD b 0
      = ∑ h ∈ range (numModes 1 N),
          if inBin (wnFlat 1 N h) b = true then quantity 1 N power (rfftnM 1 N u) h else 0 := by
  have hM : numModes 1 N = N / 2 + 1 := by rw [numModes_eq]; simp
  unfold Spectrum.spectrum
  simp only [if_true]
  rw [tab_getD _ _ _ _ (by rw [hM]; exact hb)]
  rw [Finset.sum_eq_single b]
  · rw [wnFlat_one N b, if_pos ((inBin_singleton b b).mpr rfl)]
  · intro h hh hne
    rw [wnFlat_one N h, if_neg]
    rw [inBin_singleton]
    exact fun e => hne e.symm
  · intro hnot
    exact absurd (Finset.mem_range.mpr (by rw [hM]; exact hb)) hnot

theorem spectrum_getD_sum (D N : ℕ) (hD : 1 ≤ D) (power : Bool) (u : Array ℂ) (b : ℕ) (hb : b < N / 2 + 1) :
    (Spectrum.spectrum D N power false u).getD b 0
      = ∑ h ∈ range (numModes D N),
          if inBin (wnFlat D N h) b = true then quantity D N power (rfftnM D N u) h else 0 := by
  by_cases hD1 : D = 1
  · subst hD1; exact spectrum_getD_sum_1d N power false u b hb
  · exact spectrum_getD_sum_nd D N hD1 power u b hb

@[simp] theorem spectrum_size_nd (D N : ℕ) (hD1 : D ≠ 1) (power average : Bool) (u : Array ℂ) :
    (Spectrum.spectrum D N power average u).size = N / 2 + 1 := by
  unfold Spectrum.spectrum
  simp only [if_neg hD1]
  simp

theorem spectrum_size_1d (N : ℕ) (power average : Bool) (u : Array ℂ) :
    (Spectrum.spectrum 1 N power average u).size = N / 2 + 1 := by
  unfold Spectrum.spectrum
  simp only [if_true]
  rw [tab_size, numModes_eq]
  simp

theorem norm_coef (a φ : ℝ) (n : ℕ) :
    ‖(a / 2 : ℂ) * (n : ℂ) * Complex.exp (φ * Complex.I)‖ = |a| / 2 * n := by
  have e : ((a : ℂ) / 2) = ((a / 2 : ℝ) : ℂ) := by push_cast; ring
  rw [norm_mul, norm_mul, Complex.norm_exp_ofReal_mul_I, mul_one, Complex.norm_natCast, e, Complex.norm_real,
    Real.norm_eq_abs, abs_div, abs_two]

theorem norm_coef' (a φ : ℝ) (n : ℕ) :
    ‖(a / 2 : ℂ) * (n : ℂ) * Complex.exp (-(φ * Complex.I))‖ = |a| / 2 * n := by
  rw [← conj_coef, Complex.norm_conj, norm_coef]

theorem normSq_negK (κ : List ℤ) : normSq (negK κ) = normSq κ := by
  rw [normSq_eq_sum, normSq_eq_sum, negK, List.map_map]
  congr 1
  apply List.map_congr_left
  intro x _
  simp

theorem inBin_negK (κ : List ℤ) (b : ℕ) : inBin (negK κ) b = inBin κ b := by
  unfold inBin
  rw [normSq_negK]

end Exponax.ReadOff

namespace Exponax.SmallGaps3
open Exponax Exponax.Layout Exponax.Transform Exponax.DFT Exponax.ExactLinear Exponax.SmallGaps2 Exponax.ReadOff Finset
open Exponax.Spectrum (quantity)

theorem canonC_sq (D N d : ℕ) (x : ℤ) : canonC D N d x ^ 2 = x ^ 2 := by
  unfold canonC
  split_ifs <;> ring

theorem normSq_canonK (D N : ℕ) (κ : List ℤ) (hκ : κ.length = D) : normSq (canonK D N κ) = normSq κ := by
  have h1 := kappaSq_eq_normSq (canonK D N κ)
  have h2 := kappaSq_eq_normSq κ
  rw [canonK_length] at h1
  rw [hκ] at h2
  rw [← h1, ← h2]
  unfold kappaSq
  apply Finset.sum_congr rfl
  intro d hd
  rw [canonK_getD D N κ d (Finset.mem_range.mp hd), canonC_sq]

theorem inBin_canonK (D N : ℕ) (κ : List ℤ) (hκ : κ.length = D) (b : ℕ) : inBin (canonK D N κ) b = inBin κ b := by
  unfold inBin
  rw [normSq_canonK D N κ hκ]

theorem inBin_of_ind2_ne_zero (D N : ℕ) (κ : List ℤ) (hκ : κ.length = D) (b h : ℕ) (h0 : ind2 D N κ h ≠ 0) :
    inBin (wnFlat D N h) b = inBin κ b := by
  by_cases hA : wnFlat D N h = canonK D N κ
  · rw [hA, inBin_canonK D N κ hκ]
  · by_cases hB : wnFlat D N h = canonK D N (negK κ)
    · rw [hB, inBin_canonK D N (negK κ) (by rw [negK_length]; exact hκ), inBin_negK]
    · exact absurd (by unfold ind2; rw [if_neg hA, if_neg hB, add_zero]) h0

/-- a field whose stored quantity lives on the stored copies of `±κ` only: bin `b` holds the whole sum iff `κ ∈ bin b` -/
theorem spectrum_getD_of_ind2 (D N : ℕ) (hD : 1 ≤ D) (κ : List ℤ) (hκ : κ.length = D) (power : Bool) (u : Array ℂ)
    (hq : ∀ h < numModes D N, ind2 D N κ h = 0 → quantity D N power (rfftnM D N u) h = 0)
    (b : ℕ) (hb : b < N / 2 + 1) :
    (Spectrum.spectrum D N power false u).getD b 0
      = if inBin κ b = true then ∑ h ∈ range (numModes D N), quantity D N power (rfftnM D N u) h else 0 := by
  have hterm : ∀ h ∈ range (numModes D N),
      (if inBin (wnFlat D N h) b = true then quantity D N power (rfftnM D N u) h else 0)
        = if inBin κ b = true then quantity D N power (rfftnM D N u) h else 0 := by
    intro h hh
    by_cases h0 : ind2 D N κ h = 0
    · rw [hq h (Finset.mem_range.mp hh) h0, ite_self, ite_self]
    · rw [inBin_of_ind2_ne_zero D N κ hκ b h h0]
  rw [spectrum_getD_sum D N hD power _ b hb, Finset.sum_congr rfl hterm]
  split_ifs
  · rfl
  · exact Finset.sum_const_zero

theorem scale_cancel (P : ℂ) (hP : P ≠ 0) (c i w : ℂ) : c * P * i * (w / P) = c * (w * i) := by
  field_simp

/-- amplitude: if `|û_h| = (A/2)·N^D·([k(h) = canonK κ] + [k(h) = canonK(−κ)])` then bin `b` holds `A` iff `κ ∈ bin b` -/
theorem spectrum_amplitude_of_norm (D N : ℕ) (hD : 1 ≤ D) (hN : 0 < N) (κ : List ℤ) (hκ : AtMostNyquist D N κ)
    (u : Array ℂ) (A : ℝ)
    (hnorm : ∀ h < numModes D N, ((‖(rfftnM D N u).getD h 0‖ : ℝ) : ℂ) = (A : ℂ) / 2 * ((N : ℂ) ^ D) * ind2 D N κ h)
    (b : ℕ) (hb : b < N / 2 + 1) :
    (Spectrum.spectrum D N false false u).getD b 0 = if inBin κ b = true then (A : ℂ) else 0 := by
  have hNne : ((N : ℂ)) ^ D ≠ 0 := pow_ne_zero _ (Nat.cast_ne_zero.mpr hN.ne')
  have hq : ∀ h < numModes D N, quantity D N false (rfftnM D N u) h
      = (A : ℂ) / 2 * ((herm_weight D N h : ℂ) * ind2 D N κ h) := fun h hh => by
    rw [quantity_amp D N hD hN _ h hh, hnorm h hh, scale_cancel _ hNne]
  have h2 := sum_weight_ind2 D N hD hN κ hκ
  rw [spectrum_getD_of_ind2 D N hD κ hκ.1 false u (fun h hh h0 => by rw [hq h hh, h0, mul_zero, mul_zero]) b hb,
    Finset.sum_congr rfl (fun h hh => hq h (Finset.mem_range.mp hh)), ← Finset.mul_sum, h2,
    div_mul_cancel₀ _ two_ne_zero]

/-- power: the same with the weighted sum of the SQUARED indicator `q = Σ_h w_h·ind_h²` (`2`, or `4` when self-conjugate);
    the bin holds `P = A²q/8` -/
theorem spectrum_power_of_norm (D N : ℕ) (hD : 1 ≤ D) (hN : 0 < N) (κ : List ℤ) (hκ : AtMostNyquist D N κ)
    (u : Array ℂ) (A : ℝ)
    (hnorm : ∀ h < numModes D N, ((‖(rfftnM D N u).getD h 0‖ : ℝ) : ℂ) = (A : ℂ) / 2 * ((N : ℂ) ^ D) * ind2 D N κ h)
    (q : ℂ) (hq : ∑ h ∈ range (numModes D N), (herm_weight D N h : ℂ) * ind2 D N κ h ^ 2 = q)
    (P : ℝ) (hP : (A : ℂ) ^ 2 / 8 * q = (P : ℂ)) (b : ℕ) (hb : b < N / 2 + 1) :
    (Spectrum.spectrum D N true false u).getD b 0 = if inBin κ b = true then (P : ℂ) else 0 := by
  have hNne : ((N : ℂ)) ^ D ≠ 0 := pow_ne_zero _ (Nat.cast_ne_zero.mpr hN.ne')
  have hQ : ∀ h < numModes D N, quantity D N true (rfftnM D N u) h
      = (A : ℂ) ^ 2 / 8 * ((herm_weight D N h : ℂ) * ind2 D N κ h ^ 2) := fun h hh => by
    rw [quantity_pow D N hD hN _ h hh, hnorm h hh, scale_cancel _ hNne, div_eq_mul_one_div (_ * _), scale_cancel _ hNne]
    ring
  rw [spectrum_getD_of_ind2 D N hD κ hκ.1 true u
      (fun h hh h0 => by rw [hQ h hh, h0, zero_pow two_ne_zero, mul_zero, mul_zero]) b hb,
    Finset.sum_congr rfl (fun h hh => hQ h (Finset.mem_range.mp hh)), ← Finset.mul_sum, hq, hP]

theorem norm_modeField_selfconj (D N : ℕ) (hD : 0 < D) (hN : 0 < N) (κ : List ℤ) (hκ : AtMostNyquist D N κ)
    (hs : SelfConj D N κ) (a φ : ℝ) (h : ℕ) (hh : h < numModes D N) :
    ((‖(rfftnM D N (modeField D N κ a φ)).getD h 0‖ : ℝ) : ℂ)
      = ((|a * Real.cos φ| : ℝ) : ℂ) / 2 * ((N : ℂ) ^ D) * ind2 D N κ h := by
  rw [rfftnM_modeField_selfconj D N hD hN κ hκ hs a φ h hh]
  unfold ind2
  rw [canonK_negK_of_selfConj D N κ hs]
  by_cases hk : wnFlat D N h = canonK D N κ
  · rw [if_pos hk, if_pos hk, Complex.norm_real, Real.norm_eq_abs, abs_mul (a * Real.cos φ),
      abs_of_nonneg (by positivity : (0 : ℝ) ≤ ((N ^ D : ℕ) : ℝ))]
    push_cast
    ring
  · rw [if_neg hk, if_neg hk, norm_zero, Complex.ofReal_zero, add_zero, mul_zero]

theorem norm_modeField_pair (D N : ℕ) (hD : 0 < D) (hN : 0 < N) (κ : List ℤ) (hκ : AtMostNyquist D N κ)
    (hs : ¬ SelfConj D N κ) (a φ : ℝ) (h : ℕ) (hh : h < numModes D N) :
    ((‖(rfftnM D N (modeField D N κ a φ)).getD h 0‖ : ℝ) : ℂ)
      = ((|a| : ℝ) : ℂ) / 2 * ((N : ℂ) ^ D) * ind2 D N κ h := by
  have hne := canonK_negK_ne_of_not_selfConj D N κ hs
  obtain ⟨c1, c2, c3⟩ := rfftnM_modeField_nyquist_cases D N hD hN κ hκ hs a φ h hh
  unfold ind2
  by_cases hA : wnFlat D N h = canonK D N κ
  · have hB : ¬ wnFlat D N h = canonK D N (negK κ) := fun hB => hne (hB.symm.trans hA)
    rw [c1 hA, if_pos hA, if_neg hB, norm_coef]
    push_cast
    ring
  · by_cases hB : wnFlat D N h = canonK D N (negK κ)
    · rw [c2 hB, if_neg hA, if_pos hB, norm_coef']
      push_cast
      ring
    · rw [c3 hA hB, if_neg hA, if_neg hB, norm_zero, Complex.ofReal_zero, add_zero, mul_zero]

theorem sum_ind2_sq_selfconj (D N : ℕ) (hD : 0 < D) (hN : 0 < N) (κ : List ℤ) (hκ : AtMostNyquist D N κ)
    (hs : SelfConj D N κ) :
    ∑ h ∈ range (numModes D N), (herm_weight D N h : ℂ) * ind2 D N κ h ^ 2 = 4 := by
  have h2 := sum_weight_ind2 D N hD hN κ hκ
  have e : ∀ h ∈ range (numModes D N), (herm_weight D N h : ℂ) * ind2 D N κ h ^ 2
      = 2 * ((herm_weight D N h : ℂ) * ind2 D N κ h) := by
    intro h _
    unfold ind2
    rw [canonK_negK_of_selfConj D N κ hs]
    split_ifs <;> ring
  rw [Finset.sum_congr rfl e, ← Finset.mul_sum, h2]
  norm_num

theorem sum_ind2_sq_pair (D N : ℕ) (hD : 0 < D) (hN : 0 < N) (κ : List ℤ) (hκ : AtMostNyquist D N κ)
    (hs : ¬ SelfConj D N κ) :
    ∑ h ∈ range (numModes D N), (herm_weight D N h : ℂ) * ind2 D N κ h ^ 2 = 2 := by
  have hne := canonK_negK_ne_of_not_selfConj D N κ hs
  have h2 := sum_weight_ind2 D N hD hN κ hκ
  have e : ∀ h ∈ range (numModes D N), (herm_weight D N h : ℂ) * ind2 D N κ h ^ 2
      = (herm_weight D N h : ℂ) * ind2 D N κ h := by
    intro h _
    unfold ind2
    by_cases hA : wnFlat D N h = canonK D N κ
    · have hB : ¬ wnFlat D N h = canonK D N (negK κ) := fun hB => hne (hB.symm.trans hA)
      rw [if_pos hA, if_neg hB]; ring
    · split_ifs <;> ring
  rw [Finset.sum_congr rfl e, h2]

/-- **amplitude, self-conjugate `κ`** (all components in `{0, ±N/2}`, `κ = 0` included): `|a cos φ|` in the bin of `κ` -/
theorem spectrum_amplitude_selfconj (D N : ℕ) (hD : 1 ≤ D) (hN : 0 < N) (κ : List ℤ) (hκ : AtMostNyquist D N κ)
    (hs : SelfConj D N κ) (a φ : ℝ) (b : ℕ) (hb : b < N / 2 + 1) :
    (Spectrum.spectrum D N false false (modeField D N κ a φ)).getD b 0
      = if inBin κ b = true then ((|a * Real.cos φ| : ℝ) : ℂ) else 0 :=
  spectrum_amplitude_of_norm D N hD hN κ hκ _ _ (norm_modeField_selfconj D N hD hN κ hκ hs a φ) b hb

/-- **amplitude, every other `κ` with `|κ_d| ≤ N/2`** (Nyquist components allowed): the documented `|a|` -/
theorem spectrum_amplitude_nyquist (D N : ℕ) (hD : 1 ≤ D) (hN : 0 < N) (κ : List ℤ) (hκ : AtMostNyquist D N κ)
    (hs : ¬ SelfConj D N κ) (a φ : ℝ) (b : ℕ) (hb : b < N / 2 + 1) :
    (Spectrum.spectrum D N false false (modeField D N κ a φ)).getD b 0
      = if inBin κ b = true then ((|a| : ℝ) : ℂ) else 0 :=
  spectrum_amplitude_of_norm D N hD hN κ hκ _ _ (norm_modeField_pair D N hD hN κ hκ hs a φ) b hb

/-- **power, self-conjugate `κ`**: `(a cos φ)²/2 = ½·mean(u²)` in the bin of `κ` -/
theorem spectrum_power_selfconj (D N : ℕ) (hD : 1 ≤ D) (hN : 0 < N) (κ : List ℤ) (hκ : AtMostNyquist D N κ)
    (hs : SelfConj D N κ) (a φ : ℝ) (b : ℕ) (hb : b < N / 2 + 1) :
    (Spectrum.spectrum D N true false (modeField D N κ a φ)).getD b 0
      = if inBin κ b = true then (((a * Real.cos φ) ^ 2 / 2 : ℝ) : ℂ) else 0 := by
  refine spectrum_power_of_norm D N hD hN κ hκ _ _ (norm_modeField_selfconj D N hD hN κ hκ hs a φ) 4
    (sum_ind2_sq_selfconj D N hD hN κ hκ hs) _ ?_ b hb
  rw [← Complex.ofReal_pow, sq_abs]
  push_cast
  ring

/-- **power, every other `κ`**: the documented `a²/4 = ½·mean(u²)` -/
theorem spectrum_power_nyquist (D N : ℕ) (hD : 1 ≤ D) (hN : 0 < N) (κ : List ℤ) (hκ : AtMostNyquist D N κ)
    (hs : ¬ SelfConj D N κ) (a φ : ℝ) (b : ℕ) (hb : b < N / 2 + 1) :
    (Spectrum.spectrum D N true false (modeField D N κ a φ)).getD b 0
      = if inBin κ b = true then ((a ^ 2 / 4 : ℝ) : ℂ) else 0 := by
  refine spectrum_power_of_norm D N hD hN κ hκ _ _ (norm_modeField_pair D N hD hN κ hκ hs a φ) 2
    (sum_ind2_sq_pair D N hD hN κ hκ hs) _ ?_ b hb
  rw [← Complex.ofReal_pow, sq_abs]
  push_cast
  ring

open Classical in
/-- what `get_spectrum` returns for `a cos(κ·x + φ)`, every `κ` with `|κ_d| ≤ N/2` -/
theorem spectrum_modeField_atMostNyquist (D N : ℕ) (hD : 1 ≤ D) (hN : 0 < N) (κ : List ℤ) (hκ : AtMostNyquist D N κ)
    (a φ : ℝ) (b : ℕ) (hb : b < N / 2 + 1) :
    (Spectrum.spectrum D N false false (modeField D N κ a φ)).getD b 0
        = (if inBin κ b = true then (((if SelfConj D N κ then |a * Real.cos φ| else |a|) : ℝ) : ℂ) else 0) ∧
    (Spectrum.spectrum D N true false (modeField D N κ a φ)).getD b 0
        = (if inBin κ b = true then (((if SelfConj D N κ then (a * Real.cos φ) ^ 2 / 2 else a ^ 2 / 4) : ℝ) : ℂ)
            else 0) := by
  by_cases hs : SelfConj D N κ
  · rw [if_pos hs, if_pos hs]
    exact ⟨spectrum_amplitude_selfconj D N hD hN κ hκ hs a φ b hb, spectrum_power_selfconj D N hD hN κ hκ hs a φ b hb⟩
  · rw [if_neg hs, if_neg hs]
    exact ⟨spectrum_amplitude_nyquist D N hD hN κ hκ hs a φ b hb, spectrum_power_nyquist D N hD hN κ hκ hs a φ b hb⟩

/-! non-vacuity, `N = 4` (`N/2 = 2`): a self-conjugate Nyquist wave inside the sphere (bin 2), a non-self-conjugate
Nyquist wave inside the sphere (`(2,1)`, `|κ| ≈ 2.24`, bin 2), and the corner `(2,2)` (`|κ| ≈ 2.83 ≥ 2.5`) which is dropped -/
example : AtMostNyquist 2 4 [2, 0] ∧ SelfConj 2 4 [2, 0] ∧ inBin [2, 0] 2 = true ∧ 2 < 4 / 2 + 1 := by
  unfold AtMostNyquist SelfConj
  decide
example : AtMostNyquist 2 4 [2, 1] ∧ ¬ SelfConj 2 4 [2, 1] ∧ inBin [2, 1] 2 = true := by
  unfold AtMostNyquist SelfConj
  decide
example : AtMostNyquist 2 4 [2, 2] ∧ SelfConj 2 4 [2, 2] ∧ 4 / 2 + 1 ≤ roundNorm [2, 2] := by
  have : roundNorm [2, 2] = 3 := ((inBin_iff_eq_roundNorm _ 3).mp (by decide)).symm
  rw [this]
  unfold AtMostNyquist SelfConj
  decide

end Exponax.SmallGaps3

namespace Exponax.ReadOff
open Exponax Exponax.Layout Exponax.Transform Exponax.DFT Exponax.ExactLinear Exponax.SmallGaps2 Exponax.SmallGaps3 Finset
open Exponax.Spectrum (quantity)
open scoped ComplexConjugate

theorem not_selfConj_of_below {D N : ℕ} {κ : List ℤ} (hκ : BelowNyquist D N κ) (hne : ∃ d < D, κ.getD d 0 ≠ 0) :
    ¬ SelfConj D N κ := by
  intro hs
  obtain ⟨d, hd, hne⟩ := hne
  have h := hκ.2 d hd
  have h1 := le_abs_self (κ.getD d 0)
  have h2 := neg_abs_le (κ.getD d 0)
  rcases hs d hd with h0 | h0 | h0 <;> omega

theorem selfConj_of_zero {D N : ℕ} {κ : List ℤ} (h0 : ∀ d < D, κ.getD d 0 = 0) : SelfConj D N κ :=
  fun d hd => Or.inl (h0 d hd)

theorem atMostNyquist_of_zero {D N : ℕ} {κ : List ℤ} (hκ : κ.length = D) (h0 : ∀ d < D, κ.getD d 0 = 0) :
    AtMostNyquist D N κ :=
  ⟨hκ, fun d hd => by rw [h0 d hd, abs_zero, mul_zero]; exact Int.natCast_nonneg N⟩

theorem inBin_zero_iff {D : ℕ} {κ : List ℤ} (hκ : κ.length = D) (h0 : ∀ d < D, κ.getD d 0 = 0) (b : ℕ) :
    inBin κ b = true ↔ b = 0 := by
  have hz : normSq κ = 0 := by
    rw [normSq_eq_zero_iff]
    intro kd hk
    obtain ⟨i, hi, rfl⟩ := List.getElem_of_mem hk
    have := h0 i (hκ ▸ hi)
    rwa [List.getD_eq_getElem?_getD, List.getElem?_eq_getElem hi] at this
  rw [inBin_iff_eq_roundNorm, roundNorm, hz]
  rfl

/-- C17, amplitude, `κ ≠ 0`: bin `b ≤ N/2` of the amplitude spectrum of `a cos(2π κ·j/N + φ)` holds `|a|` if
    `κ` lies in the bin, else `0`.  Every `D ≥ 1`, odd or even `N`, any sign pattern of `κ` (including `κ_last = 0`,
    where two stored modes contribute `|a|/2` each, and `κ_last < 0`, where the stored mode is `−κ`). -/
theorem spectrum_amplitude_modeField (D N : ℕ) (hD : 1 ≤ D) (hN : 0 < N) (κ : List ℤ)
    (hκ : BelowNyquist D N κ) (hne : ∃ d < D, κ.getD d 0 ≠ 0) (a φ : ℝ) (b : ℕ) (hb : b < N / 2 + 1) :
    (Spectrum.spectrum D N false false (modeField D N κ a φ)).getD b 0
      = if inBin κ b = true then ((|a| : ℝ) : ℂ) else 0 :=
  SmallGaps3.spectrum_amplitude_nyquist D N hD hN κ (atMostNyquist_of_below hκ) (not_selfConj_of_below hκ hne) a φ b hb

theorem spectrum_amplitude_modeField_round (D N : ℕ) (hD : 1 ≤ D) (hN : 0 < N) (κ : List ℤ)
    (hκ : BelowNyquist D N κ) (hne : ∃ d < D, κ.getD d 0 ≠ 0) (a φ : ℝ) (b : ℕ) (hb : b < N / 2 + 1) :
    (Spectrum.spectrum D N false false (modeField D N κ a φ)).getD b 0
      = if b = roundNorm κ then ((|a| : ℝ) : ℂ) else 0 := by
  rw [spectrum_amplitude_modeField D N hD hN κ hκ hne a φ b hb]
  simp only [inBin_iff_eq_roundNorm]

/-- C17, amplitude, `κ = 0`: bin `0` holds `|a cos φ|`, every other bin `0`. -/
theorem spectrum_amplitude_const (D N : ℕ) (hD : 1 ≤ D) (hN : 0 < N) (κ : List ℤ) (hκ : κ.length = D)
    (h0 : ∀ d < D, κ.getD d 0 = 0) (a φ : ℝ) (b : ℕ) (hb : b < N / 2 + 1) :
    (Spectrum.spectrum D N false false (modeField D N κ a φ)).getD b 0
      = if b = 0 then ((|a * Real.cos φ| : ℝ) : ℂ) else 0 := by
  rw [SmallGaps3.spectrum_amplitude_selfconj D N hD hN κ (atMostNyquist_of_zero hκ h0) (selfConj_of_zero h0) a φ b hb]
  exact if_congr (inBin_zero_iff hκ h0 b) rfl rfl

example : BelowNyquist 2 8 [3, 0] ∧ (∃ d < 2, ([3, 0] : List ℤ).getD d 0 ≠ 0) ∧ inBin [3, 0] 3 = true ∧ 3 < 8 / 2 + 1 :=
  ⟨⟨rfl, by intro d hd; interval_cases d <;> simp⟩, ⟨0, by norm_num, by decide⟩, by decide, by norm_num⟩
example : BelowNyquist 3 8 [2, -2, -1] ∧ roundNorm [2, -2, -1] = 3 := by
  refine ⟨⟨rfl, by intro d hd; interval_cases d <;> simp⟩, ?_⟩
  exact ((inBin_iff_eq_roundNorm _ 3).mp (by decide)).symm
example : ([0, 0] : List ℤ).length = 2 ∧ ∀ d < 2, ([0, 0] : List ℤ).getD d 0 = 0 :=
  ⟨rfl, by intro d hd; interval_cases d <;> simp⟩

end Exponax.ReadOff

/-
C17 — average binning = sum binning / count.

For EVERY dimension `D`, every state `u` (real or not) and EVERY bin index `b`:
  `spectrum D N p true u [b] = spectrum D N p false u [b] / binCount D N b`
where `binCount D N b` is the number of stored modes `h < numModes D N` with `inBin (wnFlat D N h) b`
(literally the length of the list `sel` the model divides by).  For `D = 1` the model does not bin and
ignores `average`; the identity then holds because every bin `b ≤ N/2` holds exactly one stored mode
(`binCount_one`).  For `1 ≤ D`, `0 < N` and `b ≤ N/2` the count is positive (`binCount_pos`: the on-axis
mode `(0,…,0,b)`, flat index `b`, lies in bin `b`), so the average never divides by zero.
-/
namespace Exponax.SmallGaps
open Exponax Exponax.Layout Exponax.Transform Exponax.DFT Finset

/-- the stored modes the model selects for radial bin `b` -/
def binModes (D N b : ℕ) : List ℕ :=
  (List.range (numModes D N)).filter (fun h => inBin (wnFlat D N h) b)

def binCount (D N b : ℕ) : ℕ := (binModes D N b).length

theorem mem_binModes (D N b h : ℕ) :
    h ∈ binModes D N b ↔ h < numModes D N ∧ inBin (wnFlat D N h) b = true := by
  simp [binModes]

theorem binCount_one (N b : ℕ) (hb : b < N / 2 + 1) : binCount 1 N b = 1 := by
  have hM : numModes 1 N = N / 2 + 1 := by rw [numModes_eq]; simp
  have hp : ∀ h ∈ List.range (numModes 1 N), (inBin (wnFlat 1 N h) b = true ↔ (h == b) = true) := fun h hh => by
    rw [DFT.wnFlat_one N h, ReadOff.inBin_singleton, beq_iff_eq]
    exact eq_comm
  unfold binCount binModes
  rw [← List.countP_eq_length_filter, List.countP_congr hp]
  exact List.count_eq_one_of_mem List.nodup_range (List.mem_range.mpr (hM ▸ hb))

/-- average binning = sum binning divided by the number of stored modes in the bin —
    every `D`, `N`, power/amplitude, every state, every bin index -/
theorem spectrum_average_eq_sum_div_count (D N : ℕ) (p : Bool) (u : Array ℂ) (b : ℕ) :
    (Spectrum.spectrum D N p true u).getD b 0
      = (Spectrum.spectrum D N p false u).getD b 0 / (binCount D N b : ℂ) := by
  by_cases hD1 : D = 1
  · subst hD1
    have e : Spectrum.spectrum 1 N p true u = Spectrum.spectrum 1 N p false u := by
      unfold Spectrum.spectrum
      simp only [if_true]
    rw [e]
    rcases Nat.lt_or_ge b (N / 2 + 1) with hb | hb
    · rw [binCount_one N b hb, Nat.cast_one, div_one]
    · rw [DFT.getD_of_size_le _ b (by rw [ReadOff.spectrum_size_1d]; exact hb), zero_div]
  · unfold Spectrum.spectrum
    simp only [if_neg hD1, if_true, Bool.false_eq_true, if_false]
    rcases Nat.lt_or_ge b (N / 2 + 1) with hb | hb
    · rw [tab_getD _ _ _ _ hb, tab_getD _ _ _ _ hb]
      have hsel : (List.range (numModes D N)).filter
          (fun h => inBin ((tab (numModes D N) (wnFlat D N)).getD h []) b) = binModes D N b := by
        unfold binModes
        apply List.filter_congr
        intro h hh
        rw [tab_getD _ _ _ _ (List.mem_range.mp hh)]
      rw [hsel]
      rfl
    · rw [tab_getD_of_le _ _ _ _ hb, tab_getD_of_le _ _ _ _ hb, zero_div]

theorem wnFlat_axis (E N b : ℕ) (hN : 0 < N) (hb : b < N / 2 + 1) :
    wnFlat (E + 1) N b = List.replicate E 0 ++ [(b : ℤ)] := by
  have hlt : b < numModes (E + 1) N :=
    numModes_succ E N ▸ lt_of_lt_of_le hb (Nat.le_mul_of_pos_left _ (Nat.pow_pos hN))
  apply ExactLinear.list_ext_getD _ _ (E + 1) (Layout.wnFlat_length _ _ _) (by simp)
  intro d hd
  rcases Nat.lt_or_ge d E with hdE | hdE
  · refine (AliasND.kvec_leading E N b hlt ⟨d, hd⟩ hdE).trans ?_
    rw [Nat.div_eq_of_lt hb, AliasND.digit_zero, (fftfreq_eq_zero_iff N 0 hN).mpr rfl]
    simp [List.getD_eq_getElem?_getD, List.getElem?_append_left, hdE]
  · obtain rfl : d = E := by omega
    refine (AliasND.kvec_last d N b hlt ⟨d, hd⟩ rfl).trans ?_
    rw [Nat.mod_eq_of_lt hb]
    simp [List.getD_eq_getElem?_getD]

theorem normSq_axis (E : ℕ) (b : ℤ) : normSq (List.replicate E 0 ++ [b]) = b ^ 2 := by
  induction E with
  | zero => simp [normSq_cons, normSq_nil]
  | succ E ih => rw [List.replicate_succ, List.cons_append, normSq_cons, ih]; ring

theorem inBin_axis (E b : ℕ) : inBin (List.replicate E 0 ++ [(b : ℤ)]) b = true := by
  rw [inBin_iff, normSq_axis, show (2 * (b : ℤ) - 1) ^ 2 = 4 * (b : ℤ) ^ 2 - (4 * b - 1) by ring,
    show (2 * (b : ℤ) + 1) ^ 2 = 4 * (b : ℤ) ^ 2 + (4 * b + 1) by ring]
  omega

/-- no division by zero: every bin `b ≤ N/2` holds at least one stored mode, in every
    dimension `D ≥ 1` (`N ≥ 1`): the on-axis mode `(0,…,0,b)` -/
theorem binCount_pos (D N b : ℕ) (hD : 1 ≤ D) (hN : 0 < N) (hb : b ≤ N / 2) : 0 < binCount D N b := by
  obtain ⟨E, rfl⟩ : ∃ E, D = E + 1 := ⟨D - 1, by omega⟩
  have hb' : b < N / 2 + 1 := by omega
  apply List.length_pos_of_mem (a := b)
  rw [mem_binModes, wnFlat_axis E N b hN hb', numModes_succ]
  exact ⟨lt_of_lt_of_le hb' (Nat.le_mul_of_pos_left _ (Nat.pow_pos hN)), inBin_axis E b⟩

theorem spectrum_average (D N : ℕ) (hD : 1 ≤ D) (hN : 0 < N) (p : Bool) (u : Array ℂ) (b : ℕ) :
    (Spectrum.spectrum D N p true u).getD b 0
        = (Spectrum.spectrum D N p false u).getD b 0 / (binCount D N b : ℂ) ∧
      (b ≤ N / 2 → 0 < binCount D N b) :=
  ⟨spectrum_average_eq_sum_div_count D N p u b, binCount_pos D N b hD hN⟩

/-! non-vacuity / sanity: in 2-D on 4 points bin 1 holds the five stored modes (0,1), (1,0), (1,1), (−1,0), (−1,1),
all at distance < 1.5: the count differs from 1, so "average" and "sum" really differ -/
example : binCount 2 4 1 = 5 := by decide
example : binCount 1 8 3 = 1 := binCount_one 8 3 (by norm_num)
example : (1 : ℕ) ≤ 2 ∧ 0 < 4 ∧ 1 ≤ 4 / 2 := by norm_num

end Exponax.SmallGaps
