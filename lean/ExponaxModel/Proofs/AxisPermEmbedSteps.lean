import ExponaxModel.Proofs.AxisPermEmbedTerms
import ExponaxModel.Proofs.Symmetry
import ExponaxModel.Proofs.StageRel
/-
C08, steps: `n` ETDRK steps (orders 0–4) in `D` dimensions of a state embedded along the last axis are the
embedding of `n` 1-D steps, for every complex 1-D multi-channel state, every `N ≥ 1`, any dealiasing fraction,
provided the coefficient arrays agree on the last axis (`EmbCoef`; `embCoef_generalLinear`, with the order-0
coefficient counted `D` times, `Symmetry.polySymbol_generalLinear_embed`) and the terms are paired by `TermEmbed`.
This is the step level (`Proofs/StageRel`) of the stage relation `embRel`, whose first side is the 1-D run.
-/
namespace Exponax.AxisPerm
open Exponax.Layout Exponax.Transform Exponax.Nonlin
open Exponax.Gen.Etdrk
open Exponax.EquivND (liftTermND specMC physCh liftTermND_apply)

def EmbMC (c : Cfg ℂ) (v v1 : ℕ → ℕ → ℂ) : Prop :=
  ∀ ch h, h < modes c → v ch h = if h < c.N / 2 + 1 then embScale c * v1 ch h else 0

def EmbCoef (c : Cfg ℂ) (e e1 : ℕ → ℕ → ℂ) : Prop := ∀ ch h, h < c.N / 2 + 1 → e ch h = e1 ch h

/-- `EmbMC` is the channelwise relation of `embRel` on spectral states (sides exchanged); `EmbCoef c e e1` unfolds to
    `Stage.FnCov (embRel c hD hN) id e1 e` -/
theorem embMC_iff_fnS (c : Cfg ℂ) (hD : 0 < c.D) (hN : 0 < c.N) (v v1 : ℕ → ℕ → ℂ) :
    EmbMC c v v1 ↔ Stage.FnS (embRel c hD hN) id v1 v :=
  forall_congr' fun ch => (embSpec_tab_iff c (v ch) (v1 ch)).symm

theorem liftTermND_embed (c : Cfg ℂ) (hD : 0 < c.D) (hN : 0 < c.N) (C : ℕ) (T T1 : MC ℂ → MC ℂ)
    (hT : TermEmbed c T T1) (v1 v : ℕ → ℕ → ℂ) (h : Stage.FnS (embRel c hD hN) id v1 v) :
    Stage.FnS (embRel c hD hN) id (liftTermND (cfg1 c) C T1 v1) (liftTermND c C T v) :=
  (embRel c hD hN).liftTermND_rel id (id_lt_iff C) (termEmbed_iff_termRel.mp hT) v1 v h

/-- `EmbCoef` holds for every function `F` (`exp(dt·)`, the ETDRK `φ`-type coefficients) of the isotropic
    `general_linear` symbol: on the last axis the `D`-dimensional symbol is the 1-D symbol with coefficients
    `(D·a₀, a₁, a₂, …)` (`Symmetry.polySymbol_generalLinear_embed`) -/
theorem embCoef_generalLinear (c : Cfg ℂ) (hD : 0 < c.D) (hN : 0 < c.N) (a : List ℂ) (F : ℂ → ℂ) :
    EmbCoef c (fun _ h => F (polySymbol c (generalLinear c.D a) h))
      (fun _ h => F (polySymbol (cfg1 c) (generalLinear (cfg1 c).D (Symmetry.embedCoefs c.D a)) h)) := by
  intro ch h hh
  show F _ = F _
  congr 1
  refine Symmetry.polySymbol_generalLinear_embed c (cfg1 c) rfl rfl (c.D - 1) h h (by omega) ?_ ?_ a
  · intro e he hne
    have := kvec_lastAxis c.D c.N h hD hN hh ⟨e, he⟩
    rwa [if_neg hne] at this
  · have := kvec_lastAxis c.D c.N h hD hN hh ⟨c.D - 1, by omega⟩
    rw [if_pos rfl] at this
    exact (kvec_one c.N h 0).trans this.symm

def embedMC (c : Cfg ℂ) (u1 : MC ℂ) : MC ℂ := u1.map (embedAxis c.D c.N (c.D - 1))

/-- entries of a channel of `u.map f`, also beyond the channels of `u` when `f #[]` reads as zero -/
theorem map_getD_getD (f : Array ℂ → Array ℂ) (hf : ∀ j, (f #[]).getD j 0 = 0) (u : MC ℂ) (ch j : ℕ) :
    ((u.map f).getD ch #[]).getD j 0 = (f (u.getD ch #[])).getD j 0 := by
  rw [EquivND.getD_map]
  by_cases hc : ch < u.size
  · rw [if_pos hc]
  · have e : u.getD ch #[] = #[] := by simp [Array.getD, hc]
    rw [if_neg hc, e, hf]
    simp

theorem embedAxis_empty_getD (D N a j : ℕ) : (embedAxis D N a #[]).getD j 0 = 0 := by
  unfold embedAxis
  rcases Nat.lt_or_ge j (N ^ D) with hj | hj
  · rw [DFT.tab_getD _ _ _ _ hj]; simp
  · rw [DFT.tab_getD_of_le _ _ _ _ hj]

theorem specMC_embedMC (c : Cfg ℂ) (hD : 0 < c.D) (hN : 0 < c.N) (u1 : MC ℂ) :
    EmbMC c (specMC c.D c.N (embedMC c u1)) (specMC 1 c.N u1) := by
  intro ch h hh
  show (rfftnM c.D c.N ((embedMC c u1).getD ch #[])).getD h 0 = _
  rw [DFT.rfftnM_congr c.D c.N ((embedMC c u1).getD ch #[]) (embedAxis c.D c.N (c.D - 1) (u1.getD ch #[]))
      (fun j _ => map_getD_getD (embedAxis c.D c.N (c.D - 1)) (embedAxis_empty_getD _ _ _) u1 ch j),
    rfftn_embedLast_pos c.D c.N hD hN _ h hh]
  rfl

/-- C08 for any pair of step maps preserving the relation of `embRel` -/
theorem physical_embed (c : Cfg ℂ) (hD : 0 < c.D) (hN : 0 < c.N)
    (step step1 : (ℕ → ℕ → ℂ) → (ℕ → ℕ → ℂ))
    (hstep : ∀ v1 v, Stage.FnS (embRel c hD hN) id v1 v → Stage.FnS (embRel c hD hN) id (step1 v1) (step v))
    (n : ℕ) (u1 : MC ℂ) (ch : ℕ) :
    physCh c.D c.N (step^[n] (specMC c.D c.N (embedMC c u1))) ch
      = embedAxis c.D c.N (c.D - 1) (physCh 1 c.N (step1^[n] (specMC 1 c.N u1)) ch) :=
  irfftn_embedLast c.D c.N hD hN _ _ (Etdrk.iterate_rel _ step1 step hstep n _ _
    ((embMC_iff_fnS c hD hN _ _).mp (specMC_embedMC c hD hN u1)) ch)

section Physical
variable (c : Cfg ℂ) (hD : 0 < c.D) (hN : 0 < c.N) (C : ℕ) (T T1 : MC ℂ → MC ℂ) (hT : TermEmbed c T T1)
include hD hN hT

omit hT in
/-- C08, linear steppers (ETDRK0) -/
theorem E0_embed_physical {E E' : ℕ → ℕ → ℂ} (hE : EmbCoef c E E') (n : ℕ) (u1 : MC ℂ) (ch : ℕ) :
    physCh c.D c.N ((E0step E)^[n] (specMC c.D c.N (embedMC c u1))) ch
      = embedAxis c.D c.N (c.D - 1) (physCh 1 c.N ((E0step E')^[n] (specMC 1 c.N u1)) ch) :=
  physical_embed c hD hN _ _ (fun _ _ hv => Etdrk.E0step_rel ((embRel c hD hN).stepRel id) hE hv) n u1 ch

theorem E1_embed_physical {E c1 E' c1' : ℕ → ℕ → ℂ} (hE : EmbCoef c E E') (h1 : EmbCoef c c1 c1')
    (n : ℕ) (u1 : MC ℂ) (ch : ℕ) :
    physCh c.D c.N ((E1step E c1 (liftTermND c C T))^[n] (specMC c.D c.N (embedMC c u1))) ch
      = embedAxis c.D c.N (c.D - 1)
          (physCh 1 c.N ((E1step E' c1' (liftTermND (cfg1 c) C T1))^[n] (specMC 1 c.N u1)) ch) :=
  physical_embed c hD hN _ _ (fun _ _ hv => Etdrk.E1step_rel ((embRel c hD hN).stepRel id)
    (liftTermND_embed c hD hN C T T1 hT) hE h1 hv) n u1 ch

theorem E2_embed_physical {E c1 c2 E' c1' c2' : ℕ → ℕ → ℂ} (hE : EmbCoef c E E') (h1 : EmbCoef c c1 c1')
    (h2 : EmbCoef c c2 c2') (n : ℕ) (u1 : MC ℂ) (ch : ℕ) :
    physCh c.D c.N ((E2step E c1 c2 (liftTermND c C T))^[n] (specMC c.D c.N (embedMC c u1))) ch
      = embedAxis c.D c.N (c.D - 1)
          (physCh 1 c.N ((E2step E' c1' c2' (liftTermND (cfg1 c) C T1))^[n] (specMC 1 c.N u1)) ch) :=
  physical_embed c hD hN _ _ (fun _ _ hv => Etdrk.E2step_rel ((embRel c hD hN).stepRel id)
    (liftTermND_embed c hD hN C T T1 hT) hE h1 h2 hv) n u1 ch

theorem E3_embed_physical {E Eh c1 c2 c3 c4 c5 E' Eh' c1' c2' c3' c4' c5' : ℕ → ℕ → ℂ}
    (hE : EmbCoef c E E') (hEh : EmbCoef c Eh Eh') (h1 : EmbCoef c c1 c1') (h2 : EmbCoef c c2 c2')
    (h3 : EmbCoef c c3 c3') (h4 : EmbCoef c c4 c4') (h5 : EmbCoef c c5 c5') (n : ℕ) (u1 : MC ℂ) (ch : ℕ) :
    physCh c.D c.N ((E3step E Eh c1 c2 c3 c4 c5 (liftTermND c C T))^[n]
        (specMC c.D c.N (embedMC c u1))) ch
      = embedAxis c.D c.N (c.D - 1)
          (physCh 1 c.N ((E3step E' Eh' c1' c2' c3' c4' c5' (liftTermND (cfg1 c) C T1))^[n]
            (specMC 1 c.N u1)) ch) :=
  physical_embed c hD hN _ _ (fun _ _ hv => Etdrk.E3step_rel ((embRel c hD hN).stepRel id)
    (liftTermND_embed c hD hN C T T1 hT) hE hEh h1 h2 h3 h4 h5 hv) n u1 ch

theorem E4_embed_physical {E Eh c1 c2 c3 c4 c5 c6 E' Eh' c1' c2' c3' c4' c5' c6' : ℕ → ℕ → ℂ}
    (hE : EmbCoef c E E') (hEh : EmbCoef c Eh Eh') (h1 : EmbCoef c c1 c1') (h2 : EmbCoef c c2 c2')
    (h3 : EmbCoef c c3 c3') (h4 : EmbCoef c c4 c4') (h5 : EmbCoef c c5 c5') (h6 : EmbCoef c c6 c6')
    (n : ℕ) (u1 : MC ℂ) (ch : ℕ) :
    physCh c.D c.N ((E4step E Eh c1 c2 c3 c4 c5 c6 (liftTermND c C T))^[n]
        (specMC c.D c.N (embedMC c u1))) ch
      = embedAxis c.D c.N (c.D - 1)
          (physCh 1 c.N ((E4step E' Eh' c1' c2' c3' c4' c5' c6' (liftTermND (cfg1 c) C T1))^[n]
            (specMC 1 c.N u1)) ch) :=
  physical_embed c hD hN _ _ (fun _ _ hv => Etdrk.E4step_rel ((embRel c hD hN).stepRel id)
    (liftTermND_embed c hD hN C T T1 hT) hE hEh h1 h2 h3 h4 h5 h6 hv) n u1 ch

end Physical

example (c : Cfg ℂ) (hD : 0 < c.D) (hN : 0 < c.N) : ∃ T T1 : MC ℂ → MC ℂ, TermEmbed c T T1 :=
  ⟨_, _, general_embed c hD hN 1 1 1 1 true⟩

example (c : Cfg ℂ) (hD : 0 < c.D) (hN : 0 < c.N) : ∃ E E' : ℕ → ℕ → ℂ, EmbCoef c E E' :=
  ⟨_, _, embCoef_generalLinear c hD hN [1, 0, 1] Complex.exp⟩

example (c : Cfg ℂ) (hD : 0 < c.D) (hN : 0 < c.N) (u1 : MC ℂ) : ∃ v v1, EmbMC c v v1 :=
  ⟨_, _, specMC_embedMC c hD hN u1⟩

end Exponax.AxisPerm
