import ExponaxModel.Properties.C02
import ExponaxModel.Proofs.LinearTestOrderTab
/-
C02: order of accuracy of ETDRK1–4 on the linear test family `u' = λu + N(u)`, `N(u) = μu` (`λ, μ ∈ ℂ`; the exact flow
multiplies by `e^{(λ+μ)dt}`), with the exact Cox–Matthews coefficients written with the entire φ-functions
`ContourTail.phi1e/phi2e/phi3e`, so that `λ = 0` needs no case distinction.  One step multiplies by `R_p(λdt, μdt)`, and
`R_p(λt, μt) − e^{(λ+μ)t} = t^{p+1}·Q_p(t)` with `Q_p` the polynomial `Q?tab` in `λ, μ, t` and the entire remainders
`φ_{p+1}(λt), φ_{p+1}(λt/2), φ_{p+1}((λ+μ)t)` (for p = 1, 2 the `λt/2` slot is `1`).
-/
noncomputable section
namespace Exponax.LinearOrder
open Exponax Exponax.Spec Exponax.ContourTail Exponax.Gen.Etdrk

/-- amplification factors: one ETDRK`p` step of size `dt` on the test family multiplies by `R_p(λdt, μdt)` -/
def R1 (z w : ℂ) : ℂ := Complex.exp z + w * phi1e z

def R2 (z w : ℂ) : ℂ :=
  Complex.exp z + w * (phi1e z + (Complex.exp z - 1) * phi2e z) + w ^ 2 * (phi1e z * phi2e z)

/-- the three final-stage weight combinations of ETDRK3/4 (without the factor `dt`) -/
def wA (z : ℂ) : ℂ := phi1e z - 3 * phi2e z + 4 * phi3e z
def wB (z : ℂ) : ℂ := phi2e z - 2 * phi3e z
def wC (z : ℂ) : ℂ := 4 * phi3e z - phi2e z

def R3 (z w : ℂ) : ℂ :=
  Complex.exp z + w * (wA z + 4 * wB z * Complex.exp (z / 2) + wC z * Complex.exp z)
    + w ^ 2 * (2 * wB z * phi1e (z / 2) + wC z * phi1e z * (2 * Complex.exp (z / 2) - 1))
    + w ^ 3 * (wC z * phi1e z * phi1e (z / 2))

def R4 (z w : ℂ) : ℂ :=
  Complex.exp z + w * (wA z + 4 * wB z * Complex.exp (z / 2) + wC z * Complex.exp z)
    + w ^ 2 * (wB z * phi1e (z / 2) * (1 + Complex.exp (z / 2))
        + wC z * phi1e (z / 2) * (3 * Complex.exp (z / 2) - 1) / 2)
    + w ^ 3 * (phi1e (z / 2) ^ 2 * (wB z + wC z * Complex.exp (z / 2)) / 2)
    + w ^ 4 * (wC z * phi1e (z / 2) ^ 3 / 4)

/-- `R₂` in the form the scheme computes it: `R₂ = R₁ + w φ₂ (R₁ − 1)` -/
theorem R2_eq_stages (z w : ℂ) : R2 z w = R1 z w + w * phi2e z * (R1 z w - 1) := by
  simp only [R1, R2]; ring

/-- `R₃` in stage form: the stages are `A = e^{z/2} + (w/2)φ₁(z/2)` and `B = e^z + wφ₁(z)(2A − 1)` -/
theorem R3_eq_stages (z w : ℂ) :
    R3 z w = Complex.exp z + w * wA z
      + w * (4 * wB z) * (Complex.exp (z / 2) + w / 2 * phi1e (z / 2))
      + w * wC z * (Complex.exp z
          + w * phi1e z * (2 * (Complex.exp (z / 2) + w / 2 * phi1e (z / 2)) - 1)) := by
  simp only [R3]; ring

theorem exp_half_sq (z : ℂ) : Complex.exp (z / 2) * Complex.exp (z / 2) = Complex.exp z := by
  rw [← Complex.exp_add, add_halves]

theorem R4_eq_stages (z w : ℂ) :
    let A := Complex.exp (z / 2) + w / 2 * phi1e (z / 2)
    let B := Complex.exp (z / 2) + w / 2 * phi1e (z / 2) * A
    let C := Complex.exp (z / 2) * A + w / 2 * phi1e (z / 2) * (2 * B - 1)
    R4 z w = Complex.exp z + w * wA z + 2 * w * wB z * (A + B) + w * wC z * C := by
  intro A B C
  have h := exp_half_sq z
  simp only [R4, A, B, C]
  linear_combination (-(w * wC z)) * h

/-- the factor by which `Gen.Etdrk.E?step` (and `cm?`) with ARBITRARY coefficients multiplies on `N v = μ v` -/
def amp1 (m E c1 : ℂ) : ℂ := E + c1 * m

def amp2 (m E c1 c2 : ℂ) : ℂ := (E + c1 * m) + c2 * m * ((E + c1 * m) - 1)

def amp3 (m E Eh ch c1 cb1 cb2 cb3 : ℂ) : ℂ :=
  E + cb1 * m + cb2 * m * (Eh + ch * m) + cb3 * m * (E + c1 * m * (2 * (Eh + ch * m) - 1))

def amp4 (m E Eh c1 c2 c3 c4 c5 c6 : ℂ) : ℂ :=
  E + c4 * m + 2 * c5 * m * ((Eh + c1 * m) + (Eh + c2 * m * (Eh + c1 * m)))
    + c6 * m * (Eh * (Eh + c1 * m) + c3 * m * (2 * (Eh + c2 * m * (Eh + c1 * m)) - 1))

theorem E1step_amp (m E c1 u : ℂ) : E1step E c1 (fun v => m * v) u = amp1 m E c1 * u := by
  simp only [E1step, amp1]; ring

theorem E2step_amp (m E c1 c2 u : ℂ) : E2step E c1 c2 (fun v => m * v) u = amp2 m E c1 c2 * u := by
  simp only [E2step, amp2]; ring

theorem E3step_amp (m E Eh ch c1 cb1 cb2 cb3 u : ℂ) :
    E3step E Eh ch c1 cb1 cb2 cb3 (fun v => m * v) u = amp3 m E Eh ch c1 cb1 cb2 cb3 * u := by
  simp only [E3step, amp3, lit_eq]
  push_cast
  ring

theorem E4step_amp (m E Eh c1 c2 c3 c4 c5 c6 u : ℂ) :
    E4step E Eh c1 c2 c3 c4 c5 c6 (fun v => m * v) u = amp4 m E Eh c1 c2 c3 c4 c5 c6 * u := by
  simp only [E4step, amp4, lit_eq]
  push_cast
  ring

theorem cm1_amp (m E c1 u : ℂ) : cm1 E c1 (fun v => m * v) u = amp1 m E c1 * u := by
  rw [← C02_step_E1, E1step_amp]

theorem cm2_amp (m E c1 c2 u : ℂ) : cm2 E c1 c2 (fun v => m * v) u = amp2 m E c1 c2 * u := by
  rw [← C02_step_E2, E2step_amp]

theorem cm3_amp (m E Eh ch c1 cb1 cb2 cb3 u : ℂ) :
    cm3 E Eh ch c1 cb1 cb2 cb3 (fun v => m * v) u = amp3 m E Eh ch c1 cb1 cb2 cb3 * u := by
  rw [← C02_step_E3, E3step_amp]

/-- `cm4` has one half-step coefficient where `E4step` stores three equal ones (`_coef_1 = _coef_2 = _coef_3`) -/
theorem cm4_amp (m E Eh ch c4 c5 c6 u : ℂ) :
    cm4 E Eh ch c4 c5 c6 (fun v => m * v) u = amp4 m E Eh ch ch ch c4 c5 c6 * u := by
  rw [← C02_step_E4, E4step_amp]

theorem amp1_exact (z dt m : ℂ) : amp1 m (Complex.exp z) (dt * phi1e z) = R1 z (m * dt) := by
  simp only [amp1, R1]; ring

theorem amp2_exact (z dt m : ℂ) :
    amp2 m (Complex.exp z) (dt * phi1e z) (dt * phi2e z) = R2 z (m * dt) := by
  simp only [amp2, R2]; ring

theorem amp3_exact (z dt m : ℂ) :
    amp3 m (Complex.exp z) (Complex.exp (z / 2)) (dt * (phi1e (z / 2) / 2)) (dt * phi1e z)
      (dt * (phi1e z - 3 * phi2e z + 4 * phi3e z)) (dt * (4 * phi2e z - 8 * phi3e z))
      (dt * (4 * phi3e z - phi2e z)) = R3 z (m * dt) := by
  simp only [amp3, R3, wA, wB, wC]; ring

theorem amp4_exact (z dt m : ℂ) :
    amp4 m (Complex.exp z) (Complex.exp (z / 2)) (dt * (phi1e (z / 2) / 2))
      (dt * (phi1e (z / 2) / 2)) (dt * (phi1e (z / 2) / 2))
      (dt * (phi1e z - 3 * phi2e z + 4 * phi3e z)) (dt * (phi2e z - 2 * phi3e z))
      (dt * (4 * phi3e z - phi2e z)) = R4 z (m * dt) := by
  simp only [amp4, R4, wA, wB, wC]
  linear_combination (m * dt * (4 * phi3e z - phi2e z)) * exp_half_sq z

theorem E4step_linear (z dt μ u : ℂ) :
    E4step (Complex.exp z) (Complex.exp (z / 2)) (dt * (phi1e (z / 2) / 2))
      (dt * (phi1e (z / 2) / 2)) (dt * (phi1e (z / 2) / 2))
      (dt * (phi1e z - 3 * phi2e z + 4 * phi3e z)) (dt * (phi2e z - 2 * phi3e z))
      (dt * (4 * phi3e z - phi2e z)) (fun v => μ * v) u = R4 z (μ * dt) * u := by
  rw [E4step_amp, amp4_exact]

/-- `phiE_succ` for `k = 0..4`, in the names the amplification factors are written in -/
theorem phi_chain (x : ℂ) :
    Complex.exp x = 1 + x * phi1e x ∧ phi1e x = 1 + x * phi2e x ∧ phi2e x = 1 / 2 + x * phi3e x ∧
    phi3e x = 1 / 6 + x * phiE 4 x ∧ phiE 4 x = 1 / 24 + x * phiE 5 x := by
  refine ⟨?_, ?_, ?_, ?_, ?_⟩
  · simpa [phiE_one] using phiE_succ 0 x
  · simpa [phiE_one, phiE_two] using phiE_succ 1 x
  · simpa [phiE_two, phiE_three, Nat.factorial] using phiE_succ 2 x
  · simpa [phiE_three, Nat.factorial] using phiE_succ 3 x
  · simpa [Nat.factorial] using phiE_succ 4 x

/- The local errors, exactly and for all `λ, μ, t ∈ ℂ`: polynomial identities in `λ, μ, t` and the remainders, once
`exp, φ₁, φ₂, φ₃` at `λt`, `λt/2`, `(λ+μ)t` are written by `phi_chain` as Horner forms ending in `φ_{p+1}`. -/

theorem R1_sub_exp (l m t : ℂ) :
    R1 (l * t) (m * t) - Complex.exp ((l + m) * t)
      = t ^ 2 * evalTab Q1tab l m t (phiE 2 (l * t)) 1 (phiE 2 ((l + m) * t)) := by
  obtain ⟨e0, e1, -⟩ := phi_chain (l * t)
  obtain ⟨g0, g1, -⟩ := phi_chain ((l + m) * t)
  simp only [R1, phiE_two]
  rw [e0, e1, g0, g1]
  generalize phi2e (l * t) = a
  generalize phi2e ((l + m) * t) = c
  simp only [Q1tab, evalTab_cons, evalTab_nil, Mono.val_mk]
  push_cast
  ring1

theorem R2_sub_exp (l m t : ℂ) :
    R2 (l * t) (m * t) - Complex.exp ((l + m) * t)
      = t ^ 3 * evalTab Q2tab l m t (phiE 3 (l * t)) 1 (phiE 3 ((l + m) * t)) := by
  obtain ⟨e0, e1, e2, -⟩ := phi_chain (l * t)
  obtain ⟨g0, g1, g2, -⟩ := phi_chain ((l + m) * t)
  simp only [R2, phiE_three]
  rw [e0, e1, e2, g0, g1, g2]
  generalize phi3e (l * t) = a
  generalize phi3e ((l + m) * t) = c
  simp only [Q2tab, evalTab_cons, evalTab_nil, Mono.val_mk]
  push_cast
  ring1

theorem R3_sub_exp (l m t : ℂ) :
    R3 (l * t) (m * t) - Complex.exp ((l + m) * t)
      = t ^ 4 * evalTab Q3tab l m t (phiE 4 (l * t)) (phiE 4 (l * t / 2)) (phiE 4 ((l + m) * t)) := by
  obtain ⟨e0, e1, e2, e3, -⟩ := phi_chain (l * t)
  obtain ⟨f0, f1, f2, f3, -⟩ := phi_chain (l * t / 2)
  obtain ⟨g0, g1, g2, g3, -⟩ := phi_chain ((l + m) * t)
  simp only [R3, wA, wB, wC]
  rw [e0, e1, e2, e3, f0, f1, f2, f3, g0, g1, g2, g3]
  generalize phiE 4 (l * t) = a
  generalize phiE 4 (l * t / 2) = b
  generalize phiE 4 ((l + m) * t) = c
  simp only [Q3tab, evalTab_cons, evalTab_nil, Mono.val_mk]
  push_cast
  ring1

theorem R4_sub_exp (l m t : ℂ) :
    R4 (l * t) (m * t) - Complex.exp ((l + m) * t)
      = t ^ 5 * evalTab Q4tab l m t (phiE 5 (l * t)) (phiE 5 (l * t / 2)) (phiE 5 ((l + m) * t)) := by
  obtain ⟨e0, e1, e2, e3, e4⟩ := phi_chain (l * t)
  obtain ⟨f0, f1, f2, f3, f4⟩ := phi_chain (l * t / 2)
  obtain ⟨g0, g1, g2, g3, g4⟩ := phi_chain ((l + m) * t)
  simp only [R4, wA, wB, wC]
  rw [e0, e1, e2, e3, e4, f0, f1, f2, f3, f4, g0, g1, g2, g3, g4]
  generalize phiE 5 (l * t) = a
  generalize phiE 5 (l * t / 2) = b
  generalize phiE 5 ((l + m) * t) = c
  -- two `simp only` calls: rewriting inside the 163 nested sums while they are being formed exceeds the recursion limit
  simp only [Q4tab, evalTab_cons, evalTab_nil]
  simp only [Mono.val_mk]
  push_cast
  ring1

theorem exists_bound_of_eq_pow_mul (g Q : ℝ → ℂ) (n : ℕ) (hQ : Continuous Q)
    (h : ∀ t : ℝ, g t = (t : ℂ) ^ n * Q t) (T : ℝ) :
    ∃ C : ℝ, 0 ≤ C ∧ ∀ t : ℝ, 0 ≤ t → t ≤ T → ‖g t‖ ≤ C * t ^ n := by
  obtain ⟨C, hC⟩ := isCompact_Icc.exists_bound_of_continuousOn
    (hQ.continuousOn (s := Set.Icc (0 : ℝ) T))
  refine ⟨max C 0, le_max_right _ _, fun t h0 hT => ?_⟩
  rw [h t, norm_mul, norm_pow, Complex.norm_real, Real.norm_eq_abs, abs_of_nonneg h0, mul_comm]
  exact mul_le_mul_of_nonneg_right ((hC t ⟨h0, hT⟩).trans (le_max_left _ _)) (pow_nonneg h0 n)

/-- for `λ = 0` (no linear part) ETDRK`p` is a classical explicit `p`-stage Runge–Kutta method of order `p`:
    its amplification factor is the degree-`p` Taylor polynomial of `e^w` -/
theorem R_at_zero (w : ℂ) :
    R1 0 w = 1 + w ∧ R2 0 w = 1 + w + w ^ 2 / 2 ∧ R3 0 w = 1 + w + w ^ 2 / 2 + w ^ 3 / 6 ∧
    R4 0 w = 1 + w + w ^ 2 / 2 + w ^ 3 / 6 + w ^ 4 / 24 := by
  refine ⟨?_, ?_, ?_, ?_⟩
  · simp only [R1, Complex.exp_zero, phi1e_zero]; ring
  · simp only [R2, Complex.exp_zero, phi1e_zero, phi2e_zero]; ring
  · simp only [R3, wA, wB, wC, zero_div, Complex.exp_zero, phi1e_zero, phi2e_zero, phi3e_zero]; ring
  · simp only [R4, wA, wB, wC, zero_div, Complex.exp_zero, phi1e_zero, phi2e_zero, phi3e_zero]; ring

theorem R_no_nonlinearity (z : ℂ) :
    R1 z 0 = Complex.exp z ∧ R2 z 0 = Complex.exp z ∧ R3 z 0 = Complex.exp z ∧
    R4 z 0 = Complex.exp z := by
  refine ⟨?_, ?_, ?_, ?_⟩
  · simp only [R1]; ring
  · simp only [R2]; ring
  · simp only [R3]; ring
  · simp only [R4]; ring

/-- C02, local order 4 of the regenerated ETDRK4 step: one step of size `t` from `u` against the exact flow -/
theorem E4step_local_order (l m : ℂ) (T : ℝ) :
    ∃ C : ℝ, 0 ≤ C ∧ ∀ (t : ℝ) (u : ℂ), 0 ≤ t → t ≤ T →
      ‖E4step (Complex.exp (l * t)) (Complex.exp (l * t / 2)) (t * (phi1e (l * t / 2) / 2))
          (t * (phi1e (l * t / 2) / 2)) (t * (phi1e (l * t / 2) / 2))
          (t * (phi1e (l * t) - 3 * phi2e (l * t) + 4 * phi3e (l * t)))
          (t * (phi2e (l * t) - 2 * phi3e (l * t)))
          (t * (4 * phi3e (l * t) - phi2e (l * t))) (fun v => m * v) u
        - Complex.exp ((l + m) * t) * u‖ ≤ C * t ^ 5 * ‖u‖ := by
  obtain ⟨C, hC, h⟩ := exists_bound_of_eq_pow_mul _ _ 5 (by fun_prop) (fun t : ℝ => R4_sub_exp l m t) T
  refine ⟨C, hC, fun t u h0 hT => ?_⟩
  rw [E4step_linear (l * t) t m u, ← sub_mul, norm_mul]
  exact mul_le_mul_of_nonneg_right (h t h0 hT) (norm_nonneg u)

/-- the same amplification factors with the closed-form coefficients of `C02_constant_nonlinearity_exact`
    (`Spec.phi1/2/3`, valid for `z ≠ 0`) -/
theorem cm_linear_closed_forms (z dt μ u : ℂ) (hz : z ≠ 0) :
    cm1 (Complex.exp z) (dt * phi1 z) (fun v => μ * v) u = R1 z (μ * dt) * u ∧
    cm2 (Complex.exp z) (dt * phi1 z) (dt * phi2 z) (fun v => μ * v) u = R2 z (μ * dt) * u ∧
    cm3 (Complex.exp z) (Complex.exp (z / 2)) (dt * (phi1 (z / 2) / 2)) (dt * phi1 z)
      (dt * (phi1 z - 3 * phi2 z + 4 * phi3 z)) (dt * (4 * phi2 z - 8 * phi3 z))
      (dt * (4 * phi3 z - phi2 z)) (fun v => μ * v) u = R3 z (μ * dt) * u ∧
    cm4 (Complex.exp z) (Complex.exp (z / 2)) (dt * (phi1 (z / 2) / 2))
      (dt * (phi1 z - 3 * phi2 z + 4 * phi3 z)) (dt * (phi2 z - 2 * phi3 z))
      (dt * (4 * phi3 z - phi2 z)) (fun v => μ * v) u = R4 z (μ * dt) * u := by
  have hz2 : z / 2 ≠ 0 := div_ne_zero hz (by norm_num)
  rw [← phi1e_of_ne z hz, ← phi2e_of_ne z hz, ← phi3e_of_ne z hz, ← phi1e_of_ne (z / 2) hz2]
  refine ⟨?_, ?_, ?_, ?_⟩
  · rw [cm1_amp, amp1_exact]
  · rw [cm2_amp, amp2_exact]
  · rw [cm3_amp, amp3_exact]
  · rw [cm4_amp, amp4_exact]

/-! ### two tools of both families: how a stage reacts to a change of its inputs, how local defects add up over the steps -/

/-- How one stage `X + a·q` of an exponential Runge–Kutta step reacts to a change of everything that enters it: what has
    been summed so far (`X`), the weight (`a`) and the value it multiplies (`q`).  With `a = a'` this is the stability
    step, with `X, q` built from the same state the coefficient-perturbation step.  Every stability bound
    (`*Vec_stable`, in `ι → ℂ` with the sup norm, with no splitting into modes) and every perturbation bound
    (`amp?_pert`) is this lemma applied along the stage formula. -/
theorem norm_stage_sub_le {V : Type} [NormedRing V] {X X' a a' q q' : V} {A e Q α B : ℝ}
    (hX : ‖X - X'‖ ≤ A) (hda : ‖a - a'‖ ≤ e) (hq : ‖q‖ ≤ Q) (ha' : ‖a'‖ ≤ α) (hdq : ‖q - q'‖ ≤ B) :
    ‖(X + a * q) - (X' + a' * q')‖ ≤ A + (e * Q + α * B) := by
  rw [add_sub_add_comm, show a * q - a' * q' = (a - a') * q + a' * (q - q') by noncomm_ring]
  exact norm_add_le_of_le hX (norm_add_le_of_le (norm_mul_le_of_le hda hq) (norm_mul_le_of_le ha' hdq))

/-- what does not change between the two evaluations of a stage -/
theorem norm_sub_self_le {V : Type} [NormedAddCommGroup V] (x : V) : ‖x - x‖ ≤ 0 := (norm_sub_eq_zero_iff.mpr rfl).le

theorem norm_add_mul_sub_le {V : Type} [NormedRing V] {X X' a q q' : V} {A α B : ℝ}
    (hX : ‖X - X'‖ ≤ A) (ha : ‖a‖ ≤ α) (hq : ‖q - q'‖ ≤ B) :
    ‖(X + a * q) - (X' + a * q')‖ ≤ A + α * B :=
  (norm_stage_sub_le hX (norm_sub_self_le a) (le_refl ‖q‖) ha hq).trans_eq (by rw [zero_mul, zero_add])

theorem norm_mul_sub_mul_le {V : Type} [NormedRing V] {E p p' : V} {e A : ℝ} (hE : ‖E‖ ≤ e) (hp : ‖p - p'‖ ≤ A) :
    ‖E * p - E * p'‖ ≤ e * A := by
  rw [← mul_sub]; exact norm_mul_le_of_le hE hp

theorem norm_mul_sub_mul_right_le {V : Type} [NormedRing V] {c a m : V} {e M : ℝ} (h : ‖c - a‖ ≤ e) (hm : ‖m‖ ≤ M) :
    ‖c * m - a * m‖ ≤ e * M := by
  rw [← sub_mul]; exact norm_mul_le_of_le h hm

theorem norm_two_mul_sub_le {V : Type} [NormedRing V] {p p' : V} {A : ℝ} (hp : ‖p - p'‖ ≤ A) :
    ‖2 * p - 2 * p'‖ ≤ 2 * A := by
  rw [← mul_sub, two_mul, two_mul]; exact norm_add_le_of_le hp hp

theorem norm_two_mul_sub_sub_le {V : Type} [NormedRing V] {p p' q q' : V} {A B : ℝ} (hp : ‖p - p'‖ ≤ A)
    (hq : ‖q - q'‖ ≤ B) : ‖(2 * p - q) - (2 * p' - q')‖ ≤ 2 * A + B := by
  rw [sub_sub_sub_comm]; exact norm_sub_le_of_le (norm_two_mul_sub_le hp) hq

/-- Lady Windermere's fan: along any sequence `U`, a map `S` with Lipschitz constant `A` carries the local defect
    `‖U (k+1) − S (U k)‖ ≤ B k` of step `k` through the `n − 1 − k` steps that remain. -/
theorem fan_sum {V : Type} [NormedAddCommGroup V] (S : V → V) (U : ℕ → V) (A : ℝ) (B : ℕ → ℝ) (hA : 0 ≤ A)
    (hstab : ∀ x y, ‖S x - S y‖ ≤ A * ‖x - y‖) (n : ℕ) (hloc : ∀ k < n, ‖U (k + 1) - S (U k)‖ ≤ B k) :
    ‖U n - S^[n] (U 0)‖ ≤ ∑ k ∈ Finset.range n, A ^ (n - 1 - k) * B k := by
  induction n with
  | zero => simp
  | succ n ih =>
    have h := (hstab (U n) (S^[n] (U 0))).trans
      (mul_le_mul_of_nonneg_left (ih fun k hk => hloc k (hk.trans n.lt_succ_self)) hA)
    rw [Finset.mul_sum] at h
    rw [Function.iterate_succ_apply', Finset.sum_range_succ, Nat.add_sub_cancel, Nat.sub_self, pow_zero, one_mul]
    refine (norm_sub_le_norm_sub_add_norm_sub _ (S (U n)) _).trans
      ((add_comm _ _).trans_le (add_le_add (h.trans_eq (Finset.sum_congr rfl fun k hk => ?_)) (hloc n n.lt_succ_self)))
    rw [← mul_assoc, ← pow_succ', show n - 1 - k + 1 = n - k by have := Finset.mem_range.mp hk; omega]

/-! ### non-vacuity -/
example : (2 : ℂ) ≠ 0 := by norm_num
/-- the hypotheses of `exists_bound_of_eq_pow_mul` are met by `g t = t²·e^t` -/
example : ∃ C : ℝ, 0 ≤ C ∧ ∀ t : ℝ, 0 ≤ t → t ≤ 1 → ‖(t : ℂ) ^ 2 * Complex.exp t‖ ≤ C * t ^ 2 :=
  exists_bound_of_eq_pow_mul (fun t : ℝ => (t : ℂ) ^ 2 * Complex.exp t) (fun t : ℝ => Complex.exp t) 2
    (by fun_prop) (fun t => rfl) 1

end Exponax.LinearOrder
end
