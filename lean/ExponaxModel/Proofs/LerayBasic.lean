import Mathlib.Tactic
import Mathlib.Data.Complex.Basic
import ExponaxModel.Proofs.DFTBasic
import ExponaxModel.Model.Nonlin
/-
Array read-off lemmas (`tab`, `tab2`, `at2`), the derivative-operator entry, the
second-order Laplace symbol and the two guarded inverse Laplacians at `K := ℂ`; at the end the vocabulary in which the
step-level libraries speak of a model term: `EquivND.liftTermND` / `Conserve.liftNl` (a term read as a map on mode-indexed
functions), `EquivND.specMC`, `EquivND.physCh` (channelwise `rfftn` / `irfftn`).

The lemmas on the sign and realness of the Laplace symbol and of its guarded inverses assume a REAL scale
`c.s = ((s : ℝ) : ℂ)`; `laplace_two_eq_zero_iff` needs only `c.s ≠ 0`, the wavenumbers being integers.
-/
namespace Exponax.Nonlin
open Exponax Exponax.Layout Exponax.Transform

export Exponax.DFT (tab_size tab_getD tab_getD_of_le tab_congr)

theorem at2_tab2 (nc n : ℕ) (f : ℕ → ℕ → ℂ) (ch i : ℕ) (hch : ch < nc) (hi : i < n) :
    at2 (tab2 nc n f) ch i = f ch i := by
  unfold at2 tab2
  rw [tab_getD _ _ _ _ hch, tab_getD _ _ _ _ hi]

theorem at2_tab2_of_le_ch (nc n : ℕ) (f : ℕ → ℕ → ℂ) (ch i : ℕ) (hch : nc ≤ ch) :
    at2 (tab2 nc n f) ch i = 0 := by
  unfold at2 tab2
  rw [tab_getD_of_le _ _ _ _ hch]
  simp [Array.getD]

theorem at2_tab2_of_le_idx (nc n : ℕ) (f : ℕ → ℕ → ℂ) (ch i : ℕ) (hi : n ≤ i) :
    at2 (tab2 nc n f) ch i = 0 := by
  unfold at2 tab2
  rcases Nat.lt_or_ge ch nc with hch | hch
  · rw [tab_getD _ _ _ _ hch, tab_getD_of_le _ _ _ _ hi]
  · rw [tab_getD_of_le _ _ _ _ hch]
    simp [Array.getD]

theorem tab2_congr (nc n : ℕ) (f g : ℕ → ℕ → ℂ) (h : ∀ ch i, ch < nc → i < n → f ch i = g ch i) :
    tab2 nc n f = tab2 nc n g := by
  unfold tab2
  exact tab_congr _ _ _ (fun ch hch => tab_congr _ _ _ (fun i hi => h ch i hch hi))

theorem tabC_congr (nc : ℕ) (f g : ℕ → Array ℂ) (h : ∀ i, i < nc → f i = g i) : tabC nc f = tabC nc g :=
  tab_congr nc f g h

theorem tabC_getD (nc : ℕ) (f : ℕ → Array ℂ) (i : ℕ) (hi : i < nc) : (tabC nc f).getD i #[] = f i :=
  tab_getD _ _ _ _ hi

theorem tab2_getD (nc n : ℕ) (f : ℕ → ℕ → ℂ) (i : ℕ) (hi : i < nc) :
    (tab2 nc n f).getD i #[] = tab n (f i) := tab_getD _ _ _ _ hi

theorem at2_tabC (nc : ℕ) (f : ℕ → Array ℂ) (ch i : ℕ) (hch : ch < nc) :
    at2 (tabC nc f) ch i = (f ch).getD i 0 := by
  unfold at2 tabC
  rw [tab_getD _ _ _ _ hch]

theorem nifft_congr (c : Cfg ℂ) (a b : Array ℂ) (h : ∀ m, m < modes c → a.getD m 0 = b.getD m 0) :
    nifft c a = nifft c b := by
  unfold nifft
  exact congrArg _ (tab_congr _ _ _ fun m hm => by rw [h m hm])

theorem nfft_congr (c : Cfg ℂ) (a b : Array ℂ) (h : ∀ x, x < gridSize c → a.getD x 0 = b.getD x 0) :
    nfft c a = nfft c b := by
  unfold nfft
  rw [DFT.rfftnM_congr c.D c.N a b h]

theorem nifft_zero (c : Cfg ℂ) (z : Array ℂ) (hz : ∀ h < modes c, z.getD h 0 = 0) (x : ℕ) :
    (nifft c z).getD x 0 = 0 :=
  DFT.irfftnM_eq_zero c.D c.N _ (fun h (hh : h < modes c) => by rw [tab_getD _ _ _ _ hh, hz h hh, mul_zero]) x

theorem nfft_zero (c : Cfg ℂ) (u : Array ℂ) (hu : ∀ j < gridSize c, u.getD j 0 = 0) (h : ℕ) :
    (nfft c u).getD h 0 = 0 := by
  unfold nfft
  rcases Nat.lt_or_ge h (modes c) with hh | hh
  · rw [tab_getD _ _ _ _ hh, DFT.rfftnM_eq_zero c.D c.N u hu, mul_zero]
  · rw [tab_getD_of_le _ _ _ _ hh]

theorem at2_tabC_of_le (nc : ℕ) (g : ℕ → Array ℂ) (ch i : ℕ) (hc : nc ≤ ch) : at2 (tabC nc g) ch i = 0 := by
  unfold at2 tabC
  rw [tab_getD_of_le _ _ _ _ hc]
  rfl

theorem at2_tabC_any (nc : ℕ) (f : ℕ → Array ℂ) (ch i : ℕ) :
    at2 (tabC nc f) ch i = if ch < nc then (f ch).getD i 0 else 0 := by
  split_ifs with hch
  · exact at2_tabC nc f ch i hch
  · exact at2_tabC_of_le nc f ch i (Nat.le_of_not_lt hch)

theorem at2_tab2_any (nc n : ℕ) (f : ℕ → ℕ → ℂ) (ch i : ℕ) :
    at2 (tab2 nc n f) ch i = if ch < nc ∧ i < n then f ch i else 0 := by
  split_ifs with hc
  · exact at2_tab2 nc n f ch i hc.1 hc.2
  · rcases Nat.lt_or_ge ch nc with h1 | h1
    · exact at2_tab2_of_le_idx nc n f ch i (Nat.le_of_not_lt fun h2 => hc ⟨h1, h2⟩)
    · exact at2_tab2_of_le_ch nc n f ch i h1

theorem at2_tabC_zero (nc : ℕ) (f : ℕ → Array ℂ) (hf : ∀ k x, (f k).getD x 0 = 0) (ch x : ℕ) :
    at2 (tabC nc f) ch x = 0 := by
  rw [at2_tabC_any]
  split_ifs
  · exact hf ch x
  · rfl

theorem at2_tab2_eq_zero (nc n : ℕ) (f : ℕ → ℕ → ℂ) (ch i : ℕ) (hf : ch < nc → i < n → f ch i = 0) :
    at2 (tab2 nc n f) ch i = 0 := by
  rw [at2_tab2_any]
  split_ifs with hc
  · exact hf hc.1 hc.2
  · rfl

theorem at2_tab2_zero (nc n : ℕ) (f : ℕ → ℕ → ℂ) (ch h : ℕ) (hf : ∀ ch, f ch h = 0) :
    at2 (tab2 nc n f) ch h = 0 :=
  at2_tab2_eq_zero nc n f ch h fun _ _ => hf ch

theorem sumList_range_eq (n : ℕ) (f : ℕ → ℂ) :
    sumList ((List.range n).map f) = ∑ d ∈ Finset.range n, f d := by
  rw [sumList_eq, DFT.list_range_map_sum]

theorem sumList_range_congr (n : ℕ) (f g : ℕ → ℂ) (h : ∀ d, d < n → f d = g d) :
    sumList ((List.range n).map f) = sumList ((List.range n).map g) :=
  DFT.sumRange_congr n f g h

theorem sumList_range_zero (n : ℕ) (f : ℕ → ℂ) (hf : ∀ d, f d = 0) :
    sumList ((List.range n).map f) = 0 := by
  rw [sumList_range_eq]
  exact Finset.sum_eq_zero (fun d _ => hf d)

/-- the integer wavenumber of stored mode `h` along axis `d` -/
def kInt (c : Cfg ℂ) (d h : ℕ) : ℤ := (wnFlat c.D c.N h).getD d 0

theorem deriv_eq (c : Cfg ℂ) (d h : ℕ) :
    deriv c d h = Complex.I * (c.s * ((kInt c d h : ℤ) : ℂ)) := rfl

theorem deriv_eq_real (c : Cfg ℂ) (s : ℝ) (hs : c.s = (s : ℂ)) (d h : ℕ) :
    deriv c d h = Complex.I * (((s * (kInt c d h : ℝ) : ℝ)) : ℂ) := by
  rw [deriv_eq, hs]
  push_cast
  ring

/-- needs a real `2π/L`: `conj (i s k) = −(i s k)` -/
theorem conj_deriv (c : Cfg ℂ) (s : ℝ) (hs : c.s = (s : ℂ)) (d h : ℕ) :
    (starRingEnd ℂ) (Nonlin.deriv c d h) = -Nonlin.deriv c d h := by
  rw [deriv_eq_real c s hs, map_mul, Complex.conj_I, Complex.conj_ofReal]
  ring

theorem deriv_eq_zero_of_k (c : Cfg ℂ) (d h : ℕ) (hk : kInt c d h = 0) : deriv c d h = 0 := by
  rw [deriv_eq, hk, Int.cast_zero, mul_zero, mul_zero]

theorem deriv_sq (c : Cfg ℂ) (d h : ℕ) :
    deriv c d h ^ 2 = -(c.s ^ 2 * ((kInt c d h : ℤ) : ℂ) ^ 2) := by
  rw [deriv_eq, mul_pow, Complex.I_sq]
  ring

theorem laplace_two_eq_sum (c : Cfg ℂ) (h : ℕ) :
    laplace c 2 h = ∑ d ∈ Finset.range c.D, deriv c d h ^ 2 := by
  simp only [laplace, show (2 : ℕ) ≠ 0 by norm_num, if_false, npow_eq]
  exact sumList_range_eq _ _

def kSq (c : Cfg ℂ) (h : ℕ) : ℤ := ∑ d ∈ Finset.range c.D, kInt c d h ^ 2

theorem kSq_nonneg (c : Cfg ℂ) (h : ℕ) : 0 ≤ kSq c h :=
  Finset.sum_nonneg (fun _ _ => sq_nonneg _)

theorem kSq_eq_zero_iff (c : Cfg ℂ) (h : ℕ) : kSq c h = 0 ↔ ∀ d, d < c.D → kInt c d h = 0 := by
  unfold kSq
  rw [Finset.sum_eq_zero_iff_of_nonneg (fun d _ => sq_nonneg _)]
  simp only [Finset.mem_range, sq_eq_zero_iff]

theorem laplace_two_eq (c : Cfg ℂ) (h : ℕ) :
    laplace c 2 h = -(c.s ^ 2 * ((kSq c h : ℤ) : ℂ)) := by
  rw [laplace_two_eq_sum, kSq]
  push_cast
  rw [Finset.mul_sum, ← Finset.sum_neg_distrib]
  exact Finset.sum_congr rfl (fun d _ => deriv_sq c d h)

theorem laplace_two_eq_real (c : Cfg ℂ) (s : ℝ) (hs : c.s = (s : ℂ)) (h : ℕ) :
    laplace c 2 h = ((-(s ^ 2 * (kSq c h : ℝ)) : ℝ) : ℂ) := by
  rw [laplace_two_eq, hs]
  push_cast
  ring

theorem laplace_two_nonpos (c : Cfg ℂ) (s : ℝ) (hs : c.s = (s : ℂ)) (h : ℕ) :
    (laplace c 2 h).im = 0 ∧ (laplace c 2 h).re ≤ 0 := by
  rw [laplace_two_eq_real c s hs h]
  refine ⟨Complex.ofReal_im _, ?_⟩
  rw [Complex.ofReal_re]
  exact neg_nonpos.mpr (mul_nonneg (sq_nonneg s) (Int.cast_nonneg (kSq_nonneg c h)))

/-- `laplace c 2 h = 0 ↔ k = 0` (needs `s ≠ 0`; the sum-of-squares step uses that `k` is an integer) -/
theorem laplace_two_eq_zero_iff (c : Cfg ℂ) (hs0 : c.s ≠ 0) (h : ℕ) :
    laplace c 2 h = 0 ↔ ∀ d, d < c.D → kInt c d h = 0 := by
  rw [laplace_two_eq, ← kSq_eq_zero_iff]
  simp [hs0]

theorem laplace_two_eq_zero_iff_real (c : Cfg ℂ) (s : ℝ) (hs : c.s = (s : ℂ)) (hs0 : s ≠ 0) (h : ℕ) :
    laplace c 2 h = 0 ↔ ∀ d, d < c.D → kInt c d h = 0 :=
  laplace_two_eq_zero_iff c (by rw [hs]; exact Complex.ofReal_ne_zero.mpr hs0) h

theorem deriv_eq_zero_of_laplace (c : Cfg ℂ) (hs0 : c.s ≠ 0) (h : ℕ) (hl : laplace c 2 h = 0)
    (d : ℕ) (hd : d < c.D) : deriv c d h = 0 :=
  deriv_eq_zero_of_k c d h ((laplace_two_eq_zero_iff c hs0 h).1 hl d hd)

theorem invLapZero_eq (c : Cfg ℂ) (h : ℕ) :
    invLapZero c h = if laplace c 2 h = 0 then 0 else 1 / laplace c 2 h := by
  simp only [invLapZero, HasIsZero.isZero, decide_eq_true_eq]

theorem invLapOne_eq (c : Cfg ℂ) (h : ℕ) :
    invLapOne c h = if laplace c 2 h = 0 then 1 else 1 / laplace c 2 h := by
  simp only [invLapOne, HasIsZero.isZero, decide_eq_true_eq]

theorem one_div_laplace_real (c : Cfg ℂ) (s : ℝ) (hs : c.s = (s : ℂ)) (hs0 : s ≠ 0) (h : ℕ)
    (hk : ¬ ∀ d, d < c.D → kInt c d h = 0) :
    1 / laplace c 2 h = ((-1 / (s ^ 2 * (kSq c h : ℝ)) : ℝ) : ℂ) ∧ s ^ 2 * (kSq c h : ℝ) ≠ 0 := by
  refine ⟨?_, mul_ne_zero (pow_ne_zero 2 hs0) (Int.cast_ne_zero.mpr (mt (kSq_eq_zero_iff c h).mp hk))⟩
  rw [laplace_two_eq_real c s hs h]
  push_cast
  ring

/-- both guarded inverses are `if Δ̂ = 0 then g else 1/Δ̂` -/
theorem guardedInv_formula (c : Cfg ℂ) (s : ℝ) (hs : c.s = (s : ℂ)) (hs0 : s ≠ 0) (h : ℕ) (g : ℂ) :
    (if laplace c 2 h = 0 then g else 1 / laplace c 2 h)
      = (if ∀ d, d < c.D → kInt c d h = 0 then g else ((-1 / (s ^ 2 * (kSq c h : ℝ)) : ℝ) : ℂ))
    ∧ ((¬ ∀ d, d < c.D → kInt c d h = 0) → s ^ 2 * (kSq c h : ℝ) ≠ 0) := by
  refine ⟨?_, fun hk => (one_div_laplace_real c s hs hs0 h hk).2⟩
  simp only [laplace_two_eq_zero_iff_real c s hs hs0 h]
  split_ifs with hk
  · rfl
  · exact (one_div_laplace_real c s hs hs0 h hk).1

theorem invLapZero_formula (c : Cfg ℂ) (s : ℝ) (hs : c.s = (s : ℂ)) (hs0 : s ≠ 0) (h : ℕ) :
    invLapZero c h
      = (if ∀ d, d < c.D → kInt c d h = 0 then 0 else ((-1 / (s ^ 2 * (kSq c h : ℝ)) : ℝ) : ℂ))
    ∧ ((¬ ∀ d, d < c.D → kInt c d h = 0) → s ^ 2 * (kSq c h : ℝ) ≠ 0) := by
  rw [invLapZero_eq]
  exact guardedInv_formula c s hs hs0 h 0

theorem invLapOne_formula (c : Cfg ℂ) (s : ℝ) (hs : c.s = (s : ℂ)) (hs0 : s ≠ 0) (h : ℕ) :
    invLapOne c h
      = (if ∀ d, d < c.D → kInt c d h = 0 then 1 else ((-1 / (s ^ 2 * (kSq c h : ℝ)) : ℝ) : ℂ))
    ∧ ((¬ ∀ d, d < c.D → kInt c d h = 0) → s ^ 2 * (kSq c h : ℝ) ≠ 0) := by
  rw [invLapOne_eq]
  exact guardedInv_formula c s hs hs0 h 1

theorem invLap_im (c : Cfg ℂ) (s : ℝ) (hs : c.s = (s : ℂ)) (h : ℕ) :
    (invLapZero c h).im = 0 ∧ (invLapOne c h).im = 0 := by
  rw [invLapZero_eq, invLapOne_eq, laplace_two_eq_real c s hs h]
  have e : ∀ r : ℝ, ((1 : ℂ) / (r : ℂ)).im = 0 := fun r => by
    rw [← Complex.ofReal_one, ← Complex.ofReal_div]
    exact Complex.ofReal_im _
  constructor
  · split_ifs
    · exact Complex.zero_im
    · exact e _
  · split_ifs
    · exact Complex.one_im
    · exact e _

theorem mul_guardedInv (z g : ℂ) : z * (if z = 0 then g else 1 / z) = if z = 0 then 0 else 1 := by
  split_ifs with hz
  · rw [hz, zero_mul]
  · exact mul_one_div_cancel hz

theorem laplace_mul_invLapZero (c : Cfg ℂ) (h : ℕ) :
    laplace c 2 h * invLapZero c h = if laplace c 2 h = 0 then 0 else 1 := by
  rw [invLapZero_eq]
  exact mul_guardedInv _ 0

theorem laplace_mul_invLapOne (c : Cfg ℂ) (h : ℕ) :
    laplace c 2 h * invLapOne c h = if laplace c 2 h = 0 then 0 else 1 := by
  rw [invLapOne_eq]
  exact mul_guardedInv _ 1

theorem invLapZero_at_zero (c : Cfg ℂ) (h : ℕ) (hl : laplace c 2 h = 0) : invLapZero c h = 0 := by
  rw [invLapZero_eq, if_pos hl]

theorem invLapOne_at_zero (c : Cfg ℂ) (h : ℕ) (hl : laplace c 2 h = 0) : invLapOne c h = 1 := by
  rw [invLapOne_eq, if_pos hl]

end Exponax.Nonlin

namespace Exponax.EquivND
open Exponax Exponax.Layout Exponax.Transform Exponax.Nonlin

/-- a model term with `C` input channels read as a map on channel/mode-indexed functions
    (stored modes `h < modes c`; zero beyond) -/
noncomputable def liftTermND (c : Cfg ℂ) (C : ℕ) (T : MC ℂ → MC ℂ) (v : ℕ → ℕ → ℂ) : ℕ → ℕ → ℂ :=
  fun ch h => if h < modes c then at2 (T (tab2 C (modes c) v)) ch h else 0

theorem liftTermND_apply (c : Cfg ℂ) (C : ℕ) (T : MC ℂ → MC ℂ) (v : ℕ → ℕ → ℂ) (ch h : ℕ)
    (hh : h < modes c) : liftTermND c C T v ch h = at2 (T (tab2 C (modes c) v)) ch h := by
  rw [liftTermND, if_pos hh]

/-- stored spectra of all channels of a physical multi-channel field -/
noncomputable def specMC (D N : ℕ) (u : MC ℂ) : ℕ → ℕ → ℂ :=
  fun ch h => (rfftnM D N (u.getD ch #[])).getD h 0

/-- channel `ch` of a spectral state back in physical space -/
noncomputable def physCh (D N : ℕ) (v : ℕ → ℕ → ℂ) (ch : ℕ) : Array ℂ :=
  irfftnM D N (tab (numModes D N) (v ch))

theorem getD_map (f : Array ℂ → Array ℂ) (u : MC ℂ) (ch : ℕ) :
    (u.map f).getD ch #[] = if ch < u.size then f (u.getD ch #[]) else #[] := by
  split_ifs with h
  · simp [Array.getD, h]
  · simp [Array.getD, h]

theorem at2_of_size_le (u : MC ℂ) (ch i : ℕ) (h : u.size ≤ ch) : at2 u ch i = 0 := by
  unfold at2
  have : ¬ ch < u.size := by omega
  simp [Array.getD, this]

end Exponax.EquivND

namespace Exponax.Conserve
open Exponax Exponax.Transform Exponax.Nonlin

/-- a one-channel nonlinear function of the model as a map on mode-indexed spectra: the spectrum
    `v` is stored as the array of its `modes c` entries, the output is read entrywise -/
noncomputable def liftNl (c : Cfg ℂ) (F : MC ℂ → MC ℂ) : (ℕ → ℂ) → (ℕ → ℂ) :=
  fun v h => at2 (F #[tab (modes c) v]) 0 h

end Exponax.Conserve
