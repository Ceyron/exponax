import ExponaxModel.Proofs.AliasNDBasic
import ExponaxModel.Proofs.SymmetryNDDigits
/-
C11: what `rfftn ∘ irfftn` does to an ARBITRARY stored half spectrum, every `D ≥ 1`, `N ≥ 1`.  Off the
self-conjugate columns (`herm_weight = 2`) the stored coefficient comes back; on them (`herm_weight = 1`) only the
Hermitian part `(C_h + conj C_{σh})/2` survives, `σ = conjIdx` the stored index of the conjugate wavenumber.  Hence
the fixed points of `rfftn ∘ irfftn` are the Hermitian-consistent stored spectra.  This is `AliasND.dftV_irfftn` (the c2r
transform is Hermitian completion) read at a stored wavenumber vector: modulo `N` the stored vectors are pairwise
different (`kvec_modEq_inj`), `conjIdx` stores `−k` on the self-conjugate columns (`kvec_conjIdx`) and nothing stores
`−k` off them (`not_kvec_add`).
-/
namespace Exponax.Conserve
open Exponax Exponax.Layout

/-- reflection `a ↦ −a (mod N)` of a leading-axis index -/
def sigA (N a : ℕ) : ℕ := (N - a) % N

theorem sigA_zero (N : ℕ) : sigA N 0 = 0 := by simp [sigA]

theorem sigA_pos (N a : ℕ) (ha0 : 0 < a) (ha : a < N) : sigA N a = N - a := by
  unfold sigA; exact Nat.mod_eq_of_lt (by omega)

theorem sigA_lt (N a : ℕ) (hN : 0 < N) : sigA N a < N := Nat.mod_lt _ hN

theorem sigA_sigA (N a : ℕ) (ha : a < N) : sigA N (sigA N a) = a := SymmetryND.reflDigit_inv N a ha

end Exponax.Conserve

namespace Exponax.C2R
open Exponax Exponax.Layout Exponax.Transform Exponax.DFT Exponax.Conserve Finset

/-- the flat index `< N^E` whose base-`N` digits are the negatives (mod `N`) of those of `b` -/
def negIdx (N : ℕ) : ℕ → ℕ → ℕ
  | 0, _ => 0
  | E + 1, b => negIdx N E (b / N) * N + sigA N (b % N)

theorem negIdx_div (N E b : ℕ) (hN : 0 < N) : negIdx N (E + 1) b / N = negIdx N E (b / N) := by
  show (negIdx N E (b / N) * N + sigA N (b % N)) / N = _
  rw [show negIdx N E (b / N) * N + sigA N (b % N) = sigA N (b % N) + N * negIdx N E (b / N) by ring,
    Nat.add_mul_div_left _ _ hN, Nat.div_eq_of_lt (sigA_lt N _ hN), zero_add]

theorem negIdx_mod (N E b : ℕ) (hN : 0 < N) : negIdx N (E + 1) b % N = sigA N (b % N) := by
  show (negIdx N E (b / N) * N + sigA N (b % N)) % N = _
  rw [show negIdx N E (b / N) * N + sigA N (b % N) = sigA N (b % N) + N * negIdx N E (b / N) by ring,
    Nat.add_mul_mod_self_left, Nat.mod_eq_of_lt (sigA_lt N _ hN)]

theorem negIdx_eq_digitMap (N : ℕ) : ∀ E b, negIdx N E b = SymmetryND.digitMap E N (fun _ => sigA N) b
  | 0, _ => rfl
  | E + 1, b => by
    unfold SymmetryND.digitMap
    rw [negIdx, negIdx_eq_digitMap N E (b / N), SymmetryND.ofDigits, digit_succ_last]
    congr 2
    exact SymmetryND.ofDigits_congr N _ _ E (fun d hd => by rw [digit_succ_of_lt E N b d hd])

theorem digit_negIdx (N : ℕ) (hN : 0 < N) (E a d : ℕ) (hd : d < E) :
    digit E N (negIdx N E a) d = sigA N (digit E N a d) := by
  rw [negIdx_eq_digitMap]
  exact SymmetryND.digit_digitMap E N hN _ (fun _ _ x _ => sigA_lt N x hN) a d hd

theorem negIdx_lt (N : ℕ) (hN : 0 < N) (E b : ℕ) : negIdx N E b < N ^ E := by
  rw [negIdx_eq_digitMap]
  exact SymmetryND.digitMap_lt E N hN _ (fun _ _ x _ => sigA_lt N x hN) b

theorem negIdx_negIdx (N : ℕ) (hN : 0 < N) (E b : ℕ) (hb : b < N ^ E) : negIdx N E (negIdx N E b) = b := by
  rw [negIdx_eq_digitMap, negIdx_eq_digitMap]
  exact SymmetryND.digitMap_inv E N hN _ _ (fun _ _ x _ => sigA_lt N x hN) (fun _ _ x hx => sigA_sigA N x hx) b hb

theorem sigA_modEq (N x : ℕ) (hx : x < N) : ((sigA N x : ℕ) : ℤ) ≡ -(x : ℤ) [ZMOD (N : ℤ)] :=
  SymmetryND.reflDigit_modEq N x hx

/-- stored (flat, half-layout) index of the mode with all LEADING wavenumbers negated (mod `N`) and
    the same last-axis wavenumber.  On the self-conjugate columns (`herm_weight = 1`) this is the
    stored index of the conjugate wavenumber `−k` (`twiddle_conjIdx`).  For `D = 1` it is `h`. -/
def conjIdx (D N h : ℕ) : ℕ := negIdx N (D - 1) (h / (N / 2 + 1)) * (N / 2 + 1) + h % (N / 2 + 1)

theorem conjIdx_div (D N h : ℕ) : conjIdx D N h / (N / 2 + 1) = negIdx N (D - 1) (h / (N / 2 + 1)) := by
  unfold conjIdx
  rw [show negIdx N (D - 1) (h / (N / 2 + 1)) * (N / 2 + 1) + h % (N / 2 + 1)
      = h % (N / 2 + 1) + (N / 2 + 1) * negIdx N (D - 1) (h / (N / 2 + 1)) by ring,
    Nat.add_mul_div_left _ _ (by omega), Nat.div_eq_of_lt (Nat.mod_lt _ (by omega)), zero_add]

theorem conjIdx_mod (D N h : ℕ) : conjIdx D N h % (N / 2 + 1) = h % (N / 2 + 1) := by
  unfold conjIdx
  rw [show negIdx N (D - 1) (h / (N / 2 + 1)) * (N / 2 + 1) + h % (N / 2 + 1)
      = h % (N / 2 + 1) + (N / 2 + 1) * negIdx N (D - 1) (h / (N / 2 + 1)) by ring,
    Nat.add_mul_mod_self_left, Nat.mod_mod]

theorem conjIdx_lt' (E N h : ℕ) (hN : 0 < N) : conjIdx (E + 1) N h < N ^ E * (N / 2 + 1) := by
  unfold conjIdx
  rw [Nat.add_sub_cancel]
  have h1 := negIdx_lt N hN E (h / (N / 2 + 1))
  have h2 : h % (N / 2 + 1) < N / 2 + 1 := Nat.mod_lt _ (by omega)
  calc negIdx N E (h / (N / 2 + 1)) * (N / 2 + 1) + h % (N / 2 + 1)
      < negIdx N E (h / (N / 2 + 1)) * (N / 2 + 1) + (N / 2 + 1) := by omega
    _ = (negIdx N E (h / (N / 2 + 1)) + 1) * (N / 2 + 1) := by ring
    _ ≤ N ^ E * (N / 2 + 1) := Nat.mul_le_mul_right _ h1

theorem conjIdx_lt (D N h : ℕ) (hD : 0 < D) (hN : 0 < N) : conjIdx D N h < numModes D N := by
  obtain ⟨E, rfl⟩ : ∃ E, D = E + 1 := ⟨D - 1, by omega⟩
  rw [numModes_succ]
  exact conjIdx_lt' E N h hN

theorem conjIdx_conjIdx (D N h : ℕ) (hD : 0 < D) (hN : 0 < N) (hh : h < numModes D N) :
    conjIdx D N (conjIdx D N h) = h := by
  obtain ⟨E, rfl⟩ : ∃ E, D = E + 1 := ⟨D - 1, by omega⟩
  apply eq_of_div_mod (N / 2 + 1)
  · rw [conjIdx_div, conjIdx_div, Nat.add_sub_cancel, negIdx_negIdx N hN E _ (AliasND.stored_div_lt E N h hh)]
  · rw [conjIdx_mod, conjIdx_mod]

theorem conjIdx_eq_iff (D N : ℕ) (hD : 0 < D) (hN : 0 < N) {i h : ℕ} (hi : i < numModes D N) (hh : h < numModes D N) :
    conjIdx D N i = h ↔ i = conjIdx D N h :=
  ⟨fun e => by rw [← e, conjIdx_conjIdx D N i hD hN hi], fun e => by rw [e, conjIdx_conjIdx D N h hD hN hh]⟩

/-- `conjIdx` stays in the same last-axis column, so it keeps the c2r weight -/
theorem herm_weight_conjIdx (D N h : ℕ) (hD : 0 < D) (hN : 0 < N) (hh : h < numModes D N) :
    herm_weight D N (conjIdx D N h) = herm_weight D N h := by
  obtain ⟨E, rfl⟩ : ∃ E, D = E + 1 := ⟨D - 1, by omega⟩
  rw [herm_weight_succ E N h hh, herm_weight_succ E N _ (conjIdx_lt (E + 1) N h hD hN), conjIdx_mod]

theorem conjIdx_one (N h : ℕ) (hh : h < numModes 1 N) : conjIdx 1 N h = h := by
  rw [numModes_one] at hh
  unfold conjIdx
  simp [negIdx, Nat.mod_eq_of_lt hh]

theorem herm_weight_eq (D N h : ℕ) : herm_weight D N h = 1 ∨ herm_weight D N h = 2 := by
  unfold herm_weight
  simp only
  split_ifs
  · exact Or.inl rfl
  · exact Or.inr rfl

theorem herm_weight_one_iff (N l : ℕ) :
    herm_weight 1 N l = 1 ↔ (l = 0 ∨ (N % 2 = 0 ∧ l = N / 2)) := by
  rw [herm_weight_one]
  split_ifs with h
  · exact ⟨fun _ => h, fun _ => rfl⟩
  · exact ⟨fun h2 => absurd h2 (by norm_num), fun h2 => absurd h2 h⟩

/-- `D = 1`: the self-conjugate stored modes are `0` and, for even `N`, the Nyquist mode `N/2` -/
theorem forall_selfConj_one_iff (N : ℕ) (P : ℕ → Prop) :
    (∀ h < N / 2 + 1, herm_weight 1 N h = 1 → P h) ↔ (P 0 ∧ (N % 2 = 0 → P (N / 2))) := by
  constructor
  · intro H
    exact ⟨H 0 (Nat.succ_pos _) ((herm_weight_one_iff N 0).mpr (Or.inl rfl)),
      fun hev => H (N / 2) (Nat.lt_succ_self _) ((herm_weight_one_iff N _).mpr (Or.inr ⟨hev, rfl⟩))⟩
  · rintro ⟨h0, hny⟩ h _ hw
    rcases (herm_weight_one_iff N h).mp hw with rfl | ⟨hev, rfl⟩
    · exact h0
    · exact hny hev

theorem wnFlat_getD_last (E N h : ℕ) (hh : h < numModes (E + 1) N) :
    (wnFlat (E + 1) N h).getD E 0 = ((h % (N / 2 + 1) : ℕ) : ℤ) :=
  AliasND.kvec_last E N h hh (Fin.last E) rfl

open Exponax.AliasND in
theorem kvec_conjIdx_lead (E N h : ℕ) (hN : 0 < N) (hh : h < numModes (E + 1) N) (d : Fin (E + 1)) (hd : (d : ℕ) < E) :
    (N : ℤ) ∣ kvec (E + 1) N (conjIdx (E + 1) N h) d + kvec (E + 1) N h d := by
  rw [kvec_leading E N _ (conjIdx_lt (E + 1) N h E.succ_pos hN) d hd, kvec_leading E N h hh d hd, conjIdx_div,
    Nat.add_sub_cancel, digit_negIdx N hN E _ d hd, ← sub_neg_eq_add]
  exact Int.modEq_iff_dvd.mp ((Int.ModEq.neg (fftfreq_modEq N _)).trans
    ((sigA_modEq N _ (digit_lt E N _ d hN)).symm.trans (fftfreq_modEq N _).symm))

open Exponax.AliasND in
theorem kvec_conjIdx_last (E N h : ℕ) (hN : 0 < N) (hh : h < numModes (E + 1) N) (d : Fin (E + 1)) (hd : (d : ℕ) = E) :
    kvec (E + 1) N (conjIdx (E + 1) N h) d = kvec (E + 1) N h d := by
  rw [kvec_last E N _ (conjIdx_lt (E + 1) N h E.succ_pos hN) d hd, kvec_last E N h hh d hd, conjIdx_mod]

open Exponax.AliasND in
/-- on the self-conjugate columns `conjIdx D N h` stores the wavenumber vector `−k(h)` modulo `N`: there the last
    component is `0` or the Nyquist wavenumber `N/2 ≡ −N/2` -/
theorem kvec_conjIdx (D N h : ℕ) (hD : 0 < D) (hN : 0 < N) (hh : h < numModes D N)
    (hw : herm_weight D N h = 1) : VCongr D N (kvec D N (conjIdx D N h)) (-kvec D N h) := by
  obtain ⟨E, rfl⟩ : ∃ E, D = E + 1 := ⟨D - 1, by omega⟩
  intro d
  rw [Pi.neg_apply, sub_neg_eq_add]
  rcases Nat.lt_succ_iff_lt_or_eq.mp d.2 with hd | hd
  · exact kvec_conjIdx_lead E N h hN hh d hd
  · rw [kvec_conjIdx_last E N h hN hh d hd, kvec_last E N h hh d hd]
    rw [herm_weight_succ E N h hh, herm_weight_one_iff] at hw
    rcases hw with h0 | ⟨hev, hny⟩
    · rw [h0]; simp
    · exact ⟨1, by omega⟩

theorem eq_neg_or_nyquist {N : ℕ} {a b : ℤ} (ha : |a| ≤ ((N / 2 : ℕ) : ℤ)) (hb : |b| ≤ ((N / 2 : ℕ) : ℤ))
    (h : (N : ℤ) ∣ a + b) : a = -b ∨ (N % 2 = 0 ∧ b.natAbs = N / 2 ∧ a = b) := by
  by_cases hlt : |a + b| < (N : ℤ)
  · exact Or.inl (eq_neg_of_add_eq_zero_left (Int.eq_zero_of_abs_lt_dvd h hlt))
  · refine Or.inr ?_
    rw [abs_le] at ha hb
    rw [abs_lt, not_and_or] at hlt
    omega

theorem wnFlat_conjIdx_getD (D N h d : ℕ) (hD : 0 < D) (hN : 0 < N) (hh : h < numModes D N)
    (hw : herm_weight D N h = 1) (hd : d < D) :
    (wnFlat D N (conjIdx D N h)).getD d 0 = -(wnFlat D N h).getD d 0
      ∨ (N % 2 = 0 ∧ ((wnFlat D N h).getD d 0).natAbs = N / 2 ∧
          (wnFlat D N (conjIdx D N h)).getD d 0 = (wnFlat D N h).getD d 0) :=
  eq_neg_or_nyquist (AliasND.kvec_abs_le D N _ hD hN (conjIdx_lt D N h hD hN) ⟨d, hd⟩)
    (AliasND.kvec_abs_le D N h hD hN hh ⟨d, hd⟩)
    (by have := kvec_conjIdx D N h hD hN hh hw ⟨d, hd⟩; rwa [Pi.neg_apply, sub_neg_eq_add] at this)

theorem natAbs_wnFlat_conjIdx (D N h d : ℕ) (hD : 0 < D) (hN : 0 < N) (hh : h < numModes D N) (hd : d < D) :
    ((wnFlat D N (conjIdx D N h)).getD d 0).natAbs = ((wnFlat D N h).getD d 0).natAbs := by
  obtain ⟨E, rfl⟩ : ∃ E, D = E + 1 := ⟨D - 1, by omega⟩
  rcases Nat.lt_succ_iff_lt_or_eq.mp hd with hlt | hlt
  · rcases eq_neg_or_nyquist (AliasND.kvec_abs_le _ N _ hD hN (conjIdx_lt _ N h hD hN) ⟨d, hd⟩)
      (AliasND.kvec_abs_le _ N h hD hN hh ⟨d, hd⟩) (kvec_conjIdx_lead E N h hN hh ⟨d, hd⟩ hlt) with e | ⟨_, _, e⟩
    · exact (congrArg Int.natAbs e).trans (Int.natAbs_neg _)
    · exact congrArg Int.natAbs e
  · exact congrArg Int.natAbs (kvec_conjIdx_last E N h hN hh ⟨d, hd⟩ hlt)

open Exponax.AliasND in
/-- off the self-conjugate columns no stored mode carries `−k(h)` modulo `N`: `0 < l + l' < N` on the last axis -/
theorem not_kvec_add (D N h h' : ℕ) (hD : 0 < D) (hh : h < numModes D N) (hh' : h' < numModes D N)
    (hw : herm_weight D N h = 2) : ¬ ∀ d, (N : ℤ) ∣ kvec D N h d + kvec D N h' d := by
  obtain ⟨E, rfl⟩ : ∃ E, D = E + 1 := ⟨D - 1, by omega⟩
  intro hc
  have := hc (Fin.last E)
  rw [kvec_last E N h hh _ rfl, kvec_last E N h' hh' _ rfl] at this
  have hsp : ¬ (h % (N / 2 + 1) = 0 ∨ (N % 2 = 0 ∧ h % (N / 2 + 1) = N / 2)) := fun hsp =>
    absurd ((herm_weight_succ E N h hh).symm.trans hw) (by rw [herm_weight_one, if_pos hsp]; norm_num)
  have h1 : h % (N / 2 + 1) < N / 2 + 1 := Nat.mod_lt _ (Nat.succ_pos _)
  have h2 : h' % (N / 2 + 1) < N / 2 + 1 := Nat.mod_lt _ (Nat.succ_pos _)
  have := Int.eq_zero_of_abs_lt_dvd this (by rw [abs_lt]; constructor <;> omega)
  omega

/-- on the self-conjugate columns the `rfftn` basis function of `conjIdx D N h` is the
    complex conjugate of that of `h`, i.e. `conjIdx D N h` stores the wavenumber `−k(h)`. -/
theorem twiddle_conjIdx (D N h j : ℕ) (hD : 0 < D) (hN : 0 < N) (hh : h < numModes D N)
    (hw : herm_weight D N h = 1) :
    (twiddle N (phaseK D N (wnFlat D N (conjIdx D N h)) j) : ℂ)
      = (starRingEnd ℂ) (twiddle N (phaseK D N (wnFlat D N h) j)) := by
  rw [twiddle_eq_zpow, twiddle_eq_zpow, conj_zeta_zpow, AliasND.phaseK_kvec, AliasND.phaseK_kvec, ← AliasND.vdot_neg]
  exact zeta_zpow_eq_of_modEq N (AliasND.vdot_modEq (kvec_conjIdx D N h hD hN hh hw) j)

open Exponax.AliasND in
/-- With `w = herm_weight D N h`: `rfftn(irfftn C)_h = (w/2)·C_h + ((2−w)/2)·conj C_{σh}`, i.e. `C_h` where
    `w = 2` and the Hermitian part `(C_h + conj C_{σh})/2` on the self-conjugate columns (`w = 1`). -/
theorem rfftn_irfftn_nd (D N : ℕ) (hD : 0 < D) (hN : 0 < N) (C : Array ℂ) (h : ℕ)
    (hh : h < numModes D N) :
    (rfftnM D N (irfftnM D N C)).getD h 0
      = ((herm_weight D N h : ℂ) / 2) * C.getD h 0
        + ((2 - (herm_weight D N h : ℂ)) / 2) * (starRingEnd ℂ) (C.getD (conjIdx D N h) 0) := by
  rw [rfftn_eq_dftV D N hN _ h hh, dftV_irfftn D N hN C (kvec D N h),
    Finset.sum_congr rfl fun _ _ => mul_add _ _ _, Finset.sum_add_distrib]
  refine congrArg₂ (· + ·) ?_ ?_
  · -- the direct term: only `h' = h`
    rw [Finset.sum_eq_single_of_mem h (Finset.mem_range.mpr hh) fun h' hh' hne => by
        rw [if_neg (show ¬ ∀ d, (N : ℤ) ∣ kvec D N h d - kvec D N h' d from fun hc =>
          hne (kvec_modEq_inj D N hD hN h h' hh (Finset.mem_range.mp hh') hc)), mul_zero, mul_zero],
      if_pos (show ∀ d, (N : ℤ) ∣ kvec D N h d - kvec D N h d from VCongr.refl D N _), mul_one]
  · -- the conjugate term: only `h' = σh`, and only on the self-conjugate columns
    rcases herm_weight_eq D N h with hw | hw
    · have hσ := conjIdx_lt D N h hD hN
      have hk := kvec_conjIdx D N h hD hN hh hw
      rw [Finset.sum_eq_single_of_mem _ (Finset.mem_range.mpr hσ) fun h' hh' hne => by
          rw [if_neg (show ¬ ∀ d, (N : ℤ) ∣ kvec D N h d + kvec D N h' d from fun hc => hne
            (kvec_modEq_inj D N hD hN _ h' hσ (Finset.mem_range.mp hh')
              (hk.trans fun d => by rw [Pi.neg_apply, ← neg_add', dvd_neg]; exact hc d))), mul_zero, mul_zero],
        if_pos (show ∀ d, (N : ℤ) ∣ kvec D N h d + kvec D N (conjIdx D N h) d from fun d => by
          have := hk d; rwa [Pi.neg_apply, sub_neg_eq_add, add_comm] at this),
        herm_weight_conjIdx D N h hD hN hh, hw, mul_one]
      norm_num
    · rw [Finset.sum_eq_zero fun h' hh' => by
        rw [if_neg (not_kvec_add D N h h' hD hh (Finset.mem_range.mp hh') hw), mul_zero, mul_zero], hw]
      norm_num

theorem rfftn_irfftn_nd_w2 (D N : ℕ) (hD : 0 < D) (hN : 0 < N) (C : Array ℂ) (h : ℕ)
    (hh : h < numModes D N) (hw : herm_weight D N h = 2) :
    (rfftnM D N (irfftnM D N C)).getD h 0 = C.getD h 0 := by
  rw [rfftn_irfftn_nd D N hD hN C h hh, hw]
  push_cast
  ring

theorem rfftn_irfftn_nd_w1 (D N : ℕ) (hD : 0 < D) (hN : 0 < N) (C : Array ℂ) (h : ℕ)
    (hh : h < numModes D N) (hw : herm_weight D N h = 1) :
    (rfftnM D N (irfftnM D N C)).getD h 0
      = (C.getD h 0 + (starRingEnd ℂ) (C.getD (conjIdx D N h) 0)) / 2 := by
  rw [rfftn_irfftn_nd D N hD hN C h hh, hw]
  push_cast
  ring

/-- fixed points of `rfftn ∘ irfftn` = Hermitian-consistent stored spectra: `C_h = conj C_{σh}` on
    the self-conjugate columns (no condition elsewhere). -/
theorem c2r_fixed_iff_herm (D N : ℕ) (hD : 0 < D) (hN : 0 < N) (C : Array ℂ) :
    (∀ h < numModes D N, (rfftnM D N (irfftnM D N C)).getD h 0 = C.getD h 0)
      ↔ ∀ h < numModes D N, herm_weight D N h = 1 →
          C.getD h 0 = (starRingEnd ℂ) (C.getD (conjIdx D N h) 0) := by
  constructor
  · intro H h hh hw
    have := H h hh
    rw [rfftn_irfftn_nd_w1 D N hD hN C h hh hw] at this
    linear_combination (-2 : ℂ) * this
  · intro H h hh
    rcases herm_weight_eq D N h with hw | hw
    · rw [rfftn_irfftn_nd_w1 D N hD hN C h hh hw, ← H h hh hw]
      ring
    · exact rfftn_irfftn_nd_w2 D N hD hN C h hh hw

theorem rfftn_conjIdx_of_real (D N : ℕ) (hD : 0 < D) (hN : 0 < N) (u : Array ℂ)
    (hu : ∀ j < N ^ D, (u.getD j 0).im = 0) (h : ℕ) (hh : h < numModes D N)
    (hw : herm_weight D N h = 1) :
    (rfftnM D N u).getD (conjIdx D N h) 0 = (starRingEnd ℂ) ((rfftnM D N u).getD h 0) := by
  rw [AliasND.rfftn_eq_dftV D N hN u _ (conjIdx_lt D N h hD hN), AliasND.rfftn_eq_dftV D N hN u h hh,
    AliasND.conj_dftV D N u hu, AliasND.dftV_of_congr u (kvec_conjIdx D N h hD hN hh hw)]

/-- a self-conjugate-column mode (`w = 1`) and one off those columns (`w = 2`), `D = 2`, `N = 4` -/
example : (0 : ℕ) < numModes 2 4 ∧ herm_weight 2 4 0 = 1 ∧ (1 : ℕ) < numModes 2 4 ∧
    herm_weight 2 4 1 = 2 := by decide

/-- `conjIdx` is non-trivial for `D = 2`: mode `(1, 0)` on the `4 × 4` grid is paired with `(3, 0)` -/
example : conjIdx 2 4 3 = 9 ∧ conjIdx 2 4 9 = 3 := by decide

end Exponax.C2R
