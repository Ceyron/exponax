import ExponaxModel.Proofs.AliasND2Grad
/-
C03: `VorticityConvection2d` without injection, `D = 2`, cut-off `3·Kc < N`.

Model conventions (`Model/Nonlin.lean`, `vorticity2d`):  `ψ̂ = Δ̂⁻¹·ω̂` with the guarded inverse
`Δ̂⁻¹ = where(Δ̂ == 0, 1, 1/Δ̂)`, `Δ̂ = Σ_d (i s k_d)²`;  `u = ∂_1 ψ`, `v = −∂_0 ψ`;
`out = −scale·F[u·∂_0 ω + v·∂_1 ω]` (every inverse transform preceded, the forward transform
followed by the dealiasing mask).
-/
namespace Exponax.AliasND
open Exponax Exponax.Layout Exponax.Transform Exponax.DFT Exponax.Nonlin Exponax.Alias Finset

noncomputable def lapsym (c : Cfg ℂ) (p : Fin c.D → ℤ) : ℂ := ∑ d ∈ range c.D, dsym c d p ^ 2

/-- the lattice symbol of the guarded inverse Laplacian `where(Δ̂ == 0, 1, 1/Δ̂)` -/
noncomputable def invLapSym (c : Cfg ℂ) (p : Fin c.D → ℤ) : ℂ :=
  if lapsym c p = 0 then 1 else 1 / lapsym c p

theorem lapsym_eq (c : Cfg ℂ) (p : Fin c.D → ℤ) :
    lapsym c p = -(c.s ^ 2 * ∑ d : Fin c.D, ((p d : ℤ) : ℂ) ^ 2) := by
  unfold lapsym
  rw [← Fin.sum_univ_eq_sum_range (fun d => dsym c d p ^ 2) c.D, Finset.mul_sum,
    ← Finset.sum_neg_distrib]
  apply Finset.sum_congr rfl
  intro d _
  rw [dsym_fin, mul_pow, Complex.I_sq]
  ring

theorem laplace_eq_lapsym (c : Cfg ℂ) (h : ℕ) : laplace c 2 h = lapsym c (kvec c.D c.N h) := by
  rw [laplace_two_eq_sum]
  unfold lapsym
  apply Finset.sum_congr rfl
  intro d hd
  rw [deriv_eq_dsym c d (Finset.mem_range.mp hd) h]

/-- the lattice symbol of the guarded inverse Laplacian `where(Δ̂ ≠ 0, 1/Δ̂, 0)` of `Leray` -/
noncomputable def invLapZeroSym (c : Cfg ℂ) (p : Fin c.D → ℤ) : ℂ :=
  if lapsym c p = 0 then 0 else 1 / lapsym c p

theorem invLapZero_eq_invLapZeroSym (c : Cfg ℂ) (h : ℕ) :
    invLapZero c h = invLapZeroSym c (kvec c.D c.N h) := by
  rw [invLapZero_eq, laplace_eq_lapsym]
  rfl

theorem invLapOne_eq_invLapSym (c : Cfg ℂ) (h : ℕ) : invLapOne c h = invLapSym c (kvec c.D c.N h) := by
  rw [invLapOne_eq, laplace_eq_lapsym]
  rfl

theorem lapsym_neg (c : Cfg ℂ) (p : Fin c.D → ℤ) : lapsym c (-p) = lapsym c p := by
  unfold lapsym
  apply Finset.sum_congr rfl
  intro d _
  rw [dsym_neg, neg_sq]

theorem conj_lapsym (c : Cfg ℂ) (s : ℝ) (hs : c.s = (s : ℂ)) (p : Fin c.D → ℤ) :
    (starRingEnd ℂ) (lapsym c p) = lapsym c p := by
  unfold lapsym
  rw [map_sum]
  apply Finset.sum_congr rfl
  intro d _
  rw [map_pow, conj_dsym c s hs, dsym_neg, neg_sq]

theorem invLapSym_neg (c : Cfg ℂ) (p : Fin c.D → ℤ) : invLapSym c (-p) = invLapSym c p := by
  unfold invLapSym
  rw [lapsym_neg]

theorem conj_invLapSym (c : Cfg ℂ) (s : ℝ) (hs : c.s = (s : ℂ)) (p : Fin c.D → ℤ) :
    (starRingEnd ℂ) (invLapSym c p) = invLapSym c (-p) := by
  rw [invLapSym_neg]
  unfold invLapSym
  split_ifs with h0
  · exact map_one _
  · rw [map_div₀, map_one, conj_lapsym c s hs]

theorem dfield_eq_mfield (c : Cfg ℂ) (uh : Array ℂ) (d : ℕ) :
    dfield c uh d = mfield c (deriv c d) uh := rfl

noncomputable def usym (c : Cfg ℂ) (p : Fin c.D → ℤ) : ℂ := dsym c 1 p * invLapSym c p
noncomputable def vsym (c : Cfg ℂ) (p : Fin c.D → ℤ) : ℂ := -(dsym c 0 p) * invLapSym c p

theorem hermMult_invLapOne (c : Cfg ℂ) (s : ℝ) (hs : c.s = (s : ℂ)) :
    HermMult c (invLapOne c) (invLapSym c) :=
  ⟨conj_invLapSym c s hs, fun h _ _ => invLapOne_eq_invLapSym c h⟩

/-- the grid field `u·∂_0 ω + v·∂_1 ω` that `vorticity2d` transforms -/
noncomputable def vortGrid (c : Cfg ℂ) (uh : Array ℂ) : Array ℂ :=
  tab (c.N ^ c.D) fun x =>
    (mfield c (fun k => Nonlin.deriv c 1 k * invLapOne c k) uh).getD x 0 * (dfield c uh 0).getD x 0
      + (mfield c (fun k => -(Nonlin.deriv c 0 k) * invLapOne c k) uh).getD x 0 * (dfield c uh 1).getD x 0

/-- `VorticityConvection2d` without injection read off the pipeline, for any `D` and any stored input -/
theorem vorticity2d_getD (c : Cfg ℂ) (scale : ℂ) (uh : Array ℂ) (h : ℕ) (hh : h < numModes c.D c.N) :
    at2 (vorticity2d c scale none #[uh]) 0 h = -scale * (nfft c (vortGrid c uh)).getD h 0 := by
  have hM : h < modes c := hh
  have em : ∀ σ : ℕ → ℂ, nifft c (tab (modes c) fun k => σ k *
        (tab (modes c) fun k => invLapOne c k * at2 (#[uh] : MC ℂ) 0 k).getD k 0)
      = mfield c (fun k => σ k * invLapOne c k) uh := by
    intro σ
    unfold mfield
    apply Nonlin.nifft_congr
    intro i hi
    rw [Nonlin.tab_getD _ _ _ _ hi, Nonlin.tab_getD _ _ _ _ hi, Nonlin.tab_getD _ _ _ _ hi, mul_assoc]
    rfl
  unfold vorticity2d
  simp only []
  rw [at2_tab2 _ _ _ _ _ Nat.zero_lt_one hM, em, em]
  rfl

theorem vorticity2d_nd_readoff (c : Cfg ℂ) (hN : 0 < c.N) (scale : ℂ) (uh : Array ℂ)
    (h : ℕ) (hh : h < numModes c.D c.N) :
    at2 (vorticity2d c scale none #[uh]) 0 h
      = -scale * (mask c h * dftV c.D c.N (vortGrid c uh) (kvec c.D c.N h)) := by
  rw [vorticity2d_getD c scale uh h hh, nfft_nd c hN _ h hh]

noncomputable def uspec (c : Cfg ℂ) (x : Array ℂ) : (Fin c.D → ℤ) → ℂ :=
  fun p => usym c p * dftV c.D c.N x p
noncomputable def vspec (c : Cfg ℂ) (x : Array ℂ) : (Fin c.D → ℤ) → ℂ :=
  fun p => vsym c p * dftV c.D c.N x p

theorem dftV_vortGrid (c : Cfg ℂ) (hD : c.D = 2) (hq : c.fq ≠ 0)
    (hK : 3 * Kc c < (c.N : ℤ)) (hN : 0 < c.N) (s : ℝ) (hs : c.s = (s : ℂ))
    (x : Array ℂ) (hx : IsRealND c.D c.N x) (k : Fin c.D → ℤ) (hk : ∀ d, |k d| ≤ Kc c) :
    dftV c.D c.N (vortGrid c (rfftnM c.D c.N x)) k
      = linConv c.D c.N (Kc c) (uspec c x) (dspec c 0 x) k
        + linConv c.D c.N (Kc c) (vspec c x) (dspec c 1 x) k := by
  have hD0 : 0 < c.D := by omega
  have h2 := two_lt_of_three c.N (Kc c) hK
  have hd := fun d hd => hermMult_deriv c s hs d hd
  have hw := fun d hd => boxSpec_dfield c hD0 hq hN h2 s hs x hx d hd
  have hi := hermMult_invLapOne c s hs
  exact (dftV_add _ _ _ _ _).trans (congrArg₂ (· + ·)
    ((boxSpec_mfield c hD0 hq hN h2 ((hd 1 (by omega)).mul hi) x hx).dftV_mul (hw 0 (by omega)) hN hK k hk)
    ((boxSpec_mfield c hD0 hq hN h2 ((hd 0 (by omega)).neg.mul hi) x hx).dftV_mul (hw 1 (by omega)) hN hK k hk))

/-- for a real vorticity `x` with `ω̂ = rfftnM 2 N x`, the output at a retained stored mode is the coefficient of
    `−scale·(u·∇)ω` for the band-truncated vorticity, `u = (∂_1 ψ, −∂_0 ψ)`, `ψ = Δ⁻¹ω` (`Δ̂⁻¹ = 1` at `p = 0`),
    alias-free -/
theorem vorticity2d_alias_free (c : Cfg ℂ) (hD : c.D = 2) (hq : c.fq ≠ 0)
    (hK : 3 * Kc c < (c.N : ℤ)) (hN : 0 < c.N) (s : ℝ) (hs : c.s = (s : ℂ)) (scale : ℂ)
    (x : Array ℂ) (hx : IsRealND c.D c.N x) (h : ℕ) (hh : h < numModes c.D c.N) :
    (mask c h = 1 →
      at2 (vorticity2d c scale none #[rfftnM c.D c.N x]) 0 h
        = -scale * (linConv c.D c.N (Kc c) (uspec c x) (dspec c 0 x) (kvec c.D c.N h)
            + linConv c.D c.N (Kc c) (vspec c x) (dspec c 1 x) (kvec c.D c.N h)))
    ∧ (mask c h = 0 → at2 (vorticity2d c scale none #[rfftnM c.D c.N x]) 0 h = 0) := by
  refine ⟨fun hm => ?_, fun hm => vorticity2d_zero_off_band c scale _ 0 h hm⟩
  rw [vorticity2d_nd_readoff c hN scale _ h hh, hm, one_mul,
    dftV_vortGrid c hD hq hK hN s hs x hx _ ((mask_nd_eq_one_iff c hq h).mp hm)]

/-- `vorticity2d_alias_free` with the sums over the box written out -/
theorem vorticity2d_alias_free_explicit (c : Cfg ℂ) (hD : c.D = 2) (hq : c.fq ≠ 0)
    (hK : 3 * Kc c < (c.N : ℤ)) (hN : 0 < c.N) (s : ℝ) (hs : c.s = (s : ℂ)) (scale : ℂ)
    (x : Array ℂ) (hx : IsRealND c.D c.N x) (h : ℕ) (hh : h < numModes c.D c.N) :
    (mask c h = 1 →
      at2 (vorticity2d c scale none #[rfftnM c.D c.N x]) 0 h
        = -scale * ((1 / ((c.N ^ c.D : ℕ) : ℂ)) * ∑ p ∈ box c.D (Kc c),
              (dsym c 1 p * invLapSym c p * truncV (Kc c) (dftV c.D c.N x) p) *
                (dsym c 0 (kvec c.D c.N h - p) * truncV (Kc c) (dftV c.D c.N x) (kvec c.D c.N h - p))
            + (1 / ((c.N ^ c.D : ℕ) : ℂ)) * ∑ p ∈ box c.D (Kc c),
              (-(dsym c 0 p) * invLapSym c p * truncV (Kc c) (dftV c.D c.N x) p) *
                (dsym c 1 (kvec c.D c.N h - p) * truncV (Kc c) (dftV c.D c.N x) (kvec c.D c.N h - p))))
    ∧ (mask c h = 0 → at2 (vorticity2d c scale none #[rfftnM c.D c.N x]) 0 h = 0) := by
  have := vorticity2d_alias_free c hD hq hK hN s hs scale x hx h hh
  refine ⟨fun hm => ?_, this.2⟩
  rw [this.1 hm]
  unfold uspec vspec dspec usym vsym
  rw [linConv_mul_explicit, linConv_mul_explicit]

theorem vorticity2d_alias_free_two_thirds (c : Cfg ℂ) (hD : c.D = 2) (hp : c.fp = 2) (hq : c.fq = 3)
    (hN : 0 < c.N) (s : ℝ) (hs : c.s = (s : ℂ)) (scale : ℂ)
    (x : Array ℂ) (hx : IsRealND c.D c.N x) (h : ℕ) (hh : h < numModes c.D c.N) :
    (mask c h = 1 →
      at2 (vorticity2d c scale none #[rfftnM c.D c.N x]) 0 h
        = -scale * (linConv c.D c.N (Kc c) (uspec c x) (dspec c 0 x) (kvec c.D c.N h)
            + linConv c.D c.N (Kc c) (vspec c x) (dspec c 1 x) (kvec c.D c.N h)))
    ∧ (mask c h = 0 → at2 (vorticity2d c scale none #[rfftnM c.D c.N x]) 0 h = 0) :=
  vorticity2d_alias_free c hD (by omega) (Kc_two_thirds c hp hq).1 hN s hs scale x hx h hh

end Exponax.AliasND
