import ExponaxModel.Proofs.Laminar3DTerm
/-
C12, 3-D — the Kolmogorov-forced 3-D velocity stepper (`Nonlin.projected3d c (some (m, γ))`) from rest:
the WHOLE three-channel spectrum after `n` steps of ETDRK-p, p = 1..4, any coefficient arrays.

Spectra are `ℕ → ℕ → ℂ` (channel, stored mode) with the pointwise ring structure; `liftNl3 c F` is the three-channel
nonlinear function `F` as a map on such spectra.  On the invariant set `TwoModeSpec c m` (channel 0 carried by the two
stored modes `(0, ±m, 0)`, channels 1, 2 zero) the nonlinear term is the constant forcing spectrum `forcing3`, so

    step^[n] v = E^n v + (Σ_{i<n} E^i) · κ · forcing3        (every channel, every mode)

with `κ = a₁` (orders 1, 2), `a₃+a₄+a₅` (order 3), `a₄+4a₅+a₆` (order 4); entrywise with exact coefficients:
`forcing3 · (e^{nσdt} − 1)/σ`; with ALL coefficients stored: `κ = E1_coef_1` for orders 1, 3, 4
(`C12_laminar_3d_stored`).
-/
namespace Exponax.Laminar3D
open Exponax Exponax.Layout Exponax.Transform Exponax.DFT Exponax.ExactLinear Exponax.Gen.Etdrk Exponax.Spec Finset
open Exponax.Nonlin (Cfg MC at2 tab2 tabC modes gridSize mask nfft nifft projected3d leray kInt proj3 inj3)
open Exponax.Laminar (geom_phi1)
open Exponax.Etdrk (ConstOn iterate_on E1step_on E2step_on E3step_on E4step_on)

/-- a three-channel term as a map on spectra `channel → mode → ℂ` (the 3-D form of `Conserve.liftNl`) -/
noncomputable def liftNl3 (c : Cfg ℂ) (F : MC ℂ → MC ℂ) : (ℕ → ℕ → ℂ) → (ℕ → ℕ → ℂ) :=
  fun v i h => at2 (F (tabC 3 (fun i => tab (modes c) (v i)))) i h

/-- channel 0 carried by the two stored modes `(0, ±m, 0)`, channels 1 and 2 zero -/
def TwoModeSpec (c : Cfg ℂ) (m : ℕ) (v : ℕ → ℕ → ℂ) : Prop :=
  ∀ i h, (i ≠ 0 ∨ (h ≠ hP c m ∧ h ≠ hM c m)) → v i h = 0

noncomputable def forcing3 (c : Cfg ℂ) (inj : Option (ℕ × ℂ)) : ℕ → ℕ → ℂ := liftNl3 c (projected3d c inj) 0

theorem at2_lift (c : Cfg ℂ) (v : ℕ → ℕ → ℂ) (i h : ℕ) (hi : i < 3) (hh : h < modes c) :
    at2 (tabC 3 (fun i => tab (modes c) (v i))) i h = v i h := by
  rw [Nonlin.at2_tabC _ _ _ _ hi, Nonlin.tab_getD _ _ _ _ hh]

theorem twoMode_lift (c : Cfg ℂ) (m : ℕ) (v : ℕ → ℕ → ℂ) (hv : TwoModeSpec c m v) :
    TwoMode c m (tabC 3 (fun i => tab (modes c) (v i))) := by
  intro i h hh hc
  rw [Alias.at2_tabC_any]
  split_ifs
  · rw [Nonlin.tab_getD _ _ _ _ hh]; exact hv i h hc
  · rfl

theorem inj3_some (c : Cfg ℂ) (hD : c.D = 3) (m : ℕ) (hm : 2 * m < c.N) (gam : ℂ) (i h : ℕ) (hh : h < modes c) :
    inj3 c (some (m, gam)) i h
      = if i = 0 ∧ h = hP c m then -Complex.I * gam * scaling c.D c.N 2 (unflatten (wavenumberShape c.D c.N) h)
        else if i = 0 ∧ h = hM c m then Complex.I * gam * scaling c.D c.N 2 (unflatten (wavenumberShape c.D c.N) h)
        else 0 := by
  simp only [inj3, eq_hP_iff c hD m hm h hh, eq_hM_iff c hD m hm h hh]

section
variable (c : Cfg ℂ) (hD : c.D = 3) (s : ℝ) (hs : c.s = (s : ℂ)) (hs0 : s ≠ 0) (m : ℕ) (hm0 : 0 < m)
  (hm : 2 * m < c.N)
include hD hs hs0 hm0 hm

theorem projected3d_shear_all (inj : Option (ℕ × ℂ)) (uh : MC ℂ) (hu : TwoMode c m uh) (i h : ℕ) (hi : i < 3)
    (hh : h < modes c) : at2 (projected3d c inj uh) i h = inj3 c inj i h := by
  rw [Nonlin.projected3d_inj c inj uh i h hi hh, projected3d_shear_none_partial c hD s hs hs0 m hm0 hm uh hu i h hi hh,
    zero_add]

theorem liftNl3_shear (inj : Option (ℕ × ℂ)) (v : ℕ → ℕ → ℂ) (hv : TwoModeSpec c m v) :
    liftNl3 c (projected3d c inj) v = forcing3 c inj := by
  funext i h
  unfold forcing3 liftNl3
  by_cases hc : i < 3 ∧ h < modes c
  · rw [projected3d_shear_all c hD s hs hs0 m hm0 hm inj _ (twoMode_lift c m v hv) i h hc.1 hc.2,
      projected3d_shear_all c hD s hs hs0 m hm0 hm inj _ (twoMode_lift c m 0 (fun _ _ _ => rfl)) i h hc.1 hc.2]
  · rw [Nonlin.projected3d_at2_out c inj _ i h (by omega), Nonlin.projected3d_at2_out c inj _ i h (by omega)]

theorem forcing3_apply (inj : Option (ℕ × ℂ)) (i h : ℕ) :
    forcing3 c inj i h = if i < 3 ∧ h < modes c then inj3 c inj i h else 0 := by
  unfold forcing3 liftNl3
  split_ifs with hc
  · exact projected3d_shear_all c hD s hs hs0 m hm0 hm inj _ (twoMode_lift c m 0 (fun _ _ _ => rfl)) i h hc.1 hc.2
  · exact Nonlin.projected3d_at2_out c inj _ i h (by omega)

theorem forcing3_twoMode (inj : Option (ℕ × ℂ)) (hinj : inj = none ∨ ∃ gam, inj = some (m, gam)) :
    TwoModeSpec c m (forcing3 c inj) := by
  intro i h hc
  rw [forcing3_apply c hD s hs hs0 m hm0 hm]
  split_ifs with hr
  · rcases hinj with rfl | ⟨gam, rfl⟩
    · rfl
    · rw [inj3_some c hD m hm gam i h hr.2, if_neg, if_neg]
      · rintro ⟨hi0, hq⟩
        rcases hc with hc | hc
        · exact hc hi0
        · exact hc.2 hq
      · rintro ⟨hi0, hp⟩
        rcases hc with hc | hc
        · exact hc hi0
        · exact hc.1 hp
  · rfl

theorem constOn_twoMode (inj : Option (ℕ × ℂ)) (hinj : inj = none ∨ ∃ gam, inj = some (m, gam)) :
    ConstOn (TwoModeSpec c m) (forcing3 c inj) (liftNl3 c (projected3d c inj)) where
  affine := by
    intro A B v hv i h hc
    simp only [Pi.add_apply, Pi.mul_apply]
    rw [hv i h hc, forcing3_twoMode c hD s hs hs0 m hm0 hm inj hinj i h hc]
    ring
  const := fun v hv => liftNl3_shear c hD s hs hs0 m hm0 hm inj v hv

theorem laminar3d_all (inj : Option (ℕ × ℂ)) (hinj : inj = none ∨ ∃ gam, inj = some (m, gam))
    (E Eh a1 a2 a3 a4 a5 a6 v : ℕ → ℕ → ℂ) (hv : TwoModeSpec c m v) (n : ℕ) :
    (E1step E a1 (liftNl3 c (projected3d c inj)))^[n] v
        = E ^ n * v + (∑ i ∈ range n, E ^ i) * (a1 * forcing3 c inj) ∧
    (E2step E a1 a2 (liftNl3 c (projected3d c inj)))^[n] v
        = E ^ n * v + (∑ i ∈ range n, E ^ i) * (a1 * forcing3 c inj) ∧
    (E3step E Eh a1 a2 a3 a4 a5 (liftNl3 c (projected3d c inj)))^[n] v
        = E ^ n * v + (∑ i ∈ range n, E ^ i) * ((a3 + a4 + a5) * forcing3 c inj) ∧
    (E4step E Eh a1 a2 a3 a4 a5 a6 (liftNl3 c (projected3d c inj)))^[n] v
        = E ^ n * v + (∑ i ∈ range n, E ^ i) * ((a4 + 4 * a5 + a6) * forcing3 c inj) := by
  have H := constOn_twoMode c hD s hs hs0 m hm0 hm inj hinj
  exact ⟨(iterate_on _ _ E _ (H.affine E a1) (E1step_on H E a1) v hv n).2,
    (iterate_on _ _ E _ (H.affine E a1) (E2step_on H E a1 a2) v hv n).2,
    (iterate_on _ _ E _ (H.affine E _) (E3step_on H E Eh a1 a2 a3 a4 a5) v hv n).2,
    (iterate_on _ _ E _ (H.affine E _) (E4step_on H E Eh a1 a2 a3 a4 a5 a6) v hv n).2⟩

theorem forcing3_eq (gam : ℂ) :
    forcing3 c (some (m, gam)) = fun i h =>
      if i = 0 ∧ h = hP c m then -Complex.I * gam * ((c.N : ℂ) * ((c.N : ℂ) / 2) * (c.N : ℂ))
      else if i = 0 ∧ h = hM c m then Complex.I * gam * ((c.N : ℂ) * ((c.N : ℂ) / 2) * (c.N : ℂ))
      else 0 := by
  funext i h
  rw [forcing3_apply c hD s hs hs0 m hm0 hm]
  by_cases hr : i < 3 ∧ h < modes c
  · rw [if_pos hr, inj3_some c hD m hm gam i h hr.2]
    by_cases hp : i = 0 ∧ h = hP c m
    · have hk := (eq_hP_iff c hD m hm h hr.2).mpr hp.2
      rw [if_pos hp, if_pos hp, Nonlin.scaling_at_kolmogorov_3d c hD h m hm0 hm hk.1 hk.2.1 (Or.inl hk.2.2)]
    · rw [if_neg hp, if_neg hp]
      by_cases hq : i = 0 ∧ h = hM c m
      · have hk := (eq_hM_iff c hD m hm h hr.2).mpr hq.2
        rw [if_pos hq, if_pos hq, Nonlin.scaling_at_kolmogorov_3d c hD h m hm0 hm hk.1 hk.2.1 (Or.inr hk.2.2)]
      · rw [if_neg hq, if_neg hq]
  · rw [if_neg hr, if_neg, if_neg]
    · rintro ⟨hi0, rfl⟩
      exact hr ⟨by omega, hM_lt c hD m hm⟩
    · rintro ⟨hi0, rfl⟩
      exact hr ⟨by omega, hP_lt c hD m hm⟩

/-- **laminar solution, 3-D, entrywise, exact coefficients at that entry** (ETDRK4; from rest): every entry of the
    spectrum is `f̂ (e^{nσdt} − 1)/σ` with `f̂` the forcing entry — in particular `0` wherever the forcing vanishes,
    whatever the coefficients there -/
theorem laminar3d_exact_E4 (gam : ℂ) (E Eh a1 a2 a3 a4 a5 a6 : ℕ → ℕ → ℂ) (n : ℕ) (i h : ℕ) :
    (forcing3 c (some (m, gam)) i h = 0 →
      (E4step E Eh a1 a2 a3 a4 a5 a6 (liftNl3 c (projected3d c (some (m, gam)))))^[n] 0 i h = 0) ∧
    (∀ σ dt : ℂ, σ ≠ 0 → dt ≠ 0 → E i h = Complex.exp (σ * dt) →
      a4 i h = dt * (phi1 (σ * dt) - 3 * phi2 (σ * dt) + 4 * phi3 (σ * dt)) →
      a5 i h = dt * (phi2 (σ * dt) - 2 * phi3 (σ * dt)) →
      a6 i h = dt * (4 * phi3 (σ * dt) - phi2 (σ * dt)) →
      (E4step E Eh a1 a2 a3 a4 a5 a6 (liftNl3 c (projected3d c (some (m, gam)))))^[n] 0 i h
        = forcing3 c (some (m, gam)) i h * (Complex.exp (n * (σ * dt)) - 1) / σ) := by
  have hall := (laminar3d_all c hD s hs hs0 m hm0 hm (some (m, gam)) (Or.inr ⟨gam, rfl⟩) E Eh a1 a2 a3 a4 a5 a6 0
    (fun _ _ _ => rfl) n).2.2.2
  have hval : (E4step E Eh a1 a2 a3 a4 a5 a6 (liftNl3 c (projected3d c (some (m, gam)))))^[n] 0 i h
      = (∑ j ∈ range n, E i h ^ j) * ((a4 i h + 4 * a5 i h + a6 i h) * forcing3 c (some (m, gam)) i h) := by
    rw [hall]
    have h4 : (4 : ℕ → ℕ → ℂ) i h = 4 := rfl
    simp only [Pi.add_apply, Pi.mul_apply, Pi.zero_apply, mul_zero, zero_add, Finset.sum_apply, Pi.pow_apply, h4]
  constructor
  · intro hF
    rw [hval, hF]; ring
  · intro σ dt hσ hdt hE h4 h5 h6
    rw [hval, hE, h4, h5, h6]
    have hk : dt * (phi1 (σ * dt) - 3 * phi2 (σ * dt) + 4 * phi3 (σ * dt))
        + 4 * (dt * (phi2 (σ * dt) - 2 * phi3 (σ * dt))) + dt * (4 * phi3 (σ * dt) - phi2 (σ * dt))
        = dt * phi1 (σ * dt) := by ring
    rw [hk]
    exact geom_phi1 σ dt _ hσ hdt n

end

/-! non-vacuity -/

example : ∃ c : Cfg ℂ, c.D = 3 ∧ c.s = ((1 : ℝ) : ℂ) ∧ (1 : ℝ) ≠ 0 ∧ 0 < 2 ∧ 2 * 2 < c.N :=
  ⟨⟨3, 8, ((1 : ℝ) : ℂ), 2, 3⟩, rfl, rfl, one_ne_zero, by norm_num, by norm_num⟩
example (c : Cfg ℂ) (m : ℕ) : TwoModeSpec c m 0 := fun _ _ _ => rfl
example (c : Cfg ℂ) (m : ℕ) : TwoMode c m (#[] : MC ℂ) := twoMode_empty c m

end Exponax.Laminar3D
