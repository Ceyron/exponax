import ExponaxModel.Proofs.C2RHermitian
import ExponaxModel.Proofs.C2RProjection
/-
C11: the exact energy budget of one linear step `u ↦ irfftn (E ⊙ rfftn u)` on a real state,
`‖u‖² − ‖step u‖² = N^{-D} Σ_h w_h (1 − |E_h|²) |û_h|² + N^{-D} Σ_h ((2 − w_h)/4) |E_h − conj E_{σh}|² |û_h|²`
(damping loss + loss in the c2r projection, which lives on the self-conjugate columns `w_h = 1` only:
`C11_energy_budget`, from `discarded_term`); hence for
`|E_h| = 1` the norm is preserved iff on every self-conjugate-column mode `E_h = conj E_{σh}` or `û_h = 0`, with a
strict loss otherwise (`N = 2`, `u = (1, −1)`, advection factor `e^{−iθh}`, `sin θ ≠ 0`).
-/
namespace Exponax.C2R
open Exponax Exponax.Layout Exponax.Transform Exponax.DFT Exponax.Conserve Finset

/-- for a real state `u` the part of `c = E ⊙ rfftn u` discarded by `irfftn` at stored mode `h` has
    weighted size `((2 − w_h)/4) |E_h − conj E_{σh}|² |û_h|²` -/
theorem discarded_term (D N : ℕ) (hD : 0 < D) (hN : 0 < N) (u : Array ℂ)
    (hu : ∀ j < N ^ D, (u.getD j 0).im = 0) (E : ℕ → ℂ) (h : ℕ) (hh : h < numModes D N) :
    (herm_weight D N h : ℝ) *
        ‖(tab (numModes D N) (fun h => E h * (rfftnM D N u).getD h 0)).getD h 0
          - (rfftnM D N (irfftnM D N
              (tab (numModes D N) (fun h => E h * (rfftnM D N u).getD h 0)))).getD h 0‖ ^ 2
      = ((2 - (herm_weight D N h : ℝ)) / 4)
          * ‖E h - (starRingEnd ℂ) (E (conjIdx D N h))‖ ^ 2 * ‖(rfftnM D N u).getD h 0‖ ^ 2 := by
  rcases herm_weight_eq D N h with hw | hw
  · rw [rfftn_irfftn_nd_w1 D N hD hN _ h hh hw, DFT.tab_getD _ _ _ _ hh,
      DFT.tab_getD _ _ _ _ (conjIdx_lt D N h hD hN), rfftn_conjIdx_of_real D N hD hN u hu h hh hw,
      map_mul, Complex.conj_conj, hw]
    rw [show E h * (rfftnM D N u).getD h 0
          - (E h * (rfftnM D N u).getD h 0
              + (starRingEnd ℂ) (E (conjIdx D N h)) * (rfftnM D N u).getD h 0) / 2
        = (1 / 2 : ℂ) * ((E h - (starRingEnd ℂ) (E (conjIdx D N h))) * (rfftnM D N u).getD h 0) by ring,
      norm_mul, norm_mul, mul_pow, mul_pow]
    have : ‖(1 / 2 : ℂ)‖ = 1 / 2 := by
      rw [norm_div, norm_one]; simp
    rw [this]
    push_cast
    ring
  · rw [rfftn_irfftn_nd_w2 D N hD hN _ h hh hw, sub_self, norm_zero, hw]
    push_cast
    ring

/-- General `D ≥ 1`, `N ≥ 1`: with `|E_h| = 1` on all stored modes, the step preserves the grid
    2-norm of the real state `u` IF AND ONLY IF on every stored mode `h` of a self-conjugate column
    (`herm_weight D N h = 1`: last-axis wavenumber `0`, or `N/2` for even `N`) either the factor is
    Hermitian-symmetric, `E_h = conj E_{σh}` (`σh = conjIdx D N h`, the stored index of `−k(h)`), or
    the state has no content there, `û_h = 0`. -/
theorem linear_step_isometry_iff_herm (D N : ℕ) (hD : 0 < D) (hN : 0 < N) (u : Array ℂ)
    (hu : ∀ j < N ^ D, (u.getD j 0).im = 0) (E : ℕ → ℂ) (hE : ∀ h < numModes D N, ‖E h‖ = 1) :
    ∑ j ∈ range (N ^ D),
        ((irfftnM D N (tab (numModes D N) (fun h => E h * (rfftnM D N u).getD h 0))).getD j 0).re ^ 2
        = ∑ j ∈ range (N ^ D), (u.getD j 0).re ^ 2
      ↔ ∀ h < numModes D N, herm_weight D N h = 1 →
          (E h = (starRingEnd ℂ) (E (conjIdx D N h)) ∨ (rfftnM D N u).getD h 0 = 0) := by
  -- the step is an isometry iff `c = E ⊙ û` is a fixed point of `rfftn ∘ irfftn`, i.e. Hermitian on
  -- the self-conjugate columns; there `û_{σh} = conj û_h`, so the condition reads
  -- `(E_h − conj E_{σh}) û_h = 0`
  rw [linear_step_isometry_iff D N hD hN u hu E hE]
  refine (forall₂_congr fun h hh => by rw [DFT.tab_getD _ _ _ _ hh]).symm.trans
    ((c2r_fixed_iff_herm D N hD hN _).trans
      (forall₂_congr fun h hh => imp_congr_right fun hw => ?_))
  rw [DFT.tab_getD _ _ _ _ hh, DFT.tab_getD _ _ _ _ (conjIdx_lt D N h hD hN),
    rfftn_conjIdx_of_real D N hD hN u hu h hh hw, map_mul, Complex.conj_conj, ← sub_eq_zero,
    ← sub_mul, mul_eq_zero, sub_eq_zero]

/-- sufficient: no content on the self-conjugate columns (e.g. a state without Nyquist and without
    last-axis-mean content) gives an isometry for EVERY unimodular factor array -/
theorem linear_step_isometry_of_no_content (D N : ℕ) (hD : 0 < D) (hN : 0 < N) (u : Array ℂ)
    (hu : ∀ j < N ^ D, (u.getD j 0).im = 0) (E : ℕ → ℂ) (hE : ∀ h < numModes D N, ‖E h‖ = 1)
    (hzero : ∀ h < numModes D N, herm_weight D N h = 1 → (rfftnM D N u).getD h 0 = 0) :
    ∑ j ∈ range (N ^ D),
        ((irfftnM D N (tab (numModes D N) (fun h => E h * (rfftnM D N u).getD h 0))).getD j 0).re ^ 2
      = ∑ j ∈ range (N ^ D), (u.getD j 0).re ^ 2 :=
  (linear_step_isometry_iff_herm D N hD hN u hu E hE).mpr (fun h hh hw => Or.inr (hzero h hh hw))

theorem linear_step_strict_of_nonherm (D N : ℕ) (hD : 0 < D) (hN : 0 < N) (u : Array ℂ)
    (hu : ∀ j < N ^ D, (u.getD j 0).im = 0) (E : ℕ → ℂ) (hE : ∀ h < numModes D N, ‖E h‖ = 1)
    (h : ℕ) (hh : h < numModes D N) (hw : herm_weight D N h = 1)
    (hne : E h ≠ (starRingEnd ℂ) (E (conjIdx D N h))) (hcont : (rfftnM D N u).getD h 0 ≠ 0) :
    ∑ j ∈ range (N ^ D),
        ((irfftnM D N (tab (numModes D N) (fun h => E h * (rfftnM D N u).getD h 0))).getD j 0).re ^ 2
      < ∑ j ∈ range (N ^ D), (u.getD j 0).re ^ 2 := by
  apply lt_of_le_of_ne
    (linear_step_no_amplification D N hD hN u hu E (fun h hh => (hE h hh).le))
  intro heq
  rcases (linear_step_isometry_iff_herm D N hD hN u hu E hE).mp heq h hh hw with h1 | h1
  · exact hne h1
  · exact hcont h1

/-- 1-D: with `|E_h| = 1`: norm preserved  ⇔  (`E_0` real or `û_0 = 0`) and, for even `N`,
    (`E_{N/2}` real or `û_{N/2} = 0`).  For odd `N` only the mean mode matters. -/
theorem linear_step_isometry_iff_1d (N : ℕ) (hN : 0 < N) (u : Array ℂ)
    (hu : ∀ j < N, (u.getD j 0).im = 0) (E : ℕ → ℂ) (hE : ∀ h ≤ N / 2, ‖E h‖ = 1) :
    ∑ j ∈ range N,
        ((irfftnM 1 N (tab (N / 2 + 1) (fun h => E h * (rfftnM 1 N u).getD h 0))).getD j 0).re ^ 2
        = ∑ j ∈ range N, (u.getD j 0).re ^ 2
      ↔ ((E 0).im = 0 ∨ (rfftnM 1 N u).getD 0 0 = 0) ∧
        (N % 2 = 0 → ((E (N / 2)).im = 0 ∨ (rfftnM 1 N u).getD (N / 2) 0 = 0)) := by
  have hu' : ∀ j < N ^ 1, (u.getD j 0).im = 0 := by simpa using hu
  have hE' : ∀ h < numModes 1 N, ‖E h‖ = 1 := by
    intro h hh; rw [numModes_one] at hh; exact hE h (by omega)
  have key := linear_step_isometry_iff_herm 1 N (by norm_num) hN u hu' E hE'
  rw [numModes_one, pow_one] at key
  rw [key]
  rw [← forall_selfConj_one_iff N fun h => (E h).im = 0 ∨ (rfftnM 1 N u).getD h 0 = 0]
  refine forall₂_congr fun h hh => imp_congr_right fun _ => or_congr_left ?_
  rw [conjIdx_one N h (by rw [numModes_one]; exact hh), eq_comm, Complex.conj_eq_iff_im]

/-- 1-D, odd `N`, real mean factor (e.g. `E_0 = 1`, every derivative operator): ALWAYS an isometry —
    there is no Nyquist mode, whatever the phases of the other factors -/
theorem linear_step_isometry_1d_odd (N : ℕ) (hodd : N % 2 = 1) (u : Array ℂ)
    (hu : ∀ j < N, (u.getD j 0).im = 0) (E : ℕ → ℂ) (hE : ∀ h ≤ N / 2, ‖E h‖ = 1)
    (hE0 : (E 0).im = 0) :
    ∑ j ∈ range N,
        ((irfftnM 1 N (tab (N / 2 + 1) (fun h => E h * (rfftnM 1 N u).getD h 0))).getD j 0).re ^ 2
      = ∑ j ∈ range N, (u.getD j 0).re ^ 2 :=
  (linear_step_isometry_iff_1d N (by omega) u hu E hE).mpr ⟨Or.inl hE0, fun hev => by omega⟩

/-- advection-like unimodular factors `E_h = e^{−iθh}` (shift by `θ` grid-angle units) -/
noncomputable def advE (θ : ℝ) (h : ℕ) : ℂ := Complex.exp (((-((h : ℝ) * θ) : ℝ) : ℂ) * Complex.I)

theorem norm_advE (θ : ℝ) (h : ℕ) : ‖advE θ h‖ = 1 := Complex.norm_exp_ofReal_mul_I _

theorem advE_zero (θ : ℝ) : advE θ 0 = 1 := by simp [advE]

theorem advE_one_im (θ : ℝ) : (advE θ 1).im = -Real.sin θ := by
  unfold advE
  rw [Complex.exp_ofReal_mul_I_im]
  simp

theorem rfft_sawtooth_nyquist : (rfftnM 1 2 #[(1 : ℂ), -1]).getD 1 0 = 2 := by
  rw [rfft2_one]
  simp
  norm_num

/-- Strict loss: `D = 1`, `N = 2`, the real saw-tooth `u = (1, −1)` (pure Nyquist
    content), advection factors `E_h = e^{−iθh}` with `sin θ ≠ 0` (so `|E_h| = 1`, `E_0 = 1`, but
    `E_1` is not real): the step STRICTLY decreases the grid 2-norm. -/
theorem nyquist_counterexample (θ : ℝ) (hθ : Real.sin θ ≠ 0) :
    ∑ j ∈ range 2,
        ((irfftnM 1 2 (tab (2 / 2 + 1)
          (fun h => advE θ h * (rfftnM 1 2 #[(1 : ℂ), -1]).getD h 0))).getD j 0).re ^ 2
      < ∑ j ∈ range 2, ((#[(1 : ℂ), -1] : Array ℂ).getD j 0).re ^ 2 := by
  have hu := sawtooth_real
  have hE : ∀ h ≤ 2 / 2, ‖advE θ h‖ = 1 := fun h _ => norm_advE θ h
  have hle := linear_step_no_amplification 1 2 (by norm_num) (by norm_num) #[(1 : ℂ), -1]
    (by simpa using hu) (advE θ) (fun h _ => (norm_advE θ h).le)
  rw [numModes_one, pow_one] at hle
  apply lt_of_le_of_ne hle
  intro heq
  have := ((linear_step_isometry_iff_1d 2 (by norm_num) _ hu (advE θ) hE).mp heq).2 (by norm_num)
  rcases this with h1 | h1
  · rw [show 2 / 2 = 1 from rfl, advE_one_im] at h1
    exact hθ (by linarith)
  · rw [show 2 / 2 = 1 from rfl, rfft_sawtooth_nyquist] at h1
    norm_num at h1

/-- a concrete instance: quarter-period shift, `E_1 = −i` -/
example :
    ∑ j ∈ range 2,
        ((irfftnM 1 2 (tab (2 / 2 + 1)
          (fun h => advE (Real.pi / 2) h * (rfftnM 1 2 #[(1 : ℂ), -1]).getD h 0))).getD j 0).re ^ 2
      < ∑ j ∈ range 2, ((#[(1 : ℂ), -1] : Array ℂ).getD j 0).re ^ 2 :=
  nyquist_counterexample (Real.pi / 2) (by rw [Real.sin_pi_div_two]; norm_num)

/-- the left alternative of `linear_step_isometry_iff_herm` on every mode: real unimodular factors -/
example : ∃ (D N : ℕ) (E : ℕ → ℂ), 0 < D ∧ 0 < N ∧ (∀ h < numModes D N, ‖E h‖ = 1) ∧
    (∀ h < numModes D N, herm_weight D N h = 1 → E h = (starRingEnd ℂ) (E (conjIdx D N h))) :=
  ⟨2, 4, fun _ => -1, by norm_num, by norm_num, fun _ _ => by simp, fun _ _ _ => by simp⟩

/-- hypotheses of `linear_step_isometry_of_no_content`: the zero state -/
example : ∃ (D N : ℕ) (u : Array ℂ), 0 < D ∧ 0 < N ∧ (∀ j < N ^ D, (u.getD j 0).im = 0) ∧
    (∀ h < numModes D N, herm_weight D N h = 1 → (rfftnM D N u).getD h 0 = 0) := by
  refine ⟨1, 3, #[], by norm_num, by norm_num, fun j _ => by simp, fun h hh _ => ?_⟩
  rw [rfftnM_getD 1 3 (by norm_num) _ h hh]
  simp

/-- hypotheses of `linear_step_strict_of_nonherm` / `linear_step_isometry_iff_1d`: the counterexample -/
example : ∃ (u : Array ℂ) (E : ℕ → ℂ), (∀ j < 2 ^ 1, (u.getD j 0).im = 0) ∧
    (∀ h < numModes 1 2, ‖E h‖ = 1) ∧ (1 < numModes 1 2) ∧ herm_weight 1 2 1 = 1 ∧
    E 1 ≠ (starRingEnd ℂ) (E (conjIdx 1 2 1)) ∧ (rfftnM 1 2 u).getD 1 0 ≠ 0 := by
  refine ⟨#[(1 : ℂ), -1], advE (Real.pi / 2), sawtooth_real, fun h _ => norm_advE _ h, by decide, by decide,
    ?_, ?_⟩
  · rw [conjIdx_one 2 1 (by decide)]
    intro h
    have him := Complex.conj_eq_iff_im.mp h.symm
    rw [advE_one_im, Real.sin_pi_div_two] at him
    norm_num at him
  · rw [rfft_sawtooth_nyquist]; norm_num

/-- hypotheses of `linear_step_isometry_1d_odd` -/
example : ∃ (N : ℕ) (E : ℕ → ℂ), N % 2 = 1 ∧ (∀ h ≤ N / 2, ‖E h‖ = 1) ∧ (E 0).im = 0 :=
  ⟨3, advE 1, by norm_num, fun h _ => norm_advE 1 h, by rw [advE_zero]; simp⟩

end Exponax.C2R
