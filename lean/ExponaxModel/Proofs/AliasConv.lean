import ExponaxModel.Proofs.AliasNDConv
/-
C03, the DFT side in 1-D (no model pipeline), as the `D = 1` case of `AliasNDConv`: a wavenumber
`m : ℤ` is the constant vector `cst D m`, `dft` is `dftV` there, `Icc (-K) K` is the box.  `D` stays a
variable with `hD : D = 1`, so that the bridge applies to `c.D` of a configuration without casts.
-/
namespace Exponax.Alias
open Exponax Exponax.Layout Exponax.Transform Exponax.DFT Exponax.AliasND Finset

abbrev cst (D : ℕ) (m : ℤ) : Fin D → ℤ := fun _ => m

theorem cst_sub (D : ℕ) (a b : ℤ) : cst D a - cst D b = cst D (a - b) := rfl

theorem eq_cst {D : ℕ} (hD : D = 1) (p : Fin D → ℤ) : p = cst D (p ⟨0, by omega⟩) := by
  subst hD
  exact funext fun d => congrArg p (Subsingleton.elim d 0)

theorem forall_cst {D : ℕ} (hD : D = 1) (P : ℤ → Prop) (m : ℤ) : (∀ d : Fin D, P (cst D m d)) ↔ P m := by
  subst hD
  exact ⟨fun h => h 0, fun h _ => h⟩

theorem vdot_cst {D N : ℕ} (hD : D = 1) (m : ℤ) (j : ℕ) (hj : j < N) : vdot D N (cst D m) j = m * (j : ℤ) := by
  subst hD
  simp only [vdot, Fin.sum_univ_one, Fin.val_zero, digit_one_of_lt N j hj]

theorem digZ_cst {D N : ℕ} (hD : D = 1) (a : ℕ) (ha : a < N) : digZ D N a = cst D (a : ℤ) := by
  subst hD
  exact funext fun d => by rw [digZ, Subsingleton.elim d 0, Fin.val_zero, digit_one_of_lt N a ha]

theorem dftV_cst {D N : ℕ} (hD : D = 1) (u : Array ℂ) (m : ℤ) : dftV D N u (cst D m) = dft N u m := by
  unfold dftV dft
  rw [show N ^ D = N by rw [hD, pow_one]]
  exact Finset.sum_congr rfl fun j hj => by rw [vdot_cst hD m j (mem_range.mp hj)]

theorem sum_box_cst {D : ℕ} (hD : D = 1) (K : ℤ) (Φ : (Fin D → ℤ) → ℂ) :
    ∑ p ∈ box D K, Φ p = ∑ m ∈ Finset.Icc (-K) K, Φ (cst D m) := by
  subst hD
  refine Finset.sum_bij' (fun p _ => p 0) (fun m _ => cst 1 m) ?_ ?_ ?_ ?_ ?_
  · intro p hp
    exact Finset.mem_Icc.mpr (abs_le.mp (mem_box.mp hp 0))
  · intro m hm
    exact mem_box.mpr fun _ => abs_le.mpr (Finset.mem_Icc.mp hm)
  · intro p _
    exact (eq_cst rfl p).symm
  · intro m _
    rfl
  · intro p _
    rw [eq_cst rfl p]

theorem sum_range_dim_one {D : ℕ} (hD : D = 1) (f : ℕ → ℂ) : ∑ d ∈ range D, f d = f 0 := by
  rw [hD, Finset.sum_range_one]

theorem dft_congr (N : ℕ) (u v : Array ℂ) (huv : ∀ j < N, u.getD j 0 = v.getD j 0) (h : ℤ) :
    dft N u h = dft N v h := by
  unfold dft
  exact Finset.sum_congr rfl (fun j hj => by rw [huv j (Finset.mem_range.mp hj)])

theorem dft_tab (N : ℕ) (f : ℕ → ℂ) (h : ℤ) :
    dft N (tab N f) h = ∑ j ∈ range N, f j * zeta N ^ (h * (j : ℤ)) := by
  unfold dft
  exact Finset.sum_congr rfl (fun j hj => by rw [DFT.tab_getD _ _ _ _ (Finset.mem_range.mp hj)])

theorem dft_of_dvd (N : ℕ) (u : Array ℂ) (a b : ℤ) (hd : (N : ℤ) ∣ a - b) : dft N u a = dft N u b := by
  obtain ⟨k, hk⟩ := hd
  rw [← add_sub_cancel b a, hk, dft_add_period]

theorem dft_add (N : ℕ) (f g : ℕ → ℂ) (h : ℤ) :
    dft N (tab N fun j => f j + g j) h = dft N (tab N f) h + dft N (tab N g) h := by
  simp only [dft_tab, ← Finset.sum_add_distrib, add_mul]

theorem dft_smul (N : ℕ) (a : ℂ) (f : ℕ → ℂ) (h : ℤ) :
    dft N (tab N fun j => a * f j) h = a * dft N (tab N f) h := by
  simp only [dft_tab, Finset.mul_sum, mul_assoc]

theorem dft_const (N : ℕ) (hN : 0 < N) (a : ℂ) (h : ℤ) :
    dft N (tab N fun _ => a) h = if (N : ℤ) ∣ h then a * (N : ℂ) else 0 := by
  rw [dft_tab, ← Finset.mul_sum, zeta_sum_zpow N hN]
  split_ifs <;> simp

theorem dft_mul (N : ℕ) (hN : 0 < N) (u v : Array ℂ) (h : ℤ) :
    dft N (tab N fun j => u.getD j 0 * v.getD j 0) h
      = (1 / (N : ℂ)) * ∑ a ∈ range N, dft N u a * dft N v (h - a) := by
  have := dftV_mul 1 N hN u v (cst 1 h)
  rw [dftV_cst rfl, pow_one] at this
  rw [this]
  refine congrArg _ (Finset.sum_congr rfl fun a ha => ?_)
  rw [digZ_cst rfl a (mem_range.mp ha), cst_sub, dftV_cst rfl, dftV_cst rfl]

theorem dft_mul_fun (N : ℕ) (hN : 0 < N) (f g : ℕ → ℂ) (h : ℤ) :
    dft N (tab N fun j => f j * g j) h
      = (1 / (N : ℂ)) * ∑ a ∈ range N, dft N (tab N f) a * dft N (tab N g) (h - a) := by
  rw [← dft_mul N hN]
  apply dft_congr
  intro j hj
  rw [DFT.tab_getD _ _ _ _ hj, DFT.tab_getD _ _ _ _ hj, DFT.tab_getD _ _ _ _ hj, DFT.tab_getD _ _ _ _ hj]

/-- the spectrum of `u` is supported on the wavenumbers `|m| ≤ K` modulo `N`
    (`K < 0`: the spectrum vanishes identically) -/
def BandLimited (N : ℕ) (K : ℤ) (u : Array ℂ) : Prop :=
  ∀ a : ℤ, (¬ ∃ m : ℤ, |m| ≤ K ∧ (N : ℤ) ∣ (a - m)) → dft N u a = 0

/-- band truncation of a spectrum `F : ℤ → ℂ` (NOT periodised): keep `|m| ≤ K` -/
noncomputable def trunc (K : ℤ) (F : ℤ → ℂ) (m : ℤ) : ℂ := if |m| ≤ K then F m else 0

theorem trunc_of_le (K : ℤ) (F : ℤ → ℂ) (m : ℤ) (h : |m| ≤ K) : trunc K F m = F m := if_pos h

theorem trunc_of_gt (K : ℤ) (F : ℤ → ℂ) (m : ℤ) (h : ¬ |m| ≤ K) : trunc K F m = 0 := if_neg h

theorem trunc_mul (K : ℤ) (μ F : ℤ → ℂ) (m : ℤ) : trunc K (fun n => μ n * F n) m = μ m * trunc K F m := by
  unfold trunc
  split_ifs <;> simp

theorem truncV_cst {D : ℕ} (hD : D = 1) (K : ℤ) (F : (Fin D → ℤ) → ℂ) (m : ℤ) :
    truncV K F (cst D m) = trunc K (fun n => F (cst D n)) m := by
  unfold truncV trunc
  simp only [forall_cst hD (fun x => |x| ≤ K) m]

theorem bandLimitedV_iff {D N : ℕ} (hD : D = 1) (K : ℤ) (u : Array ℂ) :
    BandLimitedV D N K u ↔ BandLimited N K u := by
  subst hD
  constructor
  · intro h a ha
    rw [← dftV_cst rfl]
    exact h _ fun ⟨m, hm, hc⟩ => ha ⟨m 0, hm 0, hc 0⟩
  · intro h a ha
    rw [eq_cst rfl a, dftV_cst rfl]
    exact h _ fun ⟨m, hm, hc⟩ => ha ⟨cst 1 m, fun _ => hm, fun d => by rw [Subsingleton.elim d 0]; exact hc⟩

theorem band_no_alias_cubic (N : ℕ) (K : ℤ) (hK : 4 * K < (N : ℤ)) (a b c h : ℤ)
    (ha : |a| ≤ K) (hb : |b| ≤ K) (hc : |c| ≤ K) (hh : |h| ≤ K) (hd : (N : ℤ) ∣ (a + b + c - h)) :
    a + b + c = h :=
  no_alias_cubic N K hK a b c h ha hb hc hh hd

theorem dft_mul3_band (N : ℕ) (hN : 0 < N) (K : ℤ) (hK : 2 * K < (N : ℤ)) (u v w : Array ℂ)
    (hu : BandLimited N K u) (hv : BandLimited N K v) (h : ℤ) :
    dft N (tab N fun j => u.getD j 0 * v.getD j 0 * w.getD j 0) h
      = (1 / (N : ℂ) ^ 2) * ∑ a ∈ Finset.Icc (-K) K, ∑ b ∈ Finset.Icc (-K) K,
          dft N u a * dft N v b * dft N w (h - a - b) := by
  have := dftV_mul3_band 1 N hN K hK u v w ((bandLimitedV_iff rfl K u).mpr hu)
    ((bandLimitedV_iff rfl K v).mpr hv) (cst 1 h)
  simpa only [dftV_cst rfl, sum_box_cst rfl, cst_sub, pow_one, one_div, inv_pow] using this

theorem dft_mul3_no_alias (N : ℕ) (hN : 0 < N) (K : ℤ) (hK : 4 * K < (N : ℤ)) (u v w : Array ℂ)
    (hu : BandLimited N K u) (hv : BandLimited N K v) (_hw : BandLimited N K w)
    (h : ℤ) (_hh : |h| ≤ K) :
    dft N (tab N fun j => u.getD j 0 * v.getD j 0 * w.getD j 0) h
      = (1 / (N : ℂ) ^ 2) * ∑ a ∈ Finset.Icc (-K) K, ∑ b ∈ Finset.Icc (-K) K,
          dft N u a * dft N v b * dft N w (h - a - b) :=
  dft_mul3_band N hN K (by omega) u v w hu hv h

end Exponax.Alias
