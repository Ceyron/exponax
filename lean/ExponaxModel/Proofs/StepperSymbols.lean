import ExponaxModel.Proofs.SymbolAlgebra
import ExponaxModel.Proofs.RealInstances
import ExponaxModel.Model.Wave
import ExponaxModel.Generated.Steppers
/-
The linear symbol of every stepper class, tied to the source by translation.

`Generated/Steppers.lean` is regenerated from `exponax/_spectral.py` (`build_laplace_operator`,
`build_gradient_inner_product_operator`) and from the `_build_linear_operator` method of every class under
`exponax/stepper/**`; here each `<Class>_linear_operator` (at `K := ℂ`) is proved equal to the documented closed form
in `κ` (`_eq`: `psum`, `vdot`, `qform`, for every `κ`) and, at `κ = kappa c h`, to `Nonlin.polySymbol` of the
documented monomial list (`_polySymbol`; the lists mirror `harness/props/steppers.py`), hence (`_wn`) to the closed
forms in the integer wavenumbers of `SymbolAlgebra`.
-/
namespace Exponax
open Exponax.Layout Exponax.Nonlin Exponax.Gen.Steppers

theorem getD_map_of_lt {α β : Type} (f : α → β) (l : List α) (d : ℕ) (hd : d < l.length) (a : α) (b : β) :
    (l.map f).getD d b = f (l.getD d a) := by
  rw [List.getD_eq_getElem _ b (by rwa [List.length_map]), List.getD_eq_getElem l a hd, List.getElem_map]

theorem sum_zipWith_eq_range {α β : Type} (f : α → β → ℂ) (a : List α) (b : List β) (a0 : α) (b0 : β)
    (n : ℕ) (ha : a.length = n) (hb : b.length = n) :
    (List.zipWith f a b).sum = ∑ d ∈ Finset.range n, f (a.getD d a0) (b.getD d b0) := by
  rw [list_sum_eq_sum_range _ 0, List.length_zipWith, ha, hb, min_self]
  refine Finset.sum_congr rfl fun d hd => ?_
  have hd' := Finset.mem_range.mp hd
  rw [List.getD_eq_getElem _ 0 (by rwa [List.length_zipWith, ha, hb, min_self]), List.getElem_zipWith,
    List.getD_eq_getElem a a0 (ha ▸ hd'), List.getD_eq_getElem b b0 (hb ▸ hd')]

noncomputable def psum (κ : List ℂ) (n : ℕ) : ℂ := ∑ d ∈ Finset.range κ.length, κ.getD d 0 ^ n

noncomputable def vdot (κ v : List ℂ) (n : ℕ) : ℂ :=
  ∑ d ∈ Finset.range κ.length, v.getD d 0 * κ.getD d 0 ^ n

noncomputable def qform (κ : List ℂ) (A : List (List ℂ)) : ℂ :=
  ∑ i ∈ Finset.range κ.length, ∑ j ∈ Finset.range κ.length,
    (A.getD i []).getD j 0 * (κ.getD i 0 * κ.getD j 0)

def vfun (v : List ℂ) : ℕ → ℂ := fun d => v.getD d 0

def mfun (A : List (List ℂ)) : ℕ → ℕ → ℂ := fun i j => (A.getD i []).getD j 0

theorem psum_def (κ : List ℂ) (n : ℕ) : psum κ n = ∑ d ∈ Finset.range κ.length, κ.getD d 0 ^ n := rfl

theorem vdot_replicate (κ : List ℂ) (a : ℂ) (n : ℕ) :
    vdot κ (List.replicate κ.length a) n = a * psum κ n := by
  unfold vdot psum
  rw [Finset.mul_sum]
  refine Finset.sum_congr rfl fun d hd => ?_
  rw [List.getD_eq_getElem _ 0 (by rw [List.length_replicate]; exact Finset.mem_range.mp hd),
    List.getElem_replicate]

theorem laplace_op_eq (κ : List ℂ) (n : ℕ) (hn : n ≠ 0) : laplace_op κ n = psum κ n := by
  unfold laplace_op psum
  rw [if_neg hn, sumList_eq, list_map_sum_eq_sum_range κ 0]
  simp only [npow_eq]

theorem laplace_op_zero (κ : List ℂ) : laplace_op κ 0 = 1 := if_pos rfl

theorem laplace_op_two (κ : List ℂ) : laplace_op κ 2 = psum κ 2 := laplace_op_eq κ 2 two_ne_zero
theorem laplace_op_four (κ : List ℂ) : laplace_op κ 4 = psum κ 4 := laplace_op_eq κ 4 four_ne_zero

/-- the hypothesis is the source's shape guard `velocity.shape == (D,)` -/
theorem grad_inner_eq (κ v : List ℂ) (n : ℕ) (hv : v.length = κ.length) :
    grad_inner κ v n = vdot κ v n := by
  unfold grad_inner vdot
  rw [sumList_eq, sum_zipWith_eq_range _ v _ 0 0 κ.length hv (List.length_map _)]
  refine Finset.sum_congr rfl fun d hd => ?_
  rw [getD_map_of_lt _ κ d (Finset.mem_range.mp hd) 0 0, npow_eq]

/-- the quadratic form `einsum("ij,ij...->...", A, κ[:, None] * κ[None, :])` -/
theorem quad_eq (κ : List ℂ) (A : List (List ℂ)) (hA : A.length = κ.length)
    (hr : ∀ r ∈ A, r.length = κ.length) :
    sumList (List.zipWith (fun r s => sumList (List.zipWith (fun a b => a * b) r s)) A
      (List.map (fun a => List.map (fun b => a * b) κ) κ)) = qform κ A := by
  unfold qform
  rw [sumList_eq, sum_zipWith_eq_range _ A _ [] [] κ.length hA (List.length_map _)]
  refine Finset.sum_congr rfl fun i hi => ?_
  have hi' := Finset.mem_range.mp hi
  have hrow : (A.getD i []).length = κ.length := by
    rw [List.getD_eq_getElem A [] (hA ▸ hi')]
    exact hr _ (List.getElem_mem _)
  rw [getD_map_of_lt _ κ i hi' 0 [], sumList_eq,
    sum_zipWith_eq_range _ (A.getD i []) _ 0 0 κ.length hrow (List.length_map _)]
  exact Finset.sum_congr rfl fun j hj => by rw [getD_map_of_lt _ κ j (Finset.mem_range.mp hj) 0 0]

/-! ### symbols of the documented monomial lists at a stored mode

The evaluation lemmas of `SymbolAlgebra` hold at every `κ`, for lists built for `κ.length` axes; here they
are read at `κ = kappa c h`, whose length is `c.D`. -/

theorem polySymbol_of_polyAt (c : Cfg ℂ) (h : ℕ) (terms : ℕ → List (ℂ × List ℕ)) (z : ℂ)
    (H : polyAt (kappa c h) (terms (kappa c h).length) = z) : polySymbol c (terms c.D) h = z := by
  rw [polySymbol_eq_polyAt, ← H, kappa_length]

theorem polySymbol_lapT (c : Cfg ℂ) (h : ℕ) (a : ℂ) (n : ℕ) :
    polySymbol c (lapT c.D a n) h = a * psum (kappa c h) n :=
  polySymbol_of_polyAt c h (fun D => lapT D a n) _ (polyAt_lapT _ a n)

theorem polySymbol_gradInner (c : Cfg ℂ) (h : ℕ) (v : List ℂ) (n : ℕ) :
    polySymbol c (gradInner c.D (vfun v) n) h = vdot (kappa c h) v n :=
  polySymbol_of_polyAt c h (fun D => gradInner D (vfun v) n) _ (polyAt_gradInner _ (vfun v) n)

theorem polySymbol_quadTerms (c : Cfg ℂ) (h : ℕ) (A : List (List ℂ)) :
    polySymbol c (quadTerms c.D (mfun A)) h = qform (kappa c h) A :=
  polySymbol_of_polyAt c h (fun D => quadTerms D (mfun A)) _ (polyAt_quadTerms _ (mfun A))

theorem polySymbol_constT (c : Cfg ℂ) (h : ℕ) (r : ℂ) : polySymbol c (constT c.D r) h = r := by
  rw [polySymbol_eq_polyAt, polyAt_constT]

theorem polySymbol_generalLinear (c : Cfg ℂ) (h : ℕ) (a : List ℂ) :
    polySymbol c (generalLinear c.D a) h = ∑ j ∈ Finset.range a.length, a.getD j 0 * psum (kappa c h) j :=
  polySymbol_of_polyAt c h (fun D => generalLinear D a) _ (polyAt_generalLinear _ a)

theorem polySymbol_lap_lap (c : Cfg ℂ) (h : ℕ) :
    polySymbol c (pmul (lapT c.D 1 2) (lapT c.D 1 2)) h = psum (kappa c h) 2 * psum (kappa c h) 2 := by
  rw [polySymbol_pmul c h _ _ (lapT_wf _ _ _) (lapT_wf _ _ _), polySymbol_lapT, one_mul]

theorem polySymbol_grad_lap (c : Cfg ℂ) (h : ℕ) (v : ℕ → ℂ) :
    polySymbol c (pmul (gradInner c.D v 1) (lapT c.D 1 2)) h
      = polySymbol c (gradInner c.D v 1) h * psum (kappa c h) 2 := by
  rw [polySymbol_pmul c h _ _ (gradInner_wf _ _ _) (lapT_wf _ _ _), polySymbol_lapT, one_mul]

/-! ### the documented monomial lists (Lean mirror of `harness/props/steppers.py`) -/

/-- `Dispersion`: `(ξ·∇)(∇·∇)` if `advect_on_diffusion` else `Σ ξ_d ∂_d³` -/
noncomputable def dispersionTerms (D : ℕ) (ξ : ℕ → ℂ) (mix : Bool) : List (ℂ × List ℕ) :=
  if mix then pmul (gradInner D ξ 1) (lapT D 1 2) else gradInner D ξ 3

/-- `HyperDiffusion`: `−μ(∇·∇)²` if `diffuse_on_diffuse` else `−μ Σ ∂_d⁴` -/
noncomputable def hyperTerms (D : ℕ) (μ : ℂ) (mix : Bool) : List (ℂ × List ℕ) :=
  if mix then pscale (-μ) (pmul (lapT D 1 2) (lapT D 1 2)) else lapT D (-μ) 4

/-- `KortewegDeVries`: `ν Δ − disp − hyp` -/
noncomputable def kdvTerms (D : ℕ) (a3 ν μ : ℂ) (aod dod : Bool) : List (ℂ × List ℕ) :=
  lapT D ν 2
    ++ pscale (-1) (if aod then pmul (gradInner D (fun _ => a3) 1) (lapT D 1 2)
                    else gradInner D (fun _ => a3) 3)
    ++ pscale (-1) (if dod then pscale μ (pmul (lapT D 1 2) (lapT D 1 2)) else lapT D μ 4)

/-- `KuramotoSivashinsky(Conservative)`: `−a Δ − b Σ ∂_d⁴` -/
noncomputable def ksTerms (D : ℕ) (a b : ℂ) : List (ℂ × List ℕ) := lapT D (-a) 2 ++ lapT D (-b) 4

/-- `ν Δ + c`: Navier–Stokes with drag, Fisher–KPP, Allen–Cahn -/
def diffReactTerms (D : ℕ) (ν r : ℂ) : List (ℂ × List ℕ) := lapT D ν 2 ++ constT D r

/-- `CahnHilliard`: `ν c₁ Δ − ν γ Δ²` -/
noncomputable def cahnHilliardTerms (D : ℕ) (ν γ c1 : ℂ) : List (ℂ × List ℕ) :=
  lapT D (ν * c1) 2 ++ pscale (-ν * γ) (pmul (lapT D 1 2) (lapT D 1 2))

/-- `SwiftHohenberg`: `r − (k_c + Δ)² = (r − k_c²) − 2 k_c Δ − Δ²` -/
noncomputable def swiftHohenbergTerms (D : ℕ) (r kc : ℂ) : List (ℂ × List ℕ) :=
  constT D (r - kc * kc) ++ lapT D (-2 * kc) 2 ++ pscale (-1) (pmul (lapT D 1 2) (lapT D 1 2))

theorem polySymbol_diffReact (c : Cfg ℂ) (h : ℕ) (ν r : ℂ) :
    polySymbol c (diffReactTerms c.D ν r) h = ν * psum (kappa c h) 2 + r := by
  rw [diffReactTerms, polySymbol_append, polySymbol_lapT, polySymbol_constT]

theorem Advection_linear_operator_eq (κ v : List ℂ) (hv : v.length = κ.length) :
    Advection_linear_operator κ v = -(vdot κ v 1) := by
  unfold Advection_linear_operator
  rw [grad_inner_eq κ v 1 hv]

theorem Advection_linear_operator_polySymbol (c : Cfg ℂ) (h : ℕ) (v : List ℂ) (hv : v.length = c.D) :
    Advection_linear_operator (kappa c h) v = polySymbol c (pscale (-1) (gradInner c.D (vfun v) 1)) h := by
  rw [Advection_linear_operator_eq _ v (by rw [hv, kappa_length]), polySymbol_pscale, polySymbol_gradInner,
    neg_one_mul]

theorem Diffusion_linear_operator_eq (κ : List ℂ) (A : List (List ℂ)) (hA : A.length = κ.length)
    (hr : ∀ r ∈ A, r.length = κ.length) :
    Diffusion_linear_operator κ A = qform κ A :=
  quad_eq κ A hA hr

theorem Diffusion_linear_operator_polySymbol (c : Cfg ℂ) (h : ℕ) (A : List (List ℂ)) (hA : A.length = c.D) (hr : ∀ r ∈ A, r.length = c.D) :
    Diffusion_linear_operator (kappa c h) A = polySymbol c (quadTerms c.D (mfun A)) h := by
  rw [polySymbol_quadTerms]
  exact Diffusion_linear_operator_eq _ A (by rw [hA, kappa_length]) (by rwa [kappa_length])

theorem AdvectionDiffusion_linear_operator_eq (κ v : List ℂ) (A : List (List ℂ))
    (hv : v.length = κ.length) (hA : A.length = κ.length) (hr : ∀ r ∈ A, r.length = κ.length) :
    AdvectionDiffusion_linear_operator κ v A = -(vdot κ v 1) + qform κ A := by
  unfold AdvectionDiffusion_linear_operator
  simp only []
  rw [grad_inner_eq κ v 1 hv, quad_eq κ A hA hr]

theorem AdvectionDiffusion_linear_operator_polySymbol (c : Cfg ℂ) (h : ℕ) (v : List ℂ) (A : List (List ℂ)) (hv : v.length = c.D) (hA : A.length = c.D) (hr : ∀ r ∈ A, r.length = c.D) :
    AdvectionDiffusion_linear_operator (kappa c h) v A = polySymbol c (pscale (-1) (gradInner c.D (vfun v) 1) ++ quadTerms c.D (mfun A)) h := by
  rw [polySymbol_append, ← Advection_linear_operator_polySymbol c h v hv,
    ← Diffusion_linear_operator_polySymbol c h A hA hr]
  rfl

theorem Dispersion_linear_operator_eq (κ ξ : List ℂ) (mix : Bool) (hξ : ξ.length = κ.length) :
    Dispersion_linear_operator κ ξ mix = if mix then vdot κ ξ 1 * psum κ 2 else vdot κ ξ 3 := by
  unfold Dispersion_linear_operator
  simp only [grad_inner_eq κ ξ _ hξ, laplace_op_two]

theorem Dispersion_linear_operator_mixed (κ ξ : List ℂ) (hξ : ξ.length = κ.length) :
    Dispersion_linear_operator κ ξ true = vdot κ ξ 1 * psum κ 2 :=
  Dispersion_linear_operator_eq κ ξ true hξ

theorem Dispersion_linear_operator_unmixed (κ ξ : List ℂ) (hξ : ξ.length = κ.length) :
    Dispersion_linear_operator κ ξ false = vdot κ ξ 3 :=
  Dispersion_linear_operator_eq κ ξ false hξ

theorem Dispersion_linear_operator_polySymbol (c : Cfg ℂ) (h : ℕ) (ξ : List ℂ) (mix : Bool) (hξ : ξ.length = c.D) :
    Dispersion_linear_operator (kappa c h) ξ mix = polySymbol c (dispersionTerms c.D (vfun ξ) mix) h := by
  have hξ' : ξ.length = (kappa c h).length := by rw [hξ, kappa_length]
  cases mix
  · rw [Dispersion_linear_operator_unmixed _ ξ hξ']
    exact (polySymbol_gradInner c h ξ 3).symm
  · rw [Dispersion_linear_operator_mixed _ ξ hξ']
    exact ((polySymbol_grad_lap c h (vfun ξ)).trans (by rw [polySymbol_gradInner])).symm

theorem HyperDiffusion_linear_operator_eq (κ : List ℂ) (μ : ℂ) (mix : Bool) :
    HyperDiffusion_linear_operator κ μ mix = if mix then -μ * (psum κ 2) ^ 2 else -μ * psum κ 4 := by
  unfold HyperDiffusion_linear_operator
  simp only [laplace_op_two, laplace_op_four, sq, mul_assoc]

theorem HyperDiffusion_linear_operator_mixed (κ : List ℂ) (μ : ℂ) :
    HyperDiffusion_linear_operator κ μ true = -μ * (psum κ 2) ^ 2 :=
  HyperDiffusion_linear_operator_eq κ μ true

theorem HyperDiffusion_linear_operator_unmixed (κ : List ℂ) (μ : ℂ) :
    HyperDiffusion_linear_operator κ μ false = -μ * psum κ 4 :=
  HyperDiffusion_linear_operator_eq κ μ false

theorem HyperDiffusion_linear_operator_polySymbol (c : Cfg ℂ) (h : ℕ) (μ : ℂ) (mix : Bool) :
    HyperDiffusion_linear_operator (kappa c h) μ mix = polySymbol c (hyperTerms c.D μ mix) h := by
  cases mix
  · rw [HyperDiffusion_linear_operator_unmixed]
    exact (polySymbol_lapT c h (-μ) 4).symm
  · rw [HyperDiffusion_linear_operator_mixed]
    exact ((polySymbol_pscale c h _ _).trans (by rw [polySymbol_lap_lap, sq])).symm

theorem Burgers_linear_operator_eq (κ : List ℂ) (ν : ℂ) : Burgers_linear_operator κ ν = ν * psum κ 2 := by
  unfold Burgers_linear_operator
  rw [laplace_op_two]

theorem Burgers_linear_operator_polySymbol (c : Cfg ℂ) (h : ℕ) (ν : ℂ) :
    Burgers_linear_operator (kappa c h) ν = polySymbol c (lapT c.D ν 2) h := by
  rw [Burgers_linear_operator_eq, polySymbol_lapT]

/-- `D = self.num_spatial_dims` must be the length of `κ`: the shape guard of `build_gradient_inner_product_operator` -/
theorem KortewegDeVries_linear_operator_eq (κ : List ℂ) (a3 ν μ : ℂ) (aod dod : Bool) (D : ℕ)
    (hD : κ.length = D) :
    KortewegDeVries_linear_operator κ a3 ν μ aod dod D
      = ν * psum κ 2
        + (if aod then -(a3 * psum κ 1) * psum κ 2 else -(a3 * psum κ 3))
        + (if dod then -μ * psum κ 2 * psum κ 2 else -μ * psum κ 4) := by
  subst hD
  unfold KortewegDeVries_linear_operator
  simp only [grad_inner_eq κ _ _ (List.length_replicate ..), vdot_replicate, laplace_op_two, laplace_op_four]

theorem KortewegDeVries_linear_operator_polySymbol (c : Cfg ℂ) (h : ℕ) (a3 ν μ : ℂ) (aod dod : Bool) :
    KortewegDeVries_linear_operator (kappa c h) a3 ν μ aod dod c.D
      = polySymbol c (kdvTerms c.D a3 ν μ aod dod) h := by
  have hg : ∀ n, polySymbol c (gradInner c.D (fun _ => a3) n) h = a3 * psum (kappa c h) n := fun n =>
    polySymbol_lapT c h a3 n
  rw [KortewegDeVries_linear_operator_eq _ a3 ν μ aod dod c.D (kappa_length c h), kdvTerms]
  cases aod <;> cases dod
  all_goals
    simp only [Bool.false_eq_true, if_false, if_true, polySymbol_append, polySymbol_pscale, polySymbol_lapT,
      polySymbol_lap_lap, polySymbol_grad_lap, hg]
    ring

theorem KuramotoSivashinsky_linear_operator_eq (κ : List ℂ) (a b : ℂ) :
    KuramotoSivashinsky_linear_operator κ a b = -a * psum κ 2 - b * psum κ 4 := by
  unfold KuramotoSivashinsky_linear_operator
  rw [laplace_op_two, laplace_op_four]

theorem KuramotoSivashinskyConservative_linear_operator_eq (κ : List ℂ) (a b : ℂ) :
    KuramotoSivashinskyConservative_linear_operator κ a b = -a * psum κ 2 - b * psum κ 4 :=
  KuramotoSivashinsky_linear_operator_eq κ a b

theorem KuramotoSivashinsky_linear_operator_polySymbol (c : Cfg ℂ) (h : ℕ) (a b : ℂ) :
    KuramotoSivashinsky_linear_operator (kappa c h) a b = polySymbol c (ksTerms c.D a b) h := by
  rw [KuramotoSivashinsky_linear_operator_eq, ksTerms, polySymbol_append, polySymbol_lapT, polySymbol_lapT]
  ring

theorem KuramotoSivashinskyConservative_linear_operator_polySymbol (c : Cfg ℂ) (h : ℕ) (a b : ℂ) :
    KuramotoSivashinskyConservative_linear_operator (kappa c h) a b = polySymbol c (ksTerms c.D a b) h :=
  KuramotoSivashinsky_linear_operator_polySymbol c h a b

theorem getD_zip_range (a : List ℂ) (d : ℕ) (hd : d < a.length) :
    (List.zip (List.range a.length) a).getD d (0, 0) = (d, a.getD d 0) := by
  simp [List.getD_eq_getElem?_getD, hd]

/-- `GeneralLinearStepper`: the translated
    `sum(jnp.sum(c * κ ** i, axis=0, keepdims=True) for i, c in enumerate(a))` -/
theorem GeneralLinearStepper_linear_operator_eq (κ a : List ℂ) :
    GeneralLinearStepper_linear_operator κ a = ∑ j ∈ Finset.range a.length, a.getD j 0 * psum κ j := by
  unfold GeneralLinearStepper_linear_operator
  rw [sumList_eq, list_map_sum_eq_sum_range _ ((0 : ℕ), (0 : ℂ)), List.length_zip, List.length_range, min_self]
  refine Finset.sum_congr rfl fun j hj => ?_
  rw [getD_zip_range a j (Finset.mem_range.mp hj)]
  simp only []
  rw [sumList_eq, List.map_map, list_map_sum_eq_sum_range κ 0, psum, Finset.mul_sum]
  simp only [Function.comp, npow_eq]

/-! the other five `General*` classes build the same operator -/

theorem GeneralConvectionStepper_linear_operator_eq (κ a : List ℂ) :
    GeneralConvectionStepper_linear_operator κ a = ∑ j ∈ Finset.range a.length, a.getD j 0 * psum κ j :=
  GeneralLinearStepper_linear_operator_eq κ a

theorem GeneralGradientNormStepper_linear_operator_eq (κ a : List ℂ) :
    GeneralGradientNormStepper_linear_operator κ a
      = ∑ j ∈ Finset.range a.length, a.getD j 0 * psum κ j :=
  GeneralLinearStepper_linear_operator_eq κ a

theorem GeneralNonlinearStepper_linear_operator_eq (κ a : List ℂ) :
    GeneralNonlinearStepper_linear_operator κ a = ∑ j ∈ Finset.range a.length, a.getD j 0 * psum κ j :=
  GeneralLinearStepper_linear_operator_eq κ a

theorem GeneralPolynomialStepper_linear_operator_eq (κ a : List ℂ) :
    GeneralPolynomialStepper_linear_operator κ a = ∑ j ∈ Finset.range a.length, a.getD j 0 * psum κ j :=
  GeneralLinearStepper_linear_operator_eq κ a

theorem GeneralVorticityConvectionStepper_linear_operator_eq (κ a : List ℂ) :
    GeneralVorticityConvectionStepper_linear_operator κ a
      = ∑ j ∈ Finset.range a.length, a.getD j 0 * psum κ j :=
  GeneralLinearStepper_linear_operator_eq κ a

theorem GeneralLinearStepper_linear_operator_polySymbol (c : Cfg ℂ) (h : ℕ) (a : List ℂ) :
    GeneralLinearStepper_linear_operator (kappa c h) a = polySymbol c (generalLinear c.D a) h := by
  rw [GeneralLinearStepper_linear_operator_eq, polySymbol_generalLinear]

theorem GeneralConvectionStepper_linear_operator_polySymbol (c : Cfg ℂ) (h : ℕ) (a : List ℂ) :
    GeneralConvectionStepper_linear_operator (kappa c h) a = polySymbol c (generalLinear c.D a) h :=
  GeneralLinearStepper_linear_operator_polySymbol c h a

theorem GeneralGradientNormStepper_linear_operator_polySymbol (c : Cfg ℂ) (h : ℕ) (a : List ℂ) :
    GeneralGradientNormStepper_linear_operator (kappa c h) a = polySymbol c (generalLinear c.D a) h :=
  GeneralLinearStepper_linear_operator_polySymbol c h a

theorem GeneralNonlinearStepper_linear_operator_polySymbol (c : Cfg ℂ) (h : ℕ) (a : List ℂ) :
    GeneralNonlinearStepper_linear_operator (kappa c h) a = polySymbol c (generalLinear c.D a) h :=
  GeneralLinearStepper_linear_operator_polySymbol c h a

theorem GeneralPolynomialStepper_linear_operator_polySymbol (c : Cfg ℂ) (h : ℕ) (a : List ℂ) :
    GeneralPolynomialStepper_linear_operator (kappa c h) a = polySymbol c (generalLinear c.D a) h :=
  GeneralLinearStepper_linear_operator_polySymbol c h a

theorem GeneralVorticityConvectionStepper_linear_operator_polySymbol (c : Cfg ℂ) (h : ℕ) (a : List ℂ) :
    GeneralVorticityConvectionStepper_linear_operator (kappa c h) a = polySymbol c (generalLinear c.D a) h :=
  GeneralLinearStepper_linear_operator_polySymbol c h a

/-! the four Navier–Stokes classes (vorticity / velocity, with or without Kolmogorov forcing) build the same operator -/
theorem NavierStokesVorticity_linear_operator_eq (κ : List ℂ) (ν drag : ℂ) :
    NavierStokesVorticity_linear_operator κ ν drag = ν * psum κ 2 + drag := by
  unfold NavierStokesVorticity_linear_operator
  rw [laplace_op_two, laplace_op_zero, mul_one]

theorem KolmogorovFlowVorticity_linear_operator_eq (κ : List ℂ) (ν drag : ℂ) :
    KolmogorovFlowVorticity_linear_operator κ ν drag = ν * psum κ 2 + drag :=
  NavierStokesVorticity_linear_operator_eq κ ν drag

theorem NavierStokesVelocity_linear_operator_eq (κ : List ℂ) (ν drag : ℂ) :
    NavierStokesVelocity_linear_operator κ ν drag = ν * psum κ 2 + drag :=
  NavierStokesVorticity_linear_operator_eq κ ν drag

theorem KolmogorovFlowVelocity_linear_operator_eq (κ : List ℂ) (ν drag : ℂ) :
    KolmogorovFlowVelocity_linear_operator κ ν drag = ν * psum κ 2 + drag :=
  NavierStokesVorticity_linear_operator_eq κ ν drag

theorem NavierStokesVorticity_linear_operator_polySymbol (c : Cfg ℂ) (h : ℕ) (ν drag : ℂ) :
    NavierStokesVorticity_linear_operator (kappa c h) ν drag = polySymbol c (diffReactTerms c.D ν drag) h := by
  rw [NavierStokesVorticity_linear_operator_eq, polySymbol_diffReact]

theorem KolmogorovFlowVorticity_linear_operator_polySymbol (c : Cfg ℂ) (h : ℕ) (ν drag : ℂ) :
    KolmogorovFlowVorticity_linear_operator (kappa c h) ν drag = polySymbol c (diffReactTerms c.D ν drag) h :=
  NavierStokesVorticity_linear_operator_polySymbol c h ν drag

theorem NavierStokesVelocity_linear_operator_polySymbol (c : Cfg ℂ) (h : ℕ) (ν drag : ℂ) :
    NavierStokesVelocity_linear_operator (kappa c h) ν drag = polySymbol c (diffReactTerms c.D ν drag) h :=
  NavierStokesVorticity_linear_operator_polySymbol c h ν drag

theorem KolmogorovFlowVelocity_linear_operator_polySymbol (c : Cfg ℂ) (h : ℕ) (ν drag : ℂ) :
    KolmogorovFlowVelocity_linear_operator (kappa c h) ν drag = polySymbol c (diffReactTerms c.D ν drag) h :=
  NavierStokesVorticity_linear_operator_polySymbol c h ν drag

theorem AllenCahn_linear_operator_eq (κ : List ℂ) (ν c1 : ℂ) :
    AllenCahn_linear_operator κ ν c1 = ν * psum κ 2 + c1 := by
  unfold AllenCahn_linear_operator
  rw [laplace_op_two]

theorem AllenCahn_linear_operator_polySymbol (c : Cfg ℂ) (h : ℕ) (ν c1 : ℂ) :
    AllenCahn_linear_operator (kappa c h) ν c1 = polySymbol c (diffReactTerms c.D ν c1) h := by
  rw [AllenCahn_linear_operator_eq, polySymbol_diffReact]

theorem FisherKPP_linear_operator_eq (κ : List ℂ) (ν r : ℂ) :
    FisherKPP_linear_operator κ ν r = ν * psum κ 2 + r :=
  AllenCahn_linear_operator_eq κ ν r

theorem FisherKPP_linear_operator_polySymbol (c : Cfg ℂ) (h : ℕ) (ν r : ℂ) :
    FisherKPP_linear_operator (kappa c h) ν r = polySymbol c (diffReactTerms c.D ν r) h :=
  AllenCahn_linear_operator_polySymbol c h ν r

theorem CahnHilliard_linear_operator_eq (κ : List ℂ) (ν γ c1 : ℂ) :
    CahnHilliard_linear_operator κ ν γ c1 = ν * psum κ 2 * (c1 - γ * psum κ 2) := by
  unfold CahnHilliard_linear_operator
  rw [laplace_op_two]

theorem CahnHilliard_linear_operator_polySymbol (c : Cfg ℂ) (h : ℕ) (ν γ c1 : ℂ) :
    CahnHilliard_linear_operator (kappa c h) ν γ c1 = polySymbol c (cahnHilliardTerms c.D ν γ c1) h := by
  rw [CahnHilliard_linear_operator_eq, cahnHilliardTerms, polySymbol_append, polySymbol_lapT, polySymbol_pscale,
    polySymbol_lap_lap]
  ring

theorem SwiftHohenberg_linear_operator_eq (κ : List ℂ) (r kc : ℂ) :
    SwiftHohenberg_linear_operator κ r kc = r - (kc + psum κ 2) ^ 2 := by
  unfold SwiftHohenberg_linear_operator
  simp only [laplace_op_two, npow_eq]

theorem SwiftHohenberg_linear_operator_polySymbol (c : Cfg ℂ) (h : ℕ) (r kc : ℂ) :
    SwiftHohenberg_linear_operator (kappa c h) r kc = polySymbol c (swiftHohenbergTerms c.D r kc) h := by
  rw [SwiftHohenberg_linear_operator_eq, swiftHohenbergTerms, polySymbol_append, polySymbol_append,
    polySymbol_constT, polySymbol_lapT, polySymbol_pscale, polySymbol_lap_lap]
  ring

theorem GrayScott_linear_operator_eq (κ : List ℂ) (n1 n2 : ℂ) :
    GrayScott_linear_operator κ n1 n2 = [n1 * psum κ 2, n2 * psum κ 2] := by
  unfold GrayScott_linear_operator
  rw [laplace_op_two]

theorem GrayScott_linear_operator_polySymbol (c : Cfg ℂ) (h : ℕ) (n1 n2 : ℂ) :
    GrayScott_linear_operator (kappa c h) n1 n2
      = [polySymbol c (lapT c.D n1 2) h, polySymbol c (lapT c.D n2 2) h] := by
  rw [GrayScott_linear_operator_eq, polySymbol_lapT, polySymbol_lapT]

theorem BelousovZhabotinsky_linear_operator_eq (κ : List ℂ) (d : ℂ × ℂ × ℂ) :
    BelousovZhabotinsky_linear_operator κ d = [d.1 * psum κ 2, d.2.1 * psum κ 2, d.2.2 * psum κ 2] := by
  unfold BelousovZhabotinsky_linear_operator
  rw [laplace_op_two]

theorem BelousovZhabotinsky_linear_operator_polySymbol (c : Cfg ℂ) (h : ℕ) (d : ℂ × ℂ × ℂ) :
    BelousovZhabotinsky_linear_operator (kappa c h) d
      = [polySymbol c (lapT c.D d.1 2) h, polySymbol c (lapT c.D d.2.1 2) h,
          polySymbol c (lapT c.D d.2.2 2) h] := by
  rw [BelousovZhabotinsky_linear_operator_eq, polySymbol_lapT, polySymbol_lapT, polySymbol_lapT]

/-- `Wave`: the two diagonalised channels `±i c |κ|`; these are the symbols the hand-written per-mode
    model `Wave.stepMode` exponentiates -/
theorem Wave_linear_operator_eq (κ : List ℂ) (c kn : ℂ) :
    Wave_linear_operator κ c kn = [Complex.I * c * kn, -(Complex.I * c * kn)] := rfl

theorem laplace_op_kappa (c : Cfg ℂ) (h : ℕ) (n : ℕ) : laplace_op (kappa c h) n = Nonlin.laplace c n h := by
  by_cases hn : n = 0
  · subst hn; rw [laplace_op_zero, laplace_zero]
  · rw [laplace_op_eq _ n hn, laplace_eq_polySymbol c h n hn, polySymbol_lapT, one_mul]

/-! ### closed forms in the integer wavenumbers (real parameters, real scale `s = 2π/L`) -/

def ofRealL (v : List ℝ) : List ℂ := v.map (fun r : ℝ => (r : ℂ))
def ofRealM (A : List (List ℝ)) : List (List ℂ) := A.map ofRealL

@[simp] theorem ofRealL_length (v : List ℝ) : (ofRealL v).length = v.length := by simp [ofRealL]
@[simp] theorem ofRealM_length (A : List (List ℝ)) : (ofRealM A).length = A.length := by simp [ofRealM]

theorem ofRealM_rows (A : List (List ℝ)) (D : ℕ) (hr : ∀ r ∈ A, r.length = D) :
    ∀ r ∈ ofRealM A, r.length = D := by
  intro r hrm
  unfold ofRealM at hrm
  rw [List.mem_map] at hrm
  obtain ⟨r', hr', rfl⟩ := hrm
  rw [ofRealL_length]; exact hr r' hr'

theorem vfun_ofRealL (v : List ℝ) : vfun (ofRealL v) = fun d => ((v.getD d 0 : ℝ) : ℂ) := by
  funext d
  have h := List.getD_map v 0 (fun r : ℝ => (r : ℂ)) (n := d)
  rwa [Complex.ofReal_zero] at h

theorem mfun_ofRealM (A : List (List ℝ)) :
    mfun (ofRealM A) = fun i j => (((A.getD i []).getD j 0 : ℝ) : ℂ) := by
  funext i j
  have h1 : (ofRealM A).getD i [] = ofRealL (A.getD i []) := List.getD_map A [] ofRealL
  simp only [mfun, h1]
  exact congrFun (vfun_ofRealL (A.getD i [])) j

theorem hyperTerms_ofReal (D : ℕ) (μ : ℝ) (mix : Bool) :
    hyperTerms D (μ : ℂ) mix
      = if mix then pscale ((-μ : ℝ) : ℂ) (pmul (lapT D 1 2) (lapT D 1 2)) else lapT D ((-μ : ℝ) : ℂ) 4 := by
  rw [Complex.ofReal_neg]; rfl

section StoredMode
variable (c : Cfg ℂ) (s : ℝ) (hs : c.s = (s : ℂ)) (h : ℕ)
include hs

theorem Advection_linear_operator_wn (v : List ℝ) (hv : v.length = c.D) :
    Advection_linear_operator (kappa c h) (ofRealL v)
      = -(Complex.I * ((s * ∑ d ∈ Finset.range c.D, v.getD d 0 * (wnAt c d h : ℝ) : ℝ) : ℂ)) := by
  rw [Advection_linear_operator_polySymbol c h _ (by simpa using hv), vfun_ofRealL]
  exact advection_symbol c s hs h (fun d => v.getD d 0)

theorem Diffusion_linear_operator_wn (A : List (List ℝ)) (hA : A.length = c.D)
    (hr : ∀ r ∈ A, r.length = c.D) :
    Diffusion_linear_operator (kappa c h) (ofRealM A)
      = ((-(s ^ 2 * ∑ i ∈ Finset.range c.D, ∑ j ∈ Finset.range c.D,
            (A.getD i []).getD j 0 * ((wnAt c i h : ℝ) * (wnAt c j h : ℝ))) : ℝ) : ℂ) := by
  rw [Diffusion_linear_operator_polySymbol c h _ (by simpa using hA) (ofRealM_rows A c.D hr),
    mfun_ofRealM]
  exact diffusion_symbol c s hs h (fun i j => (A.getD i []).getD j 0)

theorem AdvectionDiffusion_linear_operator_wn (v : List ℝ) (A : List (List ℝ)) (hv : v.length = c.D)
    (hA : A.length = c.D) (hr : ∀ r ∈ A, r.length = c.D) :
    AdvectionDiffusion_linear_operator (kappa c h) (ofRealL v) (ofRealM A)
      = -(Complex.I * ((s * ∑ d ∈ Finset.range c.D, v.getD d 0 * (wnAt c d h : ℝ) : ℝ) : ℂ))
        + ((-(s ^ 2 * ∑ i ∈ Finset.range c.D, ∑ j ∈ Finset.range c.D,
            (A.getD i []).getD j 0 * ((wnAt c i h : ℝ) * (wnAt c j h : ℝ))) : ℝ) : ℂ) := by
  rw [AdvectionDiffusion_linear_operator_polySymbol c h _ _ (by simpa using hv) (by simpa using hA)
    (ofRealM_rows A c.D hr), vfun_ofRealL, mfun_ofRealM]
  exact advection_diffusion_symbol c s hs h (fun d => v.getD d 0) (fun i j => (A.getD i []).getD j 0)

theorem Dispersion_linear_operator_wn (ξ : List ℝ) (hξ : ξ.length = c.D) :
    Dispersion_linear_operator (kappa c h) (ofRealL ξ) false
      = -(Complex.I * ((s ^ 3 * ∑ d ∈ Finset.range c.D, ξ.getD d 0 * (wnAt c d h : ℝ) ^ 3 : ℝ) : ℂ)) := by
  rw [Dispersion_linear_operator_polySymbol c h _ false (by simpa using hξ), vfun_ofRealL]
  exact dispersion_symbol c s hs h (fun d => ξ.getD d 0)

theorem Dispersion_linear_operator_mixed_wn (ξ : List ℝ) (hξ : ξ.length = c.D) :
    Dispersion_linear_operator (kappa c h) (ofRealL ξ) true
      = -(Complex.I * ((s ^ 3 * (∑ d ∈ Finset.range c.D, ξ.getD d 0 * (wnAt c d h : ℝ))
            * ∑ d ∈ Finset.range c.D, (wnAt c d h : ℝ) ^ 2 : ℝ) : ℂ)) := by
  rw [Dispersion_linear_operator_polySymbol c h _ true (by simpa using hξ), vfun_ofRealL]
  exact dispersion_mixed_symbol c s hs h (fun d => ξ.getD d 0)

theorem HyperDiffusion_linear_operator_wn (μ : ℝ) :
    HyperDiffusion_linear_operator (kappa c h) (μ : ℂ) false
      = ((-(μ * s ^ 4 * ∑ d ∈ Finset.range c.D, (wnAt c d h : ℝ) ^ 4) : ℝ) : ℂ) := by
  rw [HyperDiffusion_linear_operator_polySymbol c h _ false, hyperTerms_ofReal]
  exact hyper_symbol c s hs h μ

theorem HyperDiffusion_linear_operator_mixed_wn (μ : ℝ) :
    HyperDiffusion_linear_operator (kappa c h) (μ : ℂ) true
      = ((-(μ * s ^ 4 * (∑ d ∈ Finset.range c.D, (wnAt c d h : ℝ) ^ 2) ^ 2) : ℝ) : ℂ) := by
  rw [HyperDiffusion_linear_operator_polySymbol c h _ true, hyperTerms_ofReal]
  exact hyper_mixed_symbol c s hs h μ

theorem Burgers_linear_operator_wn (ν : ℝ) :
    Burgers_linear_operator (kappa c h) (ν : ℂ)
      = ((-(ν * s ^ 2 * ∑ d ∈ Finset.range c.D, (wnAt c d h : ℝ) ^ 2) : ℝ) : ℂ) := by
  rw [Burgers_linear_operator_polySymbol c h]
  exact diffusion_iso_symbol c s hs h ν

theorem GeneralLinearStepper_linear_operator_wn (a : List ℝ) :
    GeneralLinearStepper_linear_operator (kappa c h) (ofRealL a)
      = ∑ j ∈ Finset.range a.length,
          Complex.I ^ j * ((a.getD j 0 * (s ^ j * ∑ d ∈ Finset.range c.D, (wnAt c d h : ℝ) ^ j) : ℝ) : ℂ) := by
  rw [GeneralLinearStepper_linear_operator_polySymbol c h]
  exact general_linear_symbol c s hs h a

end StoredMode

/-! ## signs of the generated operators (the facts used by C11)

At a stored mode with a real scale and real parameters they are the sign facts of `SymbolAlgebra` about the
documented symbols. -/

theorem Advection_linear_operator_re_kappa (c : Cfg ℂ) (s : ℝ) (hs : c.s = (s : ℂ)) (h : ℕ) (v : List ℝ)
    (hv : v.length = c.D) :
    (Advection_linear_operator (kappa c h) (ofRealL v)).re = 0 := by
  rw [Advection_linear_operator_polySymbol c h _ (by rw [ofRealL_length, hv]), vfun_ofRealL]
  exact advection_symbol_re c s hs h _

theorem Dispersion_linear_operator_re_kappa (c : Cfg ℂ) (s : ℝ) (hs : c.s = (s : ℂ)) (h : ℕ) (ξ : List ℝ)
    (mix : Bool) (hξ : ξ.length = c.D) :
    (Dispersion_linear_operator (kappa c h) (ofRealL ξ) mix).re = 0 := by
  rw [Dispersion_linear_operator_polySymbol c h _ mix (by rw [ofRealL_length, hξ]), vfun_ofRealL]
  cases mix
  · exact dispersion_symbol_re c s hs h _
  · exact dispersion_mixed_symbol_re c s hs h _

theorem Diffusion_linear_operator_re_nonpos_kappa (c : Cfg ℂ) (s : ℝ) (hs : c.s = (s : ℂ)) (h : ℕ)
    (A : List (List ℝ)) (hA : A.length = c.D) (hr : ∀ r ∈ A, r.length = c.D)
    (hpsd : ∀ x : Fin c.D → ℝ, 0 ≤ ∑ i : Fin c.D, ∑ j : Fin c.D, (A.getD i []).getD j 0 * x i * x j) :
    (Diffusion_linear_operator (kappa c h) (ofRealM A)).re ≤ 0 := by
  rw [Diffusion_linear_operator_polySymbol c h _ (by rw [ofRealM_length, hA]) (ofRealM_rows A c.D hr),
    mfun_ofRealM]
  exact diffusion_symbol_re_nonpos c s hs h _ hpsd

theorem HyperDiffusion_linear_operator_re_nonpos_kappa (c : Cfg ℂ) (s : ℝ) (hs : c.s = (s : ℂ)) (h : ℕ)
    (μ : ℝ) (mix : Bool) (hμ : 0 ≤ μ) :
    (HyperDiffusion_linear_operator (kappa c h) (μ : ℂ) mix).re ≤ 0 := by
  rw [HyperDiffusion_linear_operator_polySymbol, hyperTerms_ofReal]
  cases mix
  · exact (hyper_symbol_sign c s hs h μ).2.1 hμ
  · exact (hyper_mixed_symbol_sign c s hs h μ).2.1 hμ

theorem psum_imag (D : ℕ) (y : ℕ → ℝ) (n : ℕ) :
    psum (imagVec D y) n = Complex.I ^ n * ((∑ d ∈ Finset.range D, y d ^ n : ℝ) : ℂ) := by
  have h := sum_imagVec_pow D y (fun _ => 1) n
  simp only [one_mul] at h
  rw [psum, imagVec_length, h]
  push_cast
  rfl

/-- `ν Δ` is Burgers' operator and the diffusive part of every nonlinear stepper -/
theorem Burgers_linear_operator_re_nonpos (D : ℕ) (y : ℕ → ℝ) (ν : ℝ) (hν : 0 ≤ ν) :
    (Burgers_linear_operator (imagVec D y) (ν : ℂ)).re ≤ 0
      ∧ (Burgers_linear_operator (imagVec D y) (ν : ℂ)).im = 0 := by
  have e : Burgers_linear_operator (imagVec D y) (ν : ℂ)
      = ((-(ν * ∑ d ∈ Finset.range D, y d ^ 2) : ℝ) : ℂ) := by
    rw [Burgers_linear_operator_eq, psum_imag, Complex.I_sq]
    push_cast; ring
  rw [e, Complex.ofReal_re, Complex.ofReal_im]
  exact ⟨neg_nonpos.mpr (mul_nonneg hν (Finset.sum_nonneg fun d _ => sq_nonneg _)), rfl⟩

/-! ### non-vacuity of the hypotheses, and the generated definitions evaluated on concrete data -/

/-- a velocity of the right shape -/
example : ∃ κ v : List ℂ, v.length = κ.length ∧ κ.length = 2 :=
  ⟨[Complex.I, 2 * Complex.I], [1, 1], rfl, rfl⟩

/-- a diffusivity matrix of the right shape -/
example : ∃ (κ : List ℂ) (A : List (List ℂ)),
    A.length = κ.length ∧ (∀ r ∈ A, r.length = κ.length) ∧ κ.length = 2 :=
  ⟨[Complex.I, 2 * Complex.I], [[1, 0], [0, 1]], rfl, by simp, rfl⟩

/-- a stored mode of a 2-D configuration with a real scale; `kappa` has length `D` -/
example : ∃ (c : Cfg ℂ) (s : ℝ), c.s = (s : ℂ) ∧ c.D = 2 ∧ (kappa c 3).length = c.D :=
  ⟨⟨2, 8, ((1 : ℝ) : ℂ), 2, 3⟩, 1, rfl, rfl, kappa_length _ _⟩

/-- the identity matrix is positive semidefinite in the sense of `Diffusion_linear_operator_re_nonpos_kappa` -/
example : (([[1, 0], [0, 1]] : List (List ℝ)).length = 2)
    ∧ (∀ r ∈ ([[1, 0], [0, 1]] : List (List ℝ)), r.length = 2)
    ∧ ∀ x : Fin 2 → ℝ, 0 ≤ ∑ i : Fin 2, ∑ j : Fin 2,
        (([[1, 0], [0, 1]] : List (List ℝ)).getD i []).getD j 0 * x i * x j := by
  refine ⟨rfl, ?_, fun x => ?_⟩
  · intro r hr
    simp only [List.mem_cons, List.not_mem_nil, or_false] at hr
    rcases hr with rfl | rfl <;> rfl
  · simp only [Fin.sum_univ_two, Fin.val_zero, Fin.val_one, List.getD_cons_zero, List.getD_cons_succ]
    linarith [mul_self_nonneg (x 0), mul_self_nonneg (x 1)]

/-- `Advection` at `κ = (i, 2i)`, `v = (1, 1)`: `−3i` -/
example : Advection_linear_operator [Complex.I, 2 * Complex.I] [1, 1] = -(3 * Complex.I) := by
  rw [Advection_linear_operator_eq [Complex.I, 2 * Complex.I] [1, 1] rfl]
  simp only [vdot, List.length_cons, List.length_nil, Finset.sum_range_succ, Finset.sum_range_zero,
    List.getD_cons_zero, List.getD_cons_succ]
  ring

/-- `Diffusion` at `κ = (i, 2i)`, `A = 1`: `−5` -/
example : Diffusion_linear_operator [Complex.I, 2 * Complex.I] [[1, 0], [0, 1]] = -5 := by
  simp only [Diffusion_linear_operator, sumList, List.map_cons, List.map_nil, List.zipWith_cons_cons,
    List.zipWith_nil_right, List.foldl_cons, List.foldl_nil]
  linear_combination 5 * Complex.I_sq

/-- `HyperDiffusion` distinguishes its flag: at `κ = (i, i)`, `μ = 1`: `−4` (mixed) vs `−2` -/
example : HyperDiffusion_linear_operator [Complex.I, Complex.I] 1 true = -4
    ∧ HyperDiffusion_linear_operator [Complex.I, Complex.I] 1 false = -2 := by
  have hp : ∀ n, psum [Complex.I, Complex.I] n = 2 * Complex.I ^ n := fun n => by
    simp only [psum, List.length_cons, List.length_nil, Finset.sum_range_succ, Finset.sum_range_zero,
      List.getD_cons_zero, List.getD_cons_succ]
    ring
  rw [HyperDiffusion_linear_operator_mixed, HyperDiffusion_linear_operator_unmixed, hp, hp, Complex.I_pow_four,
    Complex.I_sq]
  constructor <;> ring

/-! ### coverage: every class the translator found has a theorem above

The translator enumerates the classes with `ast`; the two lists below are regenerated with the
definitions.  A class that appears (or disappears, or changes its parent) in the source changes
these lists and the `rfl`s stop compiling until a theorem for the new class is added here. -/

theorem coverage_generated : Gen.Steppers.generated_classes =
    ["Advection", "AdvectionDiffusion", "AllenCahn", "BelousovZhabotinsky", "Burgers", "CahnHilliard",
     "Diffusion", "Dispersion", "FisherKPP", "GeneralConvectionStepper", "GeneralGradientNormStepper",
     "GeneralLinearStepper", "GeneralNonlinearStepper", "GeneralPolynomialStepper",
     "GeneralVorticityConvectionStepper", "GrayScott", "HyperDiffusion", "KolmogorovFlowVelocity",
     "KolmogorovFlowVorticity", "KortewegDeVries", "KuramotoSivashinsky",
     "KuramotoSivashinskyConservative", "NavierStokesVelocity", "NavierStokesVorticity",
     "SwiftHohenberg", "Wave"] := rfl

/-- the `Normalized…`/`Difficulty…` steppers only convert their arguments (C13) and inherit the
    linear operator of the `General…` class -/
theorem coverage_inherited : Gen.Steppers.inherited_classes =
    [("DifficultyConvectionStepper", "GeneralConvectionStepper"),
     ("DifficultyGradientNormStepper", "GeneralGradientNormStepper"),
     ("DifficultyLinearStepper", "GeneralLinearStepper"),
     ("DifficultyLinearStepperSimple", "GeneralLinearStepper"),
     ("DifficultyNonlinearStepper", "GeneralNonlinearStepper"),
     ("DifficultyPolynomialStepper", "GeneralPolynomialStepper"),
     ("NormalizedConvectionStepper", "GeneralConvectionStepper"),
     ("NormalizedGradientNormStepper", "GeneralGradientNormStepper"),
     ("NormalizedLinearStepper", "GeneralLinearStepper"),
     ("NormalizedNonlinearStepper", "GeneralNonlinearStepper"),
     ("NormalizedPolynomialStepper", "GeneralPolynomialStepper")] := rfl

end Exponax
