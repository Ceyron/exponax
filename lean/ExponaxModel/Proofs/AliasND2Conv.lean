import ExponaxModel.Proofs.AliasND2Grad
/-
C03 in general dimension: NON-conservative `ConvectionNonlinearFun`, multi-channel `(u·∇)u` with
`C ≤ D` channels (the library uses `C = D`) and single-channel `u·Σ_d ∂_d u`, each alias-free on the
retained band under `3·Kc < N`, zero at dropped modes.
-/
namespace Exponax.AliasND
open Exponax Exponax.Layout Exponax.Transform Exponax.DFT Exponax.Nonlin Exponax.Alias Finset

/-- `ConvectionNonlinearFun(single_channel=False, conservative=False)` read off the pipeline, for any input -/
theorem convection_multi_nc_readoff (c : Cfg ℂ) (hN : 0 < c.N) (C : ℕ) (scale : ℂ)
    (uh : MC ℂ) (i : ℕ) (hi : i < C) (h : ℕ) (hh : h < numModes c.D c.N) :
    at2 (convection c C scale false false uh) i h
      = -scale * (mask c h * dftV c.D c.N (tab (c.N ^ c.D) fun x => ∑ j ∈ range C,
          (nifft c (uh.getD j #[])).getD x 0 * (dfield c (uh.getD i #[]) j).getD x 0)
          (kvec c.D c.N h)) := by
  have hM : h < modes c := hh
  unfold convection
  simp only [Bool.false_eq_true, if_false]
  rw [at2_tab2 _ _ _ _ _ hi hM, at2_tabC _ _ _ _ hi, nfft_nd c hN _ h hh]
  refine congrArg (fun v => -scale * (mask c h * dftV c.D c.N v (kvec c.D c.N h)))
    (Nonlin.tab_congr _ _ _ fun x _ => ?_)
  rw [sumList_range_eq]
  refine Finset.sum_congr rfl fun j hj => ?_
  have hj' := Finset.mem_range.mp hj
  rw [at2_tabC _ _ _ _ hj', at2_tabC _ _ _ _ (pair_lt hi hj'), Nat.mul_add_mod_of_lt hj', pair_div _ i _ hj']
  rfl

/-- `(u·∇)u` with `C ≤ D` channels (the library has `C = D`): for real states `xs ch` with
    `û_ch = rfftnM D N (xs ch)`, output channel `i` at a retained stored mode holds the coefficient of
    `−scale·Σ_j P_K u_j · ∂_j P_K u_i`, alias-free (no factor `½` in this variant) -/
theorem convection_multi_nc_alias_free_nd (c : Cfg ℂ) (hD : 0 < c.D) (hq : c.fq ≠ 0)
    (hK : 3 * Kc c < (c.N : ℤ)) (hN : 0 < c.N) (s : ℝ) (hs : c.s = (s : ℂ)) (C : ℕ) (hC : C ≤ c.D)
    (scale : ℂ) (uh : MC ℂ) (xs : ℕ → Array ℂ)
    (hx : ∀ ch, ch < C → IsRealND c.D c.N (xs ch))
    (huh : ∀ ch, ch < C → uh.getD ch #[] = rfftnM c.D c.N (xs ch))
    (i : ℕ) (hi : i < C) (h : ℕ) (hh : h < numModes c.D c.N) :
    (mask c h = 1 →
      at2 (convection c C scale false false uh) i h
        = -scale * ∑ j ∈ range C,
            linConv c.D c.N (Kc c) (dftV c.D c.N (xs j)) (dspec c j (xs i)) (kvec c.D c.N h))
    ∧ (mask c h = 0 → at2 (convection c C scale false false uh) i h = 0) := by
  refine ⟨fun hm => ?_, fun hm => convection_zero_off_band c C scale false false uh i h hm⟩
  have hk : ∀ d, |kvec c.D c.N h d| ≤ Kc c := (mask_nd_eq_one_iff c hq h).mp hm
  rw [convection_multi_nc_readoff c hN C scale uh i hi h hh, hm, one_mul, dftV_sum]
  refine congrArg _ (Finset.sum_congr rfl fun j hj => ?_)
  have hj' := Finset.mem_range.mp hj
  have h2 := two_lt_of_three c.N (Kc c) hK
  rw [huh j hj', huh i hi]
  exact (boxSpec_nifft_rfftn c hD hq hN h2 _ (hx j hj')).dftV_mul
    (boxSpec_dfield c hD hq hN h2 s hs _ (hx i hi) j (by omega)) hN hK _ hk

theorem linConv_u_dspec_explicit (c : Cfg ℂ) (d : Fin c.D) (x y : Array ℂ) (k : Fin c.D → ℤ) :
    linConv c.D c.N (Kc c) (dftV c.D c.N y) (dspec c d x) k
      = (1 / ((c.N ^ c.D : ℕ) : ℂ)) * ∑ p ∈ box c.D (Kc c),
          truncV (Kc c) (dftV c.D c.N y) p *
            (Complex.I * (c.s * (((k d - p d : ℤ)) : ℂ)) * truncV (Kc c) (dftV c.D c.N x) (k - p)) := by
  unfold linConv dspec
  refine congrArg _ (Finset.sum_congr rfl fun p _ => ?_)
  rw [truncV_mul, dsym_fin, Pi.sub_apply]

/-- `convection_multi_nc_alias_free_nd` at `C = D` with the sums written out: the `D`-dimensional analogue of the 1-D
    `convection_nc_one_alias_free_of_cutoff` -/
theorem convection_multi_nc_alias_free_nd_explicit (c : Cfg ℂ) (hD : 0 < c.D) (hq : c.fq ≠ 0)
    (hK : 3 * Kc c < (c.N : ℤ)) (hN : 0 < c.N) (s : ℝ) (hs : c.s = (s : ℂ))
    (scale : ℂ) (uh : MC ℂ) (xs : ℕ → Array ℂ)
    (hx : ∀ ch, ch < c.D → IsRealND c.D c.N (xs ch))
    (huh : ∀ ch, ch < c.D → uh.getD ch #[] = rfftnM c.D c.N (xs ch))
    (i : ℕ) (hi : i < c.D) (h : ℕ) (hh : h < numModes c.D c.N) :
    (mask c h = 1 →
      at2 (convection c c.D scale false false uh) i h
        = -scale * ∑ j : Fin c.D,
            ((1 / ((c.N ^ c.D : ℕ) : ℂ)) * ∑ p ∈ box c.D (Kc c),
              truncV (Kc c) (dftV c.D c.N (xs j)) p *
                (Complex.I * (c.s * (((kvec c.D c.N h j - p j : ℤ)) : ℂ))
                  * truncV (Kc c) (dftV c.D c.N (xs i)) (kvec c.D c.N h - p))))
    ∧ (mask c h = 0 → at2 (convection c c.D scale false false uh) i h = 0) := by
  have := convection_multi_nc_alias_free_nd c hD hq hK hN s hs c.D le_rfl scale uh xs hx huh i hi h hh
  refine ⟨fun hm => ?_, this.2⟩
  rw [this.1 hm]
  rw [← Fin.sum_univ_eq_sum_range (fun j => linConv c.D c.N (Kc c) (dftV c.D c.N (xs j))
    (dspec c j (xs i)) (kvec c.D c.N h)) c.D]
  exact congrArg _ (Finset.sum_congr rfl fun j _ => linConv_u_dspec_explicit c j (xs i) (xs j) _)

/-- `ConvectionNonlinearFun(single_channel=True, conservative=False)` read off the pipeline: of `C ≥ 1` input
    channels only channel `0` is used, and there is one output channel -/
theorem convection_single_nc_readoff (c : Cfg ℂ) (hN : 0 < c.N) (C : ℕ) (hC : 0 < C) (scale : ℂ)
    (uh : MC ℂ) (h : ℕ) (hh : h < numModes c.D c.N) :
    at2 (convection c C scale true false uh) 0 h
      = -scale * (mask c h * dftV c.D c.N (tab (c.N ^ c.D) fun x => ∑ d ∈ range c.D,
          (nifft c (uh.getD 0 #[])).getD x 0 * (dfield c (uh.getD 0 #[]) d).getD x 0)
          (kvec c.D c.N h)) := by
  have hM : h < modes c := hh
  unfold convection
  simp only [↓reduceIte, Bool.false_eq_true]
  rw [at2_tab2 _ _ _ _ _ Nat.zero_lt_one hM, nfft_nd c hN _ h hh]
  refine congrArg (fun v => -scale * (mask c h * dftV c.D c.N v (kvec c.D c.N h)))
    (Nonlin.tab_congr _ _ _ fun x _ => ?_)
  rw [sumList_range_eq]
  refine Finset.sum_congr rfl fun d hd => ?_
  rw [at2_tabC _ _ _ _ hC, at2_tabC _ _ _ _ (Finset.mem_range.mp hd)]
  rfl

/-- at a retained stored mode the (single) output channel holds the coefficient of `−scale·P_K u·Σ_d ∂_d P_K u`,
    alias-free -/
theorem convection_single_nc_alias_free_nd (c : Cfg ℂ) (hD : 0 < c.D) (hq : c.fq ≠ 0)
    (hK : 3 * Kc c < (c.N : ℤ)) (hN : 0 < c.N) (s : ℝ) (hs : c.s = (s : ℂ)) (C : ℕ) (hC : 0 < C)
    (scale : ℂ) (uh : MC ℂ) (x : Array ℂ) (hx : IsRealND c.D c.N x)
    (huh : uh.getD 0 #[] = rfftnM c.D c.N x) (h : ℕ) (hh : h < numModes c.D c.N) :
    (mask c h = 1 →
      at2 (convection c C scale true false uh) 0 h
        = -scale * ∑ d ∈ range c.D,
            linConv c.D c.N (Kc c) (dftV c.D c.N x) (dspec c d x) (kvec c.D c.N h))
    ∧ (mask c h = 0 → at2 (convection c C scale true false uh) 0 h = 0) := by
  refine ⟨fun hm => ?_, fun hm => convection_zero_off_band c C scale true false uh 0 h hm⟩
  have hk : ∀ d, |kvec c.D c.N h d| ≤ Kc c := (mask_nd_eq_one_iff c hq h).mp hm
  have h2 := two_lt_of_three c.N (Kc c) hK
  rw [convection_single_nc_readoff c hN C hC scale uh h hh, hm, one_mul, dftV_sum, huh]
  exact congrArg _ (Finset.sum_congr rfl fun d hd => (boxSpec_nifft_rfftn c hD hq hN h2 x hx).dftV_mul
    (boxSpec_dfield c hD hq hN h2 s hs x hx d (Finset.mem_range.mp hd)) hN hK _ hk)

theorem convection_multi_nc_alias_free_nd_two_thirds (c : Cfg ℂ) (hD : 0 < c.D) (hp : c.fp = 2)
    (hq : c.fq = 3) (hN : 0 < c.N) (s : ℝ) (hs : c.s = (s : ℂ)) (C : ℕ) (hC : C ≤ c.D)
    (scale : ℂ) (uh : MC ℂ) (xs : ℕ → Array ℂ)
    (hx : ∀ ch, ch < C → IsRealND c.D c.N (xs ch))
    (huh : ∀ ch, ch < C → uh.getD ch #[] = rfftnM c.D c.N (xs ch))
    (i : ℕ) (hi : i < C) (h : ℕ) (hh : h < numModes c.D c.N) :
    (mask c h = 1 →
      at2 (convection c C scale false false uh) i h
        = -scale * ∑ j ∈ range C,
            linConv c.D c.N (Kc c) (dftV c.D c.N (xs j)) (dspec c j (xs i)) (kvec c.D c.N h))
    ∧ (mask c h = 0 → at2 (convection c C scale false false uh) i h = 0) :=
  convection_multi_nc_alias_free_nd c hD (by omega) (Kc_two_thirds c hp hq).1 hN s hs C hC scale uh
    xs hx huh i hi h hh

end Exponax.AliasND
