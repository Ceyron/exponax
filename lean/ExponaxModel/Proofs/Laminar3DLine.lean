import ExponaxModel.Proofs.AxisOnlyFields
import ExponaxModel.Proofs.Laminar3D
import ExponaxModel.Proofs.ConserveVorticityFull
/-
C12, 3-D — the rotational term `Nonlin.projected3d c none` on a velocity spectrum `(û₀, 0, 0)` with `û₀` carried by the line
`k₀ = k₂ = 0` (`LineSpec`): on the grid `u × ω = (0, −u₀ ω₂, 0)` (`crossGrid_line`), a function of `x₁` only in channel 1,
so a gradient `∂₁(·) e₁` up to its mean, and the Leray projection removes it as soon as `Σ_x u₀ ω₂ = 0`
(`projected3d_line_of_mean`).  The two users differ in why that mean vanishes: two conjugate modes with arbitrary complex
amplitudes (`Laminar3DTerm`: no Nyquist mode carries content, `sum_vel_curl_line`), the spectrum of a real field (`Laminar3DShear`).
For a general complex line spectrum it need not vanish (a Nyquist entry on an even grid: the remark in the head of
`Laminar3DTerm`; no theorem records it).
-/
namespace Exponax.Laminar3D
open Exponax Exponax.Layout Exponax.Transform Exponax.DFT Exponax.ExactLinear Finset
open Exponax.Nonlin (Cfg MC at2 tab2 tabC modes gridSize mask nfft nifft projected3d leray kInt proj3
  proj3_cross_zero proj3_cross_one proj3_cross_two)
open Exponax.Conserve (velGrid curlGrid crossGrid)
open Exponax.SmallGaps3 (AxisOnly nifft_axisOnly nfft_axisOnly_support)

def LineSpec (c : Cfg ℂ) (uh : MC ℂ) : Prop :=
  ∀ h, h < modes c → at2 uh 1 h = 0 ∧ at2 uh 2 h = 0 ∧ (at2 uh 0 h ≠ 0 → kInt c 0 h = 0 ∧ kInt c 2 h = 0)

theorem crossGrid_line (c : Cfg ℂ) (uh : MC ℂ) (hS : LineSpec c uh) (x : ℕ) :
    crossGrid c uh 0 x = 0 ∧ crossGrid c uh 2 x = 0 ∧
      crossGrid c uh 1 x = -(velGrid c uh 0 x * curlGrid c uh 2 x) := by
  have vel1 : velGrid c uh 1 x = 0 := Nonlin.nifft_zero c _ (fun h hh => (hS h hh).1) x
  have vel2 : velGrid c uh 2 x = 0 := Nonlin.nifft_zero c _ (fun h hh => (hS h hh).2.1) x
  -- `ω₁ = ∂₂u₀ − ∂₀u₂ = 0`: `û₂ = 0`, and `k₂ = 0` where `û₀ ≠ 0`
  have curl1 : curlGrid c uh 1 x = 0 := by
    refine Nonlin.nifft_zero c _ (fun h hh => ?_) x
    rw [Nonlin.tab_getD _ _ _ _ hh, proj3_cross_one]
    simp only []
    rw [(hS h hh).2.1, mul_zero, sub_zero]
    by_cases h0 : at2 uh 0 h = 0
    · rw [h0, mul_zero]
    · rw [Nonlin.deriv_eq_zero_of_k c 2 h ((hS h hh).2.2 h0).2, zero_mul]
  unfold crossGrid
  rw [proj3_cross_zero, proj3_cross_one, proj3_cross_two]
  simp only []
  rw [vel1, vel2, curl1]
  exact ⟨by ring, by ring, by ring⟩

/-- `Σ_x u₀ ω₂ = 0` on a line spectrum without Nyquist content, ARBITRARY complex coefficients: `ω̂₂ = −d₁û₀`, the pairing
    `û₀·conj(d₁û₀)` is purely imaginary, and the conjugate partner of a non-Nyquist mode carries `−k₁`
    (`Conserve.mean_pairs_cancel`, one product) -/
theorem sum_vel_curl_line (c : Cfg ℂ) (hD1 : 1 < c.D) (hN : 0 < c.N) (s : ℝ) (hs : c.s = (s : ℂ)) (uh : MC ℂ)
    (hS : LineSpec c uh) (hny : ∀ h, h < modes c → at2 uh 0 h ≠ 0 → 2 * (kInt c 1 h).natAbs < c.N) :
    ∑ x ∈ range (c.N ^ c.D), velGrid c uh 0 x * curlGrid c uh 2 x = 0 := by
  have hD : 0 < c.D := Nat.zero_lt_of_lt hD1
  have key := Conserve.mean_pairs_cancel c.D c.N hD hN ![fun h => mask c h * at2 uh 0 h]
    ![fun h => mask c h * -(Nonlin.deriv c 1 h * at2 uh 0 h)]
    (fun h _ => by
      simp only [Fin.sum_univ_one, Matrix.cons_val_zero]
      apply Conserve.re_eq_zero_of_add_conj
      simp only [map_mul, map_neg, Conserve.conj_mask, Nonlin.conj_deriv c s hs, Complex.conj_conj]
      ring)
    (fun h hh hw => by
      simp only [Fin.sum_univ_one, Matrix.cons_val_zero]
      by_cases h0 : at2 uh 0 h = 0
      · rw [h0]; ring
      · rw [Conserve.deriv_conjIdx c hD hN h 1 hh hw hD1 (hny h hh h0)]
        ring)
  simp only [Fin.sum_univ_one, Matrix.cons_val_zero] at key
  refine Eq.trans (Finset.sum_congr rfl fun x _ => ?_) key
  unfold velGrid curlGrid
  rw [Conserve.nifft_of_getD c _ (at2 uh 0) fun _ _ => rfl,
    Conserve.nifft_of_getD c _ (fun h => -(Nonlin.deriv c 1 h * at2 uh 0 h)) fun h hh => by
    rw [Nonlin.tab_getD _ _ _ _ hh, proj3_cross_two]
    simp only []
    rw [(hS h hh).1, mul_zero, zero_sub]]

theorem projected3d_line_of_mean (c : Cfg ℂ) (hD : c.D = 3) (hN : 0 < c.N) (s : ℝ) (hs : c.s = (s : ℂ)) (hs0 : s ≠ 0)
    (uh : MC ℂ) (hS : LineSpec c uh)
    (hmean : ∑ x ∈ range (c.N ^ c.D), velGrid c uh 0 x * curlGrid c uh 2 x = 0)
    (i h : ℕ) (hi : i < 3) (hh : h < modes c) : at2 (projected3d c none uh) i h = 0 := by
  have hD0 : 0 < c.D := by omega
  have hD1 : 1 < c.D := by omega
  have cross := crossGrid_line c uh hS
  -- the spectra of `u₀` and of `ω₂ = −∂₁u₀` sit on the line, so both fields depend on `x₁` only
  have line : ∀ h, h < modes c → at2 uh 0 h ≠ 0 → ∀ d, d < c.D → d ≠ 1 → (wnFlat c.D c.N h).getD d 0 = 0 := by
    intro h hh h0 d hd hd1
    obtain ⟨k0, k2⟩ := (hS h hh).2.2 h0
    obtain rfl | rfl : d = 0 ∨ d = 2 := by omega
    · exact k0
    · exact k2
  have axV : AxisOnly c.D c.N 1 (nifft c (uh.getD 0 #[])) := nifft_axisOnly c hN 1 _ line
  have axW : AxisOnly c.D c.N 1 (nifft c (tab (modes c) fun h => proj3 (Gen.Misc.cross_product_3d
      (Nonlin.deriv c 0 h, Nonlin.deriv c 1 h, Nonlin.deriv c 2 h) (at2 uh 0 h, at2 uh 1 h, at2 uh 2 h)) 2)) :=
    nifft_axisOnly c hN 1 _ fun h hh hne => line h hh fun h0 => hne (by
      rw [Nonlin.tab_getD _ _ _ _ hh, proj3_cross_two]
      simp only []
      rw [h0, (hS h hh).1, mul_zero, mul_zero, sub_zero])
  obtain ⟨Q, hQ⟩ : ∃ Q, Q = tab (gridSize c) (crossGrid c uh 1) := ⟨_, rfl⟩
  have hentry : ∀ x, x < c.N ^ c.D → Q.getD x 0 = -(velGrid c uh 0 x * curlGrid c uh 2 x) := fun x hx => by
    rw [hQ, Nonlin.tab_getD _ _ _ _ (show x < gridSize c from hx), (cross x).2.2]
  have axQ : AxisOnly c.D c.N 1 Q := by
    intro x x' hx hx' hdig
    rw [hentry x hx, hentry x' hx']
    unfold velGrid curlGrid
    rw [axV x x' hx hx' hdig, axW x x' hx hx' hdig]
  have hmeanQ : ∑ j ∈ range (c.N ^ c.D), Q.getD j 0 = 0 := by
    rw [Finset.sum_congr rfl fun x hx => hentry x (Finset.mem_range.mp hx), Finset.sum_neg_distrib, hmean, neg_zero]
  rw [Conserve.projected3d_none_eq c uh i h hi hh]
  apply leray_kills c hD s hs hs0 _ ?_ ?_ i h hi hh
  · intro h' hh'
    constructor
    · rw [Nonlin.at2_tabC _ _ _ _ (by norm_num : 0 < 3)]
      exact Nonlin.nfft_zero c _ (fun j (hj : j < gridSize c) => by rw [Nonlin.tab_getD _ _ _ _ hj, (cross j).1]) h'
    · rw [Nonlin.at2_tabC _ _ _ _ (by norm_num : 2 < 3)]
      exact Nonlin.nfft_zero c _ (fun j (hj : j < gridSize c) => by rw [Nonlin.tab_getD _ _ _ _ hj, (cross j).2.1]) h'
  · intro h' hh' hne
    rw [Nonlin.at2_tabC _ _ _ _ (by norm_num : 1 < 3), ← hQ] at hne
    obtain ⟨hk, k1⟩ := nfft_axisOnly_support c hD0 hN 1 hD1 Q axQ hmeanQ h' hh' hne
    exact ⟨hk 0 (by omega) (by norm_num), hk 2 (by omega) (by norm_num), k1⟩

end Exponax.Laminar3D
