import ExponaxModel.Proofs.ReadOffForcing
import ExponaxModel.Proofs.EtdrkStages
/-
C12 — "from rest the Kolmogorov-forced steppers follow the laminar solution exactly": the WHOLE spectrum.

On a shear spectrum (supported on the stored modes with first wavenumber `k₀ = 0`, the line that carries the model's
injection `(0, m)`) the convection part of `Nonlin.vorticity2d` vanishes identically — `v = −∂₀ψ = 0` and `∂₀ω = 0`, so
`u ω_x + v ω_y = 0` on the grid — for every `N`, every mask, every scale: the output is the whole zero array
(`inj = none`) resp. exactly the response at rest (`vorticity2d_shear_zero`, `vorticity2d_shear`).
Hence every stage of every ETDRK order stays on the line, the nonlinear term is the constant forcing spectrum
`F = N(0)` at every stage, and the `n`-fold iterate started from a shear state `v` is

        E^n v + (Σ_{i<n} E^i) · κ · F            (all modes at once, ANY coefficient arrays)

with `κ = a₁` (orders 1, 2), `a₃+a₄+a₅` (order 3), `a₄+4a₅+a₆` (order 4) (`laminar_E{1,2,3,4}`).
-/
namespace Exponax.Laminar
open Exponax Exponax.Layout Exponax.Transform Exponax.Gen.Etdrk Finset
open Exponax.Nonlin (Cfg MC at2 tab2 tabC modes gridSize mask nfft nifft vorticity2d kInt invLapOne inj2)
open Exponax.Conserve (liftNl)

theorem mc_eq_tab2 (A : MC ℂ) (nc n : ℕ) (hsz : A.size = nc)
    (hch : ∀ ch, ch < nc → (A.getD ch #[]).size = n) (f : ℕ → ℕ → ℂ)
    (hf : ∀ ch h, ch < nc → h < n → at2 A ch h = f ch h) : A = tab2 nc n f := by
  unfold tab2
  apply Array.ext (by simp [hsz])
  intro ch h1 h2
  have hc : ch < nc := by rw [← hsz]; exact h1
  have e1 : A[ch] = A.getD ch #[] := by simp [Array.getD, h1]
  have e2 : (tab nc fun ch => tab n (f ch))[ch] = tab n (f ch) := by simp [tab]
  rw [e1, e2]
  apply DFT.array_ext_getD _ _ n (hch ch hc) (by simp)
  intro j hj
  rw [Nonlin.tab_getD _ _ _ _ hj]
  exact hf ch j hc hj

theorem at2_empty (ch h : ℕ) : at2 (#[] : MC ℂ) ch h = 0 := by
  simp [at2]

theorem at2_singleton_tab (n : ℕ) (v : ℕ → ℂ) (h : ℕ) (hh : h < n) : at2 (#[tab n v] : MC ℂ) 0 h = v h := by
  unfold at2
  simp only [Array.getD, List.size_toArray, List.length_cons, List.length_nil, zero_add, Nat.lt_one_iff,
    dite_true]
  have := Nonlin.tab_getD n v h 0 hh
  simpa [Array.getD] using this

/-- channel 0 is carried by the modes with `k₀ = 0`: the spectrum of a field that depends on `x₁` only -/
def IsShear (c : Cfg ℂ) (uh : MC ℂ) : Prop := ∀ h, h < modes c → kInt c 0 h ≠ 0 → at2 uh 0 h = 0

theorem vorticity2d_shear_entry (c : Cfg ℂ) (hN : 0 < c.N) (scale : ℂ) (uh : MC ℂ) (hline : IsShear c uh)
    (inj : Option (ℕ × ℂ)) (h : ℕ) (hh : h < modes c) :
    at2 (vorticity2d c scale inj uh) 0 h = inj2 c inj h := by
  obtain ⟨uH, vH, wxH, wyH, hval, hu, hv, hwx, hwy⟩ := Nonlin.vorticity2d_spec c scale uh
  have hd0 : ∀ h', h' < modes c → Nonlin.deriv c 0 h' * at2 uh 0 h' = 0 := by
    intro h' hh'
    by_cases hk : kInt c 0 h' = 0
    · rw [Nonlin.deriv_eq_zero_of_k c 0 h' hk, zero_mul]
    · rw [hline h' hh' hk, mul_zero]
  rw [Nonlin.vorticity2d_inj c scale inj uh h hh, hval h hh, Nonlin.nfft_zero c, mul_zero, zero_add]
  intro j hj
  have hj' : j < gridSize c := hj
  rw [Nonlin.tab_getD _ _ _ _ hj',
    Nonlin.nifft_zero c wxH (fun h' hh' => by rw [hwx h' hh', hd0 h' hh']),
    Nonlin.nifft_zero c vH (fun h' hh' => by
      rw [hv h' hh']; linear_combination (-(invLapOne c h')) * hd0 h' hh')]
  ring

theorem vorticity2d_shear_eq (c : Cfg ℂ) (hN : 0 < c.N) (scale : ℂ) (inj : Option (ℕ × ℂ)) (uh : MC ℂ)
    (hline : IsShear c uh) : vorticity2d c scale inj uh = tab2 1 (modes c) (fun _ h => inj2 c inj h) := by
  apply mc_eq_tab2 _ 1 (modes c) (ReadOff.vorticity2d_size c scale inj uh)
  · intro ch hch
    obtain rfl := Nat.lt_one_iff.mp hch
    exact ReadOff.vorticity2d_channel_size c scale inj uh
  · intro ch h hch hh
    obtain rfl := Nat.lt_one_iff.mp hch
    exact vorticity2d_shear_entry c hN scale uh hline inj h hh

theorem vorticity2d_shear_zero (c : Cfg ℂ) (hN : 0 < c.N) (scale : ℂ) (uh : MC ℂ) (hline : IsShear c uh) :
    vorticity2d c scale none uh = tab2 1 (modes c) (fun _ _ => 0) :=
  vorticity2d_shear_eq c hN scale none uh hline

theorem vorticity2d_shear (c : Cfg ℂ) (hN : 0 < c.N) (scale : ℂ) (inj : Option (ℕ × ℂ)) (uh : MC ℂ)
    (hline : IsShear c uh) : vorticity2d c scale inj uh = vorticity2d c scale inj #[] := by
  rw [vorticity2d_shear_eq c hN scale inj uh hline,
    vorticity2d_shear_eq c hN scale inj #[] (fun h _ _ => at2_empty 0 h)]

/-- the same for a one-channel spectrum `ℕ → ℂ`, zero beyond the stored modes -/
def ShearSpec (c : Cfg ℂ) (v : ℕ → ℂ) : Prop := ∀ h, (modes c ≤ h ∨ kInt c 0 h ≠ 0) → v h = 0

/-- what the term returns on the zero state: the injection alone (`forcing_apply`) -/
noncomputable def forcing (c : Cfg ℂ) (scale : ℂ) (inj : Option (ℕ × ℂ)) : ℕ → ℂ :=
  liftNl c (vorticity2d c scale inj) 0

theorem forcing_apply (c : Cfg ℂ) (hN : 0 < c.N) (scale : ℂ) (inj : Option (ℕ × ℂ)) (h : ℕ) :
    forcing c scale inj h = if h < modes c then inj2 c inj h else 0 := by
  unfold forcing liftNl
  split_ifs with hh
  · apply vorticity2d_shear_entry c hN scale _ _ inj h hh
    intro h' hh' _
    rw [at2_singleton_tab _ _ _ hh']; rfl
  · exact Nonlin.vorticity2d_at2_out c scale inj _ 0 h (Or.inr (Nat.le_of_not_lt hh))

theorem inj2_off_line (c : Cfg ℂ) (inj : Option (ℕ × ℂ)) (h : ℕ) (hk : kInt c 0 h ≠ 0) : inj2 c inj h = 0 := by
  cases inj with
  | none => rfl
  | some mg =>
    obtain ⟨m, gam⟩ := mg
    simp only [inj2]
    rw [if_neg (fun hc => hk hc.1)]

theorem forcing_shear (c : Cfg ℂ) (hN : 0 < c.N) (scale : ℂ) (inj : Option (ℕ × ℂ)) :
    ShearSpec c (forcing c scale inj) := by
  intro h hh
  rw [forcing_apply c hN]
  split_ifs with hlt
  · rcases hh with hh | hh
    · omega
    · exact inj2_off_line c inj h hh
  · rfl

theorem liftNl_shear (c : Cfg ℂ) (hN : 0 < c.N) (scale : ℂ) (inj : Option (ℕ × ℂ)) (v : ℕ → ℂ)
    (hv : ShearSpec c v) : liftNl c (vorticity2d c scale inj) v = forcing c scale inj := by
  have h1 : IsShear c (#[tab (modes c) v] : MC ℂ) := by
    intro h hh hk
    rw [at2_singleton_tab _ _ _ hh]
    exact hv h (Or.inr hk)
  have h0 : IsShear c (#[tab (modes c) (0 : ℕ → ℂ)] : MC ℂ) := by
    intro h hh hk
    rw [at2_singleton_tab _ _ _ hh]; rfl
  funext h
  unfold forcing liftNl
  rw [vorticity2d_shear c hN scale inj _ h1, vorticity2d_shear c hN scale inj _ h0]

theorem forcing_none (c : Cfg ℂ) (hN : 0 < c.N) (scale : ℂ) : forcing c scale none = 0 := by
  funext h
  rw [forcing_apply c hN]
  split_ifs <;> rfl

theorem constOn_shear (c : Cfg ℂ) (hN : 0 < c.N) (scale : ℂ) (inj : Option (ℕ × ℂ)) :
    Etdrk.ConstOn (ShearSpec c) (forcing c scale inj) (liftNl c (vorticity2d c scale inj)) where
  affine := by
    intro A B v hv h hh
    simp only [Pi.add_apply, Pi.mul_apply]
    rw [hv h hh, forcing_shear c hN scale inj h hh]
    ring
  const := fun v hv => liftNl_shear c hN scale inj v hv

theorem shearSpec_zero (c : Cfg ℂ) : ShearSpec c 0 := fun _ _ => rfl

theorem laminar_E1 (c : Cfg ℂ) (hN : 0 < c.N) (scale : ℂ) (inj : Option (ℕ × ℂ)) (E a1 v : ℕ → ℂ)
    (hv : ShearSpec c v) (n : ℕ) :
    (E1step E a1 (liftNl c (vorticity2d c scale inj)))^[n] v
      = E ^ n * v + (∑ i ∈ range n, E ^ i) * (a1 * forcing c scale inj) :=
  have H := constOn_shear c hN scale inj
  (Etdrk.iterate_on _ _ E _ (H.affine E a1) (Etdrk.E1step_on H E a1) v hv n).2

theorem laminar_E2 (c : Cfg ℂ) (hN : 0 < c.N) (scale : ℂ) (inj : Option (ℕ × ℂ)) (E a1 a2 v : ℕ → ℂ)
    (hv : ShearSpec c v) (n : ℕ) :
    (E2step E a1 a2 (liftNl c (vorticity2d c scale inj)))^[n] v
      = E ^ n * v + (∑ i ∈ range n, E ^ i) * (a1 * forcing c scale inj) :=
  have H := constOn_shear c hN scale inj
  (Etdrk.iterate_on _ _ E _ (H.affine E a1) (Etdrk.E2step_on H E a1 a2) v hv n).2

theorem laminar_E3 (c : Cfg ℂ) (hN : 0 < c.N) (scale : ℂ) (inj : Option (ℕ × ℂ))
    (E Eh a1 a2 a3 a4 a5 v : ℕ → ℂ) (hv : ShearSpec c v) (n : ℕ) :
    (E3step E Eh a1 a2 a3 a4 a5 (liftNl c (vorticity2d c scale inj)))^[n] v
      = E ^ n * v + (∑ i ∈ range n, E ^ i) * ((a3 + a4 + a5) * forcing c scale inj) :=
  have H := constOn_shear c hN scale inj
  (Etdrk.iterate_on _ _ E _ (H.affine E _) (Etdrk.E3step_on H E Eh a1 a2 a3 a4 a5) v hv n).2

theorem laminar_E4 (c : Cfg ℂ) (hN : 0 < c.N) (scale : ℂ) (inj : Option (ℕ × ℂ))
    (E Eh a1 a2 a3 a4 a5 a6 v : ℕ → ℂ) (hv : ShearSpec c v) (n : ℕ) :
    (E4step E Eh a1 a2 a3 a4 a5 a6 (liftNl c (vorticity2d c scale inj)))^[n] v
      = E ^ n * v + (∑ i ∈ range n, E ^ i) * ((a4 + 4 * a5 + a6) * forcing c scale inj) :=
  have H := constOn_shear c hN scale inj
  (Etdrk.iterate_on _ _ E _ (H.affine E _) (Etdrk.E4step_on H E Eh a1 a2 a3 a4 a5 a6) v hv n).2

/-- every iterate stays a shear spectrum (shown for ETDRK4; the other orders are identical) -/
theorem laminar_E4_shear (c : Cfg ℂ) (hN : 0 < c.N) (scale : ℂ) (inj : Option (ℕ × ℂ))
    (E Eh a1 a2 a3 a4 a5 a6 v : ℕ → ℂ) (hv : ShearSpec c v) (n : ℕ) :
    ShearSpec c ((E4step E Eh a1 a2 a3 a4 a5 a6 (liftNl c (vorticity2d c scale inj)))^[n] v) :=
  have H := constOn_shear c hN scale inj
  (Etdrk.iterate_on _ _ E _ (H.affine E _) (Etdrk.E4step_on H E Eh a1 a2 a3 a4 a5 a6) v hv n).1

end Exponax.Laminar
