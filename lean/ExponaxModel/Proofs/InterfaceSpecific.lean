import ExponaxModel.Proofs.InterfaceAssembly2
/-
C13 — the SPECIFIC steppers of the overview equal their GENERIC equivalents at STEP level (not only symbol level).

`X_step a` is `Interface.baseStep` (the mirror of `BaseStepper.__init__` + `step_fourier`, equal to the regenerated one for
`order ≤ 4`: `C13_base_step_is_the_regenerated_constructor`; regenerated ETDRK coefficients
and stage formulas of the requested order) on the class `X`'s regenerated `_build_linear_operator`
(`Gen.Steppers.X_linear_operator`) and regenerated `__init__ → _build_nonlinear_fun` wiring
(`Gen.StepperWiring.X_stepper_nonlinear_fun`), exactly as `Interface.GeneralConvectionStepper_step`.

  Burgers(ν, b, flags)                       = GeneralConvectionStepper(linear = [0, 0, ν], b, flags)
  KortewegDeVries(b, ν, ξ, μ, flags), default mixing flags (both False), or `D = 1` with any mixing flags
                                             = GeneralConvectionStepper(linear = [0, 0, ν, −ξ, −μ], b, flags)
  KuramotoSivashinskyConservative(b, a₂, a₄) = GeneralConvectionStepper(linear = [0, 0, −a₂, 0, −a₄], b, flags)
  KuramotoSivashinsky(b, a₂, a₄)             = GeneralGradientNormStepper(linear = [0, 0, −a₂, 0, −a₄], b)
  FisherKPP(ν, r)                            = GeneralPolynomialStepper(linear = [r / D, 0, ν], polynomial = [0, 0, −r])

every order, every option forwarded.  NOTE (Fisher-KPP): the zeroth general coefficient enters the general symbol as
`a₀ · Σ_d (i k_d)⁰ = D · a₀`, so the equivalent is `a₀ = r / D`; the documented `a₀ = r` is right only for `D = 1`
(`C13_fisher_kpp_zeroth_coefficient_is_r_over_D`: the symbols differ for `D = 2`).
-/
namespace Exponax.Interface
open Exponax Exponax.Layout Exponax.Transform Exponax.Nonlin Exponax.Gen.Convert Exponax.Gen.Etdrk
open Exponax.Gen.StepperWiring Exponax.Gen.Steppers Exponax.StepperWiringEq
open Exponax.EquivND (liftTermND)

theorem baseStep_congr (b b' : BaseStepperArgs ℂ) (hb : b = b') (linop linop' : List ℂ → ℂ)
    (nonlin nonlin' : Cfg ℂ → MC ℂ → MC ℂ)
    (hl : ∀ h, linop (kappa (baseCfg b.num_spatial_dims b.num_points b.domain_extent) h)
      = linop' (kappa (baseCfg b.num_spatial_dims b.num_points b.domain_extent) h))
    (hn : nonlin (baseCfg b.num_spatial_dims b.num_points b.domain_extent)
      = nonlin' (baseCfg b.num_spatial_dims b.num_points b.domain_extent)) :
    baseStep b linop nonlin = baseStep b' linop' nonlin' := by
  subst hb
  unfold baseStep
  have e : (fun (_ : ℕ) h => linop (kappa (baseCfg b.num_spatial_dims b.num_points b.domain_extent) h))
      = (fun (_ : ℕ) h => linop' (kappa (baseCfg b.num_spatial_dims b.num_points b.domain_extent) h)) := by
    funext _ h; exact hl h
  rw [e, hn]

theorem psum_zero (κ : List ℂ) : psum κ 0 = (κ.length : ℂ) := by
  simp [psum]

theorem psum_one_dim (κ : List ℂ) (hκ : κ.length = 1) (n : ℕ) : psum κ n = κ.getD 0 0 ^ n := by
  simp [psum, hκ]

theorem sum_coeffs_cons (p : ℕ → ℂ) (a : ℂ) (l : List ℂ) :
    ∑ j ∈ Finset.range (a :: l).length, (a :: l).getD j 0 * p j
      = a * p 0 + ∑ j ∈ Finset.range l.length, l.getD j 0 * p (j + 1) := by
  rw [List.length_cons, Finset.sum_range_succ', add_comm]
  simp only [List.getD_cons_succ, List.getD_cons_zero]

/-- the symbol `Σ_j a_j p_j` of the general steppers for two to five coefficients -/
theorem sum_coeffs_two (p : ℕ → ℂ) (a₀ a₁ : ℂ) :
    ∑ j ∈ Finset.range [a₀, a₁].length, [a₀, a₁].getD j 0 * p j = a₀ * p 0 + a₁ * p 1 := by
  simp only [sum_coeffs_cons, List.length_nil, Finset.range_zero, Finset.sum_empty, add_zero, zero_add]

theorem sum_coeffs_three (p : ℕ → ℂ) (a₀ a₁ a₂ : ℂ) :
    ∑ j ∈ Finset.range [a₀, a₁, a₂].length, [a₀, a₁, a₂].getD j 0 * p j = a₀ * p 0 + a₁ * p 1 + a₂ * p 2 := by
  simp only [sum_coeffs_cons, List.length_nil, Finset.range_zero, Finset.sum_empty, add_zero, zero_add, ← add_assoc]

theorem sum_coeffs_four (p : ℕ → ℂ) (a₀ a₁ a₂ a₃ : ℂ) :
    ∑ j ∈ Finset.range [a₀, a₁, a₂, a₃].length, [a₀, a₁, a₂, a₃].getD j 0 * p j
      = a₀ * p 0 + a₁ * p 1 + a₂ * p 2 + a₃ * p 3 := by
  simp only [sum_coeffs_cons, List.length_nil, Finset.range_zero, Finset.sum_empty, add_zero, zero_add, ← add_assoc]

theorem sum_coeffs_five (p : ℕ → ℂ) (a₀ a₁ a₂ a₃ a₄ : ℂ) :
    ∑ j ∈ Finset.range [a₀, a₁, a₂, a₃, a₄].length, [a₀, a₁, a₂, a₃, a₄].getD j 0 * p j
      = a₀ * p 0 + a₁ * p 1 + a₂ * p 2 + a₃ * p 3 + a₄ * p 4 := by
  simp only [sum_coeffs_cons, List.length_nil, Finset.range_zero, Finset.sum_empty, add_zero, zero_add, ← add_assoc]

noncomputable def Burgers_step (a : BurgersArgs ℂ) : Spec → Spec :=
  baseStep (Burgers_base_args a)
    (fun κ => Burgers_linear_operator κ (Burgers_attrs a).diffusivity)
    (fun c => Burgers_stepper_nonlinear_fun c a)

/-- the documented equivalent arguments: `linear_coefficients = (0, 0, ν)`, everything else forwarded -/
def Burgers_to_general (a : BurgersArgs ℂ) : GeneralConvectionStepperArgs ℂ :=
  { num_spatial_dims := a.num_spatial_dims, domain_extent := a.domain_extent, num_points := a.num_points, dt := a.dt,
    linear_coefficients := [0, 0, a.diffusivity], convection_scale := a.convection_scale,
    single_channel := a.single_channel, conservative := a.conservative, order := a.order,
    dealiasing_fraction := a.dealiasing_fraction, num_circle_points := a.num_circle_points,
    circle_radius := a.circle_radius }

theorem Burgers_step_eq_general (a : BurgersArgs ℂ) :
    Burgers_step a = GeneralConvectionStepper_step (Burgers_to_general a) := by
  unfold Burgers_step GeneralConvectionStepper_step
  apply baseStep_congr _ _ rfl
  · intro h
    show Burgers_linear_operator _ a.diffusivity = GeneralConvectionStepper_linear_operator _ [0, 0, a.diffusivity]
    rw [Burgers_linear_operator_eq, GeneralConvectionStepper_linear_operator_eq, sum_coeffs_three]
    ring
  · funext uh
    rw [Burgers_stepper_nonlinear_fun_eq _ a uh rfl,
      GeneralConvectionStepper_stepper_nonlinear_fun_eq _ (Burgers_to_general a) uh rfl]
    rfl

noncomputable def KortewegDeVries_step (a : KortewegDeVriesArgs ℂ) : Spec → Spec :=
  baseStep (KortewegDeVries_base_args a)
    (fun κ => KortewegDeVries_linear_operator κ (KortewegDeVries_attrs a).dispersivity
      (KortewegDeVries_attrs a).diffusivity (KortewegDeVries_attrs a).hyper_diffusivity
      (KortewegDeVries_attrs a).advect_over_diffuse (KortewegDeVries_attrs a).diffuse_over_diffuse
      (KortewegDeVries_base_args a).num_spatial_dims)
    (fun c => KortewegDeVries_stepper_nonlinear_fun c a)

def KortewegDeVries_to_general (a : KortewegDeVriesArgs ℂ) : GeneralConvectionStepperArgs ℂ :=
  { num_spatial_dims := a.num_spatial_dims, domain_extent := a.domain_extent, num_points := a.num_points, dt := a.dt,
    linear_coefficients := [0, 0, a.diffusivity, -a.dispersivity, -a.hyper_diffusivity],
    convection_scale := a.convection_scale, single_channel := a.single_channel, conservative := a.conservative,
    order := a.order, dealiasing_fraction := a.dealiasing_fraction, num_circle_points := a.num_circle_points,
    circle_radius := a.circle_radius }

theorem KortewegDeVries_nonlin_eq (a : KortewegDeVriesArgs ℂ) :
    (fun c => KortewegDeVries_stepper_nonlinear_fun c a)
        (baseCfg a.num_spatial_dims a.num_points a.domain_extent)
      = (fun c => GeneralConvectionStepper_stepper_nonlinear_fun c (KortewegDeVries_to_general a))
        (baseCfg a.num_spatial_dims a.num_points a.domain_extent) := by
  funext uh
  show KortewegDeVries_stepper_nonlinear_fun _ a uh
    = GeneralConvectionStepper_stepper_nonlinear_fun _ (KortewegDeVries_to_general a) uh
  rw [KortewegDeVries_stepper_nonlinear_fun_eq _ a uh rfl,
    GeneralConvectionStepper_stepper_nonlinear_fun_eq _ (KortewegDeVries_to_general a) uh rfl]
  rfl

/-- the linear operators agree when the mixing flags are off, and in one dimension whatever the flags
    (`∂_x ∘ ∂_xx = ∂_xxx`, `∂_xx ∘ ∂_xx = ∂_xxxx`) -/
theorem KortewegDeVries_linear_operator_eq_general (κ : List ℂ) (a3 ν μ : ℂ) (aod dod : Bool) (D : ℕ)
    (hD : κ.length = D) (h : D = 1 ∨ (aod = false ∧ dod = false)) :
    KortewegDeVries_linear_operator κ a3 ν μ aod dod D
      = GeneralConvectionStepper_linear_operator κ [0, 0, ν, -a3, -μ] := by
  rw [KortewegDeVries_linear_operator_eq κ a3 ν μ aod dod D hD, GeneralConvectionStepper_linear_operator_eq,
    sum_coeffs_five]
  rcases h with rfl | ⟨rfl, rfl⟩
  · simp only [psum_one_dim κ hD]
    cases aod <;> cases dod
    all_goals
      simp only [if_true, Bool.false_eq_true, if_false]
      ring
  · simp only [Bool.false_eq_true, if_false]
    ring

/-- **KdV = GeneralConvectionStepper**, for the default mixing flags (both `False`) or in one dimension -/
theorem KortewegDeVries_step_eq_general_of (a : KortewegDeVriesArgs ℂ)
    (h : a.num_spatial_dims = 1 ∨ (a.advect_over_diffuse = false ∧ a.diffuse_over_diffuse = false)) :
    KortewegDeVries_step a = GeneralConvectionStepper_step (KortewegDeVries_to_general a) :=
  baseStep_congr _ _ rfl _ _ _ _
    (fun m => KortewegDeVries_linear_operator_eq_general _ _ _ _ _ _ _ (kappa_length _ m) h)
    (KortewegDeVries_nonlin_eq a)

/-- **KdV in one dimension, ANY mixing flags** (`∂_x ∘ ∂_xx = ∂_xxx`, `∂_xx ∘ ∂_xx = ∂_xxxx`) -/
theorem KortewegDeVries_step_eq_general_1d (a : KortewegDeVriesArgs ℂ) (hD : a.num_spatial_dims = 1) :
    KortewegDeVries_step a = GeneralConvectionStepper_step (KortewegDeVries_to_general a) :=
  KortewegDeVries_step_eq_general_of a (Or.inl hD)

noncomputable def KuramotoSivashinskyConservative_step (a : KuramotoSivashinskyConservativeArgs ℂ) : Spec → Spec :=
  baseStep (KuramotoSivashinskyConservative_base_args a)
    (fun κ => KuramotoSivashinskyConservative_linear_operator κ
      (KuramotoSivashinskyConservative_attrs a).second_order_scale
      (KuramotoSivashinskyConservative_attrs a).fourth_order_scale)
    (fun c => KuramotoSivashinskyConservative_stepper_nonlinear_fun c a)

def KuramotoSivashinskyConservative_to_general (a : KuramotoSivashinskyConservativeArgs ℂ) :
    GeneralConvectionStepperArgs ℂ :=
  { num_spatial_dims := a.num_spatial_dims, domain_extent := a.domain_extent, num_points := a.num_points, dt := a.dt,
    linear_coefficients := [0, 0, -a.second_order_scale, 0, -a.fourth_order_scale],
    convection_scale := a.convection_scale, single_channel := a.single_channel, conservative := a.conservative,
    order := a.order, dealiasing_fraction := a.dealiasing_fraction, num_circle_points := a.num_circle_points,
    circle_radius := a.circle_radius }

theorem KuramotoSivashinskyConservative_step_eq_general (a : KuramotoSivashinskyConservativeArgs ℂ) :
    KuramotoSivashinskyConservative_step a
      = GeneralConvectionStepper_step (KuramotoSivashinskyConservative_to_general a) := by
  unfold KuramotoSivashinskyConservative_step GeneralConvectionStepper_step
  apply baseStep_congr _ _ rfl
  · intro h
    show KuramotoSivashinskyConservative_linear_operator _ a.second_order_scale a.fourth_order_scale
      = GeneralConvectionStepper_linear_operator _ [0, 0, -a.second_order_scale, 0, -a.fourth_order_scale]
    rw [KuramotoSivashinskyConservative_linear_operator_eq, GeneralConvectionStepper_linear_operator_eq,
      sum_coeffs_five]
    ring
  · funext uh
    rw [KuramotoSivashinskyConservative_stepper_nonlinear_fun_eq _ a uh rfl,
      GeneralConvectionStepper_stepper_nonlinear_fun_eq _ (KuramotoSivashinskyConservative_to_general a) uh rfl]
    rfl

noncomputable def KuramotoSivashinsky_step (a : KuramotoSivashinskyArgs ℂ) : Spec → Spec :=
  baseStep (KuramotoSivashinsky_base_args a)
    (fun κ => KuramotoSivashinsky_linear_operator κ (KuramotoSivashinsky_attrs a).second_order_scale
      (KuramotoSivashinsky_attrs a).fourth_order_scale)
    (fun c => KuramotoSivashinsky_stepper_nonlinear_fun c a)

def KuramotoSivashinsky_to_general (a : KuramotoSivashinskyArgs ℂ) : GeneralGradientNormStepperArgs ℂ :=
  { num_spatial_dims := a.num_spatial_dims, domain_extent := a.domain_extent, num_points := a.num_points, dt := a.dt,
    linear_coefficients := [0, 0, -a.second_order_scale, 0, -a.fourth_order_scale],
    gradient_norm_scale := a.gradient_norm_scale, order := a.order,
    dealiasing_fraction := a.dealiasing_fraction, num_circle_points := a.num_circle_points,
    circle_radius := a.circle_radius }

theorem KuramotoSivashinsky_step_eq_general (a : KuramotoSivashinskyArgs ℂ) :
    KuramotoSivashinsky_step a = GeneralGradientNormStepper_step (KuramotoSivashinsky_to_general a) := by
  unfold KuramotoSivashinsky_step GeneralGradientNormStepper_step
  apply baseStep_congr _ _ rfl
  · intro h
    show KuramotoSivashinsky_linear_operator _ a.second_order_scale a.fourth_order_scale
      = GeneralGradientNormStepper_linear_operator _ [0, 0, -a.second_order_scale, 0, -a.fourth_order_scale]
    rw [KuramotoSivashinsky_linear_operator_eq, GeneralGradientNormStepper_linear_operator_eq, sum_coeffs_five]
    ring
  · funext uh
    rw [KuramotoSivashinsky_stepper_nonlinear_fun_eq _ a uh,
      GeneralGradientNormStepper_stepper_nonlinear_fun_eq _ (KuramotoSivashinsky_to_general a) uh]
    rfl

noncomputable def FisherKPP_step (a : FisherKPPArgs ℂ) : Spec → Spec :=
  baseStep (FisherKPP_base_args a)
    (fun κ => FisherKPP_linear_operator κ (FisherKPP_attrs a).diffusivity (FisherKPP_attrs a).reactivity)
    (fun c => FisherKPP_stepper_nonlinear_fun c a)

noncomputable def FisherKPP_to_general_with (a : FisherKPPArgs ℂ) (a0 : ℂ) : GeneralPolynomialStepperArgs ℂ :=
  { num_spatial_dims := a.num_spatial_dims, domain_extent := a.domain_extent, num_points := a.num_points, dt := a.dt,
    linear_coefficients := [a0, 0, a.diffusivity],
    polynomial_coefficients := [0, 0, -a.reactivity], order := a.order,
    dealiasing_fraction := a.dealiasing_fraction, num_circle_points := a.num_circle_points,
    circle_radius := a.circle_radius }

/-- the correct equivalent: `a₀ = r / D` -/
noncomputable def FisherKPP_to_general (a : FisherKPPArgs ℂ) : GeneralPolynomialStepperArgs ℂ :=
  FisherKPP_to_general_with a (a.reactivity / (a.num_spatial_dims : ℂ))

theorem FisherKPP_nonlin_eq (a : FisherKPPArgs ℂ) (a0 : ℂ) :
    (fun c => FisherKPP_stepper_nonlinear_fun c a) (baseCfg a.num_spatial_dims a.num_points a.domain_extent)
      = (fun c => GeneralPolynomialStepper_stepper_nonlinear_fun c (FisherKPP_to_general_with a a0))
        (baseCfg a.num_spatial_dims a.num_points a.domain_extent) := by
  funext uh
  show FisherKPP_stepper_nonlinear_fun _ a uh
    = GeneralPolynomialStepper_stepper_nonlinear_fun _ (FisherKPP_to_general_with a a0) uh
  rw [FisherKPP_stepper_nonlinear_fun_eq _ a uh,
    GeneralPolynomialStepper_stepper_nonlinear_fun_eq _ (FisherKPP_to_general_with a a0) uh]
  rfl

/-- **FisherKPP = GeneralPolynomialStepper** with `a₀ = r / D` (every `D ≥ 1`) -/
theorem FisherKPP_step_eq_general (a : FisherKPPArgs ℂ) (hD : a.num_spatial_dims ≠ 0) :
    FisherKPP_step a = GeneralPolynomialStepper_step (FisherKPP_to_general a) := by
  unfold FisherKPP_step GeneralPolynomialStepper_step FisherKPP_to_general
  apply baseStep_congr _ _ rfl
  · intro h
    show FisherKPP_linear_operator _ a.diffusivity a.reactivity
      = GeneralPolynomialStepper_linear_operator _ [a.reactivity / (a.num_spatial_dims : ℂ), 0, a.diffusivity]
    have hD' : (a.num_spatial_dims : ℂ) ≠ 0 := Nat.cast_ne_zero.mpr hD
    rw [FisherKPP_linear_operator_eq, GeneralPolynomialStepper_linear_operator_eq, sum_coeffs_three, psum_zero,
      kappa_length]
    show a.diffusivity * _ + a.reactivity
      = a.reactivity / (a.num_spatial_dims : ℂ) * (a.num_spatial_dims : ℂ) + 0 * _ + a.diffusivity * _
    rw [div_mul_cancel₀ _ hD']
    ring
  · exact FisherKPP_nonlin_eq a _

/-- the documented equivalent (`a₀ = r`) in one dimension -/
theorem FisherKPP_step_eq_general_documented_1d (a : FisherKPPArgs ℂ) (hD : a.num_spatial_dims = 1) :
    FisherKPP_step a = GeneralPolynomialStepper_step (FisherKPP_to_general_with a a.reactivity) := by
  rw [FisherKPP_step_eq_general a (by omega)]
  unfold FisherKPP_to_general
  rw [hD]
  simp

example : ∃ a : KortewegDeVriesArgs ℂ, a.advect_over_diffuse = false ∧ a.diffuse_over_diffuse = false :=
  ⟨KortewegDeVries_with_defaults 2 1 16 1, rfl, rfl⟩
example : ∃ a : KortewegDeVriesArgs ℂ, a.num_spatial_dims = 1 ∧ a.advect_over_diffuse = true :=
  ⟨{ KortewegDeVries_with_defaults 1 1 16 1 with advect_over_diffuse := true }, rfl, rfl⟩
example : ∃ a : FisherKPPArgs ℂ, a.num_spatial_dims ≠ 0 := ⟨FisherKPP_with_defaults 3 1 16 1, by decide⟩
example : ∃ a : FisherKPPArgs ℂ, a.num_spatial_dims = 1 := ⟨FisherKPP_with_defaults 1 1 16 1, rfl⟩
example : ∃ r : ℂ, r ≠ 0 := ⟨1, one_ne_zero⟩

end Exponax.Interface
