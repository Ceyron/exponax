import ExponaxModel.Proofs.AliasMask
import ExponaxModel.Proofs.AliasND
/-
C03 in 1-D, about `Model/Nonlin.lean` at `K := ℂ`, as the `D = 1`, one-channel case of `AliasND`: the
linear convolution over the box at `cst D h` is the sum over `Icc (-K) K` (`linConv_cst`); conservative
convection with one channel (both code paths) and the polynomial nonlinearity (quadratic with 2/3, cubic
with 1/2).
-/
namespace Exponax.Alias
open Exponax Exponax.Layout Exponax.Transform Exponax.DFT Exponax.Nonlin Exponax.AliasND Finset
-- `deriv` is the model's derivative symbol; the export keeps it from being read as Mathlib's `_root_.deriv` as well
export Exponax.Nonlin (deriv)

theorem linConv_cst {D N : ℕ} (hD : D = 1) (K : ℤ) (F G : (Fin D → ℤ) → ℂ) (h : ℤ) :
    linConv D N K F G (cst D h) = (1 / (N : ℂ)) * ∑ m ∈ Finset.Icc (-K) K,
      trunc K (fun n => F (cst D n)) m * trunc K (fun n => G (cst D n)) (h - m) := by
  unfold linConv
  simp only [sum_box_cst hD, cst_sub, truncV_cst hD, hD, pow_one]

theorem linConv3_cst {D N : ℕ} (hD : D = 1) (K : ℤ) (F G H : (Fin D → ℤ) → ℂ) (h : ℤ) :
    linConv3 D N K F G H (cst D h)
      = (1 / (N : ℂ) ^ 2) * ∑ a ∈ Finset.Icc (-K) K, ∑ b ∈ Finset.Icc (-K) K,
          trunc K (fun n => F (cst D n)) a * trunc K (fun n => G (cst D n)) b
            * trunc K (fun n => H (cst D n)) (h - a - b) := by
  unfold linConv3
  simp only [sum_box_cst hD, cst_sub, truncV_cst hD, hD, pow_one, one_div, inv_pow]

/-- at a retained stored mode the output is the coefficient of `−scale·½·∂ₓ (P_K u)²`, alias-free; with one channel in
    1-D the multi-channel code path (`single_channel=False`) computes the same thing -/
theorem convection_c_one_alias_free_of_cutoff (c : Cfg ℂ) (hD : c.D = 1) (hq : c.fq ≠ 0) (hK : 3 * Kc c < (c.N : ℤ))
    (hN : 0 < c.N) (scale : ℂ) (x : Array ℂ) (hx : IsRealField c.N x) (single : Bool)
    (h : ℕ) (hh : h ≤ c.N / 2) :
    (mask c h = 1 →
      at2 (convection c 1 scale single true #[rfftnM 1 c.N x]) 0 h
        = -scale * (1 / 2) * deriv c 0 h *
            ((1 / (c.N : ℂ)) * ∑ m ∈ Finset.Icc (-(Kc c)) (Kc c),
              trunc (Kc c) (dft c.N x) m * trunc (Kc c) (dft c.N x) ((h : ℤ) - m)))
    ∧ (mask c h = 0 →
      at2 (convection c 1 scale single true #[rfftnM 1 c.N x]) 0 h = 0) := by
  refine ⟨fun hm => ?_, convection_zero_off_band c 1 scale single true _ 0 h⟩
  have hx' : ∀ ch, ch < 1 → IsRealND c.D c.N x := fun _ _ => (isRealND_iff hD x).mpr hx
  have huh : ∀ ch, ch < 1 → (#[rfftnM 1 c.N x] : MC ℂ).getD ch #[] = rfftnM c.D c.N x := fun ch hch => by
    rw [hD, Nat.lt_one_iff.mp hch]
    rfl
  cases single
  · have := (convection_multi_conservative_alias_free_nd c (hD ▸ Nat.one_pos) hq hK hN 1 scale _ (fun _ => x)
      hx' huh 0 Nat.one_pos h (lt_numModes_one c hD hh)).1 hm
    rw [Finset.sum_range_one, kvec_one hD, linConv_cst hD] at this
    simpa only [dftV_cst hD, mul_assoc] using this
  · have := (convection_single_conservative_alias_free_nd c (hD ▸ Nat.one_pos) hq hK hN 1 scale _ (fun _ => x)
      hx' huh 0 Nat.one_pos h (lt_numModes_one c hD hh)).1 hm
    rw [sum_range_dim_one hD, kvec_one hD, linConv_cst hD] at this
    simpa only [dftV_cst hD, mul_assoc] using this

/-- the same in `if`-form, the retention test written as `h ≤ Kc` -/
theorem convection_one_alias_free_of_cutoff' (c : Cfg ℂ) (hD : c.D = 1) (hq : c.fq ≠ 0) (hK : 3 * Kc c < (c.N : ℤ))
    (hN : 0 < c.N) (scale : ℂ) (x : Array ℂ) (hx : IsRealField c.N x) (h : ℕ) (hh : h ≤ c.N / 2) :
    at2 (convection c 1 scale true true #[rfftnM 1 c.N x]) 0 h
      = if (h : ℤ) ≤ Kc c then
          -scale * (1 / 2) * deriv c 0 h *
            ((1 / (c.N : ℂ)) * ∑ m ∈ Finset.Icc (-(Kc c)) (Kc c),
              trunc (Kc c) (dft c.N x) m * trunc (Kc c) (dft c.N x) ((h : ℤ) - m))
        else 0 := by
  have := convection_c_one_alias_free_of_cutoff c hD hq hK hN scale x hx true h hh
  split_ifs with hk
  · exact this.1 ((mask_eq_one_iff c hD hq h).mpr hk)
  · exact this.2 ((mask_eq_zero_iff c hD hq h).mpr hk)

/-- `PolynomialNonlinearFun` with coefficients `[c0, c1, c2]`: at a retained stored mode the output holds the
    coefficients of `c0 + c1·P_K u + c2·(P_K u)²`, alias-free -/
theorem polynomial_quadratic_alias_free_of_cutoff (c : Cfg ℂ) (hD : c.D = 1) (hq : c.fq ≠ 0) (hK : 3 * Kc c < (c.N : ℤ))
    (hN : 0 < c.N) (c0 c1 c2 : ℂ) (x : Array ℂ) (hx : IsRealField c.N x) (h : ℕ) (hh : h ≤ c.N / 2) :
    (mask c h = 1 →
      at2 (polynomial c 1 [c0, c1, c2] #[rfftnM 1 c.N x]) 0 h
        = c0 * (if h = 0 then (c.N : ℂ) else 0) + c1 * dft c.N x h
          + c2 * ((1 / (c.N : ℂ)) * ∑ m ∈ Finset.Icc (-(Kc c)) (Kc c),
              trunc (Kc c) (dft c.N x) m * trunc (Kc c) (dft c.N x) ((h : ℤ) - m)))
    ∧ (mask c h = 0 → at2 (polynomial c 1 [c0, c1, c2] #[rfftnM 1 c.N x]) 0 h = 0) := by
  have hM := lt_numModes_one c hD hh
  have := polynomial_quadratic_alias_free_nd c (hD ▸ Nat.one_pos) hq hK hN 1 c0 c1 c2 _ (fun _ => x)
    (fun _ _ => (isRealND_iff hD x).mpr hx) (single_getD _) 0 Nat.zero_lt_one h hM
  rw [rfftn_eq_dftV c.D c.N hN x h hM, kvec_one hD, linConv_cst hD] at this
  simpa only [dftV_cst hD, hD, pow_one] using this

/-- coefficients `[0, 0, 0, c3]`: at a retained stored mode the coefficient of `c3·(P_K u)³`, alias-free (`4·Kc < N`,
    e.g. the fraction 1/2) -/
theorem polynomial_cubic_alias_free_of_cutoff (c : Cfg ℂ) (hD : c.D = 1) (hq : c.fq ≠ 0) (hK : 4 * Kc c < (c.N : ℤ))
    (hN : 0 < c.N) (c3 : ℂ) (x : Array ℂ) (hx : IsRealField c.N x) (h : ℕ) (hh : h ≤ c.N / 2) :
    (mask c h = 1 →
      at2 (polynomial c 1 [0, 0, 0, c3] #[rfftnM 1 c.N x]) 0 h
        = c3 * ((1 / (c.N : ℂ) ^ 2) *
            ∑ a ∈ Finset.Icc (-(Kc c)) (Kc c), ∑ b ∈ Finset.Icc (-(Kc c)) (Kc c),
              trunc (Kc c) (dft c.N x) a * trunc (Kc c) (dft c.N x) b
                * trunc (Kc c) (dft c.N x) ((h : ℤ) - a - b)))
    ∧ (mask c h = 0 → at2 (polynomial c 1 [0, 0, 0, c3] #[rfftnM 1 c.N x]) 0 h = 0) := by
  have := polynomial_cubic_alias_free_nd c (hD ▸ Nat.one_pos) hq hK hN 1 0 0 0 c3 _ (fun _ => x)
    (fun _ _ => (isRealND_iff hD x).mpr hx) (single_getD _) 0 Nat.zero_lt_one h (lt_numModes_one c hD hh)
  rw [kvec_one hD, linConv3_cst hD] at this
  simpa only [zero_mul, zero_add, dftV_cst hD, hD] using this

/-! Corollaries for the documented fractions 2/3 and 1/2 (literal `fp`, `fq`). -/

theorem dft_sq_nifft_rfft (c : Cfg ℂ) (hD : c.D = 1) (hp : c.fp = 2) (hq : c.fq = 3) (hN : 0 < c.N)
    (x : Array ℂ) (hx : IsRealField c.N x) (h : ℤ) (hh : |h| ≤ Kc c) :
    dft c.N (tab c.N fun j => (nifft c (rfftnM 1 c.N x)).getD j 0 * (nifft c (rfftnM 1 c.N x)).getD j 0) h
      = (1 / (c.N : ℂ)) * ∑ m ∈ Finset.Icc (-(Kc c)) (Kc c),
          trunc (Kc c) (dft c.N x) m * trunc (Kc c) (dft c.N x) (h - m) := by
  have hK := Kc_two_thirds c hp hq
  have hX := boxSpec_nifft_rfftn c (hD ▸ Nat.one_pos) (by omega) hN hK.2 x ((isRealND_iff hD x).mpr hx)
  have := hX.dftV_mul hX hN hK.1 (cst c.D h) fun _ => hh
  rw [linConv_cst hD] at this
  simpa only [dftV_cst hD, hD, pow_one] using this

theorem convection_c_one_alias_free (c : Cfg ℂ) (hD : c.D = 1) (hp : c.fp = 2) (hq : c.fq = 3)
    (hN : 0 < c.N) (scale : ℂ) (x : Array ℂ) (hx : IsRealField c.N x) (single : Bool)
    (h : ℕ) (hh : h ≤ c.N / 2) :
    (mask c h = 1 →
      at2 (convection c 1 scale single true #[rfftnM 1 c.N x]) 0 h
        = -scale * (1 / 2) * deriv c 0 h *
            ((1 / (c.N : ℂ)) * ∑ m ∈ Finset.Icc (-(Kc c)) (Kc c),
              trunc (Kc c) (dft c.N x) m * trunc (Kc c) (dft c.N x) ((h : ℤ) - m)))
    ∧ (mask c h = 0 →
      at2 (convection c 1 scale single true #[rfftnM 1 c.N x]) 0 h = 0) :=
  convection_c_one_alias_free_of_cutoff c hD (by omega) (Kc_two_thirds c hp hq).1 hN scale x hx single h hh

theorem convection_one_alias_free (c : Cfg ℂ) (hD : c.D = 1) (hp : c.fp = 2) (hq : c.fq = 3)
    (hN : 0 < c.N) (scale : ℂ) (x : Array ℂ) (hx : IsRealField c.N x) (h : ℕ) (hh : h ≤ c.N / 2) :
    (mask c h = 1 →
      at2 (convection c 1 scale true true #[rfftnM 1 c.N x]) 0 h
        = -scale * (1 / 2) * deriv c 0 h *
            ((1 / (c.N : ℂ)) * ∑ m ∈ Finset.Icc (-(Kc c)) (Kc c),
              trunc (Kc c) (dft c.N x) m * trunc (Kc c) (dft c.N x) ((h : ℤ) - m)))
    ∧ (mask c h = 0 →
      at2 (convection c 1 scale true true #[rfftnM 1 c.N x]) 0 h = 0) :=
  convection_c_one_alias_free_of_cutoff c hD (by omega) (Kc_two_thirds c hp hq).1 hN scale x hx true h hh

theorem convection_one_alias_free' (c : Cfg ℂ) (hD : c.D = 1) (hp : c.fp = 2) (hq : c.fq = 3)
    (hN : 0 < c.N) (scale : ℂ) (x : Array ℂ) (hx : IsRealField c.N x) (h : ℕ) (hh : h ≤ c.N / 2) :
    at2 (convection c 1 scale true true #[rfftnM 1 c.N x]) 0 h
      = if (h : ℤ) ≤ Kc c then
          -scale * (1 / 2) * deriv c 0 h *
            ((1 / (c.N : ℂ)) * ∑ m ∈ Finset.Icc (-(Kc c)) (Kc c),
              trunc (Kc c) (dft c.N x) m * trunc (Kc c) (dft c.N x) ((h : ℤ) - m))
        else 0 :=
  convection_one_alias_free_of_cutoff' c hD (by omega) (Kc_two_thirds c hp hq).1 hN scale x hx h hh

theorem polynomial_quadratic_alias_free (c : Cfg ℂ) (hD : c.D = 1) (hp : c.fp = 2) (hq : c.fq = 3)
    (hN : 0 < c.N) (c0 c1 c2 : ℂ) (x : Array ℂ) (hx : IsRealField c.N x) (h : ℕ) (hh : h ≤ c.N / 2) :
    (mask c h = 1 →
      at2 (polynomial c 1 [c0, c1, c2] #[rfftnM 1 c.N x]) 0 h
        = c0 * (if h = 0 then (c.N : ℂ) else 0) + c1 * dft c.N x h
          + c2 * ((1 / (c.N : ℂ)) * ∑ m ∈ Finset.Icc (-(Kc c)) (Kc c),
              trunc (Kc c) (dft c.N x) m * trunc (Kc c) (dft c.N x) ((h : ℤ) - m)))
    ∧ (mask c h = 0 → at2 (polynomial c 1 [c0, c1, c2] #[rfftnM 1 c.N x]) 0 h = 0) :=
  polynomial_quadratic_alias_free_of_cutoff c hD (by omega) (Kc_two_thirds c hp hq).1 hN c0 c1 c2 x hx h hh

theorem dft_cube_nifft_rfft (c : Cfg ℂ) (hD : c.D = 1) (hp : c.fp = 1) (hq : c.fq = 2) (hN : 0 < c.N)
    (x : Array ℂ) (hx : IsRealField c.N x) (h : ℤ) (hh : |h| ≤ Kc c) :
    dft c.N (tab c.N fun j => (nifft c (rfftnM 1 c.N x)).getD j 0 * (nifft c (rfftnM 1 c.N x)).getD j 0
        * (nifft c (rfftnM 1 c.N x)).getD j 0) h
      = (1 / (c.N : ℂ) ^ 2) * ∑ a ∈ Finset.Icc (-(Kc c)) (Kc c), ∑ b ∈ Finset.Icc (-(Kc c)) (Kc c),
          trunc (Kc c) (dft c.N x) a * trunc (Kc c) (dft c.N x) b
            * trunc (Kc c) (dft c.N x) (h - a - b) := by
  have hK := Kc_half c hp hq
  have hX := boxSpec_nifft_rfftn c (hD ▸ Nat.one_pos) (by omega) hN (two_lt_of_four c.N (Kc c) hK) x
    ((isRealND_iff hD x).mpr hx)
  have := hX.dftV_mul3 hX hX hN hK (cst c.D h) fun _ => hh
  rw [linConv3_cst hD] at this
  simpa only [dftV_cst hD, hD, pow_one] using this

theorem polynomial_cubic_alias_free (c : Cfg ℂ) (hD : c.D = 1) (hp : c.fp = 1) (hq : c.fq = 2)
    (hN : 0 < c.N) (c3 : ℂ) (x : Array ℂ) (hx : IsRealField c.N x) (h : ℕ) (hh : h ≤ c.N / 2) :
    (mask c h = 1 →
      at2 (polynomial c 1 [0, 0, 0, c3] #[rfftnM 1 c.N x]) 0 h
        = c3 * ((1 / (c.N : ℂ) ^ 2) *
            ∑ a ∈ Finset.Icc (-(Kc c)) (Kc c), ∑ b ∈ Finset.Icc (-(Kc c)) (Kc c),
              trunc (Kc c) (dft c.N x) a * trunc (Kc c) (dft c.N x) b
                * trunc (Kc c) (dft c.N x) ((h : ℤ) - a - b)))
    ∧ (mask c h = 0 → at2 (polynomial c 1 [0, 0, 0, c3] #[rfftnM 1 c.N x]) 0 h = 0) :=
  polynomial_cubic_alias_free_of_cutoff c hD (by omega) (Kc_half c hp hq) hN c3 x hx h hh

end Exponax.Alias
