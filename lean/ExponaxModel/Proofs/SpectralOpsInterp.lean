import ExponaxModel.Proofs.SpectralOpsBasic
import ExponaxModel.Proofs.InterpNDSpec
/-
`map_between_resolutions`: the loop `for block in get_modes_slices(D, min(N_old, N_new)):
new = new.at[block].set(old[block])` of the source (regenerated as a `List.foldl` of the numpy-indexing primitive
`block_set` over the regenerated `get_modes_slices`) computes the closed form `Interp.srcIndex` of the hand-written
model: the LAST block that contains a target index wins, the blocks are the product of {left, right} per leading
axis with the first axis varying fastest, hence per axis the right slice is preferred.
-/
namespace Exponax.SpectralOpsEq
open Exponax Exponax.Layout Exponax.Transform Exponax.Nonlin Exponax.Gen.SpectralOps Exponax.NonlinFunsEq

abbrev Sl := Option ℤ × Option ℤ

/-- `modeSlices` with the reversal carried out: one more leading axis is consed in front -/
def blocksRec (l r last : Sl) : ℕ → List (List Sl)
  | 0 => [[last]]
  | n + 1 => (blocksRec l r last n).flatMap (fun b => [l :: b, r :: b])

theorem prod_map_reverse (l r last : Sl) (n : ℕ) :
    (modeSlices.prod l r n).map (fun p => (last :: p).reverse) = blocksRec l r last n := by
  induction n with
  | zero => rfl
  | succ n ih =>
    rw [modeSlices.prod, blocksRec, ← ih, List.map_flatMap, List.flatMap_map]
    apply List.flatMap_congr
    intro p _
    simp

/-- the source multi-index the sequential block writes leave at `idx` -/
def pick {α β : Type} (c : α → Bool) (s : α → β) (bs : List α) (acc : Option β) : Option β :=
  bs.foldl (fun a b => if c b then some (s b) else a) acc

theorem foldl_pick {α β : Type} (c : α → Bool) (s : α → β) (val : β → ℂ) (v0 : ℂ) (bs : List α) (acc : Option β) :
    bs.foldl (fun v b => if c b then val (s b) else v) (match acc with | some l => val l | none => v0)
      = match pick c s bs acc with
        | some l => val l
        | none => v0 := by
  unfold pick
  induction bs generalizing acc with
  | nil => rfl
  | cons b bs ih =>
    simp only [List.foldl_cons]
    by_cases hc : c b = true
    · simp only [hc, if_true]
      exact ih (some (s b))
    · simp only [hc, Bool.false_eq_true, if_false]
      exact ih acc

theorem pick_flatMap {β : Type} (c : List Sl → Bool) (s : List Sl → β) (l r : Sl) (bs : List (List Sl)) (acc : Option β) :
    pick c s (bs.flatMap (fun b => [l :: b, r :: b])) acc
      = bs.foldl (fun a b => if c (r :: b) then some (s (r :: b)) else if c (l :: b) then some (s (l :: b)) else a) acc := by
  induction bs generalizing acc with
  | nil => rfl
  | cons b bs ih =>
    simp only [List.flatMap_cons, pick, List.foldl_append, List.foldl_cons, List.foldl_nil] at ih ⊢
    rw [ih]

def inSl (s : Sl) (len i : ℕ) : Bool :=
  decide ((pySlice len s.1 s.2).1 ≤ i) && decide (i < (pySlice len s.1 s.2).2)

/-- the position in the source axis (length `lenO`) of position `i` of the target axis (length `lenN`): same offset
    within the selection -/
def srcSl (s : Sl) (lenN lenO i : ℕ) : ℕ := (pySlice lenO s.1 s.2).1 + (i - (pySlice lenN s.1 s.2).1)

/-- containment in a block and the source multi-index, exactly as `block_set` computes them -/
def inB (b : List Sl) (sN idx : List ℕ) : Bool :=
  inBlock ((List.zip b sN).map (fun (s, len) => pySlice len s.1 s.2)) idx

def srcB (b : List Sl) (sN sO idx : List ℕ) : List ℕ :=
  (List.range idx.length).map (fun a =>
    (((List.zip b sO).map (fun (s, len) => pySlice len s.1 s.2)).getD a (0, 0)).1 +
      (idx.getD a 0 - (((List.zip b sN).map (fun (s, len) => pySlice len s.1 s.2)).getD a (0, 0)).1))

theorem inB_cons (s : Sl) (b : List Sl) (n : ℕ) (sN : List ℕ) (i : ℕ) (idx : List ℕ) :
    inB (s :: b) (n :: sN) (i :: idx) = (inSl s n i && inB b sN idx) := by
  simp only [inB, inBlock, inSl, List.zip_cons_cons, List.map_cons, List.all_cons]

theorem srcB_cons (s : Sl) (b : List Sl) (n o : ℕ) (sN sO : List ℕ) (i : ℕ) (idx : List ℕ) :
    srcB (s :: b) (n :: sN) (o :: sO) (i :: idx) = srcSl s n o i :: srcB b sN sO idx := by
  simp only [srcB, List.length_cons, List.range_succ_eq_map, List.map_cons, List.map_map, Function.comp_def,
    List.zip_cons_cons, List.getD_cons_zero, List.getD_cons_succ, srcSl]

theorem inB_nil (idx : List ℕ) : inB [] [] idx = true := by simp [inB, inBlock]
theorem srcB_nil (sN sO : List ℕ) : srcB [] sN sO [] = [] := by simp [srcB]

def leadAxis (l r : Sl) (lenN lenO i : ℕ) : Option ℕ :=
  if inSl r lenN i then some (srcSl r lenN lenO i) else if inSl l lenN i then some (srcSl l lenN lenO i) else none

def lastAxis (last : Sl) (lenN lenO i : ℕ) : Option ℕ :=
  if inSl last lenN i then some (srcSl last lenN lenO i) else none

/-- per-axis closed form, leading axes first -/
def srcRec (l r last : Sl) (N O nl ol : ℕ) : ℕ → List ℕ → Option (List ℕ)
  | 0, idx => (lastAxis last nl ol (idx.headD 0)).map (fun j => [j])
  | n + 1, idx =>
    match srcRec l r last N O nl ol n idx.tail, leadAxis l r N O (idx.headD 0) with
    | some t, some j => some (j :: t)
    | _, _ => none

theorem fold_lead (c : List Sl → Bool) (s : List Sl → List ℕ) (cr cl : Bool) (jr jl : ℕ)
    (bs : List (List Sl)) (acc : Option (List ℕ)) :
    bs.foldl (fun a b => if (cr && c b) then some (jr :: s b) else if (cl && c b) then some (jl :: s b) else a)
        (match acc, (if cr then some jr else if cl then some jl else none) with
          | some t, some j => some (j :: t)
          | _, _ => none)
      = match bs.foldl (fun a b => if c b then some (s b) else a) acc,
            (if cr then some jr else if cl then some jl else none) with
        | some t, some j => some (j :: t)
        | _, _ => none := by
  induction bs generalizing acc with
  | nil => rfl
  | cons b bs ih =>
    simp only [List.foldl_cons]
    rw [← ih]
    congr 1
    cases c b
    · simp only [Bool.and_false, Bool.false_eq_true, if_false]
    · simp only [Bool.and_true, if_true]
      cases cr
      · cases cl
        · cases acc <;> rfl
        · rfl
      · rfl

theorem pick_blocksRec (l r last : Sl) (N O nl ol : ℕ) (n : ℕ) (sN sO : List ℕ)
    (hN : sN = List.replicate n N ++ [nl]) (hO : sO = List.replicate n O ++ [ol]) (idx : List ℕ)
    (hidx : idx.length = n + 1) :
    pick (fun b => inB b sN idx) (fun b => srcB b sN sO idx) (blocksRec l r last n) none
      = srcRec l r last N O nl ol n idx := by
  subst hN hO
  induction n generalizing idx with
  | zero =>
    match idx, hidx with
    | [i], _ =>
      simp [pick, blocksRec, srcRec, lastAxis, inB_cons, srcB_cons, inB_nil, srcB_nil]
  | succ n ih =>
    match idx, hidx with
    | i :: rest, hrest =>
      have hr : rest.length = n + 1 := by simpa using hrest
      rw [blocksRec, pick_flatMap]
      simp only [List.replicate_succ, List.cons_append, inB_cons, srcB_cons, srcRec, List.headD_cons, List.tail_cons]
      rw [← ih rest hr]
      unfold leadAxis pick
      exact fold_lead (fun b => inB b (List.replicate n N ++ [nl]) rest)
        (fun b => srcB b (List.replicate n N ++ [nl]) (List.replicate n O ++ [ol]) rest)
        (inSl r N i) (inSl l N i) (srcSl r N O i) (srcSl l N O i) (blocksRec l r last n) none

/-- the slices of `modeSlices D m` -/
def slLeft (m : ℕ) : Sl := if m % 2 = 0 then (none, some ((m / 2 : ℕ) : ℤ)) else (none, some (((m / 2 : ℕ) : ℤ) + 1))
def slRight (m : ℕ) : Sl := (some (-((m / 2 : ℕ) : ℤ)), none)
def slLast (m : ℕ) : Sl := (none, some (((m / 2 : ℕ) : ℤ) + 1))

theorem modeSlices_eq_blocksRec (D m : ℕ) :
    modeSlices D m = blocksRec (slLeft m) (slRight m) (slLast m) (D - 1) := by
  unfold modeSlices
  exact prod_map_reverse _ _ _ _

theorem pySlice_none_fst (len : ℕ) (t : Option ℤ) : (pySlice len none t).1 = 0 := by
  simp [pySlice]

theorem srcAxis_leadAxis (m lenNew lenOld i : ℕ) :
    Interp.srcAxis m lenNew lenOld false i = leadAxis (slLeft m) (slRight m) lenNew lenOld i := by
  unfold Interp.srcAxis leadAxis inSl srcSl slRight slLeft
  by_cases hm : m % 2 = 0 <;>
    simp only [hm, ↓reduceIte, Bool.false_eq_true, pySlice_none_fst, Nat.zero_le, decide_true, Bool.true_and,
      Bool.and_eq_true, decide_eq_true_eq, Nat.sub_zero, Nat.zero_add]

theorem srcAxis_lastAxis (m lenNew lenOld i : ℕ) :
    Interp.srcAxis m lenNew lenOld true i = lastAxis (slLast m) lenNew lenOld i := by
  unfold Interp.srcAxis lastAxis inSl srcSl slLast
  simp only [↓reduceIte, pySlice_none_fst, Nat.zero_le, decide_true, Bool.true_and, decide_eq_true_eq, Nat.sub_zero,
    Nat.zero_add]

/-- the `foldr` of `srcIndex` from axis `s` on -/
def srcFrom (D Nold Nnew : ℕ) (idx : List ℕ) (s len : ℕ) : Option (List ℕ) :=
  (List.range' s len).foldr (fun d acc =>
    match acc, Interp.srcAxis (min Nold Nnew) ((wavenumberShape D Nnew).getD d 0) ((wavenumberShape D Nold).getD d 0)
        (d + 1 == D) (idx.getD d 0) with
    | some l, some i => some (i :: l)
    | _, _ => none) (some [])

theorem srcFrom_eq (D Nold Nnew : ℕ) (idx : List ℕ) (len s : ℕ) (hs : s + (len + 1) = D) :
    srcFrom D Nold Nnew idx s (len + 1)
      = srcRec (slLeft (min Nold Nnew)) (slRight (min Nold Nnew)) (slLast (min Nold Nnew)) Nnew Nold (Nnew / 2 + 1)
          (Nold / 2 + 1) len (idx.drop s) := by
  have hh : ∀ s, (idx.drop s).headD 0 = idx.getD s 0 := fun s => by
    rw [List.headD_eq_head?_getD, List.head?_drop, List.getD_eq_getElem?_getD]
  induction len generalizing s with
  | zero =>
    have hsD : s + 1 = D := by omega
    have hb : (s + 1 == D) = true := by simp [hsD]
    have h1 : ∀ N, (wavenumberShape D N).getD s 0 = N / 2 + 1 := by
      intro N
      rw [wavenumberShape_getD D N s (by omega), if_pos hsD]
    simp only [srcFrom, List.range', List.foldr_cons, List.foldr_nil, hb, h1, srcAxis_lastAxis, srcRec]
    rw [hh]
    cases lastAxis (slLast (min Nold Nnew)) (Nnew / 2 + 1) (Nold / 2 + 1) (idx.getD s 0) <;> rfl
  | succ len ih =>
    have hsD : s + 1 ≠ D := by omega
    have hb : (s + 1 == D) = false := by simp [hsD]
    have h1 : ∀ N, (wavenumberShape D N).getD s 0 = N := by
      intro N
      rw [wavenumberShape_getD D N s (by omega), if_neg hsD]
    have hrec := ih (s + 1) (by omega)
    unfold srcFrom at hrec ⊢
    rw [List.range'_succ, List.foldr_cons, hrec]
    simp only [hb, h1, srcAxis_leadAxis, srcRec]
    have ht : (idx.drop s).tail = idx.drop (s + 1) := by simp [List.tail_drop]
    rw [hh, ht]

theorem srcIndex_eq_srcRec (D Nold Nnew : ℕ) (hD : 1 ≤ D) (idx : List ℕ) :
    Interp.srcIndex D Nold Nnew idx
      = srcRec (slLeft (min Nold Nnew)) (slRight (min Nold Nnew)) (slLast (min Nold Nnew)) Nnew Nold (Nnew / 2 + 1)
          (Nold / 2 + 1) (D - 1) idx := by
  have := srcFrom_eq D Nold Nnew idx (D - 1) 0 (by omega)
  rw [List.drop_zero] at this
  rw [← this]
  unfold Interp.srcIndex srcFrom
  have : D - 1 + 1 = D := by omega
  rw [this, List.range_eq_range']
  rfl

theorem at2_block_set (sN sO : List ℕ) (b : List Sl) (new old : MC ℂ) (ch h' : ℕ) (hch : ch < sN.headD 0)
    (hh : h' < shapeSize sN.tail) :
    at2 (block_set sN sO b new old) ch h' =
      if inB b sN (ch :: unflatten sN.tail h') then
        at2 old ((srcB b sN sO (ch :: unflatten sN.tail h')).headD 0)
          (flatten sO.tail (srcB b sN sO (ch :: unflatten sN.tail h')).tail)
      else at2 new ch h' := by
  unfold block_set
  rw [at2_tab2 _ _ _ _ _ hch hh]
  rfl

theorem at2_foldl_block_set (sN sO : List ℕ) (old : MC ℂ) (bs : List (List Sl)) (init : MC ℂ) (ch h' : ℕ)
    (hch : ch < sN.headD 0) (hh : h' < shapeSize sN.tail) :
    at2 (bs.foldl (fun acc b => block_set sN sO b acc old) init) ch h' =
      bs.foldl (fun v b => if inB b sN (ch :: unflatten sN.tail h') then
          at2 old ((srcB b sN sO (ch :: unflatten sN.tail h')).headD 0)
            (flatten sO.tail (srcB b sN sO (ch :: unflatten sN.tail h')).tail) else v) (at2 init ch h') := by
  induction bs generalizing init with
  | nil => rfl
  | cons b bs ih =>
    simp only [List.foldl_cons]
    rw [ih, at2_block_set sN sO b init old ch h' hch hh]

theorem inSl_all (C ch : ℕ) (hch : ch < C) : inSl ((none, none) : Sl) C ch = true := by
  simp [inSl, pySlice, hch]

theorem srcSl_all (C ch : ℕ) : srcSl ((none, none) : Sl) C C ch = ch := by
  simp [srcSl, pySlice]

/-- **the block copy of `map_between_resolutions`, entry by entry: the model's `srcIndex`** -/
theorem at2_block_copy (D Nold Nnew C : ℕ) (hD : 1 ≤ D) (old init : MC ℂ) (ch h' : ℕ) (hch : ch < C)
    (hh : h' < numModes D Nnew) :
    at2 ((Gen.SpectralLayout.get_modes_slices D (min Nold Nnew)).foldl (fun acc b =>
        block_set (C :: wavenumberShape D Nnew) (C :: wavenumberShape D Nold) b acc old) init) ch h'
      = match Interp.srcIndex D Nold Nnew (unflatten (wavenumberShape D Nnew) h') with
        | some idx => at2 old ch (flatten (wavenumberShape D Nold) idx)
        | none => at2 init ch h' := by
  rw [at2_foldl_block_set _ _ _ _ _ _ _ (by simpa using hch) (by simpa [numModes] using hh)]
  rw [get_modes_slices_eq, List.foldl_map]
  simp only [List.tail_cons, inB_cons, srcB_cons, inSl_all C ch hch, srcSl_all, Bool.true_and, List.headD_cons]
  have hlen : (unflatten (wavenumberShape D Nnew) h').length = D - 1 + 1 := by
    rw [unflatten_length, wavenumberShape_length D Nnew hD]; omega
  have hfp := foldl_pick (fun b => inB b (wavenumberShape D Nnew) (unflatten (wavenumberShape D Nnew) h'))
    (fun b => srcB b (wavenumberShape D Nnew) (wavenumberShape D Nold) (unflatten (wavenumberShape D Nnew) h'))
    (fun l => at2 old ch (flatten (wavenumberShape D Nold) l)) (at2 init ch h') (modeSlices D (min Nold Nnew)) none
  simp only at hfp
  rw [hfp, modeSlices_eq_blocksRec, srcIndex_eq_srcRec D Nold Nnew hD]
  have := pick_blocksRec (slLeft (min Nold Nnew)) (slRight (min Nold Nnew)) (slLast (min Nold Nnew)) Nnew Nold
    (Nnew / 2 + 1) (Nold / 2 + 1) (D - 1) (wavenumberShape D Nnew) (wavenumberShape D Nold) rfl rfl
    (unflatten (wavenumberShape D Nnew) h') hlen
  rw [this]
  cases srcRec (slLeft (min Nold Nnew)) (slRight (min Nold Nnew)) (slLast (min Nold Nnew)) Nnew Nold (Nnew / 2 + 1)
    (Nold / 2 + 1) (D - 1) (unflatten (wavenumberShape D Nnew) h') <;> rfl

end Exponax.SpectralOpsEq
