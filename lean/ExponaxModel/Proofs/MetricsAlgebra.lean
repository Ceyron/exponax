import Mathlib.Analysis.SpecialFunctions.Pow.Real
import Mathlib.Analysis.SpecialFunctions.Sqrt
import Mathlib.Tactic
import ExponaxModel.Proofs.RealInstances
import ExponaxModel.Proofs.LayoutLemmas
import ExponaxModel.Proofs.DFTnD
import ExponaxModel.Model.Metrics
/-
"Error metrics are consistent quadratures of the documented norms": theorems about
`Metrics.spatialAggregator`, `Metrics.fourierAggregator`, `Metrics.combine`,
`Metrics.correlationChannel` interpreted at `R := ℝ`.
-/
namespace Exponax.Metrics
open Exponax Exponax.Layout Exponax.Transform Finset

theorem lit_two_real : (lit 2 : ℝ) = 2 := by simp
theorem qlit_half_real : (qlit 1 2 : ℝ) = 1 / 2 := by simp

/-- the inner sum `Σ_j |u_j|^p` of the spatial aggregator -/
noncomputable def absPowSum (p : ℝ) (u : Array ℝ) : ℝ := (u.toList.map (fun x => |x| ^ p)).sum

theorem absPowSum_eq_sum_range (p : ℝ) (u : Array ℝ) :
    absPowSum p u = ∑ j ∈ range u.size, |u.getD j 0| ^ p :=
  array_map_sum_eq_sum_range u 0 (fun x => |x| ^ p)

theorem absPowSum_nonneg (p : ℝ) (u : Array ℝ) : 0 ≤ absPowSum p u := by
  rw [absPowSum_eq_sum_range]
  exact Finset.sum_nonneg (fun j _ => Real.rpow_nonneg (abs_nonneg _) _)

theorem spatialAggregator_eq (D N : ℕ) (L p q : ℝ) (u : Array ℝ) :
    spatialAggregator D N L p q u
      = ((L / (N : ℝ)) ^ D * (u.toList.map (fun x => |x| ^ p)).sum) ^ q := by
  unfold spatialAggregator
  rw [sumList_eq]
  simp only [hasRpow_real, hasAbs_real, npow_eq, lit_eq]

theorem spatialAggregator_eq_sum (D N : ℕ) (L p q : ℝ) (u : Array ℝ) :
    spatialAggregator D N L p q u
      = ((L / (N : ℝ)) ^ D * ∑ j ∈ range u.size, |u.getD j 0| ^ p) ^ q := by
  rw [spatialAggregator_eq, ← absPowSum_eq_sum_range, absPowSum]

theorem spatialAggregator_eq_absPowSum (D N : ℕ) (L p q : ℝ) (u : Array ℝ) :
    spatialAggregator D N L p q u = ((L / (N : ℝ)) ^ D * absPowSum p u) ^ q :=
  spatialAggregator_eq D N L p q u

theorem cell_nonneg (D N : ℕ) (L : ℝ) (hL : 0 ≤ L) : 0 ≤ (L / (N : ℝ)) ^ D :=
  pow_nonneg (div_nonneg hL (Nat.cast_nonneg N)) D

theorem cell_pos (D N : ℕ) (L : ℝ) (hL : 0 < L) (hN : 0 < N) : 0 < (L / (N : ℝ)) ^ D :=
  pow_pos (div_pos hL (Nat.cast_pos.mpr hN)) D

theorem spatialAggregator_nonneg (D N : ℕ) (L p q : ℝ) (hL : 0 ≤ L) (u : Array ℝ) :
    0 ≤ spatialAggregator D N L p q u := by
  rw [spatialAggregator_eq_absPowSum]
  exact Real.rpow_nonneg (mul_nonneg (cell_nonneg D N L hL) (absPowSum_nonneg p u)) q

theorem spatialAggregator_scale_L (D N : ℕ) (a L p q : ℝ) (ha : 0 < a) (hL : 0 ≤ L) (u : Array ℝ) :
    spatialAggregator D N (a * L) p q u = (a ^ D) ^ q * spatialAggregator D N L p q u := by
  rw [spatialAggregator_eq_absPowSum, spatialAggregator_eq_absPowSum, mul_div_assoc, mul_pow, mul_assoc,
    Real.mul_rpow (pow_nonneg ha.le D) (mul_nonneg (cell_nonneg D N L hL) (absPowSum_nonneg p u))]

/-- `q = 1` (the `MAE`/`MSE` aggregates): factor `a^D` -/
theorem spatialAggregator_scale_L_one (D N : ℕ) (a L p : ℝ) (ha : 0 < a) (hL : 0 ≤ L) (u : Array ℝ) :
    spatialAggregator D N (a * L) p 1 u = a ^ D * spatialAggregator D N L p 1 u := by
  rw [spatialAggregator_scale_L D N a L p 1 ha hL, Real.rpow_one]

/-- `q = 1/2` (norms): factor `a^(D/2)` -/
theorem spatialAggregator_scale_L_half (D N : ℕ) (a L p : ℝ) (ha : 0 < a) (hL : 0 ≤ L) (u : Array ℝ) :
    spatialAggregator D N (a * L) p (1 / 2) u
      = a ^ ((D : ℝ) / 2) * spatialAggregator D N L p (1 / 2) u := by
  rw [spatialAggregator_scale_L D N a L p (1 / 2) ha hL, ← Real.rpow_natCast, ← Real.rpow_mul ha.le]
  congr 2
  ring

theorem absPowSum_eq_zero_iff (p : ℝ) (hp : 0 < p) (u : Array ℝ) :
    absPowSum p u = 0 ↔ ∀ x ∈ u.toList, x = 0 := by
  unfold absPowSum
  induction u.toList with
  | nil => simp
  | cons a l ih =>
    rw [List.map_cons, List.sum_cons]
    have h1 : 0 ≤ |a| ^ p := Real.rpow_nonneg (abs_nonneg _) _
    have h2 : 0 ≤ (l.map (fun x => |x| ^ p)).sum :=
      List.sum_nonneg (by
        intro y hy
        obtain ⟨x, _, rfl⟩ := List.mem_map.1 hy
        exact Real.rpow_nonneg (abs_nonneg _) _)
    rw [add_eq_zero_iff_of_nonneg h1 h2, ih, Real.rpow_eq_zero (abs_nonneg _) hp.ne', abs_eq_zero]
    simp

theorem spatialAggregator_eq_zero_iff (D N : ℕ) (L p q : ℝ) (hp : 0 < p) (hq : 0 < q) (hL : 0 < L)
    (hN : 0 < N) (u : Array ℝ) :
    spatialAggregator D N L p q u = 0 ↔ ∀ x ∈ u.toList, x = 0 := by
  rw [spatialAggregator_eq_absPowSum,
    Real.rpow_eq_zero (mul_nonneg (cell_pos D N L hL hN).le (absPowSum_nonneg p u)) hq.ne',
    mul_eq_zero, absPowSum_eq_zero_iff p hp]
  have := (cell_pos D N L hL hN).ne'
  tauto

theorem spatialAggregator_pos (D N : ℕ) (L p q : ℝ) (hp : 0 < p) (hq : 0 < q) (hL : 0 < L)
    (hN : 0 < N) (u : Array ℝ) (hu : ∃ x ∈ u.toList, x ≠ 0) :
    0 < spatialAggregator D N L p q u := by
  rcases (spatialAggregator_nonneg D N L p q hL.le u).lt_or_eq with h | h
  · exact h
  · exfalso
    obtain ⟨x, hx, hne⟩ := hu
    exact hne ((spatialAggregator_eq_zero_iff D N L p q hp hq hL hN u).1 h.symm x hx)

theorem absPowSum_smul (a p : ℝ) (u : Array ℝ) :
    absPowSum p (u.map (fun x => a * x)) = |a| ^ p * absPowSum p u := by
  unfold absPowSum
  rw [Array.toList_map, List.map_map, ← List.sum_map_mul_left]
  congr 1
  apply List.map_congr_left
  intro x _
  simp only [Function.comp, abs_mul]
  exact Real.mul_rpow (abs_nonneg _) (abs_nonneg _)

theorem spatialAggregator_smul (D N : ℕ) (L p q a : ℝ) (hL : 0 ≤ L) (u : Array ℝ) :
    spatialAggregator D N L p q (u.map (fun x => a * x)) = |a| ^ (p * q) * spatialAggregator D N L p q u := by
  rw [spatialAggregator_eq_absPowSum, spatialAggregator_eq_absPowSum, absPowSum_smul, mul_left_comm,
    Real.mul_rpow (Real.rpow_nonneg (abs_nonneg _) _)
      (mul_nonneg (cell_nonneg D N L hL) (absPowSum_nonneg p u)),
    Real.rpow_mul (abs_nonneg _)]

/-- `(p, q) = (1, 1)` (mean absolute): degree 1 -/
theorem spatialAggregator_smul_one_one (D N : ℕ) (L a : ℝ) (hL : 0 ≤ L) (u : Array ℝ) :
    spatialAggregator D N L 1 1 (u.map (fun x => a * x)) = |a| * spatialAggregator D N L 1 1 u := by
  rw [spatialAggregator_smul D N L 1 1 a hL]; norm_num

/-- `(p, q) = (2, 1/2)` (`L²` norm): degree 1 -/
theorem spatialAggregator_smul_two_half (D N : ℕ) (L a : ℝ) (hL : 0 ≤ L) (u : Array ℝ) :
    spatialAggregator D N L 2 (1 / 2) (u.map (fun x => a * x))
      = |a| * spatialAggregator D N L 2 (1 / 2) u := by
  rw [spatialAggregator_smul D N L 2 (1 / 2) a hL]; norm_num

/-- `(p, q) = (2, 1)` (mean square): degree 2 -/
theorem spatialAggregator_smul_two_one (D N : ℕ) (L a : ℝ) (hL : 0 ≤ L) (u : Array ℝ) :
    spatialAggregator D N L 2 1 (u.map (fun x => a * x)) = a ^ 2 * spatialAggregator D N L 2 1 u := by
  rw [spatialAggregator_smul D N L 2 1 a hL]
  norm_num

theorem spatialAggregator_sub_comm (D N : ℕ) (L p q : ℝ) (u r : Array ℝ) :
    spatialAggregator D N L p q (Array.zipWith (fun x y => x - y) u r)
      = spatialAggregator D N L p q (Array.zipWith (fun x y => x - y) r u) := by
  rw [spatialAggregator_eq, spatialAggregator_eq]
  congr 3
  rw [Array.toList_zipWith, Array.toList_zipWith, List.map_zipWith, List.map_zipWith,
    List.zipWith_comm]
  congr 1
  funext x y
  rw [abs_sub_comm]

theorem spatialAggregator_sub_comm_tab (D N n : ℕ) (L p q : ℝ) (u r : Array ℝ) :
    spatialAggregator D N L p q (tab n (fun j => u.getD j 0 - r.getD j 0))
      = spatialAggregator D N L p q (tab n (fun j => r.getD j 0 - u.getD j 0)) := by
  rw [spatialAggregator_eq, spatialAggregator_eq]
  congr 3
  simp only [tab, Array.toList_map, List.map_map]
  apply List.map_congr_left
  intro j _
  simp only [Function.comp, abs_sub_comm]

theorem combine_eq_sum (mode : ℕ) (dn rn sn : List ℝ) :
    combine mode dn rn sn = ∑ c ∈ range dn.length,
      (if mode = 1 then dn.getD c 0 / rn.getD c 0
       else if mode = 2 then 2 * dn.getD c 0 / (sn.getD c 0 + rn.getD c 0)
       else dn.getD c 0) := by
  unfold combine
  rw [sumList_eq, DFT.list_range_map_sum]
  rfl

/-- absolute mode = channel additivity -/
theorem combine_zero (dn rn sn : List ℝ) : combine 0 dn rn sn = dn.sum := by
  rw [combine_eq_sum, list_sum_eq_sum_range dn 0]
  exact Finset.sum_congr rfl fun c _ => by rw [if_neg (by decide), if_neg (by decide)]

/-- normalized mode `Σ_c dn_c / rn_c` -/
theorem combine_one (dn rn sn : List ℝ) :
    combine 1 dn rn sn = ∑ c ∈ range dn.length, dn.getD c 0 / rn.getD c 0 := by
  rw [combine_eq_sum]
  exact Finset.sum_congr rfl fun c _ => if_pos rfl

/-- symmetric mode `Σ_c 2 dn_c / (sn_c + rn_c)` -/
theorem combine_two (dn rn sn : List ℝ) :
    combine 2 dn rn sn = ∑ c ∈ range dn.length, 2 * dn.getD c 0 / (sn.getD c 0 + rn.getD c 0) := by
  rw [combine_eq_sum]
  exact Finset.sum_congr rfl fun c _ => by rw [if_neg (by decide), if_pos rfl]

theorem getD_map_mul (t : ℝ) (l : List ℝ) (c : ℕ) :
    (l.map (fun x => t * x)).getD c 0 = t * l.getD c 0 := by
  simp only [List.getD_eq_getElem?_getD, List.getElem?_map]
  cases l[c]? <;> simp

theorem combine_one_scale_free (t : ℝ) (ht : t ≠ 0) (dn rn sn : List ℝ) :
    combine 1 (dn.map (fun x => t * x)) (rn.map (fun x => t * x)) (sn.map (fun x => t * x))
      = combine 1 dn rn sn := by
  rw [combine_one, combine_one, List.length_map]
  apply Finset.sum_congr rfl
  intro c _
  rw [getD_map_mul, getD_map_mul, mul_div_mul_left _ _ ht]

theorem combine_two_scale_free (t : ℝ) (ht : t ≠ 0) (dn rn sn : List ℝ) :
    combine 2 (dn.map (fun x => t * x)) (rn.map (fun x => t * x)) (sn.map (fun x => t * x))
      = combine 2 dn rn sn := by
  rw [combine_two, combine_two, List.length_map]
  apply Finset.sum_congr rfl
  intro c _
  rw [getD_map_mul, getD_map_mul, getD_map_mul, ← mul_add, mul_left_comm, mul_div_mul_left _ _ ht]

theorem combine_two_symm (dn rn sn : List ℝ) : combine 2 dn rn sn = combine 2 dn sn rn := by
  rw [combine_two, combine_two]
  apply Finset.sum_congr rfl
  intro c _
  rw [add_comm]

/-- the floored, band-masked magnitude of stored mode `h` (the array `kept` of `fourierAggregator`) -/
noncomputable def keptVal (D N : ℕ) (band : Option (ℕ × ℕ)) (floor : ℝ) (mag : Array ℝ) (h : ℕ) : ℝ :=
  match band with
  | none => if mag.getD h 0 < floor then 0 else mag.getD h 0
  | some (lo, hi) =>
    if bandMask (wnFlat D N h) lo hi = true then (if mag.getD h 0 < floor then 0 else mag.getD h 0) else 0

theorem keptVal_some (D N lo hi : ℕ) (floor : ℝ) (mag : Array ℝ) (h : ℕ) :
    keptVal D N (some (lo, hi)) floor mag h
      = if bandMask (wnFlat D N h) lo hi = true then keptVal D N none floor mag h else 0 := rfl

/-- the reconstruction-scaling weight of stored mode `h` -/
noncomputable def reconScale (D N h : ℕ) : ℝ := scaling D N 1 (unflatten (wavenumberShape D N) h)

/-- the derivative factor `(s·|k_d|)^m` of `fourierAggregator` (0 at `k_d = 0`) -/
noncomputable def derivFactor (D N : ℕ) (s m : ℝ) (d h : ℕ) : ℝ :=
  if (wnFlat D N h).getD d 0 = 0 then 0 else |s * (((wnFlat D N h).getD d 0 : ℤ) : ℝ)| ^ m

theorem fourierAggregator_none (D N : ℕ) (L s p q : ℝ) (band : Option (ℕ × ℕ)) (floor : ℝ)
    (mag : Array ℝ) :
    fourierAggregator D N L s p q band none floor mag
      = ((L / (N : ℝ)) ^ D * ∑ h ∈ range (numModes D N),
          keptVal D N band floor mag h ^ p / reconScale D N h) ^ q := by
  simp only [fourierAggregator]
  rw [hasRpow_real, npow_eq, lit_eq, DFT.sumRange_eq]
  refine congrArg (fun x => (_ * x) ^ q) (Finset.sum_congr rfl fun h hh => ?_)
  rw [DFT.tab_getD _ _ _ _ (Finset.mem_range.mp hh)]
  unfold keptVal reconScale
  rcases band with _ | ⟨lo, hi⟩ <;> simp only [hasRpow_real, hasLtB_real, decide_eq_true_eq]

theorem fourierAggregator_some (D N : ℕ) (L s p q : ℝ) (band : Option (ℕ × ℕ)) (m floor : ℝ)
    (mag : Array ℝ) :
    fourierAggregator D N L s p q band (some m) floor mag
      = ∑ d ∈ range D, ((L / (N : ℝ)) ^ D * ∑ h ∈ range (numModes D N),
          (keptVal D N band floor mag h * derivFactor D N s m d h) ^ p / reconScale D N h) ^ q := by
  simp only [fourierAggregator]
  rw [sumList_eq, DFT.list_range_map_sum]
  refine Finset.sum_congr rfl fun d _ => ?_
  rw [hasRpow_real, npow_eq, lit_eq, DFT.sumRange_eq]
  refine congrArg (fun x => (_ * x) ^ q) (Finset.sum_congr rfl fun h hh => ?_)
  rw [DFT.tab_getD _ _ _ _ (Finset.mem_range.mp hh)]
  unfold keptVal reconScale derivFactor
  rcases band with _ | ⟨lo, hi⟩ <;>
    simp only [hasRpow_real, hasLtB_real, hasAbs_real, decide_eq_true_eq, beq_iff_eq]

theorem unflatten_last_lt (D N h : ℕ) (hD : 1 ≤ D) (hN : 0 < N) (hh : h < numModes D N) :
    (unflatten (wavenumberShape D N) h).getD (D - 1) 0 < N / 2 + 1 := by
  have := unflatten_getD_lt (wavenumberShape D N) (wavenumberShape_pos D N hN) h hh (D - 1)
    (by rw [wavenumberShape_length D N hD]; omega)
  rw [wavenumberShape_getD D N (D - 1) (by omega), if_pos (by omega)] at this
  exact this

theorem reconScale_eq (D N h : ℕ) (hD : 1 ≤ D) :
    reconScale D N h = if isSpecial N true (wn D N (unflatten (wavenumberShape D N) h) (D - 1)) = true
      then (N : ℝ) ^ D else (N : ℝ) ^ D / 2 :=
  scaling_mode_one D N hD _

theorem one_div_reconScale (D N h : ℕ) (hD : 1 ≤ D) (hN : 0 < N) (hh : h < numModes D N) :
    1 / reconScale D N h = (herm_weight D N h : ℝ) / (N : ℝ) ^ D := by
  rw [reconScale_eq D N h hD]
  have hsp := isSpecial_wn D N (unflatten (wavenumberShape D N) h) (D - 1)
    (by rw [if_pos (by omega)]; exact unflatten_last_lt D N h hD hN hh)
  rw [show (D - 1 + 1 == D) = true by simp; omega] at hsp
  unfold herm_weight
  by_cases hc : (unflatten (wavenumberShape D N) h).getD (D - 1) 0 = 0 ∨
      (N % 2 = 0 ∧ (unflatten (wavenumberShape D N) h).getD (D - 1) 0 = N / 2)
  · rw [if_pos (hsp.2 hc)]
    simp only [hc, if_true, Nat.cast_one]
  · rw [if_neg (fun h' => hc (hsp.1 h'))]
    simp only [hc, if_false, Nat.cast_ofNat, one_div_div]

theorem reconScale_pos (D N h : ℕ) (hD : 1 ≤ D) (hN : 0 < N) : 0 < reconScale D N h := by
  rw [reconScale_eq D N h hD]
  have hN' : (0 : ℝ) < N := Nat.cast_pos.mpr hN
  have : (0 : ℝ) < (N : ℝ) ^ D := pow_pos hN' D
  split_ifs
  · exact this
  · exact half_pos this

noncomputable def toComplex (ur : Array ℝ) : Array ℂ := ur.map (fun x : ℝ => (x : ℂ))

theorem toComplex_getD (ur : Array ℝ) (j : ℕ) : (toComplex ur).getD j 0 = ((ur.getD j 0 : ℝ) : ℂ) := by
  unfold toComplex
  simp only [Array.getD_eq_getD_getElem?, Array.getElem?_map]
  cases ur[j]? <;> simp

/-- for a complex array with real entries:
    `Σ_j ‖u_j‖² = Σ_h ‖û_h‖² / scaling D N 1 idx_h` — the `1/reconstruction-scaling` weights of
    `fourierAggregator` are exactly the Parseval weights `herm_weight / N^D` -/
theorem parseval_scaling (D N : ℕ) (hD : 1 ≤ D) (hN : 0 < N) (u : Array ℂ)
    (hu : ∀ j < N ^ D, (u.getD j 0).im = 0) :
    ∑ j ∈ range (N ^ D), ‖u.getD j 0‖ ^ 2
      = ∑ h ∈ range (numModes D N),
          ‖(rfftnM D N u).getD h 0‖ ^ 2 / (scaling D N 1 (unflatten (wavenumberShape D N) h) : ℝ) := by
  rw [DFT.parseval_nd D N hD hN u hu, Finset.mul_sum]
  apply Finset.sum_congr rfl
  intro h hh
  have := one_div_reconScale D N h hD hN (Finset.mem_range.mp hh)
  unfold reconScale at this
  rw [div_eq_mul_one_div _ (scaling D N 1 (unflatten (wavenumberShape D N) h) : ℝ), this]
  push_cast
  ring

theorem parseval_reconScale (D N : ℕ) (hD : 1 ≤ D) (hN : 0 < N) (ur : Array ℝ) :
    ∑ j ∈ range (N ^ D), |ur.getD j 0| ^ 2
      = ∑ h ∈ range (numModes D N),
          ‖(rfftnM D N (toComplex ur)).getD h 0‖ ^ 2 / reconScale D N h := by
  have h := parseval_scaling D N hD hN (toComplex ur) (fun j _ => by rw [toComplex_getD]; exact Complex.ofReal_im _)
  simp only [toComplex_getD, Complex.norm_real, Real.norm_eq_abs] at h
  exact h

/-- with inner exponent 2, no band, no derivative, no floor, the Fourier aggregate of the
    magnitudes `|û_h|` of a real field equals the spatial aggregate of the field -/
theorem fourierAggregator_eq_spatialAggregator (D N : ℕ) (hD : 1 ≤ D) (hN : 0 < N) (L s q : ℝ)
    (ur : Array ℝ) (hsz : ur.size = N ^ D) (mag : Array ℝ)
    (hmag : ∀ h < numModes D N, mag.getD h 0 = ‖(rfftnM D N (toComplex ur)).getD h 0‖) :
    fourierAggregator D N L s 2 q none none 0 mag = spatialAggregator D N L 2 q ur := by
  rw [fourierAggregator_none, spatialAggregator_eq_sum, hsz]
  congr 2
  have h1 : ∀ j ∈ range (N ^ D), |ur.getD j 0| ^ (2 : ℝ) = |ur.getD j 0| ^ 2 :=
    fun j _ => Real.rpow_two _
  rw [Finset.sum_congr rfl h1, parseval_reconScale D N hD hN]
  apply Finset.sum_congr rfl
  intro h hh
  have hh' := Finset.mem_range.mp hh
  unfold keptVal
  simp only [hmag h hh', not_lt.mpr (norm_nonneg _), if_false, Real.rpow_two]


noncomputable def magnitudes (D N : ℕ) (ur : Array ℝ) : Array ℝ :=
  tab (numModes D N) (fun h => ‖(rfftnM D N (toComplex ur)).getD h 0‖)

/-- `bandMask k lo hi ↔ lo ≤ max_d |k_d| ≤ hi` -/
theorem bandMask_iff (k : List ℤ) (lo hi : ℕ) :
    bandMask k lo hi = true ↔ (∃ kd ∈ k, (lo : ℤ) ≤ |kd|) ∧ ∀ kd ∈ k, |kd| ≤ (hi : ℤ) := by
  unfold bandMask
  rw [Bool.and_eq_true, Bool.not_eq_true', ← Bool.not_eq_true, lowPassSep_iff, lowPassSep_iff]
  simp only [mul_one, not_forall, not_le]
  constructor
  · rintro ⟨⟨kd, hk, h1⟩, h2⟩
    exact ⟨⟨kd, hk, by omega⟩, h2⟩
  · rintro ⟨⟨kd, hk, h1⟩, h2⟩
    exact ⟨⟨kd, hk, by omega⟩, h2⟩

theorem lowPassSep_mono (k : List ℤ) (p p' : ℤ) (h : p ≤ p') (hp : lowPassSep k p 1 = true) :
    lowPassSep k p' 1 = true := by
  rw [lowPassSep_iff] at hp ⊢
  intro kd hkd
  have := hp kd hkd
  omega

/-- for `a ≤ b ≤ c` the bands `[a, b]` and `[b+1, c]` are disjoint and their union is `[a, c]` -/
theorem bandMask_split (k : List ℤ) (a b c : ℕ) (hab : a ≤ b) (hbc : b ≤ c) :
    bandMask k a c = (bandMask k a b || bandMask k (b + 1) c)
      ∧ (bandMask k a b && bandMask k (b + 1) c) = false := by
  -- the three low-pass masks are nested: `X ≤ Y ≤ Z`
  have hbool : ∀ X Y Z : Bool, (X = true → Y = true) → (Y = true → Z = true) →
      (!X && Z) = ((!X && Y) || (!Y && Z)) ∧ ((!X && Y) && (!Y && Z)) = false := by decide
  unfold bandMask
  rw [show (((b + 1 : ℕ) : ℤ) - 1) = (b : ℤ) by push_cast; ring]
  exact hbool _ _ _ (lowPassSep_mono k ((a : ℤ) - 1) (b : ℤ) (by omega))
    (lowPassSep_mono k (b : ℤ) (c : ℤ) (by omega))

theorem keptVal_split (D N : ℕ) (a b c : ℕ) (hab : a ≤ b) (hbc : b ≤ c) (floor : ℝ) (mag : Array ℝ)
    (h : ℕ) (g : ℝ → ℝ) (hg : g 0 = 0) :
    g (keptVal D N (some (a, c)) floor mag h)
      = g (keptVal D N (some (a, b)) floor mag h) + g (keptVal D N (some (b + 1, c)) floor mag h) := by
  obtain ⟨h1, h2⟩ := bandMask_split (wnFlat D N h) a b c hab hbc
  rw [keptVal_some, keptVal_some, keptVal_some, h1]
  cases hab' : bandMask (wnFlat D N h) a b <;> cases hbc' : bandMask (wnFlat D N h) (b + 1) c
  case true.true => rw [hab', hbc'] at h2; exact absurd h2 (by decide)
  all_goals simp only [Bool.or_false, Bool.or_true, Bool.false_eq_true, if_true, if_false, hg, add_zero, zero_add]

theorem fourierAggregator_band_add_deriv (D N : ℕ) (L s p m : ℝ) (hp : p ≠ 0) (a b c : ℕ) (hab : a ≤ b)
    (hbc : b ≤ c) (floor : ℝ) (mag : Array ℝ) :
    fourierAggregator D N L s p 1 (some (a, c)) (some m) floor mag
      = fourierAggregator D N L s p 1 (some (a, b)) (some m) floor mag
        + fourierAggregator D N L s p 1 (some (b + 1, c)) (some m) floor mag := by
  simp only [fourierAggregator_some, Real.rpow_one]
  rw [← Finset.sum_add_distrib]
  apply Finset.sum_congr rfl
  intro d _
  rw [← mul_add, ← Finset.sum_add_distrib]
  congr 1
  apply Finset.sum_congr rfl
  intro h _
  rw [keptVal_split D N a b c hab hbc floor mag h (fun x => (x * derivFactor D N s m d h) ^ p)
    (by simp [Real.zero_rpow hp]), add_div]

theorem bandMask_full (D N h hi : ℕ) (hD : 1 ≤ D) (hN : 0 < N) (hh : h < numModes D N)
    (hhi : N / 2 ≤ hi) : bandMask (wnFlat D N h) 0 hi = true := by
  rw [bandMask_iff]
  constructor
  · have hlen : (wnFlat D N h).length = D := wnFlat_length D N _
    have hne : wnFlat D N h ≠ [] := by
      intro h0
      rw [h0] at hlen
      simp at hlen
      omega
    obtain ⟨kd, hkd⟩ := List.exists_mem_of_ne_nil _ hne
    exact ⟨kd, hkd, by simp⟩
  · intro kd hkd
    have := mem_wnFlat_abs_le D N h hD hN hh kd hkd
    omega

theorem map_mul_getD (a : ℝ) (u : Array ℝ) (j : ℕ) :
    (u.map (fun x => a * x)).getD j 0 = a * u.getD j 0 := by
  simp only [Array.getD_eq_getD_getElem?, Array.getElem?_map]
  cases u[j]? <;> simp

theorem correlationChannel_eq (D N : ℕ) (L : ℝ) (u v : Array ℝ) (hu : u.size = N ^ D)
    (hv : v.size = N ^ D) :
    correlationChannel D N L u v
      = ((L / (N : ℝ)) ^ D * ∑ j ∈ range (N ^ D), u.getD j 0 * v.getD j 0)
        / (Real.sqrt ((L / (N : ℝ)) ^ D * ∑ j ∈ range (N ^ D), u.getD j 0 ^ 2)
            * Real.sqrt ((L / (N : ℝ)) ^ D * ∑ j ∈ range (N ^ D), v.getD j 0 ^ 2)) := by
  unfold correlationChannel
  simp only [spatialAggregator_eq_sum, hu, hv, DFT.sumRange_eq, npow_eq, lit_eq, qlit_eq,
    Nat.cast_ofNat, Nat.cast_one, Real.rpow_two, sq_abs, Real.sqrt_eq_rpow]

/-- Cauchy–Schwarz, `|correlation| ≤ 1` -/
theorem abs_correlationChannel_le_one (D N : ℕ) (L : ℝ) (hL : 0 ≤ L) (u v : Array ℝ)
    (hu : u.size = N ^ D) (hv : v.size = N ^ D) : |correlationChannel D N L u v| ≤ 1 := by
  have key : ∀ c A B I : ℝ, 0 ≤ c → 0 ≤ A → I ^ 2 ≤ A * B →
      |c * I / (Real.sqrt (c * A) * Real.sqrt (c * B))| ≤ 1 := by
    intro c A B I hc hA hCS
    have hden : 0 ≤ Real.sqrt (c * A) * Real.sqrt (c * B) := mul_nonneg (Real.sqrt_nonneg _) (Real.sqrt_nonneg _)
    rw [abs_div, abs_of_nonneg hden]
    refine div_le_one_of_le₀ ?_ hden
    rw [← Real.sqrt_mul (mul_nonneg hc hA)]
    refine Real.abs_le_sqrt ?_
    calc (c * I) ^ 2 = c * c * I ^ 2 := by ring
      _ ≤ c * c * (A * B) := mul_le_mul_of_nonneg_left hCS (mul_nonneg hc hc)
      _ = c * A * (c * B) := by ring
  rw [correlationChannel_eq D N L u v hu hv]
  exact key _ _ _ _ (cell_nonneg D N L hL) (Finset.sum_nonneg fun _ _ => sq_nonneg _)
    (Finset.sum_mul_sq_le_sq_mul_sq _ _ _)

theorem correlationChannel_mem_Icc (D N : ℕ) (L : ℝ) (hL : 0 ≤ L) (u v : Array ℝ)
    (hu : u.size = N ^ D) (hv : v.size = N ^ D) :
    -1 ≤ correlationChannel D N L u v ∧ correlationChannel D N L u v ≤ 1 :=
  abs_le.mp (abs_correlationChannel_le_one D N L hL u v hu hv)

theorem correlationChannel_smul (D N : ℕ) (L a : ℝ) (hL : 0 < L) (hN : 0 < N) (_ : a ≠ 0)
    (u : Array ℝ) (hu : u.size = N ^ D) (hu0 : ∃ x ∈ u.toList, x ≠ 0) :
    correlationChannel D N L u (u.map (fun x => a * x)) = a / |a| := by
  have key : ∀ c A : ℝ, 0 < c * A →
      a * (c * A) / (Real.sqrt (c * A) * Real.sqrt (c * (a ^ 2 * A))) = a / |a| := by
    intro c A hcA
    rw [show c * (a ^ 2 * A) = a ^ 2 * (c * A) by ring, Real.sqrt_mul (sq_nonneg a), Real.sqrt_sq_eq_abs,
      show Real.sqrt (c * A) * (|a| * Real.sqrt (c * A)) = |a| * (Real.sqrt (c * A) * Real.sqrt (c * A)) by ring,
      Real.mul_self_sqrt hcA.le, mul_div_mul_right _ _ hcA.ne']
  have hA : 0 < ∑ j ∈ range (N ^ D), u.getD j 0 ^ 2 := by
    have h1 : ∑ j ∈ range (N ^ D), u.getD j 0 ^ 2 = absPowSum 2 u := by
      rw [absPowSum_eq_sum_range, hu]
      exact Finset.sum_congr rfl (fun j _ => by rw [Real.rpow_two, sq_abs])
    rw [h1]
    refine (absPowSum_nonneg 2 u).lt_of_ne' fun h => ?_
    obtain ⟨x, hx, hne⟩ := hu0
    exact hne ((absPowSum_eq_zero_iff 2 (by norm_num) u).1 h x hx)
  rw [correlationChannel_eq D N L u _ hu (by rw [Array.size_map]; exact hu)]
  simp only [map_mul_getD, mul_pow, mul_left_comm _ a, ← sq, ← Finset.mul_sum]
  exact key _ _ (mul_pos (cell_pos D N L hL hN) hA)

theorem correlationChannel_smul_pos (D N : ℕ) (L a : ℝ) (hL : 0 < L) (hN : 0 < N) (ha : 0 < a)
    (u : Array ℝ) (hu : u.size = N ^ D) (hu0 : ∃ x ∈ u.toList, x ≠ 0) :
    correlationChannel D N L u (u.map (fun x => a * x)) = 1 := by
  rw [correlationChannel_smul D N L a hL hN ha.ne' u hu hu0, abs_of_pos ha, div_self ha.ne']

theorem correlationChannel_smul_neg (D N : ℕ) (L a : ℝ) (hL : 0 < L) (hN : 0 < N) (ha : a < 0)
    (u : Array ℝ) (hu : u.size = N ^ D) (hu0 : ∃ x ∈ u.toList, x ≠ 0) :
    correlationChannel D N L u (u.map (fun x => a * x)) = -1 := by
  rw [correlationChannel_smul D N L a hL hN ha.ne u hu hu0, abs_of_neg ha, div_neg, div_self ha.ne]


end Exponax.Metrics
