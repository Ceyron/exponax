import ExponaxModel.Proofs.AliasNDConv
import ExponaxModel.Proofs.StoredModes
/-
C03 in general dimension, for the MODEL transform `rfftnM`: every integer wavenumber vector is congruent
(mod `N`) to `± kvec h` for a stored mode `h` (the layout of `kvec D N h` is in `StoredModes`), and hence a
condition on the stored half spectrum of a REAL field (`StoredBandLimited`) gives `BandLimitedV`; with it the
no-alias product statements over stored coefficients (`rfftn_mul_no_alias`, `rfftn_mul3_no_alias`).  Also:
subtracting the grid mean empties the mean mode and leaves every other stored mode as it is (`dftV_sub_mean`).
-/
namespace Exponax.AliasND
open Exponax Exponax.Layout Exponax.Transform Exponax.DFT Finset

theorem dftV_sub_mean_zero (D N : ℕ) (hN : 0 < N) (f : ℕ → ℂ) :
    dftV D N (tab (N ^ D) fun j => f j - (∑ x ∈ range (N ^ D), f x) / ((N ^ D : ℕ) : ℂ)) (kvec D N 0) = 0 := by
  have hG : ((N ^ D : ℕ) : ℂ) ≠ 0 := Nat.cast_ne_zero.mpr (pow_pos hN D).ne'
  have h0 : ∀ d : Fin D, (N : ℤ) ∣ (0 : Fin D → ℤ) d := fun _ => dvd_zero _
  rw [dftV_sub_const D N hN, kvec_zero, if_pos h0, dftV_zero_eq_sum, div_mul_cancel₀ _ hG, sub_self]

theorem dftV_sub_mean (D N : ℕ) (hD : 0 < D) (hN : 0 < N) (f : ℕ → ℂ) (h : ℕ) (hh : h < numModes D N) :
    dftV D N (tab (N ^ D) fun j => f j - (∑ x ∈ range (N ^ D), f x) / ((N ^ D : ℕ) : ℂ)) (kvec D N h)
      = if h = 0 then 0 else dftV D N (tab (N ^ D) f) (kvec D N h) := by
  split_ifs with h0
  · rw [h0, dftV_sub_mean_zero D N hN]
  · rw [dftV_sub_const D N hN, if_neg (mt (stored_dvd_iff D N h hD hN hh).mp h0), sub_zero]

theorem exists_full_rep (N : ℕ) (hN : 0 < N) (x : ℤ) : ∃ p : ℕ, p < N ∧ (N : ℤ) ∣ (p : ℤ) - x := by
  have hNz : (N : ℤ) ≠ 0 := by exact_mod_cast hN.ne'
  have h0 : 0 ≤ x % (N : ℤ) := Int.emod_nonneg _ hNz
  have h1 : x % (N : ℤ) < N := Int.emod_lt_of_pos _ (by exact_mod_cast hN)
  refine ⟨(x % (N : ℤ)).toNat, by omega, ?_⟩
  rw [Int.toNat_of_nonneg h0]
  exact Int.modEq_iff_dvd.mp (Int.mod_modEq x N).symm

theorem exists_half_rep (N : ℕ) (hN : 0 < N) (x : ℤ) :
    ∃ l : ℕ, l ≤ N / 2 ∧ ((N : ℤ) ∣ (l : ℤ) - x ∨ (N : ℤ) ∣ (l : ℤ) + x) := by
  obtain ⟨p, hp, hd⟩ := exists_full_rep N hN x
  rcases Nat.lt_or_ge (N / 2) p with h | h
  · refine ⟨N - p, by omega, Or.inr ?_⟩
    have : ((N - p : ℕ) : ℤ) + x = (N : ℤ) - ((p : ℤ) - x) := by
      rw [Nat.cast_sub (by omega)]
      ring
    rw [this]
    exact Dvd.dvd.sub (dvd_refl _) hd
  · exact ⟨p, h, Or.inl hd⟩

/-- a stored mode with prescribed residues, the last one in the stored half `[0, N/2]` -/
theorem exists_stored_of_last (E N : ℕ) (hN : 0 < N) (b : Fin (E + 1) → ℤ) (l : ℕ) (hl : l ≤ N / 2)
    (hlast : (N : ℤ) ∣ (l : ℤ) - b (Fin.last E)) :
    ∃ h, h < numModes (E + 1) N ∧ VCongr (E + 1) N (kvec (E + 1) N h) b := by
  choose p hpN hpd using fun d : ℕ =>
    exists_full_rep N hN (if hd : d < E + 1 then b ⟨d, hd⟩ else 0)
  have hp : ∀ d < E, p d < N := fun d _ => hpN d
  have hl' : l < N / 2 + 1 := Nat.lt_succ_of_le hl
  have hlt : SymmetryND.ofDigits N p E * (N / 2 + 1) + l < numModes (E + 1) N :=
    numModes_succ E N ▸ pair_lt (SymmetryND.ofDigits_lt N p E hp) hl'
  refine ⟨_, hlt, fun d => ?_⟩
  rcases Nat.lt_or_ge (d : ℕ) E with hd | hd
  · have h2 := hpd d
    rw [dif_pos d.2] at h2
    rw [kvec_leading E N _ hlt d hd, pair_div _ _ _ hl', SymmetryND.digit_ofDigits N p E hp d hd,
      ← sub_add_sub_cancel _ (p d : ℤ) _]
    exact dvd_add (Int.modEq_iff_dvd.mp (fftfreq_modEq N (p d)).symm) h2
  · have hdE : (d : ℕ) = E := Nat.le_antisymm (Nat.le_of_lt_succ d.2) hd
    rw [kvec_last E N _ hlt d hdE, Nat.mul_add_mod_of_lt hl', show d = Fin.last E from Fin.ext hdE]
    exact hlast

theorem exists_stored_congr (D N : ℕ) (hD : 0 < D) (hN : 0 < N) (a : Fin D → ℤ) :
    ∃ h, h < numModes D N ∧ (VCongr D N (kvec D N h) a ∨ VCongr D N (kvec D N h) (-a)) := by
  obtain ⟨E, rfl⟩ : ∃ E, D = E + 1 := ⟨D - 1, by omega⟩
  obtain ⟨l, hl, hd | hd⟩ := exists_half_rep N hN (a (Fin.last E))
  · obtain ⟨h, hh, hc⟩ := exists_stored_of_last E N hN a l hl hd
    exact ⟨h, hh, Or.inl hc⟩
  · have hd' : (N : ℤ) ∣ (l : ℤ) - (-a) (Fin.last E) := by
      rw [Pi.neg_apply, sub_neg_eq_add]
      exact hd
    obtain ⟨h, hh, hc⟩ := exists_stored_of_last E N hN (-a) l hl hd'
    exact ⟨h, hh, Or.inr hc⟩

def StoredBandLimited (D N : ℕ) (K : ℤ) (u : Array ℂ) : Prop :=
  ∀ h, h < numModes D N → (∃ d, K < |kvec D N h d|) → (rfftnM D N u).getD h 0 = 0

/-- conjugate symmetry of a REAL field supplies the half of the spectrum that is not stored -/
theorem bandLimitedV_of_stored (D N : ℕ) (hD : 0 < D) (hN : 0 < N) (K : ℤ) (u : Array ℂ)
    (hu : IsRealND D N u) (hs : StoredBandLimited D N K u) : BandLimitedV D N K u := by
  intro a ha
  obtain ⟨h, hh, hc⟩ := exists_stored_congr D N hD hN a
  have hex : ∃ d, K < |kvec D N h d| := by
    by_contra hno'
    have hno : ∀ d, |kvec D N h d| ≤ K := fun d => not_lt.mp (fun hlt => hno' ⟨d, hlt⟩)
    apply ha
    rcases hc with hc | hc
    · exact ⟨kvec D N h, hno, hc.symm⟩
    · refine ⟨-kvec D N h, abs_neg_le hno, ?_⟩
      have := hc.neg.symm
      rwa [neg_neg] at this
  have hz : dftV D N u (kvec D N h) = 0 := by
    rw [← rfftn_eq_dftV D N hN u h hh]
    exact hs h hh hex
  rcases hc with hc | hc
  · rw [← dftV_of_congr u hc, hz]
  · have h1 : dftV D N u (-a) = 0 := by rw [← dftV_of_congr u hc, hz]
    have h2 := conj_dftV D N u hu a
    rw [h1] at h2
    exact (map_eq_zero (starRingEnd ℂ)).mp h2

theorem stored_of_bandLimitedV (D N : ℕ) (hD : 0 < D) (hN : 0 < N) (K : ℤ) (hK : 2 * K < (N : ℤ))
    (u : Array ℂ) (hb : BandLimitedV D N K u) : StoredBandLimited D N K u := by
  intro h hh hex
  rw [rfftn_eq_dftV D N hN u h hh]
  apply hb
  apply not_congr_box K ((N / 2 : ℕ) : ℤ) (by omega) (kvec D N h)
  · intro hall
    obtain ⟨d, hd⟩ := hex
    exact absurd (hall d) (not_le.mpr hd)
  · exact kvec_abs_le D N h hD hN hh

theorem rfftn_mul_no_alias (D N : ℕ) (hD : 0 < D) (hN : 0 < N) (K : ℤ) (hK : 3 * K < (N : ℤ))
    (f g : Array ℂ) (hf : IsRealND D N f) (hg : IsRealND D N g)
    (hbf : StoredBandLimited D N K f) (hbg : StoredBandLimited D N K g)
    (h : ℕ) (hh : h < numModes D N) (hk : ∀ d, |kvec D N h d| ≤ K) :
    (rfftnM D N (tab (N ^ D) fun j => f.getD j 0 * g.getD j 0)).getD h 0
      = (1 / ((N ^ D : ℕ) : ℂ)) * ∑ p ∈ box D K,
          truncV K (dftV D N f) p * truncV K (dftV D N g) (kvec D N h - p) := by
  rw [rfftn_eq_dftV D N hN _ h hh]
  exact dftV_mul_no_alias' D N hN K hK f g (bandLimitedV_of_stored D N hD hN K f hf hbf)
    (bandLimitedV_of_stored D N hD hN K g hg hbg) _ hk

theorem rfftn_mul3_no_alias (D N : ℕ) (hD : 0 < D) (hN : 0 < N) (K : ℤ) (hK : 4 * K < (N : ℤ))
    (f g w : Array ℂ) (hf : IsRealND D N f) (hg : IsRealND D N g) (hw : IsRealND D N w)
    (hbf : StoredBandLimited D N K f) (hbg : StoredBandLimited D N K g)
    (hbw : StoredBandLimited D N K w)
    (h : ℕ) (hh : h < numModes D N) (hk : ∀ d, |kvec D N h d| ≤ K) :
    (rfftnM D N (tab (N ^ D) fun j => f.getD j 0 * g.getD j 0 * w.getD j 0)).getD h 0
      = (1 / ((N ^ D : ℕ) : ℂ)) ^ 2 * ∑ a ∈ box D K, ∑ b ∈ box D K,
          truncV K (dftV D N f) a * truncV K (dftV D N g) b
            * truncV K (dftV D N w) (kvec D N h - a - b) := by
  rw [rfftn_eq_dftV D N hN _ h hh]
  exact dftV_mul3_no_alias' D N hN K hK f g w (bandLimitedV_of_stored D N hD hN K f hf hbf)
    (bandLimitedV_of_stored D N hD hN K g hg hbg) (bandLimitedV_of_stored D N hD hN K w hw hbw) _ hk

theorem dftV_eq_stored (D N : ℕ) (hD : 0 < D) (hN : 0 < N) (u : Array ℂ) (hu : IsRealND D N u)
    (a : Fin D → ℤ) :
    ∃ h, h < numModes D N ∧
      (dftV D N u a = (rfftnM D N u).getD h 0 ∨ dftV D N u a = (starRingEnd ℂ) ((rfftnM D N u).getD h 0)) := by
  obtain ⟨h, hh, hc | hc⟩ := exists_stored_congr D N hD hN a
  · exact ⟨h, hh, Or.inl (by rw [rfftn_eq_dftV D N hN u h hh, dftV_of_congr u hc])⟩
  · refine ⟨h, hh, Or.inr ?_⟩
    rw [rfftn_eq_dftV D N hN u h hh, dftV_of_congr u hc, conj_dftV D N u hu, neg_neg]

end Exponax.AliasND
