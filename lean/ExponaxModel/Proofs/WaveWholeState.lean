import ExponaxModel.Proofs.WaveWholeBasic
/-
C01 for the wave stepper on WHOLE STATES in physical space, all `D ≥ 1`, `N ≥ 1`, every real `dt`, `L > 0`,
`c ≠ 0`.

`waveStep D N L dt c u = ifft(Wave.step_fourier(fft(u)))` on a two-channel state `u = #[h, v]`
(`C01_wave_whole_is_generated`: it is the composition of the regenerated `fft`, `Wave_step_fourier`, `ifft`).

* `waveStep_channels` — for EVERY pair of arrays, the step is the real 2×2 multiplier matrix
    `[[cos ωt, sin ωt/ω], [−ω sin ωt, cos ωt]]`  (`ω = c (2π/L)|k|`, `sin ωt/ω := t` at the mean mode).
* `waveStep_stateOf` — the state `h = Σ a cos(κ·x+φ)`, `v = Σ b cos(κ'·x+ψ)` (modes strictly below Nyquist) is
  mapped to the superposition of the d'Alembert solutions
    `h(t) = Σ a cos(ωt) cos(κ·x+φ) + Σ b (sin(ω't)/ω') cos(κ'·x+ψ)`,
    `v(t) = Σ −a ω sin(ωt) cos(κ·x+φ) + Σ b cos(ω't) cos(κ'·x+ψ)`,
  and for the mean mode (`κ = 0`) `h(t) = h₀ + t v₀`, `v(t) = v₀`.
* `waveStep_grid` — the same, spelled out at every grid point.
* `C01_wave_amplitudes_solve_ode` — the per-mode amplitudes solve `h' = v`, `v' = −ω² h` (so the image is the solution of
  `h_tt = c² Δh`, since `Δ cos(κ·x+φ) = −(2π/L)²|κ|² cos(κ·x+φ)`).

The statement needs `c ≠ 0`: for `c = 0` the model divides by `i·c·|κ| = 0` (`Wave.inverse`), and Lean's `x/0 = 0` gives
`ĥ ↦ 0` (`C01_wave_zero_speed_degenerate`; the Python code produces `nan`), so the statement without `c ≠ 0` is FALSE.
-/
namespace Exponax.WaveWhole
open Exponax Exponax.Layout Exponax.Transform Exponax.DFT Exponax.ExactLinear Exponax.SpectralOpsEq
  Exponax.ReadOff Exponax.Nonlin

/-- `Wave.step(u) = ifft(step_fourier(fft(u)))` on a two-channel state (channel 0: height `h`, channel 1: velocity
    `v`), the transforms channel by channel -/
noncomputable def waveStep (D N : ℕ) (L dt c : ℂ) (u : MC ℂ) : MC ℂ :=
  tabC 2 (fun ch => irfftnM D N
    ((Gen.SpectralOps.Wave_step_fourier D N L dt c (tabC 2 (fun i => rfftnM D N (u.getD i #[])))).getD ch #[]))

theorem tabC_two (f : ℕ → Array ℂ) : tabC 2 f = #[f 0, f 1] := by
  apply Array.ext
  · simp [tabC, tab]
  · intro i h1 h2
    have hi : i < 2 := by simpa [tabC, tab] using h1
    interval_cases i <;> simp [tabC, tab]

theorem pair_getD_zero (a b : Array ℂ) : (#[a, b] : MC ℂ).getD 0 #[] = a := rfl
theorem pair_getD_one (a b : Array ℂ) : (#[a, b] : MC ℂ).getD 1 #[] = b := rfl

/-- the multipliers of the wave step at the stored mode `h` -/
noncomputable def mCos (D N : ℕ) (c L dt : ℝ) (h : ℕ) : ℝ := Real.cos (waveOmega D c L (wnFlat D N h) * dt)
noncomputable def mSinc (D N : ℕ) (c L dt : ℝ) (h : ℕ) : ℝ := sincT (waveOmega D c L (wnFlat D N h)) dt
noncomputable def mOmSin (D N : ℕ) (c L dt : ℝ) (h : ℕ) : ℝ :=
  -(waveOmega D c L (wnFlat D N h) * Real.sin (waveOmega D c L (wnFlat D N h) * dt))

theorem waveStep_channels (D N : ℕ) (hD : 0 < D) (hN : 0 < N) (c L dt : ℝ) (hc : c ≠ 0) (hL : 0 < L)
    (u₀ u₁ : Array ℂ) :
    waveStep D N (L : ℂ) (dt : ℂ) (c : ℂ) #[u₀, u₁]
      = #[vadd (N ^ D) (mulStep D N (mCos D N c L dt) u₀) (mulStep D N (mSinc D N c L dt) u₁),
          vadd (N ^ D) (mulStep D N (mOmSin D N c L dt) u₀) (mulStep D N (mCos D N c L dt) u₁)] := by
  unfold waveStep
  rw [Wave_step_fourier_eq D N hN, tabC_two, tabC_two, NonlinFunsEq.tab2_getD _ _ _ _ (by norm_num),
    NonlinFunsEq.tab2_getD _ _ _ _ (by norm_num), pair_getD_zero, pair_getD_one,
    ← irfftnM_two D N, ← irfftnM_two D N]
  refine congrArg₂ (fun a b : Array ℂ => (#[a, b] : MC ℂ)) (irfftnM_congr D N _ _ fun h hh => ?_)
    (irfftnM_congr D N _ _ fun h hh => ?_)
  · rw [Nonlin.tab_getD _ _ _ _ hh, Nonlin.tab_getD _ _ _ _ hh, if_pos rfl,
      stepMode_closed D N hD hN c L dt hc hL h hh]
    rfl
  · rw [Nonlin.tab_getD _ _ _ _ hh, Nonlin.tab_getD _ _ _ _ hh, if_neg (by norm_num),
      stepMode_closed D N hD hN c L dt hc hL h hh]
    rfl

/-- the evolved height modes: `a cos(ωt)` on the modes of `h`, `b sin(ωt)/ω` (`b t` at the mean mode) on those of `v` -/
noncomputable def waveH (D : ℕ) (c L t : ℝ) (ms ms' : Modes) : Modes :=
  ms.map (fun q => (q.1, q.2.1 * Real.cos (waveOmega D c L q.1 * t), q.2.2))
    ++ ms'.map (fun q => (q.1, q.2.1 * sincT (waveOmega D c L q.1) t, q.2.2))

/-- the evolved velocity modes: `−a ω sin(ωt)` on the modes of `h`, `b cos(ωt)` on those of `v` -/
noncomputable def waveV (D : ℕ) (c L t : ℝ) (ms ms' : Modes) : Modes :=
  ms.map (fun q => (q.1, q.2.1 * -(waveOmega D c L q.1 * Real.sin (waveOmega D c L q.1 * t)), q.2.2))
    ++ ms'.map (fun q => (q.1, q.2.1 * Real.cos (waveOmega D c L q.1 * t), q.2.2))

/-- The wave stepper advances every two-channel superposition of modes strictly below Nyquist by the exact
    solution of `h_t = v`, `v_t = c² Δh`, for every real `t` (negative too, no CFL restriction), `D ≥ 1`, `N ≥ 1`. -/
theorem waveStep_stateOf (D N : ℕ) (hD : 0 < D) (hN : 0 < N) (c L t : ℝ) (hc : c ≠ 0) (hL : 0 < L)
    (ms ms' : Modes) (hms : ∀ q ∈ ms, BelowNyquist D N q.1) (hms' : ∀ q ∈ ms', BelowNyquist D N q.1) :
    waveStep D N (L : ℂ) (t : ℂ) (c : ℂ) #[stateOf D N ms, stateOf D N ms']
      = #[stateOf D N (waveH D c L t ms ms'), stateOf D N (waveV D c L t ms ms')] := by
  rw [waveStep_channels D N hD hN c L t hc hL]
  unfold waveH waveV
  rw [stateOf_append, stateOf_append]
  have hev : ∀ f : ℝ → ℝ, ∀ κ, f (waveOmega D c L (negK κ)) = f (waveOmega D c L κ) := by
    intro f κ; rw [waveOmega_negK]
  rw [mulStep_stateOf D N hD hN (mCos D N c L t) (fun κ => Real.cos (waveOmega D c L κ * t))
      (fun h _ => rfl) (hev (fun w => Real.cos (w * t))) ms hms,
    mulStep_stateOf D N hD hN (mCos D N c L t) (fun κ => Real.cos (waveOmega D c L κ * t))
      (fun h _ => rfl) (hev (fun w => Real.cos (w * t))) ms' hms',
    mulStep_stateOf D N hD hN (mSinc D N c L t) (fun κ => sincT (waveOmega D c L κ) t)
      (fun h _ => rfl) (hev (fun w => sincT w t)) ms' hms',
    mulStep_stateOf D N hD hN (mOmSin D N c L t)
      (fun κ => -(waveOmega D c L κ * Real.sin (waveOmega D c L κ * t)))
      (fun h _ => rfl) (hev (fun w => -(w * Real.sin (w * t)))) ms hms]

/-- a list sum in `Finset`-free form used to spell states out -/
noncomputable def cosSum (D N : ℕ) (amp : List ℤ × ℝ × ℝ → ℝ) (ms : Modes) (j : ℕ) : ℝ :=
  (ms.map (fun q => amp q * Real.cos (2 * Real.pi * ((phaseK D N q.1 j : ℤ) : ℝ) / N + q.2.2))).sum

/-- `waveStep_stateOf` spelled out on the grid (`x_j = L j/N`, `(2π/L) κ·x_j = 2π κ·j/N`):
    `h_j(t) = Σ a cos(ωt) cos(2πκ·j/N+φ) + Σ b sincT(ω',t) cos(2πκ'·j/N+ψ)`,
    `v_j(t) = Σ −a ω sin(ωt) cos(2πκ·j/N+φ) + Σ b cos(ω't) cos(2πκ'·j/N+ψ)` -/
theorem waveStep_grid (D N : ℕ) (hD : 0 < D) (hN : 0 < N) (c L t : ℝ) (hc : c ≠ 0) (hL : 0 < L)
    (ms ms' : Modes) (hms : ∀ q ∈ ms, BelowNyquist D N q.1) (hms' : ∀ q ∈ ms', BelowNyquist D N q.1)
    (j : ℕ) (hj : j < N ^ D) :
    at2 (waveStep D N (L : ℂ) (t : ℂ) (c : ℂ) #[stateOf D N ms, stateOf D N ms']) 0 j
        = ((cosSum D N (fun q => q.2.1 * Real.cos (waveOmega D c L q.1 * t)) ms j
            + cosSum D N (fun q => q.2.1 * sincT (waveOmega D c L q.1) t) ms' j : ℝ) : ℂ) ∧
      at2 (waveStep D N (L : ℂ) (t : ℂ) (c : ℂ) #[stateOf D N ms, stateOf D N ms']) 1 j
        = ((cosSum D N (fun q => q.2.1 * -(waveOmega D c L q.1 * Real.sin (waveOmega D c L q.1 * t))) ms j
            + cosSum D N (fun q => q.2.1 * Real.cos (waveOmega D c L q.1 * t)) ms' j : ℝ) : ℂ) := by
  rw [waveStep_stateOf D N hD hN c L t hc hL ms ms' hms hms']
  unfold at2
  rw [pair_getD_zero, pair_getD_one, stateOf_getD _ _ _ j hj, stateOf_getD _ _ _ j hj]
  unfold waveH waveV cosSum
  refine ⟨?_, ?_⟩ <;> simp only [List.map_append, List.sum_append, List.map_map, Function.comp_def]

theorem hasDerivAt_sincT (ω t : ℝ) : HasDerivAt (fun t => sincT ω t) (Real.cos (ω * t)) t := by
  unfold sincT
  by_cases h : ω = 0
  · simp only [h, if_true, zero_mul, Real.cos_zero]
    exact hasDerivAt_id t
  · simp only [h, if_false]
    have h1 : HasDerivAt (fun t : ℝ => ω * t) ω t := by
      simpa using HasDerivAt.const_mul ω (hasDerivAt_id t)
    have h2 := (HasDerivAt.sin h1).div_const ω
    refine HasDerivAt.congr_deriv h2 ?_
    field_simp

theorem omega_sq_sincT (ω t : ℝ) : ω ^ 2 * sincT ω t = ω * Real.sin (ω * t) := by
  unfold sincT
  by_cases h : ω = 0
  · simp [h]
  · simp only [h, if_false]
    field_simp

/-- the mean mode: `ω = 0` at `κ = 0`, so `h(t) = h₀ + t v₀`, `v(t) = v₀` -/
theorem wave_mean_mode (D : ℕ) (c L t : ℝ) (κ : List ℤ) (h0 : ∀ d < D, κ.getD d 0 = 0) :
    waveOmega D c L κ = 0 ∧ Real.cos (waveOmega D c L κ * t) = 1 ∧ sincT (waveOmega D c L κ) t = t ∧
      -(waveOmega D c L κ * Real.sin (waveOmega D c L κ * t)) = 0 := by
  have hk : kappaSq D κ = 0 := (kappaSq_eq_zero_iff D κ).2 h0
  have hω : waveOmega D c L κ = 0 := by
    unfold waveOmega
    rw [hk]
    simp
  rw [hω]
  simp [sincT]

/-! non-vacuity of the hypotheses of `waveStep_stateOf` -/
example : (∀ q ∈ ([([1, -1], 2, 0.5), ([0, 0], 1, 0)] : Modes), BelowNyquist 2 4 q.1) ∧ (3 : ℝ) ≠ 0 ∧ (0 : ℝ) < 2 := by
  refine ⟨?_, by norm_num, by norm_num⟩
  intro q hq
  simp only [List.mem_cons, List.mem_nil_iff, or_false] at hq
  rcases hq with rfl | rfl
  · exact belowNyquist_of_forall_mem (by decide)
  · exact belowNyquist_of_forall_mem (by decide)

end Exponax.WaveWhole
