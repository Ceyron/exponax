import ExponaxModel.Proofs.ContourComplexBounded
/-
C02 / C19 support — purely imaginary symbols never meet a contour node when `4 ∣ M`, and what happens at and near
the points `z = −ζ_j`: off them the stored coefficient is differentiable in `λ`, so nothing happens near a node (in exact
arithmetic); at them the closed form is `0/0`, the model's total division gives `0` (IEEE: NaN), the mean loses a term
`Φ_i(0)/M` against the mean of the ENTIRE φ-combination (accurate everywhere) and every coefficient is off by at least
`‖dt‖/100`.
-/
namespace Exponax.ContourComplex
open Exponax Exponax.Spec Exponax.Gen.Etdrk Exponax.ContourTail

theorem cos_nodeAngle_ne_zero (M j : ℕ) (hM : 0 < M) (h4 : M % 4 = 0) :
    Real.cos (nodeAngle M j) ≠ 0 := by
  intro h
  obtain ⟨n, hn⟩ := Real.cos_eq_zero_iff.mp h
  have hθ : nodeAngle M j * ((2 : ℤ) : ℝ) = ((2 * n + 1 : ℤ) : ℝ) * Real.pi := by
    rw [hn]
    push_cast
    ring
  have h3 := Stiffness.nodeAngle_mul_eq M j hM (2 * n + 1) 2 hθ
  have h5 : (4 : ℤ) ∣ (2 * n + 1) * (M : ℤ) :=
    Dvd.dvd.mul_left (by exact_mod_cast Nat.dvd_of_mod_eq_zero h4) _
  omega

/-- the node angles are odd multiples of `π/M`, the imaginary axis is at an even multiple: advection and
    dispersion symbols need no side condition, not even `|y| ≠ 1` (radius `1`) -/
theorem excluded_of_re_eq_zero (M : ℕ) (hM : 0 < M) (h4 : M % 4 = 0) (z : ℂ) (hz : z.re = 0) :
    ∀ ζ ∈ (roots_of_unity M : List ℂ), z ≠ -(1 * ζ) :=
  forall_mem_roots M fun j h => by
    have := congrArg Complex.re h
    rw [hz, one_mul, Complex.neg_re, Stiffness.root_of_unity_re] at this
    exact cos_nodeAngle_ne_zero M j hM h4 (by linarith)

/-- e.g. `z = ± i` (`‖z‖ = 1`) is fine -/
example : ∀ ζ ∈ (roots_of_unity 16 : List ℂ), Complex.I ≠ -(1 * ζ) :=
  excluded_of_re_eq_zero 16 (by norm_num) (by norm_num) Complex.I Complex.I_re

theorem storedCoef_error_imaginary (dt lam : ℂ) (hz : (lam * dt).re = 0) (i : Fin 14) :
    ‖storedCoef dt lam 16 1 i - dt * exactPhi (lam * dt) i‖ ≤ ‖dt‖ * 1.7e-12 :=
  storedCoef_error_halfplane dt lam hz.le
    (excluded_of_re_eq_zero 16 (by norm_num) (by norm_num) _ hz) i

theorem norm_storedCoef_le_imaginary (dt lam : ℂ) (hz : (lam * dt).re = 0) (i : Fin 14) :
    ‖storedCoef dt lam 16 1 i‖ ≤ ‖dt‖ * (coefWeight i + 1.7e-12) :=
  norm_storedCoef_le dt lam hz.le (excluded_of_re_eq_zero 16 (by norm_num) (by norm_num) _ hz) i

theorem norm_exp_term_imaginary (dt lam : ℂ) (hz : (lam * dt).re = 0) : ‖exp_term dt lam‖ = 1 := by
  rw [norm_exp_term_eq, hz, Real.exp_zero]

/-- the limit values `Φ_i(0)` -/
noncomputable def phiAtZero : Fin 14 → ℂ :=
  ![1, 1, 1 / 2, 1 / 2, 1, 1 / 6, 2 / 3, 1 / 6, 1 / 2, 1 / 2, 1 / 2, 1 / 6, 1 / 6, 1 / 6]

/-- with Lean's `x / 0 = 0` every raw closed form evaluates to `0` at the singularity (IEEE: NaN) -/
theorem rawPhi_zero : ∀ i : Fin 14, rawPhi 0 i = 0 := by
  have p1 : phi1 (0 : ℂ) = 0 := by simp [phi1]
  have p2 : phi2 (0 : ℂ) = 0 := by simp [phi2]
  have p3 : phi3 (0 : ℂ) = 0 := by simp [phi3]
  unfold rawPhi
  simp only [Fin.forall_fin_succ, Matrix.cons_val_zero, Matrix.cons_val_succ, zero_div, p1, p2, p3,
    mul_zero, sub_zero, add_zero, IsEmpty.forall_iff, and_self]

theorem exactPhi_zero : ∀ i : Fin 14, exactPhi 0 i = phiAtZero i := by
  unfold exactPhi phiAtZero
  simp only [Fin.forall_fin_succ, Matrix.cons_val_zero, Matrix.cons_val_succ, zero_div, phi1e_zero,
    phi2e_zero, phi3e_zero, IsEmpty.forall_iff, and_true]
  norm_num

theorem norm_phiAtZero_ge : ∀ i : Fin 14, 1 / 6 ≤ ‖phiAtZero i‖ := by
  unfold phiAtZero
  simp only [Fin.forall_fin_succ, Matrix.cons_val_zero, Matrix.cons_val_succ, IsEmpty.forall_iff,
    and_true, norm_div, norm_one, Complex.norm_ofNat]
  norm_num

noncomputable def entireMean (M : ℕ) (r : ℂ) (i : Fin 14) (z : ℂ) : ℂ :=
  contourMean (roots_of_unity M) r (fun w => exactPhi w i) z

/-- no exclusion set: the entire mean is accurate for every `z` -/
theorem entireMean_error (z : ℂ) (c : ℝ) (hc : -16 ≤ c) (hz : z.re ≤ c) (i : Fin 14) :
    ‖entireMean 16 1 i z - exactPhi z i‖ ≤ coefWeight i * (4.9e-13 * Real.exp c) := by
  have h := contourMean_entire_error (coefWeight i) (coefWeight_nonneg i) z 1 16 (by norm_num) 16
    norm_one_lt_sixteen (fun w => exactPhi w i) (differentiable_exactPhi i) (fun w => norm_exactPhi_le_max w i)
  rw [norm_one, mul_div_assoc, mul_assoc] at h
  exact h.trans (mul_le_mul_of_nonneg_left (strip_bound z.re c hc hz) (coefWeight_nonneg i))

/-- `‖z‖ = ‖r‖` is irrelevant, only the `M` points themselves are singular -/
theorem differentiableAt_storedCoef (dt r : ℂ) (M : ℕ) (lam0 : ℂ)
    (hnz : ∀ ζ ∈ (roots_of_unity M : List ℂ), lam0 * dt ≠ -(r * ζ)) (i : Fin 14) :
    DifferentiableAt ℂ (fun lam => storedCoef dt lam M r i) lam0 :=
  storedCoef_differentiableAt_lam M r dt lam0 ((nodes_ne_zero_iff M r _).mpr hnz) i

/-- the entire and the raw node sums differ by `n · Φ_i(0)`, `n` = number of vanishing nodes -/
theorem node_sums_diff (l : List ℂ) (r z : ℂ) (i : Fin 14) :
    ∃ n : ℕ, (l.map (fun ζ => exactPhi (r * ζ + z) i)).sum
        - (l.map (fun ζ => rawPhi (r * ζ + z) i)).sum = (n : ℂ) * phiAtZero i ∧
      ((∃ ζ ∈ l, r * ζ + z = 0) → 1 ≤ n) ∧ n ≤ l.length := by
  induction l with
  | nil => exact ⟨0, by simp, by simp, le_rfl⟩
  | cons a l ih =>
    obtain ⟨n, hn, hex, hlen⟩ := ih
    by_cases ha : r * a + z = 0
    · refine ⟨n + 1, ?_, fun _ => Nat.le_add_left 1 n, by simpa using hlen⟩
      simp only [List.map_cons, List.sum_cons, ha, rawPhi_zero, exactPhi_zero]
      push_cast
      linear_combination hn
    · refine ⟨n, ?_, ?_, Nat.le_succ_of_le hlen⟩
      · simp only [List.map_cons, List.sum_cons, rawPhi_of_ne _ ha]
        linear_combination hn
      · rintro ⟨ζ, hζ, h⟩
        rcases List.mem_cons.mp hζ with rfl | hζ'
        · exact absurd h ha
        · exact hex ⟨ζ, hζ', h⟩

/-- `e · 4.9·10⁻¹³ · 10/3 < 5·10⁻¹²` -/
theorem tail_at_node (i : Fin 14) : coefWeight i * (4.9e-13 * Real.exp 1) ≤ 5e-12 :=
  (mul_le_mul (coefWeight_le i) (mul_le_mul_of_nonneg_left Real.exp_one_lt_d9.le (by norm_num))
    (by positivity) (by norm_num)).trans (by norm_num)

/-- at `z = λ dt = −ζ₀` the model (`x/0 = 0`; IEEE would give NaN) drops the term `Φ_i(0)/16` of the mean -/
theorem storedCoef_error_at_node (dt lam ζ0 : ℂ) (hζ0 : ζ0 ∈ (roots_of_unity 16 : List ℂ))
    (hz : lam * dt = -(1 * ζ0)) (i : Fin 14) :
    ‖dt‖ * (‖phiAtZero i‖ / 16 - 5e-12)
      ≤ ‖storedCoef dt lam 16 1 i - dt * exactPhi (lam * dt) i‖ := by
  set z := lam * dt with hzdef
  have hnode : (1 : ℂ) * ζ0 + z = 0 := add_eq_zero_iff_eq_neg'.mpr hz
  have hre : z.re ≤ 1 := (Complex.re_le_norm z).trans
    (by rw [norm_eq_of_node_eq_zero 16 1 z ζ0 hζ0 hnode, norm_one])
  obtain ⟨n, hn, hex, _⟩ := node_sums_diff (roots_of_unity 16 : List ℂ) 1 z i
  have hn1 : (1 : ℝ) ≤ n := by exact_mod_cast hex ⟨ζ0, hζ0, hnode⟩
  have hdiff : entireMean 16 1 i z
      - contourMean (roots_of_unity 16) 1 (fun w => rawPhi w i) z = (n : ℂ) * phiAtZero i / 16 := by
    rw [entireMean, contourMean_eq, contourMean_eq, ← sub_div, hn, length_roots, Nat.cast_ofNat]
  have hE := (entireMean_error z 1 (by norm_num) hre i).trans (tail_at_node i)
  have hsplit : storedCoef dt lam 16 1 i - dt * exactPhi z i
      = dt * ((entireMean 16 1 i z - exactPhi z i) - (n : ℂ) * phiAtZero i / 16) := by
    rw [storedCoef_eq_rawMean, ← hdiff]
    ring
  rw [hsplit, norm_mul]
  refine mul_le_mul_of_nonneg_left ?_ (norm_nonneg dt)
  have hbig : ‖phiAtZero i‖ / 16 ≤ ‖(n : ℂ) * phiAtZero i / 16‖ := by
    rw [norm_div, norm_mul, Complex.norm_natCast, Complex.norm_ofNat]
    exact div_le_div_of_nonneg_right (le_mul_of_one_le_left (norm_nonneg _) hn1) (by norm_num)
  calc ‖phiAtZero i‖ / 16 - 5e-12
      ≤ ‖(n : ℂ) * phiAtZero i / 16‖ - ‖entireMean 16 1 i z - exactPhi z i‖ := sub_le_sub hbig hE
    _ ≤ ‖(n : ℂ) * phiAtZero i / 16 - (entireMean 16 1 i z - exactPhi z i)‖ := norm_sub_norm_le _ _
    _ = _ := norm_sub_rev _ _

theorem storedCoef_error_at_node' (dt lam ζ0 : ℂ) (hζ0 : ζ0 ∈ (roots_of_unity 16 : List ℂ))
    (hz : lam * dt = -(1 * ζ0)) (i : Fin 14) :
    ‖dt‖ * 0.01 ≤ ‖storedCoef dt lam 16 1 i - dt * exactPhi (lam * dt) i‖ := by
  refine le_trans (mul_le_mul_of_nonneg_left ?_ (norm_nonneg dt))
    (storedCoef_error_at_node dt lam ζ0 hζ0 hz i)
  have := norm_phiAtZero_ge i
  linarith

theorem re_mul_ofReal_nonpos (dt : ℝ) (lam : ℂ) (hdt : 0 ≤ dt) (hl : lam.re ≤ 0) :
    (lam * (dt : ℂ)).re ≤ 0 := by
  rw [Complex.re_mul_ofReal]
  exact mul_nonpos_iff.mpr (Or.inr ⟨hl, hdt⟩)

/-- the library's inputs: real time step `dt ≥ 0`, complex symbol with `Re λ ≤ 0` -/
theorem storedCoef_error_dissipative (dt : ℝ) (lam : ℂ) (hdt : 0 ≤ dt) (hl : lam.re ≤ 0)
    (hnz : ∀ ζ ∈ (roots_of_unity 16 : List ℂ), lam * (dt : ℂ) ≠ -(1 * ζ)) (i : Fin 14) :
    ‖storedCoef (dt : ℂ) lam 16 1 i - (dt : ℂ) * exactPhi (lam * (dt : ℂ)) i‖ ≤ |dt| * 1.7e-12 := by
  have h := storedCoef_error_halfplane (dt : ℂ) lam (re_mul_ofReal_nonpos dt lam hdt hl) hnz i
  rwa [Complex.norm_real, Real.norm_eq_abs] at h

theorem norm_storedCoef_le_dissipative (dt : ℝ) (lam : ℂ) (hdt : 0 ≤ dt) (hl : lam.re ≤ 0)
    (hnz : ∀ ζ ∈ (roots_of_unity 16 : List ℂ), lam * (dt : ℂ) ≠ -(1 * ζ)) (i : Fin 14) :
    ‖storedCoef (dt : ℂ) lam 16 1 i‖ ≤ |dt| * (coefWeight i + 1.7e-12) := by
  have h := norm_storedCoef_le (dt : ℂ) lam (re_mul_ofReal_nonpos dt lam hdt hl) hnz i
  rwa [Complex.norm_real, Real.norm_eq_abs] at h

example : (0 : ℕ) < 16 ∧ 16 % 4 = 0 := by norm_num
example : (-16 : ℝ) ≤ 0 ∧ (Complex.I).re ≤ 0 := by simp
example : (1 : ℂ) ≠ 0 ∧ ((Complex.I * 3) * 1 : ℂ).re ≤ 0 := by simp
/-- a damped travelling wave `λ = −2 + 5i`, `dt = 1/10` (`‖λ dt‖ = √29/10 ≠ 1`) -/
example (i : Fin 14) :
    ‖storedCoef ((1 / 10 : ℝ) : ℂ) (-2 + 5 * Complex.I) 16 1 i‖
      ≤ |(1 / 10 : ℝ)| * (coefWeight i + 1.7e-12) := by
  refine norm_storedCoef_le_dissipative (1 / 10) (-2 + 5 * Complex.I) (by norm_num) (by simp)
    (excluded_of_norm_ne_one 16 _ ?_) i
  intro h
  have h2 : ‖(-2 + 5 * Complex.I) * ((1 / 10 : ℝ) : ℂ)‖ ^ 2 = 1 := by
    rw [h, one_pow]
  rw [← Complex.normSq_eq_norm_sq] at h2
  simp [Complex.normSq_apply] at h2
  norm_num at h2

/-- the excluded points exist, e.g. `−ζ_1` -/
example : ∃ lam dt : ℂ, dt ≠ 0 ∧ ∃ ζ0 ∈ (roots_of_unity 16 : List ℂ), lam * dt = -(1 * ζ0) :=
  ⟨-(1 * root_of_unity 16 1), 1, one_ne_zero, root_of_unity 16 1,
    (mem_roots_iff 16 _).mpr ⟨0, by norm_num, rfl⟩, by ring⟩

example (i : Fin 14) : DifferentiableAt ℂ (fun lam => storedCoef 1 lam 16 1 i) Complex.I := by
  refine differentiableAt_storedCoef 1 1 16 Complex.I ?_ i
  rw [mul_one]
  exact excluded_of_re_eq_zero 16 (by norm_num) (by norm_num) _ Complex.I_re

end Exponax.ContourComplex
