import ExponaxModel.Proofs.ContourTailPhi
/-
C02: polynomials in `λ, μ, t` and three further arguments `a, b, c` (the entire remainders `φ_{p+1}(λt)`,
`φ_{p+1}(λt/2)`, `φ_{p+1}((λ+μ)t)` in the application) as tables of monomials: evaluation over `ℂ`, the majorant with
absolute coefficients over `ℝ`, continuity, the value at `t = 0`; and the four tables of the local-error quotients
`(R_p(λt, μt) − e^{(λ+μ)t})/t^{p+1}` of ETDRK1–4 (`LinearTestOrder.lean`).

The tables are what substituting `φ_k(x) = Σ_{j<p+1−k} x^j/(k+j)! + x^{p+1−k} φ_{p+1}(x)` for `x = λt, λt/2, (λ+μ)t`
into `R_p(λt, μt) − e^{(λ+μ)t}` leaves (`R?_sub_exp`): all terms of degree `≤ p` in `t` cancel (the order conditions) and
`t^{p+1}` factors out.
-/
noncomputable section
namespace Exponax.LinearOrder

structure Mono where
  num : ℤ
  den : ℕ
  il : ℕ
  jm : ℕ
  kt : ℕ
  ka : ℕ
  kb : ℕ
  kc : ℕ

def Mono.val (x : Mono) (l m t a b c : ℂ) : ℂ :=
  (x.num : ℂ) / (x.den : ℂ) * l ^ x.il * m ^ x.jm * t ^ x.kt * a ^ x.ka * b ^ x.kb * c ^ x.kc

def Mono.abs (x : Mono) (l m t a b c : ℝ) : ℝ :=
  |(x.num : ℝ)| / (x.den : ℝ) * l ^ x.il * m ^ x.jm * t ^ x.kt * a ^ x.ka * b ^ x.kb * c ^ x.kc

def evalTab (tab : List Mono) (l m t a b c : ℂ) : ℂ := (tab.map fun x => x.val l m t a b c).sum
def absTab (tab : List Mono) (l m t a b c : ℝ) : ℝ := (tab.map fun x => x.abs l m t a b c).sum

theorem Mono.val_mk (n : ℤ) (d i j k ka kb kc : ℕ) (l m t a b c : ℂ) :
    Mono.val ⟨n, d, i, j, k, ka, kb, kc⟩ l m t a b c
      = (n : ℂ) / (d : ℂ) * l ^ i * m ^ j * t ^ k * a ^ ka * b ^ kb * c ^ kc := rfl

theorem evalTab_nil (l m t a b c : ℂ) : evalTab [] l m t a b c = 0 := rfl

theorem evalTab_cons (x : Mono) (xs : List Mono) (l m t a b c : ℂ) :
    evalTab (x :: xs) l m t a b c = x.val l m t a b c + evalTab xs l m t a b c := by
  simp only [evalTab, List.map_cons, List.sum_cons]

theorem norm_mul_pow_le {u y : ℂ} {X Y : ℝ} (k : ℕ) (hu : ‖u‖ ≤ X) (hy : ‖y‖ ≤ Y) :
    ‖u * y ^ k‖ ≤ X * Y ^ k := by
  rw [norm_mul, norm_pow]
  exact mul_le_mul hu (pow_le_pow_left₀ (norm_nonneg _) hy k) (pow_nonneg (norm_nonneg _) k)
    ((norm_nonneg _).trans hu)

theorem Mono.norm_val_le (x : Mono) (l m t a b c : ℂ) (L M T A B C : ℝ)
    (hl : ‖l‖ ≤ L) (hm : ‖m‖ ≤ M) (ht : ‖t‖ ≤ T) (ha : ‖a‖ ≤ A) (hb : ‖b‖ ≤ B) (hc : ‖c‖ ≤ C) :
    ‖x.val l m t a b c‖ ≤ x.abs L M T A B C := by
  have h0 : ‖(x.num : ℂ) / (x.den : ℂ)‖ ≤ |(x.num : ℝ)| / (x.den : ℝ) := by
    rw [norm_div, Complex.norm_intCast, Complex.norm_natCast]
  exact norm_mul_pow_le _ (norm_mul_pow_le _ (norm_mul_pow_le _ (norm_mul_pow_le _
    (norm_mul_pow_le _ (norm_mul_pow_le _ h0 hl) hm) ht) ha) hb) hc

theorem absTab_nonneg (tab : List Mono) (l m t a b c : ℝ) (hl : 0 ≤ l) (hm : 0 ≤ m) (ht : 0 ≤ t)
    (ha : 0 ≤ a) (hb : 0 ≤ b) (hc : 0 ≤ c) : 0 ≤ absTab tab l m t a b c := by
  refine List.sum_nonneg (fun y hy => ?_)
  obtain ⟨x, _, rfl⟩ := List.mem_map.mp hy
  unfold Mono.abs
  positivity

theorem norm_evalTab_le (tab : List Mono) (l m t a b c : ℂ) (L M T A B C : ℝ)
    (hl : ‖l‖ ≤ L) (hm : ‖m‖ ≤ M) (ht : ‖t‖ ≤ T) (ha : ‖a‖ ≤ A) (hb : ‖b‖ ≤ B) (hc : ‖c‖ ≤ C) :
    ‖evalTab tab l m t a b c‖ ≤ absTab tab L M T A B C := by
  induction tab with
  | nil => simp [evalTab, absTab]
  | cons x xs ih =>
    rw [evalTab_cons]
    exact (norm_add_le _ _).trans (add_le_add (x.norm_val_le l m t a b c L M T A B C hl hm ht ha hb hc) ih)

theorem nrm_ofReal {r R : ℝ} (h0 : 0 ≤ r) (hR : r ≤ R) : ‖(r : ℂ)‖ ≤ R := by
  rwa [Complex.norm_real, Real.norm_eq_abs, abs_of_nonneg h0]

theorem norm_le_absTab_mul_pow (tab : List Mono) (n : ℕ) (g l m a b c : ℂ) (t T A B C : ℝ)
    (h0 : 0 ≤ t) (hT : t ≤ T) (hg : g = (t : ℂ) ^ n * evalTab tab l m t a b c)
    (ha : ‖a‖ ≤ A) (hb : ‖b‖ ≤ B) (hc : ‖c‖ ≤ C) :
    ‖g‖ ≤ absTab tab ‖l‖ ‖m‖ T A B C * t ^ n := by
  have ht : ‖(t : ℂ)‖ ≤ T := nrm_ofReal h0 hT
  rw [hg, norm_mul, norm_pow, Complex.norm_real, Real.norm_eq_abs, abs_of_nonneg h0, mul_comm]
  exact mul_le_mul_of_nonneg_right (norm_evalTab_le tab _ _ _ _ _ _ _ _ _ _ _ _ le_rfl le_rfl ht ha hb hc)
    (pow_nonneg h0 n)

@[fun_prop]
theorem continuous_evalTab (tab : List Mono) (l m : ℂ) {t a b c : ℝ → ℂ} (ht : Continuous t)
    (ha : Continuous a) (hb : Continuous b) (hc : Continuous c) :
    Continuous fun x => evalTab tab l m (t x) (a x) (b x) (c x) := by
  induction tab with
  | nil => exact continuous_const
  | cons y ys ih =>
    simp only [evalTab_cons, Mono.val]
    fun_prop

theorem evalTab_t_zero (tab : List Mono) (l m a b c : ℂ) :
    evalTab tab l m 0 a b c = evalTab (tab.filter (·.kt = 0)) l m 0 a b c := by
  induction tab with
  | nil => rfl
  | cons x xs ih =>
    by_cases h : x.kt = 0
    · rw [List.filter_cons_of_pos (by simpa using h), evalTab_cons, evalTab_cons, ih]
    · rw [List.filter_cons_of_neg (by simpa using h), evalTab_cons, ih, Mono.val, zero_pow h]
      simp only [mul_zero, zero_mul, zero_add]

/-- `(R₁(λt, μt) − e^{(λ+μ)t})/t²` with `a = φ₂(λt)`, `c = φ₂((λ+μ)t)` (`R1_sub_exp`; 5 monomials, no `b`) -/
def Q1tab : List Mono := [
  ⟨-1, 1, 0, 2, 0, 0, 0, 1⟩,
  ⟨-2, 1, 1, 1, 0, 0, 0, 1⟩,
  ⟨-1, 1, 2, 0, 0, 0, 0, 1⟩,
  ⟨1, 1, 1, 1, 0, 1, 0, 0⟩,
  ⟨1, 1, 2, 0, 0, 1, 0, 0⟩]

/-- `(R₂(λt, μt) − e^{(λ+μ)t})/t³` with `a = φ₃(λt)`, `c = φ₃((λ+μ)t)` (`R2_sub_exp`; 13 monomials, no `b`) -/
def Q2tab : List Mono := [
  ⟨1, 4, 1, 2, 0, 0, 0, 0⟩,
  ⟨1, 4, 2, 1, 0, 0, 0, 0⟩,
  ⟨-1, 1, 0, 3, 0, 0, 0, 1⟩,
  ⟨-3, 1, 1, 2, 0, 0, 0, 1⟩,
  ⟨-3, 1, 2, 1, 0, 0, 0, 1⟩,
  ⟨-1, 1, 3, 0, 0, 0, 0, 1⟩,
  ⟨1, 1, 1, 2, 0, 1, 0, 0⟩,
  ⟨2, 1, 2, 1, 0, 1, 0, 0⟩,
  ⟨1, 1, 3, 0, 0, 1, 0, 0⟩,
  ⟨1, 1, 2, 2, 1, 1, 0, 0⟩,
  ⟨1, 1, 3, 1, 1, 1, 0, 0⟩,
  ⟨1, 1, 3, 2, 2, 2, 0, 0⟩,
  ⟨1, 1, 4, 1, 2, 2, 0, 0⟩]

/-- `(R₃(λt, μt) − e^{(λ+μ)t})/t⁴` with `a = φ₄(λt)`, `b = φ₄(λt/2)`, `c = φ₄((λ+μ)t)` (`R3_sub_exp`; 67 monomials) -/
def Q3tab : List Mono := [
  ⟨-1, 24, 1, 3, 0, 0, 0, 0⟩,
  ⟨1, 24, 3, 1, 0, 0, 0, 0⟩,
  ⟨-1, 1, 0, 4, 0, 0, 0, 1⟩,
  ⟨-4, 1, 1, 3, 0, 0, 0, 1⟩,
  ⟨-6, 1, 2, 2, 0, 0, 0, 1⟩,
  ⟨-4, 1, 3, 1, 0, 0, 0, 1⟩,
  ⟨-1, 1, 4, 0, 0, 0, 0, 1⟩,
  ⟨4, 1, 1, 3, 0, 1, 0, 0⟩,
  ⟨6, 1, 2, 2, 0, 1, 0, 0⟩,
  ⟨3, 1, 3, 1, 0, 1, 0, 0⟩,
  ⟨1, 1, 4, 0, 0, 1, 0, 0⟩,
  ⟨-5, 72, 2, 3, 1, 0, 0, 0⟩,
  ⟨-1, 12, 3, 2, 1, 0, 0, 0⟩,
  ⟨-1, 72, 4, 1, 1, 0, 0, 0⟩,
  ⟨1, 24, 3, 2, 1, 0, 1, 0⟩,
  ⟨1, 24, 4, 1, 1, 0, 1, 0⟩,
  ⟨2, 1, 2, 3, 1, 1, 0, 0⟩,
  ⟨8, 3, 3, 2, 1, 1, 0, 0⟩,
  ⟨2, 3, 4, 1, 1, 1, 0, 0⟩,
  ⟨-13, 288, 3, 3, 2, 0, 0, 0⟩,
  ⟨-13, 288, 4, 2, 2, 0, 0, 0⟩,
  ⟨1, 48, 3, 3, 2, 0, 1, 0⟩,
  ⟨1, 16, 4, 2, 2, 0, 1, 0⟩,
  ⟨1, 24, 5, 1, 2, 0, 1, 0⟩,
  ⟨3, 4, 3, 3, 2, 1, 0, 0⟩,
  ⟨1, 2, 4, 2, 2, 1, 0, 0⟩,
  ⟨-1, 4, 5, 1, 2, 1, 0, 0⟩,
  ⟨-1, 2, 4, 2, 2, 1, 1, 0⟩,
  ⟨-1, 2, 5, 1, 2, 1, 1, 0⟩,
  ⟨4, 1, 4, 2, 2, 2, 0, 0⟩,
  ⟨4, 1, 5, 1, 2, 2, 0, 0⟩,
  ⟨-1, 108, 4, 3, 3, 0, 0, 0⟩,
  ⟨-1, 108, 5, 2, 3, 0, 0, 0⟩,
  ⟨-1, 96, 4, 3, 3, 0, 1, 0⟩,
  ⟨-1, 96, 5, 2, 3, 0, 1, 0⟩,
  ⟨-5, 24, 4, 3, 3, 1, 0, 0⟩,
  ⟨-5, 24, 5, 2, 3, 1, 0, 0⟩,
  ⟨1, 2, 4, 3, 3, 1, 1, 0⟩,
  ⟨3, 4, 5, 2, 3, 1, 1, 0⟩,
  ⟨1, 4, 6, 1, 3, 1, 1, 0⟩,
  ⟨4, 1, 4, 3, 3, 2, 0, 0⟩,
  ⟨3, 1, 5, 2, 3, 2, 0, 0⟩,
  ⟨-1, 1, 6, 1, 3, 2, 0, 0⟩,
  ⟨-1, 864, 5, 3, 4, 0, 0, 0⟩,
  ⟨-1, 864, 6, 2, 4, 0, 0, 0⟩,
  ⟨-1, 144, 5, 3, 4, 0, 1, 0⟩,
  ⟨-1, 144, 6, 2, 4, 0, 1, 0⟩,
  ⟨-5, 72, 5, 3, 4, 1, 0, 0⟩,
  ⟨-5, 72, 6, 2, 4, 1, 0, 0⟩,
  ⟨1, 8, 5, 3, 4, 1, 1, 0⟩,
  ⟨1, 8, 6, 2, 4, 1, 1, 0⟩,
  ⟨-1, 288, 6, 3, 5, 0, 1, 0⟩,
  ⟨-1, 288, 7, 2, 5, 0, 1, 0⟩,
  ⟨-1, 72, 6, 3, 5, 1, 0, 0⟩,
  ⟨-1, 72, 7, 2, 5, 1, 0, 0⟩,
  ⟨1, 24, 6, 3, 5, 1, 1, 0⟩,
  ⟨1, 24, 7, 2, 5, 1, 1, 0⟩,
  ⟨-1, 12, 6, 3, 5, 2, 0, 0⟩,
  ⟨-1, 12, 7, 2, 5, 2, 0, 0⟩,
  ⟨-1, 24, 7, 3, 6, 1, 1, 0⟩,
  ⟨-1, 24, 8, 2, 6, 1, 1, 0⟩,
  ⟨-1, 24, 7, 3, 6, 2, 0, 0⟩,
  ⟨-1, 24, 8, 2, 6, 2, 0, 0⟩,
  ⟨1, 2, 7, 3, 6, 2, 1, 0⟩,
  ⟨1, 2, 8, 2, 6, 2, 1, 0⟩,
  ⟨-1, 8, 8, 3, 7, 2, 1, 0⟩,
  ⟨-1, 8, 9, 2, 7, 2, 1, 0⟩]

/-- `(R₄(λt, μt) − e^{(λ+μ)t})/t⁵` with `a = φ₅(λt)`, `b = φ₅(λt/2)`, `c = φ₅((λ+μ)t)` (`R4_sub_exp`; 163 monomials) -/
def Q4tab : List Mono := [
  ⟨1, 32, 1, 4, 0, 0, 0, 0⟩,
  ⟨11, 144, 2, 3, 0, 0, 0, 0⟩,
  ⟨35, 576, 3, 2, 0, 0, 0, 0⟩,
  ⟨1, 64, 4, 1, 0, 0, 0, 0⟩,
  ⟨-1, 1, 0, 5, 0, 0, 0, 1⟩,
  ⟨-5, 1, 1, 4, 0, 0, 0, 1⟩,
  ⟨-10, 1, 2, 3, 0, 0, 0, 1⟩,
  ⟨-10, 1, 3, 2, 0, 0, 0, 1⟩,
  ⟨-5, 1, 4, 1, 0, 0, 0, 1⟩,
  ⟨-1, 1, 5, 0, 0, 0, 0, 1⟩,
  ⟨1, 1, 2, 3, 0, 1, 0, 0⟩,
  ⟨3, 1, 3, 2, 0, 1, 0, 0⟩,
  ⟨3, 1, 4, 1, 0, 1, 0, 0⟩,
  ⟨1, 1, 5, 0, 0, 1, 0, 0⟩,
  ⟨1, 384, 2, 4, 1, 0, 0, 0⟩,
  ⟨1, 72, 3, 3, 1, 0, 0, 0⟩,
  ⟨23, 2304, 4, 2, 1, 0, 0, 0⟩,
  ⟨-1, 384, 5, 1, 1, 0, 0, 0⟩,
  ⟨1, 32, 4, 2, 1, 0, 1, 0⟩,
  ⟨1, 48, 5, 1, 1, 0, 1, 0⟩,
  ⟨1, 1, 2, 4, 1, 1, 0, 0⟩,
  ⟨3, 2, 3, 3, 1, 1, 0, 0⟩,
  ⟨1, 1, 4, 2, 1, 1, 0, 0⟩,
  ⟨2, 3, 5, 1, 1, 1, 0, 0⟩,
  ⟨-1, 256, 3, 4, 2, 0, 0, 0⟩,
  ⟨-13, 6912, 4, 3, 2, 0, 0, 0⟩,
  ⟨25, 27648, 5, 2, 2, 0, 0, 0⟩,
  ⟨-1, 768, 6, 1, 2, 0, 0, 0⟩,
  ⟨1, 48, 4, 3, 2, 0, 1, 0⟩,
  ⟨7, 192, 5, 2, 2, 0, 1, 0⟩,
  ⟨1, 96, 6, 1, 2, 0, 1, 0⟩,
  ⟨1, 2, 3, 4, 2, 1, 0, 0⟩,
  ⟨31, 48, 4, 3, 2, 1, 0, 0⟩,
  ⟨5, 24, 5, 2, 2, 1, 0, 0⟩,
  ⟨1, 16, 6, 1, 2, 1, 0, 0⟩,
  ⟨-11, 4608, 4, 4, 3, 0, 0, 0⟩,
  ⟨-59, 27648, 5, 3, 3, 0, 0, 0⟩,
  ⟨-1, 18432, 6, 2, 3, 0, 0, 0⟩,
  ⟨1, 128, 4, 4, 3, 0, 1, 0⟩,
  ⟨7, 384, 5, 3, 3, 0, 1, 0⟩,
  ⟨11, 768, 6, 2, 3, 0, 1, 0⟩,
  ⟨1, 192, 7, 1, 3, 0, 1, 0⟩,
  ⟨1, 8, 4, 4, 3, 1, 0, 0⟩,
  ⟨5, 32, 5, 3, 3, 1, 0, 0⟩,
  ⟨1, 32, 6, 2, 3, 1, 0, 0⟩,
  ⟨-7, 96, 7, 1, 3, 1, 0, 0⟩,
  ⟨-1, 4, 7, 1, 3, 1, 1, 0⟩,
  ⟨4, 1, 7, 1, 3, 2, 0, 0⟩,
  ⟨-61, 73728, 5, 4, 4, 0, 0, 0⟩,
  ⟨-89, 110592, 6, 3, 4, 0, 0, 0⟩,
  ⟨-19, 884736, 7, 2, 4, 0, 0, 0⟩,
  ⟨1, 256, 5, 4, 4, 0, 1, 0⟩,
  ⟨7, 1152, 6, 3, 4, 0, 1, 0⟩,
  ⟨5, 4608, 7, 2, 4, 0, 1, 0⟩,
  ⟨1, 64, 5, 4, 4, 1, 0, 0⟩,
  ⟨23, 1152, 6, 3, 4, 1, 0, 0⟩,
  ⟨1, 1152, 7, 2, 4, 1, 0, 0⟩,
  ⟨1, 8, 6, 3, 4, 1, 1, 0⟩,
  ⟨5, 16, 7, 2, 4, 1, 1, 0⟩,
  ⟨1, 8, 8, 1, 4, 1, 1, 0⟩,
  ⟨-1, 1, 8, 1, 4, 2, 0, 0⟩,
  ⟨-523, 2654208, 6, 4, 5, 0, 0, 0⟩,
  ⟨-65, 331776, 7, 3, 5, 0, 0, 0⟩,
  ⟨-1, 294912, 8, 2, 5, 0, 0, 0⟩,
  ⟨-5, 6144, 6, 4, 5, 0, 1, 0⟩,
  ⟨-1, 2048, 7, 3, 5, 0, 1, 0⟩,
  ⟨1, 36864, 8, 2, 5, 0, 1, 0⟩,
  ⟨-1, 384, 6, 4, 5, 1, 0, 0⟩,
  ⟨-5, 2304, 7, 3, 5, 1, 0, 0⟩,
  ⟨-1, 4608, 8, 2, 5, 1, 0, 0⟩,
  ⟨3, 16, 6, 4, 5, 1, 1, 0⟩,
  ⟨7, 32, 7, 3, 5, 1, 1, 0⟩,
  ⟨1, 32, 8, 2, 5, 1, 1, 0⟩,
  ⟨-125, 3538944, 7, 4, 6, 0, 0, 0⟩,
  ⟨-125, 3538944, 8, 3, 6, 0, 0, 0⟩,
  ⟨-1, 3538944, 9, 2, 6, 0, 0, 0⟩,
  ⟨-3, 4096, 7, 4, 6, 0, 1, 0⟩,
  ⟨-13, 18432, 8, 3, 6, 0, 1, 0⟩,
  ⟨-1, 36864, 9, 2, 6, 0, 1, 0⟩,
  ⟨1, 1536, 8, 3, 6, 0, 2, 0⟩,
  ⟨5, 6144, 9, 2, 6, 0, 2, 0⟩,
  ⟨-5, 3072, 7, 4, 6, 1, 0, 0⟩,
  ⟨-59, 36864, 8, 3, 6, 1, 0, 0⟩,
  ⟨-1, 18432, 9, 2, 6, 1, 0, 0⟩,
  ⟨3, 64, 7, 4, 6, 1, 1, 0⟩,
  ⟨5, 96, 8, 3, 6, 1, 1, 0⟩,
  ⟨1, 384, 9, 2, 6, 1, 1, 0⟩,
  ⟨-103, 21233664, 8, 4, 7, 0, 0, 0⟩,
  ⟨-103, 21233664, 9, 3, 7, 0, 0, 0⟩,
  ⟨-37, 147456, 8, 4, 7, 0, 1, 0⟩,
  ⟨-37, 147456, 9, 3, 7, 0, 1, 0⟩,
  ⟨-1, 147456, 10, 2, 7, 0, 1, 0⟩,
  ⟨1, 2048, 8, 4, 7, 0, 2, 0⟩,
  ⟨1, 1536, 9, 3, 7, 0, 2, 0⟩,
  ⟨1, 6144, 10, 2, 7, 0, 2, 0⟩,
  ⟨-23, 55296, 8, 4, 7, 1, 0, 0⟩,
  ⟨-23, 55296, 9, 3, 7, 1, 0, 0⟩,
  ⟨-1, 147456, 10, 2, 7, 1, 0, 0⟩,
  ⟨1, 256, 8, 4, 7, 1, 1, 0⟩,
  ⟨7, 1536, 9, 3, 7, 1, 1, 0⟩,
  ⟨-83, 169869312, 9, 4, 8, 0, 0, 0⟩,
  ⟨-83, 169869312, 10, 3, 8, 0, 0, 0⟩,
  ⟨-17, 294912, 9, 4, 8, 0, 1, 0⟩,
  ⟨-17, 294912, 10, 3, 8, 0, 1, 0⟩,
  ⟨1, 8192, 9, 4, 8, 0, 2, 0⟩,
  ⟨1, 8192, 10, 3, 8, 0, 2, 0⟩,
  ⟨-1, 24576, 11, 2, 8, 0, 2, 0⟩,
  ⟨-1, 13824, 9, 4, 8, 1, 0, 0⟩,
  ⟨-1, 13824, 10, 3, 8, 1, 0, 0⟩,
  ⟨-1, 1024, 9, 4, 8, 1, 1, 0⟩,
  ⟨-1, 1024, 10, 3, 8, 1, 1, 0⟩,
  ⟨-1, 6144, 11, 2, 8, 1, 1, 0⟩,
  ⟨1, 256, 10, 3, 8, 1, 2, 0⟩,
  ⟨1, 128, 11, 2, 8, 1, 2, 0⟩,
  ⟨-1, 28311552, 10, 4, 9, 0, 0, 0⟩,
  ⟨-1, 28311552, 11, 3, 9, 0, 0, 0⟩,
  ⟨-13, 1572864, 10, 4, 9, 0, 1, 0⟩,
  ⟨-13, 1572864, 11, 3, 9, 0, 1, 0⟩,
  ⟨-5, 49152, 10, 4, 9, 0, 2, 0⟩,
  ⟨-5, 49152, 11, 3, 9, 0, 2, 0⟩,
  ⟨-5, 589824, 10, 4, 9, 1, 0, 0⟩,
  ⟨-5, 589824, 11, 3, 9, 1, 0, 0⟩,
  ⟨-1, 1536, 10, 4, 9, 1, 1, 0⟩,
  ⟨-1, 1536, 11, 3, 9, 1, 1, 0⟩,
  ⟨3, 256, 10, 4, 9, 1, 2, 0⟩,
  ⟨3, 256, 11, 3, 9, 1, 2, 0⟩,
  ⟨-1, 1024, 12, 2, 9, 1, 2, 0⟩,
  ⟨-1, 679477248, 11, 4, 10, 0, 0, 0⟩,
  ⟨-1, 679477248, 12, 3, 10, 0, 0, 0⟩,
  ⟨-1, 1179648, 11, 4, 10, 0, 1, 0⟩,
  ⟨-1, 1179648, 12, 3, 10, 0, 1, 0⟩,
  ⟨-11, 393216, 11, 4, 10, 0, 2, 0⟩,
  ⟨-11, 393216, 12, 3, 10, 0, 2, 0⟩,
  ⟨-5, 7077888, 11, 4, 10, 1, 0, 0⟩,
  ⟨-5, 7077888, 12, 3, 10, 1, 0, 0⟩,
  ⟨-1, 8192, 11, 4, 10, 1, 1, 0⟩,
  ⟨-1, 8192, 12, 3, 10, 1, 1, 0⟩,
  ⟨-1, 18874368, 12, 4, 11, 0, 1, 0⟩,
  ⟨-1, 18874368, 13, 3, 11, 0, 1, 0⟩,
  ⟨-1, 196608, 12, 4, 11, 0, 2, 0⟩,
  ⟨-1, 196608, 13, 3, 11, 0, 2, 0⟩,
  ⟨1, 98304, 12, 4, 11, 0, 3, 0⟩,
  ⟨1, 98304, 13, 3, 11, 0, 3, 0⟩,
  ⟨-1, 28311552, 12, 4, 11, 1, 0, 0⟩,
  ⟨-1, 28311552, 13, 3, 11, 1, 0, 0⟩,
  ⟨-1, 65536, 12, 4, 11, 1, 1, 0⟩,
  ⟨-1, 65536, 13, 3, 11, 1, 1, 0⟩,
  ⟨-1, 4096, 12, 4, 11, 1, 2, 0⟩,
  ⟨-1, 4096, 13, 3, 11, 1, 2, 0⟩,
  ⟨-1, 1572864, 13, 4, 12, 0, 2, 0⟩,
  ⟨-1, 1572864, 14, 3, 12, 0, 2, 0⟩,
  ⟨-1, 786432, 13, 4, 12, 1, 1, 0⟩,
  ⟨-1, 786432, 14, 3, 12, 1, 1, 0⟩,
  ⟨-1, 16384, 13, 4, 12, 1, 2, 0⟩,
  ⟨-1, 16384, 14, 3, 12, 1, 2, 0⟩,
  ⟨-1, 393216, 14, 4, 13, 0, 3, 0⟩,
  ⟨-1, 393216, 15, 3, 13, 0, 3, 0⟩,
  ⟨-1, 65536, 14, 4, 13, 1, 2, 0⟩,
  ⟨-1, 65536, 15, 3, 13, 1, 2, 0⟩,
  ⟨1, 4096, 14, 4, 13, 1, 3, 0⟩,
  ⟨1, 4096, 15, 3, 13, 1, 3, 0⟩,
  ⟨-1, 16384, 15, 4, 14, 1, 3, 0⟩,
  ⟨-1, 16384, 16, 3, 14, 1, 3, 0⟩]

end Exponax.LinearOrder
end
