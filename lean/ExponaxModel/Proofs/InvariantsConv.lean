import ExponaxModel.Proofs.InvariantsVort
import ExponaxModel.Proofs.ConserveVorticity
/-
C09 (invariants) — single-channel conservative convection `−b·½·Σ_d ∂_d(u²)` does no work on the band-truncated
state, every `D ≥ 1`: the work is the triad sum with weight `Σ_d i s p_d` on the test index, which is additive in `p`
(`Conserve.triS_third_zero`).  The 1-D statement `C09_convection_no_work_grid` is the case `c.D = 1`.
-/
namespace Exponax.Invariants
open Exponax Exponax.Layout Exponax.Transform Exponax.DFT Exponax.Nonlin Exponax.Alias Exponax.AliasND Exponax.Conserve Finset

theorem hermMult_sum_deriv (c : Cfg ℂ) (s : ℝ) (hs : c.s = (s : ℂ)) (r : ℂ) (hr : (starRingEnd ℂ) r = r) :
    HermMult c (fun h => r * ∑ d ∈ range c.D, Nonlin.deriv c d h) (fun p => r * ∑ d ∈ range c.D, dsym c d p) :=
  ⟨fun k => by rw [map_mul, hr, map_sum]; exact congrArg _ (Finset.sum_congr rfl fun d _ => conj_dsym c s hs d k),
    fun h _ _ => congrArg _ (Finset.sum_congr rfl fun d hd => deriv_eq_dsym c d (Finset.mem_range.mp hd) h)⟩

/-- **Conservative single-channel convection does no work, every `D ≥ 1`** (real scales `b`, `s`, real state `x`,
    `û = rfftn x`, cut-off `3·Kc < N`): the term `n = irfftn(N(û))` is orthogonal on the grid to the band-truncated
    state `y = ifft(mask·û) = P_K x`, so `Σ_j y_j²` is conserved by the nonlinear term. -/
theorem convection_no_work_nd (c : Cfg ℂ) (hD : 0 < c.D) (hq : c.fq ≠ 0) (hK : 3 * Kc c < (c.N : ℤ))
    (hN : 0 < c.N) (s : ℝ) (hs : c.s = (s : ℂ)) (b : ℝ) (x : Array ℂ) (hx : IsRealND c.D c.N x) :
    ∑ j ∈ range (c.N ^ c.D), (nifft c (rfftnM c.D c.N x)).getD j 0 *
        (irfftnM c.D c.N ((convection c 1 (b : ℂ) true true #[rfftnM c.D c.N x]).getD 0 #[])).getD j 0
      = 0 := by
  have h2 := two_lt_of_three c.N (Kc c) hK
  have hr : (starRingEnd ℂ) (-(b : ℂ) * (1 / 2)) = -(b : ℂ) * (1 / 2) := by
    rw [show -(b : ℂ) * (1 / 2) = ((-b / 2 : ℝ) : ℂ) by push_cast; ring, Complex.conj_ofReal]
  have hσ := hermMult_sum_deriv c s hs _ hr
  -- the output is `ifft(mask·σ·F[y²])`, `σ_h = −b·½·Σ_d i s k_d(h)`
  have hout : irfftnM c.D c.N ((convection c 1 (b : ℂ) true true #[rfftnM c.D c.N x]).getD 0 #[])
      = mfield c (fun h => -(b : ℂ) * (1 / 2) * ∑ d ∈ range c.D, Nonlin.deriv c d h)
          (rfftnM c.D c.N (tab (c.N ^ c.D) fun j =>
            (nifft c (rfftnM c.D c.N x)).getD j 0 * (nifft c (rfftnM c.D c.N x)).getD j 0)) := by
    refine irfftnM_congr c.D c.N _ _ fun h hh => ?_
    have hM : h < modes c := hh
    rw [← at2, convection_single_conservative_readoff c hN 1 (b : ℂ) _ 0 Nat.zero_lt_one h hh,
      DFT.tab_getD _ _ _ _ hM, DFT.tab_getD _ _ _ _ hM, rfftn_eq_dftV c.D c.N hN _ h hh]
    rw [show (#[rfftnM c.D c.N x] : MC ℂ).getD 0 #[] = rfftnM c.D c.N x from rfl]
    ring
  have hsq : IsRealND c.D c.N (tab (c.N ^ c.D) fun j =>
      (nifft c (rfftnM c.D c.N x)).getD j 0 * (nifft c (rfftnM c.D c.N x)).getD j 0) := fun j hj => by
    rw [DFT.tab_getD _ _ _ _ hj]
    exact mul_im_eq_zero (nifft_isRealND c _ j hj) (nifft_isRealND c _ j hj)
  rw [hout, inner_mfield c hD hq hN h2 hσ _ _ (nifft_bandLimitedV c hq hN _) hsq]
  -- on the box: `Y = X`, `F[y²] = X ⋆ X`; the sum is the triad sum with weight `μ(−p)` on the test index
  -- (`sum_trunc_linConv_eq_triV` with the constant multiplier `1` on the other two slots)
  have hbox : ∀ k ∈ box c.D (Kc c),
      dftV c.D c.N (nifft c (rfftnM c.D c.N x)) (-k) *
        ((-(b : ℂ) * (1 / 2) * ∑ d ∈ range c.D, dsym c d k) *
          dftV c.D c.N (tab (c.N ^ c.D) fun j =>
            (nifft c (rfftnM c.D c.N x)).getD j 0 * (nifft c (rfftnM c.D c.N x)).getD j 0) k)
      = truncV (Kc c) (fun p => (-(b : ℂ) * (1 / 2) * ∑ d ∈ range c.D, dsym c d (-p)) * dftV c.D c.N x p) (-k) *
          linConv c.D c.N (Kc c) (fun p => (fun _ => (1 : ℂ)) p * dftV c.D c.N x p)
            (fun p => (fun _ => (1 : ℂ)) p * dftV c.D c.N x p) k := by
    intro k hk
    have hnk : ∀ d, |(-k) d| ≤ Kc c := mem_box.mp (neg_mem_box hk)
    rw [dftV_nifft_rfftn c hD hq hN h2 x hx _ hnk, ((boxSpec_nifft_rfftn c hD hq hN h2 x hx).dftV_mul (boxSpec_nifft_rfftn c hD hq hN h2 x hx) hN hK k
        (mem_box.mp hk)),
      truncV_of_le _ _ _ hnk, neg_neg]
    simp only [one_mul]
    ring
  rw [Finset.sum_congr rfl hbox, sum_trunc_linConv_eq_triV, triV_congr _ _ _
      (fun p _ _ => -(b : ℂ) * (1 / 2) * ∑ d ∈ range c.D, dsym c d (-p)) fun _ _ _ _ => by rw [mul_one, mul_one]]
  show _ * (_ * triS _ _ _) = 0
  rw [← triS_swap13, triS_third_zero, mul_zero, mul_zero]
  -- the weight is additive in `p`
  intro p q e h
  rw [← mul_add, ← mul_add, ← Finset.sum_add_distrib, ← Finset.sum_add_distrib, Finset.sum_eq_zero, mul_zero]
  intro d _
  rw [dsym_neg, dsym_neg, dsym_neg, dsym_triad c d p q e h]
  ring

end Exponax.Invariants

namespace Exponax.Conserve
open Exponax Exponax.Layout Exponax.Transform Exponax.DFT Exponax.Nonlin Exponax.Alias Exponax.AliasND Finset

/-- non-vacuity of the cut-off hypothesis: `D = 1`, `N = 8`, fraction `2/3` gives `Kc = 1`, `3 < 8` -/
example : 3 * Kc (⟨1, 8, 1, 2, 3⟩ : Cfg ℂ) < ((8 : ℕ) : ℤ) := by decide

end Exponax.Conserve
