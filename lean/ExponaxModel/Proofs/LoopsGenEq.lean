import Mathlib.Tactic
import ExponaxModel.Proofs.LoopsLemmas
import ExponaxModel.Model.Loops
import ExponaxModel.Generated.LoopsGen
/-
The definitions regenerated from `exponax/_utils.py` (`rollout`, `repeat`, `stack_sub_trajectories`) and
`exponax/_repeated_stepper.py` (`Generated/LoopsGen.lean`) are equal to the hand-written model
(`Model/Loops.lean`); `jax.lax.scan` is the fold `Gen.Prelude.lax_scan`.
-/
namespace Exponax.Gen.LoopsGen
open Exponax Exponax.Gen.Prelude Exponax.Loops

theorem generated_loops_pinned : generated_loops =
    ["rollout_noaux", "rollout_aux_constant", "rollout_aux_sequence", "repeat_noaux", "repeat_aux_constant",
     "repeat_aux_sequence", "stack_sub_trajectories", "RepeatedStepper_step_fourier", "RepeatedStepper_dt"] := rfl

variable {S A : Type}

theorem scan_rollout_aux (f : S → A → S) (xs : List A) (u : S) :
    (lax_scan (fun (u : S) (aux : A) => let u_next := f u aux; (u_next, u_next)) u xs).2
      = scanStatesAux f xs u := by
  induction xs generalizing u with
  | nil => rfl
  | cons a as ih =>
    rw [lax_scan, scanStatesAux]
    simp only [ih]

theorem scan_repeat_aux (f : S → A → S) (xs : List A) (u : S) :
    (lax_scan (fun (u : S) (aux : A) => let u_next := f u aux; (u_next, ())) u xs).1 = xs.foldl f u := by
  induction xs generalizing u with
  | nil => rfl
  | cons a as ih =>
    rw [lax_scan, List.foldl_cons]
    simp only [ih]

/-- without `aux` the scan runs over `n` units -/
theorem scan_rollout_noaux (f : S → S) (n : ℕ) (u : S) :
    (lax_scan (fun (u : S) (_ : Unit) => let u_next := f u; (u_next, u_next)) u (List.replicate n ())).2
      = scanStates f n u :=
  (scan_rollout_aux (fun u (_ : Unit) => f u) (List.replicate n ()) u).trans (scanStatesAux_replicate _ () n u)

theorem scan_repeat_noaux (f : S → S) (n : ℕ) (u : S) :
    (lax_scan (fun (u : S) (_ : Unit) => let u_next := f u; (u_next, ())) u (List.replicate n ())).1
      = repeatN f n u :=
  (scan_repeat_aux (fun u (_ : Unit) => f u) (List.replicate n ()) u).trans (foldl_replicate_eq_repeatN _ () n u)

theorem scan_map {X Y : Type} (g : X → Y) (xs : List X) :
    (lax_scan (fun (c_ : Unit) (i : X) => (c_, g i)) () xs).2 = xs.map g := by
  induction xs with
  | nil => rfl
  | cons a as ih =>
    rw [lax_scan, List.map_cons]
    simp only [ih]

/-- **`rollout(f, n, include_init=b)(u0)`** -/
theorem rollout_noaux_eq (f : S → S) (n : ℕ) (b : Bool) : rollout_noaux f n b = Loops.rollout f n b := by
  funext u0
  unfold rollout_noaux Loops.rollout
  simp only [scan_rollout_noaux]
  cases b <;> rfl

/-- **`rollout(f, n, include_init=b, takes_aux=True, constant_aux=True)(u0, a)`** -/
theorem rollout_aux_constant_eq (f : S → A → S) (n : ℕ) (b : Bool) (u0 : S) (a : A) :
    rollout_aux_constant f n b u0 a = some (Loops.rolloutAux f n b true u0 [a]) := by
  unfold rollout_aux_constant Loops.rolloutAux lax_scan_length
  simp only [List.flatMap_singleton, List.length_replicate, if_true, Option.bind_some, scan_rollout_aux,
    List.head?_cons, filterMap_replicate_some]
  cases b <;> rfl

/-- **`rollout(…, takes_aux=True, constant_aux=False)(u0, aux)`** when `aux` has exactly `n` entries
    (the hypothesis is needed: for other lengths `jax.lax.scan(..., length=n)` raises, see `rollout_aux_sequence_none`, whereas
    the model consumes `aux.take n`) -/
theorem rollout_aux_sequence_eq_partial (f : S → A → S) (n : ℕ) (b : Bool) (u0 : S) (aux : List A)
    (h : aux.length = n) :
    rollout_aux_sequence f n b u0 aux = some (Loops.rolloutAux f n b false u0 aux) := by
  unfold rollout_aux_sequence Loops.rolloutAux lax_scan_length
  have ht : aux.take n = aux := by rw [← h]; exact List.take_length
  simp only [h, if_true, Option.bind_some, scan_rollout_aux, Bool.false_eq_true, if_false, ht]
  cases b <;> rfl

theorem rollout_aux_sequence_none (f : S → A → S) (n : ℕ) (b : Bool) (u0 : S) (aux : List A)
    (h : aux.length ≠ n) : rollout_aux_sequence f n b u0 aux = none := by
  unfold rollout_aux_sequence lax_scan_length
  simp [h]

/-- **`repeat(f, n)(u0)`** -/
theorem repeat_noaux_eq (f : S → S) (n : ℕ) : repeat_noaux f n = Loops.repeatN f n := by
  funext u0
  unfold repeat_noaux
  simp only [scan_repeat_noaux]

/-- **`repeat(f, n, takes_aux=True, constant_aux=True)(u0, a)`** -/
theorem repeat_aux_constant_eq (f : S → A → S) (n : ℕ) (u0 : S) (a : A) :
    repeat_aux_constant f n u0 a = some (Loops.repeatAux f n true u0 [a]) := by
  unfold repeat_aux_constant Loops.repeatAux lax_scan_length
  simp only [List.flatMap_singleton, List.length_replicate, if_true, Option.bind_some, scan_repeat_aux, List.head?_cons, filterMap_replicate_some]

/-- **`repeat(…, takes_aux=True, constant_aux=False)(u0, aux)`** when `aux` has exactly `n` entries -/
theorem repeat_aux_sequence_eq_partial (f : S → A → S) (n : ℕ) (u0 : S) (aux : List A) (h : aux.length = n) :
    repeat_aux_sequence f n u0 aux = some (Loops.repeatAux f n false u0 aux) := by
  unfold repeat_aux_sequence Loops.repeatAux lax_scan_length
  have ht : aux.take n = aux := by rw [← h]; exact List.take_length
  simp only [h, if_true, Option.bind_some, scan_repeat_aux, Bool.false_eq_true, if_false, ht]

theorem repeat_aux_sequence_none (f : S → A → S) (n : ℕ) (u0 : S) (aux : List A) (h : aux.length ≠ n) :
    repeat_aux_sequence f n u0 aux = none := by
  unfold repeat_aux_sequence lax_scan_length
  simp [h]

/-- inside the range the clamped start index of `dynamic_slice_in_dim` is the index itself -/
theorem dynamic_slice_in_range (trj : List S) (i k : ℕ) (h : i + k ≤ trj.length) :
    dynamic_slice_in_dim trj i k = (trj.drop i).take k := by
  unfold dynamic_slice_in_dim
  rw [Nat.min_eq_left (by omega)]

/-- **`stack_sub_trajectories(trj, sub_len)`** (including the rejected case) -/
theorem stack_sub_trajectories_eq (trj : List S) (k : ℕ) :
    stack_sub_trajectories trj k = Loops.stackSub trj k := by
  unfold stack_sub_trajectories Loops.stackSub
  simp only [List.map_cons, List.map_nil, List.getD_cons_zero]
  have h1 : ([trj.length] : List ℕ).eraseDups.length = 1 := by simp [List.eraseDups_cons]
  simp only [h1, ne_eq, not_true_eq_false, if_false, Option.bind_some]
  by_cases hk : k > trj.length
  · simp [hk]
  · simp only [hk, if_false]
    have hn : Int.toNat ((trj.length : ℤ) - (k : ℤ) + 1) = trj.length - k + 1 := by omega
    rw [hn, scan_map (fun i => dynamic_slice_in_dim trj i k)]
    congr 1
    apply List.map_congr_left
    intro i hi
    have hi' : i < trj.length - k + 1 := List.mem_range.mp hi
    exact dynamic_slice_in_range trj i k (by omega)

/-- **`RepeatedStepper.step_fourier`** -/
theorem RepeatedStepper_step_fourier_eq (stepFourier : S → S) (numSubSteps : ℕ) (uHat : S) :
    RepeatedStepper_step_fourier numSubSteps stepFourier uHat
      = Loops.repeatedStepFourier stepFourier numSubSteps uHat := by
  unfold RepeatedStepper_step_fourier Loops.repeatedStepFourier
  exact congrFun (repeat_noaux_eq _ _) _

/-- **`RepeatedStepper.dt`** -/
theorem RepeatedStepper_dt_eq {K : Type} [Mul K] [NatCast K] (dt : K) (numSubSteps : ℕ) :
    RepeatedStepper_dt dt numSubSteps = Loops.repeatedDt dt numSubSteps := rfl

end Exponax.Gen.LoopsGen
