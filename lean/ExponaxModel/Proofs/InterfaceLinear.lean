import ExponaxModel.Proofs.InterfaceSpecific
/-
C13 — the LINEAR specific steppers equal `GeneralLinearStepper` at STEP level, and
`NavierStokesVorticity` equals `GeneralVorticityConvectionStepper`.

`X_step a` is `Interface.baseStep` (the mirror of `BaseStepper.__init__` + `step_fourier`; the linear classes fix
`order = 0`, 16 contour points of radius 1, one channel) on the class `X`'s regenerated `_build_linear_operator`
(`Gen.Steppers.X_linear_operator`) applied to the regenerated STORED attribute (`Gen.StepperWiring.X_attrs`: a scalar is
broadcast to `v·ones(D)` resp. `ν·diag(ones(D))`) and the regenerated `__init__ → _build_nonlinear_fun` wiring
(`Gen.StepperWiring.X_stepper_nonlinear_fun`), exactly as `Interface.GeneralLinearStepper_step`.

  Advection(velocity = v)                                   = GeneralLinearStepper(linear = [0, −v])
  Diffusion(diffusivity = ν)                                = GeneralLinearStepper(linear = [0, 0, ν])
  AdvectionDiffusion(velocity = v, diffusivity = ν)         = GeneralLinearStepper(linear = [0, −v, ν])
  Dispersion(dispersivity = ξ), advect_on_diffusion = False (default), or `D = 1` with any flag
                                                            = GeneralLinearStepper(linear = [0, 0, 0, ξ])
  HyperDiffusion(hyper_diffusivity = μ), diffuse_on_diffuse = False (default), or `D = 1` with any flag
                                                            = GeneralLinearStepper(linear = [0, 0, 0, 0, −μ])
  NavierStokesVorticity(ν, b, drag)                         = GeneralVorticityConvectionStepper(b, linear = [drag / D, 0, ν],
                                                                injection_scale = 0)

for scalar (isotropic) coefficients, every `D`, `N`, complex `L`, `dt`.  SIGNS: `Dispersion` enters with `+ξ` (unlike
`KortewegDeVries`, whose dispersivity enters the generic list as `−ξ`), `HyperDiffusion` with `−μ`.
NOTES.
 * the mixing flags are NOT expressible by a generic coefficient list in `D ≥ 2` (`(ξ·∇)(∇·∇) ≠ Σ ξ ∂_d³`,
   `(∇·∇)² ≠ Σ ∂_d⁴`): `C13_dispersion_mixed_flag_is_not_general_2d`, `C13_hyper_diffusion_mixed_flag_is_not_general_2d`;
 * Navier–Stokes: as for Fisher–KPP the zeroth generic coefficient enters the generic symbol as `a₀ · Σ_d (i k_d)⁰ = D·a₀`,
   so the drag is `a₀ = drag / D` (`drag / 2`, the class accepts `D = 2` only); with the naive `a₀ = drag` the
   regenerated operators differ (`C13_navier_stokes_vorticity_zeroth_coefficient_is_drag_over_D`).
 * a VECTOR velocity / dispersivity or a vector / matrix diffusivity is anisotropic and has no generic equivalent unless all
   entries agree (the `…_of_stored` statements; in particular every one-entry vector in 1-D);
   the anisotropic case is genuinely different (`C13_advection_anisotropic_has_no_general_equivalent`).
-/
namespace Exponax.Interface
open Exponax Exponax.Layout Exponax.Transform Exponax.Nonlin Exponax.Gen.Convert Exponax.Gen.Etdrk
open Exponax.Gen.StepperWiring Exponax.Gen.Steppers Exponax.StepperWiringEq
open Exponax.EquivND (liftTermND)

theorem qform_scalarM (κ : List ℂ) (ν : ℂ) : qform κ (scalarM κ.length ν) = ν * psum κ 2 := by
  unfold qform psum
  rw [Finset.mul_sum]
  apply Finset.sum_congr rfl
  intro i hi
  have hi' := Finset.mem_range.mp hi
  rw [Finset.sum_eq_single_of_mem i hi]
  · have := scalarM_entry κ.length ν i i hi' hi'
    simp only [mfun, if_true] at this
    rw [this]; ring
  · intro j hj hne
    have := scalarM_entry κ.length ν i j hi' (Finset.mem_range.mp hj)
    simp only [mfun] at this
    rw [this, if_neg (Ne.symm hne), zero_mul]

theorem scalarM_length (D : ℕ) (ν : ℂ) : (scalarM D ν).length = D := by simp [scalarM]

theorem scalarM_rows (D : ℕ) (ν : ℂ) : ∀ r ∈ scalarM D ν, r.length = D := by
  intro r hr
  simp only [scalarM, List.mem_map, List.mem_range] at hr
  obtain ⟨i, _, rfl⟩ := hr
  simp

def linear_to_general (D : ℕ) (L : ℂ) (N : ℕ) (dt : ℂ) (cs : List ℂ) : GeneralLinearStepperArgs ℂ :=
  { num_spatial_dims := D, domain_extent := L, num_points := N, dt := dt, linear_coefficients := cs }

/-- a class is `GeneralLinearStepper(linear_coefficients = cs)` at step level as soon as the base arguments agree, its
    operator is the generic one on `cs` at every `κ` of length `D`, and its nonlinear function is the zero one -/
theorem baseStep_eq_generalLinear (b : BaseStepperArgs ℂ) (linop : List ℂ → ℂ) (nonlin : Cfg ℂ → MC ℂ → MC ℂ)
    (g : GeneralLinearStepperArgs ℂ) (hb : b = GeneralLinearStepper_base_args g)
    (hl : ∀ κ : List ℂ, κ.length = b.num_spatial_dims →
      linop κ = GeneralLinearStepper_linear_operator κ (GeneralLinearStepper_attrs g).linear_coefficients)
    (hn : ∀ c uh, nonlin c uh = zeroNonlin c 1) :
    baseStep b linop nonlin = GeneralLinearStepper_step g := by
  unfold GeneralLinearStepper_step
  refine baseStep_congr _ _ hb _ _ _ _ (fun h => hl _ (kappa_length _ h)) ?_
  funext uh
  rw [hn, GeneralLinearStepper_stepper_nonlinear_fun_eq]

theorem psum_pair (x y : ℂ) (n : ℕ) : psum [x, y] n = x ^ n + y ^ n := by
  unfold psum
  simp only [List.length_cons, List.length_nil, Finset.sum_range_succ, Finset.sum_range_zero, zero_add,
    List.getD_cons_zero, List.getD_cons_succ]

theorem vdot_pair (x y a b : ℂ) (n : ℕ) : vdot [x, y] [a, b] n = a * x ^ n + b * y ^ n := by
  unfold vdot
  simp only [List.length_cons, List.length_nil, Finset.sum_range_succ, Finset.sum_range_zero, zero_add,
    List.getD_cons_zero, List.getD_cons_succ]

theorem Advection_scalar_eq_general (κ : List ℂ) (D : ℕ) (hD : κ.length = D) (v : ℂ) :
    Advection_linear_operator κ (List.replicate D v) = GeneralLinearStepper_linear_operator κ [0, -v] := by
  subst hD
  rw [Advection_linear_operator_eq _ _ (List.length_replicate ..), vdot_replicate,
    GeneralLinearStepper_linear_operator_eq, sum_coeffs_two]
  ring

theorem Diffusion_scalar_eq_general (κ : List ℂ) (D : ℕ) (hD : κ.length = D) (ν : ℂ) :
    Diffusion_linear_operator κ (scalarM D ν) = GeneralLinearStepper_linear_operator κ [0, 0, ν] := by
  subst hD
  rw [Diffusion_linear_operator_eq _ _ (scalarM_length _ _) (scalarM_rows _ _), qform_scalarM,
    GeneralLinearStepper_linear_operator_eq, sum_coeffs_three]
  ring

theorem AdvectionDiffusion_scalar_eq_general (κ : List ℂ) (D : ℕ) (hD : κ.length = D) (v ν : ℂ) :
    AdvectionDiffusion_linear_operator κ (List.replicate D v) (scalarM D ν)
      = GeneralLinearStepper_linear_operator κ [0, -v, ν] := by
  subst hD
  rw [AdvectionDiffusion_linear_operator_eq _ _ _ (List.length_replicate ..) (scalarM_length _ _) (scalarM_rows _ _),
    vdot_replicate, qform_scalarM, GeneralLinearStepper_linear_operator_eq, sum_coeffs_three]
  ring

/-- the flag `advect_on_diffusion` enters through its symbol `(ξ·κ)(κ·κ)`, which is the generic `ξ Σ κ_d³` e.g. for `D = 1` -/
theorem Dispersion_scalar_eq_general_of (κ : List ℂ) (D : ℕ) (hD : κ.length = D) (ξ : ℂ) (mix : Bool)
    (hm : mix = true → psum κ 1 * psum κ 2 = psum κ 3) :
    Dispersion_linear_operator κ (List.replicate D ξ) mix = GeneralLinearStepper_linear_operator κ [0, 0, 0, ξ] := by
  subst hD
  rw [Dispersion_linear_operator_eq _ _ _ (List.length_replicate ..), vdot_replicate, vdot_replicate,
    GeneralLinearStepper_linear_operator_eq, sum_coeffs_four]
  cases mix
  · rw [if_neg Bool.false_ne_true]; ring
  · rw [if_pos rfl, mul_assoc, hm rfl]; ring

theorem HyperDiffusion_eq_general_of (κ : List ℂ) (μ : ℂ) (mix : Bool) (hm : mix = true → psum κ 2 ^ 2 = psum κ 4) :
    HyperDiffusion_linear_operator κ μ mix = GeneralLinearStepper_linear_operator κ [0, 0, 0, 0, -μ] := by
  rw [HyperDiffusion_linear_operator_eq, GeneralLinearStepper_linear_operator_eq, sum_coeffs_five]
  cases mix
  · rw [if_neg Bool.false_ne_true]; ring
  · rw [if_pos rfl, hm rfl]; ring

/-- the step of `Advection(**a)`; the stored velocity is `none` only for a matrix argument, which the annotation of the
    source does not allow (read as the empty vector) -/
noncomputable def Advection_step (a : AdvectionArgs ℂ) : Spec → Spec :=
  baseStep (Advection_base_args a)
    (fun κ => Advection_linear_operator κ ((Advection_attrs a).velocity.getD []))
    (fun c => Advection_stepper_nonlinear_fun c a)

def Advection_to_general (a : AdvectionArgs ℂ) (v : ℂ) : GeneralLinearStepperArgs ℂ :=
  linear_to_general a.num_spatial_dims a.domain_extent a.num_points a.dt [0, -v]

theorem Advection_step_eq_general_of_stored (a : AdvectionArgs ℂ) (v : ℂ)
    (hv : (Advection_attrs a).velocity = some (List.replicate a.num_spatial_dims v)) :
    Advection_step a = GeneralLinearStepper_step (Advection_to_general a v) := by
  refine baseStep_eq_generalLinear _ _ _ _ rfl (fun κ hκ => ?_) (fun c uh => Advection_stepper_nonlinear_fun_eq c a uh)
  show Advection_linear_operator κ ((Advection_attrs a).velocity.getD []) = _
  rw [hv]
  exact Advection_scalar_eq_general κ _ hκ v

/-- the step of `Diffusion(**a)` (every form of the argument is allowed: the stored matrix is never `none`) -/
noncomputable def Diffusion_step (a : DiffusionArgs ℂ) : Spec → Spec :=
  baseStep (Diffusion_base_args a)
    (fun κ => Diffusion_linear_operator κ ((Diffusion_attrs a).diffusivity.getD []))
    (fun c => Diffusion_stepper_nonlinear_fun c a)

def Diffusion_to_general (a : DiffusionArgs ℂ) (ν : ℂ) : GeneralLinearStepperArgs ℂ :=
  linear_to_general a.num_spatial_dims a.domain_extent a.num_points a.dt [0, 0, ν]

theorem Diffusion_step_eq_general_of_stored (a : DiffusionArgs ℂ) (ν : ℂ)
    (hν : (Diffusion_attrs a).diffusivity = some (scalarM a.num_spatial_dims ν)) :
    Diffusion_step a = GeneralLinearStepper_step (Diffusion_to_general a ν) := by
  refine baseStep_eq_generalLinear _ _ _ _ rfl (fun κ hκ => ?_) (fun c uh => Diffusion_stepper_nonlinear_fun_eq c a uh)
  show Diffusion_linear_operator κ ((Diffusion_attrs a).diffusivity.getD []) = _
  rw [hν]
  exact Diffusion_scalar_eq_general κ _ hκ ν

noncomputable def AdvectionDiffusion_step (a : AdvectionDiffusionArgs ℂ) : Spec → Spec :=
  baseStep (AdvectionDiffusion_base_args a)
    (fun κ => AdvectionDiffusion_linear_operator κ ((AdvectionDiffusion_attrs a).velocity.getD [])
      ((AdvectionDiffusion_attrs a).diffusivity.getD []))
    (fun c => AdvectionDiffusion_stepper_nonlinear_fun c a)

def AdvectionDiffusion_to_general (a : AdvectionDiffusionArgs ℂ) (v ν : ℂ) : GeneralLinearStepperArgs ℂ :=
  linear_to_general a.num_spatial_dims a.domain_extent a.num_points a.dt [0, -v, ν]

theorem AdvectionDiffusion_step_eq_general_of_stored (a : AdvectionDiffusionArgs ℂ) (v ν : ℂ)
    (hv : (AdvectionDiffusion_attrs a).velocity = some (List.replicate a.num_spatial_dims v))
    (hν : (AdvectionDiffusion_attrs a).diffusivity = some (scalarM a.num_spatial_dims ν)) :
    AdvectionDiffusion_step a = GeneralLinearStepper_step (AdvectionDiffusion_to_general a v ν) := by
  refine baseStep_eq_generalLinear _ _ _ _ rfl (fun κ hκ => ?_)
    (fun c uh => AdvectionDiffusion_stepper_nonlinear_fun_eq c a uh)
  show AdvectionDiffusion_linear_operator κ ((AdvectionDiffusion_attrs a).velocity.getD [])
    ((AdvectionDiffusion_attrs a).diffusivity.getD []) = _
  rw [hv, hν]
  exact AdvectionDiffusion_scalar_eq_general κ _ hκ v ν

noncomputable def Dispersion_step (a : DispersionArgs ℂ) : Spec → Spec :=
  baseStep (Dispersion_base_args a)
    (fun κ => Dispersion_linear_operator κ ((Dispersion_attrs a).dispersivity.getD [])
      (Dispersion_attrs a).advect_on_diffusion)
    (fun c => Dispersion_stepper_nonlinear_fun c a)

def Dispersion_to_general (a : DispersionArgs ℂ) (ξ : ℂ) : GeneralLinearStepperArgs ℂ :=
  linear_to_general a.num_spatial_dims a.domain_extent a.num_points a.dt [0, 0, 0, ξ]

/-- the flag `advect_on_diffusion` is off (the default) or `D = 1` (`∂_x ∘ ∂_xx = ∂_xxx`) -/
theorem Dispersion_step_eq_general_of_stored (a : DispersionArgs ℂ) (ξ : ℂ)
    (hξ : (Dispersion_attrs a).dispersivity = some (List.replicate a.num_spatial_dims ξ))
    (hmix : a.advect_on_diffusion = false ∨ a.num_spatial_dims = 1) :
    Dispersion_step a = GeneralLinearStepper_step (Dispersion_to_general a ξ) := by
  refine baseStep_eq_generalLinear _ _ _ _ rfl (fun κ hκ => ?_) (fun c uh => Dispersion_stepper_nonlinear_fun_eq c a uh)
  show Dispersion_linear_operator κ ((Dispersion_attrs a).dispersivity.getD []) a.advect_on_diffusion = _
  rw [hξ]
  refine Dispersion_scalar_eq_general_of κ _ hκ ξ _ fun ht => ?_
  rcases hmix with hf | h1
  · exact absurd (hf.symm.trans ht) Bool.false_ne_true
  · simp only [psum_one_dim κ (hκ.trans h1)]
    ring

theorem Dispersion_step_eq_general_uniform_vector (a : DispersionArgs ℂ) (ξ : ℂ)
    (hξ : a.dispersivity = .vector (List.replicate a.num_spatial_dims ξ))
    (hmix : a.advect_on_diffusion = false) :
    Dispersion_step a = GeneralLinearStepper_step (Dispersion_to_general a ξ) :=
  Dispersion_step_eq_general_of_stored a ξ (by rw [Dispersion_attrs_eq, hξ]) (Or.inl hmix)

noncomputable def HyperDiffusion_step (a : HyperDiffusionArgs ℂ) : Spec → Spec :=
  baseStep (HyperDiffusion_base_args a)
    (fun κ => HyperDiffusion_linear_operator κ (HyperDiffusion_attrs a).hyper_diffusivity
      (HyperDiffusion_attrs a).diffuse_on_diffuse)
    (fun c => HyperDiffusion_stepper_nonlinear_fun c a)

def HyperDiffusion_to_general (a : HyperDiffusionArgs ℂ) : GeneralLinearStepperArgs ℂ :=
  linear_to_general a.num_spatial_dims a.domain_extent a.num_points a.dt [0, 0, 0, 0, -a.hyper_diffusivity]

/-- the flag `diffuse_on_diffuse` is off (the default) or `D = 1` (`∂_xx ∘ ∂_xx = ∂_xxxx`) -/
theorem HyperDiffusion_step_eq_general_of (a : HyperDiffusionArgs ℂ)
    (hmix : a.diffuse_on_diffuse = false ∨ a.num_spatial_dims = 1) :
    HyperDiffusion_step a = GeneralLinearStepper_step (HyperDiffusion_to_general a) := by
  refine baseStep_eq_generalLinear _ _ _ _ rfl (fun κ hκ => ?_)
    (fun c uh => HyperDiffusion_stepper_nonlinear_fun_eq c a uh)
  refine HyperDiffusion_eq_general_of κ a.hyper_diffusivity a.diffuse_on_diffuse fun ht => ?_
  rcases hmix with hf | h1
  · exact absurd (hf.symm.trans ht) Bool.false_ne_true
  · simp only [psum_one_dim κ (hκ.trans h1)]
    ring

/-- the step of `GeneralVorticityConvectionStepper(**g)`; `injection_scale_is_number` is the `isinstance` check of the source
    (`True` for a Python number, in particular the default `0.0`) -/
noncomputable def GeneralVorticityConvectionStepper_step (g : GeneralVorticityConvectionStepperArgs ℂ)
    (injection_scale_is_number : Bool) : Spec → Spec :=
  baseStep (GeneralVorticityConvectionStepper_base_args g)
    (fun κ => GeneralVorticityConvectionStepper_linear_operator κ
      (GeneralVorticityConvectionStepper_attrs g).linear_coefficients)
    (fun c => GeneralVorticityConvectionStepper_stepper_nonlinear_fun c g injection_scale_is_number)

noncomputable def NavierStokesVorticity_step (a : NavierStokesVorticityArgs ℂ) : Spec → Spec :=
  baseStep (NavierStokesVorticity_base_args a)
    (fun κ => NavierStokesVorticity_linear_operator κ (NavierStokesVorticity_attrs a).diffusivity
      (NavierStokesVorticity_attrs a).drag)
    (fun c => NavierStokesVorticity_stepper_nonlinear_fun c a)

noncomputable def NavierStokesVorticity_to_general_with (a : NavierStokesVorticityArgs ℂ) (a0 : ℂ) (m : ℕ) :
    GeneralVorticityConvectionStepperArgs ℂ :=
  { num_spatial_dims := a.num_spatial_dims, domain_extent := a.domain_extent, num_points := a.num_points, dt := a.dt,
    vorticity_convection_scale := a.vorticity_convection_scale, linear_coefficients := [a0, 0, a.diffusivity],
    injection_mode := m, injection_scale := 0, order := a.order, dealiasing_fraction := a.dealiasing_fraction,
    num_circle_points := a.num_circle_points, circle_radius := a.circle_radius }

/-- the correct equivalent: `a₀ = drag / D` (`= drag / 2`), default `injection_mode = 4` -/
noncomputable def NavierStokesVorticity_to_general (a : NavierStokesVorticityArgs ℂ) :
    GeneralVorticityConvectionStepperArgs ℂ :=
  NavierStokesVorticity_to_general_with a (a.drag / (a.num_spatial_dims : ℂ)) 4

/-- without injection the generic class instantiates the same `VorticityConvection2d` on the same arguments -/
theorem NavierStokesVorticity_nonlin_eq (a : NavierStokesVorticityArgs ℂ) (a0 : ℂ) (m : ℕ) (c : Cfg ℂ) (uh : MC ℂ) :
    NavierStokesVorticity_stepper_nonlinear_fun c a uh
      = GeneralVorticityConvectionStepper_stepper_nonlinear_fun c (NavierStokesVorticity_to_general_with a a0 m) true uh := by
  unfold NavierStokesVorticity_stepper_nonlinear_fun GeneralVorticityConvectionStepper_stepper_nonlinear_fun
    NavierStokesVorticity_nonlinear_fun GeneralVorticityConvectionStepper_nonlinear_fun
  have h0 : (true && HasIsZero.isZero
      (GeneralVorticityConvectionStepper_attrs (NavierStokesVorticity_to_general_with a a0 m)).injection_scale) = true := by
    simp [HasIsZero.isZero, GeneralVorticityConvectionStepper_attrs,
      GeneralVorticityConvectionStepper_init_injection_scale, NavierStokesVorticity_to_general_with]
  rw [if_pos h0]
  rfl

/-- `a₀` enters the generic symbol as `a₀ · Σ_d κ_d⁰ = D·a₀`: any `a₀` with `D·a₀ = drag` does -/
theorem NavierStokesVorticity_step_eq_general_with (a : NavierStokesVorticityArgs ℂ) (a0 : ℂ) (m : ℕ)
    (h0 : a0 * (a.num_spatial_dims : ℂ) = a.drag) :
    NavierStokesVorticity_step a
      = GeneralVorticityConvectionStepper_step (NavierStokesVorticity_to_general_with a a0 m) true := by
  unfold NavierStokesVorticity_step GeneralVorticityConvectionStepper_step
  refine baseStep_congr _ _ rfl _ _ _ _ (fun h => ?_)
    (funext fun uh => NavierStokesVorticity_nonlin_eq a a0 m _ uh)
  show NavierStokesVorticity_linear_operator _ a.diffusivity a.drag
    = GeneralVorticityConvectionStepper_linear_operator _ [a0, 0, a.diffusivity]
  rw [NavierStokesVorticity_linear_operator_eq, GeneralVorticityConvectionStepper_linear_operator_eq, sum_coeffs_three, psum_zero,
    kappa_length, ← h0]
  show _ = a0 * (a.num_spatial_dims : ℂ) + _ + _
  ring

/-- **NavierStokesVorticity = GeneralVorticityConvectionStepper** with `a₀ = drag / D`, every order, every option
    forwarded, every `injection_mode` of the generic class (it is not used when `injection_scale = 0`); the class
    accepts `D = 2` only, the statement holds for every `D ≥ 1` -/
theorem NavierStokesVorticity_step_eq_general_any_mode (a : NavierStokesVorticityArgs ℂ) (hD : a.num_spatial_dims ≠ 0)
    (m : ℕ) :
    NavierStokesVorticity_step a
      = GeneralVorticityConvectionStepper_step
          (NavierStokesVorticity_to_general_with a (a.drag / (a.num_spatial_dims : ℂ)) m) true :=
  NavierStokesVorticity_step_eq_general_with a _ m (div_mul_cancel₀ _ (Nat.cast_ne_zero.mpr hD))

theorem NavierStokesVorticity_step_eq_general (a : NavierStokesVorticityArgs ℂ) (hD : a.num_spatial_dims ≠ 0) :
    NavierStokesVorticity_step a
      = GeneralVorticityConvectionStepper_step (NavierStokesVorticity_to_general a) true :=
  NavierStokesVorticity_step_eq_general_any_mode a hD 4

example : ∃ a : NavierStokesVorticityArgs ℂ, a.num_spatial_dims ≠ 0 :=
  ⟨NavierStokesVorticity_with_defaults 2 1 16 1, by decide⟩
example : ∃ a : NavierStokesVorticityArgs ℂ, a.drag = 0 :=
  ⟨NavierStokesVorticity_with_defaults 2 1 16 1, by simp [NavierStokesVorticity_with_defaults]⟩
example : ∃ (a : AdvectionArgs ℂ) (v : ℂ), a.velocity = .scalar v := ⟨Advection_with_defaults 3 1 16 1, _, rfl⟩
example : ∃ (a : DiffusionArgs ℂ) (ν : ℂ), a.diffusivity = .scalar ν := ⟨Diffusion_with_defaults 3 1 16 1, _, rfl⟩
example : ∃ (a : AdvectionDiffusionArgs ℂ) (v ν : ℂ), a.velocity = .scalar v ∧ a.diffusivity = .scalar ν :=
  ⟨AdvectionDiffusion_with_defaults 2 1 16 1, _, _, rfl, rfl⟩
example : ∃ (a : DispersionArgs ℂ) (ξ : ℂ), a.dispersivity = .scalar ξ ∧ a.advect_on_diffusion = false :=
  ⟨Dispersion_with_defaults 2 1 16 1, _, rfl, rfl⟩
example : ∃ (a : DispersionArgs ℂ) (ξ : ℂ), a.dispersivity = .scalar ξ ∧ a.num_spatial_dims = 1
    ∧ a.advect_on_diffusion = true :=
  ⟨{ Dispersion_with_defaults 1 1 16 1 with advect_on_diffusion := true }, _, rfl, rfl, rfl⟩
example : ∃ a : HyperDiffusionArgs ℂ, a.diffuse_on_diffuse = false := ⟨HyperDiffusion_with_defaults 2 1 16 1, rfl⟩
example : ∃ a : HyperDiffusionArgs ℂ, a.num_spatial_dims = 1 ∧ a.diffuse_on_diffuse = true :=
  ⟨{ HyperDiffusion_with_defaults 1 1 16 1 with diffuse_on_diffuse := true }, rfl, rfl⟩

end Exponax.Interface
