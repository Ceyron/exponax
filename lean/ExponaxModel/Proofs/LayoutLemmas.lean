import Mathlib.Tactic
import Mathlib.Data.Int.ModEq
import Mathlib.Data.Nat.Sqrt
import Mathlib.Analysis.Real.Sqrt
import Mathlib.Algebra.BigOperators.Group.List.Basic
import ExponaxModel.Model.Layout
/-
The integer and index logic of `exponax/_spectral.py` and `exponax/_utils.py` as modelled in
`ExponaxModel/Model/Layout.lean`: wavenumbers, masks, radial bins, mode blocks, shapes, flat
indices and scaling arrays, for all `N`.
-/
namespace Exponax.Layout

theorem fftfreq_modEq (N i : ℕ) : fftfreq N i ≡ (i : ℤ) [ZMOD (N : ℤ)] := by
  unfold fftfreq
  split_ifs
  · exact Int.ModEq.refl _
  · exact (Int.modEq_iff_dvd.2 ⟨1, by ring⟩)

theorem fftfreq_lower (N i : ℕ) (hi : i < N) :
    -((N / 2 : ℕ) : ℤ) ≤ fftfreq N i := by
  unfold fftfreq
  split_ifs <;> omega

theorem fftfreq_upper (N i : ℕ) (hi : i < N) :
    fftfreq N i ≤ (((N - 1) / 2 : ℕ) : ℤ) := by
  unfold fftfreq
  split_ifs <;> omega

theorem fftfreq_bounds_int (N i : ℕ) (hN : 0 < N) (hi : i < N) :
    -((N : ℤ) / 2) ≤ fftfreq N i ∧ fftfreq N i ≤ ((N : ℤ) - 1) / 2 := by
  have h1 := fftfreq_lower N i hi
  have h2 := fftfreq_upper N i hi
  constructor <;> omega

theorem fftfreq_abs_le (N i : ℕ) (hi : i < N) :
    |fftfreq N i| ≤ ((N / 2 : ℕ) : ℤ) :=
  abs_le.2 ⟨fftfreq_lower N i hi, (fftfreq_upper N i hi).trans (by omega)⟩

theorem fftfreq_injOn (N i j : ℕ) (hi : i < N) (hj : j < N)
    (h : fftfreq N i = fftfreq N j) : i = j := by
  unfold fftfreq at h
  split_ifs at h <;> omega

theorem fftfreq_eq_zero_iff (N i : ℕ) (hi : i < N) : fftfreq N i = 0 ↔ i = 0 := by
  unfold fftfreq
  split_ifs <;> omega

theorem fftfreq_nonneg_iff (N i : ℕ) (hi : i < N) : 0 ≤ fftfreq N i ↔ i < (N + 1) / 2 := by
  unfold fftfreq
  split_ifs <;> omega

/-- for even `N` the Nyquist entry carries the *negative* wavenumber `−N/2` -/
theorem fftfreq_nyquist (N : ℕ) (hN : 0 < N) (heven : N % 2 = 0) :
    fftfreq N (N / 2) = -((N / 2 : ℕ) : ℤ) := by
  unfold fftfreq
  split_ifs <;> omega

theorem fftfreq_abs_eq_nyquist_iff (N i : ℕ) (hi : i < N) (heven : N % 2 = 0) :
    |fftfreq N i| = ((N / 2 : ℕ) : ℤ) ↔ i = N / 2 := by
  unfold fftfreq
  split_ifs
  · rw [abs_of_nonneg (by omega)]; omega
  · rw [abs_of_nonpos (by omega)]; omega

theorem fftfreq_abs_le_odd (N i : ℕ) (hi : i < N) (hodd : N % 2 = 1) :
    |fftfreq N i| ≤ (((N - 1) / 2 : ℕ) : ℤ) :=
  (fftfreq_abs_le N i hi).trans (by omega)

def fftfreqInv (N : ℕ) (k : ℤ) : ℕ := if 0 ≤ k then k.toNat else (k + (N : ℤ)).toNat

theorem fftfreqInv_lt (N : ℕ) (k : ℤ) (hN : 0 < N) (hlo : -((N / 2 : ℕ) : ℤ) ≤ k)
    (hhi : k ≤ (((N - 1) / 2 : ℕ) : ℤ)) : fftfreqInv N k < N := by
  unfold fftfreqInv
  split_ifs <;> omega

theorem fftfreq_fftfreqInv (N : ℕ) (k : ℤ) (hN : 0 < N) (hlo : -((N / 2 : ℕ) : ℤ) ≤ k)
    (hhi : k ≤ (((N - 1) / 2 : ℕ) : ℤ)) : fftfreq N (fftfreqInv N k) = k := by
  unfold fftfreqInv fftfreq
  split_ifs <;> omega

theorem fftfreqInv_fftfreq (N i : ℕ) (hi : i < N) : fftfreqInv N (fftfreq N i) = i := by
  unfold fftfreqInv fftfreq
  split_ifs <;> omega

theorem fftfreq_existsUnique (N : ℕ) (k : ℤ) (hN : 0 < N) (hlo : -((N / 2 : ℕ) : ℤ) ≤ k)
    (hhi : k ≤ (((N - 1) / 2 : ℕ) : ℤ)) : ∃! i, i < N ∧ fftfreq N i = k := by
  refine ⟨fftfreqInv N k, ⟨fftfreqInv_lt N k hN hlo hhi, fftfreq_fftfreqInv N k hN hlo hhi⟩, ?_⟩
  rintro j ⟨hj, rfl⟩
  exact (fftfreqInv_fftfreq N j hj).symm

theorem fftfreq_eq_iff (N i : ℕ) (k : ℤ) (hN : 0 < N) (hi : i < N)
    (hlo : -((N / 2 : ℕ) : ℤ) ≤ k) (hhi : k ≤ (((N - 1) / 2 : ℕ) : ℤ)) :
    fftfreq N i = k ↔ (i : ℤ) = if 0 ≤ k then k else k + (N : ℤ) := by
  unfold fftfreq
  split_ifs <;> omega

theorem fftfreq_range_iff (N : ℕ) (k : ℤ) (hN : 0 < N) :
    (∃ i, i < N ∧ fftfreq N i = k) ↔
      -((N / 2 : ℕ) : ℤ) ≤ k ∧ k ≤ (((N - 1) / 2 : ℕ) : ℤ) := by
  constructor
  · rintro ⟨i, hi, rfl⟩
    exact ⟨fftfreq_lower N i hi, fftfreq_upper N i hi⟩
  · rintro ⟨h1, h2⟩
    exact ⟨fftfreqInv N k, fftfreqInv_lt N k hN h1 h2, fftfreq_fftfreqInv N k hN h1 h2⟩

theorem foldl_add_eq_sum (l : List ℤ) : l.foldl (· + ·) 0 = l.sum := List.sum_eq_foldl.symm

theorem normSq_eq_sum (k : List ℤ) : normSq k = (k.map (fun kd => kd ^ 2)).sum := by
  unfold normSq
  rw [foldl_add_eq_sum]
  congr 1
  apply List.map_congr_left
  intro a _
  ring

theorem normSq_nil : normSq [] = 0 := rfl

theorem normSq_cons (a : ℤ) (k : List ℤ) : normSq (a :: k) = a ^ 2 + normSq k := by
  simp [normSq_eq_sum]

theorem normSq_nonneg (k : List ℤ) : 0 ≤ normSq k := by
  induction k with
  | nil => simp [normSq_nil]
  | cons a k ih => rw [normSq_cons]; positivity

theorem normSq_eq_zero_iff (k : List ℤ) : normSq k = 0 ↔ ∀ kd ∈ k, kd = 0 := by
  induction k with
  | nil => simp [normSq_nil]
  | cons a k ih =>
    rw [normSq_cons]
    have h1 := normSq_nonneg k
    have h2 : 0 ≤ a ^ 2 := by positivity
    constructor
    · intro h
      have ha : a ^ 2 = 0 := by omega
      have hk : normSq k = 0 := by omega
      intro kd hkd
      rcases List.mem_cons.1 hkd with rfl | hmem
      · exact pow_eq_zero_iff (by norm_num) |>.1 ha
      · exact ih.1 hk kd hmem
    · intro h
      have ha : a = 0 := h a (by simp)
      have hk : normSq k = 0 := ih.2 (fun kd hkd => h kd (by simp [hkd]))
      rw [ha, hk]; norm_num

theorem absLe_iff (k p q : ℤ) : absLe k p q = true ↔ |k| * q ≤ p := by
  simp [absLe]

theorem lowPassSep_iff (k : List ℤ) (p q : ℤ) :
    lowPassSep k p q = true ↔ ∀ kd ∈ k, |kd| * q ≤ p := by
  simp [lowPassSep, List.all_eq_true, absLe_iff]

theorem lowPassSphere_iff (k : List ℤ) (c : ℤ) :
    lowPassSphere k c = true ↔ 0 ≤ c ∧ (k.map (fun kd => kd ^ 2)).sum ≤ c ^ 2 := by
  have h := normSq_eq_sum k
  unfold normSq at h
  simp only [lowPassSphere, Bool.and_eq_true, decide_eq_true_eq, h, sq]

/-- a sum `s` of wavenumbers, of whatever number of factors, does not alias back onto a
    wavenumber `c` as long as `|s| + |c| < N` -/
theorem no_alias (N : ℕ) (s c : ℤ) (h : |s| + |c| < (N : ℤ)) (hd : (N : ℤ) ∣ s - c) : s = c :=
  sub_eq_zero.1 (Int.eq_zero_of_abs_lt_dvd hd ((abs_sub s c).trans_lt h))

/-- quadratic products of fields band-limited to `|k| ≤ K` with `3K < N` do not alias back -/
theorem no_alias_quadratic (N : ℕ) (K : ℤ) (hK : 3 * K < (N : ℤ)) (a b c : ℤ)
    (ha : |a| ≤ K) (hb : |b| ≤ K) (hc : |c| ≤ K) (hd : (N : ℤ) ∣ (a + b - c)) : a + b = c :=
  no_alias N (a + b) c (by have := abs_add_le a b; omega) hd

/-- cubic products of fields band-limited to `|k| ≤ K` with `4K < N` do not alias back -/
theorem no_alias_cubic (N : ℕ) (K : ℤ) (hK : 4 * K < (N : ℤ)) (a b c d : ℤ)
    (ha : |a| ≤ K) (hb : |b| ≤ K) (hc : |c| ≤ K) (hdd : |d| ≤ K)
    (hd : (N : ℤ) ∣ (a + b + c - d)) : a + b + c = d :=
  no_alias N (a + b + c) d (by have := abs_add_three a b c; omega) hd

theorem dealiasCutoff_two_thirds (N : ℕ) :
    dealiasCutoff N 2 3 = (2 * ((N / 2 : ℕ) : ℤ) - 3, 3) := rfl

theorem dealiasCutoff_half (N : ℕ) :
    dealiasCutoff N 1 2 = (1 * ((N / 2 : ℕ) : ℤ) - 2, 2) := rfl

theorem dealias_two_thirds_no_alias (N : ℕ) (K : ℤ)
    (hK : K * (dealiasCutoff N 2 3).2 ≤ (dealiasCutoff N 2 3).1) :
    ∀ a b c : ℤ, |a| ≤ K → |b| ≤ K → |c| ≤ K → (N : ℤ) ∣ (a + b - c) → a + b = c := by
  simp only [dealiasCutoff] at hK
  exact no_alias_quadratic N K (by omega)

theorem dealias_half_no_alias (N : ℕ) (K : ℤ)
    (hK : K * (dealiasCutoff N 1 2).2 ≤ (dealiasCutoff N 1 2).1) :
    ∀ a b c d : ℤ, |a| ≤ K → |b| ≤ K → |c| ≤ K → |d| ≤ K →
      (N : ℤ) ∣ (a + b + c - d) → a + b + c = d := by
  simp only [dealiasCutoff] at hK
  exact no_alias_cubic N K (by omega)

theorem dealiasMask_iff (N fp fq : ℕ) (k : List ℤ) :
    dealiasMask N fp fq k = true ↔
      ∀ kd ∈ k, |kd| * (fq : ℤ) ≤ (fp : ℤ) * ((N / 2 : ℕ) : ℤ) - (fq : ℤ) := by
  simp [dealiasMask, dealiasCutoff, lowPassSep_iff]

theorem dealiasMask_two_thirds_no_alias (N : ℕ) (k1 k2 k3 : List ℤ)
    (h1 : dealiasMask N 2 3 k1 = true) (h2 : dealiasMask N 2 3 k2 = true)
    (h3 : dealiasMask N 2 3 k3 = true) (a b c : ℤ) (ha : a ∈ k1) (hb : b ∈ k2) (hc : c ∈ k3)
    (hd : (N : ℤ) ∣ (a + b - c)) : a + b = c := by
  rw [dealiasMask_iff] at h1 h2 h3
  have ha' := h1 a ha
  have hb' := h2 b hb
  have hc' := h3 c hc
  exact no_alias N (a + b) c (by have := abs_add_le a b; omega) hd

theorem dealiasMask_half_no_alias (N : ℕ) (k1 k2 k3 k4 : List ℤ)
    (h1 : dealiasMask N 1 2 k1 = true) (h2 : dealiasMask N 1 2 k2 = true)
    (h3 : dealiasMask N 1 2 k3 = true) (h4 : dealiasMask N 1 2 k4 = true) (a b c d : ℤ)
    (ha : a ∈ k1) (hb : b ∈ k2) (hc : c ∈ k3) (hdd : d ∈ k4)
    (hd : (N : ℤ) ∣ (a + b + c - d)) : a + b + c = d := by
  rw [dealiasMask_iff] at h1 h2 h3 h4
  have ha' := h1 a ha
  have hb' := h2 b hb
  have hc' := h3 c hc
  have hd' := h4 d hdd
  exact no_alias N (a + b + c) d (by have := abs_add_three a b c; omega) hd

theorem oddball_odd (N : ℕ) (k : List ℤ) (hodd : N % 2 = 1) : oddball N k = true := by
  simp [oddball, hodd]

theorem oddball_even_iff (N : ℕ) (k : List ℤ) (heven : N % 2 = 0) :
    oddball N k = true ↔ ∀ kd ∈ k, |kd| ≤ ((N / 2 : ℕ) : ℤ) - 1 := by
  have h : ¬ (N % 2 = 1) := by omega
  simp only [oddball, h, if_false, lowPassSep_iff]
  refine forall₂_congr fun kd _ => ?_
  push_cast
  omega

/-- on vectors whose entries satisfy `|k_d| ≤ N/2` (all stored wavenumbers do) the oddball mask of
    an even `N` removes exactly the modes with a Nyquist entry -/
theorem oddball_even_iff_ne_nyquist (N : ℕ) (k : List ℤ) (heven : N % 2 = 0)
    (hk : ∀ kd ∈ k, |kd| ≤ ((N / 2 : ℕ) : ℤ)) :
    oddball N k = true ↔ ∀ kd ∈ k, |kd| ≠ ((N / 2 : ℕ) : ℤ) := by
  rw [oddball_even_iff N k heven]
  refine forall₂_congr fun kd hkd => ?_
  have := hk kd hkd
  omega

theorem inBin_iff (k : List ℤ) (b : ℕ) :
    inBin k b = true ↔
      (2 * (b : ℤ) - 1 ≤ 0 ∨ (2 * (b : ℤ) - 1) ^ 2 ≤ 4 * normSq k) ∧
        4 * normSq k < (2 * (b : ℤ) + 1) ^ 2 := by
  simp [inBin, sq]

/-- no tie at a bin edge: `4‖k‖²` is even, an odd square is odd -/
theorem four_mul_ne_odd_sq (n m : ℤ) : 4 * n ≠ (2 * m + 1) ^ 2 := by
  have h : (2 * m + 1) ^ 2 = 4 * (m * m + m) + 1 := by ring
  rw [h]
  omega

theorem four_normSq_ne_odd_sq (k : List ℤ) (b : ℕ) :
    4 * normSq k ≠ (2 * (b : ℤ) + 1) ^ 2 :=
  four_mul_ne_odd_sq _ _

/-- the half-open bins `[b − ½, b + ½)` and the open bins `(b − ½, b + ½)` coincide on integer
    wavenumber vectors (the only mode of bin 0 is `k = 0`) -/
theorem inBin_iff_strict (k : List ℤ) (b : ℕ) :
    inBin k b = true ↔
      ((2 * (b : ℤ) - 1) ^ 2 < 4 * normSq k ∧ 4 * normSq k < (2 * (b : ℤ) + 1) ^ 2) ∨
        (b = 0 ∧ normSq k = 0) := by
  rw [inBin_iff]
  have hn := normSq_nonneg k
  have hne := four_mul_ne_odd_sq (normSq k) (b - 1)
  rw [show 2 * ((b : ℤ) - 1) + 1 = 2 * b - 1 by ring] at hne
  rcases Nat.eq_zero_or_pos b with rfl | hb
  · simp only [Nat.cast_zero]
    norm_num
    omega
  · have h1 : ¬ (2 * (b : ℤ) - 1 ≤ 0) := by omega
    have h2 : ¬ (b = 0) := by omega
    simp only [h1, h2, false_or, false_and, or_false]
    constructor
    · rintro ⟨h3, h4⟩; exact ⟨lt_of_le_of_ne h3 (Ne.symm hne), h4⟩
    · rintro ⟨h3, h4⟩; exact ⟨le_of_lt h3, h4⟩

/-- bins are disjoint: `b < b'` puts the upper edge of bin `b` at or below the lower edge of `b'` -/
theorem inBin_unique (k : List ℤ) (b b' : ℕ) (h : inBin k b = true) (h' : inBin k b' = true) :
    b = b' := by
  rw [inBin_iff] at h h'
  have key : ∀ {a c : ℕ}, a < c → 4 * normSq k < (2 * (a : ℤ) + 1) ^ 2 →
      ¬ (2 * (c : ℤ) - 1 ≤ 0 ∨ (2 * (c : ℤ) - 1) ^ 2 ≤ 4 * normSq k) := by
    rintro a c hac hup (hlo | hlo)
    · omega
    · exact absurd ((pow_le_pow_left₀ (by omega) (by omega : 2 * (a : ℤ) + 1 ≤ 2 * c - 1) 2).trans
        hlo) (not_le.2 hup)
  rcases Nat.lt_trichotomy b b' with hlt | heq | hlt
  · exact absurd h'.1 (key hlt h.2)
  · exact heq
  · exact absurd h.1 (key hlt h'.2)

/-- the bin of `k` is `round(‖k‖₂) = ⌊(⌊√(4‖k‖²)⌋ + 1)/2⌋` -/
def roundNorm (k : List ℤ) : ℕ := (Nat.sqrt (4 * normSq k).toNat + 1) / 2

/-- with `s = ⌊√(4‖k‖²)⌋` and `b = ⌊(s+1)/2⌋`: `2b − 1 ≤ s` and `s + 1 ≤ 2b + 1`, so the bin edges
    follow from `s² ≤ 4‖k‖² < (s+1)²` by monotonicity of squaring -/
theorem inBin_roundNorm (k : List ℤ) : inBin k (roundNorm k) = true := by
  rw [inBin_iff]
  obtain ⟨M, hM⟩ : ∃ M : ℕ, 4 * normSq k = (M : ℤ) :=
    ⟨_, (Int.toNat_of_nonneg (by have := normSq_nonneg k; omega)).symm⟩
  unfold roundNorm
  rw [hM, Int.toNat_natCast]
  have hs1 : (Nat.sqrt M : ℤ) ^ 2 ≤ M := by exact_mod_cast Nat.sqrt_le' M
  have hs2 : (M : ℤ) < ((Nat.sqrt M : ℤ) + 1) ^ 2 := by exact_mod_cast Nat.lt_succ_sqrt' M
  generalize Nat.sqrt M = s at hs1 hs2
  refine ⟨?_, hs2.trans_le (pow_le_pow_left₀ (by omega) (by omega) 2)⟩
  by_cases h : 2 * (((s + 1) / 2 : ℕ) : ℤ) - 1 ≤ 0
  · exact Or.inl h
  · exact Or.inr ((pow_le_pow_left₀ (by omega) (by omega) 2).trans hs1)

theorem inBin_iff_eq_roundNorm (k : List ℤ) (b : ℕ) : inBin k b = true ↔ b = roundNorm k :=
  ⟨fun h => inBin_unique k b _ h (inBin_roundNorm k), fun h => h ▸ inBin_roundNorm k⟩

theorem inBin_exists (k : List ℤ) : ∃! b, inBin k b = true :=
  ⟨roundNorm k, inBin_roundNorm k, fun b h => (inBin_iff_eq_roundNorm k b).1 h⟩

theorem binOf_eq_some_iff (k : List ℤ) (bound b : ℕ) :
    binOf k bound = some b ↔ inBin k b = true ∧ b ≤ bound := by
  unfold binOf
  rw [List.find?_range_eq_some]
  constructor
  · rintro ⟨h1, h2, _⟩
    exact ⟨h1, by simp at h2; omega⟩
  · rintro ⟨h1, h2⟩
    refine ⟨h1, by simp; omega, ?_⟩
    intro j hj
    by_contra hc
    simp only [Bool.not_eq_true', Bool.not_eq_false] at hc
    have := inBin_unique k j b (by simpa using hc) h1
    omega

theorem binOf_eq_none_iff (k : List ℤ) (bound : ℕ) :
    binOf k bound = none ↔ bound < roundNorm k := by
  constructor
  · intro h
    by_contra hc
    have := (binOf_eq_some_iff k bound (roundNorm k)).2 ⟨inBin_roundNorm k, by omega⟩
    rw [h] at this
    simp at this
  · intro h
    cases hb : binOf k bound with
    | none => rfl
    | some b =>
      obtain ⟨h1, h2⟩ := (binOf_eq_some_iff k bound b).1 hb
      have := (inBin_iff_eq_roundNorm k b).1 h1
      omega

theorem inBin_iff_real (k : List ℤ) (b : ℕ) :
    inBin k b = true ↔
      (b : ℝ) - 1 / 2 ≤ Real.sqrt ((normSq k : ℤ) : ℝ) ∧
        Real.sqrt ((normSq k : ℤ) : ℝ) < (b : ℝ) + 1 / 2 := by
  rw [inBin_iff]
  refine and_congr ?_ ?_
  · rcases Nat.eq_zero_or_pos b with rfl | hb0
    · have := Real.sqrt_nonneg ((normSq k : ℤ) : ℝ)
      rw [Nat.cast_zero]
      exact ⟨fun _ => by linarith, fun _ => Or.inl (by omega)⟩
    · have hb1 : (1 : ℝ) ≤ b := by exact_mod_cast hb0
      rw [Real.le_sqrt' (by linarith), or_iff_right (by omega), ← @Int.cast_le ℝ]
      push_cast
      constructor <;> intro h <;> linarith
  · rw [Real.sqrt_lt' (by positivity), ← @Int.cast_lt ℝ]
    push_cast
    constructor <;> intro h <;> linarith

theorem wn_last (D N : ℕ) (h : List ℕ) (d : ℕ) (hd : d + 1 = D) :
    wn D N h d = (h.getD d 0 : ℤ) := by
  simp [wn, hd, rfftfreq]

theorem wn_leading (D N : ℕ) (h : List ℕ) (d : ℕ) (hd : d + 1 ≠ D) :
    wn D N h d = fftfreq N (h.getD d 0) := by
  simp [wn, hd]

theorem wn_abs_le (D N : ℕ) (h : List ℕ) (d : ℕ)
    (hh : h.getD d 0 < if d + 1 = D then N / 2 + 1 else N) :
    |wn D N h d| ≤ ((N / 2 : ℕ) : ℤ) := by
  by_cases hd : d + 1 = D
  · rw [wn_last D N h d hd]
    simp only [hd, if_true] at hh
    rw [abs_of_nonneg (by positivity)]
    omega
  · rw [wn_leading D N h d hd]
    simp only [hd, if_false] at hh
    exact fftfreq_abs_le N _ hh

theorem wn_abs_eq_nyquist_iff (D N : ℕ) (h : List ℕ) (d : ℕ) (heven : N % 2 = 0)
    (hh : h.getD d 0 < if d + 1 = D then N / 2 + 1 else N) :
    |wn D N h d| = ((N / 2 : ℕ) : ℤ) ↔ h.getD d 0 = N / 2 := by
  by_cases hd : d + 1 = D
  · rw [wn_last D N h d hd, abs_of_nonneg (by positivity)]
    omega
  · rw [wn_leading D N h d hd]
    simp only [hd, if_false] at hh
    exact fftfreq_abs_eq_nyquist_iff N _ hh heven

theorem isSpecial_iff (N : ℕ) (isLast : Bool) (k : ℤ) :
    isSpecial N isLast k = true ↔
      k = 0 ∨ (N % 2 = 0 ∧ k = if isLast = true then ((N / 2 : ℕ) : ℤ) else -((N / 2 : ℕ) : ℤ)) := by
  have hf : Int.fdiv (-(N : ℤ)) 2 = (-(N : ℤ)) / 2 := Int.fdiv_eq_ediv_of_nonneg _ (by norm_num)
  cases isLast
  all_goals simp [isSpecial, hf]
  all_goals omega

theorem isSpecial_wn (D N : ℕ) (h : List ℕ) (d : ℕ)
    (hh : h.getD d 0 < if d + 1 = D then N / 2 + 1 else N) :
    isSpecial N (d + 1 == D) (wn D N h d) = true ↔
      h.getD d 0 = 0 ∨ (N % 2 = 0 ∧ h.getD d 0 = N / 2) := by
  rw [isSpecial_iff]
  by_cases hd : d + 1 = D
  · rw [wn_last D N h d hd]
    simp only [hd, beq_self_eq_true, if_true]
    omega
  · rw [wn_leading D N h d hd]
    simp only [hd, if_false] at hh
    have hbeq : (d + 1 == D) = false := by simpa using hd
    simp only [hbeq, Bool.false_eq_true, if_false]
    rw [fftfreq_eq_zero_iff N _ hh]
    refine or_congr_right (and_congr_right fun he => ?_)
    rw [← fftfreq_nyquist N (by omega) he]
    exact ⟨fun hk => fftfreq_injOn N _ _ hh (by omega) hk, fun hk => by rw [hk]⟩

theorem mem_wnVec (D N : ℕ) (h : List ℕ) (k : ℤ) :
    k ∈ wnVec D N h ↔ ∃ d, d < D ∧ wn D N h d = k := by
  simp [wnVec]

/-- for even `N` the oddball mask removes exactly the stored modes with a Nyquist index on some
    axis -/
theorem oddball_wnVec_even (D N : ℕ) (h : List ℕ) (heven : N % 2 = 0)
    (hh : ∀ d, d < D → h.getD d 0 < if d + 1 = D then N / 2 + 1 else N) :
    oddball N (wnVec D N h) = true ↔ ∀ d, d < D → h.getD d 0 ≠ N / 2 := by
  rw [oddball_even_iff_ne_nyquist N _ heven]
  · constructor
    · intro hk d hd hc
      exact hk _ ((mem_wnVec D N h _).2 ⟨d, hd, rfl⟩)
        ((wn_abs_eq_nyquist_iff D N h d heven (hh d hd)).2 hc)
    · intro hk kd hkd
      obtain ⟨d, hd, rfl⟩ := (mem_wnVec D N h kd).1 hkd
      exact fun hc => hk d hd ((wn_abs_eq_nyquist_iff D N h d heven (hh d hd)).1 hc)
  · intro kd hkd
    obtain ⟨d, hd, rfl⟩ := (mem_wnVec D N h kd).1 hkd
    exact wn_abs_le D N h d (hh d hd)

theorem oddball_wnVec_odd (D N : ℕ) (h : List ℕ) (hodd : N % 2 = 1) :
    oddball N (wnVec D N h) = true := oddball_odd N _ hodd

/-- the position a slice bound `x` resolves to on an axis of length `len`: a negative bound counts
    from the end, and the result is clamped to `[0, len]` -/
def sliceBound (len : ℕ) (x : ℤ) : ℕ := (pySlice len (some x) none).1

theorem pySlice_eq (len : ℕ) (s t : Option ℤ) :
    pySlice len s t = (s.elim 0 (sliceBound len), t.elim len (sliceBound len)) := by
  cases s <;> cases t <;> rfl

theorem sliceBound_natCast (len n : ℕ) : sliceBound len (n : ℤ) = min n len := by
  simp only [sliceBound, pySlice]
  split_ifs <;> omega

theorem sliceBound_neg (len n : ℕ) (hn : 0 < n) : sliceBound len (-(n : ℤ)) = len - min n len := by
  simp only [sliceBound, pySlice]
  split_ifs <;> omega

theorem sliceBound_le (len : ℕ) (x : ℤ) : sliceBound len x ≤ len := by
  simp only [sliceBound, pySlice]
  split_ifs <;> omega

theorem pySlice_none_none (len : ℕ) : pySlice len none none = (0, len) := rfl

theorem pySlice_none_some (len n : ℕ) : pySlice len none (some (n : ℤ)) = (0, min n len) := by
  rw [pySlice_eq, Option.elim_some, sliceBound_natCast, Option.elim_none]

theorem pySlice_someNeg_none (len n : ℕ) (hn : 0 < n) :
    pySlice len (some (-(n : ℤ))) none = (len - min n len, len) := by
  rw [pySlice_eq, Option.elim_some, sliceBound_neg len n hn, Option.elim_none]

/-- `slice(-0, None)` is `slice(0, None)`: the whole axis (*not* the empty tail) -/
theorem pySlice_negZero_none (len : ℕ) : pySlice len (some (-((0 : ℕ) : ℤ))) none = (0, len) := by
  rw [Nat.cast_zero, neg_zero, ← Nat.cast_zero, pySlice_eq, Option.elim_some, sliceBound_natCast,
    Option.elim_none, Nat.zero_min]

theorem pySlice_some_none (len n : ℕ) : pySlice len (some (n : ℤ)) none = (min n len, len) := by
  rw [pySlice_eq, Option.elim_some, sliceBound_natCast, Option.elim_none]

theorem pySlice_none_someNeg (len n : ℕ) (hn : 0 < n) :
    pySlice len none (some (-(n : ℤ))) = (0, len - min n len) := by
  rw [pySlice_eq, Option.elim_some, sliceBound_neg len n hn, Option.elim_none]

theorem pySlice_le (len : ℕ) (s t : Option ℤ) :
    (pySlice len s t).1 ≤ len ∧ (pySlice len s t).2 ≤ len := by
  rw [pySlice_eq]
  cases s <;> cases t <;>
    simp only [Option.elim_none, Option.elim_some, sliceBound_le, Nat.zero_le, le_refl, and_self]

theorem pySlice_left (N : ℕ) :
    pySlice N (if N % 2 = 0 then ((none : Option ℤ), some ((N / 2 : ℕ) : ℤ)) else (none, some (((N / 2 : ℕ) : ℤ) + 1))).1
      (if N % 2 = 0 then ((none : Option ℤ), some ((N / 2 : ℕ) : ℤ)) else (none, some (((N / 2 : ℕ) : ℤ) + 1))).2
      = (0, (N + 1) / 2) := by
  split_ifs with h
  · exact (pySlice_none_some N (N / 2)).trans (by congr 1; omega)
  · exact (pySlice_none_some N (N / 2 + 1)).trans (by congr 1; omega)

theorem pySlice_right (N : ℕ) (hN : 2 ≤ N) :
    pySlice N (some (-((N / 2 : ℕ) : ℤ))) none = ((N + 1) / 2, N) :=
  (pySlice_someNeg_none N (N / 2) (by omega)).trans (by congr 1; omega)

theorem pySlice_last (N : ℕ) :
    pySlice (N / 2 + 1) none (some (((N / 2 : ℕ) : ℤ) + 1)) = (0, N / 2 + 1) :=
  (pySlice_none_some (N / 2 + 1) (N / 2 + 1)).trans (by rw [min_self])

/-- the Python slice objects themselves, e.g. `get_modes_slices(2, 10)` of the docstring -/
theorem modeSlices_two (N : ℕ) : modeSlices 2 N =
    [[if N % 2 = 0 then (none, some ((N / 2 : ℕ) : ℤ)) else (none, some (((N / 2 : ℕ) : ℤ) + 1)),
        (none, some (((N / 2 : ℕ) : ℤ) + 1))],
      [(some (-((N / 2 : ℕ) : ℤ)), none), (none, some (((N / 2 : ℕ) : ℤ) + 1))]] := rfl

theorem modeSlices_prod_length (l r : Option ℤ × Option ℤ) (n : ℕ) :
    (modeSlices.prod l r n).length = 2 ^ n := by
  induction n with
  | zero => rfl
  | succ n ih =>
    simp only [modeSlices.prod, List.length_flatMap, List.length_cons, List.length_nil]
    simp [ih, pow_succ]

theorem modeSlices_length (D N : ℕ) : (modeSlices D N).length = 2 ^ (D - 1) := by
  simp [modeSlices, modeSlices_prod_length]

theorem modeBlocks_length (D N : ℕ) : (modeBlocks D N).length = 2 ^ (D - 1) := by
  simp [modeBlocks, modeSlices_length]

theorem inBlock_cons_iff (c : ℕ × ℕ) (bs : List (ℕ × ℕ)) (x : ℕ) (hs : List ℕ) :
    inBlock (c :: bs) (x :: hs) = true ↔ (c.1 ≤ x ∧ x < c.2) ∧ inBlock bs hs = true := by
  simp [inBlock]

theorem inBlock_append_single_iff (bs : List (ℕ × ℕ)) (hs : List ℕ) (c : ℕ × ℕ) (x : ℕ)
    (hlen : bs.length = hs.length) :
    inBlock (bs ++ [c]) (hs ++ [x]) = true ↔ inBlock bs hs = true ∧ c.1 ≤ x ∧ x < c.2 := by
  simp [inBlock, List.zip_append hlen]

/-- the index range a leading axis contributes: non-negative (`false`) or negative (`true`)
    wavenumbers -/
def signRange (N : ℕ) (neg : Bool) : ℕ × ℕ := if neg then ((N + 1) / 2, N) else (0, (N + 1) / 2)

theorem signRange_snd_le (N : ℕ) (s : Bool) : (signRange N s).2 ≤ N := by
  cases s
  · show (N + 1) / 2 ≤ N
    omega
  · exact le_rfl

theorem mem_signRange (N x : ℕ) (hx : x < N) (s : Bool) :
    ((signRange N s).1 ≤ x ∧ x < (signRange N s).2) ↔ (s = true ↔ fftfreq N x < 0) := by
  have hf := fftfreq_nonneg_iff N x hx
  cases s
  · simp only [signRange, Bool.false_eq_true, if_false, false_iff, not_lt]
    omega
  · simp only [signRange, if_true, true_iff]
    omega

theorem modeBlocks_one (N : ℕ) : modeBlocks 1 N = [[(0, N / 2 + 1)]] :=
  congrArg (fun x => [[x]]) (pySlice_last N)

/-- one more leading axis splits every block in two: its non-negative and its negative
    wavenumbers (`itertools.product` varies the last factor fastest, and each tuple is reversed) -/
theorem modeBlocks_succ (n N : ℕ) (hN : 2 ≤ N) :
    modeBlocks (n + 2) N =
      (modeBlocks (n + 1) N).flatMap fun b => [signRange N false :: b, signRange N true :: b] := by
  have hw : wavenumberShape (n + 2) N = N :: wavenumberShape (n + 1) N := rfl
  unfold modeBlocks modeSlices
  simp only [Nat.add_sub_cancel, show n + 2 - 1 = n + 1 from rfl, modeSlices.prod,
    List.map_flatMap, List.flatMap_map, List.map_cons, List.map_nil, List.reverse_cons,
    List.reverse_append, List.reverse_nil, List.nil_append, List.cons_append, hw,
    List.zip_cons_cons]
  rw [pySlice_left N, pySlice_right N hN]
  rfl

/-- all `D`: the blocks are exactly the sign patterns of the `D − 1` leading axes, each followed
    by the full range of the rfft axis -/
theorem mem_modeBlocks_iff (D N : ℕ) (hD : 1 ≤ D) (hN : 2 ≤ N) (b : List (ℕ × ℕ)) :
    b ∈ modeBlocks D N ↔
      ∃ signs : List Bool, signs.length = D - 1 ∧
        b = signs.map (signRange N) ++ [(0, N / 2 + 1)] := by
  obtain ⟨n, rfl⟩ : ∃ n, D = n + 1 := ⟨D - 1, by omega⟩
  rw [Nat.add_sub_cancel]
  clear hD
  induction n generalizing b with
  | zero =>
    rw [modeBlocks_one, List.mem_singleton]
    exact ⟨fun h => ⟨[], rfl, h⟩, fun ⟨signs, hl, h⟩ => by rw [h, List.length_eq_zero_iff.1 hl]; rfl⟩
  | succ n ih =>
    rw [modeBlocks_succ n N hN, List.mem_flatMap]
    constructor
    · rintro ⟨b', hb', hb⟩
      obtain ⟨signs, hl, rfl⟩ := (ih b').1 hb'
      rcases List.mem_pair.1 hb with rfl | rfl
      · exact ⟨false :: signs, by rw [List.length_cons, hl], rfl⟩
      · exact ⟨true :: signs, by rw [List.length_cons, hl], rfl⟩
    · rintro ⟨signs, hl, rfl⟩
      obtain ⟨s, signs, rfl⟩ := List.exists_cons_of_length_eq_add_one hl
      refine ⟨_, (ih _).2 ⟨signs, Nat.succ.inj hl, rfl⟩, ?_⟩
      cases s
      · exact List.mem_cons_self
      · exact List.mem_cons_of_mem _ List.mem_cons_self

theorem getElem?_flatMap_pair {α β : Type} (f g : α → β) (l : List α) (j : ℕ) :
    (l.flatMap fun a => [f a, g a])[j]? =
      l[j / 2]?.map (fun a => if j % 2 = 0 then f a else g a) := by
  induction l generalizing j with
  | nil => rfl
  | cons a l ih =>
    match j with
    | 0 => rfl
    | 1 => rfl
    | j + 2 =>
      rw [List.flatMap_cons, List.cons_append, List.cons_append, List.nil_append,
        List.getElem?_cons_succ, List.getElem?_cons_succ, ih, Nat.add_div_right j two_pos,
        List.getElem?_cons_succ, Nat.add_mod_right]

/-- by position in the list `get_modes_slices` returns: block `j` takes the negative range on
    axis `d` exactly when bit `d` of `j` is set -/
theorem modeBlocks_getD (n N j : ℕ) (hN : 2 ≤ N) (hj : j < 2 ^ n) :
    (modeBlocks (n + 1) N).getD j [] =
      (List.range n).map (fun d => signRange N (j.testBit d)) ++ [(0, N / 2 + 1)] := by
  induction n generalizing j with
  | zero =>
    obtain rfl : j = 0 := by omega
    rw [modeBlocks_one]
    rfl
  | succ n ih =>
    have hj2 : j / 2 < 2 ^ n := by omega
    have ih' := ih (j / 2) hj2
    rw [List.getD_eq_getElem?_getD] at ih' ⊢
    rw [modeBlocks_succ n N hN, getElem?_flatMap_pair]
    rw [List.getElem?_eq_getElem (by rw [modeBlocks_length]; exact hj2), Option.getD_some] at ih'
    rw [List.getElem?_eq_getElem (by rw [modeBlocks_length]; exact hj2), Option.map_some,
      Option.getD_some, List.range_succ_eq_map, List.map_cons, List.map_map, Nat.testBit_zero,
      List.cons_append]
    simp only [Function.comp_def, Nat.testBit_succ]
    rw [← ih']
    split_ifs with h
    · rw [show decide (j % 2 = 1) = false from by simp [h]]
    · rw [show decide (j % 2 = 1) = true from by simp; omega]

theorem inBlock_signs_iff (N : ℕ) (hs : List ℕ) (hhs : ∀ i ∈ hs, i < N) (signs : List Bool)
    (hlen : signs.length = hs.length) :
    inBlock (signs.map (signRange N)) hs = true ↔
      signs = hs.map (fun i => decide (fftfreq N i < 0)) := by
  induction hs generalizing signs with
  | nil =>
    have : signs = [] := List.length_eq_zero_iff.1 hlen
    subst this
    simp [inBlock]
  | cons x hs ih =>
    cases signs with
    | nil => simp at hlen
    | cons s signs =>
      rw [List.map_cons, inBlock_cons_iff, mem_signRange N x (hhs x (by simp)),
        ih (fun i hi => hhs i (by simp [hi])) signs (by simpa using hlen), List.map_cons,
        List.cons.injEq]
      exact and_congr_left' (by cases s <;> simp)

/-- all `D ≥ 1`, `N ≥ 2`: a stored multi-index `hs ++ [hl]` lies in exactly one block, the one
    given by the signs of its leading wavenumbers -/
theorem mem_modeBlocks_inBlock_iff (N : ℕ) (hN : 2 ≤ N) (hs : List ℕ) (hl : ℕ)
    (hhs : ∀ i ∈ hs, i < N) (hhl : hl < N / 2 + 1) (b : List (ℕ × ℕ)) :
    (b ∈ modeBlocks (hs.length + 1) N ∧ inBlock b (hs ++ [hl]) = true) ↔
      b = hs.map (fun i => signRange N (decide (fftfreq N i < 0))) ++ [(0, N / 2 + 1)] := by
  rw [mem_modeBlocks_iff _ N (by omega) hN]
  simp only [Nat.add_sub_cancel]
  constructor
  · rintro ⟨⟨signs, hlen, rfl⟩, hin⟩
    rw [inBlock_append_single_iff _ _ _ _ (by simp [hlen])] at hin
    rw [(inBlock_signs_iff N hs hhs signs hlen).1 hin.1, List.map_map]
    rfl
  · rintro rfl
    refine ⟨⟨hs.map (fun i => decide (fftfreq N i < 0)), by simp, by rw [List.map_map]; rfl⟩, ?_⟩
    rw [inBlock_append_single_iff _ _ _ _ (by simp)]
    refine ⟨?_, Nat.zero_le _, hhl⟩
    have := (inBlock_signs_iff N hs hhs (hs.map (fun i => decide (fftfreq N i < 0))) (by simp)).2 rfl
    rwa [List.map_map] at this

theorem modeBlocks_two (N : ℕ) (hN : 2 ≤ N) : modeBlocks 2 N =
    [[(0, (N + 1) / 2), (0, N / 2 + 1)], [((N + 1) / 2, N), (0, N / 2 + 1)]] := by
  rw [modeBlocks_succ 0 N hN, modeBlocks_one]
  rfl

theorem modeBlocks_three (N : ℕ) (hN : 2 ≤ N) : modeBlocks 3 N =
    [[(0, (N + 1) / 2), (0, (N + 1) / 2), (0, N / 2 + 1)],
     [((N + 1) / 2, N), (0, (N + 1) / 2), (0, N / 2 + 1)],
     [(0, (N + 1) / 2), ((N + 1) / 2, N), (0, N / 2 + 1)],
     [((N + 1) / 2, N), ((N + 1) / 2, N), (0, N / 2 + 1)]] := by
  rw [modeBlocks_succ 1 N hN, modeBlocks_two N hN]
  rfl

theorem inBlock_one (N h0 : ℕ) : inBlock [(0, N / 2 + 1)] [h0] = true ↔ h0 < N / 2 + 1 := by
  rw [inBlock_cons_iff]
  exact ⟨fun h => h.1.2, fun h => ⟨⟨Nat.zero_le _, h⟩, rfl⟩⟩

theorem inBlock_modeBlocks_one (N h0 : ℕ) (h0lt : h0 < N / 2 + 1) :
    ∀ b ∈ modeBlocks 1 N, inBlock b [h0] = true := by
  intro b hb
  rw [modeBlocks_one, List.mem_singleton] at hb
  rw [hb]
  exact (inBlock_one N h0).2 h0lt

theorem inBlock_modeBlocks (N : ℕ) (hN : 2 ≤ N) (hs : List ℕ) (hl : ℕ) (hhs : ∀ i ∈ hs, i < N)
    (hhl : hl < N / 2 + 1) (j : ℕ) (hj : j < 2 ^ hs.length) :
    inBlock ((modeBlocks (hs.length + 1) N).getD j []) (hs ++ [hl]) = true ↔
      ∀ d (hd : d < hs.length), (j.testBit d = true ↔ fftfreq N hs[d] < 0) := by
  rw [modeBlocks_getD _ N j hN hj, show (List.range hs.length).map (fun d => signRange N (j.testBit d))
      = ((List.range hs.length).map j.testBit).map (signRange N)
      from (List.map_map (g := signRange N) (f := j.testBit)).symm,
    inBlock_append_single_iff _ _ _ _ (by simp), inBlock_signs_iff N hs hhs _ (by simp),
    and_iff_left ⟨Nat.zero_le _, hhl⟩, List.ext_getElem_iff]
  simp only [List.length_map, List.length_range, List.getElem_map, List.getElem_range, true_and]
  exact ⟨fun h d hd => by rw [h d hd hd, decide_eq_true_iff],
    fun h d hd _ => Bool.eq_iff_iff.2 ((h d hd).trans decide_eq_true_iff.symm)⟩

theorem eq_of_testBit_eq_of_lt {n j j' : ℕ} (hj : j < 2 ^ n) (hj' : j' < 2 ^ n)
    (h : ∀ i < n, j.testBit i = j'.testBit i) : j = j' :=
  Nat.eq_of_testBit_eq fun i => by
    rcases lt_or_ge i n with hi | hi
    · exact h i hi
    · rw [Nat.testBit_lt_two_pow (hj.trans_le (Nat.pow_le_pow_right two_pos hi)),
        Nat.testBit_lt_two_pow (hj'.trans_le (Nat.pow_le_pow_right two_pos hi))]

/-- all `D`: a stored index lies in at most one block (that it lies in one is `C04_slices_partition`) -/
theorem modeBlocks_disjoint (N : ℕ) (hN : 2 ≤ N) (hs : List ℕ) (hl : ℕ) (hhs : ∀ i ∈ hs, i < N)
    (hhl : hl < N / 2 + 1) (j j' : ℕ) (hj : j < 2 ^ hs.length) (hj' : j' < 2 ^ hs.length)
    (hb : inBlock ((modeBlocks (hs.length + 1) N).getD j []) (hs ++ [hl]) = true)
    (hb' : inBlock ((modeBlocks (hs.length + 1) N).getD j' []) (hs ++ [hl]) = true) : j = j' :=
  eq_of_testBit_eq_of_lt hj hj' fun d hd => Bool.eq_iff_iff.2
    (((inBlock_modeBlocks N hN hs hl hhs hhl j hj).1 hb d hd).trans
      ((inBlock_modeBlocks N hN hs hl hhs hhl j' hj').1 hb' d hd).symm)

theorem inBlock_signs_lt (N : ℕ) (signs : List Bool) (hs : List ℕ)
    (h : inBlock (signs.map (signRange N)) hs = true) : ∀ i ∈ List.take signs.length hs, i < N := by
  induction signs generalizing hs with
  | nil => simp
  | cons s signs ih =>
    cases hs with
    | nil => simp
    | cons x hs =>
      rw [List.map_cons, inBlock_cons_iff] at h
      intro i hi
      rcases List.mem_cons.1 (by simpa using hi) with rfl | hi
      · exact h.1.2.trans_le (signRange_snd_le N s)
      · exact ih hs h.2 i hi

theorem modeBlocks_subset (N : ℕ) (hN : 2 ≤ N) (hs : List ℕ) (hl : ℕ) (b : List (ℕ × ℕ))
    (hb : b ∈ modeBlocks (hs.length + 1) N) (hin : inBlock b (hs ++ [hl]) = true) :
    (∀ i ∈ hs, i < N) ∧ hl < N / 2 + 1 := by
  obtain ⟨signs, hlen, rfl⟩ := (mem_modeBlocks_iff _ N (by omega) hN b).1 hb
  rw [Nat.add_sub_cancel] at hlen
  rw [inBlock_append_single_iff _ _ _ _ (by simp [hlen])] at hin
  have := inBlock_signs_lt N signs hs hin.1
  rw [hlen, List.take_length] at this
  exact ⟨this, hin.2.2⟩

/-- `D = 2`: a stored index lies in at most one block (which one is `inBlock_modeBlocks`; for the Nyquist
    row `h0 = N/2` of an even `N` it is the second, `modeBlocks_two_nyquist`) -/
theorem modeBlocks_two_disjoint (N h0 h1 : ℕ) (hN : 2 ≤ N) (h0lt : h0 < N)
    (h1lt : h1 < N / 2 + 1) (j j' : ℕ) (hj : j < 2) (hj' : j' < 2)
    (hb : inBlock ((modeBlocks 2 N).getD j []) [h0, h1] = true)
    (hb' : inBlock ((modeBlocks 2 N).getD j' []) [h0, h1] = true) : j = j' :=
  modeBlocks_disjoint N hN [h0] h1 (by simpa using h0lt) h1lt j j' hj hj' hb hb'

theorem modeBlocks_two_subset (N h0 h1 : ℕ) (hN : 2 ≤ N) (b : List (ℕ × ℕ))
    (hb : b ∈ modeBlocks 2 N) (hin : inBlock b [h0, h1] = true) : h0 < N ∧ h1 < N / 2 + 1 := by
  simpa using modeBlocks_subset N hN [h0] h1 b hb hin

/-- for even `N` the Nyquist row `h0 = N/2` (wavenumber `−N/2`) is *contained* in the second
    (negative) block: the blocks do not exclude the Nyquist mode of the leading axes -/
theorem modeBlocks_two_nyquist (N h1 : ℕ) (hN : 2 ≤ N) (heven : N % 2 = 0)
    (h1lt : h1 < N / 2 + 1) :
    inBlock ((modeBlocks 2 N).getD 1 []) [N / 2, h1] = true := by
  refine (inBlock_modeBlocks N hN [N / 2] h1 (by simp; omega) h1lt 1 (by norm_num)).2 fun d hd => ?_
  obtain rfl : d = 0 := by simpa using hd
  rw [List.getElem_cons_zero, fftfreq_nyquist N (by omega) heven]
  exact iff_of_true rfl (by omega)

theorem modeBlocks_three_disjoint (N h0 h1 h2 : ℕ) (hN : 2 ≤ N) (h0lt : h0 < N)
    (h1lt : h1 < N) (h2lt : h2 < N / 2 + 1) (j j' : ℕ) (hj : j < 4) (hj' : j' < 4)
    (hb : inBlock ((modeBlocks 3 N).getD j []) [h0, h1, h2] = true)
    (hb' : inBlock ((modeBlocks 3 N).getD j' []) [h0, h1, h2] = true) : j = j' :=
  modeBlocks_disjoint N hN [h0, h1] h2 (by simp [h0lt, h1lt]) h2lt j j' hj hj' hb hb'

theorem modeBlocks_three_subset (N h0 h1 h2 : ℕ) (hN : 2 ≤ N) (b : List (ℕ × ℕ))
    (hb : b ∈ modeBlocks 3 N) (hin : inBlock b [h0, h1, h2] = true) :
    h0 < N ∧ h1 < N ∧ h2 < N / 2 + 1 := by
  simpa [and_assoc] using modeBlocks_subset N hN [h0, h1] h2 b hb hin

/-- for `N = 1` the two "blocks" of `D = 2` coincide (`slice(-0, None)` is the whole axis): the
    hypothesis `2 ≤ N` of the theorems above is necessary -/
theorem modeBlocks_two_N_one : modeBlocks 2 1 = [[(0, 1), (0, 1)], [(0, 1), (0, 1)]] := by
  decide

theorem acceptsShape_iff (C D N : ℕ) (shape : List ℕ) :
    acceptsShape C D N shape = true ↔ shape = C :: List.replicate D N := by
  simp [acceptsShape, spatialShape]

theorem acceptsShape_length (C D N : ℕ) (shape : List ℕ) (h : acceptsShape C D N shape = true) :
    shape.length = D + 1 := by
  rw [acceptsShape_iff] at h; simp [h]

theorem acceptsShape_wrong_channels (C C' D N : ℕ) (rest : List ℕ) (hC : C' ≠ C) :
    acceptsShape C D N (C' :: rest) = false := by
  rw [← Bool.not_eq_true, acceptsShape_iff]
  intro h
  exact hC (List.cons.inj h).1

theorem acceptsShape_wrong_ndim (C D N : ℕ) (shape : List ℕ) (hlen : shape.length ≠ D + 1) :
    acceptsShape C D N shape = false := by
  rw [← Bool.not_eq_true]
  intro h
  exact hlen (acceptsShape_length C D N shape h)

theorem acceptsShape_extra_axis (C D N x : ℕ) :
    acceptsShape C D N (C :: List.replicate D N ++ [x]) = false :=
  acceptsShape_wrong_ndim C D N _ (by simp)

theorem acceptsShape_missing_axis (C D N : ℕ) :
    acceptsShape C (D + 1) N (C :: List.replicate D N) = false :=
  acceptsShape_wrong_ndim C (D + 1) N _ (by simp)

theorem acceptsShape_empty (C D N : ℕ) : acceptsShape C D N [] = false :=
  acceptsShape_wrong_ndim C D N _ (by simp)

theorem acceptsShape_wrong_axis (C D N : ℕ) (shape : List ℕ) (d : ℕ) (hd : d < D)
    (hne : shape.getD (d + 1) 0 ≠ N) : acceptsShape C D N shape = false := by
  rw [← Bool.not_eq_true, acceptsShape_iff]
  intro h
  apply hne
  rw [h]
  simp [List.getD_eq_getElem?_getD, hd]

theorem acceptsShape_unequal_axes (C D N : ℕ) (shape : List ℕ) (d d' : ℕ) (hd : d < D) (hd' : d' < D)
    (hne : shape.getD (d + 1) 0 ≠ shape.getD (d' + 1) 0) : acceptsShape C D N shape = false := by
  by_cases h : shape.getD (d + 1) 0 = N
  · exact acceptsShape_wrong_axis C D N shape d' hd' (fun h' => hne (h.trans h'.symm))
  · exact acceptsShape_wrong_axis C D N shape d hd h

theorem acceptsShape_self (C D N : ℕ) : acceptsShape C D N (C :: spatialShape D N) = true := by
  simp [acceptsShape]

theorem shapeSize_eq_prod (shape : List ℕ) : shapeSize shape = shape.prod :=
  (List.prod_eq_foldl).symm

@[simp] theorem shapeSize_nil : shapeSize [] = 1 := rfl

@[simp] theorem shapeSize_cons (a : ℕ) (l : List ℕ) : shapeSize (a :: l) = a * shapeSize l := by
  simp [shapeSize_eq_prod]

theorem shapeSize_append (l₁ l₂ : List ℕ) : shapeSize (l₁ ++ l₂) = shapeSize l₁ * shapeSize l₂ := by
  simp [shapeSize_eq_prod]

theorem shapeSize_replicate (n a : ℕ) : shapeSize (List.replicate n a) = a ^ n := by
  simp [shapeSize_eq_prod]

theorem shapeSize_pos (shape : List ℕ) (hpos : ∀ a ∈ shape, 0 < a) : 0 < shapeSize shape := by
  rw [shapeSize_eq_prod]
  exact List.prod_pos hpos

theorem wavenumberShape_length (D N : ℕ) (hD : 1 ≤ D) : (wavenumberShape D N).length = D := by
  simp [wavenumberShape]; omega

theorem wavenumberShape_getD (D N d : ℕ) (hd : d < D) :
    (wavenumberShape D N).getD d 0 = if d + 1 = D then N / 2 + 1 else N := by
  unfold wavenumberShape
  rw [List.getD_eq_getElem?_getD]
  split_ifs with h
  · rw [List.getElem?_append_right (by rw [List.length_replicate]; omega),
      List.length_replicate, show d - (D - 1) = 0 by omega]
    rfl
  · rw [List.getElem?_append_left (by rw [List.length_replicate]; omega),
      List.getElem?_replicate, if_pos (by omega)]
    rfl

theorem wavenumberShape_pos (D N : ℕ) (hN : 0 < N) : ∀ a ∈ wavenumberShape D N, 0 < a := by
  intro a ha
  simp only [wavenumberShape, List.mem_append, List.mem_replicate, List.mem_singleton] at ha
  rcases ha with ⟨_, rfl⟩ | rfl <;> omega

theorem shapeSize_wavenumberShape (D N : ℕ) :
    shapeSize (wavenumberShape D N) = N ^ (D - 1) * (N / 2 + 1) := by
  simp [wavenumberShape, shapeSize_append, shapeSize_replicate]

theorem numModes_eq (D N : ℕ) : numModes D N = N ^ (D - 1) * (N / 2 + 1) :=
  shapeSize_wavenumberShape D N

theorem shapeSize_spatialShape (D N : ℕ) : shapeSize (spatialShape D N) = N ^ D :=
  shapeSize_replicate D N

theorem unflatten_length (shape : List ℕ) (i : ℕ) : (unflatten shape i).length = shape.length := by
  induction shape generalizing i with
  | nil => rfl
  | cons a rest ih => simp [unflatten, ih]

theorem flatten_unflatten (shape : List ℕ) (hpos : ∀ a ∈ shape, 0 < a) (i : ℕ)
    (hi : i < shapeSize shape) : flatten shape (unflatten shape i) = i := by
  induction shape generalizing i with
  | nil => simp [shapeSize] at hi; simp [flatten, hi]
  | cons a rest ih =>
    have hrest : ∀ b ∈ rest, 0 < b := fun b hb => hpos b (by simp [hb])
    have hsz := shapeSize_pos rest hrest
    simp only [unflatten, flatten, List.headD_cons, List.tail_cons]
    rw [ih hrest _ (Nat.mod_lt _ hsz)]
    exact Nat.div_add_mod' i (shapeSize rest)

theorem unflatten_lt (shape : List ℕ) (hpos : ∀ a ∈ shape, 0 < a) (i : ℕ)
    (hi : i < shapeSize shape) : List.Forall₂ (· < ·) (unflatten shape i) shape := by
  induction shape generalizing i with
  | nil => exact List.Forall₂.nil
  | cons a rest ih =>
    have hrest : ∀ b ∈ rest, 0 < b := fun b hb => hpos b (by simp [hb])
    have hsz := shapeSize_pos rest hrest
    simp only [unflatten]
    refine List.Forall₂.cons ?_ (ih hrest _ (Nat.mod_lt _ hsz))
    rw [shapeSize_cons] at hi
    exact Nat.div_lt_of_lt_mul (by rwa [Nat.mul_comm] at hi)

theorem unflatten_getD_lt (shape : List ℕ) (hpos : ∀ a ∈ shape, 0 < a) (i : ℕ)
    (hi : i < shapeSize shape) (d : ℕ) (hd : d < shape.length) :
    (unflatten shape i).getD d 0 < shape.getD d 0 := by
  have h := unflatten_lt shape hpos i hi
  have hl := unflatten_length shape i
  rw [List.forall₂_iff_get] at h
  have := h.2 d (by omega) hd
  simpa [List.getD_eq_getElem?_getD, List.getElem?_eq_getElem, hd, hl] using this

theorem flatten_zero (shape : List ℕ) (n : ℕ) : flatten shape (List.replicate n 0) = 0 := by
  induction shape generalizing n with
  | nil => rfl
  | cons a rest ih =>
    cases n with
    | zero => simpa [flatten] using ih 0
    | succ m => simp [flatten, List.replicate_succ, ih m]

theorem flatten_lt (shape h : List ℕ) (hh : List.Forall₂ (· < ·) h shape) :
    flatten shape h < shapeSize shape := by
  induction hh with
  | nil => simp [flatten]
  | @cons x a h rest hx _ ih =>
    simp only [flatten, List.headD_cons, List.tail_cons, shapeSize_cons]
    nlinarith

theorem unflatten_flatten (shape h : List ℕ) (hh : List.Forall₂ (· < ·) h shape) :
    unflatten shape (flatten shape h) = h := by
  induction hh with
  | nil => simp [unflatten]
  | @cons x a h rest hx hrest ih =>
    have hlt := flatten_lt rest h hrest
    simp only [flatten, List.headD_cons, List.tail_cons, unflatten]
    have hpos : 0 < shapeSize rest := by omega
    rw [Nat.mul_comm, Nat.mul_add_div hpos, Nat.div_eq_of_lt hlt, Nat.mul_add_mod,
      Nat.mod_eq_of_lt hlt, ih]
    simp

theorem wnFlat_abs_le (D N i : ℕ) (hD : 1 ≤ D) (hN : 0 < N) (hi : i < numModes D N) (d : ℕ)
    (hd : d < D) :
    |wn D N (unflatten (wavenumberShape D N) i) d| ≤ ((N / 2 : ℕ) : ℤ) := by
  apply wn_abs_le
  have := unflatten_getD_lt (wavenumberShape D N) (wavenumberShape_pos D N hN) i hi d
    (by rw [wavenumberShape_length D N hD]; exact hd)
  rwa [wavenumberShape_getD D N d hd] at this

theorem mem_wnFlat_abs_le (D N i : ℕ) (hD : 1 ≤ D) (hN : 0 < N) (hi : i < numModes D N) (k : ℤ)
    (hk : k ∈ wnFlat D N i) : |k| ≤ ((N / 2 : ℕ) : ℤ) := by
  obtain ⟨d, hd, rfl⟩ := (mem_wnVec D N _ k).1 hk
  exact wnFlat_abs_le D N i hD hN hi d hd

theorem wnVec_length (D N : ℕ) (h : List ℕ) : (wnVec D N h).length = D := by simp [wnVec]

theorem wnFlat_length (D N h : ℕ) : (wnFlat D N h).length = D := wnVec_length D N _

theorem wnFlat_getD (D N h d : ℕ) (hd : d < D) :
    (wnFlat D N h).getD d 0 = wn D N (unflatten (wavenumberShape D N) h) d := by
  simp [wnFlat, wnVec, hd]

section scaling
variable {K : Type} [Field K]

theorem lit_eq_cast (n : ℕ) : (lit n : K) = (n : K) := rfl

theorem axisScale_eq (N denom : ℕ) (isLast : Bool) (k : ℤ) :
    (axisScale N denom isLast k : K) =
      if isSpecial N isLast k = true then (N : K) else (N : K) / (denom : K) := rfl

theorem prodList_eq_prod (l : List K) : prodList l = l.prod :=
  (List.prod_eq_foldl).symm

/-- the denominator `_build_scaling_array` uses on axis `d` in the given mode -/
def scaleDenom (D mode d : ℕ) : ℕ :=
  if (d + 1 == D) = true then (if mode = 0 then 1 else 2) else (if mode = 2 then 2 else 1)

theorem scaleDenom_cases (D mode d : ℕ) : scaleDenom D mode d = 1 ∨ scaleDenom D mode d = 2 := by
  unfold scaleDenom; split_ifs <;> simp

theorem scaling_eq_prod (D N mode : ℕ) (h : List ℕ) :
    (scaling D N mode h : K) =
      ((List.range D).map (fun d =>
        (axisScale N (scaleDenom D mode d) (d + 1 == D) (wn D N h d) : K))).prod := by
  unfold scaling
  rw [prodList_eq_prod]
  rfl

/-- is axis `d` of the stored index `h` halved in the given mode (not DC / Nyquist and
    denominator 2) -/
def halved (D N mode : ℕ) (h : List ℕ) (d : ℕ) : Bool :=
  !(isSpecial N (d + 1 == D) (wn D N h d)) && scaleDenom D mode d == 2

theorem prod_axis_general (N : ℕ) (s : ℕ → Bool) (den : ℕ → ℕ)
    (hden : ∀ d, den d = 1 ∨ den d = 2) (L : List ℕ) :
    (L.map (fun d => if s d = true then (N : K) else (N : K) / (den d : K))).prod =
      (N : K) ^ L.length / 2 ^ (L.countP (fun d => !(s d) && den d == 2)) := by
  induction L with
  | nil => simp
  | cons d L ih =>
    rw [List.map_cons, List.prod_cons, ih, List.length_cons, List.countP_cons]
    cases hs : s d
    · rcases hden d with h1 | h2
      · rw [h1, if_neg (by decide), if_neg (by decide), Nat.cast_one, div_one, add_zero, pow_succ]
        ring
      · rw [h2, if_neg (by decide), if_pos (by decide), Nat.cast_ofNat, pow_succ, pow_succ]
        ring
    · rw [if_pos rfl, if_neg (by simp), add_zero, pow_succ]
      ring

theorem scaling_eq (D N mode : ℕ) (h : List ℕ) :
    (scaling D N mode h : K) =
      (N : K) ^ D / 2 ^ ((List.range D).countP (halved D N mode h)) := by
  rw [scaling_eq_prod]
  have := prod_axis_general (K := K) N (fun d => isSpecial N (d + 1 == D) (wn D N h d))
    (scaleDenom D mode) (scaleDenom_cases D mode) (List.range D)
  simp only [axisScale_eq]
  rw [this, List.length_range]
  rfl

/-- `norm_compensation` is the constant `N^D` -/
theorem scaling_mode_zero (D N : ℕ) (h : List ℕ) : (scaling D N 0 h : K) = (N : K) ^ D := by
  rw [scaling_eq]
  have : (List.range D).countP (halved D N 0 h) = 0 := by
    rw [List.countP_eq_zero]
    intro d _
    simp [halved, scaleDenom]
  rw [this]; simp

/-- `reconstruction`: only the last (rfft) axis is halved, and only away from DC / Nyquist -/
theorem scaling_mode_one (D N : ℕ) (hD : 1 ≤ D) (h : List ℕ) :
    (scaling D N 1 h : K) =
      if isSpecial N true (wn D N h (D - 1)) = true then (N : K) ^ D else (N : K) ^ D / 2 := by
  obtain ⟨D', rfl⟩ : ∃ D', D = D' + 1 := ⟨D - 1, by omega⟩
  rw [scaling_eq, List.range_succ, List.countP_append]
  have h0 : (List.range D').countP (halved (D' + 1) N 1 h) = 0 := by
    rw [List.countP_eq_zero]
    intro d hd
    have : d < D' := List.mem_range.1 hd
    have hne : ¬ (d = D') := by omega
    simp [halved, scaleDenom, hne]
  rw [h0]
  simp only [Nat.add_sub_cancel, List.countP_cons, List.countP_nil, zero_add]
  cases hs : isSpecial N true (wn (D' + 1) N h D') <;> simp [halved, scaleDenom, hs]

/-- `coef_extraction`: every axis away from DC / Nyquist is halved -/
theorem scaling_mode_two (D N : ℕ) (h : List ℕ) :
    (scaling D N 2 h : K) =
      (N : K) ^ D / 2 ^ ((List.range D).countP
        (fun d => !(isSpecial N (d + 1 == D) (wn D N h d)))) := by
  rw [scaling_eq]
  congr 2
  apply List.countP_congr
  intro d _
  simp [halved, scaleDenom]

end scaling

end Exponax.Layout
