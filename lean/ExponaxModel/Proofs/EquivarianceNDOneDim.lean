import ExponaxModel.Proofs.EquivarianceNDTerms
/-
C08, the 1-D terms and steppers: the one-channel pseudo-spectral terms on a 1-D grid commute with the
shift phases, and so do `n` ETDRK4 steps built from them.  Each term statement is the case `D = 1`, one
channel, shift vector `[s]` of the n-D statement of `EquivarianceNDTerms.lean`, read off by
`termEquivariant_one` below; the step statements follow from it through `liftTerm_phase`.
-/
namespace Exponax.Symmetry
open Exponax Exponax.Layout Exponax.Transform Exponax.DFT Exponax.Nonlin Exponax.Alias Finset
open Exponax.Gen.Etdrk Exponax.SymmetryND Exponax.EquivND

theorem mcShift_one (c : Cfg ℂ) (hD : c.D = 1) (s : ℤ) (uh : Array ℂ) :
    MCShift c [s] #[uh] #[shiftSpec c.N s uh] := by
  intro ch m hm
  rw [modes_eq, hD, numModes_one] at hm
  rw [hD, shiftPhaseND_one]
  rcases ch with _ | ch
  · exact shiftSpec_getD c.N s uh m (by omega)
  · exact (mul_zero _).symm

theorem termEquivariant_one (c : Cfg ℂ) (hD : c.D = 1) (s : ℤ) (T : MC ℂ → MC ℂ)
    (hT : TermEquivariant c [s] T) (uh : Array ℂ)
    (h : ℕ) (hh : h ≤ c.N / 2) :
    at2 (T #[shiftSpec c.N s uh]) 0 h = shiftPhase c.N s h * at2 (T #[uh]) 0 h := by
  have hm : h < modes c := by
    rw [modes_eq, hD, numModes_one]
    omega
  have := hT _ _ (mcShift_one c hD s uh) 0 h hm
  rwa [hD, shiftPhaseND_one] at this

/-- conservative convection through the multi-channel code path (`single_channel = False`) with one channel -/
theorem convection_multi_equivariant (c : Cfg ℂ) (hD : c.D = 1) (hN : 0 < c.N) (scale : ℂ) (s : ℤ)
    (uh : Array ℂ) (h : ℕ) (hh : h ≤ c.N / 2) :
    at2 (convection c 1 scale false true #[shiftSpec c.N s uh]) 0 h
      = shiftPhase c.N s h * at2 (convection c 1 scale false true #[uh]) 0 h :=
  termEquivariant_one c hD s _ (convection_termEquivariant c hN 1 scale false true [s]) uh h hh

theorem E4step_term_translation (c : Cfg ℂ) (hD : c.D = 1) (s : ℤ) (T : MC ℂ → MC ℂ)
    (hT : TermEquivariant c [s] T) (E Eh c1 c2 c3 c4 c5 c6 : ℕ → ℂ) (n : ℕ) (u : ℕ → ℂ) :
    (E4step E Eh c1 c2 c3 c4 c5 c6 (liftTerm c.N T))^[n] ((fun h => shiftPhase c.N s h) * u)
      = (fun h => shiftPhase c.N s h) * (E4step E Eh c1 c2 c3 c4 c5 c6 (liftTerm c.N T))^[n] u :=
  E4step_phase_iterate _ _ (liftTerm_phase c.N s T (termEquivariant_one c hD s T hT))
    E Eh c1 c2 c3 c4 c5 c6 n u

/-- `n` ETDRK4 steps with the polynomial nonlinearity (reaction-type steppers), arbitrary coefficient arrays -/
theorem E4step_polynomial_translation (c : Cfg ℂ) (hD : c.D = 1) (hN : 0 < c.N) (coeffs : List ℂ)
    (s : ℤ) (E Eh c1 c2 c3 c4 c5 c6 : ℕ → ℂ) (n : ℕ) (u : ℕ → ℂ) :
    (E4step E Eh c1 c2 c3 c4 c5 c6 (liftTerm c.N (polynomial c 1 coeffs)))^[n]
        ((fun h => shiftPhase c.N s h) * u)
      = (fun h => shiftPhase c.N s h) *
        (E4step E Eh c1 c2 c3 c4 c5 c6 (liftTerm c.N (polynomial c 1 coeffs)))^[n] u :=
  E4step_term_translation c hD s _ (polynomial_termEquivariant c hN 1 coeffs [s])
    E Eh c1 c2 c3 c4 c5 c6 n u

end Exponax.Symmetry
