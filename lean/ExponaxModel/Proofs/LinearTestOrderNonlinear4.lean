import ExponaxModel.Proofs.LinearTestOrderNonlinear4Prep
/-
C02 support: ETDRK4 (Cox–Matthews) with a nonlinear term, classical order 4: the φ-difference bounds of the coefficients,
and what the exact solution of a system `u' = l u + f` contributes: its expansions and those of `f` at `t + h/2`, `t + h`.
-/
noncomputable section
namespace Exponax.LinearOrder
open Exponax Exponax.Spec Exponax.ContourTail Exponax.Gen.Etdrk

/-- the φ-difference bounds of the ETDRK4 proof beyond those of `etd3_phi_diffs` (`z = l h`, `0 ≤ h ≤ T`, `W = e^{ωT}`), spelt
    as the coefficient vectors of a system have them in every mode; `‖l‖` enters through any bound `Λ` of it -/
theorem etd4_phi_diffs (l : ℂ) (ω h T Λ : ℝ) (hω : 0 ≤ ω) (hl : l.re ≤ ω) (hh : 0 ≤ h) (hhT : h ≤ T)
    (hΛ : ‖l‖ ≤ Λ) :
    ‖phi1e (l * h / 2) - 1‖ ≤ Λ * h * Real.exp (ω * T) / 4 ∧
    ‖phi1e (l * h / 2) - 2 * phi2e (l * h / 2) - h / 12 * l‖ ≤ (Λ * h) ^ 2 * Real.exp (ω * T) / 16 ∧
    ‖phi1e (l * h / 2) - 4 * phi3e (l * h / 2) - 1 / 3‖ ≤ Λ * h * Real.exp (ω * T) / 3 ∧
    ‖1 / 2 * phi1e (l * h / 2) - phi2e (l * h) + h / 24 * l‖ ≤ (Λ * h) ^ 2 * Real.exp (ω * T) / 16 ∧
    ‖1 / 8 * phi1e (l * h / 2) - phi3e (l * h) + 1 / 24‖ ≤ Λ * h * Real.exp (ω * T) * (7 / 96) ∧
    ‖1 / 2 * phi3e (l * h) - 1 / 12 * phi2e (l * h) - phiE 4 (l * h)‖
      ≤ Λ * h * (Real.exp (ω * T) / 72 + Real.exp (ω * T) / 48 + Real.exp (ω * T) / 120) ∧
    ‖phi2e (l * h) - 2 * phi3e (l * h)‖ ≤ 5 * Real.exp (ω * T) / 6 := by
  obtain ⟨-, bp2, bp3, bp4, -, bq2, bq3, -, -⟩ := etd_phi_bounds l ω h T hω hl hh hhT
  obtain ⟨-, -, -, -, bp5⟩ := norm_phi_le_W (l * h) _ (max_exp_le_W l ω h T hω hl hh hhT)
  obtain ⟨-, -, -, bq4, -⟩ := norm_phi_le_W (l * h / 2) _ (max_exp_le_W_half l ω h T hω hl hh hhT)
  set W := Real.exp (ω * T) with hW
  have hzn : ‖l * (h : ℂ)‖ ≤ Λ * h := norm_mul_le_of_le hΛ (nrm_ofReal hh le_rfl)
  have hzn2 : ‖l * (h : ℂ) / 2‖ ≤ Λ * h / 2 := nrm_div_ofNat 2 hzn
  have hzsq : ‖(l * (h : ℂ)) ^ 2‖ ≤ (Λ * h) ^ 2 := by
    rw [norm_pow]; exact pow_le_pow_left₀ (norm_nonneg _) hzn 2
  have hzsq2 : ‖(l * (h : ℂ) / 2) ^ 2‖ ≤ (Λ * h / 2) ^ 2 := by
    rw [norm_pow]; exact pow_le_pow_left₀ (norm_nonneg _) hzn2 2
  have b2 : ‖(2 : ℂ)‖ ≤ 2 := (Complex.norm_ofNat 2).le
  have b4 : ‖(4 : ℂ)‖ ≤ 4 := (Complex.norm_ofNat 4).le
  refine ⟨?_, ?_, ?_, ?_, ?_, ?_, ?_⟩
  · rw [sub_eq_of_eq_add' (phi_chain _).2.1]
    refine (norm_mul_le_of_le hzn2 bq2).trans (le_of_eq ?_); ring
  · rw [show (h : ℂ) / 12 * l = (l * h / 2) / 6 by ring, phi_q1_sub_2q2]
    refine (norm_mul_le_of_le hzsq2 (norm_sub_le_of_le bq3 (norm_mul_le_of_le b2 bq4))).trans (le_of_eq ?_)
    ring
  · rw [phi_q1_sub_4q3]
    refine (norm_mul_le_of_le hzn2 (norm_sub_le_of_le bq2 (norm_mul_le_of_le b4 bq4))).trans (le_of_eq ?_)
    ring
  · rw [show 1 / 2 * phi1e (l * h / 2) - phi2e (l * h) + h / 24 * l
      = phi1e (l * h / 2) / 2 - phi2e (l * h) + l * h / 24 by ring, phi_c1]
    refine (norm_mul_le_of_le hzsq (norm_sub_le_of_le (nrm_div_ofNat 8 bq3) bp4)).trans (le_of_eq ?_)
    ring
  · rw [show 1 / 8 * phi1e (l * h / 2) = phi1e (l * h / 2) / 8 by ring, phi_c2]
    refine (norm_mul_le_of_le hzn (norm_sub_le_of_le (nrm_div_ofNat 16 bq2) bp4)).trans (le_of_eq ?_)
    ring
  · rw [show 1 / 2 * phi3e (l * h) - 1 / 12 * phi2e (l * h) = -(phi2e (l * h)) / 12 + phi3e (l * h) / 2 by ring,
      phi_quad4]
    have h12 : ‖-(phi3e (l * h)) / 12‖ ≤ W / 6 / 12 := nrm_div_ofNat 12 (by rwa [norm_neg])
    refine (norm_mul_le_of_le hzn (norm_sub_le_of_le (norm_add_le_of_le h12 (nrm_div_ofNat 2 bp4)) bp5)).trans
      (le_of_eq ?_)
    ring
  · exact (norm_sub_le_of_le bp2 (norm_mul_le_of_le b2 bp3)).trans (le_of_eq (by ring))

theorem tay3_of_tay4 {E : Type} [SeminormedAddCommGroup E] [NormedSpace ℂ E] (f f1 f2 f3 : ℝ → E) (T M3 G4 : ℝ)
    (hG4 : 0 ≤ G4) (hM3 : ∀ t ∈ Set.Icc (0 : ℝ) T, ‖f3 t‖ ≤ M3)
    (hTay : ∀ t s : ℝ, 0 ≤ t → 0 ≤ s → t + s ≤ T →
      ‖f (t + s) - f t - (s : ℂ) • f1 t - ((s : ℂ) ^ 2 / 2) • f2 t - ((s : ℂ) ^ 3 / 6) • f3 t‖ ≤ G4 * s ^ 4 / 24)
    (t s : ℝ) (ht : 0 ≤ t) (hs : 0 ≤ s) (hts : t + s ≤ T) :
    ‖f (t + s) - f t - (s : ℂ) • f1 t - ((s : ℂ) ^ 2 / 2) • f2 t‖ ≤ (M3 + G4 * T / 4) * s ^ 3 / 6 := by
  have h := hTay t s ht hs hts
  rw [sub_eq_add_neg _ (((s : ℂ) ^ 3 / 6) • f3 t), ← neg_smul] at h
  exact (norm_le_of_leading (κ := 1 / 6) (ε := G4 / 24) (n := 3) hs ((le_add_of_nonneg_left ht).trans hts) (by positivity)
    ((norm_neg _).trans_le ((nrm_hpow_div hs 3 6).trans_eq (by ring)))
    (hM3 t ⟨ht, (le_add_of_nonneg_right hs).trans hts⟩) (h.trans_eq (by ring))).trans_eq (by ring)

variable {ι : Type} [Fintype ι]

/-- what the exact solution of the system `u' = l u + f` contributes to a step `t → t + h`: its variation-of-constants
    expansions at `t + h/2` and `t + h`, and the Taylor expansions of `f` there -/
theorem etd4_exact_facts (c : NL4) (hc : c.Nonneg) (l : ι → ℂ) (hl : ∀ k, (l k).re ≤ c.ω)
    (u f g1 g2 g3 : ℝ → ι → ℂ) (hu : ∀ t ∈ Set.Icc (0 : ℝ) c.T, HasDerivAt u (l * u t + f t) t)
    (hfc : ContinuousOn f (Set.Icc (0 : ℝ) c.T)) (hM2 : ∀ t ∈ Set.Icc (0 : ℝ) c.T, ‖g2 t‖ ≤ c.M2)
    (hM3 : ∀ t ∈ Set.Icc (0 : ℝ) c.T, ‖g3 t‖ ≤ c.M3)
    (hTay : ∀ t s : ℝ, 0 ≤ t → 0 ≤ s → t + s ≤ c.T →
      ‖f (t + s) - f t - (s : ℂ) • g1 t - ((s : ℂ) ^ 2 / 2) • g2 t - ((s : ℂ) ^ 3 / 6) • g3 t‖
        ≤ c.G4 * s ^ 4 / 24)
    (t h : ℝ) (ht : 0 ≤ t) (hh : 0 ≤ h) (hth : t + h ≤ c.T) :
    ‖u (t + h / 2) - ((fun k => Complex.exp (l k * h / 2)) * u t
        + ((h : ℂ) / 2) • (fun k => phi1e (l k * h / 2)) * f t
        + (((h : ℂ) / 2) ^ 2) • (fun k => phi2e (l k * h / 2)) * g1 t
        + (((h : ℂ) / 2) ^ 3) • (fun k => phi3e (l k * h / 2)) * g2 t)‖ ≤ c.W * c.G3 * h ^ 4 / 384 ∧
    ‖u (t + h) - ((fun k => Complex.exp (l k * h)) * u t + (h : ℂ) • (fun k => phi1e (l k * h)) * f t
        + ((h : ℂ) ^ 2) • (fun k => phi2e (l k * h)) * g1 t + ((h : ℂ) ^ 3) • (fun k => phi3e (l k * h)) * g2 t)‖
      ≤ c.W * c.G3 * h ^ 4 / 24 ∧
    ‖u (t + h) - ((fun k => Complex.exp (l k * h)) * u t + (h : ℂ) • (fun k => phi1e (l k * h)) * f t
        + ((h : ℂ) ^ 2) • (fun k => phi2e (l k * h)) * g1 t + ((h : ℂ) ^ 3) • (fun k => phi3e (l k * h)) * g2 t
        + ((h : ℂ) ^ 4) • (fun k => phiE 4 (l k * h)) * g3 t)‖ ≤ c.W * c.G4 * h ^ 5 / 120 ∧
    ‖f (t + h / 2) - f t - ((h : ℂ) / 2) • g1 t‖ ≤ c.G2 * h ^ 2 / 8 ∧
    ‖f (t + h / 2) - f t - ((h : ℂ) / 2) • g1 t - (((h : ℂ) / 2) ^ 2 / 2) • g2 t‖ ≤ c.G3 * h ^ 3 / 48 ∧
    ‖f (t + h / 2) - f t - ((h : ℂ) / 2) • g1 t - (((h : ℂ) / 2) ^ 2 / 2) • g2 t
        - (((h : ℂ) / 2) ^ 3 / 6) • g3 t‖ ≤ c.G4 * h ^ 4 / 384 ∧
    ‖f (t + h) - f t - (h : ℂ) • g1 t - ((h : ℂ) ^ 2 / 2) • g2 t - ((h : ℂ) ^ 3 / 6) • g3 t‖
      ≤ c.G4 * h ^ 4 / 24 := by
  have hh2 : 0 ≤ h / 2 := div_nonneg hh zero_le_two
  have hth2 : t + h / 2 ≤ c.T := (add_le_add_right (half_le_self hh) t).trans hth
  obtain ⟨-, hG30, -⟩ := hc.nonnegs
  have tay3 := tay3_of_tay4 f g1 g2 g3 c.T c.M3 c.G4 hc.G4 hM3 hTay
  have tay2 := tay2_of_tay3 f g1 g2 c.T c.M2 c.G3 hG30 hM2 tay3
  have D3 := etd_defectV3 l c.ω c.G3 c.T u f hc.ω hl hu hfc (g1 t) (g2 t) t ht hG30 (fun s => tay3 t s ht)
  have ecast : ((h / 2 : ℝ) : ℂ) = (h : ℂ) / 2 := by push_cast; ring
  have Da := D3 (h / 2) hh2 hth2
  have Tσ2 := tay2 t (h / 2) ht hh2 hth2
  have Tσ3 := tay3 t (h / 2) ht hh2 hth2
  have Tτh := hTay t (h / 2) ht hh2 hth2
  simp only [ecast, ← mul_div_assoc] at Da Tσ2 Tσ3 Tτh
  exact ⟨Da.trans_eq (by unfold NL4.W; ring), D3 h hh hth,
    etd_defectV4 l c.ω c.G4 c.T u f hc.ω hl hu hfc (g1 t) (g2 t) (g3 t) t ht hc.G4 (fun s => hTay t s ht) h hh hth,
    Tσ2.trans_eq (by unfold NL4.G2; ring), Tσ3.trans_eq (by unfold NL4.G3; ring), Tτh.trans_eq (by ring),
    hTay t h ht hh hth⟩

/-- `etd4_phi_diffs` for the coefficient vectors of a system; `Λ = ‖l‖`, the sup over the modes -/
theorem etd4_phi_diffsV (l : ι → ℂ) (ω h T : ℝ) (hω : 0 ≤ ω) (hl : ∀ k, (l k).re ≤ ω) (hh : 0 ≤ h) (hhT : h ≤ T) :
    ‖(fun k => phi1e (l k * h / 2)) - 1‖ ≤ ‖l‖ * h * Real.exp (ω * T) / 4 ∧
    ‖(fun k => phi1e (l k * h / 2)) - 2 * (fun k => phi2e (l k * h / 2)) - ((h : ℂ) / 12) • l‖
      ≤ (‖l‖ * h) ^ 2 * Real.exp (ω * T) / 16 ∧
    ‖(fun k => phi1e (l k * h / 2)) - 4 * (fun k => phi3e (l k * h / 2)) - algebraMap ℂ (ι → ℂ) (1 / 3)‖
      ≤ ‖l‖ * h * Real.exp (ω * T) / 3 ∧
    ‖(1 / 2 : ℂ) • (fun k => phi1e (l k * h / 2)) - (fun k => phi2e (l k * h)) + ((h : ℂ) / 24) • l‖
      ≤ (‖l‖ * h) ^ 2 * Real.exp (ω * T) / 16 ∧
    ‖(1 / 8 : ℂ) • (fun k => phi1e (l k * h / 2)) - (fun k => phi3e (l k * h)) + algebraMap ℂ (ι → ℂ) (1 / 24)‖
      ≤ ‖l‖ * h * Real.exp (ω * T) * (7 / 96) ∧
    ‖(1 / 2 : ℂ) • (fun k => phi3e (l k * h)) - (1 / 12 : ℂ) • (fun k => phi2e (l k * h)) - fun k => phiE 4 (l k * h)‖
      ≤ ‖l‖ * h * (Real.exp (ω * T) / 72 + Real.exp (ω * T) / 48 + Real.exp (ω * T) / 120) ∧
    ‖(fun k => phi2e (l k * h)) - 2 * fun k => phi3e (l k * h)‖ ≤ 5 * Real.exp (ω * T) / 6 := by
  have d := fun k => etd4_phi_diffs (l k) ω h T ‖l‖ hω (hl k) hh hhT (norm_le_pi_norm l k)
  simp only [forall_and] at d
  obtain ⟨d1, d2, d3, d4, d5, d6, d7⟩ := d
  exact ⟨(pi_norm_le_iff_of_nonneg (by positivity)).mpr d1, (pi_norm_le_iff_of_nonneg (by positivity)).mpr d2,
    (pi_norm_le_iff_of_nonneg (by positivity)).mpr d3, (pi_norm_le_iff_of_nonneg (by positivity)).mpr d4,
    (pi_norm_le_iff_of_nonneg (by positivity)).mpr d5, (pi_norm_le_iff_of_nonneg (by positivity)).mpr d6,
    (pi_norm_le_iff_of_nonneg (by positivity)).mpr d7⟩

end Exponax.LinearOrder
end
