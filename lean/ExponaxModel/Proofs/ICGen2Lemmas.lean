import Mathlib.Tactic
import ExponaxModel.Proofs.GenPreludeLemmas
import ExponaxModel.Proofs.LayoutLemmas
import ExponaxModel.Proofs.ICGenEq
import ExponaxModel.Model.IC2
import ExponaxModel.Generated.ICGen2
/-
Structural facts about the list / array combinators that `harness/translate_ic2.py` emits (loops as `List.foldl`
over `tab`-updates, Python `sum`, `zip`): shared by the equalities of `Proofs/ICGen2Eq.lean`.
-/
namespace Exponax.Gen.IC2
open Exponax Exponax.Layout Exponax.Transform Exponax.DFT Exponax.Gen Exponax.Gen.Prelude

theorem foldl_tab {ι α : Type} (l : List ι) (n : ℕ) (d : α) (g : ι → ℕ → α → α) (f0 : ℕ → α) :
    l.foldl (fun (acc : Array α) it => tab acc.size (fun j => g it j (acc.getD j d))) (tab n f0)
      = tab n (fun j => l.foldl (fun v it => g it j v) (f0 j)) := by
  induction l generalizing f0 with
  | nil => rfl
  | cons a l ih =>
    rw [List.foldl_cons, tab_size,
      tab_congr n _ (fun j => g a j (f0 j)) fun i hi => by rw [tab_getD n f0 i d hi]]
    exact ih _

section
variable {K : Type} [Add K] [Zero K]

theorem foldl_tab_add {α : Type} (l : List α) (n : ℕ) (g : α → ℕ → K) (f0 : ℕ → K) :
    l.foldl (fun (r : Array K) it => tab r.size (fun j => r.getD j 0 + g it j)) (tab n f0)
      = tab n (fun j => l.foldl (fun acc it => acc + g it j) (f0 j)) :=
  foldl_tab l n 0 (fun it j v => v + g it j) f0

theorem foldl_add_eq_sumList {α : Type} (l : List α) (t : α → K) :
    l.foldl (fun acc it => acc + t it) 0 = sumList (l.map t) := by
  unfold sumList
  rw [List.foldl_map]

/-- Python `sum` of arrays of one size: the pointwise sum -/
theorem py_sum_arrays_eq (l : List (Array K)) (n : ℕ) (hne : l ≠ []) (hs : ∀ a ∈ l, a.size = n) :
    py_sum_arrays l = IC2.sumOfFields n l := by
  cases l with
  | nil => exact absurd rfl hne
  | cons a rest =>
    have ha : a.size = n := hs a (by simp)
    unfold py_sum_arrays IC2.sumOfFields
    simp only
    rw [ha]
    have h := foldl_tab_add rest n (fun (b : Array K) j => b.getD j 0) (fun j => 0 + a.getD j 0)
    rw [h]
    apply tab_congr
    intro j hj
    unfold sumList
    rw [List.foldl_map, List.foldl_cons]

theorem sumOfFields_size (n : ℕ) (l : List (Array K)) : (IC2.sumOfFields n l).size = n := by
  unfold IC2.sumOfFields; simp

end

theorem scaled_sq_list_sum {R : Type} [CommRing R] (c : R) (k : List ℤ) :
    (k.map (fun (kd : ℤ) => (c * (kd : R)) * (c * (kd : R)))).sum = c * c * ((normSq k : ℤ) : R) := by
  induction k with
  | nil => simp [normSq_nil]
  | cons a k ih =>
    rw [List.map_cons, List.sum_cons, ih, normSq_cons]
    push_cast
    ring

end Exponax.Gen.IC2
