import ExponaxModel.Proofs.WaveWholeEnergy
import ExponaxModel.Proofs.ExactLinearSemigroup
/-
C11 for the wave stepper on whole states: the Nyquist caveat of `waveStep_energy_bandLimited` is sharp.

* `C11_wave_energy_odd_grid` — for odd `N` no stored mode has a Nyquist component, EVERY array is `BandLimited`
  (`ExactLinear.bandLimited_of_odd`) and the energy is conserved for every real two-channel state.
* `wave_energy_nyquist_fails` — for even `N` with Nyquist content the energy is NOT conserved: `D = 1`, `N = 2`,
  `h = (1, −1) = cos(π j)`, `v = 0`.  The model's spectral derivative of the Nyquist mode is `0` (its symbol `i(2π/L)(N/2)`
  is imaginary and the c2r transform takes the real part on the self-conjugate column), so `E(h, v) = 0`, while the
  stepper rotates the mode with `ω = c (2π/L)(N/2) ≠ 0` into `v = ∓ω sin(ωt)`: `E > 0` after one step whenever
  `sin(ωt) ≠ 0`.  (Same mechanism as `C11_nyquist_loss` for the linear steppers, here a gain.)
-/
namespace Exponax.WaveWhole
open Exponax Exponax.Layout Exponax.Transform Exponax.DFT Exponax.ExactLinear Exponax.SpectralOpsEq
  Exponax.ReadOff Exponax.Nonlin Finset

theorem derivativeM_nyqState (L : ℝ) (j : ℕ) (hj : j < 2) :
    (derivativeM (cfg 1 2 (L : ℂ)) 1 0 nyqState).getD j 0 = 0 := by
  rw [derivativeM_eq_specApply]
  show (specApply 1 2 _ nyqState).getD j 0 = 0
  rw [specApply_nyqState _ j hj, npow_eq, pow_one, Nonlin.deriv_eq_real _ _ (cfg_s_real 1 2 L), Complex.I_mul_re,
    Complex.ofReal_im, neg_zero, zero_mul, Complex.ofReal_zero]

theorem waveStep_nyq_velocity (c L t : ℝ) (hc : c ≠ 0) (hL : 0 < L) :
    at2 (waveStep 1 2 (L : ℂ) (t : ℂ) (c : ℂ) #[nyqState, vzero (2 ^ 1)]) 1 0
      = ((-(waveOmega 1 c L [1] * Real.sin (waveOmega 1 c L [1] * t)) : ℝ) : ℂ) := by
  rw [waveStep_channels 1 2 (by norm_num) (by norm_num) c L t hc hL]
  unfold at2
  rw [pair_getD_one, mulStep_vzero 1 2 (by norm_num), vadd_getD _ _ _ _ (by norm_num), vzero_getD, add_zero]
  show (specApply 1 2 _ nyqState).getD 0 0 = _
  rw [specApply_nyqState _ 0 (by norm_num)]
  unfold mOmSin
  rw [DFT.wnFlat_one 2 1, Complex.ofReal_re, pow_zero, mul_one, Nat.cast_one]

/-- **with Nyquist content (even `N`) the whole step does NOT conserve the energy**: it starts at `0` and is positive
    after one step -/
theorem wave_energy_nyquist_fails (c L t : ℝ) (hc : c ≠ 0) (hL : 0 < L)
    (hs : Real.sin (waveOmega 1 c L [1] * t) ≠ 0) :
    waveEnergy 1 2 L c #[nyqState, vzero (2 ^ 1)] = 0 ∧
      0 < waveEnergy 1 2 L c (waveStep 1 2 (L : ℂ) (t : ℂ) (c : ℂ) #[nyqState, vzero (2 ^ 1)]) := by
  constructor
  · unfold waveEnergy
    have e1 : ∀ j, at2 (#[nyqState, vzero (2 ^ 1)] : MC ℂ) 1 j = (vzero (2 ^ 1)).getD j 0 := fun j => rfl
    have e0 : (#[nyqState, vzero (2 ^ 1)] : MC ℂ).getD 0 #[] = nyqState := rfl
    simp only [e1, e0, vzero_getD, norm_zero]
    rw [Finset.sum_eq_zero (fun j _ => by ring), zero_add, Finset.sum_eq_zero, mul_zero]
    intro j hj
    have hj' : j < 2 := by simpa using Finset.mem_range.mp hj
    rw [Finset.sum_range_one, derivativeM_nyqState L j hj', norm_zero]
    ring
  · have hω : waveOmega 1 c L [1] ≠ 0 := by
      intro e
      have := (waveOmega_eq_zero_iff 1 c L hc hL [1]).1 e 0 (by norm_num)
      revert this; decide
    have hv := waveStep_nyq_velocity c L t hc hL
    generalize waveStep 1 2 (L : ℂ) (t : ℂ) (c : ℂ) #[nyqState, vzero (2 ^ 1)] = U at hv ⊢
    unfold waveEnergy
    have hne : -(waveOmega 1 c L [1] * Real.sin (waveOmega 1 c L [1] * t)) ≠ 0 :=
      neg_ne_zero.mpr (mul_ne_zero hω hs)
    have hpos : 0 < ‖at2 U 1 0‖ ^ 2 := by
      rw [hv, Complex.norm_real]
      exact pow_pos (norm_pos_iff.mpr hne) 2
    have h1 : ‖at2 U 1 0‖ ^ 2 ≤ ∑ j ∈ range (2 ^ 1), ‖at2 U 1 j‖ ^ 2 :=
      Finset.single_le_sum (f := fun j => ‖at2 U 1 j‖ ^ 2) (fun j _ => sq_nonneg _)
        (Finset.mem_range.mpr (by norm_num))
    have h2 : 0 ≤ c ^ 2 * ∑ j ∈ range (2 ^ 1), ∑ d ∈ range 1,
        ‖(derivativeM (cfg 1 2 (L : ℂ)) 1 d (U.getD 0 #[])).getD j 0‖ ^ 2 :=
      mul_nonneg (sq_nonneg c) (Finset.sum_nonneg fun j _ => Finset.sum_nonneg fun d _ => sq_nonneg _)
    linarith

/-- the counterexample state is a real grid state that is not band-limited -/
theorem nyqState_not_bandLimited :
    nyqState.size = 2 ^ 1 ∧ (∀ j < 2 ^ 1, (nyqState.getD j 0).im = 0) ∧ ¬ BandLimited 1 2 nyqState := by
  refine ⟨by simp [nyqState], fun j hj => modeField_real 1 2 _ _ _ j hj, ?_⟩
  intro hB
  have h1 : (1 : ℕ) < numModes 1 2 := by rw [numModes_one]; norm_num
  have hnb : ¬ BelowNyquist 1 2 (wnFlat 1 2 1) := by
    rw [DFT.wnFlat_one 2 1]
    intro hb
    have := hb.2 0 (by norm_num)
    revert this; decide
  have := hB 1 h1 hnb
  rw [rfftn_nyqState_one] at this
  norm_num at this

/-! non-vacuity: `c = 1`, `L = 2π`, `t = π/2` give `ω = 1`, `sin(ωt) = 1` -/
example : ∃ c L t : ℝ, c ≠ 0 ∧ 0 < L ∧ Real.sin (waveOmega 1 c L [1] * t) ≠ 0 := by
  refine ⟨1, 2 * Real.pi, Real.pi / 2, one_ne_zero, by positivity, ?_⟩
  have hk : kappaSq 1 [1] = 1 := by decide
  have hω : waveOmega 1 1 (2 * Real.pi) [1] = 1 := by
    unfold waveOmega
    rw [hk]
    have : (2 * Real.pi) ≠ 0 := by positivity
    simp [this]
  rw [hω, one_mul, Real.sin_pi_div_two]
  exact one_ne_zero
example : (3 : ℕ) % 2 = 1 := rfl

end Exponax.WaveWhole
