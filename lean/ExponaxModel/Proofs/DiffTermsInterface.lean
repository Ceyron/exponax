import ExponaxModel.Proofs.DiffTermsSteps
import ExponaxModel.Proofs.DiffTermsMain
import ExponaxModel.Proofs.InterfaceAssembly
/-
C07 support: smoothness of the assembled steppers of `Proofs/Interface*.lean`.

`Interface.etdrkStep` / `Interface.baseStep` act on `Interface.Spec = ℕ → ℕ → ℂ` (all indices; not a normed space).  The
stored block is `Spec C M` (`C` channels, `M = modes c` stored modes), reached by restriction `res` and left by extension by
zero `ext`.  Restriction intertwines `Interface.etdrkStep` with the finite-array step `etdrkStepF`, and `liftTermND c C T`
with `specMap c C C T`; hence `x ↦ res ((baseStep b linop nonlin)^[k] (ext x))` is `ContDiff ℝ n` on the stored spectra for
any assembled stepper whose nonlinear function has a `TermCalc`.
-/
namespace Exponax.DiffTerms
open Exponax Exponax.Gen.Etdrk Exponax.Nonlin Exponax.Transform Exponax.Interface Exponax.Gen.StepperWiring

section Res
variable {C M : ℕ}

def res (C M : ℕ) (a : Interface.Spec) : Spec C M := fun ch h => a ch h

noncomputable def ext (C M : ℕ) (x : Spec C M) : Interface.Spec :=
  fun ch h => if hh : ch < C ∧ h < M then x ⟨ch, hh.1⟩ ⟨h, hh.2⟩ else 0

theorem res_ext (x : Spec C M) : res C M (ext C M x) = x := by
  funext ch h
  simp only [res, ext, dif_pos (And.intro ch.2 h.2), Fin.eta]

theorem res_mul (a b : Interface.Spec) : res C M (a * b) = res C M a * res C M b := rfl
theorem res_add (a b : Interface.Spec) : res C M (a + b) = res C M a + res C M b := rfl
theorem res_sub (a b : Interface.Spec) : res C M (a - b) = res C M a - res C M b := rfl
theorem res_two : res C M (lit 2 : Interface.Spec) = (lit 2 : Spec C M) := rfl

theorem res_stepRel :
    Etdrk.StepRel (fun (a : Interface.Spec) (x : Spec C M) => res C M a = x) (fun e e' => res C M e = e') :=
  Etdrk.StepRel.graph (res C M) (res C M) res_add res_sub res_mul res_two

theorem res_etdrkStep (p : ℕ) (dt : ℂ) (lam : Interface.Spec) (Mc : ℕ) (r : ℂ)
    (NI : Interface.Spec → Interface.Spec) (NF : Spec C M → Spec C M) (hN : ∀ a, res C M (NI a) = NF (res C M a))
    (a : Interface.Spec) :
    res C M (Interface.etdrkStep p dt lam Mc r NI a) = etdrkStepF p dt (res C M lam) Mc r NF (res C M a) := by
  rw [Interface.etdrkStep_eq_gen, etdrkStepF_eq_gen]
  exact Etdrk.etdrkGen_rel res_stepRel (fun x _ h => h ▸ hN x) (fun _ => rfl) p dt Mc r rfl

theorem res_iterate (SI : Interface.Spec → Interface.Spec) (SF : Spec C M → Spec C M)
    (h : ∀ a, res C M (SI a) = SF (res C M a)) (k : ℕ) (a : Interface.Spec) :
    res C M (SI^[k] a) = SF^[k] (res C M a) :=
  Function.Semiconj.iterate_right h k a

end Res

theorem res_liftTermND (c : Cfg ℂ) (C : ℕ) (T : MC ℂ → MC ℂ) (a : Interface.Spec) :
    res C (modes c) (EquivND.liftTermND c C T a) = specMap c C C T (res C (modes c) a) := by
  funext ch h
  have e : embS C (modes c) (res C (modes c) a) = tab2 C (modes c) a := by
    unfold embS
    exact Nonlin.tab2_congr _ _ _ _ (fun i m hi hm => by rw [dif_pos ⟨hi, hm⟩]; rfl)
  simp only [res, specMap, readS, e]
  exact EquivND.liftTermND_apply c C T a ch h h.2

theorem etdrkStep_liftTerm_rollout_contDiff (c : Cfg ℂ) (C : ℕ) (T : MC ℂ → MC ℂ) (jvp : MC ℂ → MC ℂ → MC ℂ)
    (h : TermCalc T jvp) (p : ℕ) (dt : ℂ) (lam : Interface.Spec) (Mc : ℕ) (r : ℂ) (n : WithTop ℕ∞) (k : ℕ) :
    ContDiff ℝ n (fun x : Spec C (modes c) =>
      res C (modes c) ((Interface.etdrkStep p dt lam Mc r (EquivND.liftTermND c C T))^[k] (ext C (modes c) x))) := by
  have hstep : ∀ a, res C (modes c) (Interface.etdrkStep p dt lam Mc r (EquivND.liftTermND c C T) a)
      = etdrkStepF p dt (res C (modes c) lam) Mc r (specMap c C C T) (res C (modes c) a) :=
    fun a => res_etdrkStep _ _ _ _ _ _ _ (res_liftTermND c C T) a
  have e : (fun x : Spec C (modes c) =>
        res C (modes c) ((Interface.etdrkStep p dt lam Mc r (EquivND.liftTermND c C T))^[k] (ext C (modes c) x)))
      = (etdrkStepF p dt (res C (modes c) lam) Mc r (specMap c C C T))^[k] := by
    funext x
    rw [res_iterate _ _ hstep k, res_ext]
  rw [e]
  exact h.etdrk_rollout_contDiff c C p dt _ _ _ k

/-- the hypothesis `h` (a `TermCalc` for the nonlinear function at the stepper's configuration) holds for every term of
    `Model/Nonlin.lean` (`DiffTermsMain`) -/
theorem baseStep_rollout_contDiff (b : BaseStepperArgs ℂ) (linop : List ℂ → ℂ) (nonlin : Cfg ℂ → MC ℂ → MC ℂ)
    (jvp : MC ℂ → MC ℂ → MC ℂ)
    (h : TermCalc (nonlin (baseCfg b.num_spatial_dims b.num_points b.domain_extent)) jvp) (n : WithTop ℕ∞) (k : ℕ) :
    ContDiff ℝ n (fun x : Spec b.num_channels (modes (baseCfg b.num_spatial_dims b.num_points b.domain_extent)) =>
      res b.num_channels (modes (baseCfg b.num_spatial_dims b.num_points b.domain_extent))
        ((baseStep b linop nonlin)^[k]
          (ext b.num_channels (modes (baseCfg b.num_spatial_dims b.num_points b.domain_extent)) x))) := by
  unfold baseStep
  exact etdrkStep_liftTerm_rollout_contDiff _ _ _ jvp h _ _ _ _ _ n k

/-- the regenerated `GeneralConvectionStepper` (`exponax/stepper/generic/_convection.py`; also its
    normalized and difficulty children, which are this step on other arguments): `k` steps, every order, every flag
    combination, are smooth in the initial stored spectrum -/
theorem GeneralConvectionStepper_rollout_contDiff (g : GeneralConvectionStepperArgs ℂ) (n : WithTop ℕ∞) (k : ℕ) :
    ContDiff ℝ n (fun x : Spec (if g.single_channel then 1 else g.num_spatial_dims)
        (modes (cfgOf g.num_spatial_dims g.num_points g.domain_extent g.dealiasing_fraction)) =>
      res (if g.single_channel then 1 else g.num_spatial_dims)
        (modes (cfgOf g.num_spatial_dims g.num_points g.domain_extent g.dealiasing_fraction))
        ((GeneralConvectionStepper_step g)^[k]
          (ext (if g.single_channel then 1 else g.num_spatial_dims)
            (modes (cfgOf g.num_spatial_dims g.num_points g.domain_extent g.dealiasing_fraction)) x))) := by
  rw [GeneralConvectionStepper_step_model]
  exact etdrkStep_liftTerm_rollout_contDiff _ _ _ _ (convection_termCalc _ _ _ _ _) _ _ _ _ _ n k

end Exponax.DiffTerms
