import Mathlib.Tactic
import ExponaxModel.Model.Loops
import ExponaxModel.Proofs.LoopsGenEq
/-
C14 — `rollout` with a variable auxiliary sequence: entry `i` is the left fold of the stepper over the first
`i` (with `include_init`) or `i+1` auxiliary inputs. Also for the rollout regenerated from `exponax/_utils.py`
(`Gen.LoopsGen.rollout_aux_sequence`), including the rejected case (`jax.lax.scan(..., length = n)` raises
unless the aux sequence has exactly `n` entries).
-/
namespace Exponax.SmallGaps2
open Exponax.Loops

variable {S A : Type}

/-- any `include_init`, any aux length: the model consumes `aux.take n` -/
theorem rolloutAux_length (f : S → A → S) (n : ℕ) (b : Bool) (u0 : S) (aux : List A) :
    (rolloutAux f n b false u0 aux).length = min n aux.length + (if b then 1 else 0) := by
  cases b <;> simp [rolloutAux, scanStatesAux_length]

theorem rolloutAux_getElem (f : S → A → S) (n : ℕ) (b : Bool) (u0 : S) (aux : List A) (hn : n ≤ aux.length)
    (i : ℕ) (h : i < (rolloutAux f n b false u0 aux).length) :
    (rolloutAux f n b false u0 aux)[i] = (aux.take (i + (if b then 0 else 1))).foldl f u0 := by
  have hi : i < n + (if b then 1 else 0) := by rwa [rolloutAux_length, min_eq_left hn] at h
  apply Option.some.inj
  rw [← List.getElem?_eq_getElem h]
  cases b with
  | true => exact rolloutAux_true_getElem? f n u0 aux hn i (Nat.le_of_lt_succ hi)
  | false => exact rolloutAux_false_getElem? f n u0 aux hn i hi

/-- variable aux with `include_init = True` -/
theorem aux_order_init (f : S → A → S) (n : ℕ) (u0 : S) (aux : List A) (hn : n ≤ aux.length) :
    (rolloutAux f n true false u0 aux).length = n + 1 ∧
    ∀ i (h : i < (rolloutAux f n true false u0 aux).length),
      (rolloutAux f n true false u0 aux)[i] = (aux.take i).foldl f u0 :=
  ⟨rolloutAux_true_length f n u0 aux hn, rolloutAux_getElem f n true u0 aux hn⟩

/-- the same, spelled out: entry 0 is the initial state; entry `i+1` is the stepper applied to entry `i` and
    the `i`-th auxiliary input (so the inputs are consumed one per step, in order) -/
theorem aux_order_init_rec (f : S → A → S) (n : ℕ) (u0 : S) (aux : List A) (hn : n ≤ aux.length) :
    (rolloutAux f n true false u0 aux)[0]'(by rw [(aux_order_init f n u0 aux hn).1]; omega) = u0 ∧
    ∀ i (hi : i < n),
      (rolloutAux f n true false u0 aux)[i + 1]'(by rw [(aux_order_init f n u0 aux hn).1]; omega)
        = f ((rolloutAux f n true false u0 aux)[i]'(by rw [(aux_order_init f n u0 aux hn).1]; omega))
            (aux[i]'(by omega)) := by
  have h := aux_order_init f n u0 aux hn
  refine ⟨by rw [h.2]; rfl, ?_⟩
  intro i hi
  rw [h.2, h.2]
  have hia : i < aux.length := by omega
  rw [List.take_add_one, List.foldl_append, List.getElem?_eq_getElem hia]
  rfl

theorem aux_init_cons (f : S → A → S) (n : ℕ) (c : Bool) (u0 : S) (aux : List A) :
    rolloutAux f n true c u0 aux = u0 :: rolloutAux f n false c u0 aux := by
  simp [rolloutAux]

theorem aux_init_last (f : S → A → S) (n : ℕ) (u0 : S) (aux : List A) (hn : n ≤ aux.length) :
    (rolloutAux f n true false u0 aux).getLast? = some (repeatAux f n false u0 aux) := by
  have h := aux_order_init f n u0 aux hn
  rw [List.getLast?_eq_getElem?, h.1]
  simp only [Nat.add_sub_cancel]
  rw [List.getElem?_eq_getElem (by rw [h.1]; omega), h.2]
  simp [repeatAux]

open Exponax.Gen.LoopsGen

/-- **generated `rollout(…, takes_aux=True, constant_aux=False, include_init=b)`**: it is `some` exactly when
    the aux sequence has `n` entries, and then has `n (+1)` entries, entry `i` being the fold over the first
    `i (+1)` aux inputs -/
theorem generated_aux_sequence (f : S → A → S) (n : ℕ) (b : Bool) (u0 : S) (aux : List A) :
    (aux.length ≠ n → rollout_aux_sequence f n b u0 aux = none) ∧
    (aux.length = n → ∃ trj, rollout_aux_sequence f n b u0 aux = some trj ∧
        trj = rolloutAux f n b false u0 aux ∧
        trj.length = n + (if b then 1 else 0) ∧
        ∀ i (h : i < trj.length), trj[i] = (aux.take (i + (if b then 0 else 1))).foldl f u0) := by
  refine ⟨rollout_aux_sequence_none f n b u0 aux, ?_⟩
  intro h
  refine ⟨_, rollout_aux_sequence_eq_partial f n b u0 aux h, rfl, ?_, ?_⟩
  · rw [rolloutAux_length, h, Nat.min_self]
  · exact rolloutAux_getElem f n b u0 aux (le_of_eq h.symm)

theorem generated_repeat_aux_sequence (f : S → A → S) (n : ℕ) (u0 : S) (aux : List A) (h : aux.length = n) :
    repeat_aux_sequence f n u0 aux = some (aux.foldl f u0) ∧
    ∃ trj, rollout_aux_sequence f n true u0 aux = some trj ∧ trj.getLast? = some (aux.foldl f u0) := by
  have ht : aux.take n = aux := by rw [← h]; exact List.take_length
  refine ⟨?_, ?_⟩
  · rw [repeat_aux_sequence_eq_partial f n u0 aux h]; simp [repeatAux, ht]
  · refine ⟨_, rollout_aux_sequence_eq_partial f n true u0 aux h, ?_⟩
    rw [aux_init_last f n u0 aux (le_of_eq h.symm)]; simp [repeatAux, ht]

example : rolloutAux (fun (x a : ℕ) => 10 * x + a) 3 true false 0 [1, 2, 3, 4] = [0, 1, 12, 123] := by decide
example : rollout_aux_sequence (fun (x a : ℕ) => 10 * x + a) 3 true 0 [1, 2, 3] = some [0, 1, 12, 123] := by decide
example : rollout_aux_sequence (fun (x a : ℕ) => 10 * x + a) 3 true 0 [1, 2, 3, 4] = none := by decide
example : (3 : ℕ) ≤ [1, 2, 3, 4].length ∧ [1, 2, 3].length = 3 := by decide

end Exponax.SmallGaps2
