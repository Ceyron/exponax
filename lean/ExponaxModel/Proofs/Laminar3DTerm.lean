import ExponaxModel.Proofs.Laminar3DLine
/-
C12, 3-D, assembly: `Nonlin.projected3d c none û = 0` (every channel, every stored mode) for
`û = (a δ_{(0,m,0)} + b δ_{(0,−m,0)}, 0, 0)`, arbitrary complex `a`, `b` (with the Kolmogorov injection the
output is then exactly the injection term: `Laminar3DSteps.projected3d_shear_all`).

The spectrum `û = (rfftn f, 0, 0)` of EVERY real velocity field `(f(x₁), 0, 0)` is treated in
`Proofs/Laminar3DShear.lean` (`C12_shear_3d_no_convection_every_profile`).  Here (`…_partial`): the case where `û₀` is carried by the two stored modes `(0, ±m, 0)`, `0 < m`,
`2m < N` (hypothesis `TwoMode c m û`) — but with ARBITRARY complex amplitudes, which is exactly the invariant set of
the Kolmogorov stepper (`Proofs/Laminar3DSteps.lean` needs nothing more).  Both are `projected3d_line_of_mean`
(`Proofs/Laminar3DLine.lean`); here the grid mean of `u₀ ω₂` vanishes because the modes `(0, ±m, 0)`, `2m < N`, are not
Nyquist modes (`sum_vel_curl_line`).  Remark: for an arbitrary COMPLEX
spectrum on the line `(0, k₁, 0)` the statement is false when `N` is even and the Nyquist entry `k₁ = −N/2` carries a
coefficient with non-zero real and imaginary part (the grid mean of `u₀ ∂₁u₀` is then `s N² Re·Im ≠ 0` and survives the
Leray projection at the mean mode); it needs the Hermitian symmetry of a real field there.
-/
namespace Exponax.Laminar3D
open Exponax Exponax.Layout Exponax.Transform Exponax.DFT Exponax.ExactLinear Finset
open Exponax.Nonlin (Cfg MC at2 tab2 tabC modes gridSize mask nfft nifft projected3d leray kInt proj3
  invLapZero laplace specDiv proj3_cross_zero proj3_cross_one proj3_cross_two)
open scoped ComplexConjugate

def TwoMode (c : Cfg ℂ) (m : ℕ) (uh : MC ℂ) : Prop :=
  ∀ i h, h < modes c → (i ≠ 0 ∨ (h ≠ hP c m ∧ h ≠ hM c m)) → at2 uh i h = 0

theorem TwoMode.lineSpec {c : Cfg ℂ} {m : ℕ} {uh : MC ℂ} (hu : TwoMode c m uh) (hD : c.D = 3) (hm : 2 * m < c.N) :
    LineSpec c uh := fun h hh =>
  ⟨hu 1 h hh (Or.inl one_ne_zero), hu 2 h hh (Or.inl two_ne_zero), fun h0 => by
    by_cases hP' : h = hP c m
    · rw [hP']
      exact ⟨(kInt_hP c hD m hm).1, (kInt_hP c hD m hm).2.2⟩
    · by_cases hM' : h = hM c m
      · rw [hM']
        exact ⟨(kInt_hM c hD m hm).1, (kInt_hM c hD m hm).2.2⟩
      · exact absurd (hu 0 h hh (Or.inr ⟨hP', hM'⟩)) h0⟩

theorem projected3d_shear_none_partial (c : Cfg ℂ) (hD : c.D = 3) (s : ℝ) (hs : c.s = (s : ℂ)) (hs0 : s ≠ 0) (m : ℕ)
    (_hm0 : 0 < m) (hm : 2 * m < c.N) (uh : MC ℂ) (hu : TwoMode c m uh) (i h : ℕ) (hi : i < 3)
    (hh : h < modes c) : at2 (projected3d c none uh) i h = 0 := by
  have hN : 0 < c.N := Nat.zero_lt_of_lt hm
  refine projected3d_line_of_mean c hD hN s hs hs0 uh (hu.lineSpec hD hm)
    (sum_vel_curl_line c (by omega) hN s hs uh (hu.lineSpec hD hm) fun h' hh' h0 => ?_) i h hi hh
  -- a mode that carries `û₀` is `(0, ±m, 0)`, not a Nyquist mode
  by_cases hP' : h' = hP c m
  · rw [hP', (kInt_hP c hD m hm).2.1, Int.natAbs_natCast]
    exact hm
  · by_cases hM' : h' = hM c m
    · rw [hM', (kInt_hM c hD m hm).2.1, Int.natAbs_neg, Int.natAbs_natCast]
      exact hm
    · exact absurd (hu 0 h' hh' (Or.inr ⟨hP', hM'⟩)) h0

theorem twoMode_empty (c : Cfg ℂ) (m : ℕ) : TwoMode c m (#[] : MC ℂ) := fun i h _ _ => Laminar.at2_empty i h

end Exponax.Laminar3D
