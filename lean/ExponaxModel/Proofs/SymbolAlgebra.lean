import Mathlib.Analysis.Calculus.Deriv.Mul
import Mathlib.Analysis.Calculus.Deriv.Add
import Mathlib.Analysis.Calculus.IteratedDeriv.Defs
import Mathlib.Analysis.SpecialFunctions.ExpDeriv
import Mathlib.Analysis.Complex.RealDeriv
import Mathlib.Data.List.GetD
import ExponaxModel.Proofs.DFTBasic
import ExponaxModel.Proofs.LayoutLemmas
import ExponaxModel.Model.Nonlin
import ExponaxModel.Generated.Etdrk
import ExponaxModel.Proofs.EtdrkAlgebra
/-
The linear symbols at `K := ℂ`.  `Nonlin.polySymbol c terms h` is the polynomial `polyAt κ terms` in the derivative
symbols `κ_d = i s k_d` of stored mode `h`; from that follow the zero mode, Hermitian symmetry, the closed forms and
signs of the documented term lists, exactness of the regenerated linear propagator (`Gen.Etdrk.exp_term`, `E0step`)
on every Fourier mode, and plane waves as eigenfunctions of `Σ c ∂^α`.
-/
namespace Exponax
open Exponax.Layout Exponax.Nonlin Exponax.Gen.Etdrk
open scoped ComplexConjugate

theorem sumList_eq' {K : Type} [Semiring K] (l : List K) : sumList l = l.sum := sumList_eq l

theorem list_range_prod {M : Type} [CommMonoid M] (n : ℕ) (f : ℕ → M) :
    ((List.range n).map f).prod = ∏ i ∈ Finset.range n, f i := rfl

/-- the integer wavenumber of stored mode `h` along axis `d` -/
def wnAt (c : Cfg ℂ) (d h : ℕ) : ℤ := (wnFlat c.D c.N h).getD d 0

theorem wnAt_def (c : Cfg ℂ) (d h : ℕ) : wnAt c d h = (wnFlat c.D c.N h).getD d 0 := rfl

theorem deriv_eq (c : Cfg ℂ) (s : ℝ) (hs : c.s = (s : ℂ)) (d h : ℕ) :
    Nonlin.deriv c d h = Complex.I * ((s * (wnAt c d h : ℝ) : ℝ) : ℂ) := by
  rw [Complex.ofReal_mul, ← hs]
  rfl

theorem deriv_pow (c : Cfg ℂ) (s : ℝ) (hs : c.s = (s : ℂ)) (d h n : ℕ) :
    (Nonlin.deriv c d h) ^ n = Complex.I ^ n * (((s * (wnAt c d h : ℝ)) ^ n : ℝ) : ℂ) := by
  rw [deriv_eq c s hs, mul_pow, Complex.ofReal_pow]

theorem I_pow_two_mul (m : ℕ) : Complex.I ^ (2 * m) = (((-1) ^ m : ℝ) : ℂ) := by
  rw [pow_mul, Complex.I_sq, Complex.ofReal_pow, Complex.ofReal_neg, Complex.ofReal_one]

theorem I_pow_re (n : ℕ) : (Complex.I ^ n).re = if Even n then (-1) ^ (n / 2) else 0 := by
  obtain ⟨m, rfl | rfl⟩ := Nat.even_or_odd' n
  · rw [I_pow_two_mul, Complex.ofReal_re, if_pos (even_two_mul m), Nat.mul_div_cancel_left m two_pos]
  · rw [pow_succ, I_pow_two_mul, Complex.re_ofReal_mul, Complex.I_re, mul_zero,
      if_neg (Nat.not_even_two_mul_add_one m)]

theorem I_pow_im (n : ℕ) : (Complex.I ^ n).im = if Even n then 0 else (-1) ^ (n / 2) := by
  obtain ⟨m, rfl | rfl⟩ := Nat.even_or_odd' n
  · rw [I_pow_two_mul, Complex.ofReal_im, if_pos (even_two_mul m)]
  · rw [pow_succ, I_pow_two_mul, Complex.im_ofReal_mul, Complex.I_im, mul_one,
      if_neg (Nat.not_even_two_mul_add_one m), Nat.mul_add_div two_pos, Nat.div_eq_of_lt one_lt_two, add_zero]

theorem deriv_pow_re (c : Cfg ℂ) (s : ℝ) (hs : c.s = (s : ℂ)) (d h n : ℕ) :
    ((Nonlin.deriv c d h) ^ n).re =
      if Even n then (-1) ^ (n / 2) * (s * (wnAt c d h : ℝ)) ^ n else 0 := by
  rw [deriv_pow c s hs, Complex.re_mul_ofReal, I_pow_re, ite_mul, zero_mul]

theorem deriv_pow_re_odd (c : Cfg ℂ) (s : ℝ) (hs : c.s = (s : ℂ)) (d h n : ℕ) (hn : Odd n) :
    ((Nonlin.deriv c d h) ^ n).re = 0 := by
  rw [deriv_pow_re c s hs, if_neg (Nat.not_even_iff_odd.mpr hn)]

theorem deriv_pow_re_even (c : Cfg ℂ) (s : ℝ) (hs : c.s = (s : ℂ)) (d h n : ℕ) (hn : Even n) :
    ((Nonlin.deriv c d h) ^ n).re = (-1) ^ (n / 2) * (s * (wnAt c d h : ℝ)) ^ n := by
  rw [deriv_pow_re c s hs, if_pos hn]

/-- monomial `Π_d κ_d^{α_d}` over the entries of `κ` (missing exponents count as `0`) -/
noncomputable def monoAt (κ : List ℂ) (α : List ℕ) : ℂ :=
  ((List.range κ.length).map (fun d => κ.getD d 0 ^ α.getD d 0)).prod

noncomputable def polyAt (κ : List ℂ) (terms : List (ℂ × List ℕ)) : ℂ :=
  (terms.map (fun t => t.1 * monoAt κ t.2)).sum

/-- the vector `(i s k_d)_d` of derivative symbols at stored mode `h` -/
noncomputable def kappa (c : Cfg ℂ) (h : ℕ) : List ℂ := (List.range c.D).map (fun d => Nonlin.deriv c d h)

@[simp] theorem kappa_length (c : Cfg ℂ) (h : ℕ) : (kappa c h).length = c.D := by simp [kappa]

theorem kappa_getD (c : Cfg ℂ) (h d : ℕ) (hd : d < c.D) : (kappa c h).getD d 0 = Nonlin.deriv c d h := by
  rw [kappa, List.getD_eq_getElem?_getD, List.getElem?_map, List.getElem?_range hd]; rfl

theorem monoAt_eq_prod (κ : List ℂ) (α : List ℕ) :
    monoAt κ α = ∏ d ∈ Finset.range κ.length, κ.getD d 0 ^ α.getD d 0 := rfl

theorem polyAt_nil (κ : List ℂ) : polyAt κ [] = 0 := rfl

theorem polyAt_cons (κ : List ℂ) (t : ℂ × List ℕ) (ts : List (ℂ × List ℕ)) :
    polyAt κ (t :: ts) = t.1 * monoAt κ t.2 + polyAt κ ts := by
  simp [polyAt]

theorem polyAt_append (κ : List ℂ) (a b : List (ℂ × List ℕ)) :
    polyAt κ (a ++ b) = polyAt κ a + polyAt κ b := by
  simp [polyAt]

theorem polySymbol_eq_sum (c : Cfg ℂ) (terms : List (ℂ × List ℕ)) (h : ℕ) :
    polySymbol c terms h
      = (terms.map (fun t => t.1 * ∏ d ∈ Finset.range c.D, Nonlin.deriv c d h ^ t.2.getD d 0)).sum := by
  simp only [polySymbol, sumList_eq, prodList_eq_prod, npow_eq, list_range_prod]

theorem monoAt_kappa (c : Cfg ℂ) (h : ℕ) (α : List ℕ) :
    monoAt (kappa c h) α = ∏ d ∈ Finset.range c.D, Nonlin.deriv c d h ^ α.getD d 0 := by
  rw [monoAt_eq_prod, kappa_length]
  exact Finset.prod_congr rfl fun d hd => by rw [kappa_getD c h d (Finset.mem_range.mp hd)]

theorem polySymbol_eq_polyAt (c : Cfg ℂ) (terms : List (ℂ × List ℕ)) (h : ℕ) :
    polySymbol c terms h = polyAt (kappa c h) terms := by
  simp only [polySymbol_eq_sum, polyAt, monoAt_kappa]

/-- the vector `(i y_d)_{d<D}`; `kappa c h` is of this form when the scale `c.s` is real -/
noncomputable def imagVec (D : ℕ) (y : ℕ → ℝ) : List ℂ :=
  (List.range D).map (fun d => Complex.I * (y d : ℂ))

@[simp] theorem imagVec_length (D : ℕ) (y : ℕ → ℝ) : (imagVec D y).length = D := by simp [imagVec]

theorem imagVec_getD (D : ℕ) (y : ℕ → ℝ) (d : ℕ) (hd : d < D) :
    (imagVec D y).getD d 0 = Complex.I * (y d : ℂ) := by
  simp [imagVec, List.getD_eq_getElem?_getD, hd]

theorem imagVec_re_zero (D : ℕ) (y : ℕ → ℝ) : ∀ z ∈ imagVec D y, z.re = 0 := by
  intro z hz
  unfold imagVec at hz
  rw [List.mem_map] at hz
  obtain ⟨d, _, rfl⟩ := hz
  simp

theorem imagVec_congr {D : ℕ} {y y' : ℕ → ℝ} (H : ∀ d < D, y d = y' d) : imagVec D y = imagVec D y' :=
  List.map_congr_left fun d hd => congrArg (fun r : ℝ => Complex.I * (r : ℂ)) (H d (List.mem_range.mp hd))

theorem imagVec_neg (D : ℕ) (y : ℕ → ℝ) :
    imagVec D (fun d => -y d) = (imagVec D y).map (fun z => -z) := by
  unfold imagVec
  rw [List.map_map]
  apply List.map_congr_left
  intro d _
  simp

theorem map_I_mul_eq_imagVec (x : List ℝ) :
    x.map (fun r : ℝ => Complex.I * (r : ℂ)) = imagVec x.length (fun d => x.getD d 0) := by
  apply List.ext_getElem
  · simp
  · intro d h1 h2
    have hd : d < x.length := by simpa using h1
    simp [imagVec, List.getD_eq_getElem?_getD, List.getElem?_eq_getElem hd]

noncomputable def skAt (c : Cfg ℂ) (s : ℝ) (h : ℕ) (d : ℕ) : ℝ := s * (wnAt c d h : ℝ)

theorem kappa_eq_imagVec (c : Cfg ℂ) (s : ℝ) (hs : c.s = (s : ℂ)) (h : ℕ) :
    kappa c h = imagVec c.D (skAt c s h) := by
  unfold kappa imagVec skAt
  apply List.map_congr_left
  intro d _
  rw [deriv_eq c s hs]

theorem polySymbol_eq_polyAt_imag (c : Cfg ℂ) (s : ℝ) (hs : c.s = (s : ℂ))
    (terms : List (ℂ × List ℕ)) (h : ℕ) :
    polySymbol c terms h = polyAt (imagVec c.D (skAt c s h)) terms := by
  rw [polySymbol_eq_polyAt, kappa_eq_imagVec c s hs]

/-- the exponent vector vanishes on the first `D` axes: the monomial is the constant `1` -/
def isConstTerm (D : ℕ) (α : List ℕ) : Bool := (List.range D).all (fun d => α.getD d 0 == 0)

theorem isConstTerm_iff (D : ℕ) (α : List ℕ) : isConstTerm D α = true ↔ ∀ d < D, α.getD d 0 = 0 := by
  simp only [isConstTerm, List.all_eq_true, List.mem_range, beq_iff_eq]

theorem monoAt_zero (κ : List ℂ) (hκ : ∀ d < κ.length, κ.getD d 0 = 0) (α : List ℕ) :
    monoAt κ α = if isConstTerm κ.length α then 1 else 0 := by
  rw [monoAt_eq_prod]
  split_ifs with h
  · rw [isConstTerm_iff] at h
    apply Finset.prod_eq_one
    intro d hd
    rw [h d (Finset.mem_range.mp hd), pow_zero]
  · rw [isConstTerm_iff] at h
    push Not at h
    obtain ⟨d, hd, hne⟩ := h
    apply Finset.prod_eq_zero (Finset.mem_range.mpr hd)
    rw [hκ d hd, zero_pow hne]

theorem polyAt_zero (κ : List ℂ) (hκ : ∀ d < κ.length, κ.getD d 0 = 0) (terms : List (ℂ × List ℕ)) :
    polyAt κ terms = ((terms.filter (fun t => isConstTerm κ.length t.2)).map Prod.fst).sum := by
  induction terms with
  | nil => simp [polyAt]
  | cons t ts ih =>
    rw [polyAt_cons, ih, monoAt_zero κ hκ, List.filter_cons]
    split_ifs <;> simp

theorem deriv_of_wn_zero (c : Cfg ℂ) (d h : ℕ) (hk : wnAt c d h = 0) : Nonlin.deriv c d h = 0 := by
  unfold Nonlin.deriv
  rw [← wnAt_def, hk]
  show Complex.I * (c.s * ((0 : ℤ) : ℂ)) = 0
  simp

theorem polySymbol_zero_mode (c : Cfg ℂ) (terms : List (ℂ × List ℕ)) (h : ℕ)
    (hk : ∀ d < c.D, wnAt c d h = 0) :
    polySymbol c terms h = ((terms.filter (fun t => isConstTerm c.D t.2)).map Prod.fst).sum := by
  rw [polySymbol_eq_polyAt, polyAt_zero, kappa_length]
  intro d hd
  rw [kappa_length] at hd
  rw [kappa_getD c h d hd, deriv_of_wn_zero c d h (hk d hd)]

theorem conj_eq_neg_of_re_zero (z : ℂ) (hz : z.re = 0) : conj z = -z := by
  apply Complex.ext <;> simp [hz]

theorem monoAt_neg_eq_conj (κ : List ℂ) (hκ : ∀ z ∈ κ, z.re = 0) (α : List ℕ) :
    monoAt (κ.map (fun z => -z)) α = conj (monoAt κ α) := by
  rw [monoAt_eq_prod, monoAt_eq_prod, map_prod, List.length_map]
  refine Finset.prod_congr rfl fun d hd => ?_
  have hre : (κ.getD d 0).re = 0 :=
    hκ _ (by rw [List.getD_eq_getElem κ 0 (Finset.mem_range.mp hd)]; exact List.getElem_mem _)
  have hneg : (κ.map (fun z => -z)).getD d 0 = -(κ.getD d 0) := by
    simpa only [neg_zero] using List.getD_map κ 0 (fun z : ℂ => -z) (n := d)
  rw [map_pow, hneg, conj_eq_neg_of_re_zero _ hre]

theorem polyAt_neg_eq_conj (κ : List ℂ) (terms : List (ℂ × List ℕ))
    (hκ : ∀ z ∈ κ, z.re = 0) (hc : ∀ t ∈ terms, t.1.im = 0) :
    polyAt (κ.map (fun z => -z)) terms = conj (polyAt κ terms) := by
  induction terms with
  | nil => simp [polyAt]
  | cons t ts ih =>
    rw [polyAt_cons, polyAt_cons, map_add, map_mul, monoAt_neg_eq_conj κ hκ,
      ih (fun t ht => hc t (List.mem_cons_of_mem _ ht)),
      Complex.conj_eq_iff_im.mpr (hc t List.mem_cons_self)]

theorem polySymbol_neg_wn_eq_conj (c : Cfg ℂ) (s : ℝ) (hs : c.s = (s : ℂ)) (terms : List (ℂ × List ℕ))
    (h h' : ℕ) (hk : ∀ d < c.D, wnAt c d h' = - wnAt c d h) (hc : ∀ t ∈ terms, t.1.im = 0) :
    polySymbol c terms h' = conj (polySymbol c terms h) := by
  have hk' : imagVec c.D (skAt c s h') = (imagVec c.D (skAt c s h)).map (fun z => -z) := by
    rw [← imagVec_neg]
    exact imagVec_congr fun d hd => by rw [skAt, skAt, hk d hd, Int.cast_neg, mul_neg]
  rw [polySymbol_eq_polyAt_imag c s hs, polySymbol_eq_polyAt_imag c s hs, hk']
  exact polyAt_neg_eq_conj _ _ (imagVec_re_zero _ _) hc

theorem hasDerivAt_exp_mode (lam u0 t : ℂ) :
    HasDerivAt (fun t : ℂ => Complex.exp (t * lam) * u0) (lam * (Complex.exp (t * lam) * u0)) t :=
  (((hasDerivAt_id t).mul_const lam).cexp.mul_const u0).congr_deriv (by rw [id, one_mul]; ring)

/-- "ETDRK0 is exact": `t ↦ E0step (exp_term t λ) û₀` is the solution of `û' = λ û`, `û(0) = û₀` -/
theorem E0step_solves (lam u0 : ℂ) (t : ℝ) :
    HasDerivAt (fun t : ℝ => E0step (exp_term (t : ℂ) lam) u0) (lam * E0step (exp_term (t : ℂ) lam) u0) t
      ∧ E0step (exp_term ((0 : ℝ) : ℂ) lam) u0 = u0 := by
  refine ⟨(hasDerivAt_exp_mode lam u0 (t : ℂ)).comp_ofReal, ?_⟩
  rw [E0step_eq, exp_term_eq, Complex.ofReal_zero, zero_mul, Complex.exp_zero, one_mul]

theorem E0step_exact (x : List ℝ) (terms : List (ℂ × List ℕ)) (u0 : ℂ) (t : ℝ) :
    let lam := polyAt (x.map (fun r : ℝ => Complex.I * (r : ℂ))) terms
    HasDerivAt (fun t : ℝ => E0step (exp_term (t : ℂ) lam) u0) (lam * E0step (exp_term (t : ℂ) lam) u0) t
      ∧ E0step (exp_term ((0 : ℝ) : ℂ) lam) u0 = u0 :=
  E0step_solves _ u0 t

/-! ### the documented term lists

Lean mirrors of the term-list builders of the Python-side specification table
(`harness/props/steppers.py`: `e`, `lap`, `const`, `grad_inner`, `pscale`, `pmul`,
`quad_terms`, `general_linear`). -/

/-- `e(D, d, p)`: `p` at position `d`, zeros elsewhere -/
def eVec (D d p : ℕ) : List ℕ := (List.replicate D 0).set d p

/-- `grad_inner(D, v, order)`: `Σ_d v_d ∂_d^order` -/
def gradInner (D : ℕ) (v : ℕ → ℂ) (order : ℕ) : List (ℂ × List ℕ) :=
  (List.range D).map (fun d => (v d, eVec D d order))

/-- `lap(D, coef, order)`: `coef · Σ_d ∂_d^order` -/
def lapT (D : ℕ) (coef : ℂ) (order : ℕ) : List (ℂ × List ℕ) :=
  (List.range D).map (fun d => (coef, eVec D d order))

/-- `const(D, coef)` -/
def constT (D : ℕ) (coef : ℂ) : List (ℂ × List ℕ) := [(coef, List.replicate D 0)]

/-- `pscale(s, a)` -/
noncomputable def pscale (s : ℂ) (a : List (ℂ × List ℕ)) : List (ℂ × List ℕ) :=
  a.map (fun t => (s * t.1, t.2))

/-- `out[k] = out.get(k, 0.0) + c` on an insertion-ordered dictionary -/
noncomputable def insertTerm (c : ℂ) (k : List ℕ) : List (ℂ × List ℕ) → List (ℂ × List ℕ)
  | [] => [(0 + c, k)]
  | t :: r => if t.2 = k then (t.1 + c, t.2) :: r else t :: insertTerm c k r

/-- all pairwise products, before merging equal exponent vectors -/
noncomputable def pmulRaw (a b : List (ℂ × List ℕ)) : List (ℂ × List ℕ) :=
  a.flatMap (fun ta => b.map (fun tb => (ta.1 * tb.1, List.zipWith (· + ·) ta.2 tb.2)))

/-- `pmul(a, b)`: product of two operators, equal exponent vectors merged -/
noncomputable def pmul (a b : List (ℂ × List ℕ)) : List (ℂ × List ℕ) :=
  (pmulRaw a b).foldl (fun acc t => insertTerm t.1 t.2 acc) []

/-- `quad_terms(D, A)`: `Σ_ij A_ij ∂_i ∂_j` -/
def quadTerms (D : ℕ) (A : ℕ → ℕ → ℂ) : List (ℂ × List ℕ) :=
  (List.range D).flatMap (fun i => (List.range D).map (fun j =>
    (A i j, (eVec D i 1).set j ((eVec D i 1).getD j 0 + 1))))

/-- `general_linear(D, coefs)`: `Σ_j a_j Σ_d ∂_d^j` (`a_0` enters `D` times) -/
def generalLinear (D : ℕ) (coefs : List ℂ) : List (ℂ × List ℕ) :=
  (coefs.mapIdx (fun j a =>
    if j = 0 then List.replicate D (a, List.replicate D 0) else lapT D a j)).flatten

theorem lapT_eq_gradInner (D : ℕ) (coef : ℂ) (order : ℕ) :
    lapT D coef order = gradInner D (fun _ => coef) order := rfl

theorem eVec_length (D d p : ℕ) : (eVec D d p).length = D := by simp [eVec]

theorem eVec_getD (D d p j : ℕ) : (eVec D d p).getD j 0 = if j = d ∧ d < D then p else 0 := by
  rw [eVec, List.getD_eq_getElem?_getD, List.getElem?_set, List.length_replicate, List.getElem?_replicate]
  by_cases hjd : d = j
  · subst hjd
    by_cases hD : d < D
    · rw [if_pos rfl, if_pos hD, if_pos ⟨rfl, hD⟩]; rfl
    · rw [if_pos rfl, if_neg hD, if_neg (fun h => hD h.2)]; rfl
  · rw [if_neg hjd, if_neg (show ¬(j = d ∧ d < D) from fun h => hjd h.1.symm)]
    split_ifs <;> rfl

theorem monoAt_eVec (κ : List ℂ) (d p : ℕ) (hd : d < κ.length) :
    monoAt κ (eVec κ.length d p) = κ.getD d 0 ^ p := by
  rw [monoAt_eq_prod, Finset.prod_eq_single d]
  · rw [eVec_getD]; simp [hd]
  · intro j _ hj
    rw [eVec_getD, if_neg (by tauto), pow_zero]
  · intro h; exact absurd (Finset.mem_range.mpr hd) h

theorem monoAt_replicate_zero (κ : List ℂ) (n : ℕ) : monoAt κ (List.replicate n 0) = 1 := by
  rw [monoAt_eq_prod]
  apply Finset.prod_eq_one
  intro d _
  have : (List.replicate n 0).getD d 0 = 0 := by
    simp only [List.getD_eq_getElem?_getD, List.getElem?_replicate]
    split_ifs <;> simp
  rw [this, pow_zero]

theorem polyAt_gradInner (κ : List ℂ) (v : ℕ → ℂ) (p : ℕ) :
    polyAt κ (gradInner κ.length v p) = ∑ d ∈ Finset.range κ.length, v d * κ.getD d 0 ^ p := by
  unfold polyAt gradInner
  rw [List.map_map, DFT.list_range_map_sum]
  apply Finset.sum_congr rfl
  intro d hd
  simp only [Function.comp]
  rw [monoAt_eVec κ d p (Finset.mem_range.mp hd)]

theorem polyAt_lapT (κ : List ℂ) (coef : ℂ) (p : ℕ) :
    polyAt κ (lapT κ.length coef p) = coef * ∑ d ∈ Finset.range κ.length, κ.getD d 0 ^ p := by
  rw [lapT_eq_gradInner, polyAt_gradInner, Finset.mul_sum]

theorem polyAt_constT (κ : List ℂ) (D : ℕ) (coef : ℂ) : polyAt κ (constT D coef) = coef := by
  simp [polyAt, constT, monoAt_replicate_zero]

theorem polyAt_pscale (κ : List ℂ) (s : ℂ) (a : List (ℂ × List ℕ)) :
    polyAt κ (pscale s a) = s * polyAt κ a := by
  induction a with
  | nil => simp [polyAt, pscale]
  | cons t ts ih =>
    have : pscale s (t :: ts) = (s * t.1, t.2) :: pscale s ts := rfl
    rw [this, polyAt_cons, polyAt_cons, ih]
    ring

theorem polyAt_insertTerm (κ : List ℂ) (c : ℂ) (k : List ℕ) (acc : List (ℂ × List ℕ)) :
    polyAt κ (insertTerm c k acc) = c * monoAt κ k + polyAt κ acc := by
  induction acc with
  | nil => simp [insertTerm, polyAt]
  | cons t r ih =>
    unfold insertTerm
    split_ifs with h
    · rw [polyAt_cons, polyAt_cons]
      simp only
      rw [h]; ring
    · rw [polyAt_cons, polyAt_cons, ih]; ring

theorem polyAt_foldl_insertTerm (κ : List ℂ) (l acc : List (ℂ × List ℕ)) :
    polyAt κ (l.foldl (fun acc t => insertTerm t.1 t.2 acc) acc) = polyAt κ acc + polyAt κ l := by
  induction l generalizing acc with
  | nil => simp [polyAt]
  | cons t ts ih =>
    rw [List.foldl_cons, ih, polyAt_insertTerm, polyAt_cons]; ring

/-- exponents add: `κ^γ = κ^α κ^β` for any `γ` whose first `κ.length` entries are `α_d + β_d` -/
theorem monoAt_add (κ : List ℂ) (α β γ : List ℕ) (H : ∀ d < κ.length, γ.getD d 0 = α.getD d 0 + β.getD d 0) :
    monoAt κ γ = monoAt κ α * monoAt κ β := by
  rw [monoAt_eq_prod, monoAt_eq_prod, monoAt_eq_prod, ← Finset.prod_mul_distrib]
  exact Finset.prod_congr rfl fun d hd => by rw [H d (Finset.mem_range.mp hd), pow_add]

theorem monoAt_zipWith_add (κ : List ℂ) (α β : List ℕ) (hα : κ.length ≤ α.length)
    (hβ : κ.length ≤ β.length) :
    monoAt κ (List.zipWith (· + ·) α β) = monoAt κ α * monoAt κ β :=
  monoAt_add κ α β _ fun d hd => by
    have h1 : d < α.length := lt_of_lt_of_le hd hα
    have h2 : d < β.length := lt_of_lt_of_le hd hβ
    rw [List.getD_eq_getElem _ 0 (by rw [List.length_zipWith]; exact lt_min h1 h2), List.getElem_zipWith,
      List.getD_eq_getElem α 0 h1, List.getD_eq_getElem β 0 h2]

theorem polyAt_flatMap {ι : Type} (κ : List ℂ) (l : List ι) (f : ι → List (ℂ × List ℕ)) :
    polyAt κ (l.flatMap f) = (l.map (fun i => polyAt κ (f i))).sum := by
  induction l with
  | nil => simp [polyAt]
  | cons x xs ih => rw [List.flatMap_cons, polyAt_append, ih]; simp

theorem polyAt_pmul (κ : List ℂ) (a b : List (ℂ × List ℕ))
    (ha : ∀ t ∈ a, κ.length ≤ t.2.length) (hb : ∀ t ∈ b, κ.length ≤ t.2.length) :
    polyAt κ (pmul a b) = polyAt κ a * polyAt κ b := by
  have hrow : ∀ ta ∈ a, polyAt κ (b.map (fun tb => (ta.1 * tb.1, List.zipWith (· + ·) ta.2 tb.2)))
      = ta.1 * monoAt κ ta.2 * polyAt κ b := by
    intro ta hta
    unfold polyAt
    rw [List.map_map, ← List.sum_map_mul_left]
    refine congrArg List.sum (List.map_congr_left fun tb htb => ?_)
    simp only [Function.comp]
    rw [monoAt_zipWith_add κ _ _ (ha ta hta) (hb tb htb)]
    ring
  unfold pmul pmulRaw
  -- merging equal exponent vectors does not change the symbol
  rw [polyAt_foldl_insertTerm, polyAt_nil, zero_add, polyAt_flatMap, List.map_congr_left hrow]
  exact List.sum_map_mul_right ..

theorem gradInner_wf (D : ℕ) (v : ℕ → ℂ) (p : ℕ) : ∀ t ∈ gradInner D v p, D ≤ t.2.length := by
  intro t ht
  unfold gradInner at ht
  rw [List.mem_map] at ht
  obtain ⟨d, _, rfl⟩ := ht
  simp [eVec_length]

theorem lapT_wf (D : ℕ) (coef : ℂ) (p : ℕ) : ∀ t ∈ lapT D coef p, D ≤ t.2.length :=
  gradInner_wf D _ p

theorem polyAt_quadTerms (κ : List ℂ) (A : ℕ → ℕ → ℂ) :
    polyAt κ (quadTerms κ.length A)
      = ∑ i ∈ Finset.range κ.length, ∑ j ∈ Finset.range κ.length,
          A i j * (κ.getD i 0 * κ.getD j 0) := by
  unfold quadTerms
  rw [polyAt_flatMap, DFT.list_range_map_sum]
  refine Finset.sum_congr rfl fun i hi => ?_
  unfold polyAt
  rw [List.map_map, DFT.list_range_map_sum]
  refine Finset.sum_congr rfl fun j hj => ?_
  have hi' := Finset.mem_range.mp hi
  have hj' := Finset.mem_range.mp hj
  -- raising entry `j` of `e_i` by one gives `e_i + e_j`
  have hadd : ∀ d < κ.length, ((eVec κ.length i 1).set j ((eVec κ.length i 1).getD j 0 + 1)).getD d 0
      = (eVec κ.length i 1).getD d 0 + (eVec κ.length j 1).getD d 0 := by
    intro d hd
    rw [List.getD_eq_getElem?_getD (l := List.set _ _ _), List.getElem?_set, eVec_length, eVec_getD _ j 1 d]
    by_cases hjd : j = d
    · subst hjd
      rw [if_pos rfl, if_pos hj', if_pos ⟨rfl, hj'⟩, Option.getD_some]
    · rw [if_neg hjd, if_neg (fun h => hjd h.1.symm), add_zero, List.getD_eq_getElem?_getD]
  simp only [Function.comp]
  rw [monoAt_add κ _ _ _ hadd, monoAt_eVec κ i 1 hi', monoAt_eVec κ j 1 hj', pow_one, pow_one]

theorem lapT_zero (D : ℕ) (a : ℂ) : lapT D a 0 = List.replicate D (a, List.replicate D 0) := by
  simp only [lapT, eVec, List.set_replicate_self, List.map_const', List.length_range]

theorem generalLinear_eq_flatMap (D : ℕ) (coefs : List ℂ) :
    generalLinear D coefs = (List.range coefs.length).flatMap (fun j => lapT D (coefs.getD j 0) j) := by
  unfold generalLinear
  rw [List.flatMap_def]
  congr 1
  apply List.ext_getElem
  · simp
  · intro j h1 h2
    rw [List.getElem_mapIdx, List.getElem_map, List.getElem_range,
      List.getD_eq_getElem coefs 0 (by simpa using h1)]
    split_ifs with h0
    · subst h0
      rw [lapT_zero]
    · rfl

theorem polyAt_generalLinear (κ : List ℂ) (coefs : List ℂ) :
    polyAt κ (generalLinear κ.length coefs)
      = ∑ j ∈ Finset.range coefs.length,
          coefs.getD j 0 * ∑ d ∈ Finset.range κ.length, κ.getD d 0 ^ j := by
  rw [generalLinear_eq_flatMap, polyAt_flatMap, DFT.list_range_map_sum]
  exact Finset.sum_congr rfl fun j _ => polyAt_lapT κ _ j

theorem sum_imagVec_pow (D : ℕ) (y : ℕ → ℝ) (w : ℕ → ℂ) (p : ℕ) :
    ∑ d ∈ Finset.range D, w d * (imagVec D y).getD d 0 ^ p
      = Complex.I ^ p * ∑ d ∈ Finset.range D, w d * (y d : ℂ) ^ p := by
  rw [Finset.mul_sum]
  refine Finset.sum_congr rfl fun d hd => ?_
  rw [imagVec_getD D y d (Finset.mem_range.mp hd), mul_pow, mul_left_comm]

theorem polyAt_imag_gradInner (D : ℕ) (y v : ℕ → ℝ) (p : ℕ) :
    polyAt (imagVec D y) (gradInner D (fun d => (v d : ℂ)) p)
      = Complex.I ^ p * ((∑ d ∈ Finset.range D, v d * y d ^ p : ℝ) : ℂ) := by
  have h := polyAt_gradInner (imagVec D y) (fun d => (v d : ℂ)) p
  rw [imagVec_length] at h
  rw [h, sum_imagVec_pow]
  push_cast
  rfl

theorem polyAt_imag_quadTerms (D : ℕ) (y : ℕ → ℝ) (A : ℕ → ℕ → ℝ) :
    polyAt (imagVec D y) (quadTerms D (fun i j => (A i j : ℂ)))
      = -((∑ i ∈ Finset.range D, ∑ j ∈ Finset.range D, A i j * (y i * y j) : ℝ) : ℂ) := by
  have h := polyAt_quadTerms (imagVec D y) (fun i j => (A i j : ℂ))
  rw [imagVec_length] at h
  rw [h]
  push_cast
  rw [← Finset.sum_neg_distrib]
  apply Finset.sum_congr rfl
  intro i hi
  rw [← Finset.sum_neg_distrib]
  apply Finset.sum_congr rfl
  intro j hj
  rw [imagVec_getD D y i (Finset.mem_range.mp hi), imagVec_getD D y j (Finset.mem_range.mp hj)]
  linear_combination ((A i j : ℂ) * (y i : ℂ) * (y j : ℂ)) * Complex.I_sq

/-! ### the documented symbols at a stored mode (`k_d = wnAt c d h`, real scale `s`) -/

theorem neg_I_mul_ofReal_re (r : ℝ) : (-(Complex.I * (r : ℂ))).re = 0 := by
  simp only [Complex.neg_re, Complex.I_mul_re, Complex.ofReal_im, neg_zero]

section StoredMode
variable (c : Cfg ℂ) (s : ℝ) (hs : c.s = (s : ℂ)) (h : ℕ)
include hs

omit hs in
theorem polySymbol_append (a b : List (ℂ × List ℕ)) :
    polySymbol c (a ++ b) h = polySymbol c a h + polySymbol c b h := by
  rw [polySymbol_eq_polyAt, polySymbol_eq_polyAt, polySymbol_eq_polyAt, polyAt_append]

omit hs in
theorem polySymbol_pscale (r : ℂ) (a : List (ℂ × List ℕ)) :
    polySymbol c (pscale r a) h = r * polySymbol c a h := by
  rw [polySymbol_eq_polyAt, polySymbol_eq_polyAt, polyAt_pscale]

omit hs in
theorem polySymbol_pmul (a b : List (ℂ × List ℕ))
    (ha : ∀ t ∈ a, c.D ≤ t.2.length) (hb : ∀ t ∈ b, c.D ≤ t.2.length) :
    polySymbol c (pmul a b) h = polySymbol c a h * polySymbol c b h := by
  rw [polySymbol_eq_polyAt, polySymbol_eq_polyAt, polySymbol_eq_polyAt,
    polyAt_pmul _ _ _ (by rw [kappa_length]; exact ha) (by rw [kappa_length]; exact hb)]

omit hs in
theorem sum_skAt_pow (v : ℕ → ℝ) (p : ℕ) :
    ∑ d ∈ Finset.range c.D, v d * skAt c s h d ^ p
      = s ^ p * ∑ d ∈ Finset.range c.D, v d * (wnAt c d h : ℝ) ^ p := by
  rw [Finset.mul_sum]
  apply Finset.sum_congr rfl
  intro d _
  unfold skAt
  ring

theorem gradInner_symbol (v : ℕ → ℝ) (p : ℕ) :
    polySymbol c (gradInner c.D (fun d => (v d : ℂ)) p) h
      = Complex.I ^ p * ((s ^ p * ∑ d ∈ Finset.range c.D, v d * (wnAt c d h : ℝ) ^ p : ℝ) : ℂ) := by
  rw [polySymbol_eq_polyAt_imag c s hs, polyAt_imag_gradInner, sum_skAt_pow c s h]

theorem lapT_symbol (a : ℝ) (p : ℕ) :
    polySymbol c (lapT c.D (a : ℂ) p) h
      = Complex.I ^ p * ((a * (s ^ p * ∑ d ∈ Finset.range c.D, (wnAt c d h : ℝ) ^ p) : ℝ) : ℂ) := by
  rw [lapT_eq_gradInner, gradInner_symbol c s hs h (fun _ => a) p, ← Finset.mul_sum, mul_left_comm]

/-- ADVECTION `−v·∇`: `λ = −i s (v·k)` -/
theorem advection_symbol (v : ℕ → ℝ) :
    polySymbol c (pscale (-1) (gradInner c.D (fun d => (v d : ℂ)) 1)) h
      = -(Complex.I * ((s * ∑ d ∈ Finset.range c.D, v d * (wnAt c d h : ℝ) : ℝ) : ℂ)) := by
  rw [polySymbol_pscale, gradInner_symbol c s hs]
  simp only [pow_one]
  ring

theorem advection_symbol_re (v : ℕ → ℝ) :
    (polySymbol c (pscale (-1) (gradInner c.D (fun d => (v d : ℂ)) 1)) h).re = 0 := by
  rw [advection_symbol c s hs h v]
  exact neg_I_mul_ofReal_re _

/-- DIFFUSION `∇·(A∇)`: `λ = −s² kᵀAk` (real for every real `A`) -/
theorem diffusion_symbol (A : ℕ → ℕ → ℝ) :
    polySymbol c (quadTerms c.D (fun i j => (A i j : ℂ))) h
      = ((-(s ^ 2 * ∑ i ∈ Finset.range c.D, ∑ j ∈ Finset.range c.D,
            A i j * ((wnAt c i h : ℝ) * (wnAt c j h : ℝ))) : ℝ) : ℂ) := by
  rw [polySymbol_eq_polyAt_imag c s hs, polyAt_imag_quadTerms, ← Complex.ofReal_neg]
  congr 2
  rw [Finset.mul_sum]
  apply Finset.sum_congr rfl
  intro i _
  rw [Finset.mul_sum]
  apply Finset.sum_congr rfl
  intro j _
  unfold skAt
  ring

theorem diffusion_symbol_re (A : ℕ → ℕ → ℝ) :
    (polySymbol c (quadTerms c.D (fun i j => (A i j : ℂ))) h).re
      = -(s ^ 2 * ∑ i ∈ Finset.range c.D, ∑ j ∈ Finset.range c.D,
            A i j * ((wnAt c i h : ℝ) * (wnAt c j h : ℝ))) := by
  rw [diffusion_symbol c s hs h A, Complex.ofReal_re]

theorem diffusion_symbol_im (A : ℕ → ℕ → ℝ) :
    (polySymbol c (quadTerms c.D (fun i j => (A i j : ℂ))) h).im = 0 := by
  rw [diffusion_symbol c s hs h A, Complex.ofReal_im]

theorem diffusion_symbol_re_nonpos (A : ℕ → ℕ → ℝ)
    (hA : ∀ x : Fin c.D → ℝ, 0 ≤ ∑ i : Fin c.D, ∑ j : Fin c.D, A i j * x i * x j) :
    (polySymbol c (quadTerms c.D (fun i j => (A i j : ℂ))) h).re ≤ 0 := by
  rw [diffusion_symbol_re c s hs h A, neg_nonpos]
  refine mul_nonneg (sq_nonneg s) ?_
  have h1 := hA (fun i => (wnAt c i h : ℝ))
  simp only [mul_assoc] at h1
  simpa only [Finset.sum_range] using h1

/-- isotropic diffusion `ν Δ`: `λ = −ν s² |k|²` -/
theorem diffusion_iso_symbol (ν : ℝ) :
    polySymbol c (lapT c.D (ν : ℂ) 2) h
      = ((-(ν * s ^ 2 * ∑ d ∈ Finset.range c.D, (wnAt c d h : ℝ) ^ 2) : ℝ) : ℂ) := by
  rw [lapT_symbol c s hs, Complex.I_sq]
  push_cast
  ring

/-- DISPERSION `ξ·∇³ = Σ ξ_d ∂_d³`: `λ = −i s³ Σ ξ_d k_d³` -/
theorem dispersion_symbol (ξ : ℕ → ℝ) :
    polySymbol c (gradInner c.D (fun d => (ξ d : ℂ)) 3) h
      = -(Complex.I * ((s ^ 3 * ∑ d ∈ Finset.range c.D, ξ d * (wnAt c d h : ℝ) ^ 3 : ℝ) : ℂ)) := by
  rw [gradInner_symbol c s hs, Complex.I_pow_three]
  ring

theorem dispersion_symbol_re (ξ : ℕ → ℝ) :
    (polySymbol c (gradInner c.D (fun d => (ξ d : ℂ)) 3) h).re = 0 := by
  rw [dispersion_symbol c s hs h ξ]
  exact neg_I_mul_ofReal_re _

/-- DISPERSION, mixed form `(ξ·∇)(∇·∇)`: `λ = −i s³ (ξ·k) |k|²` -/
theorem dispersion_mixed_symbol (ξ : ℕ → ℝ) :
    polySymbol c (pmul (gradInner c.D (fun d => (ξ d : ℂ)) 1) (lapT c.D 1 2)) h
      = -(Complex.I * ((s ^ 3 * (∑ d ∈ Finset.range c.D, ξ d * (wnAt c d h : ℝ))
            * ∑ d ∈ Finset.range c.D, (wnAt c d h : ℝ) ^ 2 : ℝ) : ℂ)) := by
  rw [polySymbol_pmul c h _ _ (gradInner_wf _ _ _) (lapT_wf _ _ _), gradInner_symbol c s hs,
    ← Complex.ofReal_one, lapT_symbol c s hs, Complex.I_sq]
  simp only [pow_one]
  push_cast
  ring

theorem dispersion_mixed_symbol_re (ξ : ℕ → ℝ) :
    (polySymbol c (pmul (gradInner c.D (fun d => (ξ d : ℂ)) 1) (lapT c.D 1 2)) h).re = 0 := by
  rw [dispersion_mixed_symbol c s hs h ξ]
  exact neg_I_mul_ofReal_re _

/-- HYPER-DIFFUSION `−μ Σ ∂_d⁴`: `λ = −μ s⁴ Σ k_d⁴` -/
theorem hyper_symbol (μ : ℝ) :
    polySymbol c (lapT c.D ((-μ : ℝ) : ℂ) 4) h
      = ((-(μ * s ^ 4 * ∑ d ∈ Finset.range c.D, (wnAt c d h : ℝ) ^ 4) : ℝ) : ℂ) := by
  rw [lapT_symbol c s hs, Complex.I_pow_four]
  push_cast
  ring

/-- HYPER-DIFFUSION, mixed form `−μ (∇·∇)²`: `λ = −μ s⁴ |k|⁴` -/
theorem hyper_mixed_symbol (μ : ℝ) :
    polySymbol c (pscale ((-μ : ℝ) : ℂ) (pmul (lapT c.D 1 2) (lapT c.D 1 2))) h
      = ((-(μ * s ^ 4 * (∑ d ∈ Finset.range c.D, (wnAt c d h : ℝ) ^ 2) ^ 2) : ℝ) : ℂ) := by
  rw [polySymbol_pscale, polySymbol_pmul c h _ _ (lapT_wf _ _ _) (lapT_wf _ _ _), ← Complex.ofReal_one,
    lapT_symbol c s hs, Complex.I_sq]
  push_cast
  ring

omit hs in
theorem sum_wn_pow_pos (p : ℕ) (hp : Even p) (hk : ∃ d < c.D, wnAt c d h ≠ 0) :
    0 < ∑ d ∈ Finset.range c.D, (wnAt c d h : ℝ) ^ p := by
  obtain ⟨d, hd, hne⟩ := hk
  exact Finset.sum_pos' (fun i _ => hp.pow_nonneg _)
    ⟨d, Finset.mem_range.mpr hd, hp.pow_pos (Int.cast_ne_zero.mpr hne)⟩

theorem hyper_symbol_sign (μ : ℝ) :
    (polySymbol c (lapT c.D ((-μ : ℝ) : ℂ) 4) h).im = 0
    ∧ (0 ≤ μ → (polySymbol c (lapT c.D ((-μ : ℝ) : ℂ) 4) h).re ≤ 0)
    ∧ (0 < μ → s ≠ 0 → (∃ d < c.D, wnAt c d h ≠ 0) →
        (polySymbol c (lapT c.D ((-μ : ℝ) : ℂ) 4) h).re < 0) := by
  rw [hyper_symbol c s hs h μ, Complex.ofReal_re, Complex.ofReal_im]
  have h4 : Even 4 := ⟨2, rfl⟩
  exact ⟨rfl,
    fun hμ => neg_nonpos.mpr (mul_nonneg (mul_nonneg hμ (h4.pow_nonneg s))
      (Finset.sum_nonneg fun d _ => h4.pow_nonneg _)),
    fun hμ hs0 hk => neg_neg_iff_pos.mpr (mul_pos (mul_pos hμ (h4.pow_pos hs0)) (sum_wn_pow_pos c h 4 h4 hk))⟩

theorem hyper_mixed_symbol_sign (μ : ℝ) :
    (polySymbol c (pscale ((-μ : ℝ) : ℂ) (pmul (lapT c.D 1 2) (lapT c.D 1 2))) h).im = 0
    ∧ (0 ≤ μ → (polySymbol c (pscale ((-μ : ℝ) : ℂ) (pmul (lapT c.D 1 2) (lapT c.D 1 2))) h).re ≤ 0)
    ∧ (0 < μ → s ≠ 0 → (∃ d < c.D, wnAt c d h ≠ 0) →
        (polySymbol c (pscale ((-μ : ℝ) : ℂ) (pmul (lapT c.D 1 2) (lapT c.D 1 2))) h).re < 0) := by
  rw [hyper_mixed_symbol c s hs h μ, Complex.ofReal_re, Complex.ofReal_im]
  have h4 : Even 4 := ⟨2, rfl⟩
  exact ⟨rfl,
    fun hμ => neg_nonpos.mpr (mul_nonneg (mul_nonneg hμ (h4.pow_nonneg s)) (sq_nonneg _)),
    fun hμ hs0 hk => neg_neg_iff_pos.mpr (mul_pos (mul_pos hμ (h4.pow_pos hs0))
      (pow_pos (sum_wn_pow_pos c h 2 even_two hk) 2))⟩

/-- GENERAL ISOTROPIC LINEAR STEPPER `Σ_j a_j Σ_d ∂_d^j`: closed form -/
theorem general_linear_symbol (a : List ℝ) :
    polySymbol c (generalLinear c.D (a.map (fun r : ℝ => (r : ℂ)))) h
      = ∑ j ∈ Finset.range a.length,
          Complex.I ^ j * ((a.getD j 0 * (s ^ j * ∑ d ∈ Finset.range c.D, (wnAt c d h : ℝ) ^ j) : ℝ) : ℂ) := by
  rw [polySymbol_eq_polyAt, generalLinear_eq_flatMap, polyAt_flatMap, DFT.list_range_map_sum, List.length_map]
  refine Finset.sum_congr rfl fun j _ => ?_
  have hg : (a.map (fun r : ℝ => (r : ℂ))).getD j 0 = ((a.getD j 0 : ℝ) : ℂ) := by
    simpa only [Complex.ofReal_zero] using List.getD_map a 0 (fun r : ℝ => (r : ℂ)) (n := j)
  rw [← polySymbol_eq_polyAt, hg, lapT_symbol c s hs]

theorem general_linear_symbol_im (a : List ℝ) :
    (polySymbol c (generalLinear c.D (a.map (fun r : ℝ => (r : ℂ)))) h).im
      = ∑ j ∈ Finset.range a.length,
          if Even j then 0
          else a.getD j 0 * (-1) ^ (j / 2) * s ^ j * ∑ d ∈ Finset.range c.D, (wnAt c d h : ℝ) ^ j := by
  rw [general_linear_symbol c s hs h a, Complex.im_sum]
  apply Finset.sum_congr rfl
  intro j _
  rw [Complex.im_mul_ofReal, I_pow_im]
  split_ifs <;> ring

/-- ADVECTION–DIFFUSION `−v·∇ + ∇·(A∇)`: `Re λ = −s² kᵀAk`, `Im λ = −s (v·k)` -/
theorem advection_diffusion_symbol (v : ℕ → ℝ) (A : ℕ → ℕ → ℝ) :
    polySymbol c (pscale (-1) (gradInner c.D (fun d => (v d : ℂ)) 1)
        ++ quadTerms c.D (fun i j => (A i j : ℂ))) h
      = -(Complex.I * ((s * ∑ d ∈ Finset.range c.D, v d * (wnAt c d h : ℝ) : ℝ) : ℂ))
        + ((-(s ^ 2 * ∑ i ∈ Finset.range c.D, ∑ j ∈ Finset.range c.D,
            A i j * ((wnAt c i h : ℝ) * (wnAt c j h : ℝ))) : ℝ) : ℂ) := by
  rw [polySymbol_append, advection_symbol c s hs h v, diffusion_symbol c s hs h A]

theorem advection_diffusion_symbol_re (v : ℕ → ℝ) (A : ℕ → ℕ → ℝ) :
    (polySymbol c (pscale (-1) (gradInner c.D (fun d => (v d : ℂ)) 1)
        ++ quadTerms c.D (fun i j => (A i j : ℂ))) h).re
      = -(s ^ 2 * ∑ i ∈ Finset.range c.D, ∑ j ∈ Finset.range c.D,
            A i j * ((wnAt c i h : ℝ) * (wnAt c j h : ℝ))) := by
  rw [polySymbol_append, Complex.add_re, advection_symbol_re c s hs h v,
    diffusion_symbol_re c s hs h A, zero_add]

end StoredMode

theorem laplace_zero (c : Cfg ℂ) (h : ℕ) : laplace c 0 h = 1 := by simp [laplace]

theorem laplace_eq_sum (c : Cfg ℂ) (h order : ℕ) (ho : order ≠ 0) :
    laplace c order h = ∑ d ∈ Finset.range c.D, Nonlin.deriv c d h ^ order := by
  unfold laplace
  rw [if_neg ho, sumList_eq, ← DFT.list_range_map_sum]
  congr 1
  apply List.map_congr_left
  intro d _
  rw [npow_eq]

/-- `build_laplace_operator(order)` is the symbol of `Σ_d ∂_d^order` -/
theorem laplace_eq_polySymbol (c : Cfg ℂ) (h order : ℕ) (ho : order ≠ 0) :
    laplace c order h = polySymbol c (lapT c.D 1 order) h := by
  rw [laplace_eq_sum c h order ho, polySymbol_eq_polyAt]
  have h1 := polyAt_lapT (kappa c h) 1 order
  rw [kappa_length] at h1
  rw [h1, one_mul]
  apply Finset.sum_congr rfl
  intro d hd
  rw [kappa_getD c h d (Finset.mem_range.mp hd)]

theorem laplace_two (c : Cfg ℂ) (s : ℝ) (hs : c.s = (s : ℂ)) (h : ℕ) :
    laplace c 2 h = ((-(s ^ 2 * ∑ d ∈ Finset.range c.D, (wnAt c d h : ℝ) ^ 2) : ℝ) : ℂ) := by
  rw [laplace_eq_polySymbol c h 2 two_ne_zero]
  have h1 := diffusion_iso_symbol c s hs h 1
  rw [Complex.ofReal_one] at h1
  rw [h1]
  congr 2
  ring

/-! ### plane waves in physical space: `polyAt κ terms` is the symbol of `Σ c ∂^α` -/

theorem hasDerivAt_planeWave (κ : ℂ) (x : ℝ) :
    HasDerivAt (fun x : ℝ => Complex.exp (κ * (x : ℂ))) (κ * Complex.exp (κ * (x : ℂ))) x :=
  (((hasDerivAt_id (x : ℂ)).const_mul κ).cexp.congr_deriv (by rw [mul_one, mul_comm]; rfl)).comp_ofReal

/-- `κ = i s k` is the symbol of `∂ₓ` on the Fourier mode `e^{i s k x}` -/
theorem iteratedDeriv_planeWave (κ : ℂ) (n : ℕ) :
    iteratedDeriv n (fun x : ℝ => Complex.exp (κ * (x : ℂ)))
      = fun x : ℝ => κ ^ n * Complex.exp (κ * (x : ℂ)) := by
  induction n with
  | zero => funext x; rw [iteratedDeriv_zero, pow_zero, one_mul]
  | succ n ih =>
    rw [iteratedDeriv_succ, ih]
    funext x
    rw [((hasDerivAt_planeWave κ x).const_mul (κ ^ n)).deriv, pow_succ, mul_assoc]

/-- partial derivative along axis `d` of a function of the coordinates `x : ℕ → ℝ` -/
noncomputable def pderiv (d : ℕ) (f : (ℕ → ℝ) → ℂ) : (ℕ → ℝ) → ℂ :=
  fun x => deriv (fun r : ℝ => f (Function.update x d r)) (x d)

/-- `∂^α = Π_{d<D} ∂_d^{α_d}` -/
noncomputable def pderivMulti (D : ℕ) (α : List ℕ) (f : (ℕ → ℝ) → ℂ) : (ℕ → ℝ) → ℂ :=
  (List.range D).foldr (fun d g => (pderiv d)^[α.getD d 0] g) f

/-- the constant-coefficient operator `Σ c ∂^α` given by a term list -/
noncomputable def applyOp (D : ℕ) (terms : List (ℂ × List ℕ)) (f : (ℕ → ℝ) → ℂ) : (ℕ → ℝ) → ℂ :=
  fun x => (terms.map (fun t => t.1 * pderivMulti D t.2 f x)).sum

/-- the plane wave `x ↦ exp(Σ_d κ_d x_d)` (`κ_d = i s k_d`: the Fourier mode `e^{i s k·x}`) -/
noncomputable def planeWave (κ : List ℂ) : (ℕ → ℝ) → ℂ :=
  fun x => Complex.exp (∑ d ∈ Finset.range κ.length, κ.getD d 0 * (x d : ℂ))

theorem planeWave_update (κ : List ℂ) (x : ℕ → ℝ) (d : ℕ) (hd : d < κ.length) (r : ℝ) :
    planeWave κ (Function.update x d r)
      = planeWave κ x * Complex.exp (κ.getD d 0 * ((r : ℂ) - (x d : ℂ))) := by
  unfold planeWave
  rw [← Complex.exp_add]
  congr 1
  have hm : d ∈ Finset.range κ.length := Finset.mem_range.mpr hd
  rw [← Finset.add_sum_erase _ _ hm, ← Finset.add_sum_erase (Finset.range κ.length) _ hm]
  have : ∑ j ∈ (Finset.range κ.length).erase d, κ.getD j 0 * ((Function.update x d r j : ℝ) : ℂ)
      = ∑ j ∈ (Finset.range κ.length).erase d, κ.getD j 0 * ((x j : ℝ) : ℂ) := by
    apply Finset.sum_congr rfl
    intro j hj
    rw [Function.update_of_ne (Finset.ne_of_mem_erase hj)]
  rw [this, Function.update_self]
  ring

theorem pderiv_planeWave (κ : List ℂ) (a : ℂ) (d : ℕ) (hd : d < κ.length) :
    pderiv d (fun x => a * planeWave κ x) = fun x => (κ.getD d 0 * a) * planeWave κ x := by
  funext x
  unfold pderiv
  have hf : (fun r : ℝ => a * planeWave κ (Function.update x d r))
      = fun r : ℝ => (a * planeWave κ x * Complex.exp (-(κ.getD d 0 * (x d : ℂ))))
          * Complex.exp (κ.getD d 0 * (r : ℂ)) := by
    funext r
    rw [planeWave_update κ x d hd r, mul_sub, sub_eq_add_neg, Complex.exp_add]
    ring
  rw [hf]
  have h1 := HasDerivAt.const_mul (a * planeWave κ x * Complex.exp (-(κ.getD d 0 * (x d : ℂ))))
    (hasDerivAt_planeWave (κ.getD d 0) (x d))
  rw [h1.deriv]
  have h2 : Complex.exp (-(κ.getD d 0 * (x d : ℂ))) * Complex.exp (κ.getD d 0 * (x d : ℂ)) = 1 := by
    rw [← Complex.exp_add]; simp
  linear_combination (a * planeWave κ x * κ.getD d 0) * h2

theorem pderiv_iterate_planeWave (κ : List ℂ) (a : ℂ) (d : ℕ) (hd : d < κ.length) (n : ℕ) :
    (pderiv d)^[n] (fun x => a * planeWave κ x)
      = fun x => (κ.getD d 0 ^ n * a) * planeWave κ x := by
  induction n generalizing a with
  | zero => simp
  | succ n ih =>
    rw [Function.iterate_succ_apply, pderiv_planeWave κ a d hd, ih]
    funext x; ring

theorem pderivMulti_planeWave (κ : List ℂ) (a : ℂ) (α : List ℕ) :
    pderivMulti κ.length α (fun x => a * planeWave κ x)
      = fun x => (monoAt κ α * a) * planeWave κ x := by
  unfold pderivMulti monoAt
  have key : ∀ l : List ℕ, (∀ d ∈ l, d < κ.length) →
      l.foldr (fun d g => (pderiv d)^[α.getD d 0] g) (fun x => a * planeWave κ x)
        = fun x => ((l.map (fun d => κ.getD d 0 ^ α.getD d 0)).prod * a) * planeWave κ x := by
    intro l hl
    induction l with
    | nil => simp
    | cons d ds ih =>
      rw [List.foldr_cons, ih (fun j hj => hl j (List.mem_cons_of_mem _ hj)),
        pderiv_iterate_planeWave κ _ d (hl d List.mem_cons_self)]
      funext x
      rw [List.map_cons, List.prod_cons]
      ring
  exact key (List.range κ.length) (fun d hd => List.mem_range.mp hd)

/-! ### non-vacuity of the hypotheses -/

example : ∃ (c : Cfg ℂ) (s : ℝ), c.s = (s : ℂ) ∧ 0 < s ∧ 0 < c.D :=
  ⟨⟨2, 8, ((1 : ℝ) : ℂ), 2, 3⟩, 1, rfl, one_pos, by norm_num⟩

/-- a mode with a non-zero wavenumber, and the mean mode -/
example : wnAt ⟨1, 8, 1, 0, 0⟩ 0 3 = 3 ∧ wnAt ⟨2, 8, 1, 0, 0⟩ 0 0 = 0 ∧ wnAt ⟨2, 8, 1, 0, 0⟩ 1 0 = 0 := by
  refine ⟨?_, ?_, ?_⟩ <;> decide

/-- the identity matrix is positive semidefinite in the sense of `diffusion_symbol_re_nonpos` -/
example : ∀ x : Fin 2 → ℝ,
    0 ≤ ∑ i : Fin 2, ∑ j : Fin 2, (if (i : ℕ) = (j : ℕ) then (1 : ℝ) else 0) * x i * x j := by
  intro x
  simp only [Fin.sum_univ_two, Fin.val_zero, Fin.val_one, if_true, zero_ne_one, one_ne_zero, if_false]
  linarith [mul_self_nonneg (x 0), mul_self_nonneg (x 1)]

end Exponax
