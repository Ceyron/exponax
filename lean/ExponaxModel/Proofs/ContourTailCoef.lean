import ExponaxModel.Proofs.ContourTailPhi
import Mathlib.Analysis.Complex.ExponentialBounds
import ExponaxModel.Properties.C02
/-
C02 support — a stored ETDRK coefficient `dt · contourMean(φ-combination)`
differs from `dt ·` the ENTIRE φ-combination at `z = λ·dt` by at most
`‖dt‖ · c · e^{max(0, Re z + R)} · q^M/(1 − q^M)`,  `q = ‖r‖/R`, for every `R > ‖r‖`.
-/
namespace Exponax.ContourTail
open Exponax Exponax.Spec Exponax.Gen.Etdrk

theorem sphere_re_le (z w : ℂ) (R : ℝ) (hw : w ∈ Metric.sphere z R) : w.re ≤ z.re + R := by
  have h1 : ‖w - z‖ = R := by simpa [dist_eq_norm] using hw
  have h2 := Complex.re_le_norm (w - z)
  rw [Complex.sub_re, h1] at h2
  linarith

theorem max_one_exp_le (x y : ℝ) (h : x ≤ y) : max 1 (Real.exp x) ≤ Real.exp (max 0 y) := by
  refine max_le ?_ (Real.exp_le_exp.mpr (h.trans (le_max_right _ _)))
  rw [← Real.exp_zero]
  exact Real.exp_le_exp.mpr (le_max_left _ _)

/-- `norm_contourMean_sub_le_cauchy` on the circle of radius `R` about `z`, where `Re w ≤ Re z + R` -/
theorem contourMean_entire_error (c : ℝ) (hc : 0 ≤ c) (z r : ℂ) (M : ℕ) (hM : 0 < M) (R : ℝ)
    (hrR : ‖r‖ < R) (fe : ℂ → ℂ) (hfe : Differentiable ℂ fe)
    (hS : ∀ w, ‖fe w‖ ≤ c * max 1 (Real.exp w.re)) :
    ‖contourMean (roots_of_unity M) r fe z - fe z‖
      ≤ c * Real.exp (max 0 (z.re + R)) * (‖r‖ / R) ^ M / (1 - (‖r‖ / R) ^ M) :=
  norm_contourMean_sub_le_cauchy' M hM r z fe R _ Set.univ hrR hfe.differentiableOn
    (Set.subset_univ _) fun w hw => (hS w).trans
      (mul_le_mul_of_nonneg_left (max_one_exp_le _ _ (sphere_re_le z w R hw)) hc)

/-- `g` is the closed form as the code divides (total division), `fe` its entire extension -/
theorem coef_error (c : ℝ) (hc : 0 ≤ c) (coef dt z r : ℂ) (M : ℕ) (hM : 0 < M) (R : ℝ)
    (hrR : ‖r‖ < R) (g fe : ℂ → ℂ)
    (hcoef : coef = dt * contourMean (roots_of_unity M) r g z)
    (hgfe : ∀ w, w ≠ 0 → g w = fe w)
    (hnz : ∀ ζ ∈ (roots_of_unity M : List ℂ), r * ζ + z ≠ 0)
    (hfe : Differentiable ℂ fe)
    (hS : ∀ w, ‖fe w‖ ≤ c * max 1 (Real.exp w.re)) :
    ‖coef - dt * fe z‖ ≤ ‖dt‖ * (c * Real.exp (max 0 (z.re + R)) * (‖r‖ / R) ^ M
      / (1 - (‖r‖ / R) ^ M)) := by
  rw [hcoef, contourMean_congr_nodes M r z g fe (fun ζ hζ => hgfe _ (hnz ζ hζ)), ← mul_sub,
    norm_mul]
  exact mul_le_mul_of_nonneg_left (contourMean_entire_error c hc z r M hM R hrR fe hfe hS)
    (norm_nonneg dt)

theorem norm_half_le (w : ℂ) : ‖phi1e (w / 2) / 2‖ ≤ (1 / 2) * max 1 (Real.exp w.re) := by
  rw [norm_div, Complex.norm_ofNat, div_eq_inv_mul, one_div]
  refine mul_le_mul_of_nonneg_left ((norm_phi1e_le _).trans (max_le (le_max_left _ _) ?_))
    (by norm_num)
  rw [Complex.div_ofNat_re, div_eq_mul_inv]
  exact exp_mul_le_max w.re 2⁻¹ (by norm_num) (by norm_num)

theorem differentiable_half : Differentiable ℂ (fun w => phi1e (w / 2) / 2) :=
  (differentiable_phi1e.comp (differentiable_id.div_const 2)).div_const 2

theorem nodes_ne_zero_of_norm_ne (M : ℕ) (r z : ℂ) (h : ‖z‖ ≠ ‖r‖) :
    ∀ ζ ∈ (roots_of_unity M : List ℂ), r * ζ + z ≠ 0 :=
  forall_mem_roots M fun j => C02_contour_avoids_zero M j r z h

theorem exp_nat_lt (n : ℕ) (hn : n ≠ 0) (c : ℝ) (h : (2.7182818286 : ℝ) ^ n ≤ c) :
    Real.exp n < c := by
  rw [← mul_one (n : ℝ), Real.exp_nat_mul]
  exact (pow_lt_pow_left₀ Real.exp_one_lt_d9 (Real.exp_pos 1).le hn).trans_le h

end Exponax.ContourTail
