import ExponaxModel.Proofs.ReadOffSpectrum
/-
C17: power spectrum of one resolved mode, and Parseval through the model's `Spectrum.spectrum`.

The model's power quantity is `½ · (|û|/reconstruction) · (|û|/norm_compensation)`, so the bin of `κ ≠ 0` holds
`a²/4 = ½ · mean(u²)`, NOT `a²/2`; for `κ = 0` bin `0` holds `½ a² cos²φ`.  A corner mode outside the Nyquist
sphere (`round|κ| > N/2`) is dropped by the binning, so for `D ≥ 2` Parseval holds for the binned spectrum plus the
power of the stored modes outside the sphere; in 1-D the model does not bin and the identity is complete.
-/
namespace Exponax.ReadOff
open Exponax Exponax.Layout Exponax.Transform Exponax.DFT Exponax.ExactLinear Exponax.SmallGaps2 Exponax.SmallGaps3 Finset
open Exponax.Spectrum (quantity)
open scoped ComplexConjugate

/-- C17, power, `κ ≠ 0`: bin `b ≤ N/2` of the power spectrum of `a cos(2π κ·j/N + φ)` holds `a²/4` if `κ` lies in
    the bin, else `0`. -/
theorem spectrum_power_modeField (D N : ℕ) (hD : 1 ≤ D) (hN : 0 < N) (κ : List ℤ)
    (hκ : BelowNyquist D N κ) (hne : ∃ d < D, κ.getD d 0 ≠ 0) (a φ : ℝ) (b : ℕ) (hb : b < N / 2 + 1) :
    (Spectrum.spectrum D N true false (modeField D N κ a φ)).getD b 0
      = if inBin κ b = true then ((a ^ 2 / 4 : ℝ) : ℂ) else 0 :=
  spectrum_power_nyquist D N hD hN κ (atMostNyquist_of_below hκ) (not_selfConj_of_below hκ hne) a φ b hb

/-- C17, power, `κ = 0`: bin `0` holds `½ (a cos φ)²`, every other bin `0`. -/
theorem spectrum_power_const (D N : ℕ) (hD : 1 ≤ D) (hN : 0 < N) (κ : List ℤ) (hκ : κ.length = D)
    (h0 : ∀ d < D, κ.getD d 0 = 0) (a φ : ℝ) (b : ℕ) (hb : b < N / 2 + 1) :
    (Spectrum.spectrum D N true false (modeField D N κ a φ)).getD b 0
      = if b = 0 then (((a * Real.cos φ) ^ 2 / 2 : ℝ) : ℂ) else 0 := by
  rw [spectrum_power_selfconj D N hD hN κ (atMostNyquist_of_zero hκ h0) (selfConj_of_zero h0) a φ b hb]
  exact if_congr (inBin_zero_iff hκ h0 b) rfl rfl


theorem sum_bins_indicator (κ : List ℤ) (n : ℕ) (x : ℂ) :
    ∑ b ∈ range n, (if inBin κ b = true then x else 0) = if roundNorm κ < n then x else 0 := by
  simp only [inBin_iff_eq_roundNorm]
  rw [Finset.sum_ite_eq']
  simp only [Finset.mem_range]

/-- the amplitude spectrum of one mode sums to `|a|` when `κ` is inside the Nyquist sphere (`round|κ| ≤ N/2`), and to `0`
    for a corner mode outside it -/
theorem spectrum_amplitude_total (D N : ℕ) (hD : 1 ≤ D) (hN : 0 < N) (κ : List ℤ)
    (hκ : BelowNyquist D N κ) (hne : ∃ d < D, κ.getD d 0 ≠ 0) (a φ : ℝ) :
    ∑ b ∈ range (N / 2 + 1), (Spectrum.spectrum D N false false (modeField D N κ a φ)).getD b 0
      = if roundNorm κ < N / 2 + 1 then ((|a| : ℝ) : ℂ) else 0 := by
  rw [← sum_bins_indicator]
  apply Finset.sum_congr rfl
  intro b hb
  exact spectrum_amplitude_modeField D N hD hN κ hκ hne a φ b (Finset.mem_range.mp hb)

theorem spectrum_power_total (D N : ℕ) (hD : 1 ≤ D) (hN : 0 < N) (κ : List ℤ)
    (hκ : BelowNyquist D N κ) (hne : ∃ d < D, κ.getD d 0 ≠ 0) (a φ : ℝ) :
    ∑ b ∈ range (N / 2 + 1), (Spectrum.spectrum D N true false (modeField D N κ a φ)).getD b 0
      = if roundNorm κ < N / 2 + 1 then ((a ^ 2 / 4 : ℝ) : ℂ) else 0 := by
  rw [← sum_bins_indicator]
  apply Finset.sum_congr rfl
  intro b hb
  exact spectrum_power_modeField D N hD hN κ hκ hne a φ b (Finset.mem_range.mp hb)

theorem sum_sq_modeField (D N : ℕ) (hD : 1 ≤ D) (hN : 0 < N) (κ : List ℤ)
    (hκ : BelowNyquist D N κ) (hne : ∃ d < D, κ.getD d 0 ≠ 0) (a φ : ℝ) :
    ∑ j ∈ range (N ^ D), ‖(modeField D N κ a φ).getD j 0‖ ^ 2 = a ^ 2 / 2 * (N ^ D : ℕ) := by
  have hκ' := atMostNyquist_of_below hκ
  have hs := not_selfConj_of_below hκ hne
  rw [parseval_nd D N hD hN _ (modeField_real D N κ a φ)]
  apply Complex.ofReal_injective
  have hterm : ∀ h ∈ range (numModes D N),
      (((herm_weight D N h : ℝ) * ‖(rfftnM D N (modeField D N κ a φ)).getD h 0‖ ^ 2 : ℝ) : ℂ)
        = (((|a| : ℝ) : ℂ) / 2 * (N : ℂ) ^ D) ^ 2 * ((herm_weight D N h : ℂ) * ind2 D N κ h ^ 2) := by
    intro h hh
    rw [Complex.ofReal_mul, Complex.ofReal_pow, norm_modeField_pair D N hD hN κ hκ' hs a φ h (Finset.mem_range.mp hh)]
    push_cast
    ring
  rw [Complex.ofReal_mul, Complex.ofReal_sum, Finset.sum_congr rfl hterm, ← Finset.mul_sum,
    sum_ind2_sq_pair D N hD hN κ hκ' hs, mul_pow, div_pow, ← Complex.ofReal_pow, sq_abs]
  have hNc : ((N ^ D : ℕ) : ℂ) ≠ 0 := by exact_mod_cast (pow_pos hN D).ne'
  push_cast
  field_simp

theorem spectrum_power_total_eq_half_mean_sq (D N : ℕ) (hD : 1 ≤ D) (hN : 0 < N) (κ : List ℤ)
    (hκ : BelowNyquist D N κ) (hne : ∃ d < D, κ.getD d 0 ≠ 0) (hin : roundNorm κ < N / 2 + 1) (a φ : ℝ) :
    ∑ b ∈ range (N / 2 + 1), (Spectrum.spectrum D N true false (modeField D N κ a φ)).getD b 0
      = ((1 / 2 * (1 / (N ^ D : ℕ) * ∑ j ∈ range (N ^ D), ‖(modeField D N κ a φ).getD j 0‖ ^ 2) : ℝ) : ℂ) := by
  rw [spectrum_power_total D N hD hN κ hκ hne a φ, if_pos hin, sum_sq_modeField D N hD hN κ hκ hne a φ]
  have hNne : ((N ^ D : ℕ) : ℝ) ≠ 0 := by exact_mod_cast (pow_pos hN D).ne'
  congr 1
  field_simp
  ring

/-- Parseval for the model's power quantity, un-binned: `Σ_h quantity_h = ½ · mean(u²)` for every real field `u` -/
theorem sum_quantity_pow (D N : ℕ) (hD : 1 ≤ D) (hN : 0 < N) (u : Array ℂ)
    (hu : ∀ j < N ^ D, (u.getD j 0).im = 0) :
    ∑ h ∈ range (numModes D N), quantity D N true (rfftnM D N u) h
      = ((1 / 2 * (1 / (N ^ D : ℕ) * ∑ j ∈ range (N ^ D), ‖u.getD j 0‖ ^ 2) : ℝ) : ℂ) := by
  rw [parseval_nd D N hD hN u hu]
  have hNne : ((N : ℂ)) ^ D ≠ 0 := pow_ne_zero _ (Nat.cast_ne_zero.mpr hN.ne')
  push_cast
  rw [Finset.mul_sum, Finset.mul_sum, Finset.mul_sum]
  apply Finset.sum_congr rfl
  intro h hh
  rw [quantity_pow D N hD hN _ h (Finset.mem_range.mp hh)]
  field_simp

/-- sum binning, every `D ≥ 1`: the bins together hold exactly the stored modes inside the Nyquist sphere -/
theorem spectrum_total_eq (D N : ℕ) (hD : 1 ≤ D) (power : Bool) (u : Array ℂ) :
    ∑ b ∈ range (N / 2 + 1), (Spectrum.spectrum D N power false u).getD b 0
      = ∑ h ∈ range (numModes D N),
          if roundNorm (wnFlat D N h) < N / 2 + 1 then quantity D N power (rfftnM D N u) h else 0 := by
  have h1 : ∀ b ∈ range (N / 2 + 1), (Spectrum.spectrum D N power false u).getD b 0
      = ∑ h ∈ range (numModes D N),
          if inBin (wnFlat D N h) b = true then quantity D N power (rfftnM D N u) h else 0 :=
    fun b hb => spectrum_getD_sum D N hD power u b (Finset.mem_range.mp hb)
  rw [Finset.sum_congr rfl h1, Finset.sum_comm]
  apply Finset.sum_congr rfl
  intro h _
  exact sum_bins_indicator (wnFlat D N h) (N / 2 + 1) _

/-- C17, `n`-D Parseval with the corner remainder: for every real field, the binned power spectrum plus the power
    of the stored modes outside the Nyquist sphere (`round|k| > N/2`, dropped by the binning) is `½ · mean(u²)`. -/
theorem spectrum_parseval_nd (D N : ℕ) (hD : 1 ≤ D) (hN : 0 < N) (u : Array ℂ)
    (hu : ∀ j < N ^ D, (u.getD j 0).im = 0) :
    ∑ b ∈ range (N / 2 + 1), (Spectrum.spectrum D N true false u).getD b 0
        + ∑ h ∈ range (numModes D N),
            (if roundNorm (wnFlat D N h) < N / 2 + 1 then 0 else quantity D N true (rfftnM D N u) h)
      = ((1 / 2 * (1 / (N ^ D : ℕ) * ∑ j ∈ range (N ^ D), ‖u.getD j 0‖ ^ 2) : ℝ) : ℂ) := by
  rw [spectrum_total_eq D N hD true u, ← Finset.sum_add_distrib, ← sum_quantity_pow D N hD hN u hu]
  apply Finset.sum_congr rfl
  intro h _
  split_ifs <;> simp

/-- if every stored mode outside the Nyquist sphere carries no energy, Parseval holds for the binned spectrum alone -/
theorem spectrum_parseval_nd_inside (D N : ℕ) (hD : 1 ≤ D) (hN : 0 < N) (u : Array ℂ)
    (hu : ∀ j < N ^ D, (u.getD j 0).im = 0)
    (hin : ∀ h < numModes D N, N / 2 + 1 ≤ roundNorm (wnFlat D N h) → (rfftnM D N u).getD h 0 = 0) :
    ∑ b ∈ range (N / 2 + 1), (Spectrum.spectrum D N true false u).getD b 0
      = ((1 / 2 * (1 / (N ^ D : ℕ) * ∑ j ∈ range (N ^ D), ‖u.getD j 0‖ ^ 2) : ℝ) : ℂ) := by
  rw [← spectrum_parseval_nd D N hD hN u hu]
  have : ∑ h ∈ range (numModes D N),
      (if roundNorm (wnFlat D N h) < N / 2 + 1 then 0 else quantity D N true (rfftnM D N u) h) = 0 := by
    apply Finset.sum_eq_zero
    intro h hh
    have hh' := Finset.mem_range.mp hh
    split_ifs with hc
    · rfl
    · rw [quantity_pow D N hD hN _ h hh', hin h hh' (by omega)]
      simp
  rw [this, add_zero]

example : BelowNyquist 2 8 [2, 2] ∧ (∃ d < 2, ([2, 2] : List ℤ).getD d 0 ≠ 0) ∧ roundNorm [2, 2] < 8 / 2 + 1 := by
  refine ⟨⟨rfl, by intro d hd; interval_cases d <;> simp⟩, ⟨0, by norm_num, by decide⟩, ?_⟩
  have : roundNorm [2, 2] = 3 := ((inBin_iff_eq_roundNorm _ 3).mp (by decide)).symm
  omega
/-- a corner mode below Nyquist on every axis but outside the Nyquist sphere exists: `(3, 3)` on the `8 × 8` grid,
    `|κ| ≈ 4.24`, bin `4 = N/2` … and `(3, 3, 3)`, `|κ| ≈ 5.2 > 4.5`, is dropped -/
example : BelowNyquist 3 8 [3, 3, 3] ∧ ¬ roundNorm [3, 3, 3] < 8 / 2 + 1 := by
  refine ⟨⟨rfl, by intro d hd; interval_cases d <;> simp⟩, ?_⟩
  have : roundNorm [3, 3, 3] = 5 := ((inBin_iff_eq_roundNorm _ 5).mp (by decide)).symm
  omega
example : ∀ j < 4 ^ 2, ((modeField 2 4 [1, 0] 1 0).getD j 0).im = 0 := modeField_real 2 4 [1, 0] 1 0
example : ∀ h < numModes 1 3, 3 / 2 + 1 ≤ roundNorm (wnFlat 1 3 h) →
    (rfftnM 1 3 (vzero (3 ^ 1))).getD h 0 = 0 := by
  intro h hh _
  rw [rfftnM_vzero 1 3 (by norm_num), vzero_getD]

end Exponax.ReadOff
