import ExponaxModel.Proofs.AxisPermTermsMore
import ExponaxModel.Proofs.LerayAlgebra
/-
C08: the 2-D vorticity convection term `vorticity2d c scale none` under the TRANSPOSITION of the two
axes.  The vorticity is a pseudo-scalar: `u·∇ω` with `u = (∂₁ψ, −∂₀ψ)`, `ψ = Δ⁻¹ω`, changes sign when the two axes are swapped
(`vorticity2d_swap`), and it is even (quadratic) in `ω` (`vorticity2d_even`); so the term commutes with `ω ↦ −P_σ ω`
(`vorticity2d_swap_neg`).  Relation form (as in `AxisPermTerms`), `σ = swapσ` (swap of axes 0 and 1), `PermCfg c`,
Nyquist-free related spectra, real scale.

The statements need only two axes to swap (`2 ≤ D`; `D = 2` is the model's use: then `σ` is THE transposition).  They are for `none` only: the Kolmogorov
injection singles out axis 1.
-/
namespace Exponax.SmallGaps3
open Exponax Exponax.Layout Exponax.Transform Exponax.DFT Exponax.AliasND Exponax.Nonlin Exponax.Alias Exponax.AxisPerm
open Finset

noncomputable def negMC (c : Cfg ℂ) (uh : MC ℂ) : MC ℂ := tab2 1 (modes c) (fun ch h => -at2 uh ch h)

theorem at2_negMC (c : Cfg ℂ) (uh : MC ℂ) (h : ℕ) (hh : h < modes c) : at2 (negMC c uh) 0 h = -at2 uh 0 h :=
  Nonlin.at2_tab2 _ _ _ _ _ Nat.zero_lt_one hh

theorem at2_negMC_any (c : Cfg ℂ) (uh : MC ℂ) (ch h : ℕ) :
    at2 (negMC c uh) ch h = if ch < 1 ∧ h < modes c then -at2 uh ch h else 0 := at2_tab2_any _ _ _ _ _

theorem irfftnM_neg_getD (D N : ℕ) (f : ℕ → ℂ) (j : ℕ) :
    (irfftnM D N (tab (numModes D N) fun h => -f h)).getD j 0 = -(irfftnM D N (tab (numModes D N) f)).getD j 0 := by
  have e : (tab (numModes D N) fun h => -f h) = tab (numModes D N) fun h => (fun _ => (0 : ℂ)) h - f h :=
    Nonlin.tab_congr _ _ _ (fun m _ => by ring)
  rw [e, irfftnM_sub_getD D N _ _ j, irfftnM_eq_zero D N _ (fun m hm => DFT.tab_getD _ _ _ _ hm), zero_sub]

theorem nifft_tab_neg (c : Cfg ℂ) (f : ℕ → ℂ) (j : ℕ) :
    (nifft c (tab (modes c) fun h => -f h)).getD j 0 = -(nifft c (tab (modes c) f)).getD j 0 := by
  unfold nifft
  have e1 : (tab (modes c) fun h => mask c h * (tab (modes c) fun h => -f h).getD h 0)
      = tab (numModes c.D c.N) fun h => -(mask c h * f h) :=
    Nonlin.tab_congr _ _ _ (fun m hm => by rw [Nonlin.tab_getD _ _ _ _ hm]; ring)
  have e2 : (tab (modes c) fun h => mask c h * (tab (modes c) f).getD h 0)
      = tab (numModes c.D c.N) fun h => mask c h * f h :=
    Nonlin.tab_congr _ _ _ (fun m hm => by rw [Nonlin.tab_getD _ _ _ _ hm])
  rw [e1, e2, irfftnM_neg_getD c.D c.N _ j]

theorem nfft_tab_neg (c : Cfg ℂ) (hN : 0 < c.N) (f : ℕ → ℂ) (h : ℕ) (hh : h < modes c) :
    (nfft c (tab (gridSize c) fun x => -f x)).getD h 0 = -(nfft c (tab (gridSize c) f)).getD h 0 := by
  rw [nfft_getD c _ h hh, nfft_getD c _ h hh, rfftnM_getD c.D c.N hN _ h hh, rfftnM_getD c.D c.N hN _ h hh, ← mul_neg,
    ← Finset.sum_neg_distrib]
  refine congrArg (mask c h * ·) (Finset.sum_congr rfl fun j hj => ?_)
  have hj' : j < gridSize c := Finset.mem_range.mp hj
  rw [DFT.tab_getD _ _ _ _ hj', DFT.tab_getD _ _ _ _ hj', neg_mul]

def ax0 (c : Cfg ℂ) (hD : 2 ≤ c.D) : Fin c.D := ⟨0, by omega⟩
def ax1 (c : Cfg ℂ) (hD : 2 ≤ c.D) : Fin c.D := ⟨1, by omega⟩

def swapσ (c : Cfg ℂ) (hD : 2 ≤ c.D) : Equiv.Perm (Fin c.D) := Equiv.swap (ax0 c hD) (ax1 c hD)

theorem swapσ_ax0 (c : Cfg ℂ) (hD : 2 ≤ c.D) : swapσ c hD (ax0 c hD) = ax1 c hD := Equiv.swap_apply_left _ _
theorem swapσ_ax1 (c : Cfg ℂ) (hD : 2 ≤ c.D) : swapσ c hD (ax1 c hD) = ax0 c hD := Equiv.swap_apply_right _ _

/-- the symbol `(i s k_e)·Δ̂⁻¹` (guarded inverse `where(Δ̂ == 0, 1, 1/Δ̂)`) -/
noncomputable def wsym (c : Cfg ℂ) (e : Fin c.D) (k : Fin c.D → ℤ) : ℂ := derivFn c e k * invLapSym c k

theorem invLapSym_comp (c : Cfg ℂ) (σ : Equiv.Perm (Fin c.D)) (k : Fin c.D → ℤ) :
    invLapSym c (k ∘ σ) = invLapSym c k := by
  unfold invLapSym
  rw [lapsym_comp]

theorem wsym_neg (c : Cfg ℂ) (hs : c.s.im = 0) (e : Fin c.D) (k : Fin c.D → ℤ) :
    wsym c e (-k) = (starRingEnd ℂ) (wsym c e k) := by
  unfold wsym
  rw [map_mul, derivFn_neg c hs, conj_invLapSym c c.s.re (s_eq_re c hs)]

theorem wsym_comp (c : Cfg ℂ) (σ : Equiv.Perm (Fin c.D)) (e : Fin c.D) (k : Fin c.D → ℤ) :
    wsym c e (k ∘ σ) = wsym c (σ e) k := by
  unfold wsym
  rw [invLapSym_comp, derivFn_comp]

/-- `∂_e ψ = ifft(mask·(i s k_e) Δ̂⁻¹ ω̂)` -/
noncomputable def Wf (c : Cfg ℂ) (e : Fin c.D) (a : Array ℂ) : Array ℂ :=
  nifft c (tab (modes c) fun m => wsym c e (kvec c.D c.N m) * a.getD m 0)

/-- `∂_e ω = ifft(mask·(i s k_e) ω̂)` -/
noncomputable def Xf (c : Cfg ℂ) (e : Fin c.D) (a : Array ℂ) : Array ℂ :=
  nifft c (tab (modes c) fun m => Nonlin.deriv c e m * a.getD m 0)

/-- the convection integrand `u ∂₀ω + v ∂₁ω`, `u = ∂₁ψ`, `v = −∂₀ψ` -/
noncomputable def vortInt (c : Cfg ℂ) (hD : 2 ≤ c.D) (a : Array ℂ) (x : ℕ) : ℂ :=
  (Wf c (ax1 c hD) a).getD x 0 * (Xf c (ax0 c hD) a).getD x 0
    - (Wf c (ax0 c hD) a).getD x 0 * (Xf c (ax1 c hD) a).getD x 0

theorem vorticity2d_at2 (c : Cfg ℂ) (hD : 2 ≤ c.D) (scale : ℂ) (uh : MC ℂ) (h : ℕ) (hh : h < modes c) :
    at2 (vorticity2d c scale none uh) 0 h
      = -scale * (nfft c (tab (gridSize c) (vortInt c hD (uh.getD 0 #[])))).getD h 0 := by
  have eW : ∀ e : Fin c.D, nifft c (tab (modes c) fun k => Nonlin.deriv c e k *
        (tab (modes c) fun k => invLapOne c k * at2 uh 0 k).getD k 0) = Wf c e (uh.getD 0 #[]) := by
    intro e
    unfold Wf wsym
    apply Nonlin.nifft_congr
    intro i hi
    rw [Nonlin.tab_getD _ _ _ _ hi, Nonlin.tab_getD _ _ _ _ hi, Nonlin.tab_getD _ _ _ _ hi, invLapOne_eq_invLapSym,
      deriv_eq_derivFn c e i]
    show _ * (_ * (uh.getD 0 #[]).getD i 0) = _
    ring
  have eu : nifft c (tab (modes c) fun k => Nonlin.deriv c 1 k *
        (tab (modes c) fun k => invLapOne c k * at2 uh 0 k).getD k 0) = Wf c (ax1 c hD) (uh.getD 0 #[]) := eW (ax1 c hD)
  have ev : ∀ x, x < c.N ^ c.D → (nifft c (tab (modes c) fun k => -(Nonlin.deriv c 0 k) *
        (tab (modes c) fun k => invLapOne c k * at2 uh 0 k).getD k 0)).getD x 0
        = -(Wf c (ax0 c hD) (uh.getD 0 #[])).getD x 0 := by
    intro x hx
    rw [← eW (ax0 c hD), ← nifft_tab_neg c _ x]
    simp only [neg_mul]
    rfl
  unfold vorticity2d
  simp only []
  rw [Nonlin.at2_tab2 _ _ _ _ _ Nat.zero_lt_one hh, eu]
  refine congrArg (fun A : Array ℂ => -scale * (nfft c A).getD h 0) (Nonlin.tab_congr _ _ _ ?_)
  intro x hx
  rw [ev x hx]
  unfold vortInt
  show _ * (Xf c (ax0 c hD) (uh.getD 0 #[])).getD x 0 + _ * (Xf c (ax1 c hD) (uh.getD 0 #[])).getD x 0 = _
  ring

theorem vortInt_real (c : Cfg ℂ) (hD : 2 ≤ c.D) (a : Array ℂ) (x : ℕ) (hx : x < gridSize c) :
    (vortInt c hD a x).im = 0 :=
  realSubfield.sub_mem
    (realSubfield.mul_mem (nifft_isRealND c _ x hx) (nifft_isRealND c _ x hx))
    (realSubfield.mul_mem (nifft_isRealND c _ x hx) (nifft_isRealND c _ x hx))

theorem vortInt_swap (c : Cfg ℂ) (hc : PermCfg c) (hD : 2 ≤ c.D) (a a' : Array ℂ)
    (h : SpecPerm c.D c.N (swapσ c hD) a a') (x : ℕ) (hx : x < gridSize c) :
    vortInt c hD a' x = -vortInt c hD a (permIdx c.D c.N (swapσ c hD) x) := by
  have W : ∀ e : Fin c.D, (Wf c (swapσ c hD e) a').getD x 0 = (Wf c e a).getD (permIdx c.D c.N (swapσ c hD) x) 0 :=
    fun e => (permRel c hc (swapσ c hD)).nifft_mul
      ⟨wsym c e, wsym_neg c hc.hs e, fun _ _ => rfl, fun _ _ => (wsym_comp c _ e _).symm⟩ h x hx
  have X : ∀ e : Fin c.D, (Xf c (swapσ c hD e) a').getD x 0 = (Xf c e a).getD (permIdx c.D c.N (swapσ c hD) x) 0 :=
    fun e => (permRel c hc (swapσ c hD)).nifft_mul
      ⟨derivFn c e, derivFn_neg c hc.hs e, fun _ _ => rfl, fun _ _ => rfl⟩ h x hx
  have w0 := W (ax0 c hD)
  have w1 := W (ax1 c hD)
  have x0 := X (ax0 c hD)
  have x1 := X (ax1 c hD)
  rw [swapσ_ax0] at w0 x0
  rw [swapσ_ax1] at w1 x1
  unfold vortInt
  rw [w0, w1, x0, x1]
  ring

/-- **anti-equivariance**: `T(P_σ ω) = −P_σ T(ω)` for the transposition `σ` -/
theorem vorticity2d_swap (c : Cfg ℂ) (hc : PermCfg c) (hD : 2 ≤ c.D) (scale : ℂ) (hsc : scale.im = 0)
    (uh uh' : MC ℂ) (h : MCSpecPerm c (swapσ c hD) id uh uh') :
    MCSpecPerm c (swapσ c hD) id (vorticity2d c scale none uh) (negMC c (vorticity2d c scale none uh')) := by
  have h0 : SpecPerm c.D c.N (swapσ c hD) (uh.getD 0 #[]) (uh'.getD 0 #[]) :=
    (permRel c hc (swapσ c hD)).chan h 0
  have key := (permRel c hc (swapσ c hD)).S_mul ((permRel c hc (swapσ c hD)).cov_const (-scale) (neg_mem hsc))
    ((permRel c hc (swapσ c hD)).nfft_tab (f := vortInt c hD (uh.getD 0 #[])) (f' := fun x => vortInt c hD (uh.getD 0 #[]) (permIdx c.D c.N (swapσ c hD) x))
      (fun x hx => vortInt_real c hD _ x hx) fun x hx => rfl)
  intro ch
  by_cases hch : ch = 0
  · subst hch
    refine specPerm_congr c.D c.N hc.hN (swapσ c hD) _ _ _ _ ?_ ?_ key
    · intro m hm
      have hm' : m < modes c := hm
      rw [DFT.tab_getD _ _ _ _ hm', DFT.tab_getD _ _ _ _ hm', vorticity2d_at2 c hD scale uh m hm']
    · intro m hm
      have hm' : m < modes c := hm
      have e : (tab (gridSize c) (vortInt c hD (uh'.getD 0 #[])))
          = tab (gridSize c) fun x => -vortInt c hD (uh.getD 0 #[]) (permIdx c.D c.N (swapσ c hD) x) :=
        Nonlin.tab_congr _ _ _ (fun x hx => vortInt_swap c hc hD _ _ h0 x hx)
      rw [DFT.tab_getD _ _ _ _ hm', DFT.tab_getD _ _ _ _ hm']
      show _ = at2 (negMC c (vorticity2d c scale none uh')) 0 m
      rw [at2_negMC c _ m hm', vorticity2d_at2 c hD scale uh' m hm', e, nfft_tab_neg c hc.hN _ m hm']
      ring
  · have hch1 : 1 ≤ ch := Nat.one_le_iff_ne_zero.mpr hch
    apply specPerm_zero c.D c.N
    · intro m hm
      rw [DFT.tab_getD _ _ _ _ (show m < modes c from hm), vorticity2d_at2_out c scale none uh ch m (Or.inl hch1)]
    · intro m hm
      rw [DFT.tab_getD _ _ _ _ (show m < modes c from hm)]
      show at2 (negMC c _) ch m = 0
      unfold negMC
      exact at2_tab2_of_le_ch _ _ _ _ _ hch1

theorem nifft_mult_neg (c : Cfg ℂ) (g : ℕ → ℂ) (a b : Array ℂ)
    (hab : ∀ m, m < modes c → b.getD m 0 = -a.getD m 0) (x : ℕ) :
    (nifft c (tab (modes c) fun m => g m * b.getD m 0)).getD x 0
      = -(nifft c (tab (modes c) fun m => g m * a.getD m 0)).getD x 0 := by
  rw [← nifft_tab_neg c _ x]
  refine congrArg (fun Z : Array ℂ => Z.getD x 0) (Nonlin.nifft_congr c _ _ fun i hi => ?_)
  rw [Nonlin.tab_getD _ _ _ _ hi, Nonlin.tab_getD _ _ _ _ hi, hab i hi, mul_neg]

theorem vortInt_neg (c : Cfg ℂ) (hD : 2 ≤ c.D) (a b : Array ℂ)
    (hab : ∀ m, m < modes c → b.getD m 0 = -a.getD m 0) (x : ℕ) :
    vortInt c hD b x = vortInt c hD a x := by
  unfold vortInt Wf Xf
  rw [nifft_mult_neg c _ _ _ hab x, nifft_mult_neg c _ _ _ hab x, nifft_mult_neg c _ _ _ hab x,
    nifft_mult_neg c _ _ _ hab x, neg_mul_neg, neg_mul_neg]

/-- **evenness**: the (quadratic) term does not see the sign of the vorticity -/
theorem vorticity2d_even (c : Cfg ℂ) (hD : 2 ≤ c.D) (scale : ℂ) (uh : MC ℂ) (ch h : ℕ) :
    at2 (vorticity2d c scale none (negMC c uh)) ch h = at2 (vorticity2d c scale none uh) ch h := by
  by_cases hin : ch = 0 ∧ h < modes c
  · obtain ⟨rfl, hh⟩ := hin
    rw [vorticity2d_at2 c hD scale _ h hh, vorticity2d_at2 c hD scale uh h hh,
      Nonlin.tab_congr (gridSize c) _ _ fun x _ => vortInt_neg c hD _ _ (fun m hm => at2_negMC c uh m hm) x]
  · have hout : 1 ≤ ch ∨ modes c ≤ h := (not_and_or.mp hin).imp Nat.one_le_iff_ne_zero.mpr not_lt.mp
    rw [vorticity2d_at2_out c scale none _ ch h hout, vorticity2d_at2_out c scale none uh ch h hout]

/-- the term commutes with `ω ↦ −P_σ ω`, `σ` the transposition of the two axes:
    `T(−P_σ ω) = −P_σ T(ω)` -/
theorem vorticity2d_swap_neg (c : Cfg ℂ) (hc : PermCfg c) (hD : 2 ≤ c.D) (scale : ℂ) (hsc : scale.im = 0)
    (uh uh' : MC ℂ) (h : MCSpecPerm c (swapσ c hD) id uh uh') :
    MCSpecPerm c (swapσ c hD) id (vorticity2d c scale none uh)
      (negMC c (vorticity2d c scale none (negMC c uh'))) := by
  intro ch
  refine specPerm_congr c.D c.N hc.hN (swapσ c hD) _ _ _ _ (fun m hm => rfl) ?_
    (vorticity2d_swap c hc hD scale hsc uh uh' h ch)
  intro m hm
  have hm' : m < modes c := hm
  rw [DFT.tab_getD _ _ _ _ hm', DFT.tab_getD _ _ _ _ hm']
  show at2 (negMC c _) ch m = at2 (negMC c _) ch m
  rw [at2_negMC_any, at2_negMC_any]
  split_ifs
  · rw [vorticity2d_even c hD scale uh' ch m]
  · rfl

/-! non-vacuity: `D = 2`, even grid with the 2/3 mask; the swap is not the identity -/
example : ∃ (c : Cfg ℂ) (hD : 2 ≤ c.D), PermCfg c ∧ c.D = 2 ∧ swapσ c hD (ax0 c hD) ≠ ax0 c hD := by
  refine ⟨⟨2, 8, 1, 2, 3⟩, le_refl 2, ⟨by norm_num, by norm_num, by simp, Or.inr ⟨by norm_num, by norm_num⟩⟩, rfl, ?_⟩
  rw [swapσ_ax0]
  intro h
  have := congrArg Fin.val h
  simp [ax0, ax1] at this
example (c : Cfg ℂ) (hc : PermCfg c) (hD : 2 ≤ c.D) : ∃ uh uh' : MC ℂ, MCSpecPerm c (swapσ c hD) id uh uh' :=
  ⟨#[], #[], fun ch => specPerm_zero c.D c.N _ _ _
    (fun m hm => by rw [DFT.tab_getD _ _ _ _ (show m < modes c from hm)]; simp [at2])
    (fun m hm => by rw [DFT.tab_getD _ _ _ _ (show m < modes c from hm)]; simp [at2])⟩

end Exponax.SmallGaps3
