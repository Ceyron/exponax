import ExponaxModel.Proofs.LinearTestOrderNonlinear4Prep
/-
C02 support: ETDRK4 with a nonlinear term, the stage estimates, about variables of a commutative normed `ℂ`-algebra `V` as
those of ETDRK3 (`LinearTestOrderNonlinear3.lean`, whose letters are kept; `l : V` is the linear part, `P` the cubic
coefficient of the stage errors).
-/
noncomputable section
namespace Exponax.LinearOrder
open Exponax

theorem nrm_half_cube {h : ℝ} (hh : 0 ≤ h) : ‖((h : ℂ) / 2) ^ 3‖ ≤ h ^ 3 / 8 := by
  rw [norm_pow]
  exact (pow_le_pow_left₀ (norm_nonneg _) (nrm_half hh) 3).trans (le_of_eq (by ring))

/-- the quadratic remainder of a stage error `E h²`, with one `h` traded for `T` -/
theorem quad_rem_le {H E h T : ℝ} (hH : 0 ≤ H) (hh : 0 ≤ h) (hhT : h ≤ T) :
    H / 2 * (E * h ^ 2) ^ 2 ≤ H / 2 * E ^ 2 * T * h ^ 3 :=
  calc H / 2 * (E * h ^ 2) ^ 2 = H / 2 * E ^ 2 * h * h ^ 3 := by ring
    _ ≤ H / 2 * E ^ 2 * T * h ^ 3 :=
        mul_le_mul_of_nonneg_right (mul_le_mul_of_nonneg_left hhT
          (mul_nonneg (div_nonneg hH zero_le_two) (sq_nonneg E))) (pow_nonneg hh 3)

variable {V : Type} [NormedCommRing V] [NormedAlgebra ℂ V]

theorem etd4_stageA (c : NL4) (hc : c.Nonneg) {h : ℝ} (hh : 0 ≤ h) (hhT : h ≤ c.T)
    {a u0 uh d1 d2 Eh q1 q2 q3 f0 : V} (ha : a = Eh * u0 + ((h : ℂ) / 2) • q1 * f0) (bq3 : ‖q3‖ ≤ c.W / 6)
    (dA : ‖q2 - algebraMap ℂ V (1 / 2)‖ ≤ c.Lam * h * c.W / 12) (hd1M : ‖d1‖ ≤ c.M1) (hd2M : ‖d2‖ ≤ c.M2)
    (nρa : ‖uh - (Eh * u0 + ((h : ℂ) / 2) • q1 * f0 + (((h : ℂ) / 2) ^ 2) • q2 * d1
        + (((h : ℂ) / 2) ^ 3) • q3 * d2)‖ ≤ c.W * c.G3 * h ^ 4 / 384) :
    ‖a - uh + ((h ^ 2 / 8 : ℝ) : ℂ) • d1‖ ≤ c.EA * h ^ 3 ∧ ‖a - uh‖ ≤ c.Ea2 * h ^ 2 := by
  obtain ⟨hW0, hG30, hEA0, -⟩ := hc.nonnegs
  -- the third-order term of the expansion of `u(t+h/2)` goes into the remainder of the second-order one
  have nρ2 : ‖uh - (Eh * u0 + ((h : ℂ) / 2) • q1 * f0 + (((h : ℂ) / 2) ^ 2) • q2 * d1)‖
      ≤ c.W * c.G3 * h ^ 4 / 384 + h ^ 3 / 8 * (c.W / 6) * c.M2 := by
    rw [← sub_add_cancel (uh - _) ((((h : ℂ) / 2) ^ 3) • q3 * d2), sub_sub]
    exact norm_add_le_of_le nρa (norm_mul_le_of_le (norm_smul_le_of_le (nrm_half_cube hh) bq3) hd2M)
  have nε := (stageA_err ha dA hd1M nρ2).trans
    (show _ ≤ c.EA * h ^ 3 by
      have := mul_le_mul_of_nonneg_right (mul_le_mul_of_nonneg_left hhT (mul_nonneg hW0 hG30)) (pow_nonneg hh 3)
      unfold NL4.EA; linarith)
  exact ⟨nε, (norm_le_of_leading (κ := 1 / 8) hh hhT hEA0 (nrm_ofReal (by positivity) (by linarith)) hd1M nε).trans_eq
    (by unfold NL4.Ea2; ring)⟩

/-- stage `b = E_h u + h/2·φ₁(z/2) N(a)` (`hb`): `b − u(t+h/2) = h²/8·f₁ + ε_b`; `Na` is `N(a)`, `fh` is `N(u(t+h/2))` -/
theorem etd4_stageB (c : NL4) (hc : c.Nonneg) {h : ℝ} (hh : 0 ≤ h) (hhT : h ≤ c.T)
    {a b u0 uh d1 Eh q1 f0 fh Na : V} (ha : a = Eh * u0 + ((h : ℂ) / 2) • q1 * f0)
    (hb : b = Eh * u0 + ((h : ℂ) / 2) • q1 * Na) (bq1 : ‖q1‖ ≤ c.W) (dB : ‖q1 - 1‖ ≤ c.Lam * h * c.W / 4)
    (hd1M : ‖d1‖ ≤ c.M1) (nεa : ‖a - uh + ((h ^ 2 / 8 : ℝ) : ℂ) • d1‖ ≤ c.EA * h ^ 3)
    (nσ2 : ‖fh - f0 - ((h : ℂ) / 2) • d1‖ ≤ c.G2 * h ^ 2 / 8)
    (nδa : ‖Na - fh‖ ≤ c.K * (c.Ea2 * h ^ 2)) :
    ‖b - uh + ((-(h ^ 2 / 8) : ℝ) : ℂ) • d1‖ ≤ c.EB * h ^ 3 ∧ ‖b - uh‖ ≤ c.Eb2 * h ^ 2 := by
  obtain ⟨-, -, -, hEB0, -⟩ := hc.nonnegs
  generalize hσ : fh - f0 - ((h : ℂ) / 2) • d1 = σ at nσ2
  generalize hδ : Na - fh = δ at nδa
  have nε : ‖b - uh + ((-(h ^ 2 / 8) : ℝ) : ℂ) • d1‖ ≤ c.EB * h ^ 3 := by
    have e : b - uh + ((-(h ^ 2 / 8) : ℝ) : ℂ) • d1 = (a - uh + ((h ^ 2 / 8 : ℝ) : ℂ) • d1)
          + ((h : ℂ) ^ 2 / 4) • (q1 - 1) * d1 + ((h : ℂ) / 2) • q1 * (σ + δ) := by
      rw [ha, hb, ← hσ, ← hδ]; push_cast; algebra
    rw [e]
    refine (norm_add_le_of_le (norm_add_le_of_le nεa
      (norm_mul_le_of_le (norm_smul_le_of_le (nrm_hpow_div hh 2 4) dB) hd1M))
      (norm_mul_le_of_le (norm_smul_le_of_le (nrm_half hh) bq1) (norm_add_le_of_le nσ2 nδa))).trans (le_of_eq ?_)
    unfold NL4.EB; ring
  exact ⟨nε, (norm_le_of_leading (s := -((h ^ 2 / 8 : ℝ) : ℂ)) (κ := 1 / 8) (n := 2) hh hhT hEB0
    ((norm_neg _).trans_le (nrm_ofReal (by positivity) (by linarith))) hd1M
    (by rwa [Complex.ofReal_neg] at nε)).trans_eq (by unfold NL4.Eb2; ring)⟩

theorem etd4_P_bound (c : NL4) {l d1 d2 A2 : V} (hlΛ : ‖l‖ ≤ c.Lam) (hd1M : ‖d1‖ ≤ c.M1)
    (hd2M : ‖d2‖ ≤ c.M2) (nA2 : ‖A2‖ ≤ c.K * c.M1) :
    ‖(1 / 48 : ℂ) • (l * d1 + d2) - (1 / 16 : ℂ) • A2‖ ≤ c.Pb := by
  have h1 : ‖(1 / 48 : ℂ) • (l * d1 + d2)‖ ≤ 1 / 48 * (c.Lam * c.M1 + c.M2) :=
    norm_smul_le_of_le (by simp) (norm_add_le_of_le (norm_mul_le_of_le hlΛ hd1M) hd2M)
  have h2 : ‖(1 / 16 : ℂ) • A2‖ ≤ 1 / 16 * (c.K * c.M1) := norm_smul_le_of_le (by simp) nA2
  refine (norm_sub_le_of_le h1 h2).trans (le_of_eq ?_)
  unfold NL4.Pb; ring

/-- sum of the two half-step stage errors, `= h³ P + O(h⁴)`; `e1` writes `Na = N(a)` as `lin_along` gives it: `A1, A2, qa` are
    `L_a ε_a, L_a f₁`, the quadratic remainder -/
theorem etd4_stageAB (c : NL4) (hc : c.Nonneg) {h : ℝ} (hh : 0 ≤ h) (hhT : h ≤ c.T)
    {l a b u0 uh d1 d2 Eh q1 q2 q3 f0 fh Na A1 A2 qa P : V} (ha : a = Eh * u0 + ((h : ℂ) / 2) • q1 * f0)
    (hb : b = Eh * u0 + ((h : ℂ) / 2) • q1 * Na) (bq1 : ‖q1‖ ≤ c.W)
    (dB : ‖q1 - 1‖ ≤ c.Lam * h * c.W / 4)
    (dAB1 : ‖q1 - 2 * q2 - ((h : ℂ) / 12) • l‖ ≤ (c.Lam * h) ^ 2 * c.W / 16)
    (dAB2 : ‖q1 - 4 * q3 - algebraMap ℂ V (1 / 3)‖ ≤ c.Lam * h * c.W / 3)
    (hd1M : ‖d1‖ ≤ c.M1) (hd2M : ‖d2‖ ≤ c.M2)
    (nρa : ‖uh - (Eh * u0 + ((h : ℂ) / 2) • q1 * f0 + (((h : ℂ) / 2) ^ 2) • q2 * d1
        + (((h : ℂ) / 2) ^ 3) • q3 * d2)‖ ≤ c.W * c.G3 * h ^ 4 / 384)
    (nσ3 : ‖fh - f0 - ((h : ℂ) / 2) • d1 - (((h : ℂ) / 2) ^ 2 / 2) • d2‖ ≤ c.G3 * h ^ 3 / 48)
    (e1 : Na = fh + (A1 - (h ^ 2 / 8 : ℝ) • A2) + qa)
    (nA1 : ‖A1‖ ≤ c.K * (c.EA * h ^ 3)) (nA2 : ‖A2‖ ≤ c.K * c.M1)
    (nqa : ‖qa‖ ≤ c.H / 2 * (c.Ea2 * h ^ 2) ^ 2)
    (hP : P = (1 / 48 : ℂ) • (l * d1 + d2) - (1 / 16 : ℂ) • A2) :
    ‖(a - uh) + (b - uh) + ((-(h ^ 3) : ℝ) : ℂ) • P‖ ≤ c.EAB * h ^ 4 := by
  generalize hρ : uh - (Eh * u0 + ((h : ℂ) / 2) • q1 * f0 + (((h : ℂ) / 2) ^ 2) • q2 * d1
    + (((h : ℂ) / 2) ^ 3) • q3 * d2) = ρ at nρa
  generalize hσ : fh - f0 - ((h : ℂ) / 2) • d1 - (((h : ℂ) / 2) ^ 2 / 2) • d2 = σ at nσ3
  have e : (a - uh) + (b - uh) + ((-(h ^ 3) : ℝ) : ℂ) • P
      = ((h : ℂ) ^ 2 / 4) • (q1 - 2 * q2 - ((h : ℂ) / 12) • l) * d1
      + ((h : ℂ) ^ 3 / 16) • (q1 - 4 * q3 - algebraMap ℂ V (1 / 3)) * d2 - ((h : ℂ) ^ 3 / 16) • (q1 - 1) * A2 - (2 : ℂ) • ρ
      + ((h : ℂ) / 2) • q1 * (σ + A1 + qa) := by
    rw [ha, hb, e1, ← hρ, ← hσ, hP]; simp only [← Complex.coe_smul]; push_cast; algebra
  rw [e]
  refine (norm_add_le_of_le (norm_sub_le_of_le (norm_sub_le_of_le (norm_add_le_of_le
    (norm_mul_le_of_le (norm_smul_le_of_le (nrm_hpow_div hh 2 4) dAB1) hd1M)
    (norm_mul_le_of_le (norm_smul_le_of_le (nrm_hpow_div hh 3 16) dAB2) hd2M))
    (norm_mul_le_of_le (norm_smul_le_of_le (nrm_hpow_div hh 3 16) dB) nA2))
    (norm_smul_le_of_le (Complex.norm_ofNat 2).le nρa))
    (norm_mul_le_of_le (norm_smul_le_of_le (nrm_half hh) bq1)
      (norm_add_le_of_le (norm_add_le_of_le nσ3 nA1) (nqa.trans (quad_rem_le hc.H hh hhT))))).trans (le_of_eq ?_)
  unfold NL4.EAB; ring

/-- stage `c = E_h a + h/2·φ₁(z/2)(2N(b) − N(u))` (`hcc`), `c − u(t+h) = −2h³ P + O(h⁴)`; `e2` writes `Nb = N(b)` as
    `lin_along` gives it: `B1, A2, qb` are `L_a ε_b, L_a f₁`, the quadratic remainder -/
theorem etd4_stageC (c : NL4) (hc : c.Nonneg) {h : ℝ} (hh : 0 ≤ h) (hhT : h ≤ c.T)
    {l a cc u0 u1 d1 d2 E Eh p1 p2 p3 q1 f0 fh Nb B1 A2 qb P : V} (ha : a = Eh * u0 + ((h : ℂ) / 2) • q1 * f0)
    (hcc : cc = Eh * a + ((h : ℂ) / 2) • q1 * (2 * Nb - f0)) (eE : E = Eh * Eh)
    (eP1 : (h : ℂ) • p1 = ((h : ℂ) / 2) • q1 * (Eh + 1)) (bq1 : ‖q1‖ ≤ c.W)
    (dB : ‖q1 - 1‖ ≤ c.Lam * h * c.W / 4)
    (dC1 : ‖(1 / 2 : ℂ) • q1 - p2 + ((h : ℂ) / 24) • l‖ ≤ (c.Lam * h) ^ 2 * c.W / 16)
    (dC2 : ‖(1 / 8 : ℂ) • q1 - p3 + algebraMap ℂ V (1 / 24)‖ ≤ c.Lam * h * c.W * (7 / 96))
    (hd1M : ‖d1‖ ≤ c.M1) (hd2M : ‖d2‖ ≤ c.M2)
    (nρ3 : ‖u1 - (E * u0 + (h : ℂ) • p1 * f0 + ((h : ℂ) ^ 2) • p2 * d1 + ((h : ℂ) ^ 3) • p3 * d2)‖
      ≤ c.W * c.G3 * h ^ 4 / 24)
    (nσ3 : ‖fh - f0 - ((h : ℂ) / 2) • d1 - (((h : ℂ) / 2) ^ 2 / 2) • d2‖ ≤ c.G3 * h ^ 3 / 48)
    (e2 : Nb = fh + (B1 - (-(h ^ 2 / 8) : ℝ) • A2) + qb)
    (nB1 : ‖B1‖ ≤ c.K * (c.EB * h ^ 3)) (nA2 : ‖A2‖ ≤ c.K * c.M1)
    (nqb : ‖qb‖ ≤ c.H / 2 * (c.Eb2 * h ^ 2) ^ 2)
    (hP : P = (1 / 48 : ℂ) • (l * d1 + d2) - (1 / 16 : ℂ) • A2) (nP : ‖P‖ ≤ c.Pb) :
    ‖cc - u1 + ((2 * h ^ 3 : ℝ) : ℂ) • P‖ ≤ c.EC * h ^ 4 ∧ ‖cc - u1‖ ≤ c.Ec3 * h ^ 3 := by
  obtain ⟨-, -, -, -, hEC0, -⟩ := hc.nonnegs
  generalize hρ : u1 - (E * u0 + (h : ℂ) • p1 * f0 + ((h : ℂ) ^ 2) • p2 * d1 + ((h : ℂ) ^ 3) • p3 * d2) = ρ at nρ3
  generalize hσ : fh - f0 - ((h : ℂ) / 2) • d1 - (((h : ℂ) / 2) ^ 2 / 2) • d2 = σ at nσ3
  have nε : ‖cc - u1 + ((2 * h ^ 3 : ℝ) : ℂ) • P‖ ≤ c.EC * h ^ 4 := by
    have e : cc - u1 + ((2 * h ^ 3 : ℝ) : ℂ) • P
        = ((h : ℂ) ^ 2) • ((1 / 2 : ℂ) • q1 - p2 + ((h : ℂ) / 24) • l) * d1
          + ((h : ℂ) ^ 3) • ((1 / 8 : ℂ) • q1 - p3 + algebraMap ℂ V (1 / 24)) * d2
          + ((h : ℂ) ^ 3 / 8) • (q1 - 1) * A2 + (h : ℂ) • q1 * (σ + B1 + qb) - ρ := by
      rw [hcc, ha, e2, ← hρ, ← hσ, hP, eE, eP1]; simp only [← Complex.coe_smul]; push_cast; algebra
    rw [e]
    refine (norm_sub_le_of_le (norm_add_le_of_le (norm_add_le_of_le (norm_add_le_of_le
      (norm_mul_le_of_le (norm_smul_le_of_le (nrm_hpow hh 2) dC1) hd1M)
      (norm_mul_le_of_le (norm_smul_le_of_le (nrm_hpow hh 3) dC2) hd2M))
      (norm_mul_le_of_le (norm_smul_le_of_le (nrm_hpow_div hh 3 8) dB) nA2))
      (norm_mul_le_of_le (norm_smul_le_of_le (nrm_ofReal hh le_rfl) bq1)
        (norm_add_le_of_le (norm_add_le_of_le nσ3 nB1) (nqb.trans (quad_rem_le hc.H hh hhT)))))
      nρ3).trans (le_of_eq ?_)
    unfold NL4.EC; ring
  exact ⟨nε, (norm_le_of_leading (κ := 2) hh hhT hEC0 (nrm_ofReal (by positivity) le_rfl) nP nε).trans_eq
    (by unfold NL4.Ec3; ring)⟩

/-- final update; `2β·1 + γ·(−2) = O(l h)` (`dβγ`), so the `h⁴ P`-terms of the two stage sums cancel.  `e3, e4` write
    `Na + Nb = N(a) + N(b)` and `Nc = N(c)` by the linearisations of `N` at `u(t+h/2), u(t+h)`: `AB1, C1` are `L_a ε_ab, L_b ε_c`,
    `LaP, LbP` are `L_a P, L_b P` -/
theorem etd4_final (c : NL4) (hc : c.Nonneg) {h : ℝ} (hh : 0 ≤ h) (hhT : h ≤ c.T)
    {u0 u1 d1 d2 d3 E p1 p2 p3 p4 f0 fh fe Na Nb Nc AB1 C1 LaP LbP qa qb qc : V}
    (dβγ : ‖(p2 - 2 * p3) - (4 * p3 - p2)‖ ≤ c.Lam * h * (7 * c.W / 12))
    (dQ : ‖(1 / 2 : ℂ) • p3 - (1 / 12 : ℂ) • p2 - p4‖ ≤ c.Lam * h * (c.W / 72 + c.W / 48 + c.W / 120))
    (bβ : ‖p2 - 2 * p3‖ ≤ 5 * c.W / 6) (bγ : ‖4 * p3 - p2‖ ≤ 7 * c.W / 6) (hd3M : ‖d3‖ ≤ c.M3)
    (nρ4 : ‖u1 - (E * u0 + (h : ℂ) • p1 * f0 + ((h : ℂ) ^ 2) • p2 * d1 + ((h : ℂ) ^ 3) • p3 * d2
        + ((h : ℂ) ^ 4) • p4 * d3)‖ ≤ c.W * c.G4 * h ^ 5 / 120)
    (nτh : ‖fh - f0 - ((h : ℂ) / 2) • d1 - (((h : ℂ) / 2) ^ 2 / 2) • d2 - (((h : ℂ) / 2) ^ 3 / 6) • d3‖
      ≤ c.G4 * h ^ 4 / 384)
    (nτe : ‖fe - f0 - (h : ℂ) • d1 - ((h : ℂ) ^ 2 / 2) • d2 - ((h : ℂ) ^ 3 / 6) • d3‖ ≤ c.G4 * h ^ 4 / 24)
    (e3 : Na + Nb = fh + fh + (AB1 - (-(h ^ 3) : ℝ) • LaP) + qa + qb)
    (e4 : Nc = fe + (C1 - (2 * h ^ 3 : ℝ) • LbP) + qc)
    (nAB1 : ‖AB1‖ ≤ c.K * (c.EAB * h ^ 4)) (nC1 : ‖C1‖ ≤ c.K * (c.EC * h ^ 4))
    (nLaP : ‖LaP‖ ≤ c.K * c.Pb) (nLabP : ‖LaP - LbP‖ ≤ c.HL * (h / 2) * c.Pb)
    (nqa : ‖qa‖ ≤ c.H / 2 * (c.Ea2 * h ^ 2) ^ 2) (nqb : ‖qb‖ ≤ c.H / 2 * (c.Eb2 * h ^ 2) ^ 2)
    (nqc : ‖qc‖ ≤ c.H / 2 * (c.Ec3 * h ^ 3) ^ 2) :
    ‖u1 - (E * u0 + (h : ℂ) • (p1 - 3 * p2 + 4 * p3) * f0 + (h : ℂ) • (p2 - 2 * p3) * (2 * (Na + Nb))
        + (h : ℂ) • (4 * p3 - p2) * Nc)‖ ≤ c.Cloc * h ^ 5 := by
  obtain ⟨hW0, -⟩ := hc.nonnegs
  have hH := hc.H
  have b2 : ‖(2 : ℂ)‖ ≤ 2 := (Complex.norm_ofNat 2).le
  have b4 : ‖(4 : ℂ)‖ ≤ 4 := (Complex.norm_ofNat 4).le
  have bh : ‖(h : ℂ)‖ ≤ h := nrm_ofReal hh le_rfl
  generalize hρ : u1 - (E * u0 + (h : ℂ) • p1 * f0 + ((h : ℂ) ^ 2) • p2 * d1 + ((h : ℂ) ^ 3) • p3 * d2
    + ((h : ℂ) ^ 4) • p4 * d3) = ρ at nρ4
  generalize hτh : fh - f0 - ((h : ℂ) / 2) • d1 - (((h : ℂ) / 2) ^ 2 / 2) • d2 - (((h : ℂ) / 2) ^ 3 / 6) • d3 = τh at nτh
  generalize hτe : fe - f0 - (h : ℂ) • d1 - ((h : ℂ) ^ 2 / 2) • d2 - ((h : ℂ) ^ 3 / 6) • d3 = τe at nτe
  -- the defect identity: here the quadrature exactness of the weights is used (the terms in `f0, d1, d2` cancel)
  have hid : u1 - (E * u0 + (h : ℂ) • (p1 - 3 * p2 + 4 * p3) * f0
        + (h : ℂ) • (p2 - 2 * p3) * (2 * (Na + Nb)) + (h : ℂ) • (4 * p3 - p2) * Nc)
      = -((h : ℂ) • ((4 : ℂ) • (p2 - 2 * p3) * τh + (4 * p3 - p2) * τe)
        + ((h : ℂ) ^ 4) • ((1 / 2 : ℂ) • p3 - (1 / 12 : ℂ) • p2 - p4) * d3
        + (h : ℂ) • ((2 : ℂ) • (p2 - 2 * p3) * (AB1 + qa + qb) + (4 * p3 - p2) * (C1 + qc))
        + (2 * (h : ℂ) ^ 4) • (((p2 - 2 * p3) - (4 * p3 - p2)) * LaP + (4 * p3 - p2) * (LaP - LbP))
        - ρ) := by
    rw [e3, e4, ← hτh, ← hτe, ← hρ]; simp only [← Complex.coe_smul]; push_cast; algebra
  rw [hid, norm_neg]
  refine (norm_sub_le_of_le (norm_add_le_of_le (norm_add_le_of_le (norm_add_le_of_le
    (norm_smul_le_of_le bh (norm_add_le_of_le (norm_mul_le_of_le (norm_smul_le_of_le b4 bβ) nτh)
      (norm_mul_le_of_le bγ nτe)))
    (norm_mul_le_of_le (norm_smul_le_of_le (nrm_hpow hh 4) dQ) hd3M))
    (norm_smul_le_of_le bh (norm_add_le_of_le
      (norm_mul_le_of_le (norm_smul_le_of_le b2 bβ) (norm_add_le_of_le (norm_add_le_of_le nAB1 nqa) nqb))
      (norm_mul_le_of_le bγ (norm_add_le_of_le nC1 nqc)))))
    (norm_smul_le_of_le (norm_mul_le_of_le b2 (nrm_hpow hh 4)) (norm_add_le_of_le (norm_mul_le_of_le dβγ nLaP)
      (norm_mul_le_of_le bγ nLabP)))) nρ4).trans ?_
  -- the sum is `Cloc·h⁵` with `h²` for `T²` in front of the quadratic remainder of stage `c`
  have hR : 0 ≤ 7 * c.W / 6 * (c.H / 2 * c.Ec3 ^ 2) * h ^ 5 * (c.T ^ 2 - h ^ 2) :=
    mul_nonneg (by positivity) (sub_nonneg.mpr (pow_le_pow_left₀ hh hhT 2))
  calc _ = c.Cloc * h ^ 5 - 7 * c.W / 6 * (c.H / 2 * c.Ec3 ^ 2) * h ^ 5 * (c.T ^ 2 - h ^ 2) := by
        unfold NL4.Cloc; ring
    _ ≤ c.Cloc * h ^ 5 := sub_le_self _ hR

end Exponax.LinearOrder
end
