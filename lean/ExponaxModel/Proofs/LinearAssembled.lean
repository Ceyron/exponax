import ExponaxModel.Proofs.ZeroStateAssembled
/-
C07 on the regenerated assembled steps: the linear steppers are ℂ-linear maps `Spec → Spec` (`Spec = ℕ → ℕ → ℂ`, pointwise
module structure), so is every rollout, and a linear map is its own linearisation (`f (u + h) − f u = f h`).

Two independent reasons, both inherited by `baseStep`: `etdrkStep 0 …` (`E0step`) never evaluates the nonlinear map; and
`etdrkStep p …` with the identically-zero nonlinear map is `E0step` for every order `p`, while the regenerated nonlinear
function of the six linear classes returns the zero spectrum (`zeroNonlin`), so it lifts to the zero map.  Their
regenerated base arguments fix `order = 0`.  (Namespace `Interface`: these are further facts about its `baseStep` and `X_step`.)
-/
namespace Exponax.Interface
open Exponax Exponax.Layout Exponax.Transform Exponax.Nonlin Exponax.Gen.Convert Exponax.Gen.Etdrk
open Exponax.Gen.StepperWiring Exponax.Gen.Steppers Exponax.StepperWiringEq Exponax.SmallGaps
open Exponax.EquivND (liftTermND)

def SpecLinear (f : Spec → Spec) : Prop := ∀ (a : ℂ) (u v : Spec), f (a • u + v) = a • f u + f v

theorem SpecLinear.map_zero {f : Spec → Spec} (hf : SpecLinear f) : f 0 = 0 := by
  have h := hf 1 (0 : Spec) 0
  rw [one_smul, one_smul, add_zero] at h
  exact left_eq_add.mp h

theorem SpecLinear.map_add {f : Spec → Spec} (hf : SpecLinear f) (u v : Spec) : f (u + v) = f u + f v := by
  have h := hf 1 u v
  rwa [one_smul, one_smul] at h

theorem SpecLinear.map_smul {f : Spec → Spec} (hf : SpecLinear f) (a : ℂ) (u : Spec) : f (a • u) = a • f u := by
  have h := hf a u 0
  rwa [add_zero, hf.map_zero, add_zero] at h

theorem SpecLinear.isLinearMap {f : Spec → Spec} (hf : SpecLinear f) : IsLinearMap ℂ f :=
  ⟨hf.map_add, hf.map_smul⟩

theorem specLinear_of_isLinearMap {f : Spec → Spec} (hf : IsLinearMap ℂ f) : SpecLinear f := fun a u v => by
  rw [hf.map_add, hf.map_smul]

theorem SpecLinear.increment {f : Spec → Spec} (hf : SpecLinear f) (u h : Spec) : f (u + h) - f u = f h := by
  rw [hf.map_add, add_sub_cancel_left]

theorem SpecLinear.id : SpecLinear (fun u => u) := fun _ _ _ => rfl

theorem SpecLinear.comp {f g : Spec → Spec} (hf : SpecLinear f) (hg : SpecLinear g) : SpecLinear (f ∘ g) :=
  fun a u v => by
    show f (g (a • u + v)) = a • f (g u) + f (g v)
    rw [hg a u v, hf a (g u) (g v)]

theorem SpecLinear.iterate {f : Spec → Spec} (hf : SpecLinear f) (n : ℕ) : SpecLinear (f^[n]) := by
  induction n with
  | zero => exact fun _ _ _ => rfl
  | succ n ih =>
    rw [Function.iterate_succ]
    exact ih.comp hf

theorem E0step_specLinear (e : Spec) : SpecLinear (E0step e) := fun a u v => by
  funext ch k
  show e ch k * (a * u ch k + v ch k) = a * (e ch k * u ch k) + e ch k * v ch k
  ring

theorem etdrkStep_order0_specLinear (dt : ℂ) (lam : Spec) (M : ℕ) (r : ℂ) (N : Spec → Spec) :
    SpecLinear (etdrkStep 0 dt lam M r N) :=
  E0step_specLinear _

theorem etdrkStep_zeroN_eq_order0 (p : ℕ) (hp : p ≤ 4) (dt : ℂ) (lam : Spec) (M : ℕ) (r : ℂ) (u : Spec) :
    etdrkStep p dt lam M r (fun _ => 0) u = etdrkStep 0 dt lam M r (fun _ => 0) u := by
  rw [etdrkStep_eq_gen, etdrkStep_eq_gen, Etdrk.etdrkGen_zeroN _ p hp, Etdrk.etdrkGen_zeroN _ 0 (Nat.zero_le 4)]

theorem etdrkStep_zeroN_apply (p : ℕ) (hp : p ≤ 4) (dt : ℂ) (lam : Spec) (M : ℕ) (r : ℂ) (u : Spec) (ch k : ℕ) :
    etdrkStep p dt lam M r (fun _ => 0) u ch k = exp_term dt (lam ch k) * u ch k := by
  rw [etdrkStep_zeroN_eq_order0 p hp]; rfl

/-- orders `0–4` are the five methods; for `p ≥ 5` `etdrkStep` is the identity -/
theorem etdrkStep_zeroN_specLinear (p : ℕ) (dt : ℂ) (lam : Spec) (M : ℕ) (r : ℂ) :
    SpecLinear (etdrkStep p dt lam M r (fun _ => 0)) := by
  by_cases hp : p ≤ 4
  · have e : etdrkStep p dt lam M r (fun _ => 0) = etdrkStep 0 dt lam M r (fun _ => 0) :=
      funext fun u => etdrkStep_zeroN_eq_order0 p hp dt lam M r u
    rw [e]
    exact etdrkStep_order0_specLinear _ _ _ _ _
  · obtain ⟨n, rfl⟩ : ∃ n, p = n + 5 := ⟨p - 5, by omega⟩
    exact fun _ _ _ => rfl

theorem liftTermND_of_isZero (c : Cfg ℂ) (C : ℕ) (T : MC ℂ → MC ℂ) (hT : ∀ uh, IsZeroMC (T uh)) :
    liftTermND c C T = fun _ => 0 := by
  funext v ch k
  unfold liftTermND
  split_ifs
  · exact (hT _).at2 ch k
  · rfl

theorem liftTermND_zeroNonlin (c c' : Cfg ℂ) (C C' : ℕ) :
    liftTermND c C (fun _ => zeroNonlin c' C') = fun _ => 0 :=
  liftTermND_of_isZero c C _ (fun _ => isZeroMC_zeroMC C' (modes c'))

theorem baseStep_order0_specLinear (b : BaseStepperArgs ℂ) (hb : b.order = 0) (linop : List ℂ → ℂ)
    (nonlin : Cfg ℂ → MC ℂ → MC ℂ) : SpecLinear (baseStep b linop nonlin) := by
  unfold baseStep
  rw [hb]
  exact etdrkStep_order0_specLinear _ _ _ _ _

theorem baseStep_zeroNonlin_specLinear (b : BaseStepperArgs ℂ) (linop : List ℂ → ℂ) (nonlin : Cfg ℂ → MC ℂ → MC ℂ)
    (h : ∀ uh, IsZeroMC (nonlin (baseCfg b.num_spatial_dims b.num_points b.domain_extent) uh)) :
    SpecLinear (baseStep b linop nonlin) := by
  unfold baseStep
  rw [liftTermND_of_isZero _ _ _ h]
  exact etdrkStep_zeroN_specLinear _ _ _ _ _

/-- `b` (any order, `dt`, contour, channel count, grid) and `linop` are arbitrary, not those of `GeneralLinearStepper`:
    only its regenerated nonlinear function is used -/
theorem baseStep_GeneralLinear_nonlin_specLinear (b : BaseStepperArgs ℂ) (linop : List ℂ → ℂ)
    (g : GeneralLinearStepperArgs ℂ) :
    SpecLinear (baseStep b linop (fun c => GeneralLinearStepper_stepper_nonlinear_fun c g)) :=
  baseStep_zeroNonlin_specLinear b linop _ (fun uh => by
    rw [GeneralLinearStepper_stepper_nonlinear_fun_eq]; exact isZeroMC_zeroMC _ _)

theorem GeneralLinearStepper_step_specLinear (g : GeneralLinearStepperArgs ℂ) :
    SpecLinear (GeneralLinearStepper_step g) :=
  baseStep_zeroNonlin_specLinear _ _ _ (fun uh => by
    rw [GeneralLinearStepper_stepper_nonlinear_fun_eq]; exact isZeroMC_zeroMC _ _)

theorem Advection_step_specLinear (a : AdvectionArgs ℂ) : SpecLinear (Advection_step a) :=
  baseStep_zeroNonlin_specLinear _ _ _ (fun uh => by
    rw [Advection_stepper_nonlinear_fun_eq]; exact isZeroMC_zeroMC _ _)

theorem Diffusion_step_specLinear (a : DiffusionArgs ℂ) : SpecLinear (Diffusion_step a) :=
  baseStep_zeroNonlin_specLinear _ _ _ (fun uh => by
    rw [Diffusion_stepper_nonlinear_fun_eq]; exact isZeroMC_zeroMC _ _)

theorem AdvectionDiffusion_step_specLinear (a : AdvectionDiffusionArgs ℂ) : SpecLinear (AdvectionDiffusion_step a) :=
  baseStep_zeroNonlin_specLinear _ _ _ (fun uh => by
    rw [AdvectionDiffusion_stepper_nonlinear_fun_eq]; exact isZeroMC_zeroMC _ _)

theorem Dispersion_step_specLinear (a : DispersionArgs ℂ) : SpecLinear (Dispersion_step a) :=
  baseStep_zeroNonlin_specLinear _ _ _ (fun uh => by
    rw [Dispersion_stepper_nonlinear_fun_eq]; exact isZeroMC_zeroMC _ _)

theorem HyperDiffusion_step_specLinear (a : HyperDiffusionArgs ℂ) : SpecLinear (HyperDiffusion_step a) :=
  baseStep_zeroNonlin_specLinear _ _ _ (fun uh => by
    rw [HyperDiffusion_stepper_nonlinear_fun_eq]; exact isZeroMC_zeroMC _ _)

/-- the OTHER route, for Advection: the regenerated base arguments fix `order = 0`, so the nonlinear function is
    never evaluated (the regenerated `*_base_args_eq` of the other five read the same) -/
theorem Advection_step_specLinear_by_order (a : AdvectionArgs ℂ) : SpecLinear (Advection_step a) := by
  unfold Advection_step
  rw [Advection_base_args_eq]
  exact baseStep_order0_specLinear _ rfl _ _

theorem linear_family_order_eq_zero :
    (∀ g : GeneralLinearStepperArgs ℂ, (GeneralLinearStepper_base_args g).order = 0) ∧
    (∀ a : AdvectionArgs ℂ, (Advection_base_args a).order = 0) ∧
    (∀ a : DiffusionArgs ℂ, (Diffusion_base_args a).order = 0) ∧
    (∀ a : AdvectionDiffusionArgs ℂ, (AdvectionDiffusion_base_args a).order = 0) ∧
    (∀ a : DispersionArgs ℂ, (Dispersion_base_args a).order = 0) ∧
    (∀ a : HyperDiffusionArgs ℂ, (HyperDiffusion_base_args a).order = 0) :=
  ⟨fun g => by rw [GeneralLinearStepper_base_args_eq], fun a => by rw [Advection_base_args_eq],
   fun a => by rw [Diffusion_base_args_eq], fun a => by rw [AdvectionDiffusion_base_args_eq],
   fun a => by rw [Dispersion_base_args_eq], fun a => by rw [HyperDiffusion_base_args_eq]⟩

/-! non-vacuity: a linear map that is not zero; a map that is not linear (so `SpecLinear` is a real restriction): the
squaring map -/
example : ∃ f : Spec → Spec, SpecLinear f ∧ f 1 ≠ 0 :=
  ⟨E0step 1, E0step_specLinear 1, by
    intro h
    have := congrFun (congrFun h 0) 0
    simp [E0step] at this⟩

example : ¬ SpecLinear (fun u : Spec => u * u) := by
  intro h
  have h1 := congrFun (congrFun (h 2 1 0) 0) 0
  norm_num at h1

end Exponax.Interface
