import ExponaxModel.Proofs.IncompressibleXY
import ExponaxModel.Proofs.RepeatedPhysicalInvariant
import ExponaxModel.Proofs.C2RIsometryNyquistFree
/-
`exponax.make_incompressible` (C10) on NYQUIST-FREE real fields, EVERY grid size (even included), over `ℂ`, `D ≥ 2`.

On an even grid `irfftn` keeps only the Hermitian part of the self-conjugate columns, and at a stored mode that mixes a
Nyquist and a non-Nyquist wavenumber the conjugate partner does not carry the opposite wave vector.  A field without
content at the modes with a Nyquist wavenumber component does not see this.  The projected spectrum of a REAL
Nyquist-free field, ANY `N`, is Hermitian-consistent, i.e. `FixedAt` at EVERY stored mode
(`fixedAt_of_real_nyquist_free`, through `IncompressibleXY.fixedAt_of_real`: off the Nyquist modes the partner mode
carries the opposite wave vector; at them the spectrum, hence its projection, vanishes), and it is again Nyquist-free
(`leray_spectrum_nyqFree`).  Hence the result of `make_incompressible` is divergence-free at EVERY stored mode (also the
whole `k_last = 0` plane and the Nyquist column), and `make_incompressible` is idempotent there.  The C10 statements are in
`Properties/C10_nyquist_free.lean`.
`NyqFreeField` is implied by `ExactLinear.BandLimited` of every component (`nyqFreeField_of_bandLimited`); on odd grids
it holds of every field (`nyqFreeField_of_odd`): the odd-grid theorems of `Properties/C10_xy.lean` are that case.
-/
namespace Exponax.IncompressibleNyquistFree
open Exponax Exponax.Layout Exponax.Transform Exponax.Nonlin Exponax.Gen.SpectralOps Exponax.NonlinFunsEq
  Exponax.SpectralOpsEq Exponax.SmallGaps2 Exponax.Gen.SpectralLayout Exponax.IncompressibleXY

/-- every one of the first `D` components of the field has a spectrum that vanishes at the stored modes with a Nyquist
    wavenumber component (`C2R.NyqMode`: `N` even and `|k_d| = N/2` for some axis `d`) -/
def NyqFreeField (D N : ℕ) (field : MC ℂ) : Prop :=
  ∀ d < D, C2R.NyqFree D N (rfftnM D N (field.getD d #[]))

def RealField (D N : ℕ) (field : MC ℂ) : Prop :=
  ∀ d < D, ∀ j < N ^ D, ((field.getD d #[]).getD j 0).im = 0

theorem nyqFreeField_of_odd (D N : ℕ) (hodd : N % 2 = 1) (field : MC ℂ) : NyqFreeField D N field :=
  fun _ _ => C2R.odd_grid_nyqFree D N hodd _

theorem nyqFreeField_swapCh (D N : ℕ) (hD : 2 ≤ D) (field : MC ℂ) (hf : 2 ≤ field.size)
    (hnf : NyqFreeField D N field) : NyqFreeField D N (swapCh field) := by
  intro d hd
  rw [swapCh_getD field hf]
  exact hnf _ (sw_lt D d hD hd)

theorem fixedAt_of_real_nyquist_free (D N : ℕ) (hD : 2 ≤ D) (hN : 0 < N) (field : MC ℂ) (hf : 2 ≤ field.size)
    (hreal : RealField D N field) (hnf : NyqFreeField D N field) (h : ℕ) (hh : h < numModes D N) :
    FixedAt D N (lerayXY D N (specOf D N field)) h := by
  have hD0 : 0 < D := Nat.le_of_succ_le hD
  refine fixedAt_of_real D N hD hN field hf hreal (fun m hm hw => ?_) h hh
  by_cases hq : C2R.NyqMode D N m
  · exact Or.inr (fun e he => ⟨hnf e he m hm hq, hnf e he _ (C2R.conjIdx_lt D N m hD0 hN)
      ((C2R.nyqMode_conjIdx_iff D N m hD0 hN hm).mpr hq)⟩)
  · refine Or.inl (fun e he => ?_)
    rcases C2R.wnFlat_conjIdx_getD D N m e hD0 hN hm hw he with h1 | ⟨hev, hab, _⟩
    · exact h1
    · exact absurd ⟨hev, e, he, hab⟩ hq

theorem make_incompressible_xy_divfree_nyquist_free (D N : ℕ) (hD : 2 ≤ D) (hN : 0 < N) (field : MC ℂ)
    (hf : 2 ≤ field.size) (hreal : RealField D N field) (hnf : NyqFreeField D N field)
    (h : ℕ) (hh : h < numModes D N) :
    sumList ((List.range D).map (fun d => derivative_operator_entry D (1 : ℂ) N "xy" d h *
      (rfftnM D N ((make_incompressible D N D "xy" field).getD d #[])).getD h 0)) = 0 :=
  make_incompressible_xy_divfree_of_fixed D N hD hN field hf h hh
    (fixedAt_of_real_nyquist_free D N hD hN field hf hreal hnf h hh)

theorem make_incompressible_xy_idem_nyquist_free (D N : ℕ) (hD : 2 ≤ D) (hN : 0 < N) (field : MC ℂ)
    (hf : 2 ≤ field.size) (hreal : RealField D N field) (hnf : NyqFreeField D N field) :
    make_incompressible D N D "xy" (make_incompressible D N D "xy" field)
      = make_incompressible D N D "xy" field :=
  make_incompressible_xy_idem_of_fixed D N hD hN field hf
    (fun h hh => fixedAt_of_real_nyquist_free D N hD hN field hf hreal hnf h hh)

theorem make_incompressible_ij_divfree_nyquist_free (D N : ℕ) (hD : 2 ≤ D) (hN : 0 < N) (field : MC ℂ)
    (hf : 2 ≤ field.size) (hreal : RealField D N field) (hnf : NyqFreeField D N field)
    (h : ℕ) (hh : h < numModes D N) :
    sumList ((List.range D).map (fun d => derivative_operator_entry D (1 : ℂ) N "ij" d h *
      (rfftnM D N ((make_incompressible D N D "ij" field).getD d #[])).getD h 0)) = 0 :=
  make_incompressible_ij_divfree_of_xy D N hD hN field hf h
    (make_incompressible_xy_divfree_nyquist_free D N hD hN _ (by rw [swapCh_size]; exact hf)
      (swapCh_real D N hD field hf hreal) (nyqFreeField_swapCh D N hD field hf hnf) h hh)

theorem make_incompressible_ij_idem_nyquist_free (D N : ℕ) (hD : 2 ≤ D) (hN : 0 < N) (field : MC ℂ)
    (hf : 2 ≤ field.size) (hreal : RealField D N field) (hnf : NyqFreeField D N field) :
    make_incompressible D N D "ij" (make_incompressible D N D "ij" field)
      = make_incompressible D N D "ij" field :=
  make_incompressible_ij_idem_of_xy D N hD hN field hf
    (make_incompressible_xy_idem_nyquist_free D N hD hN _ (by rw [swapCh_size]; exact hf)
      (swapCh_real D N hD field hf hreal) (nyqFreeField_swapCh D N hD field hf hnf))

theorem nyqFreeField_of_bandLimited (D N : ℕ) (field : MC ℂ)
    (hb : ∀ d < D, ExactLinear.BandLimited D N (field.getD d #[])) : NyqFreeField D N field := by
  intro d hd h hh hq
  obtain ⟨hev, e, he, hab⟩ := hq
  exact hb d hd h hh (ExactLinear.not_belowNyquist_of_nyquist_component D N _ e he hev hab)

theorem leray_spectrum_nyqFree (D N : ℕ) (hD : 2 ≤ D) (field : MC ℂ)
    (hnf : NyqFreeField D N field) (d : ℕ) (hd : d < D) :
    C2R.NyqFree D N ((lerayXY D N (specOf D N field)).getD d #[]) := by
  intro m hm hq
  exact (at2_lerayXY D N hD _ d m).trans (at2_leray_zero_of_zero (cfg D N 1) _ m hm
    (fun e he => by rw [at2_swapCh_specOf D N hD field e m he]; exact hnf _ (sw_lt D e hD he) m hm hq)
    (sw d) (sw_lt D d hD hd))

theorem make_incompressible_realState (D N : ℕ) (ix : String) (field : MC ℂ) (d : ℕ) (hd : d < D) :
    C2R.RealState D N ((make_incompressible D N D ix field).getD d #[]) := by
  rw [make_incompressible_spec, tabC_getD _ _ _ hd]
  exact C2R.irfftn_realState D N _

/-! non-vacuity on an EVEN grid -/

/-- the real state `cos(x + y + 0.5)`-type mode `(1, 1)` on the even `4 × 4` grid, used for both channels -/
noncomputable def exState : Array ℂ := ExactLinear.stateOf 2 4 [([1, 1], 2, 0.5)]

noncomputable def exField : MC ℂ := #[exState, exState]

theorem exField_getD (d : ℕ) (hd : d < 2) : exField.getD d #[] = exState := by
  interval_cases d <;> rfl

theorem exField_real : RealField 2 4 exField := by
  intro d hd j hj
  rw [exField_getD d hd]
  exact ExactLinear.stateOf_real 2 4 _ j hj

theorem exField_nyqFree : NyqFreeField 2 4 exField := by
  apply nyqFreeField_of_bandLimited
  intro d hd
  rw [exField_getD d hd]
  have hms : ∀ m ∈ ([([1, 1], 2, 0.5)] : ExactLinear.Modes), ExactLinear.BelowNyquist 2 4 m.1 := by
    intro m hm
    simp only [List.mem_cons, List.mem_nil_iff, or_false] at hm
    subst hm
    exact ⟨rfl, by intro d hd; interval_cases d <;> simp⟩
  exact ExactLinear.bandLimited_stateOf 2 4 (by norm_num) (by norm_num) _ hms

/-- **non-vacuity, even grid** (`D = 2`, `N = 4`): a real Nyquist-free two-channel field exists; the grid has stored
    modes on the self-conjugate columns that are Nyquist modes (`(1, 2)`, stored index 5, weight 1) and the mode `0` of
    the `k_last = 0` plane (weight 1) — modes that neither the weight-2 nor the odd-grid theorems reach -/
example : ∃ (D N : ℕ) (field : MC ℂ), 2 ≤ D ∧ 0 < N ∧ N % 2 = 0 ∧ 2 ≤ field.size ∧ RealField D N field ∧
    NyqFreeField D N field ∧ (5 : ℕ) < numModes D N ∧ herm_weight D N 5 = 1 ∧ herm_weight D N 0 = 1 :=
  ⟨2, 4, exField, by norm_num, by norm_num, by norm_num, by simp [exField], exField_real, exField_nyqFree,
    by decide, by decide, by decide⟩

/-- **non-vacuity of `C10_make_incompressible_fixes_divfree`, even grid**: every output of `make_incompressible` on a real
    Nyquist-free field satisfies its hypotheses (size, reality, spectrally divergence-free at EVERY stored mode) -/
example : ∃ (u : MC ℂ), u.size = 2 ∧ (∀ d < 2, C2R.RealState 2 4 (u.getD d #[])) ∧
    (∀ h < numModes 2 4,
      sumList ((List.range 2).map (fun d => derivative_operator_entry 2 (1 : ℂ) 4 "ij" d h *
        (rfftnM 2 4 (u.getD d #[])).getD h 0)) = 0) :=
  ⟨make_incompressible 2 4 2 "ij" exField, make_incompressible_size 2 4 "ij" exField,
    fun d hd => make_incompressible_realState 2 4 "ij" exField d hd,
    fun h hh => make_incompressible_ij_divfree_nyquist_free 2 4 (by norm_num) (by norm_num) exField
      (by simp [exField]) exField_real exField_nyqFree h hh⟩

end Exponax.IncompressibleNyquistFree
