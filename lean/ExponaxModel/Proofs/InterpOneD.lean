import ExponaxModel.Proofs.InterpBasic
import ExponaxModel.Proofs.DFT1D
/-
C15 support — `map_between_resolutions` in one dimension: the new half spectrum, the pointwise
formula of the mapped field for any `u` (`mapBetween_one_getD`), and the band-limit hypothesis `BandLimited1` of the
1-D exactness statements.
-/
namespace Exponax.Interp
open Exponax Exponax.Layout Exponax.Transform Exponax.DFT Finset

theorem srcIndex_one (Nold Nnew h' : ℕ) (hh : h' < Nnew / 2 + 1) :
    srcIndex 1 Nold Nnew [h'] = if h' < min Nold Nnew / 2 + 1 then some [h'] else none := by
  have := srcAxis_last Nold Nnew h' hh
  simp only [srcIndex, wavenumberShape, List.range_succ, List.range_zero, List.nil_append,
    List.foldr_cons, List.foldr_nil, Nat.sub_self, List.replicate_zero, List.getD_cons_zero,
    zero_add, beq_self_eq_true, this]
  split_ifs <;> rfl

theorem oddball_one (N h : ℕ) (hh : h ≤ N / 2) :
    oddball N (wnFlat 1 N h) = false ↔ (N % 2 = 0 ∧ h = N / 2) := by
  rw [wnFlat_one]
  by_cases he : N % 2 = 0
  · have := oddball_even_iff N [(h : ℤ)] he
    rw [← Bool.not_eq_true, this]
    simp only [List.mem_singleton, forall_eq, Nat.abs_cast]
    constructor
    · intro h1; exact ⟨he, by omega⟩
    · rintro ⟨_, h2⟩; omega
  · rw [oddball_odd N _ (by omega)]
    simp [he]

theorem mapSpectrum_one_getD (Nold Nnew : ℕ) (hne : Nold ≠ Nnew) (ob : Bool) (uh : Array ℂ) (h' : ℕ)
    (hh : h' ≤ Nnew / 2) :
    (mapSpectrum 1 Nold Nnew ob uh).getD h' 0 =
      if h' ≤ min Nold Nnew / 2 ∧ ¬ (ob = true ∧ min Nold Nnew % 2 = 0 ∧ h' = min Nold Nnew / 2)
      then uh.getD h' 0 / (Nold : ℂ) * (Nnew : ℂ) else 0 := by
  rw [mapSpectrum_getD 1 Nold Nnew ob uh h' (by rw [numModes_one]; omega)]
  have hun : unflatten (wavenumberShape 1 Nnew) h' = [h'] := by
    simp [wavenumberShape, unflatten, shapeSize]
  rw [hun, srcIndex_one Nold Nnew h' (by omega)]
  by_cases hband : h' < min Nold Nnew / 2 + 1
  · rw [if_pos hband]
    have hfl : flatten (wavenumberShape 1 Nold) [h'] = h' := by
      simp [wavenumberShape, flatten, shapeSize]
    simp only [hfl]
    have hho : h' ≤ Nold / 2 := by omega
    have hnm : h' < numModes 1 Nold := by rw [numModes_one]; omega
    rw [oldSpec_of_lt 1 Nold Nnew ob uh hnm, pow_one, pow_one]
    simp only [oddball_one Nnew h' hh, oddball_one Nold h' hho]
    -- up-sampling filters the Nyquist mode of the old grid, down-sampling that of the new one
    rcases Nat.lt_or_gt_of_ne hne with hlt | hgt
    · rw [min_eq_left hlt.le, if_neg (fun h => absurd h.1.1 (by omega))]
      by_cases hC : ob = true ∧ Nold % 2 = 0 ∧ h' = Nold / 2
      · rw [if_pos ⟨⟨hlt, hC.2.1, hC.1⟩, hC.2⟩, zero_mul, if_neg (fun h => h.2 hC)]
      · rw [if_neg (fun h => hC ⟨h.1.2.2, h.2⟩), if_pos ⟨hho, hC⟩]
    · rw [min_eq_right hgt.le]
      by_cases hC : ob = true ∧ Nnew % 2 = 0 ∧ h' = Nnew / 2
      · rw [if_pos ⟨⟨hgt, hC.2.1, hC.1⟩, hC.2⟩, if_neg (fun h => h.2 hC)]
      · rw [if_neg (fun h => hC ⟨h.1.2.2, h.2⟩), if_neg (fun h => absurd h.1.1 (by omega)), if_pos ⟨hh, hC⟩]
  · rw [if_neg hband]
    simp only [zero_mul, ite_self]
    rw [if_neg (fun h => hband (by omega))]

/-- weight with which stored mode `h` of the OLD spectrum enters the mapped field: `0` if the mode is
    removed by the oddball filter, else the c2r weight on the NEW grid -/
noncomputable def mapWeight (Nold Nnew : ℕ) (ob : Bool) (h : ℕ) : ℕ :=
  if ob = true ∧ min Nold Nnew % 2 = 0 ∧ h = min Nold Nnew / 2 then 0 else herm_weight 1 Nnew h

theorem mapBetween_one_getD (Nold Nnew : ℕ) (hne : Nold ≠ Nnew) (hNn : 0 < Nnew) (ob : Bool)
    (u : Array ℂ) (j : ℕ) (hj : j < Nnew) :
    (mapBetween 1 Nold Nnew ob u).getD j 0 =
      (∑ h ∈ range (min Nold Nnew / 2 + 1), (mapWeight Nold Nnew ob h : ℂ) *
        ((((rfftnM 1 Nold u).getD h 0 * zeta Nnew ^ (-((h : ℤ) * (j : ℤ)))).re : ℝ) : ℂ)) / (Nold : ℂ) := by
  rw [mapBetween_of_ne hne, irfft1_getD Nnew hNn _ j hj]
  have hsub : range (min Nold Nnew / 2 + 1) ⊆ range (Nnew / 2 + 1) := by
    intro x hx; rw [Finset.mem_range] at hx ⊢; omega
  have hNn' : (Nnew : ℂ) ≠ 0 := by exact_mod_cast hNn.ne'
  have hscale : ∀ (z w : ℂ), (((z / (Nold : ℂ) * (Nnew : ℂ) * w).re : ℝ) : ℂ)
      = (((z * w).re : ℝ) : ℂ) * ((Nnew : ℂ) / (Nold : ℂ)) := by
    intro z w
    rw [show z / (Nold : ℂ) * (Nnew : ℂ) * w = (((Nnew : ℝ) / (Nold : ℝ) : ℝ) : ℂ) * (z * w) by
      push_cast; ring, Complex.re_ofReal_mul]
    push_cast
    ring
  rw [← Finset.sum_subset hsub]
  · have hterm : ∀ h ∈ range (min Nold Nnew / 2 + 1),
        (herm_weight 1 Nnew h : ℂ) *
          ((((mapSpectrum 1 Nold Nnew ob (rfftnM 1 Nold u)).getD h 0 * zeta Nnew ^ (-((h : ℤ) * (j : ℤ)))).re : ℝ) : ℂ)
        = ((mapWeight Nold Nnew ob h : ℂ) *
          ((((rfftnM 1 Nold u).getD h 0 * zeta Nnew ^ (-((h : ℤ) * (j : ℤ)))).re : ℝ) : ℂ)) * ((Nnew : ℂ) / (Nold : ℂ)) := by
      intro h hh
      have hh' : h ≤ min Nold Nnew / 2 := by have := Finset.mem_range.mp hh; omega
      rw [mapSpectrum_one_getD Nold Nnew hne ob _ h (by omega)]
      unfold mapWeight
      by_cases hk : ob = true ∧ min Nold Nnew % 2 = 0 ∧ h = min Nold Nnew / 2
      · rw [if_neg (fun h => h.2 hk), if_pos hk, zero_mul, Complex.zero_re, Complex.ofReal_zero, mul_zero,
          Nat.cast_zero, zero_mul, zero_mul]
      · rw [if_pos ⟨hh', hk⟩, if_neg hk, hscale, mul_assoc]
    rw [Finset.sum_congr rfl hterm, ← Finset.sum_mul, mul_div_assoc, div_div_cancel_left' hNn']
    exact (div_eq_mul_inv _ _).symm
  · intro h h1 h2
    have h1' := Finset.mem_range.mp h1
    have h2' : ¬ h < min Nold Nnew / 2 + 1 := fun hc => h2 (Finset.mem_range.mpr hc)
    rw [mapSpectrum_one_getD Nold Nnew hne ob _ h (by omega), if_neg (by omega)]
    simp

theorem zeta_neg_eq_exp (N : ℕ) (h j : ℕ) :
    zeta N ^ (-((h : ℤ) * (j : ℤ)))
      = Complex.exp (2 * Real.pi * Complex.I * (h : ℂ) * (((j : ℝ) / (N : ℝ) : ℝ) : ℂ)) := by
  rw [zeta_zpow_eq_exp]
  congr 1
  push_cast
  ring

/-- the band-limit hypothesis of `I2_exact_1d`: all stored old modes with `2h ≥ m` vanish -/
def BandLimited1 (Nold m : ℕ) (u : Array ℂ) : Prop :=
  ∀ h, h ≤ Nold / 2 → m ≤ 2 * h → (rfftnM 1 Nold u).getD h 0 = 0

/-- strictly below Nyquist the c2r weight does not depend on the grid -/
theorem herm_weight_one_of_lt (N h : ℕ) (hb : 2 * h < N) : herm_weight 1 N h = if h = 0 then 1 else 2 := by
  rw [herm_weight_one]
  by_cases h0 : h = 0
  · rw [if_pos (Or.inl h0), if_pos h0]
  · rw [if_neg (by omega), if_neg h0]

end Exponax.Interp
