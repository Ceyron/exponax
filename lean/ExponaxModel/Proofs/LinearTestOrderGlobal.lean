import ExponaxModel.Proofs.LinearTestOrder
/-
C02: global order of ETDRK1–4 on the linear test family `u' = λu + μu`.  One step with error `≤ C dt^{p+1} + D dt` against
`e^{s dt}` gives, after `n` steps of size `dt`, `n·dt ≤ T`, the error `≤ T·e^{(‖s‖ + C T^p + D) T}·(C dt^p + D)`: order `p`
down to a floor `∝ D` (telescoping `aⁿ − bⁿ`, both factors `≤ e^{K dt}`).  `D = 0` is the classical local ⟹ global step.
-/
noncomputable section
namespace Exponax.LinearOrder
open Exponax Exponax.Spec Exponax.ContourTail Exponax.Gen.Etdrk

theorem norm_pow_sub_pow_le (a b : ℂ) (M : ℝ) (ha : ‖a‖ ≤ M) (hb : ‖b‖ ≤ M) (n : ℕ) :
    ‖a ^ n - b ^ n‖ ≤ n * M ^ (n - 1) * ‖a - b‖ := by
  have hM : 0 ≤ M := (norm_nonneg a).trans ha
  -- `bⁿ` against `n` steps of `x ↦ a·x` from `1`: step `k` has the defect `(b − a)·bᵏ`
  have h := fan_sum (fun x => a * x) (fun k => b ^ k) M (fun k => M ^ k * ‖a - b‖) hM
    (fun x y => by rw [← mul_sub, norm_mul]; exact mul_le_mul_of_nonneg_right ha (norm_nonneg _)) n
    (fun k _ => by
      rw [pow_succ', ← sub_mul, norm_mul, norm_pow, norm_sub_rev, mul_comm]
      exact mul_le_mul_of_nonneg_right (pow_le_pow_left₀ (norm_nonneg b) hb k) (norm_nonneg _))
  simp only [mul_left_iterate, pow_zero, mul_one] at h
  refine (norm_sub_rev _ _).trans_le (h.trans_eq ?_)
  rw [Finset.sum_congr rfl fun k hk => by
    rw [← mul_assoc, ← pow_add, Nat.sub_add_cancel (Nat.le_sub_one_of_lt (Finset.mem_range.mp hk))],
    Finset.sum_const, Finset.card_range, nsmul_eq_mul, mul_assoc]

theorem T_nonneg_of_steps {n : ℕ} {dt T : ℝ} (hdt : 0 ≤ dt) (hn : n * dt ≤ T) : 0 ≤ T :=
  (mul_nonneg (Nat.cast_nonneg n) hdt).trans hn

theorem dt_le_T_of_pos {n : ℕ} {dt T : ℝ} (hn1 : 0 < n) (hdt : 0 ≤ dt) (hn : n * dt ≤ T) : dt ≤ T :=
  (le_mul_of_one_le_left hdt (Nat.one_le_cast.mpr hn1)).trans hn

def Cfloor (Cl D : ℝ) (s : ℂ) (p : ℕ) (T : ℝ) : ℝ := T * Real.exp ((‖s‖ + Cl * T ^ p + D) * T)

/-- local ⟹ global with a consistency floor.  With `K = ‖s‖ + C T^p + D` both `‖A‖` and `‖e^{s dt}‖` are `≤ e^{K dt}`, so
    the telescoping bound gives `n e^{K n dt}·(C dt^p + D) dt`. -/
theorem global_of_local_floor (A s : ℂ) (p : ℕ) (C D T dt : ℝ) (n : ℕ) (hC : 0 ≤ C) (hD : 0 ≤ D)
    (hdt : 0 ≤ dt) (hn : n * dt ≤ T)
    (hloc : 0 < n → ‖A - Complex.exp (s * dt)‖ ≤ C * dt ^ (p + 1) + D * dt) :
    ‖A ^ n - Complex.exp (s * (n * dt))‖ ≤ Cfloor C D s p T * (C * dt ^ p + D) := by
  have hT : 0 ≤ T := T_nonneg_of_steps hdt hn
  have hfl : 0 ≤ C * dt ^ p + D := add_nonneg (mul_nonneg hC (pow_nonneg hdt p)) hD
  unfold Cfloor
  rcases Nat.eq_zero_or_pos n with rfl | hnpos
  · simp only [pow_zero, Nat.cast_zero, zero_mul, mul_zero, Complex.exp_zero, sub_self, norm_zero]
    exact mul_nonneg (mul_nonneg hT (Real.exp_pos _).le) hfl
  have hloc := hloc hnpos
  have hdtT : dt ≤ T := dt_le_T_of_pos hnpos hdt hn
  have hG : 0 ≤ C * T ^ p + D := add_nonneg (mul_nonneg hC (pow_nonneg hT p)) hD
  set K := ‖s‖ + C * T ^ p + D with hKdef
  have hK : 0 ≤ K := by rw [hKdef, add_assoc]; exact add_nonneg (norm_nonneg _) hG
  have hb : ‖Complex.exp (s * dt)‖ ≤ Real.exp (‖s‖ * dt) := by
    rw [Complex.norm_exp]
    refine Real.exp_le_exp.mpr ((Complex.re_le_norm _).trans_eq ?_)
    rw [norm_mul, Complex.norm_real, Real.norm_eq_abs, abs_of_nonneg hdt]
  have hsK : Real.exp (‖s‖ * dt) * Real.exp ((C * T ^ p + D) * dt) = Real.exp (K * dt) := by
    rw [← Real.exp_add, ← add_mul, ← add_assoc]
  have hbK : ‖Complex.exp (s * dt)‖ ≤ Real.exp (K * dt) := by
    rw [← hsK]
    exact hb.trans (le_mul_of_one_le_right (Real.exp_pos _).le (Real.one_le_exp (mul_nonneg hG hdt)))
  have ha : ‖A‖ ≤ Real.exp (K * dt) := by
    have hdtp : C * dt ^ (p + 1) ≤ C * T ^ p * dt := by
      rw [pow_succ, ← mul_assoc]
      exact mul_le_mul_of_nonneg_right (mul_le_mul_of_nonneg_left (pow_le_pow_left₀ hdt hdtT p) hC) hdt
    calc ‖A‖ ≤ ‖Complex.exp (s * dt)‖ + ‖A - Complex.exp (s * dt)‖ := norm_le_insert' _ _
      _ ≤ Real.exp (‖s‖ * dt) + (C * T ^ p + D) * dt := by linarith
      _ ≤ Real.exp (‖s‖ * dt) * (1 + (C * T ^ p + D) * dt) := by
          have := mul_le_mul_of_nonneg_right (Real.one_le_exp (mul_nonneg (norm_nonneg s) hdt))
            (mul_nonneg hG hdt)
          linarith
      _ ≤ Real.exp (‖s‖ * dt) * Real.exp ((C * T ^ p + D) * dt) :=
          mul_le_mul_of_nonneg_left (by linarith [Real.add_one_le_exp ((C * T ^ p + D) * dt)])
            (Real.exp_pos _).le
      _ = Real.exp (K * dt) := hsK
  have hmax : Real.exp (K * dt) ^ (n - 1) ≤ Real.exp (K * T) := by
    calc Real.exp (K * dt) ^ (n - 1) ≤ Real.exp (K * dt) ^ n :=
          pow_le_pow_right₀ (Real.one_le_exp (mul_nonneg hK hdt)) (Nat.sub_le n 1)
      _ = Real.exp (K * (n * dt)) := by rw [← Real.exp_nat_mul, mul_left_comm]
      _ ≤ Real.exp (K * T) := Real.exp_le_exp.mpr (mul_le_mul_of_nonneg_left hn hK)
  have hbpow : Complex.exp (s * (n * dt)) = Complex.exp (s * dt) ^ n := by
    rw [← Complex.exp_nat_mul, mul_left_comm]
  rw [hbpow]
  calc ‖A ^ n - Complex.exp (s * dt) ^ n‖
      ≤ n * Real.exp (K * dt) ^ (n - 1) * ‖A - Complex.exp (s * dt)‖ :=
        norm_pow_sub_pow_le _ _ _ ha hbK n
    _ ≤ n * Real.exp (K * T) * (C * dt ^ (p + 1) + D * dt) :=
        mul_le_mul (mul_le_mul_of_nonneg_left hmax (Nat.cast_nonneg n)) hloc (norm_nonneg _)
          (mul_nonneg (Nat.cast_nonneg n) (Real.exp_pos _).le)
    _ = (n * dt) * Real.exp (K * T) * (C * dt ^ p + D) := by ring
    _ ≤ T * Real.exp (K * T) * (C * dt ^ p + D) :=
        mul_le_mul_of_nonneg_right (mul_le_mul_of_nonneg_right hn (Real.exp_pos _).le) hfl

/-- the constant of `OrderOnTestFamily.glob`: no floor -/
def Cglob (Cl : ℝ) (s : ℂ) (p : ℕ) (T : ℝ) : ℝ := Cl * T * Real.exp ((‖s‖ + Cl * T ^ p) * T)

theorem Cglob_nonneg (Cl : ℝ) (s : ℂ) (p : ℕ) (T : ℝ) (hCl : 0 ≤ Cl) (hT : 0 ≤ T) : 0 ≤ Cglob Cl s p T :=
  mul_nonneg (mul_nonneg hCl hT) (Real.exp_pos _).le

theorem Cglob_eq_mul_Cfloor (Cl : ℝ) (s : ℂ) (p : ℕ) (T : ℝ) : Cglob Cl s p T = Cl * Cfloor Cl 0 s p T := by
  rw [Cglob, Cfloor, add_zero, mul_assoc]

/-- A scheme of order `p` on the linear test family `u' = λu + μu`, as the three facts every order statement below starts
    from.  `step`, `R` and `Cl` are parameters, so the four instances `order1 … order4` (`LinearTestOrderConst.lean`) carry
    the fixed `E?lin`, `R?`, `Cloc?`. -/
structure OrderOnTestFamily (step : ℝ → ℂ → ℂ) (R : ℂ → ℂ → ℂ) (l m : ℂ) (p : ℕ) (Cl T : ℝ) : Prop where
  apply : ∀ (dt : ℝ) (u : ℂ), step dt u = R (l * dt) (m * dt) * u
  nonneg : 0 ≤ Cl
  loc : ∀ t : ℝ, 0 ≤ t → t ≤ T → ‖R (l * t) (m * t) - Complex.exp ((l + m) * t)‖ ≤ Cl * t ^ (p + 1)

namespace OrderOnTestFamily
variable {step : ℝ → ℂ → ℂ} {R : ℂ → ℂ → ℂ} {l m : ℂ} {p : ℕ} {Cl T : ℝ} (h : OrderOnTestFamily step R l m p Cl T)
include h

/-- a step that multiplies by `A` within `δ·dt·κ` of `R (λdt) (μdt)`: order `p` down to the floor `D = δ·κ` -/
theorem perturbed {A : ℂ} {step' : ℂ → ℂ} {D κ δ dt : ℝ} {n : ℕ}
    (hκ : 0 ≤ κ) (hδ : 0 ≤ δ) (hD : D = δ * κ) (hdt : 0 ≤ dt) (hn : n * dt ≤ T) (hstep : ∀ v, step' v = A * v)
    (hpert : dt ≤ T → ‖A - R (l * dt) (m * dt)‖ ≤ (δ * dt) * κ) (u : ℂ) :
    ‖step'^[n] u - Complex.exp ((l + m) * (n * dt)) * u‖ ≤ Cfloor Cl D (l + m) p T * (Cl * dt ^ p + D) * ‖u‖ := by
  rw [show step' = (A * ·) from funext hstep, mul_left_iterate, ← sub_mul, norm_mul]
  refine mul_le_mul_of_nonneg_right ?_ (norm_nonneg u)
  refine global_of_local_floor A (l + m) p Cl D T dt n h.nonneg (hD ▸ mul_nonneg hδ hκ) hdt hn (fun hn0 => ?_)
  have hdtT := dt_le_T_of_pos hn0 hdt hn
  exact (norm_sub_le_norm_sub_add_norm_sub A (R (l * dt) (m * dt)) _).trans
    ((add_le_add (hpert hdtT) (h.loc dt hdt hdtT)).trans_eq (by rw [hD]; ring))

/-- the scheme itself: no perturbation, no floor -/
theorem glob (n : ℕ) (dt : ℝ) (u : ℂ) (hdt : 0 ≤ dt) (hn : n * dt ≤ T) :
    ‖(step dt)^[n] u - Complex.exp ((l + m) * (n * dt)) * u‖ ≤ Cglob Cl (l + m) p T * dt ^ p * ‖u‖ := by
  have h0 := h.perturbed (D := 0) le_rfl le_rfl (mul_zero 0).symm hdt hn (h.apply dt)
    (fun _ => by rw [sub_self, norm_zero, mul_zero]) u
  rwa [add_zero, ← mul_assoc (Cfloor Cl 0 (l + m) p T), mul_comm (Cfloor Cl 0 (l + m) p T) Cl, ← Cglob_eq_mul_Cfloor] at h0

/-- the textbook form: `n ≥ 1` steps of size `dt = T/n` reach time `T` -/
theorem unif (hT : 0 ≤ T) : ∃ C' : ℝ, 0 ≤ C' ∧ ∀ (n : ℕ) (u : ℂ), 1 ≤ n →
    ‖(step (T / n))^[n] u - Complex.exp ((l + m) * T) * u‖ ≤ C' * (T / n) ^ p * ‖u‖ := by
  refine ⟨_, Cglob_nonneg Cl (l + m) p T h.nonneg hT, fun n u hn => ?_⟩
  have hn0 : (n : ℝ) ≠ 0 := by exact_mod_cast (Nat.pos_of_ne_zero (by omega)).ne'
  have hmul : (n : ℝ) * (T / n) = T := by field_simp
  have h1 := h.glob n (T / n) u (div_nonneg hT (Nat.cast_nonneg n)) hmul.le
  have hc : ((n : ℂ) * ((T / n : ℝ) : ℂ)) = (T : ℂ) := by
    rw [← Complex.ofReal_natCast, ← Complex.ofReal_mul, hmul]
  rwa [hc] at h1

end OrderOnTestFamily

/-- `E?lin l m dt`: the regenerated `Gen.Etdrk.E?step` with the exact coefficients for `z = λ·dt` and the linear test
    nonlinearity `N v = μ v` -/
def E1lin (l m : ℂ) (dt : ℝ) : ℂ → ℂ :=
  E1step (Complex.exp (l * dt)) (dt * phi1e (l * dt)) (fun v => m * v)

def E2lin (l m : ℂ) (dt : ℝ) : ℂ → ℂ :=
  E2step (Complex.exp (l * dt)) (dt * phi1e (l * dt)) (dt * phi2e (l * dt)) (fun v => m * v)

def E3lin (l m : ℂ) (dt : ℝ) : ℂ → ℂ :=
  E3step (Complex.exp (l * dt)) (Complex.exp (l * dt / 2)) (dt * (phi1e (l * dt / 2) / 2))
    (dt * phi1e (l * dt))
    (dt * (phi1e (l * dt) - 3 * phi2e (l * dt) + 4 * phi3e (l * dt)))
    (dt * (4 * phi2e (l * dt) - 8 * phi3e (l * dt)))
    (dt * (4 * phi3e (l * dt) - phi2e (l * dt))) (fun v => m * v)

def E4lin (l m : ℂ) (dt : ℝ) : ℂ → ℂ :=
  E4step (Complex.exp (l * dt)) (Complex.exp (l * dt / 2)) (dt * (phi1e (l * dt / 2) / 2))
    (dt * (phi1e (l * dt / 2) / 2)) (dt * (phi1e (l * dt / 2) / 2))
    (dt * (phi1e (l * dt) - 3 * phi2e (l * dt) + 4 * phi3e (l * dt)))
    (dt * (phi2e (l * dt) - 2 * phi3e (l * dt)))
    (dt * (4 * phi3e (l * dt) - phi2e (l * dt))) (fun v => m * v)

theorem E1lin_apply (l m : ℂ) (dt : ℝ) (u : ℂ) : E1lin l m dt u = R1 (l * dt) (m * dt) * u := by
  rw [E1lin, E1step_amp, amp1_exact]
theorem E2lin_apply (l m : ℂ) (dt : ℝ) (u : ℂ) : E2lin l m dt u = R2 (l * dt) (m * dt) * u := by
  rw [E2lin, E2step_amp, amp2_exact]
theorem E3lin_apply (l m : ℂ) (dt : ℝ) (u : ℂ) : E3lin l m dt u = R3 (l * dt) (m * dt) * u := by
  rw [E3lin, E3step_amp, amp3_exact]
theorem E4lin_apply (l m : ℂ) (dt : ℝ) (u : ℂ) : E4lin l m dt u = R4 (l * dt) (m * dt) * u :=
  E4step_linear (l * dt) dt m u

/-! ### non-vacuity -/
example : (0 : ℝ) ≤ 1 := zero_le_one
example : ∃ (n : ℕ) (dt : ℝ), 0 ≤ dt ∧ n * dt ≤ (1 : ℝ) ∧ 1 ≤ n := ⟨4, 1 / 4, by norm_num, by norm_num, by norm_num⟩
/-- the field `loc` is met by a non-trivial `R` (ETDRK1, `λ = −1`, `μ = i`) -/
example : ∃ C : ℝ, 0 ≤ C ∧ ∀ t : ℝ, 0 ≤ t → t ≤ 1 →
    ‖R1 (-1 * t) (Complex.I * t) - Complex.exp ((-1 + Complex.I) * t)‖ ≤ C * t ^ (1 + 1) :=
  exists_bound_of_eq_pow_mul _ _ 2 (by fun_prop) (fun t : ℝ => R1_sub_exp (-1) Complex.I t) 1

end Exponax.LinearOrder
end
