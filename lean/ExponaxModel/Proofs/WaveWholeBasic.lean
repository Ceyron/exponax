import ExponaxModel.Proofs.ExactLinearBand
import ExponaxModel.Proofs.SpectralOpsEq
import ExponaxModel.Proofs.ReadOffND
import ExponaxModel.Proofs.StoredModes
/-
Whole-state wave stepper: support for `WaveWholeState.lean`.

* `mulStep D N m u = irfftnM (m ⊙ rfftnM u)`: a REAL Fourier multiplier between the model transforms.  It is linear, and
  on a cosine mode strictly below Nyquist it multiplies the amplitude by the value of the multiplier at `±κ`
  (`mulStep_modeField`, `mulStep_stateOf`).
* `waveOmega`, `sincT`: the angular frequency `ω_κ = c (2π/L) |κ|` and `sin(ω t)/ω` continued by `t` at `ω = 0`.
* `stepMode_closed`: `Wave.stepMode` at the stored mode `h`, with the stored wavenumber norm `waveKn` and the DC flag
  `decide (h = 0)` that the regenerated `Wave.step_fourier` passes, is ONE real 2×2 matrix for every stored mode, the
  mean mode included:  `[[cos ωt, sincT ω t], [−ω sin ωt, cos ωt]]`.
-/
namespace Exponax.WaveWhole
open Exponax Exponax.Layout Exponax.Transform Exponax.DFT Exponax.ExactLinear Exponax.SpectralOpsEq
  Exponax.ReadOff

noncomputable def mulStep (D N : ℕ) (m : ℕ → ℝ) (u : Array ℂ) : Array ℂ :=
  irfftnM D N (tab (numModes D N) (fun h => ((m h : ℝ) : ℂ) * (rfftnM D N u).getD h 0))

@[simp] theorem mulStep_size (D N : ℕ) (m : ℕ → ℝ) (u : Array ℂ) : (mulStep D N m u).size = N ^ D := by
  simp [mulStep]

/-! `mulStep D N m` unfolds to the general Fourier multiplier `specApply D N (fun h => (m h : ℂ))`, whose linearity and
action on one mode it inherits. -/

theorem mulStep_vadd (D N : ℕ) (hN : 0 < N) (m : ℕ → ℝ) (u v : Array ℂ) :
    mulStep D N m (vadd (N ^ D) u v) = vadd (N ^ D) (mulStep D N m u) (mulStep D N m v) :=
  specApply_vadd D N hN _ u v

theorem mulStep_vzero (D N : ℕ) (hN : 0 < N) (m : ℕ → ℝ) : mulStep D N m (vzero (N ^ D)) = vzero (N ^ D) :=
  specApply_vzero D N hN _

theorem mulStep_vsum (D N : ℕ) (hN : 0 < N) (m : ℕ → ℝ) (us : List (Array ℂ)) :
    mulStep D N m (vsum (N ^ D) us) = vsum (N ^ D) (us.map (mulStep D N m)) :=
  specApply_vsum D N hN _ us

/-- a two-input multiplier is the sum of two one-input multipliers -/
theorem irfftnM_two (D N : ℕ) (m m' : ℕ → ℝ) (u v : Array ℂ) :
    irfftnM D N (tab (numModes D N) (fun h =>
        ((m h : ℝ) : ℂ) * (rfftnM D N u).getD h 0 + ((m' h : ℝ) : ℂ) * (rfftnM D N v).getD h 0))
      = vadd (N ^ D) (mulStep D N m u) (mulStep D N m' v) := by
  unfold mulStep
  rw [← irfftnM_vadd D N]
  refine congrArg (irfftnM D N) (array_ext_getD _ _ (numModes D N) (by simp) (by simp) fun h hh => ?_)
  rw [vadd_getD _ _ _ _ hh, DFT.tab_getD _ _ _ _ hh, DFT.tab_getD _ _ _ _ hh, DFT.tab_getD _ _ _ _ hh]

theorem mulStep_add (D N : ℕ) (m m' : ℕ → ℝ) (u : Array ℂ) :
    vadd (N ^ D) (mulStep D N m u) (mulStep D N m' u) = mulStep D N (fun h => m h + m' h) u := by
  rw [← irfftnM_two D N]
  exact congrArg (irfftnM D N) (DFT.tab_congr _ _ _ fun h _ => by rw [Complex.ofReal_add, add_mul])

theorem mulStep_modeField (D N : ℕ) (hD : 0 < D) (hN : 0 < N) (m : ℕ → ℝ) (κ : List ℤ)
    (hκ : BelowNyquist D N κ) (r : ℝ)
    (h1 : ∀ h < numModes D N, wnFlat D N h = κ → m h = r)
    (h2 : ∀ h < numModes D N, wnFlat D N h = negK κ → m h = r) (a φ : ℝ) :
    mulStep D N m (modeField D N κ a φ) = modeField D N κ (a * r) φ :=
  specApply_modeField_real D N hD hN _ κ hκ r (fun h hh hk => congrArg Complex.ofReal (h1 h hh hk))
    (fun h hh hk => congrArg Complex.ofReal (h2 h hh hk)) a φ

theorem mulStep_stateOf (D N : ℕ) (hD : 0 < D) (hN : 0 < N) (m : ℕ → ℝ) (M : List ℤ → ℝ)
    (hm : ∀ h < numModes D N, m h = M (wnFlat D N h)) (hM : ∀ κ, M (negK κ) = M κ)
    (ms : Modes) (hms : ∀ q ∈ ms, BelowNyquist D N q.1) :
    mulStep D N m (stateOf D N ms) = stateOf D N (ms.map fun q => (q.1, q.2.1 * M q.1, q.2.2)) :=
  stateOf_map_of_modeField D N _ (mulStep_vsum D N hN m) _ ms fun q hq =>
    mulStep_modeField D N hD hN m q.1 (hms q hq) _ (fun h hh hk => by rw [hm h hh, hk])
      (fun h hh hk => by rw [hm h hh, hk, hM]) q.2.1 q.2.2

theorem stateOf_append (D N : ℕ) (l₁ l₂ : Modes) :
    stateOf D N (l₁ ++ l₂) = vadd (N ^ D) (stateOf D N l₁) (stateOf D N l₂) := by
  apply array_ext_getD _ _ (N ^ D) (by simp) (by simp)
  intro j hj
  rw [vadd_getD _ _ _ _ hj, stateOf_getD _ _ _ j hj, stateOf_getD _ _ _ j hj, stateOf_getD _ _ _ j hj,
    List.map_append, List.sum_append]
  push_cast
  rfl

noncomputable def waveOmega (D : ℕ) (c L : ℝ) (κ : List ℤ) : ℝ :=
  c * (2 * Real.pi / L * Real.sqrt ((kappaSq D κ : ℤ) : ℝ))

noncomputable def sincT (ω t : ℝ) : ℝ := if ω = 0 then t else Real.sin (ω * t) / ω

theorem waveOmega_negK (D : ℕ) (c L : ℝ) (κ : List ℤ) : waveOmega D c L (negK κ) = waveOmega D c L κ := by
  unfold waveOmega
  rw [kappaSq_negK]

theorem waveOmega_eq_zero_iff (D : ℕ) (c L : ℝ) (hc : c ≠ 0) (hL : 0 < L) (κ : List ℤ) :
    waveOmega D c L κ = 0 ↔ ∀ d < D, κ.getD d 0 = 0 := by
  unfold waveOmega
  have hk : (0 : ℝ) ≤ ((kappaSq D κ : ℤ) : ℝ) := by exact_mod_cast kappaSq_nonneg D κ
  have hp : (0 : ℝ) < 2 * Real.pi / L := by positivity
  rw [mul_eq_zero, mul_eq_zero, Real.sqrt_eq_zero hk, ← kappaSq_eq_zero_iff]
  constructor
  · rintro (h0 | h0 | h0)
    · exact absurd h0 hc
    · exact absurd h0 hp.ne'
    · exact_mod_cast h0
  · intro h0
    right; right
    exact_mod_cast h0

theorem waveOmega_stored_eq_zero_iff (D N : ℕ) (hD : 0 < D) (hN : 0 < N) (c L : ℝ) (hc : c ≠ 0) (hL : 0 < L) (h : ℕ)
    (hh : h < numModes D N) : waveOmega D c L (wnFlat D N h) = 0 ↔ h = 0 :=
  (waveOmega_eq_zero_iff D c L hc hL _).trans (wnFlat_eq_zero_iff D N h hD hN hh)

theorem waveKn_omega (D N : ℕ) (hD : 0 < D) (hN : 0 < N) (L : ℝ) (hL : 0 < L) (h : ℕ) (hh : h < numModes D N) :
    waveKn D N (L : ℂ) h = ((2 * Real.pi / L * Real.sqrt ((kappaSq D (wnFlat D N h) : ℤ) : ℝ) : ℝ) : ℂ) := by
  rw [waveKn_real D N hD hN L hL h hh, kSq_of_wnFlat (cfg D N (L : ℂ)) h (wnFlat D N h) rfl]
  rfl

theorem stepMode_closed (D N : ℕ) (hD : 0 < D) (hN : 0 < N) (c L dt : ℝ) (hc : c ≠ 0) (hL : 0 < L) (h : ℕ)
    (hh : h < numModes D N) (x y : ℂ) :
    Wave.stepMode (c : ℂ) (dt : ℂ) (waveKn D N (L : ℂ) h) (decide (h = 0)) x y
      = (((Real.cos (waveOmega D c L (wnFlat D N h) * dt) : ℝ) : ℂ) * x
            + ((sincT (waveOmega D c L (wnFlat D N h)) dt : ℝ) : ℂ) * y,
         ((-(waveOmega D c L (wnFlat D N h) * Real.sin (waveOmega D c L (wnFlat D N h) * dt)) : ℝ) : ℂ) * x
            + ((Real.cos (waveOmega D c L (wnFlat D N h) * dt) : ℝ) : ℂ) * y) := by
  have hc' : (c : ℂ) ≠ 0 := by exact_mod_cast hc
  rw [waveKn_omega D N hD hN L hL h hh]
  by_cases h0 : h = 0
  · subst h0
    have hz : ∀ d < D, (wnFlat D N 0).getD d 0 = 0 := fun d _ => wnFlat_zero D N d
    have hω : waveOmega D c L (wnFlat D N 0) = 0 := (waveOmega_eq_zero_iff D c L hc hL _).2 hz
    have hk : kappaSq D (wnFlat D N 0) = 0 := (kappaSq_eq_zero_iff D _).2 hz
    rw [hω, hk]
    simp only [Int.cast_zero, Real.sqrt_zero, mul_zero, Complex.ofReal_zero, decide_true]
    rw [stepMode_DC (c : ℂ) (dt : ℂ) x y hc']
    simp [sincT]
  · have hω : waveOmega D c L (wnFlat D N h) ≠ 0 := mt (waveOmega_stored_eq_zero_iff D N hD hN c L hc hL h hh).1 h0
    have hkn : 2 * Real.pi / L * Real.sqrt ((kappaSq D (wnFlat D N h) : ℤ) : ℝ) ≠ 0 := by
      intro e
      apply hω
      unfold waveOmega
      rw [e, mul_zero]
    rw [show decide (h = 0) = false from decide_eq_false h0, stepMode_nonDC_real c dt _ x y hc hkn]
    have e1 : waveOmega D c L (wnFlat D N h)
        = c * (2 * Real.pi / L * Real.sqrt ((kappaSq D (wnFlat D N h) : ℤ) : ℝ)) := rfl
    rw [sincT, if_neg hω, e1]
    refine Prod.ext ?_ ?_
    · simp only
    · simp only
      push_cast
      ring

/-! non-vacuity -/
example : ∃ M : List ℤ → ℝ, ∀ κ, M (negK κ) = M κ := ⟨fun _ => 1, fun _ => rfl⟩
example : (2 : ℝ) ≠ 0 ∧ (0 : ℝ) < 1 := by norm_num

end Exponax.WaveWhole
