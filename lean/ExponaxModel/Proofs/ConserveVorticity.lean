import ExponaxModel.Proofs.DFTnD
import ExponaxModel.Proofs.LerayBasic
import ExponaxModel.Proofs.AliasOffBand
import ExponaxModel.Proofs.OperatorAlgebra
/-
C09 — what the mean of the 2-D vorticity convection `−b·(u·∇)ω` rests on besides `real_inner_irfftn` (DFTnD): the two
products cancel mode by mode (`vorticity2d_mean_spectral`), and the forward pipeline at the mean mode is `mask(0) · Σ_j v_j`
(`nfft_zero_mode`).  `RoundTrip` is the Hermitian-consistency hypothesis of `vorticity2d_mean_partial`; the
mean theorems themselves are in `ConserveVorticityFull.lean`.
-/
namespace Exponax.Conserve
open Exponax Exponax.Layout Exponax.Transform Exponax.DFT Exponax.Nonlin Exponax.Alias Finset

theorem mul_im_eq_zero {a b : ℂ} (ha : a.im = 0) (hb : b.im = 0) : (a * b).im = 0 := by
  rw [Complex.mul_im, ha, hb, mul_zero, zero_mul, add_zero]

theorem nfft_zero_mode (c : Cfg ℂ) (hN : 0 < c.N) (v : Array ℂ) :
    (nfft c v).getD 0 0 = mask c 0 * ∑ j ∈ range (gridSize c), v.getD j 0 := by
  rw [nfft_getD c v 0 (modes_pos c hN), rfftnM_zero_mode c.D c.N hN v]
  rfl

/-- **Spectral core.**  At every stored mode, with `û = d₁ψ̂`, `v̂ = −d₀ψ̂`, `ω̂_x = d₀ω̂`,
    `ω̂_y = d₁ω̂` (each multiplied by the mask value `μ`) the two contributions to the Parseval
    cross sum cancel: `û·conj(ω̂_x) + v̂·conj(ω̂_y) = 0`.  Real scale `s`; ANY complex
    `ψ̂` (so any guard value of the inverse Laplacian), `ω̂`, `μ`. -/
theorem vorticity2d_mean_spectral (c : Cfg ℂ) (s : ℝ) (hs : c.s = (s : ℂ)) (h : ℕ) (μ psi w : ℂ) :
    (μ * (Nonlin.deriv c 1 h * psi)) * (starRingEnd ℂ) (μ * (Nonlin.deriv c 0 h * w))
      + (μ * (-(Nonlin.deriv c 0 h) * psi)) * (starRingEnd ℂ) (μ * (Nonlin.deriv c 1 h * w)) = 0 := by
  rw [deriv_eq_real c s hs 0 h, deriv_eq_real c s hs 1 h]
  simp only [map_mul, Complex.conj_I, Complex.conj_ofReal]
  ring

/-- Hermitian consistency of a stored spectrum `F` (given on the stored modes) w.r.t. the masked
    inverse transform: transforming the grid field `ifft(mask·F)` forward again returns `mask·F`.
    This holds exactly when `mask·F` is the half spectrum of a real field (see
    `roundTrip_of_real_field`); it can only fail on the self-conjugate columns (last-axis DC /
    Nyquist), where the c2r transform discards the non-Hermitian part. -/
def RoundTrip (c : Cfg ℂ) (F : ℕ → ℂ) : Prop :=
  ∀ h, h < modes c → (rfftnM c.D c.N (nifft c (tab (modes c) F))).getD h 0 = mask c h * F h

theorem roundTrip_of_real_field (c : Cfg ℂ) (hD : 0 < c.D) (hN : 0 < c.N) (F : ℕ → ℂ) (U : Array ℂ)
    (hsz : U.size = c.N ^ c.D) (hU : ∀ (j : ℕ) (hj : j < U.size), (U[j]).im = 0)
    (hF : ∀ h, h < modes c → (rfftnM c.D c.N U).getD h 0 = mask c h * F h) : RoundTrip c F := by
  intro h hh
  have e : nifft c (tab (modes c) F) = U := by
    unfold nifft
    have : (tab (modes c) fun h => mask c h * (tab (modes c) F).getD h 0) = rfftnM c.D c.N U := by
      apply Array.ext
      · simp [modes]
      · intro i h1 h2
        have hi : i < modes c := by simpa using h1
        have := hF i hi
        rw [DFT.tab_getElem, DFT.tab_getD _ _ _ _ hi, ← this]
        simp [Array.getD, show i < numModes c.D c.N from hi]
    rw [this]
    exact irfftn_rfftn_array c.D c.N hD hN U hsz hU
  rw [e, hF h hh]

end Exponax.Conserve
