import ExponaxModel.Proofs.NonlinFunsBasic
import ExponaxModel.Proofs.SpectralLayoutEq
import ExponaxModel.Generated.SpectralOps
/-
The arrays regenerated in `Generated/SpectralLayout.lean` (derivative operator, scaled wavenumbers, wavenumbers,
scaling arrays, oddball mask), read at a flat stored mode by the accessors of `Generated/SpectralOps.lean`, are the
model's `Nonlin.deriv`, `Layout.wnFlat`, `Layout.scaling`, `Layout.oddball` at `K := ℂ`; congruence of the raw transforms.
-/
namespace Exponax.SpectralOpsEq
open Exponax Exponax.Layout Exponax.Transform Exponax.Nonlin Exponax.Gen.SpectralOps Exponax.NonlinFunsEq

/-- the configuration of the model for `D` dimensions, `N` points and domain extent `L`: `s = 2π/L`, no mask -/
noncomputable def cfg (D N : ℕ) (L : ℂ) : Cfg ℂ := ⟨D, N, lit 2 * HasPi.pi / L, 0, 0⟩

@[simp] theorem cfg_D (D N : ℕ) (L : ℂ) : (cfg D N L).D = D := rfl
@[simp] theorem cfg_N (D N : ℕ) (L : ℂ) : (cfg D N L).N = N := rfl
@[simp] theorem cfg_fq (D N : ℕ) (L : ℂ) : (cfg D N L).fq = 0 := rfl
theorem cfg_s (D N : ℕ) (L : ℂ) : (cfg D N L).s = 2 * (Real.pi : ℂ) / L := by simp [cfg]
theorem cfg_s_real (D N : ℕ) (L : ℝ) : (cfg D N (L : ℂ)).s = ((2 * Real.pi / L : ℝ) : ℂ) := by
  rw [cfg_s]; push_cast; rfl
@[simp] theorem modes_cfg (D N : ℕ) (L : ℂ) : modes (cfg D N L) = numModes D N := rfl
@[simp] theorem gridSize_cfg (D N : ℕ) (L : ℂ) : gridSize (cfg D N L) = N ^ D := rfl

theorem derivative_operator_entry_eq (D N : ℕ) (hD : 1 ≤ D) (hN : 0 < N) (L : ℂ) (d h : ℕ) (hd : d < D) :
    derivative_operator_entry D L N "ij" d h = Nonlin.deriv (cfg D N L) d h := by
  unfold derivative_operator_entry modeIndex
  have := build_derivative_operator_deriv (cfg D N L) L rfl hD hN h d hd
  simp only [cfg_D, cfg_N] at this
  rw [List.getD_eq_getElem?_getD, this]
  rfl

theorem map_derivative_operator_entry (D N : ℕ) (hD : 1 ≤ D) (hN : 0 < N) (L : ℂ) (h : ℕ) :
    List.map (fun k => derivative_operator_entry D L N "ij" k h) (List.range D)
      = List.map (fun k => Nonlin.deriv (cfg D N L) k h) (List.range D) := by
  apply List.map_congr_left
  intro k hk
  exact derivative_operator_entry_eq D N hD hN L k h (List.mem_range.mp hk)

theorem laplace_op_entry (D N : ℕ) (hD : 1 ≤ D) (hN : 0 < N) (L : ℂ) (order h : ℕ) :
    Gen.Steppers.laplace_op (List.map (fun k => derivative_operator_entry D L N "ij" k h) (List.range D)) order
      = laplace (cfg D N L) order h := by
  rw [map_derivative_operator_entry D N hD hN]
  exact laplace_op_deriv (cfg D N L) order h

theorem sumList_map_range (n : ℕ) (f : ℕ → ℂ) : sumList (List.map f (List.range n)) = sumRange n f := rfl

theorem isZero_iff (z : ℂ) : HasIsZero.isZero z = true ↔ z = 0 := by
  simp only [HasIsZero.isZero, decide_eq_true_eq]

theorem wavenumbers_entry_eq (D N : ℕ) (hD : 1 ≤ D) (hN : 0 < N) (d h : ℕ) :
    wavenumbers_entry D N "ij" d h = (wnFlat D N h).getD d 0 := by
  unfold wavenumbers_entry modeIndex
  rw [build_wavenumbers_ij D N hD hN]
  rfl

theorem scaled_wavenumbers_entry_eq (D N : ℕ) (hD : 1 ≤ D) (hN : 0 < N) (L : ℂ) (d h : ℕ) (hd : d < D) :
    scaled_wavenumbers_entry D L N "ij" d h = (2 * (Real.pi : ℂ) / L) * (((wnFlat D N h).getD d 0 : ℤ) : ℂ) := by
  unfold scaled_wavenumbers_entry modeIndex
  rw [build_scaled_wavenumbers_ij D N L hD hN]
  have hl : d < (wnVec D N (unflatten (wavenumberShape D N) h)).length := by rw [wnVec_length]; exact hd
  rw [List.getD_eq_getElem?_getD, List.getElem?_map, List.getElem?_eq_getElem hl]
  simp only [Option.map_some, Option.getD_some, wnFlat]
  rw [List.getD_eq_getElem?_getD, List.getElem?_eq_getElem hl]
  simp

theorem ofRat_eq (q : ℚ) : (ofRat q : ℂ) = (q : ℂ) := by
  unfold ofRat
  rw [Rat.cast_def]

theorem scaling_array_entry_of_some (D N : ℕ) (m : String) (code h : ℕ)
    (hb : Gen.SpectralLayout.build_scaling_array D N m "ij" (unflatten (wavenumberShape D N) h)
      = some (scaling D N code (unflatten (wavenumberShape D N) h) : ℚ)) :
    (scaling_array_entry D N m "ij" h : ℂ) = scaling D N code (unflatten (wavenumberShape D N) h) := by
  unfold scaling_array_entry scaling_array_entry? modeIndex
  rw [hb, Option.map_some, Option.getD_some, ofRat_eq, scaling_cast]

theorem scaling_nc (D N : ℕ) (hD : 1 ≤ D) (hN : 0 < N) (h : ℕ) :
    (scaling_array_entry D N "norm_compensation" "ij" h : ℂ) = scaling D N 0 (unflatten (wavenumberShape D N) h) :=
  scaling_array_entry_of_some D N _ 0 h (build_scaling_array_norm_compensation D N hD hN _)

theorem scaling_rc (D N : ℕ) (hD : 1 ≤ D) (hN : 0 < N) (h : ℕ) :
    (scaling_array_entry D N "reconstruction" "ij" h : ℂ) = scaling D N 1 (unflatten (wavenumberShape D N) h) :=
  scaling_array_entry_of_some D N _ 1 h (build_scaling_array_reconstruction D N hD hN _)

theorem oddball_mask_entry_eq (D N : ℕ) (hD : 1 ≤ D) (hN : 0 < N) (h : ℕ) :
    oddball_mask_entry D N h = oddball N (wnFlat D N h) := by
  unfold oddball_mask_entry modeIndex
  exact oddball_filter_mask_flat D N hD hN h

/-- the integer wavenumber vector of the stored mode `h`, as the generated code assembles it -/
theorem map_wavenumbers_entry (D N : ℕ) (hD : 1 ≤ D) (hN : 0 < N) (h : ℕ) :
    List.map (fun k => wavenumbers_entry D N "ij" k h) (List.range D) = wnFlat D N h := by
  simp only [wavenumbers_entry_eq D N hD hN]
  apply List.ext_getElem
  · simp [wnFlat, wnVec_length]
  · intro i h1 h2
    have hi : i < D := by simpa using h1
    simp [List.getD_eq_getElem?_getD, h2]

theorem wavenumbers_1d_entry_eq (N : ℕ) (hN : 0 < N) (i : ℕ) : wavenumbers_1d_entry N "ij" i = (i : ℤ) := by
  unfold wavenumbers_1d_entry
  rw [build_wavenumbers_ij 1 N le_rfl hN]
  simp [wnVec, wn, rfftfreq]

theorem wavenumbers_1d_row_eq (N : ℕ) (hN : 0 < N) :
    wavenumbers_1d_row N "ij" = (List.range (N / 2 + 1)).map (fun (i : ℕ) => (i : ℤ)) := by
  unfold wavenumbers_1d_row
  rw [build_wavenumbers_shape_ij 1 N le_rfl hN]
  simp only [wavenumberShape]
  apply List.map_congr_left
  intro i _
  exact wavenumbers_1d_entry_eq N hN i

theorem lax_scan_unit {X Y : Type} (g : X → Y) (xs : List X) :
    (lax_scan (fun (_ : Unit) x => ((), g x)) () xs).2 = xs.map g := by
  induction xs with
  | nil => rfl
  | cons x xs ih => simp [lax_scan, ih]

theorem l2norm_ge_iff_sqrt (ks : List ℤ) (c : ℚ) :
    l2norm_ge ks c = true ↔ (c : ℝ) ≤ Real.sqrt ((normSq ks : ℤ) : ℝ) := by
  have hs : (ks.map (fun k => k * k)).foldl (· + ·) 0 = normSq ks := rfl
  have hn : (0 : ℝ) ≤ ((normSq ks : ℤ) : ℝ) := Int.cast_nonneg (normSq_nonneg ks)
  unfold l2norm_ge
  rw [hs, Bool.or_eq_true, decide_eq_true_eq, decide_eq_true_eq]
  rcases le_or_gt c 0 with hc | hc
  · exact iff_of_true (Or.inl hc) ((Rat.cast_nonpos.2 hc).trans (Real.sqrt_nonneg _))
  · rw [Real.le_sqrt' (Rat.cast_pos.2 hc), sq, or_iff_right (not_le.2 hc)]
    exact_mod_cast Iff.rfl

theorem l2norm_lt_eq_not_ge (ks : List ℤ) (c : ℚ) : l2norm_lt ks c = !l2norm_ge ks c := by
  simp only [l2norm_lt, l2norm_ge, Bool.not_or, ← not_le, decide_not]

theorem l2norm_lt_iff_sqrt (ks : List ℤ) (c : ℚ) :
    l2norm_lt ks c = true ↔ Real.sqrt ((normSq ks : ℤ) : ℝ) < (c : ℝ) := by
  rw [l2norm_lt_eq_not_ge, Bool.not_eq_true', ← not_le, ← l2norm_ge_iff_sqrt, Bool.not_eq_true]

/-- **the bin mask of `get_spectrum` (`k − dk/2 ≤ ‖κ‖ < k + dk/2` with `k = b`, `dk = 1`) is the model's `inBin`** -/
theorem bin_mask_eq (ks : List ℤ) (b : ℕ) :
    (l2norm_ge ks (((b : ℤ) : ℚ) - (((1 : ℤ) : ℚ) / (((2 : ℕ) : ℤ) : ℚ)))
      && l2norm_lt ks (((b : ℤ) : ℚ) + (((1 : ℤ) : ℚ) / (((2 : ℕ) : ℤ) : ℚ)))) = inBin ks b := by
  rw [Bool.eq_iff_iff, Bool.and_eq_true, l2norm_ge_iff_sqrt, l2norm_lt_iff_sqrt, inBin_iff_real]
  push_cast
  rfl

theorem irfft_rows (D N A : ℕ) (f : ℕ → ℕ → ℂ) :
    tabC A (fun p => irfftnM D N (tab (numModes D N) (fun h => at2 (tab2 A (numModes D N) f) p h)))
      = tabC A (fun p => irfftnM D N (tab (numModes D N) (f p))) :=
  readsBelow_rows (irfftnM_congr D N) A f

theorem rfft_rows (D N A : ℕ) (f : ℕ → ℕ → ℂ) :
    tabC A (fun p => rfftnM D N (tab (N ^ D) (fun x => at2 (tab2 A (N ^ D) f) p x)))
      = tabC A (fun p => rfftnM D N (tab (N ^ D) (f p))) :=
  readsBelow_rows (rfftnM_congr D N) A f

/-- the spectra of the channels, as the generated code computes them -/
theorem rfft_channels (D N C : ℕ) (u : MC ℂ) :
    tabC C (fun i0 => rfftnM D N (tab (N ^ D) (fun x => at2 u i0 x))) = tabC C (fun ch => rfftnM D N (u.getD ch #[])) :=
  readsBelow_channels (rfftnM_congr D N) C u

theorem irfft_channels (D N C : ℕ) (u : MC ℂ) :
    tabC C (fun i0 => irfftnM D N (tab (numModes D N) (fun x => at2 u i0 x))) = tabC C (fun ch => irfftnM D N (u.getD ch #[])) :=
  readsBelow_channels (irfftnM_congr D N) C u

end Exponax.SpectralOpsEq
