import ExponaxModel.Proofs.AliasND
/-
C03 in general dimension: truncation of DIFFERENTIATED / MULTIPLIED spectra.

The non-conservative convection, the gradient norm and the vorticity term feed `nifft` with stored
spectra `σ_h · x̂_h`, `σ_h = (i s k_d(h))^n`, `(i s k_1(h))·Δ̂⁻¹_h`, …, which are Hermitian-consistent on
the RETAINED band but are not the transform of a real grid field; `dftV_nifft_mult` is
`dftV_nifft_of_hermitian` in this multiplier form.  The scale `c.s = (s : ℝ)` is real (`s = 2π/L`), as
everywhere in the library: for a non-real `s` `dftV_nifft_deriv_pow` fails (remark there).
-/
namespace Exponax.AliasND
open Exponax Exponax.Layout Exponax.Transform Exponax.DFT Exponax.Nonlin Exponax.Alias Finset

theorem dftV_nifft_mult (c : Cfg ℂ) (hD : 0 < c.D) (hq : c.fq ≠ 0) (hN : 0 < c.N)
    (h2 : 2 * Kc c < (c.N : ℤ)) (x : Array ℂ) (hx : IsRealND c.D c.N x)
    (μ : (Fin c.D → ℤ) → ℂ) (hμ : ∀ k, (starRingEnd ℂ) (μ k) = μ (-k))
    (σ : ℕ → ℂ)
    (hσ : ∀ h, h < numModes c.D c.N → (∀ d, |kvec c.D c.N h d| ≤ Kc c) → σ h = μ (kvec c.D c.N h))
    (m : Fin c.D → ℤ) (hm : ∀ d, |m d| ≤ Kc c) :
    dftV c.D c.N (nifft c (tab (modes c) fun h => σ h * (rfftnM c.D c.N x).getD h 0)) m
      = μ m * dftV c.D c.N x m := by
  refine dftV_nifft_of_hermitian c hD hq hN h2 _ (fun k => μ k * dftV c.D c.N x k) ?_ m hm
  intro h hh hk
  have hM : h < modes c := hh
  rw [DFT.tab_getD _ _ _ _ hM, rfftn_eq_dftV c.D c.N hN x h hh, hσ h hh hk]
  refine ⟨rfl, ?_⟩
  rw [map_mul, hμ, conj_dftV c.D c.N x hx]

theorem truncV_dftV_nifft_mult (c : Cfg ℂ) (hD : 0 < c.D) (hq : c.fq ≠ 0) (hN : 0 < c.N)
    (h2 : 2 * Kc c < (c.N : ℤ)) (x : Array ℂ) (hx : IsRealND c.D c.N x)
    (μ : (Fin c.D → ℤ) → ℂ) (hμ : ∀ k, (starRingEnd ℂ) (μ k) = μ (-k))
    (σ : ℕ → ℂ)
    (hσ : ∀ h, h < numModes c.D c.N → (∀ d, |kvec c.D c.N h d| ≤ Kc c) → σ h = μ (kvec c.D c.N h))
    (m : Fin c.D → ℤ) :
    truncV (Kc c)
        (dftV c.D c.N (nifft c (tab (modes c) fun h => σ h * (rfftnM c.D c.N x).getD h 0))) m
      = truncV (Kc c) (fun p => μ p * dftV c.D c.N x p) m :=
  truncV_congr _ (dftV_nifft_mult c hD hq hN h2 x hx μ hμ σ hσ) m

def comp {D : ℕ} (p : Fin D → ℤ) (d : ℕ) : ℤ := if hd : d < D then p ⟨d, hd⟩ else 0

theorem comp_of_lt {D : ℕ} (p : Fin D → ℤ) (d : ℕ) (hd : d < D) : comp p d = p ⟨d, hd⟩ := dif_pos hd

theorem comp_neg {D : ℕ} (p : Fin D → ℤ) (d : ℕ) : comp (-p) d = -comp p d := by
  unfold comp
  split_ifs <;> simp

theorem comp_sub {D : ℕ} (p q : Fin D → ℤ) (d : ℕ) : comp (p - q) d = comp p d - comp q d := by
  unfold comp
  split_ifs <;> simp

noncomputable def dsym (c : Cfg ℂ) (d : ℕ) (p : Fin c.D → ℤ) : ℂ :=
  Complex.I * (c.s * ((comp p d : ℤ) : ℂ))

theorem dsym_fin (c : Cfg ℂ) (d : Fin c.D) (p : Fin c.D → ℤ) :
    dsym c (d : ℕ) p = Complex.I * (c.s * ((p d : ℤ) : ℂ)) := by
  unfold dsym
  rw [comp_of_lt p d d.2]

theorem deriv_eq_dsym (c : Cfg ℂ) (d : ℕ) (hd : d < c.D) (h : ℕ) :
    Nonlin.deriv c d h = dsym c d (kvec c.D c.N h) := by
  unfold dsym
  rw [comp_of_lt _ d hd]
  rfl

theorem dsym_neg (c : Cfg ℂ) (d : ℕ) (p : Fin c.D → ℤ) : dsym c d (-p) = -dsym c d p := by
  unfold dsym
  rw [comp_neg]
  push_cast
  ring

theorem conj_dsym (c : Cfg ℂ) (s : ℝ) (hs : c.s = (s : ℂ)) (d : ℕ) (p : Fin c.D → ℤ) :
    (starRingEnd ℂ) (dsym c d p) = dsym c d (-p) := by
  rw [dsym_neg]
  unfold dsym
  rw [hs, map_mul, map_mul, Complex.conj_I, Complex.conj_ofReal, ← Complex.ofReal_intCast,
    Complex.conj_ofReal]
  ring

/-- the stored multiplier `σ` is the lattice multiplier `μ` on the retained stored modes, and `μ` is
    Hermitian: the condition under which `ifft(mask·σ·x̂)` has box spectrum `μ·X` -/
structure HermMult (c : Cfg ℂ) (σ : ℕ → ℂ) (μ : (Fin c.D → ℤ) → ℂ) : Prop where
  conj : ∀ k, (starRingEnd ℂ) (μ k) = μ (-k)
  stored : ∀ h, h < numModes c.D c.N → (∀ d, |kvec c.D c.N h d| ≤ Kc c) → σ h = μ (kvec c.D c.N h)

theorem HermMult.mul {c : Cfg ℂ} {σ τ : ℕ → ℂ} {μ ν : (Fin c.D → ℤ) → ℂ} (h1 : HermMult c σ μ)
    (h2 : HermMult c τ ν) : HermMult c (fun h => σ h * τ h) (fun p => μ p * ν p) :=
  ⟨fun k => by rw [map_mul, h1.conj, h2.conj], fun h hh hk => by rw [h1.stored h hh hk, h2.stored h hh hk]⟩

theorem HermMult.neg {c : Cfg ℂ} {σ : ℕ → ℂ} {μ : (Fin c.D → ℤ) → ℂ} (h1 : HermMult c σ μ) :
    HermMult c (fun h => -σ h) (fun p => -μ p) :=
  ⟨fun k => by rw [map_neg, h1.conj], fun h hh hk => by rw [h1.stored h hh hk]⟩

theorem HermMult.pow {c : Cfg ℂ} {σ : ℕ → ℂ} {μ : (Fin c.D → ℤ) → ℂ} (h1 : HermMult c σ μ) (n : ℕ) :
    HermMult c (fun h => σ h ^ n) (fun p => μ p ^ n) :=
  ⟨fun k => by rw [map_pow, h1.conj], fun h hh hk => by rw [h1.stored h hh hk]⟩

theorem hermMult_deriv (c : Cfg ℂ) (s : ℝ) (hs : c.s = (s : ℂ)) (d : ℕ) (hd : d < c.D) :
    HermMult c (Nonlin.deriv c d) (dsym c d) :=
  ⟨conj_dsym c s hs d, fun h _ _ => deriv_eq_dsym c d hd h⟩

noncomputable def mfield (c : Cfg ℂ) (σ : ℕ → ℂ) (uh : Array ℂ) : Array ℂ :=
  nifft c (tab (modes c) fun k => σ k * uh.getD k 0)

theorem boxSpec_mfield (c : Cfg ℂ) (hD : 0 < c.D) (hq : c.fq ≠ 0) (hN : 0 < c.N)
    (h2 : 2 * Kc c < (c.N : ℤ)) {σ : ℕ → ℂ} {μ : (Fin c.D → ℤ) → ℂ} (hσ : HermMult c σ μ)
    (x : Array ℂ) (hx : IsRealND c.D c.N x) :
    BoxSpec c (mfield c σ (rfftnM c.D c.N x)) fun p => μ p * dftV c.D c.N x p :=
  ⟨nifft_bandLimitedV c hq hN _, dftV_nifft_mult c hD hq hN h2 x hx μ hσ.conj σ hσ.stored⟩

/-- the field `ifft(mask·(i s k_d)^n·x̂)` is `∂_d^n P_K x`.

    Remark (why `s` real — the statement is FALSE for a non-real `c.s`).  Counterexample: `D = 1`,
    `N = 4`, `fp = fq = 1` (`Kc = 1`, `2·Kc < N`), `s = i`, `n = 1`, `x = (1, 0, −1, 0)`
    (`= cos(2πj/4)`), so `X(1) = X(−1) = 2`.  The stored entry at `k = 1` is `(i·i·1)·X(1) = −2`; the
    c2r transform completes it by its conjugate at `k = −1`, so the spectrum of the output field at
    `m = −1` is `−2`, whereas `(i s m)·X(m)` at `m = −1` is `(i·i·(−1))·2 = +2`.
    `s = 2π/L` is real in the library. -/
theorem dftV_nifft_deriv_pow (c : Cfg ℂ) (hD : 0 < c.D) (hq : c.fq ≠ 0) (hN : 0 < c.N)
    (h2 : 2 * Kc c < (c.N : ℤ)) (s : ℝ) (hs : c.s = (s : ℂ)) (x : Array ℂ) (hx : IsRealND c.D c.N x)
    (d : ℕ) (hd : d < c.D) (n : ℕ) (m : Fin c.D → ℤ) (hm : ∀ d, |m d| ≤ Kc c) :
    dftV c.D c.N (nifft c (tab (modes c) fun h => Nonlin.deriv c d h ^ n * (rfftnM c.D c.N x).getD h 0)) m
      = (Complex.I * (c.s * ((m ⟨d, hd⟩ : ℤ) : ℂ))) ^ n * dftV c.D c.N x m := by
  refine ((boxSpec_mfield c hD hq hN h2 ((hermMult_deriv c s hs d hd).pow n) x hx).2 m hm).trans ?_
  show dsym c d m ^ n * _ = _
  unfold dsym
  rw [comp_of_lt _ d hd]

/-- needs neither `x` real nor `s` real -/
theorem nifft_deriv_pow_bandLimitedV (c : Cfg ℂ) (hq : c.fq ≠ 0) (hN : 0 < c.N) (xh : Array ℂ)
    (d n : ℕ) :
    BandLimitedV c.D c.N (Kc c) (nifft c (tab (modes c) fun h => deriv c d h ^ n * xh.getD h 0)) :=
  nifft_bandLimitedV c hq hN _

theorem nifft_deriv_pow_isRealND (c : Cfg ℂ) (hN : 0 < c.N) (xh : Array ℂ) (d n : ℕ) :
    IsRealND c.D c.N (nifft c (tab (modes c) fun h => deriv c d h ^ n * xh.getD h 0)) :=
  nifft_isRealND c _

theorem nifft_deriv_pow_spec (c : Cfg ℂ) (hD : 0 < c.D) (hq : c.fq ≠ 0) (hN : 0 < c.N)
    (h2 : 2 * Kc c < (c.N : ℤ)) (s : ℝ) (hs : c.s = (s : ℂ)) (x : Array ℂ) (hx : IsRealND c.D c.N x)
    (d : ℕ) (hd : d < c.D) (n : ℕ) :
    let w := nifft c (tab (modes c) fun h => deriv c d h ^ n * (rfftnM c.D c.N x).getD h 0)
    (∀ m : Fin c.D → ℤ, (∀ d, |m d| ≤ Kc c) →
        dftV c.D c.N w m = (Complex.I * (c.s * ((m ⟨d, hd⟩ : ℤ) : ℂ))) ^ n * dftV c.D c.N x m)
      ∧ BandLimitedV c.D c.N (Kc c) w ∧ IsRealND c.D c.N w :=
  ⟨fun m hm => dftV_nifft_deriv_pow c hD hq hN h2 s hs x hx d hd n m hm,
    nifft_bandLimitedV c hq hN _, nifft_isRealND c _⟩

/-- `dftV_nifft_deriv_pow` for the model's power function `npow` (as in `derivativeM`) -/
theorem dftV_nifft_deriv_npow (c : Cfg ℂ) (hD : 0 < c.D) (hq : c.fq ≠ 0) (hN : 0 < c.N)
    (h2 : 2 * Kc c < (c.N : ℤ)) (s : ℝ) (hs : c.s = (s : ℂ)) (x : Array ℂ) (hx : IsRealND c.D c.N x)
    (d : ℕ) (hd : d < c.D) (n : ℕ) (m : Fin c.D → ℤ) (hm : ∀ d, |m d| ≤ Kc c) :
    dftV c.D c.N (nifft c (tab (modes c) fun h =>
        npow (deriv c d h) n * (rfftnM c.D c.N x).getD h 0)) m
      = (Complex.I * (c.s * ((m ⟨d, hd⟩ : ℤ) : ℂ))) ^ n * dftV c.D c.N x m := by
  simp only [npow_eq]
  exact dftV_nifft_deriv_pow c hD hq hN h2 s hs x hx d hd n m hm

theorem sum_mul_band (D N : ℕ) (hN : 0 < N) (K : ℤ) (hK : 2 * K < (N : ℤ)) (y g : Array ℂ)
    (hy : BandLimitedV D N K y) :
    ∑ j ∈ range (N ^ D), y.getD j 0 * g.getD j 0
      = (1 / ((N ^ D : ℕ) : ℂ)) * ∑ m ∈ box D K, dftV D N y m * dftV D N g (-m) := by
  rw [← dftV_zero_eq_sum D N (fun j => y.getD j 0 * g.getD j 0), dftV_mul_band D N hN K hK y g hy]
  simp only [zero_sub]

end Exponax.AliasND
