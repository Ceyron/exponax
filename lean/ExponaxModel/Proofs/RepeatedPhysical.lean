import ExponaxModel.Proofs.C2RHermitian
import ExponaxModel.Proofs.LoopsLemmas
/-
C14 — the physical-space loop `(irfftn ∘ F ∘ rfftn)^[n]` (`n` calls of `BaseStepper.__call__`) against Fourier-space
sub-stepping `irfftn ∘ F^[n] ∘ rfftn` (`RepeatedStepper.__call__`).  `rfftn ∘ irfftn` is the identity exactly on the
`Realisable` spectra (Hermitian-consistent on the self-conjugate columns), and spectra of real states are realisable; so
the two agree for every `F` that preserves `Realisable ∧ P`, `P` an invariant holding for the initial spectrum
(`repeatedStepper_eq_loop_of_invariant`; `P = True` is `repeatedStepper_eq_loop`).  General `D ≥ 1`, `N ≥ 1`.
`HermSpec` is the condition of `Realisable` on a spectrum given as a function of the stored index (`realisable_tab_iff`);
that a step preserves `Realisable` is shown there (`HermSpec.add`, `.sub`, …; `.mul_symbol` in `RepeatedPhysicalDiag.lean`) and
carried back.
-/
namespace Exponax.C2R
open Exponax Exponax.Layout Exponax.Transform Exponax.DFT Exponax.Conserve Finset

/-- a stored half spectrum of the right size that is Hermitian-consistent on the self-conjugate
    columns (`herm_weight = 1`: last-axis wavenumber `0`, and Nyquist for even `N`) -/
def Realisable (D N : ℕ) (C : Array ℂ) : Prop :=
  C.size = numModes D N ∧
    ∀ h < numModes D N, herm_weight D N h = 1 →
      C.getD h 0 = (starRingEnd ℂ) (C.getD (conjIdx D N h) 0)

def RealState (D N : ℕ) (u : Array ℂ) : Prop :=
  u.size = N ^ D ∧ ∀ j < N ^ D, (u.getD j 0).im = 0

export Exponax.DFT (array_ext_getD)

/-- the entrywise core of `Realisable`: Hermitian consistency on the self-conjugate columns, for a
    spectrum given as a function of the stored index -/
def HermSpec (D N : ℕ) (f : ℕ → ℂ) : Prop :=
  ∀ h < numModes D N, herm_weight D N h = 1 → f h = (starRingEnd ℂ) (f (conjIdx D N h))

def toFun (C : Array ℂ) : ℕ → ℂ := fun h => C.getD h 0

theorem toFun_apply (C : Array ℂ) (h : ℕ) : toFun C h = C.getD h 0 := rfl

theorem realisable_tab_iff (D N : ℕ) (hD : 0 < D) (hN : 0 < N) (f : ℕ → ℂ) :
    Realisable D N (tab (numModes D N) f) ↔ HermSpec D N f := by
  constructor
  · intro H h hh hw
    have := H.2 h hh hw
    rwa [tab_getD _ _ _ _ hh, tab_getD _ _ _ _ (conjIdx_lt D N h hD hN)] at this
  · intro H
    refine ⟨tab_size _ _, ?_⟩
    intro h hh hw
    rw [tab_getD _ _ _ _ hh, tab_getD _ _ _ _ (conjIdx_lt D N h hD hN)]
    exact H h hh hw

theorem Realisable.hermSpec {D N : ℕ} {C : Array ℂ} (hC : Realisable D N C) : HermSpec D N (toFun C) :=
  hC.2

theorem tab_toFun (D N : ℕ) (C : Array ℂ) (hC : C.size = numModes D N) :
    tab (numModes D N) (toFun C) = C :=
  array_ext_getD _ _ (numModes D N) (tab_size _ _) hC (fun _ hi => tab_getD _ _ _ _ hi)

theorem toFun_tab (n : ℕ) (f : ℕ → ℂ) (h : ℕ) (hh : h < n) : toFun (tab n f) h = f h :=
  tab_getD _ _ _ _ hh

theorem realisable_iff_hermSpec (D N : ℕ) (C : Array ℂ) :
    Realisable D N C ↔ C.size = numModes D N ∧ HermSpec D N (toFun C) := Iff.rfl

theorem HermSpec.add {D N : ℕ} {f g : ℕ → ℂ} (hf : HermSpec D N f) (hg : HermSpec D N g) :
    HermSpec D N (f + g) := by
  intro h hh hw
  rw [Pi.add_apply, Pi.add_apply, map_add, ← hf h hh hw, ← hg h hh hw]

theorem HermSpec.sub {D N : ℕ} {f g : ℕ → ℂ} (hf : HermSpec D N f) (hg : HermSpec D N g) :
    HermSpec D N (f - g) := by
  intro h hh hw
  rw [Pi.sub_apply, Pi.sub_apply, map_sub, ← hf h hh hw, ← hg h hh hw]

theorem HermSpec.neg {D N : ℕ} {f : ℕ → ℂ} (hf : HermSpec D N f) : HermSpec D N (-f) := by
  intro h hh hw
  rw [Pi.neg_apply, Pi.neg_apply, map_neg, ← hf h hh hw]

theorem HermSpec.real_smul {D N : ℕ} {f : ℕ → ℂ} (r : ℝ) (hf : HermSpec D N f) :
    HermSpec D N (fun h => (r : ℂ) * f h) := by
  intro h hh hw
  show (r : ℂ) * f h = (starRingEnd ℂ) ((r : ℂ) * f (conjIdx D N h))
  rw [map_mul, Complex.conj_ofReal, ← hf h hh hw]

theorem HermSpec.zero (D N : ℕ) : HermSpec D N 0 := by
  intro h hh hw
  simp

theorem irfftn_realState (D N : ℕ) (C : Array ℂ) : RealState D N (irfftnM D N C) :=
  ⟨irfftnM_size D N C, fun j _ => irfftnM_im D N C j⟩

theorem rfftn_irfftn_of_realisable (D N : ℕ) (hD : 0 < D) (hN : 0 < N) (C : Array ℂ)
    (hC : Realisable D N C) : rfftnM D N (irfftnM D N C) = C := by
  apply array_ext_getD _ _ (numModes D N) (rfftnM_size D N _) hC.1
  exact (c2r_fixed_iff_herm D N hD hN C).mpr hC.2

theorem realisable_iff_fixed (D N : ℕ) (hD : 0 < D) (hN : 0 < N) (C : Array ℂ) :
    Realisable D N C ↔ rfftnM D N (irfftnM D N C) = C := by
  constructor
  · exact rfftn_irfftn_of_realisable D N hD hN C
  · intro hfix
    refine ⟨by rw [← hfix]; exact rfftnM_size D N _, ?_⟩
    apply (c2r_fixed_iff_herm D N hD hN C).mp
    intro h hh
    rw [hfix]

/-- no hypothesis on the size of `u`: `rfftnM` reads `u` through `getD` -/
theorem rfftn_realisable' (D N : ℕ) (hD : 0 < D) (hN : 0 < N) (u : Array ℂ)
    (hu : ∀ j < N ^ D, (u.getD j 0).im = 0) : Realisable D N (rfftnM D N u) := by
  refine ⟨rfftnM_size D N u, ?_⟩
  intro h hh hw
  rw [rfftn_conjIdx_of_real D N hD hN u hu h hh hw, Complex.conj_conj]

theorem rfftn_realisable (D N : ℕ) (hD : 0 < D) (hN : 0 < N) (u : Array ℂ)
    (hu : RealState D N u) : Realisable D N (rfftnM D N u) :=
  rfftn_realisable' D N hD hN u hu.2

theorem realisable_iff_spectrum (D N : ℕ) (hD : 0 < D) (hN : 0 < N) (C : Array ℂ) :
    Realisable D N C ↔ ∃ u, RealState D N u ∧ C = rfftnM D N u := by
  constructor
  · intro hC
    exact ⟨irfftnM D N C, irfftn_realState D N C, (rfftn_irfftn_of_realisable D N hD hN C hC).symm⟩
  · rintro ⟨u, hu, rfl⟩
    exact rfftn_realisable D N hD hN u hu

theorem irfftn_rfftn_of_realState (D N : ℕ) (hD : 0 < D) (hN : 0 < N) (u : Array ℂ)
    (hu : RealState D N u) : irfftnM D N (rfftnM D N u) = u := by
  apply array_ext_getD _ _ (N ^ D) (irfftnM_size D N _) hu.1
  exact fun j hj => irfftn_rfftn D N hD hN u hu.2 j hj

/-- one call of a stepper in physical space: `BaseStepper.__call__ = ifft ∘ step_fourier ∘ fft` -/
noncomputable def physStep (D N : ℕ) (F : Array ℂ → Array ℂ) (v : Array ℂ) : Array ℂ :=
  irfftnM D N (F (rfftnM D N v))

theorem physStep_eq (D N : ℕ) (F : Array ℂ → Array ℂ) :
    physStep D N F = fun v => irfftnM D N (F (rfftnM D N v)) := rfl

theorem iterate_preserves_invariant (D N : ℕ) (F : Array ℂ → Array ℂ) (P : Array ℂ → Prop)
    (hF : ∀ C, Realisable D N C → P C → Realisable D N (F C) ∧ P (F C)) (n : ℕ) (C : Array ℂ)
    (hC : Realisable D N C) (hP : P C) : Realisable D N (F^[n] C) ∧ P (F^[n] C) := by
  induction n with
  | zero => exact ⟨hC, hP⟩
  | succ n ih => rw [Function.iterate_succ_apply']; exact hF _ ih.1 ih.2

/-- the spectrum of the `n`-fold physical loop is the `n`-fold Fourier step of the spectrum, for a
    step that preserves `Realisable ∧ P`, started from a realisable spectrum with `P`: each `rfftn ∘ irfftn`
    in between acts on a realisable spectrum -/
theorem rfftn_loop_of_invariant (D N : ℕ) (hD : 0 < D) (hN : 0 < N) (F : Array ℂ → Array ℂ)
    (P : Array ℂ → Prop)
    (hF : ∀ C, Realisable D N C → P C → Realisable D N (F C) ∧ P (F C)) (u : Array ℂ)
    (hu : Realisable D N (rfftnM D N u)) (hP : P (rfftnM D N u)) (n : ℕ) :
    rfftnM D N ((fun v => irfftnM D N (F (rfftnM D N v)))^[n] u) = F^[n] (rfftnM D N u) := by
  induction n with
  | zero => rfl
  | succ n ih =>
    rw [Function.iterate_succ_apply', Function.iterate_succ_apply']
    show rfftnM D N (irfftnM D N (F (rfftnM D N _))) = _
    rw [ih]
    have hn := iterate_preserves_invariant D N F P hF n _ hu hP
    exact rfftn_irfftn_of_realisable D N hD hN _ (hF _ hn.1 hn.2).1

/-- **C14, with an invariant.**  For a Fourier step `F` that preserves `Realisable ∧ P`, every real grid
    state `u` whose spectrum has `P` and every `n`, `n` calls of the stepper in physical space equal one transform,
    `n` Fourier steps and one inverse transform (`n = 0` is the round trip and needs nothing of `F`). -/
theorem repeated_eq_loop_of_invariant (D N : ℕ) (hD : 0 < D) (hN : 0 < N)
    (F : Array ℂ → Array ℂ) (P : Array ℂ → Prop)
    (hF : ∀ C, Realisable D N C → P C → Realisable D N (F C) ∧ P (F C)) (u : Array ℂ)
    (hu : RealState D N u) (hP : P (rfftnM D N u)) (n : ℕ) :
    (fun v => irfftnM D N (F (rfftnM D N v)))^[n] u = irfftnM D N (F^[n] (rfftnM D N u)) := by
  cases n with
  | zero => exact (irfftn_rfftn_of_realState D N hD hN u hu).symm
  | succ m =>
    rw [Function.iterate_succ_apply', Function.iterate_succ_apply']
    show irfftnM D N (F (rfftnM D N _)) = _
    rw [rfftn_loop_of_invariant D N hD hN F P hF u (rfftn_realisable D N hD hN u hu) hP m]

/-- **the same about the model functions**: `repeat(stepper, n)(u)` (`Loops.repeatN` of the physical-space call)
    equals `RepeatedStepper(stepper, n)(u)` (`irfftn ∘ Loops.repeatedStepFourier F n ∘ rfftn`) -/
theorem repeatedStepper_eq_loop_of_invariant (D N : ℕ) (hD : 0 < D) (hN : 0 < N)
    (F : Array ℂ → Array ℂ) (P : Array ℂ → Prop)
    (hF : ∀ C, Realisable D N C → P C → Realisable D N (F C) ∧ P (F C)) (u : Array ℂ)
    (hu : RealState D N u) (hP : P (rfftnM D N u)) (n : ℕ) :
    Loops.repeatN (fun v => irfftnM D N (F (rfftnM D N v))) n u
      = irfftnM D N (Loops.repeatedStepFourier F n (rfftnM D N u)) := by
  rw [Loops.repeatedStepFourier, Loops.repeatN_eq_iterate, Loops.repeatN_eq_iterate]
  exact repeated_eq_loop_of_invariant D N hD hN F P hF u hu hP n

theorem loop_spectrum_invariant (D N : ℕ) (hD : 0 < D) (hN : 0 < N) (F : Array ℂ → Array ℂ)
    (P : Array ℂ → Prop)
    (hF : ∀ C, Realisable D N C → P C → Realisable D N (F C) ∧ P (F C)) (u : Array ℂ)
    (hu : RealState D N u) (hP : P (rfftnM D N u)) (n : ℕ) :
    P (rfftnM D N ((fun v => irfftnM D N (F (rfftnM D N v)))^[n] u)) := by
  rw [rfftn_loop_of_invariant D N hD hN F P hF u (rfftn_realisable D N hD hN u hu) hP n]
  exact (iterate_preserves_invariant D N F P hF n _ (rfftn_realisable D N hD hN u hu) hP).2

/-- **C14** (`P = True`): a Fourier step `F` that maps realisable spectra to realisable spectra -/
theorem repeatedStepper_eq_loop (D N : ℕ) (hD : 0 < D) (hN : 0 < N) (F : Array ℂ → Array ℂ)
    (hF : ∀ C, Realisable D N C → Realisable D N (F C)) (u : Array ℂ) (hu : RealState D N u)
    (n : ℕ) :
    Loops.repeatN (fun v => irfftnM D N (F (rfftnM D N v))) n u
      = irfftnM D N (Loops.repeatedStepFourier F n (rfftnM D N u)) :=
  repeatedStepper_eq_loop_of_invariant D N hD hN F (fun _ => True) (fun C hC _ => ⟨hF C hC, trivial⟩) u hu
    trivial n

theorem loop_realState (D N : ℕ) (hN : 0 < N) (F : Array ℂ → Array ℂ) (u : Array ℂ) (n : ℕ)
    (hn : 1 ≤ n) : RealState D N ((fun v => irfftnM D N (F (rfftnM D N v)))^[n] u) := by
  obtain ⟨m, rfl⟩ : ∃ m, n = m + 1 := ⟨n - 1, by omega⟩
  rw [Function.iterate_succ_apply']
  exact irfftn_realState D N _

theorem realisable_zero (D N : ℕ) (hD : 0 < D) (hN : 0 < N) :
    Realisable D N (tab (numModes D N) (fun _ => (0 : ℂ))) :=
  (realisable_tab_iff D N hD hN _).mpr (HermSpec.zero D N)

example : Realisable 2 4 (tab (numModes 2 4) (fun _ => (0 : ℂ))) :=
  realisable_zero 2 4 (by norm_num) (by norm_num)

/-- the saw-tooth `(1, −1)` on the 2-point grid is a real grid state … -/
theorem realState_sawtooth : RealState 1 2 #[(1 : ℂ), -1] := by
  refine ⟨rfl, ?_⟩
  intro j hj
  have : j = 0 ∨ j = 1 := by omega
  rcases this with rfl | rfl <;> simp

/-- … so its spectrum is realisable (a concrete non-zero realisable spectrum) -/
example : Realisable 1 2 (rfftnM 1 2 #[(1 : ℂ), -1]) :=
  rfftn_realisable 1 2 (by norm_num) (by norm_num) _ realState_sawtooth

/-- a constant real state on any grid -/
example (D N : ℕ) : RealState D N (tab (N ^ D) (fun _ => (1 : ℂ))) := by
  refine ⟨tab_size _ _, ?_⟩
  intro j hj
  rw [tab_getD _ _ _ _ hj]
  simp

/-- the hypothesis on `F` is satisfiable: the identity step -/
example (D N : ℕ) : ∀ C, Realisable D N C → Realisable D N (id C) := fun _ h => h

end Exponax.C2R
