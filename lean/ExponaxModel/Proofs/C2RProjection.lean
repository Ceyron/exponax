import ExponaxModel.Proofs.SymbolAlgebra
import ExponaxModel.Proofs.LoopsLemmas
import ExponaxModel.Proofs.DFTnD
/-
C11: the c2r transform `irfftnM` is an orthogonal projection followed by an isometry (`c2r_pythagoras`), hence a
contraction from the weighted half-spectrum norm to the grid 2-norm for ANY stored half spectrum, Hermitian-consistent
or not, every `D ≥ 1`, `N ≥ 1`.  So a linear step with `|E_h| ≤ 1` never amplifies a real state, nor does a rollout,
and with `|E_h| = 1` it preserves the norm exactly when `E ⊙ rfftn u` is again the half spectrum of a real field.
-/
namespace Exponax.C2R
open Exponax Exponax.Layout Exponax.Transform Exponax.DFT Exponax.Conserve Finset

theorem herm_weight_pos (D N h : ℕ) : 0 < herm_weight D N h := by
  unfold herm_weight
  simp only
  split_ifs <;> norm_num

theorem herm_weight_pos_real (D N h : ℕ) : (0 : ℝ) < (herm_weight D N h : ℝ) := by
  exact_mod_cast herm_weight_pos D N h

theorem norm_sq_of_im_zero (z : ℂ) (hz : z.im = 0) : ‖z‖ ^ 2 = z.re ^ 2 := by
  rw [Complex.sq_norm, Complex.normSq_apply, hz]
  ring

theorem sum_norm_sq_real (G : ℕ) (u : Array ℂ) (hu : ∀ j < G, (u.getD j 0).im = 0) :
    ∑ j ∈ range G, ‖u.getD j 0‖ ^ 2 = ∑ j ∈ range G, (u.getD j 0).re ^ 2 :=
  Finset.sum_congr rfl (fun j hj => norm_sq_of_im_zero _ (hu j (Finset.mem_range.mp hj)))

theorem sum_weight_norm_sq_mul (D N : ℕ) (E : ℕ → ℂ) (c : Array ℂ) :
    ∑ h ∈ range (numModes D N), (herm_weight D N h : ℝ) *
        ‖(tab (numModes D N) (fun h => E h * c.getD h 0)).getD h 0‖ ^ 2
      = ∑ h ∈ range (numModes D N), (herm_weight D N h : ℝ) * ‖E h‖ ^ 2 * ‖c.getD h 0‖ ^ 2 :=
  Finset.sum_congr rfl fun h hh => by
    rw [DFT.tab_getD _ _ _ _ (Finset.mem_range.mp hh), norm_mul, mul_pow, mul_assoc]

theorem c2r_energy_pairing (D N : ℕ) (hN : 0 < N) (c : Array ℂ) :
    ∑ j ∈ range (N ^ D), ((irfftnM D N c).getD j 0).re ^ 2
      = (1 / ((N ^ D : ℕ) : ℝ)) * ∑ h ∈ range (numModes D N), (herm_weight D N h : ℝ) *
          (c.getD h 0 * (starRingEnd ℂ) ((rfftnM D N (irfftnM D N c)).getD h 0)).re := by
  have hf : ∀ j < N ^ D, ((irfftnM D N c).getD j 0).im = 0 := fun j _ => irfftnM_im D N c j
  have h := real_inner_irfftn D N hN (irfftnM D N c) c hf
  apply Complex.ofReal_injective
  have hL : ((∑ j ∈ range (N ^ D), ((irfftnM D N c).getD j 0).re ^ 2 : ℝ) : ℂ)
      = ∑ j ∈ range (N ^ D), (irfftnM D N c).getD j 0 * (irfftnM D N c).getD j 0 := by
    rw [Complex.ofReal_sum]
    apply Finset.sum_congr rfl
    intro j hj
    have hj' := hf j (Finset.mem_range.mp hj)
    apply Complex.ext
    · rw [Complex.mul_re, hj', Complex.ofReal_re]; ring
    · rw [Complex.mul_im, hj', Complex.ofReal_im]; ring
  rw [hL, h]
  push_cast
  ring

/-- Pythagoras for the c2r transform (any `D ≥ 1`, `N ≥ 1`, ANY complex stored coefficients `c`):
    the weighted energy of `c` splits into the grid energy of `irfftn c` and the weighted energy of the
    discarded part `c − rfftn (irfftn c)`. -/
theorem c2r_pythagoras (D N : ℕ) (hD : 0 < D) (hN : 0 < N) (c : Array ℂ) :
    (1 / ((N ^ D : ℕ) : ℝ)) * ∑ h ∈ range (numModes D N), (herm_weight D N h : ℝ) * ‖c.getD h 0‖ ^ 2
      = ∑ j ∈ range (N ^ D), ((irfftnM D N c).getD j 0).re ^ 2
        + (1 / ((N ^ D : ℕ) : ℝ)) * ∑ h ∈ range (numModes D N), (herm_weight D N h : ℝ) *
            ‖c.getD h 0 - (rfftnM D N (irfftnM D N c)).getD h 0‖ ^ 2 := by
  have hf : ∀ j < N ^ D, ((irfftnM D N c).getD j 0).im = 0 := fun j _ => irfftnM_im D N c j
  have hP := parseval_nd D N hD hN (irfftnM D N c) hf
  rw [sum_norm_sq_real _ _ hf] at hP
  have hI := c2r_energy_pairing D N hN c
  have hexp : ∑ h ∈ range (numModes D N), (herm_weight D N h : ℝ) *
        ‖c.getD h 0 - (rfftnM D N (irfftnM D N c)).getD h 0‖ ^ 2
      = ∑ h ∈ range (numModes D N), (herm_weight D N h : ℝ) * ‖c.getD h 0‖ ^ 2
        + ∑ h ∈ range (numModes D N), (herm_weight D N h : ℝ) *
            ‖(rfftnM D N (irfftnM D N c)).getD h 0‖ ^ 2
        - 2 * ∑ h ∈ range (numModes D N), (herm_weight D N h : ℝ) *
            (c.getD h 0 * (starRingEnd ℂ) ((rfftnM D N (irfftnM D N c)).getD h 0)).re := by
    rw [Finset.mul_sum, ← Finset.sum_add_distrib, ← Finset.sum_sub_distrib]
    apply Finset.sum_congr rfl
    intro h _
    rw [Complex.sq_norm, Complex.sq_norm, Complex.sq_norm, Complex.normSq_sub]
    ring
  rw [hexp, mul_sub, mul_add, mul_left_comm _ 2, ← hP, ← hI]
  ring

theorem c2r_contraction (D N : ℕ) (hD : 0 < D) (hN : 0 < N) (c : Array ℂ) :
    ∑ j ∈ range (N ^ D), ((irfftnM D N c).getD j 0).re ^ 2
      ≤ (1 / ((N ^ D : ℕ) : ℝ)) * ∑ h ∈ range (numModes D N),
          (herm_weight D N h : ℝ) * ‖c.getD h 0‖ ^ 2 := by
  rw [c2r_pythagoras D N hD hN c]
  apply le_add_of_nonneg_right
  apply mul_nonneg
  · positivity
  · apply Finset.sum_nonneg
    intro h _
    exact mul_nonneg (herm_weight_pos_real D N h).le (by positivity)

theorem c2r_contraction_norm (D N : ℕ) (hD : 0 < D) (hN : 0 < N) (c : Array ℂ) :
    ∑ j ∈ range (N ^ D), ‖(irfftnM D N c).getD j 0‖ ^ 2
      ≤ (1 / ((N ^ D : ℕ) : ℝ)) * ∑ h ∈ range (numModes D N),
          (herm_weight D N h : ℝ) * ‖c.getD h 0‖ ^ 2 := by
  rw [sum_norm_sq_real _ _ (fun j _ => irfftnM_im D N c j)]
  exact c2r_contraction D N hD hN c

/-- equality in `c2r_contraction` holds exactly when `c` is a fixed point of `rfftn ∘ irfftn` on the stored modes
    (i.e. `c` is the half spectrum of a real field, see `realisable_iff_spectrum` in `RepeatedPhysical.lean`). -/
theorem c2r_isometry_iff (D N : ℕ) (hD : 0 < D) (hN : 0 < N) (c : Array ℂ) :
    ∑ j ∈ range (N ^ D), ((irfftnM D N c).getD j 0).re ^ 2
        = (1 / ((N ^ D : ℕ) : ℝ)) * ∑ h ∈ range (numModes D N),
            (herm_weight D N h : ℝ) * ‖c.getD h 0‖ ^ 2
      ↔ ∀ h < numModes D N, (rfftnM D N (irfftnM D N c)).getD h 0 = c.getD h 0 := by
  have hG : (1 / ((N ^ D : ℕ) : ℝ)) ≠ 0 :=
    one_div_ne_zero (Nat.cast_ne_zero.2 (pow_pos hN D).ne')
  have hnn : ∀ h ∈ range (numModes D N), 0 ≤ (herm_weight D N h : ℝ) *
      ‖c.getD h 0 - (rfftnM D N (irfftnM D N c)).getD h 0‖ ^ 2 :=
    fun h _ => mul_nonneg (herm_weight_pos_real D N h).le (by positivity)
  -- by Pythagoras, equality means the weighted energy of the discarded part vanishes
  rw [c2r_pythagoras D N hD hN c, left_eq_add, mul_eq_zero, or_iff_right hG,
    Finset.sum_eq_zero_iff_of_nonneg hnn]
  refine forall_congr' fun h => ?_
  rw [Finset.mem_range, mul_eq_zero, or_iff_right (herm_weight_pos_real D N h).ne',
    sq_eq_zero_iff, norm_eq_zero, sub_eq_zero, eq_comm]

/-- C11: for real `u` and per-mode factors `|E_h| ≤ 1` (only the stored modes matter),
    `‖irfftn (E ⊙ rfftn u)‖₂ ≤ ‖u‖₂`.  `E ⊙ rfftn u` need not be Hermitian-consistent. -/
theorem linear_step_no_amplification (D N : ℕ) (hD : 0 < D) (hN : 0 < N) (u : Array ℂ)
    (hu : ∀ j < N ^ D, (u.getD j 0).im = 0) (E : ℕ → ℂ) (hE : ∀ h < numModes D N, ‖E h‖ ≤ 1) :
    ∑ j ∈ range (N ^ D),
        ((irfftnM D N (tab (numModes D N) (fun h => E h * (rfftnM D N u).getD h 0))).getD j 0).re ^ 2
      ≤ ∑ j ∈ range (N ^ D), (u.getD j 0).re ^ 2 := by
  refine (c2r_contraction D N hD hN _).trans ?_
  rw [← sum_norm_sq_real _ _ hu, parseval_nd D N hD hN u hu, sum_weight_norm_sq_mul]
  refine mul_le_mul_of_nonneg_left (Finset.sum_le_sum fun h hh => ?_) (by positivity)
  exact mul_le_mul_of_nonneg_right (mul_le_of_le_one_right (herm_weight_pos_real D N h).le
    (pow_le_one₀ (norm_nonneg _) (hE h (Finset.mem_range.mp hh)))) (sq_nonneg _)

/-- the same for the regenerated ETDRK0 stage `Gen.Etdrk.E0step` with any coefficient array `|E_h| ≤ 1` -/
theorem linear_step_no_amplification_E0step (D N : ℕ) (hD : 0 < D) (hN : 0 < N) (u : Array ℂ)
    (hu : ∀ j < N ^ D, (u.getD j 0).im = 0) (E : ℕ → ℂ) (hE : ∀ h < numModes D N, ‖E h‖ ≤ 1) :
    ∑ j ∈ range (N ^ D),
        ((irfftnM D N (tab (numModes D N)
          (fun h => Gen.Etdrk.E0step (E h) ((rfftnM D N u).getD h 0)))).getD j 0).re ^ 2
      ≤ ∑ j ∈ range (N ^ D), (u.getD j 0).re ^ 2 :=
  linear_step_no_amplification D N hD hN u hu E hE

/-- one grid-space step `u ↦ irfftn (E ⊙ rfftn u)` of a linear stepper -/
noncomputable def linStep (D N : ℕ) (E : ℕ → ℂ) (u : Array ℂ) : Array ℂ :=
  irfftnM D N (tab (numModes D N) (fun h => E h * (rfftnM D N u).getD h 0))

theorem linStep_eq (D N : ℕ) (E : ℕ → ℂ) (u : Array ℂ) :
    linStep D N E u
      = irfftnM D N (tab (numModes D N) (fun h => Gen.Etdrk.E0step (E h) ((rfftnM D N u).getD h 0))) := rfl

theorem linStep_real (D N : ℕ) (E : ℕ → ℂ) (u : Array ℂ) (j : ℕ) :
    ((linStep D N E u).getD j 0).im = 0 :=
  irfftnM_im D N _ j

theorem linear_rollout_no_amplification_var (D N : ℕ) (hD : 0 < D) (hN : 0 < N) (E : ℕ → ℕ → ℂ)
    (hE : ∀ k, ∀ h < numModes D N, ‖E k h‖ ≤ 1) (U : ℕ → Array ℂ)
    (hU : ∀ k, U (k + 1) = linStep D N (E k) (U k))
    (hu : ∀ j < N ^ D, ((U 0).getD j 0).im = 0) (n : ℕ) :
    (∀ j < N ^ D, ((U n).getD j 0).im = 0) ∧
    ∑ j ∈ range (N ^ D), ((U n).getD j 0).re ^ 2 ≤ ∑ j ∈ range (N ^ D), ((U 0).getD j 0).re ^ 2 := by
  induction n with
  | zero => exact ⟨hu, le_rfl⟩
  | succ n ih =>
    refine ⟨fun j _ => by rw [hU n]; exact linStep_real D N _ _ j, ?_⟩
    rw [hU n]
    exact (linear_step_no_amplification D N hD hN (U n) ih.1 (E n) (hE n)).trans ih.2

theorem linear_rollout_no_amplification (D N : ℕ) (hD : 0 < D) (hN : 0 < N) (E : ℕ → ℂ)
    (hE : ∀ h < numModes D N, ‖E h‖ ≤ 1) (u : Array ℂ) (hu : ∀ j < N ^ D, (u.getD j 0).im = 0) (n : ℕ) :
    ∑ j ∈ range (N ^ D), (((linStep D N E)^[n] u).getD j 0).re ^ 2
      ≤ ∑ j ∈ range (N ^ D), (u.getD j 0).re ^ 2 :=
  (linear_rollout_no_amplification_var D N hD hN (fun _ => E) (fun _ => hE)
    (fun k => (linStep D N E)^[k] u) (fun _ => Function.iterate_succ_apply' _ _ _) hu n).2

theorem linear_repeatN_no_amplification (D N : ℕ) (hD : 0 < D) (hN : 0 < N) (E : ℕ → ℂ)
    (hE : ∀ h < numModes D N, ‖E h‖ ≤ 1) (u : Array ℂ) (hu : ∀ j < N ^ D, (u.getD j 0).im = 0) (n : ℕ) :
    ∑ j ∈ range (N ^ D), ((Loops.repeatN (linStep D N E) n u).getD j 0).re ^ 2
      ≤ ∑ j ∈ range (N ^ D), (u.getD j 0).re ^ 2 := by
  rw [Loops.repeatN_eq_iterate]
  exact linear_rollout_no_amplification D N hD hN E hE u hu n

/-- If `|E_h| = 1` on all stored modes, the step preserves the grid 2-norm of
    the real state `u` EXACTLY WHEN `E ⊙ rfftn u` is a fixed point of `rfftn ∘ irfftn`, i.e.
    (`realisable_iff_spectrum` in `RepeatedPhysical.lean`) the half spectrum of a real field. -/
theorem linear_step_isometry_iff (D N : ℕ) (hD : 0 < D) (hN : 0 < N) (u : Array ℂ)
    (hu : ∀ j < N ^ D, (u.getD j 0).im = 0) (E : ℕ → ℂ) (hE : ∀ h < numModes D N, ‖E h‖ = 1) :
    ∑ j ∈ range (N ^ D),
        ((irfftnM D N (tab (numModes D N) (fun h => E h * (rfftnM D N u).getD h 0))).getD j 0).re ^ 2
        = ∑ j ∈ range (N ^ D), (u.getD j 0).re ^ 2
      ↔ ∀ h < numModes D N,
          (rfftnM D N (irfftnM D N (tab (numModes D N) (fun h => E h * (rfftnM D N u).getD h 0)))).getD h 0
            = E h * (rfftnM D N u).getD h 0 := by
  have hen : (1 / ((N ^ D : ℕ) : ℝ)) * ∑ h ∈ range (numModes D N), (herm_weight D N h : ℝ) *
        ‖(tab (numModes D N) (fun h => E h * (rfftnM D N u).getD h 0)).getD h 0‖ ^ 2
      = ∑ j ∈ range (N ^ D), (u.getD j 0).re ^ 2 := by
    rw [← sum_norm_sq_real _ _ hu, parseval_nd D N hD hN u hu, sum_weight_norm_sq_mul]
    exact congrArg _ (Finset.sum_congr rfl fun h hh => by rw [hE h (Finset.mem_range.mp hh), one_pow, mul_one])
  rw [← hen, c2r_isometry_iff D N hD hN]
  constructor
  · intro H h hh
    rw [H h hh, DFT.tab_getD _ _ _ _ hh]
  · intro H h hh
    rw [H h hh, DFT.tab_getD _ _ _ _ hh]

theorem sawtooth_real : ∀ j < 2, ((#[(1 : ℂ), -1] : Array ℂ).getD j 0).im = 0 := by
  intro j hj
  obtain rfl | rfl : j = 0 ∨ j = 1 := by omega
  · simp
  · simp

/-- a real state, factors of modulus ≤ 1 (here: a non-real factor at every mode, `E_h = i`) -/
example : ∃ (D N : ℕ) (u : Array ℂ) (E : ℕ → ℂ), 0 < D ∧ 0 < N ∧
    (∀ j < N ^ D, (u.getD j 0).im = 0) ∧ (∀ h < numModes D N, ‖E h‖ ≤ 1) ∧
    (∀ h < numModes D N, ‖E h‖ = 1) :=
  ⟨1, 2, #[1, -1], fun _ => Complex.I, by norm_num, by norm_num, sawtooth_real,
    fun _ _ => by simp, fun _ _ => by simp⟩

/-- `dt ≥ 0`, `Re L ≤ 0` -/
example : ∃ (dt : ℝ) (L : ℕ → ℂ), 0 ≤ dt ∧ ∀ h, (L h).re ≤ 0 :=
  ⟨1, fun h => -(h : ℂ) + Complex.I, by norm_num, fun h => by simp⟩

/-- a trajectory as in `linear_rollout_no_amplification_var` -/
example (D N : ℕ) (E : ℕ → ℕ → ℂ) (u : Array ℂ) :
    ∃ U : ℕ → Array ℂ, U 0 = u ∧ ∀ k, U (k + 1) = linStep D N (E k) (U k) :=
  ⟨fun n => Nat.rec u (fun k s => linStep D N (E k) s) n, rfl, fun _ => rfl⟩

end Exponax.C2R
