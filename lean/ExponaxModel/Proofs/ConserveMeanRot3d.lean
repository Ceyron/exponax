import ExponaxModel.Proofs.AliasNDMask
import ExponaxModel.Proofs.ConserveVorticityFull
import ExponaxModel.Proofs.ConserveMean
/-
C09: the mean mode of the 3-D rotational convection term `projected3d`.

What the model does at the mean mode `h = 0`: `leray` is the IDENTITY there (`invLapZero c 0 = 0`, `deriv c d 0 = 0`;
`Conserve.leray_mean`), so `projected3d c none û` at `(i, 0)` is `mask(0) · Σ_x (u × ω)_i(x)`
(`Conserve.projected3d_mean`).  The grid sum does NOT vanish for every spectrum: in the continuum
`∫ (u × ω)_i = ∫ u_i (∇·u)`, and exactly the same holds on the grid for a Nyquist-free cut-off `MaskIn c K`, `2·K < N`:

  `projected3d c none û (i, 0) = mask(0) · Σ_x u_i(x) · (∇·u)(x)`,  `u = ifft(mask·û)`, `∇·u = ifft(mask·Σ_d (i s k_d) û_d)`
(`projected3d_mean_eq_div`; ANY 3-channel spectrum `û`, not necessarily Hermitian), hence `= 0` when `û` is divergence free on
the retained stored modes (`projected3d_mean_zero`).  "Zero mean for EVERY spectrum" is FALSE: `ConserveMeanRot3dCounter.lean`.
-/
namespace Exponax.SmallGaps3
open Exponax Exponax.Layout Exponax.Transform Exponax.DFT Exponax.Nonlin Exponax.Alias Exponax.AliasND Finset
open Exponax.Gen.Misc

theorem nifft_eq_tab (c : Cfg ℂ) (a : Array ℂ) : nifft c a = nifft c (tab (modes c) fun h => a.getD h 0) :=
  nifft_congr c _ _ fun _ hm => (Nonlin.tab_getD _ (fun h => a.getD h 0) _ _ hm).symm

/-- **the Nyquist-free hypothesis.**  Every stored mode that survives the mask lies in the box `|k_d| ≤ K` (used with
    `2K < N`).  Two ways to satisfy it: a dealiasing mask with cut-off `Kc` (`maskIn_Kc`), or NO mask at all on an odd grid
    (`maskIn_half`, `K = ⌊N/2⌋`, `2K < N` iff `N` odd). -/
def MaskIn (c : Cfg ℂ) (K : ℤ) : Prop :=
  ∀ h, h < numModes c.D c.N → mask c h = 0 ∨ ∀ d, |kvec c.D c.N h d| ≤ K

theorem maskIn_Kc (c : Cfg ℂ) (hq : c.fq ≠ 0) : MaskIn c (Kc c) := by
  intro h _
  by_cases hk : ∀ d, |kvec c.D c.N h d| ≤ Kc c
  · exact Or.inr hk
  · exact Or.inl ((mask_nd_eq_zero_iff c hq h).mpr hk)

theorem maskIn_half (c : Cfg ℂ) (hD : 0 < c.D) (hN : 0 < c.N) : MaskIn c ((c.N / 2 : ℕ) : ℤ) :=
  fun h hh => Or.inr (fun d => kvec_abs_le c.D c.N h hD hN hh d)

theorem dftV_nifft_zero (c : Cfg ℂ) (hN : 0 < c.N) (a : Array ℂ)
    (ha : ∀ h, h < modes c → mask c h * a.getD h 0 = 0) (m : Fin c.D → ℤ) :
    dftV c.D c.N (nifft c a) m = 0 := by
  rw [dftV_nifft c hN]
  apply Finset.sum_eq_zero
  intro h hh
  rw [ha h (Finset.mem_range.mp hh), map_zero, zero_mul, zero_mul, add_zero, mul_zero]

noncomputable def divHat (c : Cfg ℂ) (uh : MC ℂ) : Array ℂ :=
  tab (modes c) fun h => deriv c 0 h * at2 uh 0 h + deriv c 1 h * at2 uh 1 h + deriv c 2 h * at2 uh 2 h

noncomputable def divGrid (c : Cfg ℂ) (uh : MC ℂ) (x : ℕ) : ℂ := (nifft c (divHat c uh)).getD x 0

theorem MaskIn.natAbs_lt {c : Cfg ℂ} {K : ℤ} (hM : MaskIn c K) (h2 : 2 * K < (c.N : ℤ)) (h : ℕ)
    (hh : h < numModes c.D c.N) (hm : mask c h = 1) (d : ℕ) (hd : d < c.D) : 2 * (kInt c d h).natAbs < c.N := by
  rcases hM h hh with h0 | hk
  · rw [h0] at hm
    exact absurd hm zero_ne_one
  · have hk' : |kInt c d h| ≤ K := hk ⟨d, hd⟩
    rw [Int.abs_eq_natAbs] at hk'
    omega

/-- **discrete `∫ (u × ω)_a = ∫ u_a ∇·u`**, one cyclic triple of axes `(a, b, e)`: `(u × ω)_a = u_b ω_e − u_e ω_b`,
    `ω_e = ∂_a u_b − ∂_b u_a`, `ω_b = ∂_e u_a − ∂_a u_e`, for ANY stored spectra (`Conserve.mean_pairs_cancel` with the three
    products `u_b ω_e`, `−u_e ω_b`, `−u_a ∇·u`): mode by mode the pairing is purely imaginary (`conj d = −d`), and the
    conjugate-pair terms are odd because on a Nyquist-free band the partner carries `−k` (`Conserve.deriv_conjIdx`) -/
theorem sum_cyc (c : Cfg ℂ) (hD : 0 < c.D) (hN : 0 < c.N) (K : ℤ) (hM : MaskIn c K) (h2 : 2 * K < (c.N : ℤ))
    (s : ℝ) (hs : c.s = (s : ℂ)) (uh : MC ℂ) (a b e : ℕ) (ha : a < c.D) (hb : b < c.D) (he : e < c.D)
    (wE wB dv : ℕ → ℂ) (hwE : ∀ h, wE h = Nonlin.deriv c a h * at2 uh b h - Nonlin.deriv c b h * at2 uh a h)
    (hwB : ∀ h, wB h = Nonlin.deriv c e h * at2 uh a h - Nonlin.deriv c a h * at2 uh e h)
    (hdv : ∀ h, dv h = Nonlin.deriv c a h * at2 uh a h + Nonlin.deriv c b h * at2 uh b h + Nonlin.deriv c e h * at2 uh e h) :
    ∑ x ∈ range (c.N ^ c.D), ((nifft c (uh.getD b #[])).getD x 0 * (nifft c (tab (modes c) wE)).getD x 0
        - (nifft c (uh.getD e #[])).getD x 0 * (nifft c (tab (modes c) wB)).getD x 0)
      = ∑ x ∈ range (c.N ^ c.D), (nifft c (uh.getD a #[])).getD x 0 * (nifft c (tab (modes c) dv)).getD x 0 := by
  have key := Conserve.mean_pairs_cancel c.D c.N hD hN
    ![fun h => mask c h * at2 uh b h, fun h => mask c h * at2 uh e h, fun h => mask c h * at2 uh a h]
    ![fun h => mask c h * wE h, fun h => -(mask c h * wB h), fun h => -(mask c h * dv h)]
    (fun h _ => by
      simp only [Fin.sum_univ_three, Matrix.cons_val_zero, Matrix.cons_val_one, Matrix.cons_val_two, Matrix.head_cons,
        Matrix.tail_cons]
      apply Conserve.re_eq_zero_of_add_conj
      simp only [hwE, hwB, hdv, map_add, map_sub, map_mul, map_neg, Conserve.conj_mask, conj_deriv c s hs,
        Complex.conj_conj]
      ring)
    (fun h hh hw => by
      simp only [Fin.sum_univ_three, Matrix.cons_val_zero, Matrix.cons_val_one, Matrix.cons_val_two, Matrix.head_cons,
        Matrix.tail_cons, hwE, hwB, hdv]
      rcases Conserve.mask_zero_or_one c h with h1 | h0
      · rcases Conserve.mask_zero_or_one c (C2R.conjIdx c.D c.N h) with h1' | h0'
        · have odd := fun d hd => Conserve.deriv_conjIdx c hD hN h d hh hw hd (hM.natAbs_lt h2 h hh h1 d hd)
          rw [odd a ha, odd b hb, odd e he]
          ring
        · rw [h0']; ring
      · rw [h0]; ring)
  simp only [Fin.sum_univ_three, Matrix.cons_val_zero, Matrix.cons_val_one, Matrix.cons_val_two, Matrix.head_cons,
    Matrix.tail_cons, Conserve.irfftn_tab_neg] at key
  rw [← sub_eq_zero, ← Finset.sum_sub_distrib]
  refine Eq.trans (Finset.sum_congr rfl fun x _ => ?_) key
  have hA : ∀ k, nifft c (uh.getD k #[]) = irfftnM c.D c.N (tab (numModes c.D c.N) fun h => mask c h * at2 uh k h) :=
    fun k => Conserve.nifft_of_getD c _ _ fun _ _ => rfl
  have hC : ∀ F : ℕ → ℂ, nifft c (tab (modes c) F) = irfftnM c.D c.N (tab (numModes c.D c.N) fun h => mask c h * F h) :=
    fun F => Conserve.nifft_of_getD c _ _ fun h hh => Nonlin.tab_getD _ _ _ _ hh
  rw [hA, hA, hA, hC, hC, hC]
  ring

theorem sum_crossGrid_eq_div (c : Cfg ℂ) (hD : c.D = 3) (hN : 0 < c.N) (K : ℤ) (hM : MaskIn c K)
    (h2 : 2 * K < (c.N : ℤ)) (s : ℝ) (hs : c.s = (s : ℂ)) (uh : MC ℂ) (i : ℕ) (hi : i < 3) :
    ∑ x ∈ range (c.N ^ c.D), Conserve.crossGrid c uh i x
      = ∑ x ∈ range (c.N ^ c.D), Conserve.velGrid c uh i x * divGrid c uh x := by
  have cyc := fun a b e ha hb he => sum_cyc c (by omega) hN K hM h2 s hs uh a b e ha hb he
  have i3 : i = 0 ∨ i = 1 ∨ i = 2 := by omega
  unfold Conserve.crossGrid Conserve.velGrid Conserve.curlGrid divGrid divHat
  rcases i3 with rfl | rfl | rfl
  · simp only [proj3_cross_zero, proj3_cross_one, proj3_cross_two]
    exact cyc 0 1 2 (by omega) (by omega) (by omega) _ _ _ (fun _ => rfl) (fun _ => rfl) (fun _ => rfl)
  · simp only [proj3_cross_zero, proj3_cross_one, proj3_cross_two]
    exact cyc 1 2 0 (by omega) (by omega) (by omega) _ _ _ (fun _ => rfl) (fun _ => rfl) (fun _ => by ring)
  · simp only [proj3_cross_zero, proj3_cross_one, proj3_cross_two]
    exact cyc 2 0 1 (by omega) (by omega) (by omega) _ _ _ (fun _ => rfl) (fun _ => rfl) (fun _ => by ring)

theorem projected3d_mean_eq_div (c : Cfg ℂ) (hD : c.D = 3) (hN : 0 < c.N) (K : ℤ) (hM : MaskIn c K)
    (h2 : 2 * K < (c.N : ℤ)) (s : ℝ) (hs : c.s = (s : ℂ)) (uh : MC ℂ) (i : ℕ) (hi : i < 3) :
    at2 (projected3d c none uh) i 0
      = mask c 0 * ∑ x ∈ range (c.N ^ c.D), Conserve.velGrid c uh i x * divGrid c uh x := by
  rw [Conserve.projected3d_mean c hN hD uh i hi]
  show mask c 0 * ∑ x ∈ range (c.N ^ c.D), Conserve.crossGrid c uh i x = _
  rw [sum_crossGrid_eq_div c hD hN K hM h2 s hs uh i hi]

theorem divGrid_zero (c : Cfg ℂ) (uh : MC ℂ)
    (hdiv : ∀ h, h < modes c → mask c h = 1 →
      Nonlin.deriv c 0 h * at2 uh 0 h + Nonlin.deriv c 1 h * at2 uh 1 h + Nonlin.deriv c 2 h * at2 uh 2 h = 0)
    (x : ℕ) : divGrid c uh x = 0 := by
  refine irfftnM_eq_zero c.D c.N _ (fun h hh => ?_) x
  have hM : h < modes c := hh
  unfold divHat
  rw [Nonlin.tab_getD _ _ _ _ hM, Nonlin.tab_getD _ _ _ _ hM]
  rcases Conserve.mask_zero_or_one c h with h1 | h0
  · rw [hdiv h hM h1, mul_zero]
  · rw [h0, zero_mul]

theorem projected3d_mean_zero (c : Cfg ℂ) (hD : c.D = 3) (hN : 0 < c.N) (K : ℤ) (hM : MaskIn c K)
    (h2 : 2 * K < (c.N : ℤ)) (s : ℝ) (hs : c.s = (s : ℂ)) (uh : MC ℂ)
    (hdiv : ∀ h, h < modes c → mask c h = 1 →
      Nonlin.deriv c 0 h * at2 uh 0 h + Nonlin.deriv c 1 h * at2 uh 1 h + Nonlin.deriv c 2 h * at2 uh 2 h = 0)
    (i : ℕ) : at2 (projected3d c none uh) i 0 = 0 := by
  rcases Nat.lt_or_ge i 3 with hi | hi
  · rw [projected3d_mean_eq_div c hD hN K hM h2 s hs uh i hi]
    rw [Finset.sum_eq_zero (fun x _ => by rw [divGrid_zero c uh hdiv x, mul_zero]),
      mul_zero]
  · exact projected3d_at2_out c none uh i 0 (Or.inl hi)

/-! non-vacuity: the 2/3 rule on `N = 8` (`Kc = 1`), the unmasked odd grid `N = 7` (`K = 3`), and a spectrum that is
divergence free on the retained modes (the rest state; every Leray output is another, `C10_leray_divfree`) -/
example : ∃ c : Cfg ℂ, ∃ s : ℝ, c.D = 3 ∧ 0 < c.N ∧ MaskIn c (Kc c) ∧ 2 * Kc c < (c.N : ℤ) ∧ c.s = (s : ℂ) :=
  ⟨{ D := 3, N := 8, s := ((1 : ℝ) : ℂ), fp := 2, fq := 3 }, 1, rfl, by decide, maskIn_Kc _ (by decide), by decide, rfl⟩
example : ∃ c : Cfg ℂ, c.D = 3 ∧ 0 < c.N ∧ c.fq = 0 ∧ MaskIn c ((c.N / 2 : ℕ) : ℤ) ∧ 2 * ((c.N / 2 : ℕ) : ℤ) < (c.N : ℤ) :=
  ⟨{ D := 3, N := 7, s := ((1 : ℝ) : ℂ), fp := 0, fq := 0 }, rfl, by decide, rfl, maskIn_half _ (by decide) (by decide),
    by decide⟩
example (c : Cfg ℂ) : ∀ h, h < modes c → mask c h = 1 →
    deriv c 0 h * at2 (#[] : MC ℂ) 0 h + deriv c 1 h * at2 (#[] : MC ℂ) 1 h + deriv c 2 h * at2 (#[] : MC ℂ) 2 h = 0 := by
  intro h _ _
  have e : ∀ k, at2 (#[] : MC ℂ) k h = 0 := fun k => rfl
  rw [e, e, e]; ring

end Exponax.SmallGaps3
