import ExponaxModel.Proofs.Laminar3DLine
/-
C12 in 3-D: the rotational term `projected3d c none` vanishes identically (every channel, every stored mode) on the spectrum
`û = (rfftn F, 0, 0)` of every real shear velocity `(f(x₁), 0, 0)`; axis 1 is the axis of the model's 3-D Kolmogorov
injection `k = (0, ±m, 0)`, channel 0.  `Laminar3D.projected3d_shear_none_partial` has this for two-mode spectra only.

No proviso on `N` (even grids with Nyquist content included) nor on the mask; `s` real, `≠ 0`.  On the grid
`u × ω = (0, −u₀ ω₂, 0)` is a function of `x₁` only, in channel 1: a gradient `∂₁(·) e₁` up to its mean, removed by the Leray
projection at every `k ≠ 0` (`Laminar3D.projected3d_line_of_mean`).  Its mean `−Σ u₀ ω₂ = Σ u₀ ∂₁u₀` vanishes because `û₀` is the spectrum of a REAL field
(`sum_real_imag_mul_zero`); for a general complex line spectrum it does not.
-/
namespace Exponax.SmallGaps3
open Exponax Exponax.Layout Exponax.Transform Exponax.DFT Exponax.Alias Exponax.AliasND Finset
open Exponax.Nonlin (Cfg MC at2 tab2 tabC modes gridSize mask nfft nifft projected3d leray kInt deriv proj3
  proj3_cross_zero proj3_cross_one proj3_cross_two)
open Exponax.Laminar3D (LineSpec projected3d_line_of_mean)

structure ShearSpec (c : Cfg ℂ) (uh : MC ℂ) (F : Array ℂ) : Prop where
  real : IsRealND c.D c.N F
  axis : AxisOnly c.D c.N 1 F
  ch0 : ∀ h, h < modes c → at2 uh 0 h = (rfftnM c.D c.N F).getD h 0
  ch12 : ∀ h, h < modes c → at2 uh 1 h = 0 ∧ at2 uh 2 h = 0

theorem mask_im (c : Cfg ℂ) (h : ℕ) : (mask c h).im = 0 := by
  rcases Conserve.mask_zero_or_one c h with h1 | h0
  · rw [h1]; simp
  · rw [h0]; simp

theorem deriv_re (c : Cfg ℂ) (s : ℝ) (hs : c.s = (s : ℂ)) (d h : ℕ) : (Nonlin.deriv c d h).re = 0 := by
  rw [Nonlin.deriv_eq_real c s hs d h, Complex.I_mul_re, Complex.ofReal_im, neg_zero]

theorem ShearSpec.lineSpec {c : Cfg ℂ} {uh : MC ℂ} {F : Array ℂ} (hS : ShearSpec c uh F) (hD : c.D = 3) (hN : 0 < c.N) :
    LineSpec c uh := fun h hh =>
  ⟨(hS.ch12 h hh).1, (hS.ch12 h hh).2, fun h0 => by
    rw [hS.ch0 h hh] at h0
    exact ⟨rfftn_axisOnly_support c.D c.N (by omega) hN 1 (by omega) F hS.axis h hh h0 0 (by omega) (by norm_num),
      rfftn_axisOnly_support c.D c.N (by omega) hN 1 (by omega) F hS.axis h hh h0 2 (by omega) (by norm_num)⟩⟩

theorem projected3d_shear_real (c : Cfg ℂ) (hD : c.D = 3) (hN : 0 < c.N) (s : ℝ) (hs : c.s = (s : ℂ)) (hs0 : s ≠ 0)
    (uh : MC ℂ) (F : Array ℂ) (hS : ShearSpec c uh F) (i h : ℕ) (hi : i < 3) (hh : h < modes c) :
    at2 (projected3d c none uh) i h = 0 := by
  refine projected3d_line_of_mean c hD hN s hs hs0 uh (hS.lineSpec hD hN) ?_ i h hi hh
  -- `u₀ = ifft(mask·1·F̂)` and `ω₂ = −∂₁u₀ = ifft(mask·(−i s k₁)·F̂)`, in the multiplier form of `sum_real_imag_mul_zero`
  have vel0 : ∀ x, Conserve.velGrid c uh 0 x
      = (nifft c (tab (modes c) fun h => (1 : ℂ) * (rfftnM c.D c.N F).getD h 0)).getD x 0 := fun x =>
    congrArg (fun A : Array ℂ => A.getD x 0) (Nonlin.nifft_congr c _ _ fun m hm => by
      rw [Nonlin.tab_getD _ _ _ _ hm, one_mul]
      exact hS.ch0 m hm)
  have curl2 : ∀ x, Conserve.curlGrid c uh 2 x
      = (nifft c (tab (modes c) fun h => -(Nonlin.deriv c 1 h) * (rfftnM c.D c.N F).getD h 0)).getD x 0 := fun x =>
    congrArg (fun A : Array ℂ => A.getD x 0) (Nonlin.nifft_congr c _ _ fun m hm => by
      rw [Nonlin.tab_getD _ _ _ _ hm, Nonlin.tab_getD _ _ _ _ hm, proj3_cross_two]
      simp only []
      rw [(hS.ch12 m hm).1, hS.ch0 m hm]
      ring)
  rw [Finset.sum_congr rfl fun x _ => by rw [vel0 x, curl2 x]]
  exact sum_real_imag_mul_zero c hN F hS.real (fun _ => 1) (fun h => -(Nonlin.deriv c 1 h))
    (fun h => by rw [mul_one]; exact mask_im c h)
    (fun h => by rw [Complex.mul_re, mask_im c h, Complex.neg_re, deriv_re c s hs, neg_zero, mul_zero, zero_mul,
      sub_zero])

/-- with the Kolmogorov injection: on the spectrum of a real shear profile the forced term is exactly the injection term -/
theorem projected3d_shear_real_inj (c : Cfg ℂ) (hD : c.D = 3) (hN : 0 < c.N) (s : ℝ) (hs : c.s = (s : ℂ)) (hs0 : s ≠ 0)
    (uh : MC ℂ) (F : Array ℂ) (hS : ShearSpec c uh F) (m' : ℕ) (gam : ℂ) (i h : ℕ) (hi : i < 3) (hh : h < modes c) :
    at2 (projected3d c (some (m', gam)) uh) i h
      = if i = 0 ∧ kInt c 0 h = 0 ∧ kInt c 2 h = 0 ∧ kInt c 1 h = (m' : ℤ)
        then -Complex.I * gam * scaling c.D c.N 2 (unflatten (wavenumberShape c.D c.N) h)
        else if i = 0 ∧ kInt c 0 h = 0 ∧ kInt c 2 h = 0 ∧ kInt c 1 h = -(m' : ℤ)
        then Complex.I * gam * scaling c.D c.N 2 (unflatten (wavenumberShape c.D c.N) h)
        else 0 := by
  rw [Nonlin.projected3d_inj c _ uh i h hi hh, projected3d_shear_real c hD hN s hs hs0 uh F hS i h hi hh, zero_add]
  rfl

theorem projected3d_shear_real_all (c : Cfg ℂ) (hD : c.D = 3) (hN : 0 < c.N) (s : ℝ) (hs : c.s = (s : ℂ)) (hs0 : s ≠ 0)
    (uh : MC ℂ) (F : Array ℂ) (hS : ShearSpec c uh F) (i h : ℕ) : at2 (projected3d c none uh) i h = 0 := by
  by_cases hc : i < 3 ∧ h < modes c
  · exact projected3d_shear_real c hD hN s hs hs0 uh F hS i h hc.1 hc.2
  · exact Nonlin.projected3d_at2_out c none uh i h (by omega)

noncomputable def profileField (c : Cfg ℂ) (f : ℕ → ℝ) : Array ℂ :=
  tab (c.N ^ c.D) fun x => ((f (digit c.D c.N x 1) : ℝ) : ℂ)

theorem shearSpec_of_profile (c : Cfg ℂ) (f : ℕ → ℝ) :
    ShearSpec c (#[rfftnM c.D c.N (profileField c f), #[], #[]] : MC ℂ) (profileField c f) where
  real := fun j hj => by
    unfold profileField
    rw [DFT.tab_getD _ _ _ _ hj, Complex.ofReal_im]
  axis := fun x x' hx hx' hdig => by
    unfold profileField
    rw [DFT.tab_getD _ _ _ _ hx, DFT.tab_getD _ _ _ _ hx', hdig]
  ch0 := fun h _ => rfl
  ch12 := fun h _ => ⟨rfl, rfl⟩

/-! non-vacuity: an EVEN grid without dealiasing mask (`fq = 0`: the Nyquist entry of `f` is kept), `N = 4`, and the
profile `f = (1, −2, 3, 5)` which has Nyquist content (`Σ (−1)^j f_j = 1 + 2 + 3 − 5 ≠ 0`) -/
example : ∃ (c : Cfg ℂ) (s : ℝ) (f : ℕ → ℝ), c.D = 3 ∧ 0 < c.N ∧ c.N % 2 = 0 ∧ c.fq = 0 ∧ c.s = (s : ℂ) ∧ s ≠ 0 ∧
    f 0 - f 1 + f 2 - f 3 ≠ 0 :=
  ⟨⟨3, 4, ((1 : ℝ) : ℂ), 0, 0⟩, 1, fun j => if j = 0 then 1 else if j = 1 then -2 else if j = 2 then 3 else 5,
    rfl, by decide, rfl, rfl, rfl, one_ne_zero, by norm_num⟩

end Exponax.SmallGaps3
