import Mathlib.Tactic
import ExponaxModel.Model.Interp
import ExponaxModel.Proofs.LayoutLemmas
import ExponaxModel.Proofs.DFTBasic
/-
C15 support — basic facts about `Interp.srcAxis`, `Interp.srcIndex`, `Interp.mapSpectrum` at `K := ℂ`:
closed forms of the per-axis block copy, the source multi-index as the list of per-axis sources (`srcIndex_eq`),
the pointwise formula of the new half spectrum.
-/
namespace Exponax.Interp
open Exponax Exponax.Layout Exponax.Transform Exponax.DFT Finset

/-- the stop of the left block `[: (m+1)//2]` that `srcAxis` copies on a leading axis -/
theorem pySlice_leftBlock (len m : ℕ) :
    (pySlice len none (some (if m % 2 = 0 then ((m / 2 : ℕ) : ℤ) else ((m / 2 : ℕ) : ℤ) + 1))).2
      = min ((m + 1) / 2) len := by
  split_ifs with he
  · rw [pySlice_none_some]
    simp only
    omega
  · have : (((m / 2 : ℕ) : ℤ) + 1) = ((m / 2 + 1 : ℕ) : ℤ) := by push_cast; ring
    rw [this, pySlice_none_some]
    simp only
    omega

theorem srcAxis_lead_closed (m Nnew Nold i : ℕ) (hm : 2 ≤ m) (hn : m ≤ Nnew) (ho : m ≤ Nold) :
    srcAxis m Nnew Nold false i =
      if Nnew - m / 2 ≤ i ∧ i < Nnew then some (Nold - m / 2 + (i - (Nnew - m / 2)))
      else if i < (m + 1) / 2 then some i else none := by
  have hnyq : 0 < m / 2 := by omega
  unfold srcAxis
  simp only [Bool.false_eq_true, if_false]
  rw [pySlice_someNeg_none Nnew (m / 2) hnyq, pySlice_someNeg_none Nold (m / 2) hnyq]
  rw [pySlice_leftBlock, show min ((m + 1) / 2) Nnew = (m + 1) / 2 by omega]
  have e1 : min (m / 2) Nnew = m / 2 := by omega
  have e2 : min (m / 2) Nold = m / 2 := by omega
  simp only [e1, e2]

/-- the leading-axis block copy as a partial function on wavenumbers: the target entry carrying `k` is written iff
    `−m/2 ≤ k ≤ (m−1)/2`, and then from the source entry that carries `k` (right block: negative frequencies on
    both grids, `j − Nold = i − Nnew`; left block: `j = i`) -/
theorem srcAxis_lead_wn (m Nnew Nold i : ℕ) (hm : 2 ≤ m) (hn : m ≤ Nnew) (ho : m ≤ Nold) :
    srcAxis m Nnew Nold false i =
      if i < Nnew ∧ -((m / 2 : ℕ) : ℤ) ≤ fftfreq Nnew i ∧ fftfreq Nnew i ≤ (((m - 1) / 2 : ℕ) : ℤ)
      then some (fftfreqInv Nold (fftfreq Nnew i)) else none := by
  rw [srcAxis_lead_closed m Nnew Nold i hm hn ho]
  by_cases hr : Nnew - m / 2 ≤ i ∧ i < Nnew
  · have hk : fftfreq Nnew i = (i : ℤ) - Nnew := by unfold fftfreq; rw [if_neg (by omega)]
    rw [if_pos hr, hk, if_pos (by omega)]
    unfold fftfreqInv
    rw [if_neg (by omega)]
    congr 1
    omega
  · rw [if_neg hr]
    by_cases hl : i < (m + 1) / 2
    · have hk : fftfreq Nnew i = (i : ℤ) := by unfold fftfreq; rw [if_pos (by omega)]
      rw [if_pos hl, hk, if_pos (by omega)]
      unfold fftfreqInv
      rw [if_pos (by omega), Int.toNat_natCast]
    · rw [if_neg hl, if_neg]
      unfold fftfreq
      split_ifs <;> omega

theorem srcAxis_lead_spec (m Nnew Nold i j : ℕ) (hm : 2 ≤ m) (hn : m ≤ Nnew) (ho : m ≤ Nold)
    (h : srcAxis m Nnew Nold false i = some j) : j < Nold ∧ fftfreq Nold j = fftfreq Nnew i := by
  rw [srcAxis_lead_wn m Nnew Nold i hm hn ho] at h
  obtain ⟨⟨_, hlo, hhi⟩, hj⟩ := Option.ite_none_right_eq_some.mp h
  cases hj
  exact ⟨fftfreqInv_lt Nold _ (by omega) (by omega) (by omega),
    fftfreq_fftfreqInv Nold _ (by omega) (by omega) (by omega)⟩

theorem srcAxis_lead_isSome (m Nnew Nold i : ℕ) (hm : 2 ≤ m) (hn : m ≤ Nnew) (ho : m ≤ Nold) (hi : i < Nnew)
    (hband : 2 * |fftfreq Nnew i| < (m : ℤ)) : (srcAxis m Nnew Nold false i).isSome = true := by
  have h1 := le_abs_self (fftfreq Nnew i)
  have h2 := neg_abs_le (fftfreq Nnew i)
  rw [srcAxis_lead_wn m Nnew Nold i hm hn ho, if_pos ⟨hi, by omega⟩]
  rfl

theorem srcAxis_last (Nold Nnew i : ℕ) (_ : i < Nnew / 2 + 1) :
    srcAxis (min Nold Nnew) (Nnew / 2 + 1) (Nold / 2 + 1) true i =
      if i < (min Nold Nnew) / 2 + 1 then some i else none := by
  have e : (((min Nold Nnew / 2 : ℕ) : ℤ) + 1) = ((min Nold Nnew / 2 + 1 : ℕ) : ℤ) := by push_cast; ring
  have hs : (pySlice (Nnew / 2 + 1) none (some (((min Nold Nnew / 2 : ℕ) : ℤ) + 1))).2
      = min (min Nold Nnew / 2 + 1) (Nnew / 2 + 1) := by
    rw [e, pySlice_none_some]
  unfold srcAxis
  simp only [if_true, hs]
  have : min (min Nold Nnew / 2 + 1) (Nnew / 2 + 1) = min Nold Nnew / 2 + 1 := by omega
  rw [this]

/-- the `foldr` of `srcIndex` succeeds iff every axis does, and then collects the per-axis sources -/
theorem foldr_srcAxis (f : ℕ → Option ℕ) (L : List ℕ) :
    L.foldr (fun d acc =>
      match acc, f d with
      | some l, some i => some (i :: l)
      | _, _ => none) (some []) =
      if ∀ d ∈ L, (f d).isSome = true then some (L.map (fun d => (f d).getD 0)) else none := by
  induction L with
  | nil => simp
  | cons d L ih =>
    rw [List.foldr_cons, ih]
    by_cases hL : ∀ d ∈ L, (f d).isSome = true
    · rw [if_pos hL]
      cases hfd : f d with
      | none =>
        have : ¬ ∀ d' ∈ d :: L, (f d').isSome = true := by
          intro hall
          have := hall d (List.mem_cons_self ..)
          rw [hfd] at this; simp at this
        rw [if_neg this]
      | some i =>
        have : ∀ d' ∈ d :: L, (f d').isSome = true := by
          intro d' hd'
          rcases List.mem_cons.mp hd' with rfl | hm
          · rw [hfd]; rfl
          · exact hL d' hm
        rw [if_pos this]
        simp [hfd]
    · rw [if_neg hL]
      have : ¬ ∀ d' ∈ d :: L, (f d').isSome = true :=
        fun hall => hL (fun d' hd' => hall d' (List.mem_cons_of_mem _ hd'))
      rw [if_neg this]

/-- the per-axis source of `srcIndex` -/
def axisSrc (D Nold Nnew : ℕ) (h' : List ℕ) (d : ℕ) : Option ℕ :=
  srcAxis (min Nold Nnew) ((wavenumberShape D Nnew).getD d 0) ((wavenumberShape D Nold).getD d 0)
    (d + 1 == D) (h'.getD d 0)

theorem srcIndex_eq (D Nold Nnew : ℕ) (h' : List ℕ) :
    srcIndex D Nold Nnew h' =
      if ∀ d ∈ List.range D, (axisSrc D Nold Nnew h' d).isSome = true
      then some ((List.range D).map (fun d => (axisSrc D Nold Nnew h' d).getD 0)) else none := by
  unfold srcIndex
  exact foldr_srcAxis (axisSrc D Nold Nnew h') (List.range D)

/-- the `old` array of `mapSpectrum`: scaled (and, when up-sampling from an even grid with
    `oddballZero`, Nyquist-filtered) old spectrum -/
noncomputable def oldSpec (D Nold Nnew : ℕ) (ob : Bool) (uh : Array ℂ) (h : ℕ) : ℂ :=
  if h < numModes D Nold then
    (if (Nnew > Nold ∧ Nold % 2 = 0 ∧ ob = true) ∧ oddball Nold (wnFlat D Nold h) = false then 0
     else uh.getD h 0 / (Nold : ℂ) ^ D)
  else 0

theorem mapSpectrum_getD (D Nold Nnew : ℕ) (ob : Bool) (uh : Array ℂ) (h' : ℕ)
    (hh : h' < numModes D Nnew) :
    (mapSpectrum D Nold Nnew ob uh).getD h' 0 =
      if (Nold > Nnew ∧ Nnew % 2 = 0 ∧ ob = true) ∧ oddball Nnew (wnFlat D Nnew h') = false then 0
      else
        (match srcIndex D Nold Nnew (unflatten (wavenumberShape D Nnew) h') with
          | some idx => oldSpec D Nold Nnew ob uh (flatten (wavenumberShape D Nold) idx)
          | none => 0) * (Nnew : ℂ) ^ D := by
  unfold mapSpectrum
  simp only []
  rw [tab_getD _ _ _ _ hh]
  simp only [scaling_mode_zero]
  have hold : ∀ i : ℕ, (tab (numModes D Nold) (fun h =>
      if Nnew > Nold ∧ Nold % 2 = 0 ∧ ob = true then
        (if oddball Nold (wnFlat D Nold h) = true then uh.getD h 0 / (Nold : ℂ) ^ D else 0)
      else uh.getD h 0 / (Nold : ℂ) ^ D)).getD i 0 = oldSpec D Nold Nnew ob uh i := by
    intro i
    unfold oldSpec
    by_cases hi : i < numModes D Nold
    · rw [tab_getD _ _ _ _ hi, if_pos hi]
      by_cases hc : Nnew > Nold ∧ Nold % 2 = 0 ∧ ob = true
      · cases oddball Nold (wnFlat D Nold i) <;> simp [hc]
      · simp [hc]
    · rw [tab_getD_of_le _ _ _ _ (by omega), if_neg hi]
  simp only [hold]
  by_cases hc : Nold > Nnew ∧ Nnew % 2 = 0 ∧ ob = true
  · cases ho : oddball Nnew (wnFlat D Nnew h')
    · simp [hc]
    · rw [if_pos hc, if_pos rfl, if_neg (by simp)]
      cases srcIndex D Nold Nnew (unflatten (wavenumberShape D Nnew) h') <;> rfl
  · rw [if_neg hc, if_neg (fun h => hc h.1)]
    cases srcIndex D Nold Nnew (unflatten (wavenumberShape D Nnew) h') <;> rfl

theorem unflatten_wn_lt (D N : ℕ) (hD : 0 < D) (hN : 0 < N) (h : ℕ) (hh : h < numModes D N)
    (d : ℕ) (hd : d < D) :
    (unflatten (wavenumberShape D N) h).getD d 0 < if d + 1 = D then N / 2 + 1 else N := by
  have := unflatten_getD_lt (wavenumberShape D N) (wavenumberShape_pos D N hN) h hh d
    (by rw [wavenumberShape_length D N hD]; exact hd)
  rwa [wavenumberShape_getD D N d hd] at this

theorem oldSpec_of_lt (D Nold Nnew : ℕ) (ob : Bool) (uh : Array ℂ) {h : ℕ} (hh : h < numModes D Nold) :
    oldSpec D Nold Nnew ob uh h =
      if (Nnew > Nold ∧ Nold % 2 = 0 ∧ ob = true) ∧ oddball Nold (wnFlat D Nold h) = false then 0
      else uh.getD h 0 / (Nold : ℂ) ^ D :=
  if_pos hh

theorem mapBetween_of_ne {D Nold Nnew : ℕ} (hne : Nold ≠ Nnew) (ob : Bool) (u : Array ℂ) :
    mapBetween D Nold Nnew ob u = irfftnM D Nnew (mapSpectrum D Nold Nnew ob (rfftnM D Nold u)) :=
  if_neg hne

end Exponax.Interp
