import ExponaxModel.Proofs.RepeatedPhysicalWavenumber
import ExponaxModel.Proofs.RepeatedPhysicalNonlin
/-
C14 — the Nyquist-free case.  A linear step with an odd-order symbol (advection, dispersion: `g(−k) = conj g(k)` but `g`
not real at the Nyquist wavenumber) does not map every realisable spectrum to a realisable one on an even grid
(`repeated_ne_loop_nyquist` in `RepeatedPhysicalCounter.lean`).  It does preserve `Realisable ∧ NyqFree` (spectra vanishing at the stored modes with a
Nyquist wavenumber component), because off those modes `conjIdx` stores exactly `−k`; so on Nyquist-free real states the
repeated stepper is the physical loop (`repeatedStepper_eq_loop_of_invariant` with `P = NyqFree`).  The same for ETD-type
steps whose nonlinear coefficient removes the Nyquist modes.  For odd `N` there are no Nyquist modes and the odd-grid
theorems are special cases.
-/
namespace Exponax.C2R
open Exponax Exponax.Layout Exponax.Transform Exponax.DFT Exponax.Conserve Finset

/-- the theorem without invariant is the case `P = True` -/
theorem repeatedStepper_eq_loop_as_invariant (D N : ℕ) (hD : 0 < D) (hN : 0 < N)
    (F : Array ℂ → Array ℂ) (hF : ∀ C, Realisable D N C → Realisable D N (F C)) (u : Array ℂ)
    (hu : RealState D N u) (n : ℕ) :
    Loops.repeatN (fun v => irfftnM D N (F (rfftnM D N v))) n u
      = irfftnM D N (Loops.repeatedStepFourier F n (rfftnM D N u)) :=
  repeatedStepper_eq_loop D N hD hN F hF u hu n

/-- the stored mode `h` has a Nyquist wavenumber component: `N` even and `|k_d(h)| = N/2` for some axis -/
def NyqMode (D N h : ℕ) : Prop :=
  N % 2 = 0 ∧ ∃ d < D, ((wnFlat D N h).getD d 0).natAbs = N / 2

def NyqFree (D N : ℕ) (C : Array ℂ) : Prop :=
  ∀ h < numModes D N, NyqMode D N h → C.getD h 0 = 0

theorem odd_grid_not_nyqMode (D N h : ℕ) (hodd : N % 2 = 1) : ¬ NyqMode D N h := by
  rintro ⟨hev, _⟩; omega

theorem odd_grid_nyqFree (D N : ℕ) (hodd : N % 2 = 1) (C : Array ℂ) : NyqFree D N C :=
  fun h _ hq => absurd hq (odd_grid_not_nyqMode D N h hodd)

theorem nyqMode_conjIdx_iff (D N h : ℕ) (hD : 0 < D) (hN : 0 < N) (hh : h < numModes D N) :
    NyqMode D N (conjIdx D N h) ↔ NyqMode D N h := by
  constructor
  · rintro ⟨hev, d, hd, hab⟩
    exact ⟨hev, d, hd, by rw [← natAbs_wnFlat_conjIdx D N h d hD hN hh hd]; exact hab⟩
  · rintro ⟨hev, d, hd, hab⟩
    exact ⟨hev, d, hd, by rw [natAbs_wnFlat_conjIdx D N h d hD hN hh hd]; exact hab⟩

theorem wnFlat_conjIdx_of_not_nyq (D N h : ℕ) (hD : 0 < D) (hN : 0 < N) (hh : h < numModes D N)
    (hw : herm_weight D N h = 1) (hq : ¬ NyqMode D N h) :
    wnFlat D N (conjIdx D N h) = (wnFlat D N h).map (fun k => -k) :=
  wnFlat_conjIdx_neg D N h hD hN hh hw (fun d hd hev hab => hq ⟨hev, d, hd, hab⟩)

/-- the condition on the symbol for Nyquist-free spectra: Hermitian on the self-conjugate columns
    OFF the Nyquist modes (nothing is asked at the Nyquist modes) -/
def HermOffNyq (D N : ℕ) (e : ℕ → ℂ) : Prop :=
  ∀ h < numModes D N, herm_weight D N h = 1 → ¬ NyqMode D N h →
    e (conjIdx D N h) = (starRingEnd ℂ) (e h)

theorem hermOffNyq_of_hermSymbol (D N : ℕ) (e : ℕ → ℂ) (he : HermSymbol D N e) : HermOffNyq D N e :=
  fun h hh hw _ => he h hh hw

theorem odd_grid_hermOffNyq_iff (D N : ℕ) (hodd : N % 2 = 1) (e : ℕ → ℂ) :
    HermOffNyq D N e ↔ HermSymbol D N e :=
  ⟨fun he h hh hw => he h hh hw (odd_grid_not_nyqMode D N h hodd), hermOffNyq_of_hermSymbol D N e⟩

/-- **every grid, any `D`**: a symbol `e_h = g(k(h))` with `g(−k) = conj g(k)` — every linear operator
    with real coefficients, ODD orders (advection, dispersion) included, and its exponential / ETDRK
    coefficients — is Hermitian on the self-conjugate columns off the Nyquist modes. -/
theorem hermOffNyq_of_wavenumber (D N : ℕ) (hD : 0 < D) (hN : 0 < N) (g : List ℤ → ℂ)
    (hg : ∀ k : List ℤ, g (k.map (fun x => -x)) = (starRingEnd ℂ) (g k)) :
    HermOffNyq D N (fun h => g (wnFlat D N h)) := by
  intro h hh hw hq
  show g (wnFlat D N (conjIdx D N h)) = _
  rw [wnFlat_conjIdx_of_not_nyq D N h hD hN hh hw hq, hg]

/-- the core: a diagonal step with a symbol Hermitian off the Nyquist modes, applied to a realisable
    spectrum such that the PRODUCT vanishes at the Nyquist modes, gives a realisable Nyquist-free
    spectrum -/
theorem diag_realisable_nyqFree_of_product (D N : ℕ) (hD : 0 < D) (hN : 0 < N) (e : ℕ → ℂ)
    (he : HermOffNyq D N e) (C : Array ℂ) (hC : Realisable D N C)
    (hz : ∀ h < numModes D N, NyqMode D N h → e h * C.getD h 0 = 0) :
    Realisable D N (diagStep D N e C) ∧ NyqFree D N (diagStep D N e C) := by
  refine ⟨⟨tab_size _ _, ?_⟩, ?_⟩
  · intro h hh hw
    have hσ := conjIdx_lt D N h hD hN
    rw [diagStep_getD D N e C h hh, diagStep_getD D N e C _ hσ]
    by_cases hq : NyqMode D N h
    · rw [hz h hh hq, hz _ hσ ((nyqMode_conjIdx_iff D N h hD hN hh).mpr hq), map_zero]
    · rw [map_mul, he h hh hw hq, Complex.conj_conj, ← hC.2 h hh hw]
  · intro h hh hq
    rw [diagStep_getD D N e C h hh]
    exact hz h hh hq

theorem diag_preserves_realisable_nyqFree (D N : ℕ) (hD : 0 < D) (hN : 0 < N) (e : ℕ → ℂ)
    (he : HermOffNyq D N e) (C : Array ℂ) (hC : Realisable D N C) (hP : NyqFree D N C) :
    Realisable D N (diagStep D N e C) ∧ NyqFree D N (diagStep D N e C) :=
  diag_realisable_nyqFree_of_product D N hD hN e he C hC
    (fun h hh hq => by rw [hP h hh hq, mul_zero])

theorem repeated_loop_diag_nyqFree (D N : ℕ) (hD : 0 < D) (hN : 0 < N) (e : ℕ → ℂ)
    (he : HermOffNyq D N e) (u : Array ℂ) (hu : RealState D N u)
    (hP : NyqFree D N (rfftnM D N u)) (n : ℕ) :
    Loops.repeatN (fun v => irfftnM D N (diagStep D N e (rfftnM D N v))) n u
      = irfftnM D N (Loops.repeatedStepFourier (diagStep D N e) n (rfftnM D N u)) :=
  repeatedStepper_eq_loop_of_invariant D N hD hN (diagStep D N e) (NyqFree D N)
    (fun C hC hPC => diag_preserves_realisable_nyqFree D N hD hN e he C hC hPC) u hu hP n

/-- **THE NYQUIST-FREE CASE, every grid.**  For a linear step with a symbol `g(k)`, `g(−k) = conj g(k)`
    (odd-order symbols included), ANY `N` (even included) and every real grid state whose spectrum
    vanishes at the Nyquist modes, the repeated stepper equals the physical-space loop, every `n`. -/
theorem repeated_loop_wavenumber_nyqFree (D N : ℕ) (hD : 0 < D) (hN : 0 < N)
    (g : List ℤ → ℂ) (hg : ∀ k : List ℤ, g (k.map (fun x => -x)) = (starRingEnd ℂ) (g k))
    (u : Array ℂ) (hu : RealState D N u) (hP : NyqFree D N (rfftnM D N u)) (n : ℕ) :
    Loops.repeatN (fun v => irfftnM D N (diagStep D N (fun h => g (wnFlat D N h)) (rfftnM D N v))) n u
      = irfftnM D N (Loops.repeatedStepFourier (diagStep D N (fun h => g (wnFlat D N h))) n
          (rfftnM D N u)) :=
  repeated_loop_diag_nyqFree D N hD hN _ (hermOffNyq_of_wavenumber D N hD hN g hg) u hu hP n

/-- the odd-grid theorem `C14_repeated_linear_odd_grid` is the special case without Nyquist modes -/
theorem odd_grid_repeated_loop_wavenumber' (D N : ℕ) (hD : 0 < D) (hodd : N % 2 = 1)
    (g : List ℤ → ℂ) (hg : ∀ k : List ℤ, g (k.map (fun x => -x)) = (starRingEnd ℂ) (g k))
    (u : Array ℂ) (hu : RealState D N u) (n : ℕ) :
    Loops.repeatN (fun v => irfftnM D N (diagStep D N (fun h => g (wnFlat D N h)) (rfftnM D N v))) n u
      = irfftnM D N (Loops.repeatedStepFourier (diagStep D N (fun h => g (wnFlat D N h))) n
          (rfftnM D N u)) :=
  repeated_loop_wavenumber_nyqFree D N hD (by omega) g hg u hu (odd_grid_nyqFree D N hodd _) n

theorem nyqFree_add (D N : ℕ) (A B : Array ℂ) (hA : NyqFree D N A) (hB : NyqFree D N B) :
    NyqFree D N (addSpec D N A B) := by
  intro h hh hq
  unfold addSpec
  rw [tab_getD _ _ _ _ hh, hA h hh hq, hB h hh hq, add_zero]

theorem etd_step_preserves_nyqFree (D N : ℕ) (hD : 0 < D) (hN : 0 < N) (e c : ℕ → ℂ)
    (he : HermOffNyq D N e) (hc : HermOffNyq D N c) (𝒩 : Array ℂ → Array ℂ)
    (h𝒩 : ∀ v, RealState D N v → ∀ j < N ^ D, ((𝒩 v).getD j 0).im = 0)
    (hnl : ∀ C, Realisable D N C → NyqFree D N C → ∀ h < numModes D N, NyqMode D N h →
      c h * (rfftnM D N (𝒩 (irfftnM D N C))).getD h 0 = 0)
    (C : Array ℂ) (hC : Realisable D N C) (hP : NyqFree D N C) :
    Realisable D N (addSpec D N (diagStep D N e C)
        (diagStep D N c (rfftnM D N (𝒩 (irfftnM D N C))))) ∧
      NyqFree D N (addSpec D N (diagStep D N e C)
        (diagStep D N c (rfftnM D N (𝒩 (irfftnM D N C))))) := by
  have h1 := diag_preserves_realisable_nyqFree D N hD hN e he C hC hP
  have h2 := diag_realisable_nyqFree_of_product D N hD hN c hc _
    (nonlin_spectrum_realisable D N hD hN 𝒩 h𝒩 C) (hnl C hC hP)
  exact ⟨realisable_add D N hD hN _ _ h1.1 h2.1, nyqFree_add D N _ _ h1.2 h2.2⟩

/-- **loop = sub-stepping for ETD-Euler-type steps on Nyquist-free real states** (general form: the
    nonlinear contribution is empty at the Nyquist modes) -/
theorem repeated_loop_etd_nyqFree (D N : ℕ) (hD : 0 < D) (hN : 0 < N) (e c : ℕ → ℂ)
    (he : HermOffNyq D N e) (hc : HermOffNyq D N c) (𝒩 : Array ℂ → Array ℂ)
    (h𝒩 : ∀ v, RealState D N v → ∀ j < N ^ D, ((𝒩 v).getD j 0).im = 0)
    (hnl : ∀ C, Realisable D N C → NyqFree D N C → ∀ h < numModes D N, NyqMode D N h →
      c h * (rfftnM D N (𝒩 (irfftnM D N C))).getD h 0 = 0)
    (u : Array ℂ) (hu : RealState D N u) (hP : NyqFree D N (rfftnM D N u)) (n : ℕ) :
    Loops.repeatN (fun v => irfftnM D N ((fun C => addSpec D N (diagStep D N e C)
        (diagStep D N c (rfftnM D N (𝒩 (irfftnM D N C))))) (rfftnM D N v))) n u
      = irfftnM D N (Loops.repeatedStepFourier (fun C => addSpec D N (diagStep D N e C)
        (diagStep D N c (rfftnM D N (𝒩 (irfftnM D N C))))) n (rfftnM D N u)) :=
  repeatedStepper_eq_loop_of_invariant D N hD hN _ (NyqFree D N)
    (fun C hC hPC => etd_step_preserves_nyqFree D N hD hN e c he hc 𝒩 h𝒩 hnl C hC hPC) u hu hP n

open Classical in
/-- a symbol with the Nyquist modes masked out (what a dealiasing mask with cut-off below `N/2` does) -/
noncomputable def maskNyq (D N : ℕ) (c : ℕ → ℂ) : ℕ → ℂ :=
  fun h => if NyqMode D N h then 0 else c h

theorem maskNyq_of_nyq (D N : ℕ) (c : ℕ → ℂ) (h : ℕ) (hq : NyqMode D N h) : maskNyq D N c h = 0 := by
  unfold maskNyq; rw [if_pos hq]

theorem maskNyq_of_not_nyq (D N : ℕ) (c : ℕ → ℂ) (h : ℕ) (hq : ¬ NyqMode D N h) :
    maskNyq D N c h = c h := by
  unfold maskNyq; rw [if_neg hq]

theorem hermOffNyq_maskNyq (D N : ℕ) (hD : 0 < D) (hN : 0 < N) (c : ℕ → ℂ) (hc : HermOffNyq D N c) :
    HermOffNyq D N (maskNyq D N c) := by
  intro h hh hw hq
  rw [maskNyq_of_not_nyq D N c h hq,
    maskNyq_of_not_nyq D N c _ (fun hq' => hq ((nyqMode_conjIdx_iff D N h hD hN hh).mp hq'))]
  exact hc h hh hw hq

/-! ### non-vacuity: an even grid, an odd-order symbol, a concrete Nyquist-free real state -/

/-- the first-derivative symbol `g(k) = i k_0` satisfies `g(−k) = conj g(k)` -/
theorem deriv_symbol_herm : ∀ k : List ℤ,
    (fun k : List ℤ => Complex.I * ((k.getD 0 0 : ℤ) : ℂ)) (k.map (fun x => -x))
      = (starRingEnd ℂ) ((fun k : List ℤ => Complex.I * ((k.getD 0 0 : ℤ) : ℂ)) k) := by
  intro k
  simp only [getD_zero_map_neg, map_mul, Complex.conj_I, map_intCast, Int.cast_neg]
  ring

/-- the cosine `(1, 0, −1, 0)` on the 4-point grid is a real grid state … -/
theorem realState_cos4 : RealState 1 4 #[(1 : ℂ), 0, -1, 0] := by
  refine ⟨rfl, ?_⟩
  intro j hj
  have : j = 0 ∨ j = 1 ∨ j = 2 ∨ j = 3 := by omega
  rcases this with rfl | rfl | rfl | rfl <;> simp

/-- on the 4-point grid the only Nyquist mode is the stored index `2` -/
theorem nyqMode_1_4 (h : ℕ) (hh : h < numModes 1 4) : NyqMode 1 4 h ↔ h = 2 := by
  have hh' : h < 3 := by rw [numModes_one] at hh; omega
  have hk : (wnFlat 1 4 h).getD 0 0 = ((h : ℕ) : ℤ) := by
    rw [wnFlat_getD_last 0 4 h hh, Nat.mod_eq_of_lt (by omega)]
  constructor
  · rintro ⟨_, d, hd, hab⟩
    have hd0 : d = 0 := by omega
    rw [hd0, hk, Int.natAbs_natCast] at hab
    omega
  · rintro rfl
    exact ⟨rfl, 0, by norm_num, by rw [hk]; rfl⟩

/-- … whose Nyquist coefficient vanishes … -/
theorem rfft_cos4_nyquist : (rfftnM 1 4 #[(1 : ℂ), 0, -1, 0]).getD 2 0 = 0 := by
  rw [rfft1_getD 4 (by norm_num) _ 2 (by norm_num), dft, Finset.sum_range_succ, Finset.sum_range_succ,
    Finset.sum_range_succ, Finset.sum_range_one]
  have h4n : zeta 4 ^ (4 : ℕ) = 1 := zeta_pow_self 4
  simp
  rw [h4n]; ring

/-- … so it is Nyquist-free … -/
theorem nyqFree_cos4 : NyqFree 1 4 (rfftnM 1 4 #[(1 : ℂ), 0, -1, 0]) := by
  intro h hh hq
  rw [(nyqMode_1_4 h hh).mp hq]
  exact rfft_cos4_nyquist

/-- … but not trivially: its spectrum is not zero (`û_1 = 2`) -/
theorem rfft_cos4_one : (rfftnM 1 4 #[(1 : ℂ), 0, -1, 0]).getD 1 0 = 2 := by
  rw [rfft1_getD 4 (by norm_num) _ 1 (by norm_num), dft, Finset.sum_range_succ, Finset.sum_range_succ,
    Finset.sum_range_succ, Finset.sum_range_one]
  have h2n : zeta 4 ^ (2 : ℕ) = -1 := by
    have hp := zeta_isPrimitiveRoot 4 (by norm_num)
    have hsq : (zeta 4 ^ 2) ^ 2 = 1 := by rw [← pow_mul]; exact hp.pow_eq_one
    have hne : zeta 4 ^ 2 ≠ 1 := hp.pow_ne_one_of_pos_of_lt (by norm_num) (by norm_num)
    rcases sq_eq_one_iff.mp hsq with h | h
    · exact absurd h hne
    · exact h
  simp
  rw [h2n]; ring

end Exponax.C2R
