import ExponaxModel.Proofs.AliasND2
import ExponaxModel.Proofs.SymmetryND
/-
C12, tools (every dimension `D`, every `N ≥ 1`, ANY mask configuration — no Nyquist proviso).

A grid field that depends on the coordinate of ONE axis `e0` only has its stored spectrum on the line `k_d = 0 (d ≠ e0)`
(shift theorem `rfftn_rollND`), and conversely.  For a REAL state `x` and ANY stored multiplier `ρ` the full spectrum of
`ifft(mask·ρ·x̂)` is `X(m)·Φ_ρ(m)` with an explicit cover sum `Φ_ρ`, real-valued for real `mask·ρ` and purely imaginary for
purely imaginary `mask·ρ`.  Hence the discrete `∫ (R x)(J x) = 0` (`sum_real_imag_mul_zero`; e.g. `ρ₁ = 1`, `ρ₂ = −i s k_d`:
`∫ u ∂_d u = 0`) — even `N` with Nyquist content included: the Hermitian symmetry of `x̂` and the real part taken by the c2r
transform do it.
-/
namespace Exponax.SmallGaps3
open Exponax Exponax.Layout Exponax.Transform Exponax.DFT Exponax.Nonlin Exponax.Alias Exponax.AliasND Finset

def AxisOnly (D N e0 : ℕ) (q : Array ℂ) : Prop :=
  ∀ x x', x < N ^ D → x' < N ^ D → digit D N x e0 = digit D N x' e0 → q.getD x 0 = q.getD x' 0

def unitS (D d : ℕ) : List ℤ := (List.range D).map (fun i => if i = d then 1 else 0)

theorem unitS_getD (D d i : ℕ) (hi : i < D) : (unitS D d).getD i 0 = if i = d then 1 else 0 := by
  simp [unitS, List.getD_eq_getElem?_getD, hi]

theorem dotKS_unitS (D d : ℕ) (hd : d < D) (k : List ℤ) : SymmetryND.dotKS D k (unitS D d) = k.getD d 0 := by
  unfold SymmetryND.dotKS
  rw [Finset.sum_eq_single d]
  · rw [unitS_getD D d d hd, if_pos rfl, mul_one]
  · intro i hi hne
    rw [unitS_getD D d i (Finset.mem_range.mp hi), if_neg hne, mul_zero]
  · intro h
    exact absurd (Finset.mem_range.mpr hd) h

theorem rfftn_axisOnly_support (D N : ℕ) (hD : 0 < D) (hN : 0 < N) (e0 : ℕ) (he0 : e0 < D) (q : Array ℂ)
    (hq : AxisOnly D N e0 q) (h : ℕ) (hh : h < numModes D N) (hne : (rfftnM D N q).getD h 0 ≠ 0) (d : ℕ) (hd : d < D)
    (hde : d ≠ e0) : (wnFlat D N h).getD d 0 = 0 := by
  have hroll : ∀ j < N ^ D, (SymmetryND.rollND D N q (unitS D d)).getD j 0 = q.getD j 0 := by
    intro j hj
    rw [SymmetryND.rollND_getD D N q _ j hj]
    apply hq _ _ (SymmetryND.rollIdx_lt D N hN _ j) hj
    have hdig : ((digit D N j e0 : ℕ) : ℤ) < (N : ℤ) := by exact_mod_cast DFT.digit_lt D N j e0 hN
    rw [SymmetryND.digit_rollIdx D N hN _ j e0 he0, unitS_getD D d e0 he0, if_neg (fun h' => hde h'.symm), sub_zero,
      Int.emod_eq_of_lt (by positivity) hdig, Int.toNat_natCast]
  have e1 := congrArg (fun A : Array ℂ => A.getD h 0) (DFT.rfftnM_congr D N _ q hroll)
  rw [SymmetryND.rfftn_rollND D N hN q _ h hh, dotKS_unitS D d hd] at e1
  have h1 : twiddle N ((wnFlat D N h).getD d 0) = (1 : ℂ) := by
    have : (twiddle N ((wnFlat D N h).getD d 0) - 1) * (rfftnM D N q).getD h 0 = 0 := by
      rw [sub_mul, e1, one_mul, sub_self]
    rcases mul_eq_zero.mp this with h0 | h0
    · exact sub_eq_zero.mp h0
    · exact absurd h0 hne
  rw [twiddle_eq_zpow, DFT.zeta_zpow_eq_one_iff N hN] at h1
  have hb : |(wnFlat D N h).getD d 0| ≤ ((N / 2 : ℕ) : ℤ) := kvec_abs_le D N h hD hN hh ⟨d, hd⟩
  apply Int.eq_zero_of_abs_lt_dvd h1
  have : (0 : ℤ) < N := by exact_mod_cast hN
  omega

theorem irfftn_axisOnly (D N : ℕ) (hN : 0 < N) (e0 : ℕ) (a : Array ℂ)
    (ha : ∀ h, h < numModes D N → a.getD h 0 ≠ 0 → ∀ d, d < D → d ≠ e0 → (wnFlat D N h).getD d 0 = 0) :
    AxisOnly D N e0 (irfftnM D N a) := by
  intro x x' hx hx' hdig
  rw [irfftnM_getD D N hN a x hx, irfftnM_getD D N hN a x' hx']
  refine congrArg (· / _) (Finset.sum_congr rfl fun h hh => ?_)
  by_cases h0 : a.getD h 0 = 0
  · rw [h0, zero_mul, zero_mul]
  · have hk := ha h (Finset.mem_range.mp hh) h0
    have : phaseK D N (wnFlat D N h) x = phaseK D N (wnFlat D N h) x' := by
      rw [phaseK_eq_sum, phaseK_eq_sum]
      refine Finset.sum_congr rfl fun d hd => ?_
      by_cases hde : d = e0
      · rw [hde, hdig]
      · rw [hk d (Finset.mem_range.mp hd) hde, zero_mul, zero_mul]
    rw [this]

theorem nifft_axisOnly (c : Cfg ℂ) (hN : 0 < c.N) (e0 : ℕ) (a : Array ℂ)
    (ha : ∀ h, h < modes c → a.getD h 0 ≠ 0 → ∀ d, d < c.D → d ≠ e0 → (wnFlat c.D c.N h).getD d 0 = 0) :
    AxisOnly c.D c.N e0 (nifft c a) := by
  unfold nifft
  apply irfftn_axisOnly c.D c.N hN e0
  intro h hh hne d hd hde
  have hh' : h < modes c := hh
  rw [Nonlin.tab_getD _ _ _ _ hh'] at hne
  exact ha h hh' (fun h0 => hne (by rw [h0, mul_zero])) d hd hde

theorem nfft_axisOnly_support (c : Cfg ℂ) (hD : 0 < c.D) (hN : 0 < c.N) (e0 : ℕ) (he0 : e0 < c.D) (Q : Array ℂ)
    (hQ : AxisOnly c.D c.N e0 Q) (hmean : ∑ j ∈ range (c.N ^ c.D), Q.getD j 0 = 0) (h : ℕ) (hh : h < modes c)
    (hne : (nfft c Q).getD h 0 ≠ 0) : (∀ d, d < c.D → d ≠ e0 → kInt c d h = 0) ∧ kInt c e0 h ≠ 0 := by
  rw [Alias.nfft_getD c Q h hh] at hne
  have hX : (rfftnM c.D c.N Q).getD h 0 ≠ 0 := right_ne_zero_of_mul hne
  have hk : ∀ d, d < c.D → d ≠ e0 → kInt c d h = 0 :=
    fun d hd hde => rfftn_axisOnly_support c.D c.N hD hN e0 he0 Q hQ h hh hX d hd hde
  refine ⟨hk, fun k1 => hX ?_⟩
  have hz : h = 0 := (wnFlat_eq_zero_iff c.D c.N h hD hN hh).mp fun d hd => by
    by_cases hde : d = e0
    · rw [hde]; exact k1
    · exact hk d hd hde
  rw [hz, Conserve.rfftnM_zero_mode c.D c.N hN Q, hmean]

/-- the cover sum of the multiplier `z_h = mask_h ρ_h`: weight with which `X(m)` appears in the spectrum of `ifft(z·x̂)` -/
noncomputable def coverMul (D N : ℕ) (z : ℕ → ℂ) (m : Fin D → ℤ) : ℂ :=
  ∑ h ∈ range (numModes D N), ((herm_weight D N h : ℂ) / 2) *
    (z h * (if ∀ d, (N : ℤ) ∣ m d - kvec D N h d then 1 else 0)
      + (starRingEnd ℂ) (z h) * (if ∀ d, (N : ℤ) ∣ m d + kvec D N h d then 1 else 0))

theorem dftV_nifft_mul_rfftn (c : Cfg ℂ) (hN : 0 < c.N) (x : Array ℂ) (hx : IsRealND c.D c.N x) (ρ : ℕ → ℂ)
    (m : Fin c.D → ℤ) :
    dftV c.D c.N (nifft c (tab (modes c) fun h => ρ h * (rfftnM c.D c.N x).getD h 0)) m
      = dftV c.D c.N x m * coverMul c.D c.N (fun h => mask c h * ρ h) m := by
  rw [dftV_nifft c hN]
  unfold coverMul
  rw [Finset.mul_sum]
  apply Finset.sum_congr rfl
  intro h hh
  have hh' : h < modes c := Finset.mem_range.mp hh
  rw [DFT.tab_getD _ _ _ _ hh', rfftn_eq_dftV c.D c.N hN x h (Finset.mem_range.mp hh)]
  have e1 : dftV c.D c.N x (kvec c.D c.N h) * (if ∀ d, (c.N : ℤ) ∣ m d - kvec c.D c.N h d then (1 : ℂ) else 0)
      = dftV c.D c.N x m * (if ∀ d, (c.N : ℤ) ∣ m d - kvec c.D c.N h d then 1 else 0) := by
    split_ifs with hc
    · rw [dftV_of_congr x (show VCongr c.D c.N m (kvec c.D c.N h) from hc)]
    · rw [mul_zero, mul_zero]
  have e2 : dftV c.D c.N x (-kvec c.D c.N h) * (if ∀ d, (c.N : ℤ) ∣ m d + kvec c.D c.N h d then (1 : ℂ) else 0)
      = dftV c.D c.N x m * (if ∀ d, (c.N : ℤ) ∣ m d + kvec c.D c.N h d then 1 else 0) := by
    split_ifs with hc
    · rw [dftV_of_congr x (show VCongr c.D c.N m (-kvec c.D c.N h) from fun d => by
        rw [Pi.neg_apply, sub_neg_eq_add]; exact hc d)]
    · rw [mul_zero, mul_zero]
  rw [map_mul, map_mul, conj_dftV c.D c.N x hx, map_mul]
  linear_combination ((herm_weight c.D c.N h : ℂ) / 2 * (mask c h * ρ h)) * e1
    + ((herm_weight c.D c.N h : ℂ) / 2 * ((starRingEnd ℂ) (mask c h) * (starRingEnd ℂ) (ρ h))) * e2

theorem ind_im (p : Prop) [Decidable p] : (if p then (1 : ℂ) else 0).im = 0 := by
  split_ifs
  · exact Complex.one_im
  · exact Complex.zero_im

theorem herm_weight_half (D N h : ℕ) : ((herm_weight D N h : ℂ) / 2) = (((herm_weight D N h : ℝ) / 2 : ℝ) : ℂ) := by
  push_cast; ring

theorem coverMul_im_of_real (D N : ℕ) (z : ℕ → ℂ) (hz : ∀ h, (z h).im = 0) (m : Fin D → ℤ) :
    (coverMul D N z m).im = 0 := by
  unfold coverMul
  rw [Complex.im_sum]
  refine Finset.sum_eq_zero fun h _ => ?_
  rw [herm_weight_half, Complex.im_ofReal_mul]
  simp only [Complex.add_im, Complex.mul_im, Complex.conj_im, hz h, ind_im, neg_zero, mul_zero, zero_mul, add_zero]

theorem coverMul_re_of_imag (D N : ℕ) (z : ℕ → ℂ) (hz : ∀ h, (z h).re = 0) (m : Fin D → ℤ) :
    (coverMul D N z m).re = 0 := by
  unfold coverMul
  rw [Complex.re_sum]
  refine Finset.sum_eq_zero fun h _ => ?_
  rw [herm_weight_half, Complex.re_ofReal_mul]
  simp only [Complex.add_re, Complex.mul_re, Complex.conj_re, hz h, ind_im, mul_zero, zero_mul, sub_zero, add_zero]

theorem sum_real_imag_mul_zero (c : Cfg ℂ) (hN : 0 < c.N) (x : Array ℂ) (hx : IsRealND c.D c.N x) (ρ1 ρ2 : ℕ → ℂ)
    (h1 : ∀ h, (mask c h * ρ1 h).im = 0) (h2 : ∀ h, (mask c h * ρ2 h).re = 0) :
    ∑ j ∈ range (c.N ^ c.D),
        (nifft c (tab (modes c) fun h => ρ1 h * (rfftnM c.D c.N x).getD h 0)).getD j 0
          * (nifft c (tab (modes c) fun h => ρ2 h * (rfftnM c.D c.N x).getD h 0)).getD j 0 = 0 := by
  set A := nifft c (tab (modes c) fun h => ρ1 h * (rfftnM c.D c.N x).getD h 0) with hA
  set B := nifft c (tab (modes c) fun h => ρ2 h * (rfftnM c.D c.N x).getD h 0) with hB
  have hAr : IsRealND c.D c.N A := nifft_isRealND c _
  have hBr : IsRealND c.D c.N B := nifft_isRealND c _
  apply Complex.ext
  · -- real part: every term of the circular Parseval sum is purely imaginary
    rw [← dftV_zero_eq_sum c.D c.N (fun j => A.getD j 0 * B.getD j 0), dftV_mul c.D c.N hN A B 0]
    have e : (1 / ((c.N ^ c.D : ℕ) : ℂ)) = (((1 / ((c.N ^ c.D : ℕ) : ℝ)) : ℝ) : ℂ) := by push_cast; ring
    rw [e, Complex.re_ofReal_mul, Complex.re_sum, Complex.zero_re]
    apply mul_eq_zero_of_right
    apply Finset.sum_eq_zero
    intro a _
    rw [hA, hB, dftV_nifft_mul_rfftn c hN x hx ρ1, dftV_nifft_mul_rfftn c hN x hx ρ2, zero_sub,
      ← conj_dftV c.D c.N x hx (digZ c.D c.N a)]
    have r1 := coverMul_im_of_real c.D c.N (fun h => mask c h * ρ1 h) h1 (digZ c.D c.N a)
    have r2 := coverMul_re_of_imag c.D c.N (fun h => mask c h * ρ2 h) h2 (-digZ c.D c.N a)
    set X := dftV c.D c.N x (digZ c.D c.N a)
    set P := coverMul c.D c.N (fun h => mask c h * ρ1 h) (digZ c.D c.N a)
    set Q := coverMul c.D c.N (fun h => mask c h * ρ2 h) (-digZ c.D c.N a)
    have hXX : (X * (starRingEnd ℂ) X).im = 0 := by
      rw [Complex.mul_conj]; exact Complex.ofReal_im _
    have : X * P * ((starRingEnd ℂ) X * Q) = (X * (starRingEnd ℂ) X) * (P * Q) := by ring
    have hPQ : (P * Q).re = 0 := by rw [Complex.mul_re, r1, r2]; ring
    rw [this, Complex.mul_re, hXX, hPQ]
    ring
  · rw [Complex.im_sum, Complex.zero_im]
    apply Finset.sum_eq_zero
    intro j hj
    have hj' := Finset.mem_range.mp hj
    rw [Complex.mul_im, hAr j hj', hBr j hj']
    ring

end Exponax.SmallGaps3
