import ExponaxModel.Proofs.RepeatedPhysicalEtdrk
import ExponaxModel.Proofs.RepeatedPhysicalWavenumber
import ExponaxModel.Proofs.StoredCoef
/-
C14 — the stored contour-integral coefficients of ETDRK1–4 inherit the Hermitian symmetry of the linear symbol: with real
`dt` and real circle radius `r` (every `M`), `conj (coef (dt, λ, M, r)) = coef (dt, conj λ, M, r)` for all fourteen
regenerated coefficients (`conj_storedCoef`).  Each coefficient is `dt ×` the mean over the generated nodes
`ζ_j = exp(2πi (j − 1/2)/M)` of a rational function of `exp` with real coefficients (`rawPhi`, `storedCoef_eq_rawMean`),
and conjugation maps the node list to its reversal (`conj_root_of_unity`).  So for a `HermSymbol` linear symbol, real `dt`,
`r` and a pseudo-spectral nonlinear term, `RepeatedStepper`'s evaluation equals the physical loop with no hypothesis left
on coefficients or nonlinearity (`repeatedStepper_eq_loop_etdrk0 … 4`).
-/
namespace Exponax.C2R
open Exponax Exponax.Layout Exponax.Transform Exponax.DFT Exponax.Conserve Finset Exponax.Gen.Etdrk
open Exponax.Spec Exponax.ContourComplex

/-- conjugation reflects the generated nodes: `conj ζ_{i+1} = ζ_{M−i}` (`i < M`) -/
theorem conj_root_of_unity (M i : ℕ) (hi : i < M) :
    (starRingEnd ℂ) (root_of_unity M (i + 1) : ℂ) = root_of_unity M (M - 1 - i + 1) := by
  obtain ⟨j, rfl⟩ : ∃ j, M = i + 1 + j := ⟨M - (i + 1), by omega⟩
  have hj : i + 1 + j - 1 - i + 1 = j + 1 := by omega
  rw [hj]
  simp only [root_of_unity, hasExp_complex, lit_eq, qlit_eq, hasI_complex, hasPi_complex]
  rw [← Complex.exp_conj, Complex.exp_eq_exp_iff_exists_int]
  refine ⟨-1, ?_⟩
  have hM : ((i + 1 + j : ℕ) : ℂ) ≠ 0 := Nat.cast_ne_zero.mpr (by omega)
  simp only [map_div₀, map_mul, map_sub, map_natCast, Complex.conj_I, Complex.conj_ofReal]
  rw [div_add' _ _ _ hM, div_left_inj' hM]
  push_cast
  ring

theorem roots_sum_reflect (M : ℕ) (F : ℂ → ℂ) :
    ((roots_of_unity (K := ℂ) M).map (fun ζ => F ((starRingEnd ℂ) ζ))).sum
      = ((roots_of_unity (K := ℂ) M).map F).sum := by
  simp only [roots_of_unity, List.map_map]
  rw [list_range_map_sum, list_range_map_sum]
  rw [← Finset.sum_range_reflect (fun i => (F ∘ fun i => (root_of_unity M (i + 1) : ℂ)) i) M]
  apply Finset.sum_congr rfl
  intro i hi
  simp only [Function.comp]
  rw [conj_root_of_unity M i (Finset.mem_range.mp hi)]

theorem conj_contourMean (M : ℕ) (r z : ℂ) (f : ℂ → ℂ)
    (hf : ∀ w, (starRingEnd ℂ) (f w) = f ((starRingEnd ℂ) w)) :
    (starRingEnd ℂ) (contourMean (roots_of_unity M) r f z)
      = contourMean (roots_of_unity M) ((starRingEnd ℂ) r) f ((starRingEnd ℂ) z) := by
  rw [contourMean_eq, contourMean_eq, map_div₀, map_natCast, map_list_sum, List.map_map]
  congr 1
  rw [← roots_sum_reflect M (fun ζ => f ((starRingEnd ℂ) r * ζ + (starRingEnd ℂ) z))]
  congr 1
  apply List.map_congr_left
  intro ζ _
  simp only [Function.comp, hf, map_add, map_mul]

theorem conj_phi1 (w : ℂ) : (starRingEnd ℂ) (phi1 w) = phi1 ((starRingEnd ℂ) w) := by
  simp only [phi1, hasExp_complex, map_div₀, map_sub, map_one, Complex.exp_conj]

theorem conj_phi2 (w : ℂ) : (starRingEnd ℂ) (Spec.phi2 w) = Spec.phi2 ((starRingEnd ℂ) w) := by
  simp only [Spec.phi2, hasExp_complex, map_div₀, map_sub, map_mul, map_one, Complex.exp_conj]

theorem conj_phi3 (w : ℂ) : (starRingEnd ℂ) (phi3 w) = phi3 ((starRingEnd ℂ) w) := by
  simp only [phi3, hasExp_complex, lit_eq, map_div₀, map_sub, map_mul, map_one, map_natCast,
    Complex.exp_conj]

theorem conj_rawPhi (w : ℂ) : ∀ i : Fin 14,
    (starRingEnd ℂ) (rawPhi w i) = rawPhi ((starRingEnd ℂ) w) i := by
  unfold rawPhi
  simp only [Fin.forall_fin_succ, Matrix.cons_val_zero, Matrix.cons_val_succ, map_div₀, map_sub, map_add,
    map_mul, map_ofNat, conj_phi1, conj_phi2, conj_phi3, true_and, IsEmpty.forall_iff]

theorem conj_storedCoef' (dt lam r : ℂ) (M : ℕ) (i : Fin 14) :
    (starRingEnd ℂ) (storedCoef dt lam M r i)
      = storedCoef ((starRingEnd ℂ) dt) ((starRingEnd ℂ) lam) M ((starRingEnd ℂ) r) i := by
  rw [storedCoef_eq_rawMean, storedCoef_eq_rawMean, map_mul,
    conj_contourMean M r (lam * dt) (fun w => rawPhi w i) (fun w => conj_rawPhi w i), map_mul]

theorem conj_storedCoef (dt r : ℝ) (lam : ℂ) (M : ℕ) (i : Fin 14) :
    (starRingEnd ℂ) (storedCoef (dt : ℂ) lam M (r : ℂ) i)
      = storedCoef (dt : ℂ) ((starRingEnd ℂ) lam) M (r : ℂ) i := by
  rw [conj_storedCoef', Complex.conj_ofReal, Complex.conj_ofReal]

theorem hermSymbol_storedCoef (D N : ℕ) (dt r : ℝ) (M : ℕ) (lam : ℕ → ℂ) (hl : HermSymbol D N lam)
    (i : Fin 14) : HermSymbol D N (fun h => storedCoef (dt : ℂ) (lam h) M (r : ℂ) i) := by
  intro h hh hw
  show storedCoef (dt : ℂ) (lam (conjIdx D N h)) M (r : ℂ) i
    = (starRingEnd ℂ) (storedCoef (dt : ℂ) (lam h) M (r : ℂ) i)
  rw [conj_storedCoef, hl h hh hw]

/-- the regenerated ETDRK0 step with the regenerated `exp_term` -/
noncomputable def etdrk0 (dt : ℝ) (lam : ℕ → ℂ) : (ℕ → ℂ) → (ℕ → ℂ) :=
  E0step (fun h => exp_term (dt : ℂ) (lam h))

/-- the regenerated ETDRK1 step with the regenerated coefficient formulas -/
noncomputable def etdrk1 (dt r : ℝ) (M : ℕ) (lam : ℕ → ℂ) (𝒩 : (ℕ → ℂ) → (ℕ → ℂ)) :
    (ℕ → ℂ) → (ℕ → ℂ) :=
  E1step (fun h => exp_term (dt : ℂ) (lam h)) (fun h => E1_coef_1 (dt : ℂ) (lam h) M (r : ℂ)) 𝒩

noncomputable def etdrk2 (dt r : ℝ) (M : ℕ) (lam : ℕ → ℂ) (𝒩 : (ℕ → ℂ) → (ℕ → ℂ)) :
    (ℕ → ℂ) → (ℕ → ℂ) :=
  E2step (fun h => exp_term (dt : ℂ) (lam h)) (fun h => E2_coef_1 (dt : ℂ) (lam h) M (r : ℂ))
    (fun h => E2_coef_2 (dt : ℂ) (lam h) M (r : ℂ)) 𝒩

noncomputable def etdrk3 (dt r : ℝ) (M : ℕ) (lam : ℕ → ℂ) (𝒩 : (ℕ → ℂ) → (ℕ → ℂ)) :
    (ℕ → ℂ) → (ℕ → ℂ) :=
  E3step (fun h => exp_term (dt : ℂ) (lam h)) (fun h => E3_half_exp_term (dt : ℂ) (lam h) M (r : ℂ))
    (fun h => E3_coef_1 (dt : ℂ) (lam h) M (r : ℂ)) (fun h => E3_coef_2 (dt : ℂ) (lam h) M (r : ℂ))
    (fun h => E3_coef_3 (dt : ℂ) (lam h) M (r : ℂ)) (fun h => E3_coef_4 (dt : ℂ) (lam h) M (r : ℂ))
    (fun h => E3_coef_5 (dt : ℂ) (lam h) M (r : ℂ)) 𝒩

noncomputable def etdrk4 (dt r : ℝ) (M : ℕ) (lam : ℕ → ℂ) (𝒩 : (ℕ → ℂ) → (ℕ → ℂ)) :
    (ℕ → ℂ) → (ℕ → ℂ) :=
  E4step (fun h => exp_term (dt : ℂ) (lam h)) (fun h => E4_half_exp_term (dt : ℂ) (lam h) M (r : ℂ))
    (fun h => E4_coef_1 (dt : ℂ) (lam h) M (r : ℂ)) (fun h => E4_coef_2 (dt : ℂ) (lam h) M (r : ℂ))
    (fun h => E4_coef_3 (dt : ℂ) (lam h) M (r : ℂ)) (fun h => E4_coef_4 (dt : ℂ) (lam h) M (r : ℂ))
    (fun h => E4_coef_5 (dt : ℂ) (lam h) M (r : ℂ)) (fun h => E4_coef_6 (dt : ℂ) (lam h) M (r : ℂ)) 𝒩

theorem etdrk0_eq (dt : ℝ) (lam : ℕ → ℂ) :
    etdrk0 dt lam = E0step (fun h => exp_term (dt : ℂ) (lam h)) := rfl
theorem etdrk1_eq (dt r : ℝ) (M : ℕ) (lam : ℕ → ℂ) (𝒩 : (ℕ → ℂ) → (ℕ → ℂ)) :
    etdrk1 dt r M lam 𝒩 = E1step (fun h => exp_term (dt : ℂ) (lam h))
      (fun h => E1_coef_1 (dt : ℂ) (lam h) M (r : ℂ)) 𝒩 := rfl
theorem etdrk2_eq (dt r : ℝ) (M : ℕ) (lam : ℕ → ℂ) (𝒩 : (ℕ → ℂ) → (ℕ → ℂ)) :
    etdrk2 dt r M lam 𝒩 = E2step (fun h => exp_term (dt : ℂ) (lam h))
      (fun h => E2_coef_1 (dt : ℂ) (lam h) M (r : ℂ)) (fun h => E2_coef_2 (dt : ℂ) (lam h) M (r : ℂ)) 𝒩 := rfl
theorem etdrk3_eq (dt r : ℝ) (M : ℕ) (lam : ℕ → ℂ) (𝒩 : (ℕ → ℂ) → (ℕ → ℂ)) :
    etdrk3 dt r M lam 𝒩 = E3step (fun h => exp_term (dt : ℂ) (lam h))
      (fun h => E3_half_exp_term (dt : ℂ) (lam h) M (r : ℂ))
      (fun h => E3_coef_1 (dt : ℂ) (lam h) M (r : ℂ)) (fun h => E3_coef_2 (dt : ℂ) (lam h) M (r : ℂ))
      (fun h => E3_coef_3 (dt : ℂ) (lam h) M (r : ℂ)) (fun h => E3_coef_4 (dt : ℂ) (lam h) M (r : ℂ))
      (fun h => E3_coef_5 (dt : ℂ) (lam h) M (r : ℂ)) 𝒩 := rfl
theorem etdrk4_eq (dt r : ℝ) (M : ℕ) (lam : ℕ → ℂ) (𝒩 : (ℕ → ℂ) → (ℕ → ℂ)) :
    etdrk4 dt r M lam 𝒩 = E4step (fun h => exp_term (dt : ℂ) (lam h))
      (fun h => E4_half_exp_term (dt : ℂ) (lam h) M (r : ℂ))
      (fun h => E4_coef_1 (dt : ℂ) (lam h) M (r : ℂ)) (fun h => E4_coef_2 (dt : ℂ) (lam h) M (r : ℂ))
      (fun h => E4_coef_3 (dt : ℂ) (lam h) M (r : ℂ)) (fun h => E4_coef_4 (dt : ℂ) (lam h) M (r : ℂ))
      (fun h => E4_coef_5 (dt : ℂ) (lam h) M (r : ℂ)) (fun h => E4_coef_6 (dt : ℂ) (lam h) M (r : ℂ)) 𝒩 := rfl

section full
variable (D N : ℕ) (hD : 0 < D) (hN : 0 < N) (dt r : ℝ) (M : ℕ) (lam : ℕ → ℂ)
  (hl : HermSymbol D N lam) (m : ℕ → ℂ) (hm : HermSymbol D N m) (g : Array ℂ → Array ℂ)
  (hg : ∀ v, RealState D N v → ∀ j < N ^ D, ((g v).getD j 0).im = 0)
include hl

theorem etdrk_steps_hermSpec_of_symbol (𝒩 : (ℕ → ℂ) → (ℕ → ℂ))
    (h𝒩 : ∀ f, HermSpec D N f → HermSpec D N (𝒩 f)) (u : ℕ → ℂ) (hu : HermSpec D N u) :
    HermSpec D N (etdrk0 dt lam u) ∧ HermSpec D N (etdrk1 dt r M lam 𝒩 u) ∧
    HermSpec D N (etdrk2 dt r M lam 𝒩 u) ∧ HermSpec D N (etdrk3 dt r M lam 𝒩 u) ∧
    HermSpec D N (etdrk4 dt r M lam 𝒩 u) := by
  have he := hermSymbol_exp_term D N dt lam hl
  have c := hermSymbol_storedCoef D N dt r M lam hl
  exact ⟨Etdrk.E0step_pred (hermSpec_stepRel D N) he hu, Etdrk.E1step_pred (hermSpec_stepRel D N) h𝒩 he (c 0) hu,
    Etdrk.E2step_pred (hermSpec_stepRel D N) h𝒩 he (c 1) (c 2) hu,
    Etdrk.E3step_pred (hermSpec_stepRel D N) h𝒩 he (hermSymbol_half_exp_term_E3 D N dt r M lam hl) (c 3) (c 4) (c 5) (c 6)
      (c 7) hu,
    Etdrk.E4step_pred (hermSpec_stepRel D N) h𝒩 he (hermSymbol_half_exp_term_E4 D N dt r M lam hl) (c 8) (c 9) (c 10) (c 11)
      (c 12) (c 13) hu⟩

include hD hN

theorem repeatedStepper_eq_loop_etdrk0 (u : Array ℂ) (hu : RealState D N u) (n : ℕ) :
    Loops.repeatN (fun v => irfftnM D N (liftStep D N (etdrk0 dt lam) (rfftnM D N v))) n u
      = irfftnM D N (Loops.repeatedStepFourier (liftStep D N (etdrk0 dt lam)) n (rfftnM D N u)) :=
  repeatedStepper_eq_loop_lift D N hD hN _
    (fun f hf => (etdrk_steps_hermSpec_of_symbol D N dt 0 0 lam hl id (fun _ h => h) f hf).1)
    u hu n

include hm hg

theorem repeatedStepper_eq_loop_etdrk1 (u : Array ℂ) (hu : RealState D N u) (n : ℕ) :
    Loops.repeatN (fun v => irfftnM D N
        (liftStep D N (etdrk1 dt r M lam (pseudoNl D N m g)) (rfftnM D N v))) n u
      = irfftnM D N (Loops.repeatedStepFourier
          (liftStep D N (etdrk1 dt r M lam (pseudoNl D N m g))) n (rfftnM D N u)) :=
  repeatedStepper_eq_loop_lift D N hD hN _
    (fun f hf => (etdrk_steps_hermSpec_of_symbol D N dt r M lam hl _
      (fun f _ => pseudoNl_hermSpec D N hD hN m hm g hg f) f hf).2.1) u hu n

theorem repeatedStepper_eq_loop_etdrk2 (u : Array ℂ) (hu : RealState D N u) (n : ℕ) :
    Loops.repeatN (fun v => irfftnM D N
        (liftStep D N (etdrk2 dt r M lam (pseudoNl D N m g)) (rfftnM D N v))) n u
      = irfftnM D N (Loops.repeatedStepFourier
          (liftStep D N (etdrk2 dt r M lam (pseudoNl D N m g))) n (rfftnM D N u)) :=
  repeatedStepper_eq_loop_lift D N hD hN _
    (fun f hf => (etdrk_steps_hermSpec_of_symbol D N dt r M lam hl _
      (fun f _ => pseudoNl_hermSpec D N hD hN m hm g hg f) f hf).2.2.1) u hu n

theorem repeatedStepper_eq_loop_etdrk3 (u : Array ℂ) (hu : RealState D N u) (n : ℕ) :
    Loops.repeatN (fun v => irfftnM D N
        (liftStep D N (etdrk3 dt r M lam (pseudoNl D N m g)) (rfftnM D N v))) n u
      = irfftnM D N (Loops.repeatedStepFourier
          (liftStep D N (etdrk3 dt r M lam (pseudoNl D N m g))) n (rfftnM D N u)) :=
  repeatedStepper_eq_loop_lift D N hD hN _
    (fun f hf => (etdrk_steps_hermSpec_of_symbol D N dt r M lam hl _
      (fun f _ => pseudoNl_hermSpec D N hD hN m hm g hg f) f hf).2.2.2.1) u hu n

theorem repeatedStepper_eq_loop_etdrk4 (u : Array ℂ) (hu : RealState D N u) (n : ℕ) :
    Loops.repeatN (fun v => irfftnM D N
        (liftStep D N (etdrk4 dt r M lam (pseudoNl D N m g)) (rfftnM D N v))) n u
      = irfftnM D N (Loops.repeatedStepFourier
          (liftStep D N (etdrk4 dt r M lam (pseudoNl D N m g))) n (rfftnM D N u)) :=
  repeatedStepper_eq_loop_lift D N hD hN _
    (fun f hf => (etdrk_steps_hermSpec_of_symbol D N dt r M lam hl _
      (fun f _ => pseudoNl_hermSpec D N hD hN m hm g hg f) f hf).2.2.2.2) u hu n

end full

/-- all hypotheses of `C14_repeated_etdrk4_is_the_loop_odd_grid` hold together: `D = 1`, `N = 3`,
    advection–diffusion symbol `ℓ(k) = −c·i k₀ + ν (i k₀)²` (genuinely complex), trivial mask, the
    pointwise square, a constant real state -/
example (c ν : ℝ) :
    (3 : ℕ) % 2 = 1 ∧
    (∀ k : List ℤ, (fun k : List ℤ => -(c : ℂ) * (Complex.I * ((k.getD 0 0 : ℤ) : ℂ))
        + (ν : ℂ) * (Complex.I * ((k.getD 0 0 : ℤ) : ℂ)) ^ 2) (k.map (fun x => -x))
      = (starRingEnd ℂ) ((fun k : List ℤ => -(c : ℂ) * (Complex.I * ((k.getD 0 0 : ℤ) : ℂ))
        + (ν : ℂ) * (Complex.I * ((k.getD 0 0 : ℤ) : ℂ)) ^ 2) k)) ∧
    HermSymbol 1 3 (fun _ => (1 : ℂ)) ∧
    (∀ v, RealState 1 3 v → ∀ j < 3 ^ 1,
      (((fun w : Array ℂ => tab (3 ^ 1) (fun j => w.getD j 0 * w.getD j 0)) v).getD j 0).im = 0) ∧
    RealState 1 3 (tab (3 ^ 1) (fun _ => (1 : ℂ))) := by
  refine ⟨by norm_num, ?_, ?_, ?_, ⟨tab_size _ _, ?_⟩⟩
  · intro k
    simp only [getD_zero_map_neg]
    simp only [map_mul, map_add, map_neg, map_pow, Complex.conj_ofReal, Complex.conj_I, Int.cast_neg, map_intCast]
    ring
  · intro h hh hw; simp
  · exact fun v hv j hj => square_real_of_real _ v hv.2 j hj
  · intro j hj
    rw [tab_getD _ _ _ _ hj]
    simp

/-- the index hypothesis of `conj_root_of_unity` is satisfiable -/
example (i : ℕ) (hi : i < 5) : (starRingEnd ℂ) (root_of_unity 5 (i + 1) : ℂ) = root_of_unity 5 (5 - 1 - i + 1) :=
  conj_root_of_unity 5 i hi

/-- the hypothesis of `conj_contourMean` holds for `exp` and for every closed form `rawPhi · i` -/
example : ∀ w, (starRingEnd ℂ) (Complex.exp w) = Complex.exp ((starRingEnd ℂ) w) :=
  fun w => (Complex.exp_conj w).symm

/-- the hypothesis `HermSymbol D N lam` of `hermSymbol_storedCoef` / `repeatedStepper_eq_loop_etdrk1…4`
    holds for a genuinely complex symbol: `D = 1`, `N = 3`, `λ = (0, i)` -/
example : HermSymbol 1 3 (fun h => if h = 1 then Complex.I else 0) :=
  (hermSymbol_1d_iff 3 (by norm_num) _).mpr ⟨by simp, by norm_num⟩

end Exponax.C2R
