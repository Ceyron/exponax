import ExponaxModel.Proofs.InterpNDSum
import ExponaxModel.Proofs.InterpNDOne
/-
C15 support — exactness of `map_between_resolutions` on band-limited states in any dimension.
-/
namespace Exponax.Interp
open Exponax Exponax.Layout Exponax.Transform Exponax.DFT Finset

/-- c2r weight as a function of the wavenumber vector (valid strictly inside the band) -/
def bandWeight (D : ℕ) (k : List ℤ) : ℕ := if k.getD (D - 1) 0 = 0 then 1 else 2

theorem herm_weight_of_inBand (D N m : ℕ) (hD : 0 < D) (_ : 0 < N) (hmN : m ≤ N) (h : ℕ)
    (_ : h < numModes D N) (hb : inBand m (wnFlat D N h)) :
    herm_weight D N h = bandWeight D (wnFlat D N h) := by
  unfold herm_weight bandWeight
  simp only []
  have hk : (wnFlat D N h).getD (D - 1) 0
      = (((unflatten (wavenumberShape D N) h).getD (D - 1) 0 : ℕ) : ℤ) := by
    rw [wnFlat_getD D N h (D - 1) (by omega), wn_last D N _ (D - 1) (by omega)]
  have h2 : 2 * |(wnFlat D N h).getD (D - 1) 0| < (m : ℤ) :=
    (inBand_wnFlat_iff D N m h).mp hb (D - 1) (by omega)
  rw [hk, Nat.abs_cast] at h2
  rw [hk]
  congr 1
  apply propext
  constructor
  · rintro (h0 | ⟨_, h1⟩)
    · exact_mod_cast h0
    · exfalso; omega
  · intro h0
    left; exact_mod_cast h0

/-- **General-`D` exactness.**  `D ≥ 1`, `N_old ≠ N_new`, both `≥ 1`, `m = min(N_old, N_new)`.  If the
    stored spectrum of `u` vanishes at every mode with `2|k_d| ≥ m` on some axis `d`, then
    `map_between_resolutions(u)` is the `FourierInterpolator` of `u` sampled on the new grid
    (up- and down-sampling, both values of `oddballZero`). -/
theorem mapBetween_nd_exact (D Nold Nnew : ℕ) (hD : 0 < D) (hNo : 0 < Nold) (hNn : 0 < Nnew) (hne : Nold ≠ Nnew)
    (ob : Bool) (s : ℂ) (hs : s ≠ 0) (u : Array ℂ)
    (hbl : BandLimitedN D Nold (min Nold Nnew) u) (j : ℕ) (hj : j < Nnew ^ D) :
    (mapBetween D Nold Nnew ob u).getD j 0 = interpolate D Nold s u (gridPoint D Nnew s j) := by
  have hNo' : ((Nold : ℂ) ^ D) ≠ 0 := pow_ne_zero _ (by exact_mod_cast hNo.ne')
  have hNn' : ((Nnew : ℂ) ^ D) ≠ 0 := pow_ne_zero _ (by exact_mod_cast hNn.ne')
  set m := min Nold Nnew with hmdef
  -- the common summand, as a function of the wavenumber vector
  let G : List ℤ → ℂ := fun k => (bandWeight D k : ℂ) *
    (((specAt D Nold u k * zeta Nnew ^ (-(phaseK D Nnew k j))).re : ℝ) : ℂ)
  have hL : (mapBetween D Nold Nnew ob u).getD j 0
      = (∑ h' ∈ range (numModes D Nnew),
          (if inBand m (wnFlat D Nnew h') then G (wnFlat D Nnew h') else 0)) / (Nold : ℂ) ^ D := by
    rw [mapBetween_of_ne hne, irfftnM_getD D Nnew hNn _ j hj, eq_div_iff hNo', div_mul_eq_mul_div,
      div_eq_iff (by exact_mod_cast (pow_pos hNn D).ne'), Finset.sum_mul, Finset.sum_mul]
    apply Finset.sum_congr rfl
    intro h' hh'
    have hh'' := Finset.mem_range.mp hh'
    rw [mapSpectrum_bandlimited_pos D Nold Nnew hD hNo hNn ob u hbl h' hh'', twiddle_eq_zpow]
    by_cases hb : inBand m (wnFlat D Nnew h')
    · rw [if_pos hb, if_pos hb, herm_weight_of_inBand D Nnew m hD hNn (by omega) h' hh'' hb]
      show _ = (bandWeight D (wnFlat D Nnew h') : ℂ) *
        (((specAt D Nold u (wnFlat D Nnew h') * zeta Nnew ^ (-(phaseK D Nnew (wnFlat D Nnew h') j))).re : ℝ) : ℂ)
          * ((Nnew ^ D : ℕ) : ℂ)
      rw [show specAt D Nold u (wnFlat D Nnew h') / (Nold : ℂ) ^ D * (Nnew : ℂ) ^ D
            * zeta Nnew ^ (-(phaseK D Nnew (wnFlat D Nnew h') j))
          = ((((Nnew : ℝ) ^ D / (Nold : ℝ) ^ D : ℝ)) : ℂ)
            * (specAt D Nold u (wnFlat D Nnew h') * zeta Nnew ^ (-(phaseK D Nnew (wnFlat D Nnew h') j)))
          by push_cast; ring, Complex.re_ofReal_mul]
      push_cast
      field_simp
    · rw [if_neg hb, if_neg hb]
      simp
  have hR : interpolate D Nold s u (gridPoint D Nnew s j)
      = (∑ h ∈ range (numModes D Nold),
          (if inBand m (wnFlat D Nold h) then G (wnFlat D Nold h) else 0)) / (Nold : ℂ) ^ D := by
    rw [interpolate_eq D Nold hD hNo]
    congr 1
    apply Finset.sum_congr rfl
    intro h hh
    have hh' := Finset.mem_range.mp hh
    rw [exp_gridPoint D Nnew s hs]
    by_cases hb : inBand m (wnFlat D Nold h)
    · rw [if_pos hb, herm_weight_of_inBand D Nold m hD hNo (by omega) h hh' hb,
        rfftnM_eq_specAt D Nold hNo u h hh']
    · rw [if_neg hb, hbl h hh' hb]
      simp
  -- both sides are the in-band sum of the same `G`; by `full_sum` that sum does not depend on the grid it is indexed over
  rw [hL, hR]
  obtain ⟨E, rfl⟩ : ∃ E, D = E + 1 := ⟨D - 1, by omega⟩
  rw [full_sum m Nnew hNn (by omega) (by omega) E G, full_sum m Nold hNo (by omega) (by omega) E G]

end Exponax.Interp
