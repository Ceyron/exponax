import ExponaxModel.Proofs.DFTnD
/-
C03 in general dimension `D ≥ 1`, lattice and DFT facts: the full spectrum `dftV D N u k` of a grid field
at an integer wavenumber vector `k` (`N`-periodic in every component), the stored coefficient
`(rfftnM D N u)[h]` as `dftV D N u (kvec D N h)`, orthogonality, the c2r transform as Hermitian completion of the stored
array (`dftV_irfftn`), sums of `N`-periodic lattice functions over one period (flat index = centred window = band box), and
the spectrum of the constant field with its dual `Σ_j irfftn(C)_j = Re C₀` (`Interp.sum_irfftnM`).
-/
namespace Exponax.AliasND
open Exponax Exponax.Layout Exponax.Transform Exponax.DFT Finset

noncomputable def dftV (D N : ℕ) (u : Array ℂ) (k : Fin D → ℤ) : ℂ :=
  ∑ j ∈ range (N ^ D), u.getD j 0 * zeta N ^ vdot D N k j

theorem phaseK_eq_vdot (D N : ℕ) (κ : List ℤ) (j : ℕ) :
    phaseK D N κ j = vdot D N (fun d : Fin D => κ.getD d 0) j := by
  rw [phaseK_eq_sum, Finset.sum_range]
  rfl

theorem phaseK_kvec (D N h j : ℕ) : phaseK D N (wnFlat D N h) j = vdot D N (kvec D N h) j :=
  phaseK_eq_vdot D N _ j

theorem rfftn_eq_dftV (D N : ℕ) (hN : 0 < N) (u : Array ℂ) (h : ℕ) (hh : h < numModes D N) :
    (rfftnM D N u).getD h 0 = dftV D N u (kvec D N h) := by
  rw [rfftnM_getD D N hN u h hh, dftV]
  apply Finset.sum_congr rfl
  intro j _
  rw [twiddle_eq_zpow, phaseK_kvec]

def VCongr (D N : ℕ) (a b : Fin D → ℤ) : Prop := ∀ d, (N : ℤ) ∣ a d - b d

theorem VCongr.refl (D N : ℕ) (a : Fin D → ℤ) : VCongr D N a a := fun d => by simp

theorem VCongr.symm {D N : ℕ} {a b : Fin D → ℤ} (h : VCongr D N a b) : VCongr D N b a := fun d => by
  have := (h d).neg_right
  rwa [neg_sub] at this

theorem VCongr.trans {D N : ℕ} {a b c : Fin D → ℤ} (h1 : VCongr D N a b) (h2 : VCongr D N b c) :
    VCongr D N a c := fun d => by
  have := (h1 d).add (h2 d)
  rwa [sub_add_sub_cancel] at this

theorem VCongr.neg {D N : ℕ} {a b : Fin D → ℤ} (h : VCongr D N a b) : VCongr D N (-a) (-b) := fun d => by
  rw [Pi.neg_apply, Pi.neg_apply, neg_sub_neg, ← neg_sub]
  exact (h d).neg_right

theorem VCongr.sub {D N : ℕ} {a b a' b' : Fin D → ℤ} (h : VCongr D N a b) (h' : VCongr D N a' b') :
    VCongr D N (a - a') (b - b') := fun d => by
  rw [Pi.sub_apply, Pi.sub_apply, sub_sub_sub_comm]
  exact (h d).sub (h' d)

theorem vdot_modEq {D N : ℕ} {a b : Fin D → ℤ} (h : VCongr D N a b) (j : ℕ) :
    vdot D N a j ≡ vdot D N b j [ZMOD (N : ℤ)] := by
  apply Int.ModEq.symm
  rw [Int.modEq_iff_dvd]
  unfold vdot
  rw [← Finset.sum_sub_distrib]
  apply Finset.dvd_sum
  intro d _
  rw [← sub_mul]
  exact Dvd.dvd.mul_right (h d) _

theorem dftV_of_congr {D N : ℕ} (u : Array ℂ) {a b : Fin D → ℤ} (h : VCongr D N a b) :
    dftV D N u a = dftV D N u b := by
  unfold dftV
  apply Finset.sum_congr rfl
  intro j _
  rw [zeta_zpow_eq_of_modEq N (vdot_modEq h j)]

theorem dftV_congr (D N : ℕ) (u v : Array ℂ) (huv : ∀ j < N ^ D, u.getD j 0 = v.getD j 0)
    (k : Fin D → ℤ) : dftV D N u k = dftV D N v k := by
  unfold dftV
  exact Finset.sum_congr rfl (fun j hj => by rw [huv j (Finset.mem_range.mp hj)])

theorem dftV_tab (D N : ℕ) (f : ℕ → ℂ) (k : Fin D → ℤ) :
    dftV D N (tab (N ^ D) f) k = ∑ j ∈ range (N ^ D), f j * zeta N ^ vdot D N k j := by
  unfold dftV
  exact Finset.sum_congr rfl (fun j hj => by rw [DFT.tab_getD _ _ _ _ (Finset.mem_range.mp hj)])

theorem dftV_self_tab (D N : ℕ) (u : Array ℂ) (k : Fin D → ℤ) :
    dftV D N (tab (N ^ D) fun j => u.getD j 0) k = dftV D N u k :=
  dftV_congr D N _ _ (fun _ hj => DFT.tab_getD _ _ _ _ hj) k

theorem dftV_add (D N : ℕ) (f g : ℕ → ℂ) (k : Fin D → ℤ) :
    dftV D N (tab (N ^ D) fun j => f j + g j) k
      = dftV D N (tab (N ^ D) f) k + dftV D N (tab (N ^ D) g) k := by
  simp only [dftV_tab, ← Finset.sum_add_distrib, add_mul]

theorem dftV_smul (D N : ℕ) (a : ℂ) (f : ℕ → ℂ) (k : Fin D → ℤ) :
    dftV D N (tab (N ^ D) fun j => a * f j) k = a * dftV D N (tab (N ^ D) f) k := by
  simp only [dftV_tab, Finset.mul_sum, mul_assoc]

theorem dftV_neg (D N : ℕ) (f : ℕ → ℂ) (k : Fin D → ℤ) :
    dftV D N (tab (N ^ D) fun j => -f j) k = -dftV D N (tab (N ^ D) f) k := by
  simp only [dftV_tab, neg_mul, Finset.sum_neg_distrib]

theorem dftV_sub (D N : ℕ) (f g : ℕ → ℂ) (k : Fin D → ℤ) :
    dftV D N (tab (N ^ D) fun j => f j - g j) k
      = dftV D N (tab (N ^ D) f) k - dftV D N (tab (N ^ D) g) k := by
  simp only [dftV_tab, ← Finset.sum_sub_distrib, sub_mul]

theorem dftV_sum {ι : Type} (D N : ℕ) (S : Finset ι) (f : ι → ℕ → ℂ) (k : Fin D → ℤ) :
    dftV D N (tab (N ^ D) fun j => ∑ i ∈ S, f i j) k = ∑ i ∈ S, dftV D N (tab (N ^ D) (f i)) k := by
  simp only [dftV_tab]
  rw [Finset.sum_comm]
  exact Finset.sum_congr rfl (fun j _ => Finset.sum_mul _ _ _)

theorem dftV_zero_eq_sum (D N : ℕ) (f : ℕ → ℂ) :
    dftV D N (tab (N ^ D) f) 0 = ∑ j ∈ range (N ^ D), f j := by
  rw [dftV_tab]
  exact Finset.sum_congr rfl fun j _ => by rw [vdot_zero, zpow_zero, mul_one]

def IsRealND (D N : ℕ) (x : Array ℂ) : Prop := ∀ j < N ^ D, (x.getD j 0).im = 0

theorem conj_dftV (D N : ℕ) (u : Array ℂ) (hu : IsRealND D N u) (k : Fin D → ℤ) :
    (starRingEnd ℂ) (dftV D N u k) = dftV D N u (-k) := by
  unfold dftV
  rw [map_sum]
  apply Finset.sum_congr rfl
  intro j hj
  rw [map_mul, conj_zeta_zpow, Complex.conj_eq_iff_im.mpr (hu j (Finset.mem_range.mp hj)), vdot_neg]

theorem rfftn_hermitian (D N : ℕ) (hN : 0 < N) (x : Array ℂ) (hx : IsRealND D N x) (h : ℕ) (hh : h < numModes D N) :
    (rfftnM D N x).getD h 0 = dftV D N x (kvec D N h) ∧
      (starRingEnd ℂ) ((rfftnM D N x).getD h 0) = dftV D N x (-kvec D N h) :=
  ⟨rfftn_eq_dftV D N hN x h hh, by rw [rfftn_eq_dftV D N hN x h hh, conj_dftV D N x hx]⟩

theorem sum_zeta_vdot_div (D N : ℕ) (hN : 0 < N) (k : Fin D → ℤ) :
    (∑ j ∈ range (N ^ D), zeta N ^ vdot D N k j) / ((N ^ D : ℕ) : ℂ)
      = if ∀ d, (N : ℤ) ∣ k d then 1 else 0 := by
  rw [sum_zeta_vdot D N hN]
  split_ifs
  · exact div_self (Nat.cast_ne_zero.mpr (pow_pos hN D).ne')
  · exact zero_div _

/-- what the c2r transform does to ANY array `c` of stored coefficients: Hermitian completion -/
theorem dftV_irfftn (D N : ℕ) (hN : 0 < N) (c : Array ℂ) (m : Fin D → ℤ) :
    dftV D N (irfftnM D N c) m
      = ∑ h ∈ range (numModes D N), ((herm_weight D N h : ℂ) / 2) *
          (c.getD h 0 * (if ∀ d, (N : ℤ) ∣ m d - kvec D N h d then 1 else 0)
            + (starRingEnd ℂ) (c.getD h 0) * (if ∀ d, (N : ℤ) ∣ m d + kvec D N h d then 1 else 0)) := by
  unfold dftV
  have hj : ∀ j ∈ range (N ^ D), (irfftnM D N c).getD j 0 * zeta N ^ vdot D N m j
      = ∑ h ∈ range (numModes D N), ((herm_weight D N h : ℂ) / 2) *
          (c.getD h 0 * (zeta N ^ vdot D N (m - kvec D N h) j / ((N ^ D : ℕ) : ℂ))
            + (starRingEnd ℂ) (c.getD h 0)
                * (zeta N ^ vdot D N (m + kvec D N h) j / ((N ^ D : ℕ) : ℂ))) := by
    intro j hj
    rw [irfftnM_getD D N hN c j (Finset.mem_range.mp hj), div_mul_eq_mul_div, Finset.sum_mul,
      Finset.sum_div]
    refine Finset.sum_congr rfl fun h _ => ?_
    rw [Complex.re_eq_add_conj, map_mul, twiddle_eq_zpow, phaseK_kvec, conj_zeta_zpow, neg_neg,
      vdot_sub, vdot_add, sub_eq_add_neg, zpow_add₀ (zeta_ne_zero N), zpow_add₀ (zeta_ne_zero N)]
    ring
  rw [Finset.sum_congr rfl hj, Finset.sum_comm]
  refine Finset.sum_congr rfl fun h _ => ?_
  rw [← Finset.mul_sum, Finset.sum_add_distrib, ← Finset.mul_sum, ← Finset.mul_sum,
    ← Finset.sum_div, ← Finset.sum_div, sum_zeta_vdot_div D N hN, sum_zeta_vdot_div D N hN]
  rfl

theorem dftV_const (D N : ℕ) (hN : 0 < N) (a : ℂ) (k : Fin D → ℤ) :
    dftV D N (tab (N ^ D) fun _ => a) k
      = if ∀ d, (N : ℤ) ∣ k d then a * ((N ^ D : ℕ) : ℂ) else 0 := by
  rw [dftV_tab, ← Finset.mul_sum, sum_zeta_vdot D N hN]
  split_ifs <;> simp

theorem dftV_sub_const (D N : ℕ) (hN : 0 < N) (f : ℕ → ℂ) (a : ℂ) (k : Fin D → ℤ) :
    dftV D N (tab (N ^ D) fun j => f j - a) k
      = dftV D N (tab (N ^ D) f) k - (if ∀ d, (N : ℤ) ∣ k d then a * ((N ^ D : ℕ) : ℂ) else 0) := by
  rw [dftV_sub, dftV_const D N hN]

theorem cos_eq_zeta (N : ℕ) (p : ℤ) (a φ : ℝ) :
    (((a * Real.cos (2 * Real.pi * (p : ℝ) / N + φ)) : ℝ) : ℂ)
      = (a / 2 : ℂ) * (Complex.exp (φ * Complex.I) * zeta N ^ (-p)
          + Complex.exp (-(φ * Complex.I)) * zeta N ^ p) := by
  rw [zeta_zpow_eq_exp, zeta_zpow_eq_exp, ← Complex.exp_add, ← Complex.exp_add]
  set θ : ℂ := 2 * Real.pi * (p : ℂ) / N + φ with hθ
  have hA : (φ : ℂ) * Complex.I + -(2 * (Real.pi : ℂ) * Complex.I * ((-p : ℤ) : ℂ) / (N : ℂ))
      = θ * Complex.I := by
    rw [hθ]; push_cast; ring
  have hB : -((φ : ℂ) * Complex.I) + -(2 * (Real.pi : ℂ) * Complex.I * ((p : ℤ) : ℂ) / (N : ℂ))
      = -θ * Complex.I := by
    rw [hθ]; ring
  rw [hA, hB, ← Complex.two_cos]
  rw [hθ]
  push_cast
  ring

theorem dftV_cos (D N : ℕ) (hN : 0 < N) (p k : Fin D → ℤ) (a φ : ℝ) :
    dftV D N (tab (N ^ D) fun j => (((a * Real.cos (2 * Real.pi * ((vdot D N p j : ℤ) : ℝ) / N + φ) : ℝ)) : ℂ)) k
      = (a / 2 : ℂ) * Complex.exp (φ * Complex.I) * (if ∀ d, (N : ℤ) ∣ k d - p d then ((N ^ D : ℕ) : ℂ) else 0)
        + (a / 2 : ℂ) * Complex.exp (-(φ * Complex.I))
            * (if ∀ d, (N : ℤ) ∣ k d + p d then ((N ^ D : ℕ) : ℂ) else 0) := by
  have hterm : ∀ j ∈ range (N ^ D),
      (((a * Real.cos (2 * Real.pi * ((vdot D N p j : ℤ) : ℝ) / N + φ) : ℝ)) : ℂ) * zeta N ^ vdot D N k j
        = (a / 2 : ℂ) * Complex.exp (φ * Complex.I) * zeta N ^ vdot D N (k - p) j
          + (a / 2 : ℂ) * Complex.exp (-(φ * Complex.I)) * zeta N ^ vdot D N (k + p) j := fun j _ => by
    rw [cos_eq_zeta, vdot_sub, vdot_add, sub_eq_add_neg, zpow_add₀ (zeta_ne_zero N), zpow_add₀ (zeta_ne_zero N)]
    ring
  rw [dftV_tab, Finset.sum_congr rfl hterm, Finset.sum_add_distrib, ← Finset.mul_sum, ← Finset.mul_sum,
    sum_zeta_vdot D N hN, sum_zeta_vdot D N hN]
  rfl

theorem dftV_inversion (D N : ℕ) (hN : 0 < N) (u : Array ℂ) (j : ℕ) (hj : j < N ^ D) :
    u.getD j 0 = (1 / ((N ^ D : ℕ) : ℂ)) * ∑ a ∈ range (N ^ D),
      dftV D N u (digZ D N a) * zeta N ^ (-(vdot D N (digZ D N a) j)) := by
  have hNne : ((N ^ D : ℕ) : ℂ) ≠ 0 := by exact_mod_cast (pow_pos hN D).ne'
  have h1 : ∀ a ∈ range (N ^ D), dftV D N u (digZ D N a) * zeta N ^ (-(vdot D N (digZ D N a) j))
      = ∑ i ∈ range (N ^ D), u.getD i 0 * zeta N ^ (dotPhase D N a i - dotPhase D N a j) := by
    intro a _
    unfold dftV
    rw [Finset.sum_mul]
    apply Finset.sum_congr rfl
    intro i _
    rw [vdot_digits, vdot_digits, mul_assoc, ← zpow_add₀ (zeta_ne_zero N), sub_eq_add_neg]
  rw [Finset.sum_congr rfl h1, Finset.sum_comm]
  have h2 : ∀ i ∈ range (N ^ D),
      ∑ a ∈ range (N ^ D), u.getD i 0 * zeta N ^ (dotPhase D N a i - dotPhase D N a j)
        = u.getD i 0 * (if i = j then ((N ^ D : ℕ) : ℂ) else 0) := by
    intro i hi
    rw [← Finset.mul_sum, dotPhase_orth N hN D i j (Finset.mem_range.mp hi) hj]
  rw [Finset.sum_congr rfl h2]
  simp only [mul_ite, mul_zero, Finset.sum_ite_eq', Finset.mem_range, hj, if_true]
  field_simp

/-- the centred window of one axis: the values of `fftfreq N` -/
noncomputable def win (N : ℕ) : Finset ℤ := Finset.Icc (-((N / 2 : ℕ) : ℤ)) (((N - 1) / 2 : ℕ) : ℤ)

noncomputable def box (D : ℕ) (K : ℤ) : Finset (Fin D → ℤ) := Fintype.piFinset (fun _ : Fin D => Finset.Icc (-K) K)

theorem mem_box {D : ℕ} {K : ℤ} {p : Fin D → ℤ} : p ∈ box D K ↔ ∀ d, |p d| ≤ K := by
  unfold box
  rw [Fintype.mem_piFinset]
  simp only [Finset.mem_Icc, abs_le]

theorem abs_neg_le {D : ℕ} {K : ℤ} {p : Fin D → ℤ} (hp : ∀ d, |p d| ≤ K) (d : Fin D) :
    |(-p) d| ≤ K := by
  rw [Pi.neg_apply, abs_neg]
  exact hp d

theorem neg_mem_box {D : ℕ} {K : ℤ} {p : Fin D → ℤ} (hp : p ∈ box D K) : -p ∈ box D K :=
  mem_box.mpr (abs_neg_le (mem_box.mp hp))

theorem mem_win {N : ℕ} {k : ℤ} :
    k ∈ win N ↔ -((N / 2 : ℕ) : ℤ) ≤ k ∧ k ≤ (((N - 1) / 2 : ℕ) : ℤ) := Finset.mem_Icc

theorem fftfreq_mem_win (N i : ℕ) (hN : 0 < N) (hi : i < N) : fftfreq N i ∈ win N :=
  mem_win.mpr ((fftfreq_range_iff N _ hN).mp ⟨i, hi, rfl⟩)

/-- `fftfreq N` maps `[0, N)` bijectively onto the window and preserves residues -/
theorem sum_flat_eq_sum_win (D N : ℕ) (hN : 0 < N) (Φ : (Fin D → ℤ) → ℂ)
    (hper : ∀ a b, VCongr D N a b → Φ a = Φ b) :
    ∑ j ∈ range (N ^ D), Φ (digZ D N j)
      = ∑ q ∈ Fintype.piFinset (fun _ : Fin D => win N), Φ q := by
  unfold digZ
  rw [sum_digits D N hN (fun p : Fin D → ℕ => Φ (fun d => (p d : ℤ)))]
  refine Finset.sum_bij' (fun (p : Fin D → ℕ) _ => fun d => fftfreq N (p d))
    (fun (q : Fin D → ℤ) _ => fun d => fftfreqInv N (q d)) ?_ ?_ ?_ ?_ ?_
  · intro p hp
    rw [Fintype.mem_piFinset] at hp ⊢
    exact fun d => fftfreq_mem_win N _ hN (mem_range.mp (hp d))
  · intro q hq
    rw [Fintype.mem_piFinset] at hq ⊢
    exact fun d => mem_range.mpr (fftfreqInv_lt N _ hN (mem_win.mp (hq d)).1 (mem_win.mp (hq d)).2)
  · intro p hp
    rw [Fintype.mem_piFinset] at hp
    exact funext fun d => fftfreqInv_fftfreq N _ (mem_range.mp (hp d))
  · intro q hq
    rw [Fintype.mem_piFinset] at hq
    exact funext fun d => fftfreq_fftfreqInv N _ hN (mem_win.mp (hq d)).1 (mem_win.mp (hq d)).2
  · intro p _
    exact hper _ _ fun d => Int.modEq_iff_dvd.mp (fftfreq_modEq N (p d))

theorem eq_of_dvd_sub_of_abs_lt {N : ℕ} {x y : ℤ} (hd : (N : ℤ) ∣ x - y) (hlt : |x - y| < N) :
    x = y :=
  sub_eq_zero.mp (Int.eq_zero_of_abs_lt_dvd hd hlt)

theorem not_congr_box {D N : ℕ} (K L : ℤ) (hKL : K + L < (N : ℤ)) (n : Fin D → ℤ)
    (hn1 : ¬ ∀ d, |n d| ≤ K) (hn2 : ∀ d, |n d| ≤ L) :
    ¬ ∃ m : Fin D → ℤ, (∀ d, |m d| ≤ K) ∧ VCongr D N n m := by
  rintro ⟨m, hm, hc⟩
  refine hn1 fun d => ?_
  rw [eq_of_dvd_sub_of_abs_lt (hc d)
    (((abs_sub _ _).trans (add_le_add (hn2 d) (hm d))).trans_lt (by omega))]
  exact hm d

theorem sum_flat_eq_sum_box (D N : ℕ) (hN : 0 < N) (K : ℤ) (hK : 2 * K < (N : ℤ))
    (Φ : (Fin D → ℤ) → ℂ) (hper : ∀ a b, VCongr D N a b → Φ a = Φ b)
    (hsupp : ∀ a : Fin D → ℤ, (¬ ∃ m : Fin D → ℤ, (∀ d, |m d| ≤ K) ∧ VCongr D N a m) → Φ a = 0) :
    ∑ j ∈ range (N ^ D), Φ (digZ D N j) = ∑ p ∈ box D K, Φ p := by
  rw [sum_flat_eq_sum_win D N hN Φ hper]
  refine (Finset.sum_subset (fun p hp => ?_) fun q hq hnq => ?_).symm
  · rw [mem_box] at hp
    rw [Fintype.mem_piFinset]
    intro d
    have := abs_le.mp (hp d)
    rw [mem_win]
    omega
  · rw [Fintype.mem_piFinset] at hq
    refine hsupp q (not_congr_box K ((N / 2 : ℕ) : ℤ) (by omega) q (fun h => hnq (mem_box.mpr h))
      fun d => ?_)
    have := mem_win.mp (hq d)
    rw [abs_le]
    omega

end Exponax.AliasND

namespace Exponax.Interp
open Exponax Exponax.Layout Exponax.Transform Exponax.DFT Finset

theorem rfftnM_ones (D N : ℕ) (hD : 0 < D) (hN : 0 < N) (h : ℕ) (hh : h < numModes D N) :
    (rfftnM D N (tab (N ^ D) (fun _ => (1 : ℂ)))).getD h 0 = if h = 0 then ((N ^ D : ℕ) : ℂ) else 0 := by
  rw [AliasND.rfftn_eq_dftV D N hN _ h hh, AliasND.dftV_const D N hN, one_mul]
  exact if_congr (AliasND.stored_dvd_iff D N h hD hN hh) rfl rfl

theorem sum_irfftnM (D N : ℕ) (hD : 0 < D) (hN : 0 < N) (C : Array ℂ) :
    ∑ j ∈ range (N ^ D), (irfftnM D N C).getD j 0 = (((C.getD 0 0).re : ℝ) : ℂ) := by
  have hf : ∀ j < N ^ D, ((tab (N ^ D) (fun _ => (1 : ℂ))).getD j 0).im = 0 := by
    intro j hj; rw [tab_getD _ _ _ _ hj]; simp
  have h := Conserve.real_inner_irfftn D N hN (tab (N ^ D) (fun _ => (1 : ℂ))) C hf
  have hl : ∑ j ∈ range (N ^ D), (tab (N ^ D) (fun _ => (1 : ℂ))).getD j 0 * (irfftnM D N C).getD j 0
      = ∑ j ∈ range (N ^ D), (irfftnM D N C).getD j 0 := by
    apply Finset.sum_congr rfl
    intro j hj
    rw [tab_getD _ _ _ _ (Finset.mem_range.mp hj), one_mul]
  rw [hl] at h
  rw [h]
  have hmpos : 0 < numModes D N := shapeSize_pos _ (wavenumberShape_pos D N hN)
  have hsum : ∑ h ∈ range (numModes D N), (herm_weight D N h : ℝ) *
      (C.getD h 0 * (starRingEnd ℂ) ((rfftnM D N (tab (N ^ D) (fun _ => (1 : ℂ)))).getD h 0)).re
      = (C.getD 0 0).re * ((N ^ D : ℕ) : ℝ) := by
    rw [Finset.sum_eq_single_of_mem 0 (Finset.mem_range.mpr hmpos)]
    · rw [rfftnM_ones D N hD hN 0 hmpos, if_pos rfl]
      rw [herm_weight_zero, Complex.conj_natCast, mul_comm (C.getD 0 0), ← Complex.ofReal_natCast, Complex.re_ofReal_mul]
      push_cast
      ring
    · intro h hh h0
      rw [rfftnM_ones D N hD hN h (Finset.mem_range.mp hh), if_neg h0]
      simp
  rw [hsum]
  have : ((N : ℂ) ^ D) ≠ 0 := pow_ne_zero _ (by exact_mod_cast hN.ne')
  push_cast
  field_simp

end Exponax.Interp
