import ExponaxModel.Proofs.InterpNDSpec
/-
C15 support — in-band sums over the stored half layout of the `N`-grid do not depend
on `N` (re-indexing by the signed wavenumber vector, axis by axis).
-/
namespace Exponax.Interp
open Exponax Exponax.Layout Exponax.Transform Exponax.DFT Finset

/-- signed wavenumbers of the `E` leading axes of the leading flat index `a < N^E` -/
def kLead (E N a : ℕ) : List ℤ := (List.range E).map (fun d => fftfreq N (digit E N a d))

theorem kLead_succ (E N a : ℕ) : kLead (E + 1) N a = kLead E N (a / N) ++ [fftfreq N (a % N)] := by
  unfold kLead
  rw [List.range_succ, List.map_append, List.map_singleton, digit_succ_last]
  congr 1
  apply List.map_congr_left
  intro d hd
  rw [digit_succ_of_lt E N a d (List.mem_range.mp hd)]

theorem wnFlat_succ_eq (E N h : ℕ) (hh : h < N ^ E * (N / 2 + 1)) :
    wnFlat (E + 1) N h = kLead E N (h / (N / 2 + 1)) ++ [((h % (N / 2 + 1) : ℕ) : ℤ)] := by
  have hh' : h < numModes (E + 1) N := numModes_succ E N ▸ hh
  unfold wnFlat wnVec kLead
  rw [List.range_succ, List.map_append, List.map_singleton]
  congr 1
  · apply List.map_congr_left
    intro d hd
    have hd' := List.mem_range.mp hd
    exact (wnFlat_getD (E + 1) N h d (Nat.lt_succ_of_lt hd')).symm.trans
      (AliasND.kvec_leading E N h hh' ⟨d, Nat.lt_succ_of_lt hd'⟩ hd')
  · exact congrArg (fun x => [x]) ((wnFlat_getD (E + 1) N h E E.lt_succ_self).symm.trans
      (AliasND.kvec_last E N h hh' (Fin.last E) rfl))

theorem inBand_nil (m : ℕ) : inBand m [] := by
  intro κ hκ; simp at hκ

theorem inBand_append_singleton (m : ℕ) (l : List ℤ) (k : ℤ) :
    inBand m (l ++ [k]) ↔ inBand m l ∧ 2 * |k| < (m : ℤ) := by
  unfold inBand
  simp only [List.mem_append, List.mem_singleton]
  constructor
  · intro h
    exact ⟨fun κ hκ => h κ (Or.inl hκ), h k (Or.inr rfl)⟩
  · rintro ⟨h1, h2⟩ κ (hκ | rfl)
    · exact h1 κ hκ
    · exact h2

theorem axis_sum_lead (N m : ℕ) (hN : 0 < N) (hmN : m ≤ N) (hm1 : 1 ≤ m) (g : ℤ → ℂ) :
    ∑ i ∈ range N, (if 2 * |fftfreq N i| < (m : ℤ) then g (fftfreq N i) else 0)
      = ∑ k ∈ Finset.Icc (-(((m - 1) / 2 : ℕ) : ℤ)) (((m - 1) / 2 : ℕ) : ℤ), g k := by
  rw [← Finset.sum_filter]
  apply Finset.sum_bij (fun i _ => fftfreq N i)
  · intro i hi
    rw [Finset.mem_filter] at hi
    rw [Finset.mem_Icc]
    have h1 := le_abs_self (fftfreq N i)
    have h2 := neg_abs_le (fftfreq N i)
    have := hi.2
    generalize |fftfreq N i| = a at this h1 h2
    constructor <;> omega
  · intro i hi i' hi' he
    rw [Finset.mem_filter, Finset.mem_range] at hi hi'
    exact fftfreq_injOn N i i' hi.1 hi'.1 he
  · intro k hk
    rw [Finset.mem_Icc] at hk
    have hlo : -((N / 2 : ℕ) : ℤ) ≤ k := by omega
    have hhi : k ≤ (((N - 1) / 2 : ℕ) : ℤ) := by omega
    refine ⟨fftfreqInv N k, ?_, fftfreq_fftfreqInv N k hN hlo hhi⟩
    rw [Finset.mem_filter, Finset.mem_range, fftfreq_fftfreqInv N k hN hlo hhi]
    refine ⟨fftfreqInv_lt N k hN hlo hhi, ?_⟩
    have := abs_le.mpr ⟨hk.1, hk.2⟩
    generalize |k| = a at this
    omega
  · intro i hi; rfl

theorem axis_sum_last (N m : ℕ) (hmN : m ≤ N) (g : ℕ → ℂ) :
    ∑ l ∈ range (N / 2 + 1), (if 2 * |((l : ℕ) : ℤ)| < (m : ℤ) then g l else 0)
      = ∑ l ∈ range ((m + 1) / 2), g l := by
  rw [← Finset.sum_filter]
  congr 1
  ext l
  simp only [Finset.mem_filter, Finset.mem_range, Nat.abs_cast]
  omega

/-- the resolution-independent form of the in-band sum over the leading axes -/
noncomputable def leadCanon (m : ℕ) : ℕ → (List ℤ → ℂ) → ℂ
  | 0, G => G []
  | E + 1, G => ∑ k ∈ Finset.Icc (-(((m - 1) / 2 : ℕ) : ℤ)) (((m - 1) / 2 : ℕ) : ℤ),
      leadCanon m E (fun κ => G (κ ++ [k]))

theorem lead_sum (m N : ℕ) (hN : 0 < N) (hmN : m ≤ N) (hm1 : 1 ≤ m) :
    ∀ (E : ℕ) (G : List ℤ → ℂ),
      ∑ a ∈ range (N ^ E), (if inBand m (kLead E N a) then G (kLead E N a) else 0) = leadCanon m E G
  | 0, G => by
    simp [kLead, leadCanon, inBand_nil]
  | E + 1, G => by
    let G2 : ℕ → ℕ → ℂ := fun x y => if inBand m (kLead E N x) then
            (if 2 * |fftfreq N y| < (m : ℤ) then G (kLead E N x ++ [fftfreq N y]) else 0) else 0
    have hF : ∀ a ∈ range (N ^ E * N),
        (if inBand m (kLead (E + 1) N a) then G (kLead (E + 1) N a) else 0) = G2 (a / N) (a % N) := by
      intro a _
      show _ = if inBand m (kLead E N (a / N)) then
            (if 2 * |fftfreq N (a % N)| < (m : ℤ) then G (kLead E N (a / N) ++ [fftfreq N (a % N)]) else 0) else 0
      simp only [kLead_succ, inBand_append_singleton]
      by_cases h1 : inBand m (kLead E N (a / N))
      · by_cases h2 : 2 * |fftfreq N (a % N)| < (m : ℤ)
        · rw [if_pos ⟨h1, h2⟩, if_pos h1, if_pos h2]
        · rw [if_neg (fun h => h2 h.2), if_pos h1, if_neg h2]
      · rw [if_neg (fun h => h1 h.1), if_neg h1]
    rw [pow_succ, Finset.sum_congr rfl hF, sum_range_mul_div_mod (N ^ E) N G2]
    have hinner : ∀ x ∈ range (N ^ E),
        ∑ y ∈ range N, G2 x y
        = ∑ k ∈ Finset.Icc (-(((m - 1) / 2 : ℕ) : ℤ)) (((m - 1) / 2 : ℕ) : ℤ),
            (if inBand m (kLead E N x) then (fun κ => G (κ ++ [k])) (kLead E N x) else 0) := by
      intro x _
      show ∑ y ∈ range N, (if inBand m (kLead E N x) then
            (if 2 * |fftfreq N y| < (m : ℤ) then G (kLead E N x ++ [fftfreq N y]) else 0) else 0) = _
      by_cases h1 : inBand m (kLead E N x)
      · simp only [if_pos h1]
        exact axis_sum_lead N m hN hmN hm1 (fun k => G (kLead E N x ++ [k]))
      · simp only [if_neg h1, Finset.sum_const_zero]
    rw [Finset.sum_congr rfl hinner, Finset.sum_comm]
    show _ = ∑ k ∈ Finset.Icc (-(((m - 1) / 2 : ℕ) : ℤ)) (((m - 1) / 2 : ℕ) : ℤ),
      leadCanon m E (fun κ => G (κ ++ [k]))
    apply Finset.sum_congr rfl
    intro k _
    exact lead_sum m N hN hmN hm1 E (fun κ => G (κ ++ [k]))

/-- **layout independence**: the in-band part of any sum over the stored half layout of the `N`-grid
    (`N ≥ m`) that depends on the mode only through its wavenumber vector has a value that does not
    depend on `N` -/
theorem full_sum (m N : ℕ) (hN : 0 < N) (hmN : m ≤ N) (hm1 : 1 ≤ m) (E : ℕ) (G : List ℤ → ℂ) :
    ∑ h ∈ range (numModes (E + 1) N),
        (if inBand m (wnFlat (E + 1) N h) then G (wnFlat (E + 1) N h) else 0)
      = ∑ l ∈ range ((m + 1) / 2), leadCanon m E (fun κ => G (κ ++ [((l : ℕ) : ℤ)])) := by
  rw [numModes_succ]
  let G2 : ℕ → ℕ → ℂ := fun x y => if 2 * |((y : ℕ) : ℤ)| < (m : ℤ) then
          (if inBand m (kLead E N x) then G (kLead E N x ++ [((y : ℕ) : ℤ)]) else 0) else 0
  have hF : ∀ h ∈ range (N ^ E * (N / 2 + 1)),
      (if inBand m (wnFlat (E + 1) N h) then G (wnFlat (E + 1) N h) else 0)
      = G2 (h / (N / 2 + 1)) (h % (N / 2 + 1)) := by
    intro h hh
    show _ = if 2 * |((h % (N / 2 + 1) : ℕ) : ℤ)| < (m : ℤ) then
          (if inBand m (kLead E N (h / (N / 2 + 1))) then
            G (kLead E N (h / (N / 2 + 1)) ++ [((h % (N / 2 + 1) : ℕ) : ℤ)]) else 0) else 0
    rw [wnFlat_succ_eq E N h (Finset.mem_range.mp hh)]
    simp only [inBand_append_singleton]
    by_cases h1 : inBand m (kLead E N (h / (N / 2 + 1)))
    · by_cases h2 : 2 * |((h % (N / 2 + 1) : ℕ) : ℤ)| < (m : ℤ)
      · rw [if_pos ⟨h1, h2⟩, if_pos h2, if_pos h1]
      · rw [if_neg (fun h => h2 h.2), if_neg h2]
    · rw [if_neg (fun h => h1 h.1)]
      split_ifs <;> rfl
  rw [Finset.sum_congr rfl hF, sum_range_mul_div_mod (N ^ E) (N / 2 + 1) G2, Finset.sum_comm]
  show ∑ y ∈ range (N / 2 + 1), ∑ x ∈ range (N ^ E), (if 2 * |((y : ℕ) : ℤ)| < (m : ℤ) then
          (if inBand m (kLead E N x) then G (kLead E N x ++ [((y : ℕ) : ℤ)]) else 0) else 0) = _
  have hpull : ∀ y ∈ range (N / 2 + 1), ∑ x ∈ range (N ^ E), (if 2 * |((y : ℕ) : ℤ)| < (m : ℤ) then
          (if inBand m (kLead E N x) then G (kLead E N x ++ [((y : ℕ) : ℤ)]) else 0) else 0)
      = if 2 * |((y : ℕ) : ℤ)| < (m : ℤ) then (fun y : ℕ => ∑ x ∈ range (N ^ E),
          (if inBand m (kLead E N x) then G (kLead E N x ++ [((y : ℕ) : ℤ)]) else 0)) y else 0 := by
    intro y _
    split_ifs
    · rfl
    · simp
  rw [Finset.sum_congr rfl hpull, axis_sum_last N m hmN]
  apply Finset.sum_congr rfl
  intro l _
  exact lead_sum m N hN hmN hm1 E (fun κ => G (κ ++ [((l : ℕ) : ℤ)]))

end Exponax.Interp
