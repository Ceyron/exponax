import ExponaxModel.Proofs.InterpQuery
import ExponaxModel.Proofs.InterpND
/-
C15 — there-and-back of `map_between_resolutions` is the identity, every dimension.

A real grid state whose stored spectrum vanishes outside the band `2|k_d| < m`
(`Interp.BandLimitedN D N m u`, the hypothesis of `C15_map_is_exact`) is a finite superposition
`stateOf D N ms` of cosine modes with all wave vectors inside the band (`exists_modes_inBand`);
`map_between_resolutions` sends `stateOf D Nold ms` to `stateOf D Nnew ms` — the SAME trigonometric
polynomial sampled on the other grid — whenever the modes are below both Nyquist wavenumbers
(`mapBetween_stateOf`, from the exactness theorem `mapBetween_nd_exact` and the analytic value
of the interpolant `U2_interpolate_stateOf_of_real`).  Going there and back therefore returns the
state.

The state must be real: `irfftn` discards imaginary parts, so for a non-real `u` the statement is false
already for the inner transform pair.
-/
namespace Exponax.SmallGaps
open Exponax Exponax.Layout Exponax.Transform Exponax.DFT Exponax.Interp Exponax.ExactLinear Finset

theorem belowNyquist_mono {D m N : ℕ} (hmN : m ≤ N) {κ : List ℤ} (hκ : BelowNyquist D m κ) :
    BelowNyquist D N κ :=
  ⟨hκ.1, fun d hd => lt_of_lt_of_le (hκ.2 d hd) (by exact_mod_cast hmN)⟩

theorem exists_modes_inBand (D N m : ℕ) (hD : 0 < D) (hN : 0 < N) (hm : 0 < m) (u : Array ℂ)
    (hsz : u.size = N ^ D) (hre : ∀ j < N ^ D, (u.getD j 0).im = 0) (hb : BandLimitedN D N m u) :
    ∃ ms : Modes, (∀ x ∈ ms, BelowNyquist D m x.1) ∧ u = stateOf D N ms :=
  exists_modes_of_vanishing D N m hD hN hm u hsz hre fun h hh hB =>
    hb h hh fun hin => hB ((inBand_wnFlat_iff_belowNyquist D N m h).mp hin)

/-- the resolution-independent Fourier coefficient of `Σ_m a_m cos(κ_m·x + φ_m)` at the wave vector `k` -/
noncomputable def coefOf (ms : Modes) (k : List ℤ) : ℂ :=
  (ms.map (fun x =>
    (if k = x.1 then (x.2.1 / 2 : ℂ) * Complex.exp (x.2.2 * Complex.I) else 0)
      + (if k = negK x.1 then (x.2.1 / 2 : ℂ) * Complex.exp (-(x.2.2 * Complex.I)) else 0))).sum

theorem rfftnM_stateOf (D N : ℕ) (hD : 0 < D) (hN : 0 < N) (ms : Modes)
    (hms : ∀ x ∈ ms, BelowNyquist D N x.1) (h : ℕ) (hh : h < numModes D N) :
    (rfftnM D N (stateOf D N ms)).getD h 0 = ((N ^ D : ℕ) : ℂ) * coefOf ms (wnFlat D N h) := by
  induction ms with
  | nil =>
    rw [stateOf, List.map_nil, vsum_nil, rfftnM_vzero D N hN, vzero_getD]
    simp [coefOf]
  | cons x ms ih =>
    have hx := hms x List.mem_cons_self
    have ih' := ih (fun x' hx' => hms x' (List.mem_cons_of_mem _ hx'))
    rw [stateOf] at ih'
    rw [stateOf, List.map_cons, vsum_cons, rfftnM_vadd D N hN, vadd_getD _ _ _ _ hh, ih',
      rfftnM_modeField D N hD hN x.1 hx x.2.1 x.2.2 h hh]
    unfold coefOf
    rw [List.map_cons, List.sum_cons]
    split_ifs <;> ring

theorem coefOf_eq_zero (D m : ℕ) (ms : Modes) (hms : ∀ x ∈ ms, BelowNyquist D m x.1) (k : List ℤ)
    (hk : ¬ BelowNyquist D m k) : coefOf ms k = 0 := by
  unfold coefOf
  apply List.sum_eq_zero
  intro z hz
  rw [List.mem_map] at hz
  obtain ⟨x, hx, rfl⟩ := hz
  rw [if_neg (fun (he : k = x.1) => hk (by rw [he]; exact hms x hx)),
    if_neg (fun (he : k = negK x.1) => hk (by rw [he]; exact (hms x hx).negK)), add_zero]

theorem bandLimitedN_stateOf (D N m : ℕ) (hD : 0 < D) (hN : 0 < N) (hmN : m ≤ N) (ms : Modes)
    (hms : ∀ x ∈ ms, BelowNyquist D m x.1) : BandLimitedN D N m (stateOf D N ms) := by
  intro h hh hB
  rw [rfftnM_stateOf D N hD hN ms (fun x hx => belowNyquist_mono hmN (hms x hx)) h hh,
    coefOf_eq_zero D m ms hms _ (fun hk => hB ((inBand_wnFlat_iff_belowNyquist D N m h).mpr hk)), mul_zero]

theorem mapBetween_self (D N : ℕ) (ob : Bool) (u : Array ℂ) : mapBetween D N N ob u = u :=
  if_pos rfl

theorem mapBetween_size (D Nold Nnew : ℕ) (hne : Nold ≠ Nnew) (ob : Bool) (u : Array ℂ) :
    (mapBetween D Nold Nnew ob u).size = Nnew ^ D := by
  unfold mapBetween
  rw [if_neg hne, irfftnM_size]

theorem mapBetween_size_of (D Nold Nnew : ℕ) (ob : Bool) (u : Array ℂ) (hsz : u.size = Nold ^ D) :
    (mapBetween D Nold Nnew ob u).size = Nnew ^ D := by
  by_cases hne : Nold = Nnew
  · subst hne; rw [mapBetween_self, hsz]
  · exact mapBetween_size D Nold Nnew hne ob u

theorem mapBetween_stateOf (D Nold Nnew : ℕ) (hD : 0 < D) (hNo : 0 < Nold) (hNn : 0 < Nnew)
    (hne : Nold ≠ Nnew) (ob : Bool) (ms : Modes)
    (hms : ∀ x ∈ ms, BelowNyquist D (min Nold Nnew) x.1) :
    mapBetween D Nold Nnew ob (stateOf D Nold ms) = stateOf D Nnew ms := by
  have hmo : ∀ x ∈ ms, BelowNyquist D Nold x.1 := fun x hx => belowNyquist_mono (by omega) (hms x hx)
  apply array_ext_getD _ _ (Nnew ^ D) (mapBetween_size D Nold Nnew hne ob _) (by simp)
  intro j hj
  have h1 := mapBetween_nd_exact D Nold Nnew hD hNo hNn hne ob ((1 : ℝ) : ℂ)
    (by rw [Complex.ofReal_one]; exact one_ne_zero) (stateOf D Nold ms)
    (bandLimitedN_stateOf D Nold (min Nold Nnew) hD hNo (by omega) ms hms) j hj
  rw [h1, U2_interpolate_stateOf_of_real D Nold hD hNo 1 ms hmo _
      (fun d hd => gridPoint_real D Nnew 1 j d hd),
    trigPoly_gridPoint D Nnew 1 one_ne_zero ms j hj]

/-- `D ≥ 1`, `Nold, Nnew ≥ 1` (finer or
    coarser, all parity combinations), both values of the oddball option on each leg: for every REAL state
    `u` on the `Nold^D` grid that is band-limited below both Nyquist wavenumbers (the hypothesis of
    `C15_map_is_exact`), mapping to `Nnew` and back returns `u`. -/
theorem mapBetween_round_trip (D Nold Nnew : ℕ) (hD : 0 < D) (hNo : 0 < Nold) (hNn : 0 < Nnew)
    (ob ob' : Bool) (u : Array ℂ) (hsz : u.size = Nold ^ D)
    (hre : ∀ j < Nold ^ D, (u.getD j 0).im = 0)
    (hb : BandLimitedN D Nold (min Nold Nnew) u) :
    mapBetween D Nnew Nold ob' (mapBetween D Nold Nnew ob u) = u := by
  by_cases hne : Nold = Nnew
  · subst hne
    rw [mapBetween_self, mapBetween_self]
  · obtain ⟨ms, hms, rfl⟩ := exists_modes_inBand D Nold (min Nold Nnew) hD hNo (by omega) u hsz hre hb
    rw [mapBetween_stateOf D Nold Nnew hD hNo hNn hne ob ms hms,
      mapBetween_stateOf D Nnew Nold hD hNn hNo (Ne.symm hne) ob' ms (by rw [min_comm]; exact hms)]

/-- entrywise, no hypothesis on the array length (`Nold ≠ Nnew`; for `Nold = Nnew` both maps are
    the identity function) -/
theorem mapBetween_round_trip_getD (D Nold Nnew : ℕ) (hD : 0 < D) (hNo : 0 < Nold) (hNn : 0 < Nnew)
    (ob ob' : Bool) (u : Array ℂ) (hre : ∀ j < Nold ^ D, (u.getD j 0).im = 0)
    (hb : BandLimitedN D Nold (min Nold Nnew) u) (j : ℕ) (hj : j < Nold ^ D) :
    (mapBetween D Nnew Nold ob' (mapBetween D Nold Nnew ob u)).getD j 0 = u.getD j 0 := by
  by_cases hne : Nold = Nnew
  · subst hne
    rw [mapBetween_self, mapBetween_self]
  · set u' := tab (Nold ^ D) (fun j => u.getD j 0) with hu'
    have e : mapBetween D Nold Nnew ob u = mapBetween D Nold Nnew ob u' := by
      unfold mapBetween
      rw [if_neg hne, if_neg hne, hu', rfftnM_tab]
    have hre' : ∀ j < Nold ^ D, (u'.getD j 0).im = 0 := by
      intro j hj
      rw [hu', tab_getD _ _ _ _ hj]
      exact hre j hj
    have hb' : BandLimitedN D Nold (min Nold Nnew) u' := by
      intro h hh hnb
      rw [hu', rfftnM_tab]
      exact hb h hh hnb
    rw [e, mapBetween_round_trip D Nold Nnew hD hNo hNn ob ob' u' (by simp [hu']) hre' hb', hu',
      tab_getD _ _ _ _ hj]

/-- the hypotheses of `mapBetween_round_trip` are satisfiable by a non-constant state: one mode
    `2 cos(2π(j₀ + j₁)/4 + ½)` on the `4 × 4` grid, mapped to `6 × 6` and back -/
theorem exists_real_bandLimited_4_6 : ∃ u : Array ℂ, u.size = 4 ^ 2 ∧ (∀ j < 4 ^ 2, (u.getD j 0).im = 0) ∧
    BandLimitedN 2 4 (min 4 6) u := by
  have hms : ∀ x ∈ ([([1, 1], 2, 0.5)] : Modes), BelowNyquist 2 (min 4 6) x.1 := by
    intro x hx
    simp only [List.mem_cons, List.mem_nil_iff, or_false] at hx
    subst hx
    exact ⟨rfl, by intro d hd; interval_cases d <;> simp⟩
  exact ⟨stateOf 2 4 [([1, 1], 2, 0.5)], by simp, stateOf_real 2 4 _,
    bandLimitedN_stateOf 2 4 (min 4 6) (by norm_num) (by norm_num) (by norm_num) _ hms⟩

example : ∃ u : Array ℂ, u.size = 4 ^ 2 ∧ (∀ j < 4 ^ 2, (u.getD j 0).im = 0) ∧
    BandLimitedN 2 4 (min 4 6) u :=
  exists_real_bandLimited_4_6

example : (5 : ℕ) % 2 = 1 ∧ 5 ≤ 8 := by norm_num

end Exponax.SmallGaps
