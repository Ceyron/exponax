import ExponaxModel.Proofs.AliasMultiProduct
import Mathlib.Analysis.SpecialFunctions.ExpDeriv
import Mathlib.Analysis.Complex.RealDeriv
import Mathlib.Analysis.SpecialFunctions.Complex.Arg
/-
C03 in `D` variables, continuous part: trigonometric polynomials as FUNCTIONS `tpoly s K F` on `ℝ^D` (period `L = 2π/s`
in every coordinate).  Products are linear convolutions of coefficient families, `∂/∂ξ_d` multiplies the family by
`i·s·p_d` (`dcoef`), the function determines the family (`s ≠ 0`), and the grid samples of `AliasMultiProduct` are the
values at the grid points `ξ_j = (L/N)·(j_0, …, j_{D-1})` (`gridPt`).
-/
namespace Exponax.AliasMulti
open Exponax Exponax.Layout Exponax.Transform Exponax.DFT Exponax.AliasND Finset

noncomputable def torusPt {D : ℕ} (s : ℝ) (ξ : Fin D → ℝ) : Fin D → ℂ :=
  fun d => Complex.exp (Complex.I * ((s * ξ d : ℝ) : ℂ))

theorem torusPt_ne_zero {D : ℕ} (s : ℝ) (ξ : Fin D → ℝ) (d : Fin D) : torusPt s ξ d ≠ 0 :=
  Complex.exp_ne_zero _

theorem norm_torusPt {D : ℕ} (s : ℝ) (ξ : Fin D → ℝ) (d : Fin D) : ‖torusPt s ξ d‖ = 1 := by
  unfold torusPt
  rw [mul_comm]
  exact Complex.norm_exp_ofReal_mul_I _

theorem mono_torusPt {D : ℕ} (s : ℝ) (ξ : Fin D → ℝ) (p : Fin D → ℤ) :
    mono (torusPt s ξ) p = Complex.exp (Complex.I * ((∑ d, s * (p d : ℝ) * ξ d : ℝ) : ℂ)) := by
  unfold mono torusPt
  rw [Complex.ofReal_sum, Finset.mul_sum, Complex.exp_sum]
  apply Finset.prod_congr rfl
  intro d _
  rw [← Complex.exp_int_mul]
  congr 1
  push_cast
  ring

theorem exists_torusPt {D : ℕ} (s : ℝ) (hs : s ≠ 0) (z : Fin D → ℂ) (hz : ∀ d, ‖z d‖ = 1) :
    ∃ ξ : Fin D → ℝ, z = torusPt s ξ := by
  refine ⟨fun d => Complex.arg (z d) / s, ?_⟩
  funext d
  have h1 := Complex.norm_mul_exp_arg_mul_I (z d)
  rw [hz d, Complex.ofReal_one, one_mul] at h1
  unfold torusPt
  rw [mul_div_cancel₀ _ hs, mul_comm]
  exact h1.symm

noncomputable def tpoly {D : ℕ} (s : ℝ) (K : ℤ) (F : (Fin D → ℤ) → ℂ) (ξ : Fin D → ℝ) : ℂ :=
  trigEval K F (torusPt s ξ)

theorem tpoly_eq_sum {D : ℕ} (s : ℝ) (K : ℤ) (F : (Fin D → ℤ) → ℂ) (ξ : Fin D → ℝ) :
    tpoly s K F ξ
      = ∑ p ∈ box D K, F p * Complex.exp (Complex.I * ((∑ d, s * (p d : ℝ) * ξ d : ℝ) : ℂ)) := by
  unfold tpoly trigEval
  exact Finset.sum_congr rfl (fun p _ => by rw [mono_torusPt])

theorem tpoly_mul {D : ℕ} (s : ℝ) (K L : ℤ) (F G : (Fin D → ℤ) → ℂ) (ξ : Fin D → ℝ) :
    tpoly s K F ξ * tpoly s L G ξ = tpoly s (K + L) (conv K L F G) ξ :=
  trigEval_mul K L F G _ (torusPt_ne_zero s ξ)

theorem tpoly_mul3 {D : ℕ} (s : ℝ) (K : ℤ) (F G H : (Fin D → ℤ) → ℂ) (ξ : Fin D → ℝ) :
    tpoly s K F ξ * tpoly s K G ξ * tpoly s K H ξ = tpoly s (K + K + K) (conv3 K F G H) ξ :=
  trigEval_mul3 K F G H _ (torusPt_ne_zero s ξ)

theorem tpoly_coeff_unique {D : ℕ} (s : ℝ) (hs : s ≠ 0) (K : ℤ) (A B : (Fin D → ℤ) → ℂ)
    (h : ∀ ξ : Fin D → ℝ, tpoly s K A ξ = tpoly s K B ξ) (k : Fin D → ℤ) (hk : ∀ d, |k d| ≤ K) :
    A k = B k := by
  apply trigEval_coeff_unique K A B _ k hk
  intro z hz
  obtain ⟨ξ, rfl⟩ := exists_torusPt s hs z hz
  exact h ξ

theorem tpoly_add {D : ℕ} (s : ℝ) (K : ℤ) (F G : (Fin D → ℤ) → ℂ) (ξ : Fin D → ℝ) :
    tpoly s K (fun p => F p + G p) ξ = tpoly s K F ξ + tpoly s K G ξ := by
  unfold tpoly trigEval
  rw [← Finset.sum_add_distrib]
  exact Finset.sum_congr rfl (fun p _ => add_mul _ _ _)

theorem tpoly_smul {D : ℕ} (s : ℝ) (K : ℤ) (a : ℂ) (F : (Fin D → ℤ) → ℂ) (ξ : Fin D → ℝ) :
    tpoly s K (fun p => a * F p) ξ = a * tpoly s K F ξ := by
  unfold tpoly trigEval
  rw [Finset.mul_sum]
  exact Finset.sum_congr rfl (fun p _ => mul_assoc _ _ _)

theorem tpoly_sum {D : ℕ} {ι : Type} (S : Finset ι) (s : ℝ) (K : ℤ) (F : ι → (Fin D → ℤ) → ℂ)
    (ξ : Fin D → ℝ) :
    tpoly s K (fun p => ∑ i ∈ S, F i p) ξ = ∑ i ∈ S, tpoly s K (F i) ξ := by
  unfold tpoly trigEval
  rw [Finset.sum_comm]
  exact Finset.sum_congr rfl (fun p _ => Finset.sum_mul _ _ _)

theorem tpoly_congr {D : ℕ} (s : ℝ) (K : ℤ) (F G : (Fin D → ℤ) → ℂ)
    (h : ∀ p, (∀ d, |p d| ≤ K) → F p = G p) (ξ : Fin D → ℝ) : tpoly s K F ξ = tpoly s K G ξ := by
  unfold tpoly trigEval
  exact Finset.sum_congr rfl (fun p hp => by rw [h p (mem_box.mp hp)])

noncomputable def dcoef {D : ℕ} (s : ℝ) (d : Fin D) (F : (Fin D → ℤ) → ℂ) : (Fin D → ℤ) → ℂ :=
  fun p => Complex.I * ((s : ℂ) * ((p d : ℤ) : ℂ)) * F p

theorem hasDerivAt_mode {D : ℕ} (s : ℝ) (p : Fin D → ℤ) (ξ : Fin D → ℝ) (d : Fin D) :
    HasDerivAt (fun t : ℝ => mono (torusPt s (Function.update ξ d t)) p)
      (Complex.I * ((s : ℂ) * ((p d : ℤ) : ℂ)) * mono (torusPt s ξ) p) (ξ d) := by
  set C : ℝ := ∑ e ∈ Finset.univ.erase d, s * (p e : ℝ) * ξ e with hC
  have hf : (fun t : ℝ => mono (torusPt s (Function.update ξ d t)) p)
      = fun t : ℝ => Complex.exp (Complex.I * ((s * (p d : ℝ) * t + C : ℝ) : ℂ)) := by
    funext t
    rw [mono_torusPt, ← Finset.add_sum_erase Finset.univ _ (Finset.mem_univ d), Function.update_self]
    congr 4
    apply Finset.sum_congr rfl
    intro e he
    rw [Function.update_of_ne (Finset.ne_of_mem_erase he)]
  have hval : mono (torusPt s ξ) p
      = Complex.exp (Complex.I * ((s * (p d : ℝ) * ξ d + C : ℝ) : ℂ)) := by
    rw [mono_torusPt, ← Finset.add_sum_erase Finset.univ _ (Finset.mem_univ d)]
  rw [hf, hval]
  have h1 : HasDerivAt (fun t : ℝ => s * (p d : ℝ) * t + C) (s * (p d : ℝ) * 1) (ξ d) :=
    ((hasDerivAt_id (ξ d)).const_mul (s * (p d : ℝ))).add_const C
  have h2 := (h1.ofReal_comp).const_mul Complex.I
  have h3 := h2.cexp
  convert h3 using 1
  push_cast
  ring

theorem hasDerivAt_tpoly {D : ℕ} (s : ℝ) (K : ℤ) (F : (Fin D → ℤ) → ℂ) (ξ : Fin D → ℝ) (d : Fin D) :
    HasDerivAt (fun t : ℝ => tpoly s K F (Function.update ξ d t)) (tpoly s K (dcoef s d F) ξ) (ξ d) := by
  unfold tpoly trigEval dcoef
  have h := HasDerivAt.fun_sum (u := box D K)
    (A := fun p (t : ℝ) => F p * mono (torusPt s (Function.update ξ d t)) p)
    (A' := fun p => F p * (Complex.I * ((s : ℂ) * ((p d : ℤ) : ℂ)) * mono (torusPt s ξ) p))
    (x := ξ d) (fun p _ => (hasDerivAt_mode s p ξ d).const_mul (F p))
  have e : ∑ p ∈ box D K, Complex.I * ((s : ℂ) * ((p d : ℤ) : ℂ)) * F p * mono (torusPt s ξ) p
      = ∑ p ∈ box D K, F p * (Complex.I * ((s : ℂ) * ((p d : ℤ) : ℂ)) * mono (torusPt s ξ) p) :=
    Finset.sum_congr rfl (fun p _ => by ring)
  rw [e]
  exact h

noncomputable def gridPt (s : ℝ) (D N j : ℕ) : Fin D → ℝ :=
  fun d => 2 * Real.pi * (digit D N j d : ℝ) / ((N : ℝ) * s)

theorem gridZ_eq_torusPt (D N j : ℕ) (s : ℝ) (ξ : Fin D → ℝ)
    (hξ : ∀ d, s * ξ d = 2 * Real.pi * (digit D N j d : ℝ) / (N : ℝ)) : gridZ D N j = torusPt s ξ := by
  funext d
  unfold gridZ torusPt
  rw [zeta_zpow_eq_exp, hξ d]
  congr 1
  push_cast
  ring

theorem gridZ_eq_torusPt_gridPt (D N j : ℕ) (s : ℝ) (hs : s ≠ 0) :
    gridZ D N j = torusPt s (gridPt s D N j) := by
  apply gridZ_eq_torusPt
  intro d
  unfold gridPt
  rw [mul_div_assoc', mul_comm s, mul_div_mul_right _ _ hs]

theorem sampleTP_eq_tpoly (D N : ℕ) (s : ℝ) (hs : s ≠ 0) (K : ℤ) (F : (Fin D → ℤ) → ℂ)
    (j : ℕ) (hj : j < N ^ D) : (sampleTP D N K F).getD j 0 = tpoly s K F (gridPt s D N j) := by
  rw [sampleTP_getD D N K F j hj, gridZ_eq_torusPt_gridPt D N j s hs]
  rfl

theorem tpoly_real {D : ℕ} (s : ℝ) (K : ℤ) (F : (Fin D → ℤ) → ℂ)
    (hF : ∀ p, (starRingEnd ℂ) (F p) = F (-p)) (ξ : Fin D → ℝ) :
    (starRingEnd ℂ) (tpoly s K F ξ) = tpoly s K F ξ := by
  rw [tpoly_eq_sum, map_sum]
  have hneg : ∑ p ∈ box D K, F p * Complex.exp (Complex.I * ((∑ d, s * (p d : ℝ) * ξ d : ℝ) : ℂ))
      = ∑ p ∈ box D K, F (-p) * Complex.exp (Complex.I * ((∑ d, s * ((-p) d : ℝ) * ξ d : ℝ) : ℂ)) := by
    have hmem : ∀ p ∈ box D K, -p ∈ box D K := fun p hp =>
      mem_box.mpr fun d => by rw [Pi.neg_apply, abs_neg]; exact mem_box.mp hp d
    exact Finset.sum_nbij' (fun p => -p) (fun p => -p) hmem hmem (fun p _ => neg_neg p) (fun p _ => neg_neg p)
      (fun p _ => by rw [neg_neg])
  rw [hneg]
  apply Finset.sum_congr rfl
  intro p _
  rw [map_mul, hF p, ← Complex.exp_conj]
  congr 2
  rw [map_mul, Complex.conj_I, Complex.conj_ofReal]
  simp only [Pi.neg_apply, Int.cast_neg, mul_neg, neg_mul, Finset.sum_neg_distrib, Complex.ofReal_neg]

example : ∃ (D : ℕ) (s : ℝ) (K : ℤ) (k : Fin D → ℤ), s ≠ 0 ∧ 0 < D ∧ (∀ d, |k d| ≤ K) :=
  ⟨2, 1, 1, fun _ => 1, one_ne_zero, by decide, fun _ => by show |(1 : ℤ)| ≤ 1; decide⟩

example : ∃ (D : ℕ) (F : (Fin D → ℤ) → ℂ), 0 < D ∧ (∀ p, (starRingEnd ℂ) (F p) = F (-p)) ∧ F ≠ 0 :=
  ⟨2, fun _ => 1, by decide, fun _ => map_one _, fun h => one_ne_zero (congrFun h 0)⟩

end Exponax.AliasMulti
