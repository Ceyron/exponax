import ExponaxModel.Proofs.ExactLinear
import ExponaxModel.Proofs.LerayBasic
import ExponaxModel.Proofs.OperatorAlgebra
import Mathlib.Analysis.Calculus.IteratedDeriv.Lemmas
import Mathlib.Analysis.SpecialFunctions.Trigonometric.Deriv
/-
C05, physical-space link: spectral derivatives, Laplacian and Poisson solve are exact on resolved modes, every
`D ≥ 1`, every `N ≥ 1`, through the model routines `Nonlin.derivativeM`, `Nonlin.laplace`, `Nonlin.poissonStep`.
For `u_j = a cos(2π κ·j/N + φ)` (`κ` strictly below Nyquist on every axis) and `s = 2π/L` real, `derivativeM c m d u`
is the grid sample of the `m`-th `x_d`-derivative of `a cos(s κ·x + φ)` (`iteratedDeriv_cos_affine` is the calculus
fact).

Poisson, every even order `2n ≥ 2` (`namespace SmallGaps2` below): `irfftn ∘ Poisson.step_fourier(order = 2n) ∘ rfftn` is the
Fourier multiplier `−where(op = 0, 0, 1/op)` (`poisson_eq_specApply`), so on a Nyquist-free real right-hand side
`f = Σ a cos(2π κ·j/N + φ)` it multiplies each mode by

    gainEven D s n κ = −1 / ((−1)^n s^{2n} Σ_d κ_d^{2n})     (κ ≠ 0),      0  (κ = 0: zero mean).

Order 2: `+f/(s²|κ|²)` (`gainEven_one`), which solves `∇²u = −f` (the sign the implementation documents), NOT
`−f/(s²|κ|²)`.  Order 4: `−f/(s⁴ Σ_d κ_d⁴)` — MINUS, since `Σ_d ∂_d⁴` has the POSITIVE symbol `s⁴ Σ κ_d⁴` and the code
computes `û = −f̂ / op`.  In every even order the model's operator applied to the solution returns `−(f − mean f)`.
-/
namespace Exponax.ReadOff
open Exponax Exponax.Layout Exponax.Transform Exponax.DFT Exponax.ExactLinear Finset
open Exponax.Nonlin (Cfg laplace poissonStep derivativeM modes kInt kSq)
open scoped ComplexConjugate

theorem iteratedDeriv_cos_affine (a k θ : ℝ) (m : ℕ) :
    iteratedDeriv m (fun x : ℝ => a * Real.cos (k * x + θ))
      = fun x : ℝ => a * k ^ m * Real.cos (k * x + θ + m * (Real.pi / 2)) := by
  induction m with
  | zero => funext x; simp
  | succ m ih =>
    rw [iteratedDeriv_succ, ih]
    funext x
    have h1 : HasDerivAt (fun x : ℝ => k * x + θ + m * (Real.pi / 2)) k x := by
      have := ((hasDerivAt_id x).const_mul k).add_const (θ + m * (Real.pi / 2))
      simpa [add_assoc] using this
    have h2 := (h1.cos).const_mul (a * k ^ m)
    rw [h2.deriv]
    have e : k * x + θ + ((m + 1 : ℕ) : ℝ) * (Real.pi / 2) = (k * x + θ + m * (Real.pi / 2)) + Real.pi / 2 := by
      push_cast; ring
    rw [e, Real.cos_add_pi_div_two]
    ring

theorem I_pow_eq_exp (m : ℕ) : Complex.I ^ m = Complex.exp (((m * (Real.pi / 2) : ℝ) : ℂ) * Complex.I) := by
  have : ((m * (Real.pi / 2) : ℝ) : ℂ) * Complex.I = (m : ℂ) * ((Real.pi : ℂ) / 2 * Complex.I) := by
    push_cast; ring
  rw [this, Complex.exp_nat_mul, Complex.exp_pi_div_two_mul_I]

theorem deriv_symbol_polar (s : ℝ) (q : ℤ) (m : ℕ) :
    (Complex.I * ((s : ℂ) * (q : ℂ))) ^ m
      = (((s * (q : ℝ)) ^ m : ℝ) : ℂ) * Complex.exp (((m * (Real.pi / 2) : ℝ) : ℂ) * Complex.I) := by
  rw [mul_pow, I_pow_eq_exp]
  push_cast
  ring

/-- C05, one mode: `derivative(u, order = m)` along axis `d` of `a cos(2π κ·j/N + φ)` is
    `a (s κ_d)^m cos(2π κ·j/N + φ + m π/2)`: the sampled analytic derivative. Every `m`, every `d`
    (for `d ≥ D` both sides use `κ_d = 0`), every `D ≥ 1`, odd or even `N`. -/
theorem derivativeM_modeField (c : Cfg ℂ) (s : ℝ) (hs : c.s = (s : ℂ)) (hD : 0 < c.D) (hN : 0 < c.N)
    (κ : List ℤ) (hκ : BelowNyquist c.D c.N κ) (m d : ℕ) (a φ : ℝ) :
    derivativeM c m d (modeField c.D c.N κ a φ)
      = modeField c.D c.N κ (a * (s * (κ.getD d 0 : ℝ)) ^ m) (φ + m * (Real.pi / 2)) := by
  rw [derivativeM_eq_specApply]
  apply specApply_modeField c.D c.N hD hN _ κ hκ ((Complex.I * ((s : ℂ) * ((κ.getD d 0 : ℤ) : ℂ))) ^ m)
    ((s * (κ.getD d 0 : ℝ)) ^ m) (m * (Real.pi / 2)) (deriv_symbol_polar s _ m)
  · intro h hh hk
    rw [npow_eq, Nonlin.deriv_eq, hs]
    unfold kInt
    rw [hk]
  · intro h hh hk
    rw [← deriv_symbol_conj, npow_eq, Nonlin.deriv_eq, hs]
    unfold kInt
    rw [hk, negK_getD]

theorem derivativeM_modeField_getD (c : Cfg ℂ) (s : ℝ) (hs : c.s = (s : ℂ)) (hD : 0 < c.D) (hN : 0 < c.N)
    (κ : List ℤ) (hκ : BelowNyquist c.D c.N κ) (m d : ℕ) (a φ : ℝ) (j : ℕ) (hj : j < c.N ^ c.D) :
    (derivativeM c m d (modeField c.D c.N κ a φ)).getD j 0
      = (((a * (s * (κ.getD d 0 : ℝ)) ^ m *
          Real.cos (2 * Real.pi * ((phaseK c.D c.N κ j : ℤ) : ℝ) / c.N + (φ + m * (Real.pi / 2))) : ℝ)) : ℂ) := by
  rw [derivativeM_modeField c s hs hD hN κ hκ m d a φ, modeField_getD _ _ _ _ _ j hj]

/-- the differentiated modes: amplitude `a (s κ_d)^m`, phase `φ + m π/2` -/
noncomputable def diffModes (s : ℝ) (m d : ℕ) (ms : Modes) : Modes :=
  ms.map (fun q => (q.1, q.2.1 * (s * (q.1.getD d 0 : ℝ)) ^ m, q.2.2 + m * (Real.pi / 2)))

/-- C05, superposition: on every finite sum of modes strictly below Nyquist, `derivativeM` returns the sum
    of the analytic derivatives. -/
theorem derivativeM_stateOf (c : Cfg ℂ) (s : ℝ) (hs : c.s = (s : ℂ)) (hD : 0 < c.D) (hN : 0 < c.N)
    (m d : ℕ) (ms : Modes) (hms : ∀ q ∈ ms, BelowNyquist c.D c.N q.1) :
    derivativeM c m d (stateOf c.D c.N ms) = stateOf c.D c.N (diffModes s m d ms) :=
  stateOf_map_of_modeField c.D c.N _ (specApply_vsum c.D c.N hN _) _ ms fun q hq => derivativeM_modeField c s hs hD hN q.1 (hms q hq) m d q.2.1 q.2.2

theorem derivativeM_stateOf_tab (c : Cfg ℂ) (s : ℝ) (hs : c.s = (s : ℂ)) (hD : 0 < c.D) (hN : 0 < c.N)
    (m d : ℕ) (ms : Modes) (hms : ∀ q ∈ ms, BelowNyquist c.D c.N q.1) :
    derivativeM c m d (tab (c.N ^ c.D) (fun j =>
        (((ms.map (fun q => q.2.1 * Real.cos (2 * Real.pi * ((phaseK c.D c.N q.1 j : ℤ) : ℝ) / c.N + q.2.2))).sum : ℝ) : ℂ)))
      = tab (c.N ^ c.D) (fun j =>
        (((ms.map (fun q => q.2.1 * (s * (q.1.getD d 0 : ℝ)) ^ m *
            Real.cos (2 * Real.pi * ((phaseK c.D c.N q.1 j : ℤ) : ℝ) / c.N + (q.2.2 + m * (Real.pi / 2))))).sum : ℝ) : ℂ)) := by
  rw [← stateOf_eq_tab, derivativeM_stateOf c s hs hD hN m d ms hms, stateOf_eq_tab]
  congr 1
  funext j
  unfold diffModes
  rw [List.map_map]
  rfl

def kappaSq (D : ℕ) (κ : List ℤ) : ℤ := ∑ d ∈ range D, κ.getD d 0 ^ 2

theorem kappaSq_nonneg (D : ℕ) (κ : List ℤ) : 0 ≤ kappaSq D κ := Finset.sum_nonneg (fun _ _ => sq_nonneg _)

theorem kappaSq_negK (D : ℕ) (κ : List ℤ) : kappaSq D (negK κ) = kappaSq D κ := by
  unfold kappaSq
  apply Finset.sum_congr rfl
  intro d _
  rw [negK_getD, neg_sq]

theorem kappaSq_eq_zero_iff (D : ℕ) (κ : List ℤ) : kappaSq D κ = 0 ↔ ∀ d < D, κ.getD d 0 = 0 := by
  unfold kappaSq
  rw [Finset.sum_eq_zero_iff_of_nonneg (fun d _ => sq_nonneg _)]
  simp

/-- `kappaSq` is the model's `Layout.normSq` (the quantity binned by `Spectrum.spectrum`) -/
theorem kappaSq_eq_normSq (κ : List ℤ) : kappaSq κ.length κ = normSq κ := by
  induction κ with
  | nil => simp [kappaSq, normSq_nil]
  | cons a κ ih =>
    rw [normSq_cons, ← ih]
    unfold kappaSq
    rw [List.length_cons, Finset.sum_range_succ']
    simp [add_comm]

theorem kSq_of_wnFlat (c : Cfg ℂ) (h : ℕ) (κ : List ℤ) (hk : wnFlat c.D c.N h = κ) : kSq c h = kappaSq c.D κ := by
  unfold kSq kappaSq kInt
  rw [hk]

/-- the Laplacian is the sum of the second derivatives computed by `derivativeM` (symbol level: the model's
    `laplace c 2` IS `Σ_d (i s k_d)²`, the multipliers of `derivativeM c 2 d`) -/
theorem laplace_symbol_eq_sum_deriv (c : Cfg ℂ) (h : ℕ) :
    laplace c 2 h = ∑ d ∈ range c.D, npow (Nonlin.deriv c d h) 2 := by
  rw [Nonlin.laplace_two_eq_sum]
  simp only [npow_eq]

noncomputable def lapModes (D : ℕ) (s : ℝ) (ms : Modes) : Modes :=
  ms.map (fun q => (q.1, q.2.1 * -(s ^ 2 * (kappaSq D q.1 : ℝ)), q.2.2))

/-- `Poisson.step_fourier` on a whole (one-channel) spectrum: `poissonStep` at every stored mode -/
noncomputable def poissonSpec (c : Cfg ℂ) (order : ℕ) (fh : Array ℂ) : Array ℂ :=
  tab (numModes c.D c.N) (fun h => poissonStep c order h (fh.getD h 0))

@[simp] theorem poissonSpec_size (c : Cfg ℂ) (order : ℕ) (fh : Array ℂ) :
    (poissonSpec c order fh).size = numModes c.D c.N := by simp [poissonSpec]

theorem poissonSpec_getD (c : Cfg ℂ) (order : ℕ) (fh : Array ℂ) (h : ℕ) (hh : h < numModes c.D c.N) :
    (poissonSpec c order fh).getD h 0 = poissonStep c order h (fh.getD h 0) := by
  rw [poissonSpec, tab_getD _ _ _ _ hh]

theorem poissonStep_mul (c : Cfg ℂ) (order h : ℕ) (f : ℂ) :
    poissonStep c order h f = (if laplace c order h = 0 then 0 else -(1 / laplace c order h)) * f := by
  simp only [poissonStep]
  by_cases hl : laplace c order h = 0 <;> simp [HasIsZero.isZero, hl]

theorem poissonStep_zero (c : Cfg ℂ) (order h : ℕ) : poissonStep c order h 0 = 0 := by
  rw [poissonStep_mul, mul_zero]

theorem poissonSpec_mean_zero (c : Cfg ℂ) (order : ℕ) (ho : order ≠ 0) (fh : Array ℂ) :
    (poissonSpec c order fh).getD 0 0 = 0 := by
  rcases Nat.eq_zero_or_pos (numModes c.D c.N) with h0 | hpos
  · rw [poissonSpec, tab_getD_of_le _ _ _ _ (by omega)]
  · have hl : laplace c order 0 = 0 := by
      rw [Exponax.laplace_eq_sum c 0 order ho]
      refine Finset.sum_eq_zero fun d _ => ?_
      rw [Nonlin.deriv_eq]
      unfold kInt
      rw [wnFlat_zero, Int.cast_zero, mul_zero, mul_zero, zero_pow ho]
    rw [poissonSpec_getD c order fh 0 hpos, poissonStep_mul, if_pos hl, zero_mul]

/-- the Poisson gain as a function of the wave vector: `1/(s²|κ|²)`, and `0` at `κ = 0` -/
noncomputable def poissonGain (D : ℕ) (s : ℝ) (κ : List ℤ) : ℝ :=
  if kappaSq D κ = 0 then 0 else 1 / (s ^ 2 * (kappaSq D κ : ℝ))

noncomputable def poissonModes (D : ℕ) (s : ℝ) (ms : Modes) : Modes :=
  ms.map (fun q => (q.1, q.2.1 * poissonGain D s q.1, q.2.2))

example : ∃ (c : Cfg ℂ) (s : ℝ) (κ : List ℤ), c.s = (s : ℂ) ∧ s ≠ 0 ∧ 0 < c.D ∧ 0 < c.N ∧
    BelowNyquist c.D c.N κ ∧ ∃ d < c.D, κ.getD d 0 ≠ 0 :=
  ⟨⟨2, 5, ((3 : ℝ) : ℂ), 2, 3⟩, 3, [2, -1], rfl, by norm_num, by norm_num, by norm_num,
    ⟨rfl, by intro d hd; interval_cases d <;> simp⟩, 0, by norm_num, by decide⟩
example : ∃ (c : Cfg ℂ) (κ : List ℤ), κ.length = c.D ∧ ∀ d < c.D, κ.getD d 0 = 0 :=
  ⟨⟨2, 5, 1, 2, 3⟩, [0, 0], rfl, by intro d hd; interval_cases d <;> simp⟩
example : ∀ q ∈ ([([1, 1], 2, 0.5), ([-1, 0], 1, 0)] : Modes), BelowNyquist 2 4 q.1 := by
  intro q hq
  simp only [List.mem_cons, List.mem_nil_iff, or_false] at hq
  rcases hq with rfl | rfl
  · exact ⟨rfl, by intro d hd; interval_cases d <;> simp⟩
  · exact ⟨rfl, by intro d hd; interval_cases d <;> simp⟩

end Exponax.ReadOff

namespace Exponax.SmallGaps2
open Exponax Exponax.Layout Exponax.Transform Exponax.DFT Exponax.ExactLinear Exponax.ReadOff Finset
open Exponax.Nonlin (Cfg laplace poissonStep MC tabC)

def kappaPow (D p : ℕ) (κ : List ℤ) : ℤ := ∑ d ∈ range D, κ.getD d 0 ^ p

theorem kappaPow_two (D : ℕ) (κ : List ℤ) : kappaPow D 2 κ = kappaSq D κ := rfl

theorem kappaPow_even_eq_zero_iff (D n : ℕ) (hn : 1 ≤ n) (κ : List ℤ) :
    kappaPow D (2 * n) κ = 0 ↔ ∀ d < D, κ.getD d 0 = 0 := by
  unfold kappaPow
  rw [Finset.sum_eq_zero_iff_of_nonneg (fun d _ => (even_two_mul n).pow_nonneg _)]
  have : 2 * n ≠ 0 := by omega
  simp [this]

theorem kappaPow_even_pos (D n : ℕ) (hn : 1 ≤ n) (κ : List ℤ) (hne : ∃ d < D, κ.getD d 0 ≠ 0) :
    0 < kappaPow D (2 * n) κ := by
  have h0 : 0 ≤ kappaPow D (2 * n) κ := Finset.sum_nonneg (fun d _ => (even_two_mul n).pow_nonneg _)
  rcases lt_or_eq_of_le h0 with h | h
  · exact h
  · obtain ⟨d, hd, hne⟩ := hne
    exact absurd ((kappaPow_even_eq_zero_iff D n hn κ).mp h.symm d hd) hne

/-- the multiplier of `Poisson.step_fourier`: `−where(op = 0, 0, 1/op)` -/
noncomputable def poissonMult (c : Cfg ℂ) (order h : ℕ) : ℂ :=
  if laplace c order h = 0 then 0 else -(1 / laplace c order h)

theorem poisson_eq_specApply (c : Cfg ℂ) (order : ℕ) (u : Array ℂ) :
    irfftnM c.D c.N (poissonSpec c order (rfftnM c.D c.N u)) = specApply c.D c.N (poissonMult c order) u := by
  unfold specApply poissonSpec poissonMult
  simp only [poissonStep_mul]

theorem laplace_even_at (c : Cfg ℂ) (s : ℝ) (hs : c.s = (s : ℂ)) (h n : ℕ) (hn : 1 ≤ n) (κ : List ℤ)
    (hk : wnFlat c.D c.N h = κ ∨ wnFlat c.D c.N h = negK κ) :
    laplace c (2 * n) h = (((-1) ^ n * s ^ (2 * n) * (kappaPow c.D (2 * n) κ : ℝ) : ℝ) : ℂ) := by
  have e : ∑ d ∈ range c.D, (wnAt c d h : ℝ) ^ (2 * n) = (kappaPow c.D (2 * n) κ : ℝ) := by
    unfold kappaPow
    push_cast
    apply Finset.sum_congr rfl
    intro d _
    rcases hk with hk | hk
    · rw [wnAt_def, hk]
    · rw [wnAt_def, hk, negK_getD]
      push_cast
      rw [(even_two_mul n).neg_pow]
  rw [Operator.laplace_even c s hs h n hn, e]

/-- the gain of the even-order Poisson solve as a function of the wave vector -/
noncomputable def gainEven (D : ℕ) (s : ℝ) (n : ℕ) (κ : List ℤ) : ℝ :=
  if kappaPow D (2 * n) κ = 0 then 0 else -(1 / ((-1) ^ n * s ^ (2 * n) * (kappaPow D (2 * n) κ : ℝ)))

theorem evenSymbol_ne_zero (D : ℕ) (s : ℝ) (hs0 : s ≠ 0) (n : ℕ) (κ : List ℤ) (h0 : kappaPow D (2 * n) κ ≠ 0) :
    (-1 : ℝ) ^ n * s ^ (2 * n) * (kappaPow D (2 * n) κ : ℝ) ≠ 0 :=
  mul_ne_zero (mul_ne_zero (pow_ne_zero _ (neg_ne_zero.mpr one_ne_zero)) (pow_ne_zero _ hs0)) (Int.cast_ne_zero.mpr h0)

theorem poissonMult_at (c : Cfg ℂ) (s : ℝ) (hs : c.s = (s : ℂ)) (hs0 : s ≠ 0) (h n : ℕ) (hn : 1 ≤ n) (κ : List ℤ)
    (hk : wnFlat c.D c.N h = κ ∨ wnFlat c.D c.N h = negK κ) :
    poissonMult c (2 * n) h = ((gainEven c.D s n κ : ℝ) : ℂ) := by
  unfold poissonMult gainEven
  rw [laplace_even_at c s hs h n hn κ hk]
  by_cases h0 : kappaPow c.D (2 * n) κ = 0
  · rw [if_pos h0, h0, Int.cast_zero, mul_zero, if_pos Complex.ofReal_zero, Complex.ofReal_zero]
  · rw [if_neg h0, if_neg (Complex.ofReal_ne_zero.mpr (evenSymbol_ne_zero c.D s hs0 n κ h0))]
    push_cast
    rfl

/-- **one mode, every even order `2n ≥ 2`**: `irfftn(step_fourier(rfftn f)) = gain · f` -/
theorem poisson_even_modeField (c : Cfg ℂ) (s : ℝ) (hs : c.s = (s : ℂ)) (hs0 : s ≠ 0) (hD : 0 < c.D)
    (hN : 0 < c.N) (n : ℕ) (hn : 1 ≤ n) (κ : List ℤ) (hκ : BelowNyquist c.D c.N κ) (a φ : ℝ) :
    irfftnM c.D c.N (poissonSpec c (2 * n) (rfftnM c.D c.N (modeField c.D c.N κ a φ)))
      = modeField c.D c.N κ (a * gainEven c.D s n κ) φ := by
  rw [poisson_eq_specApply]
  exact specApply_modeField_real c.D c.N hD hN _ κ hκ _
    (fun h _ hk => poissonMult_at c s hs hs0 h n hn κ (Or.inl hk))
    (fun h _ hk => poissonMult_at c s hs hs0 h n hn κ (Or.inr hk)) a φ

noncomputable def poissonModesEven (D : ℕ) (s : ℝ) (n : ℕ) (ms : Modes) : Modes :=
  ms.map (fun q => (q.1, q.2.1 * gainEven D s n q.1, q.2.2))

theorem poisson_even_stateOf (c : Cfg ℂ) (s : ℝ) (hs : c.s = (s : ℂ)) (hs0 : s ≠ 0) (hD : 0 < c.D)
    (hN : 0 < c.N) (n : ℕ) (hn : 1 ≤ n) (ms : Modes) (hms : ∀ q ∈ ms, BelowNyquist c.D c.N q.1) :
    irfftnM c.D c.N (poissonSpec c (2 * n) (rfftnM c.D c.N (stateOf c.D c.N ms)))
      = stateOf c.D c.N (poissonModesEven c.D s n ms) := by
  rw [poisson_eq_specApply]
  refine stateOf_map_of_modeField c.D c.N _ (specApply_vsum c.D c.N hN _) _ ms fun q hq => ?_
  rw [← poisson_eq_specApply]
  exact poisson_even_modeField c s hs hs0 hD hN n hn q.1 (hms q hq) q.2.1 q.2.2

theorem laplace_even_modeField (c : Cfg ℂ) (s : ℝ) (hs : c.s = (s : ℂ)) (hD : 0 < c.D) (hN : 0 < c.N)
    (n : ℕ) (hn : 1 ≤ n) (κ : List ℤ) (hκ : BelowNyquist c.D c.N κ) (a φ : ℝ) :
    specApply c.D c.N (laplace c (2 * n)) (modeField c.D c.N κ a φ)
      = modeField c.D c.N κ (a * ((-1) ^ n * s ^ (2 * n) * (kappaPow c.D (2 * n) κ : ℝ))) φ :=
  specApply_modeField_real c.D c.N hD hN _ κ hκ _
    (fun h _ hk => laplace_even_at c s hs h n hn κ (Or.inl hk))
    (fun h _ hk => laplace_even_at c s hs h n hn κ (Or.inr hk)) a φ

/-- `−(f − mean f)`: the modes of the right-hand side with the sign flipped and the constant part dropped -/
noncomputable def negOffMean (D p : ℕ) (ms : Modes) : Modes :=
  ms.map (fun q => (q.1, if kappaPow D p q.1 = 0 then 0 else -q.2.1, q.2.2))

theorem gain_mul_symbol (D : ℕ) (s : ℝ) (hs0 : s ≠ 0) (n : ℕ) (κ : List ℤ) (a : ℝ) :
    a * gainEven D s n κ * ((-1) ^ n * s ^ (2 * n) * (kappaPow D (2 * n) κ : ℝ))
      = if kappaPow D (2 * n) κ = 0 then 0 else -a := by
  unfold gainEven
  by_cases h0 : kappaPow D (2 * n) κ = 0
  · rw [if_pos h0, if_pos h0, mul_zero, zero_mul]
  · rw [if_neg h0, if_neg h0, mul_assoc, neg_mul, one_div_mul_cancel (evenSymbol_ne_zero D s hs0 n κ h0),
      mul_neg_one]

/-- **sign convention, every even order**: the model operator applied to the returned solution gives back
    `−(f − mean f)` (operator · solution = −rhs) -/
theorem poisson_even_solves (c : Cfg ℂ) (s : ℝ) (hs : c.s = (s : ℂ)) (hs0 : s ≠ 0) (hD : 0 < c.D)
    (hN : 0 < c.N) (n : ℕ) (hn : 1 ≤ n) (ms : Modes) (hms : ∀ q ∈ ms, BelowNyquist c.D c.N q.1) :
    specApply c.D c.N (laplace c (2 * n))
        (irfftnM c.D c.N (poissonSpec c (2 * n) (rfftnM c.D c.N (stateOf c.D c.N ms))))
      = stateOf c.D c.N (negOffMean c.D (2 * n) ms) := by
  rw [poisson_even_stateOf c s hs hs0 hD hN n hn ms hms]
  unfold stateOf poissonModesEven negOffMean
  rw [specApply_vsum c.D c.N hN, List.map_map, List.map_map, List.map_map]
  congr 1
  apply List.map_congr_left
  intro q hq
  simp only [Function.comp]
  rw [laplace_even_modeField c s hs hD hN n hn q.1 (hms q hq), gain_mul_symbol c.D s hs0 n q.1 q.2.1]

theorem poisson_even_solves_mode (c : Cfg ℂ) (s : ℝ) (hs : c.s = (s : ℂ)) (hs0 : s ≠ 0) (hD : 0 < c.D)
    (hN : 0 < c.N) (n : ℕ) (hn : 1 ≤ n) (κ : List ℤ) (hκ : BelowNyquist c.D c.N κ)
    (hne : ∃ d < c.D, κ.getD d 0 ≠ 0) (a φ : ℝ) :
    specApply c.D c.N (laplace c (2 * n))
        (irfftnM c.D c.N (poissonSpec c (2 * n) (rfftnM c.D c.N (modeField c.D c.N κ a φ))))
      = modeField c.D c.N κ (-a) φ := by
  rw [poisson_even_modeField c s hs hs0 hD hN n hn κ hκ a φ, laplace_even_modeField c s hs hD hN n hn κ hκ,
    gain_mul_symbol c.D s hs0 n κ a, if_neg (kappaPow_even_pos c.D n hn κ hne).ne']

theorem gainEven_one (D : ℕ) (s : ℝ) (κ : List ℤ) : gainEven D s 1 κ = poissonGain D s κ := by
  unfold gainEven poissonGain
  rw [show 2 * 1 = 2 by norm_num, kappaPow_two]
  by_cases h0 : kappaSq D κ = 0
  · rw [if_pos h0, if_pos h0]
  · rw [if_neg h0, if_neg h0]
    rw [pow_one, neg_one_mul, neg_mul, one_div, one_div, inv_neg, neg_neg]

theorem poissonModesEven_one (D : ℕ) (s : ℝ) (ms : Modes) : poissonModesEven D s 1 ms = poissonModes D s ms := by
  unfold poissonModesEven poissonModes
  simp only [gainEven_one]

end Exponax.SmallGaps2

namespace Exponax.ReadOff
open Exponax Exponax.Layout Exponax.Transform Exponax.DFT Exponax.ExactLinear Finset
open Exponax.Nonlin (Cfg laplace poissonStep derivativeM modes kInt kSq)
open scoped ComplexConjugate

/-- C05, Laplacian: `irfftn(build_laplace_operator(2) ⊙ rfftn u) = −s²|κ|² u` mode by mode (the case `n = 1`). -/
theorem laplace_stateOf (c : Cfg ℂ) (s : ℝ) (hs : c.s = (s : ℂ)) (hD : 0 < c.D) (hN : 0 < c.N)
    (ms : Modes) (hms : ∀ q ∈ ms, BelowNyquist c.D c.N q.1) :
    specApply c.D c.N (laplace c 2) (stateOf c.D c.N ms) = stateOf c.D c.N (lapModes c.D s ms) :=
  stateOf_map_of_modeField c.D c.N _ (specApply_vsum c.D c.N hN _) _ ms fun q hq => by
    rw [SmallGaps2.laplace_even_modeField c s hs hD hN 1 le_rfl q.1 (hms q hq), pow_one, neg_one_mul, neg_mul]
    rfl

end Exponax.ReadOff
