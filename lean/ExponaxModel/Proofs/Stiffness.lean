import ExponaxModel.Proofs.StoredCoef
/-
C19 — "steps stay finite across stiffness", about the regenerated definitions in `Generated/Etdrk.lean`.
For real `z = dt·λ`, real radius `r ≠ 0` and an EVEN number `M` of contour points every node `r·ζ_j + z` lies
off the real axis, at distance `≥ |r|·sin(π/M)` from `0` whatever the stiffness; hence for `z ≤ 0`, `r > 0`
every closed form `E?_scan_body_?` at a node, and every stored coefficient `E?_coef_?`, is bounded by a
constant depending on `(r, M)` only.
-/
namespace Exponax.Stiffness
open Exponax Exponax.Spec Exponax.Gen.Etdrk

theorem root_of_unity_im (M j : ℕ) : (root_of_unity M j : ℂ).im = Real.sin (nodeAngle M j) := by
  rw [root_of_unity_eq_exp, Complex.exp_ofReal_mul_I_im]

theorem root_of_unity_re (M j : ℕ) : (root_of_unity M j : ℂ).re = Real.cos (nodeAngle M j) := by
  rw [root_of_unity_eq_exp, Complex.exp_ofReal_mul_I_re]

theorem node_im (M j : ℕ) (r z : ℝ) :
    ((r : ℂ) * root_of_unity M j + (z : ℂ)).im = r * Real.sin (nodeAngle M j) := by
  rw [Complex.add_im, Complex.im_ofReal_mul, Complex.ofReal_im, root_of_unity_im, add_zero]

theorem node_re (M j : ℕ) (r z : ℝ) :
    ((r : ℂ) * root_of_unity M j + (z : ℂ)).re = r * Real.cos (nodeAngle M j) + z := by
  rw [Complex.add_re, Complex.re_ofReal_mul, Complex.ofReal_re, root_of_unity_re]

theorem nodeAngle_mul_eq (M j : ℕ) (hM : 0 < M) (a b : ℤ) (h : nodeAngle M j * b = a * Real.pi) :
    (2 * (j : ℤ) - 1) * b = a * M := by
  have hMne : (M : ℝ) ≠ 0 := by exact_mod_cast hM.ne'
  rw [nodeAngle, div_mul_eq_mul_div, div_eq_iff hMne] at h
  have h2 : Real.pi * ((2 * (j : ℝ) - 1) * b) = Real.pi * (a * M) := by
    rw [show Real.pi * ((2 * (j : ℝ) - 1) * b) = 2 * Real.pi * ((j : ℝ) - 1 / 2) * b by ring, h]
    ring
  exact_mod_cast mul_left_cancel₀ Real.pi_ne_zero h2

/-- for even `M`, `(2j−1)/M` is never an integer -/
theorem sin_nodeAngle_ne_zero (M j : ℕ) (hM : 0 < M) (hev : M % 2 = 0) :
    Real.sin (nodeAngle M j) ≠ 0 := by
  intro h
  obtain ⟨n, hn⟩ := Real.sin_eq_zero_iff.mp h
  have h3 := nodeAngle_mul_eq M j hM n 1 (by rw [Int.cast_one, mul_one, hn])
  have h4 : (2 : ℤ) ∣ n * (M : ℤ) :=
    Dvd.dvd.mul_left (by exact_mod_cast Nat.dvd_of_mod_eq_zero hev) n
  omega

theorem node_im_ne_zero (M j : ℕ) (hM : 0 < M) (hev : M % 2 = 0) (r z : ℝ) (hr : r ≠ 0) :
    ((r : ℂ) * root_of_unity M j + (z : ℂ)).im ≠ 0 := by
  rw [node_im]
  exact mul_ne_zero hr (sin_nodeAngle_ne_zero M j hM hev)

theorem node_ne_zero (M j : ℕ) (hM : 0 < M) (hev : M % 2 = 0) (r z : ℝ) (hr : r ≠ 0) :
    (r : ℂ) * root_of_unity M j + (z : ℂ) ≠ 0 :=
  fun h0 => node_im_ne_zero M j hM hev r z hr (by rw [h0, Complex.zero_im])

theorem nodes_ne_zero (M : ℕ) (hM : 0 < M) (hev : M % 2 = 0) (r z : ℝ) (hr : r ≠ 0) :
    ∀ ζ ∈ (roots_of_unity M : List ℂ), (r : ℂ) * ζ + (z : ℂ) ≠ 0 :=
  forall_mem_roots M fun j => node_ne_zero M j hM hev r z hr

/-- a very stiff instance, spelled out -/
example (j : ℕ) : ((1 : ℝ) : ℂ) * root_of_unity 16 j + (((-10 ^ 15 : ℝ)) : ℂ) ≠ 0 :=
  node_ne_zero 16 j (by norm_num) (by norm_num) 1 _ one_ne_zero

private theorem sin_pi_div_le (M : ℕ) (x : ℝ) (h1 : 1 ≤ x) (h2 : x + 1 ≤ M) :
    Real.sin (Real.pi / M) ≤ Real.sin (x * (Real.pi / M)) := by
  have hM : (0 : ℝ) < M := by linarith
  have hu : 0 < Real.pi / M := div_pos Real.pi_pos hM
  have h := mul_le_mul_of_nonneg_right h2 hu.le
  rw [mul_div_cancel₀ _ hM.ne'] at h
  by_cases hc : x * (Real.pi / M) ≤ Real.pi / 2
  · exact Real.sin_le_sin_of_le_of_le_pi_div_two (by linarith [Real.pi_pos]) hc (le_mul_of_one_le_left hu.le h1)
  · rw [← Real.sin_pi_sub (x * _)]
    exact Real.sin_le_sin_of_le_of_le_pi_div_two (by linarith) (by linarith) (by linarith)

/-- every `j`: `θ_j = (2j−1)·π/M`, `2j − 1 = q M + s` with `s` odd, so `1 ≤ s ≤ M − 1`, and `|sin|` has period `π` -/
theorem abs_sin_nodeAngle_ge (M j : ℕ) (hev : M % 2 = 0) (hM : 2 ≤ M) :
    Real.sin (Real.pi / (M : ℝ)) ≤ |Real.sin (nodeAngle M j)| := by
  have hMne : (M : ℝ) ≠ 0 := by exact_mod_cast (by omega : M ≠ 0)
  obtain ⟨q, s, hk, hs0, hsM⟩ : ∃ q s : ℤ, 2 * (j : ℤ) - 1 = q * M + s ∧ 1 ≤ s ∧ s + 1 ≤ M := by
    refine ⟨(2 * (j : ℤ) - 1) / M, (2 * (j : ℤ) - 1) % M, (Int.ediv_mul_add_emod _ _).symm, ?_, ?_⟩
    · have h0 := Int.emod_nonneg (2 * (j : ℤ) - 1) (by omega : (M : ℤ) ≠ 0)
      have hd : (2 : ℤ) ∣ (2 * (j : ℤ) - 1) / M * M :=
        Dvd.dvd.mul_left (by exact_mod_cast Nat.dvd_of_mod_eq_zero hev) _
      have := Int.ediv_mul_add_emod (2 * (j : ℤ) - 1) M
      omega
    · have := Int.emod_lt_of_pos (2 * (j : ℤ) - 1) (by omega : (0 : ℤ) < M)
      omega
  have hθ : nodeAngle M j = (s : ℝ) * (Real.pi / M) + q * Real.pi := by
    have : (2 * (j : ℝ) - 1) = q * M + s := by exact_mod_cast hk
    rw [nodeAngle, show 2 * Real.pi * ((j : ℝ) - 1 / 2) / M = (2 * (j : ℝ) - 1) * (Real.pi / M) by ring, this]
    field_simp
    ring
  rw [hθ, Real.sin_add_int_mul_pi, abs_mul, abs_zpow, abs_neg, abs_one, one_zpow, one_mul]
  exact (sin_pi_div_le M s (by exact_mod_cast hs0) (by exact_mod_cast hsM)).trans (le_abs_self _)

theorem sin_pi_div_pos (M : ℕ) (hM : 2 ≤ M) : 0 < Real.sin (Real.pi / (M : ℝ)) := by
  have hM1 : (1 : ℝ) < M := by exact_mod_cast (by omega : 1 < M)
  exact Real.sin_pos_of_pos_of_lt_pi (div_pos Real.pi_pos (by linarith))
    (div_lt_self Real.pi_pos hM1)

theorem node_norm_ge_abs_sin (M j : ℕ) (r z : ℝ) :
    |r| * |Real.sin (nodeAngle M j)| ≤ ‖(r : ℂ) * root_of_unity M j + (z : ℂ)‖ := by
  rw [← abs_mul, ← node_im]
  exact Complex.abs_im_le_norm _

theorem node_norm_ge (M j : ℕ) (hev : M % 2 = 0) (hM : 2 ≤ M) (r z : ℝ) :
    |r| * Real.sin (Real.pi / (M : ℝ)) ≤ ‖(r : ℂ) * root_of_unity M j + (z : ℂ)‖ :=
  le_trans (mul_le_mul_of_nonneg_left (abs_sin_nodeAngle_ge M j hev hM) (abs_nonneg r))
    (node_norm_ge_abs_sin M j r z)

/-- every closed form `x` is `(P(w) + e·Q(w))/w³` with `P`, `Q` of degree `≤ 2` (`e` stands for `e^w` or `e^{w/2}`): for
    `‖e‖ ≤ A` and `0 < δ ≤ ‖w‖` it is bounded coefficient by coefficient -/
theorem norm_le_of_expQuad {w e x : ℂ} {A δ B : ℝ} (hA : ‖e‖ ≤ A) (hδ : 0 < δ) (hw : δ ≤ ‖w‖) (p0 p1 p2 q0 q1 q2 : ℂ)
    (hx : x = (p0 + p1 * w + p2 * w ^ 2 + e * (q0 + q1 * w + q2 * w ^ 2)) / w ^ 3)
    (hB : (‖p0‖ + A * ‖q0‖) / δ ^ 3 + (‖p1‖ + A * ‖q1‖) / δ ^ 2 + (‖p2‖ + A * ‖q2‖) / δ = B) : ‖x‖ ≤ B := by
  subst hx hB
  have hA0 : 0 ≤ A := (norm_nonneg e).trans hA
  have hx : 0 < ‖w‖ := hδ.trans_le hw
  have quad : ∀ a b c : ℂ, ‖a + b * w + c * w ^ 2‖ ≤ ‖a‖ + ‖b‖ * ‖w‖ + ‖c‖ * ‖w‖ ^ 2 := fun a b c =>
    norm_add_le_of_le (norm_add_le_of_le le_rfl (norm_mul_le _ _)) ((norm_mul_le _ _).trans_eq (by rw [norm_pow]))
  have nn : ∀ p q : ℂ, 0 ≤ ‖p‖ + A * ‖q‖ := fun p q => add_nonneg (norm_nonneg p) (mul_nonneg hA0 (norm_nonneg q))
  have anti : ∀ (p q : ℂ) (k : ℕ), (‖p‖ + A * ‖q‖) / ‖w‖ ^ k ≤ (‖p‖ + A * ‖q‖) / δ ^ k := fun p q k =>
    div_le_div_of_nonneg_left (nn p q) (pow_pos hδ k) (pow_le_pow_left₀ hδ.le hw k)
  rw [norm_div, norm_pow]
  calc ‖p0 + p1 * w + p2 * w ^ 2 + e * (q0 + q1 * w + q2 * w ^ 2)‖ / ‖w‖ ^ 3
      ≤ (‖p0‖ + ‖p1‖ * ‖w‖ + ‖p2‖ * ‖w‖ ^ 2 + A * (‖q0‖ + ‖q1‖ * ‖w‖ + ‖q2‖ * ‖w‖ ^ 2)) / ‖w‖ ^ 3 :=
        div_le_div_of_nonneg_right (norm_add_le_of_le (quad _ _ _)
          ((norm_mul_le _ _).trans (mul_le_mul hA (quad _ _ _) (norm_nonneg _) hA0))) (pow_pos hx 3).le
    _ = (‖p0‖ + A * ‖q0‖) / ‖w‖ ^ 3 + (‖p1‖ + A * ‖q1‖) / ‖w‖ ^ 2 + (‖p2‖ + A * ‖q2‖) / ‖w‖ := by
        field_simp
        ring
    _ ≤ _ := add_le_add (add_le_add (anti p0 q0 3) (anti p1 q1 2)) (div_le_div_of_nonneg_left (nn p2 q2) hδ hw)

/-! The integrands at the nodes, real `z ≤ 0` (arbitrarily stiff), `r > 0`, `M` even: `A = e^r` (`e^{r/2}` for
the half step), `δ = nodeDist r M`, constants that depend on `(r, M)` only. -/

/-- the guaranteed distance of every node from the singularity (`nodeDist_le_norm`) -/
noncomputable def nodeDist (r : ℝ) (M : ℕ) : ℝ := r * Real.sin (Real.pi / (M : ℝ))

theorem nodeDist_pos (r : ℝ) (M : ℕ) (hr : 0 < r) (hM : 2 ≤ M) : 0 < nodeDist r M :=
  mul_pos hr (sin_pi_div_pos M hM)

theorem nodeDist_le_norm (M j : ℕ) (hev : M % 2 = 0) (hM : 2 ≤ M) (r z : ℝ) (hr : 0 < r) :
    nodeDist r M ≤ ‖(r : ℂ) * root_of_unity M j + (z : ℂ)‖ := by
  have := node_norm_ge M j hev hM r z
  rwa [abs_of_pos hr] at this

theorem node_re_le (M j : ℕ) (r z : ℝ) (hr : 0 ≤ r) (hz : z ≤ 0) :
    ((r : ℂ) * root_of_unity M j + (z : ℂ)).re ≤ r := by
  rw [node_re]
  nlinarith [Real.cos_le_one (nodeAngle M j)]

theorem norm_exp_node_le (M j : ℕ) (r z : ℝ) (hr : 0 ≤ r) (hz : z ≤ 0) :
    ‖Complex.exp ((r : ℂ) * root_of_unity M j + (z : ℂ))‖ ≤ Real.exp r := by
  rw [Complex.norm_exp]
  exact Real.exp_le_exp.mpr (node_re_le M j r z hr hz)

theorem norm_exp_half_node_le (M j : ℕ) (r z : ℝ) (hr : 0 ≤ r) (hz : z ≤ 0) :
    ‖Complex.exp (((r : ℂ) * root_of_unity M j + (z : ℂ)) / 2)‖ ≤ Real.exp (r / 2) := by
  rw [Complex.norm_exp, Complex.div_ofNat_re]
  exact Real.exp_le_exp.mpr (by linarith [node_re_le M j r z hr hz])

/-- bounds of the fourteen closed forms at `w` with `‖e^w‖ ≤ A`, `‖e^{w/2}‖ ≤ Ah`, `δ ≤ ‖w‖` -/
noncomputable def formBound (A Ah δ : ℝ) : Fin 14 → ℝ :=
  ![(A + 1) / δ, (A + 1) / δ, (A + 1) / δ ^ 2 + 1 / δ,
    (Ah + 1) / δ, (A + 1) / δ, 4 * (1 + A) / δ ^ 3 + (1 + 3 * A) / δ ^ 2 + A / δ,
    4 * (2 * (1 + A) / δ ^ 3 + (1 + A) / δ ^ 2), 4 * (1 + A) / δ ^ 3 + (3 + A) / δ ^ 2 + 1 / δ,
    (Ah + 1) / δ, (Ah + 1) / δ, (Ah + 1) / δ, 4 * (1 + A) / δ ^ 3 + (1 + 3 * A) / δ ^ 2 + A / δ,
    2 * (1 + A) / δ ^ 3 + (1 + A) / δ ^ 2, 4 * (1 + A) / δ ^ 3 + (3 + A) / δ ^ 2 + 1 / δ]

open ContourComplex in
theorem norm_rawPhi_le (w : ℂ) (A Ah δ : ℝ) (hA : ‖Complex.exp w‖ ≤ A)
    (hAh : ‖Complex.exp (w / 2)‖ ≤ Ah) (hδ : 0 < δ) (hw : δ ≤ ‖w‖) :
    ∀ i : Fin 14, ‖rawPhi w i‖ ≤ formBound A Ah δ i := by
  have hw0 : w ≠ 0 := norm_pos_iff.mp (hδ.trans_le hw)
  have h1 : ‖phi1 w‖ ≤ (A + 1) / δ :=
    norm_le_of_expQuad hA hδ hw 0 0 (-1) 0 0 1 (by rw [phi1_closed, div_eq_div_iff hw0 (pow_ne_zero 3 hw0)]; ring)
      (by norm_num; ring)
  have hh : ‖phi1 (w / 2) / 2‖ ≤ (Ah + 1) / δ :=
    norm_le_of_expQuad hAh hδ hw 0 0 (-1) 0 0 1 (by rw [phi1_half_eq, div_eq_div_iff hw0 (pow_ne_zero 3 hw0)]; ring)
      (by norm_num; ring)
  have h2 : ‖phi2 w‖ ≤ (A + 1) / δ ^ 2 + 1 / δ :=
    norm_le_of_expQuad hA hδ hw 0 (-1) (-1) 0 1 0
      (by rw [phi2_closed, div_eq_div_iff (pow_ne_zero 2 hw0) (pow_ne_zero 3 hw0)]; ring) (by norm_num; ring)
  have hC : ‖phi1 w - 3 * phi2 w + 4 * phi3 w‖ ≤ 4 * (1 + A) / δ ^ 3 + (1 + 3 * A) / δ ^ 2 + A / δ :=
    norm_le_of_expQuad hA hδ hw (-4) (-1) 0 4 (-3) 1 (by rw [cformC_eq]; ring) (by norm_num; ring)
  have hF : ‖phi2 w - 2 * phi3 w‖ ≤ 2 * (1 + A) / δ ^ 3 + (1 + A) / δ ^ 2 :=
    norm_le_of_expQuad hA hδ hw 2 1 0 (-2) 1 0 (by rw [cformF_eq]; ring) (by norm_num; ring)
  have hE : ‖4 * phi3 w - phi2 w‖ ≤ 4 * (1 + A) / δ ^ 3 + (3 + A) / δ ^ 2 + 1 / δ :=
    norm_le_of_expQuad hA hδ hw (-4) (-3) (-1) 4 (-1) 0 (by rw [cformE_eq]; ring) (by norm_num; ring)
  have hD : ‖4 * phi2 w - 8 * phi3 w‖ ≤ 4 * (2 * (1 + A) / δ ^ 3 + (1 + A) / δ ^ 2) := by
    rw [show 4 * phi2 w - 8 * phi3 w = 4 * (phi2 w - 2 * phi3 w) by ring, norm_mul,
      Complex.norm_ofNat]
    exact mul_le_mul_of_nonneg_left hF zero_le_four
  unfold rawPhi formBound
  simp only [Fin.forall_fin_succ, Matrix.cons_val_zero, Matrix.cons_val_succ]
  exact ⟨h1, h1, h2, hh, h1, hC, hD, hE, hh, hh, hh, hC, hF, hE, fun i => i.elim0⟩

theorem norm_storedCoef_le_stiff (dt lam r : ℝ) (M : ℕ) (hev : M % 2 = 0) (hM : 2 ≤ M) (hr : 0 < r)
    (hz : lam * dt ≤ 0) (i : Fin 14) :
    ‖ContourComplex.storedCoef (dt : ℂ) (lam : ℂ) M (r : ℂ) i‖
      ≤ |dt| * formBound (Real.exp r) (Real.exp (r / 2)) (nodeDist r M) i := by
  rw [ContourComplex.storedCoef_eq_rawMean, norm_mul, Complex.norm_real, Real.norm_eq_abs,
    ← Complex.ofReal_mul]
  refine mul_le_mul_of_nonneg_left
    (ContourComplex.norm_contourMean_le M (by omega) _ _ _ _ (forall_mem_roots M fun j => ?_)) (abs_nonneg dt)
  exact norm_rawPhi_le _ _ _ _ (norm_exp_node_le M _ r _ hr.le hz)
    (norm_exp_half_node_le M _ r _ hr.le hz) (nodeDist_pos r M hr hM) (nodeDist_le_norm M _ hev hM r _ hr) i

section Coefs
variable (dt lam r : ℝ) (M : ℕ) (hev : M % 2 = 0) (hM : 2 ≤ M) (hr : 0 < r) (hz : lam * dt ≤ 0)
include hev hM hr hz

theorem E1_coef_1_bounded :
    ‖E1_coef_1 (dt : ℂ) (lam : ℂ) M (r : ℂ)‖ ≤ |dt| * ((Real.exp r + 1) / nodeDist r M) :=
  norm_storedCoef_le_stiff dt lam r M hev hM hr hz 0

theorem E2_coef_1_bounded :
    ‖E2_coef_1 (dt : ℂ) (lam : ℂ) M (r : ℂ)‖ ≤ |dt| * ((Real.exp r + 1) / nodeDist r M) :=
  norm_storedCoef_le_stiff dt lam r M hev hM hr hz 1

theorem E2_coef_2_bounded :
    ‖E2_coef_2 (dt : ℂ) (lam : ℂ) M (r : ℂ)‖
      ≤ |dt| * ((Real.exp r + 1) / nodeDist r M ^ 2 + 1 / nodeDist r M) :=
  norm_storedCoef_le_stiff dt lam r M hev hM hr hz 2

theorem E3_coef_1_bounded :
    ‖E3_coef_1 (dt : ℂ) (lam : ℂ) M (r : ℂ)‖ ≤ |dt| * ((Real.exp (r / 2) + 1) / nodeDist r M) :=
  norm_storedCoef_le_stiff dt lam r M hev hM hr hz 3

theorem E3_coef_2_bounded :
    ‖E3_coef_2 (dt : ℂ) (lam : ℂ) M (r : ℂ)‖ ≤ |dt| * ((Real.exp r + 1) / nodeDist r M) :=
  norm_storedCoef_le_stiff dt lam r M hev hM hr hz 4

theorem E3_coef_3_bounded :
    ‖E3_coef_3 (dt : ℂ) (lam : ℂ) M (r : ℂ)‖
      ≤ |dt| * ((4 * (1 + Real.exp r)) / nodeDist r M ^ 3 + (1 + 3 * Real.exp r) / nodeDist r M ^ 2
        + Real.exp r / nodeDist r M) :=
  norm_storedCoef_le_stiff dt lam r M hev hM hr hz 5

theorem E3_coef_4_bounded :
    ‖E3_coef_4 (dt : ℂ) (lam : ℂ) M (r : ℂ)‖
      ≤ |dt| * (4 * ((2 * (1 + Real.exp r)) / nodeDist r M ^ 3
          + (1 + Real.exp r) / nodeDist r M ^ 2)) :=
  norm_storedCoef_le_stiff dt lam r M hev hM hr hz 6

theorem E3_coef_5_bounded :
    ‖E3_coef_5 (dt : ℂ) (lam : ℂ) M (r : ℂ)‖
      ≤ |dt| * ((4 * (1 + Real.exp r)) / nodeDist r M ^ 3 + (3 + Real.exp r) / nodeDist r M ^ 2
        + 1 / nodeDist r M) :=
  norm_storedCoef_le_stiff dt lam r M hev hM hr hz 7

theorem E4_coef_1_bounded :
    ‖E4_coef_1 (dt : ℂ) (lam : ℂ) M (r : ℂ)‖ ≤ |dt| * ((Real.exp (r / 2) + 1) / nodeDist r M) :=
  norm_storedCoef_le_stiff dt lam r M hev hM hr hz 8

theorem E4_coef_2_bounded :
    ‖E4_coef_2 (dt : ℂ) (lam : ℂ) M (r : ℂ)‖ ≤ |dt| * ((Real.exp (r / 2) + 1) / nodeDist r M) :=
  norm_storedCoef_le_stiff dt lam r M hev hM hr hz 9

theorem E4_coef_3_bounded :
    ‖E4_coef_3 (dt : ℂ) (lam : ℂ) M (r : ℂ)‖ ≤ |dt| * ((Real.exp (r / 2) + 1) / nodeDist r M) :=
  norm_storedCoef_le_stiff dt lam r M hev hM hr hz 10

theorem E4_coef_4_bounded :
    ‖E4_coef_4 (dt : ℂ) (lam : ℂ) M (r : ℂ)‖
      ≤ |dt| * ((4 * (1 + Real.exp r)) / nodeDist r M ^ 3 + (1 + 3 * Real.exp r) / nodeDist r M ^ 2
        + Real.exp r / nodeDist r M) :=
  norm_storedCoef_le_stiff dt lam r M hev hM hr hz 11

theorem E4_coef_5_bounded :
    ‖E4_coef_5 (dt : ℂ) (lam : ℂ) M (r : ℂ)‖
      ≤ |dt| * ((2 * (1 + Real.exp r)) / nodeDist r M ^ 3 + (1 + Real.exp r) / nodeDist r M ^ 2) :=
  norm_storedCoef_le_stiff dt lam r M hev hM hr hz 12

theorem E4_coef_6_bounded :
    ‖E4_coef_6 (dt : ℂ) (lam : ℂ) M (r : ℂ)‖
      ≤ |dt| * ((4 * (1 + Real.exp r)) / nodeDist r M ^ 3 + (3 + Real.exp r) / nodeDist r M ^ 2
        + 1 / nodeDist r M) :=
  norm_storedCoef_le_stiff dt lam r M hev hM hr hz 13

end Coefs

theorem norm_exp_term_le_one (dt : ℝ) (lam : ℂ) (hdt : 0 ≤ dt) (hl : lam.re ≤ 0) :
    ‖exp_term (dt : ℂ) lam‖ ≤ 1 :=
  Exponax.norm_exp_term_le_one dt lam hdt hl

theorem norm_E3_half_exp_term_le_one (dt : ℝ) (lam r : ℂ) (M : ℕ) (hdt : 0 ≤ dt) (hl : lam.re ≤ 0) :
    ‖E3_half_exp_term (dt : ℂ) lam M r‖ ≤ 1 := by
  rw [C02_half_exp_term_E3, Complex.norm_exp, Complex.div_ofNat_re, Complex.re_ofReal_mul,
    Real.exp_le_one_iff]
  linarith [mul_nonpos_of_nonneg_of_nonpos hdt hl]

theorem norm_E4_half_exp_term_le_one (dt : ℝ) (lam r : ℂ) (M : ℕ) (hdt : 0 ≤ dt) (hl : lam.re ≤ 0) :
    ‖E4_half_exp_term (dt : ℂ) lam M r‖ ≤ 1 :=
  norm_E3_half_exp_term_le_one dt lam r M hdt hl

theorem E1_coef_1_at_zero (dt r : ℂ) (M : ℕ) :
    E1_coef_1 dt 0 M r = dt * contourMean (roots_of_unity M) r phi1 0 := by
  have := C02_coef_E1_1 dt 0 r M
  rwa [zero_mul] at this

/-! One step per mode: with `‖E‖ ≤ 1` and coefficients bounded by `K`, the new state is bounded by the old
state and the values of the nonlinear term at the stages. -/

theorem norm_E1step_le (E c1 : ℂ) (N : ℂ → ℂ) (u : ℂ) (K : ℝ) (hE : ‖E‖ ≤ 1) (h1 : ‖c1‖ ≤ K) :
    ‖E1step E c1 N u‖ ≤ ‖u‖ + K * ‖N u‖ := by
  simp only [E1step]
  exact (norm_add_le_of_le (norm_mul_le_of_le hE le_rfl) (norm_mul_le_of_le h1 le_rfl)).trans_eq
    (by rw [one_mul])

/-- the final combination of ETDRK4, whatever the stage values `Na`, `Nb`, `Nc` are -/
theorem norm_E4_final_le (E c4 c5 c6 u Nu Na Nb Nc : ℂ) (K : ℝ) (hE : ‖E‖ ≤ 1)
    (h4 : ‖c4‖ ≤ K) (h5 : ‖c5‖ ≤ K) (h6 : ‖c6‖ ≤ K) :
    ‖E * u + c4 * Nu + c5 * 2 * (Na + Nb) + c6 * Nc‖
      ≤ ‖u‖ + K * (‖Nu‖ + 2 * (‖Na‖ + ‖Nb‖) + ‖Nc‖) := by
  have h2 : ‖(2 : ℂ)‖ ≤ 2 := (Complex.norm_ofNat 2).le
  exact (norm_add_le_of_le (norm_add_le_of_le (norm_add_le_of_le
    (norm_mul_le_of_le hE le_rfl) (norm_mul_le_of_le h4 le_rfl))
    (norm_mul_le_of_le (norm_mul_le_of_le h5 h2) (norm_add_le Na Nb)))
    (norm_mul_le_of_le h6 le_rfl)).trans_eq (by ring)

end Exponax.Stiffness
