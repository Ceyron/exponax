import ExponaxModel.Proofs.AliasNDStored
import ExponaxModel.Proofs.SymmetryNDDigits
/-
C08: permutations of the spatial axes at the level of the transforms, every dimension `D`.
`σ : Equiv.Perm (Fin D)` acts on grid fields by `(P_σ u)(j) = u(j ∘ σ)` (`permField`).  Read as a full
spectrum (`fullCoef`), the stored spectrum of `P_σ u` at `κ` is that of `u` at `κ ∘ σ`, for every integer `κ`
and real `u` (`rfftn_permField_fullCoef`).  No Nyquist proviso is needed at this level: the proviso of
`C08_transposition_2d` concerns symbols that see the sign of the Nyquist wavenumber.  In the other direction the
coefficient of `irfftn c` at `κ` is the Hermitian part of the read-off of ANY stored array `c` (`dftV_irfftn_fullCoef`).
-/
namespace Exponax.AxisPerm
open Exponax.Layout Exponax.Transform Exponax.DFT Exponax.AliasND Finset
open Exponax.SymmetryND (ofDigits ofDigits_lt ofDigits_congr digit_ofDigits ofDigits_digit)

def permDigit (D N : ℕ) (σ : Equiv.Perm (Fin D)) (j d : ℕ) : ℕ :=
  if h : d < D then digit D N j (σ ⟨d, h⟩) else 0

/-- source index of entry `j` of the axis-permuted field: the flat index whose digit on axis `d`
    is the digit of `j` on axis `σ d` -/
def permIdx (D N : ℕ) (σ : Equiv.Perm (Fin D)) (j : ℕ) : ℕ := ofDigits N (permDigit D N σ j) D

def permField (D N : ℕ) (σ : Equiv.Perm (Fin D)) (u : Array ℂ) : Array ℂ :=
  tab (N ^ D) (fun j => u.getD (permIdx D N σ j) 0)

@[simp] theorem permField_size (D N : ℕ) (σ : Equiv.Perm (Fin D)) (u : Array ℂ) :
    (permField D N σ u).size = N ^ D := by simp [permField]

theorem permDigit_lt (D N : ℕ) (hN : 0 < N) (σ : Equiv.Perm (Fin D)) (j d : ℕ) :
    permDigit D N σ j d < N := by
  unfold permDigit
  split_ifs
  · exact Nat.mod_lt _ hN
  · exact hN

theorem permIdx_lt (D N : ℕ) (hN : 0 < N) (σ : Equiv.Perm (Fin D)) (j : ℕ) : permIdx D N σ j < N ^ D :=
  ofDigits_lt N _ D (fun d _ => permDigit_lt D N hN σ j d)

theorem permIdx_lt_of_lt (D N : ℕ) (σ : Equiv.Perm (Fin D)) (j : ℕ) (hj : j < N ^ D) : permIdx D N σ j < N ^ D := by
  rcases Nat.eq_zero_or_pos N with h0 | hN
  · subst h0
    rcases Nat.eq_zero_or_pos D with hD | hD
    · subst hD
      simp [permIdx, ofDigits]
    · rw [zero_pow (by omega)] at hj
      omega
  · exact permIdx_lt D N hN σ j

theorem digit_permIdx (D N : ℕ) (hN : 0 < N) (σ : Equiv.Perm (Fin D)) (j : ℕ) (d : Fin D) :
    digit D N (permIdx D N σ j) d = digit D N j (σ d) := by
  unfold permIdx
  rw [digit_ofDigits N _ D (fun d _ => permDigit_lt D N hN σ j d) d d.2]
  simp [permDigit, d.2]

theorem permField_getD (D N : ℕ) (σ : Equiv.Perm (Fin D)) (u : Array ℂ) (j : ℕ) (hj : j < N ^ D) :
    (permField D N σ u).getD j 0 = u.getD (permIdx D N σ j) 0 := by
  rw [permField, DFT.tab_getD _ _ _ _ hj]

theorem permIdx_permIdx (D N : ℕ) (hN : 0 < N) (σ τ : Equiv.Perm (Fin D)) (j : ℕ) :
    permIdx D N τ (permIdx D N σ j) = permIdx D N (σ * τ) j := by
  apply digits_inj N D _ _ (permIdx_lt D N hN τ _) (permIdx_lt D N hN (σ * τ) j)
  intro d hd
  have h1 := digit_permIdx D N hN τ (permIdx D N σ j) ⟨d, hd⟩
  have h2 := digit_permIdx D N hN σ j (τ ⟨d, hd⟩)
  have h3 := digit_permIdx D N hN (σ * τ) j ⟨d, hd⟩
  simp only [Equiv.Perm.coe_mul, Function.comp_apply] at h3
  rw [h1, h2, h3]

theorem permIdx_one (D N : ℕ) (hN : 0 < N) (j : ℕ) (hj : j < N ^ D) : permIdx D N 1 j = j := by
  apply digits_inj N D _ _ (permIdx_lt D N hN 1 j) hj
  intro d hd
  have := digit_permIdx D N hN 1 j ⟨d, hd⟩
  simpa using this

theorem permIdx_inv (D N : ℕ) (hN : 0 < N) (σ : Equiv.Perm (Fin D)) (j : ℕ) (hj : j < N ^ D) :
    permIdx D N σ⁻¹ (permIdx D N σ j) = j := by
  rw [permIdx_permIdx D N hN, mul_inv_cancel, permIdx_one D N hN j hj]

theorem sum_permIdx {M : Type} [AddCommMonoid M] (D N : ℕ) (hN : 0 < N) (σ : Equiv.Perm (Fin D))
    (F : ℕ → M) :
    ∑ j ∈ range (N ^ D), F (permIdx D N σ j) = ∑ j ∈ range (N ^ D), F j := by
  apply Finset.sum_nbij' (permIdx D N σ) (permIdx D N σ⁻¹)
  · intro j _; exact Finset.mem_range.mpr (permIdx_lt D N hN σ j)
  · intro j _; exact Finset.mem_range.mpr (permIdx_lt D N hN σ⁻¹ j)
  · intro j hj; exact permIdx_inv D N hN σ j (Finset.mem_range.mp hj)
  · intro j hj; simpa using permIdx_inv D N hN σ⁻¹ j (Finset.mem_range.mp hj)
  · intro j _; rfl

theorem vdot_permIdx (D N : ℕ) (hN : 0 < N) (σ : Equiv.Perm (Fin D)) (k : Fin D → ℤ) (j : ℕ) :
    vdot D N k (permIdx D N σ j) = vdot D N (k ∘ σ.symm) j := by
  unfold vdot
  rw [← Equiv.sum_comp σ (fun e => (k ∘ σ.symm) e * (digit D N j e : ℤ))]
  apply Finset.sum_congr rfl
  intro d _
  rw [digit_permIdx D N hN σ j d]
  simp

/-- C08 on the full spectrum; any complex `u`. -/
theorem dftV_permField (D N : ℕ) (hN : 0 < N) (σ : Equiv.Perm (Fin D)) (u : Array ℂ) (k : Fin D → ℤ) :
    dftV D N (permField D N σ u) k = dftV D N u (k ∘ σ) := by
  unfold dftV
  rw [← sum_permIdx D N hN σ (fun i => u.getD i 0 * zeta N ^ vdot D N (k ∘ σ) i)]
  apply Finset.sum_congr rfl
  intro j hj
  rw [permField_getD D N σ u j (Finset.mem_range.mp hj), vdot_permIdx D N hN σ]
  congr 3
  funext d
  simp

theorem permField_real (D N : ℕ) (σ : Equiv.Perm (Fin D)) (u : Array ℂ) (hu : IsRealND D N u) :
    IsRealND D N (permField D N σ u) := by
  intro j hj
  rw [permField_getD D N σ u j hj]
  exact hu _ (permIdx_lt_of_lt D N σ j hj)

def resid (D N : ℕ) (κ : Fin D → ℤ) (d : ℕ) : ℕ :=
  if h : d < D then (κ ⟨d, h⟩ % (N : ℤ)).toNat else 0

/-- flat stored index of the mode `≡ κ (mod N)` (meaningful when the last residue is `≤ N/2`) -/
def storedIdx (D N : ℕ) (κ : Fin D → ℤ) : ℕ :=
  ofDigits N (resid D N κ) (D - 1) * (N / 2 + 1) + resid D N κ (D - 1)

/-- the coefficient of the integer wavenumber vector `κ` in a stored
    half spectrum `c`: the stored entry, or the conjugate of the stored entry of the partner `−κ` -/
noncomputable def fullCoef (D N : ℕ) (c : Array ℂ) (κ : Fin D → ℤ) : ℂ :=
  if resid D N κ (D - 1) ≤ N / 2 then c.getD (storedIdx D N κ) 0
  else (starRingEnd ℂ) (c.getD (storedIdx D N (-κ)) 0)

theorem resid_lt (D N : ℕ) (hN : 0 < N) (κ : Fin D → ℤ) (d : ℕ) : resid D N κ d < N := by
  unfold resid
  split_ifs with h
  · have h1 : 0 ≤ κ ⟨d, h⟩ % (N : ℤ) := Int.emod_nonneg _ (by exact_mod_cast hN.ne')
    have h2 : κ ⟨d, h⟩ % (N : ℤ) < N := Int.emod_lt_of_pos _ (by exact_mod_cast hN)
    omega
  · exact hN

theorem resid_cast (D N : ℕ) (hN : 0 < N) (κ : Fin D → ℤ) (d : Fin D) :
    ((resid D N κ d : ℕ) : ℤ) = κ d % (N : ℤ) := by
  unfold resid
  rw [dif_pos d.2]
  exact Int.toNat_of_nonneg (Int.emod_nonneg _ (by exact_mod_cast hN.ne'))

theorem resid_dvd (D N : ℕ) (hN : 0 < N) (κ : Fin D → ℤ) (d : Fin D) :
    (N : ℤ) ∣ ((resid D N κ d : ℕ) : ℤ) - κ d := by
  rw [resid_cast D N hN]
  exact Int.modEq_iff_dvd.mp (Int.mod_modEq (κ d) N).symm

theorem resid_congr {D N : ℕ} {κ κ' : Fin D → ℤ} (h : VCongr D N κ κ') (d : ℕ) : resid D N κ d = resid D N κ' d := by
  unfold resid
  split_ifs with hd
  · rw [(Int.modEq_iff_dvd.mpr (h ⟨d, hd⟩)).eq]
  · rfl

theorem resid_neg_cases (D N : ℕ) (hN : 0 < N) (κ : Fin D → ℤ) (d : ℕ) :
    (resid D N κ d = 0 ∧ resid D N (-κ) d = 0) ∨ (0 < resid D N κ d ∧ resid D N (-κ) d = N - resid D N κ d) := by
  by_cases hd : d < D
  · have h1 : ((resid D N κ d : ℕ) : ℤ) = κ ⟨d, hd⟩ % (N : ℤ) := resid_cast D N hN κ ⟨d, hd⟩
    have h2 : ((resid D N (-κ) d : ℕ) : ℤ) = (-κ) ⟨d, hd⟩ % (N : ℤ) := resid_cast D N hN (-κ) ⟨d, hd⟩
    rw [Pi.neg_apply, Int.neg_emod, Int.natAbs_natCast, ← h1] at h2
    split_ifs at h2 <;> omega
  · exact Or.inl ⟨dif_neg hd, dif_neg hd⟩

theorem resid_neg_last (E N : ℕ) (hN : 0 < N) (κ : Fin (E + 1) → ℤ) (h : ¬ resid (E + 1) N κ E ≤ N / 2) :
    resid (E + 1) N (-κ) E ≤ N / 2 := by
  rcases resid_neg_cases (E + 1) N hN κ E with h' | h' <;> omega

theorem storedIdx_div (E N : ℕ) (κ : Fin (E + 1) → ℤ) (hl : resid (E + 1) N κ E ≤ N / 2) :
    storedIdx (E + 1) N κ / (N / 2 + 1) = ofDigits N (resid (E + 1) N κ) E := by
  unfold storedIdx
  rw [Nat.add_sub_cancel]
  exact DFT.pair_div _ _ _ (Nat.lt_succ_of_le hl)

theorem storedIdx_mod (E N : ℕ) (κ : Fin (E + 1) → ℤ) (hl : resid (E + 1) N κ E ≤ N / 2) :
    storedIdx (E + 1) N κ % (N / 2 + 1) = resid (E + 1) N κ E := by
  unfold storedIdx
  rw [Nat.add_sub_cancel]
  exact DFT.pair_mod _ _ _ (Nat.lt_succ_of_le hl)

theorem storedIdx_lt (E N : ℕ) (hN : 0 < N) (κ : Fin (E + 1) → ℤ) (hl : resid (E + 1) N κ E ≤ N / 2) :
    storedIdx (E + 1) N κ < numModes (E + 1) N := by
  rw [numModes_succ]
  have hA := ofDigits_lt N (resid (E + 1) N κ) E (fun d _ => resid_lt (E + 1) N hN κ d)
  unfold storedIdx
  rw [Nat.add_sub_cancel]
  exact DFT.pair_lt hA (Nat.lt_succ_of_le hl)

theorem kvec_storedIdx (E N : ℕ) (hN : 0 < N) (κ : Fin (E + 1) → ℤ) (hl : resid (E + 1) N κ E ≤ N / 2) :
    VCongr (E + 1) N (kvec (E + 1) N (storedIdx (E + 1) N κ)) κ := by
  have hlt := storedIdx_lt E N hN κ hl
  intro d
  rcases Nat.lt_or_ge (d : ℕ) E with hd | hd
  · rw [kvec_leading E N _ hlt d hd, storedIdx_div E N κ hl,
      digit_ofDigits N _ E (fun d _ => resid_lt (E + 1) N hN κ d) d hd]
    have h1 := Int.modEq_iff_dvd.mp (fftfreq_modEq N (resid (E + 1) N κ d)).symm
    have h2 := resid_dvd (E + 1) N hN κ d
    have : fftfreq N (resid (E + 1) N κ d) - κ d
        = (fftfreq N (resid (E + 1) N κ d) - ((resid (E + 1) N κ d : ℕ) : ℤ))
          + (((resid (E + 1) N κ d : ℕ) : ℤ) - κ d) := by ring
    rw [this]
    exact Dvd.dvd.add h1 h2
  · have hdE : (d : ℕ) = E := by omega
    rw [kvec_last E N _ hlt d hdE, storedIdx_mod E N κ hl]
    have := resid_dvd (E + 1) N hN κ d
    rwa [hdE] at this

theorem storedIdx_kvec (E N : ℕ) (hN : 0 < N) (h : ℕ) (hh : h < numModes (E + 1) N) :
    resid (E + 1) N (kvec (E + 1) N h) E = h % (N / 2 + 1) ∧ storedIdx (E + 1) N (kvec (E + 1) N h) = h := by
  have hr : h % (N / 2 + 1) < N / 2 + 1 := Nat.mod_lt _ (Nat.succ_pos _)
  have hlast : resid (E + 1) N (kvec (E + 1) N h) E = h % (N / 2 + 1) := by
    unfold resid
    rw [dif_pos (Nat.lt_succ_self E), kvec_last E N h hh ⟨E, Nat.lt_succ_self E⟩ rfl,
      Int.emod_eq_of_lt (by positivity) (by exact_mod_cast (show h % (N / 2 + 1) < N by omega)),
      Int.toNat_natCast]
  refine ⟨hlast, ?_⟩
  unfold storedIdx
  rw [Nat.add_sub_cancel, hlast,
    ofDigits_congr N _ (fun d => digit E N (h / (N / 2 + 1)) d) E, ofDigits_digit N E _ (stored_div_lt E N h hh)]
  · exact Nat.div_add_mod' h (N / 2 + 1)
  · intro d hd
    unfold resid
    rw [dif_pos (by omega), kvec_leading E N h hh ⟨d, by omega⟩ hd, (fftfreq_modEq N _).eq,
      Int.emod_eq_of_lt (by positivity) (by exact_mod_cast (Nat.mod_lt _ hN)), Int.toNat_natCast]

theorem fullCoef_kvec (D N : ℕ) (hD : 0 < D) (hN : 0 < N) (c : Array ℂ) (h : ℕ) (hh : h < numModes D N) :
    fullCoef D N c (kvec D N h) = c.getD h 0 := by
  obtain ⟨E, rfl⟩ : ∃ E, D = E + 1 := ⟨D - 1, by omega⟩
  obtain ⟨h1, h2⟩ := storedIdx_kvec E N hN h hh
  have hn : 0 < N / 2 + 1 := by omega
  unfold fullCoef
  rw [Nat.add_sub_cancel, h1, if_pos (by have := Nat.mod_lt h hn; omega), h2]

/-- In the stored half no reality of `u` is needed. -/
theorem fullCoef_rfftn_of_le (E N : ℕ) (hN : 0 < N) (u : Array ℂ) (κ : Fin (E + 1) → ℤ)
    (hl : resid (E + 1) N κ E ≤ N / 2) :
    fullCoef (E + 1) N (rfftnM (E + 1) N u) κ = dftV (E + 1) N u κ := by
  unfold fullCoef
  rw [Nat.add_sub_cancel, if_pos hl, rfftn_eq_dftV (E + 1) N hN u _ (storedIdx_lt E N hN κ hl),
    dftV_of_congr u (kvec_storedIdx E N hN κ hl)]

/-- For real `u` the conjugate half is recovered through `conj_dftV`. -/
theorem fullCoef_rfftn (D N : ℕ) (hD : 0 < D) (hN : 0 < N) (u : Array ℂ) (hu : IsRealND D N u)
    (κ : Fin D → ℤ) : fullCoef D N (rfftnM D N u) κ = dftV D N u κ := by
  obtain ⟨E, rfl⟩ : ∃ E, D = E + 1 := ⟨D - 1, by omega⟩
  by_cases hl : resid (E + 1) N κ E ≤ N / 2
  · exact fullCoef_rfftn_of_le E N hN u κ hl
  · have hl' := resid_neg_last E N hN κ hl
    unfold fullCoef
    rw [Nat.add_sub_cancel, if_neg hl, rfftn_eq_dftV (E + 1) N hN u _ (storedIdx_lt E N hN (-κ) hl'),
      dftV_of_congr u (kvec_storedIdx E N hN (-κ) hl'), conj_dftV (E + 1) N u hu, neg_neg]

theorem fullCoef_mul (D N : ℕ) (hD : 0 < D) (hN : 0 < N) (f : ℕ → ℂ) (a : Array ℂ) (κ : Fin D → ℤ) :
    fullCoef D N (tab (numModes D N) fun h => f h * a.getD h 0) κ
      = fullCoef D N (tab (numModes D N) f) κ * fullCoef D N a κ := by
  obtain ⟨E, rfl⟩ : ∃ E, D = E + 1 := ⟨D - 1, (Nat.succ_pred_eq_of_pos hD).symm⟩
  unfold fullCoef
  by_cases hl : resid (E + 1) N κ (E + 1 - 1) ≤ N / 2
  · have hlt := storedIdx_lt E N hN κ hl
    rw [if_pos hl, if_pos hl, if_pos hl, DFT.tab_getD _ _ _ _ hlt, DFT.tab_getD _ _ _ _ hlt]
  · have hlt := storedIdx_lt E N hN (-κ) (resid_neg_last E N hN κ hl)
    rw [if_neg hl, if_neg hl, if_neg hl, DFT.tab_getD _ _ _ _ hlt, DFT.tab_getD _ _ _ _ hlt, map_mul]

theorem sum_stored_congr (E N : ℕ) (hN : 0 < N) (f : ℕ → ℂ) (κ : Fin (E + 1) → ℤ) :
    ∑ h ∈ range (numModes (E + 1) N), f h * (if ∀ d, (N : ℤ) ∣ κ d - kvec (E + 1) N h d then 1 else 0)
      = if resid (E + 1) N κ E ≤ N / 2 then f (storedIdx (E + 1) N κ) else 0 := by
  split_ifs with hl
  · have hlt := storedIdx_lt E N hN κ hl
    rw [Finset.sum_eq_single (storedIdx (E + 1) N κ),
      if_pos (show ∀ d, _ from (kvec_storedIdx E N hN κ hl).symm), mul_one]
    · intro h hh hne
      rw [if_neg, mul_zero]
      intro hc
      exact hne (kvec_modEq_inj (E + 1) N E.succ_pos hN _ h hlt (Finset.mem_range.mp hh)
        ((kvec_storedIdx E N hN κ hl).trans hc))
    · intro hn
      exact absurd (Finset.mem_range.mpr hlt) hn
  · refine Finset.sum_eq_zero fun h hh => ?_
    rw [if_neg, mul_zero]
    intro hc
    apply hl
    rw [resid_congr hc, (storedIdx_kvec E N hN h (Finset.mem_range.mp hh)).1]
    exact Nat.le_of_lt_succ (Nat.mod_lt h (Nat.succ_pos (N / 2)))

/-- the c2r weight is `1` exactly on the self-conjugate columns: those whose partner `−κ` is stored as well -/
theorem herm_weight_storedIdx (E N : ℕ) (hN : 0 < N) (κ : Fin (E + 1) → ℤ) (hl : resid (E + 1) N κ E ≤ N / 2) :
    herm_weight (E + 1) N (storedIdx (E + 1) N κ) = if resid (E + 1) N (-κ) E ≤ N / 2 then 1 else 2 := by
  have hr := resid_lt (E + 1) N hN κ E
  rw [DFT.herm_weight_succ E N _ (storedIdx_lt E N hN κ hl), storedIdx_mod E N κ hl, DFT.herm_weight_one]
  refine if_congr ?_ rfl rfl
  rcases resid_neg_cases (E + 1) N hN κ E with h | h <;> omega

theorem dftV_irfftn_fullCoef (D N : ℕ) (hD : 0 < D) (hN : 0 < N) (c : Array ℂ) (m : Fin D → ℤ) :
    dftV D N (irfftnM D N c) m = (fullCoef D N c m + (starRingEnd ℂ) (fullCoef D N c (-m))) / 2 := by
  obtain ⟨E, rfl⟩ : ∃ E, D = E + 1 := ⟨D - 1, (Nat.succ_pred_eq_of_pos hD).symm⟩
  -- `m ≡ −k(h)` is `−m ≡ k(h)`: both halves of the Hermitian completion select one stored mode
  have hneg : ∀ h, (∀ d, (N : ℤ) ∣ m d + kvec (E + 1) N h d) ↔ ∀ d, (N : ℤ) ∣ (-m) d - kvec (E + 1) N h d :=
    fun h => forall_congr' fun d => by rw [Pi.neg_apply, ← dvd_neg, neg_add, sub_eq_add_neg]
  have hw := herm_weight_storedIdx E N hN
  rw [dftV_irfftn (E + 1) N hN]
  simp only [hneg, mul_add, Finset.sum_add_distrib, ← mul_assoc]
  rw [sum_stored_congr E N hN (fun h => (herm_weight (E + 1) N h : ℂ) / 2 * c.getD h 0) m,
    sum_stored_congr E N hN (fun h => (herm_weight (E + 1) N h : ℂ) / 2 * (starRingEnd ℂ) (c.getD h 0)) (-m)]
  unfold fullCoef
  rw [Nat.add_sub_cancel, neg_neg]
  by_cases h1 : resid (E + 1) N m E ≤ N / 2 <;> by_cases h2 : resid (E + 1) N (-m) E ≤ N / 2
  · rw [if_pos h1, if_pos h2, if_pos h1, if_pos h2, hw m h1, hw (-m) h2, neg_neg, if_pos h1, if_pos h2]
    push_cast
    ring
  · rw [if_pos h1, if_neg h2, if_pos h1, if_neg h2, hw m h1, if_neg h2, Complex.conj_conj]
    push_cast
    ring
  · rw [if_neg h1, if_pos h2, if_neg h1, if_pos h2, hw (-m) h2, neg_neg, if_neg h1]
    push_cast
    ring
  · exact absurd (resid_neg_last E N hN m h1) h2

theorem kvec_storedIdx_eq (D N : ℕ) (hD : 0 < D) (hN : 0 < N) (κ : Fin D → ℤ)
    (hκ : ∀ d, 2 * |κ d| < (N : ℤ)) (hlast : 0 ≤ κ ⟨D - 1, by omega⟩) :
    storedIdx D N κ < numModes D N ∧ kvec D N (storedIdx D N κ) = κ := by
  obtain ⟨E, rfl⟩ : ∃ E, D = E + 1 := ⟨D - 1, by omega⟩
  have hl : resid (E + 1) N κ E ≤ N / 2 := by
    have h1 := resid_cast (E + 1) N hN κ (Fin.last E)
    simp only [Fin.val_last] at h1
    have h2 := hκ (Fin.last E)
    have h3 : κ (Fin.last E) = κ ⟨E + 1 - 1, by omega⟩ := rfl
    rw [abs_of_nonneg (by rw [h3]; exact hlast)] at h2
    rw [Int.emod_eq_of_lt (by rw [h3]; exact hlast) (by omega)] at h1
    omega
  have hlt := storedIdx_lt E N hN κ hl
  refine ⟨hlt, funext fun d => ?_⟩
  -- congruent modulo `N` and closer than `N`
  have hb := kvec_abs_le (E + 1) N _ (by omega) hN hlt d
  have := Int.eq_zero_of_abs_lt_dvd (kvec_storedIdx E N hN κ hl d)
    (lt_of_le_of_lt (abs_sub _ _) (by have := hκ d; omega))
  omega

/-- C08: real `u`, every `N ≥ 1`, Nyquist content allowed, every integer wavenumber vector. -/
theorem rfftn_permField_fullCoef (D N : ℕ) (hD : 0 < D) (hN : 0 < N) (σ : Equiv.Perm (Fin D))
    (u : Array ℂ) (hu : IsRealND D N u) (κ : Fin D → ℤ) :
    fullCoef D N (rfftnM D N (permField D N σ u)) κ = fullCoef D N (rfftnM D N u) (κ ∘ σ) := by
  rw [fullCoef_rfftn D N hD hN _ (permField_real D N σ u hu), fullCoef_rfftn D N hD hN u hu,
    dftV_permField D N hN]

/-- C08 at the stored mode `h`. -/
theorem rfftn_permField_stored (D N : ℕ) (hD : 0 < D) (hN : 0 < N) (σ : Equiv.Perm (Fin D))
    (u : Array ℂ) (hu : IsRealND D N u) (h : ℕ) (hh : h < numModes D N) :
    (rfftnM D N (permField D N σ u)).getD h 0 = fullCoef D N (rfftnM D N u) (kvec D N h ∘ σ) := by
  rw [← fullCoef_kvec D N hD hN _ h hh]
  exact rfftn_permField_fullCoef D N hD hN σ u hu _

/-- C08 with the two cases of `fullCoef` written out; only the conjugate case needs a real `u`. -/
theorem rfftn_permField_stored_cases (D N : ℕ) (hD : 0 < D) (hN : 0 < N) (σ : Equiv.Perm (Fin D))
    (u : Array ℂ) (h : ℕ) (hh : h < numModes D N) :
    (resid D N (kvec D N h ∘ σ) (D - 1) ≤ N / 2 →
      (rfftnM D N (permField D N σ u)).getD h 0
        = (rfftnM D N u).getD (storedIdx D N (kvec D N h ∘ σ)) 0) ∧
    (IsRealND D N u → ¬ resid D N (kvec D N h ∘ σ) (D - 1) ≤ N / 2 →
      (rfftnM D N (permField D N σ u)).getD h 0
        = (starRingEnd ℂ) ((rfftnM D N u).getD (storedIdx D N (-(kvec D N h ∘ σ))) 0)) := by
  constructor
  · intro hl
    obtain ⟨E, rfl⟩ : ∃ E, D = E + 1 := ⟨D - 1, by omega⟩
    rw [Nat.add_sub_cancel] at hl
    rw [rfftn_eq_dftV (E + 1) N hN _ h hh, dftV_permField (E + 1) N hN,
      ← fullCoef_rfftn_of_le E N hN u _ hl, fullCoef, Nat.add_sub_cancel, if_pos hl]
  · intro hu hl
    rw [rfftn_permField_stored D N hD hN σ u hu h hh, fullCoef, if_neg hl]

theorem permIdx_two_swap (N : ℕ) (j : ℕ) (hj : j < N ^ 2) :
    permIdx 2 N (Equiv.swap 0 1) j = SymmetryND.transIdx N j := by
  have hq : j / N < N := Nat.div_lt_of_lt_mul (by rw [sq] at hj; exact hj)
  simp [permIdx, ofDigits, permDigit, SymmetryND.transIdx, digit, Nat.mod_eq_of_lt hq]

theorem permField_two_eq_transpose2 (N : ℕ) (u : Array ℂ) :
    permField 2 N (Equiv.swap 0 1) u = SymmetryND.transpose2 N u := by
  unfold permField SymmetryND.transpose2
  apply DFT.tab_congr
  intro j hj
  rw [permIdx_two_swap N j hj]

/-- C08 for `D = 2`, on `SymmetryND.transpose2`. -/
theorem rfftn_permField_2d (N : ℕ) (hN : 0 < N) (u : Array ℂ) (hu : IsRealND 2 N u) (k0 k1 : ℤ) :
    fullCoef 2 N (rfftnM 2 N (SymmetryND.transpose2 N u)) ![k0, k1]
      = fullCoef 2 N (rfftnM 2 N u) ![k1, k0] := by
  rw [← permField_two_eq_transpose2, rfftn_permField_fullCoef 2 N (by norm_num) hN _ u hu]
  congr 1
  funext d
  fin_cases d <;> simp

theorem permIdx_three (N : ℕ) (σ : Equiv.Perm (Fin 3)) (j : ℕ) :
    permIdx 3 N σ j
      = (digit 3 N j (σ 0) * N + digit 3 N j (σ 1)) * N + digit 3 N j (σ 2) := by
  show ((0 * N + _) * N + _) * N + _ = _
  rw [Nat.zero_mul, Nat.zero_add]
  rfl

theorem rfftn_permField_3d (N : ℕ) (hN : 0 < N) (σ : Equiv.Perm (Fin 3)) (u : Array ℂ)
    (hu : IsRealND 3 N u) (k : Fin 3 → ℤ) :
    fullCoef 3 N (rfftnM 3 N (permField 3 N σ u)) k
      = fullCoef 3 N (rfftnM 3 N u) ![k (σ 0), k (σ 1), k (σ 2)] := by
  rw [rfftn_permField_fullCoef 3 N (by norm_num) hN σ u hu]
  congr 1
  funext d
  fin_cases d <;> rfl

theorem rfftn_permField_3d_rotate (N : ℕ) (hN : 0 < N) (u : Array ℂ) (hu : IsRealND 3 N u)
    (k0 k1 k2 : ℤ) :
    fullCoef 3 N (rfftnM 3 N (permField 3 N (finRotate 3) u)) ![k0, k1, k2]
      = fullCoef 3 N (rfftnM 3 N u) ![k1, k2, k0] := by
  rw [rfftn_permField_3d N hN _ u hu]
  congr 1

theorem irfftnM_add_getD (D N : ℕ) (f g : ℕ → ℂ) (j : ℕ) :
    (irfftnM D N (tab (numModes D N) fun h => f h + g h)).getD j 0
      = (irfftnM D N (tab (numModes D N) f)).getD j 0 + (irfftnM D N (tab (numModes D N) g)).getD j 0 :=
  congrFun ((irfftL D N).map_add f g) j

theorem irfftnM_sub_getD (D N : ℕ) (f g : ℕ → ℂ) (j : ℕ) :
    (irfftnM D N (tab (numModes D N) fun h => f h - g h)).getD j 0
      = (irfftnM D N (tab (numModes D N) f)).getD j 0 - (irfftnM D N (tab (numModes D N) g)).getD j 0 :=
  congrFun ((irfftL D N).map_sub f g) j

example (D N : ℕ) : ∃ u : Array ℂ, IsRealND D N u :=
  ⟨tab (N ^ D) (fun _ => 1), fun j hj => by rw [DFT.tab_getD _ _ _ _ hj]; simp⟩

example : ∃ (D N h : ℕ), 0 < D ∧ 0 < N ∧ h < numModes D N := ⟨3, 4, 5, by norm_num, by norm_num, by decide⟩

example : ∃ (D N : ℕ) (hD : 0 < D) (κ : Fin D → ℤ), 0 < N ∧ (∀ d, 2 * |κ d| < (N : ℤ)) ∧
    0 ≤ κ ⟨D - 1, by omega⟩ :=
  ⟨2, 8, by norm_num, ![-3, 2], by norm_num, fun d => by fin_cases d <;> simp, by simp⟩

/-- both cases of `rfftn_permField_stored_cases` occur (`D = 2`, `N = 4`, swap): mode `(a,l) = (1,1)`
    is mapped to a stored mode, mode `(a,l) = (3,1)` (`k = (−1, 1)`) to a conjugate partner -/
example : resid 2 4 (kvec 2 4 4 ∘ Equiv.swap 0 1) 1 ≤ 4 / 2 := by decide
example : ¬ resid 2 4 (kvec 2 4 10 ∘ Equiv.swap 0 1) 1 ≤ 4 / 2 := by decide

end Exponax.AxisPerm
