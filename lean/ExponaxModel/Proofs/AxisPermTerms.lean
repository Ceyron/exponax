import ExponaxModel.Proofs.AxisPermRel
import ExponaxModel.Proofs.StageRel
/-
C08: the nonlinear model terms commute with permutations of the spatial axes, every dimension `D`:
`TermPerm c σ τ T`, i.e. `MCSpecPerm c σ τ uh uh' → MCSpecPerm c σ τ (T uh) (T uh')`, with `τ = id` (channels not
permuted) for single-channel convection, polynomial, gradient norm and `general`, and `τ = chanMap σ` for multi-channel
convection.
Hypotheses `PermCfg c`: `D, N ≥ 1`, real `s = 2π/L`, and `NyqCfg c`, which removes the Nyquist modes the
products create; real scales and coefficients; Nyquist-free inputs.  On Nyquist content an odd-order derivative
multiplier does not commute with the transposition, already for a linear step
(`SymmetryND.transpose2_counterexample` in `SymmetryND2Steps.lean`: advection, `N = 4`).
The permutation enters as the instance `permRel` of `Stage.StageRel`; `TermPerm c σ τ T` unfolds to
`Stage.TermRel (permRel c hc σ) τ T T`, so each term is the walk `Stage.*_termRel` at `permRel`.
-/
namespace Exponax.AxisPerm
open Exponax.Layout Exponax.Transform Exponax.AliasND Exponax.Nonlin Exponax.Alias

structure PermCfg (c : Cfg ℂ) : Prop where
  hD : 0 < c.D
  hN : 0 < c.N
  hs : c.s.im = 0
  hny : NyqCfg c

def MCSpecPerm (c : Cfg ℂ) (σ : Equiv.Perm (Fin c.D)) (τ : ℕ → ℕ) (uh uh' : MC ℂ) : Prop :=
  ∀ ch, SpecPerm c.D c.N σ (tab (modes c) (at2 uh ch)) (tab (modes c) (at2 uh' (τ ch)))

/-- C08 for the term `T` -/
def TermPerm (c : Cfg ℂ) (σ : Equiv.Perm (Fin c.D)) (τ : ℕ → ℕ) (T : MC ℂ → MC ℂ) : Prop :=
  ∀ uh uh' : MC ℂ, MCSpecPerm c σ τ uh uh' → MCSpecPerm c σ τ (T uh) (T uh')

/-- the permutation of the axes acting on channel indices (identity beyond the `D` velocity channels) -/
def chanMap {D : ℕ} (σ : Equiv.Perm (Fin D)) (ch : ℕ) : ℕ := if h : ch < D then (σ ⟨ch, h⟩ : ℕ) else ch

theorem chanMap_fin {D : ℕ} (σ : Equiv.Perm (Fin D)) (i : Fin D) : chanMap σ i = (σ i : ℕ) := by
  simp [chanMap, i.2]

theorem chanMap_lt_iff {D : ℕ} (σ : Equiv.Perm (Fin D)) : ∀ ch, chanMap σ ch < D ↔ ch < D := by
  intro ch
  unfold chanMap
  split_ifs with h
  · exact ⟨fun _ => h, fun _ => (σ ⟨ch, h⟩).2⟩
  · exact Iff.rfl

theorem chanMap_inj {D : ℕ} (σ : Equiv.Perm (Fin D)) (i : ℕ) (hi : i < D) (j : ℕ) (hj : j < D)
    (h : chanMap σ i = chanMap σ j) : i = j := by
  rw [show chanMap σ i = (σ ⟨i, hi⟩ : ℕ) from chanMap_fin σ ⟨i, hi⟩,
    show chanMap σ j = (σ ⟨j, hj⟩ : ℕ) from chanMap_fin σ ⟨j, hj⟩] at h
  exact congrArg Fin.val (σ.injective (Fin.ext h))

/-- `ℝ ⊂ ℂ` with the membership test `z.im = 0` of the hypotheses on scales and coefficients -/
def realSubfield : Subfield ℂ where
  carrier := {z | z.im = 0}
  mul_mem' {x y} hx hy := by show (x * y).im = 0; rw [Complex.mul_im, hx, hy, mul_zero, zero_mul, add_zero]
  one_mem' := Complex.one_im
  add_mem' {x y} hx hy := by show (x + y).im = 0; rw [Complex.add_im, hx, hy, add_zero]
  zero_mem' := Complex.zero_im
  neg_mem' {x} hx := by show (-x).im = 0; rw [Complex.neg_im, hx, neg_zero]
  inv_mem' x hx := by show (x⁻¹).im = 0; rw [Complex.inv_im, hx, neg_zero, zero_div]

/-- the multiplier pairs that carry `SpecPerm`: one conj-symmetric function of the wavenumber vector, read at
    `k(h)` and at `k(h) ∘ σ` -/
def PermCov (c : Cfg ℂ) (σ : Equiv.Perm (Fin c.D)) (g g' : ℕ → ℂ) : Prop :=
  ∃ G : (Fin c.D → ℤ) → ℂ, (∀ k, G (-k) = (starRingEnd ℂ) (G k)) ∧
    (∀ m, m < modes c → g m = G (kvec c.D c.N m)) ∧ ∀ m, m < modes c → g' m = G (kvec c.D c.N m ∘ σ)

/-- a symmetric function `Σ_d φ(i s k_d)` of the derivative symbols (`Σ_d ∂_d`, `Δ`) is its own partner -/
theorem permCov_axisSum (c : Cfg ℂ) (hs : c.s.im = 0) (σ : Equiv.Perm (Fin c.D)) (φ : ℂ → ℂ)
    (hφ : ∀ z, φ ((starRingEnd ℂ) z) = (starRingEnd ℂ) (φ z)) (g : ℕ → ℂ)
    (hg : ∀ m, g m = ∑ d ∈ Finset.range c.D, φ (Nonlin.deriv c d m)) : PermCov c σ g g := by
  refine ⟨fun k => ∑ e : Fin c.D, φ (derivFn c e k), fun k => ?_, fun m _ => ?_, fun m _ => ?_⟩
  · rw [map_sum]
    exact Finset.sum_congr rfl fun e _ => by rw [derivFn_neg c hs, hφ]
  · rw [hg, Finset.sum_range]
    rfl
  · rw [hg, Finset.sum_range]
    exact (Equiv.sum_comp σ fun e => φ (derivFn c e (kvec c.D c.N m))).symm

/-- axis permutations as a stage relation: `SpecPerm` on spectra, `v'_j = v_{permIdx σ j}` on real grid fields,
    axis `e` against axis `σ e` -/
noncomputable def permRel (c : Cfg ℂ) (hc : PermCfg c) (σ : Equiv.Perm (Fin c.D)) : Stage.StageRel c c where
  S := SpecPerm c.D c.N σ
  ρ := permIdx c.D c.N σ
  P := realSubfield
  Cov := PermCov c σ
  ρ_lt := permIdx_lt_of_lt c.D c.N σ
  S_congr h1 h2 h := specPerm_congr c.D c.N hc.hN σ _ _ _ _ h1 h2 h
  S_zero := specPerm_zero c.D c.N σ _ _ (fun _ hm => DFT.tab_getD _ _ _ _ hm) (fun _ hm => DFT.tab_getD _ _ _ _ hm)
  S_add h1 h2 := specPerm_add c.D c.N σ _ _ _ _ h1 h2
  S_mul := by
    rintro g g' a a' ⟨G, hG, e, e'⟩ h
    refine specPerm_congr c.D c.N hc.hN σ _ _ _ _ (fun m hm => ?_) (fun m hm => ?_)
      (specPerm_mul c.D c.N hc.hD hc.hN σ G hG a a' h)
    · rw [DFT.tab_getD _ _ _ _ hm, DFT.tab_getD _ _ _ _ (show m < modes c from hm), e m hm]
    · rw [DFT.tab_getD _ _ _ _ hm, DFT.tab_getD _ _ _ _ (show m < modes c from hm), e' m hm]
  nifft_rel h := nifft_fieldPerm c hc.hD hc.hN σ _ _ h
  nifft_mem a := nifft_isRealND c a
  nfft_rel hv h := nfft_specPerm c hc.hD hc.hN hc.hny σ _ _ hv h
  mean f := by
    rw [DFT.sumRange_eq, DFT.sumRange_eq]
    exact congrArg (· / _) (sum_permIdx c.D c.N hc.hN σ f)
  cov_const r hr := ⟨fun _ => r, fun _ => (Complex.conj_eq_iff_im.mpr hr).symm, fun _ _ => rfl, fun _ _ => rfl⟩
  cov_mul := by
    rintro g g' k k' ⟨G, hG, e, e'⟩ ⟨K, hK, f, f'⟩
    exact ⟨fun x => G x * K x, fun x => by show G (-x) * K (-x) = _; rw [hG, hK, map_mul],
      fun m hm => by show g m * k m = _; rw [e m hm, f m hm],
      fun m hm => by show g' m * k' m = _; rw [e' m hm, f' m hm]⟩
  cov_mask := ⟨maskFn c, maskFn_neg c, fun m _ => mask_eq_maskFn c m,
    fun m _ => by rw [maskFn_comp]; exact mask_eq_maskFn c m⟩
  cov_sumDeriv := permCov_axisSum c hc.hs σ id (fun _ => rfl) _ fun _ => Nonlin.sumList_range_eq _ _
  cov_laplace := permCov_axisSum c hc.hs σ (· ^ 2) (fun z => (map_pow _ z 2).symm) _ (laplace_two_eq_sum c)
  ι := chanMap σ
  ι_lt e he := (chanMap_lt_iff σ e).mpr he
  ι_inj := chanMap_inj σ
  cov_deriv e he := ⟨derivFn c ⟨e, he⟩, derivFn_neg c hc.hs _, fun _ _ => rfl, fun m _ => by
    rw [show chanMap σ e = (σ ⟨e, he⟩ : ℕ) from chanMap_fin σ ⟨e, he⟩]; rfl⟩
  dead d' hd' hni := absurd (by rw [chanMap_fin, Equiv.apply_symm_apply]) (hni (σ.symm ⟨d', hd'⟩) (σ.symm ⟨d', hd'⟩).2)

/-- C08, polynomial nonlinearity, real coefficients -/
theorem polynomial_termPerm (c : Cfg ℂ) (hc : PermCfg c) (σ : Equiv.Perm (Fin c.D)) (C : ℕ) (coeffs : List ℂ)
    (hco : ∀ x ∈ coeffs, x.im = 0) : TermPerm c σ id (polynomial c C coeffs) :=
  Stage.polynomial_termRel (permRel c hc σ) C (id_lt_iff C) coeffs hco

/-- C08, convection, `single_channel = True`, conservative (`−b ½ Σ_d ∂_d u²` on every channel):
    the multiplier `Σ_d ∂_d` is symmetric in the axes -/
theorem convection_cons_termPerm (c : Cfg ℂ) (hc : PermCfg c) (σ : Equiv.Perm (Fin c.D)) (C : ℕ) (scale : ℂ)
    (hsc : scale.im = 0) : TermPerm c σ id (convection c C scale true true) :=
  Stage.convection_cons_termRel (permRel c hc σ) C (id_lt_iff C) scale hsc

/-- C08, convection, `single_channel = True`, non-conservative (`−b u Σ_d ∂_d u`, one channel) -/
theorem convection_noncons_termPerm (c : Cfg ℂ) (hc : PermCfg c) (σ : Equiv.Perm (Fin c.D)) (C : ℕ) (scale : ℂ)
    (hsc : scale.im = 0) : TermPerm c σ id (convection c C scale true false) :=
  Stage.convection_noncons_termRel (permRel c hc σ) C scale hsc

/-- C08, gradient norm (`−b ½ Σ_d (∂_d u)²`), both `zeroFix` -/
theorem gradientNorm_termPerm (c : Cfg ℂ) (hc : PermCfg c) (σ : Equiv.Perm (Fin c.D)) (C : ℕ) (scale : ℂ)
    (hsc : scale.im = 0) (zeroFix : Bool) : TermPerm c σ id (gradientNorm c C scale zeroFix) :=
  Stage.gradientNorm_termRel (permRel c hc σ) C scale hsc zeroFix

/-- C08, `GeneralNonlinearFun` (quadratic polynomial + single-channel conservative convection + gradient
    norm), real scales -/
theorem general_mcSpecPerm (c : Cfg ℂ) (hc : PermCfg c) (σ : Equiv.Perm (Fin c.D)) (C : ℕ) (s0 s1 s2 : ℂ)
    (h0 : s0.im = 0) (h1 : s1.im = 0) (h2 : s2.im = 0) (zeroFix : Bool) (uh uh' : MC ℂ)
    (h : MCSpecPerm c σ id uh uh') :
    MCSpecPerm c σ id (general c C s0 s1 s2 zeroFix uh) (general c C s0 s1 s2 zeroFix uh') :=
  Stage.general_termRel (permRel c hc σ) C s0 s1 s2 h0 h1 h2 zeroFix uh uh' h

/-- C08, multi-channel convection (`single_channel = False`, `C = D` velocity channels), non-conservative
    (`−b Σ_j u_j ∂_j u_i`): the axes are permuted together with the velocity channels, `u'_{σ i}(x) = u_i(x ∘ σ)`
    (`chanMap σ` on channel indices) -/
theorem convection_multi_noncons_mcSpecPerm (c : Cfg ℂ) (hc : PermCfg c) (σ : Equiv.Perm (Fin c.D))
    (scale : ℂ) (hsc : scale.im = 0) (uh uh' : MC ℂ) (h : MCSpecPerm c σ (chanMap σ) uh uh') :
    MCSpecPerm c σ (chanMap σ) (convection c c.D scale false false uh) (convection c c.D scale false false uh') :=
  Stage.convection_multi_noncons_termRel (permRel c hc σ) c.D (chanMap_lt_iff σ) (chanMap_inj σ)
    (permRel c hc σ).cov_deriv scale hsc uh uh' h

/-- C08, multi-channel convection, conservative (`−b ½ Σ_j ∂_j (u_j u_i)`) -/
theorem convection_multi_cons_mcSpecPerm (c : Cfg ℂ) (hc : PermCfg c) (σ : Equiv.Perm (Fin c.D))
    (scale : ℂ) (hsc : scale.im = 0) (uh uh' : MC ℂ) (h : MCSpecPerm c σ (chanMap σ) uh uh') :
    MCSpecPerm c σ (chanMap σ) (convection c c.D scale false true uh) (convection c c.D scale false true uh') :=
  Stage.convection_multi_cons_termRel (permRel c hc σ) c.D (chanMap_lt_iff σ) (chanMap_inj σ)
    (permRel c hc σ).cov_deriv scale hsc uh uh' h

example : ∃ c : Cfg ℂ, PermCfg c ∧ c.N % 2 = 0 ∧ c.D = 3 :=
  ⟨⟨3, 8, 1, 2, 3⟩, ⟨by norm_num, by norm_num, by simp, Or.inr ⟨by norm_num, by norm_num⟩⟩, rfl, rfl⟩

example : ∃ c : Cfg ℂ, PermCfg c ∧ c.fq = 0 :=
  ⟨⟨2, 5, 1, 0, 0⟩, ⟨by norm_num, by norm_num, by simp, Or.inl rfl⟩, rfl⟩

example (c : Cfg ℂ) (hN : 0 < c.N) (σ : Equiv.Perm (Fin c.D)) : ∃ uh uh', MCSpecPerm c σ id uh uh' :=
  ⟨#[], #[], fun ch => specPerm_zero c.D c.N σ _ _
    (fun m hm => by rw [DFT.tab_getD _ _ _ _ (show m < modes c from hm)]; simp [at2])
    (fun m hm => by rw [DFT.tab_getD _ _ _ _ (show m < modes c from hm)]; simp [at2])⟩

example (c : Cfg ℂ) (hN : 0 < c.N) (σ : Equiv.Perm (Fin c.D)) : ∃ uh uh', MCSpecPerm c σ (chanMap σ) uh uh' :=
  ⟨#[], #[], fun ch => specPerm_zero c.D c.N σ _ _
    (fun m hm => by rw [DFT.tab_getD _ _ _ _ (show m < modes c from hm)]; simp [at2])
    (fun m hm => by rw [DFT.tab_getD _ _ _ _ (show m < modes c from hm)]; simp [at2])⟩

example : chanMap (Equiv.swap (0 : Fin 3) 2) 0 = 2 ∧ chanMap (Equiv.swap (0 : Fin 3) 2) 5 = 5 := by decide

end Exponax.AxisPerm
