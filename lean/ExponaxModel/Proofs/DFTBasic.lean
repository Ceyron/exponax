import Mathlib.RingTheory.RootsOfUnity.Complex
import Mathlib.Analysis.SpecialFunctions.Trigonometric.Basic
import Mathlib.Tactic
import ExponaxModel.Proofs.Instances
import ExponaxModel.Model.Transform
/-
The array / DFT model of `Model/Transform.lean` at `K := ℂ`: `tab`, `sumRange`, `twiddle` as powers
of the primitive root `ζ_N = e^{-2πi/N}`, and the pointwise formulas for `rfftnM` / `irfftnM`.
-/
namespace Exponax.DFT
open Exponax Exponax.Layout Exponax.Transform Finset

@[simp] theorem tab_size {α : Type} (n : ℕ) (f : ℕ → α) : (tab n f).size = n := by
  simp [tab]

theorem tab_getD {α : Type} (n : ℕ) (f : ℕ → α) (i : ℕ) (d : α) (h : i < n) :
    (tab n f).getD i d = f i := by
  simp [tab, Array.getD, h]

theorem tab_getD_of_le {α : Type} (n : ℕ) (f : ℕ → α) (i : ℕ) (d : α) (h : n ≤ i) :
    (tab n f).getD i d = d := by
  simp [tab, Array.getD, Nat.not_lt.mpr h]

theorem getD_of_size_le (a : Array ℂ) (i : ℕ) (h : a.size ≤ i) : a.getD i 0 = 0 := by
  simp [Array.getD, Nat.not_lt.mpr h]

theorem tab_getElem {α : Type} (n : ℕ) (f : ℕ → α) (i : ℕ) (h : i < (tab n f).size) :
    (tab n f)[i] = f i := by
  simp [tab]

theorem tab_congr {α : Type} (n : ℕ) (f g : ℕ → α) (h : ∀ i, i < n → f i = g i) : tab n f = tab n g :=
  Array.ext (by simp) fun i h1 _ => by
    rw [tab_getElem, tab_getElem, h i (by simpa using h1)]

theorem array_ext_getD (a b : Array ℂ) (n : ℕ) (ha : a.size = n) (hb : b.size = n)
    (h : ∀ j < n, a.getD j 0 = b.getD j 0) : a = b := by
  apply Array.ext (by omega)
  intro j h1 h2
  have := h j (by omega)
  simpa [Array.getD, h1, h2] using this

theorem digit_lt (D N j d : ℕ) (hN : 0 < N) : digit D N j d < N := Nat.mod_lt _ hN

/-! the flat index `j0 * N + j1` of a pair `(j0, j1)` with `j1 < N` -/

theorem pair_lt {M N j0 j1 : ℕ} (h0 : j0 < M) (h1 : j1 < N) : j0 * N + j1 < M * N :=
  calc j0 * N + j1 < (j0 + 1) * N := by rw [Nat.succ_mul]; omega
    _ ≤ M * N := Nat.mul_le_mul_right _ h0

theorem pair_div (N j0 j1 : ℕ) (h1 : j1 < N) : (j0 * N + j1) / N = j0 := by
  rw [Nat.add_comm, Nat.add_mul_div_right _ _ (Nat.zero_lt_of_lt h1), Nat.div_eq_of_lt h1, zero_add]

theorem pair_mod (N j0 j1 : ℕ) (h1 : j1 < N) : (j0 * N + j1) % N = j1 := Nat.mul_add_mod_of_lt h1

export Exponax (list_range_map_sum)

theorem sumRange_eq {K : Type} [Semiring K] (n : ℕ) (f : ℕ → K) :
    sumRange n f = ∑ i ∈ Finset.range n, f i := by
  unfold sumRange
  rw [sumList_eq, list_range_map_sum]

theorem sumRange_congr {K : Type} [Add K] [Zero K] (n : ℕ) (f g : ℕ → K) (h : ∀ i, i < n → f i = g i) :
    sumRange n f = sumRange n g := by
  unfold sumRange
  congr 1
  exact List.map_congr_left fun i hi => h i (List.mem_range.mp hi)

theorem rfftnM_congr (D N : ℕ) (a b : Array ℂ) (h : ∀ j, j < N ^ D → a.getD j 0 = b.getD j 0) :
    rfftnM D N a = rfftnM D N b := by
  unfold rfftnM
  exact tab_congr _ _ _ fun m _ => sumRange_congr _ _ _ fun j hj => by rw [h j hj]

theorem rfftnM_tab (D N : ℕ) (a : Array ℂ) : rfftnM D N (tab (N ^ D) (fun x => a.getD x 0)) = rfftnM D N a :=
  rfftnM_congr D N _ _ fun _ hj => tab_getD _ _ _ _ hj

theorem irfftnM_congr (D N : ℕ) (a b : Array ℂ) (h : ∀ m, m < numModes D N → a.getD m 0 = b.getD m 0) :
    irfftnM D N a = irfftnM D N b := by
  unfold irfftnM
  exact tab_congr _ _ _ fun j _ => congrArg (· / _) (sumRange_congr _ _ _ fun m hm => by rw [h m hm])

noncomputable def zeta (N : ℕ) : ℂ := Complex.exp (-(2 * Real.pi * Complex.I / N))

theorem zeta_isPrimitiveRoot (N : ℕ) (hN : 0 < N) : IsPrimitiveRoot (zeta N) N := by
  have h := (Complex.isPrimitiveRoot_exp N (Nat.pos_iff_ne_zero.mp hN)).inv
  rwa [← Complex.exp_neg] at h

theorem zeta_pow_self (N : ℕ) : zeta N ^ N = 1 := by
  rcases Nat.eq_zero_or_pos N with h | h
  · subst h; simp
  · exact (zeta_isPrimitiveRoot N h).pow_eq_one

theorem zeta_ne_zero (N : ℕ) : zeta N ≠ 0 := Complex.exp_ne_zero _

theorem zeta_two : zeta 2 = -1 := by
  unfold zeta
  rw [show -(2 * (Real.pi : ℂ) * Complex.I / ((2 : ℕ) : ℂ)) = -(Real.pi * Complex.I) by push_cast; ring,
    Complex.exp_neg, Complex.exp_pi_mul_I]
  norm_num

theorem zeta_zpow_eq_exp (N : ℕ) (m : ℤ) :
    zeta N ^ m = Complex.exp (-(2 * Real.pi * Complex.I * (m : ℂ) / N)) := by
  unfold zeta
  rw [← Complex.exp_int_mul]
  congr 1
  ring

theorem zeta_zpow_add_mul (N : ℕ) (m k : ℤ) : zeta N ^ (m + (N : ℤ) * k) = zeta N ^ m := by
  rw [zpow_add₀ (zeta_ne_zero N), zpow_mul, zpow_natCast, zeta_pow_self, one_zpow, mul_one]

theorem zeta_zpow_emod (N : ℕ) (m : ℤ) : zeta N ^ (m % (N : ℤ)) = zeta N ^ m := by
  conv_rhs => rw [← Int.emod_add_mul_ediv m N]
  rw [zeta_zpow_add_mul]

theorem zeta_zpow_eq_of_modEq (N : ℕ) {a b : ℤ} (h : a ≡ b [ZMOD (N : ℤ)]) :
    zeta N ^ a = zeta N ^ b := by
  rw [← zeta_zpow_emod N a, ← zeta_zpow_emod N b, h]

theorem twiddle_eq_zpow (N : ℕ) (m : ℤ) : (twiddle N m : ℂ) = zeta N ^ m := by
  rw [← zeta_zpow_emod, zeta_zpow_eq_exp]
  simp only [twiddle, hasExp_complex, lit_eq, hasI_complex, hasPi_complex]
  rfl

theorem twiddle_eq_pow_mod (N : ℕ) (m : ℤ) (hN : 0 < N) :
    (twiddle N m : ℂ) = zeta N ^ (m % (N : ℤ)).toNat := by
  rw [twiddle_eq_zpow, ← zeta_zpow_emod, ← zpow_natCast]
  congr 1
  rw [Int.toNat_of_nonneg]
  exact Int.emod_nonneg _ (by exact_mod_cast hN.ne')

theorem twiddle_periodic (N : ℕ) (m k : ℤ) :
    (twiddle N (m + (N : ℤ) * k) : ℂ) = twiddle N m := by
  rw [twiddle_eq_zpow, twiddle_eq_zpow, zeta_zpow_add_mul]

theorem twiddle_emod (N : ℕ) (m : ℤ) : (twiddle N (m % (N : ℤ)) : ℂ) = twiddle N m := by
  rw [twiddle_eq_zpow, twiddle_eq_zpow, zeta_zpow_emod]

theorem twiddle_add (N : ℕ) (a b : ℤ) : (twiddle N (a + b) : ℂ) = twiddle N a * twiddle N b := by
  simp only [twiddle_eq_zpow, zpow_add₀ (zeta_ne_zero N)]

theorem twiddle_neg (N : ℕ) (a : ℤ) : (twiddle N (-a) : ℂ) = (twiddle N a)⁻¹ := by
  simp only [twiddle_eq_zpow, zpow_neg]

theorem norm_zeta (N : ℕ) : ‖zeta N‖ = 1 := by
  have h : -(2 * (Real.pi : ℂ) * Complex.I / (N : ℂ)) =
      ((-(2 * Real.pi / (N : ℝ)) : ℝ) : ℂ) * Complex.I := by
    push_cast; ring
  rw [zeta, h, Complex.norm_exp_ofReal_mul_I]

theorem conj_zeta (N : ℕ) : (starRingEnd ℂ) (zeta N) = (zeta N)⁻¹ := by
  rw [Complex.inv_eq_conj (norm_zeta N)]

theorem conj_zeta_zpow (N : ℕ) (m : ℤ) : (starRingEnd ℂ) (zeta N ^ m) = zeta N ^ (-m) := by
  rw [map_zpow₀, conj_zeta, inv_zpow, zpow_neg]

theorem conj_twiddle (N : ℕ) (m : ℤ) : (starRingEnd ℂ) (twiddle N m : ℂ) = twiddle N (-m) := by
  rw [twiddle_eq_zpow, twiddle_eq_zpow, conj_zeta_zpow]

theorem norm_twiddle (N : ℕ) (m : ℤ) : ‖(twiddle N m : ℂ)‖ = 1 := by
  rw [twiddle_eq_zpow, norm_zpow, norm_zeta, one_zpow]

theorem int_emod_eq (a b : ℤ) : Int.emod a b = a % b := rfl

private theorem emod_toNat_lt (N : ℕ) (hN : 0 < N) (p : ℤ) : (p % (N : ℤ)).toNat < N := by
  have h1 : 0 ≤ p % (N : ℤ) := Int.emod_nonneg _ (by exact_mod_cast hN.ne')
  have h2 : p % (N : ℤ) < N := Int.emod_lt_of_pos _ (by exact_mod_cast hN)
  omega

private theorem emod_toNat_cast (N : ℕ) (hN : 0 < N) (p : ℤ) :
    (((p % (N : ℤ)).toNat : ℕ) : ℤ) = p % (N : ℤ) :=
  Int.toNat_of_nonneg (Int.emod_nonneg _ (by exact_mod_cast hN.ne'))

@[simp] theorem rfftnM_size (D N : ℕ) (u : Array ℂ) : (rfftnM D N u).size = numModes D N :=
  tab_size _ _

@[simp] theorem irfftnM_size (D N : ℕ) (c : Array ℂ) : (irfftnM D N c).size = N ^ D :=
  tab_size _ _

theorem rfftnM_getD (D N : ℕ) (hN : 0 < N) (u : Array ℂ) (h : ℕ) (hh : h < numModes D N) :
    (rfftnM D N u).getD h 0
      = ∑ j ∈ range (N ^ D), u.getD j 0 * twiddle N (phaseK D N (wnFlat D N h) j) := by
  unfold rfftnM
  rw [tab_getD _ _ _ _ hh, sumRange_eq]
  apply Finset.sum_congr rfl
  intro j _
  rw [int_emod_eq, tab_getD _ _ _ _ (emod_toNat_lt N hN _), emod_toNat_cast N hN, twiddle_emod]

theorem irfftnM_getD (D N : ℕ) (hN : 0 < N) (c : Array ℂ) (j : ℕ) (hj : j < N ^ D) :
    (irfftnM D N c).getD j 0
      = (∑ h ∈ range (numModes D N), (herm_weight D N h : ℂ) *
          (((c.getD h 0 * twiddle N (-(phaseK D N (wnFlat D N h) j))).re : ℝ) : ℂ)) / ((N ^ D : ℕ) : ℂ) := by
  unfold irfftnM
  rw [tab_getD _ _ _ _ hj, sumRange_eq]
  refine congrArg (· / ((N ^ D : ℕ) : ℂ)) (Finset.sum_congr rfl fun h hh => ?_)
  have hh' := Finset.mem_range.mp hh
  rw [tab_getD _ _ _ _ hh', tab_getD _ _ _ _ hh', int_emod_eq,
    tab_getD _ _ _ _ (emod_toNat_lt N hN _), emod_toNat_cast N hN, twiddle_neg, twiddle_emod,
    ← twiddle_neg]
  rfl

theorem irfftnM_im (D N : ℕ) (c : Array ℂ) (j : ℕ) : ((irfftnM D N c).getD j 0).im = 0 := by
  have key : ∀ (S : Finset ℕ) (w : ℕ → ℕ) (f : ℕ → ℝ) (G : ℕ),
      ((∑ h ∈ S, ((w h : ℕ) : ℂ) * ((f h : ℝ) : ℂ)) / ((G : ℕ) : ℂ)).im = 0 := by
    intro S w f G
    have : (∑ h ∈ S, ((w h : ℕ) : ℂ) * ((f h : ℝ) : ℂ)) / ((G : ℕ) : ℂ)
        = (((∑ h ∈ S, (w h : ℝ) * f h) / (G : ℝ) : ℝ) : ℂ) := by push_cast; rfl
    rw [this, Complex.ofReal_im]
  unfold irfftnM
  rcases Nat.lt_or_ge j (N ^ D) with hj | hj
  · rw [tab_getD _ _ _ _ hj, sumRange_eq]
    exact key _ _ _ _
  · rw [tab_getD_of_le _ _ _ _ hj, Complex.zero_im]

/-! ### the two transforms as linear maps on entry functions

`rfftL` (ℂ-linear) and `irfftL` (ℝ-linear: it takes real parts) are defined through the model itself, for every `N`
and every output index; sums, differences, negation, scalars and zero are then `map_add`, `map_sub`, `map_neg`,
`map_smul`, `map_sum`, `map_zero`. -/

theorem rfftnM_lin (D N : ℕ) (a b : ℂ) (u v w : Array ℂ)
    (h : ∀ j, j < N ^ D → w.getD j 0 = a * u.getD j 0 + b * v.getD j 0) (m : ℕ) :
    (rfftnM D N w).getD m 0 = a * (rfftnM D N u).getD m 0 + b * (rfftnM D N v).getD m 0 := by
  unfold rfftnM
  rcases Nat.lt_or_ge m (numModes D N) with hm | hm
  · simp only [tab_getD _ _ _ _ hm, sumRange_eq, Finset.mul_sum, ← Finset.sum_add_distrib]
    exact Finset.sum_congr rfl fun j hj => by rw [h j (Finset.mem_range.mp hj)]; ring
  · simp only [tab_getD_of_le _ _ _ _ hm, mul_zero, add_zero]

theorem irfftnM_lin_real (D N : ℕ) (a b : ℝ) (A B C : Array ℂ)
    (h : ∀ m, m < numModes D N → C.getD m 0 = (a : ℂ) * A.getD m 0 + (b : ℂ) * B.getD m 0) (j : ℕ) :
    (irfftnM D N C).getD j 0 = (a : ℂ) * (irfftnM D N A).getD j 0 + (b : ℂ) * (irfftnM D N B).getD j 0 := by
  unfold irfftnM
  rcases Nat.lt_or_ge j (N ^ D) with hj | hj
  · simp only [tab_getD _ _ _ _ hj, ← mul_div_assoc, ← add_div, sumRange_eq, Finset.mul_sum,
      ← Finset.sum_add_distrib]
    refine congrArg (· / _) (Finset.sum_congr rfl fun m hm => ?_)
    rw [h m (Finset.mem_range.mp hm)]
    simp only [hasRe_complex, add_mul, mul_assoc, Complex.add_re, Complex.re_ofReal_mul]
    push_cast
    ring
  · simp only [tab_getD_of_le _ _ _ _ hj, mul_zero, add_zero]

noncomputable def rfftL (D N : ℕ) : (ℕ → ℂ) →ₗ[ℂ] (ℕ → ℂ) where
  toFun f h := (rfftnM D N (tab (N ^ D) f)).getD h 0
  map_add' f g := funext fun h => by
    have := rfftnM_lin D N 1 1 (tab (N ^ D) f) (tab (N ^ D) g) (tab (N ^ D) (f + g)) (fun j hj => by
      rw [tab_getD _ _ _ _ hj, tab_getD _ _ _ _ hj, tab_getD _ _ _ _ hj, one_mul, one_mul, Pi.add_apply]) h
    rwa [one_mul, one_mul] at this
  map_smul' z f := funext fun h => by
    have := rfftnM_lin D N z 0 (tab (N ^ D) f) (tab (N ^ D) f) (tab (N ^ D) (z • f)) (fun j hj => by
      rw [tab_getD _ _ _ _ hj, tab_getD _ _ _ _ hj, zero_mul, add_zero, Pi.smul_apply, smul_eq_mul]) h
    rwa [zero_mul, add_zero] at this

noncomputable def irfftL (D N : ℕ) : (ℕ → ℂ) →ₗ[ℝ] (ℕ → ℂ) where
  toFun g j := (irfftnM D N (tab (numModes D N) g)).getD j 0
  map_add' f g := funext fun j => by
    have := irfftnM_lin_real D N 1 1 (tab (numModes D N) f) (tab (numModes D N) g) (tab (numModes D N) (f + g))
      (fun m hm => by
        rw [tab_getD _ _ _ _ hm, tab_getD _ _ _ _ hm, tab_getD _ _ _ _ hm, Complex.ofReal_one, one_mul, one_mul,
          Pi.add_apply]) j
    rwa [Complex.ofReal_one, one_mul, one_mul] at this
  map_smul' r f := funext fun j => by
    have := irfftnM_lin_real D N r 0 (tab (numModes D N) f) (tab (numModes D N) f) (tab (numModes D N) (r • f))
      (fun m hm => by
        rw [tab_getD _ _ _ _ hm, tab_getD _ _ _ _ hm, Complex.ofReal_zero, zero_mul, add_zero, Pi.smul_apply,
          Complex.real_smul]) j
    rw [Complex.ofReal_zero, zero_mul, add_zero] at this
    rw [Pi.smul_apply, Complex.real_smul]
    exact this

theorem rfftL_apply (D N : ℕ) (f : ℕ → ℂ) (h : ℕ) : rfftL D N f h = (rfftnM D N (tab (N ^ D) f)).getD h 0 := rfl

theorem irfftL_apply (D N : ℕ) (g : ℕ → ℂ) (j : ℕ) :
    irfftL D N g j = (irfftnM D N (tab (numModes D N) g)).getD j 0 := rfl

theorem rfftnM_getD_eq (D N : ℕ) (u : Array ℂ) (h : ℕ) :
    (rfftnM D N u).getD h 0 = rfftL D N (fun j => u.getD j 0) h :=
  congrArg (·.getD h 0) (rfftnM_tab D N u).symm

theorem irfftnM_getD_eq (D N : ℕ) (c : Array ℂ) (j : ℕ) :
    (irfftnM D N c).getD j 0 = irfftL D N (fun h => c.getD h 0) j :=
  congrArg (·.getD j 0) (irfftnM_congr D N _ _ fun _ hm => (tab_getD _ (fun h => c.getD h 0) _ _ hm).symm)

theorem rfftL_congr (D N : ℕ) {f g : ℕ → ℂ} (h : ∀ j, j < N ^ D → f j = g j) : rfftL D N f = rfftL D N g :=
  funext fun m => by rw [rfftL_apply, rfftL_apply, tab_congr _ _ _ h]

theorem irfftL_congr (D N : ℕ) {f g : ℕ → ℂ} (h : ∀ m, m < numModes D N → f m = g m) :
    irfftL D N f = irfftL D N g :=
  funext fun j => by rw [irfftL_apply, irfftL_apply, tab_congr _ _ _ h]

theorem rfftnM_eq_zero (D N : ℕ) (u : Array ℂ) (hu : ∀ j, j < N ^ D → u.getD j 0 = 0) (h : ℕ) :
    (rfftnM D N u).getD h 0 = 0 := by
  rw [rfftnM_getD_eq, rfftL_congr D N (g := 0) hu]
  exact congrFun (rfftL D N).map_zero h

theorem irfftnM_eq_zero (D N : ℕ) (c : Array ℂ) (hc : ∀ m, m < numModes D N → c.getD m 0 = 0) (j : ℕ) :
    (irfftnM D N c).getD j 0 = 0 := by
  rw [irfftnM_getD_eq, irfftL_congr D N (g := 0) hc]
  exact congrFun (irfftL D N).map_zero j

end Exponax.DFT
