import ExponaxModel.Proofs.NonlinFunsBasic
import ExponaxModel.Proofs.DFTBasic
import Mathlib.Analysis.Calculus.ContDiff.Basic
import Mathlib.Analysis.Calculus.ContDiff.Operations
import Mathlib.Analysis.Calculus.FDeriv.Mul
import Mathlib.Analysis.Calculus.FDeriv.Add
import Mathlib.Analysis.Complex.Basic
/-
C07 support: the calculus behind the differentiability of the pseudo-spectral terms.

Every term of `Model/Nonlin.lean` is assembled from ℝ-linear array operations (`rfftnM`, `irfftnM`, masks, multiplication
by a fixed symbol, sums, `Re`) and pointwise products of arrays.  We make this precise entrywise: an `X`-indexed family of
arrays `f : X → Array ℂ` is described by its entry functions `x ↦ (f x).getD i 0 : X → ℂ`, and we carry a relation
`R g g'` between a primal entry function `g : X → ℂ` and a tangent entry function `g' : Y → ℂ` through the model:

  * `FunMod₂ R`   : `R` is closed under `0`, `+`, multiplication by a constant and `Re` (the linear calculus);
  * `FunAlg₂ R u` : in addition constants and the product rule at the base point `u`:
                    `R f f' → R g g' → R (f·g) (v ↦ f u · g' v + f' v · g u)`.

Instances: `R g g' := P g` for `P = ContDiff ℝ n`, `Continuous`; `R g g' := IsLinearMap ℝ g` (linear calculus only);
`R g g' := HasFD u g g'`, "`g` is Fréchet differentiable at `u` with derivative the map `g'`" (both calculi).  The
transforms of the model preserve every `FunMod₂` relation (this file); the terms preserve every `FunAlg₂` relation, with
the tangent given by the JVP written in model vocabulary (`DiffTermsConv`, `DiffTermsMore`).
-/
namespace Exponax.DiffTerms
open Exponax Exponax.Transform Exponax.Nonlin

section Rel
variable {X Y : Type}

structure FunMod₂ (R : (X → ℂ) → (Y → ℂ) → Prop) : Prop where
  zero : R (fun _ => 0) (fun _ => 0)
  add : ∀ {f g : X → ℂ} {f' g' : Y → ℂ}, R f f' → R g g' → R (fun x => f x + g x) (fun v => f' v + g' v)
  smul : ∀ (a : ℂ) {f : X → ℂ} {f' : Y → ℂ}, R f f' → R (fun x => a * f x) (fun v => a * f' v)
  re : ∀ {f : X → ℂ} {f' : Y → ℂ}, R f f' → R (fun x => (((f x).re : ℝ) : ℂ)) (fun v => (((f' v).re : ℝ) : ℂ))

structure FunAlg₂ (R : (X → ℂ) → (Y → ℂ) → Prop) (u : X) : Prop extends FunMod₂ R where
  const : ∀ a : ℂ, R (fun _ => a) (fun _ => 0)
  mul : ∀ {f g : X → ℂ} {f' g' : Y → ℂ}, R f f' → R g g' →
    R (fun x => f x * g x) (fun v => f u * g' v + f' v * g u)

def RelM (R : (X → ℂ) → (Y → ℂ) → Prop) (f : X → MC ℂ) (f' : Y → MC ℂ) : Prop :=
  ∀ ch i, R (fun x => at2 (f x) ch i) (fun v => at2 (f' v) ch i)

def RelA (R : (X → ℂ) → (Y → ℂ) → Prop) (f : X → Array ℂ) (f' : Y → Array ℂ) : Prop :=
  ∀ i, R (fun x => (f x).getD i 0) (fun v => (f' v).getD i 0)

theorem RelM.row {R : (X → ℂ) → (Y → ℂ) → Prop} {f : X → MC ℂ} {f' : Y → MC ℂ} (h : RelM R f f') (ch : ℕ) :
    RelA R (fun x => (f x).getD ch #[]) (fun v => (f' v).getD ch #[]) := fun i => h ch i

namespace FunMod₂
variable {R : (X → ℂ) → (Y → ℂ) → Prop} (hR : FunMod₂ R)
include hR

theorem mul_const (a : ℂ) {f : X → ℂ} {f' : Y → ℂ} (h : R f f') : R (fun x => f x * a) (fun v => f' v * a) := by
  have := hR.smul a h
  simpa only [mul_comm] using this

theorem neg {f : X → ℂ} {f' : Y → ℂ} (h : R f f') : R (fun x => -f x) (fun v => -f' v) := by
  have := hR.smul (-1) h
  simpa only [neg_one_mul] using this

theorem sub {f g : X → ℂ} {f' g' : Y → ℂ} (h : R f f') (k : R g g') :
    R (fun x => f x - g x) (fun v => f' v - g' v) := by
  have := hR.add h (hR.neg k)
  simpa only [← sub_eq_add_neg] using this

theorem div_const (a : ℂ) {f : X → ℂ} {f' : Y → ℂ} (h : R f f') : R (fun x => f x / a) (fun v => f' v / a) := by
  have := hR.mul_const a⁻¹ h
  simpa only [← div_eq_mul_inv] using this

theorem finsum {ι : Type} (s : Finset ι) (g : ι → X → ℂ) (g' : ι → Y → ℂ) (h : ∀ i ∈ s, R (g i) (g' i)) :
    R (fun x => ∑ i ∈ s, g i x) (fun v => ∑ i ∈ s, g' i v) := by
  classical
  induction s using Finset.induction_on with
  | empty => simpa using hR.zero
  | insert a s ha ih =>
    have h1 := hR.add (h a (Finset.mem_insert_self a s)) (ih (fun i hi => h i (Finset.mem_insert_of_mem hi)))
    simpa only [Finset.sum_insert ha] using h1

theorem sumList_range (n : ℕ) (g : X → ℕ → ℂ) (g' : Y → ℕ → ℂ) (h : ∀ d, d < n → R (fun x => g x d) (fun v => g' v d)) :
    R (fun x => sumList ((List.range n).map (g x))) (fun v => sumList ((List.range n).map (g' v))) := by
  have e1 : (fun x => sumList ((List.range n).map (g x))) = fun x => ∑ d ∈ Finset.range n, g x d :=
    funext fun x => by rw [sumList_eq, DFT.list_range_map_sum]
  have e2 : (fun v => sumList ((List.range n).map (g' v))) = fun v => ∑ d ∈ Finset.range n, g' v d :=
    funext fun v => by rw [sumList_eq, DFT.list_range_map_sum]
  rw [e1, e2]
  exact hR.finsum _ (fun d x => g x d) (fun d v => g' v d) (fun d hd => h d (Finset.mem_range.mp hd))

theorem sumRange_rel (n : ℕ) (g : X → ℕ → ℂ) (g' : Y → ℕ → ℂ) (h : ∀ d, d < n → R (fun x => g x d) (fun v => g' v d)) :
    R (fun x => sumRange n (g x)) (fun v => sumRange n (g' v)) :=
  hR.sumList_range n g g' h

theorem tab_rel (n : ℕ) (g : X → ℕ → ℂ) (g' : Y → ℕ → ℂ) (h : ∀ i, i < n → R (fun x => g x i) (fun v => g' v i)) :
    RelA R (fun x => tab n (g x)) (fun v => tab n (g' v)) := by
  intro i
  by_cases hi : i < n
  · simp only [tab_getD _ _ _ _ hi]; exact h i hi
  · simp only [tab_getD_of_le _ _ _ _ (not_lt.mp hi)]; exact hR.zero

theorem tabC_rel (nc : ℕ) (g : X → ℕ → Array ℂ) (g' : Y → ℕ → Array ℂ)
    (h : ∀ ch, ch < nc → RelA R (fun x => g x ch) (fun v => g' v ch)) :
    RelM R (fun x => tabC nc (g x)) (fun v => tabC nc (g' v)) := by
  intro ch i
  by_cases hc : ch < nc
  · simp only [at2_tabC _ _ _ _ hc]; exact h ch hc i
  · simp only [at2_tabC_of_le _ _ _ _ (not_lt.mp hc)]; exact hR.zero

theorem tab2_rel (nc n : ℕ) (g : X → ℕ → ℕ → ℂ) (g' : Y → ℕ → ℕ → ℂ)
    (h : ∀ ch, ch < nc → ∀ i, i < n → R (fun x => g x ch i) (fun v => g' v ch i)) :
    RelM R (fun x => tab2 nc n (g x)) (fun v => tab2 nc n (g' v)) :=
  hR.tabC_rel nc (fun x ch => Transform.tab n (g x ch)) (fun v ch => Transform.tab n (g' v ch))
    (fun ch hc => hR.tab_rel n (fun x => g x ch) (fun v => g' v ch) (h ch hc))

/-- `rfftnM` is a fixed linear combination of the entries -/
theorem rfftnM_rel (D N : ℕ) (a : X → Array ℂ) (a' : Y → Array ℂ) (h : RelA R a a') :
    RelA R (fun x => rfftnM D N (a x)) (fun v => rfftnM D N (a' v)) := by
  unfold Transform.rfftnM
  exact hR.tab_rel _ _ _ (fun m _ => hR.sumRange_rel _ _ _ (fun j _ => hR.mul_const _ (h j)))

/-- `irfftnM` is too, up to `Re`, which is ℝ-linear -/
theorem irfftnM_rel (D N : ℕ) (a : X → Array ℂ) (a' : Y → Array ℂ) (h : RelA R a a') :
    RelA R (fun x => irfftnM D N (a x)) (fun v => irfftnM D N (a' v)) := by
  unfold Transform.irfftnM
  exact hR.tab_rel _ _ _ (fun j _ => hR.div_const _
    (hR.sumRange_rel _ _ _ (fun m _ => hR.smul _ (hR.re (hR.mul_const _ (h m))))))

theorem nfft_rel (c : Cfg ℂ) (a : X → Array ℂ) (a' : Y → Array ℂ) (h : RelA R a a') :
    RelA R (fun x => nfft c (a x)) (fun v => nfft c (a' v)) := by
  unfold Nonlin.nfft
  exact hR.tab_rel _ _ _ (fun k _ => hR.smul _ (hR.rfftnM_rel c.D c.N a a' h k))

theorem nifft_rel (c : Cfg ℂ) (a : X → Array ℂ) (a' : Y → Array ℂ) (h : RelA R a a') :
    RelA R (fun x => nifft c (a x)) (fun v => nifft c (a' v)) := by
  unfold Nonlin.nifft
  exact hR.irfftnM_rel c.D c.N _ _ (hR.tab_rel _ _ _ (fun k _ => hR.smul _ (h k)))

end FunMod₂

end Rel

section Unary
variable {X : Type}

def lift₁ (P : (X → ℂ) → Prop) : (X → ℂ) → (X → ℂ) → Prop := fun g _ => P g

end Unary

section Smooth
variable {X : Type} [NormedAddCommGroup X] [NormedSpace ℝ X]

theorem contDiff_re_ofReal {n : WithTop ℕ∞} {f : X → ℂ} (h : ContDiff ℝ n f) :
    ContDiff ℝ n (fun x => (((f x).re : ℝ) : ℂ)) :=
  Complex.ofRealCLM.contDiff.comp (Complex.reCLM.contDiff.comp h)

theorem funAlg₂_contDiff (n : WithTop ℕ∞) (u : X) : FunAlg₂ (lift₁ (fun g : X → ℂ => ContDiff ℝ n g)) u where
  zero := contDiff_const
  add := fun h k => ContDiff.add h k
  smul := fun _ _ _ h => ContDiff.mul contDiff_const h
  re := fun h => contDiff_re_ofReal h
  const := fun _ => contDiff_const
  mul := fun h k => ContDiff.mul h k

theorem funAlg₂_continuous {X : Type} [TopologicalSpace X] (u : X) :
    FunAlg₂ (lift₁ (fun g : X → ℂ => Continuous g)) u where
  zero := continuous_const
  add := fun h k => Continuous.add h k
  smul := fun _ _ _ h => Continuous.mul continuous_const h
  re := fun h => Complex.continuous_ofReal.comp (Complex.continuous_re.comp h)
  const := fun _ => continuous_const
  mul := fun h k => Continuous.mul h k

end Smooth

section Linear
variable {X : Type} [AddCommGroup X] [Module ℝ X]

theorem funMod₂_linear : FunMod₂ (lift₁ (fun g : X → ℂ => IsLinearMap ℝ g)) where
  zero := ⟨fun _ _ => (add_zero 0).symm, fun _ _ => (smul_zero _).symm⟩
  add := fun {f g _ _} h k =>
    ⟨fun x y => by simp only [h.map_add, k.map_add]; ring, fun r x => by simp only [h.map_smul, k.map_smul, smul_add]⟩
  smul := fun a {f _} h =>
    ⟨fun x y => by simp only [h.map_add, mul_add], fun r x => by
      simp only [h.map_smul, Complex.real_smul]; ring⟩
  re := fun {f _} h =>
    ⟨fun x y => by simp only [h.map_add, Complex.add_re, Complex.ofReal_add], fun r x => by
      simp only [h.map_smul, Complex.real_smul, Complex.re_ofReal_mul, Complex.ofReal_mul]⟩

end Linear

section FD
variable {X : Type} [NormedAddCommGroup X] [NormedSpace ℝ X]

def HasFD (u : X) (g g' : X → ℂ) : Prop := ∃ L : X →L[ℝ] ℂ, HasFDerivAt g L u ∧ ∀ v, L v = g' v

theorem HasFD.congr {u : X} {g g' g'' : X → ℂ} (h : HasFD u g g') (e : ∀ v, g' v = g'' v) : HasFD u g g'' := by
  obtain ⟨L, hL, hv⟩ := h
  exact ⟨L, hL, fun v => (hv v).trans (e v)⟩

theorem HasFD.of_clm (u : X) (L : X →L[ℝ] ℂ) : HasFD u (fun x => L x) (fun v => L v) :=
  ⟨L, L.hasFDerivAt, fun _ => rfl⟩

theorem funAlg₂_hasFD (u : X) : FunAlg₂ (HasFD u) u where
  zero := ⟨0, hasFDerivAt_const 0 u, fun _ => rfl⟩
  add := by
    rintro f g f' g' ⟨L, hL, hv⟩ ⟨L', hL', hv'⟩
    exact ⟨L + L', hL.add hL', fun v => by simp only [_root_.add_apply, hv, hv']⟩
  smul := by
    rintro a f f' ⟨L, hL, hv⟩
    exact ⟨a • L, hL.const_smul a, fun v => by
      simp only [_root_.smul_apply, hv, smul_eq_mul]⟩
  re := by
    rintro f f' ⟨L, hL, hv⟩
    refine ⟨Complex.ofRealCLM.comp (Complex.reCLM.comp L), ?_, fun v => ?_⟩
    · exact (Complex.ofRealCLM.hasFDerivAt.comp u (Complex.reCLM.hasFDerivAt.comp u hL))
    · simp only [ContinuousLinearMap.comp_apply, hv, Complex.reCLM_apply, Complex.ofRealCLM_apply]
  const := fun a => ⟨0, hasFDerivAt_const a u, fun _ => rfl⟩
  mul := by
    rintro f g f' g' ⟨L, hL, hv⟩ ⟨L', hL', hv'⟩
    refine ⟨f u • L' + g u • L, hL.mul hL', fun v => ?_⟩
    simp only [_root_.add_apply, _root_.smul_apply, hv, hv', smul_eq_mul]
    ring

end FD

end Exponax.DiffTerms
