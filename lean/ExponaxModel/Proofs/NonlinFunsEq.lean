import ExponaxModel.Proofs.NonlinFunsBasic
/-
`Generated/NonlinFuns.lean` is regenerated (harness/translate_nonlin.py) from the `__call__` / `__init__` methods of
every class deriving from `BaseNonlinearFun` under exponax/ (exponax/nonlin_fun/*.py and the reaction steppers'
nonlinear functions).  Every regenerated `<Class>_call` is proved equal (as arrays, at `K := ℂ`) to the model function
of `Model/Nonlin.lean` (`Leray_call` at `order = 2`, the only order the model has).  Hypotheses are the guards the source raises on (`C = c.D`, `C = 3`, `c.D = 3`, …), the one
shape assumption the source relies on without checking it (`C = 1` for the non-conservative single-channel
convection), `0 < C` where the source indexes channel 0, and for the Kolmogorov vorticity forcing the realness of
`c.s = 2π/L` (the source takes `.imag` of the derivative operator, the model writes the real number down).

The proofs unfold both sides; `norm` reads stored intermediate arrays through the row transforms; `rdd` is `simp`
with the congruence rules of `tab`/`tab2`/`tabC`/`sumRange`, under which the index is in range, so that stored arrays
are read at in-range indices.  `rdd` makes one bottom-up pass: re-simplifying a changed term visits its binders
afresh, which is exponential in the nesting depth of the tabulations; where a read-off exposes another one, `rdd` is
called again.
-/
namespace Exponax.NonlinFunsEq
open Exponax Exponax.Layout Exponax.Transform Exponax.Nonlin Exponax.Gen.NonlinFuns

attribute [local congr] DFT.tab_congr Nonlin.tab2_congr Nonlin.tabC_congr DFT.sumRange_congr

/-- normal form of the generated pipelines: stored intermediate arrays are read through the row transforms -/
macro "norm" : tactic => `(tactic| simp only [at2_flat_self, fft_rows, fft_rows', ifft_rows, ifft_channels, nfft_tab,
  nifft_tab, ↓reduceIte, Bool.false_eq_true])

/-- read stored arrays at the (in-range) indices under the tabulations; small powers, literals, the regenerated
    Laplace operator and the model's guarded inverses -/
macro "rdd" : tactic => `(tactic| simp (config := { singlePass := true }) (disch := omega) only
  [at2_tab2_flat, at2_tabC_flat, at2_tab2, at2_tabC, tab_getD, tabC_getD, tab2_getD, flat_div, flat_mod,
   at2_flat_self, npow_two, npow_three, lit_one, lit_zero, laplace_op_deriv, invLapOne, invLapZero, polyEval,
   getD_two, getD_three, ite_bnot, not_two_eq_zero, not_two_eq_one, not_one_eq_zero, ↓reduceIte, Bool.false_eq_true])

/- `self.fft`, `self.ifft`, `self.dealias` of `BaseNonlinearFun`, the primitives of every other regenerated definition,
are themselves regenerated (over `Transform.rfftnM` / `irfftnM` = `jnp.fft.rfftn` / `irfftn`, and the Boolean low-pass
mask `Layout.dealiasMask`; "no mask" is `c.fq = 0`). -/

theorem BaseNonlinearFun_fft_eq (c : Cfg ℂ) (C : ℕ) (u : MC ℂ) :
    BaseNonlinearFun_fft c C u = tabC C (fun i => nfft c (u.getD i #[])) := by
  unfold BaseNonlinearFun_fft nfft mask
  by_cases hq : c.fq = 0
  · simp only [hq, ne_eq, not_true_eq_false, ↓reduceIte, one_mul]
    exact tabC_congr _ _ _ fun i _ => (rfftnM_tab c.D c.N _).trans (rfftnM_retab c.D c.N _).symm
  · simp only [hq, ne_eq, not_false_eq_true, ↓reduceIte, tab2_eq_tabC]
    exact tabC_congr _ _ _ fun i hi => tab_congr _ _ _ fun h hh => by
      rw [at2_tabC _ _ _ _ hi]
      exact congrArg (_ * ·.getD h 0) (rfftnM_tab c.D c.N (u.getD i #[]))

theorem BaseNonlinearFun_ifft_eq (c : Cfg ℂ) (C : ℕ) (uh : MC ℂ) :
    BaseNonlinearFun_ifft c C uh = tabC C (fun i => nifft c (uh.getD i #[])) := by
  unfold BaseNonlinearFun_ifft nifft mask
  by_cases hq : c.fq = 0
  · simp only [hq, ne_eq, not_true_eq_false, ↓reduceIte, one_mul]
    rfl
  · simp only [hq, ne_eq, not_false_eq_true, ↓reduceIte]
    exact tabC_congr _ _ _ fun i hi => congrArg _ (tab_congr _ _ _ fun h hh => at2_tab2 _ _ _ _ _ hi hh)

theorem BaseNonlinearFun_dealias_eq (c : Cfg ℂ) (hq : c.fq ≠ 0) (C : ℕ) (uh : MC ℂ) :
    BaseNonlinearFun_dealias c C uh = tab2 C (modes c) (fun i h => mask c h * at2 uh i h) := by
  unfold BaseNonlinearFun_dealias mask
  simp only [if_neg hq]

theorem PolynomialNonlinearFun_call_eq (c : Cfg ℂ) (C : ℕ) (coeffs : List ℂ) (uh : MC ℂ) :
    PolynomialNonlinearFun_call c C coeffs uh = polynomial c C coeffs uh := by
  unfold PolynomialNonlinearFun_call polynomial
  norm
  rdd

theorem ZeroNonlinearFun_call_eq (c : Cfg ℂ) (C : ℕ) (uh : MC ℂ) :
    ZeroNonlinearFun_call c C uh = tab2 C (modes c) (fun _ _ => 0) := rfl

theorem Convection_single_conservative_eq (c : Cfg ℂ) (C : ℕ) (scale : ℂ) (uh : MC ℂ) :
    ConvectionNonlinearFun__single_channel_conservative_eval c C scale uh = convection c C scale true true uh := by
  unfold ConvectionNonlinearFun__single_channel_conservative_eval convection
  norm
  rdd

/-- the source relies on `C = 1` here without checking it (broadcast of `(D, …)` against `(C, …)`) -/
theorem Convection_single_nonconservative_eq (c : Cfg ℂ) (scale : ℂ) (uh : MC ℂ) :
    ConvectionNonlinearFun__single_channel_nonconservative_eval c 1 scale uh = convection c 1 scale true false uh := by
  unfold ConvectionNonlinearFun__single_channel_nonconservative_eval convection
  norm
  rdd

theorem Convection_multi_conservative_eq (c : Cfg ℂ) (C : ℕ) (hC : C = c.D) (scale : ℂ) (uh : MC ℂ) :
    ConvectionNonlinearFun__multi_channel_conservative_eval c C scale uh = convection c C scale false true uh := by
  subst hC
  unfold ConvectionNonlinearFun__multi_channel_conservative_eval convection
  norm
  rdd

theorem Convection_multi_nonconservative_eq (c : Cfg ℂ) (C : ℕ) (hC : C = c.D) (scale : ℂ) (uh : MC ℂ) :
    ConvectionNonlinearFun__multi_channel_nonconservative_eval c C scale uh = convection c C scale false false uh := by
  subst hC
  unfold ConvectionNonlinearFun__multi_channel_nonconservative_eval convection
  norm

/-- the dispatch of `ConvectionNonlinearFun.__call__`; the hypothesis is the guard of the multi-channel variants
    (`C = c.D`), resp. the unchecked single-channel assumption `C = 1` of the non-conservative single-channel form -/
theorem ConvectionNonlinearFun_call_eq (c : Cfg ℂ) (C : ℕ) (scale : ℂ) (single conservative : Bool) (uh : MC ℂ)
    (hC : if single then (conservative = false → C = 1) else C = c.D) :
    ConvectionNonlinearFun_call c C scale single conservative uh = convection c C scale single conservative uh := by
  unfold ConvectionNonlinearFun_call
  cases single
  · simp only [Bool.false_eq_true, ↓reduceIte] at hC ⊢
    cases conservative
    · exact Convection_multi_nonconservative_eq c C hC scale uh
    · exact Convection_multi_conservative_eq c C hC scale uh
  · simp only [↓reduceIte] at hC ⊢
    cases conservative
    · obtain rfl := hC rfl
      exact Convection_single_nonconservative_eq c scale uh
    · exact Convection_single_conservative_eq c C scale uh

theorem GradientNormNonlinearFun_call_eq (c : Cfg ℂ) (C : ℕ) (scale : ℂ) (zeroFix : Bool) (uh : MC ℂ) :
    GradientNormNonlinearFun_call c C zeroFix scale uh = gradientNorm c C scale zeroFix uh := by
  unfold GradientNormNonlinearFun_call gradientNorm
  cases zeroFix <;> (norm; rdd)

theorem GeneralNonlinearFun_call_eq (c : Cfg ℂ) (C : ℕ) (s0 s1 s2 : ℂ) (zeroFix : Bool) (uh : MC ℂ) :
    GeneralNonlinearFun_call c C (s0, s1, s2) zeroFix uh = general c C s0 s1 s2 zeroFix uh := by
  unfold GeneralNonlinearFun_call general
  simp only [PolynomialNonlinearFun_call_eq, GradientNormNonlinearFun_call_eq, lit_zero,
    ConvectionNonlinearFun_call_eq c C (-s1) true true uh (by simp)]

theorem GrayScottNonlinearFun_call_eq (c : Cfg ℂ) (C : ℕ) (hC : C = 2) (feed kill : ℂ) (uh : MC ℂ) :
    GrayScottNonlinearFun_call c C feed kill uh = reaction c C (grayScottReact feed kill) uh := by
  subst hC
  unfold GrayScottNonlinearFun_call reaction
  norm
  simp only [grayScottReact, map_range_two, List.getD_cons_zero, List.getD_cons_succ]
  rdd

theorem BelousovZhabotinskyNonlinearFun_call_eq (c : Cfg ℂ) (C : ℕ) (hC : C = 3) (uh : MC ℂ) :
    BelousovZhabotinskyNonlinearFun_call c C uh = reaction c C bzReact uh := by
  subst hC
  unfold BelousovZhabotinskyNonlinearFun_call reaction
  norm
  simp only [bzReact, map_range_three, List.getD_cons_zero, List.getD_cons_succ]
  rdd

theorem CahnHilliardNonlinearFun_call_eq (c : Cfg ℂ) (C : ℕ) (hC : 0 < C) (scale : ℂ) (uh : MC ℂ) :
    CahnHilliardNonlinearFun_call c C scale uh = cahnHilliard c scale uh := by
  unfold CahnHilliardNonlinearFun_call cahnHilliard CahnHilliardNonlinearFun_init_laplace_operator
  norm
  rdd

theorem Leray_call_eq (c : Cfg ℂ) (uh : MC ℂ) : Leray_call c 2 uh = leray c uh := by
  unfold Leray_call leray Leray_init_inv_laplacian
  rdd
  rdd

theorem VorticityConvection2d_call_eq (c : Cfg ℂ) (scale : ℂ) (uh : MC ℂ) :
    VorticityConvection2d_call c scale uh = vorticity2d c scale none uh := by
  unfold VorticityConvection2d_call vorticity2d VorticityConvection2d_init_inv_laplacian
  norm
  rdd

/-- `.imag` of the derivative operator for a real scale `c.s = 2π/L` -/
theorem im_deriv (c : Cfg ℂ) (s : ℝ) (hs : c.s = (s : ℂ)) (d h : ℕ) :
    HasIm.im (Nonlin.deriv c d h) = c.s * (((wnFlat c.D c.N h).getD d 0 : ℤ) : ℂ) := by
  rw [deriv_eq_real c s hs, hs]
  show (((Complex.I * ((s * (kInt c d h : ℝ) : ℝ) : ℂ)).im : ℝ) : ℂ) = _
  rw [Complex.mul_im, Complex.I_re, Complex.I_im, Complex.ofReal_im, Complex.ofReal_re]
  unfold kInt
  push_cast
  ring

theorem VorticityConvection2dKolmogorov_call_eq (c : Cfg ℂ) (s : ℝ) (hs : c.s = (s : ℂ)) (scale : ℂ) (m : ℕ) (gam : ℂ)
    (uh : MC ℂ) :
    VorticityConvection2dKolmogorov_call c scale m gam uh = vorticity2d c scale (some (m, gam)) uh := by
  unfold VorticityConvection2dKolmogorov_call VorticityConvection2dKolmogorov_init_injection
  rw [VorticityConvection2d_call_eq]
  unfold vorticity2d
  simp only []
  generalize nfft c _ = conv
  rdd
  simp only [im_deriv c s hs]
  apply tab2_congr; intro ch i hch hi
  split_ifs <;> rfl

theorem leray_retab (c : Cfg ℂ) (hD : c.D = 3) (X : MC ℂ) :
    tab2 3 (modes c) (fun ch i => at2 (leray c X) ch i) = leray c X := by
  unfold leray
  simp only [hD]
  rdd

theorem cross_product_3d_M_eq (c : Cfg ℂ) (a b : MC ℂ) :
    cross_product_3d_M c a b = tab2 3 (modes c) (fun i h =>
      proj3 (Gen.Misc.cross_product_3d (at2 a 0 h, at2 a 1 h, at2 a 2 h) (at2 b 0 h, at2 b 1 h, at2 b 2 h)) i) := by
  unfold cross_product_3d_M proj3 Gen.Misc.cross_product_3d
  rdd

theorem cross_product_3d_G_eq (c : Cfg ℂ) (a b : MC ℂ) :
    cross_product_3d_G c a b = tab2 3 (gridSize c) (fun i x =>
      proj3 (Gen.Misc.cross_product_3d (at2 a 0 x, at2 a 1 x, at2 a 2 x) (at2 b 0 x, at2 b 1 x, at2 b 2 x)) i) := by
  unfold cross_product_3d_G proj3 Gen.Misc.cross_product_3d
  rdd

theorem ProjectedConvection3d_call_eq (c : Cfg ℂ) (hD : c.D = 3) (uh : MC ℂ) :
    ProjectedConvection3d_call c uh = projected3d c none uh := by
  unfold ProjectedConvection3d_call projected3d
  simp only [Leray_call_eq, cross_product_3d_M_eq, cross_product_3d_G_eq]
  norm
  rdd
  exact (leray_retab c hD _).symm

theorem ProjectedConvection3dKolmogorov_call_eq (c : Cfg ℂ) (hD : c.D = 3) (m : ℕ) (hm : 0 < m) (gam : ℂ) (uh : MC ℂ) :
    ProjectedConvection3dKolmogorov_call c m gam uh = projected3d c (some (m, gam)) uh := by
  unfold ProjectedConvection3dKolmogorov_call ProjectedConvection3dKolmogorov_init_injection
  rw [ProjectedConvection3d_call_eq c hD]
  unfold projected3d
  simp only [hD]
  generalize leray c _ = proj
  rdd
  apply tab2_congr; intro ch i _ _
  generalize at2 proj ch i = P
  generalize (wnFlat 3 c.N i).getD 0 0 = k0
  generalize (wnFlat 3 c.N i).getD 1 0 = k1
  generalize (wnFlat 3 c.N i).getD 2 0 = k2
  generalize gam * scaling 3 c.N 2 _ = amp
  -- for `0 < m` the two conjugate masks `k₁ = m`, `k₁ = -m` exclude each other
  have hne : ¬ (k1 = (m : ℤ) ∧ k1 = -(m : ℤ)) := by omega
  by_cases hch : ch = 0
  · subst hch
    simp only [↓reduceIte, decide_true, Bool.true_and]
    generalize (k0 == 0 && k2 == 0) = b
    cases b
    · simp only [Bool.false_and, Bool.false_eq_true, ↓reduceIte, add_zero]
    · simp only [Bool.true_and, beq_iff_eq]
      by_cases h1 : k1 = (m : ℤ)
      · rw [if_pos h1, if_neg (fun h2 => hne ⟨h1, h2⟩), if_pos h1, add_zero]
      · rw [if_neg h1, if_neg h1, zero_add]
        split_ifs <;> rfl
  · simp only [hch, decide_false, Bool.false_and, Bool.false_eq_true, ↓reduceIte, ite_self]

/-- DISCREPANCY (junk input `injection_mode = 0`): the source's forcing array is then identically zero (the two
    conjugate masks coincide and `-i·a + i·a = 0`), whereas `Nonlin.projected3d c (some (0, γ))` adds `-i·γ·scaling`
    at the zero mode; hence the hypothesis `0 < m` above. -/
theorem ProjectedConvection3dKolmogorov_injection_mode_zero (c : Cfg ℂ) (gam : ℂ) (i h : ℕ) (hi : i < 3)
    (hh : h < modes c) : at2 (ProjectedConvection3dKolmogorov_init_injection c 0 gam) i h = 0 := by
  unfold ProjectedConvection3dKolmogorov_init_injection
  rdd
  simp only [Nat.cast_zero, neg_zero]
  split_ifs <;> ring

/- the lists of what was generated, written out: a new class or definition changes a list and breaks the build here (that it has
   a theorem is not checked) -/

theorem generated_classes_pinned : generated_classes =
    ["BelousovZhabotinskyNonlinearFun", "CahnHilliardNonlinearFun", "ConvectionNonlinearFun", "GeneralNonlinearFun",
     "GradientNormNonlinearFun", "GrayScottNonlinearFun", "Leray", "PolynomialNonlinearFun", "ProjectedConvection3d",
     "ProjectedConvection3dKolmogorov", "VorticityConvection2d", "VorticityConvection2dKolmogorov",
     "ZeroNonlinearFun"] := rfl

theorem inherited_classes_pinned : inherited_classes = [] := rfl

theorem generated_defs_pinned : generated_defs =
    ["BaseNonlinearFun_fft",
     "BaseNonlinearFun_ifft",
     "BaseNonlinearFun_dealias",
     "BelousovZhabotinskyNonlinearFun_call",
     "CahnHilliardNonlinearFun_init_laplace_operator",
     "CahnHilliardNonlinearFun_call",
     "ConvectionNonlinearFun__single_channel_conservative_eval",
     "ConvectionNonlinearFun__single_channel_nonconservative_eval",
     "ConvectionNonlinearFun__multi_channel_conservative_eval",
     "ConvectionNonlinearFun__multi_channel_nonconservative_eval",
     "ConvectionNonlinearFun_call",
     "PolynomialNonlinearFun_call",
     "GradientNormNonlinearFun_call",
     "GeneralNonlinearFun_call",
     "GrayScottNonlinearFun_call",
     "Leray_init_inv_laplacian",
     "Leray_call",
     "cross_product_3d_M",
     "cross_product_3d_G",
     "ProjectedConvection3d_call",
     "ProjectedConvection3dKolmogorov_init_injection",
     "ProjectedConvection3dKolmogorov_call",
     "VorticityConvection2d_init_inv_laplacian",
     "VorticityConvection2d_call",
     "VorticityConvection2dKolmogorov_init_injection",
     "VorticityConvection2dKolmogorov_call",
     "ZeroNonlinearFun_call"] := rfl

end Exponax.NonlinFunsEq
