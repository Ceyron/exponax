import ExponaxModel.Proofs.LayoutLemmas
import ExponaxModel.Proofs.GridIndex
/-
The stored (half-layout) flat index `h < numModes (E+1) N = N^E · (N/2+1)` is `h = a · (N/2+1) + l`, with `a < N^E`
the flat index of the `E` full axes and `l ≤ N/2` the index on the halved last axis. Its wave vector `kvec` has the
leading components `fftfreq N (digit E N a d)` and the last component `l` (`kvec_leading`, `kvec_last`); bounds,
injectivity and the c2r weight follow from these two.
-/
open Exponax Exponax.Layout Exponax.Transform Finset

namespace Exponax.DFT

theorem shapeSize_rep (N n E : ℕ) : shapeSize (List.replicate E N ++ [n]) = N ^ E * n := by
  rw [shapeSize_append, shapeSize_replicate, shapeSize_cons, shapeSize_nil, mul_one]

theorem wavenumberShape_succ (E N : ℕ) :
    wavenumberShape (E + 1) N = List.replicate E N ++ [N / 2 + 1] := by
  simp [wavenumberShape]

theorem numModes_succ (E N : ℕ) : numModes (E + 1) N = N ^ E * (N / 2 + 1) := by
  rw [numModes, wavenumberShape_succ, shapeSize_rep]

theorem numModes_two (N : ℕ) : numModes 2 N = N * (N / 2 + 1) := by
  rw [show (2 : ℕ) = 1 + 1 from rfl, numModes_succ, pow_one]

theorem eq_of_div_mod (n h h' : ℕ) (hd : h' / n = h / n) (hm : h' % n = h % n) : h' = h := by
  rw [← Nat.div_add_mod h n, ← Nat.div_add_mod h' n, hd, hm]

theorem pos_of_lt_pow_succ_mul {N n E h : ℕ} (hh : h < N ^ (E + 1) * n) : 0 < N ^ E * n := by
  refine Nat.pos_of_ne_zero fun h0 => ?_
  rw [pow_succ, mul_assoc, mul_comm N n, ← mul_assoc, h0, zero_mul] at hh
  exact Nat.not_lt_zero _ hh

/-- entries `d < E` of the stored multi-index: base-`N` digits of `h / n` -/
theorem unflatten_rep_getD_lt (N n : ℕ) : ∀ (E h d : ℕ), d < E → h < N ^ E * n →
    (unflatten (List.replicate E N ++ [n]) h).getD d 0 = (h / (N ^ (E - 1 - d) * n)) % N
  | 0, _, _, hd, _ => absurd hd (Nat.not_lt_zero _)
  | E + 1, h, 0, _, hh => by
    simp only [List.replicate_succ, List.cons_append, unflatten, shapeSize_rep]
    have : h / (N ^ E * n) < N := by
      apply Nat.div_lt_of_lt_mul
      rw [pow_succ] at hh
      calc h < N ^ E * N * n := hh
        _ = N ^ E * n * N := by ring
    simp [Nat.mod_eq_of_lt this]
  | E + 1, h, d + 1, hd, hh => by
    have hd' : d < E := by omega
    have hpos : 0 < N ^ E * n := pos_of_lt_pow_succ_mul hh
    simp only [List.replicate_succ, List.cons_append, unflatten, shapeSize_rep]
    rw [List.getD_cons_succ,
      unflatten_rep_getD_lt N n E (h % (N ^ E * n)) d hd' (Nat.mod_lt _ hpos)]
    have e1 : N ^ E * n = N ^ (d + 1) * (N ^ (E - 1 - d) * n) := by
      rw [← mul_assoc, ← pow_add]; congr 2; omega
    rw [show E + 1 - 1 - (d + 1) = E - 1 - d by omega, e1, Nat.mod_mul_left_div_self,
      Nat.mod_mod_of_dvd _ (dvd_pow_self N (by omega))]

theorem unflatten_rep_getD_last (N n : ℕ) : ∀ (E h : ℕ), h < N ^ E * n →
    (unflatten (List.replicate E N ++ [n]) h).getD E 0 = h % n
  | 0, h, hh => by
    simp only [pow_zero, one_mul] at hh
    simp [unflatten, shapeSize, Nat.mod_eq_of_lt hh]
  | E + 1, h, hh => by
    have hpos : 0 < N ^ E * n := pos_of_lt_pow_succ_mul hh
    simp only [List.replicate_succ, List.cons_append, unflatten, shapeSize_rep]
    rw [List.getD_cons_succ, unflatten_rep_getD_last N n E (h % (N ^ E * n)) (Nat.mod_lt _ hpos),
      Nat.mod_mod_of_dvd _ (Dvd.intro_left _ rfl)]

/-- the c2r weight depends on the last-axis index only -/
theorem herm_weight_succ (E N h : ℕ) (hh : h < numModes (E + 1) N) :
    herm_weight (E + 1) N h = herm_weight 1 N (h % (N / 2 + 1)) := by
  rw [numModes_succ] at hh
  rw [herm_weight_one]
  simp only [herm_weight, wavenumberShape_succ, Nat.add_sub_cancel]
  rw [unflatten_rep_getD_last N _ E h hh]

end Exponax.DFT

namespace Exponax.AliasND
open Exponax.DFT

/-- the wavenumber vector of the stored (half-layout) flat mode index `h` -/
def kvec (D N h : ℕ) : Fin D → ℤ := fun d => (wnFlat D N h).getD d 0

theorem stored_div_lt (E N h : ℕ) (hh : h < numModes (E + 1) N) : h / (N / 2 + 1) < N ^ E :=
  Nat.div_lt_of_lt_mul (by rw [numModes_succ, Nat.mul_comm] at hh; exact hh)

theorem kvec_leading (E N h : ℕ) (hh : h < numModes (E + 1) N) (d : Fin (E + 1)) (hd : (d : ℕ) < E) :
    kvec (E + 1) N h d = fftfreq N (digit E N (h / (N / 2 + 1)) d) := by
  have hh' := hh
  rw [numModes_succ] at hh'
  show (wnFlat (E + 1) N h).getD (d : ℕ) 0 = _
  rw [wnFlat_getD _ _ _ _ d.2]
  simp only [wn, if_neg (show ¬ (d : ℕ) + 1 = E + 1 by omega), wavenumberShape_succ]
  rw [unflatten_rep_getD_lt N _ E h d hd hh']
  congr 2
  rw [Nat.div_div_eq_div_mul, mul_comm]

theorem kvec_last (E N h : ℕ) (hh : h < numModes (E + 1) N) (d : Fin (E + 1)) (hd : (d : ℕ) = E) :
    kvec (E + 1) N h d = ((h % (N / 2 + 1) : ℕ) : ℤ) := by
  have hh' := hh
  rw [numModes_succ] at hh'
  show (wnFlat (E + 1) N h).getD (d : ℕ) 0 = _
  rw [wnFlat_getD _ _ _ _ d.2]
  simp only [wn, hd, if_true, rfftfreq, wavenumberShape_succ]
  rw [unflatten_rep_getD_last N _ E h hh']

theorem kvec_abs_le (D N h : ℕ) (hD : 0 < D) (hN : 0 < N) (hh : h < numModes D N) (d : Fin D) :
    |kvec D N h d| ≤ ((N / 2 : ℕ) : ℤ) := by
  show |(wnFlat D N h).getD (d : ℕ) 0| ≤ _
  rw [wnFlat_getD _ _ _ _ d.2]
  exact wnFlat_abs_le D N h hD hN hh d d.2

theorem kvec_modEq_inj (D N : ℕ) (hD : 0 < D) (hN : 0 < N) (h h' : ℕ) (hh : h < numModes D N)
    (hh' : h' < numModes D N) (hc : ∀ d, (N : ℤ) ∣ kvec D N h d - kvec D N h' d) : h' = h := by
  obtain ⟨E, rfl⟩ : ∃ E, D = E + 1 := ⟨D - 1, by omega⟩
  have hlt : ∀ x, x % (N / 2 + 1) < N := fun x => (Nat.mod_lt _ (Nat.succ_pos _)).trans_le (by omega)
  apply eq_of_div_mod (N / 2 + 1)
  · refine digits_inj N E _ _ (stored_div_lt E N h' hh') (stored_div_lt E N h hh) fun d hd => ?_
    have := hc ⟨d, by omega⟩
    rw [kvec_leading E N h hh _ hd, kvec_leading E N h' hh' _ hd] at this
    -- `fftfreq a ≡ a`, and digits `< N` congruent modulo `N` are equal
    exact ((natCast_dvd_sub_iff N _ _ (digit_lt E N _ d hN) (digit_lt E N _ d hN)).mp
      (Int.modEq_iff_dvd.mp (((fftfreq_modEq N _).symm.trans (Int.modEq_iff_dvd.mpr this)).trans
        (fftfreq_modEq N _)))).symm
  · have := hc (Fin.last E)
    rw [kvec_last E N h hh _ rfl, kvec_last E N h' hh' _ rfl] at this
    exact ((natCast_dvd_sub_iff N _ _ (hlt h) (hlt h')).mp this).symm

theorem kvec_inj (E N : ℕ) (hN : 0 < N) (h h' : ℕ) (hh : h < numModes (E + 1) N)
    (hh' : h' < numModes (E + 1) N) (he : kvec (E + 1) N h = kvec (E + 1) N h') : h = h' :=
  (kvec_modEq_inj (E + 1) N E.succ_pos hN h h' hh hh' fun d => by rw [he, sub_self]; exact dvd_zero _).symm

end Exponax.AliasND

/-! the mean mode: the stored wave vector vanishes exactly at the flat index `0` -/

namespace Exponax.Layout

theorem unflatten_zero_getD (shape : List ℕ) (d : ℕ) : (unflatten shape 0).getD d 0 = 0 := by
  induction shape generalizing d with
  | nil => simp [unflatten]
  | cons a rest ih =>
    simp only [unflatten, Nat.zero_div, Nat.zero_mod]
    cases d with
    | zero => simp
    | succ d => simpa using ih d

theorem herm_weight_zero (D N : ℕ) : Transform.herm_weight D N 0 = 1 := by
  unfold Transform.herm_weight
  simp only [unflatten_zero_getD, true_or, if_true]

theorem wnFlat_getD_of_le (D N h d : ℕ) (hd : D ≤ d) : (wnFlat D N h).getD d 0 = 0 := by
  have : ¬ d < D := by omega
  simp [wnFlat, wnVec, List.getD_eq_getElem?_getD, this]

theorem wnFlat_zero (D N d : ℕ) : (wnFlat D N 0).getD d 0 = 0 := by
  rcases Nat.lt_or_ge d D with hd | hd
  · rw [wnFlat_getD D N 0 d hd]
    unfold wn
    rw [unflatten_zero_getD]
    simp [rfftfreq, fftfreq]
  · exact wnFlat_getD_of_le D N 0 d hd

theorem wnFlat_eq_zero_iff (D N h : ℕ) (hD : 1 ≤ D) (hN : 0 < N) (hh : h < numModes D N) :
    (∀ d < D, (wnFlat D N h).getD d 0 = 0) ↔ h = 0 := by
  obtain ⟨E, rfl⟩ : ∃ E, D = E + 1 := ⟨D - 1, by omega⟩
  refine ⟨fun hk => ?_, fun h0 d _ => h0 ▸ wnFlat_zero _ N d⟩
  exact AliasND.kvec_inj E N hN h 0 hh (Nat.zero_lt_of_lt hh) (funext fun d => (hk d d.2).trans (wnFlat_zero _ N d).symm)

end Exponax.Layout

namespace Exponax.AliasND
open Exponax.Layout

theorem kvec_zero (D N : ℕ) : kvec D N 0 = 0 := by
  funext d
  exact wnFlat_zero D N d

theorem kvec_eq_zero_iff (D N h : ℕ) (hD : 0 < D) (hN : 0 < N) (hh : h < numModes D N) :
    kvec D N h = 0 ↔ h = 0 := by
  rw [← wnFlat_eq_zero_iff D N h hD hN hh]
  constructor
  · intro hk d hd
    exact congrFun hk ⟨d, hd⟩
  · intro hk
    funext d
    exact hk d d.2

theorem stored_dvd_iff (D N h : ℕ) (hD : 0 < D) (hN : 0 < N) (hh : h < numModes D N) :
    (∀ d, (N : ℤ) ∣ kvec D N h d) ↔ h = 0 := by
  rw [← kvec_eq_zero_iff D N h hD hN hh]
  constructor
  · intro hd
    funext d
    exact Int.eq_zero_of_abs_lt_dvd (hd d) ((kvec_abs_le D N h hD hN hh d).trans_lt (by omega))
  · intro h0 d
    rw [h0]
    simp

end Exponax.AliasND

namespace Exponax.ExactLinear

theorem wnFlat_getD_abs_le (D N h : ℕ) (hD : 0 < D) (hN : 0 < N) (hh : h < numModes D N) (d : ℕ)
    (hd : d < D) : 2 * |(wnFlat D N h).getD d 0| ≤ (N : ℤ) :=
  (mul_le_mul_of_nonneg_left (AliasND.kvec_abs_le D N h hD hN hh ⟨d, hd⟩) zero_le_two).trans
    (by exact_mod_cast Nat.mul_div_le N 2)

end Exponax.ExactLinear

namespace Exponax.SymmetryND
open Exponax.DFT

theorem wnFlat_two (N a l : ℕ) (hl : l ≤ N / 2) :
    wnFlat 2 N (a * (N / 2 + 1) + l) = [fftfreq N a, (l : ℤ)] := by
  have e0 := pair_div (N / 2 + 1) a l (by omega)
  have e1 := pair_mod (N / 2 + 1) a l (by omega)
  simp [wnFlat, wnVec, wavenumberShape, unflatten, shapeSize, wn, rfftfreq, e0, e1, List.range_succ]

end Exponax.SymmetryND
