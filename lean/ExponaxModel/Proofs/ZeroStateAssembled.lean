import ExponaxModel.Proofs.InterfaceLinear
import ExponaxModel.Proofs.ZeroState
import ExponaxModel.Proofs.ContourComplexNodes
import ExponaxModel.Proofs.ConserveEtdrk
/-
The zero state and the zero symbol on the REGENERATED assembled steps (C19).

`etdrkStep p dt lam M r N 0 = 0` for every order `p : ℕ`, symbol array, contour `(M, r)` and nonlinear map with `N 0 = 0`;
`baseStep` (the mirror of `BaseStepper.__init__` + `step_fourier`) inherits this when the class's nonlinear function is
zero-preserving on the derivative operator the base class hands over, which the regenerated nonlinear functions of the
steppers below are (the polynomial family: when the constant coefficient vanishes).

At a mode whose linear symbol is exactly `0` the contour nodes are `r ζ_j` (norm `|r| ≠ 0`): no closed form is evaluated
at its removable singularity and each stored coefficient is within the proved contour error of `dt · φ(0)`.
-/
namespace Exponax.Interface
open Exponax Exponax.Layout Exponax.Transform Exponax.Nonlin Exponax.Gen.Convert Exponax.Gen.Etdrk
open Exponax.Gen.StepperWiring Exponax.Gen.Steppers Exponax.StepperWiringEq Exponax.SmallGaps

/-- orders 0–4 are the five methods, `p ≥ 5` the identity of the mirror -/
theorem etdrkStep_zero (p : ℕ) (dt : ℂ) (lam : Spec) (M : ℕ) (r : ℂ) (N : Spec → Spec) (hN : N 0 = 0) :
    etdrkStep p dt lam M r N 0 = 0 := by
  rw [etdrkStep_eq_gen]
  exact Etdrk.etdrkGen_pred (P := (· = 0)) (C := fun _ => True)
    (Etdrk.StepRel.pred (fun ha hb => by rw [ha, hb, add_zero]) (fun ha hb => by rw [ha, hb, sub_zero])
      (fun _ ha => by rw [ha, mul_zero]) trivial)
    (fun x hx => by rw [hx, hN]) (fun _ => trivial) p dt M r rfl

theorem etdrkStep_rollout_zero (p : ℕ) (dt : ℂ) (lam : Spec) (M : ℕ) (r : ℂ) (N : Spec → Spec) (hN : N 0 = 0)
    (n : ℕ) : (etdrkStep p dt lam M r N)^[n] 0 = 0 :=
  Function.iterate_fixed (etdrkStep_zero p dt lam M r N hN) n

theorem etdrkStep_order0_zero (dt : ℂ) (lam : Spec) (M : ℕ) (r : ℂ) (N : Spec → Spec) :
    etdrkStep 0 dt lam M r N 0 = 0 := by
  show E0step _ (0 : Spec) = 0
  simp only [E0step, mul_zero]

/-- `T` is the model term that the class's regenerated nonlinear function is equal to (`X_stepper_nonlinear_fun_eq`) -/
theorem baseStep_zero (b : BaseStepperArgs ℂ) (linop : List ℂ → ℂ) (nonlin : Cfg ℂ → MC ℂ → MC ℂ) (T : MC ℂ → MC ℂ)
    (hnl : ∀ uh, nonlin (baseCfg b.num_spatial_dims b.num_points b.domain_extent) uh = T uh) (hT : ZeroPreserving T) :
    baseStep b linop nonlin 0 = 0 :=
  etdrkStep_zero _ _ _ _ _ _ (liftTermND_zero _ _ _ fun uh hz => (hnl uh).symm ▸ hT uh hz)

theorem zeroPreserving_convection (c : Cfg ℂ) (C : ℕ) (scale : ℂ) (single conservative : Bool) :
    ZeroPreserving (convection c C scale single conservative) :=
  zeroPreserving_of_eq (convection_zero c C scale single conservative)

theorem zeroPreserving_gradientNorm (c : Cfg ℂ) (C : ℕ) (scale : ℂ) (zeroFix : Bool) :
    ZeroPreserving (gradientNorm c C scale zeroFix) :=
  zeroPreserving_of_eq (gradientNorm_zero c C scale zeroFix)

theorem zeroPreserving_polynomial (c : Cfg ℂ) (C : ℕ) (coeffs : List ℂ) (h0 : coeffs.getD 0 0 = 0) :
    ZeroPreserving (polynomial c C coeffs) :=
  zeroPreserving_of_eq (polynomial_zero c C coeffs h0)

theorem zeroPreserving_zeroNonlin (c : Cfg ℂ) (C : ℕ) : ZeroPreserving (fun _ => zeroNonlin c C) :=
  fun _ _ => isZeroMC_zeroMC _ _

theorem GeneralConvectionStepper_step_zero (g : GeneralConvectionStepperArgs ℂ) :
    GeneralConvectionStepper_step g 0 = 0 :=
  baseStep_zero _ _ _ _ (fun uh => GeneralConvectionStepper_stepper_nonlinear_fun_eq
    (baseCfg g.num_spatial_dims g.num_points g.domain_extent) g uh rfl) (zeroPreserving_convection _ _ _ _ _)

theorem GeneralGradientNormStepper_step_zero (g : GeneralGradientNormStepperArgs ℂ) :
    GeneralGradientNormStepper_step g 0 = 0 :=
  baseStep_zero _ _ _ _ (GeneralGradientNormStepper_stepper_nonlinear_fun_eq _ g) (zeroPreserving_gradientNorm _ _ _ _)

theorem GeneralNonlinearStepper_step_zero (g : GeneralNonlinearStepperArgs ℂ) :
    GeneralNonlinearStepper_step g 0 = 0 :=
  baseStep_zero _ _ _ _ (GeneralNonlinearStepper_stepper_nonlinear_fun_eq _ g) (zeroPreserving_of_eq (general_zero _ _ _ _ _ _))

theorem GeneralLinearStepper_step_zero (g : GeneralLinearStepperArgs ℂ) :
    GeneralLinearStepper_step g 0 = 0 :=
  baseStep_zero _ _ _ _ (GeneralLinearStepper_stepper_nonlinear_fun_eq _ g) (zeroPreserving_zeroNonlin _ 1)

theorem GeneralPolynomialStepper_step_zero (g : GeneralPolynomialStepperArgs ℂ)
    (h0 : g.polynomial_coefficients.getD 0 0 = 0) :
    GeneralPolynomialStepper_step g 0 = 0 :=
  baseStep_zero _ _ _ _ (GeneralPolynomialStepper_stepper_nonlinear_fun_eq _ g) (zeroPreserving_polynomial _ _ _ h0)

/-- with `order = 0` the polynomial stepper is the exact linear propagator: the zero state is fixed whatever the
    constant coefficient — the converse of `GeneralPolynomialStepper_step_zero` needs `1 ≤ order ≤ 4` (and more) -/
theorem GeneralPolynomialStepper_step_zero_of_order0 (g : GeneralPolynomialStepperArgs ℂ) (ho : g.order = 0) :
    GeneralPolynomialStepper_step g 0 = 0 := by
  rw [GeneralPolynomialStepper_step_model, ho]
  exact etdrkStep_order0_zero _ _ _ _ _

theorem Burgers_step_zero (a : BurgersArgs ℂ) : Burgers_step a 0 = 0 :=
  baseStep_zero _ _ _ _ (fun uh => Burgers_stepper_nonlinear_fun_eq
    (baseCfg a.num_spatial_dims a.num_points a.domain_extent) a uh rfl) (zeroPreserving_convection _ _ _ _ _)

theorem KortewegDeVries_step_zero (a : KortewegDeVriesArgs ℂ) : KortewegDeVries_step a 0 = 0 :=
  baseStep_zero _ _ _ _ (fun uh => KortewegDeVries_stepper_nonlinear_fun_eq
    (baseCfg a.num_spatial_dims a.num_points a.domain_extent) a uh rfl) (zeroPreserving_convection _ _ _ _ _)

theorem KuramotoSivashinskyConservative_step_zero (a : KuramotoSivashinskyConservativeArgs ℂ) :
    KuramotoSivashinskyConservative_step a 0 = 0 :=
  baseStep_zero _ _ _ _ (fun uh => KuramotoSivashinskyConservative_stepper_nonlinear_fun_eq
    (baseCfg a.num_spatial_dims a.num_points a.domain_extent) a uh rfl) (zeroPreserving_convection _ _ _ _ _)

theorem KuramotoSivashinsky_step_zero (a : KuramotoSivashinskyArgs ℂ) : KuramotoSivashinsky_step a 0 = 0 :=
  baseStep_zero _ _ _ _ (KuramotoSivashinsky_stepper_nonlinear_fun_eq _ a) (zeroPreserving_gradientNorm _ _ _ _)

theorem Advection_step_zero (a : AdvectionArgs ℂ) : Advection_step a 0 = 0 :=
  baseStep_zero _ _ _ _ (Advection_stepper_nonlinear_fun_eq _ a) (zeroPreserving_zeroNonlin _ 1)

theorem Diffusion_step_zero (a : DiffusionArgs ℂ) : Diffusion_step a 0 = 0 :=
  baseStep_zero _ _ _ _ (Diffusion_stepper_nonlinear_fun_eq _ a) (zeroPreserving_zeroNonlin _ 1)

theorem AdvectionDiffusion_step_zero (a : AdvectionDiffusionArgs ℂ) : AdvectionDiffusion_step a 0 = 0 :=
  baseStep_zero _ _ _ _ (AdvectionDiffusion_stepper_nonlinear_fun_eq _ a) (zeroPreserving_zeroNonlin _ 1)

theorem Dispersion_step_zero (a : DispersionArgs ℂ) : Dispersion_step a 0 = 0 :=
  baseStep_zero _ _ _ _ (Dispersion_stepper_nonlinear_fun_eq _ a) (zeroPreserving_zeroNonlin _ 1)

theorem HyperDiffusion_step_zero (a : HyperDiffusionArgs ℂ) : HyperDiffusion_step a 0 = 0 :=
  baseStep_zero _ _ _ _ (HyperDiffusion_stepper_nonlinear_fun_eq _ a) (zeroPreserving_zeroNonlin _ 1)

theorem NavierStokesVorticity_step_zero (a : NavierStokesVorticityArgs ℂ) : NavierStokesVorticity_step a 0 = 0 :=
  baseStep_zero _ _ _ _ (NavierStokesVorticity_stepper_nonlinear_fun_eq _ a)
    (zeroPreserving_of_eq (vorticity2d_zero _ _))

/-- the regenerated polynomial list is `(0, 0, −r)`: no constant term (`u = 0` is a fixed point of `u' = r u (1 − u)`) -/
theorem FisherKPP_step_zero (a : FisherKPPArgs ℂ) : FisherKPP_step a 0 = 0 :=
  baseStep_zero _ _ _ _ (FisherKPP_stepper_nonlinear_fun_eq _ a) (zeroPreserving_polynomial _ _ _ rfl)

open Exponax.ContourComplex Exponax.ContourTail in
theorem nodes_ne_zero_at_zero_symbol (M : ℕ) (r dt : ℂ) (hr : r ≠ 0) :
    ∀ ζ ∈ (roots_of_unity M : List ℂ), r * ζ + 0 * dt ≠ 0 := by
  intro ζ hζ h
  rw [zero_mul, add_zero] at h
  have hn : ‖r * ζ‖ = ‖r‖ := by rw [norm_mul, norm_of_mem_roots M ζ hζ, mul_one]
  rw [h, norm_zero] at hn
  exact hr (norm_eq_zero.mp hn.symm)

open Exponax.ContourComplex Exponax.ContourTail in
theorem storedCoef_at_zero_symbol (dt r : ℂ) (M : ℕ) (hM : 0 < M) (hr : r ≠ 0) (R : ℝ) (hrR : ‖r‖ < R) (i : Fin 14) :
    ‖storedCoef dt 0 M r i - dt * phiAtZero i‖
      ≤ ‖dt‖ * (coefWeight i * Real.exp R * (‖r‖ / R) ^ M / (1 - (‖r‖ / R) ^ M)) := by
  have h := storedCoef_error dt 0 r M hM R hrR (nodes_ne_zero_at_zero_symbol M r dt hr) i
  have hR : 0 ≤ R := (norm_nonneg r).trans hrR.le
  rw [zero_mul, exactPhi_zero, Complex.zero_re, zero_add, max_eq_right hR] at h
  exact h

open Exponax.ContourComplex Exponax.ContourTail in
/-- the code's defaults `M = 16`, `r = 1`: within `1.7·10⁻¹² |dt|` of `dt · φ_i(0)` -/
theorem storedCoef_at_zero_symbol_default (dt : ℂ) (i : Fin 14) :
    ‖storedCoef dt 0 16 1 i - dt * phiAtZero i‖ ≤ ‖dt‖ * 1.7e-12 := by
  have h := storedCoef_error_imaginary dt 0 (by simp) i
  rwa [zero_mul, exactPhi_zero] at h

/-! non-vacuity -/
example : ∃ N : Spec → Spec, N 0 = 0 ∧ N 1 ≠ 0 :=
  ⟨fun u => u * u, by simp, by simp⟩
example : ∃ (r : ℂ) (R : ℝ), r ≠ 0 ∧ ‖r‖ < R := ⟨1, 2, one_ne_zero, by norm_num⟩
/-! Fisher–KPP's coefficient list has constant coefficient `0` and is not the zero polynomial -/
example (r : ℂ) : ([0, 0, -r] : List ℂ).getD 0 0 = 0 := rfl
example : ([0, 0, -(1 : ℂ)] : List ℂ).getD 2 0 ≠ 0 := by simp

end Exponax.Interface
