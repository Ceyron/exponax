import ExponaxModel.Proofs.AliasConv
/-
C09 — conservative convection does no work: the triad sum `Σ_{a+b+c=0} c · X_a X_b X_c` over the symmetric band
vanishes (spectral form in 1-D: `C09_convection_no_work_spectral`; on the grid, every `D`, in `InvariantsConv`).

The triad sums `triS` are set up over any finite subset of an additive group; the 1-D band here and
the box of `ℤ^D` in `Invariants` (`triV`) are the two instances.
-/
namespace Exponax.Conserve
open Exponax Exponax.Layout Exponax.Transform Exponax.DFT Exponax.Alias Finset

theorem sum_neg_of_symm {G : Type} [InvolutiveNeg G] (S : Finset G) (hS : ∀ m ∈ S, -m ∈ S)
    (f : G → ℂ) : ∑ m ∈ S, f m = ∑ m ∈ S, f (-m) :=
  Finset.sum_nbij' (fun m => -m) (fun m => -m) hS hS (fun m _ => neg_neg m) (fun m _ => neg_neg m)
    (fun m _ => by rw [neg_neg])

theorem sum_Icc_neg (K : ℤ) (f : ℤ → ℂ) :
    ∑ m ∈ Finset.Icc (-K) K, f m = ∑ m ∈ Finset.Icc (-K) K, f (-m) :=
  sum_neg_of_symm _ (fun m hm => by rw [Finset.mem_Icc] at hm ⊢; omega) f

theorem sum_Icc_odd (K : ℤ) (f : ℤ → ℂ) (hf : ∀ m, f (-m) = -f m) :
    ∑ m ∈ Finset.Icc (-K) K, f m = 0 := by
  apply self_eq_neg.mp
  rw [← Finset.sum_neg_distrib, sum_Icc_neg]
  exact Finset.sum_congr rfl fun m _ => hf m

noncomputable def triS {G : Type} [AddCommGroup G] [DecidableEq G] (S : Finset G) (Y : G → ℂ)
    (w : G → G → G → ℂ) : ℂ :=
  ∑ a ∈ S, ∑ b ∈ S, ∑ c ∈ S, if a + b + c = 0 then w a b c * (Y a * Y b * Y c) else 0

section triS
variable {G : Type} [AddCommGroup G] [DecidableEq G] (S : Finset G) (Y : G → ℂ)

theorem triS_congr (w w' : G → G → G → ℂ) (h : ∀ a b c, a + b + c = 0 → w a b c = w' a b c) :
    triS S Y w = triS S Y w' :=
  Finset.sum_congr rfl fun a _ => Finset.sum_congr rfl fun b _ => Finset.sum_congr rfl fun c _ =>
    ite_congr rfl (fun h0 => by rw [h a b c h0]) fun _ => rfl

theorem triS_swap12 (w : G → G → G → ℂ) : triS S Y (fun a b c => w b a c) = triS S Y w := by
  unfold triS
  rw [Finset.sum_comm]
  refine Finset.sum_congr rfl fun a _ => Finset.sum_congr rfl fun b _ =>
    Finset.sum_congr rfl fun c _ => ?_
  rw [add_comm b a, mul_comm (Y b) (Y a)]

theorem triS_swap23 (w : G → G → G → ℂ) : triS S Y (fun a b c => w a c b) = triS S Y w := by
  unfold triS
  refine Finset.sum_congr rfl fun a _ => ?_
  rw [Finset.sum_comm]
  refine Finset.sum_congr rfl fun b _ => Finset.sum_congr rfl fun c _ => ?_
  rw [add_right_comm a c b, mul_right_comm (Y a) (Y c) (Y b)]

/-- `(13) = (12)(23)(12)` -/
theorem triS_swap13 (w : G → G → G → ℂ) : triS S Y (fun a b c => w c b a) = triS S Y w :=
  (triS_swap12 S Y fun a b c => w c a b).trans
    ((triS_swap23 S Y fun a b c => w b a c).trans (triS_swap12 S Y w))

theorem triS_add (w1 w2 : G → G → G → ℂ) :
    triS S Y w1 + triS S Y w2 = triS S Y (fun a b c => w1 a b c + w2 a b c) := by
  unfold triS
  rw [← Finset.sum_add_distrib]
  refine Finset.sum_congr rfl fun a _ => ?_
  rw [← Finset.sum_add_distrib]
  refine Finset.sum_congr rfl fun b _ => ?_
  rw [← Finset.sum_add_distrib]
  refine Finset.sum_congr rfl fun c _ => ?_
  split_ifs
  · rw [add_mul]
  · rw [add_zero]

theorem triS_zero : triS S Y (fun _ _ _ => 0) = 0 := by simp [triS]

theorem triS_neg (w : G → G → G → ℂ) : triS S Y (fun a b c => -w a b c) = -triS S Y w := by
  have h := triS_add S Y w fun a b c => -w a b c
  rw [triS_congr S Y (fun a b c => w a b c + -w a b c) (fun _ _ _ => 0) fun a b c _ => add_neg_cancel _,
    triS_zero] at h
  exact (neg_eq_of_add_eq_zero_right h).symm

theorem triS_eq_zero_of_antisymm13 (w : G → G → G → ℂ)
    (h : ∀ a b c, a + b + c = 0 → w c b a = -w a b c) : triS S Y w = 0 := by
  apply self_eq_neg.mp
  rw [← triS_neg, ← triS_swap13 S Y w]
  exact triS_congr S Y _ _ h

theorem triS_eq_zero_of_antisymm12 (w : G → G → G → ℂ)
    (h : ∀ a b c, a + b + c = 0 → w b a c = -w a b c) : triS S Y w = 0 := by
  apply self_eq_neg.mp
  rw [← triS_neg, ← triS_swap12 S Y w]
  exact triS_congr S Y _ _ h

theorem triS_eq_c_outer (w : G → G → G → ℂ) :
    triS S Y w = ∑ c ∈ S, ∑ a ∈ S, ∑ b ∈ S,
      if a + b + c = 0 then w a b c * (Y a * Y b * Y c) else 0 := by
  unfold triS
  rw [Finset.sum_congr rfl fun a _ => Finset.sum_comm, Finset.sum_comm]

/-- **the triad identity**: a weight `φ(c)` with `φ(a) + φ(b) + φ(c) = 0` on the constraint surface (any additive
    `φ`) gives a vanishing triad sum: `Y_a Y_b Y_c` is symmetric in the three indices, so the sum is a third of
    `Σ (φ(a) + φ(b) + φ(c)) · Y_a Y_b Y_c = 0` -/
theorem triS_third_zero (φ : G → ℂ) (hφ : ∀ a b c, a + b + c = 0 → φ a + φ b + φ c = 0) :
    triS S Y (fun _ _ c => φ c) = 0 := by
  have h1 : triS S Y (fun a _ _ => φ a) = triS S Y (fun _ _ c => φ c) := triS_swap13 S Y (fun _ _ c => φ c)
  have h2 : triS S Y (fun _ b _ => φ b) = triS S Y (fun _ _ c => φ c) := triS_swap23 S Y (fun _ _ c => φ c)
  have h0 : triS S Y (fun a b c => φ a + φ b + φ c) = triS S Y (fun _ _ _ => 0) := triS_congr S Y _ _ hφ
  have := triS_add S Y (fun a b _ => φ a + φ b) (fun _ _ c => φ c)
  rw [← triS_add, h0, triS_zero, h1, h2] at this
  have : (3 : ℂ) * triS S Y (fun _ _ c => φ c) = 0 := by linear_combination this
  exact (mul_eq_zero.mp this).resolve_left (by norm_num)

end triS

theorem trunc_eq_sum_ite (K : ℤ) (X : ℤ → ℂ) (m c : ℤ) :
    trunc K X (-c - m)
      = ∑ b ∈ Finset.Icc (-K) K, if m + b + c = 0 then trunc K X b else 0 := by
  have e : ∀ b : ℤ, (m + b + c = 0) ↔ (b = -c - m) := fun b => by omega
  simp only [e]
  rw [Finset.sum_ite_eq']
  split_ifs with hmem
  · rfl
  · rw [trunc_of_gt]
    intro habs
    apply hmem
    rw [Finset.mem_Icc]
    exact abs_le.mp habs

end Exponax.Conserve
