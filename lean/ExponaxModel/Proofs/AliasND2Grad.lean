import ExponaxModel.Proofs.AliasND2
/-
C03 in general dimension: `GradientNormNonlinearFun` `½|∇u|²`, both values of `zero_mode_fix`, cut-off
`3·Kc < N`.  The pipeline is unfolded once, for any channel count (`gradientNorm_getD`), and
`gradientNorm_alias_free_nd` is stated for any channel count; the form with explicit sums and the corollary for
the fraction 2/3 are for one channel.
-/
namespace Exponax.AliasND
open Exponax Exponax.Layout Exponax.Transform Exponax.DFT Exponax.Nonlin Exponax.Alias Finset

noncomputable def dfield (c : Cfg ℂ) (uh : Array ℂ) (d : ℕ) : Array ℂ :=
  nifft c (tab (modes c) fun k => deriv c d k * uh.getD k 0)

theorem dfield_isRealND (c : Cfg ℂ) (uh : Array ℂ) (d : ℕ) :
    IsRealND c.D c.N (dfield c uh d) := nifft_isRealND c _

noncomputable def dspec (c : Cfg ℂ) (d : ℕ) (x : Array ℂ) : (Fin c.D → ℤ) → ℂ :=
  fun p => dsym c d p * dftV c.D c.N x p

theorem boxSpec_dfield (c : Cfg ℂ) (hD : 0 < c.D) (hq : c.fq ≠ 0) (hN : 0 < c.N)
    (h2 : 2 * Kc c < (c.N : ℤ)) (s : ℝ) (hs : c.s = (s : ℂ)) (x : Array ℂ) (hx : IsRealND c.D c.N x)
    (d : ℕ) (hd : d < c.D) : BoxSpec c (dfield c (rfftnM c.D c.N x) d) (dspec c d x) :=
  boxSpec_mfield c hD hq hN h2 (hermMult_deriv c s hs d hd) x hx

/-- the grid field that `gradientNorm` transforms for a stored channel `a`: `Q = Σ_d w_d²`,
    `w_d = dfield c a d`, minus its mean with `zero_mode_fix` -/
noncomputable def gradSq (c : Cfg ℂ) (zeroFix : Bool) (a : Array ℂ) : Array ℂ :=
  tab (c.N ^ c.D) fun j =>
    if zeroFix = true then
      (∑ d ∈ range c.D, (dfield c a d).getD j 0 * (dfield c a d).getD j 0)
        - (∑ x ∈ range (c.N ^ c.D), ∑ d ∈ range c.D, (dfield c a d).getD x 0 * (dfield c a d).getD x 0)
          / ((c.N ^ c.D : ℕ) : ℂ)
    else ∑ d ∈ range c.D, (dfield c a d).getD j 0 * (dfield c a d).getD j 0

theorem gradientNorm_getD (c : Cfg ℂ) (C : ℕ) (scale : ℂ) (zeroFix : Bool) (uh : MC ℂ) (ch : ℕ)
    (hch : ch < C) :
    (gradientNorm c C scale zeroFix uh).getD ch #[]
      = tab (modes c) fun h =>
          -scale * ((1 : ℂ) / 2 * (nfft c (gradSq c zeroFix (uh.getD ch #[]))).getD h 0) := by
  unfold gradientNorm
  simp only []
  rw [Nonlin.tab2_getD _ _ _ _ hch]
  refine Nonlin.tab_congr _ _ _ fun h _ => ?_
  rw [at2_tabC _ _ _ _ hch, qlit_half, gradientNorm_stage C (gridSize c) _
    (fun x => ∑ d ∈ range c.D, (dfield c (uh.getD ch #[]) d).getD x 0 * (dfield c (uh.getD ch #[]) d).getD x 0)
    zeroFix ch hch fun x _ => ?_]
  · rfl
  -- gradient component `d` of channel `ch` sits at index `ch·D + d` of the flat `C·D` table
  rw [sumList_range_eq]
  refine Finset.sum_congr rfl fun d hd => ?_
  have hd' := Finset.mem_range.mp hd
  rw [at2_tabC _ _ _ _ (pair_lt hch hd'), pair_mod c.D ch d hd', pair_div c.D ch d hd']
  rfl

theorem gradientNorm_nd_readoff (c : Cfg ℂ) (hN : 0 < c.N) (C : ℕ) (scale : ℂ) (zeroFix : Bool)
    (uh : MC ℂ) (ch : ℕ) (hch : ch < C) (h : ℕ) (hh : h < numModes c.D c.N) :
    at2 (gradientNorm c C scale zeroFix uh) ch h
      = -scale * ((1 : ℂ) / 2 *
          (mask c h * dftV c.D c.N (gradSq c zeroFix (uh.getD ch #[])) (kvec c.D c.N h))) := by
  have hM : h < modes c := hh
  rw [at2, gradientNorm_getD c C scale zeroFix uh ch hch, Nonlin.tab_getD _ _ _ _ hM, nfft_nd c hN _ h hh]

theorem dftV_gradSq (c : Cfg ℂ) (hD : 0 < c.D) (hq : c.fq ≠ 0) (hK : 3 * Kc c < (c.N : ℤ))
    (hN : 0 < c.N) (s : ℝ) (hs : c.s = (s : ℂ)) (zeroFix : Bool) (x : Array ℂ) (hx : IsRealND c.D c.N x)
    (h : ℕ) (hh : h < numModes c.D c.N) (hk : ∀ d, |kvec c.D c.N h d| ≤ Kc c) :
    dftV c.D c.N (gradSq c zeroFix (rfftnM c.D c.N x)) (kvec c.D c.N h)
      = if zeroFix = true ∧ h = 0 then 0 else
          ∑ d ∈ range c.D, linConv c.D c.N (Kc c) (dspec c d x) (dspec c d x) (kvec c.D c.N h) := by
  have key : dftV c.D c.N (tab (c.N ^ c.D) fun j => ∑ d ∈ range c.D,
        (dfield c (rfftnM c.D c.N x) d).getD j 0 * (dfield c (rfftnM c.D c.N x) d).getD j 0) (kvec c.D c.N h)
      = ∑ d ∈ range c.D, linConv c.D c.N (Kc c) (dspec c d x) (dspec c d x) (kvec c.D c.N h) := by
    rw [dftV_sum]
    refine Finset.sum_congr rfl fun d hd => ?_
    have hF := boxSpec_dfield c hD hq hN (two_lt_of_three c.N (Kc c) hK) s hs x hx d (Finset.mem_range.mp hd)
    exact hF.dftV_mul hF hN hK _ hk
  unfold gradSq
  cases zeroFix
  · simp only [Bool.false_eq_true, if_false, false_and]
    exact key
  · simp only [if_true, true_and]
    rw [dftV_sub_mean c.D c.N hD hN _ h hh, key]

/-- `GradientNormNonlinearFun`, any channel count: for real states `xs ch` with `û_ch = rfftnM D N (xs ch)`, channel
    `ch` of the output at a retained stored mode holds the coefficient of `−scale·½·|∇ P_K u|²`, alias-free, except
    that with `zero_mode_fix = True` the mean mode `h = 0` is set to `0` -/
theorem gradientNorm_alias_free_nd (c : Cfg ℂ) (hD : 0 < c.D) (hq : c.fq ≠ 0)
    (hK : 3 * Kc c < (c.N : ℤ)) (hN : 0 < c.N) (s : ℝ) (hs : c.s = (s : ℂ)) (C : ℕ) (scale : ℂ)
    (zeroFix : Bool) (uh : MC ℂ) (xs : ℕ → Array ℂ)
    (hx : ∀ ch, ch < C → IsRealND c.D c.N (xs ch))
    (huh : ∀ ch, ch < C → uh.getD ch #[] = rfftnM c.D c.N (xs ch))
    (ch : ℕ) (hch : ch < C) (h : ℕ) (hh : h < numModes c.D c.N) :
    (mask c h = 1 →
      at2 (gradientNorm c C scale zeroFix uh) ch h
        = if zeroFix = true ∧ h = 0 then 0 else
          -scale * (1 / 2) * ∑ d ∈ range c.D,
            linConv c.D c.N (Kc c) (dspec c d (xs ch)) (dspec c d (xs ch)) (kvec c.D c.N h))
    ∧ (mask c h = 0 → at2 (gradientNorm c C scale zeroFix uh) ch h = 0) := by
  refine ⟨fun hm => ?_, fun hm => gradientNorm_zero_off_band c C scale zeroFix _ ch h hm⟩
  rw [gradientNorm_nd_readoff c hN C scale zeroFix _ ch hch h hh, hm, one_mul, huh ch hch]
  refine (congrArg (fun z : ℂ => -scale * (1 / 2 * z))
    (dftV_gradSq c hD hq hK hN s hs zeroFix _ (hx ch hch) h hh ((mask_nd_eq_one_iff c hq h).mp hm))).trans ?_
  split_ifs <;> ring

theorem linConv_dspec_explicit (c : Cfg ℂ) (d : Fin c.D) (x y : Array ℂ) (k : Fin c.D → ℤ) :
    linConv c.D c.N (Kc c) (dspec c d x) (dspec c d y) k
      = (1 / ((c.N ^ c.D : ℕ) : ℂ)) * ∑ p ∈ box c.D (Kc c),
          (Complex.I * (c.s * ((p d : ℤ) : ℂ)) * truncV (Kc c) (dftV c.D c.N x) p) *
            (Complex.I * (c.s * (((k d - p d : ℤ)) : ℂ)) * truncV (Kc c) (dftV c.D c.N y) (k - p)) := by
  unfold dspec
  rw [linConv_mul_explicit]
  simp only [dsym_fin, Pi.sub_apply]

/-- `gradientNorm_alias_free_nd` for one channel with the sums written out: the `D`-dimensional analogue of the 1-D
    `gradientNorm_one_alias_free_of_cutoff` -/
theorem gradientNorm_alias_free_nd_explicit (c : Cfg ℂ) (hD : 0 < c.D) (hq : c.fq ≠ 0)
    (hK : 3 * Kc c < (c.N : ℤ)) (hN : 0 < c.N) (s : ℝ) (hs : c.s = (s : ℂ)) (scale : ℂ)
    (zeroFix : Bool) (x : Array ℂ) (hx : IsRealND c.D c.N x) (h : ℕ) (hh : h < numModes c.D c.N) :
    (mask c h = 1 →
      at2 (gradientNorm c 1 scale zeroFix #[rfftnM c.D c.N x]) 0 h
        = if zeroFix = true ∧ h = 0 then 0 else
          -scale * (1 / 2) * ∑ d : Fin c.D,
            ((1 / ((c.N ^ c.D : ℕ) : ℂ)) * ∑ p ∈ box c.D (Kc c),
              (Complex.I * (c.s * ((p d : ℤ) : ℂ)) * truncV (Kc c) (dftV c.D c.N x) p) *
                (Complex.I * (c.s * (((kvec c.D c.N h d - p d : ℤ)) : ℂ))
                  * truncV (Kc c) (dftV c.D c.N x) (kvec c.D c.N h - p))))
    ∧ (mask c h = 0 → at2 (gradientNorm c 1 scale zeroFix #[rfftnM c.D c.N x]) 0 h = 0) := by
  have := gradientNorm_alias_free_nd c hD hq hK hN s hs 1 scale zeroFix _ (fun _ => x) (fun _ _ => hx) (single_getD _) 0
    Nat.zero_lt_one h hh
  refine ⟨fun hm => ?_, this.2⟩
  rw [this.1 hm]
  congr 2
  rw [← Fin.sum_univ_eq_sum_range (fun d => linConv c.D c.N (Kc c) (dspec c d x) (dspec c d x)
    (kvec c.D c.N h)) c.D]
  apply Finset.sum_congr rfl
  intro d _
  exact linConv_dspec_explicit c d x x _

theorem gradientNorm_alias_free_nd_two_thirds (c : Cfg ℂ) (hD : 0 < c.D) (hp : c.fp = 2)
    (hq : c.fq = 3) (hN : 0 < c.N) (s : ℝ) (hs : c.s = (s : ℂ)) (scale : ℂ)
    (zeroFix : Bool) (x : Array ℂ) (hx : IsRealND c.D c.N x) (h : ℕ) (hh : h < numModes c.D c.N) :
    (mask c h = 1 →
      at2 (gradientNorm c 1 scale zeroFix #[rfftnM c.D c.N x]) 0 h
        = if zeroFix = true ∧ h = 0 then 0 else
          -scale * (1 / 2) * ∑ d ∈ range c.D,
            linConv c.D c.N (Kc c) (dspec c d x) (dspec c d x) (kvec c.D c.N h))
    ∧ (mask c h = 0 → at2 (gradientNorm c 1 scale zeroFix #[rfftnM c.D c.N x]) 0 h = 0) :=
  gradientNorm_alias_free_nd c hD (by omega) (Kc_two_thirds c hp hq).1 hN s hs 1 scale zeroFix _ (fun _ => x)
    (fun _ _ => hx) (single_getD _) 0 Nat.zero_lt_one h hh

end Exponax.AliasND
