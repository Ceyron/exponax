import ExponaxModel.Proofs.AxisPermSteps
import ExponaxModel.Proofs.AliasND2Vort
/-
C08: axis-permutation invariance of the nonlinear model terms that `AxisPermTerms.lean` does not cover: Cahn–Hilliard
(`scale · Δ̂ · fft(u³)`, real scale) and `reaction c C react` for any pointwise map that sends real lists to real lists
(Gray–Scott and Belousov–Zhabotinsky among them).  Same setting as there: `PermCfg c`, Nyquist-free stored spectra related
by `MCSpecPerm c σ id`, every dimension, every permutation `σ` of the axes.  Both terms mask the input TWICE
(`ifft(mask·(mask·û))`).
-/
namespace Exponax.SmallGaps3
open Exponax Exponax.Layout Exponax.Transform Exponax.DFT Exponax.AliasND Exponax.Nonlin Exponax.Alias Exponax.AxisPerm
open Finset
open Exponax.Gen.Etdrk
open Exponax.EquivND (liftTermND specMC physCh)

theorem s_eq_re (c : Cfg ℂ) (hs : c.s.im = 0) : c.s = ((c.s.re : ℝ) : ℂ) :=
  Complex.ext (Complex.ofReal_re _).symm (hs.trans (Complex.ofReal_im _).symm)

theorem lapsym_comp (c : Cfg ℂ) (σ : Equiv.Perm (Fin c.D)) (k : Fin c.D → ℤ) : lapsym c (k ∘ σ) = lapsym c k := by
  rw [lapsym_eq, lapsym_eq]
  congr 2
  exact Equiv.sum_comp σ (fun d => ((k d : ℤ) : ℂ) ^ 2)

theorem getD_im_real (l : List ℂ) (hl : ∀ x ∈ l, x.im = 0) (i : ℕ) : (l.getD i 0).im = 0 := by
  rw [List.getD_eq_getElem?_getD]
  by_cases hi : i < l.length
  · rw [List.getElem?_eq_getElem hi, Option.getD_some]
    exact hl _ (List.getElem_mem hi)
  · rw [List.getElem?_eq_none (not_lt.mp hi), Option.getD_none, Complex.zero_im]

/-- **Cahn–Hilliard nonlinearity** (`scale · Δ̂ · fft(u³)`), real scale -/
theorem cahnHilliard_mcSpecPerm (c : Cfg ℂ) (hc : PermCfg c) (σ : Equiv.Perm (Fin c.D)) (scale : ℂ)
    (hsc : scale.im = 0) (uh uh' : MC ℂ) (h : MCSpecPerm c σ id uh uh') :
    MCSpecPerm c σ id (cahnHilliard c scale uh) (cahnHilliard c scale uh') :=
  Stage.cahnHilliard_termRel (permRel c hc σ) scale hsc uh uh' h

/-- **reaction nonlinearity**, any channel count `C`, any pointwise map `react` that keeps real lists real -/
theorem reaction_mcSpecPerm (c : Cfg ℂ) (hc : PermCfg c) (σ : Equiv.Perm (Fin c.D)) (C : ℕ) (react : List ℂ → List ℂ)
    (hre : ∀ l : List ℂ, (∀ x ∈ l, x.im = 0) → ∀ ch, ((react l).getD ch 0).im = 0)
    (uh uh' : MC ℂ) (h : MCSpecPerm c σ id uh uh') :
    MCSpecPerm c σ id (reaction c C react uh) (reaction c C react uh') :=
  Stage.reaction_termRel (permRel c hc σ) C react hre uh uh' h

theorem gs_aux (feed kill a b : ℂ) (hf : feed.im = 0) (hk : kill.im = 0) (ha : a.im = 0) (hb : b.im = 0) (ch : ℕ) :
    (([feed * (1 - a) - a * (b * b), -(feed + kill) * b + a * (b * b)] : List ℂ).getD ch 0).im = 0 := by
  match ch with
  | 0 | 1 =>
    simp only [List.getD_cons_zero, List.getD_cons_succ, Complex.sub_im, Complex.add_im, Complex.neg_im, Complex.mul_im,
      Complex.one_im, hf, hk, ha, hb, mul_zero, zero_mul, add_zero, sub_zero, neg_zero]
  | (n + 2) => rfl

theorem grayScott_real (feed kill : ℂ) (hf : feed.im = 0) (hk : kill.im = 0) (l : List ℂ) (hl : ∀ x ∈ l, x.im = 0)
    (ch : ℕ) : ((grayScottReact feed kill l).getD ch 0).im = 0 :=
  gs_aux feed kill _ _ hf hk (getD_im_real l hl 0) (getD_im_real l hl 1) ch

theorem bz_aux (a b d : ℂ) (ha : a.im = 0) (hb : b.im = 0) (hd : d.im = 0) (ch : ℕ) :
    (([a + b - a * b - a * a, d - b - a * b, a - d] : List ℂ).getD ch 0).im = 0 := by
  match ch with
  | 0 | 1 | 2 =>
    simp only [List.getD_cons_zero, List.getD_cons_succ, Complex.sub_im, Complex.add_im, Complex.mul_im,
      ha, hb, hd, mul_zero, zero_mul, add_zero, sub_zero]
  | (n + 3) => rfl

theorem bz_real (l : List ℂ) (hl : ∀ x ∈ l, x.im = 0) (ch : ℕ) : ((bzReact l).getD ch 0).im = 0 :=
  bz_aux _ _ _ (getD_im_real l hl 0) (getD_im_real l hl 1) (getD_im_real l hl 2) ch

/-- **Gray–Scott reaction** (real feed and kill rates), any channel count -/
theorem grayScott_mcSpecPerm (c : Cfg ℂ) (hc : PermCfg c) (σ : Equiv.Perm (Fin c.D)) (C : ℕ) (feed kill : ℂ)
    (hf : feed.im = 0) (hk : kill.im = 0) (uh uh' : MC ℂ) (h : MCSpecPerm c σ id uh uh') :
    MCSpecPerm c σ id (reaction c C (grayScottReact feed kill) uh) (reaction c C (grayScottReact feed kill) uh') :=
  reaction_mcSpecPerm c hc σ C _ (grayScott_real feed kill hf hk) uh uh' h

/-- **Belousov–Zhabotinsky reaction**, any channel count -/
theorem bz_mcSpecPerm (c : Cfg ℂ) (hc : PermCfg c) (σ : Equiv.Perm (Fin c.D)) (C : ℕ) (uh uh' : MC ℂ)
    (h : MCSpecPerm c σ id uh uh') :
    MCSpecPerm c σ id (reaction c C bzReact uh) (reaction c C bzReact uh') :=
  reaction_mcSpecPerm c hc σ C _ bz_real uh uh' h

/-- **Cahn–Hilliard, step level**: `n` ETDRK4 steps with isotropic coefficient arrays commute with every permutation of
    the axes on real Nyquist-free states (orders 0–3: `AxisPerm.E?_axisPerm_physical` with `cahnHilliard_mcSpecPerm`) -/
theorem E4_axisPerm_cahnHilliard (c : Cfg ℂ) (hc : PermCfg c) (σ : Equiv.Perm (Fin c.D)) (scale : ℂ) (hsc : scale.im = 0)
    {E Eh c1 c2 c3 c4 c5 c6 : ℕ → ℕ → ℂ} (hE : IsoCoef c σ id E E) (hEh : IsoCoef c σ id Eh Eh)
    (h1 : IsoCoef c σ id c1 c1) (h2 : IsoCoef c σ id c2 c2) (h3 : IsoCoef c σ id c3 c3) (h4 : IsoCoef c σ id c4 c4)
    (h5 : IsoCoef c σ id c5 c5) (h6 : IsoCoef c σ id c6 c6) (n : ℕ) (u : MC ℂ)
    (hreal : ∀ ch, IsRealND c.D c.N (u.getD ch #[]))
    (hfree : ∀ ch, NyqFreeS c.D c.N (rfftnM c.D c.N (u.getD ch #[]))) (ch : ℕ) :
    physCh c.D c.N ((E4step E Eh c1 c2 c3 c4 c5 c6 (liftTermND c 1 (cahnHilliard c scale)))^[n]
        (specMC c.D c.N (permMC c σ u))) ch
      = permField c.D c.N σ (physCh c.D c.N ((E4step E Eh c1 c2 c3 c4 c5 c6
          (liftTermND c 1 (cahnHilliard c scale)))^[n] (specMC c.D c.N u)) ch) :=
  E4_axisPerm_physical c hc σ id 1 (id_lt_iff 1) _ (cahnHilliard_mcSpecPerm c hc σ scale hsc) u (permMC c σ u)
    hreal hfree (fieldPerm_permMC c σ u) hE hEh h1 h2 h3 h4 h5 h6 n ch

/-- **reaction–diffusion, step level** (Gray–Scott, BZ, … : any real-preserving `react`, `C` channels) -/
theorem E4_axisPerm_reaction (c : Cfg ℂ) (hc : PermCfg c) (σ : Equiv.Perm (Fin c.D)) (C : ℕ) (react : List ℂ → List ℂ)
    (hre : ∀ l : List ℂ, (∀ x ∈ l, x.im = 0) → ∀ ch, ((react l).getD ch 0).im = 0)
    {E Eh c1 c2 c3 c4 c5 c6 : ℕ → ℕ → ℂ} (hE : IsoCoef c σ id E E) (hEh : IsoCoef c σ id Eh Eh)
    (h1 : IsoCoef c σ id c1 c1) (h2 : IsoCoef c σ id c2 c2) (h3 : IsoCoef c σ id c3 c3) (h4 : IsoCoef c σ id c4 c4)
    (h5 : IsoCoef c σ id c5 c5) (h6 : IsoCoef c σ id c6 c6) (n : ℕ) (u : MC ℂ)
    (hreal : ∀ ch, IsRealND c.D c.N (u.getD ch #[]))
    (hfree : ∀ ch, NyqFreeS c.D c.N (rfftnM c.D c.N (u.getD ch #[]))) (ch : ℕ) :
    physCh c.D c.N ((E4step E Eh c1 c2 c3 c4 c5 c6 (liftTermND c C (reaction c C react)))^[n]
        (specMC c.D c.N (permMC c σ u))) ch
      = permField c.D c.N σ (physCh c.D c.N ((E4step E Eh c1 c2 c3 c4 c5 c6
          (liftTermND c C (reaction c C react)))^[n] (specMC c.D c.N u)) ch) :=
  E4_axisPerm_physical c hc σ id C (id_lt_iff C) _ (reaction_mcSpecPerm c hc σ C react hre) u (permMC c σ u)
    hreal hfree (fieldPerm_permMC c σ u) hE hEh h1 h2 h3 h4 h5 h6 n ch

/-! non-vacuity: a `PermCfg` with an even grid and the 2/3 mask, real rates, and a related pair of spectra -/
example : ∃ c : Cfg ℂ, PermCfg c ∧ c.N % 2 = 0 :=
  ⟨⟨2, 8, 1, 2, 3⟩, ⟨by norm_num, by norm_num, by simp, Or.inr ⟨by norm_num, by norm_num⟩⟩, rfl⟩
example (c : Cfg ℂ) (hc : PermCfg c) (σ : Equiv.Perm (Fin c.D)) : ∃ uh uh' : MC ℂ, MCSpecPerm c σ id uh uh' :=
  ⟨#[], #[], fun ch => specPerm_zero c.D c.N σ _ _
    (fun m hm => by rw [DFT.tab_getD _ _ _ _ (show m < modes c from hm)]; simp [at2])
    (fun m hm => by rw [DFT.tab_getD _ _ _ _ (show m < modes c from hm)]; simp [at2])⟩
example : ((0.04 : ℂ)).im = 0 ∧ ((0.06 : ℂ)).im = 0 := by constructor <;> norm_num
example : ∀ l : List ℂ, (∀ x ∈ l, x.im = 0) → ∀ ch, ((bzReact l).getD ch 0).im = 0 := bz_real

end Exponax.SmallGaps3
