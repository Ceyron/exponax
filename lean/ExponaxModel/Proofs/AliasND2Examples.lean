import ExponaxModel.Proofs.AliasNDExamples
import ExponaxModel.Proofs.AliasND2Conv
import ExponaxModel.Proofs.AliasND2Vort
import ExponaxModel.Proofs.AliasND2React
/-
Non-vacuity of the hypotheses of the theorems of `AliasND2*.lean`: concrete witnesses
(`D = 2`, `D = 3`, `N = 8` even, `N = 9` odd; fractions 2/3 and 1/2; real scale `s = 1`), and
instantiations of the headline theorems at these witnesses.
-/
namespace Exponax.AliasND
open Exponax Exponax.Layout Exponax.Transform Exponax.DFT Exponax.Nonlin Exponax.Alias Finset

theorem cfg23_s (D : ℕ) : (cfg23 D).s = ((1 : ℝ) : ℂ) := by simp [cfg23]
theorem cfg12_s (D : ℕ) : (cfg12 D).s = ((1 : ℝ) : ℂ) := by simp [cfg12]
theorem cfg23odd_s (D : ℕ) : (cfg23odd D).s = ((1 : ℝ) : ℂ) := by simp [cfg23odd]

-- `box_congr_eq`, `box_congr_eq_neg`
example : ∃ (D N : ℕ) (K : ℤ) (m : Fin D → ℤ) (h : ℕ), 0 < D ∧ 0 < N ∧ 2 * K < (N : ℤ) ∧
    (∀ d, |m d| ≤ K) ∧ h < numModes D N ∧
    (∀ d, (N : ℤ) ∣ m d - kvec D N h d) ∧ (∀ d, (N : ℤ) ∣ m d + kvec D N h d) :=
  ⟨2, 8, 1, 0, 0, by norm_num, by norm_num, by norm_num, fun d => by simp, by decide,
    fun d => by rw [kvec_zero]; simp, fun d => by rw [kvec_zero]; simp⟩

-- `dftV_nifft_of_hermitian`: the stored spectrum of a real field with `F = dftV x` satisfies `hF`
example : ∃ (c : Cfg ℂ) (uh : Array ℂ) (F : (Fin c.D → ℤ) → ℂ) (m : Fin c.D → ℤ),
    0 < c.D ∧ c.fq ≠ 0 ∧ 0 < c.N ∧ 2 * Kc c < (c.N : ℤ) ∧
    (∀ h, h < numModes c.D c.N → (∀ d, |kvec c.D c.N h d| ≤ Kc c) →
      uh.getD h 0 = F (kvec c.D c.N h) ∧ (starRingEnd ℂ) (uh.getD h 0) = F (-kvec c.D c.N h)) ∧
    (∀ d, |m d| ≤ Kc c) :=
  ⟨cfg23 3, rfftnM 3 8 (ramp (8 ^ 3)), dftV 3 8 (ramp (8 ^ 3)), fun _ => 1,
    by decide, by decide, by decide, by decide,
    fun h hh _ => by
      have e := rfftn_eq_dftV 3 8 (by norm_num) (ramp (8 ^ 3)) h hh
      exact ⟨e, by rw [e]; exact conj_dftV 3 8 _ (ramp_real 3 8) _⟩,
    fun d => by rw [Kc_cfg23]; simp⟩

-- `dftV_nifft_mult`, `truncV_dftV_nifft_mult`: a Hermitian multiplier and a matching stored symbol
example : ∃ (c : Cfg ℂ) (x : Array ℂ) (μ : (Fin c.D → ℤ) → ℂ) (σ : ℕ → ℂ) (m : Fin c.D → ℤ),
    0 < c.D ∧ c.fq ≠ 0 ∧ 0 < c.N ∧ 2 * Kc c < (c.N : ℤ) ∧ IsRealND c.D c.N x ∧
    (∀ k, (starRingEnd ℂ) (μ k) = μ (-k)) ∧
    (∀ h, h < numModes c.D c.N → (∀ d, |kvec c.D c.N h d| ≤ Kc c) → σ h = μ (kvec c.D c.N h)) ∧
    (∀ d, |m d| ≤ Kc c) :=
  ⟨cfg23 2, ramp (8 ^ 2), dsym (cfg23 2) 1, deriv (cfg23 2) 1, fun _ => 1,
    by decide, by decide, by decide, by decide, ramp_real 2 8,
    conj_dsym (cfg23 2) 1 (cfg23_s 2) 1,
    fun h _ _ => deriv_eq_dsym (cfg23 2) 1 (by decide) h,
    fun d => by rw [Kc_cfg23]; simp⟩

-- derivative spectra (`dftV_nifft_deriv_pow`, `nifft_deriv_pow_spec`, `boxSpec_dfield`, `dftV_nifft_deriv_npow`):
-- real scale, real state, axis `d < D`, box vector (the order `n : ℕ` is unconstrained)
example : ∃ (c : Cfg ℂ) (s : ℝ) (x : Array ℂ) (d : ℕ) (m : Fin c.D → ℤ),
    0 < c.D ∧ c.fq ≠ 0 ∧ 0 < c.N ∧ 2 * Kc c < (c.N : ℤ) ∧ c.s = (s : ℂ) ∧ IsRealND c.D c.N x ∧
    d < c.D ∧ (∀ d, |m d| ≤ Kc c) :=
  ⟨cfg23odd 3, 1, ramp (9 ^ 3), 2, fun _ => -1, by decide, by decide, by decide, by decide,
    cfg23odd_s 3, ramp_real 3 9, by decide, fun d => by rw [Kc_cfg23odd]; simp⟩

-- `dftV_mul_of_box`
example : ∃ (D N : ℕ) (K : ℤ) (f g : Array ℂ) (F G : (Fin D → ℤ) → ℂ) (k : Fin D → ℤ),
    0 < N ∧ 3 * K < (N : ℤ) ∧ BandLimitedV D N K f ∧ BandLimitedV D N K g ∧
    (∀ p : Fin D → ℤ, (∀ d, |p d| ≤ K) → dftV D N f p = F p) ∧
    (∀ p : Fin D → ℤ, (∀ d, |p d| ≤ K) → dftV D N g p = G p) ∧ ∀ d, |k d| ≤ K :=
  ⟨3, 8, 2, _, _, _, _, 0, by norm_num, by norm_num,
    const_bandLimitedV 3 8 (by norm_num) 2 (by norm_num),
    const_bandLimitedV 3 8 (by norm_num) 2 (by norm_num), fun _ _ => rfl, fun _ _ => rfl,
    fun d => by simp⟩

-- `dftV_sub_const`: `0 < N`
example : (0 : ℕ) < 8 := by norm_num

/-- gradient norm / non-conservative convection (single channel): `D = 3`, even `N`, 2/3 rule, `s = 1` -/
example : ∃ (c : Cfg ℂ) (s : ℝ) (x : Array ℂ) (h h' : ℕ),
    0 < c.D ∧ c.fq ≠ 0 ∧ c.fp = 2 ∧ c.fq = 3 ∧ 3 * Kc c < (c.N : ℤ) ∧ 0 < c.N ∧ c.s = (s : ℂ) ∧
    IsRealND c.D c.N x ∧ h < numModes c.D c.N ∧ mask c h = 1 ∧ h' < numModes c.D c.N ∧ mask c h' = 0 :=
  ⟨cfg23 3, 1, ramp (8 ^ 3), 0, 2, by decide, by decide, rfl, rfl, by decide, by decide, cfg23_s 3,
    ramp_real 3 8, by decide, mask_zero_mode _ (by decide) (by decide), by decide, mask_dropped _ (by decide) _ (by decide)⟩

/-- non-conservative convection (multi channel): `C = D = 2`, two real states, odd `N` -/
example : ∃ (c : Cfg ℂ) (s : ℝ) (C : ℕ) (uh : MC ℂ) (xs : ℕ → Array ℂ) (i h h' : ℕ),
    0 < c.D ∧ c.fq ≠ 0 ∧ 3 * Kc c < (c.N : ℤ) ∧ 0 < c.N ∧ c.s = (s : ℂ) ∧ C ≤ c.D ∧
    (∀ ch, ch < C → IsRealND c.D c.N (xs ch)) ∧
    (∀ ch, ch < C → uh.getD ch #[] = rfftnM c.D c.N (xs ch)) ∧ i < C ∧ h < numModes c.D c.N ∧
    mask c h = 1 ∧ h' < numModes c.D c.N ∧ mask c h' = 0 :=
  ⟨cfg23odd 2, 1, 2, tab 2 fun _ => rfftnM 2 9 (ramp (9 ^ 2)), fun _ => ramp (9 ^ 2),
    1, 0, 3, by decide, by decide, by decide, by decide, cfg23odd_s 2, by decide,
    fun _ _ => ramp_real 2 9, fun ch hch => DFT.tab_getD _ _ _ _ hch, by norm_num, by decide,
    mask_zero_mode _ (by decide) (by decide), by decide, mask_dropped _ (by decide) _ (by decide)⟩

/-- `vorticity2d`: `D = 2` -/
example : ∃ (c : Cfg ℂ) (s : ℝ) (x : Array ℂ) (h h' : ℕ),
    c.D = 2 ∧ c.fq ≠ 0 ∧ 3 * Kc c < (c.N : ℤ) ∧ 0 < c.N ∧ c.s = (s : ℂ) ∧
    IsRealND c.D c.N x ∧ h < numModes c.D c.N ∧ mask c h = 1 ∧ h' < numModes c.D c.N ∧ mask c h' = 0 :=
  ⟨cfg23 2, 1, ramp (8 ^ 2), 0, 4, rfl, by decide, by decide, by decide, cfg23_s 2,
    ramp_real 2 8, by decide, mask_zero_mode _ (by decide) (by decide), by decide, mask_dropped _ (by decide) _ (by decide)⟩

/-- Gray–Scott: 1/2 rule, `D = 3`, two real states -/
example : ∃ (c : Cfg ℂ) (xa xb : Array ℂ) (h h' : ℕ),
    0 < c.D ∧ c.fq ≠ 0 ∧ c.fp = 1 ∧ c.fq = 2 ∧ 4 * Kc c < (c.N : ℤ) ∧ 0 < c.N ∧
    IsRealND c.D c.N xa ∧ IsRealND c.D c.N xb ∧
    h < numModes c.D c.N ∧ mask c h = 1 ∧ h' < numModes c.D c.N ∧ mask c h' = 0 :=
  ⟨cfg12 3, ramp (8 ^ 3), tab (8 ^ 3) (fun _ => (1 : ℂ)), 0, 2, by decide, by decide, rfl, rfl,
    by decide, by decide, ramp_real 3 8, const_real 3 8, by decide,
    mask_zero_mode _ (by decide) (by decide), by decide, mask_dropped _ (by decide) _ (by decide)⟩

/-- `dftV_nifft_deriv_pow` at `D = 3`, odd `N`, second derivative along axis `2` -/
example (m : Fin 3 → ℤ) (hm : ∀ d, |m d| ≤ Kc (cfg23odd 3)) :=
  dftV_nifft_deriv_pow (cfg23odd 3) (by decide) (by decide) (by decide) (by decide) 1 (cfg23odd_s 3)
    _ (ramp_real 3 9) 2 (by decide) 2 m hm

example :=
  nifft_deriv_pow_spec (cfg23odd 3) (by decide) (by decide) (by decide) (by decide) 1 (cfg23odd_s 3)
    _ (ramp_real 3 9) 2 (by decide) 2

/-- gradient norm at `D = 3`, 2/3 rule, both values of the zero-mode fix -/
example (scale : ℂ) (zeroFix : Bool) (h : ℕ) (hh : h < numModes 3 8) :=
  gradientNorm_alias_free_nd_two_thirds (cfg23 3) (by decide) rfl rfl (by decide) 1 (cfg23_s 3) scale
    zeroFix _ (ramp_real 3 8) h hh

example (scale : ℂ) (zeroFix : Bool) (h : ℕ) (hh : h < numModes 3 8) :=
  gradientNorm_alias_free_nd_explicit (cfg23 3) (by decide) (by decide) (by decide) (by decide) 1
    (cfg23_s 3) scale zeroFix _ (ramp_real 3 8) h hh

/-- non-conservative multi-channel convection at `C = D = 2`, odd `N` -/
example (scale : ℂ) (i : ℕ) (hi : i < 2) (h : ℕ) (hh : h < numModes 2 9) :=
  convection_multi_nc_alias_free_nd (cfg23odd 2) (by decide) (by decide) (by decide) (by decide) 1
    (cfg23odd_s 2) 2 (by decide) scale (tab 2 fun _ => rfftnM 2 9 (ramp (9 ^ 2)))
    (fun _ => ramp (9 ^ 2)) (fun _ _ => ramp_real 2 9)
    (fun ch hch => DFT.tab_getD _ _ _ _ hch) i hi h hh

/-- the same at `C = D = 3` with explicit sums -/
example (scale : ℂ) (i : ℕ) (hi : i < 3) (h : ℕ) (hh : h < numModes 3 8) :=
  convection_multi_nc_alias_free_nd_explicit (cfg23 3) (by decide) (by decide) (by decide) (by decide) 1
    (cfg23_s 3) scale (tab 3 fun _ => rfftnM 3 8 (ramp (8 ^ 3)))
    (fun _ => ramp (8 ^ 3)) (fun _ _ => ramp_real 3 8)
    (fun ch hch => DFT.tab_getD _ _ _ _ hch) i hi h hh

/-- single-channel non-conservative convection at `D = 3` -/
example (scale : ℂ) (h : ℕ) (hh : h < numModes 3 8) :=
  convection_single_nc_alias_free_nd (cfg23 3) (by decide) (by decide) (by decide) (by decide) 1
    (cfg23_s 3) 1 (by norm_num) scale (tab 1 fun _ => rfftnM 3 8 (ramp (8 ^ 3))) (ramp (8 ^ 3))
    (ramp_real 3 8) (DFT.tab_getD _ _ _ _ Nat.one_pos) h hh

/-- `vorticity2d` at `N = 8`, 2/3 rule -/
example (scale : ℂ) (h : ℕ) (hh : h < numModes 2 8) :=
  vorticity2d_alias_free_two_thirds (cfg23 2) rfl rfl rfl (by decide) 1 (cfg23_s 2) scale _
    (ramp_real 2 8) h hh

/-- Gray–Scott at `D = 3`, 1/2 rule -/
example (feed kill : ℂ) (h : ℕ) (hh : h < numModes 3 8) :=
  grayScott_alias_free_nd_half (cfg12 3) (by decide) rfl rfl (by decide) feed kill _ _
    (ramp_real 3 8) (const_real 3 8) h hh

end Exponax.AliasND
