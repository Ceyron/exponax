import ExponaxModel.Proofs.ConserveMeanRot3d
import ExponaxModel.Proofs.IncompressibleSteps3d
/-
C09, step level: the 3-D velocity Navier–Stokes stepper conserves the mean of each channel, for every
ETDRK order `0..4` (any coefficient arrays shared by the channels, `e 0 = 1`) and every rollout from a divergence-free spectrum.

The invariant carried through the stages is `Exponax.DivFree` (preserved by every step: `C10_velocity_step_preserves`); reality of the
state is NOT needed.  Hypotheses: `D = 3`, Nyquist-free retained band (`MaskIn c K` with `2·K < N`: a dealiasing mask with
`2·Kc < N` — `maskIn_Kc` — or no mask on an odd grid — `maskIn_half`), real non-zero `s`.  The Kolmogorov injection
`some (m, γ)` must have `m > 0`: with `m = 0` it is injected into the mean mode (`projected3d_inj_zero_mean`).
-/
namespace Exponax.SmallGaps3
open Exponax Exponax.Layout Exponax.Transform Exponax.Nonlin Exponax.Alias Exponax.Gen.Etdrk Exponax.SmallGaps

theorem projected3d_inj_mean (c : Cfg ℂ) (hN : 0 < c.N) (m : ℕ) (hm : 0 < m) (gam : ℂ) (uh : MC ℂ) (i : ℕ) :
    at2 (projected3d c (some (m, gam)) uh) i 0 = at2 (projected3d c none uh) i 0 := by
  rcases Nat.lt_or_ge i 3 with hi | hi
  · -- the injected pair sits at `k₁ = ±m ≠ 0`, the mean mode at `k₁ = 0`
    have hm' : (m : ℤ) ≠ 0 := Int.natCast_ne_zero.mpr hm.ne'
    rw [projected3d_inj c _ uh i 0 hi (Conserve.modes_pos c hN), inj3, Conserve.kInt_zero_mode c 1,
      if_neg fun hc => hm' hc.2.2.2.symm, if_neg fun hc => hm' (neg_eq_zero.mp hc.2.2.2.symm), add_zero]
  · rw [projected3d_at2_out c _ uh i 0 (Or.inl hi), projected3d_at2_out c _ uh i 0 (Or.inl hi)]

/-- `m = 0` (a constant "sine") is injected INTO the mean mode of channel 0 -/
theorem projected3d_inj_zero_mean (c : Cfg ℂ) (hN : 0 < c.N) (gam : ℂ) (uh : MC ℂ) :
    at2 (projected3d c (some (0, gam)) uh) 0 0
      = at2 (projected3d c none uh) 0 0
        + -Complex.I * gam * scaling c.D c.N 2 (unflatten (wavenumberShape c.D c.N) 0) := by
  rw [projected3d_inj c _ uh 0 0 (by norm_num) (Conserve.modes_pos c hN), inj3,
    if_pos ⟨rfl, Conserve.kInt_zero_mode c 0, Conserve.kInt_zero_mode c 2, Conserve.kInt_zero_mode c 1⟩]

theorem projected3d_mean_zero_inj (c : Cfg ℂ) (hD : c.D = 3) (hN : 0 < c.N) (K : ℤ) (hM : MaskIn c K)
    (h2 : 2 * K < (c.N : ℤ)) (s : ℝ) (hs : c.s = (s : ℂ)) (inj : Option (ℕ × ℂ))
    (hinj : ∀ m gam, inj = some (m, gam) → 0 < m) (uh : MC ℂ)
    (hdiv : ∀ h, h < modes c → mask c h = 1 →
      Nonlin.deriv c 0 h * at2 uh 0 h + Nonlin.deriv c 1 h * at2 uh 1 h + Nonlin.deriv c 2 h * at2 uh 2 h = 0)
    (i : ℕ) : at2 (projected3d c inj uh) i 0 = 0 := by
  have h0 := projected3d_mean_zero c hD hN K hM h2 s hs uh hdiv i
  rcases inj with _ | ⟨m, gam⟩
  · exact h0
  · rw [projected3d_inj_mean c hN m (hinj m gam rfl) gam uh i, h0]

theorem velocity_term_mean_zero (c : Cfg ℂ) (hD : c.D = 3) (hN : 0 < c.N) (K : ℤ) (hM : MaskIn c K)
    (h2 : 2 * K < (c.N : ℤ)) (s : ℝ) (hs : c.s = (s : ℂ)) (inj : Option (ℕ × ℂ))
    (hinj : ∀ m gam, inj = some (m, gam) → 0 < m) (V : ℕ → ℕ → ℂ) (hV : DivFree c V) (d : ℕ) :
    liftModeFirst c 3 (projected3d c inj) V 0 d = 0 := by
  rw [liftModeFirst_apply, if_pos (Conserve.modes_pos c hN)]
  apply projected3d_mean_zero_inj c hD hN K hM h2 s hs inj hinj
  intro h hh _
  have e : ∀ k, k < 3 → at2 (tab2 3 (modes c) fun ch m => V m ch) k h = V h k :=
    fun k hk => Nonlin.at2_tab2 _ _ _ _ _ hk hh
  rw [e 0 (by norm_num), e 1 (by norm_num), e 2 (by norm_num)]
  have := hV h
  unfold vecDiv at this
  rw [hD, Finset.sum_range_succ, Finset.sum_range_succ, Finset.sum_range_one] at this
  exact this

/-- `e 0 = 1`: the linear symbol vanishes at the mean mode.  `U ↦ U 0 d` is a ring homomorphism that the nonlinear term
    does not feed on the invariant set `DivFree c` -/
theorem velocity_rollout_mean (c : Cfg ℂ) (hD : c.D = 3) (hN : 0 < c.N) (K : ℤ) (hM : MaskIn c K)
    (h2 : 2 * K < (c.N : ℤ)) (s : ℝ) (hs : c.s = (s : ℂ)) (hs0 : s ≠ 0) (inj : Option (ℕ × ℂ))
    (hinj : ∀ m gam, inj = some (m, gam) → 0 < m) (e eh a1 a2 a3 a4 a5 a6 : ℕ → ℂ) (he : e 0 = 1)
    (n : ℕ) (U : ℕ → ℕ → ℂ) (hU : DivFree c U) (d : ℕ) :
    let b := fun (x : ℕ → ℂ) => (fun h (_ : ℕ) => x h)
    let N := liftModeFirst c 3 (projected3d c inj)
    ((E0step (b e))^[n] U) 0 d = U 0 d ∧
    ((E1step (b e) (b a1) N)^[n] U) 0 d = U 0 d ∧
    ((E2step (b e) (b a1) (b a2) N)^[n] U) 0 d = U 0 d ∧
    ((E3step (b e) (b eh) (b a1) (b a2) (b a3) (b a4) (b a5) N)^[n] U) 0 d = U 0 d ∧
    ((E4step (b e) (b eh) (b a1) (b a2) (b a3) (b a4) (b a5) (b a6) N)^[n] U) 0 d = U 0 d := by
  intro b N
  exact (Etdrk.etdrkAll_conserved (P := DivFree c) (C := fun a => ∃ x : ℕ → ℂ, a = b x)
    (Etdrk.StepRel.pred DivFree.add DivFree.sub (fun ⟨x, hx⟩ hV => hx ▸ DivFree.smul x hV) ⟨fun _ => 2, rfl⟩)
    (fun V _ => projected3d_lift_divFree c s hs hs0 (by omega) inj V)
    ((Pi.evalRingHom (fun _ => ℂ) d).comp (Pi.evalRingHom (fun _ => ℕ → ℂ) 0))
    (fun V hV => velocity_term_mean_zero c hD hN K hM h2 s hs inj hinj V hV d)
    ⟨e, rfl⟩ ⟨eh, rfl⟩ ⟨a1, rfl⟩ ⟨a2, rfl⟩ ⟨a3, rfl⟩ ⟨a4, rfl⟩ ⟨a5, rfl⟩ ⟨a6, rfl⟩ he n).mono fun _ h => (h U hU).2

/-! non-vacuity: a configuration with the 2/3 rule on `N = 8` (`Kc = 1`, `2·Kc < 8`), `s = 1`, injection mode `1`, and a
divergence-free spectrum (`0`; non-trivial ones: every Leray output, `SmallGaps.divFree_of_leray`) -/
example : ∃ c : Cfg ℂ, ∃ s : ℝ, c.D = 3 ∧ 0 < c.N ∧ MaskIn c (Kc c) ∧ 2 * Kc c < (c.N : ℤ) ∧ c.s = (s : ℂ) ∧ s ≠ 0 ∧
    (∀ m gam, (some (1, (1 : ℂ)) : Option (ℕ × ℂ)) = some (m, gam) → 0 < m) ∧ DivFree c 0 ∧
    (∀ h, h < modes c → mask c h = 1 →
      deriv c 0 h * at2 (#[] : MC ℂ) 0 h + deriv c 1 h * at2 (#[] : MC ℂ) 1 h + deriv c 2 h * at2 (#[] : MC ℂ) 2 h = 0) := by
  refine ⟨{ D := 3, N := 8, s := ((1 : ℝ) : ℂ), fp := 2, fq := 3 }, 1, rfl, by decide, maskIn_Kc _ (by decide), by decide, rfl,
    one_ne_zero, ?_, fun h => by unfold vecDiv; simp, ?_⟩
  · intro m gam h
    injection h with h
    injection h with h1 _
    omega
  · intro h _ _
    have e : ∀ k, at2 (#[] : MC ℂ) k h = 0 := fun k => rfl
    rw [e, e, e]; ring

/-- the unmasked odd grid: `fq = 0` (no dealiasing), `N = 7`, `K = 3` -/
example : ∃ c : Cfg ℂ, c.D = 3 ∧ 0 < c.N ∧ c.fq = 0 ∧ MaskIn c ((c.N / 2 : ℕ) : ℤ) ∧ 2 * ((c.N / 2 : ℕ) : ℤ) < (c.N : ℤ) :=
  ⟨{ D := 3, N := 7, s := ((1 : ℝ) : ℂ), fp := 0, fq := 0 }, rfl, by decide, rfl, maskIn_half _ (by decide) (by decide),
    by decide⟩

end Exponax.SmallGaps3
