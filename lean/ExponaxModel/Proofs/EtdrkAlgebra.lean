import ExponaxModel.Proofs.Instances
import ExponaxModel.Model.EtdrkSpec
import ExponaxModel.Generated.Etdrk
/-
`phi1`, `phi2`, `phi3` over ℂ as quotients, the recursion between them, and the propagator `exp_term dt λ = e^{dt·λ}` (norm,
group law, conjugation).
-/
namespace Exponax
open Exponax.Spec Exponax.Gen.Etdrk

theorem phi1_closed (w : ℂ) : phi1 w = (Complex.exp w - 1) / w := rfl
theorem phi2_closed (w : ℂ) : phi2 w = (Complex.exp w - 1 - w) / w ^ 2 := by
  simp only [phi2, hasExp_complex, pow_two]
theorem phi3_closed (w : ℂ) : phi3 w = (Complex.exp w - 1 - w - w ^ 2 / 2) / w ^ 3 := by
  simp only [phi3, hasExp_complex, lit_eq]
  push_cast
  ring_nf

/-- the classical recursion φ_{k+1}(z) = (φ_k(z) − 1/k!)/z, z ≠ 0 -/
theorem phi2_rec (z : ℂ) (hz : z ≠ 0) : phi2 z = (phi1 z - 1) / z := by
  unfold phi2 phi1
  simp only [hasExp_complex]
  field_simp

theorem phi3_rec (z : ℂ) (hz : z ≠ 0) : phi3 z = (phi2 z - 1 / 2) / z := by
  unfold phi3 phi2
  simp only [hasExp_complex, lit_eq]
  field_simp
  ring

theorem phi1_rec (z : ℂ) (hz : z ≠ 0) : phi1 z = (Complex.exp z - 1) / z := rfl

open scoped ComplexConjugate

theorem exp_term_eq (dt lam : ℂ) : exp_term dt lam = Complex.exp (dt * lam) := by
  simp [exp_term]

theorem E0step_eq (e u : ℂ) : E0step e u = e * u := rfl

theorem norm_exp_term (dt lam : ℂ) :
    ‖exp_term dt lam‖ = Real.exp (dt.re * lam.re - dt.im * lam.im) := by
  rw [exp_term_eq, Complex.norm_exp, Complex.mul_re]

theorem norm_exp_term_real (dt : ℝ) (lam : ℂ) :
    ‖exp_term (dt : ℂ) lam‖ = Real.exp (dt * lam.re) := by
  rw [norm_exp_term]; simp

theorem norm_exp_term_le_one (dt : ℝ) (lam : ℂ) (hdt : 0 ≤ dt) (hl : lam.re ≤ 0) :
    ‖exp_term (dt : ℂ) lam‖ ≤ 1 := by
  rw [norm_exp_term_real, Real.exp_le_one_iff]
  exact mul_nonpos_of_nonneg_of_nonpos hdt hl

theorem norm_exp_term_eq_one (dt : ℝ) (lam : ℂ) (hl : lam.re = 0) :
    ‖exp_term (dt : ℂ) lam‖ = 1 := by
  rw [norm_exp_term_real, hl, mul_zero, Real.exp_zero]

theorem norm_exp_term_lt_one (dt : ℝ) (lam : ℂ) (hdt : 0 < dt) (hl : lam.re < 0) :
    ‖exp_term (dt : ℂ) lam‖ < 1 := by
  rw [norm_exp_term_real, Real.exp_lt_one_iff]
  exact mul_neg_of_pos_of_neg hdt hl

theorem exp_term_pow (dt lam : ℂ) (n : ℕ) : (exp_term dt lam) ^ n = exp_term ((n : ℂ) * dt) lam := by
  rw [exp_term_eq, exp_term_eq, mul_assoc, Complex.exp_nat_mul]

theorem exp_term_add (dt1 dt2 lam : ℂ) :
    exp_term (dt1 + dt2) lam = exp_term dt2 lam * exp_term dt1 lam := by
  rw [exp_term_eq, exp_term_eq, exp_term_eq, ← Complex.exp_add]; congr 1; ring

theorem E0step_add (dt1 dt2 lam u : ℂ) :
    E0step (exp_term dt2 lam) (E0step (exp_term dt1 lam) u) = E0step (exp_term (dt1 + dt2) lam) u := by
  rw [exp_term_add, E0step_eq, E0step_eq, E0step_eq, mul_assoc]

theorem exp_term_neg_mul (dt lam : ℂ) : exp_term (-dt) lam * exp_term dt lam = 1 := by
  rw [exp_term_eq, exp_term_eq, ← Complex.exp_add]
  simp

theorem exp_term_ne_zero (dt lam : ℂ) : exp_term dt lam ≠ 0 := by
  rw [exp_term_eq]; exact Complex.exp_ne_zero _

/-- Hermitian symmetry of the propagated spectrum is preserved (real `dt`) -/
theorem exp_term_conj (dt : ℝ) (lam : ℂ) :
    exp_term (dt : ℂ) (conj lam) = conj (exp_term (dt : ℂ) lam) := by
  rw [exp_term_eq, exp_term_eq, ← Complex.exp_conj, map_mul, Complex.conj_ofReal]

theorem E0step_conj (dt : ℝ) (lam u : ℂ) :
    E0step (exp_term (dt : ℂ) (conj lam)) (conj u) = conj (E0step (exp_term (dt : ℂ) lam) u) := by
  rw [exp_term_conj, E0step_eq, E0step_eq, map_mul]

end Exponax
