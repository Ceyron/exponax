import ExponaxModel.Proofs.RepeatedPhysicalDiag
/-
C14 — without "`F` preserves `Realisable`" the physical loop and Fourier-space sub-stepping differ.  `D = 1`, `N = 2`,
`F` = multiplication of the Nyquist bin by `I` (the symbol of one derivative / of an advection step), `u = (1, −1)` (pure
Nyquist content), `n = 2`: the loop gives `(0, 0)`, sub-stepping gives `(−1, 1)`.
-/
namespace Exponax.C2R
open Exponax Exponax.Layout Exponax.Transform Exponax.DFT Exponax.Conserve Finset

/-- the symbol: `I` on the Nyquist bin `h = 1`, identity elsewhere -/
noncomputable def nyqI : ℕ → ℂ := fun h => if h = 1 then Complex.I else 1

noncomputable def FnyqI : Array ℂ → Array ℂ := diagStep 1 2 nyqI

theorem FnyqI_zero (C : Array ℂ) : (FnyqI C).getD 0 0 = C.getD 0 0 := by
  rw [FnyqI, diagStep_getD 1 2 _ _ 0 (by rw [numModes_one]; norm_num)]
  simp [nyqI]

theorem FnyqI_one (C : Array ℂ) : (FnyqI C).getD 1 0 = Complex.I * C.getD 1 0 := by
  rw [FnyqI, diagStep_getD 1 2 _ _ 1 (by rw [numModes_one]; norm_num)]
  simp [nyqI]

/-- one physical-space call annihilates the saw-tooth: `irfftn (F (rfftn (1, −1))) = (0, 0)` entrywise -/
theorem loop_one_sawtooth (j : ℕ) (hj : j < 2) :
    (irfftnM 1 2 (FnyqI (rfftnM 1 2 #[(1 : ℂ), -1]))).getD j 0 = 0 := by
  have hj' : j = 0 ∨ j = 1 := by omega
  rcases hj' with rfl | rfl
  · rw [irfft2_zero, FnyqI_zero, FnyqI_one, rfft2_zero, rfft2_one]
    simp
  · rw [irfft2_one, FnyqI_zero, FnyqI_one, rfft2_zero, rfft2_one]
    simp

theorem loop_two_sawtooth :
    ((fun v => irfftnM 1 2 (FnyqI (rfftnM 1 2 v)))^[2] #[(1 : ℂ), -1]).getD 0 0 = 0 := by
  show (irfftnM 1 2 (FnyqI (rfftnM 1 2 (irfftnM 1 2 (FnyqI (rfftnM 1 2 #[(1 : ℂ), -1])))))).getD 0 0 = 0
  rw [irfft2_zero, FnyqI_zero, FnyqI_one, rfft2_zero, rfft2_one,
    loop_one_sawtooth 0 (by norm_num), loop_one_sawtooth 1 (by norm_num)]
  simp

theorem substep_two_sawtooth :
    (irfftnM 1 2 (FnyqI^[2] (rfftnM 1 2 #[(1 : ℂ), -1]))).getD 0 0 = -1 := by
  show (irfftnM 1 2 (FnyqI (FnyqI (rfftnM 1 2 #[(1 : ℂ), -1])))).getD 0 0 = -1
  rw [irfft2_zero, FnyqI_zero, FnyqI_one, FnyqI_zero, FnyqI_one, rfft2_zero, rfft2_one]
  simp

/-- **COUNTEREXAMPLE.**  `D = 1`, `N = 2`, the real grid state `u = (1, −1)`, the Fourier step that
    multiplies the Nyquist bin by `I`, `n = 2`: the physical-space loop and Fourier-space sub-stepping
    DIFFER (so the hypothesis `hF` of `repeatedStepper_eq_loop` cannot be dropped). -/
theorem repeated_ne_loop_nyquist :
    (fun v => irfftnM 1 2 (FnyqI (rfftnM 1 2 v)))^[2] #[(1 : ℂ), -1]
      ≠ irfftnM 1 2 (FnyqI^[2] (rfftnM 1 2 #[(1 : ℂ), -1])) := by
  intro heq
  have h1 := loop_two_sawtooth
  rw [heq, substep_two_sawtooth] at h1
  norm_num at h1

/-- the cause: the spectrum after one Fourier step is not realisable, `rfftn ∘ irfftn` changes it -/
theorem FnyqI_sawtooth_not_realisable : ¬ Realisable 1 2 (FnyqI (rfftnM 1 2 #[(1 : ℂ), -1])) := by
  intro hR
  have h1 := hR.2 1 (by rw [numModes_one]; norm_num) ((herm_weight_one_iff 2 1).mpr (Or.inr ⟨rfl, rfl⟩))
  rw [conjIdx_one 2 1 (by rw [numModes_one]; norm_num), FnyqI_one, rfft2_one] at h1
  have h2 := congrArg Complex.im h1
  simp at h2
  norm_num at h2

end Exponax.C2R
