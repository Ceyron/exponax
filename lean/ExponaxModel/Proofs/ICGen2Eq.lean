import Mathlib.Tactic
import ExponaxModel.Proofs.ICGen2Lemmas
import ExponaxModel.Proofs.SpectralLayoutEq
import ExponaxModel.Proofs.LayoutLemmas
import ExponaxModel.Proofs.StepperSymbols
import ExponaxModel.Proofs.StepperWiringArgs
/-
`Generated/ICGen2.lean` (regenerated from `exponax/ic/*.py` by `harness/translate_ic2.py`) equals the documented model
of `Model/IC2.lean`, and honours the contract of property C18.
-/
set_option linter.unusedSectionVars false
namespace Exponax.Gen.IC2
open Exponax Exponax.Layout Exponax.Transform Exponax.DFT Exponax.Gen Exponax.Gen.Prelude Exponax.Gen.ICGen

section disc
variable {K : Type} [Field K] [HasLtB K] [HasSqrt K] [HasAbs K]

theorem Discontinuity_call_eq (self : Discontinuity K) (x : List (Array K)) :
    Discontinuity_call self x = IC2.discontinuity self.lower_limits self.upper_limits self.value x := by
  unfold Discontinuity_call IC2.discontinuity IC2.gridPoints
  simp only []
  have h := foldl_tab (List.zipIdx (List.zip self.lower_limits self.upper_limits)) (x.getD 0 #[]).size false
    (fun (p : (K × K) × ℕ) j v =>
      v && (HasLtB.ltb p.1.1 ((x.getD p.2 #[]).getD j 0) && HasLtB.ltb ((x.getD p.2 #[]).getD j 0) p.1.2))
    (fun _ => true)
  simp only [Bool.and_assoc] at h ⊢
  rw [h, tab_size]
  apply tab_congr
  intro j hj
  rw [tab_getD _ _ _ _ hj, foldl_and_eq_all]
  simp only [Bool.true_and, IC2.inBox, IC2.coord]
  exact Bool.cond_eq_ite _ _ _

theorem discontinuity_size (lo hi : List K) (v : K) (x : List (Array K)) :
    (IC2.discontinuity lo hi v x).size = IC2.gridPoints x := by
  unfold IC2.discontinuity; simp

/-- the three inlined normalisation steps of `Discontinuities.__call__` are `normalize_ic` -/
theorem Discontinuities_call_normalize (self : Discontinuities K) (x : List (Array K)) :
    Discontinuities_call self x
      = normalize_ic (py_sum_arrays (self.discontinuity_list.map (fun d => Discontinuity_call d x)))
          self.zero_mean self.std_one self.max_one := rfl

/-- **`Discontinuities.__call__`** = normalised sum of the blocks (for at least one block: for the empty tuple
    Python's `sum` returns the int `0`, the regenerated definition the empty array) -/
theorem Discontinuities_call_eq_partial (hlaw : AbsLaw K) (self : Discontinuities K) (x : List (Array K))
    (hne : self.discontinuity_list ≠ []) :
    Discontinuities_call self x
      = IC2.discontinuities self.zero_mean self.std_one self.max_one (IC2.gridPoints x)
          (self.discontinuity_list.map (fun d => IC2.discontinuity d.lower_limits d.upper_limits d.value x)) := by
  rw [Discontinuities_call_normalize, normalize_ic_eq hlaw]
  unfold IC2.discontinuities
  have hmap : self.discontinuity_list.map (fun d => Discontinuity_call d x)
      = self.discontinuity_list.map (fun d => IC2.discontinuity d.lower_limits d.upper_limits d.value x) :=
    List.map_congr_left (fun d _ => Discontinuity_call_eq d x)
  rw [hmap, py_sum_arrays_eq _ (IC2.gridPoints x) (by simpa using hne)]
  intro a ha
  obtain ⟨d, _, rfl⟩ := List.mem_map.mp ha
  exact discontinuity_size _ _ _ _

end disc

section sine
variable {K : Type} [Field K] [HasLtB K] [HasSqrt K] [HasAbs K] [HasSin K] [HasPi K]

theorem SineWaves1d_call_normalize (self : SineWaves1d K) (x : Array K) :
    SineWaves1d_call self x
      = normalize_ic (tab x.size (fun j =>
          (List.foldl (fun (result : Array K) (it : K × (K × K)) =>
              tab result.size (fun j => result.getD j 0
                + it.1 * HasSin.sin (it.2.1 * (lit 2 * HasPi.pi / self.domain_extent) * x.getD j 0 + it.2.2)))
            (tab x.size (fun _ => (0 : K)))
            (List.zip self.amplitudes (List.zip self.wavenumbers self.phases))).getD j 0 + self.offset))
          false self.std_one self.max_one := by
  unfold SineWaves1d_call normalize_ic
  simp only [Bool.false_eq_true, if_false]
  simp only [foldl_tab_add, tab_size]

/-- **`SineWaves1d.__call__`** = `Σ_i a_i sin(k_i 2π/L x + φ_i) + offset`, normalised -/
theorem SineWaves1d_call_eq (hlaw : AbsLaw K) (self : SineWaves1d K) (x : Array K) :
    SineWaves1d_call self x
      = IC2.sineWaves1d self.domain_extent self.amplitudes self.wavenumbers self.phases self.offset
          self.std_one self.max_one x := by
  rw [SineWaves1d_call_normalize, normalize_ic_eq hlaw]
  unfold IC2.sineWaves1d IC2.sineSum
  congr 1
  apply tab_congr
  intro j hj
  rw [foldl_tab_add, tab_getD _ _ _ _ hj, foldl_add_eq_sumList]

end sine

section blob
variable {K : Type} [Field K] [HasExp K]

/-- entry `j` of every array of `x − position` (broadcast over the grid axes) -/
theorem diff_map_getD (x : List (Array K)) (pos : List K) (n j : ℕ) (hj : j < n) (hs : ∀ a ∈ x, a.size = n) :
    (List.zipWith (fun (a : Array K) (p : K) => tab a.size (fun j => a.getD j 0 - p)) x pos).map (fun a => a.getD j 0)
      = List.zipWith (fun (a : Array K) (p : K) => a.getD j 0 - p) x pos := by
  induction x generalizing pos with
  | nil => simp
  | cons a x ih =>
    cases pos with
    | nil => simp
    | cons p pos =>
      simp only [List.zipWith_cons_cons, List.map_cons]
      have ha : a.size = n := hs a (by simp)
      rw [ih pos (fun b hb => hs b (by simp [hb])), tab_getD _ _ _ _ (by omega)]

theorem diff_headD_size (x : List (Array K)) (pos : List K) (hlen : pos.length = x.length) :
    ((List.zipWith (fun (a : Array K) (p : K) => tab a.size (fun j => a.getD j 0 - p)) x pos).headD #[]).size
      = IC2.gridPoints x := by
  cases x with
  | nil => simp [IC2.gridPoints]
  | cons a x =>
    cases pos with
    | nil => simp at hlen
    | cons p pos => simp [IC2.gridPoints]

/-- `jnp.einsum("i...,ij,j...->...", a, M, a)` at one grid point is the quadratic form of the entries -/
theorem einsum_getD (a : List (Array K)) (M : List (List K)) (p : ℕ) (hp : p < (a.headD #[]).size) :
    (einsum_i_ij_j a M a).getD p 0 = IC2.quadForm (a.map (fun c => c.getD p 0)) M := by
  unfold einsum_i_ij_j IC2.quadForm
  rw [tab_getD _ _ _ _ hp]
  simp only [List.zipWith_map_left, List.zipWith_map_right]

/-- **`GaussianBlob.__call__`** = `exp(−½ (x − p)ᵀ Σ⁻¹ (x − p))` (or one minus it) at every grid point; the grid has
    one coordinate array per entry of `position` (the guard of `__call__`), all of one size -/
theorem GaussianBlob_call_eq (self : GaussianBlob K) (x : List (Array K))
    (hlen : self.position.length = x.length) (hs : ∀ a ∈ x, a.size = IC2.gridPoints x) :
    GaussianBlob_call self x
      = IC2.gaussianBlob self.position self.priv_inv_covariance self.one_complement x := by
  unfold GaussianBlob_call IC2.gaussianBlob
  simp only []
  have hsz := diff_headD_size x self.position hlen
  have he : (einsum_i_ij_j (List.zipWith (fun (a : Array K) (p : K) => tab a.size (fun j => a.getD j 0 - p)) x self.position)
      self.priv_inv_covariance
      (List.zipWith (fun (a : Array K) (p : K) => tab a.size (fun j => a.getD j 0 - p)) x self.position)).size
      = IC2.gridPoints x := by
    unfold einsum_i_ij_j; rw [tab_size, hsz]
  have hq : ∀ j, j < IC2.gridPoints x →
      (einsum_i_ij_j (List.zipWith (fun (a : Array K) (p : K) => tab a.size (fun j => a.getD j 0 - p)) x self.position)
        self.priv_inv_covariance
        (List.zipWith (fun (a : Array K) (p : K) => tab a.size (fun j => a.getD j 0 - p)) x self.position)).getD j 0
      = IC2.quadForm (List.zipWith (fun (a : Array K) (p : K) => a.getD j 0 - p) x self.position)
          self.priv_inv_covariance := by
    intro j hj
    rw [einsum_getD _ _ _ (by rw [hsz]; exact hj), diff_map_getD x self.position _ j hj hs]
  rw [he]
  cases self.one_complement
  · simp only [Bool.false_eq_true, if_false]
    exact tab_congr _ _ _ (fun j hj => by rw [hq j hj])
  · simp only [if_true, tab_size]
    exact tab_congr _ _ _ (fun j hj => by rw [tab_getD _ _ _ _ hj, hq j hj])

theorem gaussianBlob_size (pos : List K) (M : List (List K)) (oc : Bool) (x : List (Array K)) :
    (IC2.gaussianBlob pos M oc x).size = IC2.gridPoints x := by
  unfold IC2.gaussianBlob; simp

theorem GaussianBlob_value (self : GaussianBlob K) (x : List (Array K)) (j : ℕ)
    (hlen : self.position.length = x.length) (hs : ∀ a ∈ x, a.size = IC2.gridPoints x) (hj : j < IC2.gridPoints x) :
    (GaussianBlob_call self x).getD j 0
      = (let b := HasExp.exp (-(1 / 2 : K) * IC2.quadForm (List.zipWith (fun (a : Array K) (p : K) => a.getD j 0 - p) x
            self.position) self.priv_inv_covariance)
         if self.one_complement then 1 - b else b) := by
  rw [GaussianBlob_call_eq _ x hlen hs]
  unfold IC2.gaussianBlob
  rw [tab_getD _ _ _ _ hj]
  simp

/-- **`GaussianBlobs.__call__`** = the mean of its blobs (at least one blob) -/
theorem GaussianBlobs_call_eq_partial (self : GaussianBlobs K) (x : List (Array K)) (hne : self.blob_list ≠ [])
    (hlen : ∀ b ∈ self.blob_list, b.position.length = x.length) (hs : ∀ a ∈ x, a.size = IC2.gridPoints x) :
    GaussianBlobs_call self x
      = IC2.meanOfFields (IC2.gridPoints x)
          (self.blob_list.map (fun b => IC2.gaussianBlob b.position b.priv_inv_covariance b.one_complement x)) := by
  unfold GaussianBlobs_call IC2.meanOfFields
  simp only []
  have hmap : self.blob_list.map (fun b => GaussianBlob_call b x)
      = self.blob_list.map (fun b => IC2.gaussianBlob b.position b.priv_inv_covariance b.one_complement x) :=
    List.map_congr_left (fun b hb => GaussianBlob_call_eq b x (hlen b hb) hs)
  have hsize : ∀ a ∈ self.blob_list.map
      (fun b => IC2.gaussianBlob b.position b.priv_inv_covariance b.one_complement x),
      a.size = IC2.gridPoints x := by
    intro a ha
    obtain ⟨d, _, rfl⟩ := List.mem_map.mp ha
    exact gaussianBlob_size _ _ _ _
  rw [hmap, py_sum_arrays_eq _ (IC2.gridPoints x) (by simpa using hne) hsize]
  rw [sumOfFields_size]
  apply tab_congr
  intro j hj
  unfold IC2.sumOfFields
  rw [tab_getD _ _ _ _ hj, List.length_map]

end blob

section multi
variable {Key K : Type}

theorem flatten_map_singleton {α : Type} (l : List α) : (l.map (fun a => [a])).flatten = l := by
  induction l with
  | nil => rfl
  | cons a l ih => simp [ih]

/-- **`MultiChannelIC.__call__`**: channel `c` is the `c`-th initial condition evaluated on the grid -/
theorem MultiChannelIC_call_eq (self : MultiChannelIC K) (x : List (Array K)) :
    MultiChannelIC_call self x = self.initial_conditions.map (fun ic => ic x) := by
  unfold MultiChannelIC_call jnp_concatenate_axis0
  rw [flatten_map_singleton]

/-- **`RandomMultiChannelICGenerator.__call__`**: sub-generator `c` is called with the key `(split key n)[c]` -/
theorem RandomMultiChannelICGenerator_call_eq (split : Key → ℕ → List Key) (self : RandomMultiChannelICGenerator Key K)
    (N : ℕ) (key : Key) :
    RandomMultiChannelICGenerator_call split self N key
      = (List.zip self.ic_generators (split key self.ic_generators.length)).map (fun p => p.1.call N p.2) := by
  unfold RandomMultiChannelICGenerator_call jnp_concatenate_axis0
  simp only []
  rw [flatten_map_singleton]

/-- **`RandomMultiChannelICGenerator.gen_ic_fun`**: sub-generator `c` gets the key `(split key n)[c]`, too -/
theorem RandomMultiChannelICGenerator_gen_ic_fun_eq (split : Key → ℕ → List Key)
    (self : RandomMultiChannelICGenerator Key K) (key : Key) :
    (RandomMultiChannelICGenerator_gen_ic_fun split self key).initial_conditions
      = (List.zip self.ic_generators (split key self.ic_generators.length)).map (fun p => p.1.gen_ic_fun p.2) := rfl

theorem multi_channel_call_channel (split : Key → ℕ → List Key) (self : RandomMultiChannelICGenerator Key K)
    (N : ℕ) (key : Key) (c : ℕ) (hc : c < self.ic_generators.length)
    (hk : c < (split key self.ic_generators.length).length) :
    (RandomMultiChannelICGenerator_call split self N key)[c]?
      = some ((self.ic_generators[c]).call N ((split key self.ic_generators.length)[c])) := by
  rw [RandomMultiChannelICGenerator_call_eq]
  simp [hc, hk]

theorem multi_channel_fun_channel (split : Key → ℕ → List Key) (self : RandomMultiChannelICGenerator Key K)
    (key : Key) (c : ℕ) (hc : c < self.ic_generators.length)
    (hk : c < (split key self.ic_generators.length).length) :
    (RandomMultiChannelICGenerator_gen_ic_fun split self key).initial_conditions[c]?
      = some ((self.ic_generators[c]).gen_ic_fun ((split key self.ic_generators.length)[c])) := by
  rw [RandomMultiChannelICGenerator_gen_ic_fun_eq]
  simp [hc, hk]

end multi

section base
variable {Key K : Type} [Field K]

/-- **`BaseRandomICGenerator.__call__`** = `gen_ic_fun(key)` evaluated on the regenerated `make_grid` -/
theorem BaseRandomICGenerator_call_eq (gen_ic_fun : Key → BaseIC K) (D : ℕ) (L : K) (ix : String) (N : ℕ) (key : Key) :
    BaseRandomICGenerator_call gen_ic_fun D L ix N key = gen_ic_fun key (ext_make_grid D L N ix) := rfl

/-- the regenerated grid (`indexing="ij"`) is the documented one: coordinate `d` of the point with multi-index `i` is
    `i_d · L / N` -/
theorem ext_make_grid_ij (D : ℕ) (L : K) (N : ℕ) : ext_make_grid D L N "ij" = IC2.grid D L N := by
  unfold ext_make_grid IC2.grid
  apply List.map_congr_left
  intro d hd
  apply tab_congr
  intro j hj
  rw [Exponax.make_grid_ij]
  simp [List.getD_eq_getElem?_getD, List.mem_range.mp hd]

theorem grid_length (D : ℕ) (L : K) (N : ℕ) : (IC2.grid D L N).length = D := by
  unfold IC2.grid; simp

theorem grid_sizes (D : ℕ) (L : K) (N : ℕ) : ∀ a ∈ IC2.grid D L N, a.size = N ^ D := by
  intro a ha
  unfold IC2.grid at ha
  obtain ⟨d, _, rfl⟩ := List.mem_map.mp ha
  simp

theorem grid_coord (D : ℕ) (L : K) (N : ℕ) (d j : ℕ) (hd : d < D) (hj : j < N ^ D) :
    IC2.coord (IC2.grid D L N) d j = gridCoord L N false ((unflatten (spatialShape D N) j).getD d 0) := by
  unfold IC2.coord IC2.grid
  simp [List.getD_eq_getElem?_getD, hd, tab_getD _ _ _ _ hj]

theorem grid_gridPoints (D : ℕ) (L : K) (N : ℕ) (hD : 0 < D) : IC2.gridPoints (IC2.grid D L N) = N ^ D := by
  unfold IC2.gridPoints IC2.grid
  simp [List.getD_eq_getElem?_getD, hD]

end base

theorem range_map_getD_eq_map {α β : Type} (l : List α) (d0 : α) (f : α → β) (n : ℕ) (hn : l.length = n) :
    (List.range n).map (fun d => f (l.getD d d0)) = l.map f := by
  subst hn
  conv_rhs => rw [← list_range_map_getD l d0]
  rw [List.map_map]
  rfl

section grf
variable {Key K : Type} [Field K] [HasExp K] [HasI K] [HasPi K] [HasRe K] [HasSqrt K] [HasAbs K] [HasRpow K]
  [HasLtB K] [HasIsZero K]

theorem ext_bsw_headD_size (D N : ℕ) (L : K) (hD : 1 ≤ D) :
    ((ext_build_scaled_wavenumbers D L N).headD #[]).size = numModes D N := by
  unfold ext_build_scaled_wavenumbers
  obtain ⟨E, rfl⟩ : ∃ E, D = E + 1 := ⟨D - 1, by omega⟩
  simp [List.range_succ_eq_map]

theorem norm_getD (D N : ℕ) (L : K) (hD : 1 ≤ D) (hN : 0 < N) (h : ℕ) (hh : h < numModes D N) :
    (jnp_linalg_norm_axis0 (ext_build_scaled_wavenumbers D L N)).getD h 0 = IC2.wnNorm D N L h := by
  unfold jnp_linalg_norm_axis0
  rw [tab_getD _ _ _ _ (by rw [ext_bsw_headD_size D N L hD]; exact hh)]
  unfold IC2.wnNorm ext_build_scaled_wavenumbers
  congr 2
  rw [List.map_map]
  have ht : ∀ d, (tab (numModes D N) (fun h =>
      (Exponax.Gen.SpectralLayout.build_scaled_wavenumbers D L N "ij" (unflatten (wavenumberShape D N) h)).getD d 0)).getD h 0
      = (Exponax.Gen.SpectralLayout.build_scaled_wavenumbers D L N "ij" (unflatten (wavenumberShape D N) h)).getD d 0 :=
    fun d => tab_getD _ _ _ _ hh
  simp only [Function.comp_def, ht]
  rw [Exponax.build_scaled_wavenumbers_ij D N L hD hN,
    range_map_getD_eq_map _ 0 (fun v => v * v) D (by rw [List.length_map, wnVec_length]), List.map_map]
  rfl

/-- **`GaussianRandomField.__call__`** = white noise → `rfftn` → `× |2πk/L|^(−exponent/2)` (mean mode `× 1`) → `irfftn`
    → `normalize_ic` -/
theorem GaussianRandomField_call_eq (hlaw : AbsLaw K) (wn : ℕ → Key → Array K) (self : GaussianRandomField K) (N : ℕ)
    (key : Key) (hD : 1 ≤ self.num_spatial_dims) (hN : 0 < N) :
    GaussianRandomField_call wn self N key
      = IC2.gaussianRandomField self.num_spatial_dims N self.domain_extent self.powerlaw_exponent
          self.zero_mean self.std_one self.max_one (wn N key) := by
  unfold GaussianRandomField_call IC2.gaussianRandomField
  simp only []
  have hsz : (jnp_linalg_norm_axis0 (ext_build_scaled_wavenumbers self.num_spatial_dims self.domain_extent N)).size
      = numModes self.num_spatial_dims N := by
    unfold jnp_linalg_norm_axis0; rw [tab_size, ext_bsw_headD_size _ _ _ hD]
  rw [normalize_ic_eq hlaw, hsz]
  unfold ext_ifft ext_fft IC2.grfSpectrum
  rw [rfftnM_size']
  refine congrArg (fun s => IC.normalizeIc _ _ _ (irfftnM _ N s)) (tab_congr _ _ _ fun h hh => congrArg _ ?_)
  rw [tab_setIfInBounds_zero, tab_getD _ _ _ _ hh]
  unfold IC2.powerLawAmplitude
  by_cases h0 : h = 0
  · rw [if_pos h0, if_pos h0]
  · rw [if_neg h0, if_neg h0, norm_getD _ _ _ hD hN h hh]

end grf

section diffused
variable {Key : Type}

theorem diffusion_list_sum (ν s : ℂ) (k : List ℤ) :
    (k.map (fun (kd : ℤ) => ν * ((Complex.I * (s * (kd : ℂ))) * (Complex.I * (s * (kd : ℂ)))))).sum
      = -(ν * (s * s) * ((normSq k : ℤ) : ℂ)) := by
  have hf : (fun (kd : ℤ) => ν * ((Complex.I * (s * (kd : ℂ))) * (Complex.I * (s * (kd : ℂ)))))
      = fun (kd : ℤ) => ν * ((Complex.I * s * (kd : ℂ)) * (Complex.I * s * (kd : ℂ))) := by
    funext kd
    rw [mul_assoc Complex.I s]
  rw [hf, List.sum_map_mul_left, scaled_sq_list_sum]
  linear_combination (ν * s * s * ((normSq k : ℤ) : ℂ)) * Complex.I_mul_I

theorem qform_scalarM (D : ℕ) (ν : ℂ) (κ : List ℂ) (hκ : κ.length = D) :
    Exponax.qform κ (Exponax.StepperWiringEq.scalarM D ν) = (κ.map (fun c => ν * (c * c))).sum := by
  unfold Exponax.qform
  rw [list_map_sum_eq_sum_range κ 0 (fun c => ν * (c * c)), hκ]
  apply Finset.sum_congr rfl
  intro i hi
  have hi' := Finset.mem_range.mp hi
  rw [Finset.sum_eq_single i]
  · have := Exponax.StepperWiringEq.scalarM_entry D ν i i hi' hi'
    unfold Exponax.mfun at this
    rw [this, if_pos rfl]
  · intro j hj hne
    have := Exponax.StepperWiringEq.scalarM_entry D ν i j hi' (Finset.mem_range.mp hj)
    unfold Exponax.mfun at this
    rw [this, if_neg (Ne.symm hne), zero_mul]
  · intro hni
    exact absurd hi hni

/-- the symbol of the regenerated `Diffusion` stepper with a scalar diffusivity: `−ν (2π/L)² |k|²` -/
theorem diffusion_symbol (D N : ℕ) (L ν : ℂ) (hD : 1 ≤ D) (hN : 0 < N) (h : ℕ) :
    Exponax.Gen.Steppers.Diffusion_linear_operator
        (Exponax.Gen.SpectralLayout.build_derivative_operator D L N "ij" (unflatten (wavenumberShape D N) h))
        (Exponax.Gen.StepperWiring.Diffusion_init_diffusivity_scalar D ν)
      = -(ν * ((lit 2 * HasPi.pi / L) * (lit 2 * HasPi.pi / L)) * ((normSq (wnFlat D N h) : ℤ) : ℂ)) := by
  rw [Exponax.StepperWiringEq.Diffusion_init_diffusivity_scalar_eq, Exponax.build_derivative_operator_ij D N L hD hN]
  have hκ : ((wnVec D N (unflatten (wavenumberShape D N) h)).map
      (fun k => HasI.I * ((lit 2 * HasPi.pi / L) * (IntCast.intCast k : ℂ)))).length = D := by
    rw [List.length_map, wnVec_length]
  have hrows : ∀ r ∈ Exponax.StepperWiringEq.scalarM D ν, r.length = D := by
    intro r hr
    simp only [Exponax.StepperWiringEq.scalarM, List.mem_map] at hr
    obtain ⟨i, _, rfl⟩ := hr
    simp
  rw [Exponax.Diffusion_linear_operator_eq _ _ (by simp [Exponax.StepperWiringEq.scalarM, wnVec_length])
    (by rw [hκ]; exact hrows)]
  rw [qform_scalarM D ν _ hκ, List.map_map]
  exact diffusion_list_sum ν (lit 2 * HasPi.pi / L) (wnFlat D N h)

/-- the regenerated `Diffusion` stepper of order 0 with `dt = 1` multiplies mode `h` by `exp(−ν (2π/L)² |k(h)|²)` -/
theorem ext_Diffusion_call_eq (D N : ℕ) (L ν : ℂ) (u : Array ℂ) (hD : 1 ≤ D) (hN : 0 < N) :
    ext_Diffusion_call D L N (lit 1) ν u = irfftnM D N (IC2.diffusedSpectrum D N L ν u) := by
  unfold ext_Diffusion_call ext_ifft ext_fft IC2.diffusedSpectrum
  refine congrArg (irfftnM D N) (tab_congr _ _ _ fun h _ => ?_)
  show HasExp.exp ((lit 1 : ℂ) * _) * _ = IC2.diffusionKernel D N L ν h * _
  rw [diffusion_symbol _ _ _ _ hD hN, show (lit 1 : ℂ) = 1 from Nat.cast_one, one_mul]
  rfl

/-- **`DiffusedNoise.__call__`** = white noise → `rfftn` → `× exp(−intensity (2π/L)² |k|²)` → `irfftn` →
    `normalize_ic` -/
theorem DiffusedNoise_call_eq (wn : ℕ → Key → Array ℂ) (self : DiffusedNoise ℂ) (N : ℕ) (key : Key)
    (hD : 1 ≤ self.num_spatial_dims) (hN : 0 < N) :
    DiffusedNoise_call wn self N key
      = IC2.diffusedNoise self.num_spatial_dims N self.domain_extent self.intensity
          self.zero_mean self.std_one self.max_one (wn N key) := by
  unfold DiffusedNoise_call IC2.diffusedNoise
  simp only []
  rw [normalize_ic_eq absLaw_complex, ext_Diffusion_call_eq _ _ _ _ _ hD hN]

end diffused

/- The lists of translated classes, methods and defaults are fixed by `rfl`: a new one without a theorem
   here breaks the build (the draw sites: `C18_generated_draw_sites`). -/

theorem generated_classes_pinned : generated_classes =
    ["BaseIC", "BaseRandomICGenerator", "GaussianRandomField", "DiffusedNoise", "Discontinuity", "Discontinuities",
     "RandomDiscontinuities", "SineWaves1d", "RandomSineWaves1d", "GaussianBlob", "GaussianBlobs", "RandomGaussianBlobs",
     "MultiChannelIC", "RandomMultiChannelICGenerator"] := rfl

theorem generated_ic2_pinned : generated_ic2 =
    ["BaseRandomICGenerator.__call__", "GaussianRandomField.__init__", "GaussianRandomField.__call__",
     "DiffusedNoise.__init__", "DiffusedNoise.__call__", "Discontinuity.__call__", "Discontinuities.__init__",
     "Discontinuities.__call__", "RandomDiscontinuities.__init__", "RandomDiscontinuities.gen_one_ic_fn",
     "RandomDiscontinuities.gen_ic_fun", "RandomDiscontinuities.__call__ (inherited)", "SineWaves1d.__init__",
     "SineWaves1d.__call__", "RandomSineWaves1d.__init__", "RandomSineWaves1d.gen_ic_fun",
     "RandomSineWaves1d.__call__ (inherited)", "GaussianBlob.__init__", "GaussianBlob.__call__", "GaussianBlobs.__init__",
     "GaussianBlobs.__call__", "RandomGaussianBlobs.__init__", "RandomGaussianBlobs.gen_blob",
     "RandomGaussianBlobs.gen_ic_fun", "RandomGaussianBlobs.__call__ (inherited)", "MultiChannelIC.__init__",
     "MultiChannelIC.__call__", "RandomMultiChannelICGenerator.__init__", "RandomMultiChannelICGenerator.gen_ic_fun",
     "RandomMultiChannelICGenerator.__call__"] := rfl

/-- every method of the translated classes is translated, except the abstract `BaseIC.__call__` and the
    `BaseRandomICGenerator.gen_ic_fun` stub (which only raises) -/
theorem untranslated_methods_pinned : untranslated_methods =
    ["BaseIC.__call__ (abstract)", "BaseRandomICGenerator.gen_ic_fun (raises NotImplementedError)"] := rfl

theorem source_methods_count : source_methods.length = 29 ∧ generated_ic2.length = 30 := ⟨rfl, rfl⟩

theorem source_functions_pinned : source_functions =
    ["ic/_base_ic.py::validate_normalization_options", "ic/_base_ic.py::normalize_ic"] := rfl

theorem generated_generators_pinned : generated_generators =
    ["RandomDiscontinuities_as_generator", "RandomSineWaves1d_as_generator", "RandomGaussianBlobs_as_generator"] := rfl

theorem generated_defaults_pinned : generated_defaults =
    [("GaussianRandomField.__init__", "domain_extent=1.0, powerlaw_exponent=3.0, zero_mean=True, std_one=False, max_one=False"),
     ("DiffusedNoise.__init__", "domain_extent=1.0, intensity=0.001, zero_mean=True, std_one=False, max_one=False"),
     ("Discontinuities.__init__", "zero_mean=True, std_one=False, max_one=False"),
     ("RandomDiscontinuities.__init__", "domain_extent=1.0, num_discontinuities=3, value_range=(-1.0, 1.0), zero_mean=False, std_one=False, max_one=False"),
     ("SineWaves1d.__init__", "offset=0.0, std_one=False, max_one=False"),
     ("RandomSineWaves1d.__init__", "domain_extent=1.0, cutoff=5, amplitude_range=(-1.0, 1.0), phase_range=(0.0, 2 * jnp.pi), offset_range=(0.0, 0.0), std_one=False, max_one=False"),
     ("GaussianBlob.__init__", "one_complement=False"),
     ("RandomGaussianBlobs.__init__", "domain_extent=1.0, num_blobs=1, position_range=(0.4, 0.6), variance_range=(0.005, 0.01), one_complement=False")] := rfl

theorem scaled_list_sum (s : ℝ) (k : List ℤ) :
    (k.map (fun (kd : ℤ) => ((s : ℂ) * (kd : ℂ)) * ((s : ℂ) * (kd : ℂ)))).sum
      = ((s * s * ((normSq k : ℤ) : ℝ) : ℝ) : ℂ) := by
  rw [scaled_sq_list_sum]
  push_cast
  rfl

theorem wnNorm_real (D N : ℕ) (L : ℝ) (hL : 0 < L) (h : ℕ) :
    IC2.wnNorm D N (L : ℂ) h = ((2 * Real.pi / L * Real.sqrt ((normSq (wnFlat D N h) : ℤ) : ℝ) : ℝ) : ℂ) := by
  unfold IC2.wnNorm IC2.scaledWn
  have hs : (lit 2 * HasPi.pi / (L : ℂ) : ℂ) = ((2 * Real.pi / L : ℝ) : ℂ) := by
    rw [Complex.ofReal_div, Complex.ofReal_mul]; rfl
  rw [sumList_eq, hs, scaled_list_sum]
  have hs0 : 0 ≤ 2 * Real.pi / L := by positivity
  have hn : (0 : ℝ) ≤ ((normSq (wnFlat D N h) : ℤ) : ℝ) := by exact_mod_cast normSq_nonneg _
  show (_ : ℂ) ^ ((1 : ℂ) / 2) = _
  rw [show ((1 : ℂ) / 2) = ((1 / 2 : ℝ) : ℂ) by push_cast; rfl, ← Complex.ofReal_cpow (by positivity),
    ← Real.sqrt_eq_rpow, Real.sqrt_mul (by positivity), Real.sqrt_mul_self hs0]

/-- **the documented power law**: for real `L > 0` and a real exponent, the amplitude of a stored mode `h ≠ 0` is the
    real number `(2π/L · |k(h)|)^(−exponent/2)` (so the power spectrum decays like `|k|^(−exponent)`) -/
theorem powerLawAmplitude_real (D N : ℕ) (L e : ℝ) (hL : 0 < L) (h : ℕ) (h0 : h ≠ 0) :
    IC2.powerLawAmplitude D N (L : ℂ) (e : ℂ) h
      = (((2 * Real.pi / L * Real.sqrt ((normSq (wnFlat D N h) : ℤ) : ℝ)) ^ (-e / 2) : ℝ) : ℂ) := by
  unfold IC2.powerLawAmplitude
  rw [if_neg h0, wnNorm_real D N L hL h, hasRpow_complex]
  congr 2
  simp

section disc2
variable {Key K : Type} [Field K] [HasLtB K] [HasSqrt K] [HasAbs K]

/-- the function form is built from one sub-key per discontinuity, and carries the generator's flags unchanged -/
theorem RandomDiscontinuities_gen_ic_fun_fields [Inhabited Key] (split : Key → ℕ → List Key)
    (d1 d2 dv : Key → K → K → K) (self : RandomDiscontinuities K) (key : Key) :
    (RandomDiscontinuities_gen_ic_fun split d1 d2 dv self key).discontinuity_list
        = (split key self.num_discontinuities).map (RandomDiscontinuities_gen_one_ic_fn split d1 d2 dv self) ∧
    (RandomDiscontinuities_gen_ic_fun split d1 d2 dv self key).zero_mean = self.zero_mean ∧
    (RandomDiscontinuities_gen_ic_fun split d1 d2 dv self key).std_one = self.std_one ∧
    (RandomDiscontinuities_gen_ic_fun split d1 d2 dv self key).max_one = self.max_one := ⟨rfl, rfl, rfl, rfl⟩

/-- the flags given to the constructor reach `normalize_ic` unchanged -/
theorem RandomDiscontinuities_flags [Inhabited Key] (split : Key → ℕ → List Key) (d1 d2 dv : Key → K → K → K)
    (D : ℕ) (L : K) (n : ℕ) (vr : K × K) (zm so mo : Bool) (N : ℕ) (key : Key) :
    RandomDiscontinuities_call split d1 d2 dv (RandomDiscontinuities_init D L n vr zm so mo) N key
      = normalize_ic (py_sum_arrays
          (((split key n).map (RandomDiscontinuities_gen_one_ic_fn split d1 d2 dv
              (RandomDiscontinuities_init D L n vr zm so mo))).map
            (fun d => Discontinuity_call d (ext_make_grid D L N "ij")))) zm so mo := rfl

theorem foldl_append_lengths {σ α β : Type} (l : List α) (g : σ × List β × List β → α → σ)
    (a b : σ × List β × List β → α → β) (st : σ × List β × List β) :
    (l.foldl (fun st it => (g st it, st.2.1 ++ [a st it], st.2.2 ++ [b st it])) st).2.1.length
        = st.2.1.length + l.length ∧
    (l.foldl (fun st it => (g st it, st.2.1 ++ [a st it], st.2.2 ++ [b st it])) st).2.2.length
        = st.2.2.length + l.length := by
  induction l generalizing st with
  | nil => simp
  | cons x l ih =>
    rw [List.foldl_cons]
    have := ih (g st x, st.2.1 ++ [a st x], st.2.2 ++ [b st x])
    simp only [List.length_append, List.length_cons, List.length_nil] at this ⊢
    omega

/-- one generated discontinuity has one `(lower, upper)` pair per spatial axis -/
theorem RandomDiscontinuities_gen_one_ic_fn_lengths [Inhabited Key] (split : Key → ℕ → List Key)
    (d1 d2 dv : Key → K → K → K) (self : RandomDiscontinuities K) (key : Key) :
    (RandomDiscontinuities_gen_one_ic_fn split d1 d2 dv self key).lower_limits.length = self.num_spatial_dims ∧
    (RandomDiscontinuities_gen_one_ic_fn split d1 d2 dv self key).upper_limits.length = self.num_spatial_dims := by
  unfold RandomDiscontinuities_gen_one_ic_fn
  simp only []
  have h := foldl_append_lengths (List.range self.num_spatial_dims)
    (fun (st : Key × List K × List K) (_ : ℕ) => (split st.1 3).getD 2 default)
    (fun st _ => jnp_minimum (d1 ((split st.1 3).getD 0 default) (lit 0) self.domain_extent)
      (d2 ((split st.1 3).getD 1 default) (lit 0) self.domain_extent))
    (fun st _ => jnp_maximum (d1 ((split st.1 3).getD 0 default) (lit 0) self.domain_extent)
      (d2 ((split st.1 3).getD 1 default) (lit 0) self.domain_extent))
    (key, [], [])
  simp only [List.length_range, List.length_nil, Nat.zero_add] at h
  exact h

end disc2

section sine2
variable {Key K : Type} [Field K] [HasLtB K] [HasSqrt K] [HasAbs K] [HasSin K] [HasPi K]

/-- **sampled form = function form on the regenerated `make_grid`** (its one coordinate array) -/
theorem RandomSineWaves1d_sampled_eq_function_form [Inhabited Key] (split : Key → ℕ → List Key)
    (da dp : Key → ℕ → K → K → List K) (doff : Key → K → K → K) (self : RandomSineWaves1d K) (N : ℕ) (key : Key) :
    RandomSineWaves1d_call split da dp doff self N key
      = SineWaves1d_call (RandomSineWaves1d_gen_ic_fun split da dp doff self key)
          ((ext_make_grid self.num_spatial_dims self.domain_extent N self.indexing).getD 0 #[]) := rfl

/-- the draws of `RandomSineWaves1d` → the fields of the `SineWaves1d`: three sub-keys of ONE `split(key, 3)`, wavenumbers
    `1 … cutoff`, the flags unchanged -/
theorem RandomSineWaves1d_gen_ic_fun_fields [Inhabited Key] (split : Key → ℕ → List Key)
    (da dp : Key → ℕ → K → K → List K) (doff : Key → K → K → K) (self : RandomSineWaves1d K) (key : Key) :
    RandomSineWaves1d_gen_ic_fun split da dp doff self key
      = { domain_extent := self.domain_extent,
          amplitudes := da ((split key 3).getD 0 default) self.cutoff self.amplitude_range.1 self.amplitude_range.2,
          wavenumbers := jnp_arange 1 (self.cutoff + 1),
          phases := dp ((split key 3).getD 1 default) self.cutoff self.phase_range.1 self.phase_range.2,
          offset := doff ((split key 3).getD 2 default) self.offset_range.1 self.offset_range.2,
          std_one := self.std_one, max_one := self.max_one } := rfl

theorem jnp_arange_eq (a b : ℕ) : (jnp_arange a b : List K) = (List.range (b - a)).map (fun i => ((a + i : ℕ) : K)) := rfl

/-- the flags given to the generator's constructor reach `normalize_ic` unchanged -/
theorem RandomSineWaves1d_flags [Inhabited Key] (hlaw : AbsLaw K) (split : Key → ℕ → List Key)
    (da dp : Key → ℕ → K → K → List K) (doff : Key → K → K → K) (L : K) (c : ℕ) (ar pr orng : K × K) (so mo : Bool)
    (N : ℕ) (key : Key) :
    RandomSineWaves1d_call split da dp doff (RandomSineWaves1d_init 1 L c ar pr orng so mo) N key
      = IC.normalizeIc false so mo
          (IC2.sineSum L (da ((split key 3).getD 0 default) c ar.1 ar.2) (jnp_arange 1 (c + 1))
            (dp ((split key 3).getD 1 default) c pr.1 pr.2) (doff ((split key 3).getD 2 default) orng.1 orng.2)
            ((ext_make_grid 1 L N "ij").getD 0 #[])) := by
  rw [RandomSineWaves1d_sampled_eq_function_form, SineWaves1d_call_eq hlaw]
  rfl

end sine2

section blob2
variable {Key K : Type} [Field K] [HasExp K]

/-- the draws of one blob: position and variances from the two halves of ONE `split(key)`, both ranges scaled by the
    domain extent, a diagonal covariance, `one_complement` forwarded -/
theorem RandomGaussianBlobs_gen_blob_fields [Inhabited Key] (split : Key → ℕ → List Key)
    (dp dv : Key → ℕ → K → K → List K) (inv : List (List K) → List (List K)) (self : RandomGaussianBlobs K) (key : Key) :
    RandomGaussianBlobs_gen_blob split dp dv inv self key
      = { position := dp ((split key 2).getD 0 default) self.num_spatial_dims
            (self.position_range.1 * self.domain_extent) (self.position_range.2 * self.domain_extent),
          covariance := jnp_diag (dv ((split key 2).getD 1 default) self.num_spatial_dims
            (self.variance_range.1 * self.domain_extent) (self.variance_range.2 * self.domain_extent)),
          priv_inv_covariance := inv (jnp_diag (dv ((split key 2).getD 1 default) self.num_spatial_dims
            (self.variance_range.1 * self.domain_extent) (self.variance_range.2 * self.domain_extent))),
          one_complement := self.one_complement } := rfl

theorem RandomGaussianBlobs_init_one_complement (D : ℕ) (L : K) (n : ℕ) (pr vr : K × K) (oc : Bool) :
    (RandomGaussianBlobs_init D L n pr vr oc).one_complement = oc := rfl

end blob2

section wrap
variable {Key K : Type} [Inhabited Key] [Field K] [HasLtB K] [HasSqrt K] [HasAbs K] [HasExp K] [HasSin K] [HasPi K]

/-- every packaged generator satisfies the hypothesis of `C18_multi_channel_function_form_is_sampled_form` on ITS grid -/
theorem as_generator_sampled_eq_function_form
    (split : Key → ℕ → List Key) (d1 d2 dv : Key → K → K → K) (da dp dpos dvar : Key → ℕ → K → K → List K)
    (doff : Key → K → K → K) (inv : List (List K) → List (List K))
    (rd : RandomDiscontinuities K) (rs : RandomSineWaves1d K) (rb : RandomGaussianBlobs K) (N : ℕ) (k : Key) :
    (RandomDiscontinuities_as_generator split d1 d2 dv rd).call N k
        = (RandomDiscontinuities_as_generator split d1 d2 dv rd).gen_ic_fun k
            (ext_make_grid rd.num_spatial_dims rd.domain_extent N rd.indexing) ∧
    (RandomSineWaves1d_as_generator split da dp doff rs).call N k
        = (RandomSineWaves1d_as_generator split da dp doff rs).gen_ic_fun k
            (ext_make_grid rs.num_spatial_dims rs.domain_extent N rs.indexing) ∧
    (RandomGaussianBlobs_as_generator split dpos dvar inv rb).call N k
        = (RandomGaussianBlobs_as_generator split dpos dvar inv rb).gen_ic_fun k
            (ext_make_grid rb.num_spatial_dims rb.domain_extent N rb.indexing) := ⟨rfl, rfl, rfl⟩

end wrap

theorem Discontinuities_call_real (self : Discontinuities ℝ) (x : List (Array ℝ)) (hne : self.discontinuity_list ≠ []) :
    Discontinuities_call self x
      = IC2.discontinuities self.zero_mean self.std_one self.max_one (IC2.gridPoints x)
          (self.discontinuity_list.map (fun d => IC2.discontinuity d.lower_limits d.upper_limits d.value x)) :=
  Discontinuities_call_eq_partial absLaw_real self x hne

end Exponax.Gen.IC2
