import ExponaxModel.Proofs.Invariants
import ExponaxModel.Proofs.AliasND2Examples
import ExponaxModel.Proofs.ConserveVorticity
/-
C09 (invariants) — 2-D Navier–Stokes in vorticity form (`vorticity2d`, no injection): the dealiased
convection term conserves ENSTROPHY (V1) and ENERGY (V2) exactly.

Model conventions (see `AliasND2Vort`): `ψ̂ = Δ̂⁻¹ ω̂` (guarded inverse, value `1` at `k = 0`),
`u = ∂_1 ψ`, `v = −∂_0 ψ`, `N(ω) = −b·mask·F[u·∂_0 ω + v·∂_1 ω]`, every inverse transform preceded by
the mask.  With `X = dftV x` the lattice spectrum of the real vorticity `x`, `κ = invLapSym c`,
`d_j = dsym c j` (`= i s p_j`): `U = d_1 κ X`, `V = −d_0 κ X`.
-/
namespace Exponax.Invariants
open Exponax Exponax.Layout Exponax.Transform Exponax.DFT Exponax.Nonlin Exponax.Alias Exponax.AliasND Exponax.Conserve Finset

theorem comp_add {D : ℕ} (p q : Fin D → ℤ) (d : ℕ) : comp (p + q) d = comp p d + comp q d := by
  unfold comp
  split_ifs <;> simp

theorem dsym_add (c : Cfg ℂ) (d : ℕ) (p q : Fin c.D → ℤ) :
    dsym c d (p + q) = dsym c d p + dsym c d q := by
  unfold dsym
  rw [comp_add]
  push_cast
  ring

theorem dsym_triad (c : Cfg ℂ) (d : ℕ) (a b e : Fin c.D → ℤ) (h : a + b + e = 0) :
    dsym c d a = -(dsym c d b + dsym c d e) := by
  have ha : a = -(b + e) := by
    apply eq_neg_of_add_eq_zero_left
    rw [← add_assoc]; exact h
  rw [ha, dsym_neg, dsym_add]

/-- the interaction weight of the model's vorticity convection on a triad `(p, q, r)`, `p` the index of
    the test field, `q` of the velocity, `r` of the vorticity gradient: `κ(q)·(d_1(q) d_0(r) − d_0(q) d_1(r))`
    `= s²·(q × r)/(−s²|q|²)` -/
noncomputable def vortWeight (c : Cfg ℂ) (q r : Fin c.D → ℤ) : ℂ :=
  usym c q * dsym c 0 r + vsym c q * dsym c 1 r

theorem vortWeight_eq (c : Cfg ℂ) (q r : Fin c.D → ℤ) :
    vortWeight c q r = invLapSym c q * (dsym c 1 q * dsym c 0 r - dsym c 0 q * dsym c 1 r) := by
  unfold vortWeight usym vsym
  ring

theorem vorticity2d_triad_form (c : Cfg ℂ) (K : ℤ) (lam X : (Fin c.D → ℤ) → ℂ) :
    ∑ k ∈ box c.D K, truncV K (fun p => lam p * X p) (-k) *
        (linConv c.D c.N K (fun p => usym c p * X p) (fun p => dsym c 0 p * X p) k
          + linConv c.D c.N K (fun p => vsym c p * X p) (fun p => dsym c 1 p * X p) k)
      = (1 / ((c.N ^ c.D : ℕ) : ℂ)) * triV K X (fun p q r => lam p * vortWeight c q r) := by
  simp only [mul_add, Finset.sum_add_distrib]
  rw [sum_trunc_linConv_eq_triV c.N K lam (usym c) (fun p => dsym c 0 p) X,
    sum_trunc_linConv_eq_triV c.N K lam (vsym c) (fun p => dsym c 1 p) X, ← mul_add, triV_add]
  refine congrArg _ (triV_congr K X _ _ fun a b e _ => ?_)
  unfold vortWeight
  ring

theorem vortWeight_antisymm13 (c : Cfg ℂ) (a b e : Fin c.D → ℤ) (h : a + b + e = 0) :
    vortWeight c b a = -vortWeight c b e := by
  simp only [vortWeight_eq]
  rw [dsym_triad c 0 a b e h, dsym_triad c 1 a b e h]
  ring

theorem vortWeight_antisymm12 (c : Cfg ℂ) (a b e : Fin c.D → ℤ) (h : a + b + e = 0) :
    invLapSym c b * vortWeight c a e = -(invLapSym c a * vortWeight c b e) := by
  simp only [vortWeight_eq]
  rw [dsym_triad c 0 a b e h, dsym_triad c 1 a b e h]
  ring

/-- **V1, triad form (enstrophy)**: `p × q = q × r = r × p` on a triad, so the kernel changes sign under `p ↔ r` -/
theorem vorticity2d_enstrophy_triad (c : Cfg ℂ) (K : ℤ) (X : (Fin c.D → ℤ) → ℂ) :
    triV K X (fun _ q r => vortWeight c q r) = 0 :=
  triV_eq_zero_of_antisymm13 K X _ (fun a b e h => vortWeight_antisymm13 c a b e h)

/-- **V2, triad form (energy)**: with `κ(p)` on the test slot the kernel changes sign under `p ↔ q` -/
theorem vorticity2d_energy_triad (c : Cfg ℂ) (K : ℤ) (X : (Fin c.D → ℤ) → ℂ) :
    triV K X (fun p q r => invLapSym c p * vortWeight c q r) = 0 :=
  triV_eq_zero_of_antisymm12 K X _ (fun a b e h => vortWeight_antisymm12 c a b e h)

theorem vortGrid_isRealND (c : Cfg ℂ) (uh : Array ℂ) :
    IsRealND c.D c.N (vortGrid c uh) := by
  intro j hj
  unfold vortGrid
  rw [DFT.tab_getD _ _ _ _ hj]
  have hm : ∀ m, ((mfield c m uh).getD j 0).im = 0 := fun m => nifft_isRealND c _ j hj
  rw [Complex.add_im, mul_im_eq_zero (hm _) (dfield_isRealND c uh 0 j hj),
    mul_im_eq_zero (hm _) (dfield_isRealND c uh 1 j hj), add_zero]

/-- the work of the dealiased vorticity convection on a real band-limited test field `f` with box spectrum `lam·X`
    (`X = dftV x`): `lam = 1` is the enstrophy case, `lam = κ` the energy case -/
theorem vorticity2d_inner_grid (c : Cfg ℂ) (hD : c.D = 2) (hq : c.fq ≠ 0)
    (hK : 3 * Kc c < (c.N : ℤ)) (hN : 0 < c.N) (s : ℝ) (hs : c.s = (s : ℂ)) (b : ℝ)
    (x : Array ℂ) (hx : IsRealND c.D c.N x)
    (f : Array ℂ) (hf : IsRealND c.D c.N f) (lam : (Fin c.D → ℤ) → ℂ)
    (hF : BoxSpec c f fun p => lam p * dftV c.D c.N x p) :
    ∑ j ∈ range (c.N ^ c.D), f.getD j 0 *
        (irfftnM c.D c.N ((vorticity2d c (b : ℂ) none #[rfftnM c.D c.N x]).getD 0 #[])).getD j 0
      = ((-b : ℝ) : ℂ) * ((1 / ((c.N ^ c.D : ℕ) : ℂ)) *
          ∑ k ∈ box c.D (Kc c), truncV (Kc c) (fun p => lam p * dftV c.D c.N x p) (-k) *
            (linConv c.D c.N (Kc c) (uspec c x) (dspec c 0 x) k
              + linConv c.D c.N (Kc c) (vspec c x) (dspec c 1 x) k)) := by
  have hD0 : 0 < c.D := by omega
  have h2 := two_lt_of_three c.N (Kc c) hK
  rw [inner_irfftn_nfft c hD0 hq hN h2 f (vortGrid c (rfftnM c.D c.N x)) hf
      (vortGrid_isRealND c _) hF.1 (-b) _
      (fun h hh => by rw [← at2, vorticity2d_getD c _ _ h hh]; push_cast; ring),
    sum_mul_band c.D c.N hN (Kc c) h2 f _ hF.1, sum_box_neg]
  congr 2
  apply Finset.sum_congr rfl
  intro k hk
  have hk' := mem_box.mp hk
  have hnk : ∀ d, |(-k) d| ≤ Kc c := mem_box.mp (neg_mem_box hk)
  rw [neg_neg, hF.2 (-k) hnk, truncV_of_le _ _ _ hnk, dftV_vortGrid c hD hq hK hN s hs x hx k hk']

/-- **V1 on the grid (enstrophy).**  `D = 2`, dealiasing with `3·Kc < N` (e.g. the 2/3 rule): the band-truncated vorticity
    `ω_K = ifft(mask·ω̂)` is orthogonal on the grid to the nonlinear term `irfftn(N(ω̂))`, so the discrete convection
    leaves `½ Σ_j ω_K²` (enstrophy) unchanged. -/
theorem vorticity2d_enstrophy_grid (c : Cfg ℂ) (hD : c.D = 2) (hq : c.fq ≠ 0)
    (hK : 3 * Kc c < (c.N : ℤ)) (hN : 0 < c.N) (s : ℝ) (hs : c.s = (s : ℂ)) (b : ℝ)
    (x : Array ℂ) (hx : IsRealND c.D c.N x) :
    ∑ j ∈ range (c.N ^ c.D), (nifft c (rfftnM c.D c.N x)).getD j 0 *
        (irfftnM c.D c.N ((vorticity2d c (b : ℂ) none #[rfftnM c.D c.N x]).getD 0 #[])).getD j 0
      = 0 := by
  have hD0 : 0 < c.D := by omega
  have h2 := two_lt_of_three c.N (Kc c) hK
  have hU := boxSpec_nifft_rfftn c hD0 hq hN h2 x hx
  rw [vorticity2d_inner_grid c hD hq hK hN s hs b x hx _ (nifft_isRealND c _) (fun _ => 1)
    ⟨hU.1, fun p hp => (hU.2 p hp).trans (one_mul _).symm⟩]
  unfold uspec vspec dspec
  rw [vorticity2d_triad_form c (Kc c) (fun _ => 1) (dftV c.D c.N x),
    triV_congr (Kc c) _ _ (fun _ q r => vortWeight c q r) (fun a b e _ => one_mul _),
    vorticity2d_enstrophy_triad, mul_zero, mul_zero, mul_zero]

/-- the model's stream function on the grid, `ψ_K = ifft(mask·Δ̂⁻¹·ω̂)` (`Δ̂⁻¹ = invLapOne`) -/
noncomputable def psiGrid (c : Cfg ℂ) (uh : Array ℂ) : Array ℂ := mfield c (invLapOne c) uh

/-- **V2 on the grid (energy).**  Same hypotheses; the band-truncated stream function
    `ψ_K = ifft(mask·Δ̂⁻¹·ω̂)` is orthogonal on the grid to the nonlinear term:
    `Σ_j (ψ_K)_j · N(ω)_j = 0` — the discrete convection leaves the kinetic energy `−½ Σ_j ψ_K ω_K`
    unchanged. -/
theorem vorticity2d_energy_grid (c : Cfg ℂ) (hD : c.D = 2) (hq : c.fq ≠ 0)
    (hK : 3 * Kc c < (c.N : ℤ)) (hN : 0 < c.N) (s : ℝ) (hs : c.s = (s : ℂ)) (b : ℝ)
    (x : Array ℂ) (hx : IsRealND c.D c.N x) :
    ∑ j ∈ range (c.N ^ c.D), (psiGrid c (rfftnM c.D c.N x)).getD j 0 *
        (irfftnM c.D c.N ((vorticity2d c (b : ℂ) none #[rfftnM c.D c.N x]).getD 0 #[])).getD j 0
      = 0 := by
  have hD0 : 0 < c.D := by omega
  have h2 := two_lt_of_three c.N (Kc c) hK
  rw [vorticity2d_inner_grid c hD hq hK hN s hs b x hx (psiGrid c (rfftnM c.D c.N x))
    (nifft_isRealND c _) (invLapSym c) (boxSpec_mfield c hD0 hq hN h2 (hermMult_invLapOne c s hs) x hx)]
  unfold uspec vspec dspec
  rw [vorticity2d_triad_form c (Kc c) (invLapSym c) (dftV c.D c.N x), vorticity2d_energy_triad,
    mul_zero, mul_zero, mul_zero]

/-- **V1 against the FULL state.**  Since the nonlinear term is band-limited, the untruncated real
    vorticity `x` is orthogonal to it as well: `Σ_j x_j · N(ω)_j = 0`. -/
theorem vorticity2d_enstrophy_grid_full (c : Cfg ℂ) (hD : c.D = 2) (hq : c.fq ≠ 0)
    (hK : 3 * Kc c < (c.N : ℤ)) (hN : 0 < c.N) (s : ℝ) (hs : c.s = (s : ℂ)) (b : ℝ)
    (x : Array ℂ) (hx : IsRealND c.D c.N x) :
    ∑ j ∈ range (c.N ^ c.D), x.getD j 0 *
        (irfftnM c.D c.N ((vorticity2d c (b : ℂ) none #[rfftnM c.D c.N x]).getD 0 #[])).getD j 0
      = 0 := by
  rw [inner_irfftn_trunc c (by omega) hq hN (two_lt_of_three c.N (Kc c) hK) x hx _
    (fun h _ hm => vorticity2d_zero_off_band c _ _ 0 h hm)]
  exact vorticity2d_enstrophy_grid c hD hq hK hN s hs b x hx

/-- V1 with the transforms written `rfftnM 2 N`, `irfftnM 2 N`, grid `N²` -/
theorem vorticity2d_enstrophy_grid_two (c : Cfg ℂ) (hD : c.D = 2) (hq : c.fq ≠ 0)
    (hK : 3 * Kc c < (c.N : ℤ)) (hN : 0 < c.N) (s : ℝ) (hs : c.s = (s : ℂ)) (b : ℝ)
    (x : Array ℂ) (hx : IsRealND 2 c.N x) :
    ∑ j ∈ range (c.N ^ 2), (nifft c (rfftnM 2 c.N x)).getD j 0 *
        (irfftnM 2 c.N ((vorticity2d c (b : ℂ) none #[rfftnM 2 c.N x]).getD 0 #[])).getD j 0
      = 0 := by
  have := vorticity2d_enstrophy_grid c hD hq hK hN s hs b x (by rw [hD]; exact hx)
  rw [hD] at this
  exact this

/-- V2 with the transforms written `rfftnM 2 N`, `irfftnM 2 N`; the stream function written out:
    `ψ_K = nifft c (Δ̂⁻¹ ⊙ ω̂)` -/
theorem vorticity2d_energy_grid_two (c : Cfg ℂ) (hD : c.D = 2) (hq : c.fq ≠ 0)
    (hK : 3 * Kc c < (c.N : ℤ)) (hN : 0 < c.N) (s : ℝ) (hs : c.s = (s : ℂ)) (b : ℝ)
    (x : Array ℂ) (hx : IsRealND 2 c.N x) :
    ∑ j ∈ range (c.N ^ 2),
        (nifft c (tab (modes c) fun h => invLapOne c h * (rfftnM 2 c.N x).getD h 0)).getD j 0 *
        (irfftnM 2 c.N ((vorticity2d c (b : ℂ) none #[rfftnM 2 c.N x]).getD 0 #[])).getD j 0
      = 0 := by
  have := vorticity2d_energy_grid c hD hq hK hN s hs b x (by rw [hD]; exact hx)
  unfold psiGrid mfield at this
  rw [hD] at this
  exact this

/-- `D = 2`, `N = 8`, fraction `2/3`: `Kc = 1`, `3 < 8`; the ramp is a real field -/
example : (cfg23 2).D = 2 ∧ (cfg23 2).fq ≠ 0 ∧ 3 * Kc (cfg23 2) < (((cfg23 2).N : ℕ) : ℤ) ∧ 0 < (cfg23 2).N ∧
    (cfg23 2).s = ((1 : ℝ) : ℂ) ∧ IsRealND (cfg23 2).D (cfg23 2).N (ramp ((cfg23 2).N ^ (cfg23 2).D)) :=
  ⟨rfl, by simp [cfg23], by rw [Kc_cfg23]; simp [cfg23], by simp [cfg23], cfg23_s 2, ramp_real _ _⟩

/-- hypotheses of `vorticity2d_inner_grid` on the test field: `f = nifft c (rfftn x)`, `lam = 1` -/
example (c : Cfg ℂ) (hD : 0 < c.D) (hq : c.fq ≠ 0) (hN : 0 < c.N) (h2 : 2 * Kc c < (c.N : ℤ))
    (x : Array ℂ) (hx : IsRealND c.D c.N x) :
    IsRealND c.D c.N (nifft c (rfftnM c.D c.N x)) ∧
      BandLimitedV c.D c.N (Kc c) (nifft c (rfftnM c.D c.N x)) ∧
      ∀ p : Fin c.D → ℤ, (∀ d, |p d| ≤ Kc c) →
        dftV c.D c.N (nifft c (rfftnM c.D c.N x)) p = (fun _ => (1 : ℂ)) p * dftV c.D c.N x p :=
  ⟨nifft_isRealND c _, nifft_bandLimitedV c hq hN _,
    fun p hp => by rw [dftV_nifft_rfftn c hD hq hN h2 x hx p hp, one_mul]⟩

end Exponax.Invariants
