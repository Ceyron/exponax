import ExponaxModel.Proofs.AxisPermSteps
import ExponaxModel.Proofs.AxisPermEmbedSteps
/-
C08, any axis: the embedding along axis `a` is the axis permutation (swap of `a` and the last axis) of the
embedding along the last axis (`embedAxis_eq_permField`), so the ETDRK4 step theorems for axis permutations and for
the last-axis embedding combine.  Unlike for the last axis (`AxisPermEmbedSteps.lean`) the 1-D state has to be real
and Nyquist-free, the coefficient arrays isotropic and the term both `TermPerm` and `TermEmbed`.
-/
namespace Exponax.AxisPerm
open Exponax.Transform Exponax.DFT Exponax.AliasND Exponax.Nonlin
open Exponax.Gen.Etdrk
open Exponax.EquivND (liftTermND specMC physCh)

theorem embedAxis_eq_permField (D N : ℕ) (hD : 0 < D) (hN : 0 < N) (a : Fin D) (σ : Equiv.Perm (Fin D))
    (hσ : σ ⟨D - 1, by omega⟩ = a) (w : Array ℂ) :
    embedAxis D N a w = permField D N σ (embedAxis D N (D - 1) w) := by
  apply DFT.array_ext_getD _ _ (N ^ D) (by simp) (by simp)
  intro j hj
  rw [embedAxis_getD D N a w j hj, permField_getD D N σ _ j hj,
    embedAxis_getD D N (D - 1) w _ (permIdx_lt D N hN σ j)]
  have := digit_permIdx D N hN σ j ⟨D - 1, by omega⟩
  simp only at this
  rw [this, hσ]

def swapLast {D : ℕ} (hD : 0 < D) (a : Fin D) : Equiv.Perm (Fin D) := Equiv.swap ⟨D - 1, by omega⟩ a

theorem swapLast_last {D : ℕ} (hD : 0 < D) (a : Fin D) : swapLast hD a ⟨D - 1, by omega⟩ = a :=
  Equiv.swap_apply_left _ _

theorem nyqFreeS_rfftn_embedLast (D N : ℕ) (hD : 0 < D) (hN : 0 < N) (w : Array ℂ)
    (h1 : NyqFreeS 1 N (rfftnM 1 N w)) : NyqFreeS D N (rfftnM D N (embedAxis D N (D - 1) w)) := by
  intro h hh hny
  rw [rfftn_embedLast_pos D N hD hN w h hh]
  split_ifs with hlt
  · rw [h1 h (by rw [numModes_one]; exact hlt) ?_, mul_zero]
    obtain ⟨d, h2, hn⟩ := hny
    rw [kvec_lastAxis D N h hD hN hlt] at h2 hn
    split_ifs at h2 hn
    · rw [← kvec_one N h 0] at h2 hn
      exact ⟨0, h2, hn⟩
    · exact absurd (dvd_zero _) hn
  · rfl

/-- C08, any axis, ETDRK4 -/
theorem E4_embedAxis_physical (c : Cfg ℂ) (hc : PermCfg c) (a : Fin c.D) (C : ℕ) (T T1 : MC ℂ → MC ℂ)
    (hTp : TermPerm c (swapLast hc.hD a) id T) (hTe : TermEmbed c T T1)
    {E Eh c1 c2 c3 c4 c5 c6 E' Eh' c1' c2' c3' c4' c5' c6' : ℕ → ℕ → ℂ}
    (hE : IsoCoef c (swapLast hc.hD a) id E E) (hEh : IsoCoef c (swapLast hc.hD a) id Eh Eh)
    (h1 : IsoCoef c (swapLast hc.hD a) id c1 c1) (h2 : IsoCoef c (swapLast hc.hD a) id c2 c2)
    (h3 : IsoCoef c (swapLast hc.hD a) id c3 c3) (h4 : IsoCoef c (swapLast hc.hD a) id c4 c4)
    (h5 : IsoCoef c (swapLast hc.hD a) id c5 c5) (h6 : IsoCoef c (swapLast hc.hD a) id c6 c6)
    (eE : EmbCoef c E E') (eEh : EmbCoef c Eh Eh') (e1 : EmbCoef c c1 c1') (e2 : EmbCoef c c2 c2')
    (e3 : EmbCoef c c3 c3') (e4 : EmbCoef c c4 c4') (e5 : EmbCoef c c5 c5') (e6 : EmbCoef c c6 c6')
    (n : ℕ) (u1 : MC ℂ) (hreal : ∀ ch, ∀ i < c.N, ((u1.getD ch #[]).getD i 0).im = 0)
    (hfree : ∀ ch, NyqFreeS 1 c.N (rfftnM 1 c.N (u1.getD ch #[]))) (ch : ℕ) :
    physCh c.D c.N ((E4step E Eh c1 c2 c3 c4 c5 c6 (liftTermND c C T))^[n]
        (specMC c.D c.N (u1.map (embedAxis c.D c.N a)))) ch
      = embedAxis c.D c.N a
          (physCh 1 c.N ((E4step E' Eh' c1' c2' c3' c4' c5' c6' (liftTermND (cfg1 c) C T1))^[n]
            (specMC 1 c.N u1)) ch) := by
  have hD := hc.hD
  have hN := hc.hN
  have hgl : ∀ ch j, ((embedMC c u1).getD ch #[]).getD j 0
      = (embedAxis c.D c.N (c.D - 1) (u1.getD ch #[])).getD j 0 := fun ch j =>
    map_getD_getD _ (embedAxis_empty_getD _ _ _) u1 ch j
  have hga : ∀ ch j, ((u1.map (embedAxis c.D c.N a)).getD ch #[]).getD j 0
      = (embedAxis c.D c.N a (u1.getD ch #[])).getD j 0 := fun ch j =>
    map_getD_getD _ (embedAxis_empty_getD _ _ _) u1 ch j
  have hrealL : ∀ ch, IsRealND c.D c.N ((embedMC c u1).getD ch #[]) := by
    intro ch j hj
    rw [hgl]
    exact embedAxis_real c.D c.N _ hN _ (hreal ch) j hj
  have hfreeL : ∀ ch, NyqFreeS c.D c.N (rfftnM c.D c.N ((embedMC c u1).getD ch #[])) := by
    intro ch
    rw [DFT.rfftnM_congr c.D c.N _ _ (fun j _ => hgl ch j)]
    exact nyqFreeS_rfftn_embedLast c.D c.N hD hN _ (hfree ch)
  have hperm : ∀ ch, FieldPerm c.D c.N (swapLast hD a) ((embedMC c u1).getD ch #[])
      ((u1.map (embedAxis c.D c.N a)).getD (id ch) #[]) := by
    intro ch j hj
    rw [id, hga, hgl, embedAxis_eq_permField c.D c.N hD hN a (swapLast hD a) (swapLast_last hD a),
      permField_getD c.D c.N _ _ j hj]
  have hstep := E4_axisPerm_physical c hc (swapLast hD a) id C (id_lt_iff C) T hTp (embedMC c u1)
    (u1.map (embedAxis c.D c.N a)) hrealL hfreeL hperm hE hEh h1 h2 h3 h4 h5 h6 n ch
  rw [id] at hstep
  rw [hstep, E4_embed_physical c hD hN C T T1 hTe eE eEh e1 e2 e3 e4 e5 e6 n u1 ch,
    ← embedAxis_eq_permField c.D c.N hD hN a (swapLast hD a) (swapLast_last hD a)]

/-- real Nyquist-free 1-D states exist: the constant state -/
example (N : ℕ) (hN : 0 < N) :
    ∃ w : Array ℂ, (∀ i < N, (w.getD i 0).im = 0) ∧ NyqFreeS 1 N (rfftnM 1 N w) := by
  refine ⟨tab (N ^ 1) (fun _ => 1), fun i hi => by rw [DFT.tab_getD _ _ _ _ (by simpa using hi)]; simp, ?_⟩
  intro h hh hny
  rw [rfftn_eq_dftV 1 N hN _ h hh, dftV_const 1 N hN, if_neg]
  intro hall
  obtain ⟨d, _, hn⟩ := hny
  exact hn (hall d)

example : ∃ (D : ℕ) (hD : 0 < D) (a : Fin D), swapLast hD a ⟨D - 1, by omega⟩ = a :=
  ⟨3, by norm_num, 0, swapLast_last _ _⟩

end Exponax.AxisPerm
