import ExponaxModel.Proofs.WaveWholeState
import ExponaxModel.Proofs.MultiplierCalc
/-
C01 for the wave stepper on whole states, the group laws.  The step is a 2×2 matrix of real multipliers `f(ω_h)`
(`waveStep_channels`, every pair of arrays); on real arrays without Nyquist content such multipliers compose by multiplying
the functions `f` (`omMul_comp`, from `specApply_specApply`), so the matrix of a step of `s` after a step of `t` is the
product of the two matrices, which the addition theorems of `cos`, `sin` turn into the matrix of `t + s`
(`waveStep_add`).  With `waveStep_zero`, `iterate_of_add` gives the iterate and inverse laws on every pair of `RealBL` arrays
(`waveStep_group`).  `C01_wave_every_band_limited_state`: every such pair is a pair of superpositions of modes strictly
below Nyquist and is advanced by the exact solution.
-/
namespace Exponax.WaveWhole
open Exponax Exponax.Layout Exponax.Transform Exponax.DFT Exponax.ExactLinear Exponax.SpectralOpsEq
  Exponax.ReadOff Exponax.Nonlin

noncomputable def omMul (D N : ℕ) (c L : ℝ) (f : ℝ → ℝ) (h : ℕ) : ℝ := f (waveOmega D c L (wnFlat D N h))

theorem mCos_eq (D N : ℕ) (c L t : ℝ) : mCos D N c L t = omMul D N c L (fun w => Real.cos (w * t)) := rfl
theorem mSinc_eq (D N : ℕ) (c L t : ℝ) : mSinc D N c L t = omMul D N c L (fun w => sincT w t) := rfl
theorem mOmSin_eq (D N : ℕ) (c L t : ℝ) :
    mOmSin D N c L t = omMul D N c L (fun w => -(w * Real.sin (w * t))) := rfl

theorem hermSym_omMul (D N : ℕ) (c L : ℝ) (f : ℝ → ℝ) :
    HermSym D N (fun h => ((omMul D N c L f h : ℝ) : ℂ)) := fun h _ h' _ hk => by
  have e : wnFlat D N h' = negK (wnFlat D N h) :=
    list_ext_getD _ _ D (wnFlat_length D N h') (by rw [negK_length, wnFlat_length]) fun d hd => by
      rw [hk d hd, negK_getD]
  show ((f (waveOmega D c L (wnFlat D N h')) : ℝ) : ℂ) = (starRingEnd ℂ) _
  rw [e, waveOmega_negK, Complex.conj_ofReal]
  rfl

theorem omMul_comp (D N : ℕ) (hD : 0 < D) (hN : 0 < N) (c L : ℝ) (f g : ℝ → ℝ) (u : Array ℂ) (hu : RealBL D N u) :
    mulStep D N (omMul D N c L g) (mulStep D N (omMul D N c L f) u)
      = mulStep D N (omMul D N c L (fun w => f w * g w)) u :=
  (specApply_specApply D N hD hN _ _ (hermSym_omMul D N c L f) u hu).trans
    (specApply_congr D N _ _ u fun _ _ => (Complex.ofReal_mul _ _).symm)

theorem omMul_one (D N : ℕ) (hD : 0 < D) (hN : 0 < N) (c L : ℝ) (u : Array ℂ) (hu : RealBL D N u) :
    mulStep D N (omMul D N c L (fun _ => 1)) u = u :=
  (specApply_congr D N _ _ u fun _ _ => Complex.ofReal_one).trans (specApply_one D N hD hN u hu)

theorem omMul_zero (D N : ℕ) (c L : ℝ) (u : Array ℂ) :
    mulStep D N (omMul D N c L (fun _ => 0)) u = vzero (N ^ D) :=
  array_ext_getD _ _ (N ^ D) (mulStep_size ..) (vzero_size _) fun j _ => by
    rw [vzero_getD]
    exact irfftnM_eq_zero D N _ (fun h hh => by rw [DFT.tab_getD _ _ _ _ hh, omMul, Complex.ofReal_zero, zero_mul]) j

theorem vadd_vzero (n : ℕ) (u : Array ℂ) (hu : u.size = n) : vadd n u (vzero n) = u := by
  apply array_ext_getD _ _ n (by simp) hu
  intro j hj
  rw [vadd_getD _ _ _ _ hj, vzero_getD, add_zero]

theorem vzero_vadd (n : ℕ) (u : Array ℂ) (hu : u.size = n) : vadd n (vzero n) u = u := by
  apply array_ext_getD _ _ n (by simp) hu
  intro j hj
  rw [vadd_getD _ _ _ _ hj, vzero_getD, zero_add]

theorem vadd4 (n : ℕ) (a b c d : Array ℂ) :
    vadd n (vadd n a b) (vadd n c d) = vadd n (vadd n a c) (vadd n b d) := by
  apply array_ext_getD _ _ n (by simp) (by simp)
  intro j hj
  simp only [vadd_getD _ _ _ _ hj]
  ring

/-- one row of the product of two multiplier matrices -/
theorem row_comp (D N : ℕ) (hD : 0 < D) (hN : 0 < N) (c L : ℝ) (f₁ f₂ f₃ f₄ g₁ g₂ : ℝ → ℝ) (u u' : Array ℂ)
    (hu : RealBL D N u) (hu' : RealBL D N u') :
    vadd (N ^ D)
        (mulStep D N (omMul D N c L g₁) (vadd (N ^ D) (mulStep D N (omMul D N c L f₁) u)
          (mulStep D N (omMul D N c L f₂) u')))
        (mulStep D N (omMul D N c L g₂) (vadd (N ^ D) (mulStep D N (omMul D N c L f₃) u)
          (mulStep D N (omMul D N c L f₄) u')))
      = vadd (N ^ D)
          (mulStep D N (omMul D N c L (fun w => f₁ w * g₁ w + f₃ w * g₂ w)) u)
          (mulStep D N (omMul D N c L (fun w => f₂ w * g₁ w + f₄ w * g₂ w)) u') := by
  rw [mulStep_vadd D N hN, mulStep_vadd D N hN, omMul_comp D N hD hN c L f₁ g₁ u hu,
    omMul_comp D N hD hN c L f₂ g₁ u' hu', omMul_comp D N hD hN c L f₃ g₂ u hu,
    omMul_comp D N hD hN c L f₄ g₂ u' hu', vadd4, mulStep_add D N, mulStep_add D N]
  rfl

theorem omega_sincT (ω t : ℝ) : ω * sincT ω t = Real.sin (ω * t) := by
  unfold sincT
  by_cases h : ω = 0
  · simp [h]
  · simp only [h, if_false]
    field_simp

theorem sincT_add (ω t s : ℝ) :
    sincT ω t * Real.cos (ω * s) + Real.cos (ω * t) * sincT ω s = sincT ω (t + s) := by
  unfold sincT
  by_cases h : ω = 0
  · simp [h]
  · simp only [h, if_false]
    rw [mul_add, Real.sin_add]
    field_simp

theorem grp_a (ω t s : ℝ) :
    Real.cos (ω * t) * Real.cos (ω * s) + -(ω * Real.sin (ω * t)) * sincT ω s = Real.cos (ω * (t + s)) := by
  have h := omega_sincT ω s
  rw [mul_add, Real.cos_add]
  linear_combination (-Real.sin (ω * t)) * h

theorem grp_c (ω t s : ℝ) :
    Real.cos (ω * t) * -(ω * Real.sin (ω * s)) + -(ω * Real.sin (ω * t)) * Real.cos (ω * s)
      = -(ω * Real.sin (ω * (t + s))) := by
  rw [mul_add, Real.sin_add]
  ring

theorem grp_d (ω t s : ℝ) :
    sincT ω t * -(ω * Real.sin (ω * s)) + Real.cos (ω * t) * Real.cos (ω * s) = Real.cos (ω * (t + s)) := by
  have h := omega_sincT ω t
  rw [mul_add, Real.cos_add]
  linear_combination (-Real.sin (ω * s)) * h

theorem waveStep_add (D N : ℕ) (hD : 0 < D) (hN : 0 < N) (c L t s : ℝ) (hc : c ≠ 0) (hL : 0 < L)
    (u₀ u₁ : Array ℂ) (h₀ : RealBL D N u₀) (h₁ : RealBL D N u₁) :
    waveStep D N (L : ℂ) (s : ℂ) (c : ℂ) (waveStep D N (L : ℂ) (t : ℂ) (c : ℂ) #[u₀, u₁])
      = waveStep D N (L : ℂ) ((t + s : ℝ) : ℂ) (c : ℂ) #[u₀, u₁] := by
  rw [waveStep_channels D N hD hN c L t hc hL, waveStep_channels D N hD hN c L s hc hL,
    waveStep_channels D N hD hN c L (t + s) hc hL]
  simp only [mCos_eq, mSinc_eq, mOmSin_eq]
  rw [row_comp D N hD hN c L _ _ _ _ _ _ u₀ u₁ h₀ h₁, row_comp D N hD hN c L _ _ _ _ _ _ u₀ u₁ h₀ h₁]
  simp only [grp_a, sincT_add, grp_c, grp_d]

theorem waveStep_zero (D N : ℕ) (hD : 0 < D) (hN : 0 < N) (c L : ℝ) (hc : c ≠ 0) (hL : 0 < L)
    (u₀ u₁ : Array ℂ) (h₀ : RealBL D N u₀) (h₁ : RealBL D N u₁) :
    waveStep D N (L : ℂ) ((0 : ℝ) : ℂ) (c : ℂ) #[u₀, u₁] = #[u₀, u₁] := by
  rw [waveStep_channels D N hD hN c L 0 hc hL]
  simp only [mCos_eq, mSinc_eq, mOmSin_eq]
  have e2 : (fun w : ℝ => sincT w 0) = fun _ => 0 := funext fun w => by
    unfold sincT; by_cases h : w = 0 <;> simp [h]
  simp only [mul_zero, Real.cos_zero, Real.sin_zero, neg_zero, e2]
  rw [omMul_one D N hD hN c L u₀ h₀, omMul_one D N hD hN c L u₁ h₁, omMul_zero D N,
    omMul_zero D N, vadd_vzero _ _ h₀.1, vzero_vadd _ _ h₁.1]

/-- the whole step as a one-parameter group on pairs of real arrays without Nyquist content -/
theorem waveStep_group (D N : ℕ) (hD : 0 < D) (hN : 0 < N) (c L t : ℝ) (hc : c ≠ 0) (hL : 0 < L)
    (u₀ u₁ : Array ℂ) (h₀ : RealBL D N u₀) (h₁ : RealBL D N u₁) :
    (∀ n : ℕ, (waveStep D N (L : ℂ) (t : ℂ) (c : ℂ))^[n] #[u₀, u₁]
        = waveStep D N (L : ℂ) (((n : ℝ) * t : ℝ) : ℂ) (c : ℂ) #[u₀, u₁]) ∧
      waveStep D N (L : ℂ) ((-t : ℝ) : ℂ) (c : ℂ) (waveStep D N (L : ℂ) (t : ℂ) (c : ℂ) #[u₀, u₁]) = #[u₀, u₁] :=
  iterate_of_add (fun t : ℝ => waveStep D N (L : ℂ) (t : ℂ) (c : ℂ))
    (fun x => ∃ u₀ u₁, x = #[u₀, u₁] ∧ RealBL D N u₀ ∧ RealBL D N u₁)
    (by rintro _ ⟨u₀, u₁, rfl, h₀, h₁⟩; exact waveStep_zero D N hD hN c L hc hL u₀ u₁ h₀ h₁)
    (by rintro t s _ ⟨u₀, u₁, rfl, h₀, h₁⟩; exact waveStep_add D N hD hN c L t s hc hL u₀ u₁ h₀ h₁)
    t _ ⟨u₀, u₁, rfl, h₀, h₁⟩

theorem waveStep_iterate_bandLimited (D N : ℕ) (hD : 0 < D) (hN : 0 < N) (c L t : ℝ) (hc : c ≠ 0) (hL : 0 < L)
    (u₀ u₁ : Array ℂ) (h₀ : RealBL D N u₀) (h₁ : RealBL D N u₁) (n : ℕ) :
    (waveStep D N (L : ℂ) (t : ℂ) (c : ℂ))^[n] #[u₀, u₁]
      = waveStep D N (L : ℂ) (((n : ℝ) * t : ℝ) : ℂ) (c : ℂ) #[u₀, u₁] :=
  (waveStep_group D N hD hN c L t hc hL u₀ u₁ h₀ h₁).1 n

/-! non-vacuity -/
example : ∃ u : Array ℂ, RealBL 2 4 u := by
  have hms : ∀ m ∈ ([([1, 1], 2, 0.5)] : Modes), BelowNyquist 2 4 m.1 := by
    intro m hm
    simp only [List.mem_cons, List.mem_nil_iff, or_false] at hm
    subst hm
    exact belowNyquist_of_forall_mem (by decide)
  exact ⟨stateOf 2 4 [([1, 1], 2, 0.5)], by simp, stateOf_real 2 4 _,
    bandLimited_stateOf 2 4 (by norm_num) (by norm_num) _ hms⟩

end Exponax.WaveWhole
