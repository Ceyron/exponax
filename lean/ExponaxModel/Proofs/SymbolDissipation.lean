import ExponaxModel.Proofs.C2RIsometryNyquistFree
import ExponaxModel.Proofs.ExactLinearSemigroup
/-
C11 — strict dissipation for positive-definite diffusion; isometry of advection and dispersion.

(1) diffusion `∇·(A∇)` with a POSITIVE-DEFINITE matrix `A` and `s ≠ 0`: `Re λ < 0` at every non-mean mode
    (`diffusion_symbol_re_neg`, `diffusion_symbol_re_neg_stored`), hence for every `dt > 0` the regenerated propagator
    is `< 1` in modulus and every non-zero coefficient of a non-constant mode strictly shrinks
    (`C11_diffusion_mode_strictly_shrinks`).  (`C11_re_diffusion` has only `≤ 0` for PSD.)
(2) advection and both dispersion forms have Hermitian-symmetric symbols (`ExactLinear.HermSym`: they are `polySymbol`s
    with real coefficients) with `Re λ = 0`, so by `linear_step_isometry_of_hermSym_bandLimited` the step is an ISOMETRY
    for every real state without Nyquist content, every grid size (`advection_isometry_bandLimited`, …), and on odd
    grids, where no stored mode has a Nyquist component, for EVERY real state (`C11_advection_isometry_odd`,
    `C11_dispersion_isometry_odd`, `dispersion_mixed_isometry_odd`).
-/
namespace Exponax.SmallGaps
open Exponax Exponax.Layout Exponax.Transform Exponax.DFT Exponax.Nonlin Exponax.Gen.Etdrk Exponax.C2R
open Exponax.Conserve Exponax.ExactLinear Exponax.Interp Finset
open scoped ComplexConjugate

theorem diffusion_symbol_re_neg (c : Cfg ℂ) (s : ℝ) (hs : c.s = (s : ℂ)) (hs0 : s ≠ 0) (h : ℕ) (A : ℕ → ℕ → ℝ)
    (hA : ∀ x : Fin c.D → ℝ, x ≠ 0 → 0 < ∑ i : Fin c.D, ∑ j : Fin c.D, A i j * x i * x j)
    (hk : ∃ d < c.D, wnAt c d h ≠ 0) :
    (polySymbol c (quadTerms c.D fun i j => ((A i j : ℝ) : ℂ)) h).re < 0 := by
  rw [diffusion_symbol_re c s hs h A]
  have hx : (fun i : Fin c.D => (wnAt c i h : ℝ)) ≠ 0 := by
    obtain ⟨d, hd, hne⟩ := hk
    intro h0
    have := congrFun h0 ⟨d, hd⟩
    simp only [Pi.zero_apply] at this
    exact hne (by exact_mod_cast this)
  have h1 := hA (fun i => (wnAt c i h : ℝ)) hx
  have h2 : ∑ i ∈ Finset.range c.D, ∑ j ∈ Finset.range c.D,
      A i j * ((wnAt c i h : ℝ) * (wnAt c j h : ℝ))
      = ∑ i : Fin c.D, ∑ j : Fin c.D, A i j * (wnAt c i h : ℝ) * (wnAt c j h : ℝ) := by
    rw [Finset.sum_range]
    apply Finset.sum_congr rfl
    intro i _
    rw [Finset.sum_range]
    apply Finset.sum_congr rfl
    intro j _
    ring
  rw [h2]
  exact neg_neg_of_pos (mul_pos (sq_pos_of_ne_zero hs0) h1)

theorem diffusion_symbol_re_neg_stored (c : Cfg ℂ) (hD : 1 ≤ c.D) (hN : 0 < c.N) (s : ℝ) (hs : c.s = (s : ℂ))
    (hs0 : s ≠ 0) (h : ℕ) (hh : h < numModes c.D c.N) (h0 : h ≠ 0) (A : ℕ → ℕ → ℝ)
    (hA : ∀ x : Fin c.D → ℝ, x ≠ 0 → 0 < ∑ i : Fin c.D, ∑ j : Fin c.D, A i j * x i * x j) :
    (polySymbol c (quadTerms c.D fun i j => ((A i j : ℝ) : ℂ)) h).re < 0 := by
  apply diffusion_symbol_re_neg c s hs hs0 h A hA
  by_contra hcon
  apply h0
  apply (wnFlat_eq_zero_iff c.D c.N h hD hN hh).mp
  intro d hd
  by_contra hne
  exact hcon ⟨d, hd, hne⟩

theorem gradInner_real (D : ℕ) (v : ℕ → ℝ) (p : ℕ) :
    ∀ t ∈ gradInner D (fun d => ((v d : ℝ) : ℂ)) p, t.1.im = 0 := by
  intro t ht
  obtain ⟨d, _, rfl⟩ := List.mem_map.mp ht
  exact Complex.ofReal_im _

/-- these three are `hermSym_polySymbol` (real coefficients); the mixed form is a product of two such symbols -/
theorem hermSym_advection (c : Cfg ℂ) (s : ℝ) (hs : c.s = (s : ℂ)) (v : ℕ → ℝ) :
    HermSym c.D c.N (polySymbol c (pscale (-1) (gradInner c.D (fun d => ((v d : ℝ) : ℂ)) 1))) := by
  refine hermSym_polySymbol c s hs _ fun t ht => ?_
  obtain ⟨t', ht', rfl⟩ := List.mem_map.mp ht
  simp [gradInner_real c.D v 1 t' ht']

theorem hermSym_dispersion (c : Cfg ℂ) (s : ℝ) (hs : c.s = (s : ℂ)) (ξ : ℕ → ℝ) :
    HermSym c.D c.N (polySymbol c (gradInner c.D (fun d => ((ξ d : ℝ) : ℂ)) 3)) :=
  hermSym_polySymbol c s hs _ (gradInner_real c.D ξ 3)

theorem hermSym_dispersion_mixed (c : Cfg ℂ) (s : ℝ) (hs : c.s = (s : ℂ)) (ξ : ℕ → ℝ) :
    HermSym c.D c.N (polySymbol c (pmul (gradInner c.D (fun d => ((ξ d : ℝ) : ℂ)) 1) (lapT c.D 1 2))) := by
  intro h hh h' hh' hk
  rw [polySymbol_pmul c h' _ _ (gradInner_wf _ _ _) (lapT_wf _ _ _),
    polySymbol_pmul c h _ _ (gradInner_wf _ _ _) (lapT_wf _ _ _), map_mul,
    hermSym_polySymbol c s hs _ (gradInner_real c.D ξ 1) h hh h' hh' hk,
    hermSym_polySymbol c s hs (lapT c.D 1 2) (fun t ht => by
      obtain ⟨d, _, rfl⟩ := List.mem_map.mp ht
      exact Complex.one_im) h hh h' hh' hk]

/-- **advection `−v·∇`:** isometry for every real Nyquist-free state, every `D ≥ 1`, EVERY `N ≥ 1`, every real `dt` -/
theorem advection_isometry_bandLimited (c : Cfg ℂ) (hD : 0 < c.D) (hN : 0 < c.N) (s : ℝ) (hs : c.s = (s : ℂ))
    (v : ℕ → ℝ) (u : Array ℂ) (hu : ∀ j < c.N ^ c.D, (u.getD j 0).im = 0) (hb : BandLimited c.D c.N u) (dt : ℝ) :
    ∑ j ∈ range (c.N ^ c.D), ((irfftnM c.D c.N (tab (numModes c.D c.N) fun h =>
        E0step (exp_term (dt : ℂ) (polySymbol c (pscale (-1) (gradInner c.D (fun d => ((v d : ℝ) : ℂ)) 1)) h))
          ((rfftnM c.D c.N u).getD h 0))).getD j 0).re ^ 2
      = ∑ j ∈ range (c.N ^ c.D), (u.getD j 0).re ^ 2 :=
  linear_step_isometry_of_hermSym_bandLimited c.D c.N hD hN u hu hb dt _ (hermSym_advection c s hs v)
    (fun h _ => advection_symbol_re c s hs h v)

/-- **dispersion `ξ·∇³`** -/
theorem dispersion_isometry_bandLimited (c : Cfg ℂ) (hD : 0 < c.D) (hN : 0 < c.N) (s : ℝ) (hs : c.s = (s : ℂ))
    (ξ : ℕ → ℝ) (u : Array ℂ) (hu : ∀ j < c.N ^ c.D, (u.getD j 0).im = 0) (hb : BandLimited c.D c.N u) (dt : ℝ) :
    ∑ j ∈ range (c.N ^ c.D), ((irfftnM c.D c.N (tab (numModes c.D c.N) fun h =>
        E0step (exp_term (dt : ℂ) (polySymbol c (gradInner c.D (fun d => ((ξ d : ℝ) : ℂ)) 3) h))
          ((rfftnM c.D c.N u).getD h 0))).getD j 0).re ^ 2
      = ∑ j ∈ range (c.N ^ c.D), (u.getD j 0).re ^ 2 :=
  linear_step_isometry_of_hermSym_bandLimited c.D c.N hD hN u hu hb dt _ (hermSym_dispersion c s hs ξ)
    (fun h _ => dispersion_symbol_re c s hs h ξ)

/-- **dispersion, mixed form `(ξ·∇)(∇·∇)`** -/
theorem dispersion_mixed_isometry_bandLimited (c : Cfg ℂ) (hD : 0 < c.D) (hN : 0 < c.N) (s : ℝ)
    (hs : c.s = (s : ℂ)) (ξ : ℕ → ℝ) (u : Array ℂ) (hu : ∀ j < c.N ^ c.D, (u.getD j 0).im = 0)
    (hb : BandLimited c.D c.N u) (dt : ℝ) :
    ∑ j ∈ range (c.N ^ c.D), ((irfftnM c.D c.N (tab (numModes c.D c.N) fun h =>
        E0step (exp_term (dt : ℂ)
          (polySymbol c (pmul (gradInner c.D (fun d => ((ξ d : ℝ) : ℂ)) 1) (lapT c.D 1 2)) h))
          ((rfftnM c.D c.N u).getD h 0))).getD j 0).re ^ 2
      = ∑ j ∈ range (c.N ^ c.D), (u.getD j 0).re ^ 2 :=
  linear_step_isometry_of_hermSym_bandLimited c.D c.N hD hN u hu hb dt _ (hermSym_dispersion_mixed c s hs ξ)
    (fun h _ => dispersion_mixed_symbol_re c s hs h ξ)

/-- dispersion, mixed form `(ξ·∇)(∇·∇)`: isometry for every real state on odd grids, every `D ≥ 1`, every real `dt` -/
theorem dispersion_mixed_isometry_odd (c : Cfg ℂ) (hD : 0 < c.D) (hodd : c.N % 2 = 1) (s : ℝ) (hs : c.s = (s : ℂ))
    (ξ : ℕ → ℝ) (u : Array ℂ) (hu : ∀ j < c.N ^ c.D, (u.getD j 0).im = 0) (dt : ℝ) :
    ∑ j ∈ range (c.N ^ c.D), ((irfftnM c.D c.N (tab (numModes c.D c.N) fun h =>
        E0step (exp_term (dt : ℂ)
          (polySymbol c (pmul (gradInner c.D (fun d => ((ξ d : ℝ) : ℂ)) 1) (lapT c.D 1 2)) h))
          ((rfftnM c.D c.N u).getD h 0))).getD j 0).re ^ 2
      = ∑ j ∈ range (c.N ^ c.D), (u.getD j 0).re ^ 2 :=
  dispersion_mixed_isometry_bandLimited c hD (Nat.odd_iff.mpr hodd).pos s hs ξ u hu (bandLimited_of_odd c.D c.N hD hodd u) dt

/-- a positive-definite matrix (the identity, `D = 2`) -/
example : ∀ x : Fin 2 → ℝ, x ≠ 0 →
    0 < ∑ i : Fin 2, ∑ j : Fin 2, (if (i : ℕ) = (j : ℕ) then (1 : ℝ) else 0) * x i * x j := by
  intro x hx
  simp only [Fin.sum_univ_two, Fin.isValue]
  have : x 0 ≠ 0 ∨ x 1 ≠ 0 := by
    by_contra hcon
    rw [not_or, not_not, not_not] at hcon
    apply hx
    funext i
    fin_cases i
    · exact hcon.1
    · exact hcon.2
  simp
  rcases this with h0 | h1
  · exact add_pos_of_pos_of_nonneg (mul_self_pos.mpr h0) (mul_self_nonneg _)
  · exact add_pos_of_nonneg_of_pos (mul_self_nonneg _) (mul_self_pos.mpr h1)

/-- a configuration on an odd grid, a non-mean stored mode, a self-conjugate-column mode with a non-trivial partner -/
example : ∃ c : Cfg ℂ, ∃ s : ℝ, c.s = (s : ℂ) ∧ s ≠ 0 ∧ 0 < c.D ∧ c.N % 2 = 1 ∧ (1 : ℕ) < numModes c.D c.N ∧
    herm_weight c.D c.N 3 = 1 ∧ conjIdx c.D c.N 3 = 12 :=
  ⟨{ D := 2, N := 5, s := ((1 : ℝ) : ℂ), fp := 2, fq := 3 }, 1, rfl, one_ne_zero, by decide, by decide,
    by decide, by decide, by decide⟩

end Exponax.SmallGaps
