import ExponaxModel.Proofs.InterpGrid
/-
C15 support — the source multi-index `srcIndex` in any dimension, and the new half
spectrum of a band-limited state.
-/
namespace Exponax.Interp
open Exponax Exponax.Layout Exponax.Transform Exponax.DFT Finset

theorem axisSrc_spec (D Nold Nnew : ℕ) (ho : 2 ≤ Nold) (hn : 2 ≤ Nnew) (h' : List ℕ) (d : ℕ) (hd : d < D)
    (hi : h'.getD d 0 < if d + 1 = D then Nnew / 2 + 1 else Nnew) (j : ℕ)
    (hs : axisSrc D Nold Nnew h' d = some j) :
    (j < if d + 1 = D then Nold / 2 + 1 else Nold) ∧
      (if d + 1 = D then ((j : ℕ) : ℤ) else fftfreq Nold j)
        = (if d + 1 = D then ((h'.getD d 0 : ℕ) : ℤ) else fftfreq Nnew (h'.getD d 0)) := by
  unfold axisSrc at hs
  rw [wavenumberShape_getD D Nnew d hd, wavenumberShape_getD D Nold d hd] at hs
  by_cases hl : d + 1 = D
  · have hb : (d + 1 == D) = true := by simpa using hl
    simp only [hl, if_true] at hi ⊢
    rw [hb, if_pos hl, if_pos hl, srcAxis_last Nold Nnew _ hi] at hs
    obtain ⟨hc, hs⟩ := Option.ite_none_right_eq_some.mp hs
    simp only [Option.some.injEq] at hs
    subst hs
    exact ⟨by omega, rfl⟩
  · have hb : (d + 1 == D) = false := by simpa using hl
    rw [hb, if_neg hl, if_neg hl] at hs
    rw [if_neg hl, if_neg hl, if_neg hl]
    exact srcAxis_lead_spec _ _ _ _ _ (by omega) (by omega) (by omega) hs

theorem axisSrc_isSome (D Nold Nnew : ℕ) (ho : 2 ≤ Nold) (hn : 2 ≤ Nnew) (h' : List ℕ) (d : ℕ) (hd : d < D)
    (hi : h'.getD d 0 < if d + 1 = D then Nnew / 2 + 1 else Nnew)
    (hband : 2 * |wn D Nnew h' d| < ((min Nold Nnew : ℕ) : ℤ)) :
    (axisSrc D Nold Nnew h' d).isSome = true := by
  unfold axisSrc
  rw [wavenumberShape_getD D Nnew d hd, wavenumberShape_getD D Nold d hd]
  by_cases hl : d + 1 = D
  · have hb : (d + 1 == D) = true := by simpa using hl
    rw [wn_last D Nnew h' d hl, abs_of_nonneg (by positivity)] at hband
    rw [if_pos hl] at hi
    rw [hb, if_pos hl, if_pos hl, srcAxis_last Nold Nnew _ hi, if_pos (by omega)]
    rfl
  · have hb : (d + 1 == D) = false := by simpa using hl
    rw [wn_leading D Nnew h' d hl] at hband
    rw [if_neg hl] at hi
    rw [hb, if_neg hl, if_neg hl]
    exact srcAxis_lead_isSome _ _ _ _ (by omega) (by omega) (by omega) hi hband

theorem range_map_getD (D : ℕ) (g : ℕ → ℕ) (d : ℕ) (hd : d < D) :
    ((List.range D).map g).getD d 0 = g d := by
  simp [List.getD_eq_getElem?_getD, hd]

/-- whenever a target entry is written, its source is a valid stored index of the old spectrum
    carrying the SAME wavenumber vector -/
theorem srcIndex_some_spec (D Nold Nnew : ℕ) (hD : 0 < D) (ho : 2 ≤ Nold) (hn : 2 ≤ Nnew) (h' : ℕ)
    (hh : h' < numModes D Nnew) (idx : List ℕ)
    (hs : srcIndex D Nold Nnew (unflatten (wavenumberShape D Nnew) h') = some idx) :
    flatten (wavenumberShape D Nold) idx < numModes D Nold ∧
      wnFlat D Nold (flatten (wavenumberShape D Nold) idx) = wnFlat D Nnew h' := by
  set idx' := unflatten (wavenumberShape D Nnew) h' with hidx'
  have hlt' : ∀ d, d < D → idx'.getD d 0 < if d + 1 = D then Nnew / 2 + 1 else Nnew :=
    unflatten_wn_lt D Nnew hD (by omega) h' hh
  rw [srcIndex_eq] at hs
  obtain ⟨hall, hs⟩ := Option.ite_none_right_eq_some.mp hs
  simp only [Option.some.injEq] at hs
  have hax : ∀ d, d < D → axisSrc D Nold Nnew idx' d = some (idx.getD d 0) := by
    intro d hd
    have h1 := hall d (List.mem_range.mpr hd)
    rw [← hs, range_map_getD D _ d hd]
    cases hx : axisSrc D Nold Nnew idx' d with
    | none => rw [hx] at h1; simp at h1
    | some j => rfl
  have hspec := fun d hd => axisSrc_spec D Nold Nnew ho hn idx' d hd (hlt' d hd) _ (hax d hd)
  have hlen : idx.length = D := by rw [← hs]; simp
  have hF : List.Forall₂ (· < ·) idx (wavenumberShape D Nold) := by
    rw [List.forall₂_iff_get]
    refine ⟨by rw [hlen, wavenumberShape_length D Nold hD], ?_⟩
    intro i h1 h2
    have hi : i < D := by omega
    have := (hspec i hi).1
    rw [← wavenumberShape_getD D Nold i hi] at this
    simpa [List.getD_eq_getElem?_getD, List.getElem?_eq_getElem, h1, h2] using this
  refine ⟨flatten_lt _ _ hF, ?_⟩
  unfold wnFlat
  rw [unflatten_flatten _ _ hF, ← hidx']
  unfold wnVec
  apply List.map_congr_left
  intro d hd
  unfold wn rfftfreq
  exact (hspec d (List.mem_range.mp hd)).2

def inBand (m : ℕ) (k : List ℤ) : Prop := ∀ κ ∈ k, 2 * |κ| < (m : ℤ)

instance (m : ℕ) (k : List ℤ) : Decidable (inBand m k) := by unfold inBand; infer_instance

/-- the band-limit hypothesis of n-D exactness: every stored old mode with `2|k_d| ≥ m` on some axis vanishes -/
def BandLimitedN (D Nold m : ℕ) (u : Array ℂ) : Prop :=
  ∀ h, h < numModes D Nold → ¬ inBand m (wnFlat D Nold h) → (rfftnM D Nold u).getD h 0 = 0

theorem inBand_wnFlat_iff (D N m h : ℕ) :
    inBand m (wnFlat D N h) ↔ ∀ d, d < D → 2 * |(wnFlat D N h).getD d 0| < (m : ℤ) := by
  constructor
  · intro hb d hd
    apply hb
    rw [wnFlat_getD D N h d hd]
    exact (mem_wnVec D N _ _).2 ⟨d, hd, rfl⟩
  · intro hall κ hκ
    obtain ⟨d, hd, rfl⟩ := (mem_wnVec D N _ κ).1 hκ
    have := hall d hd
    rwa [wnFlat_getD D N h d hd] at this

theorem bandLimitedN_iff (D Nold m : ℕ) (u : Array ℂ) :
    BandLimitedN D Nold m u ↔
      ∀ h, h < numModes D Nold → (∃ d, d < D ∧ (m : ℤ) ≤ 2 * |(wnFlat D Nold h).getD d 0|) →
        (rfftnM D Nold u).getD h 0 = 0 := by
  unfold BandLimitedN
  constructor
  · intro hbl h hh ⟨d, hd, hk⟩
    apply hbl h hh
    rw [inBand_wnFlat_iff]
    intro hall
    have := hall d hd
    omega
  · intro hbl h hh hnb
    apply hbl h hh
    rw [inBand_wnFlat_iff] at hnb
    by_contra hne
    apply hnb
    intro d hd
    by_contra hlt
    exact hne ⟨d, hd, by omega⟩

/-- the band-limit hypothesis is EMPTY when up-sampling from an odd grid, in any dimension -/
theorem bandLimitedN_of_odd_up (D Nold Nnew : ℕ) (hD : 0 < D) (hodd : Nold % 2 = 1) (hlt : Nold < Nnew)
    (u : Array ℂ) : BandLimitedN D Nold (min Nold Nnew) u := by
  intro h hh hnb
  exfalso
  apply hnb
  have hmin : min Nold Nnew = Nold := by omega
  rw [hmin, inBand_wnFlat_iff]
  intro d hd
  have := wnFlat_abs_le D Nold h hD (by omega) hh d hd
  rw [← wnFlat_getD D Nold h d hd] at this
  generalize |(wnFlat D Nold h).getD d 0| = a at this
  omega

theorem bandLimitedN_one_iff (Nold m : ℕ) (u : Array ℂ) :
    BandLimitedN 1 Nold m u ↔ BandLimited1 Nold m u := by
  unfold BandLimitedN BandLimited1
  have hiff : ∀ h : ℕ, inBand m (wnFlat 1 Nold h) ↔ 2 * h < m := by
    intro h
    rw [wnFlat_one]
    unfold inBand
    simp only [List.mem_singleton, forall_eq, Nat.abs_cast]
    omega
  constructor
  · intro hbl h hh hm
    exact hbl h (by rw [numModes_one]; omega) (by rw [hiff]; omega)
  · intro hbl h hh hnb
    rw [numModes_one] at hh
    rw [hiff] at hnb
    exact hbl h (by omega) (by omega)

/-- the DFT sum of `u` (on the `N^D` grid) at an arbitrary integer wavenumber vector `k` -/
noncomputable def specAt (D N : ℕ) (u : Array ℂ) (k : List ℤ) : ℂ :=
  ∑ x ∈ range (N ^ D), u.getD x 0 * twiddle N (phaseK D N k x)

theorem rfftnM_eq_specAt (D N : ℕ) (hN : 0 < N) (u : Array ℂ) (h : ℕ) (hh : h < numModes D N) :
    (rfftnM D N u).getD h 0 = specAt D N u (wnFlat D N h) := rfftnM_getD D N hN u h hh

theorem oddball_of_inBand (N m : ℕ) (hm : m ≤ N) (k : List ℤ) (hk : inBand m k) : oddball N k = true := by
  by_cases he : N % 2 = 0
  · rw [oddball_even_iff N k he]
    intro kd hkd
    have := hk kd hkd
    generalize |kd| = a at this ⊢
    omega
  · exact oddball_odd N k (by omega)

theorem srcIndex_isSome_of_inBand (D Nold Nnew : ℕ) (hD : 0 < D) (ho : 2 ≤ Nold) (hn : 2 ≤ Nnew) (h' : ℕ)
    (hh : h' < numModes D Nnew) (hb : inBand (min Nold Nnew) (wnFlat D Nnew h')) :
    ∃ idx, srcIndex D Nold Nnew (unflatten (wavenumberShape D Nnew) h') = some idx := by
  rw [srcIndex_eq]
  have hall : ∀ d ∈ List.range D,
      (axisSrc D Nold Nnew (unflatten (wavenumberShape D Nnew) h') d).isSome = true := by
    intro d hd
    have hd' := List.mem_range.mp hd
    apply axisSrc_isSome D Nold Nnew ho hn _ d hd'
    · exact unflatten_wn_lt D Nnew hD (by omega) h' hh d hd'
    · exact hb _ ((mem_wnVec D Nnew _ _).2 ⟨d, hd', rfl⟩)
  rw [if_pos hall]
  exact ⟨_, rfl⟩

/-- `min(N_old, N_new) ≥ 2` here; `mapSpectrum_bandlimited_pos` (`InterpNDOne.lean`) covers `min = 1` -/
theorem mapSpectrum_bandlimited (D Nold Nnew : ℕ) (hD : 0 < D) (hm : 2 ≤ min Nold Nnew) (ob : Bool)
    (u : Array ℂ) (hbl : BandLimitedN D Nold (min Nold Nnew) u) (h' : ℕ) (hh : h' < numModes D Nnew) :
    (mapSpectrum D Nold Nnew ob (rfftnM D Nold u)).getD h' 0 =
      if inBand (min Nold Nnew) (wnFlat D Nnew h') then
        specAt D Nold u (wnFlat D Nnew h') / (Nold : ℂ) ^ D * (Nnew : ℂ) ^ D
      else 0 := by
  have ho : 2 ≤ Nold := by omega
  have hn : 2 ≤ Nnew := by omega
  rw [mapSpectrum_getD D Nold Nnew ob _ h' hh]
  have key : ∀ idx, srcIndex D Nold Nnew (unflatten (wavenumberShape D Nnew) h') = some idx →
      oldSpec D Nold Nnew ob (rfftnM D Nold u) (flatten (wavenumberShape D Nold) idx) =
        if inBand (min Nold Nnew) (wnFlat D Nnew h') then
          specAt D Nold u (wnFlat D Nnew h') / (Nold : ℂ) ^ D else 0 := by
    intro idx hs
    obtain ⟨hH, hk⟩ := srcIndex_some_spec D Nold Nnew hD ho hn h' hh idx hs
    rw [oldSpec_of_lt _ _ _ _ _ hH, hk]
    by_cases hb : inBand (min Nold Nnew) (wnFlat D Nnew h')
    · rw [if_pos hb, oddball_of_inBand Nold _ (by omega) _ hb, if_neg (by simp),
        rfftnM_eq_specAt D Nold (by omega) u _ hH, hk]
    · rw [if_neg hb]
      have hz := hbl _ hH (by rw [hk]; exact hb)
      rw [hz]
      split_ifs <;> simp
  by_cases hb : inBand (min Nold Nnew) (wnFlat D Nnew h')
  · rw [if_pos hb, oddball_of_inBand Nnew _ (by omega) _ hb, if_neg (by simp)]
    obtain ⟨idx, hs⟩ := srcIndex_isSome_of_inBand D Nold Nnew hD ho hn h' hh hb
    have := key idx hs
    rw [if_pos hb] at this
    rw [hs]
    simp only [this]
  · rw [if_neg hb]
    split_ifs with hc
    · rfl
    · cases hs : srcIndex D Nold Nnew (unflatten (wavenumberShape D Nnew) h') with
      | none => simp
      | some idx =>
        have := key idx hs
        rw [if_neg hb] at this
        simp only [this, zero_mul]

end Exponax.Interp
