import ExponaxModel.Proofs.RepeatedPhysicalDiag
/-
C14 — `Realisable` is preserved by steps of ETD type `F C = e ⊙ C + c ⊙ rfftn (𝒩 (irfftn C))` (exponential Euler; the
higher ETDRK stages are compositions and sums of such maps) when the coefficient symbols `e`, `c` are Hermitian on the
self-conjugate columns and the grid-space nonlinearity `𝒩` returns real values on real states.
-/
namespace Exponax.C2R
open Exponax Exponax.Layout Exponax.Transform Exponax.DFT Exponax.Conserve Finset

noncomputable def addSpec (D N : ℕ) (A B : Array ℂ) : Array ℂ :=
  tab (numModes D N) (fun h => A.getD h 0 + B.getD h 0)

theorem realisable_add (D N : ℕ) (hD : 0 < D) (hN : 0 < N) (A B : Array ℂ)
    (hA : Realisable D N A) (hB : Realisable D N B) : Realisable D N (addSpec D N A B) :=
  (realisable_tab_iff D N hD hN _).mpr (hA.hermSpec.add hB.hermSpec)

theorem realisable_smul_real (D N : ℕ) (hD : 0 < D) (hN : 0 < N) (r : ℝ) (A : Array ℂ)
    (hA : Realisable D N A) : Realisable D N (diagStep D N (fun _ => (r : ℂ)) A) :=
  diag_preserves_realisable D N hD hN _ (hermSymbol_const_real D N r) A hA

/-- the Fourier-space image of a grid-space nonlinearity is realisable for EVERY input spectrum -/
theorem nonlin_spectrum_realisable (D N : ℕ) (hD : 0 < D) (hN : 0 < N) (𝒩 : Array ℂ → Array ℂ)
    (h𝒩 : ∀ v, RealState D N v → ∀ j < N ^ D, ((𝒩 v).getD j 0).im = 0) (C : Array ℂ) :
    Realisable D N (rfftnM D N (𝒩 (irfftnM D N C))) :=
  rfftn_realisable' D N hD hN _ (h𝒩 _ (irfftn_realState D N C))

theorem etd_step_preserves_realisable (D N : ℕ) (hD : 0 < D) (hN : 0 < N) (e c : ℕ → ℂ)
    (he : HermSymbol D N e) (hc : HermSymbol D N c) (𝒩 : Array ℂ → Array ℂ)
    (h𝒩 : ∀ v, RealState D N v → ∀ j < N ^ D, ((𝒩 v).getD j 0).im = 0)
    (C : Array ℂ) (hC : Realisable D N C) :
    Realisable D N (addSpec D N (diagStep D N e C)
      (diagStep D N c (rfftnM D N (𝒩 (irfftnM D N C))))) :=
  realisable_add D N hD hN _ _ (diag_preserves_realisable D N hD hN e he C hC)
    (diag_preserves_realisable D N hD hN c hc _ (nonlin_spectrum_realisable D N hD hN 𝒩 h𝒩 C))

theorem square_real_of_real (n : ℕ) (v : Array ℂ) (hv : ∀ j < n, (v.getD j 0).im = 0) (j : ℕ) (hj : j < n) :
    ((tab n (fun j => v.getD j 0 * v.getD j 0)).getD j 0).im = 0 := by
  rw [tab_getD _ _ _ _ hj, Complex.mul_im, hv j hj]
  ring

/-- non-vacuity: the quadratic nonlinearity `u ↦ u²` (pointwise) is real on real states -/
example (D N : ℕ) : ∀ v, RealState D N v → ∀ j < N ^ D,
    (((fun w : Array ℂ => tab (N ^ D) (fun j => w.getD j 0 * w.getD j 0)) v).getD j 0).im = 0 :=
  fun v hv j hj => square_real_of_real _ v hv.2 j hj

end Exponax.C2R
