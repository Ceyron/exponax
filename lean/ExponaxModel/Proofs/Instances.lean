import Mathlib.Analysis.SpecialFunctions.Exponential
import Mathlib.Analysis.SpecialFunctions.Trigonometric.Basic
import Mathlib.Analysis.SpecialFunctions.Pow.Real
import Mathlib.Tactic
import ExponaxModel.Model.Ops
/-
Proof interpretation of the operation-only classes: `K := ℂ` (and `ℝ`) with
Mathlib's canonical structure.  No second copy of any model formula exists.
-/
namespace Exponax

noncomputable instance : HasExp ℂ := ⟨Complex.exp⟩
noncomputable instance : HasRe ℂ := ⟨fun z => (z.re : ℂ)⟩
noncomputable instance : HasIm ℂ := ⟨fun z => (z.im : ℂ)⟩
noncomputable instance : HasConj ℂ := ⟨fun z => (starRingEnd ℂ) z⟩
noncomputable instance : HasSqrt ℂ := ⟨fun z => z ^ ((1 : ℂ) / 2)⟩
noncomputable instance : HasAbs ℂ := ⟨fun z => ((‖z‖ : ℝ) : ℂ)⟩
noncomputable instance : HasI ℂ := ⟨Complex.I⟩
noncomputable instance : HasPi ℂ := ⟨(Real.pi : ℂ)⟩
noncomputable instance : HasIsZero ℂ := ⟨fun z => decide (z = 0)⟩

noncomputable instance : HasExp ℝ := ⟨Real.exp⟩
noncomputable instance : HasSqrt ℝ := ⟨Real.sqrt⟩
noncomputable instance : HasAbs ℝ := ⟨fun x => |x|⟩
noncomputable instance : HasPi ℝ := ⟨Real.pi⟩

@[simp] theorem hasExp_complex (z : ℂ) : HasExp.exp z = Complex.exp z := rfl
@[simp] theorem hasExp_real (x : ℝ) : HasExp.exp x = Real.exp x := rfl
@[simp] theorem hasRe_complex (z : ℂ) : HasRe.re z = (z.re : ℂ) := rfl
@[simp] theorem hasI_complex : (HasI.I : ℂ) = Complex.I := rfl
@[simp] theorem hasPi_complex : (HasPi.pi : ℂ) = (Real.pi : ℂ) := rfl

section
variable {K : Type} [Semiring K]

@[simp] theorem lit_eq (n : ℕ) : (lit n : K) = (n : K) := rfl

@[simp] theorem npow_eq (x : K) (n : ℕ) : npow x n = x ^ n := by
  induction n with
  | zero => simp [npow]
  | succ n ih => simp [npow, ih, pow_succ]

theorem list_range_map_sum {K : Type} [AddCommMonoid K] (f : ℕ → K) (n : ℕ) :
    ((List.range n).map f).sum = ∑ i ∈ Finset.range n, f i := rfl

theorem sumList_eq (l : List K) : sumList l = l.sum := List.sum_eq_foldl.symm

end

section
variable {K : Type} [DivisionRing K]
@[simp] theorem qlit_eq (p q : ℕ) : (qlit p q : K) = (p : K) / (q : K) := rfl

theorem zpowK_eq (x : K) (e : ℤ) : zpowK x e = x ^ e := by
  cases e with
  | ofNat n => simp [zpowK]
  | negSucc n => simp [zpowK, zpow_negSucc]
end

theorem foldAdd_eq {K : Type} [AddCommMonoid K] (init : K) (f : K → K) (xs : List K) :
    foldAdd init f xs = init + (xs.map f).sum := by
  unfold foldAdd
  induction xs generalizing init with
  | nil => simp
  | cons x xs ih => simp [ih, add_assoc]

end Exponax
