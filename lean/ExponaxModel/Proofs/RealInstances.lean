import Mathlib.Analysis.SpecialFunctions.Pow.Real
import Mathlib.Tactic
import ExponaxModel.Proofs.Instances
/-
Real-number interpretation of the remaining operation-only classes (`HasRpow`, `HasLtB`), the unfolding lemmas
of the `HasAbs ℝ`, `HasSqrt ℝ` instances of `Instances.lean`, and sums over a list or array as `Finset.range` sums.
-/
namespace Exponax

noncomputable instance : HasRpow ℝ := ⟨Real.rpow⟩
noncomputable instance : HasLtB ℝ := ⟨fun a b => decide (a < b)⟩

@[simp] theorem hasRpow_real (x y : ℝ) : HasRpow.rpow x y = x ^ y := rfl
@[simp] theorem hasLtB_real (x y : ℝ) : HasLtB.ltb x y = decide (x < y) := rfl
@[simp] theorem hasAbs_real (x : ℝ) : HasAbs.abs x = |x| := rfl
@[simp] theorem hasSqrt_real (x : ℝ) : HasSqrt.sqrt x = Real.sqrt x := rfl

theorem list_range_map_getD {α : Type} (l : List α) (d : α) :
    (List.range l.length).map (fun i => l.getD i d) = l := by
  apply List.ext_getElem
  · simp
  · intro i h1 h2
    simp [List.getD_eq_getElem?_getD, h2]

theorem list_sum_eq_sum_range {M : Type} [AddCommMonoid M] (l : List M) (d : M) :
    l.sum = ∑ i ∈ Finset.range l.length, l.getD i d := by
  conv_lhs => rw [← list_range_map_getD l d]
  generalize l.length = n
  induction n with
  | zero => simp
  | succ n ih => rw [List.range_succ, List.map_append, List.sum_append, ih, Finset.sum_range_succ]; simp

theorem list_map_sum_eq_sum_range {α M : Type} [AddCommMonoid M] (l : List α) (d : α) (f : α → M) :
    (l.map f).sum = ∑ i ∈ Finset.range l.length, f (l.getD i d) := by
  rw [list_sum_eq_sum_range (l.map f) (f d), List.length_map]
  apply Finset.sum_congr rfl
  intro i hi
  have hi' := Finset.mem_range.mp hi
  simp [List.getD_eq_getElem?_getD, hi']

theorem array_map_sum_eq_sum_range {α M : Type} [AddCommMonoid M] (u : Array α) (d : α) (f : α → M) :
    (u.toList.map f).sum = ∑ i ∈ Finset.range u.size, f (u.getD i d) := by
  rw [list_map_sum_eq_sum_range u.toList d f, Array.length_toList]
  apply Finset.sum_congr rfl
  intro i _
  simp [List.getD_eq_getElem?_getD, Array.getD_eq_getD_getElem?]

end Exponax
