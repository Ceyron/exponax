import ExponaxModel.Proofs.SpectralOpsEq
import ExponaxModel.Proofs.ExactLinearIndex
/-
C04 — composed coefficient extraction.

`get_fourier_coefficients(state, scaling_compensation_mode="coef_extraction", round=None)` — the REGENERATED
`Gen.SpectralOps.get_fourier_coefficients` — applied to the single plane-wave state `a·cos(2π κ·j/N + φ)`
(`ExactLinear.modeField`, `κ` strictly below Nyquist in every component), every `D ≥ 1`, `N ≥ 1`.

DERIVED SCALING.  The "coef_extraction" scaling array is a PRODUCT over the axes (`N` on an axis where the wavenumber
is 0 or Nyquist, `N/2` elsewhere), so at a stored mode with `n = nzCount D κ` non-zero wavenumber components it is
`N^D / 2^n`; the transform holds `(a/2)·N^D·e^{±iφ}`.  Hence the read-off is
   `a·e^{iφ}·2^(n−1)`  at the stored index of `κ`   (and `a·e^{−iφ}·2^(n−1)` at the stored index of `−κ`),
   `a·cos φ`           for `κ = 0` (the only self-conjugate wave vector below Nyquist),
   `0`                 at every other stored mode.
In particular the factor is `1` — the value is exactly `a·e^{iφ}` — iff the wave is axis-aligned (`n = 1`: every 1-D
mode, and e.g. `(0, k, 0)`); for an oblique plane wave it is `2^(n−1)` (2 in 2-D, up to 4 in 3-D): the product-form
scaling extracts the amplitude of TENSOR-PRODUCT modes `Π_d cos(k_d x_d)`, not of oblique plane waves.  (The
"reconstruction" scaling would give `a·e^{iφ}` resp. `(a/2)e^{iφ}` instead.)  So "the entry is a·e^{iφ}·(1/2 or 1)"
is FALSE for oblique waves in D ≥ 2 (counterexample `C04_coefficient_extraction_oblique_factor`: D = 2, κ = (1,1), the
entry is `2·a·e^{iφ}`).
-/
namespace Exponax.SmallGaps
open Exponax Exponax.Layout Exponax.Transform Exponax.DFT Exponax.Nonlin Exponax.ExactLinear
open Exponax.Gen.SpectralOps Exponax.SpectralOpsEq Finset

def nzCount (D : ℕ) (κ : List ℤ) : ℕ := (List.range D).countP (fun d => decide (κ.getD d 0 ≠ 0))

theorem nzCount_negK (D : ℕ) (κ : List ℤ) : nzCount D (negK κ) = nzCount D κ := by
  unfold nzCount
  apply List.countP_congr
  intro d _
  rw [negK_getD]
  simp

theorem nzCount_pos (D : ℕ) (κ : List ℤ) (hne : ∃ d < D, κ.getD d 0 ≠ 0) : 0 < nzCount D κ := by
  obtain ⟨d, hd, hne⟩ := hne
  unfold nzCount
  rw [List.countP_pos_iff]
  exact ⟨d, List.mem_range.mpr hd, by simpa using hne⟩

theorem nzCount_zero (D : ℕ) (κ : List ℤ) (h0 : ∀ d < D, κ.getD d 0 = 0) : nzCount D κ = 0 := by
  unfold nzCount
  rw [List.countP_eq_zero]
  intro d hd
  rw [h0 d (List.mem_range.mp hd)]
  simp

/-- the "coef_extraction" scaling at a stored mode strictly below Nyquist: `N^D / 2^(#non-zero components)` -/
theorem scaling_two_belowNyquist (D N h : ℕ) (hB : BelowNyquist D N (wnFlat D N h)) :
    (scaling D N 2 (unflatten (wavenumberShape D N) h) : ℂ) = (N : ℂ) ^ D / 2 ^ nzCount D (wnFlat D N h) := by
  rw [scaling_mode_two]
  congr 2
  unfold nzCount
  apply List.countP_congr
  intro d hd
  have hd' := List.mem_range.mp hd
  rw [← wnFlat_getD D N h d hd']
  have h2 := hB.2 d hd'
  generalize (wnFlat D N h).getD d 0 = k at h2
  simp only [Bool.not_eq_true', decide_eq_true_eq]
  rw [← Bool.not_eq_true, isSpecial_iff]
  constructor
  · intro hns hk; exact hns (Or.inl hk)
  · rintro hk (h0 | ⟨hev, hny⟩)
    · exact hk h0
    · split_ifs at hny
      all_goals
        rw [hny] at h2
        simp only [abs_neg, Nat.abs_cast] at h2
        omega

theorem get_fourier_coefficients_modeField [HasRoundTo ℂ] (D N : ℕ) (hD : 1 ≤ D) (hN : 0 < N) (κ : List ℤ)
    (hκ : BelowNyquist D N κ) (a φ : ℝ) :
    get_fourier_coefficients D N 1 (some "coef_extraction") none "ij" #[modeField D N κ a φ]
      = some (tab2 1 (numModes D N) (fun _ h =>
          (if wnFlat D N h = κ then (a / 2 : ℂ) * 2 ^ nzCount D κ * Complex.exp (φ * Complex.I) else 0)
            + (if wnFlat D N h = negK κ then (a / 2 : ℂ) * 2 ^ nzCount D κ * Complex.exp (-(φ * Complex.I))
                else 0))) := by
  rw [get_fourier_coefficients_eq D N 1 hD hN "coef_extraction" 2 (by simp [modeCodes]) none _]
  congr 1
  apply tab2_congr
  intro ch h hch hh
  have hch0 : ch = 0 := by omega
  subst hch0
  have hst : (#[modeField D N κ a φ] : MC ℂ).getD 0 #[] = modeField D N κ a φ := rfl
  have hND : ((N : ℂ) ^ D) ≠ 0 := pow_ne_zero _ (Nat.cast_ne_zero.mpr hN.ne')
  have h2n : ((2 : ℂ) ^ nzCount D κ) ≠ 0 := pow_ne_zero _ two_ne_zero
  -- the transform holds `x·N^D·e` and the scaling is `N^D / 2^n`
  have key : ∀ x e M T : ℂ, M ≠ 0 → T ≠ 0 → x * M * e / (M / T) = x * T * e := fun x e M T hM hT => by
    field_simp
  simp only [roundOpt]
  rw [hst, rfftnM_modeField D N (by omega) hN κ hκ a φ h hh, add_div, Nat.cast_pow]
  congr 1
  · split_ifs with h1
    · have hs := scaling_two_belowNyquist D N h (by rw [h1]; exact hκ)
      rw [hs, h1]
      exact key _ _ _ _ hND h2n
    · exact zero_div _
  · split_ifs with h2
    · have hs := scaling_two_belowNyquist D N h (by rw [h2]; exact hκ.negK)
      rw [hs, h2, nzCount_negK]
      exact key _ _ _ _ hND h2n
    · exact zero_div _

/-- value `a·e^{iφ}·2^(n−1)` at the stored index of `κ ≠ 0`, `a·e^{−iφ}·2^(n−1)` at the stored
    index of the conjugate partner `−κ` (stored iff `κ_last = 0`, `C04_stored_modes`), `a·cos φ` for the self-conjugate
    `κ = 0`, `0` at every other stored mode; `n = nzCount D κ` -/
theorem coef_extraction_readoff [HasRoundTo ℂ] (D N : ℕ) (hD : 1 ≤ D) (hN : 0 < N) (κ : List ℤ)
    (hκ : BelowNyquist D N κ) (a φ : ℝ) :
    ∃ out : MC ℂ,
      get_fourier_coefficients D N 1 (some "coef_extraction") none "ij" #[modeField D N κ a φ] = some out ∧
      (∀ h < numModes D N, wnFlat D N h = κ → (∃ d < D, κ.getD d 0 ≠ 0) →
        at2 out 0 h = (a : ℂ) * Complex.exp (φ * Complex.I) * 2 ^ (nzCount D κ - 1)) ∧
      (∀ h < numModes D N, wnFlat D N h = negK κ → (∃ d < D, κ.getD d 0 ≠ 0) →
        at2 out 0 h = (a : ℂ) * Complex.exp (-(φ * Complex.I)) * 2 ^ (nzCount D κ - 1)) ∧
      (∀ h < numModes D N, wnFlat D N h = κ → (∀ d < D, κ.getD d 0 = 0) →
        at2 out 0 h = ((a * Real.cos φ : ℝ) : ℂ)) ∧
      (∀ h < numModes D N, wnFlat D N h ≠ κ → wnFlat D N h ≠ negK κ → at2 out 0 h = 0) := by
  refine ⟨_, get_fourier_coefficients_modeField D N hD hN κ hκ a φ, ?_, ?_, ?_, ?_⟩
  · intro h hh hk hne
    have hnk : κ ≠ negK κ := fun he => by
      obtain ⟨d, hd, hne⟩ := hne
      exact hne ((eq_negK_iff D κ hκ.1).mp he d hd)
    rw [at2_tab2 _ _ _ _ _ (by norm_num) hh, if_pos hk, if_neg (by rw [hk]; exact hnk), add_zero,
      ← Nat.sub_add_cancel (nzCount_pos D κ hne), Nat.add_sub_cancel, pow_succ]
    ring
  · intro h hh hk hne
    have hnk : negK κ ≠ κ := fun he => by
      obtain ⟨d, hd, hne⟩ := hne
      exact hne ((eq_negK_iff D κ hκ.1).mp he.symm d hd)
    rw [at2_tab2 _ _ _ _ _ (by norm_num) hh, if_neg (by rw [hk]; exact hnk), if_pos hk, zero_add,
      ← Nat.sub_add_cancel (nzCount_pos D κ hne), Nat.add_sub_cancel, pow_succ]
    ring
  · intro h hh hk h0
    have hnk : κ = negK κ := (eq_negK_iff D κ hκ.1).mpr h0
    rw [at2_tab2 _ _ _ _ _ (by norm_num) hh, if_pos hk, if_pos (by rw [hk]; exact hnk), nzCount_zero D κ h0]
    push_cast
    rw [Complex.cos]
    ring_nf
  · intro h hh h1 h2
    rw [at2_tab2 _ _ _ _ _ (by norm_num) hh, if_neg h1, if_neg h2, add_zero]

example : BelowNyquist 2 8 [1, 1] ∧ nzCount 2 [1, 1] = 2 ∧ (∃ d < 2, ([1, 1] : List ℤ).getD d 0 ≠ 0) :=
  ⟨⟨rfl, by intro d hd; interval_cases d <;> simp⟩, by decide, 0, by norm_num, by decide⟩

example : nzCount 3 [0, 2, 0] = 1 ∧ BelowNyquist 3 8 [0, 2, 0] :=
  ⟨by decide, rfl, by intro d hd; interval_cases d <;> simp⟩

end Exponax.SmallGaps
