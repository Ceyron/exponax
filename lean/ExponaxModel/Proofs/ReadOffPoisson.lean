import ExponaxModel.Proofs.ReadOffND
import ExponaxModel.Proofs.SpectralOpsEq
/-
C05 — the Poisson solver of order 4 in physical space (`C05_poisson4_physical` and the theorems here), and the
regenerated `Poisson.step` of every even order: the cases `n = 2` resp. the channel-wise form of the even-order theorems
of `ReadOffND`.
-/
namespace Exponax.SmallGaps2
open Exponax Exponax.Layout Exponax.Transform Exponax.DFT Exponax.ExactLinear Exponax.ReadOff Finset
open Exponax.Nonlin (Cfg laplace poissonStep MC tabC)

/-- the gain of the order-4 solve: `−1/(s⁴ Σ_d κ_d⁴)`, and `0` at `κ = 0` -/
noncomputable def poissonGain4 (D : ℕ) (s : ℝ) (κ : List ℤ) : ℝ :=
  if kappaPow D 4 κ = 0 then 0 else -(1 / (s ^ 4 * (kappaPow D 4 κ : ℝ)))

noncomputable def poissonModes4 (D : ℕ) (s : ℝ) (ms : Modes) : Modes :=
  ms.map (fun q => (q.1, q.2.1 * poissonGain4 D s q.1, q.2.2))

theorem gainEven_two (D : ℕ) (s : ℝ) (κ : List ℤ) : gainEven D s 2 κ = poissonGain4 D s κ := by
  unfold gainEven poissonGain4
  norm_num

theorem poissonModesEven_two (D : ℕ) (s : ℝ) (ms : Modes) : poissonModesEven D s 2 ms = poissonModes4 D s ms := by
  unfold poissonModesEven poissonModes4
  simp only [gainEven_two]

/-- the order-4 solve solves `Σ_d ∂_d⁴ u = −f` (as `C05_poisson_solves` for order 2): the model's order-4 operator
    applied to the solution returns `−f` for one mode `κ ≠ 0`; and the mean coefficient of the output vanishes -/
theorem poisson4_solves (c : Cfg ℂ) (s : ℝ) (hs : c.s = (s : ℂ)) (hs0 : s ≠ 0) (hD : 0 < c.D) (hN : 0 < c.N)
    (κ : List ℤ) (hκ : BelowNyquist c.D c.N κ) (hne : ∃ d < c.D, κ.getD d 0 ≠ 0) (a φ : ℝ) (fh : Array ℂ) :
    specApply c.D c.N (laplace c 4) (irfftnM c.D c.N
        (poissonSpec c 4 (rfftnM c.D c.N (modeField c.D c.N κ a φ)))) =
      modeField c.D c.N κ (-a) φ ∧ (poissonSpec c 4 fh).getD 0 0 = 0 :=
  ⟨poisson_even_solves_mode c s hs hs0 hD hN 2 (by norm_num) κ hκ hne a φ, poissonSpec_mean_zero c 4 (by norm_num) fh⟩

/-- the same for a whole right-hand side: `Σ_d ∂_d⁴ u = −(f − mean f)` -/
theorem poisson4_solves_stateOf (c : Cfg ℂ) (s : ℝ) (hs : c.s = (s : ℂ)) (hs0 : s ≠ 0) (hD : 0 < c.D)
    (hN : 0 < c.N) (ms : Modes) (hms : ∀ q ∈ ms, BelowNyquist c.D c.N q.1) :
    specApply c.D c.N (laplace c 4)
        (irfftnM c.D c.N (poissonSpec c 4 (rfftnM c.D c.N (stateOf c.D c.N ms))))
      = stateOf c.D c.N (negOffMean c.D 4 ms) :=
  poisson_even_solves c s hs hs0 hD hN 2 (by norm_num) ms hms

/-- the order-4 symbol is the sum of the pure fourth derivatives computed by `derivativeM` -/
theorem laplace4_symbol_eq_sum_deriv (c : Cfg ℂ) (h : ℕ) :
    laplace c 4 h = ∑ d ∈ range c.D, npow (Nonlin.deriv c d h) 4 := by
  rw [Exponax.laplace_eq_sum c h 4 (by norm_num)]
  simp only [npow_eq]

open Exponax.SpectralOpsEq Exponax.Gen.SpectralOps

/-- **generated `Poisson(D, L, N, order = 2n).step(f)`** on `C` channels of Nyquist-free right-hand sides -/
theorem generated_poisson_even_physical (D N C n : ℕ) (hn : 1 ≤ n) (hD : 1 ≤ D) (hN : 0 < N) (L : ℝ) (hL : L ≠ 0)
    (f : MC ℂ) (ms : ℕ → Modes) (hms : ∀ ch < C, ∀ q ∈ ms ch, BelowNyquist D N q.1)
    (hf : ∀ ch < C, f.getD ch #[] = stateOf D N (ms ch)) :
    Poisson_step D N C (L : ℂ) (2 * n) f
      = tabC C (fun ch => stateOf D N (poissonModesEven D (2 * Real.pi / L) n (ms ch))) := by
  rw [Poisson_step_eq D N C hD hN]
  apply Exponax.Nonlin.tabC_congr
  intro ch hch
  rw [hf ch hch]
  have hs0 : 2 * Real.pi / L ≠ 0 := div_ne_zero (mul_ne_zero two_ne_zero Real.pi_ne_zero) hL
  exact poisson_even_stateOf (cfg D N (L : ℂ)) (2 * Real.pi / L) (cfg_s_real D N L) hs0 hD hN n hn (ms ch)
    (hms ch hch)

/-- **generated `Poisson(D, L, N, order = 4).step(f)`** on `C` channels of Nyquist-free right-hand sides -/
theorem generated_poisson4_physical (D N C : ℕ) (hD : 1 ≤ D) (hN : 0 < N) (L : ℝ) (hL : L ≠ 0) (f : MC ℂ)
    (ms : ℕ → Modes) (hms : ∀ ch < C, ∀ q ∈ ms ch, BelowNyquist D N q.1)
    (hf : ∀ ch < C, f.getD ch #[] = stateOf D N (ms ch)) :
    Poisson_step D N C (L : ℂ) 4 f
      = tabC C (fun ch => stateOf D N (poissonModes4 D (2 * Real.pi / L) (ms ch))) := by
  have h := generated_poisson_even_physical D N C 2 (by norm_num) hD hN L hL f ms hms hf
  simp only [poissonModesEven_two] at h
  exact h

example : ∃ (c : Cfg ℂ) (s : ℝ) (κ : List ℤ), c.s = (s : ℂ) ∧ s ≠ 0 ∧ 0 < c.D ∧ 0 < c.N ∧
    BelowNyquist c.D c.N κ ∧ ∃ d < c.D, κ.getD d 0 ≠ 0 :=
  ⟨⟨2, 5, ((3 : ℝ) : ℂ), 2, 3⟩, 3, [2, -1], rfl, by norm_num, by norm_num, by norm_num,
    ⟨rfl, by intro d hd; interval_cases d <;> simp⟩, 0, by norm_num, by decide⟩
example : ∀ q ∈ ([([1, 1], 2, 0.5), ([-1, 0], 1, 0)] : Modes), BelowNyquist 2 4 q.1 := by
  intro q hq
  simp only [List.mem_cons, List.mem_nil_iff, or_false] at hq
  rcases hq with rfl | rfl
  · exact ⟨rfl, by intro d hd; interval_cases d <;> simp⟩
  · exact ⟨rfl, by intro d hd; interval_cases d <;> simp⟩
/-- the gain at `κ = (1, 1)`, `s = 1`: `−1/2` (order 4) versus `+1/2` (order 2) -/
example : poissonGain4 2 1 [1, 1] = -(1 / 2) ∧ poissonGain 2 1 [1, 1] = 1 / 2 := by
  constructor
  · unfold poissonGain4 kappaPow; norm_num [Finset.sum_range_succ]
  · unfold poissonGain kappaSq; norm_num [Finset.sum_range_succ]

end Exponax.SmallGaps2
