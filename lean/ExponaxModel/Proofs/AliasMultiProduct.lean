import ExponaxModel.Proofs.AliasND
import ExponaxModel.Proofs.AliasConv
/-
C03 in `D` variables, abstract part: trigonometric (Laurent) polynomials given by coefficient families on the box
`|p_d| ≤ K`.  The product of two is the polynomial of the LINEAR convolution `conv` (`trigEval_mul`); sampling on the `N^D`
grid and transforming collects every coefficient congruent to `k` modulo `N` (`dftV_sampleTP`, the aliasing formula), so
for `3K < N` the transform of a sampled product returns the product's coefficients on the band (`dftV_sampleTP_mul`).
-/
namespace Exponax.AliasMulti
open Exponax Exponax.Layout Exponax.Transform Exponax.DFT Exponax.AliasND Finset

noncomputable def mono {D : ℕ} (z : Fin D → ℂ) (p : Fin D → ℤ) : ℂ := ∏ d, z d ^ p d

theorem mono_add {D : ℕ} (z : Fin D → ℂ) (hz : ∀ d, z d ≠ 0) (p q : Fin D → ℤ) :
    mono z (p + q) = mono z p * mono z q := by
  unfold mono
  rw [← Finset.prod_mul_distrib]
  apply Finset.prod_congr rfl
  intro d _
  rw [Pi.add_apply, zpow_add₀ (hz d)]

noncomputable def trigEval {D : ℕ} (K : ℤ) (F : (Fin D → ℤ) → ℂ) (z : Fin D → ℂ) : ℂ :=
  ∑ p ∈ box D K, F p * mono z p

noncomputable def conv {D : ℕ} (K L : ℤ) (F G : (Fin D → ℤ) → ℂ) (k : Fin D → ℤ) : ℂ :=
  ∑ p ∈ box D K, truncV K F p * truncV L G (k - p)

noncomputable def conv3 {D : ℕ} (K : ℤ) (F G H : (Fin D → ℤ) → ℂ) (k : Fin D → ℤ) : ℂ :=
  ∑ a ∈ box D K, ∑ b ∈ box D K, truncV K F a * truncV K G b * truncV K H (k - a - b)

theorem linConv_eq_conv (D N : ℕ) (K : ℤ) (F G : (Fin D → ℤ) → ℂ) (k : Fin D → ℤ) :
    linConv D N K F G k = (1 / ((N ^ D : ℕ) : ℂ)) * conv K K F G k := rfl

theorem linConv3_eq_conv3 (D N : ℕ) (K : ℤ) (F G H : (Fin D → ℤ) → ℂ) (k : Fin D → ℤ) :
    linConv3 D N K F G H k = (1 / ((N ^ D : ℕ) : ℂ)) ^ 2 * conv3 K F G H k := rfl

theorem conv_eq_pairs {D : ℕ} (K : ℤ) (F G : (Fin D → ℤ) → ℂ) (k : Fin D → ℤ) :
    conv K K F G k = ∑ pq ∈ (box D K ×ˢ box D K).filter (fun pq => pq.1 + pq.2 = k), F pq.1 * G pq.2 :=
  sum_box_trunc_eq_pairs K F G k

/-- re-indexing `r = p + q`: the sum over the big box of a shifted truncation is the sum over the small box -/
theorem sum_box_shift {D : ℕ} (K L : ℤ) (p : Fin D → ℤ) (hp : ∀ d, |p d| ≤ K) (φ ψ : (Fin D → ℤ) → ℂ) :
    ∑ r ∈ box D (K + L), truncV L φ (r - p) * ψ r = ∑ q ∈ box D L, φ q * ψ (p + q) := by
  have h1 : ∑ q ∈ box D L, φ q * ψ (p + q)
      = ∑ r ∈ (box D L).map (addLeftEmbedding p), truncV L φ (r - p) * ψ r := by
    rw [Finset.sum_map]
    apply Finset.sum_congr rfl
    intro q hq
    rw [addLeftEmbedding_apply, add_sub_cancel_left, truncV_of_le _ _ _ (mem_box.mp hq)]
  rw [h1]
  symm
  apply Finset.sum_subset
  · intro r hr
    rw [Finset.mem_map] at hr
    obtain ⟨q, hq, rfl⟩ := hr
    rw [mem_box]
    intro d
    have hqd := mem_box.mp hq d
    rw [addLeftEmbedding_apply, Pi.add_apply]
    exact (abs_add_le _ _).trans (add_le_add (hp d) hqd)
  · intro r _ hr
    rw [truncV_of_not, zero_mul]
    intro hb
    apply hr
    rw [Finset.mem_map]
    exact ⟨r - p, mem_box.mpr hb, by rw [addLeftEmbedding_apply, add_sub_cancel]⟩

theorem trigEval_mul {D : ℕ} (K L : ℤ) (F G : (Fin D → ℤ) → ℂ) (z : Fin D → ℂ) (hz : ∀ d, z d ≠ 0) :
    trigEval K F z * trigEval L G z = trigEval (K + L) (conv K L F G) z := by
  unfold trigEval conv
  rw [Finset.sum_mul_sum]
  have hR : ∑ r ∈ box D (K + L), (∑ p ∈ box D K, truncV K F p * truncV L G (r - p)) * mono z r
      = ∑ p ∈ box D K, ∑ r ∈ box D (K + L), truncV K F p * (truncV L G (r - p) * mono z r) := by
    rw [Finset.sum_comm]
    apply Finset.sum_congr rfl
    intro r _
    rw [Finset.sum_mul]
    exact Finset.sum_congr rfl (fun p _ => mul_assoc _ _ _)
  rw [hR]
  apply Finset.sum_congr rfl
  intro p hp
  have hp' := mem_box.mp hp
  have hS : ∑ r ∈ box D (K + L), truncV K F p * (truncV L G (r - p) * mono z r)
      = F p * ∑ q ∈ box D L, G q * mono z (p + q) := by
    rw [← Finset.mul_sum, sum_box_shift K L p hp' G (mono z), truncV_of_le _ _ _ hp']
  rw [hS, Finset.mul_sum]
  apply Finset.sum_congr rfl
  intro q _
  rw [mono_add z hz]
  ring

theorem conv_conv_eq_conv3 {D : ℕ} (K : ℤ) (F G H : (Fin D → ℤ) → ℂ) (k : Fin D → ℤ) :
    conv (K + K) K (conv K K F G) H k = conv3 K F G H k := by
  unfold conv3
  have h1 : conv (K + K) K (conv K K F G) H k
      = ∑ r ∈ box D (K + K), ∑ a ∈ box D K, truncV K F a * (truncV K G (r - a) * truncV K H (k - r)) := by
    unfold conv
    apply Finset.sum_congr rfl
    intro r hr
    rw [truncV_of_le _ _ _ (mem_box.mp hr), Finset.sum_mul]
    exact Finset.sum_congr rfl (fun a _ => mul_assoc _ _ _)
  rw [h1, Finset.sum_comm]
  apply Finset.sum_congr rfl
  intro a ha
  have ha' := mem_box.mp ha
  have hS : ∑ r ∈ box D (K + K), truncV K F a * (truncV K G (r - a) * truncV K H (k - r))
      = truncV K F a * ∑ b ∈ box D K, G b * truncV K H (k - (a + b)) := by
    rw [← Finset.mul_sum, sum_box_shift K K a ha' G (fun r => truncV K H (k - r))]
  rw [hS, Finset.mul_sum]
  apply Finset.sum_congr rfl
  intro b hb
  rw [truncV_of_le _ _ _ (mem_box.mp hb), sub_sub, mul_assoc]

theorem mono_cst (z : ℂ) (m : ℤ) : mono (fun _ : Fin 1 => z) (Alias.cst 1 m) = z ^ m :=
  Fin.prod_univ_one _

theorem trigEval_mul3 {D : ℕ} (K : ℤ) (F G H : (Fin D → ℤ) → ℂ) (z : Fin D → ℂ) (hz : ∀ d, z d ≠ 0) :
    trigEval K F z * trigEval K G z * trigEval K H z = trigEval (K + K + K) (conv3 K F G H) z := by
  rw [trigEval_mul K K F G z hz, trigEval_mul (K + K) K _ H z hz]
  unfold trigEval
  exact Finset.sum_congr rfl (fun r _ => by rw [conv_conv_eq_conv3])

/-- grid point `j` (flat index, digits `j_d`) as a point of the torus: `z_d = e^{2πi j_d/N} = ζ_N^{-j_d}` -/
noncomputable def gridZ (D N j : ℕ) : Fin D → ℂ := fun d => zeta N ^ (-(digit D N j d : ℤ))

theorem gridZ_ne_zero (D N j : ℕ) (d : Fin D) : gridZ D N j d ≠ 0 := zpow_ne_zero _ (zeta_ne_zero N)

theorem norm_gridZ (D N j : ℕ) (d : Fin D) : ‖gridZ D N j d‖ = 1 := by
  unfold gridZ
  rw [norm_zpow, norm_zeta, one_zpow]

theorem mono_gridZ (D N j : ℕ) (p : Fin D → ℤ) : mono (gridZ D N j) p = zeta N ^ (-(vdot D N p j)) := by
  unfold mono gridZ vdot
  rw [← Finset.sum_neg_distrib, zeta_zpow_sum]
  apply Finset.prod_congr rfl
  intro d _
  rw [← zpow_mul]
  congr 1
  ring

noncomputable def sampleTP (D N : ℕ) (K : ℤ) (F : (Fin D → ℤ) → ℂ) : Array ℂ :=
  tab (N ^ D) fun j => trigEval K F (gridZ D N j)

theorem sampleTP_getD (D N : ℕ) (K : ℤ) (F : (Fin D → ℤ) → ℂ) (j : ℕ) (hj : j < N ^ D) :
    (sampleTP D N K F).getD j 0 = trigEval K F (gridZ D N j) := DFT.tab_getD _ _ _ _ hj

theorem dftV_sampleTP (D N : ℕ) (hN : 0 < N) (K : ℤ) (F : (Fin D → ℤ) → ℂ) (k : Fin D → ℤ) :
    dftV D N (sampleTP D N K F) k
      = ((N ^ D : ℕ) : ℂ) * ∑ p ∈ box D K, if (∀ d, (N : ℤ) ∣ k d - p d) then F p else 0 := by
  unfold sampleTP trigEval
  rw [dftV_tab]
  simp only [Finset.sum_mul]
  rw [Finset.sum_comm, Finset.mul_sum]
  apply Finset.sum_congr rfl
  intro p _
  have h1 : ∀ j ∈ range (N ^ D), F p * mono (gridZ D N j) p * zeta N ^ vdot D N k j
      = F p * zeta N ^ vdot D N (k - p) j := by
    intro j _
    rw [mono_gridZ, mul_assoc, ← zpow_add₀ (zeta_ne_zero N), vdot_sub]
    congr 2
    ring
  rw [Finset.sum_congr rfl h1, ← Finset.mul_sum, sum_zeta_vdot D N hN]
  simp only [Pi.sub_apply]
  split_ifs <;> ring

theorem sampleTP_bandLimitedV (D N : ℕ) (hN : 0 < N) (K : ℤ) (F : (Fin D → ℤ) → ℂ) :
    BandLimitedV D N K (sampleTP D N K F) := by
  intro a ha
  rw [dftV_sampleTP D N hN]
  rw [Finset.sum_eq_zero, mul_zero]
  intro p hp
  rw [if_neg]
  intro hd
  exact ha ⟨p, mem_box.mp hp, hd⟩

theorem dftV_sampleTP_box (D N : ℕ) (hN : 0 < N) (K L : ℤ) (hKL : K + L < (N : ℤ)) (F : (Fin D → ℤ) → ℂ)
    (k : Fin D → ℤ) (hk : ∀ d, |k d| ≤ L) :
    dftV D N (sampleTP D N K F) k = ((N ^ D : ℕ) : ℂ) * truncV K F k := by
  rw [dftV_sampleTP D N hN]
  congr 1
  -- a coefficient of the box congruent to `k` sits at `k` itself: `|k_d − p_d| ≤ L + K < N`
  have h1 : ∀ p ∈ box D K, (if (∀ d, (N : ℤ) ∣ k d - p d) then F p else 0) = if p = k then F p else 0 := by
    intro p hp
    refine if_congr ⟨fun hd => funext fun d => ?_, fun e d => ?_⟩ rfl rfl
    · have hlt : |k d - p d| < (N : ℤ) :=
        ((abs_sub _ _).trans (add_le_add (hk d) (mem_box.mp hp d))).trans_lt (by omega)
      exact (eq_of_dvd_sub_of_abs_lt (hd d) hlt).symm
    · rw [e, sub_self]
      exact dvd_zero _
  rw [Finset.sum_congr rfl h1, Finset.sum_ite_eq']
  unfold truncV
  exact if_congr mem_box rfl rfl

theorem trigEval_coeff_unique {D : ℕ} (K : ℤ) (A B : (Fin D → ℤ) → ℂ)
    (h : ∀ z : Fin D → ℂ, (∀ d, ‖z d‖ = 1) → trigEval K A z = trigEval K B z)
    (k : Fin D → ℤ) (hk : ∀ d, |k d| ≤ K) : A k = B k := by
  set N : ℕ := (2 * |K| + 1).toNat with hNdef
  have hN : 0 < N := by
    have := abs_nonneg K
    rw [hNdef]
    omega
  have hNK : K + K < (N : ℤ) := by
    rw [hNdef, Int.toNat_of_nonneg (by positivity)]
    have := le_abs_self K
    omega
  have hs : sampleTP D N K A = sampleTP D N K B := by
    unfold sampleTP
    exact Nonlin.tab_congr _ _ _ (fun j _ => h _ (norm_gridZ D N j))
  have hA := dftV_sampleTP_box D N hN K K hNK A k hk
  have hB := dftV_sampleTP_box D N hN K K hNK B k hk
  rw [hs, hB, truncV_of_le _ _ _ hk, truncV_of_le _ _ _ hk] at hA
  have hne : ((N ^ D : ℕ) : ℂ) ≠ 0 := by exact_mod_cast (pow_pos hN D).ne'
  exact (mul_left_cancel₀ hne hA).symm

theorem sampleTP_mul (D N : ℕ) (K L : ℤ) (F G : (Fin D → ℤ) → ℂ) :
    (tab (N ^ D) fun j => (sampleTP D N K F).getD j 0 * (sampleTP D N L G).getD j 0)
      = sampleTP D N (K + L) (conv K L F G) := by
  unfold sampleTP
  apply Nonlin.tab_congr
  intro j hj
  rw [DFT.tab_getD _ _ _ _ hj, DFT.tab_getD _ _ _ _ hj, trigEval_mul K L F G _ (gridZ_ne_zero D N j)]

theorem sampleTP_mul3 (D N : ℕ) (K : ℤ) (F G H : (Fin D → ℤ) → ℂ) :
    (tab (N ^ D) fun j => (sampleTP D N K F).getD j 0 * (sampleTP D N K G).getD j 0
        * (sampleTP D N K H).getD j 0)
      = sampleTP D N (K + K + K) (conv3 K F G H) := by
  unfold sampleTP
  apply Nonlin.tab_congr
  intro j hj
  rw [DFT.tab_getD _ _ _ _ hj, DFT.tab_getD _ _ _ _ hj, DFT.tab_getD _ _ _ _ hj,
    trigEval_mul3 K F G H _ (gridZ_ne_zero D N j)]

theorem dftV_sampleTP_mul_aliased (D N : ℕ) (hN : 0 < N) (K : ℤ) (F G : (Fin D → ℤ) → ℂ) (k : Fin D → ℤ) :
    dftV D N (tab (N ^ D) fun j => (sampleTP D N K F).getD j 0 * (sampleTP D N K G).getD j 0) k
      = ((N ^ D : ℕ) : ℂ) * ∑ r ∈ box D (K + K),
          if (∀ d, (N : ℤ) ∣ k d - r d) then conv K K F G r else 0 := by
  rw [sampleTP_mul, dftV_sampleTP D N hN]

theorem box_le_add {D : ℕ} {K L : ℤ} {k : Fin D → ℤ} (hK : ∀ d, |k d| ≤ K) (hL : ∀ d, |k d| ≤ L) (d : Fin D) :
    |k d| ≤ K + L :=
  (hK d).trans (le_add_of_nonneg_right ((abs_nonneg _).trans (hL d)))

theorem dftV_sampleTP_mul (D N : ℕ) (hN : 0 < N) (K : ℤ) (hK : 3 * K < (N : ℤ)) (F G : (Fin D → ℤ) → ℂ)
    (k : Fin D → ℤ) (hk : ∀ d, |k d| ≤ K) :
    dftV D N (tab (N ^ D) fun j => (sampleTP D N K F).getD j 0 * (sampleTP D N K G).getD j 0) k
      = ((N ^ D : ℕ) : ℂ) * conv K K F G k := by
  rw [sampleTP_mul, dftV_sampleTP_box D N hN (K + K) K (by omega) _ k hk,
    truncV_of_le _ _ _ (box_le_add hk hk)]

theorem dftV_sampleTP_mul_full (D N : ℕ) (hN : 0 < N) (K : ℤ) (hK : 4 * K < (N : ℤ)) (F G : (Fin D → ℤ) → ℂ)
    (k : Fin D → ℤ) (hk : ∀ d, |k d| ≤ K + K) :
    dftV D N (tab (N ^ D) fun j => (sampleTP D N K F).getD j 0 * (sampleTP D N K G).getD j 0) k
      = ((N ^ D : ℕ) : ℂ) * conv K K F G k := by
  rw [sampleTP_mul, dftV_sampleTP_box D N hN (K + K) (K + K) (by omega) _ k hk, truncV_of_le _ _ _ hk]

theorem dftV_sampleTP_mul3 (D N : ℕ) (hN : 0 < N) (K : ℤ) (hK : 4 * K < (N : ℤ)) (F G H : (Fin D → ℤ) → ℂ)
    (k : Fin D → ℤ) (hk : ∀ d, |k d| ≤ K) :
    dftV D N (tab (N ^ D) fun j => (sampleTP D N K F).getD j 0 * (sampleTP D N K G).getD j 0
        * (sampleTP D N K H).getD j 0) k
      = ((N ^ D : ℕ) : ℂ) * conv3 K F G H k := by
  rw [sampleTP_mul3, dftV_sampleTP_box D N hN (K + K + K) K (by omega) _ k hk,
    truncV_of_le _ _ _ (box_le_add (box_le_add hk hk) hk)]

example : ∃ (D N : ℕ) (K : ℤ) (k : Fin D → ℤ), 0 < N ∧ 3 * K < (N : ℤ) ∧ 0 < K ∧ (∀ d, |k d| ≤ K) :=
  ⟨2, 8, 2, fun _ => 1, by decide, by decide, by decide, fun _ => by show |(1 : ℤ)| ≤ 2; decide⟩

example : ∃ (D N : ℕ) (K : ℤ) (k : Fin D → ℤ), 0 < N ∧ 4 * K < (N : ℤ) ∧ 0 < K ∧ (∀ d, |k d| ≤ K + K) :=
  ⟨3, 9, 2, fun _ => 4, by decide, by decide, by decide, fun _ => by show |(4 : ℤ)| ≤ 2 + 2; decide⟩

example : ∃ (D N : ℕ) (K : ℤ) (h : ℕ), 0 < N ∧ 3 * K < (N : ℤ) ∧ 0 < K ∧ h < numModes D N ∧ 0 < h ∧
    ∀ d, |kvec D N h d| ≤ K :=
  ⟨2, 8, 2, 1, by decide, by decide, by decide, by decide, by decide, by decide⟩

example : ∃ (D : ℕ) (z : Fin D → ℂ), 0 < D ∧ (∀ d, z d ≠ 0) ∧ ∀ d, ‖z d‖ = 1 :=
  ⟨3, fun _ => 1, by decide, fun _ => one_ne_zero, fun _ => norm_one⟩

end Exponax.AliasMulti
