import ExponaxModel.Proofs.SpectralLayoutEq
import ExponaxModel.Generated.GuardsGen
import ExponaxModel.Model.Guards
import ExponaxModel.Model.Guards2
/-
The decision logic of the input / configuration guards (C20), tied to the source by translation.
`Generated/GuardsGen.lean` is regenerated by `harness/translate_guards.py` from every function under `exponax/`
that contains a `raise`: `Gen.Guards.<Owner>_<function>_accepts` is `true` exactly when no raise site of that
function is reached.  Each regenerated predicate is proved equal to the documented predicate of `Model/Guards.lean`
or `Model/Guards2.lean`, with its "accepted ⇒ well-formed" consequence.  The list of guarded functions is fixed by
`rfl`: a guard that is deleted or added breaks the build.  The theorems at the end state where the model or the
documentation and the source disagree.
-/
namespace Exponax
open Exponax.Layout Exponax.Guards Exponax.Gen.Guards

theorem generated_guards_eq : generated_guards =
    [("BaseNonlinearFun.dealias", 1),
     ("BaseRandomICGenerator.gen_ic_fun", 1),
     ("BaseStepper.__call__", 1),
     ("BaseStepper.__init__", 2),
     ("BelousovZhabotinskyNonlinearFun.__call__", 1),
     ("ConvectionNonlinearFun._multi_channel_conservative_eval", 1),
     ("ConvectionNonlinearFun._multi_channel_nonconservative_eval", 1),
     ("Discontinuities.__init__", 2),
     ("ForcedStepper.__call__", 2),
     ("GaussianBlob.__call__", 1),
     ("GeneralNonlinearFun.__init__", 1),
     ("GeneralNonlinearStepper.__init__", 1),
     ("GeneralVorticityConvectionStepper.__init__", 1),
     ("GrayScottNonlinearFun.__call__", 1),
     ("KolmogorovFlowVelocity.__init__", 1),
     ("KolmogorovFlowVorticity.__init__", 1),
     ("NavierStokesVelocity.__init__", 1),
     ("NavierStokesVorticity.__init__", 1),
     ("Poisson.__call__", 1),
     ("ProjectedConvection3d.__init__", 1),
     ("RandomDiscontinuities.__init__", 2),
     ("RandomSineWaves1d.__init__", 3),
     ("RepeatedStepper.__call__", 1),
     ("SineWaves1d.__call__", 1),
     ("SineWaves1d.__init__", 3),
     ("VorticityConvection2d.__init__", 1),
     ("animate_spatio_temporal", 1),
     ("animate_spatio_temporal_2d", 1),
     ("animate_spatio_temporal_2d_facet", 1),
     ("animate_spatio_temporal_facet", 3),
     ("animate_state_1d_facet", 1),
     ("animate_state_2d", 1),
     ("animate_state_2d_facet", 2),
     ("animate_state_3d", 1),
     ("animate_state_3d_facet", 2),
     ("build_gradient_inner_product_operator", 2),
     ("build_laplace_operator", 1),
     ("build_scaling_array", 1),
     ("fourier_norm", 1),
     ("ifft", 1),
     ("make_incompressible", 1),
     ("plot_spatio_temporal", 1),
     ("plot_spatio_temporal_2d", 1),
     ("plot_spatio_temporal_2d_facet", 2),
     ("plot_spatio_temporal_facet", 2),
     ("plot_state_1d", 1),
     ("plot_state_1d_facet", 1),
     ("plot_state_2d", 1),
     ("plot_state_2d_facet", 2),
     ("plot_state_3d", 1),
     ("plot_state_3d_facet", 2),
     ("spatial_norm", 2),
     ("stack_sub_trajectories", 2),
     ("validate_normalization_options", 2),
     ("volume_render_state_3d", 2),
     ("zigzag_alpha", 1)] := rfl

/-- 76 `ValueError` / `NotImplementedError` / `TypeError` sites and one `ImportError` -/
theorem generated_raise_sites_eq : generated_raise_sites = 77 := rfl

theorem generated_delegations_eq : generated_delegations =
    [("ConvectionNonlinearFun.__call__",
        ["ConvectionNonlinearFun._multi_channel_conservative_eval",
         "ConvectionNonlinearFun._multi_channel_nonconservative_eval"]),
     ("DiffusedNoise.__init__", ["validate_normalization_options"]),
     ("GaussianRandomField.__init__", ["validate_normalization_options"]),
     ("RandomTruncatedFourierSeries.__init__", ["validate_normalization_options"])] := rfl

/-- the four classes with the stepper protocol: every `__call__` is guarded (`ForcedStepper`: state and forcing) -/
theorem stepper_call_guards_eq : stepper_call_guards =
    [("BaseStepper", 1), ("ForcedStepper", 2), ("Poisson", 1), ("RepeatedStepper", 1)] := rfl

private theorem not_bne {α : Type} [BEq α] (a b : α) : (!(a != b)) = (a == b) := by
  simp [bne]

theorem BaseStepper_call_accepts_eq (C D N : Nat) (shape : List Nat) :
    BaseStepper_call_accepts D N C shape = acceptsShape C D N shape := by
  simp only [BaseStepper_call_accepts, not_bne, acceptsShape, Gen.SpectralLayout.spatial_shape, spatialShape,
    List.singleton_append]

theorem BaseStepper_call_accepts_iff (C D N : Nat) (shape : List Nat) :
    BaseStepper_call_accepts D N C shape = true ↔ shape = C :: List.replicate D N := by
  rw [BaseStepper_call_accepts_eq]
  exact acceptsShape_iff C D N shape

theorem BaseStepper_call_accepted_shape (C D N : Nat) (shape : List Nat)
    (h : BaseStepper_call_accepts D N C shape = true) :
    shape.length = D + 1 ∧ shape.head? = some C ∧ ∀ n ∈ shape.tail, n = N := by
  rw [BaseStepper_call_accepts_iff] at h
  subst h
  refine ⟨by simp, rfl, ?_⟩
  intro n hn
  exact List.eq_of_mem_replicate hn

/-- `RepeatedStepper.__call__` makes the same check (on the attributes copied from the inner stepper) -/
theorem RepeatedStepper_call_accepts_eq (C D N : Nat) (shape : List Nat) :
    RepeatedStepper_call_accepts D N C shape = acceptsShape C D N shape := by
  simp only [RepeatedStepper_call_accepts, not_bne, acceptsShape, Gen.SpectralLayout.spatial_shape, spatialShape,
    List.singleton_append]

theorem RepeatedStepper_call_accepts_eq_base (C D N : Nat) (shape : List Nat) :
    RepeatedStepper_call_accepts D N C shape = BaseStepper_call_accepts D N C shape := by
  rw [RepeatedStepper_call_accepts_eq, BaseStepper_call_accepts_eq]

theorem RepeatedStepper_call_accepts_iff (C D N : Nat) (shape : List Nat) :
    RepeatedStepper_call_accepts D N C shape = true ↔ shape = C :: List.replicate D N := by
  rw [RepeatedStepper_call_accepts_eq_base, BaseStepper_call_accepts_iff]

/-- `ForcedStepper.__call__(u, f)` makes the check of the wrapped stepper (`self.stepper.num_spatial_dims`,
    `.num_points`, `.num_channels`) on the state AND on the forcing -/
theorem ForcedStepper_call_accepts_eq (D N C : Nat) (us fs : List Nat) :
    ForcedStepper_call_accepts D N C us fs = (acceptsShape C D N us && acceptsShape C D N fs) := by
  simp only [ForcedStepper_call_accepts, not_bne, acceptsShape, Gen.SpectralLayout.spatial_shape, spatialShape,
    List.singleton_append]

theorem ForcedStepper_call_accepts_iff (D N C : Nat) (us fs : List Nat) :
    ForcedStepper_call_accepts D N C us fs = true ↔
      us = C :: List.replicate D N ∧ fs = C :: List.replicate D N := by
  rw [ForcedStepper_call_accepts_eq, Bool.and_eq_true, acceptsShape_iff, acceptsShape_iff]

theorem ForcedStepper_call_accepts_eq_base (D N C : Nat) (us fs : List Nat) :
    ForcedStepper_call_accepts D N C us fs =
      (BaseStepper_call_accepts D N C us && BaseStepper_call_accepts D N C fs) := by
  rw [ForcedStepper_call_accepts_eq, BaseStepper_call_accepts_eq, BaseStepper_call_accepts_eq]

theorem ForcedStepper_call_accepts_self (D N C : Nat) (us : List Nat) :
    ForcedStepper_call_accepts D N C us us = BaseStepper_call_accepts D N C us := by
  rw [ForcedStepper_call_accepts_eq_base, Bool.and_self]

/-- no broadcasting of the forcing against the state: any other shape of either is rejected -/
theorem ForcedStepper_call_rejects (D N C : Nat) (us fs : List Nat)
    (h : us ≠ C :: List.replicate D N ∨ fs ≠ C :: List.replicate D N) :
    ForcedStepper_call_accepts D N C us fs = false := by
  rw [← Bool.not_eq_true, ForcedStepper_call_accepts_iff]
  rcases h with h | h
  · exact fun hh => h hh.1
  · exact fun hh => h hh.2

/-- `Poisson.__call__` checks only the spatial part of the shape -/
theorem Poisson_call_accepts_eq (shape : List Nat) (D N : Nat) :
    Poisson_call_accepts D N shape = acceptsPoisson D N shape := by
  simp only [Poisson_call_accepts, not_bne, acceptsPoisson, Gen.SpectralLayout.spatial_shape, spatialShape]

theorem Poisson_call_accepts_iff (shape : List Nat) (D N : Nat) :
    Poisson_call_accepts D N shape = true ↔ shape.drop 1 = List.replicate D N := by
  simp [Poisson_call_accepts_eq, acceptsPoisson, spatialShape]

theorem Poisson_call_accepts_of_stepper (C D N : Nat) (shape : List Nat)
    (h : BaseStepper_call_accepts D N C shape = true) : Poisson_call_accepts D N shape = true := by
  rw [BaseStepper_call_accepts_iff] at h
  subst h
  simp [Poisson_call_accepts_iff]

theorem BaseStepper_init_accepts_eq (D N C : Nat) (linopShape : List Nat) (order : Nat) :
    BaseStepper_init_accepts D N C order linopShape = stepperInitOk C D N linopShape order := by
  simp only [BaseStepper_init_accepts, stepperInitOk, linopShapeOk, etdrkOrderOk, wavenumber_shape_eq,
    List.singleton_append, Bool.not_not]
  congr 1
  · cases linopShape with
    | nil => simp
    | cons c rest =>
      simp only [List.cons_beq_cons]
      cases h1 : (c == 1) <;> cases h2 : (c == C)
      all_goals simp
  · rw [Bool.eq_iff_iff]
    simp only [Bool.or_eq_true, beq_iff_eq, decide_eq_true_eq]
    omega

theorem BaseStepper_init_accepts_order (D N C : Nat) (linopShape : List Nat) (order : Nat)
    (h : BaseStepper_init_accepts D N C order linopShape = true) : order ≤ 4 := by
  rw [BaseStepper_init_accepts_eq] at h
  simp only [stepperInitOk, etdrkOrderOk, Bool.and_eq_true, decide_eq_true_eq] at h
  exact h.2

theorem build_laplace_operator_accepts_eq (order : Nat) :
    build_laplace_operator_accepts order = laplaceOrderOk order := by
  simp only [build_laplace_operator_accepts, not_bne, laplaceOrderOk]

theorem build_laplace_operator_accepts_iff (order : Nat) :
    build_laplace_operator_accepts order = true ↔ order % 2 = 0 := by
  simp [build_laplace_operator_accepts_eq, laplaceOrderOk]

theorem build_gradient_inner_product_operator_accepts_eq (order : Nat) (vshape dshape : List Nat) :
    build_gradient_inner_product_operator_accepts dshape vshape order = gradInnerOk order vshape dshape := by
  cases dshape with
  | nil => simp [build_gradient_inner_product_operator_accepts, gradInnerOk]
  | cons D rest =>
    simp [build_gradient_inner_product_operator_accepts, gradInnerOk, gradInnerOrderOk, velocityShapeOk, bne]

theorem build_gradient_inner_product_operator_accepts_cons (order D : Nat) (vshape rest : List Nat) :
    build_gradient_inner_product_operator_accepts (D :: rest) vshape order =
      (gradInnerOrderOk order && velocityShapeOk D vshape) := by
  rw [build_gradient_inner_product_operator_accepts_eq]; rfl

theorem laplace_gradient_order_exclusive (order D : Nat) (rest : List Nat) :
    build_laplace_operator_accepts order =
      !build_gradient_inner_product_operator_accepts (D :: rest) [D] order := by
  rw [build_laplace_operator_accepts_eq, build_gradient_inner_product_operator_accepts_cons]
  simp only [laplaceOrderOk, gradInnerOrderOk, velocityShapeOk]
  rcases Nat.mod_two_eq_zero_or_one order with h | h <;> simp [h]

theorem build_scaling_array_accepts_eq (mode : String) :
    build_scaling_array_accepts mode = scalingModeOk mode := by
  simp only [build_scaling_array_accepts, scalingModeOk, List.contains_cons, List.contains_nil, Bool.or_false]

theorem build_scaling_array_accepts_eq_isSome (D N : Nat) (mode ix : String) (idx : List Nat) :
    build_scaling_array_accepts mode = (Gen.SpectralLayout.build_scaling_array D N mode ix idx).isSome := by
  simp only [build_scaling_array_accepts, Gen.SpectralLayout.build_scaling_array]
  by_cases h1 : mode = "norm_compensation"
  · simp [h1]
  · by_cases h2 : mode = "reconstruction"
    · simp [h2]
    · by_cases h3 : mode = "coef_extraction"
      · simp [h3]
      · simp [h1, h2, h3]

theorem ifft_accepts_eq (D : Option Nat) (shape : List Nat) (N : Option Nat) :
    ifft_accepts shape D N = ifftArgsOk shape.length D N := by
  cases N with
  | some n => simp [ifft_accepts, ifftArgsOk]
  | none =>
    cases D
    all_goals
      simp only [ifft_accepts, ifftArgsOk, Option.isNone_none, Bool.not_true, Bool.false_or]
      apply decide_eq_decide.mpr
      omega

/-- the documented rule: `num_points` can only be omitted from 2-D on -/
theorem ifft_accepts_iff (D : Option Nat) (shape : List Nat) (N : Option Nat) :
    ifft_accepts shape D N = true ↔ N.isSome = true ∨ 2 ≤ D.getD (shape.length - 1) := by
  rw [ifft_accepts_eq]
  cases N <;> cases D
  all_goals simp [ifftArgsOk]

theorem make_incompressible_accepts_eq (shape : List Nat) :
    make_incompressible_accepts shape = incompressibleShapeOk shape := by
  cases shape with
  | nil => simp [make_incompressible_accepts, incompressibleShapeOk]
  | cons c sp => simp [make_incompressible_accepts, incompressibleShapeOk, bne]

theorem make_incompressible_accepts_iff (shape : List Nat) :
    make_incompressible_accepts shape = true ↔ ∃ sp, shape = sp.length :: sp := by
  rw [make_incompressible_accepts_eq]
  cases shape with
  | nil => simp [incompressibleShapeOk]
  | cons c sp =>
    simp only [incompressibleShapeOk, beq_iff_eq, List.cons.injEq]
    constructor
    · intro h; exact ⟨sp, h, rfl⟩
    · rintro ⟨sp', h, rfl⟩; exact h

private theorem eraseDups_eq_nil {α : Type} [BEq α] [LawfulBEq α] (l : List α) : l.eraseDups = [] ↔ l = [] := by
  cases l with
  | nil => simp
  | cons a as => simp [List.eraseDups_cons]

private theorem eraseDups_length_eq_one {α : Type} [BEq α] [LawfulBEq α] (a : α) (as : List α) :
    (a :: as).eraseDups.length = 1 ↔ ∀ b ∈ as, b = a := by
  rw [List.eraseDups_cons, List.length_cons, Nat.add_eq_right, List.length_eq_zero_iff, eraseDups_eq_nil,
    List.filter_eq_nil_iff]
  simp

theorem stack_sub_trajectories_accepts_eq (leafShapes : List (List Nat)) (subLen : Nat) :
    stack_sub_trajectories_accepts leafShapes subLen = windowTreeOk leafShapes subLen := by
  cases leafShapes with
  | nil => simp [stack_sub_trajectories_accepts, windowTreeOk]
  | cons s rest =>
    cases s with
    | nil => simp [stack_sub_trajectories_accepts, windowTreeOk]
    | cons T sh =>
      rw [Bool.eq_iff_iff]
      simp only [stack_sub_trajectories_accepts, windowTreeOk, windowOk, List.all_cons, List.map_cons, bne,
        Bool.not_not, Bool.and_eq_true, beq_iff_eq, eraseDups_length_eq_one, List.all_eq_true,
        decide_eq_true_eq, List.length_cons, List.getD_cons_zero, Bool.not_eq_true', decide_eq_false_iff_not,
        List.mem_map, forall_exists_index, and_imp, forall_apply_eq_imp_iff₂]
      -- per leaf: "has a time axis, of length `T`" is the two generated conditions together
      have key : ∀ s : List Nat, s.head? = some T ↔ 0 < s.length ∧ s.getD 0 0 = T := by
        intro s
        cases s <;> simp
      constructor
      · rintro ⟨⟨-, hpos⟩, hall, -, hle⟩
        exact ⟨fun s hs => (key s).2 ⟨hpos s hs, hall s hs⟩, Nat.le_of_not_lt hle⟩
      · rintro ⟨hall, hle⟩
        exact ⟨⟨Nat.succ_pos _, fun s hs => ((key s).1 (hall s hs)).1⟩, fun s hs => ((key s).1 (hall s hs)).2,
          Nat.succ_pos _, Nat.not_lt_of_le hle⟩

/-- one array (the case of the model predicate `windowOk`) -/
theorem stack_sub_trajectories_accepts_single (T : Nat) (sh : List Nat) (subLen : Nat) :
    stack_sub_trajectories_accepts [T :: sh] subLen = windowOk T subLen := by
  rw [stack_sub_trajectories_accepts_eq]
  simp [windowTreeOk]

/-- accepted ⇒ the number of windows `T - sub_len + 1` is positive and every window lies inside the trajectory -/
theorem stack_sub_trajectories_accepted (T : Nat) (sh : List Nat) (subLen : Nat)
    (h : stack_sub_trajectories_accepts [T :: sh] subLen = true) :
    0 < T - subLen + 1 ∧ ∀ i, i < T - subLen + 1 → i + subLen ≤ T := by
  rw [stack_sub_trajectories_accepts_single] at h
  simp only [windowOk, decide_eq_true_eq] at h
  constructor
  · omega
  · intro i hi; omega

theorem validate_normalization_options_accepts_eq (zeroMean stdOne maxOne : Bool) :
    validate_normalization_options_accepts zeroMean stdOne maxOne = icNormOk zeroMean stdOne maxOne := rfl

/-- the documented-invalid combinations are exactly the rejected ones -/
theorem validate_normalization_options_rejects_iff (zeroMean stdOne maxOne : Bool) :
    validate_normalization_options_accepts zeroMean stdOne maxOne = false ↔
      (zeroMean = false ∧ stdOne = true) ∨ (stdOne = true ∧ maxOne = true) := by
  cases zeroMean <;> cases stdOne <;> cases maxOne
  all_goals simp [validate_normalization_options_accepts]

theorem Discontinuities_init_accepts_eq (zeroMean stdOne maxOne : Bool) :
    Discontinuities_init_accepts zeroMean stdOne maxOne = icNormOk zeroMean stdOne maxOne := rfl

theorem RandomDiscontinuities_init_accepts_eq (zeroMean stdOne maxOne : Bool) :
    RandomDiscontinuities_init_accepts zeroMean stdOne maxOne = icNormOk zeroMean stdOne maxOne := rfl

theorem DiffusedNoise_init_accepts_eq (zeroMean stdOne maxOne : Bool) :
    DiffusedNoise_init_accepts zeroMean stdOne maxOne = icNormOk zeroMean stdOne maxOne := rfl

theorem GaussianRandomField_init_accepts_eq (zeroMean stdOne maxOne : Bool) :
    GaussianRandomField_init_accepts zeroMean stdOne maxOne = icNormOk zeroMean stdOne maxOne := rfl

/-- `RandomTruncatedFourierSeries`: "zero mean" is `offset_range == (0.0, 0.0)` (an opaque, value-dependent input) -/
theorem RandomTruncatedFourierSeries_init_accepts_eq (offsetZero stdOne maxOne : Bool) :
    RandomTruncatedFourierSeries_init_accepts stdOne maxOne offsetZero = icNormOk offsetZero stdOne maxOne := rfl

/-- `SineWaves1d.__init__`; the first argument is the opaque `offset != 0.0` -/
theorem SineWaves1d_init_accepts_eq (offsetNonzero stdOne maxOne : Bool) (nAmp nWav nPha : Nat) :
    SineWaves1d_init_accepts nAmp nWav nPha stdOne maxOne offsetNonzero =
      sineWavesOk (!offsetNonzero) stdOne maxOne nAmp nWav nPha := by
  simp only [SineWaves1d_init_accepts, sineWavesOk, icNormOk, bne, Bool.not_not, Bool.not_or, Bool.and_assoc]

/-- `RandomSineWaves1d.__init__`; the second argument is the opaque `offset_range != (0.0, 0.0)` -/
theorem RandomSineWaves1d_init_accepts_eq (D : Nat) (offsetNonzero stdOne maxOne : Bool) :
    RandomSineWaves1d_init_accepts D stdOne maxOne offsetNonzero =
      randomSineWavesOk D (!offsetNonzero) stdOne maxOne := by
  simp only [RandomSineWaves1d_init_accepts, randomSineWavesOk, dimOk, icNormOk, not_bne, Bool.not_not]

theorem RandomSineWaves1d_init_accepts_dim (D : Nat) (nz stdOne maxOne : Bool)
    (h : RandomSineWaves1d_init_accepts D stdOne maxOne nz = true) : dimOk (some 1) D = true := by
  rw [RandomSineWaves1d_init_accepts_eq] at h
  simp only [randomSineWavesOk, Bool.and_eq_true] at h
  exact h.1

theorem SineWaves1d_call_accepts_eq (shape : List Nat) :
    SineWaves1d_call_accepts shape = leadingAxisOk 1 shape := by
  cases shape <;> simp [SineWaves1d_call_accepts, leadingAxisOk, bne]

theorem GaussianBlob_call_accepts_eq (xShape posShape : List Nat) :
    GaussianBlob_call_accepts posShape xShape = gaussianBlobOk xShape posShape := by
  cases xShape <;> cases posShape
  all_goals simp [GaussianBlob_call_accepts, gaussianBlobOk, bne]

/-- a generator that cannot be represented as a function always raises -/
theorem BaseRandomICGenerator_gen_ic_fun_accepts_eq : BaseRandomICGenerator_gen_ic_fun_accepts = false := rfl

/-- `spatial_norm` on the three documented modes: the model predicate (`hasRef` = a reference state is given) -/
theorem spatial_norm_accepts_eq (mode : Nat) (hasRef : Bool) (h : mode ≤ 2) :
    spatial_norm_accepts (!hasRef) (metricModeName mode) = metricModeOk mode hasRef := by
  have : mode = 0 ∨ mode = 1 ∨ mode = 2 := by omega
  rcases this with rfl | rfl | rfl
  all_goals cases hasRef
  all_goals decide

/-- `fourier_norm` on ITS two documented modes -/
theorem fourier_norm_accepts_eq (mode : Nat) (hasRef : Bool) (h : mode ≤ 1) :
    fourier_norm_accepts (!hasRef) (metricModeName mode) = metricModeOk mode hasRef := by
  have : mode = 0 ∨ mode = 1 := by omega
  rcases this with rfl | rfl
  all_goals cases hasRef
  all_goals decide

theorem BaseNonlinearFun_dealias_accepts_eq (maskIsNone : Bool) :
    BaseNonlinearFun_dealias_accepts maskIsNone = dealiasOk (!maskIsNone) := rfl

theorem ConvectionNonlinearFun_multi_channel_conservative_eq (C D : Nat) (rest : List Nat) :
    ConvectionNonlinearFun__multi_channel_conservative_eval_accepts D (C :: rest) = convChannelsOk false C D := by
  simp [ConvectionNonlinearFun__multi_channel_conservative_eval_accepts, convChannelsOk, bne]

theorem ConvectionNonlinearFun_multi_channel_nonconservative_eq (C D : Nat) (rest : List Nat) :
    ConvectionNonlinearFun__multi_channel_nonconservative_eval_accepts D (C :: rest) = convChannelsOk false C D := by
  simp [ConvectionNonlinearFun__multi_channel_nonconservative_eval_accepts, convChannelsOk, bne]

theorem ConvectionNonlinearFun_multi_channel_eq_leading (shape : List Nat) (D : Nat) :
    ConvectionNonlinearFun__multi_channel_conservative_eval_accepts D shape = leadingAxisOk D shape ∧
    ConvectionNonlinearFun__multi_channel_nonconservative_eval_accepts D shape = leadingAxisOk D shape := by
  cases shape <;>
    simp [ConvectionNonlinearFun__multi_channel_conservative_eval_accepts,
      ConvectionNonlinearFun__multi_channel_nonconservative_eval_accepts, leadingAxisOk, bne]

/-- `ConvectionNonlinearFun.__call__` (dispatch on `single_channel`, `conservative`): multi-channel convection needs
    as many channels as dimensions -/
theorem ConvectionNonlinearFun_call_accepts_eq (single conservative : Bool) (C D : Nat) (rest : List Nat) :
    ConvectionNonlinearFun_call_accepts single conservative D (C :: rest) = convChannelsOk single C D := by
  simp only [ConvectionNonlinearFun_call_accepts, ConvectionNonlinearFun_multi_channel_conservative_eq,
    ConvectionNonlinearFun_multi_channel_nonconservative_eq, ite_self, convChannelsOk, Bool.false_or]

theorem ConvectionNonlinearFun_call_accepts_iff (single conservative : Bool) (C D : Nat) (rest : List Nat) :
    ConvectionNonlinearFun_call_accepts single conservative D (C :: rest) = true ↔ (single = true ∨ C = D) := by
  rw [ConvectionNonlinearFun_call_accepts_eq]
  cases single <;> simp [convChannelsOk]

theorem GeneralNonlinearFun_init_accepts_eq (n : Nat) :
    GeneralNonlinearFun_init_accepts n = scaleListOk n := by
  simp only [GeneralNonlinearFun_init_accepts, not_bne, scaleListOk]

theorem GeneralNonlinearStepper_init_accepts_eq (n : Nat) :
    GeneralNonlinearStepper_init_accepts n = scaleListOk n := by
  simp only [GeneralNonlinearStepper_init_accepts, not_bne, scaleListOk]

theorem BelousovZhabotinskyNonlinearFun_call_accepts_eq (C : Nat) (rest : List Nat) :
    BelousovZhabotinskyNonlinearFun_call_accepts (C :: rest) = fixedChannelsOk 3 C := by
  simp [BelousovZhabotinskyNonlinearFun_call_accepts, fixedChannelsOk, bne]

theorem GrayScottNonlinearFun_call_accepts_eq (C : Nat) (rest : List Nat) :
    GrayScottNonlinearFun_call_accepts (C :: rest) = fixedChannelsOk 2 C := by
  simp [GrayScottNonlinearFun_call_accepts, fixedChannelsOk, bne]

theorem reaction_call_accepts_eq_leading (shape : List Nat) :
    BelousovZhabotinskyNonlinearFun_call_accepts shape = leadingAxisOk 3 shape ∧
    GrayScottNonlinearFun_call_accepts shape = leadingAxisOk 2 shape := by
  cases shape <;>
    simp [BelousovZhabotinskyNonlinearFun_call_accepts, GrayScottNonlinearFun_call_accepts, leadingAxisOk, bne]

/-- the form of every dimension check `if num_spatial_dims != k: raise` -/
private theorem not_bne_dimOk (D k : Nat) : (!(D != k)) = dimOk (some k) D := not_bne D k

theorem ProjectedConvection3d_init_accepts_eq (D : Nat) :
    ProjectedConvection3d_init_accepts D = dimOk (some 3) D := not_bne_dimOk D 3

theorem VorticityConvection2d_init_accepts_eq (D : Nat) :
    VorticityConvection2d_init_accepts D = dimOk (some 2) D := not_bne_dimOk D 2

theorem NavierStokesVorticity_init_accepts_eq (D : Nat) :
    NavierStokesVorticity_init_accepts D = dimOk (some 2) D := not_bne_dimOk D 2

theorem KolmogorovFlowVorticity_init_accepts_eq (D : Nat) :
    KolmogorovFlowVorticity_init_accepts D = dimOk (some 2) D := not_bne_dimOk D 2

theorem NavierStokesVelocity_init_accepts_eq (D : Nat) :
    NavierStokesVelocity_init_accepts D = dimOk (some 3) D := not_bne_dimOk D 3

theorem KolmogorovFlowVelocity_init_accepts_eq (D : Nat) :
    KolmogorovFlowVelocity_init_accepts D = dimOk (some 3) D := not_bne_dimOk D 3

theorem GeneralVorticityConvectionStepper_init_accepts_eq (D : Nat) :
    GeneralVorticityConvectionStepper_init_accepts D = dimOk (some 2) D := not_bne_dimOk D 2

theorem viz_ndim_eq (shape : List Nat) :
    plot_state_1d_accepts shape = ndimOk 2 shape ∧
    plot_spatio_temporal_accepts shape = ndimOk 3 shape ∧
    plot_state_2d_accepts shape = ndimOk 3 shape ∧
    plot_state_3d_accepts shape = ndimOk 4 shape ∧
    plot_spatio_temporal_2d_accepts shape = ndimOk 4 shape ∧
    plot_state_1d_facet_accepts shape = ndimOk 3 shape ∧
    animate_spatio_temporal_accepts shape = ndimOk 4 shape ∧
    animate_state_2d_accepts shape = ndimOk 4 shape ∧
    animate_state_3d_accepts shape = ndimOk 5 shape ∧
    animate_state_1d_facet_accepts shape = ndimOk 4 shape := by
  simp only [plot_state_1d_accepts, plot_spatio_temporal_accepts, plot_state_2d_accepts, plot_state_3d_accepts,
    plot_spatio_temporal_2d_accepts, plot_state_1d_facet_accepts, animate_spatio_temporal_accepts,
    animate_state_2d_accepts, animate_state_3d_accepts, animate_state_1d_facet_accepts, not_bne, ndimOk, and_self]

theorem viz_facet_ndim_eq (facet : Bool) (shape : List Nat) :
    plot_spatio_temporal_facet_accepts shape facet = facetNdimOk 3 facet shape ∧
    plot_state_2d_facet_accepts shape facet = facetNdimOk 3 facet shape ∧
    plot_state_3d_facet_accepts shape facet = facetNdimOk 4 facet shape ∧
    plot_spatio_temporal_2d_facet_accepts shape facet = facetNdimOk 4 facet shape ∧
    animate_state_2d_facet_accepts shape facet = facetNdimOk 4 facet shape ∧
    animate_state_3d_facet_accepts shape facet = facetNdimOk 5 facet shape := by
  cases facet <;>
    simp [plot_spatio_temporal_facet_accepts, plot_state_2d_facet_accepts, plot_state_3d_facet_accepts,
      plot_spatio_temporal_2d_facet_accepts, animate_state_2d_facet_accepts, animate_state_3d_facet_accepts,
      bne, facetNdimOk]

theorem volume_render_state_3d_accepts_eq (shape : List Nat) (importOk : Bool) :
    volume_render_state_3d_accepts shape importOk = (ndimOk 4 shape && importOk) := by
  simp only [volume_render_state_3d_accepts, not_bne, ndimOk]

theorem zigzag_alpha_accepts_eq (isListed isSegmented : Bool) :
    zigzag_alpha_accepts isListed isSegmented = cmapFormOk isListed isSegmented := rfl

/-- the three functions that are not implemented always raise -/
theorem viz_not_implemented :
    animate_spatio_temporal_2d_accepts = false ∧ animate_spatio_temporal_facet_accepts = false ∧
    animate_spatio_temporal_2d_facet_accepts = false := ⟨rfl, rfl, rfl⟩

/-- `Poisson.__call__` accepts ANY leading axis (e.g. 7 channels), whereas the doc-comment of `Layout.acceptsShape`
    lists `Poisson.__call__` among the functions it decides -/
theorem Poisson_call_accepts_any_channels (C' D N : Nat) :
    Poisson_call_accepts D N (C' :: List.replicate D N) = true := by
  simp [Poisson_call_accepts_iff]

theorem Poisson_call_ne_acceptsShape :
    Poisson_call_accepts 1 4 [7, 4] = true ∧ acceptsShape 1 1 4 [7, 4] = false := by decide

/-- `metricModeOk` rejects mode 2 (`"symmetric"`) without a reference; `fourier_norm` does not check it (it
    documents only `"absolute"` and `"normalized"`, and silently treats every other string as `"absolute"`) -/
theorem fourier_norm_symmetric_not_guarded :
    fourier_norm_accepts true (metricModeName 2) = true ∧ metricModeOk 2 false = false := by decide

/-- an UNKNOWN mode string is accepted by both norms, with or without a reference (no `else: raise`) -/
theorem metrics_unknown_mode_accepted (mode : String) (h1 : mode ≠ "normalized") (h2 : mode ≠ "symmetric")
    (refIsNone : Bool) :
    spatial_norm_accepts refIsNone mode = true ∧ fourier_norm_accepts refIsNone mode = true := by
  simp [spatial_norm_accepts, fourier_norm_accepts, h1, h2]

/-- `windowOk` models one array; the source takes a pytree and has a second guard (equal leading lengths),
    and rejects the empty pytree -/
theorem stack_sub_trajectories_tree_guard :
    stack_sub_trajectories_accepts [[5, 2], [4, 2]] 3 = false ∧ windowOk 5 3 = true ∧ windowOk 4 3 = true ∧
    stack_sub_trajectories_accepts [] 0 = false := by decide

/-- `velocityShapeOk D` takes `D` as given; the source reads it from the leading axis of the derivative
    operator, so a 0-axis operator is an error before the guard is evaluated -/
theorem build_gradient_inner_product_operator_no_axis (order : Nat) (vshape : List Nat) :
    build_gradient_inner_product_operator_accepts [] vshape order = false := by
  simp [build_gradient_inner_product_operator_accepts]

end Exponax
