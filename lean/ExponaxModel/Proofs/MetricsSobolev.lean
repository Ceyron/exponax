import ExponaxModel.Proofs.MetricsGenFourierEq
/-
C16 — Sobolev metrics: "H1 metric = plain metric + metric of the spectral gradient".

(a) REGENERATED code, ANY scalar type `K` (no algebraic law used — holds for the binary64 scalar of the driver
    too), with or without a reference state: each of the six `H1_X` of `exponax/metrics/_derivative.py` is
    `fourier_X(derivative_order=None) + fourier_X(derivative_order=1)`, and neither summand can fail
    (`H1_MAE_split … H1_nRMSE_split`).
(b) MODEL (`Metrics.fourierAggregator` at `ℝ`): the aggregator with `derivative_order = 1` IS the sum over the
    axes of the PLAIN aggregator (no derivative, no further floor/band) applied to the magnitudes of the
    spectral derivative `|i·s·k_d·û_h| = |s k_d|·|û_h|` of the floored, band-masked spectrum
    (`fourierAggregator_deriv_one_eq_gradient`; `gradMag_magnitudes` identifies the magnitudes).
    The floor `1e-5` and the band mask act on `û` BEFORE the derivative factor is applied (as in the code), which
    is why the gradient is taken of the kept spectrum.
(c) together (`H1_MSE_model_gradient_form`): on complex-embedded real states the regenerated `H1_X` equal
    `model(plain) + model(gradient)` with the per-channel gradient aggregates in the form (b).
-/
namespace Exponax.SmallGaps
open Exponax Exponax.Layout Exponax.Transform Exponax.DFT Exponax.Gen Exponax.Gen.Prelude Exponax.Metrics
open Exponax.Gen.MetricsGen Finset

/-- the shape of every `H1_*` function: both summands are computed, then added -/
theorem bind_add_split {K : Type} [Add K] (x y : Option K) {a b : K} (ha : x = some a) (hb : y = some b) :
    ∃ a b, x = some a ∧ y = some b ∧ (x.bind fun a => y.bind fun b => some (a + b)) = some (a + b) := by
  subst ha hb
  exact ⟨a, b, rfl, rfl, rfl⟩

section
variable {K : Type} [Add K] [Sub K] [Mul K] [Div K] [Neg K] [Zero K] [One K] [NatCast K] [IntCast K]
  [HasRpow K] [HasAbs K] [HasLtB K] [HasSqrt K] [HasExp K] [HasI K] [HasPi K] [HasCpow K]

/-- `fourier_norm` in `"absolute"` mode without a reference state never fails -/
theorem fourier_norm_absolute_none (D N : ℕ) (u : List (Array K)) (L p q : K) (lo hi : Option ℕ) (m : Option K) :
    fourier_norm D N u none "absolute" L p (some q) lo hi m
      = some (Metrics.combine 0 (chanFAgg D N L p q lo hi m u) [] []) := by
  rw [fourier_norm_none, if_neg (by decide)]

variable (D N : ℕ) (u : List (Array K)) (L : K) (lo hi : Option ℕ)

theorem H1_MAE_split (ref : Option (List (Array K))) :
    ∃ a b, fourier_MAE D N u ref L lo hi none = some a ∧
      fourier_MAE D N u ref L lo hi (some (lit 1)) = some b ∧ H1_MAE D N u ref L lo hi = some (a + b) := by
  rcases ref with _ | r
  · exact bind_add_split _ _ (fourier_norm_absolute_none D N u L _ _ lo hi none)
      (fourier_norm_absolute_none D N u L _ _ lo hi (some (lit 1)))
  · exact bind_add_split _ _ (fourier_MAE_eq D N u r L lo hi none) (fourier_MAE_eq D N u r L lo hi _)

theorem H1_MSE_split (ref : Option (List (Array K))) :
    ∃ a b, fourier_MSE D N u ref L lo hi none = some a ∧
      fourier_MSE D N u ref L lo hi (some (lit 1)) = some b ∧ H1_MSE D N u ref L lo hi = some (a + b) := by
  rcases ref with _ | r
  · exact bind_add_split _ _ (fourier_norm_absolute_none D N u L _ _ lo hi none)
      (fourier_norm_absolute_none D N u L _ _ lo hi (some (lit 1)))
  · exact bind_add_split _ _ (fourier_MSE_eq D N u r L lo hi none) (fourier_MSE_eq D N u r L lo hi _)

/-- `H1_RMSE = fourier_RMSE + fourier_RMSE(derivative_order = 1)` (a SUM of two roots, as the code
    defines it — not the root of the sum), with or without reference -/
theorem H1_RMSE_split (ref : Option (List (Array K))) :
    ∃ a b, fourier_RMSE D N u ref L lo hi none = some a ∧
      fourier_RMSE D N u ref L lo hi (some (lit 1)) = some b ∧ H1_RMSE D N u ref L lo hi = some (a + b) := by
  rcases ref with _ | r
  · exact bind_add_split _ _ (fourier_norm_absolute_none D N u L _ _ lo hi none)
      (fourier_norm_absolute_none D N u L _ _ lo hi (some (lit 1)))
  · exact bind_add_split _ _ (fourier_RMSE_eq D N u r L lo hi none) (fourier_RMSE_eq D N u r L lo hi _)

/-- `H1_nMAE = fourier_nMAE + fourier_nMAE(derivative_order = 1)`: each summand is normalised by ITS OWN
    reference aggregate (plain resp. gradient), as the code defines it -/
theorem H1_nMAE_split (r : List (Array K)) :
    ∃ a b, fourier_nMAE D N u r L lo hi none = some a ∧
      fourier_nMAE D N u r L lo hi (some (lit 1)) = some b ∧ H1_nMAE D N u r L lo hi = some (a + b) :=
  ⟨_, _, fourier_nMAE_eq D N u r L lo hi none, fourier_nMAE_eq D N u r L lo hi _, H1_nMAE_eq D N u r L lo hi⟩

theorem H1_nMSE_split (r : List (Array K)) :
    ∃ a b, fourier_nMSE D N u r L lo hi none = some a ∧
      fourier_nMSE D N u r L lo hi (some (lit 1)) = some b ∧ H1_nMSE D N u r L lo hi = some (a + b) :=
  ⟨_, _, fourier_nMSE_eq D N u r L lo hi none, fourier_nMSE_eq D N u r L lo hi _, H1_nMSE_eq D N u r L lo hi⟩

theorem H1_nRMSE_split (r : List (Array K)) :
    ∃ a b, fourier_nRMSE D N u r L lo hi none = some a ∧
      fourier_nRMSE D N u r L lo hi (some (lit 1)) = some b ∧ H1_nRMSE D N u r L lo hi = some (a + b) :=
  ⟨_, _, fourier_nRMSE_eq D N u r L lo hi none, fourier_nRMSE_eq D N u r L lo hi _, H1_nRMSE_eq D N u r L lo hi⟩

end

/-- magnitudes of the `d`-th spectral derivative of the kept (floored, band-masked) spectrum:
    `|i·s·k_d|·kept_h = |s·k_d|·kept_h` -/
noncomputable def gradMag (D N : ℕ) (s : ℝ) (band : Option (ℕ × ℕ)) (floor : ℝ) (mag : Array ℝ) (d : ℕ) :
    Array ℝ :=
  tab (numModes D N) (fun h => keptVal D N band floor mag h * |s * (((wnFlat D N h).getD d 0 : ℤ) : ℝ)|)

theorem derivFactor_one (D N : ℕ) (s : ℝ) (d h : ℕ) :
    derivFactor D N s 1 d h = |s * (((wnFlat D N h).getD d 0 : ℤ) : ℝ)| := by
  unfold derivFactor
  split_ifs with h0
  · rw [h0]; simp
  · rw [Real.rpow_one]

theorem keptVal_nonneg (D N : ℕ) (band : Option (ℕ × ℕ)) (floor : ℝ) (mag : Array ℝ)
    (hmag : ∀ h, 0 ≤ mag.getD h 0) (h : ℕ) : 0 ≤ keptVal D N band floor mag h := by
  unfold keptVal
  rcases band with _ | ⟨lo, hi⟩
  · simp only; split_ifs
    · exact le_rfl
    · exact hmag h
  · simp only; split_ifs
    · exact le_rfl
    · exact hmag h
    · exact le_rfl

theorem keptVal_none_zero (D N : ℕ) (a : Array ℝ) (h : ℕ) (ha : 0 ≤ a.getD h 0) :
    keptVal D N none 0 a h = a.getD h 0 := by
  unfold keptVal
  simp only
  rw [if_neg (not_lt.mpr ha)]

/-- For non-negative magnitudes (any floor, any band, any exponents `p`, `q`): the model aggregator
    with `derivative_order = 1` is the sum over the axes of the PLAIN aggregator of the gradient magnitudes. -/
theorem fourierAggregator_deriv_one_eq_gradient (D N : ℕ) (L s p q : ℝ) (band : Option (ℕ × ℕ)) (floor : ℝ)
    (mag : Array ℝ) (hmag : ∀ h, 0 ≤ mag.getD h 0) :
    fourierAggregator D N L s p q band (some 1) floor mag
      = ∑ d ∈ range D, fourierAggregator D N L s p q none none 0 (gradMag D N s band floor mag d) := by
  rw [fourierAggregator_some]
  apply Finset.sum_congr rfl
  intro d _
  rw [fourierAggregator_none]
  congr 2
  apply Finset.sum_congr rfl
  intro h hh
  have hh' := Finset.mem_range.mp hh
  have hg : (gradMag D N s band floor mag d).getD h 0
      = keptVal D N band floor mag h * |s * (((wnFlat D N h).getD d 0 : ℤ) : ℝ)| := by
    unfold gradMag; rw [tab_getD _ _ _ _ hh']
  rw [keptVal_none_zero D N _ h (by rw [hg]; exact mul_nonneg (keptVal_nonneg D N band floor mag hmag h) (abs_nonneg _)),
    hg, derivFactor_one]

theorem magnitudes_nonneg (D N : ℕ) (u : Array ℝ) (h : ℕ) : 0 ≤ (magnitudes D N u).getD h 0 := by
  rcases Nat.lt_or_ge h (numModes D N) with hh | hh
  · rw [mag_getD D N u h hh]; exact norm_nonneg _
  · unfold magnitudes; rw [tab_getD_of_le _ _ _ _ hh]

/-- without floor and band the gradient magnitudes ARE the magnitudes of `(i s k_d)·û`, the stored spectrum of
    the spectral derivative `∂_d u` -/
theorem gradMag_magnitudes (D N : ℕ) (s : ℝ) (u : Array ℝ) (d h : ℕ) (hh : h < numModes D N) :
    (gradMag D N s none 0 (magnitudes D N u) d).getD h 0
      = ‖Complex.I * ((s : ℂ) * (((wnFlat D N h).getD d 0 : ℤ) : ℂ)) * (rfftnM D N (toComplex u)).getD h 0‖ := by
  unfold gradMag
  rw [tab_getD _ _ _ _ hh, keptVal_none_zero D N _ h (magnitudes_nonneg D N u h), mag_getD D N u h hh,
    norm_mul, norm_mul, Complex.norm_I, one_mul, mul_comm]
  congr 1
  rw [← Complex.ofReal_intCast, ← Complex.ofReal_mul, Complex.norm_real, Real.norm_eq_abs]

theorem modelFAgg_deriv_one (D N : ℕ) (L p q : ℝ) (low high : Option ℕ) (us : List (Array ℝ)) :
    modelFAgg D N L p q low high (some 1) us
      = us.map (fun c => ∑ d ∈ range D, fourierAggregator D N L (2 * Real.pi / L) p q none none 0
          (gradMag D N (2 * Real.pi / L) (bandOf N low high) (1 / 100000) (magnitudes D N c) d)) := by
  unfold modelFAgg
  apply List.map_congr_left
  intro c _
  exact fourierAggregator_deriv_one_eq_gradient D N L _ p q _ _ _ (magnitudes_nonneg D N c)

/-- `H1_MSE`, regenerated code on complex-embedded real states = model plain MSE + the channel sum of the
    axis sums of the plain aggregates of the gradient magnitudes (and likewise, through `fourierModel`, for the other
    five: `H1_MAE_eq_model`, … with `modelFAgg_deriv_one`) -/
theorem H1_MSE_model_gradient_form (D N : ℕ) (u r : List (Array ℝ)) (L : ℝ) (low high : Option ℕ) :
    H1_MSE (K := ℂ) D N (toComplexL u) (some (toComplexL r)) (L : ℂ) low high
      = some ((fourierModel 0 D N L 2 1 low high none u r
          + ((chanSub u r).map (fun c => ∑ d ∈ range D, fourierAggregator D N L (2 * Real.pi / L) 2 1 none none 0
              (gradMag D N (2 * Real.pi / L) (bandOf N low high) (1 / 100000) (magnitudes D N c) d))).sum : ℝ) : ℂ) := by
  rw [H1_MSE_eq_model]
  congr 3
  unfold fourierModel
  rw [Metrics.combine_zero, modelFAgg_deriv_one]

example : ∀ h, 0 ≤ (magnitudes 2 4 #[1, 2, 3]).getD h 0 := magnitudes_nonneg 2 4 _

end Exponax.SmallGaps
