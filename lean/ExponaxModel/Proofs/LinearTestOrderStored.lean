import ExponaxModel.Proofs.LinearTestOrderPerturbed
import ExponaxModel.Proofs.ContourTailETDRK
/-
C02: the perturbed-coefficient order theorems instantiated with the STORED contour coefficients (defaults
`num_circle_points = 16`, `circle_radius = 1`).  If each of the fourteen stored ETDRK1–4 coefficients is within `δ·dt` of its
exact value (the hypothesis has the form in which `ContourComplex.storedCoef_error_*` conclude), the regenerated steppers with the
regenerated coefficient functions `E?_coef_?`, `exp_term`, `E?_half_exp_term` plugged in satisfy on `u' = λu + μu` (`μ ∈ ℂ`)

   ‖(stored ETDRKp step)ⁿ u − e^{(λ+μ) n dt} u‖ ≤ Cfloor · (Cloc_p · dt^p + pertD_p(δ)) · ‖u‖     (n·dt ≤ T).

For a real, non-positive symbol `λ` the documented accuracy is `δ = 5·10⁻⁸` (`ContourTail.storedCoef_error_default`, a
weakening of `1.7·10⁻¹²`); the half-plane value `1.7·10⁻¹²`, which covers these `λ` too and gives the lower floor, is put in
in `LinearTestOrderStoredComplex.lean`.
-/
noncomputable section
namespace Exponax.LinearOrder
open Exponax Exponax.Spec Exponax.ContourTail Exponax.Gen.Etdrk

/-- the default quadrature accuracy of the stored coefficients -/
def δstored : ℝ := 5e-8

theorem δstored_nonneg : 0 ≤ δstored := by unfold δstored; norm_num

/-- The stored steppers of all four orders, the accuracy `δ` of the fourteen stored coefficients being a variable:
    `E?step_perturbed_global` read at the regenerated coefficient functions. -/
theorem stored_global_of_accuracy (l m : ℂ) (T δ : ℝ) (hδ : 0 ≤ δ) (n : ℕ) (dt : ℝ) (hdt : 0 ≤ dt) (hn : n * dt ≤ T)
    (H : ∀ i : Fin 14, ‖ContourComplex.storedCoef (dt : ℂ) l 16 1 i - (dt : ℂ) * ContourComplex.exactPhi (l * dt) i‖ ≤ |dt| * δ)
    (u : ℂ) :
    ‖(E1step (exp_term (dt : ℂ) l) (E1_coef_1 (dt : ℂ) l 16 1) (fun v => m * v))^[n] u
        - Complex.exp ((l + m) * (n * dt)) * u‖
      ≤ Cfloor (Cloc1 l m T) (pertD1 m δ) (l + m) 1 T * (Cloc1 l m T * dt ^ 1 + pertD1 m δ) * ‖u‖ ∧
    ‖(E2step (exp_term (dt : ℂ) l) (E2_coef_1 (dt : ℂ) l 16 1) (E2_coef_2 (dt : ℂ) l 16 1)
          (fun v => m * v))^[n] u
        - Complex.exp ((l + m) * (n * dt)) * u‖
      ≤ Cfloor (Cloc2 l m T) (pertD2 l m T δ) (l + m) 2 T * (Cloc2 l m T * dt ^ 2 + pertD2 l m T δ) * ‖u‖ ∧
    ‖(E3step (exp_term (dt : ℂ) l) (E3_half_exp_term (dt : ℂ) l 16 1)
          (E3_coef_1 (dt : ℂ) l 16 1) (E3_coef_2 (dt : ℂ) l 16 1)
          (E3_coef_3 (dt : ℂ) l 16 1) (E3_coef_4 (dt : ℂ) l 16 1)
          (E3_coef_5 (dt : ℂ) l 16 1) (fun v => m * v))^[n] u
        - Complex.exp ((l + m) * (n * dt)) * u‖
      ≤ Cfloor (Cloc3 l m T) (pertD3 l m T δ) (l + m) 3 T * (Cloc3 l m T * dt ^ 3 + pertD3 l m T δ) * ‖u‖ ∧
    ‖(E4step (exp_term (dt : ℂ) l) (E4_half_exp_term (dt : ℂ) l 16 1)
          (E4_coef_1 (dt : ℂ) l 16 1) (E4_coef_2 (dt : ℂ) l 16 1)
          (E4_coef_3 (dt : ℂ) l 16 1) (E4_coef_4 (dt : ℂ) l 16 1)
          (E4_coef_5 (dt : ℂ) l 16 1) (E4_coef_6 (dt : ℂ) l 16 1)
          (fun v => m * v))^[n] u
        - Complex.exp ((l + m) * (n * dt)) * u‖
      ≤ Cfloor (Cloc4 l m T) (pertD4 l m T δ) (l + m) 4 T * (Cloc4 l m T * dt ^ 4 + pertD4 l m T δ) * ‖u‖ := by
  simp_rw [abs_of_nonneg hdt, mul_comm dt δ] at H
  rw [C02_exp_term, C02_half_exp_term_E3, C02_half_exp_term_E4, mul_comm (dt : ℂ) l]
  exact ⟨E1step_perturbed_global l m T δ hδ n dt hdt hn _ (H 0) u,
    E2step_perturbed_global l m T δ hδ n dt hdt hn _ _ (H 1) (H 2) u,
    E3step_perturbed_global l m T δ hδ n dt hdt hn _ _ _ _ _ (H 3) (H 4) (H 5) (H 6) (H 7) u,
    E4step_perturbed_global l m T δ hδ n dt hdt hn _ _ _ _ _ _ (H 8) (H 9) (H 10) (H 11) (H 12) (H 13) u⟩

/-- for `λ ≤ 0` the growth factor in the constants is `W = 1`: the ETDRK1 floor constant is just `‖μ‖·5·10⁻⁸` and
    the floor term of the ETDRK1 bound is `T e^{(‖λ+μ‖ + Cloc1·T + ‖μ‖δ)T} · ‖μ‖ · 5·10⁻⁸ · ‖u‖` -/
theorem pertD1_stored (m : ℂ) : pertD1 m δstored = 5e-8 * ‖m‖ := by
  unfold pertD1 pertK1 δstored; ring

theorem pertD2_stored (lam : ℝ) (m : ℂ) (T : ℝ) (hlam : lam ≤ 0) (hT : 0 ≤ T) :
    pertD2 lam m T δstored
      = 5e-8 * (‖m‖ * (1 + (1 + T * (1 + 5e-8) * ‖m‖ + 1) + T * (1 / 2) * ‖m‖)) := by
  have h : ((lam : ℂ)).re = lam := Complex.ofReal_re lam
  unfold pertD2 pertK2 δstored
  rw [h, expMax_of_nonpos lam T hlam hT]

/-! ### non-vacuity -/
example : ∃ (lam : ℝ) (n : ℕ) (dt T : ℝ), lam ≤ 0 ∧ 0 ≤ dt ∧ n * dt ≤ T ∧ 1 ≤ n :=
  ⟨-100, 10, 1 / 10, 1, by norm_num, by norm_num, by norm_num, by norm_num⟩

end Exponax.LinearOrder
end
