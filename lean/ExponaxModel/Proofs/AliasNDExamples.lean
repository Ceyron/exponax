import ExponaxModel.Proofs.AliasND
/-
Non-vacuity of the hypotheses of the theorems of `AliasND*.lean`: concrete witnesses
(`D = 1`, `D = 2`, `D = 3`, `N = 8` even, `N = 9` odd; fractions 2/3 and 1/2), and instantiations of the
headline theorems at these witnesses.
-/
namespace Exponax.AliasND
open Exponax Exponax.Layout Exponax.Transform Exponax.DFT Exponax.Nonlin Exponax.Alias Finset

/-- 2/3 rule, `D` dimensions, `N = 8` points per axis: `Kc = 1` -/
def cfg23 (D : ℕ) : Cfg ℂ := ⟨D, 8, 1, 2, 3⟩
/-- 1/2 rule, `D` dimensions, `N = 8`: `Kc = 1` -/
def cfg12 (D : ℕ) : Cfg ℂ := ⟨D, 8, 1, 1, 2⟩
/-- 2/3 rule, odd `N = 9`: `Kc = 1` -/
def cfg23odd (D : ℕ) : Cfg ℂ := ⟨D, 9, 1, 2, 3⟩

theorem Kc_cfg23 (D : ℕ) : Kc (cfg23 D) = 1 := by simp only [Kc, cfg23]; decide
theorem Kc_cfg12 (D : ℕ) : Kc (cfg12 D) = 1 := by simp only [Kc, cfg12]; decide
theorem Kc_cfg23odd (D : ℕ) : Kc (cfg23odd D) = 1 := by simp only [Kc, cfg23odd]; decide

/-- a real, non-constant grid field -/
noncomputable def ramp (n : ℕ) : Array ℂ := tab n (fun j => ((j : ℝ) : ℂ))

theorem ramp_real (D N : ℕ) : IsRealND D N (ramp (N ^ D)) := by
  intro j hj
  unfold ramp
  rw [DFT.tab_getD _ _ _ _ hj]
  exact Complex.ofReal_im _

theorem mask_zero_mode (c : Cfg ℂ) (hq : c.fq ≠ 0) (hK : 0 ≤ Kc c) : mask c 0 = 1 := by
  rw [mask_nd_eq_one_iff c hq]
  intro d
  rw [kvec_zero]
  simpa using hK

/-- a mode whose wavenumber vector fails the (decidable) model test `dealiasMask` is dropped -/
theorem mask_dropped (c : Cfg ℂ) (hq : c.fq ≠ 0) (h : ℕ)
    (hd : ¬ dealiasMask c.N c.fp c.fq (wnFlat c.D c.N h) = true) : mask c h = 0 := by
  unfold mask
  rw [if_neg hq, if_neg hd]

theorem const_bandLimitedV (D N : ℕ) (hN : 0 < N) (K : ℤ) (hK : 0 ≤ K) :
    BandLimitedV D N K (tab (N ^ D) fun _ => (1 : ℂ)) := by
  intro a ha
  rw [dftV_const D N hN, if_neg]
  intro hd
  exact ha ⟨0, fun d => by simpa using hK, fun d => by simpa using hd d⟩

theorem const_real (D N : ℕ) : IsRealND D N (tab (N ^ D) fun _ => (1 : ℂ)) := by
  intro j hj
  rw [DFT.tab_getD _ _ _ _ hj]
  simp

-- `dftV_mul_band`, `dftV_mul_no_alias(')`: `0 < N`, `3K < N` (hence `2K < N`), band-limited factors, `k` in the box
example : ∃ (D N : ℕ) (K : ℤ) (u v : Array ℂ) (k : Fin D → ℤ),
    0 < N ∧ 3 * K < (N : ℤ) ∧ 2 * K < (N : ℤ) ∧ BandLimitedV D N K u ∧ BandLimitedV D N K v ∧ ∀ d, |k d| ≤ K :=
  ⟨3, 8, 2, _, _, 0, by norm_num, by norm_num, by norm_num,
    const_bandLimitedV 3 8 (by norm_num) 2 (by norm_num),
    const_bandLimitedV 3 8 (by norm_num) 2 (by norm_num), fun d => by simp⟩

-- `dftV_mul3_band`, `dftV_mul3_no_alias(')`: `4K < N`
example : ∃ (D N : ℕ) (K : ℤ) (u v w : Array ℂ) (k : Fin D → ℤ),
    0 < N ∧ 4 * K < (N : ℤ) ∧ BandLimitedV D N K u ∧ BandLimitedV D N K v ∧ BandLimitedV D N K w ∧
      ∀ d, |k d| ≤ K :=
  ⟨2, 9, 2, _, _, _, 0, by norm_num, by norm_num,
    const_bandLimitedV 2 9 (by norm_num) 2 (by norm_num),
    const_bandLimitedV 2 9 (by norm_num) 2 (by norm_num),
    const_bandLimitedV 2 9 (by norm_num) 2 (by norm_num), fun d => by simp⟩

-- `not_congr_box`, `BandLimitedV.eq_truncV`: `K + L < N`, some component beyond `K`, all within `L`
example : ∃ (D N : ℕ) (K L : ℤ) (n : Fin D → ℤ),
    K + L < (N : ℤ) ∧ (¬ ∀ d, |n d| ≤ K) ∧ ∀ d, |n d| ≤ L :=
  ⟨1, 8, 1, 2, fun _ => 2, by norm_num, fun h => by simpa using h 0, fun d => by simp⟩

-- `rfftn_mul_no_alias`, `C03_product_alias_free_nd`: real fields with band-limited stored half spectrum, retained mode
example : ∃ (D N : ℕ) (K : ℤ) (f g : Array ℂ) (h : ℕ),
    0 < D ∧ 0 < N ∧ 3 * K < (N : ℤ) ∧ IsRealND D N f ∧ IsRealND D N g ∧
    StoredBandLimited D N K f ∧ StoredBandLimited D N K g ∧ h < numModes D N ∧
    ∀ d, |kvec D N h d| ≤ K :=
  ⟨3, 8, 2, _, _, 0, by norm_num, by norm_num, by norm_num, const_real 3 8, const_real 3 8,
    stored_of_bandLimitedV 3 8 (by norm_num) (by norm_num) 2 (by norm_num) _
      (const_bandLimitedV 3 8 (by norm_num) 2 (by norm_num)),
    stored_of_bandLimitedV 3 8 (by norm_num) (by norm_num) 2 (by norm_num) _
      (const_bandLimitedV 3 8 (by norm_num) 2 (by norm_num)),
    by decide, fun d => by rw [kvec_zero]; simp⟩

-- `rfftn_mul3_no_alias`
example : ∃ (D N : ℕ) (K : ℤ) (f : Array ℂ) (h : ℕ),
    0 < D ∧ 0 < N ∧ 4 * K < (N : ℤ) ∧ IsRealND D N f ∧ StoredBandLimited D N K f ∧
    h < numModes D N ∧ ∀ d, |kvec D N h d| ≤ K :=
  ⟨2, 9, 2, _, 0, by norm_num, by norm_num, by norm_num, const_real 2 9,
    stored_of_bandLimitedV 2 9 (by norm_num) (by norm_num) 2 (by norm_num) _
      (const_bandLimitedV 2 9 (by norm_num) 2 (by norm_num)),
    by decide, fun d => by rw [kvec_zero]; simp⟩

-- `kvec_leading`, `kvec_last`, `kvec_abs_le`, `exists_stored_of_last`
example : (5 : ℕ) < numModes (1 + 1) 8 ∧ ((⟨0, by norm_num⟩ : Fin (1 + 1)) : ℕ) < 1
    ∧ ((⟨1, by norm_num⟩ : Fin (1 + 1)) : ℕ) = 1 := ⟨by decide, by norm_num, rfl⟩

example : ∃ (E N : ℕ) (b : Fin (E + 1) → ℤ) (l : ℕ),
    0 < N ∧ l ≤ N / 2 ∧ (N : ℤ) ∣ (l : ℤ) - b (Fin.last E) :=
  ⟨1, 8, fun _ => 11, 3, by norm_num, by norm_num, ⟨-1, by norm_num⟩⟩

-- `mask_nd`, `nifft_bandLimitedV`, `dftV_nifft`: `fq ≠ 0`, `0 < N`
example : (cfg23 3).fq ≠ 0 ∧ 0 < (cfg23 3).N := ⟨by decide, by decide⟩

-- `dftV_nifft_rfftn`, `boxSpec_nifft_rfftn`, `rfftn_nifft_rfftn`: real state, `2·Kc < N`, box vector
example : ∃ (c : Cfg ℂ) (x : Array ℂ) (m : Fin c.D → ℤ) (h : ℕ),
    0 < c.D ∧ c.fq ≠ 0 ∧ 0 < c.N ∧ 2 * Kc c < (c.N : ℤ) ∧ IsRealND c.D c.N x ∧
    (∀ d, |m d| ≤ Kc c) ∧ h < numModes c.D c.N :=
  ⟨cfg23 3, ramp (8 ^ 3), fun _ => 1, 7, by decide, by decide, by decide, by decide,
    ramp_real 3 8, fun d => by rw [Kc_cfg23]; simp, by decide⟩

-- `dftV_nifft_rfftn_off`: a wavenumber vector not congruent to a box vector
example : ∃ (c : Cfg ℂ) (a : Fin c.D → ℤ),
    c.fq ≠ 0 ∧ 0 < c.N ∧ ¬ ∃ m : Fin c.D → ℤ, (∀ d, |m d| ≤ Kc c) ∧ VCongr c.D c.N a m :=
  ⟨cfg23 2, fun _ => 3, by decide, by decide,
    not_congr_box (Kc (cfg23 2)) 3 (by decide) _ (fun h => by
      have := h ⟨0, by decide⟩
      rw [Kc_cfg23] at this
      norm_num at this) (fun d => by simp)⟩

-- `box_congr_stored`
example : ∃ (D N : ℕ) (K : ℤ) (m : Fin D → ℤ) (h : ℕ), 0 < D ∧ 0 < N ∧ 2 * K < (N : ℤ) ∧
    (∀ d, |m d| ≤ K) ∧ h < numModes D N ∧
    ((∀ d, (N : ℤ) ∣ m d - kvec D N h d) ∨ (∀ d, (N : ℤ) ∣ m d + kvec D N h d)) :=
  ⟨2, 8, 1, 0, 0, by norm_num, by norm_num, by norm_num, fun d => by simp, by decide,
    Or.inl (fun d => by rw [kvec_zero]; simp)⟩

/-- the hypotheses of the quadratic (2/3 rule) theorems, retained AND dropped mode, `D = 2`, even `N` -/
example : ∃ (c : Cfg ℂ) (x : Array ℂ) (h h' : ℕ),
    0 < c.D ∧ c.fq ≠ 0 ∧ c.fp = 2 ∧ c.fq = 3 ∧ 3 * Kc c < (c.N : ℤ) ∧ 0 < c.N ∧ IsRealND c.D c.N x ∧
    h < numModes c.D c.N ∧ mask c h = 1 ∧ h' < numModes c.D c.N ∧ mask c h' = 0 :=
  ⟨cfg23 2, ramp (8 ^ 2), 0, 4, by decide, by decide, rfl, rfl, by decide, by decide, ramp_real 2 8,
    by decide, mask_zero_mode _ (by decide) (by decide), by decide, mask_dropped _ (by decide) _ (by decide)⟩

/-- … `D = 3`, odd `N` -/
example : ∃ (c : Cfg ℂ) (x : Array ℂ) (h h' : ℕ),
    0 < c.D ∧ c.fq ≠ 0 ∧ 3 * Kc c < (c.N : ℤ) ∧ 0 < c.N ∧ IsRealND c.D c.N x ∧
    h < numModes c.D c.N ∧ mask c h = 1 ∧ h' < numModes c.D c.N ∧ mask c h' = 0 :=
  ⟨cfg23odd 3, ramp (9 ^ 3), 0, 3, by decide, by decide, by decide, by decide, ramp_real 3 9,
    by decide, mask_zero_mode _ (by decide) (by decide), by decide, mask_dropped _ (by decide) _ (by decide)⟩

/-- the hypotheses of the cubic (1/2 rule) theorems -/
example : ∃ (c : Cfg ℂ) (x : Array ℂ) (h h' : ℕ),
    0 < c.D ∧ c.fq ≠ 0 ∧ c.fp = 1 ∧ c.fq = 2 ∧ 4 * Kc c < (c.N : ℤ) ∧ 0 < c.N ∧ IsRealND c.D c.N x ∧
    h < numModes c.D c.N ∧ mask c h = 1 ∧ h' < numModes c.D c.N ∧ mask c h' = 0 :=
  ⟨cfg12 3, ramp (8 ^ 3), 0, 2, by decide, by decide, rfl, rfl, by decide, by decide, ramp_real 3 8,
    by decide, mask_zero_mode _ (by decide) (by decide), by decide, mask_dropped _ (by decide) _ (by decide)⟩

/-- the hypotheses of the multi-channel convection theorems: `C = D = 2`, two real states -/
example : ∃ (c : Cfg ℂ) (C : ℕ) (uh : MC ℂ) (xs : ℕ → Array ℂ) (i h : ℕ),
    0 < c.D ∧ c.D = 2 ∧ c.fq ≠ 0 ∧ 3 * Kc c < (c.N : ℤ) ∧ 0 < c.N ∧
    (∀ ch, ch < C → IsRealND c.D c.N (xs ch)) ∧
    (∀ ch, ch < C → uh.getD ch #[] = rfftnM c.D c.N (xs ch)) ∧ i < C ∧ h < numModes c.D c.N ∧
    mask c h = 1 :=
  ⟨cfg23 2, 2, tab 2 fun _ => rfftnM 2 8 (ramp (8 ^ 2)), fun _ => ramp (8 ^ 2), 1, 0,
    by decide, rfl, by decide, by decide, by decide, fun _ _ => ramp_real 2 8,
    fun ch hch => DFT.tab_getD _ _ _ _ hch, by norm_num, by decide,
    mask_zero_mode _ (by decide) (by decide)⟩

/-- `rfftn_mul_no_alias` at `D = 3`, `N = 8`, `K = 2` -/
example (h : ℕ) (hh : h < numModes 3 8) (hk : ∀ d, |kvec 3 8 h d| ≤ 2) :=
  rfftn_mul_no_alias 3 8 (by norm_num) (by norm_num) 2 (by norm_num) _ _ (const_real 3 8) (const_real 3 8)
    (stored_of_bandLimitedV 3 8 (by norm_num) (by norm_num) 2 (by norm_num) _
      (const_bandLimitedV 3 8 (by norm_num) 2 (by norm_num)))
    (stored_of_bandLimitedV 3 8 (by norm_num) (by norm_num) 2 (by norm_num) _
      (const_bandLimitedV 3 8 (by norm_num) 2 (by norm_num))) h hh hk

/-- `rfftn_nifft_rfftn` at `D = 3`, 2/3 rule -/
example (h : ℕ) (hh : h < numModes 3 8) :=
  rfftn_nifft_rfftn (cfg23 3) (by decide) (by decide) (by decide) (by decide) _ (ramp_real 3 8) h hh

/-- quadratic polynomial at `D = 2`, 2/3 rule -/
example (c0 c1 c2 : ℂ) (h : ℕ) (hh : h < numModes 2 8) :=
  polynomial_quadratic_alias_free_nd_two_thirds (cfg23 2) (by decide) rfl rfl (by decide) c0 c1 c2 _
    (ramp_real 2 8) h hh

/-- cubic polynomial at `D = 3`, 1/2 rule -/
example (c0 c1 c2 c3 : ℂ) (h : ℕ) (hh : h < numModes 3 8) :=
  polynomial_cubic_alias_free_nd_half (cfg12 3) (by decide) rfl rfl (by decide) c0 c1 c2 c3 _
    (ramp_real 3 8) h hh

/-- conservative two-channel convection at `D = 2`, 2/3 rule -/
example (scale : ℂ) (i : ℕ) (hi : i < 2) (h : ℕ) (hh : h < numModes 2 8) :=
  convection_2d_conservative_alias_free (cfg23 2) rfl (by decide) (by decide) (by decide) scale _ _
    (ramp_real 2 8) (ramp_real 2 8) i hi h hh

/-- Cahn–Hilliard at `D = 3`, 1/2 rule -/
example (scale : ℂ) (h : ℕ) (hh : h < numModes 3 8) :=
  cahnHilliard_alias_free_nd (cfg12 3) (by decide) (by decide) (by decide) (by decide) scale _
    (ramp_real 3 8) h hh

/-- band truncation on the grid at `D = 3`, odd `N` (`dftV_inversion`, `bandLimitedV_grid`, `nifft_rfftn_grid`:
    additionally a grid index `j < N^D`) -/
example :=
  nifft_rfftn_grid (cfg23odd 3) (by decide) (by decide) (by decide) (by decide) _ (ramp_real 3 9) 100
    (by decide)

/-- single-channel conservative convection at `D = 3` -/
example (scale : ℂ) (h : ℕ) (hh : h < numModes 3 8) :=
  convection_single_conservative_alias_free_nd (cfg23 3) (by decide) (by decide) (by decide) (by decide)
    1 scale (tab 1 fun _ => rfftnM 3 8 (ramp (8 ^ 3))) (fun _ => ramp (8 ^ 3)) (fun _ _ => ramp_real 3 8)
    (fun ch hch => DFT.tab_getD _ _ _ _ hch) 0 (by norm_num) h hh

end Exponax.AliasND
