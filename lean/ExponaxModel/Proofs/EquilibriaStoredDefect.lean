import ExponaxModel.Proofs.EquilibriaStored
import ExponaxModel.Proofs.ContourTailETDRK
/-
C09: the defect `fpDefect` is `λ dt ×` the aliasing tail of the contour rule (its size), and two formal
counterexamples to "an equilibrium is a fixed point of the step with the stored coefficients".
-/
namespace Exponax.EquilibriaStored
open Exponax Exponax.Spec Exponax.Gen.Etdrk Exponax.ContourTail

theorem fpDefect_eq (dt lam r : ℂ) (M : ℕ) :
    fpDefect dt lam M r = -(lam * (E1_coef_1 dt lam M r - dt * phi1e (lam * dt))) := by
  have h := LinearOrder.exp_eq_one_add_mul_phi1e (lam * dt)
  simp only [fpDefect, exp_term, hasExp_complex]
  rw [mul_comm dt lam]
  linear_combination h

theorem fpDefectHalf_eq (dt lam r : ℂ) (M : ℕ) :
    fpDefectHalf dt lam M r = -(lam * (E4_coef_1 dt lam M r - dt * (phi1e (lam * dt / 2) / 2))) := by
  have h := LinearOrder.exp_eq_one_add_mul_phi1e (lam * dt / 2)
  rw [fpDefectHalf, C02_half_exp_term_E4, mul_comm dt lam]
  linear_combination h

theorem fpDefect_eq_tail (dt lam r : ℂ) (M : ℕ) (hz : lam * dt ≠ 0) :
    fpDefect dt lam M r
      = -(lam * dt) * (contourMean (roots_of_unity M) r phi1 (lam * dt) - phi1 (lam * dt)) := by
  rw [fpDefect_eq, C02_coef_E1_1, phi1e_of_ne _ hz]
  ring

theorem norm_fpDefect_le (dt lam r : ℂ) (M : ℕ) (hM : 0 < M) (R : ℝ) (hrR : ‖r‖ < R)
    (hnz : ∀ ζ ∈ (roots_of_unity M : List ℂ), r * ζ + lam * dt ≠ 0) :
    ‖fpDefect dt lam M r‖ ≤ ‖lam‖ * (‖dt‖ * (Real.exp (max 0 ((lam * dt).re + R)) * (‖r‖ / R) ^ M
        / (1 - (‖r‖ / R) ^ M))) := by
  rw [fpDefect_eq, norm_neg, norm_mul]
  exact mul_le_mul_of_nonneg_left (E1_coef_1_error dt lam r M hM R hrR hnz) (norm_nonneg _)

theorem norm_fpDefectHalf_le (dt lam r : ℂ) (M : ℕ) (hM : 0 < M) (R : ℝ) (hrR : ‖r‖ < R)
    (hnz : ∀ ζ ∈ (roots_of_unity M : List ℂ), r * ζ + lam * dt ≠ 0) :
    ‖fpDefectHalf dt lam M r‖ ≤ ‖lam‖ * (‖dt‖ * (1 / 2 * Real.exp (max 0 ((lam * dt).re + R)) * (‖r‖ / R) ^ M
        / (1 - (‖r‖ / R) ^ M))) := by
  rw [fpDefectHalf_eq, norm_neg, norm_mul]
  exact mul_le_mul_of_nonneg_left (E4_coef_1_error dt lam r M hM R hrR hnz) (norm_nonneg _)

theorem root_of_unity_one_one : (root_of_unity 1 1 : ℂ) = -1 := by
  have h := root_of_unity_pow_M 1 1 (by norm_num)
  simpa using h

theorem E1_coef_1_M1 : E1_coef_1 (1 : ℂ) 2 1 1 = Complex.exp 1 - 1 := by
  have e : (-1 : ℂ) + 2 = 1 := by norm_num
  simp [E1_coef_1, roots_of_unity, foldAdd, E1_scan_body_0, root_of_unity_one_one]
  rw [e]; simp

theorem fpDefect_M1 : fpDefect 1 2 1 1 = (Complex.exp 1 - 1) ^ 2 := by
  have h2 : Complex.exp (1 * 2) = Complex.exp 1 * Complex.exp 1 := by
    rw [← Complex.exp_add]; norm_num
  rw [fpDefect, E1_coef_1_M1, exp_term, hasExp_complex, h2]
  ring

/-- `M = 1`, `r = 1`, `dt = 1`, `λ = 2`: the single node `r ζ₁ + λ dt = 1` does not
    vanish, `u = 1` is an equilibrium of `u' = 2u + N(u)`, `N(v) = −2v`, yet the regenerated ETDRK1 step with the
    stored coefficient maps it to `1 + (e − 1)² ≠ 1`. -/
theorem stored_fixed_point_false :
    ¬ (∀ (dt lam r : ℂ) (M : ℕ) (N : ℂ → ℂ) (u : ℂ),
        (∀ ζ ∈ (roots_of_unity M : List ℂ), r * ζ + lam * dt ≠ 0) → lam * u + N u = 0 →
        E1step (exp_term dt lam) (E1_coef_1 dt lam M r) N u = u) := by
  intro H
  have hnz : ∀ ζ ∈ (roots_of_unity 1 : List ℂ), (1 : ℂ) * ζ + 2 * 1 ≠ 0 := by
    intro ζ hζ
    simp only [roots_of_unity, List.range_one, List.map_cons, List.map_nil, List.mem_singleton] at hζ
    rw [hζ, root_of_unity_one_one]
    norm_num
  have h := H 1 2 1 1 (fun v => -2 * v) 1 hnz (by ring)
  have hd : E1step (exp_term (1 : ℂ) 2) (E1_coef_1 (1 : ℂ) 2 1 1) (fun v => -2 * v) 1 - 1
      = fpDefect 1 2 1 1 := by
    simp only [E1step, fpDefect]; ring
  rw [h, sub_self, fpDefect_M1] at hd
  have he : Complex.exp 1 ≠ 1 := by
    rw [← Complex.ofReal_one, ← Complex.ofReal_exp]
    exact Complex.ofReal_injective.ne (Real.one_lt_exp_iff.mpr one_pos).ne'
  exact he (sub_eq_zero.mp (pow_eq_zero_iff two_ne_zero |>.mp hd.symm))

theorem root_two (j : ℕ) : (root_of_unity 2 j : ℂ) = (-1) ^ j * -Complex.I := by
  rw [root_of_unity_eq, Nat.cast_ofNat,
    show 2 * (Real.pi : ℂ) * Complex.I / 2 = (Real.pi : ℂ) * Complex.I by ring,
    show -((Real.pi : ℂ) * Complex.I / 2) = -((Real.pi : ℂ) / 2 * Complex.I) by ring,
    Complex.exp_pi_mul_I, Complex.exp_neg, Complex.exp_pi_div_two_mul_I, Complex.inv_I]

theorem roots_two : (roots_of_unity 2 : List ℂ) = [Complex.I, -Complex.I] := by
  show [root_of_unity 2 1, root_of_unity 2 2] = _
  rw [root_two, root_two]
  norm_num

theorem exp_one_add_pi_I : Complex.exp ((Real.pi : ℂ) * Complex.I + 1) = -Complex.exp 1 := by
  rw [Complex.exp_add, Complex.exp_pi_mul_I]; ring

theorem exp_one_sub_pi_I : Complex.exp ((Real.pi : ℂ) * -Complex.I + 1) = -Complex.exp 1 := by
  rw [Complex.exp_add, show (Real.pi : ℂ) * -Complex.I = -((Real.pi : ℂ) * Complex.I) by ring, Complex.exp_neg,
    Complex.exp_pi_mul_I]; norm_num

theorem node_ne (s : ℂ) (hs : s = Complex.I ∨ s = -Complex.I) : (Real.pi : ℂ) * s + 1 ≠ 0 := by
  intro h
  have := congrArg Complex.re h
  rcases hs with rfl | rfl <;> simp at this

theorem E1_coef_1_M2 :
    E1_coef_1 (1 : ℂ) 1 2 (Real.pi : ℂ) = -(Complex.exp 1 + 1) / (1 + (Real.pi : ℂ) ^ 2) := by
  have n1 := node_ne Complex.I (Or.inl rfl)
  have n2 := node_ne (-Complex.I) (Or.inr rfl)
  have hp : (1 : ℂ) + (Real.pi : ℂ) ^ 2 = ((Real.pi : ℂ) * Complex.I + 1) * ((Real.pi : ℂ) * -Complex.I + 1) := by
    ring_nf
    rw [Complex.I_sq]
    ring
  simp only [E1_coef_1, roots_two, foldAdd, List.foldl, E1_scan_body_0, lit_eq, one_mul, mul_one,
    exp_one_add_pi_I, exp_one_sub_pi_I, hasExp_complex]
  rw [hp]
  have hs : ((Real.pi : ℂ) * Complex.I + 1) + ((Real.pi : ℂ) * -Complex.I + 1) = 2 := by ring
  generalize (Real.pi : ℂ) * Complex.I + 1 = p at n1 hs ⊢
  generalize (Real.pi : ℂ) * -Complex.I + 1 = q at n2 hs ⊢
  push_cast
  field_simp
  linear_combination (-(Complex.exp 1) - 1) * hs

theorem fpDefect_M2 :
    fpDefect 1 1 2 (Real.pi : ℂ)
      = ((Real.exp 1 - 1 + (Real.exp 1 + 1) / (1 + Real.pi ^ 2) : ℝ) : ℂ) := by
  rw [fpDefect, E1_coef_1_M2, exp_term, hasExp_complex, mul_one, one_mul]
  push_cast
  ring

/-- an even number of nodes: `M = 2`, `r = π`, `dt = 1`, `λ = 1`: the nodes `1 ± iπ` do not vanish,
    `u = 1` is an equilibrium of `u' = u + N(u)`, `N(v) = −v`, yet the regenerated ETDRK1 step with the stored
    coefficient maps it to `1 + (e − 1) + (e + 1)/(1 + π²) ≠ 1`. -/
theorem stored_fixed_point_false_M2 :
    (∀ ζ ∈ (roots_of_unity 2 : List ℂ), (Real.pi : ℂ) * ζ + 1 * 1 ≠ 0) ∧ (1 : ℂ) * 1 + (fun v : ℂ => -v) 1 = 0 ∧
    E1step (exp_term (1 : ℂ) 1) (E1_coef_1 (1 : ℂ) 1 2 (Real.pi : ℂ)) (fun v => -v) 1 ≠ 1 := by
  refine ⟨?_, by ring, ?_⟩
  · intro ζ hζ
    rw [roots_two] at hζ
    simp only [List.mem_cons, List.mem_nil_iff, or_false] at hζ
    rw [mul_one]
    exact node_ne ζ hζ
  · intro h
    have hd : E1step (exp_term (1 : ℂ) 1) (E1_coef_1 (1 : ℂ) 1 2 (Real.pi : ℂ)) (fun v => -v) 1 - 1
        = fpDefect 1 1 2 (Real.pi : ℂ) := by
      simp only [E1step, fpDefect]; ring
    rw [h, sub_self, fpDefect_M2] at hd
    have hpos : 0 < Real.exp 1 - 1 + (Real.exp 1 + 1) / (1 + Real.pi ^ 2) :=
      add_pos (sub_pos.mpr (Real.one_lt_exp_iff.mpr one_pos)) (by positivity)
    exact hpos.ne' (Complex.ofReal_eq_zero.mp hd.symm)

end Exponax.EquilibriaStored
