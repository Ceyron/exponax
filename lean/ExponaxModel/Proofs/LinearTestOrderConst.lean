import ExponaxModel.Proofs.LinearTestOrderGlobal
/-
C02: explicit constants in the local and global order bounds.  With `‖φ_{p+1}(w)‖ ≤ max(1, e^{Re w})/(p+1)!` the majorant of
the table `Q_ptab` gives, for `0 ≤ t ≤ T`,

    ‖R_p(λt, μt) − e^{(λ+μ)t}‖ ≤ Cloc_p(λ, μ, T) · t^{p+1},
    Cloc_p(λ, μ, T) = absTab Q_ptab ‖λ‖ ‖μ‖ T A B C,   A = max(1, e^{T·Re λ})/(p+1)!,  C = max(1, e^{T·Re(λ+μ)})/(p+1)!,
    B = 1 for p = 1, 2 (no half-step remainder),  B = A for p = 3, 4,

a polynomial with non-negative rational coefficients in `‖λ‖, ‖μ‖, T, A, C`, and then
    ‖R_p(λ dt, μ dt)ⁿ − e^{(λ+μ) n dt}‖ ≤ Cloc_p · T · e^{(‖λ+μ‖ + Cloc_p T^p) T} · dt^p   (n·dt ≤ T).
Both are read off `order_p : OrderOnTestFamily (E_plin λ μ) R_p λ μ p Cloc_p T` (`.loc`, `.glob`, `.unif`).
-/
noncomputable section
namespace Exponax.LinearOrder
open Exponax Exponax.Spec Exponax.ContourTail Exponax.Gen.Etdrk

def expMax (x T : ℝ) : ℝ := max 1 (Real.exp (x * T))

theorem expMax_pos (x T : ℝ) : 0 < expMax x T := lt_of_lt_of_le one_pos (le_max_left _ _)

theorem expMax_of_nonpos (x T : ℝ) (hx : x ≤ 0) (hT : 0 ≤ T) : expMax x T = 1 :=
  max_eq_left (Real.exp_le_one_iff.mpr (mul_nonpos_of_nonpos_of_nonneg hx hT))

theorem max_one_exp_ray (x t T : ℝ) (h0 : 0 ≤ t) (hT : t ≤ T) :
    max 1 (Real.exp (x * t)) ≤ expMax x T := by
  unfold expMax
  rcases le_total x 0 with hx | hx
  · exact max_le (le_max_left _ _)
      ((Real.exp_le_one_iff.mpr (mul_nonpos_of_nonpos_of_nonneg hx h0)).trans (le_max_left _ _))
  · exact max_le_max le_rfl (Real.exp_le_exp.mpr (mul_le_mul_of_nonneg_left hT hx))

/-- `d = (k+1)!` is passed as a literal so that the bound has the shape in which `Cloc?` is written -/
theorem norm_phiE_ray (k d : ℕ) (hd : (k + 1).factorial = d) (x : ℂ) (t T : ℝ) (h0 : 0 ≤ t) (hT : t ≤ T) :
    ‖phiE (k + 1) (x * t)‖ ≤ expMax x.re T / (d : ℝ) := by
  refine (norm_phiE_succ_le k _).trans ?_
  rw [Complex.re_mul_ofReal, hd]
  exact div_le_div_of_nonneg_right (max_one_exp_ray x.re t T h0 hT) (Nat.cast_nonneg d)

theorem half_ray (x : ℂ) (t : ℝ) : x * (t : ℂ) / 2 = x * ((t / 2 : ℝ) : ℂ) := by push_cast; ring

theorem norm_phiE_ray_half (k d : ℕ) (hd : (k + 1).factorial = d) (x : ℂ) (t T : ℝ) (h0 : 0 ≤ t)
    (hT : t ≤ T) : ‖phiE (k + 1) (x * t / 2)‖ ≤ expMax x.re T / (d : ℝ) := by
  rw [half_ray]
  exact norm_phiE_ray k d hd x (t / 2) T (div_nonneg h0 zero_le_two) ((half_le_self h0).trans hT)

theorem expMax_div_nonneg (x T d : ℝ) (hd : 0 ≤ d) : 0 ≤ expMax x T / d :=
  div_nonneg (expMax_pos x T).le hd

theorem absTab_expMax_nonneg (tab : List Mono) (l m : ℂ) (T d B : ℝ) (hT : 0 ≤ T) (hd : 0 ≤ d) (hB : 0 ≤ B) :
    0 ≤ absTab tab ‖l‖ ‖m‖ T (expMax l.re T / d) B (expMax (l + m).re T / d) :=
  absTab_nonneg _ _ _ _ _ _ _ (norm_nonneg _) (norm_nonneg _) hT
    (expMax_div_nonneg _ _ _ hd) hB (expMax_div_nonneg _ _ _ hd)

/-- from the table identity `R − e^{(λ+μ)t} = t^{p+1}·evalTab tab …`: the constant is the majorant of the table at the
    bounds of the three remainders (`d = (p+1)!` as a literal; `b` the half-step slot, `1` for `p ≤ 2`) -/
theorem orderOnTestFamily (tab : List Mono) (p d : ℕ) (hd : (p + 1).factorial = d) (step : ℝ → ℂ → ℂ) (R : ℂ → ℂ → ℂ)
    (l m : ℂ) (T : ℝ) (hT : 0 ≤ T) (b : ℝ → ℂ) (B : ℝ) (hB : 0 ≤ B) (hb : ∀ t : ℝ, 0 ≤ t → t ≤ T → ‖b t‖ ≤ B)
    (hstep : ∀ (dt : ℝ) (u : ℂ), step dt u = R (l * dt) (m * dt) * u)
    (hsub : ∀ t : ℝ, R (l * t) (m * t) - Complex.exp ((l + m) * t)
      = (t : ℂ) ^ (p + 1) * evalTab tab l m t (phiE (p + 1) (l * t)) (b t) (phiE (p + 1) ((l + m) * t))) :
    OrderOnTestFamily step R l m p (absTab tab ‖l‖ ‖m‖ T (expMax l.re T / d) B (expMax (l + m).re T / d)) T :=
  ⟨hstep, absTab_expMax_nonneg tab l m T d B hT (Nat.cast_nonneg d) hB, fun t h0 hT =>
    norm_le_absTab_mul_pow tab (p + 1) _ l m _ _ _ t T _ _ _ h0 hT (hsub t) (norm_phiE_ray p d hd l t T h0 hT)
      (hb t h0 hT) (norm_phiE_ray p d hd (l + m) t T h0 hT)⟩

/-- explicit local-error constant of ETDRK1: a polynomial with non-negative rational coefficients in
    `‖λ‖, ‖μ‖, T, max(1,e^{T Re λ})/2, max(1,e^{T Re(λ+μ)})/2` -/
def Cloc1 (l m : ℂ) (T : ℝ) : ℝ :=
  absTab Q1tab ‖l‖ ‖m‖ T (expMax l.re T / 2) 1 (expMax (l + m).re T / 2)

def Cloc2 (l m : ℂ) (T : ℝ) : ℝ :=
  absTab Q2tab ‖l‖ ‖m‖ T (expMax l.re T / 6) 1 (expMax (l + m).re T / 6)

def Cloc3 (l m : ℂ) (T : ℝ) : ℝ :=
  absTab Q3tab ‖l‖ ‖m‖ T (expMax l.re T / 24) (expMax l.re T / 24) (expMax (l + m).re T / 24)

def Cloc4 (l m : ℂ) (T : ℝ) : ℝ :=
  absTab Q4tab ‖l‖ ‖m‖ T (expMax l.re T / 120) (expMax l.re T / 120) (expMax (l + m).re T / 120)

theorem order1 (l m : ℂ) (T : ℝ) (hT : 0 ≤ T) : OrderOnTestFamily (E1lin l m) R1 l m 1 (Cloc1 l m T) T :=
  orderOnTestFamily Q1tab 1 2 rfl _ _ l m T hT (fun _ => 1) 1 zero_le_one (fun _ _ _ => norm_one.le) (E1lin_apply l m)
    (fun t => R1_sub_exp l m t)

theorem order2 (l m : ℂ) (T : ℝ) (hT : 0 ≤ T) : OrderOnTestFamily (E2lin l m) R2 l m 2 (Cloc2 l m T) T :=
  orderOnTestFamily Q2tab 2 6 rfl _ _ l m T hT (fun _ => 1) 1 zero_le_one (fun _ _ _ => norm_one.le) (E2lin_apply l m)
    (fun t => R2_sub_exp l m t)

theorem order3 (l m : ℂ) (T : ℝ) (hT : 0 ≤ T) : OrderOnTestFamily (E3lin l m) R3 l m 3 (Cloc3 l m T) T :=
  orderOnTestFamily Q3tab 3 24 rfl _ _ l m T hT _ _ (expMax_div_nonneg _ _ _ (by norm_num))
    (fun t => norm_phiE_ray_half 3 24 rfl l t T) (E3lin_apply l m) (fun t => R3_sub_exp l m t)

theorem order4 (l m : ℂ) (T : ℝ) (hT : 0 ≤ T) : OrderOnTestFamily (E4lin l m) R4 l m 4 (Cloc4 l m T) T :=
  orderOnTestFamily Q4tab 4 120 rfl _ _ l m T hT _ _ (expMax_div_nonneg _ _ _ (by norm_num))
    (fun t => norm_phiE_ray_half 4 120 rfl l t T) (E4lin_apply l m) (fun t => R4_sub_exp l m t)

/-- the five monomials of `Q1tab` written out -/
theorem Cloc1_eq (l m : ℂ) (T : ℝ) :
    Cloc1 l m T = (‖m‖ ^ 2 + 2 * ‖l‖ * ‖m‖ + ‖l‖ ^ 2) * (expMax (l + m).re T / 2)
      + (‖l‖ * ‖m‖ + ‖l‖ ^ 2) * (expMax l.re T / 2) := by
  simp only [Cloc1, absTab, Q1tab, List.map, List.sum_cons, List.sum_nil, Mono.abs]
  norm_num
  ring

/-- in the dissipative case `Re λ ≤ 0`, `Re(λ+μ) ≤ 0` no exponential appears -/
theorem Cloc1_dissipative (l m : ℂ) (T : ℝ) (hT : 0 ≤ T) (hl : l.re ≤ 0) (hs : (l + m).re ≤ 0) :
    Cloc1 l m T = ((‖l‖ + ‖m‖) ^ 2 + ‖l‖ * (‖l‖ + ‖m‖)) / 2 := by
  rw [Cloc1_eq, expMax_of_nonpos _ _ hl hT, expMax_of_nonpos _ _ hs hT]
  ring

/-! ### non-vacuity -/
example : ∃ t T : ℝ, 0 ≤ t ∧ t ≤ T := ⟨0, 1, le_rfl, zero_le_one⟩
example : ∃ (n : ℕ) (dt T : ℝ), 0 ≤ T ∧ 0 ≤ dt ∧ n * dt ≤ T := ⟨4, 1 / 4, 1, zero_le_one, by norm_num, by norm_num⟩
example : ∃ l m : ℂ, l.re ≤ 0 ∧ (l + m).re ≤ 0 := ⟨-2, 1, by norm_num, by norm_num⟩

end Exponax.LinearOrder
end
