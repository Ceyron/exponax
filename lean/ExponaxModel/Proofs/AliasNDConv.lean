import ExponaxModel.Proofs.AliasNDBasic
/-
C03 in general dimension, over the full spectrum `dftV`: the circular convolution theorem, and for
factors band-limited to the box `K` its reduction to a LINEAR convolution of the truncated spectra
(`3K < N` for two factors, `4K < N` for three): no wrapped-around contribution.
-/
namespace Exponax.AliasND
open Exponax Exponax.Layout Exponax.Transform Exponax.DFT Finset

/-- circular convolution theorem; the period is indexed by the flat index `a` whose digits are the
    wavenumber components -/
theorem dftV_mul (D N : ℕ) (hN : 0 < N) (u v : Array ℂ) (k : Fin D → ℤ) :
    dftV D N (tab (N ^ D) fun j => u.getD j 0 * v.getD j 0) k
      = (1 / ((N ^ D : ℕ) : ℂ)) * ∑ a ∈ range (N ^ D),
          dftV D N u (digZ D N a) * dftV D N v (k - digZ D N a) := by
  have hNne : ((N ^ D : ℕ) : ℂ) ≠ 0 := by exact_mod_cast (pow_pos hN D).ne'
  have key := dotPhase_cross D N hN (fun j => u.getD j 0) (fun j => v.getD j 0 * zeta N ^ vdot D N k j)
  have hR : ∀ a ∈ range (N ^ D),
      dftV D N u (digZ D N a) * dftV D N v (k - digZ D N a)
      = (∑ j ∈ range (N ^ D), u.getD j 0 * zeta N ^ (dotPhase D N a j)) *
        (∑ j ∈ range (N ^ D), v.getD j 0 * zeta N ^ vdot D N k j * zeta N ^ (-(dotPhase D N a j))) := by
    intro a _
    refine congrArg₂ (· * ·) (Finset.sum_congr rfl fun j _ => ?_) (Finset.sum_congr rfl fun j _ => ?_)
    · rw [vdot_digits]
    · rw [vdot_sub, vdot_digits, sub_eq_add_neg, zpow_add₀ (zeta_ne_zero N), mul_assoc]
  rw [Finset.sum_congr rfl hR, key, dftV_tab]
  rw [← mul_assoc, one_div, inv_mul_cancel₀ hNne, one_mul]
  exact Finset.sum_congr rfl (fun j _ => by ring)

/-- the full spectrum of `u` is supported on the box `|m_d| ≤ K` (every axis) modulo `N`
    (`K < 0`: the spectrum vanishes identically) -/
def BandLimitedV (D N : ℕ) (K : ℤ) (u : Array ℂ) : Prop :=
  ∀ a : Fin D → ℤ, (¬ ∃ m : Fin D → ℤ, (∀ d, |m d| ≤ K) ∧ VCongr D N a m) → dftV D N u a = 0

/-- box truncation of a lattice function `F : ℤ^D → ℂ` (NOT periodised): keep `|m_d| ≤ K` on every axis -/
noncomputable def truncV {D : ℕ} (K : ℤ) (F : (Fin D → ℤ) → ℂ) (m : Fin D → ℤ) : ℂ :=
  if ∀ d, |m d| ≤ K then F m else 0

theorem truncV_of_le {D : ℕ} (K : ℤ) (F : (Fin D → ℤ) → ℂ) (m : Fin D → ℤ) (h : ∀ d, |m d| ≤ K) :
    truncV K F m = F m := if_pos h

theorem truncV_of_not {D : ℕ} (K : ℤ) (F : (Fin D → ℤ) → ℂ) (m : Fin D → ℤ) (h : ¬ ∀ d, |m d| ≤ K) :
    truncV K F m = 0 := if_neg h

theorem truncV_congr {D : ℕ} (K : ℤ) {F G : (Fin D → ℤ) → ℂ}
    (h : ∀ p : Fin D → ℤ, (∀ d, |p d| ≤ K) → F p = G p) (m : Fin D → ℤ) :
    truncV K F m = truncV K G m := by
  unfold truncV
  split_ifs with hm
  · exact h m hm
  · rfl

theorem truncV_mul {D : ℕ} (K : ℤ) (μ F : (Fin D → ℤ) → ℂ) (p : Fin D → ℤ) :
    truncV K (fun q => μ q * F q) p = μ p * truncV K F p := by
  unfold truncV
  split_ifs <;> simp

theorem truncV_sub {D : ℕ} (K : ℤ) (F G : (Fin D → ℤ) → ℂ) (p : Fin D → ℤ) :
    truncV K (fun q => F q - G q) p = truncV K F p - truncV K G p := by
  unfold truncV
  split_ifs <;> simp

theorem BandLimitedV.eq_truncV {D N : ℕ} {K : ℤ} {u : Array ℂ} (hu : BandLimitedV D N K u)
    (L : ℤ) (hKL : K + L < (N : ℤ)) (n : Fin D → ℤ) (hn2 : ∀ d, |n d| ≤ L) :
    dftV D N u n = truncV K (dftV D N u) n := by
  by_cases hn : ∀ d, |n d| ≤ K
  · rw [truncV_of_le _ _ _ hn]
  · rw [truncV_of_not _ _ _ hn, hu n (not_congr_box K L hKL n hn hn2)]

theorem dftV_mul_band (D N : ℕ) (hN : 0 < N) (K : ℤ) (hK : 2 * K < (N : ℤ)) (u v : Array ℂ)
    (hu : BandLimitedV D N K u) (k : Fin D → ℤ) :
    dftV D N (tab (N ^ D) fun j => u.getD j 0 * v.getD j 0) k
      = (1 / ((N ^ D : ℕ) : ℂ)) * ∑ m ∈ box D K, dftV D N u m * dftV D N v (k - m) := by
  rw [dftV_mul D N hN]
  congr 1
  refine sum_flat_eq_sum_box D N hN K hK (fun a => dftV D N u a * dftV D N v (k - a)) ?_ ?_
  · intro a b hab
    show dftV D N u a * dftV D N v (k - a) = dftV D N u b * dftV D N v (k - b)
    rw [dftV_of_congr u hab, dftV_of_congr v ((VCongr.refl D N k).sub hab)]
  · intro a ha
    show dftV D N u a * dftV D N v (k - a) = 0
    rw [hu a ha, zero_mul]

theorem two_lt_of_three (N : ℕ) (K : ℤ) (h3 : 3 * K < (N : ℤ)) : 2 * K < (N : ℤ) := by
  omega

theorem two_lt_of_four (N : ℕ) (K : ℤ) (h4 : 4 * K < (N : ℤ)) : 2 * K < (N : ℤ) := by
  omega

theorem three_lt_of_four (N : ℕ) (K : ℤ) (h4 : 4 * K < (N : ℤ)) : 3 * K < (N : ℤ) := by
  omega

theorem dftV_mul_no_alias' (D N : ℕ) (hN : 0 < N) (K : ℤ) (hK : 3 * K < (N : ℤ)) (u v : Array ℂ)
    (hu : BandLimitedV D N K u) (hv : BandLimitedV D N K v) (k : Fin D → ℤ) (hk : ∀ d, |k d| ≤ K) :
    dftV D N (tab (N ^ D) fun j => u.getD j 0 * v.getD j 0) k
      = (1 / ((N ^ D : ℕ) : ℂ)) * ∑ m ∈ box D K,
          truncV K (dftV D N u) m * truncV K (dftV D N v) (k - m) := by
  rw [dftV_mul_band D N hN K (two_lt_of_three N K hK) u v hu k]
  refine congrArg _ (Finset.sum_congr rfl fun m hm => ?_)
  rw [mem_box] at hm
  rw [truncV_of_le _ _ _ hm, hv.eq_truncV (K + K) (by omega) (k - m)
    fun d => (abs_sub _ _).trans (add_le_add (hk d) (hm d))]

theorem dftV_mul_no_alias (D N : ℕ) (hN : 0 < N) (K : ℤ) (hK : 3 * K < (N : ℤ)) (u v : Array ℂ)
    (hu : BandLimitedV D N K u) (k : Fin D → ℤ) :
    dftV D N (tab (N ^ D) fun j => u.getD j 0 * v.getD j 0) k
      = (1 / ((N ^ D : ℕ) : ℂ)) * ∑ m ∈ box D K, dftV D N u m * dftV D N v (k - m) :=
  dftV_mul_band D N hN K (two_lt_of_three N K hK) u v hu k

theorem dftV_mul3_band (D N : ℕ) (hN : 0 < N) (K : ℤ) (hK : 2 * K < (N : ℤ)) (u v w : Array ℂ)
    (hu : BandLimitedV D N K u) (hv : BandLimitedV D N K v) (k : Fin D → ℤ) :
    dftV D N (tab (N ^ D) fun j => u.getD j 0 * v.getD j 0 * w.getD j 0) k
      = (1 / ((N ^ D : ℕ) : ℂ)) ^ 2 * ∑ a ∈ box D K, ∑ b ∈ box D K,
          dftV D N u a * dftV D N v b * dftV D N w (k - a - b) := by
  have e1 : dftV D N (tab (N ^ D) fun j => u.getD j 0 * v.getD j 0 * w.getD j 0) k
      = dftV D N (tab (N ^ D) fun j =>
          u.getD j 0 * (tab (N ^ D) fun i => v.getD i 0 * w.getD i 0).getD j 0) k := by
    apply dftV_congr
    intro j hj
    rw [DFT.tab_getD _ _ _ _ hj, DFT.tab_getD _ _ _ _ hj, DFT.tab_getD _ _ _ _ hj, mul_assoc]
  rw [e1, dftV_mul_band D N hN K hK u _ hu k]
  simp only [dftV_mul_band D N hN K hK v w hv, Finset.mul_sum]
  apply Finset.sum_congr rfl
  intro a _
  apply Finset.sum_congr rfl
  intro b _
  ring

theorem dftV_mul3_no_alias' (D N : ℕ) (hN : 0 < N) (K : ℤ) (hK : 4 * K < (N : ℤ)) (u v w : Array ℂ)
    (hu : BandLimitedV D N K u) (hv : BandLimitedV D N K v) (hw : BandLimitedV D N K w)
    (k : Fin D → ℤ) (hk : ∀ d, |k d| ≤ K) :
    dftV D N (tab (N ^ D) fun j => u.getD j 0 * v.getD j 0 * w.getD j 0) k
      = (1 / ((N ^ D : ℕ) : ℂ)) ^ 2 * ∑ a ∈ box D K, ∑ b ∈ box D K,
          truncV K (dftV D N u) a * truncV K (dftV D N v) b * truncV K (dftV D N w) (k - a - b) := by
  rw [dftV_mul3_band D N hN K (two_lt_of_four N K hK) u v w hu hv k]
  refine congrArg _ (Finset.sum_congr rfl fun a ha => Finset.sum_congr rfl fun b hb => ?_)
  rw [mem_box] at ha hb
  rw [truncV_of_le _ _ _ ha, truncV_of_le _ _ _ hb, hw.eq_truncV (K + K + K) (by omega) (k - a - b)
    fun d => (abs_sub _ _).trans (add_le_add ((abs_sub _ _).trans (add_le_add (hk d) (ha d))) (hb d))]

theorem dftV_mul3_no_alias (D N : ℕ) (hN : 0 < N) (K : ℤ) (hK : 4 * K < (N : ℤ)) (u v w : Array ℂ)
    (hu : BandLimitedV D N K u) (hv : BandLimitedV D N K v) (k : Fin D → ℤ) :
    dftV D N (tab (N ^ D) fun j => u.getD j 0 * v.getD j 0 * w.getD j 0) k
      = (1 / ((N ^ D : ℕ) : ℂ)) ^ 2 * ∑ a ∈ box D K, ∑ b ∈ box D K,
          dftV D N u a * dftV D N v b * dftV D N w (k - a - b) :=
  dftV_mul3_band D N hN K (two_lt_of_four N K hK) u v w hu hv k

theorem bandLimitedV_grid (D N : ℕ) (hN : 0 < N) (K : ℤ) (hK : 2 * K < (N : ℤ)) (u : Array ℂ)
    (hu : BandLimitedV D N K u) (j : ℕ) (hj : j < N ^ D) :
    u.getD j 0 = (1 / ((N ^ D : ℕ) : ℂ)) * ∑ m ∈ box D K,
      dftV D N u m * zeta N ^ (-(vdot D N m j)) := by
  rw [dftV_inversion D N hN u j hj]
  congr 1
  refine sum_flat_eq_sum_box D N hN K hK (fun a => dftV D N u a * zeta N ^ (-(vdot D N a j))) ?_ ?_
  · intro a b hab
    show dftV D N u a * zeta N ^ (-(vdot D N a j)) = dftV D N u b * zeta N ^ (-(vdot D N b j))
    rw [dftV_of_congr u hab, zeta_zpow_eq_of_modEq N ((vdot_modEq hab j).neg)]
  · intro a ha
    show dftV D N u a * _ = 0
    rw [hu a ha, zero_mul]

theorem sum_box_trunc_eq_pairs {D : ℕ} (K : ℤ) (F G : (Fin D → ℤ) → ℂ) (k : Fin D → ℤ) :
    ∑ m ∈ box D K, truncV K F m * truncV K G (k - m)
      = ∑ pq ∈ (box D K ×ˢ box D K).filter (fun pq => pq.1 + pq.2 = k), F pq.1 * G pq.2 := by
  rw [Finset.sum_filter, Finset.sum_product]
  apply Finset.sum_congr rfl
  intro p hp
  have hp' := mem_box.mp hp
  rw [truncV_of_le _ _ _ hp']
  simp only [← eq_sub_iff_add_eq']
  rw [Finset.sum_ite_eq']
  unfold truncV
  by_cases hq : k - p ∈ box D K
  · rw [if_pos hq, if_pos (mem_box.mp hq)]
  · rw [if_neg hq, if_neg (fun h => hq (mem_box.mpr h)), mul_zero]

end Exponax.AliasND
