import ExponaxModel.Proofs.ConserveVorticity
import ExponaxModel.Proofs.C2RHermitian
import ExponaxModel.Proofs.LerayAlgebra
/-
C09 — a sum of products of c2r fields has no grid mean, for EVERY input spectrum: the c2r transform is adjoint to the
weighted half-spectrum pairing (`real_inner_irfftn`), `rfftn ∘ irfftn` is the identity off the self-conjugate
columns and the Hermitian part on them (`C2R.rfftn_irfftn_nd`), so the grid sum is a sum over stored modes of the direct
and of the conjugate-pair pairing (`sum_irfftn_pairs`); the non-Hermitian parts cancel in pairs `h ↔ conjIdx h`
(`mean_pairs_cancel`).  Three terms rest on it: the 2-D vorticity convection below (two products; nothing in the argument
is special to `D = 2`: the term uses the axes `0` and `1` of any `c.D ≥ 1`), the 3-D rotational term
(`SmallGaps3.sum_cyc`, three products) and its restriction to a line spectrum (`Laminar3D.sum_vel_curl_line`, one).
-/
namespace Exponax.Conserve
open Exponax Exponax.Layout Exponax.Transform Exponax.DFT Exponax.Nonlin Exponax.Alias Exponax.C2R Finset

/-- one stored mode of `mean_pairs_cancel`: `ω` the Hermitian weight of the column, `a` the left coefficient, `x` the
    right one at the mode, `xs` the right one at the conjugate mode -/
theorem pair_mode (ω : ℝ) (a x xs : ℂ) :
    (a * (starRingEnd ℂ) ((ω : ℂ) / 2 * x + (2 - (ω : ℂ)) / 2 * (starRingEnd ℂ) xs)).re
      = ω / 2 * (a * (starRingEnd ℂ) x).re + (2 - ω) / 2 * (a * xs).re := by
  have e : a * (starRingEnd ℂ) ((ω : ℂ) / 2 * x + (2 - (ω : ℂ)) / 2 * (starRingEnd ℂ) xs)
      = ((ω / 2 : ℝ) : ℂ) * (a * (starRingEnd ℂ) x) + (((2 - ω) / 2 : ℝ) : ℂ) * (a * xs) := by
    simp only [map_add, map_mul, map_sub, map_div₀, Complex.conj_ofReal, Complex.conj_conj, map_ofNat]
    push_cast
    ring
  rw [e, Complex.add_re, Complex.re_ofReal_mul, Complex.re_ofReal_mul]

/-- ARBITRARY (not necessarily Hermitian) stored spectra `A_i`, `C_i`: the grid sum of `Σ_i a_i·c_i` is
    `N^{-D} Σ_h w_h (w_h/2·Re Σ_i A_i conj C_i + (2 − w_h)/2·Re T_h)`, `T_h = Σ_i A_i(h) C_i(σh)`, `σ = conjIdx`. -/
theorem sum_irfftn_pairs (D N : ℕ) (hD : 0 < D) (hN : 0 < N) {n : ℕ} (A C : Fin n → ℕ → ℂ) :
    ∑ J ∈ range (N ^ D), ∑ i, (irfftnM D N (tab (numModes D N) (A i))).getD J 0
        * (irfftnM D N (tab (numModes D N) (C i))).getD J 0
      = ((∑ h ∈ range (numModes D N), (herm_weight D N h : ℝ) *
            ((herm_weight D N h : ℝ) / 2 * (∑ i, A i h * (starRingEnd ℂ) (C i h)).re
              + (2 - (herm_weight D N h : ℝ)) / 2 * (∑ i, A i h * C i (conjIdx D N h)).re) : ℝ) : ℂ)
          / ((N ^ D : ℕ) : ℂ) := by
  simp only [mul_comm ((irfftnM D N (tab (numModes D N) (A _))).getD _ 0)]
  rw [Finset.sum_comm, Finset.sum_congr rfl fun i _ => real_inner_irfftn D N hN _ _ fun j _ => irfftnM_im D N _ j,
    ← Finset.sum_div, ← Complex.ofReal_sum, Finset.sum_comm]
  refine congrArg (fun r : ℝ => (r : ℂ) / _) (Finset.sum_congr rfl fun h hh => ?_)
  have hh' := Finset.mem_range.mp hh
  simp only [rfftn_irfftn_nd D N hD hN _ h hh', DFT.tab_getD _ _ _ _ hh',
    DFT.tab_getD _ _ _ _ (conjIdx_lt D N h hD hN), ← Complex.ofReal_natCast, pair_mode]
  rw [← Finset.mul_sum, Finset.sum_add_distrib, ← Finset.mul_sum, ← Finset.mul_sum, ← Complex.re_sum, ← Complex.re_sum]

/-- … it vanishes when the pairing has no real part mode by mode and `T` is odd under `σ` on the self-conjugate columns (the
    only ones where `2 − w_h ≠ 0`) -/
theorem mean_pairs_cancel (D N : ℕ) (hD : 0 < D) (hN : 0 < N) {n : ℕ} (A C : Fin n → ℕ → ℂ)
    (hcore : ∀ h, h < numModes D N → (∑ i, A i h * (starRingEnd ℂ) (C i h)).re = 0)
    (hT : ∀ h, h < numModes D N → herm_weight D N h = 1 →
      ∑ i, A i (conjIdx D N h) * C i h = -∑ i, A i h * C i (conjIdx D N h)) :
    ∑ J ∈ range (N ^ D), ∑ i, (irfftnM D N (tab (numModes D N) (A i))).getD J 0
        * (irfftnM D N (tab (numModes D N) (C i))).getD J 0 = 0 := by
  set g : ℕ → ℝ := fun h => (herm_weight D N h : ℝ) * ((2 - (herm_weight D N h : ℝ)) / 2) with hg
  set T : ℕ → ℂ := fun h => ∑ i, A i h * C i (conjIdx D N h) with hTdef
  rw [sum_irfftn_pairs D N hD hN, Finset.sum_congr rfl fun h hh => show _ = g h * (T h).re by
    rw [hcore h (Finset.mem_range.mp hh), mul_zero, zero_add, ← mul_assoc]]
  -- the conjugate-pair terms cancel under the involution σ
  have hrefl : ∑ h ∈ range (numModes D N), g h * (T h).re
      = ∑ h ∈ range (numModes D N), g (conjIdx D N h) * (T (conjIdx D N h)).re := by
    apply Finset.sum_nbij' (conjIdx D N) (conjIdx D N)
    · intro h _; exact Finset.mem_range.mpr (conjIdx_lt D N h hD hN)
    · intro h _; exact Finset.mem_range.mpr (conjIdx_lt D N h hD hN)
    · intro h hh; exact conjIdx_conjIdx D N h hD hN (Finset.mem_range.mp hh)
    · intro h hh; exact conjIdx_conjIdx D N h hD hN (Finset.mem_range.mp hh)
    · intro h hh; rw [conjIdx_conjIdx D N h hD hN (Finset.mem_range.mp hh)]
  have hneg : ∑ h ∈ range (numModes D N), g (conjIdx D N h) * (T (conjIdx D N h)).re
      = -∑ h ∈ range (numModes D N), g h * (T h).re := by
    rw [← Finset.sum_neg_distrib]
    apply Finset.sum_congr rfl
    intro h hh
    have hh' := Finset.mem_range.mp hh
    have e1 : g (conjIdx D N h) = g h := by simp only [hg, herm_weight_conjIdx D N h hD hN hh']
    rw [e1]
    rcases herm_weight_eq D N h with hw | hw
    · have e2 : T (conjIdx D N h) = -T h := by
        simp only [hTdef]
        rw [conjIdx_conjIdx D N h hD hN hh']
        exact hT h hh' hw
      rw [e2, Complex.neg_re, mul_neg]
    · have : g h = 0 := by simp only [hg, hw]; norm_num
      rw [this, zero_mul, zero_mul, neg_zero]
  rw [self_eq_neg.mp (hrefl.trans hneg), Complex.ofReal_zero, zero_div]

theorem re_eq_zero_of_add_conj (z : ℂ) (h : z + (starRingEnd ℂ) z = 0) : z.re = 0 := by
  rw [Complex.add_conj, Complex.ofReal_eq_zero] at h
  linarith

theorem irfftn_tab_neg (D N : ℕ) (F : ℕ → ℂ) (x : ℕ) :
    (irfftnM D N (tab (numModes D N) fun h => -F h)).getD x 0 = -(irfftnM D N (tab (numModes D N) F)).getD x 0 :=
  congrFun (map_neg (irfftL D N) F) x

/-- the guarded inverse Laplacian is even under `k ↦ −k`: it depends on the wavenumbers through `|k|²` only -/
theorem invLapOne_conjIdx (c : Cfg ℂ) (hD : 0 < c.D) (hN : 0 < c.N) (h : ℕ) (hh : h < modes c) :
    invLapOne c (conjIdx c.D c.N h) = invLapOne c h := by
  have hk : kSq c (conjIdx c.D c.N h) = kSq c h :=
    Finset.sum_congr rfl fun d hd => by
      rw [kInt, kInt, ← Int.natAbs_sq, natAbs_wnFlat_conjIdx c.D c.N h d hD hN hh (Finset.mem_range.mp hd),
        Int.natAbs_sq]
  rw [invLapOne_eq, invLapOne_eq, laplace_two_eq, laplace_two_eq, hk]

/-- the derivative symbol is odd under `conjIdx` on the self-conjugate columns, on every axis where the mode has no Nyquist
    wavenumber (a Nyquist wavenumber `−N/2` is its own partner) -/
theorem deriv_conjIdx (c : Cfg ℂ) (hD : 0 < c.D) (hN : 0 < c.N) (h d : ℕ) (hh : h < modes c)
    (hw : herm_weight c.D c.N h = 1) (hd : d < c.D) (hny : 2 * (kInt c d h).natAbs < c.N) :
    Nonlin.deriv c d (conjIdx c.D c.N h) = -Nonlin.deriv c d h := by
  rw [Nonlin.deriv_eq, Nonlin.deriv_eq]
  rcases wnFlat_conjIdx_getD c.D c.N h d hD hN hh hw hd with e | ⟨_, hab, _⟩
  · rw [kInt, e, Int.cast_neg, mul_neg, mul_neg]
    rfl
  · rw [kInt, hab] at hny
    omega

theorem nifft_of_getD (c : Cfg ℂ) (F : Array ℂ) (A : ℕ → ℂ) (hF : ∀ h, h < modes c → F.getD h 0 = A h) :
    nifft c F = irfftnM c.D c.N (tab (numModes c.D c.N) fun h => mask c h * A h) := by
  unfold nifft modes
  exact congrArg (irfftnM c.D c.N) (Nonlin.tab_congr _ _ _ fun i hi => by rw [hF i hi])

/-- `VorticityConvection2d` without injection has no mean: for EVERY input
    spectrum `ûh` (Hermitian or not), every `N ≥ 1`, every dealiasing setting (including none),
    real `s`:  the stored mean mode of `−b·fft(u ω_x + v ω_y)` is exactly `0`. -/
theorem vorticity2d_mean_nd (c : Cfg ℂ) (hD : 0 < c.D) (hN : 0 < c.N) (s : ℝ) (hs : c.s = (s : ℂ))
    (scale : ℂ) (uh : MC ℂ) : at2 (vorticity2d c scale none uh) 0 0 = 0 := by
  obtain ⟨uH, vH, wxH, wyH, hout, huH, hvH, hwxH, hwyH⟩ := vorticity2d_spec c scale uh
  have hG : gridSize c = c.N ^ c.D := rfl
  have key := mean_pairs_cancel c.D c.N hD hN
    ![fun h => mask c h * (Nonlin.deriv c 1 h * (invLapOne c h * at2 uh 0 h)),
      fun h => mask c h * (-(Nonlin.deriv c 0 h) * (invLapOne c h * at2 uh 0 h))]
    ![fun h => mask c h * (Nonlin.deriv c 0 h * at2 uh 0 h), fun h => mask c h * (Nonlin.deriv c 1 h * at2 uh 0 h)]
    (fun h _ => by
      simp only [Fin.sum_univ_two, Matrix.cons_val_zero, Matrix.cons_val_one]
      rw [vorticity2d_mean_spectral c s hs h (mask c h) (invLapOne c h * at2 uh 0 h) (at2 uh 0 h), Complex.zero_re])
    (fun h hh _ => by
      simp only [Fin.sum_univ_two, Matrix.cons_val_zero, Matrix.cons_val_one]
      rw [invLapOne_conjIdx c hD hN h hh]
      ring)
  simp only [Fin.sum_univ_two, Matrix.cons_val_zero, Matrix.cons_val_one] at key
  rw [hout 0 (modes_pos c hN), nfft_zero_mode c hN,
    Finset.sum_congr rfl fun j hj => DFT.tab_getD _ _ _ _ (Finset.mem_range.mp hj),
    nifft_of_getD c uH _ huH, nifft_of_getD c vH _ hvH, nifft_of_getD c wxH _ hwxH,
    nifft_of_getD c wyH _ hwyH, hG, key, mul_zero, mul_zero]

set_option linter.unusedVariables false in
/-- The same under the hypothesis that the four spectra handed to the inverse transform (`û = d₁ψ̂`, `v̂ = −d₀ψ̂`,
    `d₀ω̂`, `d₁ω̂`, `ψ̂ = invLapOne·ω̂`) are Hermitian-consistent (`RoundTrip`), which `vorticity2d_mean_nd` does
    not need. -/
theorem vorticity2d_mean_partial (c : Cfg ℂ) (hD : 0 < c.D) (hN : 0 < c.N) (s : ℝ) (hs : c.s = (s : ℂ))
    (scale : ℂ) (uh : MC ℂ)
    (HU : RoundTrip c (fun h => deriv c 1 h * (invLapOne c h * at2 uh 0 h)))
    (HV : RoundTrip c (fun h => -(deriv c 0 h) * (invLapOne c h * at2 uh 0 h)))
    (HX : RoundTrip c (fun h => deriv c 0 h * at2 uh 0 h))
    (HY : RoundTrip c (fun h => deriv c 1 h * at2 uh 0 h)) :
    at2 (vorticity2d c scale none uh) 0 0 = 0 :=
  vorticity2d_mean_nd c hD hN s hs scale uh

/-- the same with the Kolmogorov injection switched on: the forcing lives on the modes
    `k = (0, m)` and is proportional to `k₁`, so it never touches the mean mode -/
theorem vorticity2d_mean_inj (c : Cfg ℂ) (hD : 0 < c.D) (hN : 0 < c.N) (s : ℝ) (hs : c.s = (s : ℂ))
    (scale : ℂ) (inj : Option (ℕ × ℂ)) (uh : MC ℂ) :
    at2 (vorticity2d c scale inj uh) 0 0 = 0 := by
  rw [vorticity2d_inj c scale inj uh 0 (modes_pos c hN), vorticity2d_mean_nd c hD hN s hs scale uh, zero_add]
  rcases inj with _ | ⟨m, gam⟩
  · rfl
  · simp only [inj2, kInt_zero_mode c 1]
    split_ifs <;> simp

end Exponax.Conserve
