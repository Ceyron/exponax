import ExponaxModel.Proofs.ExactLinearIndex
import ExponaxModel.Proofs.SymbolAlgebra
import ExponaxModel.Proofs.LerayBasic
/-
C01 support.  A Fourier multiplier `ReadOff.specApply D N G u = irfftnM D N (h ↦ G h · (rfftnM D N u)_h)` that
takes the value `r e^{iψ}` at the stored copy of `κ` (strictly below Nyquist) and its conjugate at the stored copy of
`-κ` maps the single-mode field `a cos(2π κ·j/N + φ)` to `a r cos(2π κ·j/N + φ + ψ)`.  One call of a linear stepper,
  `linStep D N Λ t u = irfftnM D N (h ↦ E0step (exp_term t (Λ h)) (rfftnM D N u)_h)`,
is the multiplier `exp(t Λ)`: it maps the mode to `a e^{t Re λ_κ} cos(2π κ·j/N + φ + t Im λ_κ)` for EVERY real `t`,
and, by linearity of `rfftnM` / `irfftnM`, every finite superposition of such modes to the superposition of
the analytic solutions.  (The semigroup and inverse laws `linStep_add`, `linStep_group` are in `MultiplierCalc.lean`;
`ExactLinearSemigroup.lean` has them on `stateOf`, the Nyquist counterexample and the `polySymbol` instance.)
-/
namespace Exponax.ExactLinear
open Exponax Exponax.Layout Exponax.Transform Exponax.DFT Finset
open scoped ComplexConjugate

export Exponax.DFT (array_ext_getD)

noncomputable def vadd (n : ℕ) (u v : Array ℂ) : Array ℂ := tab n (fun j => u.getD j 0 + v.getD j 0)
noncomputable def vsmul (n : ℕ) (c : ℂ) (u : Array ℂ) : Array ℂ := tab n (fun j => c * u.getD j 0)
noncomputable def vzero (n : ℕ) : Array ℂ := tab n (fun _ => 0)
noncomputable def vsum (n : ℕ) (us : List (Array ℂ)) : Array ℂ := us.foldr (vadd n) (vzero n)

@[simp] theorem vadd_size (n : ℕ) (u v : Array ℂ) : (vadd n u v).size = n := by simp [vadd]
@[simp] theorem vsmul_size (n : ℕ) (c : ℂ) (u : Array ℂ) : (vsmul n c u).size = n := by simp [vsmul]
@[simp] theorem vzero_size (n : ℕ) : (vzero n).size = n := by simp [vzero]

theorem vadd_getD (n : ℕ) (u v : Array ℂ) (j : ℕ) (hj : j < n) :
    (vadd n u v).getD j 0 = u.getD j 0 + v.getD j 0 := by rw [vadd, tab_getD _ _ _ _ hj]
theorem vsmul_getD (n : ℕ) (c : ℂ) (u : Array ℂ) (j : ℕ) (hj : j < n) :
    (vsmul n c u).getD j 0 = c * u.getD j 0 := by rw [vsmul, tab_getD _ _ _ _ hj]
theorem vzero_getD (n : ℕ) (j : ℕ) : (vzero n).getD j 0 = 0 := by
  rcases Nat.lt_or_ge j n with hj | hj
  · rw [vzero, tab_getD _ _ _ _ hj]
  · rw [vzero, tab_getD_of_le _ _ _ _ hj]

@[simp] theorem vsum_nil (n : ℕ) : vsum n [] = vzero n := rfl
@[simp] theorem vsum_cons (n : ℕ) (u : Array ℂ) (us : List (Array ℂ)) :
    vsum n (u :: us) = vadd n u (vsum n us) := rfl

@[simp] theorem vsum_size (n : ℕ) (us : List (Array ℂ)) : (vsum n us).size = n := by
  cases us <;> simp

theorem vsum_getD (n : ℕ) (us : List (Array ℂ)) (j : ℕ) (hj : j < n) :
    (vsum n us).getD j 0 = (us.map (fun u => u.getD j 0)).sum := by
  induction us with
  | nil => rw [vsum_nil, vzero_getD]; simp
  | cons u us ih => rw [vsum_cons, vadd_getD _ _ _ _ hj, ih, List.map_cons, List.sum_cons]

/-! `rfftnM` is `ℂ`-linear and `irfftnM` is `ℝ`-linear (it takes real parts): `DFT.rfftnM_lin`, `DFT.irfftnM_lin_real` on
`vadd`, `vsmul`, `vzero`. -/

theorem rfftnM_vadd (D N : ℕ) (_ : 0 < N) (u v : Array ℂ) :
    rfftnM D N (vadd (N ^ D) u v) = vadd (numModes D N) (rfftnM D N u) (rfftnM D N v) := by
  apply array_ext_getD _ _ (numModes D N) (rfftnM_size ..) (vadd_size ..)
  intro h hh
  have := rfftnM_lin D N 1 1 u v _ (fun j hj => by rw [vadd_getD _ _ _ _ hj, one_mul, one_mul]) h
  rwa [one_mul, one_mul, ← vadd_getD _ _ _ _ hh] at this

theorem rfftnM_vsmul (D N : ℕ) (_ : 0 < N) (c : ℂ) (u : Array ℂ) :
    rfftnM D N (vsmul (N ^ D) c u) = vsmul (numModes D N) c (rfftnM D N u) := by
  apply array_ext_getD _ _ (numModes D N) (rfftnM_size ..) (vsmul_size ..)
  intro h hh
  have := rfftnM_lin D N c 0 u u (vsmul (N ^ D) c u) (fun j hj => by rw [vsmul_getD _ _ _ _ hj, zero_mul, add_zero]) h
  rwa [zero_mul, add_zero, ← vsmul_getD _ _ _ _ hh] at this

theorem rfftnM_vzero (D N : ℕ) (_ : 0 < N) : rfftnM D N (vzero (N ^ D)) = vzero (numModes D N) :=
  array_ext_getD _ _ (numModes D N) (rfftnM_size ..) (vzero_size _) fun h _ => by
    rw [vzero_getD, rfftnM_eq_zero D N _ (fun j _ => vzero_getD _ j)]

theorem irfftnM_vadd (D N : ℕ) (c d : Array ℂ) :
    irfftnM D N (vadd (numModes D N) c d) = vadd (N ^ D) (irfftnM D N c) (irfftnM D N d) := by
  apply array_ext_getD _ _ (N ^ D) (irfftnM_size ..) (vadd_size ..)
  intro j hj
  have := irfftnM_lin_real D N 1 1 c d _
    (fun m hm => by rw [vadd_getD _ _ _ _ hm, Complex.ofReal_one, one_mul, one_mul]) j
  rwa [Complex.ofReal_one, one_mul, one_mul, ← vadd_getD _ _ _ _ hj] at this

theorem irfftnM_vsmul_real (D N : ℕ) (r : ℝ) (c : Array ℂ) :
    irfftnM D N (vsmul (numModes D N) (r : ℂ) c) = vsmul (N ^ D) (r : ℂ) (irfftnM D N c) := by
  apply array_ext_getD _ _ (N ^ D) (irfftnM_size ..) (vsmul_size ..)
  intro j hj
  have := irfftnM_lin_real D N r 0 c c (vsmul (numModes D N) (r : ℂ) c)
    (fun m hm => by rw [vsmul_getD _ _ _ _ hm, Complex.ofReal_zero, zero_mul, add_zero]) j
  rwa [Complex.ofReal_zero, zero_mul, add_zero, ← vsmul_getD _ _ _ _ hj] at this

theorem irfftnM_vzero (D N : ℕ) : irfftnM D N (vzero (numModes D N)) = vzero (N ^ D) :=
  array_ext_getD _ _ (N ^ D) (irfftnM_size ..) (vzero_size _) fun j _ => by
    rw [vzero_getD, irfftnM_eq_zero D N _ (fun m _ => vzero_getD _ m)]

/-- total c2r weight carried by the stored copies of `±κ` -/
noncomputable def Wsum (D N : ℕ) (κ : List ℤ) : ℂ :=
  ∑ h ∈ range (numModes D N), (herm_weight D N h : ℂ) *
    ((if wnFlat D N h = κ then 1 else 0) + (if wnFlat D N h = negK κ then 1 else 0))

/-- a real-part sum over the half spectrum of one mode against a factor `F` that takes conjugate values `f`, `conj f`
    at the stored copies of `κ`, `-κ`: either copy contributes `Re (c f)`, `c` the coefficient of the mode at `κ` (the
    coefficient at `-κ` is `conj c`).  A multiplier applied to a mode and the interpolant of a mode are sums of this
    form. -/
theorem sum_rfftnM_modeField_mul (D N : ℕ) (hD : 0 < D) (hN : 0 < N) (κ : List ℤ) (hκ : BelowNyquist D N κ)
    (a φ : ℝ) (F : ℕ → ℂ) (f : ℂ)
    (h1 : ∀ h < numModes D N, wnFlat D N h = κ → F h = f)
    (h2 : ∀ h < numModes D N, wnFlat D N h = negK κ → F h = conj f) :
    ∑ h ∈ range (numModes D N), (herm_weight D N h : ℂ) *
        ((((rfftnM D N (modeField D N κ a φ)).getD h 0 * F h).re : ℝ) : ℂ)
      = ((((a / 2 : ℂ) * ((N ^ D : ℕ) : ℂ) * Complex.exp (φ * Complex.I) * f).re : ℝ) : ℂ) * Wsum D N κ := by
  unfold Wsum
  rw [Finset.mul_sum]
  refine Finset.sum_congr rfl fun h hh => ?_
  have hh' := Finset.mem_range.mp hh
  rw [rfftnM_modeField D N hD hN κ hκ a φ h hh']
  set c : ℂ := (a / 2 : ℂ) * ((N ^ D : ℕ) : ℂ) * Complex.exp (φ * Complex.I) with hc
  have FA : (if wnFlat D N h = κ then c else 0) * F h = if wnFlat D N h = κ then c * f else 0 := by
    by_cases hA : wnFlat D N h = κ
    · rw [if_pos hA, if_pos hA, h1 h hh' hA]
    · rw [if_neg hA, if_neg hA, zero_mul]
  have FB : (if wnFlat D N h = negK κ then (a / 2 : ℂ) * ((N ^ D : ℕ) : ℂ) * Complex.exp (-(φ * Complex.I)) else 0)
      * F h = if wnFlat D N h = negK κ then conj (c * f) else 0 := by
    by_cases hB : wnFlat D N h = negK κ
    · rw [if_pos hB, if_pos hB, h2 h hh' hB, map_mul, hc, conj_coef]
    · rw [if_neg hB, if_neg hB, zero_mul]
  rw [add_mul, FA, FB, Complex.add_re, apply_ite Complex.re, apply_ite Complex.re, Complex.conj_re,
    Complex.zero_re, Complex.ofReal_add, apply_ite Complex.ofReal, apply_ite Complex.ofReal, Complex.ofReal_zero,
    ← mul_boole (wnFlat D N h = κ) ((c * f).re : ℂ), ← mul_boole (wnFlat D N h = negK κ) ((c * f).re : ℂ)]
  ring

theorem phaseK_zero_point (D N : ℕ) (κ : List ℤ) : phaseK D N κ 0 = 0 := by
  rw [phaseK_eq_sum]
  apply Finset.sum_eq_zero
  intro d _
  simp [digit]

end Exponax.ExactLinear

namespace Exponax.SmallGaps3
open Exponax Exponax.Layout Exponax.Transform Exponax.DFT Exponax.ExactLinear Exponax.SmallGaps2 Finset

/-- the two indicators of the read-off `rfftnM_modeField_nyquist` -/
noncomputable def ind2 (D N : ℕ) (κ : List ℤ) (h : ℕ) : ℂ :=
  (if wnFlat D N h = canonK D N κ then 1 else 0) + (if wnFlat D N h = canonK D N (negK κ) then 1 else 0)

theorem ind2_re (D N : ℕ) (κ : List ℤ) (h : ℕ) : (((ind2 D N κ h).re : ℝ) : ℂ) = ind2 D N κ h := by
  unfold ind2
  split_ifs <;> simp

/-- **total weight 2**, every `κ` with `|κ_d| ≤ N/2` (one mode of weight 2; or two modes of weight 1; or — self-conjugate
    `κ` — ONE mode of weight 1 counted by both indicators).  Read off from `irfftn (rfftn u) = u` at the origin for
    `u = cos(κ·x)`, whose stored coefficients are `N^D/2 · ind2`. -/
theorem sum_weight_ind2 (D N : ℕ) (hD : 0 < D) (hN : 0 < N) (κ : List ℤ) (hκ : AtMostNyquist D N κ) :
    ∑ h ∈ range (numModes D N), (herm_weight D N h : ℂ) * ind2 D N κ h = 2 := by
  have hpos : 0 < N ^ D := pow_pos hN D
  have hNne : ((N ^ D : ℕ) : ℂ) ≠ 0 := by exact_mod_cast hpos.ne'
  have h := irfftn_rfftn D N hD hN (modeField D N κ 1 0) (modeField_real D N κ 1 0) 0 hpos
  rw [irfftnM_getD D N hN _ 0 hpos, modeField_getD D N κ 1 0 0 hpos, phaseK_zero_point] at h
  have hterm : ∀ h ∈ range (numModes D N),
      (herm_weight D N h : ℂ) * (((((rfftnM D N (modeField D N κ 1 0)).getD h 0
        * twiddle N (-(phaseK D N (wnFlat D N h) 0))).re : ℝ)) : ℂ)
      = (((N ^ D : ℕ) : ℂ) / 2) * ((herm_weight D N h : ℂ) * ind2 D N κ h) := by
    intro h hh
    have hu : (rfftnM D N (modeField D N κ 1 0)).getD h 0 = ((((N ^ D : ℕ) : ℝ) / 2 : ℝ) : ℂ) * ind2 D N κ h := by
      rw [rfftnM_modeField_nyquist D N hD hN κ hκ 1 0 h (Finset.mem_range.mp hh), Complex.ofReal_zero, zero_mul,
        neg_zero, Complex.exp_zero]
      unfold ind2
      push_cast
      split_ifs <;> ring
    rw [phaseK_zero_point, neg_zero, twiddle_eq_zpow, zpow_zero, mul_one, hu, Complex.re_ofReal_mul,
      Complex.ofReal_mul, ind2_re]
    push_cast
    ring
  rw [Finset.sum_congr rfl hterm, ← Finset.mul_sum, div_eq_iff hNne, Int.cast_zero, mul_zero, zero_div, zero_add,
    Real.cos_zero, mul_one, Complex.ofReal_one, one_mul] at h
  have h'' : ((N ^ D : ℕ) : ℂ) * ∑ h ∈ range (numModes D N), (herm_weight D N h : ℂ) * ind2 D N κ h
      = ((N ^ D : ℕ) : ℂ) * 2 := by
    linear_combination 2 * h
  exact mul_left_cancel₀ hNne h''

end Exponax.SmallGaps3

namespace Exponax.ExactLinear
open Exponax Exponax.Layout Exponax.Transform Exponax.DFT Exponax.SmallGaps2 Exponax.SmallGaps3 Finset
open scoped ComplexConjugate

theorem Wsum_eq_two (D N : ℕ) (hD : 0 < D) (hN : 0 < N) (κ : List ℤ) (hκ : BelowNyquist D N κ) :
    Wsum D N κ = 2 := by
  have := sum_weight_ind2 D N hD hN κ (atMostNyquist_of_below hκ)
  unfold ind2 at this
  rwa [canonK_of_belowNyquist D N κ hκ, canonK_of_belowNyquist D N _ hκ.negK] at this

theorem re_polar_mul_zeta (N : ℕ) (ρ θ : ℝ) (p : ℤ) :
    ((ρ : ℂ) * Complex.exp (θ * Complex.I) * zeta N ^ (-p)).re
      = ρ * Real.cos (2 * Real.pi * (p : ℝ) / N + θ) := by
  have e : Complex.exp (θ * Complex.I) * zeta N ^ (-p)
      = Complex.exp (((2 * Real.pi * (p : ℝ) / N + θ : ℝ) : ℂ) * Complex.I) := by
    rw [zeta_zpow_eq_exp, ← Complex.exp_add]
    congr 1
    push_cast
    ring
  rw [mul_assoc, e, Complex.re_ofReal_mul, Complex.exp_ofReal_mul_I_re]

end Exponax.ExactLinear

namespace Exponax.ReadOff
open Exponax Exponax.Layout Exponax.Transform Exponax.DFT Exponax.ExactLinear Finset
open scoped ComplexConjugate

/-- `irfftn(G ⊙ rfftn(u))`: the pipeline of every "transform – multiply by a symbol – transform back" routine of
    the model (`Nonlin.derivativeM` is `specApply` with `G h = (i s k_d(h))^m`, definitionally; see `ReadOffND.lean`) -/
noncomputable def specApply (D N : ℕ) (G : ℕ → ℂ) (u : Array ℂ) : Array ℂ :=
  irfftnM D N (tab (numModes D N) (fun h => G h * (rfftnM D N u).getD h 0))

@[simp] theorem specApply_size (D N : ℕ) (G : ℕ → ℂ) (u : Array ℂ) : (specApply D N G u).size = N ^ D :=
  irfftnM_size D N _

theorem specApply_getD (D N : ℕ) (hN : 0 < N) (G : ℕ → ℂ) (u : Array ℂ) (j : ℕ) (hj : j < N ^ D) :
    (specApply D N G u).getD j 0
      = (∑ h ∈ range (numModes D N), (herm_weight D N h : ℂ) *
          ((((rfftnM D N u).getD h 0
              * (G h * zeta N ^ (-(phaseK D N (wnFlat D N h) j)))).re : ℝ) : ℂ)) / ((N ^ D : ℕ) : ℂ) := by
  unfold specApply
  rw [irfftnM_getD D N hN _ j hj]
  refine congrArg (· / _) (Finset.sum_congr rfl fun h hh => ?_)
  rw [tab_getD _ _ _ _ (Finset.mem_range.mp hh), twiddle_eq_zpow, mul_comm (G h), mul_assoc]

theorem specApply_congr (D N : ℕ) (G G' : ℕ → ℂ) (u : Array ℂ)
    (h : ∀ h < numModes D N, G h = G' h) : specApply D N G u = specApply D N G' u :=
  congrArg (irfftnM D N) (tab_congr _ _ _ fun i hi => by rw [h i hi])

theorem specApply_vadd (D N : ℕ) (hN : 0 < N) (G : ℕ → ℂ) (u v : Array ℂ) :
    specApply D N G (vadd (N ^ D) u v) = vadd (N ^ D) (specApply D N G u) (specApply D N G v) := by
  unfold specApply
  rw [← irfftnM_vadd D N, rfftnM_vadd D N hN]
  refine congrArg (irfftnM D N) ?_
  apply array_ext_getD _ _ (numModes D N) (tab_size ..) (vadd_size ..)
  intro h hh
  rw [tab_getD _ _ _ _ hh, vadd_getD _ _ _ _ hh, vadd_getD _ _ _ _ hh, tab_getD _ _ _ _ hh,
    tab_getD _ _ _ _ hh, mul_add]

theorem specApply_vsmul_real (D N : ℕ) (hN : 0 < N) (G : ℕ → ℂ) (r : ℝ) (u : Array ℂ) :
    specApply D N G (vsmul (N ^ D) (r : ℂ) u) = vsmul (N ^ D) (r : ℂ) (specApply D N G u) := by
  unfold specApply
  rw [← irfftnM_vsmul_real D N, rfftnM_vsmul D N hN]
  refine congrArg (irfftnM D N) ?_
  apply array_ext_getD _ _ (numModes D N) (tab_size ..) (vsmul_size ..)
  intro h hh
  rw [tab_getD _ _ _ _ hh, vsmul_getD _ _ _ _ hh, vsmul_getD _ _ _ _ hh, tab_getD _ _ _ _ hh, mul_left_comm]

theorem specApply_vzero (D N : ℕ) (hN : 0 < N) (G : ℕ → ℂ) :
    specApply D N G (vzero (N ^ D)) = vzero (N ^ D) := by
  have e : tab (numModes D N) (fun h => G h * (vzero (numModes D N)).getD h 0) = vzero (numModes D N) :=
    tab_congr _ _ _ fun h _ => by rw [vzero_getD, mul_zero]
  unfold specApply
  rw [rfftnM_vzero D N hN, e, irfftnM_vzero D N]

theorem specApply_vsum (D N : ℕ) (hN : 0 < N) (G : ℕ → ℂ) (us : List (Array ℂ)) :
    specApply D N G (vsum (N ^ D) us) = vsum (N ^ D) (us.map (specApply D N G)) := by
  induction us with
  | nil => rw [vsum_nil, specApply_vzero D N hN, List.map_nil, vsum_nil]
  | cons u us ih => rw [vsum_cons, specApply_vadd D N hN, ih, List.map_cons, vsum_cons]

/-- `r` may be negative or zero; of the stored copies of `κ` and `-κ` one or both exist, and `h1`, `h2` speak of
    those that do. -/
theorem specApply_modeField (D N : ℕ) (hD : 0 < D) (hN : 0 < N) (G : ℕ → ℂ) (κ : List ℤ)
    (hκ : BelowNyquist D N κ) (μ : ℂ) (r ψ : ℝ) (hμ : μ = (r : ℂ) * Complex.exp (ψ * Complex.I))
    (h1 : ∀ h < numModes D N, wnFlat D N h = κ → G h = μ)
    (h2 : ∀ h < numModes D N, wnFlat D N h = negK κ → G h = conj μ)
    (a φ : ℝ) :
    specApply D N G (modeField D N κ a φ) = modeField D N κ (a * r) (φ + ψ) := by
  apply array_ext_getD _ _ (N ^ D) (specApply_size ..) (modeField_size ..)
  intro j hj
  have e : (a / 2 : ℂ) * ((N ^ D : ℕ) : ℂ) * Complex.exp (φ * Complex.I) * (μ * zeta N ^ (-(phaseK D N κ j)))
      = ((a / 2 * (N ^ D : ℕ) * r : ℝ) : ℂ) * Complex.exp (((φ + ψ : ℝ) : ℂ) * Complex.I)
          * zeta N ^ (-(phaseK D N κ j)) := by
    rw [hμ, Complex.ofReal_add, add_mul, Complex.exp_add]
    push_cast
    ring
  rw [specApply_getD D N hN G _ j hj,
    sum_rfftnM_modeField_mul D N hD hN κ hκ a φ _ (μ * zeta N ^ (-(phaseK D N κ j)))
      (fun h hh hA => by rw [h1 h hh hA, hA])
      (fun h hh hB => by rw [h2 h hh hB, hB, phaseK_negK, neg_neg, map_mul, conj_zeta_zpow, neg_neg]),
    Wsum_eq_two D N hD hN κ hκ, modeField_getD D N κ _ _ j hj, e, re_polar_mul_zeta]
  have hNne : ((N ^ D : ℕ) : ℂ) ≠ 0 := Nat.cast_ne_zero.mpr (pow_pos hN D).ne'
  rw [div_eq_iff hNne]
  push_cast
  ring

theorem specApply_modeField_real (D N : ℕ) (hD : 0 < D) (hN : 0 < N) (G : ℕ → ℂ) (κ : List ℤ)
    (hκ : BelowNyquist D N κ) (r : ℝ)
    (h1 : ∀ h < numModes D N, wnFlat D N h = κ → G h = (r : ℂ))
    (h2 : ∀ h < numModes D N, wnFlat D N h = negK κ → G h = (r : ℂ))
    (a φ : ℝ) :
    specApply D N G (modeField D N κ a φ) = modeField D N κ (a * r) φ := by
  have := specApply_modeField D N hD hN G κ hκ (r : ℂ) r 0 (by simp) h1
    (fun h hh hk => by rw [h2 h hh hk, Complex.conj_ofReal]) a φ
  rwa [add_zero] at this

/-- non-vacuity: the constant multiplier `3` on the mode `κ = (1, -1)` of the `4 × 4` grid -/
example : BelowNyquist 2 4 [1, -1] ∧ ((3 : ℝ) : ℂ) = ((3 : ℝ) : ℂ) * Complex.exp (((0 : ℝ) : ℂ) * Complex.I) ∧
    (∀ h < numModes 2 4, wnFlat 2 4 h = [1, -1] → (fun _ : ℕ => ((3 : ℝ) : ℂ)) h = ((3 : ℝ) : ℂ)) ∧
    (∀ h < numModes 2 4, wnFlat 2 4 h = negK [1, -1] → (fun _ : ℕ => ((3 : ℝ) : ℂ)) h = conj ((3 : ℝ) : ℂ)) :=
  ⟨belowNyquist_of_forall_mem (by decide), by simp, fun _ _ _ => rfl,
    fun _ _ _ => (Complex.conj_ofReal 3).symm⟩

theorem modeField_zero_amp (D N : ℕ) (κ : List ℤ) (φ : ℝ) : modeField D N κ 0 φ = vzero (N ^ D) := by
  apply array_ext_getD _ _ (N ^ D) (modeField_size ..) (vzero_size _)
  intro j hj
  rw [modeField_getD D N κ 0 φ j hj, vzero_getD, zero_mul, Complex.ofReal_zero]

/-- the amplitude is linear; with `specApply_vsum` and `specApply_modeField` this carries a multiplier through `stateOf` -/
theorem modeField_smul (D N : ℕ) (κ : List ℤ) (r a φ : ℝ) :
    modeField D N κ (r * a) φ = vsmul (N ^ D) (r : ℂ) (modeField D N κ a φ) := by
  apply array_ext_getD _ _ (N ^ D) (modeField_size ..) (vsmul_size ..)
  intro j hj
  rw [modeField_getD D N κ _ φ j hj, vsmul_getD _ _ _ _ hj, modeField_getD D N κ a φ j hj, mul_assoc,
    Complex.ofReal_mul]

end Exponax.ReadOff

namespace Exponax.ExactLinear
open Exponax Exponax.Layout Exponax.Transform Exponax.DFT Exponax.Gen.Etdrk Exponax.ReadOff Finset
open scoped ComplexConjugate

/-- `irfftn(exp(t·Λ) ⊙ rfftn(u))` — the composition of the model's transforms with the regenerated
    `E0step` / `exp_term`, mode by mode -/
noncomputable def linStep (D N : ℕ) (Λ : ℕ → ℂ) (t : ℂ) (u : Array ℂ) : Array ℂ :=
  irfftnM D N (tab (numModes D N) (fun h => E0step (exp_term t (Λ h)) ((rfftnM D N u).getD h 0)))

theorem linStep_eq_specApply (D N : ℕ) (Λ : ℕ → ℂ) (t : ℂ) (u : Array ℂ) :
    linStep D N Λ t u = specApply D N (fun h => Complex.exp (t * Λ h)) u := by
  rfl

theorem linStep_eq (D N : ℕ) (Λ : ℕ → ℂ) (t : ℂ) (u : Array ℂ) :
    linStep D N Λ t u
      = irfftnM D N (tab (numModes D N) (fun h => Complex.exp (t * Λ h) * (rfftnM D N u).getD h 0)) := by
  rfl

@[simp] theorem linStep_size (D N : ℕ) (Λ : ℕ → ℂ) (t : ℂ) (u : Array ℂ) :
    (linStep D N Λ t u).size = N ^ D :=
  irfftnM_size D N _

theorem linStep_vadd (D N : ℕ) (hN : 0 < N) (Λ : ℕ → ℂ) (t : ℂ) (u v : Array ℂ) :
    linStep D N Λ t (vadd (N ^ D) u v) = vadd (N ^ D) (linStep D N Λ t u) (linStep D N Λ t v) :=
  specApply_vadd D N hN _ u v

theorem linStep_vsmul_real (D N : ℕ) (hN : 0 < N) (Λ : ℕ → ℂ) (t : ℂ) (r : ℝ) (u : Array ℂ) :
    linStep D N Λ t (vsmul (N ^ D) (r : ℂ) u) = vsmul (N ^ D) (r : ℂ) (linStep D N Λ t u) :=
  specApply_vsmul_real D N hN _ r u

theorem linStep_vzero (D N : ℕ) (hN : 0 < N) (Λ : ℕ → ℂ) (t : ℂ) :
    linStep D N Λ t (vzero (N ^ D)) = vzero (N ^ D) :=
  specApply_vzero D N hN _

theorem linStep_modeField_core (D N : ℕ) (hD : 0 < D) (hN : 0 < N) (Λ : ℕ → ℂ) (κ : List ℤ)
    (hκ : BelowNyquist D N κ) (μ : ℂ)
    (h1 : ∀ h < numModes D N, wnFlat D N h = κ → Λ h = μ)
    (h2 : ∀ h < numModes D N, wnFlat D N h = negK κ → Λ h = conj μ)
    (t a φ : ℝ) :
    linStep D N Λ t (modeField D N κ a φ)
      = modeField D N κ (a * Real.exp (t * μ.re)) (φ + t * μ.im) := by
  have hμ : Complex.exp (t * μ)
      = ((Real.exp (t * μ.re) : ℝ) : ℂ) * Complex.exp (((t * μ.im : ℝ) : ℂ) * Complex.I) := by
    rw [Complex.ofReal_exp, ← Complex.exp_add]
    congr 1
    conv_lhs => rw [← Complex.re_add_im μ]
    push_cast
    ring
  rw [linStep_eq_specApply]
  exact specApply_modeField D N hD hN _ κ hκ _ _ _ hμ (fun h hh hA => by rw [h1 h hh hA])
    (fun h hh hB => by rw [h2 h hh hB, ← Complex.exp_conj, map_mul, Complex.conj_ofReal]) a φ

/-- Hermitian symmetry of a symbol given on the stored modes: stored modes with opposite wave vectors
    (these are pairs on the last-axis DC column) carry conjugate values -/
def HermSym (D N : ℕ) (Λ : ℕ → ℂ) : Prop :=
  ∀ h < numModes D N, ∀ h' < numModes D N,
    (∀ d < D, (wnFlat D N h').getD d 0 = -(wnFlat D N h).getD d 0) → Λ h' = conj (Λ h)

/-- the symbol at the wave vector `κ`: `Λ` at the stored index of `κ` if `κ_last ≥ 0`, else the conjugate of
    `Λ` at the stored index of `-κ` -/
noncomputable def symAt (D N : ℕ) (Λ : ℕ → ℂ) (κ : List ℤ) : ℂ :=
  if 0 ≤ κ.getD (D - 1) 0 then Λ (modeIdx D N κ) else conj (Λ (modeIdx D N (negK κ)))

theorem symAt_stored (D N : ℕ) (hD : 0 < D) (hN : 0 < N) (Λ : ℕ → ℂ) (h : ℕ) (hh : h < numModes D N)
    (hκ : BelowNyquist D N (wnFlat D N h)) : symAt D N Λ (wnFlat D N h) = Λ h := by
  have hl := wnFlat_last_nonneg D N h hD
  rw [symAt, if_pos hl]
  congr 1
  exact wnFlat_inj D N hD hN _ _ (modeIdx_lt D N hD hN _ hκ hl) hh (wnFlat_modeIdx D N hD hN _ hκ hl)

theorem symAt_spec (D N : ℕ) (hD : 0 < D) (hN : 0 < N) (Λ : ℕ → ℂ) (hΛ : HermSym D N Λ) (κ : List ℤ)
    (hκ : BelowNyquist D N κ) :
    (∀ h < numModes D N, wnFlat D N h = κ → Λ h = symAt D N Λ κ) ∧
      (∀ h < numModes D N, wnFlat D N h = negK κ → Λ h = conj (symAt D N Λ κ)) := by
  by_cases hl : 0 ≤ κ.getD (D - 1) 0
  · have hi := modeIdx_lt D N hD hN κ hκ hl
    have hw := wnFlat_modeIdx D N hD hN κ hκ hl
    rw [symAt, if_pos hl]
    constructor
    · intro h hh hk
      rw [wnFlat_inj D N hD hN h _ hh hi (by rw [hk, hw])]
    · intro h hh hk
      apply hΛ _ hi _ hh
      intro d _
      rw [hk, hw, negK_getD]
  · have hl' : 0 ≤ (negK κ).getD (D - 1) 0 := by rw [negK_getD]; omega
    have hi := modeIdx_lt D N hD hN _ hκ.negK hl'
    have hw := wnFlat_modeIdx D N hD hN _ hκ.negK hl'
    rw [symAt, if_neg hl]
    constructor
    · intro h hh hk
      exfalso
      have := wnFlat_last_nonneg D N h hD
      rw [hk] at this
      exact hl this
    · intro h hh hk
      rw [Complex.conj_conj, wnFlat_inj D N hD hN h _ hh hi (by rw [hk, hw])]

theorem symAt_negK (D N : ℕ) (hD : 0 < D) (hN : 0 < N) (Λ : ℕ → ℂ) (hΛ : HermSym D N Λ) (κ : List ℤ)
    (hκ : BelowNyquist D N κ) : symAt D N Λ (negK κ) = conj (symAt D N Λ κ) := by
  by_cases hl : 0 ≤ κ.getD (D - 1) 0
  · by_cases hl' : 0 ≤ (negK κ).getD (D - 1) 0
    · have hi := modeIdx_lt D N hD hN _ hκ.negK hl'
      have hw := wnFlat_modeIdx D N hD hN _ hκ.negK hl'
      rw [← (symAt_spec D N hD hN Λ hΛ κ hκ).2 _ hi hw, symAt, if_pos hl']
    · rw [symAt, if_neg hl', negK_negK, symAt, if_pos hl]
  · have hl' : 0 ≤ (negK κ).getD (D - 1) 0 := by rw [negK_getD]; omega
    rw [symAt, if_pos hl', symAt, if_neg hl, Complex.conj_conj]

/-- For a symbol with Hermitian symmetry, one step maps the mode `a cos(2π κ·j/N + φ)` strictly below
    Nyquist to `a e^{t Re λ_κ} cos(2π κ·j/N + φ + t Im λ_κ)` — the analytic solution of `u_t = Op u` sampled on
    the grid — for every real `t`, every `D ≥ 1`, every `N ≥ 1` (odd or even). -/
theorem linStep_modeField (D N : ℕ) (hD : 0 < D) (hN : 0 < N) (Λ : ℕ → ℂ) (hΛ : HermSym D N Λ)
    (κ : List ℤ) (hκ : BelowNyquist D N κ) (t a φ : ℝ) :
    linStep D N Λ t (modeField D N κ a φ)
      = modeField D N κ (a * Real.exp (t * (symAt D N Λ κ).re)) (φ + t * (symAt D N Λ κ).im) :=
  linStep_modeField_core D N hD hN Λ κ hκ _ (symAt_spec D N hD hN Λ hΛ κ hκ).1
    (symAt_spec D N hD hN Λ hΛ κ hκ).2 t a φ

theorem linStep_modeField_stored (D N : ℕ) (hD : 0 < D) (hN : 0 < N) (Λ : ℕ → ℂ) (hΛ : HermSym D N Λ)
    (h₀ : ℕ) (hh₀ : h₀ < numModes D N) (hκ : BelowNyquist D N (wnFlat D N h₀)) (t a φ : ℝ)
    (j : ℕ) (hj : j < N ^ D) :
    (linStep D N Λ t (modeField D N (wnFlat D N h₀) a φ)).getD j 0
      = (((a * Real.exp (t * (Λ h₀).re) *
          Real.cos (2 * Real.pi * ((phaseK D N (wnFlat D N h₀) j : ℤ) : ℝ) / N + (φ + t * (Λ h₀).im)) : ℝ)) : ℂ) := by
  rw [linStep_modeField D N hD hN Λ hΛ _ hκ, symAt_stored D N hD hN Λ h₀ hh₀ hκ,
    modeField_getD D N _ _ _ j hj]

/-- a finite list of modes `(κ, a, φ)` -/
abbrev Modes := List (List ℤ × ℝ × ℝ)

/-- the grid state `Σ_m a_m cos(2π κ_m·j/N + φ_m)` -/
noncomputable def stateOf (D N : ℕ) (ms : Modes) : Array ℂ :=
  vsum (N ^ D) (ms.map (fun m => modeField D N m.1 m.2.1 m.2.2))

/-- the analytically evolved modes: amplitude `a e^{t Re λ_κ}`, phase `φ + t Im λ_κ` -/
noncomputable def evolve (D N : ℕ) (Λ : ℕ → ℂ) (t : ℝ) (ms : Modes) : Modes :=
  ms.map (fun m => (m.1, m.2.1 * Real.exp (t * (symAt D N Λ m.1).re), m.2.2 + t * (symAt D N Λ m.1).im))

@[simp] theorem stateOf_size (D N : ℕ) (ms : Modes) : (stateOf D N ms).size = N ^ D := by simp [stateOf]

theorem stateOf_getD (D N : ℕ) (ms : Modes) (j : ℕ) (hj : j < N ^ D) :
    (stateOf D N ms).getD j 0
      = (((ms.map (fun m => m.2.1 * Real.cos (2 * Real.pi * ((phaseK D N m.1 j : ℤ) : ℝ) / N + m.2.2))).sum : ℝ) : ℂ) := by
  rw [stateOf, vsum_getD _ _ _ hj, List.map_map]
  induction ms with
  | nil => simp
  | cons m ms ih =>
    rw [List.map_cons, List.sum_cons, List.map_cons, List.sum_cons, Complex.ofReal_add, ← ih]
    simp only [Function.comp]
    rw [modeField_getD D N _ _ _ j hj]

theorem stateOf_eq_tab (D N : ℕ) (ms : Modes) :
    stateOf D N ms = tab (N ^ D) (fun j =>
      (((ms.map (fun m => m.2.1 * Real.cos (2 * Real.pi * ((phaseK D N m.1 j : ℤ) : ℝ) / N + m.2.2))).sum : ℝ) : ℂ)) := by
  apply array_ext_getD _ _ (N ^ D) (stateOf_size ..) (tab_size ..)
  intro j hj
  rw [stateOf_getD D N ms j hj, tab_getD _ _ _ _ hj]

theorem stateOf_real (D N : ℕ) (ms : Modes) (j : ℕ) (hj : j < N ^ D) :
    ((stateOf D N ms).getD j 0).im = 0 := by
  rw [stateOf_getD D N ms j hj, Complex.ofReal_im]

theorem stateOf_map_of_modeField (D N : ℕ) (T : Array ℂ → Array ℂ)
    (hT : ∀ us, T (vsum (N ^ D) us) = vsum (N ^ D) (us.map T)) (g : List ℤ × ℝ × ℝ → List ℤ × ℝ × ℝ)
    (ms : Modes)
    (h : ∀ q ∈ ms, T (modeField D N q.1 q.2.1 q.2.2) = modeField D N (g q).1 (g q).2.1 (g q).2.2) :
    T (stateOf D N ms) = stateOf D N (ms.map g) := by
  unfold stateOf
  rw [hT, List.map_map, List.map_map]
  exact congrArg _ (List.map_congr_left h)

/-- One call of a linear stepper with a Hermitian-symmetric symbol advances every finite
    superposition of modes strictly below Nyquist by the exact solution: each amplitude is multiplied by
    `e^{t Re λ_κ}` and each phase advanced by `t Im λ_κ`; any real `t`, any `D ≥ 1`, odd or even `N`. -/
theorem linStep_stateOf (D N : ℕ) (hD : 0 < D) (hN : 0 < N) (Λ : ℕ → ℂ) (hΛ : HermSym D N Λ) (t : ℝ)
    (ms : Modes) (hms : ∀ m ∈ ms, BelowNyquist D N m.1) :
    linStep D N Λ t (stateOf D N ms) = stateOf D N (evolve D N Λ t ms) :=
  stateOf_map_of_modeField D N _ (specApply_vsum D N hN _) _ ms fun m hm =>
    linStep_modeField D N hD hN Λ hΛ m.1 (hms m hm) t m.2.1 m.2.2

/-- `linStep_stateOf` spelled out on the grid: the state `Σ a cos(2π κ·j/N + φ)` goes to
    `Σ a e^{t Re λ_κ} cos(2π κ·j/N + φ + t Im λ_κ)`. -/
theorem linStep_stateOf_tab (D N : ℕ) (hD : 0 < D) (hN : 0 < N) (Λ : ℕ → ℂ) (hΛ : HermSym D N Λ) (t : ℝ)
    (ms : Modes) (hms : ∀ m ∈ ms, BelowNyquist D N m.1) :
    linStep D N Λ t (tab (N ^ D) (fun j =>
        (((ms.map (fun m => m.2.1 * Real.cos (2 * Real.pi * ((phaseK D N m.1 j : ℤ) : ℝ) / N + m.2.2))).sum : ℝ) : ℂ)))
      = tab (N ^ D) (fun j =>
        (((ms.map (fun m => m.2.1 * Real.exp (t * (symAt D N Λ m.1).re) *
            Real.cos (2 * Real.pi * ((phaseK D N m.1 j : ℤ) : ℝ) / N + (m.2.2 + t * (symAt D N Λ m.1).im)))).sum : ℝ) : ℂ)) := by
  rw [← stateOf_eq_tab, linStep_stateOf D N hD hN Λ hΛ t ms hms, stateOf_eq_tab]
  congr 1
  funext j
  unfold evolve
  rw [List.map_map]
  rfl

/-! non-vacuity -/
example : HermSym 2 4 (fun _ => (3 : ℂ)) := fun _ _ _ _ _ => (Complex.conj_ofNat 3).symm
example : ∀ m ∈ ([([1, 1], 2, 0.5), ([-1, 0], 1, 0)] : Modes), BelowNyquist 2 4 m.1 := by
  intro m hm
  simp only [List.mem_cons, List.mem_nil_iff, or_false] at hm
  rcases hm with rfl | rfl
  · exact belowNyquist_of_forall_mem (by decide)
  · exact belowNyquist_of_forall_mem (by decide)

end Exponax.ExactLinear

namespace Exponax.ReadOff
open Exponax Exponax.Layout Exponax.Transform Exponax.DFT Exponax.ExactLinear Finset
open Exponax.Nonlin (Cfg derivativeM kInt)
open scoped ComplexConjugate

theorem derivativeM_eq_specApply (c : Cfg ℂ) (m d : ℕ) (u : Array ℂ) :
    derivativeM c m d u = specApply c.D c.N (fun h => npow (Nonlin.deriv c d h) m) u := rfl

theorem deriv_symbol_conj (s : ℝ) (q : ℤ) (m : ℕ) :
    (Complex.I * ((s : ℂ) * ((-q : ℤ) : ℂ))) ^ m = conj ((Complex.I * ((s : ℂ) * (q : ℂ))) ^ m) := by
  rw [map_pow, map_mul, map_mul, Complex.conj_I, Complex.conj_ofReal, map_intCast]
  push_cast
  ring

theorem hermSym_deriv (c : Cfg ℂ) (s : ℝ) (hs : c.s = (s : ℂ)) (m d : ℕ) (hd : d < c.D) :
    HermSym c.D c.N (fun h => npow (Nonlin.deriv c d h) m) := fun h _ h' _ hk => by
  show npow (Nonlin.deriv c d h') m = conj (npow (Nonlin.deriv c d h) m)
  rw [npow_eq, npow_eq, Nonlin.deriv_eq, Nonlin.deriv_eq, hs, ← deriv_symbol_conj]
  unfold kInt
  rw [hk d hd]

end Exponax.ReadOff
