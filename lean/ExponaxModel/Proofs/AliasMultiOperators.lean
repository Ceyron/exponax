import ExponaxModel.Proofs.AliasMultiTorus
import ExponaxModel.Proofs.AliasND2Grad
/-
C03 in `D` variables, link to the model: the nonlinear terms return the band-`K` truncation of the Fourier coefficients of
the DOCUMENTED CONTINUOUS OPERATOR applied to the band-truncated field.  `HasCoeffs s L f A`: `f : ℝ^D → ℂ` is the
trigonometric polynomial with coefficient family `A` and band `L`; it is closed under the operations the operators are
built from, and the DFT of the samples of `f` on ANY fine enough grid returns `A` (`hasCoeffs_fine_grid`).  `PKfield c s x`
is the continuous band-truncated state; it interpolates the model's `ifft(mask·û)` at the grid points.
-/
namespace Exponax.AliasMulti
open Exponax Exponax.Layout Exponax.Transform Exponax.DFT Exponax.Nonlin Exponax.Alias Exponax.AliasND Finset
-- `deriv` is the model's derivative symbol; the export keeps it from being read as Mathlib's `_root_.deriv` as well
export Exponax.Nonlin (deriv)

noncomputable def pderiv {D : ℕ} (d : Fin D) (f : (Fin D → ℝ) → ℂ) (ξ : Fin D → ℝ) : ℂ :=
  _root_.deriv (fun t : ℝ => f (Function.update ξ d t)) (ξ d)

theorem pderiv_tpoly {D : ℕ} (s : ℝ) (K : ℤ) (F : (Fin D → ℤ) → ℂ) (d : Fin D) :
    pderiv d (tpoly s K F) = tpoly s K (dcoef s d F) := by
  funext ξ
  exact (hasDerivAt_tpoly s K F ξ d).deriv

def HasCoeffs {D : ℕ} (s : ℝ) (L : ℤ) (f : (Fin D → ℝ) → ℂ) (A : (Fin D → ℤ) → ℂ) : Prop :=
  ∀ ξ, f ξ = tpoly s L A ξ

theorem hasCoeffs_tpoly {D : ℕ} (s : ℝ) (L : ℤ) (A : (Fin D → ℤ) → ℂ) : HasCoeffs s L (tpoly s L A) A :=
  fun _ => rfl

theorem hasCoeffs_unique {D : ℕ} {s : ℝ} (hs : s ≠ 0) {L : ℤ} {f : (Fin D → ℝ) → ℂ} {A B : (Fin D → ℤ) → ℂ}
    (hA : HasCoeffs s L f A) (hB : HasCoeffs s L f B) (k : Fin D → ℤ) (hk : ∀ d, |k d| ≤ L) : A k = B k :=
  tpoly_coeff_unique s hs L A B (fun ξ => (hA ξ).symm.trans (hB ξ)) k hk

theorem hasCoeffs_congr {D : ℕ} {s : ℝ} {L : ℤ} {f : (Fin D → ℝ) → ℂ} {A B : (Fin D → ℤ) → ℂ}
    (hA : HasCoeffs s L f A) (h : ∀ p, (∀ d, |p d| ≤ L) → A p = B p) : HasCoeffs s L f B :=
  fun ξ => (hA ξ).trans (tpoly_congr s L A B h ξ)

theorem hasCoeffs_mul {D : ℕ} {s : ℝ} {K L : ℤ} {f g : (Fin D → ℝ) → ℂ} {A B : (Fin D → ℤ) → ℂ}
    (hf : HasCoeffs s K f A) (hg : HasCoeffs s L g B) :
    HasCoeffs s (K + L) (fun ξ => f ξ * g ξ) (conv K L A B) :=
  fun ξ => by
    show f ξ * g ξ = _
    rw [hf ξ, hg ξ, tpoly_mul]

theorem hasCoeffs_mul3 {D : ℕ} {s : ℝ} {K : ℤ} {f g h : (Fin D → ℝ) → ℂ} {A B C : (Fin D → ℤ) → ℂ}
    (hf : HasCoeffs s K f A) (hg : HasCoeffs s K g B) (hh : HasCoeffs s K h C) :
    HasCoeffs s (K + K + K) (fun ξ => f ξ * g ξ * h ξ) (conv3 K A B C) :=
  fun ξ => by
    show f ξ * g ξ * h ξ = _
    rw [hf ξ, hg ξ, hh ξ, tpoly_mul3]

theorem hasCoeffs_smul {D : ℕ} {s : ℝ} {L : ℤ} {f : (Fin D → ℝ) → ℂ} {A : (Fin D → ℤ) → ℂ} (a : ℂ)
    (hf : HasCoeffs s L f A) : HasCoeffs s L (fun ξ => a * f ξ) (fun p => a * A p) :=
  fun ξ => by
    show a * f ξ = _
    rw [hf ξ, tpoly_smul]

theorem hasCoeffs_add {D : ℕ} {s : ℝ} {L : ℤ} {f g : (Fin D → ℝ) → ℂ} {A B : (Fin D → ℤ) → ℂ}
    (hf : HasCoeffs s L f A) (hg : HasCoeffs s L g B) :
    HasCoeffs s L (fun ξ => f ξ + g ξ) (fun p => A p + B p) :=
  fun ξ => by
    show f ξ + g ξ = _
    rw [hf ξ, hg ξ, tpoly_add]

theorem hasCoeffs_sum {D : ℕ} {ι : Type} {s : ℝ} {L : ℤ} (S : Finset ι) (f : ι → (Fin D → ℝ) → ℂ)
    (A : ι → (Fin D → ℤ) → ℂ) (h : ∀ i ∈ S, HasCoeffs s L (f i) (A i)) :
    HasCoeffs s L (fun ξ => ∑ i ∈ S, f i ξ) (fun p => ∑ i ∈ S, A i p) :=
  fun ξ => by
    rw [tpoly_sum]
    exact Finset.sum_congr rfl (fun i hi => h i hi ξ)

theorem hasCoeffs_sub {D : ℕ} {s : ℝ} {L : ℤ} {f g : (Fin D → ℝ) → ℂ} {A B : (Fin D → ℤ) → ℂ}
    (hf : HasCoeffs s L f A) (hg : HasCoeffs s L g B) :
    HasCoeffs s L (fun ξ => f ξ - g ξ) (fun p => A p - B p) := by
  intro ξ
  have h : f ξ + -1 * g ξ = tpoly s L (fun p => A p + -1 * B p) ξ :=
    hasCoeffs_add hf (hasCoeffs_smul (-1) hg) ξ
  have e : (fun p => A p - B p) = (fun p => A p + -1 * B p) := by
    funext p
    ring
  rw [e, ← h]
  ring

theorem mono_zero {D : ℕ} (z : Fin D → ℂ) : mono z 0 = 1 :=
  Finset.prod_eq_one fun d _ => zpow_zero (z d)

theorem hasCoeffs_const {D : ℕ} (s : ℝ) {L : ℤ} (hL : 0 ≤ L) (a : ℂ) :
    HasCoeffs s L (fun _ : Fin D → ℝ => a) (fun r => if r = 0 then a else 0) := by
  intro ξ
  have h0 : (0 : Fin D → ℤ) ∈ box D L := mem_box.mpr (fun d => by rw [Pi.zero_apply, abs_zero]; exact hL)
  unfold tpoly trigEval
  rw [Finset.sum_eq_single (0 : Fin D → ℤ)]
  · beta_reduce
    rw [if_pos rfl, mono_zero, mul_one]
  · intro p _ hp
    beta_reduce
    rw [if_neg hp, zero_mul]
  · intro h
    exact absurd h0 h

theorem hasCoeffs_raise {D : ℕ} {s : ℝ} {K L : ℤ} (hKL : K ≤ L) {f : (Fin D → ℝ) → ℂ} {A : (Fin D → ℤ) → ℂ}
    (hf : HasCoeffs s K f A) : HasCoeffs s L f (truncV K A) := by
  intro ξ
  rw [hf ξ]
  unfold tpoly trigEval
  have h1 : ∑ p ∈ box D K, A p * mono (torusPt s ξ) p
      = ∑ p ∈ box D K, truncV K A p * mono (torusPt s ξ) p :=
    Finset.sum_congr rfl (fun p hp => by rw [truncV_of_le _ _ _ (mem_box.mp hp)])
  rw [h1]
  apply Finset.sum_subset
  · intro p hp
    rw [mem_box] at hp ⊢
    exact fun d => (hp d).trans hKL
  · intro p _ hp
    rw [truncV_of_not _ _ _ (fun h => hp (mem_box.mpr h)), zero_mul]

theorem hasCoeffs_sub_mean {D : ℕ} {s : ℝ} {L : ℤ} (hL : 0 ≤ L) {f : (Fin D → ℝ) → ℂ} {A : (Fin D → ℤ) → ℂ}
    (hf : HasCoeffs s L f A) :
    HasCoeffs s L (fun ξ => f ξ - A 0) (fun p => if p = 0 then 0 else A p) :=
  hasCoeffs_congr (hasCoeffs_sub hf (hasCoeffs_const s hL (A 0))) fun p _ => by
    by_cases hp : p = 0
    · rw [if_pos hp, if_pos hp, hp, sub_self]
    · rw [if_neg hp, if_neg hp, sub_zero]

theorem hasCoeffs_pderiv {D : ℕ} {s : ℝ} {L : ℤ} {f : (Fin D → ℝ) → ℂ} {A : (Fin D → ℤ) → ℂ} (d : Fin D)
    (hf : HasCoeffs s L f A) : HasCoeffs s L (pderiv d f) (dcoef s d A) := by
  have e : f = tpoly s L A := funext hf
  intro ξ
  rw [e, pderiv_tpoly]

/-- a band-`L` trigonometric polynomial is differentiable along every coordinate (so `pderiv` is the honest derivative) -/
theorem hasCoeffs_hasDerivAt {D : ℕ} {s : ℝ} {L : ℤ} {f : (Fin D → ℝ) → ℂ} {A : (Fin D → ℤ) → ℂ}
    (hf : HasCoeffs s L f A) (d : Fin D) (ξ : Fin D → ℝ) :
    HasDerivAt (fun t : ℝ => f (Function.update ξ d t)) (pderiv d f ξ) (ξ d) := by
  have e : f = tpoly s L A := funext hf
  rw [e, pderiv_tpoly]
  exact hasDerivAt_tpoly s L A ξ d

theorem hasCoeffs_fine_grid {D : ℕ} {s : ℝ} (hs : s ≠ 0) {L : ℤ} {f : (Fin D → ℝ) → ℂ} {A : (Fin D → ℤ) → ℂ}
    (hf : HasCoeffs s L f A) (M : ℕ) (hM : 0 < M) (K : ℤ) (hLK : L + K < (M : ℤ)) (k : Fin D → ℤ)
    (hk : ∀ d, |k d| ≤ K) :
    dftV D M (tab (M ^ D) fun j => f (gridPt s D M j)) k = ((M ^ D : ℕ) : ℂ) * truncV L A k := by
  have e : (tab (M ^ D) fun j => f (gridPt s D M j)) = sampleTP D M L A := by
    unfold sampleTP
    apply Nonlin.tab_congr
    intro j _
    rw [hf, gridZ_eq_torusPt_gridPt D M j s hs]
    rfl
  rw [e, dftV_sampleTP_box D M hM L K hLK A k hk]

noncomputable def gridMean {D : ℕ} (s : ℝ) (M : ℕ) (f : (Fin D → ℝ) → ℂ) : ℂ :=
  (1 / ((M ^ D : ℕ) : ℂ)) * ∑ j ∈ range (M ^ D), f (gridPt s D M j)

theorem hasCoeffs_gridMean {D : ℕ} {s : ℝ} (hs : s ≠ 0) {L : ℤ} (hL : 0 ≤ L) {f : (Fin D → ℝ) → ℂ}
    {A : (Fin D → ℤ) → ℂ} (hf : HasCoeffs s L f A) (M : ℕ) (hM : 0 < M) (hLM : L < (M : ℤ)) :
    gridMean s M f = A 0 := by
  have h := hasCoeffs_fine_grid hs hf M hM 0 (by omega) 0 (fun d => by simp)
  rw [dftV_zero_eq_sum, truncV_of_le _ _ _ (fun d => by rw [Pi.zero_apply, abs_zero]; exact hL)] at h
  have hne : ((M ^ D : ℕ) : ℂ) ≠ 0 := by exact_mod_cast (pow_pos hM D).ne'
  unfold gridMean
  rw [h, one_div, inv_mul_cancel_left₀ hne]

theorem Kc_nonneg_of_mask (c : Cfg ℂ) (hD : 0 < c.D) (hq : c.fq ≠ 0) (h : ℕ) (hm : mask c h = 1) :
    0 ≤ Kc c :=
  (abs_nonneg _).trans ((mask_nd_eq_one_iff c hq h).mp hm ⟨0, hD⟩)

/-- `hasCoeffs_fine_grid` at the wavenumber of a retained stored mode of the model's grid, in the form in which the
    model's outputs `N^D · A(k(h))` are compared with a transform on the finer grid `M` -/
theorem hasCoeffs_fine_grid_stored (c : Cfg ℂ) (hD : 0 < c.D) (hq : c.fq ≠ 0) {s : ℝ} (hs : s ≠ 0) {L : ℤ}
    {f : (Fin c.D → ℝ) → ℂ} {A : (Fin c.D → ℤ) → ℂ} (hf : HasCoeffs s L f A) (M : ℕ)
    (hKL : 0 ≤ Kc c → Kc c ≤ L) (hLM : L + Kc c < (M : ℤ)) (h : ℕ) (hm : mask c h = 1) :
    ((c.N ^ c.D : ℕ) : ℂ) * A (kvec c.D c.N h)
      = ((c.N ^ c.D : ℕ) : ℂ) / ((M ^ c.D : ℕ) : ℂ) *
          dftV c.D M (tab (M ^ c.D) fun j => f (gridPt s c.D M j)) (kvec c.D c.N h) := by
  have hk : ∀ d, |kvec c.D c.N h d| ≤ Kc c := (mask_nd_eq_one_iff c hq h).mp hm
  have hK0 := Kc_nonneg_of_mask c hD hq h hm
  have hM0 : 0 < M := by omega
  have hne : ((M ^ c.D : ℕ) : ℂ) ≠ 0 := by exact_mod_cast (pow_pos hM0 c.D).ne'
  rw [hasCoeffs_fine_grid hs hf M hM0 (Kc c) hLM _ hk,
    truncV_of_le _ _ _ (fun d => (hk d).trans (hKL hK0)), div_mul_eq_mul_div, mul_left_comm,
    mul_div_cancel_left₀ _ hne]

theorem conv_smul {D : ℕ} (K L : ℤ) (a b : ℂ) (F G : (Fin D → ℤ) → ℂ) (k : Fin D → ℤ) :
    conv K L (fun p => a * F p) (fun p => b * G p) k = a * b * conv K L F G k := by
  unfold conv
  rw [Finset.mul_sum]
  apply Finset.sum_congr rfl
  intro p _
  rw [truncV_mul K (fun _ => a) F, truncV_mul L (fun _ => b) G]
  ring

theorem conv3_smul {D : ℕ} (K : ℤ) (a : ℂ) (F G H : (Fin D → ℤ) → ℂ) (k : Fin D → ℤ) :
    conv3 K (fun p => a * F p) (fun p => a * G p) (fun p => a * H p) k = a ^ 3 * conv3 K F G H k := by
  unfold conv3
  rw [Finset.mul_sum]
  apply Finset.sum_congr rfl
  intro p _
  rw [Finset.mul_sum]
  apply Finset.sum_congr rfl
  intro q _
  rw [truncV_mul K (fun _ => a) F, truncV_mul K (fun _ => a) G, truncV_mul K (fun _ => a) H]
  ring

theorem conv_scaled (D N : ℕ) (K : ℤ) (F G : (Fin D → ℤ) → ℂ) (k : Fin D → ℤ) :
    conv K K (fun p => (1 / ((N ^ D : ℕ) : ℂ)) * F p) (fun p => (1 / ((N ^ D : ℕ) : ℂ)) * G p) k
      = (1 / ((N ^ D : ℕ) : ℂ)) * linConv D N K F G k := by
  rw [conv_smul, linConv_eq_conv, mul_assoc]

theorem conv3_scaled (D N : ℕ) (K : ℤ) (F G H : (Fin D → ℤ) → ℂ) (k : Fin D → ℤ) :
    conv3 K (fun p => (1 / ((N ^ D : ℕ) : ℂ)) * F p) (fun p => (1 / ((N ^ D : ℕ) : ℂ)) * G p)
        (fun p => (1 / ((N ^ D : ℕ) : ℂ)) * H p) k
      = (1 / ((N ^ D : ℕ) : ℂ)) * linConv3 D N K F G H k := by
  rw [conv3_smul, linConv3_eq_conv3, pow_succ, mul_assoc, mul_left_comm]

noncomputable def ucoef (c : Cfg ℂ) (x : Array ℂ) : (Fin c.D → ℤ) → ℂ :=
  fun p => (1 / ((c.N ^ c.D : ℕ) : ℂ)) * dftV c.D c.N x p

theorem natPow_mul_scaled (c : Cfg ℂ) (hN : 0 < c.N) (X : ℂ) :
    ((c.N ^ c.D : ℕ) : ℂ) * (1 / ((c.N ^ c.D : ℕ) : ℂ) * X) = X := by
  have hne : ((c.N ^ c.D : ℕ) : ℂ) ≠ 0 := Nat.cast_ne_zero.mpr (pow_pos hN c.D).ne'
  rw [← mul_assoc, mul_one_div_cancel hne, one_mul]

theorem natPow_mul_constCoef (c : Cfg ℂ) (hD : 0 < c.D) (hN : 0 < c.N) (h : ℕ) (hh : h < numModes c.D c.N)
    (c0 : ℂ) :
    ((c.N ^ c.D : ℕ) : ℂ) * (if kvec c.D c.N h = 0 then c0 else 0)
      = c0 * (if h = 0 then ((c.N ^ c.D : ℕ) : ℂ) else 0) := by
  rw [if_congr (kvec_eq_zero_iff c.D c.N h hD hN hh) rfl rfl, mul_ite, mul_ite, mul_zero, mul_zero, mul_comm]

theorem conv_ucoef (c : Cfg ℂ) (xa xb : Array ℂ) (k : Fin c.D → ℤ) :
    conv (Kc c) (Kc c) (ucoef c xa) (ucoef c xb) k
      = (1 / ((c.N ^ c.D : ℕ) : ℂ)) * linConv c.D c.N (Kc c) (dftV c.D c.N xa) (dftV c.D c.N xb) k :=
  conv_scaled c.D c.N (Kc c) _ _ k

theorem conv3_ucoef (c : Cfg ℂ) (xa xb xd : Array ℂ) (k : Fin c.D → ℤ) :
    conv3 (Kc c) (ucoef c xa) (ucoef c xb) (ucoef c xd) k
      = (1 / ((c.N ^ c.D : ℕ) : ℂ)) *
          linConv3 c.D c.N (Kc c) (dftV c.D c.N xa) (dftV c.D c.N xb) (dftV c.D c.N xd) k :=
  conv3_scaled c.D c.N (Kc c) _ _ _ k

noncomputable def PKfield (c : Cfg ℂ) (s : ℝ) (x : Array ℂ) : (Fin c.D → ℝ) → ℂ :=
  tpoly s (Kc c) (ucoef c x)

theorem PKfield_hasCoeffs (c : Cfg ℂ) (s : ℝ) (x : Array ℂ) :
    HasCoeffs s (Kc c) (PKfield c s x) (ucoef c x) := fun _ => rfl

theorem conj_ucoef (c : Cfg ℂ) (x : Array ℂ) (hx : IsRealND c.D c.N x) (p : Fin c.D → ℤ) :
    (starRingEnd ℂ) (ucoef c x p) = ucoef c x (-p) := by
  unfold ucoef
  rw [map_mul, conj_dftV c.D c.N x hx, map_div₀, map_one, map_natCast]

theorem PKfield_real (c : Cfg ℂ) (s : ℝ) (x : Array ℂ) (hx : IsRealND c.D c.N x) (ξ : Fin c.D → ℝ) :
    (starRingEnd ℂ) (PKfield c s x ξ) = PKfield c s x ξ :=
  tpoly_real s (Kc c) (ucoef c x) (conj_ucoef c x hx) ξ

theorem nifft_rfftn_eq_sampleTP (c : Cfg ℂ) (hD : 0 < c.D) (hq : c.fq ≠ 0) (hN : 0 < c.N)
    (h2 : 2 * Kc c < (c.N : ℤ)) (x : Array ℂ) (hx : IsRealND c.D c.N x) (j : ℕ) (hj : j < c.N ^ c.D) :
    (nifft c (rfftnM c.D c.N x)).getD j 0 = (sampleTP c.D c.N (Kc c) (ucoef c x)).getD j 0 := by
  rw [nifft_rfftn_grid c hD hq hN h2 x hx j hj, sampleTP_getD _ _ _ _ j hj]
  unfold trigEval ucoef
  rw [Finset.mul_sum]
  apply Finset.sum_congr rfl
  intro m _
  rw [mono_gridZ]
  ring

/-- `−b·½ Σ_d ∂_d (u²)` (single-channel conservative convection, `ConvectionNonlinearFun(single_channel=True)`) -/
noncomputable def opConsConv {D : ℕ} (b : ℂ) (u : (Fin D → ℝ) → ℂ) : (Fin D → ℝ) → ℂ :=
  fun ξ => -b * (1 / 2 * ∑ d : Fin D, pderiv d (fun η => u η * u η) ξ)

/-- `−b·½ |∇u|² = −b·½ Σ_d (∂_d u)²` (`GradientNormNonlinearFun` without the zero-mode fix) -/
noncomputable def opGradNorm {D : ℕ} (b : ℂ) (u : (Fin D → ℝ) → ℂ) : (Fin D → ℝ) → ℂ :=
  fun ξ => -b * (1 / 2 * ∑ d : Fin D, pderiv d u ξ * pderiv d u ξ)

noncomputable def consConvCoef {D : ℕ} (s : ℝ) (K : ℤ) (b : ℂ) (U : (Fin D → ℤ) → ℂ) : (Fin D → ℤ) → ℂ :=
  fun r => -b * (1 / 2 * ∑ d : Fin D, dcoef s d (conv K K U U) r)

noncomputable def gradNormCoef {D : ℕ} (s : ℝ) (K : ℤ) (b : ℂ) (U : (Fin D → ℤ) → ℂ) : (Fin D → ℤ) → ℂ :=
  fun r => -b * (1 / 2 * ∑ d : Fin D, conv K K (dcoef s d U) (dcoef s d U) r)

theorem opConsConv_hasCoeffs {D : ℕ} {s : ℝ} {K : ℤ} (b : ℂ) {u : (Fin D → ℝ) → ℂ} {U : (Fin D → ℤ) → ℂ}
    (hu : HasCoeffs s K u U) : HasCoeffs s (K + K) (opConsConv b u) (consConvCoef s K b U) := by
  unfold opConsConv consConvCoef
  exact hasCoeffs_smul (-b) (hasCoeffs_smul (1 / 2)
    (hasCoeffs_sum Finset.univ _ _ (fun d _ => hasCoeffs_pderiv d (hasCoeffs_mul hu hu))))

theorem opGradNorm_hasCoeffs {D : ℕ} {s : ℝ} {K : ℤ} (b : ℂ) {u : (Fin D → ℝ) → ℂ} {U : (Fin D → ℤ) → ℂ}
    (hu : HasCoeffs s K u U) : HasCoeffs s (K + K) (opGradNorm b u) (gradNormCoef s K b U) := by
  unfold opGradNorm gradNormCoef
  exact hasCoeffs_smul (-b) (hasCoeffs_smul (1 / 2)
    (hasCoeffs_sum Finset.univ _ _ (fun d _ => hasCoeffs_mul (hasCoeffs_pderiv d hu) (hasCoeffs_pderiv d hu))))

theorem sum_deriv_eq (c : Cfg ℂ) (h : ℕ) :
    ∑ d ∈ range c.D, deriv c d h
      = ∑ d : Fin c.D, Complex.I * (c.s * ((kvec c.D c.N h d : ℤ) : ℂ)) := by
  rw [← Fin.sum_univ_eq_sum_range (fun d => deriv c d h) c.D]
  rfl

theorem dcoef_ucoef (c : Cfg ℂ) (s : ℝ) (hs : c.s = (s : ℂ)) (x : Array ℂ) (d : Fin c.D) :
    dcoef s d (ucoef c x) = fun p => (1 / ((c.N ^ c.D : ℕ) : ℂ)) * dspec c d x p := by
  funext p
  unfold dcoef ucoef dspec
  rw [dsym_fin, hs]
  ring

/-- `N^D ×` the coefficient of `−b·½ Σ_d ∂_d (P_K u)²` is the model's alias-free form -/
theorem consConvCoef_model (c : Cfg ℂ) (hN : 0 < c.N) (s : ℝ) (hs : c.s = (s : ℂ)) (b : ℂ) (x : Array ℂ)
    (h : ℕ) :
    ((c.N ^ c.D : ℕ) : ℂ) * consConvCoef s (Kc c) b (ucoef c x) (kvec c.D c.N h)
      = -b * ((1 : ℂ) / 2 * (∑ d ∈ range c.D, deriv c d h) *
          linConv c.D c.N (Kc c) (dftV c.D c.N x) (dftV c.D c.N x) (kvec c.D c.N h)) := by
  unfold consConvCoef dcoef
  rw [sum_deriv_eq, conv_ucoef, hs, ← Finset.sum_mul]
  generalize (∑ d : Fin c.D, Complex.I * ((s : ℂ) * ((kvec c.D c.N h d : ℤ) : ℂ))) = S
  generalize linConv c.D c.N (Kc c) (dftV c.D c.N x) (dftV c.D c.N x) (kvec c.D c.N h) = Lc
  linear_combination (-b * (1 / 2) * S) * natPow_mul_scaled c hN Lc

/-- `N^D ×` the coefficient of `−b·½ |∇ P_K u|²` is the model's alias-free form -/
theorem gradNormCoef_model (c : Cfg ℂ) (hN : 0 < c.N) (s : ℝ) (hs : c.s = (s : ℂ)) (b : ℂ) (x : Array ℂ)
    (k : Fin c.D → ℤ) :
    ((c.N ^ c.D : ℕ) : ℂ) * gradNormCoef s (Kc c) b (ucoef c x) k
      = -b * (1 / 2) * ∑ d ∈ range c.D, linConv c.D c.N (Kc c) (dspec c d x) (dspec c d x) k := by
  unfold gradNormCoef
  rw [← Fin.sum_univ_eq_sum_range (fun d => linConv c.D c.N (Kc c) (dspec c d x) (dspec c d x) k) c.D]
  simp only [dcoef_ucoef c s hs x, conv_scaled, ← Finset.mul_sum]
  generalize (∑ d : Fin c.D, linConv c.D c.N (Kc c) (dspec c d x) (dspec c d x) k) = T
  linear_combination (-b * (1 / 2)) * natPow_mul_scaled c hN T

/-- **single-channel conservative convection `−b·½ Σ_d ∂_d(u²)`, every `D ≥ 1`, `3·Kc < N`**.
    With `u_K = PKfield c s x` the continuous band-truncated field:
    (1) the continuous operator `opConsConv b u_K` is a trigonometric polynomial of band `2Kc` with coefficient family
        `A = consConvCoef …` (unique when `s ≠ 0`, `hasCoeffs_unique`);
    (2) on every retained stored mode the model returns `N^D · A(k(h))` (`N^D`: un-normalised forward transform), i.e. the
        band-`Kc` truncation of the spectrum of the continuous operator applied to `u_K`;  (3) `0` on dropped modes. -/
theorem convection_conservative_continuous_nd (c : Cfg ℂ) (hD : 0 < c.D) (hq : c.fq ≠ 0)
    (hK : 3 * Kc c < (c.N : ℤ)) (hN : 0 < c.N) (s : ℝ) (hs : c.s = (s : ℂ)) (b : ℂ) (x : Array ℂ)
    (hx : IsRealND c.D c.N x) :
    HasCoeffs s (Kc c + Kc c) (opConsConv b (PKfield c s x)) (consConvCoef s (Kc c) b (ucoef c x)) ∧
    ∀ h, h < numModes c.D c.N →
      (mask c h = 1 → at2 (convection c 1 b true true #[rfftnM c.D c.N x]) 0 h
          = ((c.N ^ c.D : ℕ) : ℂ) * consConvCoef s (Kc c) b (ucoef c x) (kvec c.D c.N h)) ∧
      (mask c h = 0 → at2 (convection c 1 b true true #[rfftnM c.D c.N x]) 0 h = 0) := by
  refine ⟨opConsConv_hasCoeffs b (PKfield_hasCoeffs c s x), fun h hh => ?_⟩
  have := convection_single_conservative_alias_free_nd c hD hq hK hN 1 b
    #[rfftnM c.D c.N x] (fun _ => x) (fun _ _ => hx) (fun ch hch => by
      have : ch = 0 := by omega
      subst this
      rfl) 0 Nat.zero_lt_one h hh
  refine ⟨fun hm => ?_, this.2⟩
  rw [this.1 hm, consConvCoef_model c hN s hs b x h]

/-- the same coefficient computed on an ARBITRARY finer grid `M > 3·Kc`: sample the continuous operator applied to the
    continuous truncated field at the `M^D` grid points and transform -/
theorem convection_conservative_fine_grid (c : Cfg ℂ) (hD : 0 < c.D) (hq : c.fq ≠ 0)
    (hK : 3 * Kc c < (c.N : ℤ)) (hN : 0 < c.N) (s : ℝ) (hs : c.s = (s : ℂ)) (hs0 : s ≠ 0) (b : ℂ) (x : Array ℂ)
    (hx : IsRealND c.D c.N x) (M : ℕ) (hM : 3 * Kc c < (M : ℤ)) (h : ℕ) (hh : h < numModes c.D c.N)
    (hm : mask c h = 1) :
    at2 (convection c 1 b true true #[rfftnM c.D c.N x]) 0 h
      = ((c.N ^ c.D : ℕ) : ℂ) / ((M ^ c.D : ℕ) : ℂ) *
          dftV c.D M (tab (M ^ c.D) fun j => opConsConv b (PKfield c s x) (gridPt s c.D M j))
            (kvec c.D c.N h) := by
  obtain ⟨hA, hmod⟩ := convection_conservative_continuous_nd c hD hq hK hN s hs b x hx
  rw [(hmod h hh).1 hm]
  exact hasCoeffs_fine_grid_stored c hD hq hs0 hA M (by omega) (by omega) h hm

/-- **gradient norm `−b·½|∇u|²`, every `D ≥ 1`, `3·Kc < N`, both values of the zero-mode fix**.
    (1) `opGradNorm b u_K` is the trigonometric polynomial of band `2Kc` with coefficient family `A = gradNormCoef …`;
    (2) on every retained stored mode the model returns `N^D·A(k(h))` — except that with `zero_mode_fix` the mean mode
        `h = 0` is set to `0`, which is the coefficient family of `opGradNorm b u_K − mean` (last conjunct, the mean being `A 0`,
        `hasCoeffs_gridMean`);  (3) `0` on dropped modes. -/
theorem gradientNorm_continuous_nd (c : Cfg ℂ) (hD : 0 < c.D) (hq : c.fq ≠ 0)
    (hK : 3 * Kc c < (c.N : ℤ)) (hN : 0 < c.N) (s : ℝ) (hs : c.s = (s : ℂ)) (b : ℂ) (zeroFix : Bool)
    (x : Array ℂ) (hx : IsRealND c.D c.N x) :
    HasCoeffs s (Kc c + Kc c) (opGradNorm b (PKfield c s x)) (gradNormCoef s (Kc c) b (ucoef c x)) ∧
    (∀ h, h < numModes c.D c.N →
      (mask c h = 1 → at2 (gradientNorm c 1 b zeroFix #[rfftnM c.D c.N x]) 0 h
          = ((c.N ^ c.D : ℕ) : ℂ) *
              (if zeroFix = true ∧ kvec c.D c.N h = 0 then 0
                else gradNormCoef s (Kc c) b (ucoef c x) (kvec c.D c.N h))) ∧
      (mask c h = 0 → at2 (gradientNorm c 1 b zeroFix #[rfftnM c.D c.N x]) 0 h = 0)) ∧
    (0 ≤ Kc c → HasCoeffs s (Kc c + Kc c)
      (fun ξ => opGradNorm b (PKfield c s x) ξ - gradNormCoef s (Kc c) b (ucoef c x) 0)
      (fun r => if r = 0 then 0 else gradNormCoef s (Kc c) b (ucoef c x) r)) := by
  have hA := opGradNorm_hasCoeffs b (PKfield_hasCoeffs c s x)
  refine ⟨hA, fun h hh => ?_, fun hK0 => hasCoeffs_sub_mean (by omega) hA⟩
  have := gradientNorm_alias_free_nd c hD hq hK hN s hs 1 b zeroFix _ (fun _ => x) (fun _ _ => hx) (single_getD _) 0
    Nat.zero_lt_one h hh
  refine ⟨fun hm => ?_, this.2⟩
  rw [this.1 hm]
  simp only [kvec_eq_zero_iff c.D c.N h hD hN hh]
  split_ifs with h0
  · rw [mul_zero]
  · rw [gradNormCoef_model c hN s hs b x]

theorem gradientNorm_fine_grid (c : Cfg ℂ) (hD : 0 < c.D) (hq : c.fq ≠ 0)
    (hK : 3 * Kc c < (c.N : ℤ)) (hN : 0 < c.N) (s : ℝ) (hs : c.s = (s : ℂ)) (hs0 : s ≠ 0) (b : ℂ)
    (zeroFix : Bool) (x : Array ℂ) (hx : IsRealND c.D c.N x) (M : ℕ) (hM : 3 * Kc c < (M : ℤ)) (h : ℕ)
    (hh : h < numModes c.D c.N) (hm : mask c h = 1) (hz : zeroFix = false ∨ h ≠ 0) :
    at2 (gradientNorm c 1 b zeroFix #[rfftnM c.D c.N x]) 0 h
      = ((c.N ^ c.D : ℕ) : ℂ) / ((M ^ c.D : ℕ) : ℂ) *
          dftV c.D M (tab (M ^ c.D) fun j => opGradNorm b (PKfield c s x) (gridPt s c.D M j))
            (kvec c.D c.N h) := by
  obtain ⟨hA, hmod, _⟩ := gradientNorm_continuous_nd c hD hq hK hN s hs b zeroFix x hx
  have hcond : ¬ (zeroFix = true ∧ kvec c.D c.N h = 0) := by
    rintro ⟨h1, h2⟩
    rcases hz with hz | hz
    · rw [hz] at h1; exact Bool.false_ne_true h1
    · exact hz ((kvec_eq_zero_iff c.D c.N h hD hN hh).mp h2)
  rw [(hmod h hh).1 hm, if_neg hcond]
  exact hasCoeffs_fine_grid_stored c hD hq hs0 hA M (by omega) (by omega) h hm

end Exponax.AliasMulti
