import ExponaxModel.Proofs.RepeatedPhysicalNonlin
import ExponaxModel.Proofs.EtdrkStages
/-
C14 — the regenerated ETDRK step formulas `Gen.Etdrk.E0step … E4step` (at `K := ℕ → ℂ`, one complex number per stored
mode, as in C09/C10/C19) map realisable spectra to realisable spectra, hence `RepeatedStepper` equals the physical loop
for every ETDRK order.  `HermSpec` is the entrywise core of `Realisable` for a spectrum given as a function
(`realisable_tab_iff`); it is closed under the operations of the stage formulas with `HermSymbol` coefficients.  The
hypothesis on the nonlinear term holds for every pseudo-spectral `û ↦ m ⊙ rfftn (g (irfftn û))` (`pseudoNl_hermSpec`),
that on the coefficients for `exp(dt·λ)`; the contour-integral coefficients are in `RepeatedPhysicalEtdrkCoef.lean`.
-/
namespace Exponax.C2R
open Exponax Exponax.Layout Exponax.Transform Exponax.DFT Exponax.Conserve Finset Exponax.Gen.Etdrk

theorem HermSymbol.mul {D N : ℕ} {e c : ℕ → ℂ} (he : HermSymbol D N e) (hc : HermSymbol D N c) :
    HermSymbol D N (e * c) :=
  (hc.hermSpec.mul_symbol he).hermSymbol

theorem HermSymbol.add {D N : ℕ} {e c : ℕ → ℂ} (he : HermSymbol D N e) (hc : HermSymbol D N c) :
    HermSymbol D N (e + c) :=
  (he.hermSpec.add hc.hermSpec).hermSymbol

theorem HermSymbol.sub {D N : ℕ} {e c : ℕ → ℂ} (he : HermSymbol D N e) (hc : HermSymbol D N c) :
    HermSymbol D N (e - c) :=
  (he.hermSpec.sub hc.hermSpec).hermSymbol

theorem HermSymbol.real_smul {D N : ℕ} {e : ℕ → ℂ} (r : ℝ) (he : HermSymbol D N e) :
    HermSymbol D N (fun h => (r : ℂ) * e h) :=
  (he.hermSpec.real_smul r).hermSymbol

theorem HermSymbol.natCast (D N n : ℕ) : HermSymbol D N (n : ℕ → ℂ) := by
  intro h hh hw
  show (n : ℂ) = (starRingEnd ℂ) (n : ℂ)
  rw [Complex.conj_natCast]

noncomputable def subSpec (D N : ℕ) (A B : Array ℂ) : Array ℂ :=
  tab (numModes D N) (fun h => A.getD h 0 - B.getD h 0)

theorem realisable_sub (D N : ℕ) (hD : 0 < D) (hN : 0 < N) (A B : Array ℂ)
    (hA : Realisable D N A) (hB : Realisable D N B) : Realisable D N (subSpec D N A B) :=
  (realisable_tab_iff D N hD hN _).mpr (hA.hermSpec.sub hB.hermSpec)

theorem realisable_neg (D N : ℕ) (hD : 0 < D) (hN : 0 < N) (A : Array ℂ) (hA : Realisable D N A) :
    Realisable D N (tab (numModes D N) (fun h => - A.getD h 0)) :=
  (realisable_tab_iff D N hD hN _).mpr hA.hermSpec.neg

theorem addSpec_eq_tab (D N : ℕ) (A B : Array ℂ) :
    addSpec D N A B = tab (numModes D N) (toFun A + toFun B) := rfl

theorem diagStep_eq_tab (D N : ℕ) (e : ℕ → ℂ) (C : Array ℂ) :
    diagStep D N e C = tab (numModes D N) (e * toFun C) := rfl

/-- `HermSpec` is kept by the operations of the stage formulas, with `HermSymbol` coefficient arrays -/
theorem hermSpec_stepRel (D N : ℕ) :
    Etdrk.StepRel (fun f (_ : ℕ → ℂ) => HermSpec D N f) (fun e (_ : ℕ → ℂ) => HermSymbol D N e) :=
  Etdrk.StepRel.pred HermSpec.add HermSpec.sub (fun he hf => hf.mul_symbol he) (HermSymbol.natCast D N 2)

theorem nl_hyp_iff (D N : ℕ) (hD : 0 < D) (hN : 0 < N) (𝒩 : (ℕ → ℂ) → (ℕ → ℂ)) :
    (∀ f, Realisable D N (tab (numModes D N) f) → Realisable D N (tab (numModes D N) (𝒩 f)))
      ↔ (∀ f, HermSpec D N f → HermSpec D N (𝒩 f)) := by
  simp only [realisable_tab_iff D N hD hN]

theorem E0step_preserves_realisable (D N : ℕ) (hD : 0 < D) (hN : 0 < N) (e : ℕ → ℂ)
    (he : HermSymbol D N e) (u : ℕ → ℂ) (hu : Realisable D N (tab (numModes D N) u)) :
    Realisable D N (tab (numModes D N) (E0step e u)) := by
  rw [realisable_tab_iff D N hD hN] at hu ⊢
  exact Etdrk.E0step_pred (hermSpec_stepRel D N) he hu

theorem E1step_preserves_realisable (D N : ℕ) (hD : 0 < D) (hN : 0 < N) (e a1 : ℕ → ℂ)
    (he : HermSymbol D N e) (h1 : HermSymbol D N a1) (𝒩 : (ℕ → ℂ) → (ℕ → ℂ))
    (h𝒩 : ∀ f, Realisable D N (tab (numModes D N) f) → Realisable D N (tab (numModes D N) (𝒩 f)))
    (u : ℕ → ℂ) (hu : Realisable D N (tab (numModes D N) u)) :
    Realisable D N (tab (numModes D N) (E1step e a1 𝒩 u)) := by
  rw [nl_hyp_iff D N hD hN] at h𝒩
  rw [realisable_tab_iff D N hD hN] at hu ⊢
  exact Etdrk.E1step_pred (hermSpec_stepRel D N) h𝒩 he h1 hu

theorem E2step_preserves_realisable (D N : ℕ) (hD : 0 < D) (hN : 0 < N) (e a1 a2 : ℕ → ℂ)
    (he : HermSymbol D N e) (h1 : HermSymbol D N a1) (h2 : HermSymbol D N a2)
    (𝒩 : (ℕ → ℂ) → (ℕ → ℂ))
    (h𝒩 : ∀ f, Realisable D N (tab (numModes D N) f) → Realisable D N (tab (numModes D N) (𝒩 f)))
    (u : ℕ → ℂ) (hu : Realisable D N (tab (numModes D N) u)) :
    Realisable D N (tab (numModes D N) (E2step e a1 a2 𝒩 u)) := by
  rw [nl_hyp_iff D N hD hN] at h𝒩
  rw [realisable_tab_iff D N hD hN] at hu ⊢
  exact Etdrk.E2step_pred (hermSpec_stepRel D N) h𝒩 he h1 h2 hu

theorem E3step_preserves_realisable (D N : ℕ) (hD : 0 < D) (hN : 0 < N)
    (e eh a1 a2 a3 a4 a5 : ℕ → ℂ)
    (he : HermSymbol D N e) (heh : HermSymbol D N eh) (h1 : HermSymbol D N a1)
    (h2 : HermSymbol D N a2) (h3 : HermSymbol D N a3) (h4 : HermSymbol D N a4) (h5 : HermSymbol D N a5)
    (𝒩 : (ℕ → ℂ) → (ℕ → ℂ))
    (h𝒩 : ∀ f, Realisable D N (tab (numModes D N) f) → Realisable D N (tab (numModes D N) (𝒩 f)))
    (u : ℕ → ℂ) (hu : Realisable D N (tab (numModes D N) u)) :
    Realisable D N (tab (numModes D N) (E3step e eh a1 a2 a3 a4 a5 𝒩 u)) := by
  rw [nl_hyp_iff D N hD hN] at h𝒩
  rw [realisable_tab_iff D N hD hN] at hu ⊢
  exact Etdrk.E3step_pred (hermSpec_stepRel D N) h𝒩 he heh h1 h2 h3 h4 h5 hu

/-- a per-mode Fourier step `S` on functions `ℕ → ℂ`, as a map of stored spectra (arrays) -/
noncomputable def liftStep (D N : ℕ) (S : (ℕ → ℂ) → (ℕ → ℂ)) (C : Array ℂ) : Array ℂ :=
  tab (numModes D N) (S (toFun C))

theorem liftStep_getD (D N : ℕ) (S : (ℕ → ℂ) → (ℕ → ℂ)) (C : Array ℂ) (h : ℕ)
    (hh : h < numModes D N) : (liftStep D N S C).getD h 0 = S (fun i => C.getD i 0) h :=
  tab_getD _ _ _ _ hh

theorem liftStep_E0step (D N : ℕ) (e : ℕ → ℂ) : liftStep D N (E0step e) = diagStep D N e := rfl

/-- the lift of `E1step` with a lifted nonlinearity is the ETD-Euler step of `RepeatedPhysicalNonlin`
    (on stored spectra of the right size) -/
theorem liftStep_E1step (D N : ℕ) (e c : ℕ → ℂ) (𝒩 : Array ℂ → Array ℂ) (C : Array ℂ)
    (hC : C.size = numModes D N) :
    liftStep D N (E1step e c (fun f => toFun (rfftnM D N (𝒩 (irfftnM D N (tab (numModes D N) f)))))) C
      = addSpec D N (diagStep D N e C) (diagStep D N c (rfftnM D N (𝒩 (irfftnM D N C)))) := by
  apply array_ext_getD _ _ (numModes D N) (tab_size _ _) (tab_size _ _)
  intro h hh
  rw [tab_getD _ _ _ _ hh, tab_getD _ _ _ _ hh, diagStep_getD D N e C h hh, diagStep_getD D N c _ h hh,
    E1step, tab_toFun D N C hC]
  rfl

theorem repeatedStepper_eq_loop_lift (D N : ℕ) (hD : 0 < D) (hN : 0 < N)
    (S : (ℕ → ℂ) → (ℕ → ℂ)) (hS : ∀ f, HermSpec D N f → HermSpec D N (S f))
    (u : Array ℂ) (hu : RealState D N u) (n : ℕ) :
    Loops.repeatN (fun v => irfftnM D N (liftStep D N S (rfftnM D N v))) n u
      = irfftnM D N (Loops.repeatedStepFourier (liftStep D N S) n (rfftnM D N u)) :=
  repeatedStepper_eq_loop D N hD hN _ (fun _ hC => (realisable_tab_iff D N hD hN _).mpr (hS _ hC.hermSpec)) u hu n

theorem repeatedStepper_eq_loop_E0 (D N : ℕ) (hD : 0 < D) (hN : 0 < N) (e : ℕ → ℂ)
    (he : HermSymbol D N e) (u : Array ℂ) (hu : RealState D N u) (n : ℕ) :
    Loops.repeatN (fun v => irfftnM D N (liftStep D N (E0step e) (rfftnM D N v))) n u
      = irfftnM D N (Loops.repeatedStepFourier (liftStep D N (E0step e)) n (rfftnM D N u)) :=
  repeatedStepper_eq_loop_lift D N hD hN _ (fun _ hf => Etdrk.E0step_pred (hermSpec_stepRel D N) he hf) u hu n

theorem repeatedStepper_eq_loop_E1 (D N : ℕ) (hD : 0 < D) (hN : 0 < N) (e a1 : ℕ → ℂ)
    (he : HermSymbol D N e) (h1 : HermSymbol D N a1) (𝒩 : (ℕ → ℂ) → (ℕ → ℂ))
    (h𝒩 : ∀ f, Realisable D N (tab (numModes D N) f) → Realisable D N (tab (numModes D N) (𝒩 f)))
    (u : Array ℂ) (hu : RealState D N u) (n : ℕ) :
    Loops.repeatN (fun v => irfftnM D N (liftStep D N (E1step e a1 𝒩) (rfftnM D N v))) n u
      = irfftnM D N (Loops.repeatedStepFourier (liftStep D N (E1step e a1 𝒩)) n (rfftnM D N u)) :=
  repeatedStepper_eq_loop_lift D N hD hN _
    (fun _ hf => Etdrk.E1step_pred (hermSpec_stepRel D N) ((nl_hyp_iff D N hD hN 𝒩).mp h𝒩) he h1 hf) u hu n

theorem repeatedStepper_eq_loop_E2 (D N : ℕ) (hD : 0 < D) (hN : 0 < N) (e a1 a2 : ℕ → ℂ)
    (he : HermSymbol D N e) (h1 : HermSymbol D N a1) (h2 : HermSymbol D N a2)
    (𝒩 : (ℕ → ℂ) → (ℕ → ℂ))
    (h𝒩 : ∀ f, Realisable D N (tab (numModes D N) f) → Realisable D N (tab (numModes D N) (𝒩 f)))
    (u : Array ℂ) (hu : RealState D N u) (n : ℕ) :
    Loops.repeatN (fun v => irfftnM D N (liftStep D N (E2step e a1 a2 𝒩) (rfftnM D N v))) n u
      = irfftnM D N (Loops.repeatedStepFourier (liftStep D N (E2step e a1 a2 𝒩)) n (rfftnM D N u)) :=
  repeatedStepper_eq_loop_lift D N hD hN _
    (fun _ hf => Etdrk.E2step_pred (hermSpec_stepRel D N) ((nl_hyp_iff D N hD hN 𝒩).mp h𝒩) he h1 h2 hf) u hu n

theorem repeatedStepper_eq_loop_E3 (D N : ℕ) (hD : 0 < D) (hN : 0 < N)
    (e eh a1 a2 a3 a4 a5 : ℕ → ℂ)
    (he : HermSymbol D N e) (heh : HermSymbol D N eh) (h1 : HermSymbol D N a1)
    (h2 : HermSymbol D N a2) (h3 : HermSymbol D N a3) (h4 : HermSymbol D N a4) (h5 : HermSymbol D N a5)
    (𝒩 : (ℕ → ℂ) → (ℕ → ℂ))
    (h𝒩 : ∀ f, Realisable D N (tab (numModes D N) f) → Realisable D N (tab (numModes D N) (𝒩 f)))
    (u : Array ℂ) (hu : RealState D N u) (n : ℕ) :
    Loops.repeatN (fun v => irfftnM D N
        (liftStep D N (E3step e eh a1 a2 a3 a4 a5 𝒩) (rfftnM D N v))) n u
      = irfftnM D N (Loops.repeatedStepFourier
          (liftStep D N (E3step e eh a1 a2 a3 a4 a5 𝒩)) n (rfftnM D N u)) :=
  repeatedStepper_eq_loop_lift D N hD hN _
    (fun _ hf => Etdrk.E3step_pred (hermSpec_stepRel D N) ((nl_hyp_iff D N hD hN 𝒩).mp h𝒩) he heh h1 h2 h3 h4 h5 hf) u hu n

theorem repeatedStepper_eq_loop_E4 (D N : ℕ) (hD : 0 < D) (hN : 0 < N)
    (e eh a1 a2 a3 a4 a5 a6 : ℕ → ℂ)
    (he : HermSymbol D N e) (heh : HermSymbol D N eh) (h1 : HermSymbol D N a1)
    (h2 : HermSymbol D N a2) (h3 : HermSymbol D N a3) (h4 : HermSymbol D N a4) (h5 : HermSymbol D N a5)
    (h6 : HermSymbol D N a6) (𝒩 : (ℕ → ℂ) → (ℕ → ℂ))
    (h𝒩 : ∀ f, Realisable D N (tab (numModes D N) f) → Realisable D N (tab (numModes D N) (𝒩 f)))
    (u : Array ℂ) (hu : RealState D N u) (n : ℕ) :
    Loops.repeatN (fun v => irfftnM D N
        (liftStep D N (E4step e eh a1 a2 a3 a4 a5 a6 𝒩) (rfftnM D N v))) n u
      = irfftnM D N (Loops.repeatedStepFourier
          (liftStep D N (E4step e eh a1 a2 a3 a4 a5 a6 𝒩)) n (rfftnM D N u)) :=
  repeatedStepper_eq_loop_lift D N hD hN _
    (fun _ hf => Etdrk.E4step_pred (hermSpec_stepRel D N) ((nl_hyp_iff D N hD hN 𝒩).mp h𝒩) he heh h1 h2 h3 h4 h5 h6 hf) u hu n

/-- the pseudo-spectral term `𝒩̂(û) = m ⊙ rfftn (g (irfftn û))` on spectra given as functions
    (built from the model transforms and `diagStep`) -/
noncomputable def pseudoNl (D N : ℕ) (m : ℕ → ℂ) (g : Array ℂ → Array ℂ) (f : ℕ → ℂ) : ℕ → ℂ :=
  toFun (diagStep D N m (rfftnM D N (g (irfftnM D N (tab (numModes D N) f)))))

theorem pseudoNl_apply (D N : ℕ) (m : ℕ → ℂ) (g : Array ℂ → Array ℂ) (f : ℕ → ℂ) (h : ℕ)
    (hh : h < numModes D N) :
    pseudoNl D N m g f h = m h * (rfftnM D N (g (irfftnM D N (tab (numModes D N) f)))).getD h 0 :=
  diagStep_getD D N m _ h hh

/-- **the hypothesis on `𝒩̂` holds for every pseudo-spectral term** with a grid-space function `g` that
    is real on real states and a `HermSymbol` mask/multiplier `m` — for EVERY input `f`, realisable or not -/
theorem pseudoNl_hermSpec (D N : ℕ) (hD : 0 < D) (hN : 0 < N) (m : ℕ → ℂ) (hm : HermSymbol D N m)
    (g : Array ℂ → Array ℂ)
    (hg : ∀ v, RealState D N v → ∀ j < N ^ D, ((g v).getD j 0).im = 0) (f : ℕ → ℂ) :
    HermSpec D N (pseudoNl D N m g f) :=
  (diag_preserves_realisable D N hD hN m hm _ (nonlin_spectrum_realisable D N hD hN g hg _)).hermSpec

theorem pseudoNl_preserves_realisable (D N : ℕ) (hD : 0 < D) (hN : 0 < N) (m : ℕ → ℂ)
    (hm : HermSymbol D N m) (g : Array ℂ → Array ℂ)
    (hg : ∀ v, RealState D N v → ∀ j < N ^ D, ((g v).getD j 0).im = 0) :
    ∀ f, Realisable D N (tab (numModes D N) f)
      → Realisable D N (tab (numModes D N) (pseudoNl D N m g f)) :=
  fun f _ => (realisable_tab_iff D N hD hN _).mpr (pseudoNl_hermSpec D N hD hN m hm g hg f)

/-- for a nonlinear function that is a sum of several pseudo-spectral terms -/
theorem nl_add_hermSpec (D N : ℕ) (𝒩₁ 𝒩₂ : (ℕ → ℂ) → (ℕ → ℂ))
    (h1 : ∀ f, HermSpec D N f → HermSpec D N (𝒩₁ f)) (h2 : ∀ f, HermSpec D N f → HermSpec D N (𝒩₂ f)) :
    ∀ f, HermSpec D N f → HermSpec D N ((fun f => 𝒩₁ f + 𝒩₂ f) f) :=
  fun f hf => (h1 f hf).add (h2 f hf)

theorem hermSymbol_exp_term (D N : ℕ) (dt : ℝ) (lam : ℕ → ℂ) (hl : HermSymbol D N lam) :
    HermSymbol D N (fun h => exp_term (dt : ℂ) (lam h)) := by
  intro h hh hw
  show Complex.exp ((dt : ℂ) * lam (conjIdx D N h)) = (starRingEnd ℂ) (Complex.exp ((dt : ℂ) * lam h))
  rw [← Complex.exp_conj, map_mul, Complex.conj_ofReal, hl h hh hw]

theorem hermSymbol_exp (D N : ℕ) (dt : ℝ) (lam : ℕ → ℂ) (hl : HermSymbol D N lam) :
    HermSymbol D N (fun h => Complex.exp ((dt : ℂ) * lam h)) :=
  hermSymbol_exp_term D N dt lam hl

theorem hermSymbol_half_exp_term_E3 (D N : ℕ) (dt r : ℝ) (M : ℕ) (lam : ℕ → ℂ)
    (hl : HermSymbol D N lam) :
    HermSymbol D N (fun h => E3_half_exp_term (dt : ℂ) (lam h) M (r : ℂ)) := by
  intro h hh hw
  show Complex.exp ((qlit 1 2 : ℂ) * (dt : ℂ) * lam (conjIdx D N h))
    = (starRingEnd ℂ) (Complex.exp ((qlit 1 2 : ℂ) * (dt : ℂ) * lam h))
  have hq : (qlit 1 2 : ℂ) = (((1 / 2 : ℝ)) : ℂ) := by
    rw [qlit_eq]
    push_cast
    rfl
  rw [hq, ← Complex.exp_conj, map_mul, map_mul, Complex.conj_ofReal, Complex.conj_ofReal, hl h hh hw]

theorem hermSymbol_half_exp_term_E4 (D N : ℕ) (dt r : ℝ) (M : ℕ) (lam : ℕ → ℂ)
    (hl : HermSymbol D N lam) :
    HermSymbol D N (fun h => E4_half_exp_term (dt : ℂ) (lam h) M (r : ℂ)) :=
  hermSymbol_half_exp_term_E3 D N dt r M lam hl

/-- `HermSpec` is satisfiable by a non-zero spectrum: the constant `1` -/
example (D N : ℕ) : HermSpec D N (fun _ => (1 : ℂ)) := by
  intro h hh hw; simp

/-- the spectrum of the saw-tooth, read as a function, is Hermitian-consistent (`D = 1`, `N = 2`) -/
example : HermSpec 1 2 (toFun (rfftnM 1 2 #[(1 : ℂ), -1])) :=
  (rfftn_realisable 1 2 (by norm_num) (by norm_num) _ realState_sawtooth).hermSpec

/-- all coefficient hypotheses at once: real constants -/
example (D N : ℕ) (r : ℝ) : HermSymbol D N (fun _ => (r : ℂ)) :=
  hermSymbol_const_real D N r

/-- the hypothesis on `𝒩̂` of the main theorems is satisfiable by a genuinely nonlinear map:
    the pseudo-spectral square `û ↦ rfftn ((irfftn û)²)` with the trivial mask -/
theorem pseudoNl_square_ok (D N : ℕ) (hD : 0 < D) (hN : 0 < N) :
    ∀ f, Realisable D N (tab (numModes D N) f) → Realisable D N (tab (numModes D N)
      (pseudoNl D N (fun _ => (1 : ℂ)) (fun w => tab (N ^ D) (fun j => w.getD j 0 * w.getD j 0)) f)) := by
  apply pseudoNl_preserves_realisable D N hD hN
  · intro h hh hw; simp
  · exact fun v hv j hj => square_real_of_real _ v hv.2 j hj

/-- all hypotheses of `repeatedStepper_eq_loop_E4` together (`D = 2`, `N = 4`): real constant
    coefficients, the pseudo-spectral square, a constant real state -/
example (n : ℕ) :
    Loops.repeatN (fun v => irfftnM 2 4 (liftStep 2 4 (E4step (fun _ => ((1/2 : ℝ) : ℂ))
        (fun _ => ((1/2 : ℝ) : ℂ)) (fun _ => ((1/3 : ℝ) : ℂ)) (fun _ => ((1/3 : ℝ) : ℂ))
        (fun _ => ((1/3 : ℝ) : ℂ)) (fun _ => ((1/3 : ℝ) : ℂ)) (fun _ => ((1/3 : ℝ) : ℂ))
        (fun _ => ((1/3 : ℝ) : ℂ))
        (pseudoNl 2 4 (fun _ => (1 : ℂ)) (fun w => tab (4 ^ 2) (fun j => w.getD j 0 * w.getD j 0))))
        (rfftnM 2 4 v))) n (tab (4 ^ 2) (fun _ => (1 : ℂ)))
      = irfftnM 2 4 (Loops.repeatedStepFourier (liftStep 2 4 (E4step (fun _ => ((1/2 : ℝ) : ℂ))
        (fun _ => ((1/2 : ℝ) : ℂ)) (fun _ => ((1/3 : ℝ) : ℂ)) (fun _ => ((1/3 : ℝ) : ℂ))
        (fun _ => ((1/3 : ℝ) : ℂ)) (fun _ => ((1/3 : ℝ) : ℂ)) (fun _ => ((1/3 : ℝ) : ℂ))
        (fun _ => ((1/3 : ℝ) : ℂ))
        (pseudoNl 2 4 (fun _ => (1 : ℂ)) (fun w => tab (4 ^ 2) (fun j => w.getD j 0 * w.getD j 0)))))
        n (rfftnM 2 4 (tab (4 ^ 2) (fun _ => (1 : ℂ))))) := by
  have hc := hermSymbol_const_real 2 4
  refine repeatedStepper_eq_loop_E4 2 4 (by norm_num) (by norm_num) _ _ _ _ _ _ _ _
    (hc _) (hc _) (hc _) (hc _) (hc _) (hc _) (hc _) (hc _) _
    (pseudoNl_square_ok 2 4 (by norm_num) (by norm_num)) _ ⟨tab_size _ _, ?_⟩ n
  intro j hj
  rw [tab_getD _ _ _ _ hj]
  simp

/-- the hypothesis of `hermSymbol_exp_term` holds for a genuinely complex symbol on the odd grid
    `N = 3`, `D = 1`: `λ = (0, i)` (advection) -/
example : HermSymbol 1 3 (fun h => if h = 1 then Complex.I else 0) :=
  (hermSymbol_1d_iff 3 (by norm_num) _).mpr ⟨by simp, by norm_num⟩

end Exponax.C2R
