import ExponaxModel.Proofs.EtdrkStages
import ExponaxModel.Proofs.DiffTermsSpace
import ExponaxModel.Proofs.DifferentiabilityVec
import Mathlib.Analysis.Calculus.ContDiff.Operations
/-
C07 support: smoothness of the ETDRK steps in the state, for a smooth nonlinear map on a normed algebra.

`V` is a normed ring and normed algebra over `𝕜`; the model case is `V = Spec C M = Fin C → Fin M → ℂ` with pointwise
operations and `𝕜 = ℝ` (coefficient arrays multiply pointwise), `N : V → V`.  The regenerated stage formulas
`E0step … E4step` are `ContDiff 𝕜 n` in the state if `N` is, and `fderiv` is the chain-rule formula written out.  For the
model, `N = specMap c C C term` for any term with a `TermCalc`: the assembled step `etdrkStepF` (regenerated coefficients
from `dt`, `λ`, fed to the regenerated stage formulas), on stored spectra and between the model transforms on physical
grid states, and its rollouts are `ContDiff ℝ n` for every order.  The linear step `u ↦ irfftn (E ⊙ rfftn u)` is ℝ-linear
on physical states for any coefficient array, so its Fréchet derivative at every point is the map itself.
-/
namespace Exponax.DiffTerms
open Exponax Exponax.Gen.Etdrk Exponax.Nonlin Exponax.Transform Exponax.Diff

section Abstract
variable {𝕜 : Type} [NontriviallyNormedField 𝕜] {V : Type} [NormedRing V] [NormedAlgebra 𝕜 V]
variable {n : WithTop ℕ∞}

theorem contDiff_stepRel {X : Type} [NormedAddCommGroup X] [NormedSpace 𝕜 X] :
    Etdrk.StepRel (fun (f : X → V) (_ : X → V) => ContDiff 𝕜 n f) (fun (e : X → V) (_ : X → V) => ∃ c, e = fun _ => c) :=
  Etdrk.StepRel.pred ContDiff.add ContDiff.sub (fun ⟨_, hc⟩ hf => hc ▸ contDiff_const.mul hf) ⟨2, rfl⟩

/-- the stage formulas in the ring of maps `V → V`, at the identity map; all orders at once: `etdrkStepF_contDiff` -/
theorem E2step_contDiff (E c1 c2 : V) (N : V → V) (hN : ContDiff 𝕜 n N) : ContDiff 𝕜 n (E2step E c1 c2 N) :=
  Etdrk.E2step_pred (V := V → V) (N := fun f => N ∘ f) (u := id) contDiff_stepRel (fun _ hf => hN.comp hf)
    ⟨E, rfl⟩ ⟨c1, rfl⟩ ⟨c2, rfl⟩ contDiff_id

theorem iterate_contDiff {X : Type} [NormedAddCommGroup X] [NormedSpace 𝕜 X] {S : X → X} (hS : ContDiff 𝕜 n S)
    (k : ℕ) : ContDiff 𝕜 n (S^[k]) := by
  induction k with
  | zero => exact contDiff_id
  | succ k ih => rw [Function.iterate_succ']; exact hS.comp ih

noncomputable def E2stepV' (E c1 c2 : V) (N : V → V) (N' : V → V →L[𝕜] V) (u : V) : V →L[𝕜] V :=
  (mulL E + (mulL c1).comp (N' u))
    + (mulL c2).comp ((N' (E * u + c1 * N u)).comp (mulL E + (mulL c1).comp (N' u)) - N' u)

theorem E2stepV'_apply (E c1 c2 : V) (N : V → V) (N' : V → V →L[𝕜] V) (u v : V) :
    E2stepV' E c1 c2 N N' u v
      = (E * v + c1 * N' u v) + c2 * (N' (E * u + c1 * N u) (E * v + c1 * N' u v) - N' u v) := by
  simp only [E2stepV', _root_.add_apply, ContinuousLinearMap.comp_apply, _root_.sub_apply,
    mulL_apply]

theorem E2V_rollout_hasFDerivAt (E c1 c2 : V) (N : V → V) (N' : V → V →L[𝕜] V)
    (hN : ∀ x, HasFDerivAt N (N' x) x) (u : V) (k : ℕ) :
    HasFDerivAt ((E2step E c1 c2 N)^[k]) (iterFDeriv (E2step E c1 c2 N) (E2stepV' E c1 c2 N N') u k) u :=
  iterate_hasFDerivAt _ _ u k (fun _ _ => E2stepV_hasFDerivAt E c1 c2 N _ _ _ (hN _) (hN _))

theorem E1step_fderiv (E c1 : V) (N : V → V) (hN : Differentiable 𝕜 N) (u : V) :
    fderiv 𝕜 (E1step E c1 N) u = mulL E + (mulL c1).comp (fderiv 𝕜 N u) :=
  (E1stepV_hasFDerivAt E c1 N u _ (hN u).hasFDerivAt).fderiv

theorem E2step_fderiv (E c1 c2 : V) (N : V → V) (hN : Differentiable 𝕜 N) (u : V) :
    fderiv 𝕜 (E2step E c1 c2 N) u = E2stepV' E c1 c2 N (fderiv 𝕜 N) u :=
  (E2stepV_hasFDerivAt E c1 c2 N u _ _ (hN u).hasFDerivAt (hN _).hasFDerivAt).fderiv

theorem E4step_fderiv (E Eh c1 c2 c3 c4 c5 c6 : V) (N : V → V) (hN : Differentiable 𝕜 N) (u : V) :
    fderiv 𝕜 (E4step E Eh c1 c2 c3 c4 c5 c6 N) u = E4stepV' E Eh c1 c2 c3 c4 c5 c6 N (fderiv 𝕜 N) u :=
  (E4stepV_hasFDerivAt E Eh c1 c2 c3 c4 c5 c6 N (fderiv 𝕜 N) u (hN u).hasFDerivAt (hN _).hasFDerivAt
    (hN _).hasFDerivAt (hN _).hasFDerivAt).fderiv

theorem iterate_fderiv {X : Type} [NormedAddCommGroup X] [NormedSpace 𝕜 X] (S : X → X) (hS : Differentiable 𝕜 S)
    (u : X) (k : ℕ) : fderiv 𝕜 (S^[k]) u = iterFDeriv S (fderiv 𝕜 S) u k :=
  (iterate_hasFDerivAt S (fderiv 𝕜 S) u k (fun _ _ => (hS _).hasFDerivAt)).fderiv

end Abstract

section Model
variable {C M : ℕ}

/-- the assembled ETDRK-`p` step on stored spectra `Spec C M` (the finite-array form of `Interface.etdrkStep`):
    coefficient arrays computed entrywise from `dt` and the symbol array by the regenerated coefficient functions,
    then the regenerated stage formulas; `p > 4` does not exist in the source (identity here) -/
noncomputable def etdrkStepF (p : ℕ) (dt : ℂ) (lam : Spec C M) (Mc : ℕ) (r : ℂ) (N : Spec C M → Spec C M)
    (u : Spec C M) : Spec C M :=
  match p with
  | 0 => E0step (fun ch h => exp_term dt (lam ch h)) u
  | 1 => E1step (fun ch h => exp_term dt (lam ch h)) (fun ch h => E1_coef_1 dt (lam ch h) Mc r) N u
  | 2 => E2step (fun ch h => exp_term dt (lam ch h)) (fun ch h => E2_coef_1 dt (lam ch h) Mc r)
          (fun ch h => E2_coef_2 dt (lam ch h) Mc r) N u
  | 3 => E3step (fun ch h => exp_term dt (lam ch h)) (fun ch h => E3_half_exp_term dt (lam ch h) Mc r)
          (fun ch h => E3_coef_1 dt (lam ch h) Mc r) (fun ch h => E3_coef_2 dt (lam ch h) Mc r)
          (fun ch h => E3_coef_3 dt (lam ch h) Mc r) (fun ch h => E3_coef_4 dt (lam ch h) Mc r)
          (fun ch h => E3_coef_5 dt (lam ch h) Mc r) N u
  | 4 => E4step (fun ch h => exp_term dt (lam ch h)) (fun ch h => E4_half_exp_term dt (lam ch h) Mc r)
          (fun ch h => E4_coef_1 dt (lam ch h) Mc r) (fun ch h => E4_coef_2 dt (lam ch h) Mc r)
          (fun ch h => E4_coef_3 dt (lam ch h) Mc r) (fun ch h => E4_coef_4 dt (lam ch h) Mc r)
          (fun ch h => E4_coef_5 dt (lam ch h) Mc r) (fun ch h => E4_coef_6 dt (lam ch h) Mc r) N u
  | _ => u

theorem etdrkStepF_eq_gen (p : ℕ) (dt : ℂ) (lam : Spec C M) (Mc : ℕ) (r : ℂ) (N : Spec C M → Spec C M)
    (u : Spec C M) :
    etdrkStepF p dt lam Mc r N u = Etdrk.etdrkGen (fun g ch h => g (lam ch h)) p dt Mc r N u := by
  match p with
  | 0 | 1 | 2 | 3 | 4 | (_ + 5) => rfl

theorem etdrkStepF_contDiff {n : WithTop ℕ∞} (p : ℕ) (dt : ℂ) (lam : Spec C M) (Mc : ℕ) (r : ℂ)
    (N : Spec C M → Spec C M) (hN : ContDiff ℝ n N) : ContDiff ℝ n (etdrkStepF p dt lam Mc r N) := by
  have e : etdrkStepF p dt lam Mc r N
      = Etdrk.etdrkGen (fun g _ ch h => g (lam ch h)) p dt Mc r (fun f => N ∘ f) id :=
    (funext (etdrkStepF_eq_gen p dt lam Mc r N)).trans (Etdrk.etdrkGen_fun _ p dt Mc r N id).symm
  rw [e]
  exact Etdrk.etdrkGen_pred contDiff_stepRel (fun _ hf => hN.comp hf) (fun _ => ⟨_, rfl⟩) p dt Mc r contDiff_id

theorem etdrkStepF_rollout_fderiv (p : ℕ) (dt : ℂ) (lam : Spec C M) (Mc : ℕ) (r : ℂ)
    (N : Spec C M → Spec C M) (hN : ContDiff ℝ 1 N) (u : Spec C M) (k : ℕ) :
    fderiv ℝ ((etdrkStepF p dt lam Mc r N)^[k]) u
      = iterFDeriv (etdrkStepF p dt lam Mc r N) (fderiv ℝ (etdrkStepF p dt lam Mc r N)) u k :=
  iterate_fderiv _ ((etdrkStepF_contDiff p dt lam Mc r N hN).differentiable (by norm_num)) u k

end Model

section ModelTerms
variable {term : MC ℂ → MC ℂ} {jvp : MC ℂ → MC ℂ → MC ℂ}

theorem TermCalc.etdrk_rollout_contDiff (h : TermCalc term jvp) (c : Cfg ℂ) (C : ℕ) {n : WithTop ℕ∞} (p : ℕ) (dt : ℂ)
    (lam : Spec C (modes c)) (Mc : ℕ) (r : ℂ) (k : ℕ) :
    ContDiff ℝ n ((etdrkStepF p dt lam Mc r (specMap c C C term))^[k]) :=
  iterate_contDiff (etdrkStepF_contDiff p dt lam Mc r _ (h.specMap_contDiff c C C n)) k

theorem TermCalc.etdrk2_fderiv (h : TermCalc term jvp) (c : Cfg ℂ) (C : ℕ) (E c1 c2 u v : Spec C (modes c)) :
    fderiv ℝ (E2step E c1 c2 (specMap c C C term)) u v
      = (E * v + c1 * specJvp c C C jvp u v)
        + c2 * (specJvp c C C jvp (E * u + c1 * specMap c C C term u) (E * v + c1 * specJvp c C C jvp u v)
                - specJvp c C C jvp u v) := by
  have hN : Differentiable ℝ (specMap c C C term) := (h.specMap_contDiff c C C 1).differentiable (by norm_num)
  rw [E2step_fderiv E c1 c2 _ hN u, E2stepV'_apply]
  simp only [h.specMap_fderiv]

theorem TermCalc.etdrk1_fderiv (h : TermCalc term jvp) (c : Cfg ℂ) (C : ℕ) (E c1 u v : Spec C (modes c)) :
    fderiv ℝ (E1step E c1 (specMap c C C term)) u v = E * v + c1 * specJvp c C C jvp u v := by
  have hN : Differentiable ℝ (specMap c C C term) := (h.specMap_contDiff c C C 1).differentiable (by norm_num)
  rw [E1step_fderiv E c1 _ hN u]
  exact congrArg (fun w => E * v + c1 * w) (h.specMap_fderiv c C C u v)

end ModelTerms

section Phys

noncomputable def physToSpec (c : Cfg ℂ) (C : ℕ) (u : Phys C (gridSize c)) : Spec C (modes c) :=
  readS C (modes c) (fftC c C (embP C (gridSize c) u))

noncomputable def specToPhys (c : Cfg ℂ) (C : ℕ) (x : Spec C (modes c)) : Phys C (gridSize c) :=
  readP C (gridSize c) (ifftC c C (embS C (modes c) x))

theorem physToSpec_isLinearMap (c : Cfg ℂ) (C : ℕ) : IsLinearMap ℝ (physToSpec c C) := by
  have hM := funMod₂_linear (X := Phys C (gridSize c))
  exact isLinearMap_readS C (modes c) _ (fftC_rel hM c C (embP_rel hM (fun L => L.toLinearMap.isLinear)))

theorem specToPhys_isLinearMap (c : Cfg ℂ) (C : ℕ) : IsLinearMap ℝ (specToPhys c C) := by
  have hM := funMod₂_linear (X := Spec C (modes c))
  exact isLinearMap_readP C (gridSize c) _ (ifftC_rel hM c C (embS_rel hM (fun L => L.toLinearMap.isLinear)))

/-- what `BaseStepper.step` does: `ifft ∘ step_fourier ∘ fft` -/
noncomputable def physStep (c : Cfg ℂ) (C : ℕ) (S : Spec C (modes c) → Spec C (modes c)) (u : Phys C (gridSize c)) :
    Phys C (gridSize c) :=
  specToPhys c C (S (physToSpec c C u))

theorem physStep_contDiff (c : Cfg ℂ) (C : ℕ) {n : WithTop ℕ∞} (S : Spec C (modes c) → Spec C (modes c))
    (hS : ContDiff ℝ n S) : ContDiff ℝ n (physStep c C S) :=
  (specToPhys_isLinearMap c C).contDiff.comp (hS.comp (physToSpec_isLinearMap c C).contDiff)

theorem physStep_fderiv (c : Cfg ℂ) (C : ℕ) (S : Spec C (modes c) → Spec C (modes c)) (hS : Differentiable ℝ S)
    (u v : Phys C (gridSize c)) :
    fderiv ℝ (physStep c C S) u v = specToPhys c C (fderiv ℝ S (physToSpec c C u) (physToSpec c C v)) := by
  have hA := (physToSpec_isLinearMap c C).hasFDerivAt_toCLM u
  have hB := (specToPhys_isLinearMap c C).hasFDerivAt_toCLM (S (physToSpec c C u))
  exact congrArg (fun L : Phys C (gridSize c) →L[ℝ] Phys C (gridSize c) => L v)
    (hB.comp u ((hS _).hasFDerivAt.comp u hA)).fderiv

end Phys

section Linear

noncomputable def linearStepTerm (c : Cfg ℂ) (C : ℕ) (E : ℕ → ℕ → ℂ) (uh : MC ℂ) : MC ℂ :=
  tab2 C (modes c) (fun ch h => E0step (E ch h) (at2 uh ch h))

theorem linearStepTerm_termLin (c : Cfg ℂ) (C : ℕ) (E : ℕ → ℕ → ℂ) : TermLin (linearStepTerm c C E) :=
  ⟨fun _ hM _ _ hf => fun ch h =>
    hM.tab2_rel _ _ _ _ (fun ch _ h _ => hM.smul _ (hf ch h)) ch h⟩

/-- C07: `u ↦ irfftn (E ⊙ rfftn u)` is ℝ-linear on physical grid states (every `D`, `N`, `C`, any array `E`) -/
theorem linearStep_phys_isLinearMap (c : Cfg ℂ) (C : ℕ) (E : ℕ → ℕ → ℂ) :
    IsLinearMap ℝ (physMap c C C (linearStepTerm c C E)) :=
  (linearStepTerm_termLin c C E).physMap_isLinearMap c C C

theorem linearStep_phys_fderiv (c : Cfg ℂ) (C : ℕ) (E : ℕ → ℕ → ℂ) (u v : Phys C (gridSize c)) :
    fderiv ℝ (physMap c C C (linearStepTerm c C E)) u v = physMap c C C (linearStepTerm c C E) v :=
  (linearStepTerm_termLin c C E).physMap_fderiv c C C u v

theorem isLinearMap_iterate {X : Type} [AddCommGroup X] [Module ℝ X] {f : X → X} (hf : IsLinearMap ℝ f) (k : ℕ) :
    IsLinearMap ℝ f^[k] :=
  Module.End.coe_pow hf.mk' k ▸ (hf.mk' ^ k).isLinear

theorem linearStep_spec_fderiv (c : Cfg ℂ) (C : ℕ) (E : ℕ → ℕ → ℂ) (x v : Spec C (modes c)) :
    fderiv ℝ (specMap c C C (linearStepTerm c C E)) x v = specMap c C C (linearStepTerm c C E) v :=
  (linearStepTerm_termLin c C E).specMap_fderiv c C C x v

theorem specMap_linearStepTerm (c : Cfg ℂ) (C : ℕ) (E : ℕ → ℕ → ℂ) (x : Spec C (modes c)) :
    specMap c C C (linearStepTerm c C E) x = E0step (fun (ch : Fin C) (h : Fin (modes c)) => E ch h) x := by
  funext ch h
  simp only [specMap, readS, linearStepTerm, at2_tab2 _ _ _ _ _ ch.2 h.2, at2_embS, E0step, Pi.mul_apply]

theorem physStep_E0step_isLinearMap (c : Cfg ℂ) (C : ℕ) (E : Spec C (modes c)) :
    IsLinearMap ℝ (physStep c C (E0step E)) := by
  have h1 := physToSpec_isLinearMap c C
  have h2 := specToPhys_isLinearMap c C
  refine ⟨fun x y => ?_, fun a x => ?_⟩
  · simp only [physStep, h1.map_add, E0step, mul_add, h2.map_add]
  · simp only [physStep, h1.map_smul, E0step, mul_smul_comm, h2.map_smul]

theorem physStep_E0step_fderiv (c : Cfg ℂ) (C : ℕ) (E : Spec C (modes c)) (u v : Phys C (gridSize c)) :
    fderiv ℝ (physStep c C (E0step E)) u v = physStep c C (E0step E) v :=
  (physStep_E0step_isLinearMap c C E).fderiv_apply u v

end Linear

end Exponax.DiffTerms
