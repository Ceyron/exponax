import ExponaxModel.Proofs.InterpQueryBasic
import ExponaxModel.Proofs.InterpNDSpec
/-
C15 support — the `FourierInterpolator` (`Interp.interpolate`) at an ARBITRARY real query point,
inside or outside the domain: for Nyquist-free band-limited states it returns the ANALYTIC value.

`K := ℂ`, `s = 2π/L` real (cast to `ℂ`), query point with real coordinates: either `cx x` for `x : List ℝ`
or any `x : List ℂ` whose first `D` coordinates have zero imaginary part.  All `D ≥ 1`, `N ≥ 1`.

  U1  `interpolate (modeField κ a φ) x = a cos(Σ_d s κ_d x_d + φ)` for `κ` strictly below Nyquist —
      uniformly in `κ` (`κ = 0`; `κ_last = 0` with its stored partner; `κ_last < 0`: all three are
      covered by `rfftnM_modeField` + `Wsum_eq_two`).  `s ≠ 0` is NOT needed.
  U2  `interpolate (stateOf ms) x = Σ_m a_m cos(s κ_m·x + φ_m)` (`trigPoly`).
  U3  `interpolate u (x + Σ_d m_d L e_d) = interpolate u x`, `L = 2π/s`, `m_d ∈ ℤ`, for EVERY `u`
      (also complex, not band-limited), every complex `s ≠ 0`, every complex `x`; needs no `D ≥ 1`/`N ≥ 1`.
      Hence the value at any real point equals the value at its wrapped image in `[0, L)^D`.
  U4  every real state whose transform vanishes at and above Nyquist is the grid sampling of a
      trigonometric polynomial, and its interpolant equals that polynomial at every real point.
  Sharpness: at the Nyquist wavenumber U1 is FALSE (`U1_fails_at_nyquist`).
-/
namespace Exponax.Interp
open Exponax Exponax.Layout Exponax.Transform Exponax.DFT Exponax.ExactLinear Finset
open scoped ComplexConjugate

/-- **U1** (query point with real coordinates, given as complex numbers). -/
theorem U1_interpolate_mode_of_real (D N : ℕ) (hD : 0 < D) (hN : 0 < N) (s : ℝ) (κ : List ℤ)
    (hκ : BelowNyquist D N κ) (a φ : ℝ) (x : List ℂ) (hx : ∀ d < D, (x.getD d 0).im = 0) :
    interpolate D N (s : ℂ) (modeField D N κ a φ) x
      = (((a * Real.cos ((∑ d ∈ range D, s * (κ.getD d 0 : ℝ) * (x.getD d 0).re) + φ) : ℝ)) : ℂ) :=
  interpolate_modeField_of_real D N hD hN s κ hκ a φ x hx

/-- **U1.**  The interpolant of the sampled mode `a cos(2π κ·j/N + φ)`, `κ` strictly below Nyquist, is
    `a cos(Σ_d s κ_d x_d + φ)` at EVERY real query point `x` (inside or outside the domain). -/
theorem U1_interpolate_mode (D N : ℕ) (hD : 0 < D) (hN : 0 < N) (s : ℝ) (κ : List ℤ)
    (hκ : BelowNyquist D N κ) (a φ : ℝ) (x : List ℝ) :
    interpolate D N (s : ℂ) (modeField D N κ a φ) (cx x)
      = (((a * Real.cos ((∑ d ∈ range D, s * (κ.getD d 0 : ℝ) * x.getD d 0) + φ) : ℝ)) : ℂ) := by
  rw [interpolate_modeField_of_real D N hD hN s κ hκ a φ (cx x) (fun d _ => cx_real x d), dotC_cx]

theorem U1_interpolate_mode_re_im (D N : ℕ) (hD : 0 < D) (hN : 0 < N) (s : ℝ) (κ : List ℤ)
    (hκ : BelowNyquist D N κ) (a φ : ℝ) (x : List ℝ) :
    (interpolate D N (s : ℂ) (modeField D N κ a φ) (cx x)).re
        = a * Real.cos ((∑ d ∈ range D, s * (κ.getD d 0 : ℝ) * x.getD d 0) + φ) ∧
      (interpolate D N (s : ℂ) (modeField D N κ a φ) (cx x)).im = 0 := by
  rw [U1_interpolate_mode D N hD hN s κ hκ a φ x]
  exact ⟨Complex.ofReal_re _, Complex.ofReal_im _⟩

/-- non-vacuity of U1: `κ_last < 0` (stored as its negative), `κ_last = 0` (stored with partner), `κ = 0` -/
example : BelowNyquist 2 4 [1, -1] := belowNyquist_of_forall_mem (by decide)
example : BelowNyquist 2 5 [-2, 0] := belowNyquist_of_forall_mem (by decide)
example : BelowNyquist 3 1 [0, 0, 0] := belowNyquist_of_forall_mem (by decide)

/-- the trigonometric polynomial `Σ_m a_m cos(s κ_m·x + φ_m)` of a list of modes at a query point -/
noncomputable def trigPoly (D : ℕ) (s : ℝ) (ms : Modes) (x : List ℂ) : ℝ :=
  (ms.map (fun m => m.2.1 * Real.cos (dotC D s m.1 x + m.2.2))).sum

theorem trigPoly_nil (D : ℕ) (s : ℝ) (x : List ℂ) : trigPoly D s [] x = 0 := rfl

theorem trigPoly_cons (D : ℕ) (s : ℝ) (m : List ℤ × ℝ × ℝ) (ms : Modes) (x : List ℂ) :
    trigPoly D s (m :: ms) x = m.2.1 * Real.cos (dotC D s m.1 x + m.2.2) + trigPoly D s ms x := by
  simp only [trigPoly, List.map_cons, List.sum_cons]

theorem trigPoly_cx (D : ℕ) (s : ℝ) (ms : Modes) (x : List ℝ) :
    trigPoly D s ms (cx x)
      = (ms.map (fun m => m.2.1 *
          Real.cos ((∑ d ∈ range D, s * (m.1.getD d 0 : ℝ) * x.getD d 0) + m.2.2))).sum := by
  unfold trigPoly
  refine congrArg List.sum (List.map_congr_left fun m _ => ?_)
  rw [dotC_cx]

/-- **U2** (query point with real coordinates, given as complex numbers). -/
theorem U2_interpolate_stateOf_of_real (D N : ℕ) (hD : 0 < D) (hN : 0 < N) (s : ℝ) (ms : Modes)
    (hms : ∀ m ∈ ms, BelowNyquist D N m.1) (x : List ℂ) (hx : ∀ d < D, (x.getD d 0).im = 0) :
    interpolate D N (s : ℂ) (stateOf D N ms) x = ((trigPoly D s ms x : ℝ) : ℂ) := by
  induction ms with
  | nil =>
    rw [stateOf, List.map_nil, vsum_nil, interpolate_vzero D N hD hN, trigPoly_nil, Complex.ofReal_zero]
  | cons m ms ih =>
    have e : stateOf D N (m :: ms) = vadd (N ^ D) (modeField D N m.1 m.2.1 m.2.2) (stateOf D N ms) := rfl
    rw [e, interpolate_vadd D N hD hN, ih (fun m' hm' => hms m' (List.mem_cons_of_mem _ hm')),
      interpolate_modeField_of_real D N hD hN s m.1 (hms m List.mem_cons_self) m.2.1 m.2.2 x hx,
      trigPoly_cons, Complex.ofReal_add]

/-- **U2.**  The interpolant of `Σ_m a_m cos(2π κ_m·j/N + φ_m)` (all `κ_m` strictly below Nyquist) is
    `Σ_m a_m cos(Σ_d s κ_{m,d} x_d + φ_m)` at every real query point. -/
theorem U2_interpolate_stateOf (D N : ℕ) (hD : 0 < D) (hN : 0 < N) (s : ℝ) (ms : Modes)
    (hms : ∀ m ∈ ms, BelowNyquist D N m.1) (x : List ℝ) :
    interpolate D N (s : ℂ) (stateOf D N ms) (cx x)
      = (((ms.map (fun m => m.2.1 *
          Real.cos ((∑ d ∈ range D, s * (m.1.getD d 0 : ℝ) * x.getD d 0) + m.2.2))).sum : ℝ) : ℂ) := by
  rw [U2_interpolate_stateOf_of_real D N hD hN s ms hms (cx x) (fun d _ => cx_real x d), trigPoly_cx]

/-- non-vacuity of U2 -/
example : ∀ m ∈ ([([1, 1], 2, 0.5), ([-1, 0], 1, 0), ([0, 0], 3, 0)] : Modes), BelowNyquist 2 4 m.1 := by
  intro m hm
  simp only [List.mem_cons, List.mem_nil_iff, or_false] at hm
  rcases hm with rfl | rfl | rfl
  · exact belowNyquist_of_forall_mem (by decide)
  · exact belowNyquist_of_forall_mem (by decide)
  · exact belowNyquist_of_forall_mem (by decide)

theorem exp_phase_shift (D : ℕ) (s : ℂ) (hs : s ≠ 0) (k : List ℤ) (x x' : List ℂ) (m : ℕ → ℤ)
    (h : ∀ d < D, x'.getD d 0 = x.getD d 0 + (m d : ℂ) * (2 * (Real.pi : ℂ) / s)) :
    Complex.exp (∑ d ∈ range D, Complex.I * (s * ((k.getD d 0 : ℤ) : ℂ)) * x'.getD d 0)
      = Complex.exp (∑ d ∈ range D, Complex.I * (s * ((k.getD d 0 : ℤ) : ℂ)) * x.getD d 0) := by
  have e : ∑ d ∈ range D, Complex.I * (s * ((k.getD d 0 : ℤ) : ℂ)) * x'.getD d 0
      = ∑ d ∈ range D, Complex.I * (s * ((k.getD d 0 : ℤ) : ℂ)) * x.getD d 0
        + ((∑ d ∈ range D, k.getD d 0 * m d : ℤ) : ℂ) * (2 * (Real.pi : ℂ) * Complex.I) := by
    have hsπ : s * (2 * (Real.pi : ℂ) / s) = 2 * Real.pi := by field_simp
    rw [Int.cast_sum, Finset.sum_mul, ← Finset.sum_add_distrib]
    refine Finset.sum_congr rfl fun d hd => ?_
    rw [h d (Finset.mem_range.mp hd)]
    push_cast
    linear_combination (Complex.I * ((k.getD d 0 : ℤ) : ℂ) * ((m d : ℤ) : ℂ)) * hsπ
  rw [e, Complex.exp_add, Complex.exp_int_mul_two_pi_mul_I, mul_one]

/-- **U3.**  The interpolant is `L`-periodic (`L = 2π/s`) in every coordinate, for EVERY state `u`:
    shifting coordinate `d` by `m_d · L` (`m_d ∈ ℤ`) does not change the value. -/
theorem U3_interpolate_periodic (D N : ℕ) (s : ℂ) (hs : s ≠ 0) (u : Array ℂ) (x x' : List ℂ) (m : ℕ → ℤ)
    (h : ∀ d < D, x'.getD d 0 = x.getD d 0 + (m d : ℂ) * (2 * (Real.pi : ℂ) / s)) :
    interpolate D N s u x' = interpolate D N s u x := by
  unfold interpolate
  simp only [hasRe_complex, hasExp_complex, hasI_complex, sumRange_eq, sumList_eq, list_range_map_sum]
  congr 2
  apply Finset.sum_congr rfl
  intro h' _
  congr 1
  exact exp_phase_shift D s hs (wnFlat D N h') x x' m h

/-- U3 for one axis: `x + L·e_{d₀}` -/
theorem U3_interpolate_shift_axis (D N : ℕ) (s : ℂ) (hs : s ≠ 0) (u : Array ℂ) (x : List ℂ) (d₀ : ℕ) :
    interpolate D N s u (x.set d₀ (x.getD d₀ 0 + 2 * (Real.pi : ℂ) / s)) = interpolate D N s u x := by
  apply U3_interpolate_periodic D N s hs u x _ (fun d => if d = d₀ ∧ d₀ < x.length then 1 else 0)
  intro d _
  simp only [List.getD_eq_getElem?_getD, List.getElem?_set]
  by_cases hd : d₀ = d
  · subst hd
    by_cases hl : d₀ < x.length
    · simp [hl]
    · simp [hl]
  · have hd' : ¬ d = d₀ := fun h => hd h.symm
    simp [hd, hd']

/-- the wrapped image of a real point: `x_d - L ⌊x_d / L⌋`, `L = 2π/s` -/
noncomputable def wrapPt (s : ℝ) (x : List ℝ) : List ℝ :=
  List.map (fun t : ℝ => t - (2 * Real.pi / s) * (⌊t / (2 * Real.pi / s)⌋ : ℝ)) x

theorem wrapPt_getD (s : ℝ) (x : List ℝ) (d : ℕ) :
    (wrapPt s x).getD d 0
      = x.getD d 0 - (2 * Real.pi / s) * (⌊x.getD d 0 / (2 * Real.pi / s)⌋ : ℝ) := by
  unfold wrapPt
  rw [List.getD_eq_getElem?_getD, List.getD_eq_getElem?_getD, List.getElem?_map]
  cases x[d]? <;> simp

theorem wrapPt_mem (s : ℝ) (hs : 0 < s) (x : List ℝ) (d : ℕ) :
    0 ≤ (wrapPt s x).getD d 0 ∧ (wrapPt s x).getD d 0 < 2 * Real.pi / s := by
  have hL : 0 < 2 * Real.pi / s := div_pos (by positivity) hs
  -- `t - L ⌊t/L⌋ = L · fract (t/L)`
  rw [wrapPt_getD, ← mul_div_cancel₀ (x.getD d 0) hL.ne', ← mul_sub, mul_div_cancel₀ _ hL.ne']
  exact ⟨mul_nonneg hL.le (Int.fract_nonneg _),
    (mul_lt_mul_of_pos_left (Int.fract_lt_one _) hL).trans_eq (mul_one _)⟩

/-- **U3 (wrapping).**  For every state `u`, the value of the interpolant at any real point — inside or
    outside the domain — is its value at the wrapped image of the point (which lies in `[0, L)^D` when `s > 0`,
    `wrapPt_mem`). -/
theorem U3_interpolate_wrap (D N : ℕ) (s : ℝ) (hs : s ≠ 0) (u : Array ℂ) (x : List ℝ) :
    interpolate D N (s : ℂ) u (cx x) = interpolate D N (s : ℂ) u (cx (wrapPt s x)) := by
  symm
  apply U3_interpolate_periodic D N (s : ℂ) (by exact_mod_cast hs) u (cx x) _
    (fun d => -⌊x.getD d 0 / (2 * Real.pi / s)⌋)
  intro d _
  rw [cx_getD, cx_getD, wrapPt_getD]
  push_cast
  ring

example : ∃ s : ℝ, 0 < s ∧ s ≠ 0 := ⟨1, one_pos, one_ne_zero⟩

theorem gridPoint_getD_ofReal (D N : ℕ) (s : ℝ) (j d : ℕ) (hd : d < D) :
    (gridPoint D N (s : ℂ) j).getD d 0 = ((2 * Real.pi / s * (digit D N j d : ℕ) / N : ℝ) : ℂ) := by
  rw [gridPoint_getD D N (s : ℂ) j d hd]
  push_cast
  ring

theorem gridPoint_real (D N : ℕ) (s : ℝ) (j d : ℕ) (hd : d < D) :
    ((gridPoint D N (s : ℂ) j).getD d 0).im = 0 := by
  rw [gridPoint_getD_ofReal D N s j d hd, Complex.ofReal_im]

theorem dotC_gridPoint (D N : ℕ) (s : ℝ) (hs : s ≠ 0) (κ : List ℤ) (j : ℕ) :
    dotC D s κ (gridPoint D N (s : ℂ) j) = 2 * Real.pi * ((phaseK D N κ j : ℤ) : ℝ) / N := by
  have hsπ : s * (2 * Real.pi / s) = 2 * Real.pi := by field_simp
  unfold dotC
  rw [phaseK_eq_sum]
  push_cast
  rw [Finset.mul_sum, Finset.sum_div]
  refine Finset.sum_congr rfl fun d hd => ?_
  rw [gridPoint_getD_ofReal D N s j d (Finset.mem_range.mp hd), Complex.ofReal_re]
  linear_combination ((κ.getD d 0 : ℝ) * ((digit D N j d : ℕ) : ℝ) / (N : ℝ)) * hsπ

theorem trigPoly_gridPoint (D N : ℕ) (s : ℝ) (hs : s ≠ 0) (ms : Modes) (j : ℕ) (hj : j < N ^ D) :
    ((trigPoly D s ms (gridPoint D N (s : ℂ) j) : ℝ) : ℂ) = (stateOf D N ms).getD j 0 := by
  rw [stateOf_getD D N ms j hj]
  unfold trigPoly
  refine congrArg (fun l : List ℝ => ((l.sum : ℝ) : ℂ)) (List.map_congr_left fun m _ => ?_)
  rw [dotC_gridPoint D N s hs]

theorem inBand_wnFlat_iff_belowNyquist (D N m h : ℕ) :
    inBand m (wnFlat D N h) ↔ BelowNyquist D m (wnFlat D N h) := by
  rw [inBand_wnFlat_iff]
  exact ⟨fun H => ⟨wnFlat_length D N h, H⟩, fun H => H.2⟩

theorem bandLimited_iff_bandLimitedN (D N : ℕ) (u : Array ℂ) : BandLimited D N u ↔ BandLimitedN D N N u :=
  forall₂_congr fun h _ => by rw [inBand_wnFlat_iff_belowNyquist]

/-- the band-limit hypothesis of U4, written out: the stored spectrum vanishes wherever some component of
    the wave vector is at (or above) Nyquist -/
theorem bandLimited_iff (D N : ℕ) (u : Array ℂ) :
    BandLimited D N u ↔ ∀ h < numModes D N,
      (∃ d < D, (N : ℤ) ≤ 2 * |(wnFlat D N h).getD d 0|) → (rfftnM D N u).getD h 0 = 0 :=
  (bandLimited_iff_bandLimitedN D N u).trans (bandLimitedN_iff D N N u)

/-- **U4.**  For every real grid state `u` whose transform vanishes at and above Nyquist there is a
    trigonometric polynomial `T(x) = Σ_m a_m cos(s κ_m·x + φ_m)` (all `κ_m` strictly below Nyquist) such
    that `u` is the grid sampling of `T` and the interpolant of `u` equals `T` at EVERY real point. -/
theorem U4_interpolate_bandLimited (D N : ℕ) (hD : 0 < D) (hN : 0 < N) (s : ℝ) (hs : s ≠ 0)
    (u : Array ℂ) (hsz : u.size = N ^ D) (hre : ∀ j < N ^ D, (u.getD j 0).im = 0)
    (hb : BandLimited D N u) :
    ∃ ms : Modes, (∀ m ∈ ms, BelowNyquist D N m.1) ∧ u = stateOf D N ms ∧
      (∀ j < N ^ D, u.getD j 0 = ((trigPoly D s ms (gridPoint D N (s : ℂ) j) : ℝ) : ℂ)) ∧
      (∀ x : List ℂ, (∀ d < D, (x.getD d 0).im = 0) →
        interpolate D N (s : ℂ) u x = ((trigPoly D s ms x : ℝ) : ℂ)) ∧
      (∀ x : List ℝ, interpolate D N (s : ℂ) u (cx x)
        = (((ms.map (fun m => m.2.1 *
            Real.cos ((∑ d ∈ range D, s * (m.1.getD d 0 : ℝ) * x.getD d 0) + m.2.2))).sum : ℝ) : ℂ)) := by
  obtain ⟨ms, hms, rfl⟩ := exists_modes_of_bandLimited D N hD hN u hsz hre hb
  refine ⟨ms, hms, rfl, ?_, ?_, ?_⟩
  · intro j hj
    rw [trigPoly_gridPoint D N s hs ms j hj]
  · intro x hx
    exact U2_interpolate_stateOf_of_real D N hD hN s ms hms x hx
  · intro x
    exact U2_interpolate_stateOf D N hD hN s ms hms x

/-- non-vacuity of U4 -/
example : ∃ (s : ℝ) (u : Array ℂ), s ≠ 0 ∧ u.size = 4 ^ 2 ∧ (∀ j < 4 ^ 2, (u.getD j 0).im = 0) ∧
    BandLimited 2 4 u := by
  have hms : ∀ m ∈ ([([1, 1], 2, 0.5)] : Modes), BelowNyquist 2 4 m.1 := by
    intro m hm
    simp only [List.mem_cons, List.mem_nil_iff, or_false] at hm
    subst hm
    exact belowNyquist_of_forall_mem (by decide)
  exact ⟨1, stateOf 2 4 [([1, 1], 2, 0.5)], one_ne_zero, by simp, stateOf_real 2 4 _,
    bandLimited_stateOf 2 4 (by norm_num) (by norm_num) _ hms⟩

/-! ## sharpness: U1 fails AT the Nyquist wavenumber -/

/-- `D = 1`, `N = 2`, `κ = 1 = N/2`, `φ = π/2`: the samples `cos(π j + π/2)` all vanish -/
theorem modeField_nyquist_zero : modeField 1 2 [1] 1 (Real.pi / 2) = vzero (2 ^ 1) := by
  apply array_ext_getD _ _ (2 ^ 1) (by simp) (by simp)
  intro j hj
  rw [modeField_getD 1 2 [1] 1 _ j hj, vzero_getD, phaseK_eq_sum, Finset.sum_range_one]
  have hj' : j < 2 := by simpa using hj
  rw [digit_one_of_lt 2 j hj']
  interval_cases j
  · simp
  · have : 2 * Real.pi * ((((([1] : List ℤ).getD 0 0 * ((1 : ℕ) : ℤ)) : ℤ)) : ℝ) / ((2 : ℕ) : ℝ) + Real.pi / 2
        = Real.pi / 2 + Real.pi := by
      simp; ring
    rw [this, Real.cos_add_pi, Real.cos_pi_div_two]
    simp

/-- **U1 is FALSE at Nyquist**: for `N = 2`, `κ = 1`, `a = 1`, `φ = π/2`, `s = 1`, `x = π/2` the interpolant is
    `0` while `a cos(s κ x + φ) = cos π = -1` -/
theorem U1_fails_at_nyquist :
    interpolate 1 2 ((1 : ℝ) : ℂ) (modeField 1 2 [1] 1 (Real.pi / 2)) (cx [Real.pi / 2])
      ≠ (((1 * Real.cos ((∑ d ∈ range 1, (1 : ℝ) * ((([1] : List ℤ).getD d 0 : ℤ) : ℝ)
          * ([Real.pi / 2] : List ℝ).getD d 0) + Real.pi / 2) : ℝ)) : ℂ) := by
  rw [modeField_nyquist_zero, interpolate_vzero 1 2 Nat.one_pos (by norm_num), Finset.sum_range_one]
  have : (1 : ℝ) * ((([1] : List ℤ).getD 0 0 : ℤ) : ℝ) * ([Real.pi / 2] : List ℝ).getD 0 0 + Real.pi / 2
      = Real.pi := by
    simp
  rw [this, Real.cos_pi]
  norm_num

/-- `κ = N/2` is exactly what `BelowNyquist` excludes -/
example : ¬ BelowNyquist 1 2 [1] := by
  intro h
  have := h.2 0 Nat.one_pos
  simp at this

end Exponax.Interp
