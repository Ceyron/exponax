import Mathlib.Tactic
import ExponaxModel.Proofs.DFTBasic
import ExponaxModel.Proofs.RealInstances
import ExponaxModel.Generated.GenPrelude
/-
Structural facts (no algebraic laws) about `tab`, `sumRange`, `sumList` and the list combinators that the
array-level translator (`harness/translate_metrics.py`) emits.
-/
namespace Exponax.Gen
open Exponax Exponax.Transform Exponax.DFT

theorem tab_size_getD_eq_map {α β : Type} (u : Array α) (d : α) (f : α → β) :
    tab u.size (fun j => f (u.getD j d)) = u.map f := by
  apply Array.ext
  · simp
  · intro i h1 h2
    have hi : i < u.size := by simpa using h1
    rw [tab_getElem]
    simp [Array.getD, hi]

export Exponax.DFT (tab_congr)

section
variable {K : Type} [Add K] [Zero K]

theorem sumRange_size_getD {α : Type} (u : Array α) (d : α) (f : α → K) :
    sumRange u.size (fun j => f (u.getD j d)) = sumList (u.toList.map f) := by
  unfold sumRange
  congr 1
  apply List.ext_getElem
  · simp
  · intro i h1 h2
    have hi : i < u.size := by simpa using h1
    simp [Array.getD, hi]

theorem sumRange_tab_getD' (n : ℕ) (f : ℕ → K) (d : K) :
    sumRange n (fun h => (tab n f).getD h d) = sumRange n f :=
  sumRange_congr n _ _ (fun i hi => tab_getD n f i d hi)

theorem sumRange_tab_getD (n : ℕ) (f : ℕ → K) (d : K) :
    sumRange (tab n f).size (fun h => (tab n f).getD h d) = sumRange n f := by
  rw [tab_size]
  exact sumRange_tab_getD' n f d

end

theorem zipWith_eq_range_map {α β γ : Type} (f : α → β → γ) (a : List α) (b : List β) (da : α) (db : β)
    (h : a.length ≤ b.length) :
    List.zipWith f a b = (List.range a.length).map (fun c => f (a.getD c da) (b.getD c db)) := by
  apply List.ext_getElem
  · simp [h]
  · intro i h1 h2
    have hi : i < a.length := by simpa using h2
    have hj : i < b.length := lt_of_lt_of_le hi h
    simp [List.getD_eq_getElem?_getD, hi, hj]

open Exponax.Layout Exponax.Gen.Prelude in
theorem lp_getD (D N : ℕ) (c : ℤ) (h : ℕ) (hh : h < numModes D N) :
    (ext_low_pass_filter_mask D N c true).getD h false = lowPassSep (wnFlat D N h) c 1 := by
  unfold ext_low_pass_filter_mask
  rw [tab_getD _ _ _ _ hh]; rfl

open Exponax.Layout Exponax.Gen.Prelude in
theorem lp_size (D N : ℕ) (c : ℤ) (b : Bool) : (ext_low_pass_filter_mask D N c b).size = numModes D N := by
  unfold ext_low_pass_filter_mask; simp

section
variable {K : Type} [Add K] [Mul K] [Div K] [Neg K] [Zero K] [NatCast K] [IntCast K] [HasExp K] [HasI K] [HasPi K]
open Exponax.Layout

theorem rfftnM_size' (D N : ℕ) (u : Array K) : (rfftnM D N u).size = numModes D N := by
  unfold rfftnM; exact tab_size _ _

end

end Exponax.Gen

namespace Exponax

/-- `enumerate` comprehensions as rendered by the translator (a `List.zip` with `List.range`, not `List.zipIdx`)
    are `List.mapIdx` -/
theorem zipIdx_map_eq_mapIdx {K : Type} (f : ℕ → K → K) (l : List K) :
    List.map (fun (p : ℕ × K) => f p.1 p.2) (List.zip (List.range l.length) l) = List.mapIdx f l := by
  apply List.ext_getElem
  · simp
  · intro i h1 h2
    simp

end Exponax
