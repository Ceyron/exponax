import Mathlib.Tactic
import Mathlib.Analysis.SpecialFunctions.Pow.Real
import ExponaxModel.Proofs.GenPreludeLemmas
import ExponaxModel.Proofs.GenInstances
import ExponaxModel.Model.IC
import ExponaxModel.Generated.ICGen
/-
The definitions regenerated from `exponax/ic/*.py` (`Generated/ICGen.lean`) are equal to the hand-written model
(`Model/IC.lean`).  The equalities are stated over an arbitrary scalar type with the few laws they need spelled
out as hypotheses (`AbsLaw`, `ShiftLaw`, `MaskLaw`, commutativity), and then instantiated at `ℝ` / `ℂ`.
-/
set_option linter.unusedSectionVars false
namespace Exponax.Gen.ICGen
open Exponax Exponax.Layout Exponax.Transform Exponax.DFT Exponax.Gen Exponax.Gen.Prelude

/-- the list of regenerated functions / methods is the one this file has theorems for -/
theorem generated_ic_pinned : generated_ic =
    ["normalize_ic", "ClampingICGenerator.__call__", "ScaledIC.__call__", "ScaledICGenerator.__call__",
     "RandomTruncatedFourierSeries.__call__"] := rfl

/-- the only fact about `<` and `|·|` that `normalize_ic` needs: a modulus that is not `> 0` is `0` -/
def AbsLaw (K : Type) [Zero K] [HasAbs K] [HasLtB K] : Prop :=
  ∀ x : K, HasLtB.ltb (0 : K) (HasAbs.abs x) = false → HasAbs.abs x = 0

/-- what `ClampingICGenerator.__call__` needs of `<`: `max(u − min u) = max u − min u` -/
def ShiftLaw (K : Type) [Sub K] [HasLtB K] : Prop :=
  ∀ a b c : K, HasLtB.ltb (a - c) (b - c) = HasLtB.ltb a b

/-- multiplying by a boolean mask entry (`x * 1 = x`, `x * 0 = 0`) -/
def MaskLaw (K : Type) [Mul K] [Zero K] [One K] : Prop := (∀ x : K, x * 1 = x) ∧ (∀ x : K, x * 0 = 0)

section
variable {K : Type} [Add K] [Sub K] [Mul K] [Div K] [Neg K] [Zero K] [One K] [NatCast K] [IntCast K]
  [HasSqrt K] [HasAbs K] [HasLtB K]

theorem jnp_mean_eq (u : Array K) : jnp_mean u = IC.mean u := by
  unfold jnp_mean IC.mean
  rw [sumRange_size_getD u 0 (fun x => x), List.map_id']

theorem jnp_std_eq (u : Array K) : jnp_std u = IC.std u := by
  unfold jnp_std IC.std
  simp only [jnp_mean_eq]
  rw [sumRange_size_getD u 0 (fun x => (x - IC.mean u) * (x - IC.mean u))]

theorem jnp_max_eq (u : Array K) : jnp_max u = IC.maxOf u := rfl
theorem jnp_min_eq (u : Array K) : jnp_min u = IC.minOf u := rfl

/-- `jnp.max(jnp.abs(u))` (fold started at the first entry) is the model's `maxAbs` (fold started at `0`) -/
theorem jnp_max_abs_eq (hlaw : AbsLaw K) (u : Array K) :
    jnp_max (tab u.size (fun j => HasAbs.abs (u.getD j 0))) = IC.maxAbs u := by
  rw [tab_size_getD_eq_map u 0 (fun x => HasAbs.abs x)]
  unfold jnp_max IC.maxAbs
  rw [Array.toList_map]
  rcases u with ⟨l⟩
  cases l with
  | nil => simp [Array.getD]
  | cons x xs =>
    have h0 : (Array.map (fun x => HasAbs.abs x) ⟨x :: xs⟩).getD 0 0 = HasAbs.abs x := by
      simp [Array.getD]
    rw [h0]
    simp only [List.map_cons, List.foldl_cons]
    have h1 : (if HasLtB.ltb (HasAbs.abs x) (HasAbs.abs x) = true then HasAbs.abs x else HasAbs.abs x)
        = HasAbs.abs x := by split_ifs <;> rfl
    have h2 : (if HasLtB.ltb (0 : K) (HasAbs.abs x) = true then HasAbs.abs x else 0) = HasAbs.abs x := by
      by_cases h : HasLtB.ltb (0 : K) (HasAbs.abs x) = true
      · rw [if_pos h]
      · rw [if_neg h, hlaw x (by simpa using h)]
    rw [h1, h2, List.foldl_map]

theorem tab_sub_const (u : Array K) (c : K) : tab u.size (fun j => u.getD j 0 - c) = u.map (fun x => x - c) :=
  tab_size_getD_eq_map u 0 (fun x => x - c)
theorem tab_div_const (u : Array K) (c : K) : tab u.size (fun j => u.getD j 0 / c) = u.map (fun x => x / c) :=
  tab_size_getD_eq_map u 0 (fun x => x / c)

theorem normalize_ic_eq (hlaw : AbsLaw K) (u : Array K) (zm so mo : Bool) :
    normalize_ic u zm so mo = IC.normalizeIc zm so mo u := by
  unfold normalize_ic IC.normalizeIc
  simp only [jnp_mean_eq, jnp_std_eq, jnp_max_abs_eq hlaw]
  cases zm <;> cases so <;> cases mo
  all_goals simp only [Bool.false_eq_true, if_false, if_true, tab_sub_const, tab_div_const]

theorem foldl_max_shift (hs : ShiftLaw K) (c : K) (l : List K) (i : K) :
    (l.map (fun x => x - c)).foldl (fun acc a => if HasLtB.ltb acc a then a else acc) (i - c)
      = l.foldl (fun acc a => if HasLtB.ltb acc a then a else acc) i - c := by
  induction l generalizing i with
  | nil => rfl
  | cons x xs ih =>
    have hs' : ∀ a b c : K, HasLtB.ltb (a - c) (b - c) = HasLtB.ltb a b := hs
    simp only [List.map_cons, List.foldl_cons, hs']
    by_cases h : HasLtB.ltb i x = true
    · simp only [h, if_true]
      exact ih x
    · simp only [h]
      exact ih i

/-- **`ClampingICGenerator.__call__`**: the affine map onto the limits -/
theorem ClampingICGenerator_call_eq (hs : ShiftLaw K) (lo hi : K) (u : Array K) :
    ClampingICGenerator_call (lo, hi) u = IC.clamp lo hi u := by
  unfold ClampingICGenerator_call IC.clamp
  simp only [jnp_min_eq]
  rw [tab_size_getD_eq_map u 0 (fun x => x - IC.minOf u)]
  have hmax : u.size ≠ 0 → jnp_max (u.map (fun x => x - IC.minOf u)) = IC.maxOf u - IC.minOf u := by
    intro hne
    unfold jnp_max IC.maxOf
    have h0 : (u.map (fun x => x - IC.minOf u)).getD 0 0 = u.getD 0 0 - IC.minOf u := by
      have : 0 < u.size := Nat.pos_of_ne_zero hne
      simp [Array.getD, this]
    rw [h0, Array.toList_map, foldl_max_shift hs]
  by_cases hsz : u.size = 0
  · have : u = #[] := Array.eq_empty_of_size_eq_zero hsz
    subst this
    simp [tab]
  · simp only [hmax hsz]
    rw [tab_size_getD_eq_map _ 0 (fun x => x / (IC.maxOf u - IC.minOf u)),
      tab_size_getD_eq_map _ 0 (fun x => x * (hi - lo) + lo), Array.map_map, Array.map_map]
    rfl

/-- **`ScaledICGenerator.__call__`** (`ic * scale`; the model writes `scale * ic`) -/
theorem ScaledICGenerator_call_eq (hcomm : ∀ x y : K, x * y = y * x) (a : K) (u : Array K) :
    ScaledICGenerator_call a u = IC.scale a u := by
  unfold ScaledICGenerator_call IC.scale
  rw [tab_size_getD_eq_map u 0 (fun x => x * a)]
  congr 1
  funext x
  exact hcomm x a

/-- **`ScaledIC.__call__`** on the grid values of the inner function: the same body -/
theorem ScaledIC_call_eq (hcomm : ∀ x y : K, x * y = y * x) (a : K) (u : Array K) :
    ScaledIC_call a u = IC.scale a u :=
  ScaledICGenerator_call_eq hcomm a u

end

section
variable {K : Type} [Add K] [Sub K] [Mul K] [Div K] [Neg K] [Zero K] [One K] [NatCast K] [IntCast K]
  [HasSqrt K] [HasAbs K] [HasLtB K] [HasExp K] [HasI K] [HasPi K] [HasRe K] [HasIsZero K]

/-- `a.at[0].set(v)` on a tabulated array -/
theorem tab_setIfInBounds_zero {α : Type} (n : ℕ) (f : ℕ → α) (v : α) :
    (tab n f).setIfInBounds 0 v = tab n (fun h => if h = 0 then v else f h) := by
  apply Array.ext
  · simp
  · intro i h1 h2
    have hi : i < n := by simpa using h2
    rw [Array.getElem_setIfInBounds (by simpa using hi), tab_getElem, tab_getElem]
    by_cases h0 : i = 0
    · rw [if_pos h0.symm, if_pos h0]
    · rw [if_neg (Ne.symm h0), if_neg h0]

/-- the spectrum that `RandomTruncatedFourierSeries.__call__` hands to `ifft`: low-pass mask, then the offset into the
    mean mode -/
theorem truncated_spectrum_eq (hm : MaskLaw K) (D N cutoff : ℕ) (offset : K) (noise : Array K) :
    (tab (ext_fft D N noise).size (fun h => (ext_fft D N noise).getD h 0 *
        (bif (ext_low_pass_filter_mask D N (cutoff : Int) true).getD h false then 1 else 0))).setIfInBounds 0
          (offset * lit (N ^ D))
      = tab (numModes D N) (fun h =>
          if h = 0 then offset * lit (N ^ D)
          else if lowPassSep (wnFlat D N h) (cutoff : Int) 1 then (rfftnM D N noise).getD h 0 else 0) := by
  unfold ext_fft
  rw [rfftnM_size', tab_setIfInBounds_zero]
  refine tab_congr _ _ _ fun h hh => ?_
  by_cases h0 : h = 0
  · rw [if_pos h0, if_pos h0]
  · rw [if_neg h0, if_neg h0, lp_getD _ _ _ _ hh]
    cases lowPassSep (wnFlat D N h) (cutoff : Int) 1
    · exact hm.2 _
    · exact hm.1 _

/-- **`RandomTruncatedFourierSeries.__call__`** = `normalizeIc ∘ truncatedSeries`; the random draws `noise`, `offset`
    are inputs -/
theorem RandomTruncatedFourierSeries_call_eq (hlaw : AbsLaw K) (hm : MaskLaw K) (D cutoff : ℕ) (orange : K × K)
    (so mo : Bool) (N : ℕ) (noise : Array K) (offset : K) :
    RandomTruncatedFourierSeries_call D cutoff orange so mo N noise offset
      = IC.normalizeIc (HasIsZero.isZero orange.1 && HasIsZero.isZero orange.2) so mo
          (IC.truncatedSeries D N cutoff offset noise) := by
  unfold RandomTruncatedFourierSeries_call IC.truncatedSeries
  simp only [normalize_ic_eq hlaw, truncated_spectrum_eq hm, Bool.decide_eq_true]
  rfl

end

theorem absLaw_real : AbsLaw ℝ := by
  intro x h
  have : ¬ (0 < |x|) := by simpa [hasLtB_real] using h
  have h2 : |x| ≤ 0 := not_lt.mp this
  exact le_antisymm h2 (abs_nonneg x)

theorem absLaw_complex : AbsLaw ℂ := by
  intro x h
  have : ¬ (0 < ‖x‖) := by simpa [hasLtB_complex, hasAbs_complex] using h
  have h2 : ‖x‖ = 0 := le_antisymm (not_lt.mp this) (norm_nonneg x)
  rw [hasAbs_complex, h2]; rfl

theorem shiftLaw_real : ShiftLaw ℝ := by
  intro a b c; simp [hasLtB_real]

theorem shiftLaw_complex : ShiftLaw ℂ := by
  intro a b c; simp [hasLtB_complex]

theorem maskLaw_of_mulZeroOneClass {K : Type} [MulZeroOneClass K] : MaskLaw K := ⟨mul_one, mul_zero⟩

/-- `normalize_ic` at `ℝ` (where `Proofs/ICAlgebra.lean` states the documented options) -/
theorem normalize_ic_real (u : Array ℝ) (zm so mo : Bool) :
    normalize_ic u zm so mo = IC.normalizeIc zm so mo u := normalize_ic_eq absLaw_real u zm so mo

theorem ClampingICGenerator_call_real (lo hi : ℝ) (u : Array ℝ) :
    ClampingICGenerator_call (lo, hi) u = IC.clamp lo hi u := ClampingICGenerator_call_eq shiftLaw_real lo hi u

theorem ScaledICGenerator_call_real (a : ℝ) (u : Array ℝ) : ScaledICGenerator_call a u = IC.scale a u :=
  ScaledICGenerator_call_eq mul_comm a u

theorem ScaledIC_call_real (a : ℝ) (u : Array ℝ) : ScaledIC_call a u = IC.scale a u :=
  ScaledIC_call_eq mul_comm a u

end Exponax.Gen.ICGen
