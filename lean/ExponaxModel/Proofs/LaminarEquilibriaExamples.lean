import ExponaxModel.Proofs.EquilibriaFixed
import ExponaxModel.Proofs.Laminar3DSteps
/-
Non-vacuity of the hypotheses used in `Proofs/Laminar*.lean` and `Proofs/Equilibria*.lean`: each block exhibits
concrete data satisfying the hypotheses of the named theorems.
-/
namespace Exponax.LaminarEquilibriaExamples
open Exponax Exponax.Spec Exponax.Gen.Etdrk Exponax.Nonlin Exponax.EquilibriaStored Exponax.Equilibria

/-- `stored_fixed_point_E{1..4}`, `stored_fixed_point_of_symbol_zero`: a non-zero equilibrium spectrum on which the
    defect conditions hold (linear symbol `0`, nonlinear term `0`) -/
example : ∃ (L u : ℕ → ℂ) (N : (ℕ → ℂ) → ℕ → ℂ), (∀ h, L h * u h + N u h = 0) ∧
    (∀ h, u h ≠ 0 → fpDefect 1 (L h) 16 1 = 0) ∧ (∀ h, u h ≠ 0 → fpDefectHalf 1 (L h) 16 1 = 0) ∧
    (∀ h, u h ≠ 0 → L h = 0) ∧ u 0 ≠ 0 :=
  ⟨0, 1, fun _ => 0, by simp, fun _ _ => (fpDefect_zero 1 1 16).1, fun _ _ => (fpDefect_zero 1 1 16).2,
    fun _ _ => rfl, by simp⟩

/-- `stage_fixed_of_defect`, `fixed_E?step_of_defect` (ring level): `L = 2`, `u = 1`, `N ≡ −2`, exact data `E = 3`,
    `c = 1` (`E − 1 − L c = 0`) -/
example : (2 : ℂ) * 1 + (-2) = 0 ∧ ((3 : ℂ) - 1 - 2 * 1) * 1 = 0 := by norm_num

/-- `norm_fpDefect_le`, `norm_fpDefectHalf_le`: nodes away from `0`, `‖r‖ < R`, `0 < M` -/
example : (0 : ℕ) < 16 ∧ ‖(1 : ℂ)‖ < (4 : ℝ) ∧
    ∀ ζ ∈ (roots_of_unity 16 : List ℂ), (1 : ℂ) * ζ + 0 * (0.1 : ℂ) ≠ 0 := by
  refine ⟨by norm_num, by simp, ?_⟩
  have := ContourTail.nodes_ne_zero_of_norm_ne 16 1 (0 * (0.1 : ℂ)) (by simp)
  exact this

/-- `C09_fixed_point_defect_default`, `C09_equilibrium_almost_fixed_default`: a dissipative mode -/
example : (-3 : ℝ) * 0.1 ≤ 0 := by norm_num

/-- `fpDefect_eq_tail` -/
example : (-3 : ℂ) * 0.1 ≠ 0 := by norm_num

/-- a configuration for the 2-D theorems (`hN`, `hD`, `0 < m`, `2m < N`) and for the constant states (`0 < c.D`) -/
example : ∃ c : Cfg ℂ, c.D = 2 ∧ 0 < c.D ∧ 0 < c.N ∧ 0 < 4 ∧ 2 * 4 < c.N ∧ mask c 0 = 1 :=
  ⟨⟨2, 16, 1, 0, 0⟩, rfl, by norm_num, by norm_num, by norm_num, by norm_num, by simp [mask]⟩

/-- `vorticity2d_shear*`, `laminar_E*`: shear spectra exist and are not all trivial: every spectrum supported on the
    forced mode of the 2-D layout is a shear spectrum -/
example (c : Cfg ℂ) (hD : c.D = 2) (m : ℕ) (hm : 2 * m < c.N) (a : ℂ) :
    Laminar.ShearSpec c (fun h => if h = m then a else 0) := by
  intro h hh
  by_cases he : h = m
  · exfalso
    have hlt := Laminar.forced_mode_lt c hD m hm
    have hk := (Laminar.forced_mode_iff c hD m hm h (he ▸ hlt)).mpr he
    rcases hh with hh | hh
    · omega
    · exact hh hk.1
  · simp [he]

/-- `convection_const`, `gradientNorm_const`, `vorticity2d_const`: mean-mode spectra -/
example (c : Cfg ℂ) (hD : 0 < c.D) (hN : 0 < c.N) (C : ℕ) (u0 : ℕ → ℂ) : MeanSpec c (constSpec c C u0) :=
  constSpec_meanSpec c hD hN C u0

/-- `polynomial_equilibrium`, `C09_fisher_kpp_equilibria`: `r·1 + (−r)·1² = 0` -/
example (r : ℂ) : r * ((1 : ℝ) : ℂ) + polyEval [0, 0, -r] ((1 : ℝ) : ℂ) = 0 := by
  rw [Alias.polyEval_quadratic]
  push_cast
  ring

/-- `C09_allen_cahn_equilibria` with the defaults `c₁ = 1`, `c₃ = −1`: `u₀ = 1` -/
example : (1 : ℂ) + (-1) * (((1 : ℝ) : ℂ)) ^ 2 = 0 := by push_cast; ring

/-- `C09_swift_hohenberg_equilibria` with `r = 0.7`, `k = 1`, `p(u) = u² − u³` (the defaults): `u₀ = 0` -/
example : (((0.7 : ℝ) : ℂ) - 1 ^ 2) * ((0 : ℝ) : ℂ) + polyEval [0, 0, 1, -1] ((0 : ℝ) : ℂ) = 0 := by
  simp [polyEval]

/-- `const_equilibrium_fixed_exact`: coefficient arrays that are exact at the mean mode exist (take them exact
    everywhere), with `dt L(0) ≠ 0` -/
example : ∃ (dt : ℂ) (L E Eh a1 a4 a5 a6 : ℕ → ℂ), dt * L 0 ≠ 0 ∧ E 0 = Complex.exp (dt * L 0) ∧
    Eh 0 = Complex.exp (dt * L 0 / 2) ∧ a1 0 = dt * (phi1 (dt * L 0 / 2) / 2) ∧
    a4 0 = dt * (phi1 (dt * L 0) - 3 * phi2 (dt * L 0) + 4 * phi3 (dt * L 0)) ∧
    a5 0 = dt * (phi2 (dt * L 0) - 2 * phi3 (dt * L 0)) ∧ a6 0 = dt * (4 * phi3 (dt * L 0) - phi2 (dt * L 0)) :=
  ⟨1, fun _ => 2, fun _ => Complex.exp (1 * 2), fun _ => Complex.exp (1 * 2 / 2),
    fun _ => 1 * (phi1 (1 * 2 / 2) / 2), fun _ => 1 * (phi1 (1 * 2) - 3 * phi2 (1 * 2) + 4 * phi3 (1 * 2)),
    fun _ => 1 * (phi2 (1 * 2) - 2 * phi3 (1 * 2)), fun _ => 1 * (4 * phi3 (1 * 2) - phi2 (1 * 2)),
    by norm_num, rfl, rfl, rfl, rfl, rfl, rfl⟩

/-- `from_rest_exact`, `laminar3d_exact_E4`: `σ ≠ 0`, `dt ≠ 0` -/
example : ((-0.3 : ℂ)) ≠ 0 ∧ ((0.01 : ℂ)) ≠ 0 := by norm_num

/-- 3-D: configuration, real non-zero scale, two-mode states (`projected3d_shear_none_partial`, `laminar3d_all`) -/
example : ∃ c : Cfg ℂ, c.D = 3 ∧ c.s = ((1 : ℝ) : ℂ) ∧ (1 : ℝ) ≠ 0 ∧ 0 < 2 ∧ 2 * 2 < c.N :=
  ⟨⟨3, 8, ((1 : ℝ) : ℂ), 2, 3⟩, rfl, rfl, one_ne_zero, by norm_num, by norm_num⟩

example (c : Cfg ℂ) (m : ℕ) (a b : ℂ) : Laminar3D.TwoModeSpec c m
    (fun i h => if i = 0 ∧ h = Laminar3D.hP c m then a else if i = 0 ∧ h = Laminar3D.hM c m then b else 0) := by
  intro i h hc
  rcases hc with hc | hc
  · simp [hc]
  · simp [hc.1, hc.2]

end Exponax.LaminarEquilibriaExamples
