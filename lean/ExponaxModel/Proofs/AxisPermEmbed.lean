import ExponaxModel.Proofs.AxisPermBasic
/-
C08, transform level: a 1-D state embedded along one axis of the `D`-dimensional grid, constant in all other
directions (`embedAxis D N a w`, `u(j₀,…,j_{D-1}) = w(j_a)`).  Its spectrum lives on the `a`-th axis and is
`N^{D-1}` times the 1-D spectrum (`dftV_embedAxis`, `rfftn_embedAxis`; last axis: `rfftn_embedLast`); conversely
the c2r transform of `N^{D-1} · c₁` placed on the last axis is the embedding of `irfftnM 1 N c₁` (`irfftn_embedLast`).
-/
set_option linter.unusedVariables false
namespace Exponax.AxisPerm
open Exponax.Layout Exponax.Transform Exponax.DFT Exponax.AliasND Finset

def embedAxis (D N a : ℕ) (w : Array ℂ) : Array ℂ := tab (N ^ D) (fun j => w.getD (digit D N j a) 0)

@[simp] theorem embedAxis_size (D N a : ℕ) (w : Array ℂ) : (embedAxis D N a w).size = N ^ D := by
  simp [embedAxis]

theorem embedAxis_getD (D N a : ℕ) (w : Array ℂ) (j : ℕ) (hj : j < N ^ D) :
    (embedAxis D N a w).getD j 0 = w.getD (digit D N j a) 0 := by
  rw [embedAxis, DFT.tab_getD _ _ _ _ hj]

theorem embedLast_getD (D N : ℕ) (hD : 0 < D) (w : Array ℂ) (j : ℕ) (hj : j < N ^ D) :
    (embedAxis D N (D - 1) w).getD j 0 = w.getD (j % N) 0 := by
  obtain ⟨E, rfl⟩ : ∃ E, D = E + 1 := ⟨D - 1, by omega⟩
  rw [embedAxis_getD _ _ _ _ j hj, Nat.add_sub_cancel, digit_succ_last]

theorem embedAxis_real (D N a : ℕ) (hN : 0 < N) (w : Array ℂ) (hw : ∀ i < N, (w.getD i 0).im = 0) :
    IsRealND D N (embedAxis D N a w) := by
  intro j hj
  rw [embedAxis_getD _ _ _ _ j hj]
  exact hw _ (Nat.mod_lt _ hN)

/-- C08 on the full spectrum, any axis `a`, any complex `w`: the sum over the grid factors over the axes. -/
theorem dftV_embedAxis (D N : ℕ) (hN : 0 < N) (a : Fin D) (w : Array ℂ) (κ : Fin D → ℤ) :
    dftV D N (embedAxis D N a w) κ
      = if ∀ d, d ≠ a → (N : ℤ) ∣ κ d then ((N ^ (D - 1) : ℕ) : ℂ) * dft N w (κ a) else 0 := by
  rw [embedAxis, dftV_tab]
  have h1 : ∀ j ∈ range (N ^ D), w.getD (digit D N j a) 0 * zeta N ^ vdot D N κ j
      = (fun p : Fin D → ℕ => ∏ d : Fin D,
          ((if d = a then w.getD (p d) 0 else 1) * zeta N ^ (κ d * (p d : ℤ))))
          (fun d => digit D N j d) := by
    intro j _
    simp only []
    rw [Finset.prod_mul_distrib, Finset.prod_ite_eq' Finset.univ a (fun d => w.getD (digit D N j d) 0),
      if_pos (Finset.mem_univ a)]
    unfold vdot
    rw [zeta_zpow_sum]
  rw [Finset.sum_congr rfl h1,
    sum_digits D N hN (fun p : Fin D → ℕ => ∏ d : Fin D,
          ((if d = a then w.getD (p d) 0 else 1) * zeta N ^ (κ d * (p d : ℤ)))),
    ← Finset.prod_univ_sum (fun _ : Fin D => range N)
      (fun (d : Fin D) (i : ℕ) => (if d = a then w.getD i 0 else 1) * zeta N ^ (κ d * (i : ℤ))),
    ← Finset.mul_prod_erase Finset.univ _ (Finset.mem_univ a)]
  have hother : ∀ d ∈ Finset.univ.erase a,
      ∑ i ∈ range N, (if d = a then w.getD i 0 else 1) * zeta N ^ (κ d * (i : ℤ))
        = if (N : ℤ) ∣ κ d then (N : ℂ) else 0 := by
    intro d hd
    have hne : d ≠ a := (Finset.mem_erase.mp hd).1
    simp only [if_neg hne, one_mul]
    exact zeta_sum_zpow N hN (κ d)
  rw [Finset.prod_congr rfl hother, Finset.prod_ite_zero]
  simp only [if_true, Finset.mem_erase, Finset.mem_univ, and_true, Finset.prod_const,
    Finset.card_erase_of_mem (Finset.mem_univ a), Finset.card_univ, Fintype.card_fin]
  split_ifs
  · unfold dft
    push_cast
    ring
  · rw [mul_zero]

theorem dftV_one (N : ℕ) (w : Array ℂ) (k : Fin 1 → ℤ) : dftV 1 N w k = dft N w (k 0) := by
  unfold dftV dft vdot
  rw [pow_one]
  apply Finset.sum_congr rfl
  intro j hj
  simp [digit_one_of_lt N j (Finset.mem_range.mp hj)]

/-- C08 in the stored layout, any axis -/
theorem rfftn_embedAxis (D N : ℕ) (hD : 0 < D) (hN : 0 < N) (a : Fin D) (w : Array ℂ) (h : ℕ)
    (hh : h < numModes D N) :
    (rfftnM D N (embedAxis D N a w)).getD h 0
      = if ∀ d, d ≠ a → kvec D N h d = 0 then ((N ^ (D - 1) : ℕ) : ℂ) * dft N w (kvec D N h a) else 0 := by
  rw [rfftn_eq_dftV D N hN _ h hh, dftV_embedAxis D N hN]
  have hiff : (∀ d, d ≠ a → (N : ℤ) ∣ kvec D N h d) ↔ (∀ d, d ≠ a → kvec D N h d = 0) := by
    constructor
    · intro H d hd
      apply Int.eq_zero_of_abs_lt_dvd (H d hd)
      have := kvec_abs_le D N h hD hN hh d
      have h2 : ((N / 2 : ℕ) : ℤ) < N := by exact_mod_cast Nat.div_lt_self hN (by norm_num)
      omega
    · intro H d hd
      rw [H d hd]
      exact dvd_zero _
  by_cases hc : ∀ d, d ≠ a → kvec D N h d = 0
  · rw [if_pos hc, if_pos (hiff.mpr hc)]
  · rw [if_neg hc, if_neg (fun h' => hc (hiff.mp h'))]

theorem kvec_lastAxis (D N h : ℕ) (hD : 0 < D) (hN : 0 < N) (hh : h < N / 2 + 1) (d : Fin D) :
    kvec D N h d = if (d : ℕ) = D - 1 then (h : ℤ) else 0 := by
  obtain ⟨E, rfl⟩ : ∃ E, D = E + 1 := ⟨D - 1, by omega⟩
  have hlt : h < numModes (E + 1) N := by
    rw [numModes_succ]
    exact lt_of_lt_of_le hh (Nat.le_mul_of_pos_left _ (pow_pos hN E))
  rw [Nat.add_sub_cancel]
  split_ifs with hd
  · rw [kvec_last E N h hlt d hd, Nat.mod_eq_of_lt hh]
  · rw [kvec_leading E N h hlt d (by have := d.2; omega), Nat.div_eq_of_lt hh, digit_zero]
    rfl

theorem kvec_one (N h : ℕ) (d : Fin 1) : kvec 1 N h d = (h : ℤ) := by
  have : (d : ℕ) = 0 := by omega
  simp [kvec, wnFlat_one]

theorem kvec_leading_zero_iff (E N h : ℕ) (hN : 0 < N) (hh : h < numModes (E + 1) N) :
    (∀ d : Fin (E + 1), d ≠ Fin.last E → kvec (E + 1) N h d = 0) ↔ h < N / 2 + 1 := by
  constructor
  · intro H
    rw [numModes_succ, mul_comm] at hh
    -- all digits of `h / (N/2+1)` vanish
    have hz : h / (N / 2 + 1) = 0 := by
      apply digits_inj N E _ _ (Nat.div_lt_of_lt_mul hh) (pow_pos hN E)
      intro d hd
      have := H ⟨d, by omega⟩ (fun he => Nat.ne_of_lt hd (congrArg Fin.val he))
      rw [kvec_leading E N h (by rw [numModes_succ, mul_comm]; exact hh) ⟨d, by omega⟩ hd,
        fftfreq_eq_zero_iff N _ (DFT.digit_lt E N _ _ hN)] at this
      rw [digit_zero, this]
    exact (Nat.div_eq_zero_iff.mp hz).resolve_left (by omega)
  · intro hlt d hd
    rw [kvec_lastAxis (E + 1) N h E.succ_pos hN hlt, if_neg (fun he => hd (Fin.ext (by simpa using he)))]

/-- C08 in the stored layout, last axis: the stored modes `h ≤ N/2` are the last axis of the half layout, with
    the sign convention of the 1-D layout; any complex `w`, Nyquist mode included. -/
theorem rfftn_embedLast (E N : ℕ) (hN : 0 < N) (w : Array ℂ) (h : ℕ) (hh : h < numModes (E + 1) N) :
    (rfftnM (E + 1) N (embedAxis (E + 1) N E w)).getD h 0
      = if h < N / 2 + 1 then ((N ^ E : ℕ) : ℂ) * (rfftnM 1 N w).getD h 0 else 0 := by
  have := rfftn_embedAxis (E + 1) N (by omega) hN (Fin.last E) w h hh
  simp only [Fin.val_last] at this
  rw [this, Nat.add_sub_cancel]
  by_cases hlt : h < N / 2 + 1
  · rw [if_pos ((kvec_leading_zero_iff E N h hN hh).mpr hlt), if_pos hlt,
      kvec_last E N h hh (Fin.last E) (by simp), Nat.mod_eq_of_lt hlt, rfft1_getD N hN w h (by omega)]
  · rw [if_neg (fun H => hlt ((kvec_leading_zero_iff E N h hN hh).mp H)), if_neg hlt]

theorem rfftn_embedLast_pos (D N : ℕ) (hD : 0 < D) (hN : 0 < N) (w : Array ℂ) (h : ℕ) (hh : h < numModes D N) :
    (rfftnM D N (embedAxis D N (D - 1) w)).getD h 0
      = if h < N / 2 + 1 then ((N ^ (D - 1) : ℕ) : ℂ) * (rfftnM 1 N w).getD h 0 else 0 := by
  obtain ⟨E, rfl⟩ : ∃ E, D = E + 1 := ⟨D - 1, by omega⟩
  exact rfftn_embedLast E N hN w h hh

theorem dotPhase_zero_left (E N b : ℕ) : dotPhase E N 0 b = 0 := by
  unfold dotPhase
  apply Finset.sum_eq_zero
  intro d _
  rw [digit_zero]
  simp

/-- C08, inverse transform, for any 1-D stored array `c₁`, Hermitian or not -/
theorem irfftn_embedLast (D N : ℕ) (hD : 0 < D) (hN : 0 < N) (c c1 : Array ℂ)
    (hc : ∀ h < numModes D N,
      c.getD h 0 = if h < N / 2 + 1 then ((N ^ (D - 1) : ℕ) : ℂ) * c1.getD h 0 else 0) :
    irfftnM D N c = embedAxis D N (D - 1) (irfftnM 1 N c1) := by
  obtain ⟨E, rfl⟩ : ∃ E, D = E + 1 := ⟨D - 1, by omega⟩
  rw [Nat.add_sub_cancel] at hc ⊢
  apply DFT.array_ext_getD _ _ (N ^ (E + 1)) (DFT.irfftnM_size _ _ _) (embedAxis_size _ _ _ _)
  intro J hJ
  have hn : N / 2 + 1 ≤ N ^ E * (N / 2 + 1) := Nat.le_mul_of_pos_left _ (pow_pos hN E)
  have hNE : ((N ^ E : ℕ) : ℂ) ≠ 0 := by exact_mod_cast (pow_pos hN E).ne'
  rw [numModes_succ] at hc
  rw [embedAxis_getD _ _ _ _ J hJ, digit_succ_last, irfftn_getD E N hN c J hJ, irfft1_getD N hN c1 _ (Nat.mod_lt _ hN),
    pow_succ, Nat.cast_mul, ← div_div]
  congr 1
  rw [div_eq_iff hNE, Finset.sum_mul]
  -- only the stored modes `h ≤ N/2` (leading digits `0`) contribute
  refine (Finset.sum_subset (Finset.range_subset_range.mpr hn) ?_).symm.trans (Finset.sum_congr rfl ?_)
  · intro h hh hlt
    rw [hc h (Finset.mem_range.mp hh), if_neg (fun h' => hlt (Finset.mem_range.mpr h'))]
    simp
  · intro l hl
    have hl' := Finset.mem_range.mp hl
    rw [hc l (by omega), if_pos hl', Nat.mod_eq_of_lt hl', Nat.div_eq_of_lt hl', dotPhase_zero_left,
      zero_add, mul_assoc ((N ^ E : ℕ) : ℂ), ← Complex.ofReal_natCast (N ^ E), Complex.re_ofReal_mul,
      Complex.ofReal_mul]
    ring

theorem irfftn_embedLast_tab (E N : ℕ) (hN : 0 < N) (c1 : Array ℂ) :
    irfftnM (E + 1) N (tab (numModes (E + 1) N)
        (fun h => if h < N / 2 + 1 then ((N ^ E : ℕ) : ℂ) * c1.getD h 0 else 0))
      = embedAxis (E + 1) N E (irfftnM 1 N c1) :=
  irfftn_embedLast (E + 1) N E.succ_pos hN _ c1 (fun _ hh => DFT.tab_getD _ _ _ _ hh)

theorem irfftn_rfftn_embedLast (E N : ℕ) (hN : 0 < N) (w : Array ℂ) (hw : ∀ i < N, (w.getD i 0).im = 0) :
    irfftnM (E + 1) N (rfftnM (E + 1) N (embedAxis (E + 1) N E w))
      = embedAxis (E + 1) N E (irfftnM 1 N (rfftnM 1 N w)) :=
  irfftn_embedLast (E + 1) N E.succ_pos hN _ _ (fun h hh => rfftn_embedLast E N hN w h hh)

example : ∃ (E N h : ℕ), 0 < N ∧ h < numModes (E + 1) N ∧ h < N / 2 + 1 := ⟨2, 4, 2, by norm_num, by decide, by norm_num⟩
example : ∃ (E N h : ℕ), 0 < N ∧ h < numModes (E + 1) N ∧ ¬ h < N / 2 + 1 := ⟨2, 4, 7, by norm_num, by decide, by norm_num⟩
example (E N : ℕ) (c1 : Array ℂ) : ∃ c : Array ℂ, ∀ h < numModes (E + 1) N,
    c.getD h 0 = if h < N / 2 + 1 then ((N ^ E : ℕ) : ℂ) * c1.getD h 0 else 0 :=
  ⟨_, fun _ hh => DFT.tab_getD _ _ _ _ hh⟩

end Exponax.AxisPerm
