import ExponaxModel.Proofs.DiffTermsConv
import ExponaxModel.Proofs.LerayAlgebra
/-
C07 support: the remaining terms `polynomial`, `general`, `leray` (linear), `projected3d` (with or without injection),
`cahnHilliard`, `reaction` (Gray–Scott and Belousov–Zhabotinsky kinetics), by the scheme of `DiffTermsConv`.
-/
namespace Exponax.DiffTerms
open Exponax Exponax.Layout Exponax.Transform Exponax.Nonlin

section Congr
variable {X Y : Type} {R : (X → ℂ) → (Y → ℂ) → Prop}

theorem rel_congr_right {f : X → ℂ} {f' f'' : Y → ℂ} (h : R f f') (e : ∀ v, f' v = f'' v) : R f f'' := by
  have : f' = f'' := funext e
  rwa [← this]

theorem rel_congr_left {f g : X → ℂ} {f' : Y → ℂ} (h : R f f') (e : ∀ x, f x = g x) : R g f' := by
  have : f = g := funext e
  rwa [← this]

end Congr

/-- forward-mode AD of the Horner-like loop `polyEval`: state `(d acc, u^k, d(u^k))` -/
def polyEvalJvp (coeffs : List ℂ) (u du : ℂ) : ℂ :=
  (coeffs.foldl (fun (s : ℂ × ℂ × ℂ) co => (s.1 + co * s.2.2, s.2.1 * u, s.2.1 * du + s.2.2 * u)) (0, 1, 0)).1

/-- JVP of `polynomial`: `P(p'(u) · du)` -/
noncomputable def polynomialJvp (c : Cfg ℂ) (C : ℕ) (coeffs : List ℂ) (uh vh : MC ℂ) : MC ℂ :=
  let G := gridSize c
  let u : MC ℂ := tabC C (fun ch => nifft c (uh.getD ch #[]))
  let du : MC ℂ := tabC C (fun ch => nifft c (vh.getD ch #[]))
  tabC C (fun ch => nfft c (tab G (fun x => polyEvalJvp coeffs (at2 u ch x) (at2 du ch x))))

noncomputable def generalJvp (c : Cfg ℂ) (C : ℕ) (s0 s1 s2 : ℂ) (zeroFix : Bool) (uh vh : MC ℂ) : MC ℂ :=
  let M := modes c
  let a := polynomialJvp c C [0, 0, s0] uh vh
  let b := convectionJvp c C (-s1) true true uh vh
  let g := gradientNormJvp c C (-s2) zeroFix uh vh
  tab2 C M (fun ch h => at2 a ch h + at2 b ch h + at2 g ch h)

/-- JVP of `projected3d`: `Leray(P(u × curl dv + du × curl v))`; injections are constants -/
noncomputable def projected3dJvp (c : Cfg ℂ) (uh vh : MC ℂ) : MC ℂ :=
  let G := gridSize c
  let M := modes c
  let curlH : MC ℂ := tab2 3 M (fun i h =>
    proj3 (Gen.Misc.cross_product_3d (deriv c 0 h, deriv c 1 h, deriv c 2 h) (at2 uh 0 h, at2 uh 1 h, at2 uh 2 h)) i)
  let dcurlH : MC ℂ := tab2 3 M (fun i h =>
    proj3 (Gen.Misc.cross_product_3d (deriv c 0 h, deriv c 1 h, deriv c 2 h) (at2 vh 0 h, at2 vh 1 h, at2 vh 2 h)) i)
  let curl : MC ℂ := tabC 3 (fun i => nifft c (curlH.getD i #[]))
  let dcurl : MC ℂ := tabC 3 (fun i => nifft c (dcurlH.getD i #[]))
  let vel : MC ℂ := tabC 3 (fun i => nifft c (uh.getD i #[]))
  let dvel : MC ℂ := tabC 3 (fun i => nifft c (vh.getD i #[]))
  let conv : MC ℂ := tab2 3 G (fun i x =>
    proj3 (Gen.Misc.cross_product_3d (at2 vel 0 x, at2 vel 1 x, at2 vel 2 x) (at2 dcurl 0 x, at2 dcurl 1 x, at2 dcurl 2 x)) i
    + proj3 (Gen.Misc.cross_product_3d (at2 dvel 0 x, at2 dvel 1 x, at2 dvel 2 x) (at2 curl 0 x, at2 curl 1 x, at2 curl 2 x)) i)
  let convH : MC ℂ := tabC 3 (fun i => nfft c (conv.getD i #[]))
  let proj := leray c convH
  tab2 3 M (fun i h => at2 proj i h)

/-- JVP of `cahnHilliard`: `scale · Δ̂ · P(3u² du)` (as `(u u) du + (u du + du u) u`) -/
noncomputable def cahnHilliardJvp (c : Cfg ℂ) (scale : ℂ) (uh vh : MC ℂ) : MC ℂ :=
  let G := gridSize c
  let M := modes c
  let u := nifft c (tab M (fun h => mask c h * at2 uh 0 h))
  let du := nifft c (tab M (fun h => mask c h * at2 vh 0 h))
  let cube := nfft c (tab G (fun x =>
    u.getD x 0 * u.getD x 0 * du.getD x 0 + (u.getD x 0 * du.getD x 0 + du.getD x 0 * u.getD x 0) * u.getD x 0))
  tab2 1 M (fun _ h => laplace c 2 h * cube.getD h 0 * scale)

/-- JVP of `reaction` for kinetics with pointwise JVP `reactJ (values) (tangent values)` -/
noncomputable def reactionJvp (c : Cfg ℂ) (C : ℕ) (reactJ : List ℂ → List ℂ → List ℂ) (uh vh : MC ℂ) : MC ℂ :=
  let G := gridSize c
  let M := modes c
  let u : MC ℂ := tabC C (fun ch => nifft c (tab M (fun h => mask c h * at2 uh ch h)))
  let du : MC ℂ := tabC C (fun ch => nifft c (tab M (fun h => mask c h * at2 vh ch h)))
  let r : MC ℂ := tab2 C G (fun ch x =>
    (reactJ ((List.range C).map (fun k => at2 u k x)) ((List.range C).map (fun k => at2 du k x))).getD ch 0)
  tabC C (fun ch => nfft c (r.getD ch #[]))

def grayScottReactJvp (feed kill : ℂ) (u du : List ℂ) : List ℂ :=
  let a := u.getD 0 0; let b := u.getD 1 0
  let da := du.getD 0 0; let db := du.getD 1 0
  [-(feed * da) - (da * (b * b) + 2 * (a * b) * db), -(feed + kill) * db + (da * (b * b) + 2 * (a * b) * db)]

def bzReactJvp (u du : List ℂ) : List ℂ :=
  let a := u.getD 0 0; let b := u.getD 1 0
  let da := du.getD 0 0; let db := du.getD 1 0; let dd := du.getD 2 0
  [da + db - (a * db + da * b) - 2 * a * da, dd - db - (a * db + da * b), da - dd]

section Generic
variable {X Y : Type} {R : (X → ℂ) → (Y → ℂ) → Prop} {u : X}

theorem polyEval_rel (hR : FunAlg₂ R u) (cs : List ℂ) {g : X → ℂ} {g' : Y → ℂ} (hg : R g g') :
    R (fun x => polyEval cs (g x)) (fun v => polyEvalJvp cs (g u) (g' v)) := by
  have hM := hR.toFunMod₂
  have key : ∀ (cs : List ℂ) (acc pw : X → ℂ) (dacc dpw : Y → ℂ), R acc dacc → R pw dpw →
      R (fun x => (cs.foldl (fun (a : ℂ × ℂ) co => (a.1 + co * a.2, a.2 * g x)) (acc x, pw x)).1)
        (fun v => (cs.foldl (fun (s : ℂ × ℂ × ℂ) co =>
          (s.1 + co * s.2.2, s.2.1 * g u, s.2.1 * g' v + s.2.2 * g u)) (dacc v, pw u, dpw v)).1) := by
    intro cs
    induction cs with
    | nil => intro acc pw dacc dpw h1 h2; simpa only [List.foldl_nil] using h1
    | cons co rest ih =>
      intro acc pw dacc dpw h1 h2
      simp only [List.foldl_cons]
      exact ih (fun x => acc x + co * pw x) (fun x => pw x * g x) (fun v => dacc v + co * dpw v)
        (fun v => pw u * g' v + dpw v * g u) (hM.add h1 (hM.smul co h2)) (hR.mul h2 hg)
  exact key cs (fun _ => 0) (fun _ => 1) (fun _ => 0) (fun _ => 0) hM.zero (hR.const 1)

theorem polynomial_rel (hR : FunAlg₂ R u) (c : Cfg ℂ) (C : ℕ) (coeffs : List ℂ)
    {f : X → MC ℂ} {f' : Y → MC ℂ} (hf : RelM R f f') :
    RelM R (fun x => polynomial c C coeffs (f x)) (fun v => polynomialJvp c C coeffs (f u) (f' v)) := by
  have hM := hR.toFunMod₂
  intro ch h
  simp only [polynomial, polynomialJvp]
  refine hM.tabC_rel _ _ _ (fun ch _ h => hM.nfft_rel c _ _ (fun x => ?_) h) ch h
  refine hM.tab_rel _ _ _ (fun x _ => ?_) x
  exact polyEval_rel hR coeffs (phys_rel hM c C hf ch x)

theorem general_rel (hR : FunAlg₂ R u) (c : Cfg ℂ) (C : ℕ) (s0 s1 s2 : ℂ) (zeroFix : Bool)
    {f : X → MC ℂ} {f' : Y → MC ℂ} (hf : RelM R f f') :
    RelM R (fun x => general c C s0 s1 s2 zeroFix (f x)) (fun v => generalJvp c C s0 s1 s2 zeroFix (f u) (f' v)) := by
  have hM := hR.toFunMod₂
  intro ch h
  simp only [general, generalJvp]
  refine hM.tab2_rel _ _ _ _ (fun ch _ h _ => ?_) ch h
  exact hM.add (hM.add (polynomial_rel hR c C _ hf ch h) (convection_rel hR c C _ true true hf ch h))
    (gradientNorm_rel hR c C _ zeroFix hf ch h)

/-- `leray` is linear: it carries every `FunMod₂` relation, the tangent being `leray` itself -/
theorem leray_rel (hM : FunMod₂ R) (c : Cfg ℂ) {f : X → MC ℂ} {f' : Y → MC ℂ} (hf : RelM R f f') :
    RelM R (fun x => leray c (f x)) (fun v => leray c (f' v)) := by
  intro ch h
  simp only [leray]
  refine hM.tab2_rel _ _ _ _ (fun d _ h _ => hM.add (hf d h) (hM.smul _ ?_)) ch h
  refine hM.tab_rel _ _ _ (fun h _ => hM.smul _ ?_) h
  exact hM.tab_rel _ _ _ (fun h _ => hM.sumList_range _ _ _ (fun d _ => hM.smul _ (hf d h))) h

theorem cross_rel (hR : FunAlg₂ R u) {a0 a1 a2 b0 b1 b2 : X → ℂ} {a0' a1' a2' b0' b1' b2' : Y → ℂ}
    (ha0 : R a0 a0') (ha1 : R a1 a1') (ha2 : R a2 a2') (hb0 : R b0 b0') (hb1 : R b1 b1') (hb2 : R b2 b2') (i : ℕ) :
    R (fun x => proj3 (Gen.Misc.cross_product_3d (a0 x, a1 x, a2 x) (b0 x, b1 x, b2 x)) i)
      (fun v => proj3 (Gen.Misc.cross_product_3d (a0 u, a1 u, a2 u) (b0' v, b1' v, b2' v)) i
        + proj3 (Gen.Misc.cross_product_3d (a0' v, a1' v, a2' v) (b0 u, b1 u, b2 u)) i) := by
  have hM := hR.toFunMod₂
  by_cases h0 : i = 0
  · subst h0
    refine rel_congr_right (hM.sub (hR.mul ha1 hb2) (hR.mul ha2 hb1)) (fun v => ?_)
    simp only [proj3, Gen.Misc.cross_product_3d, if_true]; ring
  · by_cases h1 : i = 1
    · subst h1
      refine rel_congr_right (hM.sub (hR.mul ha2 hb0) (hR.mul ha0 hb2)) (fun v => ?_)
      simp only [proj3, Gen.Misc.cross_product_3d, if_true, one_ne_zero, if_false]; ring
    · refine rel_congr_right (rel_congr_left (hM.sub (hR.mul ha0 hb1) (hR.mul ha1 hb0)) (fun x => ?_)) (fun v => ?_)
      · simp only [proj3, Gen.Misc.cross_product_3d, h0, h1, if_false]
      · simp only [proj3, Gen.Misc.cross_product_3d, h0, h1, if_false]; ring

theorem cross_const_rel (hM : FunMod₂ R) (k0 k1 k2 : ℂ) {b0 b1 b2 : X → ℂ} {b0' b1' b2' : Y → ℂ}
    (hb0 : R b0 b0') (hb1 : R b1 b1') (hb2 : R b2 b2') (i : ℕ) :
    R (fun x => proj3 (Gen.Misc.cross_product_3d (k0, k1, k2) (b0 x, b1 x, b2 x)) i)
      (fun v => proj3 (Gen.Misc.cross_product_3d (k0, k1, k2) (b0' v, b1' v, b2' v)) i) := by
  by_cases h0 : i = 0
  · subst h0
    simp only [proj3, Gen.Misc.cross_product_3d, if_true]
    exact hM.sub (hM.smul _ hb2) (hM.smul _ hb1)
  · by_cases h1 : i = 1
    · subst h1
      simp only [proj3, Gen.Misc.cross_product_3d, if_true, one_ne_zero, if_false]
      exact hM.sub (hM.smul _ hb0) (hM.smul _ hb2)
    · simp only [proj3, Gen.Misc.cross_product_3d, h0, h1, if_false]
      exact hM.sub (hM.smul _ hb1) (hM.smul _ hb0)

theorem projected3d_none_rel (hR : FunAlg₂ R u) (c : Cfg ℂ)
    {f : X → MC ℂ} {f' : Y → MC ℂ} (hf : RelM R f f') :
    RelM R (fun x => projected3d c none (f x)) (fun v => projected3dJvp c (f u) (f' v)) := by
  have hM := hR.toFunMod₂
  intro ch h
  simp only [projected3d, projected3dJvp]
  refine hM.tab2_rel _ _ _ _ (fun i _ h _ => ?_) ch h
  refine leray_rel hM c (fun i h => ?_) i h
  refine hM.tabC_rel _ _ _ (fun i _ h => hM.nfft_rel c _ _ (fun x => ?_) h) i h
  refine hM.tab2_rel _ _ _ _ (fun i _ x _ => ?_) i x
  have hcurlH := hM.tab2_rel 3 (modes c) _ _ (fun i _ h _ => cross_const_rel hM (Nonlin.deriv c 0 h)
    (Nonlin.deriv c 1 h) (Nonlin.deriv c 2 h) (hf 0 h) (hf 1 h) (hf 2 h) i)
  have hcurl := hM.tabC_rel 3 _ _ (fun i _ => hM.nifft_rel c _ _ (hcurlH.row i))
  exact cross_rel hR (phys_rel hM c 3 hf 0 x) (phys_rel hM c 3 hf 1 x) (phys_rel hM c 3 hf 2 x)
    (hcurl 0 x) (hcurl 1 x) (hcurl 2 x) i

/-- the injection is a constant: its tangent is `0` -/
theorem projected3d_rel (hR : FunAlg₂ R u) (c : Cfg ℂ) (inj : Option (ℕ × ℂ))
    {f : X → MC ℂ} {f' : Y → MC ℂ} (hf : RelM R f f') :
    RelM R (fun x => projected3d c inj (f x)) (fun v => projected3dJvp c (f u) (f' v)) := by
  intro ch h
  by_cases hin : ch < 3 ∧ h < modes c
  · rw [show (fun x => at2 (projected3d c inj (f x)) ch h)
        = fun x => at2 (projected3d c none (f x)) ch h + inj3 c inj ch h
      from funext fun x => projected3d_inj c inj (f x) ch h hin.1 hin.2]
    simpa only [add_zero] using
      hR.toFunMod₂.add (projected3d_none_rel hR c hf ch h) (hR.const (inj3 c inj ch h))
  · have ho : 3 ≤ ch ∨ modes c ≤ h := (not_and_or.1 hin).imp not_lt.1 not_lt.1
    rw [show (fun x => at2 (projected3d c inj (f x)) ch h) = fun x => at2 (projected3d c none (f x)) ch h
      from funext fun x => by rw [projected3d_at2_out c inj _ ch h ho, projected3d_at2_out c none _ ch h ho]]
    exact projected3d_none_rel hR c hf ch h

theorem cahnHilliard_rel (hR : FunAlg₂ R u) (c : Cfg ℂ) (scale : ℂ)
    {f : X → MC ℂ} {f' : Y → MC ℂ} (hf : RelM R f f') :
    RelM R (fun x => cahnHilliard c scale (f x)) (fun v => cahnHilliardJvp c scale (f u) (f' v)) := by
  have hM := hR.toFunMod₂
  intro ch h
  simp only [cahnHilliard, cahnHilliardJvp]
  refine hM.tab2_rel _ _ _ _ (fun _ _ h _ => hM.mul_const _ (hM.smul _ ?_)) ch h
  refine hM.nfft_rel c _ _ (fun x => hM.tab_rel _ _ _ (fun x _ => ?_) x) h
  have hu := dphys_rel hM c (mask c) hf 0 x
  exact hR.mul (hR.mul hu hu) hu

structure ReactCalc (C : ℕ) (react : List ℂ → List ℂ) (reactJ : List ℂ → List ℂ → List ℂ) : Prop where
  rel : ∀ {X Y : Type} (R : (X → ℂ) → (Y → ℂ) → Prop) (u : X), FunAlg₂ R u →
    ∀ (g : X → ℕ → ℂ) (g' : Y → ℕ → ℂ), (∀ k, R (fun x => g x k) (fun v => g' v k)) → ∀ ch,
      R (fun x => (react ((List.range C).map (g x))).getD ch 0)
        (fun v => (reactJ ((List.range C).map (g u)) ((List.range C).map (g' v))).getD ch 0)

theorem reaction_rel (hR : FunAlg₂ R u) (c : Cfg ℂ) (C : ℕ) {react : List ℂ → List ℂ} {reactJ : List ℂ → List ℂ → List ℂ}
    (hreact : ReactCalc C react reactJ) {f : X → MC ℂ} {f' : Y → MC ℂ} (hf : RelM R f f') :
    RelM R (fun x => reaction c C react (f x)) (fun v => reactionJvp c C reactJ (f u) (f' v)) := by
  have hM := hR.toFunMod₂
  intro ch h
  simp only [reaction, reactionJvp]
  refine hM.tabC_rel _ _ _ (fun ch _ h => hM.nfft_rel c _ _ (fun x => ?_) h) ch h
  refine hM.tab2_rel _ _ _ _ (fun ch _ x _ => ?_) ch x
  exact hreact.rel R u hR
    (fun y k => at2 (tabC C (fun ch => nifft c (tab (modes c) (fun h => mask c h * at2 (f y) ch h)))) k x)
    (fun v k => at2 (tabC C (fun ch => nifft c (tab (modes c) (fun h => mask c h * at2 (f' v) ch h)))) k x)
    (fun k => hM.tabC_rel _ _ _ (fun ch _ => dphys_rel hM c (mask c) hf ch) k x) ch

theorem range_map_getD (C : ℕ) (g : ℕ → ℂ) (i : ℕ) :
    ((List.range C).map g).getD i 0 = if i < C then g i else 0 := by
  rw [List.getD_eq_getElem?_getD]
  split_ifs with hi
  · rw [List.getElem?_map, List.getElem?_range hi, Option.map_some, Option.getD_some]
  · rw [List.getElem?_eq_none (by rw [List.length_map, List.length_range]; exact not_lt.mp hi), Option.getD_none]

theorem range_getD_rel (hM : FunMod₂ R) (C : ℕ) (g : X → ℕ → ℂ) (g' : Y → ℕ → ℂ)
    (hg : ∀ k, R (fun x => g x k) (fun v => g' v k)) (i : ℕ) :
    R (fun x => ((List.range C).map (g x)).getD i 0) (fun v => ((List.range C).map (g' v)).getD i 0) := by
  by_cases hi : i < C
  · simp only [range_map_getD, if_pos hi]; exact hg i
  · simp only [range_map_getD, if_neg hi]; exact hM.zero

end Generic

theorem grayScott_reactCalc (C : ℕ) (feed kill : ℂ) :
    ReactCalc C (grayScottReact feed kill) (grayScottReactJvp feed kill) := by
  refine ⟨fun {X Y} R u hR g g' hg ch => ?_⟩
  have hM := hR.toFunMod₂
  have ha := range_getD_rel hM C g g' hg 0
  have hb := range_getD_rel hM C g g' hg 1
  have hab := hR.mul ha (hR.mul hb hb)
  have h0 := hM.sub (hM.smul feed (hM.sub (hR.const 1) ha)) hab
  have h1 := hM.add (hM.smul (-(feed + kill)) hb) hab
  match ch with
  | 0 =>
    refine rel_congr_right (rel_congr_left h0 (fun x => ?_)) (fun v => ?_)
    · simp only [grayScottReact, List.getD_cons_zero]
    · simp only [grayScottReactJvp, List.getD_cons_zero]; ring
  | 1 =>
    refine rel_congr_right (rel_congr_left h1 (fun x => ?_)) (fun v => ?_)
    · simp only [grayScottReact, List.getD_cons_succ, List.getD_cons_zero]
    · simp only [grayScottReactJvp, List.getD_cons_succ, List.getD_cons_zero]; ring
  | (k + 2) =>
    refine rel_congr_right (rel_congr_left hM.zero (fun x => ?_)) (fun v => ?_)
    · simp only [grayScottReact, List.getD_cons_succ, List.getD_nil]
    · simp only [grayScottReactJvp, List.getD_cons_succ, List.getD_nil]

theorem bz_reactCalc (C : ℕ) : ReactCalc C bzReact bzReactJvp := by
  refine ⟨fun {X Y} R u hR g g' hg ch => ?_⟩
  have hM := hR.toFunMod₂
  have ha := range_getD_rel hM C g g' hg 0
  have hb := range_getD_rel hM C g g' hg 1
  have hd := range_getD_rel hM C g g' hg 2
  have h0 := hM.sub (hM.sub (hM.add ha hb) (hR.mul ha hb)) (hR.mul ha ha)
  have h1 := hM.sub (hM.sub hd hb) (hR.mul ha hb)
  have h2 := hM.sub ha hd
  match ch with
  | 0 =>
    refine rel_congr_right (rel_congr_left h0 (fun x => ?_)) (fun v => ?_)
    · simp only [bzReact, List.getD_cons_zero]
    · simp only [bzReactJvp, List.getD_cons_zero]; ring
  | 1 =>
    refine rel_congr_right (rel_congr_left h1 (fun x => ?_)) (fun v => ?_)
    · simp only [bzReact, List.getD_cons_succ, List.getD_cons_zero]
    · simp only [bzReactJvp, List.getD_cons_succ, List.getD_cons_zero]
  | 2 =>
    refine rel_congr_right (rel_congr_left h2 (fun x => ?_)) (fun v => ?_)
    · simp only [bzReact, List.getD_cons_succ, List.getD_cons_zero]
    · simp only [bzReactJvp, List.getD_cons_succ, List.getD_cons_zero]
  | (k + 3) =>
    refine rel_congr_right (rel_congr_left hM.zero (fun x => ?_)) (fun v => ?_)
    · simp only [bzReact, List.getD_cons_succ, List.getD_nil]
    · simp only [bzReactJvp, List.getD_cons_succ, List.getD_nil]

end Exponax.DiffTerms
