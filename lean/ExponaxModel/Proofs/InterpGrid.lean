import ExponaxModel.Proofs.InterpOneD
import ExponaxModel.Proofs.DFTnD
/-
C15 support — the `FourierInterpolator`: general formula, evaluation at grid points.
-/
namespace Exponax.Interp
open Exponax Exponax.Layout Exponax.Transform Exponax.DFT Finset

/-- the reconstruction scaling is `N^D / w_h` -/
theorem scaling_one_herm (D N : ℕ) (hD : 0 < D) (hN : 0 < N) (h : ℕ) (hh : h < numModes D N) :
    (scaling D N 1 (unflatten (wavenumberShape D N) h) : ℂ) = (N : ℂ) ^ D / (herm_weight D N h : ℂ) := by
  rw [scaling_mode_one D N hD]
  have hlt := unflatten_wn_lt D N hD hN h hh (D - 1) (by omega)
  rw [if_pos (by omega)] at hlt
  have hsp := isSpecial_wn D N (unflatten (wavenumberShape D N) h) (D - 1)
    (by rw [if_pos (by omega)]; exact hlt)
  have hb : (D - 1 + 1 == D) = true := by simp; omega
  rw [hb] at hsp
  unfold herm_weight
  simp only []
  by_cases hc : (unflatten (wavenumberShape D N) h).getD (D - 1) 0 = 0 ∨
      (N % 2 = 0 ∧ (unflatten (wavenumberShape D N) h).getD (D - 1) 0 = N / 2)
  · rw [if_pos (hsp.mpr hc), if_pos hc]; simp
  · rw [if_neg (fun hx => hc (hsp.mp hx)), if_neg hc]; simp

theorem interpolate_eq (D N : ℕ) (hD : 0 < D) (hN : 0 < N) (s : ℂ) (u : Array ℂ) (x : List ℂ) :
    interpolate D N s u x =
      (∑ h ∈ range (numModes D N), (herm_weight D N h : ℂ) *
        ((((rfftnM D N u).getD h 0 * Complex.exp (∑ d ∈ range D,
            Complex.I * (s * (((wnFlat D N h).getD d 0 : ℤ) : ℂ)) * x.getD d 0)).re : ℝ) : ℂ))
        / (N : ℂ) ^ D := by
  unfold interpolate
  simp only [hasRe_complex, hasExp_complex, hasI_complex, sumRange_eq, sumList_eq, list_range_map_sum]
  rw [Complex.re_sum, Complex.ofReal_sum, Finset.sum_div]
  apply Finset.sum_congr rfl
  intro h hh
  rw [scaling_one_herm D N hD hN h (Finset.mem_range.mp hh)]
  set z := (rfftnM D N u).getD h 0 with hz
  set e := Complex.exp (∑ d ∈ range D, Complex.I * (s * (((wnFlat D N h).getD d 0 : ℤ) : ℂ)) * x.getD d 0) with he
  have : z / ((N : ℂ) ^ D / (herm_weight D N h : ℂ)) * e
      = ((((herm_weight D N h : ℝ) / (N : ℝ) ^ D : ℝ)) : ℂ) * (z * e) := by
    rw [div_div_eq_mul_div]
    push_cast
    ring
  rw [this, Complex.re_ofReal_mul]
  push_cast
  ring

/-- physical coordinates of the grid point with flat index `j` on the `N^D` grid of the domain of
    extent `L = 2π/s`: `x_d = L · digit_d(j) / N` -/
noncomputable def gridPoint (D N : ℕ) (s : ℂ) (j : ℕ) : List ℂ :=
  (List.range D).map (fun d => (2 * (Real.pi : ℂ) / s) * ((digit D N j d : ℕ) : ℂ) / (N : ℂ))

theorem gridPoint_getD (D N : ℕ) (s : ℂ) (j d : ℕ) (hd : d < D) :
    (gridPoint D N s j).getD d 0 = (2 * (Real.pi : ℂ) / s) * ((digit D N j d : ℕ) : ℂ) / (N : ℂ) := by
  unfold gridPoint
  rw [List.getD_eq_getElem?_getD, List.getElem?_map, List.getElem?_range hd]
  rfl

theorem exp_gridPoint (D N : ℕ) (s : ℂ) (hs : s ≠ 0) (k : List ℤ) (j : ℕ) :
    Complex.exp (∑ d ∈ range D, Complex.I * (s * ((k.getD d 0 : ℤ) : ℂ)) * (gridPoint D N s j).getD d 0)
      = zeta N ^ (-(phaseK D N k j)) := by
  have hsπ : s * (2 * (Real.pi : ℂ) / s) = 2 * Real.pi := by field_simp
  rw [zeta_zpow_eq_exp, phaseK_eq_sum]
  refine congrArg Complex.exp ?_
  push_cast
  rw [mul_neg, neg_div, neg_neg, Finset.mul_sum, Finset.sum_div]
  refine Finset.sum_congr rfl fun d hd => ?_
  rw [gridPoint_getD D N s j d (Finset.mem_range.mp hd)]
  linear_combination (Complex.I * ((k.getD d 0 : ℤ) : ℂ) * ((digit D N j d : ℕ) : ℂ) / (N : ℂ)) * hsπ

/-- Evaluating the `FourierInterpolator` of a real field at the grid points returns the
    field: `interpolate D N s u x_j = u_j` (all `D ≥ 1`, `N ≥ 1`, `s ≠ 0`). -/
theorem interpolate_gridPoint (D N : ℕ) (hD : 0 < D) (hN : 0 < N) (s : ℂ) (hs : s ≠ 0) (u : Array ℂ)
    (hu : ∀ j < N ^ D, (u.getD j 0).im = 0) (j : ℕ) (hj : j < N ^ D) :
    interpolate D N s u (gridPoint D N s j) = u.getD j 0 := by
  rw [interpolate_eq D N hD hN, ← irfftn_rfftn D N hD hN u hu j hj, irfftnM_getD D N hN _ j hj]
  simp only [exp_gridPoint D N s hs, twiddle_eq_zpow]
  push_cast
  rfl

end Exponax.Interp
