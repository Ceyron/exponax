import ExponaxModel.Proofs.DFT1DMain
import ExponaxModel.Proofs.SymbolAlgebra
import ExponaxModel.Proofs.BatchLemmas
import ExponaxModel.Proofs.EtdrkStages
/-
C08 — "steppers commute with the symmetries of the periodic box".

Translation (1-D, every `N ≥ 1`, every state, no band limitation): the shift phases, and preservation of
equivariance by the regenerated ETDRK stage formulas `E0step … E4step` (for any commutative ring of states).  The
forward and inverse shift theorems and the equivariance of the one-channel pseudo-spectral terms are the case `D = 1`
of the n-D statements (`SymmetryND.lean`, `EquivarianceNDOneDim.lean`).
Then axis permutations at the symbol level (general `D`), and the embedding of a 1-D mode into `D` dimensions (`a₀`
enters as `D·a₀`).

The definitions made here are abbreviations used to state the theorems (`shiftPhase`, `shiftSpec`, `liftTerm`,
`embedCoefs`) and the ring homomorphism `relabel`.
-/
namespace Exponax.Symmetry
open Exponax Exponax.Layout Exponax.Transform Exponax.DFT Exponax.Nonlin Finset
open Exponax.Gen.Etdrk

export Exponax.DFT (array_ext_getD)

/-- the phase `e^{-2πi h s/N}` that a roll by `s` grid points puts on stored mode `h` -/
noncomputable def shiftPhase (N : ℕ) (s : ℤ) (h : ℕ) : ℂ := twiddle N ((h : ℤ) * s)

noncomputable def shiftSpec (N : ℕ) (s : ℤ) (c : Array ℂ) : Array ℂ :=
  tab (N / 2 + 1) (fun h => shiftPhase N s h * c.getD h 0)

theorem shiftPhase_eq_zpow (N : ℕ) (s : ℤ) (h : ℕ) : shiftPhase N s h = zeta N ^ ((h : ℤ) * s) := by
  rw [shiftPhase, twiddle_eq_zpow]

@[simp] theorem shiftPhase_zero_mode (N : ℕ) (s : ℤ) : shiftPhase N s 0 = 1 := by
  simp [shiftPhase_eq_zpow]

@[simp] theorem shiftPhase_zero_shift (N : ℕ) (h : ℕ) : shiftPhase N 0 h = 1 := by
  simp [shiftPhase_eq_zpow]

theorem norm_shiftPhase (N : ℕ) (s : ℤ) (h : ℕ) : ‖shiftPhase N s h‖ = 1 := norm_twiddle N _

theorem shiftPhase_ne_zero (N : ℕ) (s : ℤ) (h : ℕ) : shiftPhase N s h ≠ 0 := by
  intro h0
  have := norm_shiftPhase N s h
  rw [h0, norm_zero] at this
  exact zero_ne_one this

theorem shiftPhase_add (N : ℕ) (s t : ℤ) (h : ℕ) :
    shiftPhase N (s + t) h = shiftPhase N s h * shiftPhase N t h := by
  rw [shiftPhase, shiftPhase, shiftPhase, mul_add, twiddle_add]

theorem shiftPhase_periodic (N : ℕ) (s k : ℤ) (h : ℕ) :
    shiftPhase N (s + (N : ℤ) * k) h = shiftPhase N s h := by
  rw [shiftPhase, shiftPhase, show (h : ℤ) * (s + (N : ℤ) * k) = (h : ℤ) * s + (N : ℤ) * ((h : ℤ) * k) by ring,
    twiddle_periodic]

/-- for even `N` the Nyquist phase is the real number `(−1)^s`: it commutes with taking real
    parts in the c2r transform -/
theorem shiftPhase_nyquist (N : ℕ) (hN : 0 < N) (hev : N % 2 = 0) (s : ℤ) :
    shiftPhase N s (N / 2) = (-1) ^ s := by
  rw [shiftPhase_eq_zpow, zpow_mul]
  congr 1
  have hprim := zeta_isPrimitiveRoot N hN
  have h2 : (2 : ℕ) * (N / 2) = N := by omega
  have hsq : (zeta N ^ (((N / 2 : ℕ)) : ℤ)) ^ 2 = 1 := by
    rw [zpow_natCast, ← pow_mul, mul_comm, h2, zeta_pow_self]
  have hne : zeta N ^ (((N / 2 : ℕ)) : ℤ) ≠ 1 := by
    rw [zpow_natCast]
    intro h1
    have hd := (hprim.pow_eq_one_iff_dvd (N / 2)).mp h1
    have := Nat.le_of_dvd (by omega) hd
    omega
  rw [pow_two] at hsq
  rcases mul_self_eq_one_iff.mp hsq with h | h
  · exact absurd h hne
  · exact h

theorem shiftPhase_nyquist_im (N : ℕ) (hN : 0 < N) (hev : N % 2 = 0) (s : ℤ) :
    (shiftPhase N s (N / 2)).im = 0 := by
  rw [shiftPhase_nyquist N hN hev]
  have : ((-1 : ℂ)) ^ s = (((-1 : ℝ) ^ s : ℝ) : ℂ) := by
    push_cast
    rfl
  rw [this, Complex.ofReal_im]

theorem roll_getD (N : ℕ) (u : Array ℂ) (s : ℤ) (j : ℕ) (hj : j < N) :
    (roll N u s).getD j 0 = u.getD (((j : ℤ) - s) % (N : ℤ)).toNat 0 := by
  rw [roll, DFT.tab_getD _ _ _ _ hj]

@[simp] theorem roll_size (N : ℕ) (u : Array ℂ) (s : ℤ) : (roll N u s).size = N :=
  DFT.tab_size N _

theorem shiftSpec_getD (N : ℕ) (s : ℤ) (c : Array ℂ) (h : ℕ) (hh : h ≤ N / 2) :
    (shiftSpec N s c).getD h 0 = shiftPhase N s h * c.getD h 0 := by
  rw [shiftSpec, DFT.tab_getD _ _ _ _ (by omega)]

/-! ## the ETDRK stage formulas preserve equivariance

`V` is any commutative ring of "vectors" (`ℕ → ℂ` with pointwise operations in particular),
the coefficient arrays are ARBITRARY elements of `V`, `N : V → V` is an arbitrary nonlinear map.

Two forms of a symmetry `φ : V → V`:
* LINEAR (`φ (c * x) = c * φ x` for every `c`): multiplication by a phase array `P`;
* RING HOMOMORPHISM fixing the coefficient arrays: relabelling of the modes (axis permutations,
  reflections) under which the linear symbol is invariant. -/

section Stage
variable {V : Type} [CommRing V]

theorem iterate_equivariant {S : Type} (φ step : S → S) (h : ∀ u, step (φ u) = φ (step u)) (n : ℕ)
    (u : S) : step^[n] (φ u) = φ (step^[n] u) :=
  ((Function.Commute.iterate_left (f := step) (g := φ) (fun u => h u) n) u)

theorem repeatN_equivariant {S : Type} (φ step : S → S) (h : ∀ u, step (φ u) = φ (step u)) (n : ℕ)
    (u : S) : Loops.repeatN step n (φ u) = φ (Loops.repeatN step n u) := by
  rw [Loops.repeatN_eq_iterate, Loops.repeatN_eq_iterate, iterate_equivariant φ step h]

theorem rollout_equivariant {S : Type} (φ step : S → S) (h : ∀ u, step (φ u) = φ (step u)) (n : ℕ)
    (incl : Bool) (u : S) :
    Loops.rollout step n incl (φ u) = (Loops.rollout step n incl u).map φ := by
  rw [Loops.rollout_eq_map, Loops.rollout_eq_map, List.map_map]
  exact List.map_congr_left fun t _ => iterate_equivariant φ step h _ u

variable (P : V) (N : V → V) (hN : ∀ v, N (P * v) = P * N v)
include hN

omit hN in
/-- multiplication by `P`, as a relation: additive, and coefficients pass through unchanged -/
theorem phase_stepRel : Etdrk.StepRel (fun a b : V => P * a = b) (fun e e' : V => e = e') :=
  Etdrk.StepRel.graph (fun x => P * x) id (mul_add P) (mul_sub P) (fun e a => mul_left_comm P e a) rfl

omit hN in
theorem E0step_phase (E u : V) : E0step E (P * u) = P * E0step E u :=
  (Etdrk.E0step_rel (phase_stepRel P) rfl rfl).symm

theorem E1step_phase (E c1 u : V) : E1step E c1 N (P * u) = P * E1step E c1 N u :=
  (Etdrk.E1step_rel (phase_stepRel P) (fun x _ h => h ▸ (hN x).symm) rfl rfl rfl).symm

theorem E2step_phase (E c1 c2 u : V) : E2step E c1 c2 N (P * u) = P * E2step E c1 c2 N u :=
  (Etdrk.E2step_rel (phase_stepRel P) (fun x _ h => h ▸ (hN x).symm) rfl rfl rfl rfl).symm

theorem E3step_phase (E Eh c1 c2 c3 c4 c5 u : V) :
    E3step E Eh c1 c2 c3 c4 c5 N (P * u) = P * E3step E Eh c1 c2 c3 c4 c5 N u :=
  (Etdrk.E3step_rel (phase_stepRel P) (fun x _ h => h ▸ (hN x).symm) rfl rfl rfl rfl rfl rfl rfl rfl).symm

theorem E4step_phase (E Eh c1 c2 c3 c4 c5 c6 u : V) :
    E4step E Eh c1 c2 c3 c4 c5 c6 N (P * u) = P * E4step E Eh c1 c2 c3 c4 c5 c6 N u :=
  (Etdrk.E4step_rel (phase_stepRel P) (fun x _ h => h ▸ (hN x).symm) rfl rfl rfl rfl rfl rfl rfl rfl rfl).symm

theorem E4step_phase_iterate (E Eh c1 c2 c3 c4 c5 c6 : V) (n : ℕ) (u : V) :
    (E4step E Eh c1 c2 c3 c4 c5 c6 N)^[n] (P * u) = P * (E4step E Eh c1 c2 c3 c4 c5 c6 N)^[n] u :=
  iterate_equivariant (fun x => P * x) _ (E4step_phase P N hN E Eh c1 c2 c3 c4 c5 c6) n u

theorem E3step_phase_iterate (E Eh c1 c2 c3 c4 c5 : V) (n : ℕ) (u : V) :
    (E3step E Eh c1 c2 c3 c4 c5 N)^[n] (P * u) = P * (E3step E Eh c1 c2 c3 c4 c5 N)^[n] u :=
  iterate_equivariant (fun x => P * x) _ (E3step_phase P N hN E Eh c1 c2 c3 c4 c5) n u

theorem E2step_phase_iterate (E c1 c2 : V) (n : ℕ) (u : V) :
    (E2step E c1 c2 N)^[n] (P * u) = P * (E2step E c1 c2 N)^[n] u :=
  iterate_equivariant (fun x => P * x) _ (E2step_phase P N hN E c1 c2) n u

theorem E1step_phase_iterate (E c1 : V) (n : ℕ) (u : V) :
    (E1step E c1 N)^[n] (P * u) = P * (E1step E c1 N)^[n] u :=
  iterate_equivariant (fun x => P * x) _ (E1step_phase P N hN E c1) n u

omit hN in
theorem E0step_phase_iterate (E : V) (n : ℕ) (u : V) :
    (E0step E)^[n] (P * u) = P * (E0step E)^[n] u :=
  iterate_equivariant (fun x => P * x) _ (E0step_phase P E) n u

end Stage

section StageHom
variable {V : Type} [CommRing V] (φ : V →+* V) (N : V → V) (hN : ∀ v, φ (N v) = N (φ v))
include hN

omit hN in
theorem E0step_equivariant_hom (E u : V) (hE : φ E = E) : E0step E (φ u) = φ (E0step E u) :=
  (Etdrk.E0step_rel (Etdrk.StepRel.ringHom φ) hE rfl).symm

theorem E1step_equivariant_hom (E c1 u : V) (hE : φ E = E) (h1 : φ c1 = c1) :
    E1step E c1 N (φ u) = φ (E1step E c1 N u) :=
  (Etdrk.E1step_rel (Etdrk.StepRel.ringHom φ) (fun x _ h => h ▸ hN x) hE h1 rfl).symm

theorem E2step_equivariant_hom (E c1 c2 u : V) (hE : φ E = E) (h1 : φ c1 = c1) (h2 : φ c2 = c2) :
    E2step E c1 c2 N (φ u) = φ (E2step E c1 c2 N u) :=
  (Etdrk.E2step_rel (Etdrk.StepRel.ringHom φ) (fun x _ h => h ▸ hN x) hE h1 h2 rfl).symm

theorem E3step_equivariant_hom (E Eh c1 c2 c3 c4 c5 u : V) (hE : φ E = E) (hEh : φ Eh = Eh)
    (h1 : φ c1 = c1) (h2 : φ c2 = c2) (h3 : φ c3 = c3) (h4 : φ c4 = c4) (h5 : φ c5 = c5) :
    E3step E Eh c1 c2 c3 c4 c5 N (φ u) = φ (E3step E Eh c1 c2 c3 c4 c5 N u) :=
  (Etdrk.E3step_rel (Etdrk.StepRel.ringHom φ) (fun x _ h => h ▸ hN x) hE hEh h1 h2 h3 h4 h5 rfl).symm

theorem E4step_equivariant_hom (E Eh c1 c2 c3 c4 c5 c6 u : V) (hE : φ E = E) (hEh : φ Eh = Eh)
    (h1 : φ c1 = c1) (h2 : φ c2 = c2) (h3 : φ c3 = c3) (h4 : φ c4 = c4) (h5 : φ c5 = c5)
    (h6 : φ c6 = c6) :
    E4step E Eh c1 c2 c3 c4 c5 c6 N (φ u) = φ (E4step E Eh c1 c2 c3 c4 c5 c6 N u) :=
  (Etdrk.E4step_rel (Etdrk.StepRel.ringHom φ) (fun x _ h => h ▸ hN x) hE hEh h1 h2 h3 h4 h5 h6 rfl).symm

end StageHom

def relabel {ι : Type} (σ : ι → ι) : (ι → ℂ) →+* (ι → ℂ) where
  toFun x := x ∘ σ
  map_one' := rfl
  map_mul' _ _ := rfl
  map_zero' := rfl
  map_add' _ _ := rfl

@[simp] theorem relabel_apply {ι : Type} (σ : ι → ι) (x : ι → ℂ) (i : ι) : relabel σ x i = x (σ i) := rfl

/-- a one-channel model term `T : MC ℂ → MC ℂ` read as a map on mode-indexed functions
    (stored modes `h ≤ N/2`; zero beyond) -/
noncomputable def liftTerm (N : ℕ) (T : MC ℂ → MC ℂ) (v : ℕ → ℂ) : ℕ → ℂ :=
  fun h => if h ≤ N / 2 then at2 (T #[tab (N / 2 + 1) v]) 0 h else 0

theorem powerSum_eq_map_sum (κ : List ℂ) (j : ℕ) :
    ∑ d ∈ range κ.length, κ.getD d 0 ^ j = (κ.map (fun z => z ^ j)).sum := by
  induction κ with
  | nil => simp
  | cons a κ ih =>
    rw [List.length_cons, Finset.sum_range_succ', List.map_cons, List.sum_cons, ← ih, add_comm]
    simp

theorem powerSum_perm {κ κ' : List ℂ} (hp : List.Perm κ κ') (j : ℕ) :
    ∑ d ∈ range κ.length, κ.getD d 0 ^ j = ∑ d ∈ range κ'.length, κ'.getD d 0 ^ j := by
  rw [powerSum_eq_map_sum, powerSum_eq_map_sum]
  exact (hp.map _).sum_eq

theorem powerSum_equiv {D : ℕ} (σ : Equiv.Perm (Fin D)) (k : Fin D → ℂ) (j : ℕ) :
    ∑ d, k (σ d) ^ j = ∑ d, k d ^ j :=
  Equiv.sum_comp σ (fun d => k d ^ j)

/-- the general isotropic linear symbol is `Σ_j a_j Σ_d κ_d^j`, a combination of power sums -/
theorem polyAt_generalLinear_perm {κ κ' : List ℂ} (hp : List.Perm κ κ') (a : List ℂ) :
    polyAt κ (generalLinear κ.length a) = polyAt κ' (generalLinear κ'.length a) := by
  rw [polyAt_generalLinear, polyAt_generalLinear]
  apply Finset.sum_congr rfl
  intro j _
  rw [powerSum_perm hp j]

theorem polyAt_generalLinear_equiv {D : ℕ} (σ : Equiv.Perm (Fin D)) (k : Fin D → ℂ) (a : List ℂ) :
    polyAt (List.ofFn (k ∘ σ)) (generalLinear D a) = polyAt (List.ofFn k) (generalLinear D a) := by
  have h := polyAt_generalLinear_perm (σ.ofFn_comp_perm k) a
  simpa using h

/-- `lapT` is `coef · Σ_d ∂_d^p` -/
theorem polyAt_lapT_perm {κ κ' : List ℂ} (hp : List.Perm κ κ') (coef : ℂ) (p : ℕ) :
    polyAt κ (lapT κ.length coef p) = polyAt κ' (lapT κ'.length coef p) := by
  rw [polyAt_lapT, polyAt_lapT, powerSum_perm hp p]

theorem kappa_eq_map_wnFlat (c : Cfg ℂ) (h : ℕ) :
    kappa c h = (wnFlat c.D c.N h).map (fun k : ℤ => Complex.I * (c.s * (k : ℂ))) := by
  have hw : wnFlat c.D c.N h
      = (List.range c.D).map (fun d => (wnFlat c.D c.N h).getD d 0) := by
    apply List.ext_getElem
    · simp [wnFlat, wnVec]
    · intro d h1 h2
      have hd : d < c.D := by simpa using h2
      rw [List.getElem_map, List.getElem_range, List.getD_eq_getElem?_getD,
        List.getElem?_eq_getElem h1]
      rfl
  unfold kappa
  conv_rhs => rw [hw, List.map_map]
  apply List.map_congr_left
  intro d _
  rfl

theorem kappa_perm (c : Cfg ℂ) (h h' : ℕ) (hp : List.Perm (wnFlat c.D c.N h) (wnFlat c.D c.N h')) :
    List.Perm (kappa c h) (kappa c h') := by
  rw [kappa_eq_map_wnFlat, kappa_eq_map_wnFlat]
  exact hp.map _

theorem polySymbol_generalLinear_perm (c : Cfg ℂ) (a : List ℂ) (h h' : ℕ)
    (hp : List.Perm (wnFlat c.D c.N h) (wnFlat c.D c.N h')) :
    polySymbol c (generalLinear c.D a) h = polySymbol c (generalLinear c.D a) h' := by
  have := polyAt_generalLinear_perm (kappa_perm c h h' hp) a
  rw [kappa_length, kappa_length] at this
  rw [polySymbol_eq_polyAt, polySymbol_eq_polyAt, this]

/-- the `build_laplace_operator(order)` entry, every order -/
theorem laplace_perm (c : Cfg ℂ) (order : ℕ) (h h' : ℕ)
    (hp : List.Perm (wnFlat c.D c.N h) (wnFlat c.D c.N h')) :
    laplace c order h = laplace c order h' := by
  rcases Nat.eq_zero_or_pos order with h0 | h0
  · subst h0
    rw [laplace_zero, laplace_zero]
  have key : ∀ g : ℕ, laplace c order g
      = ∑ d ∈ range (kappa c g).length, (kappa c g).getD d 0 ^ order := by
    intro g
    rw [laplace_eq_sum c g order (by omega), kappa_length]
    apply Finset.sum_congr rfl
    intro d hd
    rw [kappa_getD c g d (Finset.mem_range.mp hd)]
  rw [key h, key h', powerSum_perm (kappa_perm c h h' hp)]

theorem exp_term_generalLinear_perm (c : Cfg ℂ) (a : List ℂ) (dt : ℂ) (h h' : ℕ)
    (hp : List.Perm (wnFlat c.D c.N h) (wnFlat c.D c.N h')) :
    exp_term dt (polySymbol c (generalLinear c.D a) h)
      = exp_term dt (polySymbol c (generalLinear c.D a) h') := by
  rw [polySymbol_generalLinear_perm c a h h' hp]

section Embed
variable (κ : List ℂ) (d₀ : ℕ) (hd₀ : d₀ < κ.length)
  (hz : ∀ e < κ.length, e ≠ d₀ → κ.getD e 0 = 0)
include hd₀ hz

/-- `j ≥ 1`: only the active axis contributes -/
theorem powerSum_embed_pos (j : ℕ) (hj : 1 ≤ j) :
    ∑ d ∈ range κ.length, κ.getD d 0 ^ j = κ.getD d₀ 0 ^ j := by
  rw [Finset.sum_eq_single d₀]
  · intro e he hne
    rw [hz e (Finset.mem_range.mp he) hne, zero_pow (by omega)]
  · intro h
    exact absurd (Finset.mem_range.mpr hd₀) h

omit hd₀ hz in
/-- `j = 0`: every axis contributes `1`, the sum is `D` -/
theorem powerSum_embed_zero : ∑ d ∈ range κ.length, κ.getD d 0 ^ 0 = (κ.length : ℂ) := by
  simp

/-- the 1-D coefficient list seen by a mode living on one axis of a `D`-dimensional grid:
    `(D·a₀, a₁, a₂, …)` -/
def embedCoefs (D : ℕ) : List ℂ → List ℂ
  | [] => []
  | a0 :: r => ((D : ℂ) * a0) :: r

omit hd₀ hz in
@[simp] theorem embedCoefs_length (D : ℕ) (a : List ℂ) : (embedCoefs D a).length = a.length := by
  cases a <;> rfl

theorem polyAt_generalLinear_embed_closed (a0 : ℂ) (r : List ℂ) :
    polyAt κ (generalLinear κ.length (a0 :: r))
      = (κ.length : ℂ) * a0 + ∑ j ∈ range r.length, r.getD j 0 * κ.getD d₀ 0 ^ (j + 1) := by
  rw [polyAt_generalLinear, List.length_cons, Finset.sum_range_succ', add_comm]
  congr 1
  · simp [mul_comm]
  · apply Finset.sum_congr rfl
    intro j _
    rw [powerSum_embed_pos κ d₀ hd₀ hz (j + 1) (by omega)]
    simp

/-- the `D`-dimensional general linear symbol with coefficients `a` at a mode
    whose wavenumbers vanish off axis `d₀` is the 1-D symbol with coefficients
    `(D·a₀, a₁, a₂, …)` at the wavenumber `κ_{d₀}` — the documented "`a₀` enters as `D·a₀`" -/
theorem polyAt_generalLinear_embed (a : List ℂ) :
    polyAt κ (generalLinear κ.length a)
      = polyAt [κ.getD d₀ 0] (generalLinear 1 (embedCoefs κ.length a)) := by
  cases a with
  | nil =>
    have h1 := polyAt_generalLinear κ []
    have h2 := polyAt_generalLinear [κ.getD d₀ 0] []
    simp only [List.length_nil, Finset.range_zero, Finset.sum_empty] at h1 h2
    rw [h1]
    exact h2.symm
  | cons a0 r =>
    rw [polyAt_generalLinear_embed_closed κ d₀ hd₀ hz a0 r]
    have h2 := polyAt_generalLinear_embed_closed [κ.getD d₀ 0] 0 (by simp)
      (by
        intro e he hne
        simp at he
        omega) ((κ.length : ℂ) * a0) r
    simp only [List.length_cons, List.length_nil, Nat.cast_one, one_mul, zero_add] at h2
    rw [embedCoefs]
    rw [h2]
    simp

end Embed

theorem polySymbol_generalLinear_embed (c c₁ : Cfg ℂ) (hD₁ : c₁.D = 1) (hs : c₁.s = c.s)
    (d₀ h h₁ : ℕ) (hd₀ : d₀ < c.D) (hz : ∀ e < c.D, e ≠ d₀ → wnAt c e h = 0)
    (hk : wnAt c₁ 0 h₁ = wnAt c d₀ h) (a : List ℂ) :
    polySymbol c (generalLinear c.D a) h
      = polySymbol c₁ (generalLinear c₁.D (embedCoefs c.D a)) h₁ := by
  have hκ₁ : kappa c₁ h₁ = [(kappa c h).getD d₀ 0] := by
    rw [kappa_getD c h d₀ hd₀]
    unfold kappa
    rw [hD₁]
    simp only [List.range_one, List.map_cons, List.map_nil]
    congr 1
    unfold Nonlin.deriv
    rw [← wnAt_def, ← wnAt_def, hk, hs]
  have h1 := polyAt_generalLinear_embed (kappa c h) d₀ (by rw [kappa_length]; exact hd₀)
    (by
      intro e he hne
      rw [kappa_length] at he
      rw [kappa_getD c h e he, deriv_of_wn_zero c e h (hz e he hne)]) a
  rw [kappa_length] at h1
  rw [polySymbol_eq_polyAt, polySymbol_eq_polyAt, h1, hκ₁, hD₁]

theorem exp_term_generalLinear_embed (c c₁ : Cfg ℂ) (hD₁ : c₁.D = 1) (hs : c₁.s = c.s)
    (d₀ h h₁ : ℕ) (hd₀ : d₀ < c.D) (hz : ∀ e < c.D, e ≠ d₀ → wnAt c e h = 0)
    (hk : wnAt c₁ 0 h₁ = wnAt c d₀ h) (a : List ℂ) (dt : ℂ) :
    exp_term dt (polySymbol c (generalLinear c.D a) h)
      = exp_term dt (polySymbol c₁ (generalLinear c₁.D (embedCoefs c.D a)) h₁) := by
  rw [polySymbol_generalLinear_embed c c₁ hD₁ hs d₀ h h₁ hd₀ hz hk a]

/-- `build_laplace_operator(order)`, `order ≥ 1`, on an embedded mode is the 1-D entry -/
theorem laplace_embed (c : Cfg ℂ) (order : ℕ) (ho : 1 ≤ order) (d₀ h : ℕ) (hd₀ : d₀ < c.D)
    (hz : ∀ e < c.D, e ≠ d₀ → wnAt c e h = 0) :
    laplace c order h = Nonlin.deriv c d₀ h ^ order := by
  rw [laplace_eq_sum c h order (by omega), Finset.sum_eq_single d₀]
  · intro e he hne
    rw [deriv_of_wn_zero c e h (hz e (Finset.mem_range.mp he) hne), zero_pow (by omega)]
  · intro hh
    exact absurd (Finset.mem_range.mpr hd₀) hh

end Exponax.Symmetry
