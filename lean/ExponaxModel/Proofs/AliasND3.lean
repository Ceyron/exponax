import ExponaxModel.Proofs.AliasND3Basic
import ExponaxModel.Proofs.AliasND3Rot
import ExponaxModel.Proofs.AliasND2Examples
/-
C03 in general dimension: concrete witnesses of the hypotheses of the theorems of `AliasND3Basic`,
`AliasND3Rot` (`D = 2`, `D = 3`; `N = 8` even, `N = 9` odd; 2/3 rule; real scale `s = 1`) with a
retained AND a dropped mode, and the headline theorems instantiated at the witnesses.
-/
namespace Exponax.AliasND
open Exponax Exponax.Layout Exponax.Transform Exponax.DFT Exponax.Nonlin Exponax.Alias Finset

/-- `general_alias_free_nd`: `D = 3`, even `N`, 2/3 rule, `s = 1`, a retained and a dropped mode -/
example : ∃ (c : Cfg ℂ) (s : ℝ) (x : Array ℂ) (h h' : ℕ),
    0 < c.D ∧ c.fq ≠ 0 ∧ 3 * Kc c < (c.N : ℤ) ∧ 0 < c.N ∧ c.s = (s : ℂ) ∧
    IsRealND c.D c.N x ∧ h < numModes c.D c.N ∧ mask c h = 1 ∧ h' < numModes c.D c.N ∧ mask c h' = 0 :=
  ⟨cfg23 3, 1, ramp (8 ^ 3), 0, 2, by decide, by decide, by decide, by decide, cfg23_s 3,
    ramp_real 3 8, by decide, mask_zero_mode _ (by decide) (by decide), by decide, mask_dropped _ (by decide) _ (by decide)⟩

/-- `general_alias_free_nd`, `D = 2`, odd `N` -/
example : ∃ (c : Cfg ℂ) (s : ℝ) (x : Array ℂ) (h h' : ℕ),
    0 < c.D ∧ c.fq ≠ 0 ∧ 3 * Kc c < (c.N : ℤ) ∧ 0 < c.N ∧ c.s = (s : ℂ) ∧
    IsRealND c.D c.N x ∧ h < numModes c.D c.N ∧ mask c h = 1 ∧ h' < numModes c.D c.N ∧ mask c h' = 0 :=
  ⟨cfg23odd 2, 1, ramp (9 ^ 2), 0, 3, by decide, by decide, by decide, by decide, cfg23odd_s 2,
    ramp_real 2 9, by decide, mask_zero_mode _ (by decide) (by decide), by decide, mask_dropped _ (by decide) _ (by decide)⟩

/-- `bz_alias_free_nd`: `D = 3`, 2/3 rule, three real states -/
example : ∃ (c : Cfg ℂ) (xa xb xd : Array ℂ) (h h' : ℕ),
    0 < c.D ∧ c.fq ≠ 0 ∧ 3 * Kc c < (c.N : ℤ) ∧ 0 < c.N ∧
    IsRealND c.D c.N xa ∧ IsRealND c.D c.N xb ∧ IsRealND c.D c.N xd ∧
    h < numModes c.D c.N ∧ mask c h = 1 ∧ h' < numModes c.D c.N ∧ mask c h' = 0 :=
  ⟨cfg23 3, ramp (8 ^ 3), tab (8 ^ 3) (fun _ => (1 : ℂ)), ramp (8 ^ 3), 0, 2, by decide, by decide,
    by decide, by decide, ramp_real 3 8, const_real 3 8, ramp_real 3 8, by decide,
    mask_zero_mode _ (by decide) (by decide), by decide, mask_dropped _ (by decide) _ (by decide)⟩

noncomputable def uh3 : MC ℂ :=
  #[rfftnM 3 8 (ramp (8 ^ 3)), rfftnM 3 8 (tab (8 ^ 3) fun _ => (1 : ℂ)), rfftnM 3 8 (ramp (8 ^ 3))]

noncomputable def xs3 : ℕ → Array ℂ := fun ch => if ch = 1 then tab (8 ^ 3) (fun _ => (1 : ℂ)) else ramp (8 ^ 3)

theorem xs3_real (ch : ℕ) : IsRealND 3 8 (xs3 ch) := by
  unfold xs3
  split_ifs
  · exact const_real 3 8
  · exact ramp_real 3 8

theorem uh3_eq (ch : ℕ) (hch : ch < 3) : uh3.getD ch #[] = rfftnM 3 8 (xs3 ch) := by
  -- over variables, so that no entry is unfolded
  have key : ∀ a b : Array ℂ, #[a, b, a].getD ch #[] = if ch = 1 then b else a := by
    intro a b
    interval_cases ch <;> rfl
  unfold uh3 xs3
  rw [apply_ite (rfftnM 3 8)]
  exact key _ _

/-- `projected3d_alias_free`: `D = 3`, 2/3 rule, `s = 1`, three real velocity components, a
    retained and a dropped mode -/
example : ∃ (c : Cfg ℂ) (s : ℝ) (uh : MC ℂ) (xs : ℕ → Array ℂ) (i h h' : ℕ),
    c.D = 3 ∧ c.fq ≠ 0 ∧ 3 * Kc c < (c.N : ℤ) ∧ 0 < c.N ∧ c.s = (s : ℂ) ∧
    (∀ ch, ch < 3 → IsRealND c.D c.N (xs ch)) ∧
    (∀ ch, ch < 3 → uh.getD ch #[] = rfftnM c.D c.N (xs ch)) ∧ i < 3 ∧
    h < numModes c.D c.N ∧ mask c h = 1 ∧ h' < numModes c.D c.N ∧ mask c h' = 0 :=
  ⟨cfg23 3, 1, uh3, xs3, 1, 0, 2, rfl, by decide, by decide, by decide, cfg23_s 3,
    fun ch _ => xs3_real ch, uh3_eq, by norm_num, by decide,
    mask_zero_mode _ (by decide) (by decide), by decide, mask_dropped _ (by decide) _ (by decide)⟩

/-- `lapsym_eq_zero_iff`, `invLapZeroSym_eq`: a real non-zero scale -/
example : ∃ (c : Cfg ℂ) (s : ℝ), c.s = (s : ℂ) ∧ s ≠ 0 := ⟨cfg23 3, 1, cfg23_s 3, one_ne_zero⟩

/-- `dftV_cross_of_box` (the two halves of each `BoxSpec`): six band-limited fields with known box spectra -/
example : ∃ (D N : ℕ) (K : ℤ) (v w : ℕ → Array ℂ) (V W : ℕ → (Fin D → ℤ) → ℂ) (i : ℕ)
    (k : Fin D → ℤ), 0 < N ∧ 3 * K < (N : ℤ) ∧ (∀ j, j < 3 → BandLimitedV D N K (v j)) ∧
    (∀ j, j < 3 → BandLimitedV D N K (w j)) ∧
    (∀ j, j < 3 → ∀ p : Fin D → ℤ, (∀ d, |p d| ≤ K) → dftV D N (v j) p = V j p) ∧
    (∀ j, j < 3 → ∀ p : Fin D → ℤ, (∀ d, |p d| ≤ K) → dftV D N (w j) p = W j p) ∧ i < 3 ∧
    ∀ d, |k d| ≤ K :=
  ⟨3, 8, 2, fun _ => tab (8 ^ 3) fun _ => (1 : ℂ), fun _ => tab (8 ^ 3) fun _ => (1 : ℂ),
    fun _ => dftV 3 8 (tab (8 ^ 3) fun _ => (1 : ℂ)), fun _ => dftV 3 8 (tab (8 ^ 3) fun _ => (1 : ℂ)),
    0, 0, by norm_num, by norm_num,
    fun _ _ => const_bandLimitedV 3 8 (by norm_num) 2 (by norm_num),
    fun _ _ => const_bandLimitedV 3 8 (by norm_num) 2 (by norm_num),
    fun _ _ _ _ => rfl, fun _ _ _ _ => rfl, by norm_num, fun d => by simp⟩

/-- `general` at `D = 3`, 2/3 rule, both values of the zero-mode fix -/
example (s0 s1 s2 : ℂ) (zeroFix : Bool) (h : ℕ) (hh : h < numModes 3 8) :=
  general_alias_free_nd_two_thirds (cfg23 3) (by decide) rfl rfl (by decide) 1 (cfg23_s 3) s0 s1 s2
    zeroFix _ (ramp_real 3 8) h hh

/-- `general` at `D = 2`, odd `N` -/
example (s0 s1 s2 : ℂ) (zeroFix : Bool) (h : ℕ) (hh : h < numModes 2 9) :=
  general_alias_free_nd (cfg23odd 2) (by decide) (by decide) (by decide) (by decide) 1 (cfg23odd_s 2) 1
    s0 s1 s2 zeroFix _ (fun _ => ramp (9 ^ 2)) (fun _ _ => ramp_real 2 9) (single_getD _) 0 Nat.zero_lt_one h hh

/-- Belousov–Zhabotinsky at `D = 3`, 2/3 rule -/
example (h : ℕ) (hh : h < numModes 3 8) :=
  bz_alias_free_nd_two_thirds (cfg23 3) (by decide) rfl rfl (by decide) _ _ _
    (ramp_real 3 8) (const_real 3 8) (ramp_real 3 8) h hh

/-- `projected3d` at `N = 8`, 2/3 rule -/
example (i : ℕ) (hi : i < 3) (h : ℕ) (hh : h < numModes 3 8) :=
  projected3d_alias_free_two_thirds (cfg23 3) rfl rfl rfl (by decide) 1 (cfg23_s 3) uh3 xs3
    (fun ch _ => xs3_real ch) uh3_eq i hi h hh

/-- `projected3d`, explicit form, at `N = 8` -/
example (i : ℕ) (hi : i < 3) (h : ℕ) (hh : h < numModes 3 8) :=
  projected3d_alias_free_explicit (cfg23 3) rfl (by decide) (by decide) (by decide) 1 (cfg23_s 3)
    uh3 xs3 (fun ch _ => xs3_real ch) uh3_eq i hi h hh

end Exponax.AliasND
