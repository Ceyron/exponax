import Mathlib.Tactic
import ExponaxModel.Proofs.BatchLemmas
import ExponaxModel.Proofs.LoopsGenEq
/-
C06, what `Proofs/BatchLemmas.lean` does not have: the whole-array (column) form of the batched rollout, and the aux
variants of the REGENERATED loops (`Generated/LoopsGen.lean`).  The laws without aux hold of the regenerated loops by
`rollout_noaux_eq` / `repeat_noaux_eq` (`Proofs/LoopsGenEq.lean`), which identify them with the model's as functions.
A batch of states is a `List S`, `vmap f` is `List.map f`; a stepper with an auxiliary input mapped over both
arguments is `fun us as => List.zipWith f us as`.
-/
namespace Exponax.Loops

variable {S A : Type}

def column {X : Type} (rows : List (List X)) (t : ℕ) : List X := rows.filterMap (fun r => r[t]?)

theorem column_length {X : Type} (rows : List (List X)) (t : ℕ) (h : ∀ r ∈ rows, t < r.length) :
    (column rows t).length = rows.length := by
  induction rows with
  | nil => rfl
  | cons r rs ih =>
    have hr : t < r.length := h r (by simp)
    simp only [column, List.filterMap_cons, List.getElem?_eq_getElem hr, List.length_cons]
    exact congrArg (· + 1) (ih (fun x hx => h x (by simp [hx])))

theorem column_take {X : Type} (rows : List (List X)) (t k : ℕ) (h : ∀ r ∈ rows, t < r.length) :
    column (rows.take k) t = (column rows t).take k := by
  induction rows generalizing k with
  | nil => simp [column]
  | cons r rs ih =>
    have hr : t < r.length := h r (by simp)
    cases k with
    | zero => simp [column]
    | succ k =>
      simp only [column, List.take_succ_cons, List.filterMap_cons, List.getElem?_eq_getElem hr]
      exact congrArg (r[t] :: ·) (ih k (fun x hx => h x (by simp [hx])))

/-- the batched rollout IS the transpose of the list of per-member rollouts: its time entry `t` is column `t` -/
theorem rollout_map_eq_columns (f : S → S) (n : ℕ) (incl : Bool) (us : List S) :
    rollout (List.map f) n incl us
      = (List.range (trjLen n incl)).map (fun t => column (us.map (rollout f n incl)) t) := by
  rw [rollout_eq_map]
  apply List.map_congr_left
  intro t ht
  have ht' : t < trjLen n incl := List.mem_range.mp ht
  rw [iterate_map, column, List.filterMap_map]
  induction us with
  | nil => rfl
  | cons u us ih =>
    rw [List.map_cons, List.filterMap_cons, ← ih]
    simp only [Function.comp_apply, rollout_getElem?', if_pos ht']

theorem rolloutAux_getElem?' (f : S → A → S) (n : ℕ) (incl : Bool) (u0 : S) (aux : List A)
    (h : aux.length = n) (t : ℕ) :
    (rolloutAux f n incl false u0 aux)[t]?
      = if t < trjLen n incl then some ((aux.take (trjPow incl t)).foldl f u0) else none := by
  cases incl
  · simp only [trjLen, trjPow, Bool.false_eq_true, if_false]
    split_ifs with ht
    · exact rolloutAux_false_getElem? f n u0 aux (by omega) t ht
    · rw [List.getElem?_eq_none]
      rw [rolloutAux_false_length f n u0 aux (by omega)]; omega
  · simp only [trjLen, trjPow, if_true]
    split_ifs with ht
    · exact rolloutAux_true_getElem? f n u0 aux (by omega) t (by omega)
    · rw [List.getElem?_eq_none]
      rw [rolloutAux_true_length f n u0 aux (by omega)]; omega

theorem foldl_zipWith_getElem? (f : S → A → S) (xs : List (List A)) (us : List S) (b : ℕ)
    (h : ∀ x ∈ xs, us.length ≤ x.length) :
    (xs.foldl (fun us as => List.zipWith f us as) us)[b]?
      = (us[b]?).map (fun u => (column xs b).foldl f u) := by
  induction xs generalizing us with
  | nil => simp [column]
  | cons a rest ih =>
    have ha : us.length ≤ a.length := h a (by simp)
    rw [List.foldl_cons, ih (List.zipWith f us a) (fun x hx => by
      rw [List.length_zipWith]
      exact le_trans (Nat.min_le_left _ _) (h x (by simp [hx])))]
    rw [List.getElem?_zipWith]
    rcases Nat.lt_or_ge b us.length with hb | hb
    · have hb' : b < a.length := by omega
      simp [column, List.getElem?_eq_getElem hb, List.getElem?_eq_getElem hb']
    · rw [List.getElem?_eq_none hb]
      cases a[b]? <;> rfl

end Exponax.Loops

namespace Exponax.Gen.LoopsGen
open Exponax Exponax.Loops

variable {S A : Type}

theorem zipWith_eq_sweep (f : S → A → S) (as : List A) :
    (fun us => List.zipWith f us as)
      = List.zipWith (fun g u => g u) (as.map (fun (a : A) (u : S) => f u a)) := by
  funext us
  rw [zipWith_map_mk, List.zipWith_comm]

theorem rollout_aux_constant_batched_entry (f : S → A → S) (n : ℕ) (incl : Bool) (us : List S) (as : List A)
    (hl : us.length ≤ as.length) (t b : ℕ) :
    (((rollout_aux_constant (fun us as => List.zipWith f us as) n incl us as).bind (fun x => x[t]?)).bind
        (fun x => x[b]?))
      = (as[b]?).bind (fun a => (us[b]?).bind (fun u =>
          (rollout_aux_constant f n incl u a).bind (fun x => x[t]?))) := by
  rw [rollout_aux_constant_eq, rolloutAux_constant, Option.bind_some, zipWith_eq_sweep,
    rollout_sweep_entry (fun (a : A) (u : S) => f u a) as n incl us hl t b]
  cases as[b]? with
  | none => rfl
  | some a =>
    cases us[b]? with
    | none => rfl
    | some u =>
      simp only [Option.bind_some, rollout_aux_constant_eq, rolloutAux_constant]

theorem rollout_aux_sequence_batched_entry (f : S → A → S) (n : ℕ) (incl : Bool) (us : List S)
    (auxT : List (List A)) (hn : auxT.length = n) (hl : ∀ x ∈ auxT, us.length ≤ x.length) (t b : ℕ) :
    (((rollout_aux_sequence (fun us as => List.zipWith f us as) n incl us auxT).bind (fun x => x[t]?)).bind
        (fun x => x[b]?))
      = (us[b]?).bind (fun u => (rollout_aux_sequence f n incl u (column auxT b)).bind (fun x => x[t]?)) := by
  rw [rollout_aux_sequence_eq_partial _ n incl us auxT hn, Option.bind_some,
    rolloutAux_getElem?' _ n incl us auxT hn t]
  rcases Nat.lt_or_ge b us.length with hb | hb
  · have hcol : ∀ x ∈ auxT, b < x.length := fun x hx => lt_of_lt_of_le hb (hl x hx)
    have hlen : (column auxT b).length = n := by rw [column_length auxT b hcol, hn]
    rw [List.getElem?_eq_getElem hb, Option.bind_some,
      rollout_aux_sequence_eq_partial f n incl us[b] (column auxT b) hlen, Option.bind_some,
      rolloutAux_getElem?' f n incl us[b] (column auxT b) hlen t]
    split_ifs with ht
    · rw [Option.bind_some, foldl_zipWith_getElem? f _ us b (fun x hx => hl x (List.mem_of_mem_take hx)),
        List.getElem?_eq_getElem hb, Option.map_some, column_take auxT b _ hcol]
    · rfl
  · rw [List.getElem?_eq_none hb, Option.bind_none]
    split_ifs with ht
    · rw [Option.bind_some, foldl_zipWith_getElem? f _ us b (fun x hx => hl x (List.mem_of_mem_take hx)),
        List.getElem?_eq_none hb, Option.map_none]
    · rfl

end Exponax.Gen.LoopsGen
