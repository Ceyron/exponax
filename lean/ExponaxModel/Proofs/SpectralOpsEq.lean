import ExponaxModel.Proofs.SpectralOpsBasic
import ExponaxModel.Proofs.SpectralOpsInterp
import ExponaxModel.Proofs.NonlinFunsEq
import ExponaxModel.Proofs.WaveAlgebra
import ExponaxModel.Model.Spectrum
import ExponaxModel.Model.Interp
/-
`Generated/SpectralOps.lean` is regenerated (harness/translate_spectral2.py) from `exponax/_spectral.py` (`derivative`,
`make_incompressible`, `get_spectrum`, `get_fourier_coefficients`, `fft`, `ifft`), `exponax/_poisson.py` (`Poisson`),
`exponax/stepper/_wave.py` (`Wave`) and `exponax/_interpolation.py` (`map_between_resolutions`, `FourierInterpolator`).
Every regenerated definition is proved equal (as arrays, at `K := ℂ`) to the model function, on the domain where the
Python code is defined (`1 ≤ D`, `0 < N`, the guards the source raises on); `cfg D N L` is the model configuration
with `s = 2π/L`.  The layout helpers these programs call are those of `Generated/SpectralLayout.lean`, replaced by the
model quantities through `Proofs/SpectralLayoutEq.lean`.

Differences between the source and the model that the proofs absorb (none changes a value):
  * `make_incompressible` guards the inverse Laplacian with `1.0` at the zero mode, `Nonlin.leray` with `0`
    (`invLapZero`); the guarded value is multiplied by the derivative operator, which vanishes there (`2π ≠ 0`);
  * multi-channel `derivative` multiplies `û · (iκ)^order`, the model `(iκ)^order · û`;
  * `Wave.stepMode` takes the stored `wavenumber_norm` of the mode as an argument; here it is the regenerated
    `Wave.__init__` array (`waveKn`), a non-negative real for a real domain extent that vanishes exactly at `k = 0`;
  * `map_between_resolutions` with equal resolutions returns its argument unchanged (any number of channels).
-/
set_option linter.unusedVariables false
namespace Exponax.SpectralOpsEq
open Exponax Exponax.Layout Exponax.Transform Exponax.Nonlin Exponax.Gen.SpectralOps Exponax.NonlinFunsEq

attribute [local congr] DFT.tab_congr Nonlin.tab2_congr Nonlin.tabC_congr DFT.sumRange_congr

/-- stored intermediate arrays are read through the row transforms -/
macro "snorm" : tactic => `(tactic| simp only [at2_flat_self, rfft_rows, irfft_rows, rfft_channels, irfft_channels,
  ↓reduceIte, Bool.false_eq_true])

theorem derivative_single_eq (D N : ℕ) (hD : 1 ≤ D) (hN : 0 < N) (L : ℂ) (order : ℕ) (field : MC ℂ) :
    derivative D N 1 L order "ij" field
      = tabC D (fun d => derivativeM (cfg D N L) order d (field.getD 0 #[])) := by
  unfold derivative derivativeM
  snorm
  apply tabC_congr; intro d hd
  apply irfftnM_congr; intro h hh
  simp only [modes_cfg, cfg_D, cfg_N]
  rdd
  rw [derivative_operator_entry_eq D N hD hN L d h hd]

theorem derivative_multi_eq (D N C : ℕ) (hC : C ≠ 1) (hD : 1 ≤ D) (hN : 0 < N) (L : ℂ) (order : ℕ) (field : MC ℂ) :
    derivative D N C L order "ij" field
      = tabC (C * D) (fun p => derivativeM (cfg D N L) order (p % D) (field.getD (p / D) #[])) := by
  unfold derivative derivativeM
  simp only [if_neg hC]
  snorm
  apply tabC_congr; intro p hp
  apply irfftnM_congr; intro h hh
  have h1 : p / D < C := flat_div_lt p C D hp
  have h2 : p % D < D := flat_mod_lt p C D hp
  simp only [modes_cfg, cfg_D, cfg_N]
  rdd
  rw [derivative_operator_entry_eq D N hD hN L _ h h2, mul_comm]

theorem cfg_s_one_ne_zero (D N : ℕ) : (cfg D N 1).s ≠ 0 := by
  rw [cfg_s]
  simp [Real.pi_ne_zero]

theorem make_incompressible_eq (D N : ℕ) (hD : 1 ≤ D) (hN : 0 < N) (field : MC ℂ) :
    make_incompressible D N D "ij" field
      = tabC D (fun i => irfftnM D N ((leray (cfg D N 1) (tabC D (fun j => rfftnM D N (field.getD j #[])))).getD i #[])) := by
  unfold make_incompressible leray
  snorm
  apply tabC_congr; intro i hi
  apply irfftnM_congr; intro h hh
  simp only [modes_cfg, cfg_D]
  rdd
  simp (disch := omega) only [laplace_op_entry D N hD hN, sumList_map_range, derivative_operator_entry_eq D N hD hN,
    isZero_iff, tab_getD]
  by_cases hl : laplace (cfg D N 1) 2 h = 0
  · rw [deriv_eq_zero_of_laplace (cfg D N 1) (cfg_s_one_ne_zero D N) h hl i hi]
    simp
  · simp only [if_neg hl]
    ring

theorem filter_range_congr (M : ℕ) (p q : ℕ → Bool) (hp : ∀ h, h < M → p h = q h) :
    List.filter p (List.range M) = List.filter q (List.range M) := by
  apply List.filter_congr
  intro h hh
  exact hp h (List.mem_range.mp hh)

theorem map_filter_range_congr (M : ℕ) (p : ℕ → Bool) (f g : ℕ → ℂ) (hf : ∀ h, h < M → f h = g h) :
    List.map f (List.filter p (List.range M)) = List.map g (List.filter p (List.range M)) := by
  apply List.map_congr_left
  intro h hh
  exact hf h (List.mem_range.mp (List.mem_filter.mp hh).1)

theorem getD_map_range {α : Type} (n : ℕ) (g : ℕ → α) (b : ℕ) (hb : b < n) (d : α) :
    ((List.range n).map g).getD b d = g b := by
  rw [List.getD_eq_getElem?_getD, List.getElem?_map, List.getElem?_range hb, Option.map_some, Option.getD_some]

theorem nansum_where_congr (n : ℕ) (p q : ℕ → ℂ) (m m' : ℕ → Bool) (hp : ∀ h, h < n → p h = q h)
    (hm : ∀ h, h < n → m h = m' h) :
    jnp_nansum_where n p m = sumList (((List.range n).filter m').map q) := by
  unfold jnp_nansum_where
  rw [filter_range_congr n m m' hm, map_filter_range_congr n m' p q hp]

theorem nanmean_where_congr (n : ℕ) (p q : ℕ → ℂ) (m m' : ℕ → Bool) (hp : ∀ h, h < n → p h = q h)
    (hm : ∀ h, h < n → m h = m' h) :
    jnp_nanmean_where n p m
      = sumList (((List.range n).filter m').map q) / lit ((List.range n).filter m').length := by
  unfold jnp_nanmean_where
  rw [filter_range_congr n m m' hm, map_filter_range_congr n m' p q hp]

/-- **`get_spectrum` is the model's `Spectrum.spectrum`, channel by channel** (`radial_binning == "average"` selects the
    mean; every other string the sum).  For `D ≥ 2` the source reads `wavenumbers_1d[0, 1]`, which exists for `N ≥ 2`
    (hypothesis `hN2`; for `N = 1` jax clamps the index and `dk = 0`). -/
theorem get_spectrum_eq (D N C : ℕ) (hD : 1 ≤ D) (hN : 0 < N) (hN2 : D = 1 ∨ 2 ≤ N) (power : Bool) (rb : String)
    (state : MC ℂ) :
    get_spectrum D N C power rb state
      = tabC C (fun ch => Spectrum.spectrum D N power (decide (rb = "average")) (state.getD ch #[])) := by
  unfold get_spectrum Spectrum.spectrum
  simp only [rfft_channels]
  -- the binned quantity, stored per channel
  generalize hq : (ite (power = true) _ _ : MC ℂ) = Q
  have hQ : Q = tab2 C (numModes D N) (fun ch h => Spectrum.quantity D N power (rfftnM D N (state.getD ch #[])) h) := by
    subst hq
    unfold Spectrum.quantity
    cases power <;> simp only [Bool.false_eq_true, ↓reduceIte]
    · rdd
      simp only [scaling_rc D N hD hN]
    · rdd
      simp only [scaling_rc D N hD hN, scaling_nc D N hD hN]
  rw [hQ]
  by_cases h1 : D = 1
  · simp only [if_pos h1]
    rfl
  · simp only [if_neg h1, wavenumbers_1d_row_eq N hN, wavenumbers_1d_entry_eq N hN, lax_scan_unit, List.length_map,
      List.length_range, map_wavenumbers_entry D N hD hN, List.map_map, tab2_eq_tabC]
    apply tabC_congr; intro ch hch
    apply tab_congr; intro b hb
    rw [getD_map_range _ _ _ hb, Function.comp_apply, tab_getD _ _ _ _ hch]
    have hp : ∀ h, h < numModes D N → at2 (tabC C fun i => tab (numModes D N) fun h =>
          Spectrum.quantity D N power (rfftnM D N (state.getD i #[])) h) ch h
        = (tab (numModes D N) (Spectrum.quantity D N power (rfftnM D N (state.getD ch #[])))).getD h 0 :=
      fun h hh => at2_tabC _ _ _ _ hch
    have hm : ∀ h, h < numModes D N →
        (l2norm_ge (wnFlat D N h) ((((b : ℕ) : ℤ) : ℚ) - ((((1 : ℕ) : ℤ) - ((0 : ℕ) : ℤ) : ℤ) : ℚ) / (((2 : ℕ) : ℤ) : ℚ))
          && l2norm_lt (wnFlat D N h) ((((b : ℕ) : ℤ) : ℚ) + ((((1 : ℕ) : ℤ) - ((0 : ℕ) : ℤ) : ℤ) : ℚ) / (((2 : ℕ) : ℤ) : ℚ)))
        = inBin ((tab (numModes D N) (wnFlat D N)).getD h []) b := by
      intro h hh
      rw [tab_getD _ _ _ _ hh, Nat.cast_one, Nat.cast_zero, sub_zero]
      exact bin_mask_eq (wnFlat D N h) b
    by_cases hr : rb = "average"
    · rw [if_pos hr, if_pos (decide_eq_true hr)]
      exact nanmean_where_congr _ _ _ _ _ hp hm
    · rw [if_neg hr, if_neg (by simpa using hr)]
      exact nansum_where_congr _ _ _ _ _ hp hm

/-- the three valid mode strings and the codes of `Layout.scaling` -/
def modeCodes : List (String × ℕ) := [("norm_compensation", 0), ("reconstruction", 1), ("coef_extraction", 2)]

theorem build_scaling_array_code (D N : ℕ) (hD : 1 ≤ D) (hN : 0 < N) (m : String) (code : ℕ)
    (hm : (m, code) ∈ modeCodes) (idx : List ℕ) :
    Gen.SpectralLayout.build_scaling_array D N m "ij" idx = some (scaling D N code idx : ℚ) := by
  simp only [modeCodes, List.mem_cons, Prod.mk.injEq, List.not_mem_nil, or_false] at hm
  rcases hm with ⟨rfl, rfl⟩ | ⟨rfl, rfl⟩ | ⟨rfl, rfl⟩
  exacts [build_scaling_array_norm_compensation D N hD hN idx, build_scaling_array_reconstruction D N hD hN idx,
    build_scaling_array_coef_extraction D N hD hN idx]

theorem scaling_array_entry_code (D N : ℕ) (hD : 1 ≤ D) (hN : 0 < N) (m : String) (code : ℕ) (hm : (m, code) ∈ modeCodes)
    (h : ℕ) : (scaling_array_entry D N m "ij" h : ℂ) = scaling D N code (unflatten (wavenumberShape D N) h) :=
  scaling_array_entry_of_some D N m code h (build_scaling_array_code D N hD hN m code hm _)

section coef
variable [HasRoundTo ℂ]

/-- the explicit rounding `jnp.round(·, decimals)` (`None`: no rounding) -/
noncomputable def roundOpt (round : Option ℕ) (z : ℂ) : ℂ :=
  match round with
  | some r => HasRoundTo.roundTo z r
  | none => z

theorem get_fourier_coefficients_eq (D N C : ℕ) (hD : 1 ≤ D) (hN : 0 < N) (m : String) (code : ℕ)
    (hm : (m, code) ∈ modeCodes) (round : Option ℕ) (state : MC ℂ) :
    get_fourier_coefficients D N C (some m) round "ij" state
      = some (tab2 C (numModes D N) (fun ch h => roundOpt round
          ((rfftnM D N (state.getD ch #[])).getD h 0 / scaling D N code (unflatten (wavenumberShape D N) h)))) := by
  unfold get_fourier_coefficients
  simp only [Option.all_some, build_scaling_array_code D N hD hN m code hm, Option.isSome_some, ↓reduceIte,
    rfft_channels]
  congr 1
  cases round <;> simp only [roundOpt]
  all_goals
    rdd
    simp only [scaling_array_entry_code D N hD hN m code hm]

theorem get_fourier_coefficients_none_eq (D N C : ℕ) (round : Option ℕ) (state : MC ℂ) :
    get_fourier_coefficients D N C none round "ij" state
      = some (tab2 C (numModes D N) (fun ch h => roundOpt round ((rfftnM D N (state.getD ch #[])).getD h 0))) := by
  unfold get_fourier_coefficients
  simp only [Option.all_none, ↓reduceIte, rfft_channels]
  congr 1
  cases round with
  | none =>
    simp only [roundOpt]
    rw [tab2_eq_tabC]
    apply tabC_congr; intro i hi
    exact (rfftnM_retab D N _).symm
  | some r =>
    simp only [roundOpt]
    rdd

theorem get_fourier_coefficients_invalid (D N C : ℕ) (m : String) (h1 : m ≠ "norm_compensation")
    (h2 : m ≠ "reconstruction") (h3 : m ≠ "coef_extraction") (round : Option ℕ) (ix : String) (state : MC ℂ) :
    get_fourier_coefficients D N C (some m) round ix state = none := by
  unfold get_fourier_coefficients
  simp [build_scaling_array_invalid D N m ix _ h1 h2 h3]

end coef

/-- the stored inverse operator: `where(op == 0, 0, 1/op)`, `op = build_laplace_operator(order)` -/
theorem Poisson_init_inv_operator_eq (D N : ℕ) (hD : 1 ≤ D) (hN : 0 < N) (L : ℂ) (order : ℕ) :
    Poisson_init_inv_operator D N L order
      = tab2 1 (numModes D N) (fun _ h => if laplace (cfg D N L) order h = 0 then 0 else 1 / laplace (cfg D N L) order h) := by
  unfold Poisson_init_inv_operator
  rdd
  simp only [laplace_op_entry D N hD hN, isZero_iff]

theorem Poisson_step_fourier_eq (D N C : ℕ) (hD : 1 ≤ D) (hN : 0 < N) (L : ℂ) (order : ℕ) (f_hat : MC ℂ) :
    Poisson_step_fourier D N C L order f_hat
      = tab2 C (numModes D N) (fun ch h => poissonStep (cfg D N L) order h (at2 f_hat ch h)) := by
  unfold Poisson_step_fourier poissonStep
  rw [Poisson_init_inv_operator_eq D N hD hN]
  rdd
  simp only [isZero_iff]

theorem Poisson_step_eq (D N C : ℕ) (hD : 1 ≤ D) (hN : 0 < N) (L : ℂ) (order : ℕ) (f : MC ℂ) :
    Poisson_step D N C L order f
      = tabC C (fun ch => irfftnM D N (tab (numModes D N) (fun h =>
          poissonStep (cfg D N L) order h ((rfftnM D N (f.getD ch #[])).getD h 0)))) := by
  unfold Poisson_step
  simp only [Poisson_step_fourier_eq D N C hD hN]
  snorm
  rdd

/-- the stored `wavenumber_norm` of mode `h` (the `kn` argument of the per-mode model `Model/Wave.lean`) -/
noncomputable def waveKn (D N : ℕ) (L : ℂ) (h : ℕ) : ℂ := at2 (Wave_init_wavenumber_norm D N L) 0 h

/-- `‖(2π/L)·k‖₂` as the source computes it: `sqrt(Σ_d ((2π/L) k_d)²)` -/
theorem waveKn_eq (D N : ℕ) (hD : 1 ≤ D) (hN : 0 < N) (L : ℂ) (h : ℕ) (hh : h < numModes D N) :
    waveKn D N L h = HasSqrt.sqrt (sumRange D (fun d =>
      (2 * (Real.pi : ℂ) / L * (((wnFlat D N h).getD d 0 : ℤ) : ℂ)) * (2 * (Real.pi : ℂ) / L * (((wnFlat D N h).getD d 0 : ℤ) : ℂ)))) := by
  unfold waveKn Wave_init_wavenumber_norm jnp_linalg_norm_axis0
  rdd
  simp (disch := omega) only [List.map_map, Function.comp_def, sumList_map_range, scaled_wavenumbers_entry_eq D N hD hN]

theorem hasSqrt_ofReal (r : ℝ) (hr : 0 ≤ r) : HasSqrt.sqrt ((r : ℝ) : ℂ) = ((Real.sqrt r : ℝ) : ℂ) := by
  rw [hasSqrt_complex, Real.sqrt_eq_rpow, Complex.ofReal_cpow hr]
  norm_num

/-- **for a real domain extent `ℓ > 0` the stored `wavenumber_norm` is the real number `(2π/ℓ)·‖k‖₂`** (the `kn : ℝ`
    of the theorems of `Properties/C01.lean`, `C11.lean` about `Wave.stepMode`) -/
theorem waveKn_real (D N : ℕ) (hD : 1 ≤ D) (hN : 0 < N) (ℓ : ℝ) (hℓ : 0 < ℓ) (h : ℕ) (hh : h < numModes D N) :
    waveKn D N (ℓ : ℂ) h
      = (((2 * Real.pi / ℓ) * Real.sqrt (((kSq (cfg D N (ℓ : ℂ)) h : ℤ) : ℝ)) : ℝ) : ℂ) := by
  rw [waveKn_eq D N hD hN _ h hh]
  have hsum : sumRange D (fun d => (2 * (Real.pi : ℂ) / (ℓ : ℂ) * (((wnFlat D N h).getD d 0 : ℤ) : ℂ)) *
        (2 * (Real.pi : ℂ) / (ℓ : ℂ) * (((wnFlat D N h).getD d 0 : ℤ) : ℂ)))
      = (((2 * Real.pi / ℓ) ^ 2 * ((kSq (cfg D N (ℓ : ℂ)) h : ℤ) : ℝ) : ℝ) : ℂ) := by
    unfold sumRange
    rw [sumList_range_eq]
    unfold kSq kInt
    simp only [cfg_D, cfg_N]
    push_cast
    rw [Finset.mul_sum]
    apply Finset.sum_congr rfl
    intro d _
    ring
  have hk : (0 : ℝ) ≤ ((kSq (cfg D N (ℓ : ℂ)) h : ℤ) : ℝ) := Int.cast_nonneg (kSq_nonneg _ h)
  have hp : (0 : ℝ) ≤ 2 * Real.pi / ℓ := by positivity
  rw [hsum, hasSqrt_ofReal _ (mul_nonneg (sq_nonneg _) hk), Real.sqrt_mul (sq_nonneg _), Real.sqrt_sq hp]

theorem waveKn_eq_zero_iff (D N : ℕ) (hD : 1 ≤ D) (hN : 0 < N) (ℓ : ℝ) (hℓ : 0 < ℓ) (h : ℕ) (hh : h < numModes D N) :
    waveKn D N (ℓ : ℂ) h = 0 ↔ ∀ d, d < D → (wnFlat D N h).getD d 0 = 0 := by
  have hk : (0 : ℝ) ≤ ((kSq (cfg D N (ℓ : ℂ)) h : ℤ) : ℝ) := Int.cast_nonneg (kSq_nonneg _ h)
  have hp : (0 : ℝ) < 2 * Real.pi / ℓ := by positivity
  rw [waveKn_real D N hD hN ℓ hℓ h hh, Complex.ofReal_eq_zero, mul_eq_zero, Real.sqrt_eq_zero hk, Int.cast_eq_zero,
    kSq_eq_zero_iff]
  exact or_iff_right hp.ne'

theorem Wave_forward_transform_eq (D N : ℕ) (L c : ℂ) (u_hat : MC ℂ) :
    Wave_forward_transform D N L c u_hat = tab2 2 (numModes D N) (fun i h =>
      if i = 0 then (Wave.forward c (waveKn D N L h) (at2 u_hat 0 h) (at2 u_hat 1 h)).1
      else (Wave.forward c (waveKn D N L h) (at2 u_hat 0 h) (at2 u_hat 1 h)).2) := by
  unfold Wave_forward_transform Wave.forward Wave.kGuard waveKn
  rdd

theorem Wave_inverse_transform_eq (D N : ℕ) (L c : ℂ) (waves_hat : MC ℂ) :
    Wave_inverse_transform D N L c waves_hat = tab2 2 (numModes D N) (fun i h =>
      if i = 0 then (Wave.inverse c (waveKn D N L h) (at2 waves_hat 0 h) (at2 waves_hat 1 h)).1
      else (Wave.inverse c (waveKn D N L h) (at2 waves_hat 0 h) (at2 waves_hat 1 h)).2) := by
  unfold Wave_inverse_transform Wave.inverse Wave.kGuard waveKn
  rdd

/-- **`Wave.step_fourier` is the per-mode model `Wave.stepMode`**, the drift being added at the flat mode `0` -/
theorem Wave_step_fourier_eq (D N : ℕ) (hN : 0 < N) (L dt c : ℂ) (u_hat : MC ℂ) :
    Wave_step_fourier D N L dt c u_hat = tab2 2 (numModes D N) (fun i h =>
      if i = 0 then (Wave.stepMode c dt (waveKn D N L h) (decide (h = 0)) (at2 u_hat 0 h) (at2 u_hat 1 h)).1
      else (Wave.stepMode c dt (waveKn D N L h) (decide (h = 0)) (at2 u_hat 0 h) (at2 u_hat 1 h)).2) := by
  unfold Wave_step_fourier
  simp only [Wave_forward_transform_eq, Wave_inverse_transform_eq, flatten_zero]
  apply tab2_congr; intro ch i hch hi
  have h0 : (0 : ℕ) < numModes D N := by omega
  rdd
  simp only [Wave.stepMode, Wave.symbols, Gen.Etdrk.E0step, Gen.Etdrk.exp_term, Gen.Steppers.Wave_linear_operator,
    List.getD_cons_zero, List.getD_cons_succ, waveKn]
  by_cases hi0 : i = 0
  · subst hi0
    interval_cases ch <;> simp
  · interval_cases ch <;> simp [hi0]

theorem FourierInterpolator_call_eq (D N C : ℕ) (hD : 1 ≤ D) (hN : 0 < N) (L : ℂ) (state : MC ℂ) (x : List ℂ) :
    FourierInterpolator_call D N C L "ij" state x
      = tab C (fun ch => Interp.interpolate D N (2 * (Real.pi : ℂ) / L) (state.getD ch #[]) x) := by
  unfold FourierInterpolator_call FourierInterpolator_init_wavenumbers FourierInterpolator_init_state_hat_scaled
    Interp.interpolate
  simp only [rfft_channels]
  apply tab_congr; intro ch hch
  apply congrArg HasRe.re
  apply sumRange_congr; intro h hh
  rdd
  simp (disch := omega) only [sumList_map_range, scaling_rc D N hD hN, scaled_wavenumbers_entry_eq D N hD hN, at2_tab2]

theorem map_between_resolutions_same (D N C : ℕ) (ob : Bool) (state : MC ℂ) :
    map_between_resolutions D N C N ob state = state := by
  unfold map_between_resolutions
  simp

theorem at2_tab2_row (C M : ℕ) (f : ℕ → ℕ → ℂ) (ch j : ℕ) (hch : ch < C) :
    at2 (tab2 C M f) ch j = (tab M (f ch)).getD j 0 := by
  unfold at2
  rw [tab2_getD _ _ _ _ hch]

/-- **`map_between_resolutions` between different resolutions is the model's `Interp.mapBetween`, channel by channel**
    (the loop over `get_modes_slices` being the closed form `Interp.srcIndex`) -/
theorem map_between_resolutions_eq (D N Nnew C : ℕ) (hne : N ≠ Nnew) (hD : 1 ≤ D) (hN : 0 < N) (hNn : 0 < Nnew)
    (ob : Bool) (state : MC ℂ) :
    map_between_resolutions D N C Nnew ob state
      = tabC C (fun ch => Interp.mapBetween D N Nnew ob (state.getD ch #[])) := by
  unfold map_between_resolutions Interp.mapBetween Interp.mapSpectrum
  simp only [if_neg hne, rfft_channels]
  -- the (possibly oddball-filtered) scaled old spectrum, stored per channel
  generalize hq : (ite (Nnew > N ∧ N % 2 = 0 ∧ ob = true) _ _ : MC ℂ) = old
  have hold : old = tab2 C (numModes D N) (fun ch h =>
        if Nnew > N ∧ N % 2 = 0 ∧ ob = true then
          (if oddball N (wnFlat D N h) = true then
            (rfftnM D N (state.getD ch #[])).getD h 0 / scaling D N 0 (unflatten (wavenumberShape D N) h) else 0)
        else (rfftnM D N (state.getD ch #[])).getD h 0 / scaling D N 0 (unflatten (wavenumberShape D N) h)) := by
    subst hq
    by_cases hc : Nnew > N ∧ N % 2 = 0 ∧ ob = true
    · simp only [if_pos hc]
      rdd
      simp only [scaling_nc D N hD hN, oddball_mask_entry_eq D N hD hN, mul_ite, mul_one, mul_zero]
    · simp only [if_neg hc]
      rdd
      simp only [scaling_nc D N hD hN]
  rw [hold]
  apply tabC_congr; intro ch hch
  apply irfftnM_congr; intro h' hh'
  rw [tab_getD _ _ _ _ hh', tab_getD _ _ _ _ hh']
  have hzero : at2 (tab2 C (numModes D Nnew) fun i0 h => (0 : ℂ)) ch h' = 0 := at2_tab2 _ _ _ _ _ hch hh'
  by_cases hc : N > Nnew ∧ Nnew % 2 = 0 ∧ ob = true
  · rw [if_pos hc, if_pos hc, at2_tab2 _ _ _ _ _ hch hh', at2_tab2 _ _ _ _ _ hch hh']
    rw [at2_block_copy D N Nnew C hD _ _ ch h' hch hh', hzero, scaling_nc D Nnew hD hNn,
      oddball_mask_entry_eq D Nnew hD hNn]
    cases hs : Interp.srcIndex D N Nnew (unflatten (wavenumberShape D Nnew) h') with
    | none => simp
    | some idx => simp only [at2_tab2_row _ _ _ _ _ hch, mul_ite, mul_one, mul_zero]
  · rw [if_neg hc, if_neg hc, at2_tab2 _ _ _ _ _ hch hh']
    rw [at2_block_copy D N Nnew C hD _ _ ch h' hch hh', hzero, scaling_nc D Nnew hD hNn]
    cases hs : Interp.srcIndex D N Nnew (unflatten (wavenumberShape D Nnew) h') with
    | none => simp
    | some idx => simp only [at2_tab2_row _ _ _ _ _ hch]

theorem resolve_space_indices (n D : ℕ) :
    resolveAxes (n + D) (Gen.SpectralLayout.space_indices D) = trailingAxes (n + D) D := by
  rw [space_indices_eq, resolveAxes, trailingAxes, List.map_map]
  apply List.map_congr_left
  intro i hi
  have hi' : i < D := List.mem_range.mp hi
  rw [Function.comp_apply, if_pos (by omega)]
  omega

theorem jnp_rfftn_space_indices (lead : List ℕ) (D N : ℕ) (hD : 1 ≤ D) (field : MC ℂ) :
    jnp_rfftn lead D N (Gen.SpectralLayout.space_indices D) field
      = some (tabC (shapeSize lead) (fun i => rfftnM D N (field.getD i #[]))) := by
  unfold jnp_rfftn
  exact if_pos ⟨hD, resolve_space_indices _ _⟩

theorem jnp_irfftn_space_indices (lead : List ℕ) (D N : ℕ) (hD : 1 ≤ D) (fh : MC ℂ) :
    jnp_irfftn lead D N (Gen.SpectralLayout.spatial_shape D N) (Gen.SpectralLayout.space_indices D) fh
      = some (tabC (shapeSize lead) (fun i => irfftnM D N (fh.getD i #[]))) := by
  unfold jnp_irfftn
  exact if_pos ⟨hD, rfl, resolve_space_indices _ _⟩

theorem shapeSize_singleton (C : ℕ) : shapeSize [C] = C := Nat.one_mul C

/-- `fft(field, num_spatial_dims=D)` and `fft(field)` (one leading axis) are the row-wise model transform -/
theorem fft_eq (C D N : ℕ) (hD : 1 ≤ D) (field : MC ℂ) :
    fft [C] D N (some D) field = some (tabC C (fun i => rfftnM D N (field.getD i #[]))) ∧
    fft [C] D N none field = some (tabC C (fun i => rfftnM D N (field.getD i #[]))) := by
  unfold fft
  simp only [Nat.cast_one, toNat_pred, List.length_singleton, Nat.add_sub_cancel_left, jnp_rfftn_space_indices _ _ _ hD,
    shapeSize_singleton, and_self]

/-- two leading axes `(A, B)` (as in `derivative`), explicit `num_spatial_dims` -/
theorem fft_eq_two (A B D N : ℕ) (hD : 1 ≤ D) (field : MC ℂ) :
    fft [A, B] D N (some D) field = some (tabC (A * B) (fun i => rfftnM D N (field.getD i #[]))) := by
  unfold fft
  simp only [jnp_rfftn_space_indices _ _ _ hD, shapeSize, List.foldl_cons, List.foldl_nil, Nat.one_mul]

/-- without `num_spatial_dims`, an array with TWO leading axes is transformed over `ndim − 1 = D + 1` axes (the second
    leading axis included), which is outside the model -/
theorem fft_two_leading_inferred (A B D N : ℕ) (field : MC ℂ) : fft [A, B] D N none field = none := by
  unfold fft jnp_rfftn
  refine if_neg fun h => ?_
  have := congrArg List.length h.2
  rw [Nat.cast_one, toNat_pred, resolveAxes, trailingAxes, List.length_map, List.length_map, List.length_range,
    space_indices_length, List.length_cons, List.length_singleton] at this
  omega

theorem ifft_eq (C D N : ℕ) (hD : 1 ≤ D) (fh : MC ℂ) :
    ifft [C] D N (some D) (some N) fh = some (tabC C (fun i => irfftnM D N (fh.getD i #[]))) ∧
    ifft [C] D N none (some N) fh = some (tabC C (fun i => irfftnM D N (fh.getD i #[]))) := by
  unfold ifft
  simp only [Nat.cast_one, toNat_pred, List.length_singleton, Nat.add_sub_cancel_left, jnp_irfftn_space_indices _ _ _ hD,
    shapeSize_singleton, and_self]

/-- the inference of `num_points`: `shape[-2]` for `D ≥ 2`, `ValueError` for `D = 1` -/
theorem ifft_infer_num_points (C D N : ℕ) (hD : 1 ≤ D) (fh : MC ℂ) :
    ifft [C] D N (some D) none fh
      = if 2 ≤ D then some (tabC C (fun i => irfftnM D N (fh.getD i #[]))) else none := by
  unfold ifft
  by_cases h2 : 2 ≤ D
  · have hN : ([C] ++ wavenumberShape D N).getD (([C] : List ℕ).length + D - 2) 0 = N := by
      have : ([C] : List ℕ).length + D - 2 = (D - 2) + 1 := by
        rw [List.length_singleton]; omega
      rw [this, List.singleton_append, List.getD_cons_succ, wavenumberShape_getD D N (D - 2) (by omega),
        if_neg (by omega)]
    simp only [ge_iff_le, if_pos h2, hN, jnp_irfftn_space_indices _ _ _ hD, shapeSize_singleton]
  · simp only [ge_iff_le, if_neg h2]

/- the lists of what was generated, written out: a new function, method or definition without a theorem breaks the build -/

theorem generated_defs_pinned : generated_defs =
    ["derivative", "make_incompressible", "get_spectrum", "get_fourier_coefficients", "map_between_resolutions",
     "fft", "ifft", "Poisson_init_inv_operator", "Poisson_step_fourier", "Poisson_step",
     "Wave_init_wavenumber_norm", "Wave_forward_transform", "Wave_inverse_transform", "Wave_step_fourier",
     "FourierInterpolator_init_state_hat_scaled", "FourierInterpolator_init_wavenumbers",
     "FourierInterpolator_call"] := rfl

theorem generated_spectral_functions_pinned : generated_spectral_functions =
    ["derivative", "fft", "get_fourier_coefficients", "get_spectrum", "ifft", "make_incompressible"] := rfl

/-- every top-level function of `exponax/_spectral.py` is translated by some translator -/
theorem untranslated_spectral_functions_pinned : untranslated_spectral_functions = [] := rfl

theorem interpolation_pinned :
    interpolation_functions = ["map_between_resolutions"] ∧ interpolation_classes = ["FourierInterpolator"] :=
  ⟨rfl, rfl⟩

/-- the methods that exist in the source and the ones translated here (`Poisson.__call__` is the shape guard around
    `step`; `Wave._build_linear_operator` is regenerated in `Generated/Steppers.lean`, `Wave._build_nonlinear_fun` is
    the zero function `Gen.NonlinFuns.ZeroNonlinearFun_call`, not used by the order-0 integrator) -/
theorem generated_methods_pinned : generated_methods =
    [("Poisson", ["__call__", "__init__", "step", "step_fourier"], ["step", "step_fourier", "__init__"]),
     ("Wave", ["__init__", "_build_linear_operator", "_build_nonlinear_fun", "_forward_transform",
               "_inverse_transform", "step_fourier"],
              ["_forward_transform", "_inverse_transform", "step_fourier", "__init__"]),
     ("FourierInterpolator", ["__call__", "__init__"], ["__call__", "__init__"])] := rfl

end Exponax.SpectralOpsEq
