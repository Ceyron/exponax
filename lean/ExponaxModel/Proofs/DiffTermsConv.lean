import ExponaxModel.Proofs.DiffTermsCalc
/-
C07 support: `convection` (all four flag combinations), `gradientNorm` (both zero-fix options) and `vorticity2d` (with or
without the Kolmogorov injection, which is a constant).

For each term the JVP is written in model vocabulary (the same pipeline with the product rule applied at the pointwise
products) and one theorem says the term maps every `FunAlg₂`-related pair `(f, f')` of families of spectra to the related
pair `(term ∘ f, v ↦ termJvp (f u) (f' v))`.  Instantiating the relation gives smoothness and the Fréchet derivative
(`DiffTermsSpace`).
-/
namespace Exponax.DiffTerms
open Exponax Exponax.Transform Exponax.Nonlin

/-- JVP of `convection`: `−b·P(u ∂v + v ∂u)` (non-conservative) / `−b/2·∂P(u v + v u)` (conservative);
    `uh` the point, `vh` the direction -/
noncomputable def convectionJvp (c : Cfg ℂ) (C : ℕ) (scale : ℂ) (single conservative : Bool) (uh vh : MC ℂ) : MC ℂ :=
  let G := gridSize c
  let M := modes c
  let u : MC ℂ := tabC C (fun ch => nifft c (uh.getD ch #[]))
  let du : MC ℂ := tabC C (fun ch => nifft c (vh.getD ch #[]))
  if single then
    if conservative then
      let sq : MC ℂ := tabC C (fun ch => nfft c (tab G (fun j => at2 u ch j * at2 du ch j + at2 du ch j * at2 u ch j)))
      tab2 C M (fun ch h =>
        -scale * (qlit 1 2 * sumList ((List.range c.D).map (fun d => deriv c d h)) * at2 sq ch h))
    else
      let nab : MC ℂ := tabC c.D (fun d => nifft c (tab M (fun h => deriv c d h * at2 uh 0 h)))
      let dnab : MC ℂ := tabC c.D (fun d => nifft c (tab M (fun h => deriv c d h * at2 vh 0 h)))
      let conv := nfft c (tab G (fun j => sumList ((List.range c.D).map (fun d =>
        at2 u 0 j * at2 dnab d j + at2 du 0 j * at2 nab d j))))
      tab2 1 M (fun _ h => -scale * conv.getD h 0)
  else
    if conservative then
      let outer : MC ℂ := tabC (C * C) (fun ij => nfft c (tab G (fun x =>
        at2 u (ij % C) x * at2 du (ij / C) x + at2 du (ij % C) x * at2 u (ij / C) x)))
      tab2 C M (fun i h =>
        -scale * (qlit 1 2 * sumList ((List.range C).map (fun j => deriv c j h * at2 outer (i * C + j) h))))
    else
      let nab : MC ℂ := tabC (C * C) (fun ij => nifft c (tab M (fun h => deriv c (ij % C) h * at2 uh (ij / C) h)))
      let dnab : MC ℂ := tabC (C * C) (fun ij => nifft c (tab M (fun h => deriv c (ij % C) h * at2 vh (ij / C) h)))
      let conv : MC ℂ := tabC C (fun i =>
        nfft c (tab G (fun x => sumList ((List.range C).map (fun j =>
          at2 u j x * at2 dnab (i * C + j) x + at2 du j x * at2 nab (i * C + j) x)))))
      tab2 C M (fun i h => -scale * at2 conv i h)

/-- JVP of `gradientNorm`: `−b/2·P(2 ∇u·∇v − mean)` -/
noncomputable def gradientNormJvp (c : Cfg ℂ) (C : ℕ) (scale : ℂ) (zeroFix : Bool) (uh vh : MC ℂ) : MC ℂ :=
  let G := gridSize c
  let M := modes c
  let g : MC ℂ := tabC (C * c.D) (fun cd => nifft c (tab M (fun h => deriv c (cd % c.D) h * at2 uh (cd / c.D) h)))
  let dg : MC ℂ := tabC (C * c.D) (fun cd => nifft c (tab M (fun h => deriv c (cd % c.D) h * at2 vh (cd / c.D) h)))
  let q : MC ℂ := tab2 C G (fun ch x =>
    sumList ((List.range c.D).map (fun d =>
      at2 g (ch * c.D + d) x * at2 dg (ch * c.D + d) x + at2 dg (ch * c.D + d) x * at2 g (ch * c.D + d) x)))
  let mean : Array ℂ := tab C (fun ch => sumRange G (fun x => at2 q ch x) / lit G)
  let q' : MC ℂ := tab2 C G (fun ch x => if zeroFix then at2 q ch x - mean.getD ch 0 else at2 q ch x)
  let qh : MC ℂ := tabC C (fun ch => nfft c (q'.getD ch #[]))
  tab2 C M (fun ch h => -scale * (qlit 1 2 * at2 qh ch h))

/-- JVP of `vorticity2d` (the injection is a constant: it does not appear) -/
noncomputable def vorticity2dJvp (c : Cfg ℂ) (scale : ℂ) (uh vh : MC ℂ) : MC ℂ :=
  let G := gridSize c
  let M := modes c
  let psi : Array ℂ := tab M (fun h => invLapOne c h * at2 uh 0 h)
  let dpsi : Array ℂ := tab M (fun h => invLapOne c h * at2 vh 0 h)
  let u := nifft c (tab M (fun h => deriv c 1 h * psi.getD h 0))
  let du := nifft c (tab M (fun h => deriv c 1 h * dpsi.getD h 0))
  let v := nifft c (tab M (fun h => -(deriv c 0 h) * psi.getD h 0))
  let dv := nifft c (tab M (fun h => -(deriv c 0 h) * dpsi.getD h 0))
  let wx := nifft c (tab M (fun h => deriv c 0 h * at2 uh 0 h))
  let dwx := nifft c (tab M (fun h => deriv c 0 h * at2 vh 0 h))
  let wy := nifft c (tab M (fun h => deriv c 1 h * at2 uh 0 h))
  let dwy := nifft c (tab M (fun h => deriv c 1 h * at2 vh 0 h))
  let conv := nfft c (tab G (fun x =>
    (u.getD x 0 * dwx.getD x 0 + du.getD x 0 * wx.getD x 0) + (v.getD x 0 * dwy.getD x 0 + dv.getD x 0 * wy.getD x 0)))
  tab2 1 M (fun _ h => -scale * conv.getD h 0)

section Generic
variable {X Y : Type} {R : (X → ℂ) → (Y → ℂ) → Prop} {u : X}

theorem phys_rel (hM : FunMod₂ R) (c : Cfg ℂ) (C : ℕ) {f : X → MC ℂ} {f' : Y → MC ℂ} (hf : RelM R f f') :
    RelM R (fun x => tabC C (fun ch => nifft c ((f x).getD ch #[])))
      (fun v => tabC C (fun ch => nifft c ((f' v).getD ch #[]))) :=
  hM.tabC_rel C _ _ (fun ch _ => hM.nifft_rel c _ _ (hf.row ch))

theorem dphys_rel (hM : FunMod₂ R) (c : Cfg ℂ) (σ : ℕ → ℂ) {f : X → MC ℂ} {f' : Y → MC ℂ} (hf : RelM R f f') (ch : ℕ) :
    RelA R (fun x => nifft c (tab (modes c) (fun h => σ h * at2 (f x) ch h)))
      (fun v => nifft c (tab (modes c) (fun h => σ h * at2 (f' v) ch h))) :=
  hM.nifft_rel c _ _ (hM.tab_rel _ _ _ (fun h _ => hM.smul _ (hf ch h)))

theorem convection_rel (hR : FunAlg₂ R u) (c : Cfg ℂ) (C : ℕ) (scale : ℂ) (single conservative : Bool)
    {f : X → MC ℂ} {f' : Y → MC ℂ} (hf : RelM R f f') :
    RelM R (fun x => convection c C scale single conservative (f x))
      (fun v => convectionJvp c C scale single conservative (f u) (f' v)) := by
  have hM := hR.toFunMod₂
  intro ch h
  cases single <;> cases conservative
  · -- multi-channel, non-conservative
    simp only [convection, convectionJvp, Bool.false_eq_true, if_false]
    refine hM.tab2_rel _ _ _ _ (fun i _ h _ => hM.smul _ ?_) ch h
    refine hM.tabC_rel _ _ _ (fun i _ h => hM.nfft_rel c _ _ (fun x => ?_) h) i h
    refine hM.tab_rel _ _ _ (fun x _ => hM.sumList_range _ _ _ (fun j _ => ?_)) x
    refine hR.mul (phys_rel hM c C hf j x) ?_
    exact hM.tabC_rel _ _ _ (fun ij _ => dphys_rel hM c _ hf _) _ x
  · -- multi-channel, conservative
    simp only [convection, convectionJvp, Bool.false_eq_true, if_false, if_true]
    refine hM.tab2_rel _ _ _ _ (fun i _ h _ => hM.smul _ (hM.smul _ ?_)) ch h
    refine hM.sumList_range _ _ _ (fun j _ => hM.smul _ ?_)
    refine hM.tabC_rel _ _ _ (fun ij _ h => hM.nfft_rel c _ _ (fun x => ?_) h) _ h
    refine hM.tab_rel _ _ _ (fun x _ => ?_) x
    exact hR.mul (phys_rel hM c C hf _ x) (phys_rel hM c C hf _ x)
  · -- single channel, non-conservative
    simp only [convection, convectionJvp, Bool.false_eq_true, if_false, if_true]
    refine hM.tab2_rel _ _ _ _ (fun i _ h _ => hM.smul _ ?_) ch h
    refine hM.nfft_rel c _ _ (fun x => ?_) h
    refine hM.tab_rel _ _ _ (fun x _ => hM.sumList_range _ _ _ (fun d _ => ?_)) x
    refine hR.mul (phys_rel hM c C hf 0 x) ?_
    exact hM.tabC_rel _ _ _ (fun d _ => dphys_rel hM c _ hf _) _ x
  · -- single channel, conservative
    simp only [convection, convectionJvp, if_true]
    refine hM.tab2_rel _ _ _ _ (fun i _ h _ => hM.smul _ (hM.smul _ ?_)) ch h
    refine hM.tabC_rel _ _ _ (fun i _ h => hM.nfft_rel c _ _ (fun x => ?_) h) i h
    refine hM.tab_rel _ _ _ (fun x _ => ?_) x
    exact hR.mul (phys_rel hM c C hf _ x) (phys_rel hM c C hf _ x)

theorem gradientNorm_rel (hR : FunAlg₂ R u) (c : Cfg ℂ) (C : ℕ) (scale : ℂ) (zeroFix : Bool)
    {f : X → MC ℂ} {f' : Y → MC ℂ} (hf : RelM R f f') :
    RelM R (fun x => gradientNorm c C scale zeroFix (f x))
      (fun v => gradientNormJvp c C scale zeroFix (f u) (f' v)) := by
  have hM := hR.toFunMod₂
  intro ch h
  simp only [gradientNorm, gradientNormJvp]
  have hg := hM.tabC_rel (C * c.D) _ _
    (fun cd _ => dphys_rel hM c (fun h => Nonlin.deriv c (cd % c.D) h) hf (cd / c.D))
  refine hM.tab2_rel _ _ _ _ (fun ch _ h _ => hM.smul _ (hM.smul _ ?_)) ch h
  refine hM.tabC_rel _ _ _ (fun ch _ h => hM.nfft_rel c _ _ (fun x => ?_) h) ch h
  refine hM.tab2_rel _ _ _ _ (fun ch _ x _ => ?_) ch x
  cases zeroFix
  on_goal 1 => simp only [Bool.false_eq_true, if_false]
  on_goal 2 =>
    simp only [if_true]
    refine hM.sub ?_ (hM.tab_rel _ _ _ (fun ch _ => hM.div_const _ (hM.sumRange_rel _ _ _ (fun x _ => ?_))) ch)
  -- the squared gradient and its tangent, entry by entry
  all_goals
    exact hM.tab2_rel _ _ _ _ (fun ch _ x _ => hM.sumList_range _ _ _ (fun d _ => hR.mul (hg _ x) (hg _ x))) _ _

theorem vorticity2d_rel (hR : FunAlg₂ R u) (c : Cfg ℂ) (scale : ℂ) (inj : Option (ℕ × ℂ))
    {f : X → MC ℂ} {f' : Y → MC ℂ} (hf : RelM R f f') :
    RelM R (fun x => vorticity2d c scale inj (f x)) (fun v => vorticity2dJvp c scale (f u) (f' v)) := by
  have hM := hR.toFunMod₂
  intro ch h
  simp only [vorticity2d, vorticity2dJvp]
  -- stream-function velocities: `nifft(σ · (invLap · ŵ))`
  have hpsi := fun σ : ℕ → ℂ => hM.nifft_rel c _ _ (hM.tab_rel (modes c) _ _ (fun h _ => hM.smul (σ h)
    (hM.tab_rel (modes c) _ _ (fun h _ => hM.smul (invLapOne c h) (hf 0 h)) h)))
  refine hM.tab2_rel _ _ _ _ (fun _ _ h _ => ?_) ch h
  -- the injection adds a constant to the base term
  have hinj : ∀ (k : ℂ) {g : X → ℂ} {g' : Y → ℂ}, R g g' → R (fun y => g y + k) g' := fun k _ _ hg => by
    simpa only [add_zero] using hM.add hg (hR.const k)
  rcases inj with _ | ⟨m, gam⟩
  on_goal 2 =>
    simp only []
    split_ifs
    all_goals refine hinj _ ?_
  all_goals
    refine hM.smul _ (hM.nfft_rel c _ _ (fun x => hM.tab_rel _ _ _ (fun x _ => ?_) x) h)
    exact hM.add (hR.mul (hpsi _ x) (dphys_rel hM c _ hf 0 x)) (hR.mul (hpsi _ x) (dphys_rel hM c _ hf 0 x))

end Generic

end Exponax.DiffTerms
