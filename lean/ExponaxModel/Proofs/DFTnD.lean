import Mathlib.Algebra.BigOperators.ModEq
import ExponaxModel.Proofs.DFT1DMain
import ExponaxModel.Proofs.StoredModes
/-
General dimension `D ≥ 1`: the model's phase of a stored mode as a digit-wise dot product modulo `N`, the two
transforms as sums of powers of `ζ_N`, the round trip `irfftnM D N (rfftnM D N u) = u` for real `u`, Parseval, the c2r
transform as adjoint of the weighted half-spectrum pairing (`Conserve.real_inner_irfftn`, any stored spectrum) and the
mean mode `(rfftn v)₀ = Σ v` (`Conserve.rfftnM_zero_mode`).
-/
namespace Exponax.DFT
open Exponax Exponax.Layout Exponax.Transform Finset

theorem phaseK_eq_sum (D N : ℕ) (k : List ℤ) (j : ℕ) :
    phaseK D N k j = ∑ d ∈ range D, k.getD d 0 * (digit D N j d : ℤ) := by
  have : phaseK D N k j = sumList ((List.range D).map (fun d => k.getD d 0 * (digit D N j d : ℤ))) := rfl
  rw [this, sumList_eq, list_range_map_sum]

theorem phaseK_wnFlat_modEq (E N h j : ℕ) (hh : h < numModes (E + 1) N) :
    phaseK (E + 1) N (wnFlat (E + 1) N h) j
      ≡ dotPhase E N (h / (N / 2 + 1)) (j / N)
          + ((h % (N / 2 + 1) : ℕ) : ℤ) * ((j % N : ℕ) : ℤ) [ZMOD (N : ℤ)] := by
  have hlast : (wnFlat (E + 1) N h).getD E 0 = ((h % (N / 2 + 1) : ℕ) : ℤ) :=
    AliasND.kvec_last E N h hh (Fin.last E) rfl
  rw [phaseK_eq_sum, Finset.sum_range_succ, digit_succ_last, hlast]
  unfold dotPhase
  refine Int.ModEq.add_right _ (Int.ModEq.sum fun d hd => ?_)
  have hd' := Finset.mem_range.mp hd
  have hlead : (wnFlat (E + 1) N h).getD d 0 = fftfreq N (digit E N (h / (N / 2 + 1)) d) :=
    AliasND.kvec_leading E N h hh ⟨d, Nat.lt_succ_of_lt hd'⟩ hd'
  rw [hlead, digit_succ_of_lt _ _ _ _ hd']
  exact (fftfreq_modEq N _).mul_right _

theorem twiddle_phaseK_wnFlat (E N h j : ℕ) (hh : h < numModes (E + 1) N) :
    (twiddle N (phaseK (E + 1) N (wnFlat (E + 1) N h) j) : ℂ)
      = zeta N ^ (dotPhase E N (h / (N / 2 + 1)) (j / N)
          + ((h % (N / 2 + 1) : ℕ) : ℤ) * ((j % N : ℕ) : ℤ)) := by
  rw [twiddle_eq_zpow]
  exact zeta_zpow_eq_of_modEq N (phaseK_wnFlat_modEq E N h j hh)

/-- `F(h', l) = Σ_j u_j ζ^{h'·j' + l·i}` where `j = j'·N + i` (`h'` : first `E` axes, `l` : last axis) -/
noncomputable def dftn (E N : ℕ) (u : Array ℂ) (h' l : ℕ) : ℂ :=
  ∑ j ∈ range (N ^ (E + 1)),
    u.getD j 0 * zeta N ^ (dotPhase E N h' (j / N) + (l : ℤ) * ((j % N : ℕ) : ℤ))

theorem rfftn_getD (E N : ℕ) (hN : 0 < N) (u : Array ℂ) (h : ℕ) (hh : h < numModes (E + 1) N) :
    (rfftnM (E + 1) N u).getD h 0 = dftn E N u (h / (N / 2 + 1)) (h % (N / 2 + 1)) := by
  rw [rfftnM_getD (E + 1) N hN u h hh, dftn]
  apply Finset.sum_congr rfl
  intro j _
  rw [twiddle_phaseK_wnFlat E N h j hh]

theorem irfftn_getD (E N : ℕ) (hN : 0 < N) (c : Array ℂ) (J : ℕ) (hJ : J < N ^ (E + 1)) :
    (irfftnM (E + 1) N c).getD J 0
      = (∑ h ∈ range (N ^ E * (N / 2 + 1)), (herm_weight 1 N (h % (N / 2 + 1)) : ℂ) *
          (((c.getD h 0 * zeta N ^ (-(dotPhase E N (h / (N / 2 + 1)) (J / N)
              + ((h % (N / 2 + 1) : ℕ) : ℤ) * ((J % N : ℕ) : ℤ)))).re : ℝ) : ℂ))
        / ((N ^ (E + 1) : ℕ) : ℂ) := by
  rw [irfftnM_getD (E + 1) N hN c J hJ, numModes_succ]
  refine congrArg (· / _) (Finset.sum_congr rfl fun h hh => ?_)
  have hh' : h < numModes (E + 1) N := by rw [numModes_succ]; exact Finset.mem_range.mp hh
  rw [herm_weight_succ E N h hh', twiddle_neg, twiddle_phaseK_wnFlat E N h J hh', ← zpow_neg]

theorem dftn_eq (E N : ℕ) (_ : 0 < N) (u : Array ℂ) (h' l : ℕ) :
    dftn E N u h' l = ∑ j' ∈ range (N ^ E), ∑ i ∈ range N,
      u.getD (j' * N + i) 0 * zeta N ^ (dotPhase E N h' j' + (l : ℤ) * (i : ℤ)) := by
  rw [dftn, pow_succ, sum_range_mul]
  apply Finset.sum_congr rfl
  intro x _
  apply Finset.sum_congr rfl
  intro y hy
  have hy' := Finset.mem_range.mp hy
  rw [pair_div N x y hy', pair_mod N x y hy']

/-- summing out the first `E` axes leaves a 1-D DFT of the row through `J'` -/
theorem nd_inner (E N : ℕ) (hN : 0 < N) (u : Array ℂ) (l J' I : ℕ) (hJ' : J' < N ^ E) :
    ∑ h' ∈ range (N ^ E),
        dftn E N u h' l * zeta N ^ (-(dotPhase E N h' J' + (l : ℤ) * (I : ℤ)))
      = ((N ^ E : ℕ) : ℂ) *
          (dft N (tab N (fun i => u.getD (J' * N + i) 0)) l * zeta N ^ (-((l : ℤ) * (I : ℤ)))) := by
  simp only [dftn_eq E N hN, Finset.sum_mul]
  rw [Finset.sum_comm]
  have hinner : ∀ j' ∈ range (N ^ E),
      ∑ h' ∈ range (N ^ E), ∑ i ∈ range N,
          u.getD (j' * N + i) 0 * zeta N ^ (dotPhase E N h' j' + (l : ℤ) * (i : ℤ))
            * zeta N ^ (-(dotPhase E N h' J' + (l : ℤ) * (I : ℤ)))
        = ∑ i ∈ range N, u.getD (j' * N + i) 0 * zeta N ^ ((l : ℤ) * (i : ℤ) - (l : ℤ) * (I : ℤ))
            * (if j' = J' then ((N ^ E : ℕ) : ℂ) else 0) := by
    intro j' hj'
    rw [Finset.sum_comm]
    apply Finset.sum_congr rfl
    intro i _
    rw [← dotPhase_orth N hN E j' J' (Finset.mem_range.mp hj') hJ', Finset.mul_sum]
    apply Finset.sum_congr rfl
    intro h' _
    rw [mul_assoc, mul_assoc, ← zpow_add₀ (zeta_ne_zero N), ← zpow_add₀ (zeta_ne_zero N)]
    congr 2
    ring
  rw [Finset.sum_congr rfl hinner, Finset.sum_eq_single_of_mem J' (Finset.mem_range.mpr hJ')]
  · simp only [if_true]
    unfold dft
    rw [Finset.sum_mul, Finset.mul_sum]
    apply Finset.sum_congr rfl
    intro i hi
    rw [tab_getD _ _ _ _ (Finset.mem_range.mp hi), sub_eq_add_neg, zpow_add₀ (zeta_ne_zero N)]
    ring
  · intro j' _ hne
    simp [hne]

theorem irfftn_rfftn_succ (E N : ℕ) (hN : 0 < N) (u : Array ℂ)
    (hu : ∀ j < N ^ (E + 1), (u.getD j 0).im = 0) (J : ℕ) (hJ : J < N ^ (E + 1)) :
    (irfftnM (E + 1) N (rfftnM (E + 1) N u)).getD J 0 = u.getD J 0 := by
  have hJ' : J / N < N ^ E := Nat.div_lt_of_lt_mul (by rw [pow_succ'] at hJ; exact hJ)
  have hI : J % N < N := Nat.mod_lt _ hN
  set v : Array ℂ := tab N (fun i => u.getD (J / N * N + i) 0) with hv
  have hvreal : ∀ i < N, (v.getD i 0).im = 0 := by
    intro i hi
    rw [hv, tab_getD _ _ _ _ hi]
    apply hu
    calc J / N * N + i < J / N * N + N := by omega
      _ = (J / N + 1) * N := by ring
      _ ≤ N ^ E * N := Nat.mul_le_mul_right _ hJ'
      _ = N ^ (E + 1) := (pow_succ _ _).symm
  rw [irfftn_getD E N hN _ J hJ]
  -- replace the stored spectrum by `dftn`
  have h1 : ∀ h ∈ range (N ^ E * (N / 2 + 1)),
      (herm_weight 1 N (h % (N / 2 + 1)) : ℂ) *
          ((((rfftnM (E + 1) N u).getD h 0 * zeta N ^ (-(dotPhase E N (h / (N / 2 + 1)) (J / N)
              + ((h % (N / 2 + 1) : ℕ) : ℤ) * ((J % N : ℕ) : ℤ)))).re : ℝ) : ℂ)
        = (herm_weight 1 N (h % (N / 2 + 1)) : ℂ) *
          (((dftn E N u (h / (N / 2 + 1)) (h % (N / 2 + 1))
              * zeta N ^ (-(dotPhase E N (h / (N / 2 + 1)) (J / N)
              + ((h % (N / 2 + 1) : ℕ) : ℤ) * ((J % N : ℕ) : ℤ)))).re : ℝ) : ℂ) := by
    intro h hh
    rw [rfftn_getD E N hN u h (by rw [numModes_succ]; exact Finset.mem_range.mp hh)]
  rw [Finset.sum_congr rfl h1]
  have h2 := sum_range_mul_div_mod (N ^ E) (N / 2 + 1) (fun h' l : ℕ =>
      (herm_weight 1 N l : ℂ) *
          (((dftn E N u h' l * zeta N ^ (-(dotPhase E N h' (J / N)
              + ((l : ℕ) : ℤ) * ((J % N : ℕ) : ℤ)))).re : ℝ) : ℂ))
  rw [h2, Finset.sum_comm]
  -- summing out the leading axes (`nd_inner`) leaves `N^E` times the 1-D half-layout inversion sum of the row `v` through `J`,
  -- which `half_inversion` evaluates
  have h3 : ∀ l ∈ range (N / 2 + 1),
      ∑ h' ∈ range (N ^ E), (herm_weight 1 N l : ℂ) *
          (((dftn E N u h' l * zeta N ^ (-(dotPhase E N h' (J / N)
              + ((l : ℕ) : ℤ) * ((J % N : ℕ) : ℤ)))).re : ℝ) : ℂ)
        = ((N ^ E : ℕ) : ℂ) * ((herm_weight 1 N l : ℂ) *
            (((dft N v l * zeta N ^ (-((l : ℤ) * ((J % N : ℕ) : ℤ)))).re : ℝ) : ℂ)) := by
    intro l _
    rw [← Finset.mul_sum, ← Complex.ofReal_sum, ← Complex.re_sum, nd_inner E N hN u l (J / N) (J % N) hJ',
      ← hv, show ((N ^ E : ℕ) : ℂ) = (((N ^ E : ℕ) : ℝ) : ℂ) by push_cast; rfl, Complex.re_ofReal_mul]
    push_cast
    ring
  rw [Finset.sum_congr rfl h3, ← Finset.mul_sum, half_inversion N hN v hvreal (J % N) hI,
    hv, tab_getD _ _ _ _ hI, Nat.div_add_mod']
  have hNne : ((N ^ E : ℕ) : ℂ) * (N : ℂ) ≠ 0 := by exact_mod_cast (pow_pos hN (E + 1)).ne'
  rw [pow_succ, Nat.cast_mul, mul_left_comm, mul_div_cancel_right₀ _ hNne]

theorem irfftn_rfftn (D N : ℕ) (hD : 0 < D) (hN : 0 < N) (u : Array ℂ)
    (hu : ∀ j < N ^ D, (u.getD j 0).im = 0) (j : ℕ) (hj : j < N ^ D) :
    (irfftnM D N (rfftnM D N u)).getD j 0 = u.getD j 0 := by
  obtain ⟨E, rfl⟩ : ∃ E, D = E + 1 := ⟨D - 1, by omega⟩
  exact irfftn_rfftn_succ E N hN u hu j hj

theorem irfftn_rfftn_array (D N : ℕ) (hD : 0 < D) (hN : 0 < N) (u : Array ℂ) (hsz : u.size = N ^ D)
    (hu : ∀ (j : ℕ) (hj : j < u.size), (u[j]).im = 0) :
    irfftnM D N (rfftnM D N u) = u := by
  refine array_ext_getD _ _ (N ^ D) (irfftnM_size D N _) hsz (irfftn_rfftn D N hD hN u fun j hj => ?_)
  have hj' : j < u.size := by omega
  simpa [Array.getD, hj'] using hu j hj'

theorem irfftn_rfftn_ofReal (D N : ℕ) (hD : 0 < D) (hN : 0 < N) (x : ℕ → ℝ) :
    irfftnM D N (rfftnM D N (tab (N ^ D) (fun j => ((x j : ℝ) : ℂ))))
      = tab (N ^ D) (fun j => ((x j : ℝ) : ℂ)) := by
  apply irfftn_rfftn_array D N hD hN _ (tab_size _ _)
  intro j hj
  rw [tab_getElem]
  simp

theorem irfft_rfft_1d_ofReal (N : ℕ) (hN : 0 < N) (x : ℕ → ℝ) :
    irfftnM 1 N (rfftnM 1 N (tab N (fun j => ((x j : ℝ) : ℂ)))) = tab N (fun j => ((x j : ℝ) : ℂ)) := by
  have h := irfftn_rfftn_ofReal 1 N one_pos hN x
  rwa [pow_one] at h

theorem irfft_rfft_2d (N : ℕ) (hN : 0 < N) (u : Array ℂ)
    (hu : ∀ j < N ^ 2, (u.getD j 0).im = 0) (j : ℕ) (hj : j < N ^ 2) :
    (irfftnM 2 N (rfftnM 2 N u)).getD j 0 = u.getD j 0 :=
  irfftn_rfftn 2 N (by norm_num) hN u hu j hj

theorem irfft_rfft_3d (N : ℕ) (hN : 0 < N) (u : Array ℂ)
    (hu : ∀ j < N ^ 3, (u.getD j 0).im = 0) (j : ℕ) (hj : j < N ^ 3) :
    (irfftnM 3 N (rfftnM 3 N u)).getD j 0 = u.getD j 0 :=
  irfftn_rfftn 3 N (by norm_num) hN u hu j hj


theorem dotPhase_cross (E N : ℕ) (hN : 0 < N) (a b : ℕ → ℂ) :
    ∑ h ∈ range (N ^ E), (∑ j ∈ range (N ^ E), a j * zeta N ^ (dotPhase E N h j)) *
        (∑ j ∈ range (N ^ E), b j * zeta N ^ (-(dotPhase E N h j)))
      = ((N ^ E : ℕ) : ℂ) * ∑ j ∈ range (N ^ E), a j * b j := by
  simp only [Finset.sum_mul_sum]
  rw [Finset.sum_comm]
  rw [Finset.mul_sum]
  apply Finset.sum_congr rfl
  intro j hj
  rw [Finset.sum_comm]
  have key : ∀ j' ∈ range (N ^ E),
      ∑ h ∈ range (N ^ E), a j * zeta N ^ (dotPhase E N h j) * (b j' * zeta N ^ (-(dotPhase E N h j')))
        = a j * b j' * (if j = j' then ((N ^ E : ℕ) : ℂ) else 0) := by
    intro j' hj'
    rw [← dotPhase_orth N hN E j j' (Finset.mem_range.mp hj) (Finset.mem_range.mp hj'), Finset.mul_sum]
    apply Finset.sum_congr rfl
    intro h _
    rw [show a j * zeta N ^ (dotPhase E N h j) * (b j' * zeta N ^ (-(dotPhase E N h j')))
        = a j * b j' * (zeta N ^ (dotPhase E N h j) * zeta N ^ (-(dotPhase E N h j'))) by ring,
      ← zpow_add₀ (zeta_ne_zero N), sub_eq_add_neg]
  rw [Finset.sum_congr rfl key]
  simp only [mul_ite, mul_zero, Finset.sum_ite_eq, hj, if_true]
  ring

theorem dotPhase_parseval (E N : ℕ) (hN : 0 < N) (a : ℕ → ℂ) :
    ∑ h ∈ range (N ^ E), ‖∑ j ∈ range (N ^ E), a j * zeta N ^ (dotPhase E N h j)‖ ^ 2
      = ((N ^ E : ℕ) : ℝ) * ∑ j ∈ range (N ^ E), ‖a j‖ ^ 2 := by
  apply Complex.ofReal_injective
  rw [Complex.ofReal_sum, Complex.ofReal_mul, Complex.ofReal_sum]
  simp only [normsq_eq]
  have := dotPhase_cross E N hN a (fun j => (starRingEnd ℂ) (a j))
  rw [Complex.ofReal_natCast, ← this]
  apply Finset.sum_congr rfl
  intro h _
  congr 1
  rw [map_sum]
  apply Finset.sum_congr rfl
  intro j _
  rw [map_mul, conj_zeta_zpow]

theorem dftn_eq_rows (E N : ℕ) (hN : 0 < N) (u : Array ℂ) (h' l : ℕ) :
    dftn E N u h' l = ∑ j' ∈ range (N ^ E),
      dft N (tab N (fun i => u.getD (j' * N + i) 0)) l * zeta N ^ (dotPhase E N h' j') := by
  rw [dftn_eq E N hN]
  apply Finset.sum_congr rfl
  intro j' _
  unfold dft
  rw [Finset.sum_mul]
  apply Finset.sum_congr rfl
  intro i hi
  rw [tab_getD _ _ _ _ (Finset.mem_range.mp hi), zpow_add₀ (zeta_ne_zero N)]
  ring

theorem parseval_succ (E N : ℕ) (hN : 0 < N) (u : Array ℂ)
    (hu : ∀ j < N ^ (E + 1), (u.getD j 0).im = 0) :
    ∑ h ∈ range (numModes (E + 1) N),
        (herm_weight (E + 1) N h : ℝ) * ‖(rfftnM (E + 1) N u).getD h 0‖ ^ 2
      = ((N ^ (E + 1) : ℕ) : ℝ) * ∑ j ∈ range (N ^ (E + 1)), ‖u.getD j 0‖ ^ 2 := by
  have h1 : ∀ h ∈ range (numModes (E + 1) N),
      (herm_weight (E + 1) N h : ℝ) * ‖(rfftnM (E + 1) N u).getD h 0‖ ^ 2
        = (herm_weight 1 N (h % (N / 2 + 1)) : ℝ)
            * ‖dftn E N u (h / (N / 2 + 1)) (h % (N / 2 + 1))‖ ^ 2 := by
    intro h hh
    have hh' := Finset.mem_range.mp hh
    rw [rfftn_getD E N hN u h hh', herm_weight_succ E N h hh']
  rw [Finset.sum_congr rfl h1, numModes_succ]
  have h2 := sum_range_mul_div_mod (N ^ E) (N / 2 + 1) (fun h' l : ℕ =>
      (herm_weight 1 N l : ℝ) * ‖dftn E N u h' l‖ ^ 2)
  rw [h2, Finset.sum_comm]
  have h3 : ∀ l ∈ range (N / 2 + 1),
      ∑ h' ∈ range (N ^ E), (herm_weight 1 N l : ℝ) * ‖dftn E N u h' l‖ ^ 2
        = ((N ^ E : ℕ) : ℝ) * ∑ j' ∈ range (N ^ E),
            (herm_weight 1 N l : ℝ) * ‖dft N (tab N (fun i => u.getD (j' * N + i) 0)) l‖ ^ 2 := by
    intro l _
    simp only [dftn_eq_rows E N hN]
    rw [← Finset.mul_sum, dotPhase_parseval E N hN, ← Finset.mul_sum]
    ring
  rw [Finset.sum_congr rfl h3, ← Finset.mul_sum, Finset.sum_comm]
  have h4 : ∀ j' ∈ range (N ^ E),
      ∑ l ∈ range (N / 2 + 1),
          (herm_weight 1 N l : ℝ) * ‖dft N (tab N (fun i => u.getD (j' * N + i) 0)) l‖ ^ 2
        = (N : ℝ) * ∑ i ∈ range N, ‖u.getD (j' * N + i) 0‖ ^ 2 := by
    intro j' hj'
    have hj'' := Finset.mem_range.mp hj'
    rw [half_parseval N hN]
    · congr 1
      apply Finset.sum_congr rfl
      intro i hi
      rw [tab_getD _ _ _ _ (Finset.mem_range.mp hi)]
    · intro i hi
      rw [tab_getD _ _ _ _ hi]
      apply hu
      calc j' * N + i < j' * N + N := by omega
        _ = (j' + 1) * N := by ring
        _ ≤ N ^ E * N := Nat.mul_le_mul_right _ hj''
        _ = N ^ (E + 1) := (pow_succ _ _).symm
  rw [Finset.sum_congr rfl h4, ← Finset.mul_sum, pow_succ, sum_range_mul]
  push_cast
  ring

theorem parseval_nd (D N : ℕ) (hD : 0 < D) (hN : 0 < N) (u : Array ℂ)
    (hu : ∀ j < N ^ D, (u.getD j 0).im = 0) :
    ∑ j ∈ range (N ^ D), ‖u.getD j 0‖ ^ 2
      = (1 / ((N ^ D : ℕ) : ℝ)) * ∑ h ∈ range (numModes D N),
          (herm_weight D N h : ℝ) * ‖(rfftnM D N u).getD h 0‖ ^ 2 := by
  obtain ⟨E, rfl⟩ : ∃ E, D = E + 1 := ⟨D - 1, by omega⟩
  have hNne : ((N ^ (E + 1) : ℕ) : ℝ) ≠ 0 := by
    exact_mod_cast (pow_pos hN _).ne'
  rw [parseval_succ E N hN u hu, one_div, inv_mul_cancel_left₀ hNne]

end Exponax.DFT

namespace Exponax.Conserve
open Exponax Exponax.Layout Exponax.Transform Exponax.DFT Finset

theorem real_inner_irfftn (D N : ℕ) (hN : 0 < N) (f C : Array ℂ)
    (hf : ∀ j < N ^ D, (f.getD j 0).im = 0) :
    ∑ j ∈ range (N ^ D), f.getD j 0 * (irfftnM D N C).getD j 0
      = ((∑ h ∈ range (numModes D N), (herm_weight D N h : ℝ) *
            (C.getD h 0 * (starRingEnd ℂ) ((rfftnM D N f).getD h 0)).re : ℝ) : ℂ)
          / ((N ^ D : ℕ) : ℂ) := by
  have hterm : ∀ j ∈ range (N ^ D), f.getD j 0 * (irfftnM D N C).getD j 0
      = ((∑ h ∈ range (numModes D N), (herm_weight D N h : ℝ) *
          (C.getD h 0 * (f.getD j 0 * twiddle N (-(phaseK D N (wnFlat D N h) j)))).re : ℝ) : ℂ)
          / ((N ^ D : ℕ) : ℂ) := by
    intro j hj
    have hj' := Finset.mem_range.mp hj
    obtain ⟨r, hr⟩ : ∃ r : ℝ, f.getD j 0 = (r : ℂ) :=
      ⟨(f.getD j 0).re, Complex.ext (Complex.ofReal_re _).symm (by rw [Complex.ofReal_im, hf j hj'])⟩
    rw [irfftnM_getD D N hN C j hj', hr, mul_div_assoc']
    refine congrArg (· / _) ?_
    push_cast
    rw [Finset.mul_sum]
    apply Finset.sum_congr rfl
    intro h _
    rw [show C.getD h 0 * ((r : ℂ) * twiddle N (-(phaseK D N (wnFlat D N h) j)))
        = (r : ℂ) * (C.getD h 0 * twiddle N (-(phaseK D N (wnFlat D N h) j))) by ring,
      Complex.re_ofReal_mul]
    push_cast
    ring
  rw [Finset.sum_congr rfl hterm, ← Finset.sum_div, ← Complex.ofReal_sum, Finset.sum_comm]
  refine congrArg (fun t : ℝ => (t : ℂ) / _) (Finset.sum_congr rfl fun h hh => ?_)
  rw [← Finset.mul_sum, ← Complex.re_sum, ← Finset.mul_sum]
  refine congrArg (fun z : ℂ => (herm_weight D N h : ℝ) * (C.getD h 0 * z).re) ?_
  rw [rfftnM_getD D N hN f h (Finset.mem_range.mp hh), map_sum]
  apply Finset.sum_congr rfl
  intro j hj
  rw [map_mul, conj_twiddle, Complex.conj_eq_iff_im.mpr (hf j (Finset.mem_range.mp hj))]

theorem phaseK_zero_mode (D N j : ℕ) : phaseK D N (wnFlat D N 0) j = 0 := by
  rw [phaseK_eq_sum]
  exact Finset.sum_eq_zero (fun d _ => by rw [wnFlat_zero]; ring)

/-- at the stored mean mode all twiddles are `1` -/
theorem rfftnM_zero_mode (D N : ℕ) (hN : 0 < N) (v : Array ℂ) :
    (rfftnM D N v).getD 0 0 = ∑ j ∈ range (N ^ D), v.getD j 0 := by
  rw [rfftnM_getD D N hN v 0 (shapeSize_pos _ (wavenumberShape_pos D N hN))]
  apply Finset.sum_congr rfl
  intro j _
  rw [phaseK_zero_mode, twiddle_eq_zpow, zpow_zero, mul_one]

end Exponax.Conserve
