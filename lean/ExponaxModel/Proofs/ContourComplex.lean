import ExponaxModel.Proofs.ContourTailCoef
import ExponaxModel.Proofs.Stiffness
/-
C02 / C19 support — the fourteen stored ETDRK coefficients for complex symbols `z = λ·dt`, indexed by `Fin 14`
(`storedCoef`, `exactPhi`, `coefWeight`), against `dt ×` their entire φ-combinations: a contour node `r ζ_j + z`
hits the removable singularity iff `z = −r ζ_j`; off these `M` points the Cauchy estimate of `ContourTail` applies.
Exact arithmetic; IEEE rounding of the closed forms near a node is not modelled.
-/
namespace Exponax.ContourComplex
open Exponax Exponax.Spec Exponax.Gen.Etdrk Exponax.ContourTail

/-- the node hypothesis of `storedCoef_error`, as an exclusion set -/
theorem nodes_ne_zero_iff (M : ℕ) (r z : ℂ) :
    (∀ ζ ∈ (roots_of_unity M : List ℂ), r * ζ + z ≠ 0)
      ↔ ∀ ζ ∈ (roots_of_unity M : List ℂ), z ≠ -(r * ζ) :=
  forall₂_congr (fun _ _ => not_congr add_eq_zero_iff_eq_neg')

theorem norm_eq_of_node_eq_zero (M : ℕ) (r z ζ : ℂ) (hζ : ζ ∈ (roots_of_unity M : List ℂ))
    (h : r * ζ + z = 0) : ‖z‖ = ‖r‖ := by
  rw [add_eq_zero_iff_eq_neg'.mp h, norm_neg, norm_mul, norm_of_mem_roots M ζ hζ, mul_one]

theorem excluded_of_norm_ne_one (M : ℕ) (z : ℂ) (h : ‖z‖ ≠ 1) :
    ∀ ζ ∈ (roots_of_unity M : List ℂ), z ≠ -(1 * ζ) :=
  (nodes_ne_zero_iff M 1 z).mp (nodes_ne_zero_of_norm_ne M 1 z (by rwa [norm_one]))

/-- `‖z‖ ≠ ‖r‖` is sufficient, not necessary: every real `z` (e.g. `z = ±1`) is outside for even `M` -/
theorem excluded_of_real (M : ℕ) (hM : 0 < M) (hev : M % 2 = 0) (x : ℝ) :
    ∀ ζ ∈ (roots_of_unity M : List ℂ), (x : ℂ) ≠ -(1 * ζ) := by
  have h := Stiffness.nodes_ne_zero M hM hev 1 x one_ne_zero
  rw [Complex.ofReal_one] at h
  exact (nodes_ne_zero_iff M 1 x).mp h

/-- the closed-form integrands at a vanishing node are literally `0/0`: all numerators and all
    denominators of `Gen.Etdrk.E?_scan_body_?` vanish at `lr = 0` (IEEE: NaN; Lean's total division
    returns `0`, which is NOT the limit value `φ(0)`, see `ContourComplexNodes.lean`) -/
theorem integrands_zero_over_zero (w : ℂ) (hw : w = 0) :
    (Complex.exp w - 1 = 0 ∧ w = 0) ∧ (Complex.exp w - 1 - w = 0 ∧ w ^ 2 = 0) ∧
    (Complex.exp (w / 2) - 1 = 0 ∧ w = 0) ∧
    (-4 - w + Complex.exp w * (4 - 3 * w + w ^ 2) = 0 ∧ w ^ 3 = 0) ∧
    (2 + w + Complex.exp w * (-2 + w) = 0 ∧ w ^ 3 = 0) ∧
    (-4 - 3 * w - w ^ 2 + Complex.exp w * (4 - w) = 0 ∧ w ^ 3 = 0) := by
  subst hw
  simp

/-- the regenerated integrands ARE these quotients (`lr = r ζ + L·dt`) -/
theorem scan_bodies_as_quotients (L r ζ : ℂ) :
    E1_scan_body_0 L r ζ = (Complex.exp (r * ζ + L) - 1) / (r * ζ + L) ∧
    E2_scan_body_1 L r ζ = (Complex.exp (r * ζ + L) - 1 - (r * ζ + L)) / (r * ζ + L) ^ 2 ∧
    E4_scan_body_0 L r ζ = (Complex.exp ((r * ζ + L) / 2) - 1) / (r * ζ + L) ∧
    E4_scan_body_1 L r ζ = (-4 - (r * ζ + L) + Complex.exp (r * ζ + L)
        * (4 - 3 * (r * ζ + L) + (r * ζ + L) ^ 2)) / (r * ζ + L) ^ 3 ∧
    E4_scan_body_2 L r ζ = (2 + (r * ζ + L) + Complex.exp (r * ζ + L) * (-2 + (r * ζ + L)))
        / (r * ζ + L) ^ 3 ∧
    E4_scan_body_3 L r ζ = (-4 - 3 * (r * ζ + L) - (r * ζ + L) ^ 2
        + Complex.exp (r * ζ + L) * (4 - (r * ζ + L))) / (r * ζ + L) ^ 3 :=
  ⟨E1_scan_body_0_eq L r ζ, E2_scan_body_1_eq L r ζ,
    E4_scan_body_0_eq L r ζ, E4_scan_body_1_eq L r ζ,
    E4_scan_body_2_eq L r ζ, E4_scan_body_3_eq L r ζ⟩

/-- the exact values of the fourteen stored coefficients divided by `dt`: the ENTIRE Cox–Matthews φ-combinations
    at `z = λ·dt` -/
noncomputable def exactPhi (z : ℂ) : Fin 14 → ℂ :=
  ![phi1e z, phi1e z, phi2e z,
    phi1e (z / 2) / 2, phi1e z, phi1e z - 3 * phi2e z + 4 * phi3e z, 4 * phi2e z - 8 * phi3e z,
    4 * phi3e z - phi2e z,
    phi1e (z / 2) / 2, phi1e (z / 2) / 2, phi1e (z / 2) / 2, phi1e z - 3 * phi2e z + 4 * phi3e z,
    phi2e z - 2 * phi3e z, 4 * phi3e z - phi2e z]

/-- `k_i = Σ |a_j|/j!` for the combination `Σ a_j φ_j` (`1/2` for the half-step `φ₁(z/2)/2`) -/
noncomputable def coefWeight : Fin 14 → ℝ :=
  ![1, 1, 1 / 2, 1 / 2, 1, 19 / 6, 10 / 3, 7 / 6, 1 / 2, 1 / 2, 1 / 2, 19 / 6, 5 / 6, 7 / 6]

section links
variable (dt lam r z : ℂ) (M : ℕ)
theorem storedCoef_0 : storedCoef dt lam M r 0 = E1_coef_1 dt lam M r := rfl
theorem storedCoef_1 : storedCoef dt lam M r 1 = E2_coef_1 dt lam M r := rfl
theorem storedCoef_2 : storedCoef dt lam M r 2 = E2_coef_2 dt lam M r := rfl
theorem storedCoef_3 : storedCoef dt lam M r 3 = E3_coef_1 dt lam M r := rfl
theorem storedCoef_4 : storedCoef dt lam M r 4 = E3_coef_2 dt lam M r := rfl
theorem storedCoef_5 : storedCoef dt lam M r 5 = E3_coef_3 dt lam M r := rfl
theorem storedCoef_6 : storedCoef dt lam M r 6 = E3_coef_4 dt lam M r := rfl
theorem storedCoef_7 : storedCoef dt lam M r 7 = E3_coef_5 dt lam M r := rfl
theorem storedCoef_8 : storedCoef dt lam M r 8 = E4_coef_1 dt lam M r := rfl
theorem storedCoef_9 : storedCoef dt lam M r 9 = E4_coef_2 dt lam M r := rfl
theorem storedCoef_10 : storedCoef dt lam M r 10 = E4_coef_3 dt lam M r := rfl
theorem storedCoef_11 : storedCoef dt lam M r 11 = E4_coef_4 dt lam M r := rfl
theorem storedCoef_12 : storedCoef dt lam M r 12 = E4_coef_5 dt lam M r := rfl
theorem storedCoef_13 : storedCoef dt lam M r 13 = E4_coef_6 dt lam M r := rfl
end links

theorem coefWeight_nonneg : ∀ i : Fin 14, 0 ≤ coefWeight i := by
  unfold coefWeight
  simp only [Fin.forall_fin_succ, Matrix.cons_val_zero, Matrix.cons_val_succ]
  norm_num

theorem coefWeight_le : ∀ i : Fin 14, coefWeight i ≤ 10 / 3 := by
  unfold coefWeight
  simp only [Fin.forall_fin_succ, Matrix.cons_val_zero, Matrix.cons_val_succ]
  norm_num

theorem rawPhi_of_ne (w : ℂ) (hw : w ≠ 0) (i : Fin 14) : rawPhi w i = exactPhi w i := by
  have h2 : w / 2 ≠ 0 := div_ne_zero hw two_ne_zero
  simp only [rawPhi, exactPhi, phi1e_of_ne _ hw, phi2e_of_ne _ hw, phi3e_of_ne _ hw,
    phi1e_of_ne _ h2]

theorem differentiable_exactPhi : ∀ i : Fin 14, Differentiable ℂ (fun w => exactPhi w i) := by
  have d1 := differentiable_phi1e
  have d2 := differentiable_phi2e
  have d3 := differentiable_phi3e
  have dh := differentiable_half
  have dC : Differentiable ℂ (fun w => phi1e w - 3 * phi2e w + 4 * phi3e w) :=
    (d1.sub (d2.const_mul 3)).add (d3.const_mul 4)
  have dD : Differentiable ℂ (fun w => 4 * phi2e w - 8 * phi3e w) :=
    (d2.const_mul 4).sub (d3.const_mul 8)
  have dE : Differentiable ℂ (fun w => 4 * phi3e w - phi2e w) := (d3.const_mul 4).sub d2
  have dF : Differentiable ℂ (fun w => phi2e w - 2 * phi3e w) := d2.sub (d3.const_mul 2)
  unfold exactPhi
  simp only [Fin.forall_fin_succ, Matrix.cons_val_zero, Matrix.cons_val_succ]
  exact ⟨d1, d1, d2, dh, d1, dC, dD, dE, dh, dh, dh, dC, dF, dE, fun i => i.elim0⟩

theorem norm_exactPhi_le_max (w : ℂ) : ∀ i : Fin 14,
    ‖exactPhi w i‖ ≤ coefWeight i * max 1 (Real.exp w.re) := by
  have h1 := norm_phi1e_le w
  have h2 := norm_phi2e_le w
  have h3 := norm_phi3e_le w
  have n (k : ℕ) [k.AtLeastTwo] : ‖(OfNat.ofNat k : ℂ)‖ ≤ OfNat.ofNat k := (Complex.norm_ofNat k).le
  have hA : ‖phi1e w‖ ≤ 1 * max 1 (Real.exp w.re) := h1.trans_eq (one_mul _).symm
  have hB : ‖phi2e w‖ ≤ 1 / 2 * max 1 (Real.exp w.re) := h2.trans_eq (by ring)
  have hH := norm_half_le w
  have hC : ‖phi1e w - 3 * phi2e w + 4 * phi3e w‖ ≤ 19 / 6 * max 1 (Real.exp w.re) :=
    (norm_add_le_of_le (norm_sub_le_of_le h1 (norm_mul_le_of_le (n 3) h2))
      (norm_mul_le_of_le (n 4) h3)).trans_eq (by ring)
  have hD : ‖4 * phi2e w - 8 * phi3e w‖ ≤ 10 / 3 * max 1 (Real.exp w.re) :=
    (norm_sub_le_of_le (norm_mul_le_of_le (n 4) h2) (norm_mul_le_of_le (n 8) h3)).trans_eq (by ring)
  have hE : ‖4 * phi3e w - phi2e w‖ ≤ 7 / 6 * max 1 (Real.exp w.re) :=
    (norm_sub_le_of_le (norm_mul_le_of_le (n 4) h3) h2).trans_eq (by ring)
  have hF : ‖phi2e w - 2 * phi3e w‖ ≤ 5 / 6 * max 1 (Real.exp w.re) :=
    (norm_sub_le_of_le h2 (norm_mul_le_of_le (n 2) h3)).trans_eq (by ring)
  unfold exactPhi coefWeight
  simp only [Fin.forall_fin_succ, Matrix.cons_val_zero, Matrix.cons_val_succ]
  exact ⟨hA, hA, hB, hH, hA, hC, hD, hE, hH, hH, hH, hC, hF, hE, fun i => i.elim0⟩

theorem storedCoef_error (dt lam r : ℂ) (M : ℕ) (hM : 0 < M) (R : ℝ) (hrR : ‖r‖ < R)
    (hnz : ∀ ζ ∈ (roots_of_unity M : List ℂ), r * ζ + lam * dt ≠ 0) (i : Fin 14) :
    ‖storedCoef dt lam M r i - dt * exactPhi (lam * dt) i‖
      ≤ ‖dt‖ * (coefWeight i * Real.exp (max 0 ((lam * dt).re + R)) * (‖r‖ / R) ^ M
        / (1 - (‖r‖ / R) ^ M)) :=
  coef_error (coefWeight i) (coefWeight_nonneg i) _ dt (lam * dt) r M hM R hrR
    (fun w => rawPhi w i) (fun w => exactPhi w i) (storedCoef_eq_rawMean dt lam r M i)
    (fun w hw => rawPhi_of_ne w hw i) hnz (differentiable_exactPhi i)
    (fun w => norm_exactPhi_le_max w i)

/-- defaults `M = 16`, `r = 1` with Cauchy radius `R = 16`, the minimiser of `e^R / R^16` -/
theorem tail_numeric16 :
    Real.exp 16 * ((1 : ℝ) / 16) ^ 16 / (1 - ((1 : ℝ) / 16) ^ 16) < 4.9e-13 := by
  have h16 : Real.exp 16 < 8886111 := by
    exact_mod_cast exp_nat_lt 16 (by norm_num) 8886111 (by norm_num)
  rw [div_lt_iff₀ (by norm_num)]
  calc Real.exp 16 * ((1 : ℝ) / 16) ^ 16 < 8886111 * ((1 : ℝ) / 16) ^ 16 :=
        mul_lt_mul_of_pos_right h16 (by positivity)
    _ < 4.9e-13 * (1 - ((1 : ℝ) / 16) ^ 16) := by norm_num

theorem norm_one_lt_sixteen : ‖(1 : ℂ)‖ < 16 := norm_one.trans_lt (by norm_num)

/-- the growth-and-tail factor of `storedCoef_error` at the defaults `M = 16`, `r = 1`, with `R = 16` -/
theorem strip_bound (x c : ℝ) (hc : -16 ≤ c) (hx : x ≤ c) :
    Real.exp (max 0 (x + 16)) * (((1 : ℝ) / 16) ^ 16 / (1 - ((1 : ℝ) / 16) ^ 16))
      ≤ 4.9e-13 * Real.exp c := by
  have he : Real.exp (max 0 (x + 16)) ≤ Real.exp c * Real.exp 16 := by
    rw [← Real.exp_add]
    exact Real.exp_le_exp.mpr (max_le (by linarith) (by linarith))
  calc Real.exp (max 0 (x + 16)) * (((1 : ℝ) / 16) ^ 16 / (1 - ((1 : ℝ) / 16) ^ 16))
      ≤ Real.exp c * Real.exp 16 * (((1 : ℝ) / 16) ^ 16 / (1 - ((1 : ℝ) / 16) ^ 16)) :=
        mul_le_mul_of_nonneg_right he (by norm_num)
    _ = Real.exp c * (Real.exp 16 * ((1 : ℝ) / 16) ^ 16 / (1 - ((1 : ℝ) / 16) ^ 16)) := by ring
    _ ≤ Real.exp c * 4.9e-13 := mul_le_mul_of_nonneg_left tail_numeric16.le (Real.exp_pos c).le
    _ = 4.9e-13 * Real.exp c := mul_comm _ _

/-- `k_i · 4.9·10⁻¹³ ≤ 10/3 · 4.9·10⁻¹³ < 1.7·10⁻¹²` -/
theorem storedCoef_error_strip (dt lam : ℂ) (c : ℝ) (hc : -16 ≤ c) (hz : (lam * dt).re ≤ c)
    (hnz : ∀ ζ ∈ (roots_of_unity 16 : List ℂ), lam * dt ≠ -(1 * ζ)) (i : Fin 14) :
    ‖storedCoef dt lam 16 1 i - dt * exactPhi (lam * dt) i‖ ≤ ‖dt‖ * (1.7e-12 * Real.exp c) := by
  have h := storedCoef_error dt lam 1 16 (by norm_num) 16 norm_one_lt_sixteen
    ((nodes_ne_zero_iff 16 1 (lam * dt)).mpr hnz) i
  rw [norm_one, mul_div_assoc, mul_assoc] at h
  refine h.trans (mul_le_mul_of_nonneg_left ?_ (norm_nonneg dt))
  have he := Real.exp_pos c
  calc _ ≤ coefWeight i * (4.9e-13 * Real.exp c) :=
        mul_le_mul_of_nonneg_left (strip_bound (lam * dt).re c hc hz) (coefWeight_nonneg i)
    _ ≤ 10 / 3 * (4.9e-13 * Real.exp c) :=
        mul_le_mul_of_nonneg_right (coefWeight_le i) (by positivity)
    _ ≤ 1.7e-12 * Real.exp c := by linarith

theorem storedCoef_error_halfplane (dt lam : ℂ) (hz : (lam * dt).re ≤ 0)
    (hnz : ∀ ζ ∈ (roots_of_unity 16 : List ℂ), lam * dt ≠ -(1 * ζ)) (i : Fin 14) :
    ‖storedCoef dt lam 16 1 i - dt * exactPhi (lam * dt) i‖ ≤ ‖dt‖ * 1.7e-12 := by
  have h := storedCoef_error_strip dt lam 0 (by norm_num) hz hnz i
  rwa [Real.exp_zero, mul_one] at h

/-- growing modes (Kuramoto–Sivashinsky-type symbols); the exact value is of size `e^20/20 ≈ 2.4·10⁷` -/
theorem storedCoef_error_re_le_20 (dt lam : ℂ) (hz : (lam * dt).re ≤ 20)
    (hnz : ∀ ζ ∈ (roots_of_unity 16 : List ℂ), lam * dt ≠ -(1 * ζ)) (i : Fin 14) :
    ‖storedCoef dt lam 16 1 i - dt * exactPhi (lam * dt) i‖ ≤ ‖dt‖ * 8.3e-4 := by
  refine (storedCoef_error_strip dt lam 20 (by norm_num) hz hnz i).trans
    (mul_le_mul_of_nonneg_left ?_ (norm_nonneg dt))
  have h20 : Real.exp 20 < 485165196 := by
    exact_mod_cast exp_nat_lt 20 (by norm_num) 485165196 (by norm_num)
  linarith

theorem storedCoef_error_strip_of_norm_ne_one (dt lam : ℂ) (c : ℝ) (hc : -16 ≤ c)
    (hz : (lam * dt).re ≤ c) (hn : ‖lam * dt‖ ≠ 1) (i : Fin 14) :
    ‖storedCoef dt lam 16 1 i - dt * exactPhi (lam * dt) i‖ ≤ ‖dt‖ * (1.7e-12 * Real.exp c) :=
  storedCoef_error_strip dt lam c hc hz (excluded_of_norm_ne_one 16 _ hn) i

theorem storedCoef_error_halfplane_of_norm_ne_one (dt lam : ℂ) (hz : (lam * dt).re ≤ 0)
    (hn : ‖lam * dt‖ ≠ 1) (i : Fin 14) :
    ‖storedCoef dt lam 16 1 i - dt * exactPhi (lam * dt) i‖ ≤ ‖dt‖ * 1.7e-12 :=
  storedCoef_error_halfplane dt lam hz (excluded_of_norm_ne_one 16 _ hn) i

/-- an advection symbol `z = 3i` (`Re z ≤ 0`, `‖z‖ ≠ 1`) and a complex one `z = −2 + 5i` (`Re z ≤ 0`) -/
example : ((Complex.I * 3) * 1 : ℂ).re ≤ 0 ∧ ‖(Complex.I * 3) * 1‖ ≠ 1 := by
  constructor
  · simp
  · simp
example : (((-2 : ℂ) + 5 * Complex.I) * 1).re ≤ 0 := by simp
example (i : Fin 14) :
    ‖storedCoef 1 (Complex.I * 3) 16 1 i - 1 * exactPhi (Complex.I * 3 * 1) i‖ ≤ ‖(1 : ℂ)‖ * 1.7e-12 :=
  storedCoef_error_halfplane_of_norm_ne_one 1 (Complex.I * 3) (by simp) (by simp) i
/-- a growing mode `z = 20` -/
example (i : Fin 14) :
    ‖storedCoef 1 20 16 1 i - 1 * exactPhi (20 * 1) i‖ ≤ ‖(1 : ℂ)‖ * 8.3e-4 :=
  storedCoef_error_re_le_20 1 20 (by simp) (excluded_of_norm_ne_one 16 _ (by simp)) i
/-- `z = −1` (`‖z‖ = 1`!) is not excluded -/
example (i : Fin 14) :
    ‖storedCoef 1 ((-1 : ℝ) : ℂ) 16 1 i - 1 * exactPhi (((-1 : ℝ) : ℂ) * 1) i‖ ≤ ‖(1 : ℂ)‖ * 1.7e-12 := by
  refine storedCoef_error_halfplane 1 _ (by simp) ?_ i
  rw [mul_one]
  exact excluded_of_real 16 (by norm_num) (by norm_num) (-1)

end Exponax.ContourComplex
