import ExponaxModel.Generated.BaseStepperGen
import ExponaxModel.Proofs.InterfaceAssembly
import ExponaxModel.Proofs.SpectralOpsEq
import ExponaxModel.Proofs.GuardsGenEq
import Mathlib.Tactic
/-
`BaseStepper` (`exponax/_base_stepper.py`), regenerated in `Generated/BaseStepperGen.lean` by `harness/translate_base.py`:
the order dispatch of `__init__` with `step_fourier`, `step` and `__call__` are the assembly `Interface.etdrkStep` /
`Interface.baseStep` between the model transforms; what `__init__` stores and forwards is written out (`rfl`);
`build_ic_set` threads the key and `mean_metric` averages the per-member metric.
-/
namespace Exponax.BaseStepperGenEq
open Exponax Exponax.Layout Exponax.Transform Exponax.Nonlin Exponax.Gen.Etdrk Exponax.Gen.StepperWiring
open Exponax.Gen.Base Exponax.Interface Exponax.Gen.SpectralOps Exponax.Gen.Guards
open Exponax.EquivND (liftTermND)

theorem copies_pinned :
    BaseStepper_init_copies =
      [("num_spatial_dims", "num_spatial_dims"), ("domain_extent", "domain_extent"), ("num_points", "num_points"),
       ("dt", "dt"), ("num_channels", "num_channels")] := rfl

theorem builders_pinned :
    BaseStepper_init_builders =
      [("linear_operator", "_build_linear_operator"), ("nonlinear_fun", "_build_nonlinear_fun")] := rfl

theorem other_locals_pinned :
    BaseStepper_init_other_locals =
      [("single_channel_shape", "(1,) + wavenumber_shape(self.num_spatial_dims, self.num_points)"),
       ("multi_channel_shape", "(self.num_channels,) + wavenumber_shape(self.num_spatial_dims, self.num_points)")] := rfl

theorem generated_defs_pinned :
    Exponax.Gen.Base.generated_defs =
      ["BaseStepper_step_fourier", "BaseStepper_step", "BaseStepper_call", "build_ic_set", "mean_metric",
       "BaseStepper_init_attr_num_spatial_dims", "BaseStepper_init_attr_domain_extent",
       "BaseStepper_init_attr_num_points", "BaseStepper_init_attr_dt", "BaseStepper_init_attr_num_channels",
       "BaseStepper_init_attr_dx"] := rfl

/-- only `Wave` defines its own `step_fourier` (regenerated and proved equal to the wave model in `Proofs/SpectralOpsEq.lean`);
    NO stepper class defines its own `step` or `__call__` -/
theorem stepper_overrides_pinned : stepper_overrides = [("Wave", ["step_fourier"])] := rfl

theorem no_stepper_overrides_step_or_call :
    ∀ p ∈ stepper_overrides, "step" ∉ p.2 ∧ "__call__" ∉ p.2 := by
  decide

/-- the derivative operator handed to both builders is that of the user's `(D, L, N)`, default `"ij"` indexing -/
theorem derivative_operator_args (a : BaseStepperArgs ℂ) :
    BaseStepper_init_derivative_operator_args a = (a.num_spatial_dims, a.domain_extent, a.num_points, "ij") := rfl

theorem attrs (a : BaseStepperArgs ℂ) :
    BaseStepper_init_attr_num_spatial_dims a = a.num_spatial_dims ∧
    BaseStepper_init_attr_domain_extent a = a.domain_extent ∧
    BaseStepper_init_attr_num_points a = a.num_points ∧
    BaseStepper_init_attr_dt a = a.dt ∧
    BaseStepper_init_attr_num_channels a = a.num_channels ∧
    BaseStepper_init_attr_dx a = a.domain_extent / (a.num_points : ℂ) :=
  ⟨rfl, rfl, rfl, rfl, rfl, rfl⟩

def entrywiseOf (lam : Spec) : (ℂ → ℂ) → Spec := fun f ch h => f (lam ch h)

/-- what `BaseStepper.__init__` builds for `order` and `step_fourier` then evaluates is the ETDRK step of
    that order with the USER's `dt`, `num_circle_points`, `circle_radius`, the class's linear operator and nonlinear
    function; other orders raise -/
theorem BaseStepper_step_fourier_eq (a : BaseStepperArgs ℂ) (lam : Spec) (N : Spec → Spec) (u : Spec) :
    BaseStepper_step_fourier a (entrywiseOf lam) N u
      = if a.order ≤ 4 then some (etdrkStep a.order a.dt lam a.num_circle_points a.circle_radius N u) else none := by
  obtain ⟨D, L, Np, dt, C, p, M, r⟩ := a
  simp only
  rcases p with _ | _ | _ | _ | _ | p
  · rfl
  · rfl
  · rfl
  · rfl
  · rfl
  · have : ¬ (p + 1 + 1 + 1 + 1 + 1 ≤ 4) := by omega
    simp [BaseStepper_step_fourier, this]

theorem BaseStepper_step_fourier_some (a : BaseStepperArgs ℂ) (h : a.order ≤ 4) (lam : Spec) (N : Spec → Spec)
    (u : Spec) :
    BaseStepper_step_fourier a (entrywiseOf lam) N u
      = some (etdrkStep a.order a.dt lam a.num_circle_points a.circle_radius N u) := by
  rw [BaseStepper_step_fourier_eq, if_pos h]

theorem BaseStepper_step_fourier_raises (a : BaseStepperArgs ℂ) (h : 4 < a.order) (lam : Spec) (N : Spec → Spec)
    (u : Spec) : BaseStepper_step_fourier a (entrywiseOf lam) N u = none := by
  rw [BaseStepper_step_fourier_eq, if_neg (by omega)]

theorem BaseStepper_step_fourier_isSome_iff (a : BaseStepperArgs ℂ) (lam : Spec) (N : Spec → Spec) (u : Spec) :
    (BaseStepper_step_fourier a (entrywiseOf lam) N u).isSome = true ↔ a.order ≤ 4 := by
  rw [BaseStepper_step_fourier_eq]
  split <;> simp [*]

/-- the step of `BaseStepper_step_fourier_eq` is `Interface.baseStep` (the assembly the C13 theorems are about) when the class builds symbol and
    nonlinear function from the derivative operator of the user's `(D, L, N)` -/
theorem BaseStepper_step_fourier_baseStep (b : BaseStepperArgs ℂ) (h : b.order ≤ 4) (linop : List ℂ → ℂ)
    (nonlin : Cfg ℂ → MC ℂ → MC ℂ) (u : Spec) :
    BaseStepper_step_fourier b
        (entrywiseOf (fun _ h => linop (kappa (baseCfg b.num_spatial_dims b.num_points b.domain_extent) h)))
        (liftTermND (baseCfg b.num_spatial_dims b.num_points b.domain_extent) b.num_channels
          (nonlin (baseCfg b.num_spatial_dims b.num_points b.domain_extent))) u
      = some (baseStep b linop nonlin u) := by
  rw [BaseStepper_step_fourier_some b h]
  rfl

theorem BaseStepper_step_eq (a : BaseStepperArgs ℂ) (hD : 1 ≤ a.num_spatial_dims)
    (sf : MC ℂ → Option (MC ℂ)) (u : MC ℂ) :
    BaseStepper_step a sf u
      = (sf (tabC a.num_channels (fun i => rfftnM a.num_spatial_dims a.num_points (u.getD i #[])))).map
          (fun v => tabC a.num_channels (fun i => irfftnM a.num_spatial_dims a.num_points (v.getD i #[]))) := by
  unfold BaseStepper_step
  rw [(SpectralOpsEq.fft_eq a.num_channels a.num_spatial_dims a.num_points hD u).1]
  simp only
  cases hs : sf (tabC a.num_channels (fun i => rfftnM a.num_spatial_dims a.num_points (u.getD i #[]))) with
  | none => simp
  | some v =>
    simp only [Option.map_some]
    rw [(SpectralOpsEq.ifft_eq a.num_channels a.num_spatial_dims a.num_points hD v).1]

theorem BaseStepper_call_eq (a : BaseStepperArgs ℂ) (sf : MC ℂ → Option (MC ℂ)) (shape : List ℕ) (u : MC ℂ) :
    BaseStepper_call a sf shape u
      = if shape = a.num_channels :: List.replicate a.num_spatial_dims a.num_points then BaseStepper_step a sf u
        else none := by
  unfold BaseStepper_call
  by_cases h : shape = a.num_channels :: List.replicate a.num_spatial_dims a.num_points
  · rw [if_pos h, if_pos ((BaseStepper_call_accepts_iff _ _ _ _).2 h)]
  · rw [if_neg h, if_neg (fun hh => h ((BaseStepper_call_accepts_iff _ _ _ _).1 hh))]

section ic
variable {Key IC : Type}

def carried (split : Key → Key × Key) (key : Key) : ℕ → Key
  | 0 => key
  | i + 1 => (split (carried split key i)).1

/-- `build_ic_set(gen, num_points=n, num_samples=S, key=key)[i] = gen(n, key = second half of the split of the key carried
    after i samples)` — a deterministic function of the key, `S` samples, sample `i` independent of `S` -/
theorem build_ic_set_eq (split : Key → Key × Key) (g : ℕ → Key → IC) (n S : ℕ) (key : Key) :
    build_ic_set split g n S key = (List.range S).map (fun i => g n (split (carried split key i)).2) := by
  have hfold : (List.range S).foldl (fun (acc : Key × List IC) _ =>
        ((split acc.1).1, acc.2 ++ [g n (split acc.1).2])) (key, [])
      = (carried split key S, (List.range S).map (fun i => g n (split (carried split key i)).2)) := by
    induction S with
    | zero => rfl
    | succ S ih =>
      rw [List.range_succ, List.foldl_append, ih]
      simp [carried]
  unfold build_ic_set
  simp only at hfold ⊢
  rw [hfold]

end ic

theorem mean_metric_eq {S : Type} (f : S → ℂ) (args : List S) :
    mean_metric f args = (args.map f).sum / (args.length : ℂ) := by
  unfold mean_metric
  congr 1
  rw [← List.sum_eq_foldl]

end Exponax.BaseStepperGenEq
