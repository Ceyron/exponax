import ExponaxModel.Proofs.Instances
import ExponaxModel.Generated.Etdrk
/-
What the ETDRK stage formulas `Gen.Etdrk.E0step … E4step` can do, said once per order, for any ring of states:

* `E3step_eq_stages`, `E4step_eq_stages`: the step with its `let`-bound stages written out, over any type with the
  operations: the final update applied to `N` at `u` and at the stages `a`, `b` (and `c`).  Stage definitions such as
  `Diff.stageAV`, `LinearOrder.etd4VecC` unfold to the stage terms there (`lit 2` is the numeral `2` of a ring by `rfl`).
* `E?step_rel`: they carry every relation `R` between two state rings that `+`, `−`, `lit 2 *`, the nonlinear maps and
  multiplication by paired coefficients respect (`StepRel`).  Equivariance under a map is its graph, an invariant is a
  relation that ignores one side (`E?step_pred`), restriction to a block and evaluation at a mode are graphs too.
* `E?step_collapse`: if `N` takes the one value `N u` at every stage visited, the step is `E·u + κ·N u`, `κ` the sum of the
  final weights of that order.  Equilibria (`fixed_E?step_of_defect`) and trajectories on which `N` is constant
  (`E?step_on`, `iterate_on`) come from this.
* `EtdrkAll`: one statement about each of the five methods; invariants (`etdrkAll_pred`) and quantities read by a ring
  homomorphism that `N` does not feed (`etdrkAll_hom`, `etdrkAll_conserved`) in that form.
-/
namespace Exponax.Etdrk
open Exponax.Gen.Etdrk

section StageForm
variable {V : Type} [Add V] [Sub V] [Mul V] [NatCast V]

theorem E3step_eq_stages (E Eh c1 c2 c3 c4 c5 : V) (N : V → V) (u : V) :
    E3step E Eh c1 c2 c3 c4 c5 N u
      = E * u + c3 * N u + c4 * N (Eh * u + c1 * N u)
        + c5 * N (E * u + c2 * (lit 2 * N (Eh * u + c1 * N u) - N u)) := rfl

theorem E4step_eq_stages (E Eh c1 c2 c3 c4 c5 c6 : V) (N : V → V) (u : V) :
    E4step E Eh c1 c2 c3 c4 c5 c6 N u
      = E * u + c4 * N u
        + c5 * lit 2 * (N (Eh * u + c1 * N u) + N (Eh * u + c2 * N (Eh * u + c1 * N u)))
        + c6 * N (Eh * (Eh * u + c1 * N u)
            + c3 * (lit 2 * N (Eh * u + c2 * N (Eh * u + c1 * N u)) - N u)) := rfl

end StageForm

/-- `R` is compatible with the ring operations used by the stage formulas; `Cf e e'` singles out the
    admissible pairs of coefficients -/
structure StepRel {V W : Type} [Ring V] [Ring W] (R : V → W → Prop) (Cf : V → W → Prop) : Prop where
  add : ∀ {a a' : V} {b b' : W}, R a b → R a' b' → R (a + a') (b + b')
  sub : ∀ {a a' : V} {b b' : W}, R a b → R a' b' → R (a - a') (b - b')
  mul : ∀ {e : V} {e' : W} {a : V} {b : W}, Cf e e' → R a b → R (e * a) (e' * b)
  two : Cf (lit 2) (lit 2)

section Rel
variable {V W : Type} [Ring V] [Ring W] {R : V → W → Prop} {Cf : V → W → Prop}
  (hR : StepRel R Cf) {N : V → V} {N' : W → W} (hN : ∀ x y, R x y → R (N x) (N' y))
include hR

theorem E0step_rel {E u : V} {E' u' : W} (hE : Cf E E') (hu : R u u') :
    R (E0step E u) (E0step E' u') := hR.mul hE hu

include hN

theorem E1step_rel {E c1 u : V} {E' c1' u' : W} (hE : Cf E E') (h1 : Cf c1 c1') (hu : R u u') :
    R (E1step E c1 N u) (E1step E' c1' N' u') :=
  hR.add (hR.mul hE hu) (hR.mul h1 (hN _ _ hu))

theorem E2step_rel {E c1 c2 u : V} {E' c1' c2' u' : W} (hE : Cf E E') (h1 : Cf c1 c1') (h2 : Cf c2 c2')
    (hu : R u u') : R (E2step E c1 c2 N u) (E2step E' c1' c2' N' u') := by
  have hn := hN _ _ hu
  have hs1 := hR.add (hR.mul hE hu) (hR.mul h1 hn)
  exact hR.add hs1 (hR.mul h2 (hR.sub (hN _ _ hs1) hn))

theorem E3step_rel {E Eh c1 c2 c3 c4 c5 u : V} {E' Eh' c1' c2' c3' c4' c5' u' : W} (hE : Cf E E')
    (hEh : Cf Eh Eh') (h1 : Cf c1 c1') (h2 : Cf c2 c2') (h3 : Cf c3 c3') (h4 : Cf c4 c4') (h5 : Cf c5 c5')
    (hu : R u u') :
    R (E3step E Eh c1 c2 c3 c4 c5 N u) (E3step E' Eh' c1' c2' c3' c4' c5' N' u') := by
  have hn := hN _ _ hu
  have hn1 := hN _ _ (hR.add (hR.mul hEh hu) (hR.mul h1 hn))
  have hn2 := hN _ _ (hR.add (hR.mul hE hu) (hR.mul h2 (hR.sub (hR.mul hR.two hn1) hn)))
  exact hR.add (hR.add (hR.add (hR.mul hE hu) (hR.mul h3 hn)) (hR.mul h4 hn1)) (hR.mul h5 hn2)

theorem E4step_rel {E Eh c1 c2 c3 c4 c5 c6 u : V} {E' Eh' c1' c2' c3' c4' c5' c6' u' : W} (hE : Cf E E')
    (hEh : Cf Eh Eh') (h1 : Cf c1 c1') (h2 : Cf c2 c2') (h3 : Cf c3 c3') (h4 : Cf c4 c4') (h5 : Cf c5 c5')
    (h6 : Cf c6 c6') (hu : R u u') :
    R (E4step E Eh c1 c2 c3 c4 c5 c6 N u) (E4step E' Eh' c1' c2' c3' c4' c5' c6' N' u') := by
  have hn := hN _ _ hu
  have hs1 := hR.add (hR.mul hEh hu) (hR.mul h1 hn)
  have hn1 := hN _ _ hs1
  have hn2 := hN _ _ (hR.add (hR.mul hEh hu) (hR.mul h2 hn1))
  have hn3 := hN _ _ (hR.add (hR.mul hEh hs1) (hR.mul h3 (hR.sub (hR.mul hR.two hn2) hn)))
  -- the model writes `(c₅ * 2) * (…)`
  have h52 := hR.mul h5 (hR.mul hR.two (hR.add hn1 hn2))
  rw [← mul_assoc, ← mul_assoc] at h52
  exact hR.add (hR.add (hR.add (hR.mul hE hu) (hR.mul h4 hn)) h52) (hR.mul h6 hn3)

end Rel

theorem iterate_rel {V W : Type} (R : V → W → Prop) (step : V → V) (step' : W → W)
    (h : ∀ x y, R x y → R (step x) (step' y)) (n : ℕ) (u : V) (u' : W) (hu : R u u') :
    R (step^[n] u) (step'^[n] u') := by
  induction n generalizing u u' with
  | zero => exact hu
  | succ n ih =>
    rw [Function.iterate_succ_apply, Function.iterate_succ_apply]
    exact ih _ _ (h _ _ hu)

/-! ### graphs of maps and invariants as relations -/

/-- the graph of an additive map `φ` that passes coefficients through as `ψ` -/
theorem StepRel.graph {V W : Type} [Ring V] [Ring W] (φ ψ : V → W)
    (hadd : ∀ a b, φ (a + b) = φ a + φ b) (hsub : ∀ a b, φ (a - b) = φ a - φ b)
    (hmul : ∀ e a, φ (e * a) = ψ e * φ a) (htwo : ψ (lit 2) = lit 2) :
    StepRel (fun a b => φ a = b) (fun e e' => ψ e = e') where
  add := fun h1 h2 => by rw [hadd, h1, h2]
  sub := fun h1 h2 => by rw [hsub, h1, h2]
  mul := fun h1 h2 => by rw [hmul, h1, h2]
  two := htwo

theorem StepRel.ringHom {V W : Type} [Ring V] [Ring W] (φ : V →+* W) :
    StepRel (fun a b => φ a = b) (fun e e' => φ e = e') :=
  StepRel.graph φ φ φ.map_add φ.map_sub φ.map_mul (map_natCast φ 2)

/-- equality is such a relation -/
example {V : Type} [CommRing V] : StepRel (fun a b : V => a = b) (fun e e' : V => e = e') :=
  StepRel.ringHom (RingHom.id V)

theorem StepRel.neg_right {V W : Type} [Ring V] [Ring W] {R : V → W → Prop} {Cf : V → W → Prop} (h : StepRel R Cf) :
    StepRel (fun a b => R a (-b)) Cf where
  add h1 h2 := by rw [neg_add]; exact h.add h1 h2
  sub h1 h2 := by rw [neg_sub']; exact h.sub h1 h2
  mul he h1 := by rw [← mul_neg]; exact h.mul he h1
  two := h.two

theorem StepRel.pred {V : Type} [Ring V] {P C : V → Prop}
    (hadd : ∀ {a b}, P a → P b → P (a + b)) (hsub : ∀ {a b}, P a → P b → P (a - b))
    (hmul : ∀ {e a}, C e → P a → P (e * a)) (htwo : C (lit 2)) :
    StepRel (fun a (_ : V) => P a) (fun e (_ : V) => C e) :=
  ⟨hadd, hsub, hmul, htwo⟩

section Pred
variable {V : Type} [Ring V] {P C : V → Prop} (hP : StepRel (fun a (_ : V) => P a) (fun e (_ : V) => C e))
  {N : V → V} (hN : ∀ x, P x → P (N x)) {E Eh c1 c2 c3 c4 c5 c6 u : V}
include hP

theorem E0step_pred (hE : C E) (hu : P u) : P (E0step E u) := E0step_rel (u' := u) (E' := E) hP hE hu

include hN

theorem E1step_pred (hE : C E) (h1 : C c1) (hu : P u) : P (E1step E c1 N u) :=
  E1step_rel (N' := N) (u' := u) (E' := E) (c1' := c1) hP (fun x _ => hN x) hE h1 hu

theorem E2step_pred (hE : C E) (h1 : C c1) (h2 : C c2) (hu : P u) : P (E2step E c1 c2 N u) :=
  E2step_rel (N' := N) (u' := u) (E' := E) (c1' := c1) (c2' := c2) hP (fun x _ => hN x) hE h1 h2 hu

theorem E3step_pred (hE : C E) (hEh : C Eh) (h1 : C c1) (h2 : C c2) (h3 : C c3) (h4 : C c4) (h5 : C c5) (hu : P u) :
    P (E3step E Eh c1 c2 c3 c4 c5 N u) :=
  E3step_rel (N' := N) (u' := u) (E' := E) (Eh' := Eh) (c1' := c1) (c2' := c2) (c3' := c3) (c4' := c4) (c5' := c5)
    hP (fun x _ => hN x) hE hEh h1 h2 h3 h4 h5 hu

theorem E4step_pred (hE : C E) (hEh : C Eh) (h1 : C c1) (h2 : C c2) (h3 : C c3) (h4 : C c4) (h5 : C c5) (h6 : C c6)
    (hu : P u) : P (E4step E Eh c1 c2 c3 c4 c5 c6 N u) :=
  E4step_rel (N' := N) (u' := u) (E' := E) (Eh' := Eh) (c1' := c1) (c2' := c2) (c3' := c3) (c4' := c4) (c5' := c5)
    (c6' := c6) hP (fun x _ => hN x) hE hEh h1 h2 h3 h4 h5 h6 hu

end Pred

theorem StepRel.homOn {V W : Type} [Ring V] [Ring W] (q : V →+* W) {P C : V → Prop}
    (hP : StepRel (fun a (_ : V) => P a) (fun e (_ : V) => C e)) :
    StepRel (fun a b => P a ∧ q a = b) (fun e e' => C e ∧ q e = e') :=
  have hq := StepRel.ringHom q
  ⟨fun {a a' _ _} h h' => ⟨hP.add (b := a) (b' := a') h.1 h'.1, hq.add h.2 h'.2⟩,
    fun {a a' _ _} h h' => ⟨hP.sub (b := a) (b' := a') h.1 h'.1, hq.sub h.2 h'.2⟩,
    fun {e _ a _} h h' => ⟨hP.mul (e' := e) (b := a) h.1 h'.1, hq.mul h.2 h'.2⟩, hP.two, hq.two⟩

/-! ### the zero nonlinear map: every order is the exact linear propagator -/

section ZeroN
variable {V : Type} [Ring V] (E Eh c1 c2 c3 c4 c5 c6 u : V)

theorem E1step_zeroN : E1step E c1 (fun _ => 0) u = E * u := by
  simp only [E1step, mul_zero, add_zero]

theorem E2step_zeroN : E2step E c1 c2 (fun _ => 0) u = E * u := by
  simp only [E2step, sub_self, mul_zero, add_zero]

theorem E3step_zeroN : E3step E Eh c1 c2 c3 c4 c5 (fun _ => 0) u = E * u := by
  simp only [E3step, mul_zero, add_zero]

theorem E4step_zeroN : E4step E Eh c1 c2 c3 c4 c5 c6 (fun _ => 0) u = E * u := by
  simp only [E4step, mul_zero, add_zero]

end ZeroN

/-! ### the five methods at once, the coefficient names shared as the assembled stepper shares them -/

/-- `A` holds of each of the five stage formulas (reducible: a five-fold conjunction over the orders IS this) -/
@[reducible] def EtdrkAll {K : Type} [Ring K] (A : (K → K) → Prop) (E Eh a1 a2 a3 a4 a5 a6 : K) (N : K → K) : Prop :=
  A (E0step E) ∧ A (E1step E a1 N) ∧ A (E2step E a1 a2 N) ∧ A (E3step E Eh a1 a2 a3 a4 a5 N) ∧
    A (E4step E Eh a1 a2 a3 a4 a5 a6 N)

theorem EtdrkAll.mono {K : Type} [Ring K] {A B : (K → K) → Prop} (h : ∀ step, A step → B step)
    {E Eh a1 a2 a3 a4 a5 a6 : K} {N : K → K} (H : EtdrkAll A E Eh a1 a2 a3 a4 a5 a6 N) :
    EtdrkAll B E Eh a1 a2 a3 a4 a5 a6 N :=
  ⟨h _ H.1, h _ H.2.1, h _ H.2.2.1, h _ H.2.2.2.1, h _ H.2.2.2.2⟩

section All
variable {V : Type} [Ring V] {P C : V → Prop} (hP : StepRel (fun a (_ : V) => P a) (fun e (_ : V) => C e))
  {N : V → V} (hNP : ∀ x, P x → P (N x)) {E Eh a1 a2 a3 a4 a5 a6 : V}
include hP hNP

theorem etdrkAll_pred (hE : C E) (hEh : C Eh) (h1 : C a1) (h2 : C a2) (h3 : C a3) (h4 : C a4) (h5 : C a5) (h6 : C a6) :
    EtdrkAll (fun step => ∀ u, P u → P (step u)) E Eh a1 a2 a3 a4 a5 a6 N :=
  ⟨fun _ => E0step_pred hP hE, fun _ => E1step_pred hP hNP hE h1, fun _ => E2step_pred hP hNP hE h1 h2,
    fun _ => E3step_pred hP hNP hE hEh h1 h2 h3 h4 h5, fun _ => E4step_pred hP hNP hE hEh h1 h2 h3 h4 h5 h6⟩

variable {W : Type} [Ring W] (q : V →+* W) (hN0 : ∀ x, P x → q (N x) = 0)
include hN0

/-- **a quantity the nonlinear term does not feed.**  If `q (N x) = 0` on the invariant `P`, every method acts on `q` as
    the exact propagator `q E`: the image under `q` of the step is the step with the zero nonlinear map -/
theorem etdrkAll_hom (hE : C E) (hEh : C Eh) (h1 : C a1) (h2 : C a2) (h3 : C a3) (h4 : C a4) (h5 : C a5) (h6 : C a6) :
    EtdrkAll (fun step => ∀ u, P u → P (step u) ∧ q (step u) = q E * q u) E Eh a1 a2 a3 a4 a5 a6 N := by
  have hR := StepRel.homOn q hP
  have hN : ∀ x y, P x ∧ q x = y → P (N x) ∧ q (N x) = (fun _ : W => 0) y := fun x _ h => ⟨hNP x h.1, hN0 x h.1⟩
  refine ⟨fun u hu => E0step_rel hR ⟨hE, rfl⟩ ⟨hu, rfl⟩, fun u hu => ?_, fun u hu => ?_, fun u hu => ?_, fun u hu => ?_⟩
  · rw [← E1step_zeroN (q E) (q a1)]
    exact E1step_rel hR hN ⟨hE, rfl⟩ ⟨h1, rfl⟩ ⟨hu, rfl⟩
  · rw [← E2step_zeroN (q E) (q a1) (q a2)]
    exact E2step_rel hR hN ⟨hE, rfl⟩ ⟨h1, rfl⟩ ⟨h2, rfl⟩ ⟨hu, rfl⟩
  · rw [← E3step_zeroN (q E) (q Eh) (q a1) (q a2) (q a3) (q a4) (q a5)]
    exact E3step_rel hR hN ⟨hE, rfl⟩ ⟨hEh, rfl⟩ ⟨h1, rfl⟩ ⟨h2, rfl⟩ ⟨h3, rfl⟩ ⟨h4, rfl⟩ ⟨h5, rfl⟩ ⟨hu, rfl⟩
  · rw [← E4step_zeroN (q E) (q Eh) (q a1) (q a2) (q a3) (q a4) (q a5) (q a6)]
    exact E4step_rel hR hN ⟨hE, rfl⟩ ⟨hEh, rfl⟩ ⟨h1, rfl⟩ ⟨h2, rfl⟩ ⟨h3, rfl⟩ ⟨h4, rfl⟩ ⟨h5, rfl⟩ ⟨h6, rfl⟩ ⟨hu, rfl⟩

/-- … and where `q E = 1` (the linear symbol vanishes under `q`), `q` is conserved over any number of steps -/
theorem etdrkAll_conserved (hE : C E) (hEh : C Eh) (h1 : C a1) (h2 : C a2) (h3 : C a3) (h4 : C a4) (h5 : C a5) (h6 : C a6)
    (hqE : q E = 1) (n : ℕ) :
    EtdrkAll (fun step => ∀ u, P u → P (step^[n] u) ∧ q (step^[n] u) = q u) E Eh a1 a2 a3 a4 a5 a6 N :=
  (etdrkAll_hom hP hNP q hN0 hE hEh h1 h2 h3 h4 h5 h6).mono fun step h u hu =>
    Function.Iterate.rec (fun w => P w ∧ q w = q u) ⟨hu, rfl⟩
      (fun w hw => ⟨(h w hw.1).1, by rw [(h w hw.1).2, hqE, one_mul, hw.2]⟩) n

end All

/-! ### all stages see one value of `N` -/

section Collapse
variable {V : Type} [CommRing V] (N : V → V) (u : V)

theorem lit_two_mul_sub (v : V) : lit 2 * v - v = v := by
  rw [lit_eq, Nat.cast_ofNat, two_mul, add_sub_cancel_right]

theorem E2step_collapse (E a1 a2 : V) (h1 : N (E * u + a1 * N u) = N u) :
    E2step E a1 a2 N u = E * u + a1 * N u := by
  simp only [E2step, h1, sub_self, mul_zero, add_zero]

theorem E3step_collapse (E Eh a1 a2 a3 a4 a5 : V) (h1 : N (Eh * u + a1 * N u) = N u)
    (h2 : N (E * u + a2 * N u) = N u) :
    E3step E Eh a1 a2 a3 a4 a5 N u = E * u + (a3 + a4 + a5) * N u := by
  simp only [E3step, h1, lit_two_mul_sub, h2]
  ring

theorem E4step_collapse (E Eh a1 a2 a3 a4 a5 a6 : V) (h1 : N (Eh * u + a1 * N u) = N u)
    (h2 : N (Eh * u + a2 * N u) = N u) (h3 : N (Eh * (Eh * u + a1 * N u) + a3 * N u) = N u) :
    E4step E Eh a1 a2 a3 a4 a5 a6 N u = E * u + (a4 + 4 * a5 + a6) * N u := by
  simp only [E4step, h1, h2, lit_two_mul_sub, h3, lit_eq]
  push_cast
  ring

/-! #### equilibria: `L u + N u = 0`; a stage `A u + B N u` returns `u` when the defect `(A − 1 − L B) u` vanishes -/

theorem stage_fixed_of_defect (A B L Nu : V) (heq : L * u + Nu = 0) (hd : (A - 1 - L * B) * u = 0) :
    A * u + B * Nu = u := by
  have hNu : Nu = -(L * u) := by linear_combination heq
  rw [hNu]
  linear_combination hd

variable (L : V) (heq : L * u + N u = 0)
include heq

theorem fixed_E1step_of_defect (E a1 : V) (hd : (E - 1 - L * a1) * u = 0) : E1step E a1 N u = u :=
  stage_fixed_of_defect u E a1 L (N u) heq hd

theorem fixed_E2step_of_defect (E a1 a2 : V) (hd : (E - 1 - L * a1) * u = 0) : E2step E a1 a2 N u = u := by
  have h1 := stage_fixed_of_defect u E a1 L (N u) heq hd
  rw [E2step_collapse N u E a1 a2 (by rw [h1]), h1]

/-- the last hypothesis is on the sum of the final weights -/
theorem fixed_E3step_of_defect (E Eh a1 a2 a3 a4 a5 : V) (hd1 : (Eh - 1 - L * a1) * u = 0)
    (hd2 : (E - 1 - L * a2) * u = 0) (hds : (E - 1 - L * (a3 + a4 + a5)) * u = 0) :
    E3step E Eh a1 a2 a3 a4 a5 N u = u := by
  rw [E3step_collapse N u E Eh a1 a2 a3 a4 a5 (by rw [stage_fixed_of_defect u Eh a1 L (N u) heq hd1])
    (by rw [stage_fixed_of_defect u E a2 L (N u) heq hd2])]
  exact stage_fixed_of_defect u E _ L (N u) heq hds

theorem fixed_E4step_of_defect (E Eh a1 a2 a3 a4 a5 a6 : V) (hd1 : (Eh - 1 - L * a1) * u = 0)
    (hd2 : (Eh - 1 - L * a2) * u = 0) (hd3 : (Eh - 1 - L * a3) * u = 0)
    (hds : (E - 1 - L * (a4 + 4 * a5 + a6)) * u = 0) : E4step E Eh a1 a2 a3 a4 a5 a6 N u = u := by
  have h1 := stage_fixed_of_defect u Eh a1 L (N u) heq hd1
  rw [E4step_collapse N u E Eh a1 a2 a3 a4 a5 a6 (by rw [h1])
    (by rw [stage_fixed_of_defect u Eh a2 L (N u) heq hd2])
    (by rw [h1, stage_fixed_of_defect u Eh a3 L (N u) heq hd3])]
  exact stage_fixed_of_defect u E _ L (N u) heq hds

omit heq

/-- on spectra: a defect array that vanishes on the support of `u` -/
theorem defect_mul_spectrum {ι : Type} (d u : ι → ℂ) (h : ∀ k, u k ≠ 0 → d k = 0) : d * u = 0 := by
  funext k
  rcases eq_or_ne (u k) 0 with h0 | h0
  · rw [Pi.mul_apply, h0, mul_zero, Pi.zero_apply]
  · rw [Pi.mul_apply, h k h0, zero_mul, Pi.zero_apply]

end Collapse

/-! ### an invariant set `P` on which `N` is the constant `F` -/

section ConstOn
variable {V : Type} [CommRing V] (P : V → Prop) (F : V) (N : V → V)

structure ConstOn : Prop where
  affine : ∀ (A B v : V), P v → P (A * v + B * F)
  const : ∀ v, P v → N v = F

variable {P F N} (H : ConstOn P F N)
include H

theorem ConstOn.stage (A B v : V) (hv : P v) : N (A * v + B * N v) = N v := by
  rw [H.const v hv, H.const _ (H.affine A B v hv)]

theorem E1step_on (E a1 v : V) (hv : P v) : E1step E a1 N v = E * v + a1 * F := by
  rw [← H.const v hv]; rfl

theorem E2step_on (E a1 a2 v : V) (hv : P v) : E2step E a1 a2 N v = E * v + a1 * F := by
  rw [E2step_collapse N v E a1 a2 (H.stage E a1 v hv), H.const v hv]

theorem E3step_on (E Eh a1 a2 a3 a4 a5 v : V) (hv : P v) :
    E3step E Eh a1 a2 a3 a4 a5 N v = E * v + (a3 + a4 + a5) * F := by
  rw [E3step_collapse N v E Eh a1 a2 a3 a4 a5 (H.stage Eh a1 v hv) (H.stage E a2 v hv), H.const v hv]

theorem E4step_on (E Eh a1 a2 a3 a4 a5 a6 v : V) (hv : P v) :
    E4step E Eh a1 a2 a3 a4 a5 a6 N v = E * v + (a4 + 4 * a5 + a6) * F := by
  have h3 : N (Eh * (Eh * v + a1 * N v) + a3 * N v) = N v := by
    rw [H.const v hv, H.const _ (H.affine Eh a3 _ (H.affine Eh a1 v hv))]
  rw [E4step_collapse N v E Eh a1 a2 a3 a4 a5 a6 (H.stage Eh a1 v hv) (H.stage Eh a2 v hv) h3, H.const v hv]

omit H

theorem iterate_on (P : V → Prop) (step : V → V) (E b : V) (haff : ∀ w, P w → P (E * w + b))
    (hstep : ∀ w, P w → step w = E * w + b) (v : V) (hv : P v) (n : ℕ) :
    P (step^[n] v) ∧ step^[n] v = E ^ n * v + (∑ i ∈ Finset.range n, E ^ i) * b := by
  induction n with
  | zero => exact ⟨hv, by simp⟩
  | succ n ih =>
    rw [Function.iterate_succ_apply', hstep _ ih.1]
    refine ⟨haff _ ih.1, ?_⟩
    rw [ih.2, geom_sum_succ, pow_succ]
    ring

end ConstOn

/-! ### every order at once: the stage formula of order `p` on the regenerated coefficients

`Interface.etdrkMode`, `Interface.etdrkStep` and `DiffTerms.etdrkStepF` are this with `κ g = g lam` (one mode) and
`κ g = fun ch h => g (lam ch h)` (a symbol array, all indices or a finite block). -/

/-- the order-`p` stage formula fed with the regenerated coefficient functions of the linear symbol, each carried into the
    state ring by `κ`; orders above 4 do not exist in the source (identity here) -/
noncomputable def etdrkGen {K : Type} [Add K] [Sub K] [Mul K] [NatCast K] (κ : (ℂ → ℂ) → K) (p : ℕ) (dt : ℂ) (M : ℕ)
    (r : ℂ) (N : K → K) (u : K) : K :=
  match p with
  | 0 => E0step (κ (exp_term dt)) u
  | 1 => E1step (κ (exp_term dt)) (κ fun l => E1_coef_1 dt l M r) N u
  | 2 => E2step (κ (exp_term dt)) (κ fun l => E2_coef_1 dt l M r) (κ fun l => E2_coef_2 dt l M r) N u
  | 3 => E3step (κ (exp_term dt)) (κ fun l => E3_half_exp_term dt l M r) (κ fun l => E3_coef_1 dt l M r)
          (κ fun l => E3_coef_2 dt l M r) (κ fun l => E3_coef_3 dt l M r) (κ fun l => E3_coef_4 dt l M r)
          (κ fun l => E3_coef_5 dt l M r) N u
  | 4 => E4step (κ (exp_term dt)) (κ fun l => E4_half_exp_term dt l M r) (κ fun l => E4_coef_1 dt l M r)
          (κ fun l => E4_coef_2 dt l M r) (κ fun l => E4_coef_3 dt l M r) (κ fun l => E4_coef_4 dt l M r)
          (κ fun l => E4_coef_5 dt l M r) (κ fun l => E4_coef_6 dt l M r) N u
  | _ => u

theorem etdrkGen_rel {V W : Type} [Ring V] [Ring W] {R : V → W → Prop} {Cf : V → W → Prop} (hR : StepRel R Cf)
    {N : V → V} {N' : W → W} (hN : ∀ x y, R x y → R (N x) (N' y)) {κ : (ℂ → ℂ) → V} {κ' : (ℂ → ℂ) → W}
    (hκ : ∀ g, Cf (κ g) (κ' g)) (p : ℕ) (dt : ℂ) (M : ℕ) (r : ℂ) {u : V} {u' : W} (hu : R u u') :
    R (etdrkGen κ p dt M r N u) (etdrkGen κ' p dt M r N' u') := by
  match p with
  | 0 => exact E0step_rel hR (hκ _) hu
  | 1 => exact E1step_rel hR hN (hκ _) (hκ _) hu
  | 2 => exact E2step_rel hR hN (hκ _) (hκ _) (hκ _) hu
  | 3 => exact E3step_rel hR hN (hκ _) (hκ _) (hκ _) (hκ _) (hκ _) (hκ _) (hκ _) hu
  | 4 => exact E4step_rel hR hN (hκ _) (hκ _) (hκ _) (hκ _) (hκ _) (hκ _) (hκ _) (hκ _) hu
  | (_ + 5) => exact hu

theorem etdrkGen_pred {V : Type} [Ring V] {P C : V → Prop}
    (hP : StepRel (fun a (_ : V) => P a) (fun e (_ : V) => C e)) {N : V → V} (hN : ∀ x, P x → P (N x))
    {κ : (ℂ → ℂ) → V} (hκ : ∀ g, C (κ g)) (p : ℕ) (dt : ℂ) (M : ℕ) (r : ℂ) {u : V} (hu : P u) :
    P (etdrkGen κ p dt M r N u) :=
  etdrkGen_rel (N' := N) (κ' := κ) (u' := u) hP (fun x _ => hN x) hκ p dt M r hu

/-- in a ring of maps `X → K` with constant coefficient maps, the step is taken pointwise -/
theorem etdrkGen_fun {X K : Type} [Add K] [Sub K] [Mul K] [NatCast K] (κ : (ℂ → ℂ) → K) (p : ℕ) (dt : ℂ) (M : ℕ) (r : ℂ)
    (N : K → K) (f : X → K) :
    etdrkGen (fun g _ => κ g) p dt M r (fun f => N ∘ f) f = fun x => etdrkGen κ p dt M r N (f x) := by
  match p with
  | 0 | 1 | 2 | 3 | 4 | (_ + 5) => rfl

theorem etdrkGen_zeroN {V : Type} [Ring V] (κ : (ℂ → ℂ) → V) (p : ℕ) (hp : p ≤ 4) (dt : ℂ) (M : ℕ) (r : ℂ) (u : V) :
    etdrkGen κ p dt M r (fun _ => 0) u = κ (exp_term dt) * u := by
  match p, hp with
  | 0, _ => rfl
  | 1, _ => simp only [etdrkGen, E1step_zeroN]
  | 2, _ => simp only [etdrkGen, E2step_zeroN]
  | 3, _ => simp only [etdrkGen, E3step_zeroN]
  | 4, _ => simp only [etdrkGen, E4step_zeroN]

end Exponax.Etdrk
