import Mathlib.Tactic
import Mathlib.Analysis.Calculus.IteratedDeriv.Defs
import ExponaxModel.Proofs.Instances
import ExponaxModel.Proofs.SymbolAlgebra
import ExponaxModel.Proofs.StoredModes
import ExponaxModel.Model.Nonlin
import ExponaxModel.Proofs.LerayBasic
/-
"Spectral differential operators are exact": the derivative-operator entry, the Laplace symbols of
every order and the per-mode Poisson solve, at `K := ℂ` with a real scale `c.s = ((s : ℝ) : ℂ)`; their values at the mean
mode (flat index 0), in `namespace Conserve`.
-/
namespace Exponax.Operator
open Exponax Exponax.Layout Exponax.Nonlin Finset

section
variable (c : Cfg ℂ) (s : ℝ) (hs : c.s = (s : ℂ))
include hs

theorem iteratedDeriv_mode_explicit (d h m : ℕ) :
    iteratedDeriv m (fun x : ℝ => Complex.exp (Complex.I * ((s * (wnAt c d h : ℝ) : ℝ) : ℂ) * (x : ℂ)))
      = fun x : ℝ => (Complex.I ^ m * (((s * (wnAt c d h : ℝ)) ^ m : ℝ) : ℂ))
          * Complex.exp (Complex.I * ((s * (wnAt c d h : ℝ) : ℝ) : ℂ) * (x : ℂ)) := by
  rw [← Exponax.deriv_eq c s hs d h, ← Exponax.deriv_pow c s hs d h m]
  exact iteratedDeriv_planeWave _ m

omit hs in
theorem I_pow_even (n : ℕ) : Complex.I ^ (2 * n) = (-1) ^ n := by
  rw [pow_mul, Complex.I_sq]

omit hs in
theorem I_pow_odd (n : ℕ) : Complex.I ^ (2 * n + 1) = Complex.I * (-1) ^ n := by
  rw [pow_succ, I_pow_even, mul_comm]

theorem laplace_even (h n : ℕ) (hn : 1 ≤ n) :
    laplace c (2 * n) h
      = (((-1) ^ n * s ^ (2 * n) * ∑ d ∈ range c.D, (wnAt c d h : ℝ) ^ (2 * n) : ℝ) : ℂ) := by
  rw [laplace_eq_sum c h (2 * n) (by omega)]
  push_cast
  rw [Finset.mul_sum]
  apply Finset.sum_congr rfl
  intro d _
  rw [Exponax.deriv_pow c s hs d h (2 * n), I_pow_even]
  push_cast
  ring

theorem laplace_even_eq_zero_iff (hs0 : s ≠ 0) (h n : ℕ) (hn : 1 ≤ n) :
    laplace c (2 * n) h = 0 ↔ ∀ d < c.D, wnAt c d h = 0 := by
  rw [laplace_even c s hs h n hn, Complex.ofReal_eq_zero, mul_eq_zero,
    or_iff_right (mul_ne_zero (pow_ne_zero _ (by norm_num)) (pow_ne_zero _ hs0)),
    Finset.sum_eq_zero_iff_of_nonneg (fun d _ => (even_two_mul n).pow_nonneg _)]
  simp only [Finset.mem_range, pow_eq_zero_iff (by omega : 2 * n ≠ 0), Int.cast_eq_zero]

end

/-- `Poisson.step_fourier` at one stored mode: `u_hat = -where(op == 0, 0, 1/op) * f_hat` with
    `op = build_laplace_operator(order)` -/
noncomputable def poissonMode (order : ℕ) (c : Cfg ℂ) (h : ℕ) (f : ℂ) : ℂ :=
  -(if laplace c order h = 0 then 0 else 1 / laplace c order h) * f

theorem poissonMode_of_laplace_zero (order : ℕ) (c : Cfg ℂ) (h : ℕ) (f : ℂ) (hl : laplace c order h = 0) :
    poissonMode order c h f = 0 := by
  rw [poissonMode, if_pos hl, neg_zero, zero_mul]

theorem laplace_mul_poissonMode (order : ℕ) (c : Cfg ℂ) (h : ℕ) (f : ℂ) (hl : laplace c order h ≠ 0) :
    laplace c order h * poissonMode order c h f = -f := by
  rw [poissonMode, if_neg hl]
  field_simp

section
variable (c : Cfg ℂ) (s : ℝ) (hs : c.s = (s : ℂ)) (hs0 : s ≠ 0)
include hs hs0

/-- zero-mean solution -/
theorem poissonMode_even_mean (h n : ℕ) (hn : 1 ≤ n) (f : ℂ) (hk : ∀ d < c.D, wnAt c d h = 0) :
    poissonMode (2 * n) c h f = 0 :=
  poissonMode_of_laplace_zero _ c h f ((laplace_even_eq_zero_iff c s hs hs0 h n hn).2 hk)

theorem laplace_even_mul_poissonMode (h n : ℕ) (hn : 1 ≤ n) (f : ℂ) (hk : ∃ d < c.D, wnAt c d h ≠ 0) :
    laplace c (2 * n) h * poissonMode (2 * n) c h f = -f := by
  apply laplace_mul_poissonMode
  rw [Ne, laplace_even_eq_zero_iff c s hs hs0 h n hn]
  push Not
  exact hk

theorem poissonMode_two_mean (h : ℕ) (f : ℂ) (hk : ∀ d < c.D, wnAt c d h = 0) :
    poissonMode 2 c h f = 0 :=
  poissonMode_even_mean c s hs hs0 h 1 le_rfl f hk

theorem laplace_two_mul_poissonMode (h : ℕ) (f : ℂ) (hk : ∃ d < c.D, wnAt c d h ≠ 0) :
    laplace c 2 h * poissonMode 2 c h f = -f :=
  laplace_even_mul_poissonMode c s hs hs0 h 1 le_rfl f hk

theorem poissonMode_two_formula (h : ℕ) (f : ℂ) (hk : ∃ d < c.D, wnAt c d h ≠ 0) :
    poissonMode 2 c h f = f / (((s ^ 2 * ∑ d ∈ range c.D, (wnAt c d h : ℝ) ^ 2 : ℝ)) : ℂ) := by
  have hne : laplace c 2 h ≠ 0 := fun h0 => by
    obtain ⟨d, hd, hd0⟩ := hk
    exact hd0 ((laplace_even_eq_zero_iff c s hs hs0 h 1 le_rfl).1 h0 d hd)
  unfold poissonMode
  rw [if_neg hne]
  rw [Exponax.laplace_two c s hs h, Complex.ofReal_neg] at hne ⊢
  rw [neg_ne_zero] at hne
  field_simp

omit hs0 in
/-- order 4: the sum of pure fourth derivatives -/
theorem laplace_four (h : ℕ) :
    laplace c 4 h = ((s ^ 4 * ∑ d ∈ range c.D, (wnAt c d h : ℝ) ^ 4 : ℝ) : ℂ) := by
  have := laplace_even c s hs h 2 (by norm_num)
  rw [show 2 * 2 = 4 by norm_num] at this
  rw [this]
  congr 1
  ring

omit hs0 in
theorem laplace_four_nonneg (h : ℕ) : (laplace c 4 h).im = 0 ∧ 0 ≤ (laplace c 4 h).re := by
  rw [laplace_four c s hs h]
  refine ⟨Complex.ofReal_im _, ?_⟩
  rw [Complex.ofReal_re]
  exact mul_nonneg ((by decide : Even 4).pow_nonneg s)
    (Finset.sum_nonneg (fun d _ => (by decide : Even 4).pow_nonneg _))

theorem poissonMode_four_mean (h : ℕ) (f : ℂ) (hk : ∀ d < c.D, wnAt c d h = 0) :
    poissonMode 4 c h f = 0 :=
  poissonMode_even_mean c s hs hs0 h 2 one_le_two f hk

theorem laplace_four_mul_poissonMode (h : ℕ) (f : ℂ) (hk : ∃ d < c.D, wnAt c d h ≠ 0) :
    laplace c 4 h * poissonMode 4 c h f = -f :=
  laplace_even_mul_poissonMode c s hs hs0 h 2 one_le_two f hk

end

theorem wnAt_zero (c : Cfg ℂ) (d : ℕ) : wnAt c d 0 = 0 := wnFlat_zero c.D c.N d

theorem mean_mode_iff (c : Cfg ℂ) (h : ℕ) (hD : 1 ≤ c.D) (hN : 0 < c.N) (hh : h < numModes c.D c.N) :
    (∀ d < c.D, wnAt c d h = 0) ↔ h = 0 :=
  wnFlat_eq_zero_iff c.D c.N h hD hN hh

theorem off_mean_of_ne_zero (c : Cfg ℂ) (h : ℕ) (hD : 1 ≤ c.D) (hN : 0 < c.N)
    (hh : h < numModes c.D c.N) (h0 : h ≠ 0) : ∃ d < c.D, wnAt c d h ≠ 0 := by
  by_contra hne
  push Not at hne
  exact h0 ((mean_mode_iff c h hD hN hh).1 hne)

section
variable (c : Cfg ℂ) (s : ℝ) (hs : c.s = (s : ℂ)) (hs0 : s ≠ 0)
include hs hs0

theorem poissonMode_even_index_zero (n : ℕ) (hn : 1 ≤ n) (f : ℂ) : poissonMode (2 * n) c 0 f = 0 :=
  poissonMode_even_mean c s hs hs0 0 n hn f (fun d _ => wnAt_zero c d)

theorem laplace_even_mul_poissonMode_index (n : ℕ) (hn : 1 ≤ n) (h : ℕ) (hD : 1 ≤ c.D) (hN : 0 < c.N)
    (hh : h < numModes c.D c.N) (h0 : h ≠ 0) (f : ℂ) :
    laplace c (2 * n) h * poissonMode (2 * n) c h f = -f :=
  laplace_even_mul_poissonMode c s hs hs0 h n hn f (off_mean_of_ne_zero c h hD hN hh h0)

theorem poisson_two_index (h : ℕ) (hD : 1 ≤ c.D) (hN : 0 < c.N) (hh : h < numModes c.D c.N) (f : ℂ) :
    poissonMode 2 c 0 f = 0 ∧ (h ≠ 0 → laplace c 2 h * poissonMode 2 c h f = -f) :=
  ⟨poissonMode_even_index_zero c s hs hs0 1 le_rfl f,
   fun h0 => laplace_even_mul_poissonMode_index c s hs hs0 1 le_rfl h hD hN hh h0 f⟩

theorem poisson_four_index (h : ℕ) (hD : 1 ≤ c.D) (hN : 0 < c.N) (hh : h < numModes c.D c.N) (f : ℂ) :
    poissonMode 4 c 0 f = 0 ∧ (h ≠ 0 → laplace c 4 h * poissonMode 4 c h f = -f) :=
  ⟨poissonMode_even_index_zero c s hs hs0 2 (by norm_num) f,
   fun h0 => laplace_even_mul_poissonMode_index c s hs hs0 2 (by norm_num) h hD hN hh h0 f⟩

end

end Exponax.Operator

namespace Exponax.Conserve
open Exponax Exponax.Layout Exponax.Nonlin Finset

theorem kInt_zero_mode (c : Cfg ℂ) (d : ℕ) : kInt c d 0 = 0 := wnFlat_zero c.D c.N d

theorem deriv_zero_mode (c : Cfg ℂ) (d : ℕ) : Nonlin.deriv c d 0 = 0 :=
  deriv_eq_zero_of_k c d 0 (kInt_zero_mode c d)

theorem laplace_zero_mode (c : Cfg ℂ) : laplace c 2 0 = 0 := by
  rw [laplace_two_eq_sum]
  exact Finset.sum_eq_zero (fun d _ => by rw [deriv_zero_mode]; ring)

theorem modes_pos (c : Cfg ℂ) (hN : 0 < c.N) : 0 < modes c :=
  shapeSize_pos _ (wavenumberShape_pos c.D c.N hN)

end Exponax.Conserve
