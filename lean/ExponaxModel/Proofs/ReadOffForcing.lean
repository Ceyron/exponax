import ExponaxModel.Proofs.ExactLinear
import ExponaxModel.Proofs.LerayAlgebra
/-
C12, physical-space link: the Kolmogorov injection of `Nonlin.vorticity2d` / `Nonlin.projected3d` is the
transform (`rfftnM`) of the documented forcing FIELD.

How the injection enters the model (read off `Model/Nonlin.lean`): it is ADDED to the already dealiased and
(3-D) Leray-projected convection spectrum, i.e. after dealiasing, with the `coef_extraction` scaling
(`scaling D N 2`), on the stored modes `(0, m)` (2-D, one mode) and `(0, ±m, 0)` (3-D, channel 0).  At the rest state
(`û = 0`) the convection part vanishes (`Nonlin.vorticity2d_none_zero`, `Nonlin.projected3d_none_zero`), so only the injection
contributes, and

* 2-D: `vorticity2d c scale (some (m, γ)) 0 = rfftn( −m s γ cos(m s x₁) )` — no extra factor, every `m` with `2m < N`
  (including `m = 0`, where both sides vanish), independent of `scale` and of the dealiasing fraction;
* 3-D: `projected3d c (some (m, γ)) 0 = ( rfftn( γ sin(m s x₁) ), 0, 0 )` for `0 < m`, `2m < N`.
  For `m = 0` the 3-D statement is FALSE for the model as written: the field `γ sin 0` is zero but the model puts
  `−i γ N³` into the mean mode of channel 0 (`projected3d_injection_m_zero`).

`x₁ = j₁ L/N`, `s = 2π/L`, so `m s x₁ = 2π m j₁/N = 2π κ·j/N` with `κ = (0, m)` resp. `(0, m, 0)`.
-/
namespace Exponax.ReadOff
open Exponax Exponax.Layout Exponax.Transform Exponax.ExactLinear Finset
open Exponax.Nonlin (Cfg MC at2 tab2 tabC modes gridSize mask nfft nifft vorticity2d projected3d leray kInt
  proj3 invLapZero)
open scoped ComplexConjugate

theorem vorticity2d_rest_none (c : Cfg ℂ) (hN : 0 < c.N) (scale : ℂ) (uh : MC ℂ) (h0 : ∀ h, at2 uh 0 h = 0)
    (h : ℕ) (hh : h < modes c) : at2 (vorticity2d c scale none uh) 0 h = 0 :=
  Nonlin.vorticity2d_none_zero c scale uh h0 0 h

theorem vorticity2d_rest (c : Cfg ℂ) (scale : ℂ) (uh : MC ℂ) (h0 : ∀ h, at2 uh 0 h = 0)
    (m : ℕ) (gam : ℂ) (h : ℕ) (hh : h < modes c) :
    at2 (vorticity2d c scale (some (m, gam)) uh) 0 h
      = if kInt c 0 h = 0 ∧ kInt c 1 h = (m : ℤ)
        then -(c.s * ((kInt c 1 h : ℤ) : ℂ)) * gam * scaling c.D c.N 2 (unflatten (wavenumberShape c.D c.N) h)
        else 0 := by
  rw [Nonlin.vorticity2d_inj c scale _ uh h hh, Nonlin.vorticity2d_none_zero c scale uh h0 0 h, zero_add]
  rfl

theorem projected3d_rest (c : Cfg ℂ) (uh : MC ℂ) (h0 : ∀ i h, at2 uh i h = 0)
    (m : ℕ) (gam : ℂ) (i h : ℕ) (hi : i < 3) (hh : h < modes c) :
    at2 (projected3d c (some (m, gam)) uh) i h
      = if i = 0 ∧ kInt c 0 h = 0 ∧ kInt c 2 h = 0 ∧ kInt c 1 h = (m : ℤ)
        then -Complex.I * gam * scaling c.D c.N 2 (unflatten (wavenumberShape c.D c.N) h)
        else if i = 0 ∧ kInt c 0 h = 0 ∧ kInt c 2 h = 0 ∧ kInt c 1 h = -(m : ℤ)
        then Complex.I * gam * scaling c.D c.N 2 (unflatten (wavenumberShape c.D c.N) h)
        else 0 := by
  rw [Nonlin.projected3d_inj c _ uh i h hi hh, Nonlin.projected3d_none_zero c uh h0 i h, zero_add]
  rfl

theorem exp_neg_pi_half : Complex.exp (((-(Real.pi / 2) : ℝ) : ℂ) * Complex.I) = -Complex.I := by
  have : ((-(Real.pi / 2) : ℝ) : ℂ) * Complex.I = -((Real.pi : ℂ) / 2 * Complex.I) := by push_cast; ring
  rw [this, Complex.exp_neg, Complex.exp_pi_div_two_mul_I, Complex.inv_I]

theorem exp_neg_neg_pi_half : Complex.exp (-(((-(Real.pi / 2) : ℝ) : ℂ) * Complex.I)) = Complex.I := by
  have : -(((-(Real.pi / 2) : ℝ) : ℂ) * Complex.I) = (Real.pi : ℂ) / 2 * Complex.I := by push_cast; ring
  rw [this, Complex.exp_pi_div_two_mul_I]

theorem modeField_sine (D N : ℕ) (κ : List ℤ) (a : ℝ) :
    modeField D N κ a (-(Real.pi / 2))
      = tab (N ^ D) (fun j => (((a * Real.sin (2 * Real.pi * ((phaseK D N κ j : ℤ) : ℝ) / N)) : ℝ) : ℂ)) := by
  unfold modeField
  congr 1
  funext j
  rw [← sub_eq_add_neg, Real.cos_sub_pi_div_two]

theorem phaseK_2d_axis1 (N : ℕ) (m : ℤ) (j : ℕ) : phaseK 2 N [0, m] j = m * (digit 2 N j 1 : ℤ) := by
  rw [DFT.phaseK_eq_sum]
  simp [Finset.sum_range_succ]

theorem phaseK_3d_axis1 (N : ℕ) (m : ℤ) (j : ℕ) : phaseK 3 N [0, m, 0] j = m * (digit 3 N j 1 : ℤ) := by
  rw [DFT.phaseK_eq_sum]
  simp [Finset.sum_range_succ]

/-- the documented 2-D vorticity forcing `−m s γ cos(m s x₁)`, `x₁ = j₁ L/N`, on the grid -/
noncomputable def kolmogorovVorticity (N m : ℕ) (s γ : ℝ) : Array ℂ :=
  tab (N ^ 2) (fun j => (((-(m * s * γ) * Real.cos (2 * Real.pi * ((m : ℝ) * (digit 2 N j 1 : ℝ)) / N)) : ℝ) : ℂ))

/-- the documented 3-D velocity forcing `γ sin(m s x₁)` (channel 0) on the grid -/
noncomputable def kolmogorovVelocity (N m : ℕ) (γ : ℝ) : Array ℂ :=
  tab (N ^ 3) (fun j => (((γ * Real.sin (2 * Real.pi * ((m : ℝ) * (digit 3 N j 1 : ℝ)) / N)) : ℝ) : ℂ))

theorem kolmogorovVorticity_eq (N m : ℕ) (s γ : ℝ) :
    kolmogorovVorticity N m s γ = modeField 2 N [0, (m : ℤ)] (-(m * s * γ)) 0 := by
  unfold kolmogorovVorticity modeField
  congr 1
  funext j
  rw [phaseK_2d_axis1, add_zero]
  push_cast
  rfl

theorem kolmogorovVelocity_eq (N m : ℕ) (γ : ℝ) :
    kolmogorovVelocity N m γ = modeField 3 N [0, (m : ℤ), 0] γ (-(Real.pi / 2)) := by
  rw [modeField_sine]
  unfold kolmogorovVelocity
  congr 1
  funext j
  rw [phaseK_3d_axis1]
  push_cast
  rfl

theorem belowNyquist_2d (N m : ℕ) (hmN : 2 * m < N) : BelowNyquist 2 N [0, (m : ℤ)] := by
  refine belowNyquist_of_forall_mem ?_
  simp only [List.forall_mem_cons, List.not_mem_nil, false_imp_iff, implies_true, and_true, abs_zero,
    Nat.abs_cast]
  omega

theorem belowNyquist_3d (N m : ℕ) (hmN : 2 * m < N) : BelowNyquist 3 N [0, (m : ℤ), 0] := by
  refine belowNyquist_of_forall_mem ?_
  simp only [List.forall_mem_cons, List.not_mem_nil, false_imp_iff, implies_true, and_true, abs_zero,
    Nat.abs_cast]
  omega

theorem wnFlat_eq_2d (c : Cfg ℂ) (hD : c.D = 2) (h : ℕ) (a b : ℤ) :
    wnFlat c.D c.N h = [a, b] ↔ kInt c 0 h = a ∧ kInt c 1 h = b := by
  unfold kInt
  constructor
  · intro he; rw [he]; simp
  · rintro ⟨h1, h2⟩
    apply list_ext_getD _ _ 2 (by rw [wnFlat_length, hD]) rfl
    intro d hd
    interval_cases d
    · simpa using h1
    · simpa using h2

theorem wnFlat_eq_3d (c : Cfg ℂ) (hD : c.D = 3) (h : ℕ) (a b e : ℤ) :
    wnFlat c.D c.N h = [a, b, e] ↔ kInt c 0 h = a ∧ kInt c 1 h = b ∧ kInt c 2 h = e := by
  unfold kInt
  constructor
  · intro he; rw [he]; simp
  · rintro ⟨h1, h2, h3⟩
    apply list_ext_getD _ _ 3 (by rw [wnFlat_length, hD]) rfl
    intro d hd
    interval_cases d
    · simpa using h1
    · simpa using h2
    · simpa using h3

/-- C12, 2-D: at the rest state the one-channel output of `vorticity2d` with injection `(m, γ)` is the
    transform of the vorticity forcing `−m s γ cos(m s x₁)`, at every stored mode, for every `N > 2m`, every `scale`,
    every dealiasing fraction. -/
theorem vorticity2d_injection_is_forcing (c : Cfg ℂ) (s γ : ℝ) (hs : c.s = (s : ℂ)) (hD : c.D = 2)
    (scale : ℂ) (m : ℕ) (hmN : 2 * m < c.N) (uh : MC ℂ) (h0 : ∀ h, at2 uh 0 h = 0)
    (h : ℕ) (hh : h < modes c) :
    at2 (vorticity2d c scale (some (m, (γ : ℂ))) uh) 0 h
      = (rfftnM c.D c.N (modeField c.D c.N [0, (m : ℤ)] (-(m * s * γ)) 0)).getD h 0 := by
  have hN : 0 < c.N := by omega
  have hκ : BelowNyquist c.D c.N [0, (m : ℤ)] := by rw [hD]; exact belowNyquist_2d c.N m hmN
  rw [vorticity2d_rest c scale uh h0 m γ h hh,
    rfftnM_modeField c.D c.N (by omega) hN _ hκ _ 0 h hh]
  rcases Nat.eq_zero_or_pos m with hm | hm
  · subst hm
    simp only [Nat.cast_zero, zero_mul, neg_zero, Complex.ofReal_zero, zero_div, ite_self, add_zero]
    split_ifs with hc
    · rw [hc.2]; simp
    · rfl
  · have hB : ¬ wnFlat c.D c.N h = negK [0, (m : ℤ)] := by
      intro he
      have := wnFlat_last_nonneg c.D c.N h (by omega)
      rw [he, hD] at this
      simp [negK] at this
      omega
    rw [if_neg hB, add_zero]
    by_cases hA : kInt c 0 h = 0 ∧ kInt c 1 h = (m : ℤ)
    · rw [if_pos hA, if_pos ((wnFlat_eq_2d c hD h 0 m).mpr hA),
        Nonlin.scaling_at_kolmogorov_2d c hD h m hm hmN hA.1 hA.2, hA.2, hs, hD]
      simp only [Complex.ofReal_zero, zero_mul, Complex.exp_zero, mul_one]
      push_cast
      ring
    · rw [if_neg hA, if_neg (fun he => hA ((wnFlat_eq_2d c hD h 0 m).mp he))]

theorem vorticity2d_size (c : Cfg ℂ) (scale : ℂ) (inj : Option (ℕ × ℂ)) (uh : MC ℂ) :
    (vorticity2d c scale inj uh).size = 1 :=
  DFT.tab_size _ _

theorem vorticity2d_channel_size (c : Cfg ℂ) (scale : ℂ) (inj : Option (ℕ × ℂ)) (uh : MC ℂ) :
    ((vorticity2d c scale inj uh).getD 0 #[]).size = numModes c.D c.N := by
  unfold vorticity2d tab2
  rw [Nonlin.tab_getD _ _ _ _ Nat.one_pos]
  exact DFT.tab_size _ _

theorem vorticity2d_injection_is_forcing_array (c : Cfg ℂ) (s γ : ℝ) (hs : c.s = (s : ℂ)) (hD : c.D = 2)
    (scale : ℂ) (m : ℕ) (hmN : 2 * m < c.N) (uh : MC ℂ) (h0 : ∀ h, at2 uh 0 h = 0) :
    (vorticity2d c scale (some (m, (γ : ℂ))) uh).getD 0 #[]
      = rfftnM 2 c.N (kolmogorovVorticity c.N m s γ) := by
  rw [kolmogorovVorticity_eq]
  apply array_ext_getD _ _ (numModes c.D c.N) (vorticity2d_channel_size c scale _ uh) (by rw [hD]; simp)
  intro h hh
  have := vorticity2d_injection_is_forcing c s γ hs hD scale m hmN uh h0 h hh
  rw [hD] at this
  exact this

/-- C12, 3-D: at the rest state the output of `projected3d` with injection `(m, γ)`, `0 < m`, `2m < N`,
    is the transform of `γ sin(m s x₁)` in channel 0 and zero in channels 1, 2. -/
theorem projected3d_injection_is_forcing (c : Cfg ℂ) (γ : ℝ) (hD : c.D = 3) (m : ℕ) (hm : 0 < m)
    (hmN : 2 * m < c.N) (uh : MC ℂ) (h0 : ∀ i h, at2 uh i h = 0) (i h : ℕ) (hi : i < 3)
    (hh : h < modes c) :
    at2 (projected3d c (some (m, (γ : ℂ))) uh) i h
      = if i = 0 then (rfftnM c.D c.N (modeField c.D c.N [0, (m : ℤ), 0] γ (-(Real.pi / 2)))).getD h 0 else 0 := by
  have hN : 0 < c.N := by omega
  have hκ : BelowNyquist c.D c.N [0, (m : ℤ), 0] := by rw [hD]; exact belowNyquist_3d c.N m hmN
  rw [projected3d_rest c uh h0 m γ i h hi hh]
  by_cases hi0 : i = 0
  · subst hi0
    rw [if_pos rfl, rfftnM_modeField c.D c.N (by omega) hN _ hκ _ _ h hh, exp_neg_pi_half,
      exp_neg_neg_pi_half]
    have hneg : negK [0, (m : ℤ), 0] = [0, -(m : ℤ), 0] := by simp [negK]
    rw [hneg]
    by_cases hA : kInt c 0 h = 0 ∧ kInt c 2 h = 0 ∧ kInt c 1 h = (m : ℤ)
    · have hA' : wnFlat c.D c.N h = [0, (m : ℤ), 0] := (wnFlat_eq_3d c hD h 0 m 0).mpr ⟨hA.1, hA.2.2, hA.2.1⟩
      have hB' : ¬ wnFlat c.D c.N h = [0, -(m : ℤ), 0] := by
        rw [hA']; intro he; simp at he; omega
      rw [if_pos ⟨rfl, hA⟩, if_pos hA', if_neg hB', add_zero,
        Nonlin.scaling_at_kolmogorov_3d c hD h m hm hmN hA.1 hA.2.1 (Or.inl hA.2.2), hD]
      push_cast
      ring
    · have hA' : ¬ wnFlat c.D c.N h = [0, (m : ℤ), 0] := fun he =>
        hA (by have := (wnFlat_eq_3d c hD h 0 m 0).mp he; exact ⟨this.1, this.2.2, this.2.1⟩)
      rw [if_neg (fun hc => hA hc.2), if_neg hA', zero_add]
      by_cases hB : kInt c 0 h = 0 ∧ kInt c 2 h = 0 ∧ kInt c 1 h = -(m : ℤ)
      · have hB' : wnFlat c.D c.N h = [0, -(m : ℤ), 0] :=
          (wnFlat_eq_3d c hD h 0 (-m) 0).mpr ⟨hB.1, hB.2.2, hB.2.1⟩
        rw [if_pos ⟨rfl, hB⟩, if_pos hB',
          Nonlin.scaling_at_kolmogorov_3d c hD h m hm hmN hB.1 hB.2.1 (Or.inr hB.2.2), hD]
        push_cast
        ring
      · have hB' : ¬ wnFlat c.D c.N h = [0, -(m : ℤ), 0] := fun he =>
          hB (by have := (wnFlat_eq_3d c hD h 0 (-m) 0).mp he; exact ⟨this.1, this.2.2, this.2.1⟩)
        rw [if_neg (fun hc => hB hc.2), if_neg hB']
  · rw [if_neg (fun hc => hi0 hc.1), if_neg (fun hc => hi0 hc.1), if_neg hi0]

theorem projected3d_size (c : Cfg ℂ) (inj : Option (ℕ × ℂ)) (uh : MC ℂ) :
    (projected3d c inj uh).size = 3 :=
  DFT.tab_size _ _

theorem projected3d_channel_size (c : Cfg ℂ) (inj : Option (ℕ × ℂ)) (uh : MC ℂ) (i : ℕ) (hi : i < 3) :
    ((projected3d c inj uh).getD i #[]).size = numModes c.D c.N := by
  unfold projected3d tab2
  rw [Nonlin.tab_getD _ _ _ _ hi]
  exact DFT.tab_size _ _

/-- the 3-D statement is FALSE for `m = 0`: the forcing field `γ sin 0` vanishes, but the model writes
    `−i γ N³` into the mean mode of channel 0 -/
theorem projected3d_injection_m_zero (c : Cfg ℂ) (γ : ℝ) (hD : c.D = 3) (hN : 0 < c.N) (uh : MC ℂ)
    (h0 : ∀ i h, at2 uh i h = 0) :
    at2 (projected3d c (some (0, (γ : ℂ))) uh) 0 0 = -Complex.I * γ * ((c.N : ℂ) ^ 3) := by
  have hM : 0 < modes c := by
    change 0 < numModes c.D c.N
    rw [numModes_eq]; positivity
  have hk : ∀ d, kInt c d 0 = 0 := fun d => wnFlat_zero c.D c.N d
  rw [projected3d_rest c uh h0 0 γ 0 0 (by norm_num) hM,
    if_pos ⟨rfl, hk 0, hk 2, by rw [hk 1]; simp⟩, Nonlin.scaling_coef_extraction_3d c hD 0, hk 0, hk 1, hk 2]
  have hsp : ∀ b, isSpecial c.N b 0 = true := fun b => by simp [isSpecial]
  simp only [axisScale, hsp, if_true, lit_eq]
  ring

example : ∃ (c : Cfg ℂ) (s : ℝ) (m : ℕ) (uh : MC ℂ), c.s = (s : ℂ) ∧ c.D = 2 ∧ 2 * m < c.N ∧ 0 < m ∧
    (∀ h, at2 uh 0 h = 0) ∧ 0 < modes c :=
  ⟨⟨2, 8, ((1 : ℝ) : ℂ), 2, 3⟩, 1, 2, #[], rfl, rfl, by norm_num, by norm_num,
    fun h => by simp [at2], by decide⟩
example : ∃ (c : Cfg ℂ) (m : ℕ) (uh : MC ℂ), c.D = 3 ∧ 2 * m < c.N ∧ 0 < m ∧
    (∀ i h, at2 uh i h = 0) ∧ 0 < modes c :=
  ⟨⟨3, 8, 1, 2, 3⟩, 2, #[], rfl, by norm_num, by norm_num, fun i h => by simp [at2], by decide⟩

end Exponax.ReadOff
