import ExponaxModel.Properties.C13
import ExponaxModel.Proofs.EtdrkStages
/-
C13: one ETDRK-`p` step assembled from the regenerated pieces (`Gen.Etdrk.exp_term`, `E?_coef_i`,
`E?step`) depends on `(dt, λ, N)` only through `(dt·λ, dt·N)`, for a single mode (`etdrkMode`) and for whole stored
multi-channel spectra (`etdrkStep`, state `Spec`: channel → flat stored mode → value).

`etdrkMode` / `etdrkStep` are what `exponax/etdrk/_etdrk_?.py` does in `__init__` + `step_fourier`: coefficient arrays
computed entrywise from `dt` and the linear operator, then the stage formulas; they contain no formula of their own.
For `p > 4` the source raises `NotImplementedError` (`Gen.Guards.BaseStepper_init_accepts`); the assembly returns the
state unchanged there.
-/
namespace Exponax.Interface
open Exponax Exponax.Gen.Etdrk

/-- whole stored spectra of a multi-channel state: channel → flat stored mode → value -/
abbrev Spec := ℕ → ℕ → ℂ

/-- one ETDRK-`p` step of a single mode with time step `dt`, linear symbol `lam`, `M` contour points of radius `r` and
    nonlinear map `N`: the regenerated coefficients fed to the regenerated stage formulas -/
noncomputable def etdrkMode (p : ℕ) (dt lam : ℂ) (M : ℕ) (r : ℂ) (N : ℂ → ℂ) (u : ℂ) : ℂ :=
  match p with
  | 0 => E0step (exp_term dt lam) u
  | 1 => E1step (exp_term dt lam) (E1_coef_1 dt lam M r) N u
  | 2 => E2step (exp_term dt lam) (E2_coef_1 dt lam M r) (E2_coef_2 dt lam M r) N u
  | 3 => E3step (exp_term dt lam) (E3_half_exp_term dt lam M r) (E3_coef_1 dt lam M r) (E3_coef_2 dt lam M r)
          (E3_coef_3 dt lam M r) (E3_coef_4 dt lam M r) (E3_coef_5 dt lam M r) N u
  | 4 => E4step (exp_term dt lam) (E4_half_exp_term dt lam M r) (E4_coef_1 dt lam M r) (E4_coef_2 dt lam M r)
          (E4_coef_3 dt lam M r) (E4_coef_4 dt lam M r) (E4_coef_5 dt lam M r) (E4_coef_6 dt lam M r) N u
  | _ => u

/-- one ETDRK-`p` step of a whole stored multi-channel spectrum: coefficient ARRAYS computed entrywise from `dt` and
    the symbol array `lam` (`ETDRK?.__init__`), then the stage formulas on arrays (`ETDRK?.step_fourier`) -/
noncomputable def etdrkStep (p : ℕ) (dt : ℂ) (lam : Spec) (M : ℕ) (r : ℂ) (N : Spec → Spec) (u : Spec) : Spec :=
  match p with
  | 0 => E0step (fun ch h => exp_term dt (lam ch h)) u
  | 1 => E1step (fun ch h => exp_term dt (lam ch h)) (fun ch h => E1_coef_1 dt (lam ch h) M r) N u
  | 2 => E2step (fun ch h => exp_term dt (lam ch h)) (fun ch h => E2_coef_1 dt (lam ch h) M r)
          (fun ch h => E2_coef_2 dt (lam ch h) M r) N u
  | 3 => E3step (fun ch h => exp_term dt (lam ch h)) (fun ch h => E3_half_exp_term dt (lam ch h) M r)
          (fun ch h => E3_coef_1 dt (lam ch h) M r) (fun ch h => E3_coef_2 dt (lam ch h) M r)
          (fun ch h => E3_coef_3 dt (lam ch h) M r) (fun ch h => E3_coef_4 dt (lam ch h) M r)
          (fun ch h => E3_coef_5 dt (lam ch h) M r) N u
  | 4 => E4step (fun ch h => exp_term dt (lam ch h)) (fun ch h => E4_half_exp_term dt (lam ch h) M r)
          (fun ch h => E4_coef_1 dt (lam ch h) M r) (fun ch h => E4_coef_2 dt (lam ch h) M r)
          (fun ch h => E4_coef_3 dt (lam ch h) M r) (fun ch h => E4_coef_4 dt (lam ch h) M r)
          (fun ch h => E4_coef_5 dt (lam ch h) M r) (fun ch h => E4_coef_6 dt (lam ch h) M r) N u
  | _ => u

/-- both assemblies are the order-indexed stage formula `Etdrk.etdrkGen`: at one symbol, and entrywise over a symbol array -/
theorem etdrkMode_eq_gen (p : ℕ) (dt lam : ℂ) (M : ℕ) (r : ℂ) (N : ℂ → ℂ) (u : ℂ) :
    etdrkMode p dt lam M r N u = Etdrk.etdrkGen (fun g => g lam) p dt M r N u := by
  match p with
  | 0 | 1 | 2 | 3 | 4 | (_ + 5) => rfl

theorem etdrkStep_eq_gen (p : ℕ) (dt : ℂ) (lam : Spec) (M : ℕ) (r : ℂ) (N : Spec → Spec) (u : Spec) :
    etdrkStep p dt lam M r N u = Etdrk.etdrkGen (fun g ch h => g (lam ch h)) p dt M r N u := by
  match p with
  | 0 | 1 | 2 | 3 | 4 | (_ + 5) => rfl

theorem etdrkStep_order0 (dt : ℂ) (lam : Spec) (M : ℕ) (r : ℂ) (N : Spec → Spec) (u : Spec) :
    etdrkStep 0 dt lam M r N u = E0step (fun ch h => exp_term dt (lam ch h)) u := rfl

theorem etdrkStep_order0_apply (dt : ℂ) (lam : Spec) (M : ℕ) (r : ℂ) (N : Spec → Spec) (u : Spec) (ch h : ℕ) :
    etdrkStep 0 dt lam M r N u ch h = etdrkMode 0 dt (lam ch h) M r (fun z => z) (u ch h) := rfl

theorem E3_half_exp_term_scaling (dt lam r : ℂ) (M : ℕ) :
    E3_half_exp_term dt lam M r = E3_half_exp_term 1 (dt * lam) M r := by
  simp only [E3_half_exp_term, mul_one, mul_assoc]

theorem E4_half_exp_term_scaling (dt lam r : ℂ) (M : ℕ) :
    E4_half_exp_term dt lam M r = E4_half_exp_term 1 (dt * lam) M r := by
  simp only [E4_half_exp_term, mul_one, mul_assoc]

/-- all fourteen coefficient functions: `coef(dt, λ) = dt · coef(1, dt·λ)` -/
theorem coef_scaling (dt lam r : ℂ) (M : ℕ) :
    E1_coef_1 dt lam M r = dt * E1_coef_1 1 (dt * lam) M r ∧
    E2_coef_1 dt lam M r = dt * E2_coef_1 1 (dt * lam) M r ∧
    E2_coef_2 dt lam M r = dt * E2_coef_2 1 (dt * lam) M r ∧
    E3_coef_1 dt lam M r = dt * E3_coef_1 1 (dt * lam) M r ∧
    E3_coef_2 dt lam M r = dt * E3_coef_2 1 (dt * lam) M r ∧
    E3_coef_3 dt lam M r = dt * E3_coef_3 1 (dt * lam) M r ∧
    E3_coef_4 dt lam M r = dt * E3_coef_4 1 (dt * lam) M r ∧
    E3_coef_5 dt lam M r = dt * E3_coef_5 1 (dt * lam) M r ∧
    E4_coef_1 dt lam M r = dt * E4_coef_1 1 (dt * lam) M r ∧
    E4_coef_2 dt lam M r = dt * E4_coef_2 1 (dt * lam) M r ∧
    E4_coef_3 dt lam M r = dt * E4_coef_3 1 (dt * lam) M r ∧
    E4_coef_4 dt lam M r = dt * E4_coef_4 1 (dt * lam) M r ∧
    E4_coef_5 dt lam M r = dt * E4_coef_5 1 (dt * lam) M r ∧
    E4_coef_6 dt lam M r = dt * E4_coef_6 1 (dt * lam) M r := by
  rw [mul_comm dt lam]
  simp only [E1_coef_1, E2_coef_1, E2_coef_2, E3_coef_1, E3_coef_2, E3_coef_3, E3_coef_4, E3_coef_5, E4_coef_1,
    E4_coef_2, E4_coef_3, E4_coef_4, E4_coef_5, E4_coef_6, mul_one, one_mul, and_self]

/-! With `dt` fixed, `coef_scaling dt` and its like rewrite the coefficients of the left side only (those of the
right side have `1` in place of `dt`), also under the binders of the coefficient functions; what remains is
`C13_step_scaling`.  The orders above 4 are closed by unfolding both sides to `u`: `rfl` would first try to identify
`dt` with `1` in `ℂ`. -/

/-- **Rescaling** of the order-indexed stage formula, for a multiplicative embedding `κ` of the coefficient functions
    (evaluation at a symbol, or entrywise along a symbol array): `step(dt, λ, N) = step(1, dt·λ, dt·N)` -/
theorem etdrkGen_rescale {K : Type} [CommRing K] (κ : (ℂ → ℂ) → K)
    (hκ : ∀ f g : ℂ → ℂ, κ (fun l => f l * g l) = κ f * κ g) (p : ℕ) (dt : ℂ) (M : ℕ) (r : ℂ) (N : K → K) (u : K) :
    Etdrk.etdrkGen κ p dt M r N u
      = Etdrk.etdrkGen (fun g => κ fun l => g (dt * l)) p 1 M r (fun v => κ (fun _ => dt) * N v) u := by
  have hE : κ (exp_term dt) = κ fun l => exp_term 1 (dt * l) := congrArg κ (funext (C13_exp_term_scaling dt))
  have hs := C13_step_scaling (κ fun _ => dt) (κ fun l => exp_term 1 (dt * l))
  match p with
  | 0 => simp only [Etdrk.etdrkGen, hE]
  | 1 =>
    simp only [Etdrk.etdrkGen, hE, coef_scaling dt, hκ]
    exact (hs 0 _ 0 0 0 0 0 N u).1
  | 2 =>
    simp only [Etdrk.etdrkGen, hE, coef_scaling dt, hκ]
    exact (hs 0 _ _ 0 0 0 0 N u).2.1
  | 3 =>
    simp only [Etdrk.etdrkGen, hE, E3_half_exp_term_scaling dt, coef_scaling dt, hκ]
    exact (hs _ _ _ _ _ _ 0 N u).2.2.1
  | 4 =>
    simp only [Etdrk.etdrkGen, hE, E4_half_exp_term_scaling dt, coef_scaling dt, hκ]
    exact (hs _ _ _ _ _ _ _ N u).2.2.2
  | (n + 5) => simp only [Etdrk.etdrkGen]

theorem etdrkMode_rescale (p : ℕ) (dt lam : ℂ) (M : ℕ) (r : ℂ) (N : ℂ → ℂ) (u : ℂ) :
    etdrkMode p dt lam M r N u = etdrkMode p 1 (dt * lam) M r (fun v => dt * N v) u := by
  rw [etdrkMode_eq_gen, etdrkMode_eq_gen, etdrkGen_rescale _ (fun _ _ => rfl)]

theorem etdrkStep_rescale (p : ℕ) (dt : ℂ) (lam : Spec) (M : ℕ) (r : ℂ) (N : Spec → Spec) (u : Spec) :
    etdrkStep p dt lam M r N u
      = etdrkStep p 1 (fun ch h => dt * lam ch h) M r (fun v => (fun _ _ => dt) * N v) u := by
  rw [etdrkStep_eq_gen, etdrkStep_eq_gen, etdrkGen_rescale _ (fun _ _ => rfl)]

theorem etdrkStep_normalize (p : ℕ) (dt : ℂ) (lamL lam1 : Spec) (M : ℕ) (r : ℂ) (NL N1 : Spec → Spec)
    (hlam : ∀ ch h, dt * lamL ch h = lam1 ch h) (hN : ∀ v ch h, dt * NL v ch h = N1 v ch h) (u : Spec) :
    etdrkStep p dt lamL M r NL u = etdrkStep p 1 lam1 M r N1 u := by
  rw [etdrkStep_rescale]
  have e1 : (fun ch h => dt * lamL ch h) = lam1 := funext₂ hlam
  have e2 : (fun v => (fun _ _ => dt) * NL v) = N1 := funext fun v => funext₂ (hN v)
  rw [e1, e2]

theorem etdrkMode_normalize (p : ℕ) (dt lamL lam1 : ℂ) (M : ℕ) (r : ℂ) (NL N1 : ℂ → ℂ)
    (hlam : dt * lamL = lam1) (hN : ∀ v, dt * NL v = N1 v) (u : ℂ) :
    etdrkMode p dt lamL M r NL u = etdrkMode p 1 lam1 M r N1 u := by
  rw [etdrkMode_rescale, hlam]
  have e2 : (fun v => dt * NL v) = N1 := funext hN
  rw [e2]

/-- non-vacuity of the hypotheses of `etdrkStep_normalize` / `etdrkMode_normalize` -/
example : ∃ (dt : ℂ) (lamL lam1 : Spec) (NL N1 : Spec → Spec),
    (∀ ch h, dt * lamL ch h = lam1 ch h) ∧ (∀ v ch h, dt * NL v ch h = N1 v ch h) :=
  ⟨2, fun _ _ => 1, fun _ _ => 2, fun v => v, fun v ch h => 2 * v ch h, fun _ _ => by norm_num, fun _ _ _ => rfl⟩

example : ∃ (dt lamL lam1 : ℂ) (NL N1 : ℂ → ℂ), dt * lamL = lam1 ∧ ∀ v, dt * NL v = N1 v :=
  ⟨2, 1, 2, fun v => v * v, fun v => 2 * (v * v), by norm_num, fun _ => rfl⟩

end Exponax.Interface
