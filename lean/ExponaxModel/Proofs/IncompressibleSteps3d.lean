import ExponaxModel.Properties.C10
/-
C10 for the 3-D velocity stepper.

`C10_step_preserves` / `C10_rollout_preserves` take "N has divergence-free output at EVERY index h"
as a hypothesis, `C10_proj3d_divfree` concludes it for the stored modes `h < modes c`.  Bridge: the
model output is a `tab2 3 (modes c) …`, so every entry read beyond the stored modes is `0` and the
divergence there vanishes trivially (`divFree_of_stored`).  The model term is read as a map on
mode-first spectra `U : mode → channel → ℂ` (the convention of `Exponax.DivFree`, `Properties/C10.lean`) through the
lift `EquivND.liftTermND` (the lift of C08) and a transposition (`liftModeFirst`).
-/
namespace Exponax.SmallGaps
open Exponax Exponax.Layout Exponax.Transform Exponax.Nonlin Exponax.Gen.Etdrk

/-- transposition between the mode-first convention of `Exponax.DivFree` and the channel-first one of
    `EquivND.liftTermND` -/
def tr (U : ℕ → ℕ → ℂ) : ℕ → ℕ → ℂ := fun a b => U b a

noncomputable def liftModeFirst (c : Cfg ℂ) (C : ℕ) (T : MC ℂ → MC ℂ) (U : ℕ → ℕ → ℂ) : ℕ → ℕ → ℂ :=
  tr (EquivND.liftTermND c C T (tr U))

theorem liftModeFirst_apply (c : Cfg ℂ) (C : ℕ) (T : MC ℂ → MC ℂ) (U : ℕ → ℕ → ℂ) (h d : ℕ) :
    liftModeFirst c C T U h d
      = if h < modes c then at2 (T (tab2 C (modes c) (fun ch m => U m ch))) d h else 0 := rfl

theorem divFree_of_stored (c : Cfg ℂ) (U A : ℕ → ℕ → ℂ) (hU : ∀ h d, U h d = if h < modes c then A d h else 0)
    (hA : ∀ h < modes c, sumList ((List.range c.D).map (fun d => Nonlin.deriv c d h * A d h)) = 0) :
    DivFree c U := by
  intro h
  unfold vecDiv
  simp only [hU]
  rcases Nat.lt_or_ge h (modes c) with hh | hh
  · simp only [if_pos hh]
    rw [← sumList_range_eq]
    exact hA h hh
  · simp only [if_neg (Nat.not_lt.mpr hh), mul_zero, Finset.sum_const_zero]

/-- the hypothesis `hN` of `C10_step_preserves` holds for the 3-D rotational convection term -/
theorem projected3d_lift_divFree (c : Cfg ℂ) (s : ℝ) (hs : c.s = (s : ℂ)) (hs0 : s ≠ 0) (hD : c.D ≤ 3)
    (inj : Option (ℕ × ℂ)) (V : ℕ → ℕ → ℂ) :
    DivFree c (liftModeFirst c 3 (projected3d c inj) V) :=
  divFree_of_stored c _ _ (fun h d => liftModeFirst_apply c 3 _ V h d)
    (fun h hh => C10_proj3d_divfree c s hs hs0 hD inj _ h hh)

/-! non-vacuity: a configuration satisfying the hypotheses, and a divergence-free spectrum (`0`;
a non-trivial one is any `leray` output, `C10_leray_divfree`) -/
example : ∃ c : Cfg ℂ, ∃ s : ℝ, c.s = (s : ℂ) ∧ s ≠ 0 ∧ c.D ≤ 3 ∧ DivFree c 0 :=
  ⟨{ D := 3, N := 4, s := ((1 : ℝ) : ℂ), fp := 2, fq := 3 }, 1, rfl, one_ne_zero, by decide,
    fun h => by unfold vecDiv; simp⟩

/-- a NON-trivial divergence-free spectrum: the mode-first read-off of any Leray output -/
theorem divFree_of_leray (c : Cfg ℂ) (s : ℝ) (hs : c.s = (s : ℂ)) (hs0 : s ≠ 0) (uh : MC ℂ) :
    DivFree c (fun h d => if h < modes c then at2 (leray c uh) d h else 0) :=
  divFree_of_stored c _ (fun d h => at2 (leray c uh) d h) (fun _ _ => rfl) (C10_leray_divfree c s hs hs0 uh)

end Exponax.SmallGaps
