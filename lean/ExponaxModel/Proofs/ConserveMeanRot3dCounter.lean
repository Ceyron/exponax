import ExponaxModel.Proofs.ConserveMeanRot3d
import ExponaxModel.Proofs.Laminar3D
/-
C09: the statement "the 3-D rotational term has zero mean mode in every channel for EVERY spectrum"
is FALSE.  Counterexample through the model pipeline: `D = 3`, `N = 8`, `s = 1`, 2/3-rule mask (`Kc = 1`, so `2·Kc < N`),
the spectrum carried by the single stored mode `k = (0, 1, 0)` with `û₀ = 1`, `û₁ = −i`, `û₂ = 0` (NOT divergence free:
`(i s k)·û = 1` there).  Then `u₀(x) = ∇·u(x) = Re ζ^{−x₁} / 8³`, and by `projected3d_mean_eq_div`
the mean mode of channel 0 is `Σ_x (Re ζ^{−x₁})² / 8⁶ > 0`.
-/
namespace Exponax.SmallGaps3
open Exponax Exponax.Layout Exponax.Transform Exponax.DFT Exponax.Nonlin Exponax.Alias Exponax.AliasND Finset
open Exponax.Laminar3D

noncomputable def c8 : Cfg ℂ := { D := 3, N := 8, s := ((1 : ℝ) : ℂ), fp := 2, fq := 3 }

theorem c8_D : c8.D = 3 := rfl
theorem c8_m : 2 * 1 < c8.N := by show 2 * 1 < 8; norm_num
theorem c8_q : c8.fq ≠ 0 := by show (3 : ℕ) ≠ 0; norm_num
theorem c8_N : 0 < c8.N := by show 0 < 8; norm_num
theorem c8_Kc : Kc c8 = 1 := by
  unfold Kc
  show (((2 : ℕ) : ℤ) * ((8 / 2 : ℕ) : ℤ) - ((3 : ℕ) : ℤ)) / ((3 : ℕ) : ℤ) = 1
  norm_num
theorem c8_2K : 2 * Kc c8 < (c8.N : ℤ) := by
  rw [c8_Kc]
  show (2 : ℤ) * 1 < ((8 : ℕ) : ℤ)
  norm_num

theorem c8_mask_hP : mask c8 (hP c8 1) = 1 := by
  rw [mask_nd_eq_one_iff c8 c8_q, c8_Kc]
  intro d
  unfold kvec
  rw [wnFlat_hP c8 c8_D 1 c8_m]
  have e : ∀ i < 3, |([0, ((1 : ℕ) : ℤ), 0] : List ℤ).getD i 0| ≤ 1 := by decide
  exact e d d.2

theorem c8_mask_zero : mask c8 0 = 1 := by
  rw [mask_nd_eq_one_iff c8 c8_q, c8_Kc, kvec_zero]
  intro d
  simp

noncomputable def zA (a : ℂ) : Array ℂ := tab (modes c8) fun h => if h = hP c8 1 then a else 0

theorem zA_hP (a : ℂ) : (zA a).getD (hP c8 1) 0 = a := by
  unfold zA
  rw [Nonlin.tab_getD _ _ _ _ (hP_lt c8 c8_D 1 c8_m), if_pos rfl]

theorem zA_ne (a : ℂ) (h : ℕ) (hne : h ≠ hP c8 1) : (zA a).getD h 0 = 0 := by
  unfold zA
  rcases Nat.lt_or_ge h (modes c8) with hh | hh
  · rw [Nonlin.tab_getD _ _ _ _ hh, if_neg hne]
  · exact Nonlin.tab_getD_of_le _ _ _ _ hh

noncomputable def uhC : MC ℂ := #[zA 1, zA (-Complex.I), #[]]

theorem nifft_zA (a : ℂ) (x : ℕ) (hx : x < c8.N ^ c8.D) :
    (nifft c8 (zA a)).getD x 0 = ((((a * (wph c8 1 x)⁻¹).re : ℝ)) : ℂ) / ((c8.N ^ c8.D : ℕ) : ℂ) := by
  rw [nifft_two_mode c8 c8_D 1 (by norm_num) c8_m (zA a) (fun h _ h1 _ => zA_ne a h h1) x hx,
    c8_mask_hP, zA_hP, zA_ne a _ (hP_ne_hM c8 c8_D 1 c8_m (by norm_num)).symm]
  simp

/-- the channels of a three-channel literal; stated over variables, since `rfl` or `unfold at2` on the concrete
    `uhC` makes the kernel tabulate `zA` -/
theorem getD_three (a b d : Array ℂ) :
    (#[a, b, d] : MC ℂ).getD 0 #[] = a ∧ (#[a, b, d] : MC ℂ).getD 1 #[] = b ∧ (#[a, b, d] : MC ℂ).getD 2 #[] = d :=
  ⟨rfl, rfl, rfl⟩

theorem at2_three (a b d : Array ℂ) (h : ℕ) :
    at2 #[a, b, d] 0 h = a.getD h 0 ∧ at2 #[a, b, d] 1 h = b.getD h 0 ∧ at2 #[a, b, d] 2 h = d.getD h 0 :=
  ⟨rfl, rfl, rfl⟩

theorem velGrid_C (x : ℕ) (hx : x < c8.N ^ c8.D) :
    Conserve.velGrid c8 uhC 0 x = (((((wph c8 1 x)⁻¹).re : ℝ)) : ℂ) / ((c8.N ^ c8.D : ℕ) : ℂ) := by
  unfold Conserve.velGrid uhC
  rw [(getD_three _ _ _).1, nifft_zA 1 x hx, one_mul]

theorem c8_s : c8.s = 1 := Complex.ofReal_one

theorem divHat_C : divHat c8 uhC = zA 1 := by
  unfold divHat zA uhC
  apply Nonlin.tab_congr
  intro h hh
  obtain ⟨e0, e1, e2⟩ := at2_three (zA 1) (zA (-Complex.I)) #[] h
  have e3 : (#[] : Array ℂ).getD h 0 = 0 := rfl
  rw [e0, e1, e2, e3, mul_zero, add_zero]
  split_ifs with hh1
  · rw [hh1, zA_hP, zA_hP, Nonlin.deriv_eq, Nonlin.deriv_eq, (kInt_hP c8 c8_D 1 c8_m).1, (kInt_hP c8 c8_D 1 c8_m).2.1,
      c8_s]
    push_cast
    linear_combination -Complex.I_mul_I
  · rw [zA_ne _ h hh1, zA_ne _ h hh1, mul_zero, mul_zero, add_zero]

theorem divGrid_C (x : ℕ) (hx : x < c8.N ^ c8.D) :
    divGrid c8 uhC x = (((((wph c8 1 x)⁻¹).re : ℝ)) : ℂ) / ((c8.N ^ c8.D : ℕ) : ℂ) := by
  unfold divGrid
  rw [divHat_C, nifft_zA 1 x hx, one_mul]

theorem projected3d_mean_counter_value :
    at2 (projected3d c8 none uhC) 0 0
      = ((∑ x ∈ range (c8.N ^ c8.D), (((wph c8 1 x)⁻¹).re / ((c8.N ^ c8.D : ℕ) : ℝ)) ^ 2 : ℝ) : ℂ) := by
  rw [projected3d_mean_eq_div c8 c8_D c8_N (Kc c8) (maskIn_Kc c8 c8_q) c8_2K 1 rfl uhC 0 (by norm_num), c8_mask_zero, one_mul]
  push_cast
  apply Finset.sum_congr rfl
  intro x hx
  rw [velGrid_C x (Finset.mem_range.mp hx), divGrid_C x (Finset.mem_range.mp hx)]
  push_cast
  ring

theorem projected3d_mean_counter_pos :
    0 < ∑ x ∈ range (c8.N ^ c8.D), (((wph c8 1 x)⁻¹).re / ((c8.N ^ c8.D : ℕ) : ℝ)) ^ 2 := by
  have h0 : 0 ∈ range (c8.N ^ c8.D) := Finset.mem_range.mpr (pow_pos c8_N _)
  refine lt_of_lt_of_le ?_ (Finset.single_le_sum (f := fun x => (((wph c8 1 x)⁻¹).re / ((c8.N ^ c8.D : ℕ) : ℝ)) ^ 2)
    (fun x _ => sq_nonneg _) h0)
  have w0 : wph c8 1 0 = 1 := by
    unfold wph
    rw [ExactLinear.phaseK_zero_point, zpow_zero]
  show 0 < (((wph c8 1 0)⁻¹).re / ((c8.N ^ c8.D : ℕ) : ℝ)) ^ 2
  rw [w0, inv_one, Complex.one_re]
  have : (0 : ℝ) < ((c8.N ^ c8.D : ℕ) : ℝ) := by exact_mod_cast pow_pos c8_N c8.D
  positivity

theorem projected3d_mean_counter : at2 (projected3d c8 none uhC) 0 0 ≠ 0 := by
  rw [projected3d_mean_counter_value]
  exact_mod_cast projected3d_mean_counter_pos.ne'

/-- without the divergence-free hypothesis `projected3d_mean_zero` is false -/
theorem projected3d_mean_zero_false :
    ¬ ∀ (c : Cfg ℂ) (s : ℝ) (uh : MC ℂ) (i : ℕ), c.D = 3 → c.fq ≠ 0 → 0 < c.N → 2 * Kc c < (c.N : ℤ) → c.s = (s : ℂ) →
        at2 (projected3d c none uh) i 0 = 0 :=
  fun h => projected3d_mean_counter (h c8 1 uhC 0 c8_D c8_q c8_N c8_2K rfl)

end Exponax.SmallGaps3
