import ExponaxModel.Proofs.EtdrkAlgebra
import Mathlib.RingTheory.RootsOfUnity.Complex
/-
The Kassam–Trefethen contour rule on the nodes generated from `etdrk/_utils.py::roots_of_unity` is exact on
polynomials of degree < M (`C02_contour_exact_poly`).  The reason is the aliasing identity
`ContourTail.contourMean_hasSum`: the mean of a power series over the nodes keeps the coefficients `b_{mM}` only.
Then what Properties/C02.lean and Stiffness.lean start from: every generated coefficient is `dt ·` a contour mean
(`coef_as_contourMean`), and the integrands `E?_scan_body_?` and the φ-combinations are the quotients the code writes.
-/
namespace Exponax
open Exponax.Spec Exponax.Gen.Etdrk

theorem contourMean_eq (roots : List ℂ) (r : ℂ) (f : ℂ → ℂ) (z : ℂ) :
    contourMean roots r f z = (roots.map (fun ζ => f (r * ζ + z))).sum / (roots.length : ℂ) := by
  simp [contourMean, sumList_eq]

@[simp] theorem length_roots (M : ℕ) : (roots_of_unity (K := ℂ) M).length = M := by
  simp [roots_of_unity]

/-- `θ_j`: the nodes are `e^{iθ_j}`, offset by half a step from the `M`-th roots of unity -/
noncomputable def nodeAngle (M j : ℕ) : ℝ := 2 * Real.pi * ((j : ℝ) - 1 / 2) / (M : ℝ)

theorem root_of_unity_eq_exp (M j : ℕ) :
    (root_of_unity M j : ℂ) = Complex.exp ((nodeAngle M j : ℝ) * Complex.I) := by
  simp only [root_of_unity, hasExp_complex, lit_eq, qlit_eq, hasI_complex, hasPi_complex, nodeAngle]
  congr 1
  push_cast
  ring

theorem root_of_unity_eq (M j : ℕ) :
    (root_of_unity M j : ℂ) = Complex.exp (2 * Real.pi * Complex.I / M) ^ j * Complex.exp (-(Real.pi * Complex.I / M)) := by
  rw [root_of_unity_eq_exp, ← Complex.exp_nat_mul, ← Complex.exp_add, nodeAngle]
  congr 1
  push_cast
  ring

theorem norm_root_of_unity (M j : ℕ) : ‖(root_of_unity M j : ℂ)‖ = 1 := by
  rw [root_of_unity_eq_exp, Complex.norm_exp_ofReal_mul_I]

theorem mem_roots_iff (M : ℕ) (ζ : ℂ) :
    ζ ∈ (roots_of_unity M : List ℂ) ↔ ∃ i, i < M ∧ root_of_unity M (i + 1) = ζ := by
  simp only [roots_of_unity, List.mem_map, List.mem_range]

theorem forall_mem_roots {P : ℂ → Prop} (M : ℕ) (h : ∀ j, P (root_of_unity M j)) :
    ∀ ζ ∈ (roots_of_unity M : List ℂ), P ζ := by
  intro ζ hζ
  obtain ⟨i, _, rfl⟩ := (mem_roots_iff M ζ).mp hζ
  exact h (i + 1)

theorem roots_sum_pow (M n : ℕ) (hM : 0 < M) (hn : ¬ M ∣ n) :
    ((roots_of_unity (K := ℂ) M).map (fun ζ => ζ ^ n)).sum = 0 := by
  have hω := Complex.isPrimitiveRoot_exp M (Nat.pos_iff_ne_zero.mp hM)
  set ω := Complex.exp (2 * Real.pi * Complex.I / M) with hωdef
  simp only [roots_of_unity, List.map_map]
  rw [list_range_map_sum]
  simp only [Function.comp, root_of_unity_eq, ← hωdef, mul_pow]
  rw [← Finset.sum_mul]
  have h1 : ω ^ n ≠ 1 := by
    intro h
    exact hn ((hω.pow_eq_one_iff_dvd n).mp h)
  have h2 : ∑ i ∈ Finset.range M, (ω ^ (i + 1)) ^ n = 0 := by
    have : ∀ i, (ω ^ (i + 1)) ^ n = ω ^ n * (ω ^ n) ^ i := by
      intro i
      rw [← pow_mul, ← pow_mul, ← pow_add]
      congr 1
      ring
    simp only [this, ← Finset.mul_sum]
    rw [geom_sum_eq h1]
    have : (ω ^ n) ^ M = 1 := by rw [← pow_mul, mul_comm, pow_mul, hω.pow_eq_one, one_pow]
    simp [this]
  rw [h2, zero_mul]

namespace ContourTail

theorem root_of_unity_pow_M (M j : ℕ) (hM : 0 < M) : (root_of_unity M j : ℂ) ^ M = -1 := by
  have hMne : (M : ℂ) ≠ 0 := by exact_mod_cast hM.ne'
  have h : (M : ℂ) * ((nodeAngle M j : ℝ) * Complex.I)
      = j * (2 * Real.pi * Complex.I) - Real.pi * Complex.I := by
    rw [nodeAngle]
    push_cast
    field_simp
  rw [root_of_unity_eq_exp, ← Complex.exp_nat_mul, h, Complex.exp_sub, Complex.exp_nat_mul,
    Complex.exp_two_pi_mul_I, one_pow, Complex.exp_pi_mul_I, one_div_neg_one_eq_neg_one]

theorem roots_sum_pow_mul (M m : ℕ) (hM : 0 < M) :
    ((roots_of_unity (K := ℂ) M).map (fun ζ => ζ ^ (m * M))).sum = (M : ℂ) * (-1) ^ m := by
  simp only [roots_of_unity, List.map_map]
  rw [list_range_map_sum]
  simp only [Function.comp, mul_comm m M, pow_mul, root_of_unity_pow_M _ _ hM]
  simp

theorem norm_of_mem_roots (M : ℕ) (ζ : ℂ) (h : ζ ∈ (roots_of_unity M : List ℂ)) : ‖ζ‖ = 1 :=
  forall_mem_roots (P := fun ζ => ‖ζ‖ = 1) M (norm_root_of_unity M) ζ h

theorem hasSum_list_sum (l : List ℂ) (F : ℂ → ℕ → ℂ) (g : ℂ → ℂ)
    (h : ∀ ζ ∈ l, HasSum (F ζ) (g ζ)) :
    HasSum (fun n => (l.map (fun ζ => F ζ n)).sum) (l.map g).sum := by
  induction l with
  | nil => simp
  | cons x xs ih =>
    simp only [List.map_cons, List.sum_cons]
    exact (h x (by simp)).add (ih (fun ζ hζ => h ζ (by simp [hζ])))

/-- `(1/M) Σ_j ζ_j^n` is `(−1)^m` for `n = mM` and `0` when `M ∤ n`: a series weighted by these means keeps
    only the terms `n = mM` -/
theorem hasSum_alias (M : ℕ) (hM : 0 < M) (a : ℕ → ℂ) (s : ℂ)
    (h : HasSum (fun n => a n * (((roots_of_unity (K := ℂ) M).map (fun ζ => ζ ^ n)).sum / M)) s) :
    HasSum (fun m => (-1) ^ m * a (m * M)) s := by
  have hMne : (M : ℂ) ≠ 0 := by exact_mod_cast hM.ne'
  have hinj : Function.Injective (fun m : ℕ => m * M) := fun a c hac =>
    Nat.eq_of_mul_eq_mul_right hM hac
  have hzero : ∀ n, n ∉ Set.range (fun m : ℕ => m * M) →
      a n * (((roots_of_unity (K := ℂ) M).map (fun ζ => ζ ^ n)).sum / M) = 0 := by
    intro n hn
    rw [roots_sum_pow M n hM (fun ⟨k, hk⟩ => hn ⟨k, by rw [hk, mul_comm]⟩), zero_div, mul_zero]
  have h4 := (hinj.hasSum_iff hzero).mpr h
  refine h4.congr_fun fun m => ?_
  rw [Function.comp_apply, roots_sum_pow_mul M m hM, mul_div_cancel_left₀ _ hMne, mul_comm]

/-- the aliasing identity; only convergence at the nodes is needed -/
theorem contourMean_hasSum (M : ℕ) (hM : 0 < M) (r z : ℂ) (f : ℂ → ℂ) (b : ℕ → ℂ)
    (hf : ∀ ζ ∈ (roots_of_unity M : List ℂ),
      HasSum (fun n => b n * (r * ζ) ^ n) (f (r * ζ + z))) :
    HasSum (fun m => (-1) ^ m * b (m * M) * r ^ (m * M))
      (contourMean (roots_of_unity M) r f z) := by
  rw [contourMean_eq, length_roots]
  have h1 := (hasSum_list_sum (roots_of_unity M) (fun ζ n => b n * (r * ζ) ^ n)
    (fun ζ => f (r * ζ + z)) hf).div_const (M : ℂ)
  have h2 : ∀ n, ((roots_of_unity (K := ℂ) M).map (fun ζ => b n * (r * ζ) ^ n)).sum / (M : ℂ)
      = b n * r ^ n * (((roots_of_unity (K := ℂ) M).map (fun ζ => ζ ^ n)).sum / M) := by
    intro n
    simp only [mul_pow, ← mul_assoc, List.sum_map_mul_left, mul_div_assoc]
  simp only [h2] at h1
  simpa only [mul_assoc] using hasSum_alias M hM _ _ h1

end ContourTail

/-- shape of every generated coefficient: `dt · (Σ_j g(ζ_j))/M` is `dt ·` a contour mean -/
theorem coef_as_contourMean (dt z r : ℂ) (M : ℕ) (g f : ℂ → ℂ) (h : ∀ ζ, g ζ = f (r * ζ + z)) :
    dt * (foldAdd 0 g (roots_of_unity M) / (M : ℂ)) = dt * contourMean (roots_of_unity M) r f z := by
  rw [foldAdd_eq, contourMean_eq, length_roots, zero_add]
  congr 3
  apply List.map_congr_left
  intro ζ _
  exact h ζ

theorem contourMean_congr_nodes (M : ℕ) (r z : ℂ) (g fe : ℂ → ℂ)
    (h : ∀ ζ ∈ (roots_of_unity M : List ℂ), g (r * ζ + z) = fe (r * ζ + z)) :
    contourMean (roots_of_unity M) r g z = contourMean (roots_of_unity M) r fe z := by
  rw [contourMean_eq, contourMean_eq]
  congr 2
  exact List.map_congr_left h

theorem norm_list_map_sum_le (l : List ℂ) (g : ℂ → ℂ) (C : ℝ) (h : ∀ ζ ∈ l, ‖g ζ‖ ≤ C) :
    ‖(l.map g).sum‖ ≤ l.length * C := by
  induction l with
  | nil => simp
  | cons a l ih =>
    rw [List.map_cons, List.sum_cons, List.length_cons, Nat.cast_succ, add_one_mul, add_comm (_ * C)]
    exact norm_add_le_of_le (h a List.mem_cons_self)
      (ih fun ζ hζ => h ζ (List.mem_cons_of_mem a hζ))

end Exponax

namespace Exponax
open Exponax.Spec Exponax.Gen.Etdrk

/-! ### the integrands as written: quotients in `lr = r ζ + z`

One lemma per distinct body: the regenerated classes repeat bodies under other names (`φ₁`: `E1_scan_body_0`,
`E2_scan_body_0`, `E3_scan_body_1`; half step: `E3_/E4_scan_body_0`; weights: `E3_scan_body_2/4` are `E4_scan_body_1/3`),
and the lemma of one name serves the others by definitional equality (Properties/C02.lean does this); an edit to one
class's integrand shows up there as a type mismatch. -/

section Quotients
variable (z r ζ : ℂ)

theorem E1_scan_body_0_eq :
    E1_scan_body_0 z r ζ = (Complex.exp (r * ζ + z) - 1) / (r * ζ + z) := by
  simp only [E1_scan_body_0, hasExp_complex, lit_eq, Nat.cast_one]

theorem E2_scan_body_1_eq :
    E2_scan_body_1 z r ζ = (Complex.exp (r * ζ + z) - 1 - (r * ζ + z)) / (r * ζ + z) ^ 2 := by
  simp only [E2_scan_body_1, hasExp_complex, lit_eq, npow_eq, Nat.cast_one]

theorem E4_scan_body_0_eq :
    E4_scan_body_0 z r ζ = (Complex.exp ((r * ζ + z) / 2) - 1) / (r * ζ + z) := by
  simp only [E4_scan_body_0, hasExp_complex, lit_eq, Nat.cast_one, Nat.cast_ofNat]

theorem E4_scan_body_1_eq :
    E4_scan_body_1 z r ζ = (-4 - (r * ζ + z) + Complex.exp (r * ζ + z)
      * (4 - 3 * (r * ζ + z) + (r * ζ + z) ^ 2)) / (r * ζ + z) ^ 3 := by
  simp only [E4_scan_body_1, hasExp_complex, lit_eq, npow_eq]
  push_cast
  rfl

theorem E4_scan_body_2_eq :
    E4_scan_body_2 z r ζ
      = (2 + (r * ζ + z) + Complex.exp (r * ζ + z) * (-2 + (r * ζ + z))) / (r * ζ + z) ^ 3 := by
  simp only [E4_scan_body_2, hasExp_complex, lit_eq, npow_eq]
  push_cast
  rfl

theorem E4_scan_body_3_eq :
    E4_scan_body_3 z r ζ = (-4 - 3 * (r * ζ + z) - (r * ζ + z) ^ 2
      + Complex.exp (r * ζ + z) * (4 - (r * ζ + z))) / (r * ζ + z) ^ 3 := by
  simp only [E4_scan_body_3, hasExp_complex, lit_eq, npow_eq]
  push_cast
  rfl

theorem E3_scan_body_3_eq : E3_scan_body_3 z r ζ = 4 * E4_scan_body_2 z r ζ := by
  simp only [E3_scan_body_3, E4_scan_body_2, mul_div_assoc, lit_eq, Nat.cast_ofNat]

end Quotients

/-! ### the φ-combinations as the quotients the code writes (any `w`, total division) -/

section Forms
variable (w : ℂ)

theorem phi1_half_eq : phi1 (w / 2) / 2 = (Complex.exp (w / 2) - 1) / w := by
  simp only [phi1, hasExp_complex]
  rcases eq_or_ne w 0 with rfl | h
  · simp
  · field_simp

theorem cformC_eq : phi1 w - 3 * phi2 w + 4 * phi3 w
    = (-4 - w + Complex.exp w * (4 - 3 * w + w ^ 2)) / w ^ 3 := by
  simp only [phi1, phi2, phi3, hasExp_complex, lit_eq]
  generalize Complex.exp w = e
  push_cast
  field_simp
  ring

theorem cformF_eq : phi2 w - 2 * phi3 w = (2 + w + Complex.exp w * (-2 + w)) / w ^ 3 := by
  simp only [phi2, phi3, hasExp_complex, lit_eq]
  generalize Complex.exp w = e
  push_cast
  field_simp
  ring

theorem cformE_eq : 4 * phi3 w - phi2 w
    = (-4 - 3 * w - w ^ 2 + Complex.exp w * (4 - w)) / w ^ 3 := by
  simp only [phi2, phi3, hasExp_complex, lit_eq]
  generalize Complex.exp w = e
  push_cast
  field_simp
  ring

end Forms

end Exponax
