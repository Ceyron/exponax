import ExponaxModel.Proofs.InterpGrid
/-
C15 support — 1-D sub-sampling of an up-sampled field (`N_new = p·N_old`) with the exact Nyquist defect, from the
general 1-D formula `mapBetween_one_getD`: the state need not be band-limited.
-/
namespace Exponax.Interp
open Exponax Exponax.Layout Exponax.Transform Exponax.DFT Finset

theorem zeta_mul_zpow (p N : ℕ) (hp : 0 < p) (hN : 0 < N) (k : ℤ) :
    zeta (p * N) ^ ((p : ℤ) * k) = zeta N ^ k := by
  rw [zeta_zpow_eq_exp, zeta_zpow_eq_exp]
  congr 1
  have hp' : (p : ℂ) ≠ 0 := by exact_mod_cast hp.ne'
  have hN' : (N : ℂ) ≠ 0 := by exact_mod_cast hN.ne'
  push_cast
  field_simp

theorem zeta_nyquist_neg (N : ℕ) (hN : 0 < N) (hev : N % 2 = 0) (j : ℕ) :
    zeta N ^ (-(((N / 2 : ℕ) : ℤ) * (j : ℤ))) = (-1 : ℂ) ^ j := by
  have hprim := zeta_isPrimitiveRoot N hN
  have h2 : (2 : ℕ) * (N / 2) = N := by omega
  have hsq : (zeta N ^ (N / 2)) ^ 2 = 1 := by
    rw [← pow_mul, mul_comm, h2, zeta_pow_self]
  have hne : zeta N ^ (N / 2) ≠ 1 := by
    intro h1
    have hd := (hprim.pow_eq_one_iff_dvd (N / 2)).mp h1
    have := Nat.le_of_dvd (by omega) hd
    omega
  have hm1 : zeta N ^ (N / 2) = -1 := by
    rw [pow_two] at hsq
    rcases mul_self_eq_one_iff.mp hsq with h | h
    · exact absurd h hne
    · exact h
  rw [zpow_neg, zpow_mul, zpow_natCast, zpow_natCast, hm1, ← inv_pow, inv_neg_one]

/-- **Sub-sampling, exact form.**  `N_new = p·N_old`, `p ≥ 2`: every `p`-th sample of the up-sampled field
    is the original sample plus the Nyquist defect.  For odd `N_old` there is no defect (any real
    `u`); for even `N_old` the Nyquist mode `û_{N/2}` (real) is REMOVED when `oddballZero = true`
    (defect `−(−1)^j û_{N/2}/N`) and DOUBLED when `oddballZero = false` (defect `+(−1)^j û_{N/2}/N`),
    because the copied entry gets the c2r weight 2 of an interior mode of the finer grid. -/
theorem mapBetween_one_subsample (Nold p : ℕ) (hNo : 0 < Nold) (hp : 2 ≤ p) (ob : Bool)
    (u : Array ℂ) (hu : ∀ j < Nold, (u.getD j 0).im = 0) (j : ℕ) (hj : j < Nold) :
    (mapBetween 1 Nold (p * Nold) ob u).getD (p * j) 0 =
      u.getD j 0 +
        (if Nold % 2 = 0 then
          (if ob = true then (-1 : ℂ) else 1) * (-1 : ℂ) ^ j *
            ((((rfftnM 1 Nold u).getD (Nold / 2) 0).re : ℝ) : ℂ) / (Nold : ℂ)
         else 0) := by
  have hle : 2 * Nold ≤ p * Nold := Nat.mul_le_mul_right Nold hp
  have hne : Nold ≠ p * Nold := by omega
  have hNn : 0 < p * Nold := by omega
  have hjn : p * j < p * Nold := (Nat.mul_lt_mul_left (by omega)).2 hj
  have hmin : min Nold (p * Nold) = Nold := min_eq_left (by omega)
  have hNo' : (Nold : ℂ) ≠ 0 := by exact_mod_cast hNo.ne'
  rw [mapBetween_one_getD Nold (p * Nold) hne hNn ob u (p * j) hjn, hmin,
    ← irfftn_rfftn 1 Nold one_pos hNo u (by rwa [pow_one]) j (by rwa [pow_one]), irfft1_getD Nold hNo _ j hj]
  have hz : ∀ h : ℕ, zeta (p * Nold) ^ (-((h : ℤ) * ((p * j : ℕ) : ℤ))) = zeta Nold ^ (-((h : ℤ) * (j : ℤ))) := by
    intro h
    rw [← zeta_mul_zpow p Nold (by omega) hNo]
    congr 1
    push_cast
    ring
  simp only [hz]
  -- weights agree off the (even) Nyquist entry
  have hw : ∀ h, h ≤ Nold / 2 → ¬ (Nold % 2 = 0 ∧ h = Nold / 2) →
      mapWeight Nold (p * Nold) ob h = herm_weight 1 Nold h := by
    intro h hh hny
    unfold mapWeight
    rw [hmin, if_neg (fun h => hny h.2), herm_weight_one_of_lt _ h (by omega), herm_weight_one_of_lt _ h (by omega)]
  by_cases hev : Nold % 2 = 0
  · rw [if_pos hev, Finset.sum_range_succ, Finset.sum_range_succ, zeta_nyquist_neg Nold hNo hev]
    have hlow : ∀ h ∈ range (Nold / 2),
        (mapWeight Nold (p * Nold) ob h : ℂ) *
          ((((rfftnM 1 Nold u).getD h 0 * zeta Nold ^ (-((h : ℤ) * (j : ℤ)))).re : ℝ) : ℂ)
        = (herm_weight 1 Nold h : ℂ) *
          ((((rfftnM 1 Nold u).getD h 0 * zeta Nold ^ (-((h : ℤ) * (j : ℤ)))).re : ℝ) : ℂ) := by
      intro h hh
      have := Finset.mem_range.mp hh
      rw [hw h (by omega) (by omega)]
    rw [Finset.sum_congr rfl hlow]
    have hre : ((((rfftnM 1 Nold u).getD (Nold / 2) 0 * (-1 : ℂ) ^ j).re : ℝ) : ℂ)
        = (-1 : ℂ) ^ j * ((((rfftnM 1 Nold u).getD (Nold / 2) 0).re : ℝ) : ℂ) := by
      rw [show ((-1 : ℂ) ^ j) = (((-1 : ℝ) ^ j : ℝ) : ℂ) by push_cast; rfl, mul_comm,
        Complex.re_ofReal_mul]
      push_cast; rfl
    rw [hre]
    have hwn : herm_weight 1 Nold (Nold / 2) = 1 := by
      rw [herm_weight_one, if_pos (Or.inr ⟨hev, rfl⟩)]
    have hmw : (mapWeight Nold (p * Nold) ob (Nold / 2) : ℂ) = if ob = true then 0 else 2 := by
      unfold mapWeight
      rw [hmin, herm_weight_one_of_lt _ _ (by omega), if_neg (show ¬ Nold / 2 = 0 by omega)]
      cases ob
      · rw [if_neg (fun h => Bool.false_ne_true h.1), if_neg Bool.false_ne_true, Nat.cast_ofNat]
      · rw [if_pos ⟨rfl, hev, rfl⟩, if_pos rfl, Nat.cast_zero]
    rw [hwn, hmw]
    cases ob
    · simp only [Bool.false_eq_true, if_false]
      push_cast
      field_simp
      ring
    · simp only [if_true]
      push_cast
      field_simp
      ring
  · rw [if_neg hev, add_zero]
    refine congrArg (· / (Nold : ℂ)) (Finset.sum_congr rfl fun h hh => ?_)
    have := Finset.mem_range.mp hh
    rw [hw h (by omega) (fun h => hev h.1)]

/-- **Sub-sampling, odd `N_old`**: every `p`-th sample of the up-sampled field is the original sample,
    for ANY real field (no band-limit hypothesis) and both values of `oddballZero`. -/
theorem mapBetween_one_subsample_odd (Nold p : ℕ) (hNo : 0 < Nold) (hp : 2 ≤ p) (hodd : Nold % 2 = 1)
    (ob : Bool) (u : Array ℂ) (hu : ∀ j < Nold, (u.getD j 0).im = 0) (j : ℕ) (hj : j < Nold) :
    (mapBetween 1 Nold (p * Nold) ob u).getD (p * j) 0 = u.getD j 0 := by
  rw [mapBetween_one_subsample Nold p hNo hp ob u hu j hj, if_neg (by omega), add_zero]

/-- **Sub-sampling, even `N_old`**: the samples are reproduced iff the Nyquist coefficient vanishes
    (for both values of `oddballZero`). -/
theorem mapBetween_one_subsample_even_iff (Nold p : ℕ) (hNo : 0 < Nold) (hp : 2 ≤ p) (hev : Nold % 2 = 0)
    (ob : Bool) (u : Array ℂ) (hu : ∀ j < Nold, (u.getD j 0).im = 0) :
    (∀ j < Nold, (mapBetween 1 Nold (p * Nold) ob u).getD (p * j) 0 = u.getD j 0)
      ↔ (rfftnM 1 Nold u).getD (Nold / 2) 0 = 0 := by
  have hNo' : (Nold : ℂ) ≠ 0 := by exact_mod_cast hNo.ne'
  constructor
  · intro hall
    have h0 := hall 0 hNo
    rw [mapBetween_one_subsample Nold p hNo hp ob u hu 0 hNo, if_pos hev] at h0
    have hre : ((((rfftnM 1 Nold u).getD (Nold / 2) 0).re : ℝ) : ℂ) = 0 := by
      have h1 : (if ob = true then (-1 : ℂ) else 1) * (-1 : ℂ) ^ 0 *
            ((((rfftnM 1 Nold u).getD (Nold / 2) 0).re : ℝ) : ℂ) / (Nold : ℂ) = 0 := by
        have := congrArg (fun z => z - u.getD 0 0) h0
        simpa using this
      rw [div_eq_zero_iff] at h1
      rcases h1 with h1 | h1
      · rw [pow_zero, mul_one] at h1
        rcases mul_eq_zero.mp h1 with h2 | h2
        · exfalso; cases ob <;> simp at h2
        · exact h2
      · exact absurd h1 hNo'
    apply Complex.ext
    · simpa using hre
    · simpa using rfft_nyquist_real Nold hNo hev u hu
  · intro hz j hj
    rw [mapBetween_one_subsample Nold p hNo hp ob u hu j hj, hz]
    simp

end Exponax.Interp
