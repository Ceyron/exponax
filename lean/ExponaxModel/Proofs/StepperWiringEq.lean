import ExponaxModel.Proofs.NonlinFunsEq
import ExponaxModel.Proofs.StepperWiringArgs
/-
The wiring of the stepper classes, tied to the source by translation: the nonlinear function.

`Gen.StepperWiring.X_nonlinear_fun` is regenerated from `X._build_nonlinear_fun`: the regenerated `__call__` of the
nonlinear-function class the source instantiates (`Gen.NonlinFuns.*_call`), applied to exactly the arguments the
source passes (keywords resolved against the nonlinear class's `__init__`, defaults for the keywords that are not
passed).  `Gen.StepperWiring.X_stepper_nonlinear_fun` composes it with `X.__init__` (constructor arguments → stored
attributes, `num_channels`), through `super().__init__` for the `Normalized*` / `Difficulty*` classes.

For every class `X`, `X_stepper_nonlinear_fun_eq` says that it is the documented model term of `Model/Nonlin.lean`
— `convection c C scale single conservative`, `gradientNorm`, `polynomial`, `general`, `vorticity2d`, `projected3d`,
`reaction`, `cahnHilliard`, zero — on `num_channels` channels with the stepper's dealiasing fraction (`withDF c df`),
in terms of the CONSTRUCTOR arguments: every Boolean option (`single_channel`, `conservative`), every scale and the
dealiasing fraction reach the nonlinear function unchanged; `Difficulty*`: through the documented conversion
`δ / (M·N·D)`, `δ / (M·N²·D)`.
Hypotheses are the guards the source raises on (`num_spatial_dims = 2 / 3`), `a.num_spatial_dims = c.D` (the
derivative operator handed to `_build_nonlinear_fun` is that of the stepper: checked by the translator on
`BaseStepper.__init__`), realness of `c.s = 2π/L` for the Kolmogorov vorticity forcing and `0 < injection_mode` for
the 3-D Kolmogorov forcing (both inherited from `Proofs/NonlinFunsEq.lean`).  The guards of the nonlinear functions
on the channel count are DISCHARGED here by the number of channels the stepper declares.
All theorems of `Proofs/` and `Properties/` about the model terms transfer to the regenerated wiring by rewriting.
-/
namespace Exponax.StepperWiringEq
open Exponax Exponax.Layout Exponax.Transform Exponax.Nonlin Exponax.Gen.StepperWiring Exponax.Gen.Convert
open Exponax.NonlinFunsEq

/-- the stepper's configuration with the dealiasing fraction `df = (fp, fq)` handed to the nonlinear function -/
def withDF (c : Cfg ℂ) (df : ℕ × ℕ) : Cfg ℂ := { c with fp := df.1, fq := df.2 }

@[simp] theorem withDF_D (c : Cfg ℂ) (df : ℕ × ℕ) : (withDF c df).D = c.D := rfl
@[simp] theorem withDF_N (c : Cfg ℂ) (df : ℕ × ℕ) : (withDF c df).N = c.N := rfl
@[simp] theorem withDF_s (c : Cfg ℂ) (df : ℕ × ℕ) : (withDF c df).s = c.s := rfl
@[simp] theorem withDF_fp (c : Cfg ℂ) (df : ℕ × ℕ) : (withDF c df).fp = df.1 := rfl
@[simp] theorem withDF_fq (c : Cfg ℂ) (df : ℕ × ℕ) : (withDF c df).fq = df.2 := rfl
@[simp] theorem modes_withDF (c : Cfg ℂ) (df : ℕ × ℕ) : modes (withDF c df) = modes c := rfl

def zeroNonlin (c : Cfg ℂ) (C : ℕ) : MC ℂ := tab2 C (modes c) (fun _ _ => 0)

/-! ### classes with their own `_build_nonlinear_fun`

`X_stepper_nonlinear_fun c a uh` unfolds definitionally to the regenerated `__call__` of the instantiated class on
the constructor's values, so each theorem is the `*_call_eq` of `Proofs/NonlinFunsEq.lean` at those values. -/

/-- the channel guard of `ConvectionNonlinearFun` is met by the channel count the convection steppers declare -/
theorem convection_channels_eq (c : Cfg ℂ) (df : ℕ × ℕ) (D : ℕ) (hD : D = c.D) (scale : ℂ)
    (single conservative : Bool) (uh : MC ℂ) :
    Gen.NonlinFuns.ConvectionNonlinearFun_call (withDF c df) (if single = true then 1 else D) scale single
        conservative uh =
      convection (withDF c df) (if single then 1 else c.D) scale single conservative uh := by
  subst hD
  exact ConvectionNonlinearFun_call_eq (withDF c df) _ scale single conservative uh (by cases single <;> simp)

theorem Advection_stepper_nonlinear_fun_eq (c : Cfg ℂ) (a : AdvectionArgs ℂ) (uh : MC ℂ) :
    Advection_stepper_nonlinear_fun c a uh =
      zeroNonlin c 1 :=
  ZeroNonlinearFun_call_eq c 1 uh

theorem AdvectionDiffusion_stepper_nonlinear_fun_eq (c : Cfg ℂ) (a : AdvectionDiffusionArgs ℂ) (uh : MC ℂ) :
    AdvectionDiffusion_stepper_nonlinear_fun c a uh =
      zeroNonlin c 1 :=
  ZeroNonlinearFun_call_eq c 1 uh

theorem AllenCahn_stepper_nonlinear_fun_eq (c : Cfg ℂ) (a : AllenCahnArgs ℂ) (uh : MC ℂ) :
    AllenCahn_stepper_nonlinear_fun c a uh =
      polynomial (withDF c a.dealiasing_fraction) 1 [0, 0, 0, a.third_order_coefficient] uh := by
  rw [← lit_zero]
  exact PolynomialNonlinearFun_call_eq (withDF c a.dealiasing_fraction) 1 _ uh

theorem BelousovZhabotinsky_stepper_nonlinear_fun_eq (c : Cfg ℂ) (a : BelousovZhabotinskyArgs ℂ) (uh : MC ℂ) :
    BelousovZhabotinsky_stepper_nonlinear_fun c a uh =
      reaction (withDF c a.dealiasing_fraction) 3 bzReact uh :=
  BelousovZhabotinskyNonlinearFun_call_eq (withDF c a.dealiasing_fraction) 3 rfl uh

theorem Burgers_stepper_nonlinear_fun_eq (c : Cfg ℂ) (a : BurgersArgs ℂ) (uh : MC ℂ)
    (hD : a.num_spatial_dims = c.D) :
    Burgers_stepper_nonlinear_fun c a uh =
      convection (withDF c a.dealiasing_fraction) (if a.single_channel then 1 else c.D) a.convection_scale
        a.single_channel a.conservative uh :=
  convection_channels_eq c a.dealiasing_fraction a.num_spatial_dims hD a.convection_scale a.single_channel
    a.conservative uh

theorem CahnHilliard_stepper_nonlinear_fun_eq (c : Cfg ℂ) (a : CahnHilliardArgs ℂ) (uh : MC ℂ) :
    CahnHilliard_stepper_nonlinear_fun c a uh =
      cahnHilliard (withDF c a.dealiasing_fraction) (a.diffusivity * a.third_order_coefficient) uh :=
  CahnHilliardNonlinearFun_call_eq (withDF c a.dealiasing_fraction) 1 Nat.one_pos _ uh

theorem GeneralConvectionStepper_stepper_nonlinear_fun_eq (c : Cfg ℂ) (a : GeneralConvectionStepperArgs ℂ) (uh : MC ℂ)
    (hD : a.num_spatial_dims = c.D) :
    GeneralConvectionStepper_stepper_nonlinear_fun c a uh =
      convection (withDF c a.dealiasing_fraction) (if a.single_channel then 1 else c.D) a.convection_scale
        a.single_channel a.conservative uh :=
  convection_channels_eq c a.dealiasing_fraction a.num_spatial_dims hD a.convection_scale a.single_channel
    a.conservative uh

theorem GeneralGradientNormStepper_stepper_nonlinear_fun_eq (c : Cfg ℂ) (a : GeneralGradientNormStepperArgs ℂ) (uh :
    MC ℂ) :
    GeneralGradientNormStepper_stepper_nonlinear_fun c a uh =
      gradientNorm (withDF c a.dealiasing_fraction) 1 a.gradient_norm_scale true uh :=
  GradientNormNonlinearFun_call_eq (withDF c a.dealiasing_fraction) 1 a.gradient_norm_scale true uh

theorem GeneralLinearStepper_stepper_nonlinear_fun_eq (c : Cfg ℂ) (a : GeneralLinearStepperArgs ℂ) (uh : MC ℂ) :
    GeneralLinearStepper_stepper_nonlinear_fun c a uh =
      zeroNonlin c 1 :=
  ZeroNonlinearFun_call_eq c 1 uh

theorem GeneralNonlinearStepper_stepper_nonlinear_fun_eq (c : Cfg ℂ) (a : GeneralNonlinearStepperArgs ℂ) (uh : MC ℂ) :
    GeneralNonlinearStepper_stepper_nonlinear_fun c a uh =
      general (withDF c a.dealiasing_fraction) 1 a.nonlinear_coefficients.1 a.nonlinear_coefficients.2.1
        a.nonlinear_coefficients.2.2 true uh :=
  GeneralNonlinearFun_call_eq (withDF c a.dealiasing_fraction) 1 _ _ _ true uh

theorem GeneralPolynomialStepper_stepper_nonlinear_fun_eq (c : Cfg ℂ) (a : GeneralPolynomialStepperArgs ℂ) (uh : MC
    ℂ) :
    GeneralPolynomialStepper_stepper_nonlinear_fun c a uh =
      polynomial (withDF c a.dealiasing_fraction) 1 a.polynomial_coefficients uh :=
  PolynomialNonlinearFun_call_eq (withDF c a.dealiasing_fraction) 1 a.polynomial_coefficients uh

theorem Diffusion_stepper_nonlinear_fun_eq (c : Cfg ℂ) (a : DiffusionArgs ℂ) (uh : MC ℂ) :
    Diffusion_stepper_nonlinear_fun c a uh =
      zeroNonlin c 1 :=
  ZeroNonlinearFun_call_eq c 1 uh

theorem Dispersion_stepper_nonlinear_fun_eq (c : Cfg ℂ) (a : DispersionArgs ℂ) (uh : MC ℂ) :
    Dispersion_stepper_nonlinear_fun c a uh =
      zeroNonlin c 1 :=
  ZeroNonlinearFun_call_eq c 1 uh

theorem FisherKPP_stepper_nonlinear_fun_eq (c : Cfg ℂ) (a : FisherKPPArgs ℂ) (uh : MC ℂ) :
    FisherKPP_stepper_nonlinear_fun c a uh =
      polynomial (withDF c a.dealiasing_fraction) 1 [0, 0, -a.reactivity] uh := by
  rw [← lit_zero]
  exact PolynomialNonlinearFun_call_eq (withDF c a.dealiasing_fraction) 1 _ uh

/-- `isNumber` (`injection_scale_is_number` in the regenerated definition) stands for the source's
    `isinstance(injection_scale, (int, float))`: only then is a zero scale recognised and the forcing left out -/
theorem GeneralVorticityConvectionStepper_nonlinear_fun_eq (c : Cfg ℂ) (scale : ℂ) (m : ℕ) (gam : ℂ) (df : ℕ × ℕ)
    (isNumber : Bool) (uh : MC ℂ) (s : ℝ) (hs : c.s = (s : ℂ)) :
    GeneralVorticityConvectionStepper_nonlinear_fun c scale m gam df isNumber uh =
      vorticity2d (withDF c df) scale (if isNumber = true ∧ gam = 0 then none else some (m, gam)) uh := by
  have hz : (isNumber && HasIsZero.isZero gam) = true ↔ isNumber = true ∧ gam = 0 := by
    rw [Bool.and_eq_true]; exact and_congr_right fun _ => decide_eq_true_iff
  unfold GeneralVorticityConvectionStepper_nonlinear_fun
  by_cases h : isNumber = true ∧ gam = 0
  · rw [if_pos (hz.mpr h), if_pos h]
    exact VorticityConvection2d_call_eq (withDF c df) scale uh
  · rw [if_neg (mt hz.mp h), if_neg h]
    exact VorticityConvection2dKolmogorov_call_eq (withDF c df) s hs scale m gam uh

theorem GeneralVorticityConvectionStepper_stepper_nonlinear_fun_eq (c : Cfg ℂ) (a :
    GeneralVorticityConvectionStepperArgs ℂ) (injection_scale_is_number : Bool) (uh : MC ℂ)
    (s : ℝ) (hs : c.s = (s : ℂ)) :
    GeneralVorticityConvectionStepper_stepper_nonlinear_fun c a injection_scale_is_number uh =
      vorticity2d (withDF c a.dealiasing_fraction) a.vorticity_convection_scale
        (if injection_scale_is_number = true ∧ a.injection_scale = 0 then none else some (a.injection_mode,
            a.injection_scale)) uh :=
  GeneralVorticityConvectionStepper_nonlinear_fun_eq c a.vorticity_convection_scale a.injection_mode a.injection_scale
    a.dealiasing_fraction injection_scale_is_number uh s hs

theorem GrayScott_stepper_nonlinear_fun_eq (c : Cfg ℂ) (a : GrayScottArgs ℂ) (uh : MC ℂ) :
    GrayScott_stepper_nonlinear_fun c a uh =
      reaction (withDF c a.dealiasing_fraction) 2 (grayScottReact a.feed_rate a.kill_rate) uh :=
  GrayScottNonlinearFun_call_eq (withDF c a.dealiasing_fraction) 2 rfl a.feed_rate a.kill_rate uh

theorem HyperDiffusion_stepper_nonlinear_fun_eq (c : Cfg ℂ) (a : HyperDiffusionArgs ℂ) (uh : MC ℂ) :
    HyperDiffusion_stepper_nonlinear_fun c a uh =
      zeroNonlin c 1 :=
  ZeroNonlinearFun_call_eq c 1 uh

theorem KolmogorovFlowVelocity_stepper_nonlinear_fun_eq (c : Cfg ℂ) (a : KolmogorovFlowVelocityArgs ℂ) (uh : MC ℂ)
    (hD : c.D = 3) (hm : 0 < a.injection_mode) :
    KolmogorovFlowVelocity_stepper_nonlinear_fun c a uh =
      projected3d (withDF c a.dealiasing_fraction) (some (a.injection_mode, a.injection_scale)) uh :=
  ProjectedConvection3dKolmogorov_call_eq (withDF c a.dealiasing_fraction) hD a.injection_mode hm a.injection_scale uh

theorem KolmogorovFlowVorticity_stepper_nonlinear_fun_eq (c : Cfg ℂ) (a : KolmogorovFlowVorticityArgs ℂ) (uh : MC ℂ)
    (s : ℝ) (hs : c.s = (s : ℂ)) :
    KolmogorovFlowVorticity_stepper_nonlinear_fun c a uh =
      vorticity2d (withDF c a.dealiasing_fraction) a.convection_scale (some (a.injection_mode, a.injection_scale)) uh
          :=
  VorticityConvection2dKolmogorov_call_eq (withDF c a.dealiasing_fraction) s hs a.convection_scale a.injection_mode
    a.injection_scale uh

theorem KortewegDeVries_stepper_nonlinear_fun_eq (c : Cfg ℂ) (a : KortewegDeVriesArgs ℂ) (uh : MC ℂ)
    (hD : a.num_spatial_dims = c.D) :
    KortewegDeVries_stepper_nonlinear_fun c a uh =
      convection (withDF c a.dealiasing_fraction) (if a.single_channel then 1 else c.D) a.convection_scale
        a.single_channel a.conservative uh :=
  convection_channels_eq c a.dealiasing_fraction a.num_spatial_dims hD a.convection_scale a.single_channel
    a.conservative uh

theorem KuramotoSivashinsky_stepper_nonlinear_fun_eq (c : Cfg ℂ) (a : KuramotoSivashinskyArgs ℂ) (uh : MC ℂ) :
    KuramotoSivashinsky_stepper_nonlinear_fun c a uh =
      gradientNorm (withDF c a.dealiasing_fraction) 1 a.gradient_norm_scale true uh :=
  GradientNormNonlinearFun_call_eq (withDF c a.dealiasing_fraction) 1 a.gradient_norm_scale true uh

theorem KuramotoSivashinskyConservative_stepper_nonlinear_fun_eq (c : Cfg ℂ) (a : KuramotoSivashinskyConservativeArgs
    ℂ) (uh : MC ℂ)
    (hD : a.num_spatial_dims = c.D) :
    KuramotoSivashinskyConservative_stepper_nonlinear_fun c a uh =
      convection (withDF c a.dealiasing_fraction) (if a.single_channel then 1 else c.D) a.convection_scale
        a.single_channel a.conservative uh :=
  convection_channels_eq c a.dealiasing_fraction a.num_spatial_dims hD a.convection_scale a.single_channel
    a.conservative uh

theorem NavierStokesVelocity_stepper_nonlinear_fun_eq (c : Cfg ℂ) (a : NavierStokesVelocityArgs ℂ) (uh : MC ℂ)
    (hD : c.D = 3) :
    NavierStokesVelocity_stepper_nonlinear_fun c a uh =
      projected3d (withDF c a.dealiasing_fraction) none uh :=
  ProjectedConvection3d_call_eq (withDF c a.dealiasing_fraction) hD uh

theorem NavierStokesVorticity_stepper_nonlinear_fun_eq (c : Cfg ℂ) (a : NavierStokesVorticityArgs ℂ) (uh : MC ℂ) :
    NavierStokesVorticity_stepper_nonlinear_fun c a uh =
      vorticity2d (withDF c a.dealiasing_fraction) a.vorticity_convection_scale none uh :=
  VorticityConvection2d_call_eq (withDF c a.dealiasing_fraction) a.vorticity_convection_scale uh

theorem SwiftHohenberg_stepper_nonlinear_fun_eq (c : Cfg ℂ) (a : SwiftHohenbergArgs ℂ) (uh : MC ℂ) :
    SwiftHohenberg_stepper_nonlinear_fun c a uh =
      polynomial (withDF c a.dealiasing_fraction) 1 a.polynomial_coefficients uh :=
  PolynomialNonlinearFun_call_eq (withDF c a.dealiasing_fraction) 1 a.polynomial_coefficients uh

theorem Wave_stepper_nonlinear_fun_eq (c : Cfg ℂ) (a : WaveArgs ℂ) (uh : MC ℂ) :
    Wave_stepper_nonlinear_fun c a uh =
      zeroNonlin c 2 :=
  ZeroNonlinearFun_call_eq c 2 uh

/-! ### classes that inherit `_build_nonlinear_fun`: `Normalized*` (user's values at `L = 1`, `dt = 1`), `Difficulty*`
     (documented conversion), every flag unchanged -/

theorem NormalizedConvectionStepper_stepper_nonlinear_fun_eq (c : Cfg ℂ) (a : NormalizedConvectionStepperArgs ℂ) (uh
    : MC ℂ)
    (hD : a.num_spatial_dims = c.D) :
    NormalizedConvectionStepper_stepper_nonlinear_fun c a uh =
      convection (withDF c a.dealiasing_fraction) (if a.single_channel then 1 else c.D) a.normalized_convection_scale
        a.single_channel a.conservative uh :=
  GeneralConvectionStepper_stepper_nonlinear_fun_eq c (NormalizedConvectionStepper_super_args a) uh hD

theorem DifficultyConvectionStepper_stepper_nonlinear_fun_eq (c : Cfg ℂ) (a : DifficultyConvectionStepperArgs ℂ) (uh
    : MC ℂ)
    (hD : a.num_spatial_dims = c.D) :
    DifficultyConvectionStepper_stepper_nonlinear_fun c a uh =
      convection (withDF c a.dealiasing_fraction) (if a.single_channel then 1 else c.D)
        (a.convection_difficulty / (a.maximum_absolute * a.num_points * a.num_spatial_dims)) a.single_channel
            a.conservative uh := by
  rw [← extract_convection_eq]
  exact NormalizedConvectionStepper_stepper_nonlinear_fun_eq c (DifficultyConvectionStepper_super_args a) uh hD

theorem NormalizedGradientNormStepper_stepper_nonlinear_fun_eq (c : Cfg ℂ) (a : NormalizedGradientNormStepperArgs ℂ)
    (uh : MC ℂ) :
    NormalizedGradientNormStepper_stepper_nonlinear_fun c a uh =
      gradientNorm (withDF c a.dealiasing_fraction) 1 a.normalized_gradient_norm_scale true uh :=
  GeneralGradientNormStepper_stepper_nonlinear_fun_eq c (NormalizedGradientNormStepper_super_args a) uh

theorem DifficultyGradientNormStepper_stepper_nonlinear_fun_eq (c : Cfg ℂ) (a : DifficultyGradientNormStepperArgs ℂ)
    (uh : MC ℂ) :
    DifficultyGradientNormStepper_stepper_nonlinear_fun c a uh =
      gradientNorm (withDF c a.dealiasing_fraction) 1 (a.gradient_norm_difficulty / (a.maximum_absolute *
          (a.num_points : ℂ) ^ 2 * a.num_spatial_dims)) true uh := by
  rw [← extract_gradient_norm_eq]
  exact NormalizedGradientNormStepper_stepper_nonlinear_fun_eq c (DifficultyGradientNormStepper_super_args a) uh

theorem NormalizedLinearStepper_stepper_nonlinear_fun_eq (c : Cfg ℂ) (a : NormalizedLinearStepperArgs ℂ) (uh : MC ℂ) :
    NormalizedLinearStepper_stepper_nonlinear_fun c a uh =
      zeroNonlin c 1 :=
  GeneralLinearStepper_stepper_nonlinear_fun_eq c (NormalizedLinearStepper_super_args a) uh

theorem DifficultyLinearStepper_stepper_nonlinear_fun_eq (c : Cfg ℂ) (a : DifficultyLinearStepperArgs ℂ) (uh : MC ℂ) :
    DifficultyLinearStepper_stepper_nonlinear_fun c a uh =
      zeroNonlin c 1 :=
  NormalizedLinearStepper_stepper_nonlinear_fun_eq c (DifficultyLinearStepper_super_args a) uh

theorem DifficultyLinearStepperSimple_stepper_nonlinear_fun_eq (c : Cfg ℂ) (a : DifficultyLinearStepperSimpleArgs ℂ)
    (uh : MC ℂ) :
    DifficultyLinearStepperSimple_stepper_nonlinear_fun c a uh =
      zeroNonlin c 1 :=
  DifficultyLinearStepper_stepper_nonlinear_fun_eq c (DifficultyLinearStepperSimple_super_args a) uh

theorem NormalizedNonlinearStepper_stepper_nonlinear_fun_eq (c : Cfg ℂ) (a : NormalizedNonlinearStepperArgs ℂ) (uh :
    MC ℂ) :
    NormalizedNonlinearStepper_stepper_nonlinear_fun c a uh =
      general (withDF c a.dealiasing_fraction) 1 a.normalized_nonlinear_coefficients.1
          a.normalized_nonlinear_coefficients.2.1
        a.normalized_nonlinear_coefficients.2.2 true uh :=
  GeneralNonlinearStepper_stepper_nonlinear_fun_eq c (NormalizedNonlinearStepper_super_args a) uh

theorem DifficultyNonlinearStepper_stepper_nonlinear_fun_eq (c : Cfg ℂ) (a : DifficultyNonlinearStepperArgs ℂ) (uh :
    MC ℂ) :
    DifficultyNonlinearStepper_stepper_nonlinear_fun c a uh =
      general (withDF c a.dealiasing_fraction) 1 a.nonlinear_difficulties.1 (a.nonlinear_difficulties.2.1 /
          (a.maximum_absolute * a.num_points * a.num_spatial_dims))
        (a.nonlinear_difficulties.2.2 / (a.maximum_absolute * (a.num_points : ℂ) ^ 2 * a.num_spatial_dims)) true uh
            := by
  rw [← extract_convection_eq, ← extract_gradient_norm_eq]
  exact NormalizedNonlinearStepper_stepper_nonlinear_fun_eq c (DifficultyNonlinearStepper_super_args a) uh

theorem NormalizedPolynomialStepper_stepper_nonlinear_fun_eq (c : Cfg ℂ) (a : NormalizedPolynomialStepperArgs ℂ) (uh
    : MC ℂ) :
    NormalizedPolynomialStepper_stepper_nonlinear_fun c a uh =
      polynomial (withDF c a.dealiasing_fraction) 1 a.normalized_polynomial_coefficients uh :=
  GeneralPolynomialStepper_stepper_nonlinear_fun_eq c (NormalizedPolynomialStepper_super_args a) uh

theorem DifficultyPolynomialStepper_stepper_nonlinear_fun_eq (c : Cfg ℂ) (a : DifficultyPolynomialStepperArgs ℂ) (uh
    : MC ℂ) :
    DifficultyPolynomialStepper_stepper_nonlinear_fun c a uh =
      polynomial (withDF c a.dealiasing_fraction) 1 a.polynomial_difficulties uh :=
  NormalizedPolynomialStepper_stepper_nonlinear_fun_eq c (DifficultyPolynomialStepper_super_args a) uh

/-! ### the list of generated definitions (a new attribute / class without a theorem breaks the build) -/

theorem generated_defs_pinned : generated_defs =
    ["BaseStepperArgs", "AdvectionArgs", "Advection_with_defaults", "Advection_init_velocity_vector",
     "Advection_init_velocity_scalar", "AdvectionAttrs", "Advection_attrs", "Advection_super_args",
     "Advection_base_args", "Advection_num_channels", "Advection_nonlinear_fun", "Advection_stepper_nonlinear_fun",
     "AdvectionDiffusionArgs", "AdvectionDiffusion_with_defaults", "AdvectionDiffusion_init_velocity_vector",
     "AdvectionDiffusion_init_velocity_scalar", "AdvectionDiffusion_init_diffusivity_matrix",
     "AdvectionDiffusion_init_diffusivity_vector", "AdvectionDiffusion_init_diffusivity_scalar",
     "AdvectionDiffusionAttrs", "AdvectionDiffusion_attrs", "AdvectionDiffusion_super_args",
     "AdvectionDiffusion_base_args", "AdvectionDiffusion_num_channels", "AdvectionDiffusion_nonlinear_fun",
     "AdvectionDiffusion_stepper_nonlinear_fun", "AllenCahnArgs", "AllenCahn_with_defaults",
     "AllenCahn_init_diffusivity", "AllenCahn_init_first_order_coefficient",
     "AllenCahn_init_third_order_coefficient", "AllenCahn_init_dealiasing_fraction", "AllenCahnAttrs",
     "AllenCahn_attrs", "AllenCahn_super_args", "AllenCahn_base_args", "AllenCahn_num_channels",
     "AllenCahn_nonlinear_fun", "AllenCahn_stepper_nonlinear_fun", "BelousovZhabotinskyArgs",
     "BelousovZhabotinsky_with_defaults", "BelousovZhabotinsky_init_diffusivities",
     "BelousovZhabotinsky_init_dealiasing_fraction", "BelousovZhabotinskyAttrs", "BelousovZhabotinsky_attrs",
     "BelousovZhabotinsky_super_args", "BelousovZhabotinsky_base_args", "BelousovZhabotinsky_num_channels",
     "BelousovZhabotinsky_nonlinear_fun", "BelousovZhabotinsky_stepper_nonlinear_fun", "BurgersArgs",
     "Burgers_with_defaults", "Burgers_init_diffusivity", "Burgers_init_convection_scale",
     "Burgers_init_single_channel", "Burgers_init_conservative", "Burgers_init_dealiasing_fraction", "BurgersAttrs",
     "Burgers_attrs", "Burgers_super_args", "Burgers_base_args", "Burgers_num_channels", "Burgers_nonlinear_fun",
     "Burgers_stepper_nonlinear_fun", "CahnHilliardArgs", "CahnHilliard_with_defaults",
     "CahnHilliard_init_diffusivity", "CahnHilliard_init_gamma", "CahnHilliard_init_first_order_coefficient",
     "CahnHilliard_init_third_order_coefficient", "CahnHilliard_init_dealiasing_fraction", "CahnHilliardAttrs",
     "CahnHilliard_attrs", "CahnHilliard_super_args", "CahnHilliard_base_args", "CahnHilliard_num_channels",
     "CahnHilliard_nonlinear_fun", "CahnHilliard_stepper_nonlinear_fun", "GeneralConvectionStepperArgs",
     "GeneralConvectionStepper_with_defaults", "GeneralConvectionStepper_init_linear_coefficients",
     "GeneralConvectionStepper_init_convection_scale", "GeneralConvectionStepper_init_single_channel",
     "GeneralConvectionStepper_init_dealiasing_fraction", "GeneralConvectionStepper_init_conservative",
     "GeneralConvectionStepperAttrs", "GeneralConvectionStepper_attrs", "GeneralConvectionStepper_super_args",
     "GeneralConvectionStepper_base_args", "GeneralConvectionStepper_num_channels",
     "GeneralConvectionStepper_nonlinear_fun", "GeneralConvectionStepper_stepper_nonlinear_fun",
     "NormalizedConvectionStepperArgs", "NormalizedConvectionStepper_with_defaults",
     "NormalizedConvectionStepper_init_normalized_linear_coefficients",
     "NormalizedConvectionStepper_init_normalized_convection_scale", "NormalizedConvectionStepperAttrs",
     "NormalizedConvectionStepper_attrs", "NormalizedConvectionStepper_super_args",
     "NormalizedConvectionStepper_base_args", "NormalizedConvectionStepper_num_channels",
     "NormalizedConvectionStepper_stepper_nonlinear_fun", "DifficultyConvectionStepperArgs",
     "DifficultyConvectionStepper_with_defaults", "DifficultyConvectionStepper_init_linear_difficulties",
     "DifficultyConvectionStepper_init_convection_difficulty", "DifficultyConvectionStepperAttrs",
     "DifficultyConvectionStepper_attrs", "DifficultyConvectionStepper_super_args",
     "DifficultyConvectionStepper_base_args", "DifficultyConvectionStepper_num_channels",
     "DifficultyConvectionStepper_stepper_nonlinear_fun", "GeneralGradientNormStepperArgs",
     "GeneralGradientNormStepper_with_defaults", "GeneralGradientNormStepper_init_linear_coefficients",
     "GeneralGradientNormStepper_init_gradient_norm_scale", "GeneralGradientNormStepper_init_dealiasing_fraction",
     "GeneralGradientNormStepperAttrs", "GeneralGradientNormStepper_attrs", "GeneralGradientNormStepper_super_args",
     "GeneralGradientNormStepper_base_args", "GeneralGradientNormStepper_num_channels",
     "GeneralGradientNormStepper_nonlinear_fun", "GeneralGradientNormStepper_stepper_nonlinear_fun",
     "NormalizedGradientNormStepperArgs", "NormalizedGradientNormStepper_with_defaults",
     "NormalizedGradientNormStepper_init_normalized_linear_coefficients",
     "NormalizedGradientNormStepper_init_normalized_gradient_norm_scale", "NormalizedGradientNormStepperAttrs",
     "NormalizedGradientNormStepper_attrs", "NormalizedGradientNormStepper_super_args",
     "NormalizedGradientNormStepper_base_args", "NormalizedGradientNormStepper_num_channels",
     "NormalizedGradientNormStepper_stepper_nonlinear_fun", "DifficultyGradientNormStepperArgs",
     "DifficultyGradientNormStepper_with_defaults", "DifficultyGradientNormStepper_init_linear_difficulties",
     "DifficultyGradientNormStepper_init_gradient_norm_difficulty", "DifficultyGradientNormStepperAttrs",
     "DifficultyGradientNormStepper_attrs", "DifficultyGradientNormStepper_super_args",
     "DifficultyGradientNormStepper_base_args", "DifficultyGradientNormStepper_num_channels",
     "DifficultyGradientNormStepper_stepper_nonlinear_fun", "GeneralLinearStepperArgs",
     "GeneralLinearStepper_with_defaults", "GeneralLinearStepper_init_linear_coefficients",
     "GeneralLinearStepperAttrs", "GeneralLinearStepper_attrs", "GeneralLinearStepper_super_args",
     "GeneralLinearStepper_base_args", "GeneralLinearStepper_num_channels", "GeneralLinearStepper_nonlinear_fun",
     "GeneralLinearStepper_stepper_nonlinear_fun", "NormalizedLinearStepperArgs",
     "NormalizedLinearStepper_with_defaults", "NormalizedLinearStepper_init_normalized_linear_coefficients",
     "NormalizedLinearStepperAttrs", "NormalizedLinearStepper_attrs", "NormalizedLinearStepper_super_args",
     "NormalizedLinearStepper_base_args", "NormalizedLinearStepper_num_channels",
     "NormalizedLinearStepper_stepper_nonlinear_fun", "DifficultyLinearStepperArgs",
     "DifficultyLinearStepper_with_defaults", "DifficultyLinearStepper_init_linear_difficulties",
     "DifficultyLinearStepperAttrs", "DifficultyLinearStepper_attrs", "DifficultyLinearStepper_super_args",
     "DifficultyLinearStepper_base_args", "DifficultyLinearStepper_num_channels",
     "DifficultyLinearStepper_stepper_nonlinear_fun", "DifficultyLinearStepperSimpleArgs",
     "DifficultyLinearStepperSimple_with_defaults", "DifficultyLinearStepperSimpleAttrs",
     "DifficultyLinearStepperSimple_attrs", "DifficultyLinearStepperSimple_super_args",
     "DifficultyLinearStepperSimple_base_args", "DifficultyLinearStepperSimple_num_channels",
     "DifficultyLinearStepperSimple_stepper_nonlinear_fun", "GeneralNonlinearStepperArgs",
     "GeneralNonlinearStepper_with_defaults", "GeneralNonlinearStepper_init_linear_coefficients",
     "GeneralNonlinearStepper_init_nonlinear_coefficients", "GeneralNonlinearStepper_init_dealiasing_fraction",
     "GeneralNonlinearStepperAttrs", "GeneralNonlinearStepper_attrs", "GeneralNonlinearStepper_super_args",
     "GeneralNonlinearStepper_base_args", "GeneralNonlinearStepper_num_channels",
     "GeneralNonlinearStepper_nonlinear_fun", "GeneralNonlinearStepper_stepper_nonlinear_fun",
     "NormalizedNonlinearStepperArgs", "NormalizedNonlinearStepper_with_defaults",
     "NormalizedNonlinearStepper_init_normalized_linear_coefficients",
     "NormalizedNonlinearStepper_init_normalized_nonlinear_coefficients", "NormalizedNonlinearStepperAttrs",
     "NormalizedNonlinearStepper_attrs", "NormalizedNonlinearStepper_super_args",
     "NormalizedNonlinearStepper_base_args", "NormalizedNonlinearStepper_num_channels",
     "NormalizedNonlinearStepper_stepper_nonlinear_fun", "DifficultyNonlinearStepperArgs",
     "DifficultyNonlinearStepper_with_defaults", "DifficultyNonlinearStepper_init_linear_difficulties",
     "DifficultyNonlinearStepper_init_nonlinear_difficulties", "DifficultyNonlinearStepperAttrs",
     "DifficultyNonlinearStepper_attrs", "DifficultyNonlinearStepper_super_args",
     "DifficultyNonlinearStepper_base_args", "DifficultyNonlinearStepper_num_channels",
     "DifficultyNonlinearStepper_stepper_nonlinear_fun", "GeneralPolynomialStepperArgs",
     "GeneralPolynomialStepper_with_defaults", "GeneralPolynomialStepper_init_linear_coefficients",
     "GeneralPolynomialStepper_init_polynomial_coefficients", "GeneralPolynomialStepper_init_dealiasing_fraction",
     "GeneralPolynomialStepperAttrs", "GeneralPolynomialStepper_attrs", "GeneralPolynomialStepper_super_args",
     "GeneralPolynomialStepper_base_args", "GeneralPolynomialStepper_num_channels",
     "GeneralPolynomialStepper_nonlinear_fun", "GeneralPolynomialStepper_stepper_nonlinear_fun",
     "NormalizedPolynomialStepperArgs", "NormalizedPolynomialStepper_with_defaults",
     "NormalizedPolynomialStepper_init_normalized_linear_coefficients",
     "NormalizedPolynomialStepper_init_normalized_polynomial_coefficients", "NormalizedPolynomialStepperAttrs",
     "NormalizedPolynomialStepper_attrs", "NormalizedPolynomialStepper_super_args",
     "NormalizedPolynomialStepper_base_args", "NormalizedPolynomialStepper_num_channels",
     "NormalizedPolynomialStepper_stepper_nonlinear_fun", "DifficultyPolynomialStepperArgs",
     "DifficultyPolynomialStepper_with_defaults", "DifficultyPolynomialStepper_init_linear_difficulties",
     "DifficultyPolynomialStepper_init_polynomial_difficulties", "DifficultyPolynomialStepperAttrs",
     "DifficultyPolynomialStepper_attrs", "DifficultyPolynomialStepper_super_args",
     "DifficultyPolynomialStepper_base_args", "DifficultyPolynomialStepper_num_channels",
     "DifficultyPolynomialStepper_stepper_nonlinear_fun", "DiffusionArgs", "Diffusion_with_defaults",
     "Diffusion_init_diffusivity_matrix", "Diffusion_init_diffusivity_vector", "Diffusion_init_diffusivity_scalar",
     "DiffusionAttrs", "Diffusion_attrs", "Diffusion_super_args", "Diffusion_base_args", "Diffusion_num_channels",
     "Diffusion_nonlinear_fun", "Diffusion_stepper_nonlinear_fun", "DispersionArgs", "Dispersion_with_defaults",
     "Dispersion_init_dispersivity_vector", "Dispersion_init_dispersivity_scalar",
     "Dispersion_init_advect_on_diffusion", "DispersionAttrs", "Dispersion_attrs", "Dispersion_super_args",
     "Dispersion_base_args", "Dispersion_num_channels", "Dispersion_nonlinear_fun",
     "Dispersion_stepper_nonlinear_fun", "FisherKPPArgs", "FisherKPP_with_defaults",
     "FisherKPP_init_dealiasing_fraction", "FisherKPP_init_diffusivity", "FisherKPP_init_reactivity",
     "FisherKPPAttrs", "FisherKPP_attrs", "FisherKPP_super_args", "FisherKPP_base_args", "FisherKPP_num_channels",
     "FisherKPP_nonlinear_fun", "FisherKPP_stepper_nonlinear_fun", "GeneralVorticityConvectionStepperArgs",
     "GeneralVorticityConvectionStepper_with_defaults",
     "GeneralVorticityConvectionStepper_init_vorticity_convection_scale",
     "GeneralVorticityConvectionStepper_init_linear_coefficients",
     "GeneralVorticityConvectionStepper_init_injection_mode",
     "GeneralVorticityConvectionStepper_init_injection_scale",
     "GeneralVorticityConvectionStepper_init_dealiasing_fraction", "GeneralVorticityConvectionStepperAttrs",
     "GeneralVorticityConvectionStepper_attrs", "GeneralVorticityConvectionStepper_super_args",
     "GeneralVorticityConvectionStepper_base_args", "GeneralVorticityConvectionStepper_num_channels",
     "GeneralVorticityConvectionStepper_nonlinear_fun", "GeneralVorticityConvectionStepper_stepper_nonlinear_fun",
     "GrayScottArgs", "GrayScott_with_defaults", "GrayScott_init_diffusivity_1", "GrayScott_init_diffusivity_2",
     "GrayScott_init_feed_rate", "GrayScott_init_kill_rate", "GrayScott_init_dealiasing_fraction", "GrayScottAttrs",
     "GrayScott_attrs", "GrayScott_super_args", "GrayScott_base_args", "GrayScott_num_channels",
     "GrayScott_nonlinear_fun", "GrayScott_stepper_nonlinear_fun", "HyperDiffusionArgs",
     "HyperDiffusion_with_defaults", "HyperDiffusion_init_hyper_diffusivity",
     "HyperDiffusion_init_diffuse_on_diffuse", "HyperDiffusionAttrs", "HyperDiffusion_attrs",
     "HyperDiffusion_super_args", "HyperDiffusion_base_args", "HyperDiffusion_num_channels",
     "HyperDiffusion_nonlinear_fun", "HyperDiffusion_stepper_nonlinear_fun", "KolmogorovFlowVelocityArgs",
     "KolmogorovFlowVelocity_with_defaults", "KolmogorovFlowVelocity_init_diffusivity",
     "KolmogorovFlowVelocity_init_drag", "KolmogorovFlowVelocity_init_injection_mode",
     "KolmogorovFlowVelocity_init_injection_scale", "KolmogorovFlowVelocity_init_dealiasing_fraction",
     "KolmogorovFlowVelocityAttrs", "KolmogorovFlowVelocity_attrs", "KolmogorovFlowVelocity_super_args",
     "KolmogorovFlowVelocity_base_args", "KolmogorovFlowVelocity_num_channels",
     "KolmogorovFlowVelocity_nonlinear_fun", "KolmogorovFlowVelocity_stepper_nonlinear_fun",
     "KolmogorovFlowVorticityArgs", "KolmogorovFlowVorticity_with_defaults",
     "KolmogorovFlowVorticity_init_diffusivity", "KolmogorovFlowVorticity_init_convection_scale",
     "KolmogorovFlowVorticity_init_drag", "KolmogorovFlowVorticity_init_injection_mode",
     "KolmogorovFlowVorticity_init_injection_scale", "KolmogorovFlowVorticity_init_dealiasing_fraction",
     "KolmogorovFlowVorticityAttrs", "KolmogorovFlowVorticity_attrs", "KolmogorovFlowVorticity_super_args",
     "KolmogorovFlowVorticity_base_args", "KolmogorovFlowVorticity_num_channels",
     "KolmogorovFlowVorticity_nonlinear_fun", "KolmogorovFlowVorticity_stepper_nonlinear_fun", "KortewegDeVriesArgs",
     "KortewegDeVries_with_defaults", "KortewegDeVries_init_convection_scale", "KortewegDeVries_init_diffusivity",
     "KortewegDeVries_init_dispersivity", "KortewegDeVries_init_hyper_diffusivity",
     "KortewegDeVries_init_advect_over_diffuse", "KortewegDeVries_init_diffuse_over_diffuse",
     "KortewegDeVries_init_single_channel", "KortewegDeVries_init_conservative",
     "KortewegDeVries_init_dealiasing_fraction", "KortewegDeVriesAttrs", "KortewegDeVries_attrs",
     "KortewegDeVries_super_args", "KortewegDeVries_base_args", "KortewegDeVries_num_channels",
     "KortewegDeVries_nonlinear_fun", "KortewegDeVries_stepper_nonlinear_fun", "KuramotoSivashinskyArgs",
     "KuramotoSivashinsky_with_defaults", "KuramotoSivashinsky_init_gradient_norm_scale",
     "KuramotoSivashinsky_init_second_order_scale", "KuramotoSivashinsky_init_fourth_order_scale",
     "KuramotoSivashinsky_init_dealiasing_fraction", "KuramotoSivashinskyAttrs", "KuramotoSivashinsky_attrs",
     "KuramotoSivashinsky_super_args", "KuramotoSivashinsky_base_args", "KuramotoSivashinsky_num_channels",
     "KuramotoSivashinsky_nonlinear_fun", "KuramotoSivashinsky_stepper_nonlinear_fun",
     "KuramotoSivashinskyConservativeArgs", "KuramotoSivashinskyConservative_with_defaults",
     "KuramotoSivashinskyConservative_init_convection_scale",
     "KuramotoSivashinskyConservative_init_second_order_scale",
     "KuramotoSivashinskyConservative_init_fourth_order_scale",
     "KuramotoSivashinskyConservative_init_single_channel", "KuramotoSivashinskyConservative_init_conservative",
     "KuramotoSivashinskyConservative_init_dealiasing_fraction", "KuramotoSivashinskyConservativeAttrs",
     "KuramotoSivashinskyConservative_attrs", "KuramotoSivashinskyConservative_super_args",
     "KuramotoSivashinskyConservative_base_args", "KuramotoSivashinskyConservative_num_channels",
     "KuramotoSivashinskyConservative_nonlinear_fun", "KuramotoSivashinskyConservative_stepper_nonlinear_fun",
     "NavierStokesVelocityArgs", "NavierStokesVelocity_with_defaults", "NavierStokesVelocity_init_diffusivity",
     "NavierStokesVelocity_init_drag", "NavierStokesVelocity_init_dealiasing_fraction", "NavierStokesVelocityAttrs",
     "NavierStokesVelocity_attrs", "NavierStokesVelocity_super_args", "NavierStokesVelocity_base_args",
     "NavierStokesVelocity_num_channels", "NavierStokesVelocity_nonlinear_fun",
     "NavierStokesVelocity_stepper_nonlinear_fun", "NavierStokesVorticityArgs",
     "NavierStokesVorticity_with_defaults", "NavierStokesVorticity_init_diffusivity",
     "NavierStokesVorticity_init_vorticity_convection_scale", "NavierStokesVorticity_init_drag",
     "NavierStokesVorticity_init_dealiasing_fraction", "NavierStokesVorticityAttrs", "NavierStokesVorticity_attrs",
     "NavierStokesVorticity_super_args", "NavierStokesVorticity_base_args", "NavierStokesVorticity_num_channels",
     "NavierStokesVorticity_nonlinear_fun", "NavierStokesVorticity_stepper_nonlinear_fun", "SwiftHohenbergArgs",
     "SwiftHohenberg_with_defaults", "SwiftHohenberg_init_reactivity", "SwiftHohenberg_init_critical_number",
     "SwiftHohenberg_init_polynomial_coefficients", "SwiftHohenberg_init_dealiasing_fraction", "SwiftHohenbergAttrs",
     "SwiftHohenberg_attrs", "SwiftHohenberg_super_args", "SwiftHohenberg_base_args", "SwiftHohenberg_num_channels",
     "SwiftHohenberg_nonlinear_fun", "SwiftHohenberg_stepper_nonlinear_fun", "WaveArgs", "Wave_with_defaults",
     "Wave_init_speed_of_sound", "WaveAttrs", "Wave_attrs", "Wave_super_args", "Wave_base_args", "Wave_num_channels",
     "Wave_nonlinear_fun", "Wave_stepper_nonlinear_fun"] := rfl

end Exponax.StepperWiringEq
