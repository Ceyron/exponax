import ExponaxModel.Proofs.LinearTestOrderNonlinear
/-
C02 support: ETDRK3 (Cox–Matthews) with a nonlinear term, classical order 3.  This file holds the constants, the
stage estimates (about variables of any commutative normed `ℂ`-algebra `V`, so that for a system `V = ι → ℂ` they speak of
whole vectors and `N`, `L τ` may couple the modes), and what the exact solution and the coefficient vectors of a system
contribute; `LinearTestOrderNonlinear3Vec.lean` chains them and reads the scalar equation as the system with one mode.

`u' = λ u + N(u)` on `[0,T]`, exact solution `u` a hypothesis, `f t := N (u t)`.  Hypotheses:
 * `LipschitzWith K N`;
 * Taylor expansion of `f` along the solution to second order with explicit remainder:
      `‖f(t+s) − f t − s·f₁ t − s²/2·f₂ t‖ ≤ G₃ s³/6`,   `‖f₁ t‖ ≤ M₁`, `‖f₂ t‖ ≤ M₂`   on `[0,T]`;
 * linearisation of `N` along the solution: real-linear maps `L τ` (`= N'(u τ)`) with
      `‖N y − N (u τ) − L τ (y − u τ)‖ ≤ H/2·‖y − u τ‖²`  (all `y`),   `‖L τ v‖ ≤ K‖v‖`,
      `‖L τ v − L τ' v‖ ≤ HL·|τ − τ'|·‖v‖`   (`τ, τ' ∈ [0,T]`).
The constants depend on `|λ|` (classical, non-stiff order): `Lam = ‖λ‖` enters `NL3.Cloc`.
-/
noncomputable section
namespace Exponax.LinearOrder
open Exponax Exponax.Spec Exponax.ContourTail Exponax.Gen.Etdrk

structure NL3 where
  K : ℝ
  M1 : ℝ
  M2 : ℝ
  G3 : ℝ
  H : ℝ
  HL : ℝ
  Lam : ℝ
  ω : ℝ
  T : ℝ

namespace NL3
def W (c : NL3) : ℝ := Real.exp (c.ω * c.T)
/-- second-order Taylor constant of `f` -/
def G2 (c : NL3) : ℝ := c.M2 + c.G3 * c.T / 3
/-- `a − u(t+h/2) = −h²/8·f₁ + ε_a`, `‖ε_a‖ ≤ EA·h³` -/
def EA (c : NL3) : ℝ := c.W * (c.Lam * c.M1 + c.G2) / 48
def Ea2 (c : NL3) : ℝ := c.M1 / 8 + c.EA * c.T
/-- `b − u(t+h) = h²/2·f₁ + ε_b`, `‖ε_b‖ ≤ EB·h³` -/
def EB (c : NL3) : ℝ := c.W * (2 * c.Lam * c.M1 / 3 + 5 * c.G2 / 12 + 2 * c.K * c.Ea2)
def Eb2 (c : NL3) : ℝ := c.M1 / 2 + c.EB * c.T
def Cloc (c : NL3) : ℝ :=
  (10 * c.W / 3) * (c.G3 / 48) + (7 * c.W / 6) * (c.G3 / 6) + c.W * c.G3 / 24
    + (1 / 2) * ((7 * c.W / 6) * c.HL * c.M1 / 2 + c.Lam * (7 * c.W / 12) * c.K * c.M1)
    + (10 * c.W / 3) * (c.K * c.EA + c.H / 2 * c.Ea2 ^ 2 * c.T)
    + (7 * c.W / 6) * (c.K * c.EB + c.H / 2 * c.Eb2 ^ 2 * c.T)
end NL3

/-- stability constants of ETDRK3: `‖S x − S y‖ ≤ (e^{ωh} + h·Θ)‖x − y‖` for `0 ≤ h ≤ T` -/
def etd3Aa (K ω T : ℝ) : ℝ := Real.exp (ω * T) * (1 + K * T / 2)
def etd3Ab (K ω T : ℝ) : ℝ := Real.exp (ω * T) * (1 + T * K * (2 * etd3Aa K ω T + 1))
def etd3Θ (K ω T : ℝ) : ℝ :=
  K * Real.exp (ω * T) * (19 / 6 + 10 / 3 * etd3Aa K ω T + 7 / 6 * etd3Ab K ω T)
def NL3.Cglob (c : NL3) : ℝ := c.T * c.Cloc * Real.exp ((c.ω + etd3Θ c.K c.ω c.T) * c.T)

theorem etd3Θ_nonneg {K ω T : ℝ} (hK : 0 ≤ K) (hT : 0 ≤ T) : 0 ≤ etd3Θ K ω T := by
  unfold etd3Θ etd3Ab etd3Aa; positivity

namespace NL3
variable {c : NL3}

/-- in the theorems the data are bounds of norms, `0 ≤ ω` and `0 ≤ T` -/
structure Nonneg (c : NL3) : Prop where
  K : 0 ≤ c.K
  M1 : 0 ≤ c.M1
  M2 : 0 ≤ c.M2
  G3 : 0 ≤ c.G3
  H : 0 ≤ c.H
  HL : 0 ≤ c.HL
  Lam : 0 ≤ c.Lam
  ω : 0 ≤ c.ω
  T : 0 ≤ c.T

theorem W_pos (c : NL3) : 0 < c.W := Real.exp_pos _

theorem Nonneg.G2 (hc : c.Nonneg) : 0 ≤ c.G2 := by
  have := hc.M2; have := hc.G3; have := hc.T
  unfold NL3.G2; positivity

theorem Nonneg.EA (hc : c.Nonneg) : 0 ≤ c.EA := by
  have := c.W_pos; have := hc.Lam; have := hc.M1; have := hc.G2
  unfold NL3.EA; positivity

theorem Nonneg.Ea2 (hc : c.Nonneg) : 0 ≤ c.Ea2 := by
  have := hc.M1; have := hc.EA; have := hc.T
  unfold NL3.Ea2; positivity

theorem Nonneg.EB (hc : c.Nonneg) : 0 ≤ c.EB := by
  have := c.W_pos; have := hc.Lam; have := hc.M1; have := hc.G2; have := hc.K; have := hc.Ea2
  unfold NL3.EB; positivity

theorem Nonneg.Cloc (hc : c.Nonneg) : 0 ≤ c.Cloc := by
  have := c.W_pos; have := hc.G3; have := hc.HL; have := hc.M1; have := hc.Lam; have := hc.K
  have := hc.H; have := hc.T; have := hc.EA; have := hc.EB
  unfold NL3.Cloc; positivity

end NL3

theorem phi12_sub_half (w : ℂ) : phi1e w - phi2e w - 1 / 2 = w * (phi2e w - phi3e w) := by
  have h1 := phiE_succ 1 w
  have h2 := phiE_succ 2 w
  rw [phiE_one, phiE_two] at h1
  rw [phiE_two, phiE_three] at h2
  norm_num [Nat.factorial] at h1 h2
  linear_combination h1 - h2

theorem phi_gamma_sub_beta (w : ℂ) :
    (4 * phi3e w - phi2e w) - (phi2e w - 2 * phi3e w) = w * (6 * phiE 4 w - 2 * phi3e w) := by
  have h2 := phiE_succ 2 w
  have h3 := phiE_succ 3 w
  rw [phiE_two, phiE_three] at h2
  rw [phiE_three] at h3
  norm_num [Nat.factorial] at h2 h3
  linear_combination 6 * h3 - 2 * h2

theorem nrm_hpow {h : ℝ} (hh : 0 ≤ h) (k : ℕ) : ‖(h : ℂ) ^ k‖ ≤ h ^ k := by
  rw [norm_pow, Complex.norm_real, Real.norm_eq_abs, abs_of_nonneg hh]

theorem nrm_div_ofNat {x : ℂ} {X : ℝ} (n : ℕ) [n.AtLeastTwo] (hx : ‖x‖ ≤ X) :
    ‖x / OfNat.ofNat n‖ ≤ X / OfNat.ofNat n := by
  rw [norm_div, Complex.norm_ofNat]
  exact div_le_div_of_nonneg_right hx (Nat.ofNat_nonneg n)

theorem nrm_hpow_div {h : ℝ} (hh : 0 ≤ h) (k n : ℕ) [n.AtLeastTwo] :
    ‖(h : ℂ) ^ k / OfNat.ofNat n‖ ≤ h ^ k / OfNat.ofNat n :=
  nrm_div_ofNat n (nrm_hpow hh k)

theorem nrm_half {h : ℝ} (hh : 0 ≤ h) : ‖(h : ℂ) / 2‖ ≤ h / 2 := nrm_div_ofNat 2 (nrm_ofReal hh le_rfl)

theorem pow_succ_le_mul_pow {h T : ℝ} (hh : 0 ≤ h) (hhT : h ≤ T) (n : ℕ) : h ^ (n + 1) ≤ T * h ^ n :=
  (pow_succ' h n).le.trans (mul_le_mul_of_nonneg_right hhT (pow_nonneg hh n))

/-! ### the stages

`V` is a commutative normed `ℂ`-algebra; for a system it is `ι → ℂ` with the sup norm and the pointwise product, for the scalar
equation `ℂ`.  `u0, uh, u1` stand for `u t, u (t + h/2), u (t + h)`, `d1, d2` for `f₁ t, f₂ t`, `f0, fh, fe` for `N` at `u0, uh, u1`,
`E, Eh, p#, q#` for `e^{lh}, e^{lh/2}, φ_#(lh), φ_#(lh/2)`, and `a, b` for the stage values, which enter with their defining
equations `ha, hb`.  Powers of `h` act as scalars; a rational constant `r` is `algebraMap ℂ V r`.  The hypotheses `nρ…` are the
variation-of-constants expansions of the exact solution, `nσh, nτ…` the Taylor expansions of `f`. -/

/-- a stage error with leading term `−s·d`, `‖s‖ ≤ κhⁿ`, and remainder `≤ εhⁿ⁺¹` is `≤ (κM + εT)hⁿ` -/
theorem norm_le_of_leading {E : Type} [SeminormedAddCommGroup E] [NormedSpace ℂ E] {x d : E} {s : ℂ}
    {κ ε M h T : ℝ} {n : ℕ} (hh : 0 ≤ h) (hhT : h ≤ T) (hε : 0 ≤ ε)
    (hs : ‖s‖ ≤ κ * h ^ n) (hd : ‖d‖ ≤ M) (h1 : ‖x + s • d‖ ≤ ε * h ^ (n + 1)) : ‖x‖ ≤ (κ * M + ε * T) * h ^ n := by
  rw [← add_sub_cancel_right x (s • d)]
  refine (norm_sub_le_of_le h1 (norm_smul_le_of_le hs hd)).trans ?_
  exact (add_le_add (mul_le_mul_of_nonneg_left (pow_succ_le_mul_pow hh hhT n) hε) le_rfl).trans_eq (by ring)

/-- what `N` does to a stage `x` within `e` of the exact state `û` and within `ε` of `û − r·d`, by its linearisation `L` at `û`:
    `N x = N û + (L ε_x − r·L d) + q` with `‖L ε_x‖ ≤ K ε`, `‖q‖ ≤ H/2·e²`, and `‖N x − N û‖ ≤ K e` -/
theorem lin_along {E : Type} [NormedAddCommGroup E] [NormedSpace ℂ E] {N : E → E} {K : NNReal}
    (hN : LipschitzWith K N) (L : E →ₗ[ℝ] E) {H : ℝ} (hH : 0 ≤ H) {û : E} (hLK : ∀ v, ‖L v‖ ≤ K * ‖v‖)
    (hLin : ∀ y, ‖N y - N û - L (y - û)‖ ≤ H / 2 * ‖y - û‖ ^ 2)
    {x d : E} {r ε e : ℝ} (h1 : ‖x - û + (r : ℂ) • d‖ ≤ ε) (h2 : ‖x - û‖ ≤ e) :
    ‖N x - N û‖ ≤ K * e ∧ N x = N û + (L (x - û + (r : ℂ) • d) - r • L d) + (N x - N û - L (x - û)) ∧
    ‖L (x - û + (r : ℂ) • d)‖ ≤ K * ε ∧ ‖N x - N û - L (x - û)‖ ≤ H / 2 * e ^ 2 := by
  refine ⟨hN.norm_sub_le_of_le h2, ?_, (hLK _).trans (mul_le_mul_of_nonneg_left h1 K.coe_nonneg),
    (hLin x).trans (mul_le_mul_of_nonneg_left (pow_le_pow_left₀ (norm_nonneg _) h2 2) (div_nonneg hH zero_le_two))⟩
  rw [Complex.coe_smul, L.map_add, L.map_smul]; abel

/-- `lin_along` for the sum of two stages `x, y` near `û` whose errors add up to `−r·d` within `ε` -/
theorem lin_along_add {E : Type} [NormedAddCommGroup E] [NormedSpace ℂ E] (N : E → E) {K : NNReal} (L : E →ₗ[ℝ] E)
    {û : E} (hLK : ∀ v, ‖L v‖ ≤ K * ‖v‖) {x y d : E} {r ε : ℝ} (h1 : ‖(x - û) + (y - û) + (r : ℂ) • d‖ ≤ ε) :
    N x + N y = N û + N û + (L ((x - û) + (y - û) + (r : ℂ) • d) - r • L d) + (N x - N û - L (x - û))
      + (N y - N û - L (y - û)) ∧ ‖L ((x - û) + (y - û) + (r : ℂ) • d)‖ ≤ K * ε := by
  refine ⟨?_, (hLK _).trans (mul_le_mul_of_nonneg_left h1 K.coe_nonneg)⟩
  rw [Complex.coe_smul, L.map_add, L.map_add, L.map_smul]; abel

section Stages
variable {V : Type} [NormedCommRing V] [NormedAlgebra ℂ V]

/-- stage `a = E_h u + h/2·φ₁(z/2) N(u)` (`ha`) of ETDRK3 and ETDRK4 against the second-order expansion of `u(t+h/2)` (remainder
    `≤ R`): `a − u(t+h/2) = −h²/8·f₁ + ε_a`, `‖ε_a‖ ≤ h²/4·D·M + R` where `D` bounds `φ₂(z/2) − 1/2` -/
theorem stageA_err {h : ℝ} {a u0 uh d1 Eh q1 q2 f0 : V} {D M R : ℝ} (ha : a = Eh * u0 + ((h : ℂ) / 2) • q1 * f0)
    (dA : ‖q2 - algebraMap ℂ V (1 / 2)‖ ≤ D) (hd1M : ‖d1‖ ≤ M)
    (nρ : ‖uh - (Eh * u0 + ((h : ℂ) / 2) • q1 * f0 + (((h : ℂ) / 2) ^ 2) • q2 * d1)‖ ≤ R) :
    ‖a - uh + ((h ^ 2 / 8 : ℝ) : ℂ) • d1‖ ≤ h ^ 2 / 4 * D * M + R := by
  rw [show a - uh + ((h ^ 2 / 8 : ℝ) : ℂ) • d1
      = -(((h ^ 2 / 4 : ℝ) : ℂ) • (q2 - algebraMap ℂ V (1 / 2)) * d1)
        - (uh - (Eh * u0 + ((h : ℂ) / 2) • q1 * f0 + (((h : ℂ) / 2) ^ 2) • q2 * d1)) by
    rw [ha]; push_cast; algebra]
  exact norm_sub_le_of_le ((norm_neg _).le.trans (norm_mul_le_of_le
    (norm_smul_le_of_le (nrm_ofReal (by positivity) le_rfl) dA) hd1M)) nρ

theorem etd3_stageA (c : NL3) (hc : c.Nonneg) {h : ℝ} (hh : 0 ≤ h) (hhT : h ≤ c.T)
    {a u0 uh d1 Eh q1 q2 f0 : V} (ha : a = Eh * u0 + ((h : ℂ) / 2) • q1 * f0)
    (d_q2 : ‖q2 - algebraMap ℂ V (1 / 2)‖ ≤ c.Lam * h * c.W / 12) (hd1M : ‖d1‖ ≤ c.M1)
    (nρa : ‖uh - (Eh * u0 + ((h : ℂ) / 2) • q1 * f0 + (((h : ℂ) / 2) ^ 2) • q2 * d1)‖
      ≤ c.W * c.G2 * h ^ 3 / 48) :
    ‖a - uh + ((h ^ 2 / 8 : ℝ) : ℂ) • d1‖ ≤ c.EA * h ^ 3 ∧ ‖a - uh‖ ≤ c.Ea2 * h ^ 2 := by
  have nε := (stageA_err ha d_q2 hd1M nρa).trans_eq (show _ = c.EA * h ^ 3 by unfold NL3.EA; ring)
  exact ⟨nε, (norm_le_of_leading (κ := 1 / 8) hh hhT hc.EA (nrm_ofReal (by positivity) (by linarith)) hd1M nε).trans_eq
    (by unfold NL3.Ea2; ring)⟩

/-- stage `b = E u + h φ₁(z)(2N(a) − N(u))` (`hb`): `b − u(t+h) = h²/2·f₁ + ε_b`; `Na` is `N(a)` -/
theorem etd3_stageB (c : NL3) (hc : c.Nonneg) {h : ℝ} (hh : 0 ≤ h) (hhT : h ≤ c.T)
    {b u0 u1 d1 E p1 p2 f0 fh Na : V} (hb : b = E * u0 + (h : ℂ) • p1 * (2 * Na - f0)) (bp1 : ‖p1‖ ≤ c.W)
    (d_p12 : ‖p1 - p2 - algebraMap ℂ V (1 / 2)‖ ≤ c.Lam * h * (2 * c.W / 3)) (hd1M : ‖d1‖ ≤ c.M1)
    (nρb : ‖u1 - (E * u0 + (h : ℂ) • p1 * f0 + ((h : ℂ) ^ 2) • p2 * d1)‖ ≤ c.W * c.G2 * h ^ 3 / 6)
    (nσh : ‖fh - f0 - ((h : ℂ) / 2) • d1‖ ≤ c.G2 * h ^ 2 / 8)
    (nδa : ‖Na - fh‖ ≤ c.K * (c.Ea2 * h ^ 2)) :
    ‖b - u1 + ((-(h ^ 2 / 2) : ℝ) : ℂ) • d1‖ ≤ c.EB * h ^ 3 ∧ ‖b - u1‖ ≤ c.Eb2 * h ^ 2 := by
  have b2h : ‖((2 * h : ℝ) : ℂ)‖ ≤ 2 * h := nrm_ofReal (by positivity) le_rfl
  generalize hρ : u1 - (E * u0 + (h : ℂ) • p1 * f0 + ((h : ℂ) ^ 2) • p2 * d1) = ρ at nρb
  generalize hσ : fh - f0 - ((h : ℂ) / 2) • d1 = σ at nσh
  generalize hδ : Na - fh = δ at nδa
  have nε : ‖b - u1 + ((-(h ^ 2 / 2) : ℝ) : ℂ) • d1‖ ≤ c.EB * h ^ 3 := by
    have e : b - u1 + ((-(h ^ 2 / 2) : ℝ) : ℂ) • d1
        = ((h ^ 2 : ℝ) : ℂ) • (p1 - p2 - algebraMap ℂ V (1 / 2)) * d1 + ((2 * h : ℝ) : ℂ) • p1 * σ
          + ((2 * h : ℝ) : ℂ) • p1 * δ - ρ := by
      rw [hb, ← hρ, ← hσ, ← hδ]; push_cast; algebra
    rw [e]
    refine (norm_sub_le_of_le (norm_add_le_of_le (norm_add_le_of_le
      (norm_mul_le_of_le (norm_smul_le_of_le (nrm_ofReal (by positivity) le_rfl) d_p12) hd1M)
      (norm_mul_le_of_le (norm_smul_le_of_le b2h bp1) nσh))
      (norm_mul_le_of_le (norm_smul_le_of_le b2h bp1) nδa)) nρb).trans (le_of_eq ?_)
    unfold NL3.EB; ring
  exact ⟨nε, (norm_le_of_leading (s := -((h ^ 2 / 2 : ℝ) : ℂ)) (κ := 1 / 2) (n := 2) hh hhT hc.EB
    ((norm_neg _).trans_le (nrm_ofReal (by positivity) (by linarith))) hd1M
    (by rwa [Complex.ofReal_neg] at nε)).trans_eq (by unfold NL3.Eb2; ring)⟩

/-- final update: `e1, e2` write `Na = N(a)`, `Nb = N(b)` by the linearisations of `N` at `u(t+h/2), u(t+h)` as `lin_along`
    gives them: `A1, A2, B1, B2` are `L_a ε_a, L_a f₁, L_b ε_b, L_b f₁`, and `qa, qb` the quadratic remainders -/
theorem etd3_final (c : NL3) (hc : c.Nonneg) {h : ℝ} (hh : 0 ≤ h) (hhT : h ≤ c.T)
    {u0 u1 d1 d2 E p1 p2 p3 f0 fh fe Na Nb A1 A2 B1 B2 qa qb : V}
    (d_gb : ‖(4 * p3 - p2) - (p2 - 2 * p3)‖ ≤ c.Lam * h * (7 * c.W / 12))
    (b4β : ‖4 * p2 - 8 * p3‖ ≤ 10 * c.W / 3) (bγ : ‖4 * p3 - p2‖ ≤ 7 * c.W / 6)
    (nρ3 : ‖u1 - (E * u0 + (h : ℂ) • p1 * f0 + ((h : ℂ) ^ 2) • p2 * d1 + ((h : ℂ) ^ 3) • p3 * d2)‖
      ≤ c.W * c.G3 * h ^ 4 / 24)
    (nτh : ‖fh - f0 - ((h : ℂ) / 2) • d1 - (((h : ℂ) / 2) ^ 2 / 2) • d2‖ ≤ c.G3 * h ^ 3 / 48)
    (nτe : ‖fe - f0 - (h : ℂ) • d1 - ((h : ℂ) ^ 2 / 2) • d2‖ ≤ c.G3 * h ^ 3 / 6)
    (e1 : Na = fh + (A1 - (h ^ 2 / 8 : ℝ) • A2) + qa) (e2 : Nb = fe + (B1 - (-(h ^ 2 / 2) : ℝ) • B2) + qb)
    (nA1 : ‖A1‖ ≤ c.K * (c.EA * h ^ 3)) (nB1 : ‖B1‖ ≤ c.K * (c.EB * h ^ 3))
    (nA2 : ‖A2‖ ≤ c.K * c.M1) (nBA : ‖B2 - A2‖ ≤ c.HL * (h / 2) * c.M1)
    (nqa : ‖qa‖ ≤ c.H / 2 * (c.Ea2 * h ^ 2) ^ 2) (nqb : ‖qb‖ ≤ c.H / 2 * (c.Eb2 * h ^ 2) ^ 2) :
    ‖u1 - (E * u0 + (h : ℂ) • (p1 - 3 * p2 + 4 * p3) * f0 + (h : ℂ) • (4 * p2 - 8 * p3) * Na
        + (h : ℂ) • (4 * p3 - p2) * Nb)‖ ≤ c.Cloc * h ^ 4 := by
  have hW := c.W_pos
  have hH := hc.H
  have bh : ‖(h : ℂ)‖ ≤ h := nrm_ofReal hh le_rfl
  generalize hρ : u1 - (E * u0 + (h : ℂ) • p1 * f0 + ((h : ℂ) ^ 2) • p2 * d1 + ((h : ℂ) ^ 3) • p3 * d2) = ρ at nρ3
  generalize hτh : fh - f0 - ((h : ℂ) / 2) • d1 - (((h : ℂ) / 2) ^ 2 / 2) • d2 = τh at nτh
  generalize hτe : fe - f0 - (h : ℂ) • d1 - ((h : ℂ) ^ 2 / 2) • d2 = τe at nτe
  -- the defect identity: here the quadrature exactness of the weights is used (the terms in `f0, d1, d2` cancel)
  have hid : u1 - (E * u0 + (h : ℂ) • (p1 - 3 * p2 + 4 * p3) * f0 + (h : ℂ) • (4 * p2 - 8 * p3) * Na
        + (h : ℂ) • (4 * p3 - p2) * Nb)
      = -((h : ℂ) • ((4 * p2 - 8 * p3) * τh + (4 * p3 - p2) * τe)
        + (h : ℂ) • ((4 * p2 - 8 * p3) * (A1 + qa) + (4 * p3 - p2) * (B1 + qb))
        + ((h ^ 3 / 2 : ℝ) : ℂ) • ((4 * p3 - p2) * (B2 - A2) + ((4 * p3 - p2) - (p2 - 2 * p3)) * A2)
        - ρ) := by
    rw [e1, e2, ← hτh, ← hτe, ← hρ]; simp only [← Complex.coe_smul]; push_cast; algebra
  rw [hid, norm_neg]
  refine (norm_sub_le_of_le (norm_add_le_of_le (norm_add_le_of_le
    (norm_smul_le_of_le bh (norm_add_le_of_le (norm_mul_le_of_le b4β nτh) (norm_mul_le_of_le bγ nτe)))
    (norm_smul_le_of_le bh (norm_add_le_of_le (norm_mul_le_of_le b4β (norm_add_le_of_le nA1 nqa))
      (norm_mul_le_of_le bγ (norm_add_le_of_le nB1 nqb)))))
    (norm_smul_le_of_le (nrm_ofReal (by positivity) le_rfl) (norm_add_le_of_le (norm_mul_le_of_le bγ nBA)
      (norm_mul_le_of_le d_gb nA2)))) nρ3).trans ?_
  -- the sum is `Cloc·h⁴` with `h` for `T` in front of the two quadratic remainders
  have hR : 0 ≤ c.H / 2 * (10 * c.W / 3 * c.Ea2 ^ 2 + 7 * c.W / 6 * c.Eb2 ^ 2) * h ^ 4 * (c.T - h) :=
    mul_nonneg (by positivity) (sub_nonneg.mpr hhT)
  calc _ = c.Cloc * h ^ 4 - c.H / 2 * (10 * c.W / 3 * c.Ea2 ^ 2 + 7 * c.W / 6 * c.Eb2 ^ 2) * h ^ 4
        * (c.T - h) := by unfold NL3.Cloc; ring
    _ ≤ c.Cloc * h ^ 4 := sub_le_self _ hR

end Stages

/-- the φ-difference bounds; `‖λ‖` enters here, through any bound `Λ` of it (for systems: the sup over the modes) -/
theorem etd3_phi_diffs (l : ℂ) (ω h T Λ : ℝ) (hω : 0 ≤ ω) (hl : l.re ≤ ω) (hh : 0 ≤ h) (hhT : h ≤ T)
    (hΛ : ‖l‖ ≤ Λ) :
    ‖phi2e (l * h / 2) - 1 / 2‖ ≤ Λ * h * Real.exp (ω * T) / 12 ∧
    ‖phi1e (l * h) - phi2e (l * h) - 1 / 2‖ ≤ Λ * h * (2 * Real.exp (ω * T) / 3) ∧
    ‖(4 * phi3e (l * h) - phi2e (l * h)) - (phi2e (l * h) - 2 * phi3e (l * h))‖
      ≤ Λ * h * (7 * Real.exp (ω * T) / 12) ∧
    ‖4 * phi2e (l * h) - 8 * phi3e (l * h)‖ ≤ 10 * Real.exp (ω * T) / 3 ∧
    ‖4 * phi3e (l * h) - phi2e (l * h)‖ ≤ 7 * Real.exp (ω * T) / 6 ∧
    ‖phi1e (l * h) - 3 * phi2e (l * h) + 4 * phi3e (l * h)‖ ≤ 19 * Real.exp (ω * T) / 6 := by
  obtain ⟨bp1, bp2, bp3, bp4, bq1, bq2, bq3, bE, bEh⟩ := etd_phi_bounds l ω h T hω hl hh hhT
  have hzn : ‖l * (h : ℂ)‖ ≤ Λ * h := norm_mul_le_of_le hΛ (nrm_ofReal hh le_rfl)
  have hzn2 : ‖l * (h : ℂ) / 2‖ ≤ Λ * h / 2 := nrm_div_ofNat 2 hzn
  have b6 : ‖(6 : ℂ)‖ ≤ 6 := (Complex.norm_ofNat 6).le
  have b4 : ‖(4 : ℂ)‖ ≤ 4 := (Complex.norm_ofNat 4).le
  have b8 : ‖(8 : ℂ)‖ ≤ 8 := (Complex.norm_ofNat 8).le
  have b3 : ‖(3 : ℂ)‖ ≤ 3 := (Complex.norm_ofNat 3).le
  have b2 : ‖(2 : ℂ)‖ ≤ 2 := (Complex.norm_ofNat 2).le
  refine ⟨?_, ?_, ?_, ?_, ?_, ?_⟩
  · rw [sub_eq_of_eq_add' (phi_chain _).2.2.1]
    refine (norm_mul_le_of_le hzn2 bq3).trans (le_of_eq ?_); ring
  · rw [phi12_sub_half]
    refine (norm_mul_le_of_le hzn (norm_sub_le_of_le bp2 bp3)).trans (le_of_eq ?_); ring
  · rw [phi_gamma_sub_beta]
    refine (norm_mul_le_of_le hzn (norm_sub_le_of_le (norm_mul_le_of_le b6 bp4)
      (norm_mul_le_of_le b2 bp3))).trans (le_of_eq ?_)
    ring
  · exact (norm_sub_le_of_le (norm_mul_le_of_le b4 bp2) (norm_mul_le_of_le b8 bp3)).trans
      (le_of_eq (by ring))
  · exact (norm_sub_le_of_le (norm_mul_le_of_le b4 bp3) bp2).trans (le_of_eq (by ring))
  · exact (norm_add_le_of_le (norm_sub_le_of_le bp1 (norm_mul_le_of_le b3 bp2)) (norm_mul_le_of_le b4 bp3)).trans
      (le_of_eq (by ring))

theorem tay2_of_tay3 {E : Type} [SeminormedAddCommGroup E] [NormedSpace ℂ E] (f f1 f2 : ℝ → E) (T M2 G3 : ℝ)
    (hG3 : 0 ≤ G3) (hM2 : ∀ t ∈ Set.Icc (0 : ℝ) T, ‖f2 t‖ ≤ M2)
    (hTay : ∀ t s : ℝ, 0 ≤ t → 0 ≤ s → t + s ≤ T →
      ‖f (t + s) - f t - (s : ℂ) • f1 t - ((s : ℂ) ^ 2 / 2) • f2 t‖ ≤ G3 * s ^ 3 / 6)
    (t s : ℝ) (ht : 0 ≤ t) (hs : 0 ≤ s) (hts : t + s ≤ T) :
    ‖f (t + s) - f t - (s : ℂ) • f1 t‖ ≤ (M2 + G3 * T / 3) * s ^ 2 / 2 := by
  have h := hTay t s ht hs hts
  rw [sub_eq_add_neg _ (((s : ℂ) ^ 2 / 2) • f2 t), ← neg_smul] at h
  exact (norm_le_of_leading (κ := 1 / 2) (ε := G3 / 6) (n := 2) hs ((le_add_of_nonneg_left ht).trans hts) (by positivity)
    ((norm_neg _).trans_le ((nrm_hpow_div hs 2 2).trans_eq (by ring)))
    (hM2 t ⟨ht, (le_add_of_nonneg_right hs).trans hts⟩) (h.trans_eq (by ring))).trans_eq (by ring)

section Systems
variable {ι : Type} [Fintype ι]

/-- what the exact solution of the system `u' = l u + f` contributes to a step `t → t + h`: its variation-of-constants
    expansions at `t + h/2` and `t + h`, and the Taylor expansions of `f` there -/
theorem etd3_exact_facts (c : NL3) (hc : c.Nonneg) (l : ι → ℂ) (hl : ∀ k, (l k).re ≤ c.ω)
    (u f g1 g2 : ℝ → ι → ℂ) (hu : ∀ t ∈ Set.Icc (0 : ℝ) c.T, HasDerivAt u (l * u t + f t) t)
    (hfc : ContinuousOn f (Set.Icc (0 : ℝ) c.T)) (hM2 : ∀ t ∈ Set.Icc (0 : ℝ) c.T, ‖g2 t‖ ≤ c.M2)
    (hTay : ∀ t s : ℝ, 0 ≤ t → 0 ≤ s → t + s ≤ c.T →
      ‖f (t + s) - f t - (s : ℂ) • g1 t - ((s : ℂ) ^ 2 / 2) • g2 t‖ ≤ c.G3 * s ^ 3 / 6)
    (t h : ℝ) (ht : 0 ≤ t) (hh : 0 ≤ h) (hth : t + h ≤ c.T) :
    ‖u (t + h / 2) - ((fun k => Complex.exp (l k * h / 2)) * u t
        + ((h : ℂ) / 2) • (fun k => phi1e (l k * h / 2)) * f t
        + (((h : ℂ) / 2) ^ 2) • (fun k => phi2e (l k * h / 2)) * g1 t)‖ ≤ c.W * c.G2 * h ^ 3 / 48 ∧
    ‖u (t + h) - ((fun k => Complex.exp (l k * h)) * u t + (h : ℂ) • (fun k => phi1e (l k * h)) * f t
        + ((h : ℂ) ^ 2) • (fun k => phi2e (l k * h)) * g1 t)‖ ≤ c.W * c.G2 * h ^ 3 / 6 ∧
    ‖u (t + h) - ((fun k => Complex.exp (l k * h)) * u t + (h : ℂ) • (fun k => phi1e (l k * h)) * f t
        + ((h : ℂ) ^ 2) • (fun k => phi2e (l k * h)) * g1 t + ((h : ℂ) ^ 3) • (fun k => phi3e (l k * h)) * g2 t)‖
      ≤ c.W * c.G3 * h ^ 4 / 24 ∧
    ‖f (t + h / 2) - f t - ((h : ℂ) / 2) • g1 t‖ ≤ c.G2 * h ^ 2 / 8 ∧
    ‖f (t + h / 2) - f t - ((h : ℂ) / 2) • g1 t - (((h : ℂ) / 2) ^ 2 / 2) • g2 t‖ ≤ c.G3 * h ^ 3 / 48 ∧
    ‖f (t + h) - f t - (h : ℂ) • g1 t - ((h : ℂ) ^ 2 / 2) • g2 t‖ ≤ c.G3 * h ^ 3 / 6 := by
  have hh2 : 0 ≤ h / 2 := div_nonneg hh zero_le_two
  have hth2 : t + h / 2 ≤ c.T := (add_le_add_right (half_le_self hh) t).trans hth
  have tay2 := fun s => tay2_of_tay3 f g1 g2 c.T c.M2 c.G3 hc.G3 hM2 hTay t s ht
  have D2 := etd_defectV2 l c.ω c.G2 c.T u f hc.ω hl hu hfc (g1 t) t ht hc.G2 tay2
  have ecast : ((h / 2 : ℝ) : ℂ) = (h : ℂ) / 2 := by push_cast; ring
  have Da := D2 (h / 2) hh2 hth2
  have Tσ := tay2 (h / 2) hh2 hth2
  have Tτ := hTay t (h / 2) ht hh2 hth2
  simp only [ecast, ← mul_div_assoc] at Da Tσ Tτ
  exact ⟨Da.trans_eq (by unfold NL3.W; ring), D2 h hh hth,
    etd_defectV3 l c.ω c.G3 c.T u f hc.ω hl hu hfc (g1 t) (g2 t) t ht hc.G3 (fun s => hTay t s ht) h hh hth,
    Tσ.trans_eq (by unfold NL3.G2; ring), Tτ.trans_eq (by ring), hTay t h ht hh hth⟩

/-- `etd3_phi_diffs` for the coefficient vectors of a system; `Λ = ‖l‖`, the sup over the modes -/
theorem etd3_phi_diffsV (l : ι → ℂ) (ω h T : ℝ) (hω : 0 ≤ ω) (hl : ∀ k, (l k).re ≤ ω) (hh : 0 ≤ h) (hhT : h ≤ T) :
    ‖(fun k => phi2e (l k * h / 2)) - algebraMap ℂ (ι → ℂ) (1 / 2)‖ ≤ ‖l‖ * h * Real.exp (ω * T) / 12 ∧
    ‖(fun k => phi1e (l k * h)) - (fun k => phi2e (l k * h)) - algebraMap ℂ (ι → ℂ) (1 / 2)‖ ≤ ‖l‖ * h * (2 * Real.exp (ω * T) / 3) ∧
    ‖(4 * (fun k => phi3e (l k * h)) - fun k => phi2e (l k * h))
        - ((fun k => phi2e (l k * h)) - 2 * fun k => phi3e (l k * h))‖ ≤ ‖l‖ * h * (7 * Real.exp (ω * T) / 12) ∧
    ‖4 * (fun k => phi2e (l k * h)) - 8 * fun k => phi3e (l k * h)‖ ≤ 10 * Real.exp (ω * T) / 3 ∧
    ‖4 * (fun k => phi3e (l k * h)) - fun k => phi2e (l k * h)‖ ≤ 7 * Real.exp (ω * T) / 6 ∧
    ‖(fun k => phi1e (l k * h)) - 3 * (fun k => phi2e (l k * h)) + 4 * fun k => phi3e (l k * h)‖
      ≤ 19 * Real.exp (ω * T) / 6 := by
  have d := fun k => etd3_phi_diffs (l k) ω h T ‖l‖ hω (hl k) hh hhT (norm_le_pi_norm l k)
  simp only [forall_and] at d
  obtain ⟨d1, d2, d3, d4, d5, d6⟩ := d
  exact ⟨(pi_norm_le_iff_of_nonneg (by positivity)).mpr d1, (pi_norm_le_iff_of_nonneg (by positivity)).mpr d2,
    (pi_norm_le_iff_of_nonneg (by positivity)).mpr d3, (pi_norm_le_iff_of_nonneg (by positivity)).mpr d4,
    (pi_norm_le_iff_of_nonneg (by positivity)).mpr d5, (pi_norm_le_iff_of_nonneg (by positivity)).mpr d6⟩

end Systems

end Exponax.LinearOrder
end
