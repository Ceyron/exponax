import Mathlib.Analysis.SpecialFunctions.Pow.Real
import Mathlib.Analysis.SpecialFunctions.Pow.Complex
import Mathlib.Tactic
import ExponaxModel.Proofs.MetricsAlgebra
import ExponaxModel.Proofs.MetricsGenEq
import ExponaxModel.Proofs.GenInstances

namespace Exponax.Gen.MetricsGen
open Exponax Exponax.Layout Exponax.Transform Exponax.DFT Exponax.Gen Exponax.Gen.Prelude Exponax.Metrics

/-- the band of `Metrics.fourierAggregator` that the optional limits `low`, `high` denote (defaults `0`, `N/2+1`) -/
def bandOf (N : ℕ) (low high : Option ℕ) : Option (ℕ × ℕ) :=
  if low.isSome = true ∨ high.isSome = true then some (low.getD 0, high.getD (N / 2 + 1)) else none

theorem rpow_ofReal (a q : ℝ) : HasRpow.rpow ((a : ℝ) : ℂ) ((q : ℝ) : ℂ) = ((a ^ q : ℝ) : ℂ) := by
  simp [hasRpow_complex]

theorem floor_norm (z : ℂ) :
    ‖(bif HasLtB.ltb (HasAbs.abs z) (qlit 1 100000) then (0 : ℂ) else z)‖
      = if ‖z‖ < 1 / 100000 then 0 else ‖z‖ := by
  have h : (HasLtB.ltb (HasAbs.abs z) (qlit 1 100000 : ℂ) = true) ↔ ‖z‖ < 1 / 100000 := by
    rw [hasLtB_complex, hasAbs_complex, decide_eq_true_eq]
    have : ((qlit 1 100000 : ℂ)).re = 1 / 100000 := by
      simp only [qlit, lit]
      norm_num
    rw [this, Complex.ofReal_re]
  by_cases hz : ‖z‖ < 1 / 100000
  · rw [h.2 hz, cond_true, if_pos hz, norm_zero]
  · rw [Bool.eq_false_iff.mpr (fun hh => hz (h.1 hh)), cond_false, if_neg hz]

theorem term_cast (z : ℂ) (p r : ℝ) :
    HasRpow.rpow (HasAbs.abs z) (p : ℂ) / (r : ℂ) = ((‖z‖ ^ p / r : ℝ) : ℂ) := by
  rw [hasAbs_complex, rpow_ofReal, Complex.ofReal_div]

theorem scale_cast (L : ℝ) (N D : ℕ) : npow ((L : ℂ) / lit N) D = (((L / (N : ℝ)) ^ D : ℝ) : ℂ) := by
  rw [npow_eq, lit_eq]
  push_cast
  rfl

theorem recon_cast (D N h : ℕ) (hh : h < numModes D N) :
    (ext_build_scaling_array D N "reconstruction" : Array ℂ).getD h 0 = ((reconScale D N h : ℝ) : ℂ) := by
  unfold ext_build_scaling_array reconScale
  rw [tab_getD _ _ _ _ hh]
  have hc : scaling_mode_code "reconstruction" = 1 := by decide
  rw [hc, Layout.scaling_eq, Layout.scaling_eq]
  push_cast
  rfl

theorem mag_getD (D N : ℕ) (u : Array ℝ) (h : ℕ) (hh : h < numModes D N) :
    (magnitudes D N u).getD h 0 = ‖(rfftnM D N (toComplex u)).getD h 0‖ := by
  unfold magnitudes; rw [tab_getD _ _ _ _ hh]

theorem aggOne_cast (D N : ℕ) (L p q : ℝ) (A : Array ℂ) (w : ℕ → ℝ)
    (hA : ∀ h, h < numModes D N → ‖A.getD h 0‖ = w h) (hsz : A.size = numModes D N) :
    aggOne D N (L : ℂ) (p : ℂ) (q : ℂ) A
      = (((((L / (N : ℝ)) ^ D * ∑ h ∈ Finset.range (numModes D N), w h ^ p / reconScale D N h) ^ q : ℝ)) : ℂ) := by
  unfold aggOne
  rw [tab_size, hsz, sumRange_tab_getD', scale_cast, DFT.sumRange_eq, ← rpow_ofReal, Complex.ofReal_mul,
    Complex.ofReal_sum]
  refine congrArg (fun x => HasRpow.rpow (_ * x) _) (Finset.sum_congr rfl fun h hh => ?_)
  have hh' := Finset.mem_range.mp hh
  rw [recon_cast D N h hh', term_cast, hA h hh']

theorem keptHat_size (D N : ℕ) (u : Array ℂ) (lo hi : Option ℕ) : (keptHat D N u lo hi).size = numModes D N := by
  unfold keptHat ext_fft
  split_ifs <;> simp only [tab_size, rfftnM_size]

theorem keptHat_norm (D N : ℕ) (u : Array ℝ) (lo hi : Option ℕ) (h : ℕ) (hh : h < numModes D N) :
    ‖(keptHat D N (toComplex u) lo hi).getD h 0‖
      = keptVal D N (bandOf N lo hi) (1 / 100000) (magnitudes D N u) h := by
  unfold keptHat bandOf keptVal ext_fft
  by_cases hb : lo.isSome = true ∨ hi.isSome = true
  · simp only [if_pos hb, rfftnM_size, tab_size, lp_size, tab_getD _ _ _ _ hh, lp_getD _ _ _ _ hh, norm_mul,
      floor_norm, mag_getD _ _ _ _ hh, bandMask]
    cases (!lowPassSep (wnFlat D N h) _ 1 && lowPassSep (wnFlat D N h) _ 1) <;> simp
  · simp only [if_neg hb, rfftnM_size, tab_getD _ _ _ _ hh, floor_norm, mag_getD _ _ _ _ hh]

/-- the derivative weight: `|(i·s·k)^m| = |s·k|^m`, and `0` at `k = 0` when `m ≠ 0` -/
theorem deriv_norm (L m : ℝ) (hm : m ≠ 0) (k : ℤ) :
    ‖HasCpow.cpow (HasI.I * ((lit 2 * HasPi.pi / (L : ℂ)) * (IntCast.intCast k : ℂ))) ((m : ℝ) : ℂ)‖
      = if k = 0 then 0 else |2 * Real.pi / L * ((k : ℤ) : ℝ)| ^ m := by
  rw [hasCpow_complex, Complex.norm_cpow_real, hasI_complex, hasPi_complex, lit_eq]
  have e : (Complex.I * (((2 : ℕ) : ℂ) * (Real.pi : ℂ) / (L : ℂ) * (IntCast.intCast k : ℂ)))
      = Complex.I * ((2 * Real.pi / L * (k : ℝ) : ℝ) : ℂ) := by
    push_cast; rfl
  rw [e, norm_mul, Complex.norm_I, one_mul, Complex.norm_real, Real.norm_eq_abs]
  by_cases hk : k = 0
  · rw [if_pos hk, hk]; simp [Real.zero_rpow hm]
  · rw [if_neg hk]

/-- with a derivative order, `fourier_aggregator` is a sum over the axes `d` of aggregates of the kept spectrum
    times a factor of norm `w d h` -/
theorem fourier_aggregator_some_cast (D N : ℕ) (u : Array ℝ) (L p q : ℝ) (m : ℂ) (low high : Option ℕ)
    (w : ℕ → ℕ → ℝ)
    (hw : ∀ d h, ‖HasCpow.cpow (HasI.I * ((lit 2 * HasPi.pi / (L : ℂ))
      * (IntCast.intCast ((wnFlat D N h).getD d 0) : ℂ))) m‖ = w d h) :
    fourier_aggregator (K := ℂ) D N (toComplex u) none (L : ℂ) none (p : ℂ) (some (q : ℂ)) low high (some m)
      = ((∑ d ∈ Finset.range D, ((L / (N : ℝ)) ^ D * ∑ h ∈ Finset.range (numModes D N),
          (keptVal D N (bandOf N low high) (1 / 100000) (magnitudes D N u) h * w d h) ^ p / reconScale D N h) ^ q : ℝ)
          : ℂ) := by
  rw [fourier_aggregator_some_eq]
  unfold ext_build_derivative_operator
  rw [List.map_map, List.map_map, List.map_map, sumList_eq, DFT.list_range_map_sum,
    Complex.ofReal_sum]
  refine Finset.sum_congr rfl fun d _ => aggOne_cast D N L p q _ _ (fun h hh => ?_) (by rw [tab_size, keptHat_size])
  beta_reduce
  rw [tab_size, keptHat_size, tab_getD _ _ _ _ hh, tab_getD _ _ _ _ hh, tab_getD _ _ _ _ hh, norm_mul,
    keptHat_norm _ _ _ _ _ _ hh, hw]

/-- **`fourier_aggregator` with a derivative order `m ≠ 0`** is the model aggregator on the magnitudes.
    For `m = 0` the two differ, see `fourier_aggregator_deriv_zero`. -/
theorem fourier_aggregator_deriv_eq_model_partial (D N : ℕ) (u : Array ℝ) (L p q m : ℝ) (hm : m ≠ 0)
    (low high : Option ℕ) :
    fourier_aggregator (K := ℂ) D N (toComplex u) none (L : ℂ) none (p : ℂ) (some (q : ℂ)) low high (some (m : ℂ))
      = ((Metrics.fourierAggregator D N L (2 * Real.pi / L) p q (bandOf N low high) (some m) (1 / 100000)
          (Metrics.magnitudes D N u) : ℝ) : ℂ) := by
  rw [fourierAggregator_some]
  exact fourier_aggregator_some_cast D N u L p q m low high (derivFactor D N (2 * Real.pi / L) m)
    (fun d h => deriv_norm L m hm _)

/-- **`fourier_aggregator` without derivative** (floor `1e-5`, optional band with the default limits `0`,
    `N/2+1`, reconstruction scaling, cell volume, exponents) is the model aggregator on the magnitudes `|û_h|` -/
theorem fourier_aggregator_eq_model (D N : ℕ) (u : Array ℝ) (L p q : ℝ) (low high : Option ℕ) :
    fourier_aggregator (K := ℂ) D N (toComplex u) none (L : ℂ) none (p : ℂ) (some (q : ℂ)) low high none
      = ((Metrics.fourierAggregator D N L (2 * Real.pi / L) p q (bandOf N low high) none (1 / 100000)
          (Metrics.magnitudes D N u) : ℝ) : ℂ) := by
  rw [fourierAggregator_none, fourier_aggregator_none_eq, sumList_eq, List.sum_singleton]
  exact aggOne_cast D N L p q _ _ (fun h hh => keptHat_norm D N u low high h hh) (keptHat_size _ _ _ _ _)

/-- **discrepancy at `derivative_order = 0`**: the source computes `D` times the plain aggregate (`z ** 0 = 1` also
    at `z = 0`), whereas `Metrics.fourierAggregator … (some 0) …` drops the modes with `k_d = 0` -/
theorem fourier_aggregator_deriv_zero (D N : ℕ) (u : Array ℝ) (L p q : ℝ) (low high : Option ℕ) :
    fourier_aggregator (K := ℂ) D N (toComplex u) none (L : ℂ) none (p : ℂ) (some (q : ℂ)) low high
        (some (((0 : ℝ)) : ℂ))
      = (D : ℂ) * ((Metrics.fourierAggregator D N L (2 * Real.pi / L) p q (bandOf N low high) none (1 / 100000)
          (Metrics.magnitudes D N u) : ℝ) : ℂ) := by
  rw [fourierAggregator_none, fourier_aggregator_some_cast D N u L p q _ low high (fun _ _ => 1)
    (fun d h => by rw [hasCpow_complex, Complex.ofReal_zero, Complex.cpow_zero, norm_one])]
  simp only [mul_one, Finset.sum_const, Finset.card_range, nsmul_eq_mul, Complex.ofReal_mul, Complex.ofReal_natCast]

/-! ### transfer to `fourier_norm` and its wrappers: complex-embedded real states -/

noncomputable def toComplexL (us : List (Array ℝ)) : List (Array ℂ) := us.map toComplex

/-- the per-channel MODEL aggregates (`Metrics.fourierAggregator` on the magnitudes) -/
noncomputable def modelFAgg (D N : ℕ) (L p q : ℝ) (low high : Option ℕ) (m : Option ℝ) (us : List (Array ℝ)) : List ℝ :=
  us.map (fun s => Metrics.fourierAggregator D N L (2 * Real.pi / L) p q (bandOf N low high) m (1 / 100000)
    (Metrics.magnitudes D N s))

theorem toComplex_tab (n : ℕ) (f : ℕ → ℝ) : toComplex (tab n f) = tab n (fun j => ((f j : ℝ) : ℂ)) := by
  apply Array.ext
  · simp [toComplex]
  · intro i h1 h2
    have hi : i < n := by simpa using h2
    simp [toComplex, tab_getElem]

theorem chanSub_toComplexL (u r : List (Array ℝ)) :
    chanSub (toComplexL u) (toComplexL r) = toComplexL (chanSub u r) := by
  unfold chanSub toComplexL
  rw [List.zipWith_map, List.map_zipWith]
  congr 1
  funext a b
  rw [toComplex_tab]
  have hs : (toComplex a).size = a.size := by simp [toComplex]
  rw [hs]
  apply tab_congr
  intro i _
  rw [toComplex_getD, toComplex_getD]
  push_cast; rfl

theorem sum_map_ofReal (l : List ℝ) : (l.map (fun x : ℝ => (x : ℂ))).sum = ((l.sum : ℝ) : ℂ) := by
  induction l with
  | nil => simp
  | cons x xs ih => simp [ih]

theorem chanFAgg_toComplexL (D N : ℕ) (L p q : ℝ) (low high : Option ℕ) (m : Option ℝ) (hm : m ≠ some 0)
    (us : List (Array ℝ)) :
    chanFAgg D N (L : ℂ) (p : ℂ) (q : ℂ) low high (m.map (fun x : ℝ => (x : ℂ))) (toComplexL us)
      = (modelFAgg D N L p q low high m us).map (fun x : ℝ => (x : ℂ)) := by
  unfold chanFAgg modelFAgg toComplexL
  rw [List.map_map, List.map_map]
  apply List.map_congr_left
  intro s _
  simp only [Function.comp]
  rcases m with _ | m
  · exact fourier_aggregator_eq_model D N s L p q low high
  · exact fourier_aggregator_deriv_eq_model_partial D N s L p q m (fun h => hm (by rw [h])) low high

theorem combine_cast (code : ℕ) (hc : code = 0 ∨ code = 1) (a b : List ℝ) (hab : a.length ≤ b.length) :
    Metrics.combine code (a.map (fun x : ℝ => (x : ℂ))) (b.map (fun x : ℝ => (x : ℂ))) []
      = ((Metrics.combine code a b [] : ℝ) : ℂ) := by
  rcases hc with rfl | rfl
  · rw [combine_zero, combine_zero, sumList_eq, sumList_eq, sum_map_ofReal]
  · rw [combine_one _ _ _ (by simpa using hab), combine_one _ _ _ hab, sumList_eq, sumList_eq]
    induction a generalizing b with
    | nil => simp
    | cons x xs ih =>
      cases b with
      | nil => simp at hab
      | cons y ys =>
        simp only [List.map_cons, List.zipWith_cons_cons, List.sum_cons]
        rw [ih ys (by simpa using hab)]
        push_cast; rfl

/-- **`fourier_norm` on complex-embedded real states** is the model combination of the model aggregates
    (for a derivative order `≠ 0`) -/
theorem fourier_norm_eq_model_partial (D N : ℕ) (u r : List (Array ℝ)) (mode : String) (L p q : ℝ)
    (low high : Option ℕ) (m : Option ℝ) (hm : m ≠ some 0) :
    fourier_norm (K := ℂ) D N (toComplexL u) (some (toComplexL r)) mode (L : ℂ) (p : ℂ) (some (q : ℂ)) low high
        (m.map (fun x : ℝ => (x : ℂ)))
      = some (((Metrics.combine (fmodeCode mode) (modelFAgg D N L p q low high m (chanSub u r))
          (modelFAgg D N L p q low high m r) [] : ℝ)) : ℂ) := by
  rw [fourier_norm_eq, chanSub_toComplexL,
    chanFAgg_toComplexL _ _ _ _ _ _ _ _ hm, chanFAgg_toComplexL _ _ _ _ _ _ _ _ hm, combine_cast]
  · unfold fmodeCode; split_ifs <;> simp
  · simp [modelFAgg, chanSub_length]


/-- the MODEL value of a Fourier metric -/
noncomputable def fourierModel (code D N : ℕ) (L p q : ℝ) (low high : Option ℕ) (m : Option ℝ)
    (u r : List (Array ℝ)) : ℝ :=
  Metrics.combine code (modelFAgg D N L p q low high m (chanSub u r)) (modelFAgg D N L p q low high m r) []

theorem fourierGen_eq_model_partial (code : ℕ) (hc : code = 0 ∨ code = 1) (D N : ℕ) (L p q : ℝ)
    (low high : Option ℕ) (m : Option ℝ) (hm : m ≠ some 0) (u r : List (Array ℝ)) :
    fourierGen code D N (L : ℂ) (p : ℂ) (q : ℂ) low high (m.map (fun x : ℝ => (x : ℂ))) (toComplexL u) (toComplexL r)
      = ((fourierModel code D N L p q low high m u r : ℝ) : ℂ) := by
  unfold fourierGen fourierModel
  rw [chanSub_toComplexL, chanFAgg_toComplexL _ _ _ _ _ _ _ _ hm, chanFAgg_toComplexL _ _ _ _ _ _ _ _ hm,
    combine_cast _ hc]
  simp [modelFAgg, chanSub_length]

theorem lit_one_cast : (lit 1 : ℂ) = ((1 : ℝ) : ℂ) := by simp
theorem lit_two_cast : (lit 2 : ℂ) = ((2 : ℝ) : ℂ) := by simp
theorem qlit_half_cast : (qlit 1 2 : ℂ) = (((1 / 2 : ℝ)) : ℂ) := by simp

section wrappers
variable (D N : ℕ) (u r : List (Array ℝ)) (L : ℝ) (low high : Option ℕ) (m : Option ℝ) (hm : m ≠ some 0)
include hm

theorem fourier_MAE_eq_model_partial :
    fourier_MAE (K := ℂ) D N (toComplexL u) (some (toComplexL r)) (L : ℂ) low high (m.map (fun x : ℝ => (x : ℂ)))
      = some ((fourierModel 0 D N L 1 1 low high m u r : ℝ) : ℂ) := by
  rw [fourier_MAE_eq, lit_one_cast,
    fourierGen_eq_model_partial 0 (Or.inl rfl) _ _ _ _ _ _ _ _ hm _ _]
theorem fourier_nMAE_eq_model_partial :
    fourier_nMAE (K := ℂ) D N (toComplexL u) (toComplexL r) (L : ℂ) low high (m.map (fun x : ℝ => (x : ℂ)))
      = some ((fourierModel 1 D N L 1 1 low high m u r : ℝ) : ℂ) := by
  rw [fourier_nMAE_eq, lit_one_cast,
    fourierGen_eq_model_partial 1 (Or.inr rfl) _ _ _ _ _ _ _ _ hm _ _]
theorem fourier_MSE_eq_model_partial :
    fourier_MSE (K := ℂ) D N (toComplexL u) (some (toComplexL r)) (L : ℂ) low high (m.map (fun x : ℝ => (x : ℂ)))
      = some ((fourierModel 0 D N L 2 1 low high m u r : ℝ) : ℂ) := by
  rw [fourier_MSE_eq, lit_one_cast, lit_two_cast,
    fourierGen_eq_model_partial 0 (Or.inl rfl) _ _ _ _ _ _ _ _ hm _ _]
theorem fourier_nMSE_eq_model_partial :
    fourier_nMSE (K := ℂ) D N (toComplexL u) (toComplexL r) (L : ℂ) low high (m.map (fun x : ℝ => (x : ℂ)))
      = some ((fourierModel 1 D N L 2 1 low high m u r : ℝ) : ℂ) := by
  rw [fourier_nMSE_eq, lit_one_cast, lit_two_cast,
    fourierGen_eq_model_partial 1 (Or.inr rfl) _ _ _ _ _ _ _ _ hm _ _]
theorem fourier_RMSE_eq_model_partial :
    fourier_RMSE (K := ℂ) D N (toComplexL u) (some (toComplexL r)) (L : ℂ) low high (m.map (fun x : ℝ => (x : ℂ)))
      = some ((fourierModel 0 D N L 2 (1 / 2) low high m u r : ℝ) : ℂ) := by
  rw [fourier_RMSE_eq, qlit_half_cast, lit_two_cast,
    fourierGen_eq_model_partial 0 (Or.inl rfl) _ _ _ _ _ _ _ _ hm _ _]
theorem fourier_nRMSE_eq_model_partial :
    fourier_nRMSE (K := ℂ) D N (toComplexL u) (toComplexL r) (L : ℂ) low high (m.map (fun x : ℝ => (x : ℂ)))
      = some ((fourierModel 1 D N L 2 (1 / 2) low high m u r : ℝ) : ℂ) := by
  rw [fourier_nRMSE_eq, qlit_half_cast, lit_two_cast,
    fourierGen_eq_model_partial 1 (Or.inr rfl) _ _ _ _ _ _ _ _ hm _ _]
end wrappers

theorem some_one_ne : (some (1 : ℝ)) ≠ some 0 := by simp
theorem none_ne : (none : Option ℝ) ≠ some 0 := by simp

/-! ### the Sobolev metrics: `H1_X = model(no derivative) + model(derivative order 1)` (no hypothesis: `1 ≠ 0`) -/
section sobolev
variable (D N : ℕ) (u r : List (Array ℝ)) (L : ℝ) (low high : Option ℕ)

theorem H1_generic (code : ℕ) (hc : code = 0 ∨ code = 1) (p q : ℝ) :
    fourierGen code D N (L : ℂ) (p : ℂ) (q : ℂ) low high none (toComplexL u) (toComplexL r)
        + fourierGen code D N (L : ℂ) (p : ℂ) (q : ℂ) low high (some (lit 1)) (toComplexL u) (toComplexL r)
      = ((fourierModel code D N L p q low high none u r + fourierModel code D N L p q low high (some 1) u r : ℝ) : ℂ) := by
  have h0 := fourierGen_eq_model_partial code hc D N L p q low high none none_ne u r
  have h1 := fourierGen_eq_model_partial code hc D N L p q low high (some 1) some_one_ne u r
  simp only [Option.map_none, Option.map_some] at h0 h1
  rw [lit_one_cast, h0, h1]
  push_cast
  rfl

theorem H1_MAE_eq_model :
    H1_MAE (K := ℂ) D N (toComplexL u) (some (toComplexL r)) (L : ℂ) low high
      = some ((fourierModel 0 D N L 1 1 low high none u r + fourierModel 0 D N L 1 1 low high (some 1) u r : ℝ) : ℂ) := by
  rw [H1_MAE_eq, ← H1_generic D N u r L low high 0 (Or.inl rfl)]
  simp only [lit_one_cast]
theorem H1_nMAE_eq_model :
    H1_nMAE (K := ℂ) D N (toComplexL u) (toComplexL r) (L : ℂ) low high
      = some ((fourierModel 1 D N L 1 1 low high none u r + fourierModel 1 D N L 1 1 low high (some 1) u r : ℝ) : ℂ) := by
  rw [H1_nMAE_eq, ← H1_generic D N u r L low high 1 (Or.inr rfl)]
  simp only [lit_one_cast]
theorem H1_MSE_eq_model :
    H1_MSE (K := ℂ) D N (toComplexL u) (some (toComplexL r)) (L : ℂ) low high
      = some ((fourierModel 0 D N L 2 1 low high none u r + fourierModel 0 D N L 2 1 low high (some 1) u r : ℝ) : ℂ) := by
  rw [H1_MSE_eq, ← H1_generic D N u r L low high 0 (Or.inl rfl)]
  simp only [lit_one_cast, lit_two_cast]
theorem H1_nMSE_eq_model :
    H1_nMSE (K := ℂ) D N (toComplexL u) (toComplexL r) (L : ℂ) low high
      = some ((fourierModel 1 D N L 2 1 low high none u r + fourierModel 1 D N L 2 1 low high (some 1) u r : ℝ) : ℂ) := by
  rw [H1_nMSE_eq, ← H1_generic D N u r L low high 1 (Or.inr rfl)]
  simp only [lit_one_cast, lit_two_cast]
theorem H1_RMSE_eq_model :
    H1_RMSE (K := ℂ) D N (toComplexL u) (some (toComplexL r)) (L : ℂ) low high
      = some ((fourierModel 0 D N L 2 (1 / 2) low high none u r
          + fourierModel 0 D N L 2 (1 / 2) low high (some 1) u r : ℝ) : ℂ) := by
  rw [H1_RMSE_eq, ← H1_generic D N u r L low high 0 (Or.inl rfl)]
  simp only [lit_one_cast, lit_two_cast, qlit_half_cast]
theorem H1_nRMSE_eq_model :
    H1_nRMSE (K := ℂ) D N (toComplexL u) (toComplexL r) (L : ℂ) low high
      = some ((fourierModel 1 D N L 2 (1 / 2) low high none u r
          + fourierModel 1 D N L 2 (1 / 2) low high (some 1) u r : ℝ) : ℂ) := by
  rw [H1_nRMSE_eq, ← H1_generic D N u r L low high 1 (Or.inr rfl)]
  simp only [lit_one_cast, lit_two_cast, qlit_half_cast]
end sobolev

/-- `_correlation(u, v)` (2-norms without the cell volume) is the model correlation (aggregators WITH the cell
    volume `(L/N)^D`, which cancels), for a positive cell volume and fields on the `N^D` grid -/
theorem priv_correlation_eq_model_partial (D N : ℕ) (L : ℝ) (hL : 0 < L) (hN : 0 < N) (u v : Array ℝ)
    (hu : u.size = N ^ D) (hv : v.size = N ^ D) :
    priv_correlation u v = Metrics.correlationChannel D N L u v := by
  rw [correlationChannel_eq D N L u v hu hv]
  unfold priv_correlation jnp_linalg_norm
  simp only [tab_size, hu, hv, hasSqrt_real]
  rw [DFT.sumRange_eq, DFT.sumRange_eq, DFT.sumRange_eq]
  have hc : 0 < (L / (N : ℝ)) ^ D := cell_pos D N L hL hN
  set c := (L / (N : ℝ)) ^ D with hcdef
  set Su := ∑ j ∈ Finset.range (N ^ D), u.getD j 0 * u.getD j 0 with hSu
  set Sv := ∑ j ∈ Finset.range (N ^ D), v.getD j 0 * v.getD j 0 with hSv
  have e1 : ∀ j ∈ Finset.range (N ^ D),
      (tab (N ^ D) fun j => u.getD j 0 / Real.sqrt Su).getD j 0 * (tab (N ^ D) fun j => v.getD j 0 / Real.sqrt Sv).getD j 0
        = (u.getD j 0 * v.getD j 0) / (Real.sqrt Su * Real.sqrt Sv) := by
    intro j hj
    have hj' := Finset.mem_range.mp hj
    rw [tab_getD _ _ _ _ hj', tab_getD _ _ _ _ hj', div_mul_div_comm]
  rw [Finset.sum_congr rfl e1, ← Finset.sum_div]
  have e2 : ∑ j ∈ Finset.range (N ^ D), u.getD j 0 ^ 2 = Su := by
    rw [hSu]; exact Finset.sum_congr rfl (fun j _ => by ring)
  have e3 : ∑ j ∈ Finset.range (N ^ D), v.getD j 0 ^ 2 = Sv := by
    rw [hSv]; exact Finset.sum_congr rfl (fun j _ => by ring)
  rw [e2, e3, Real.sqrt_mul hc.le, Real.sqrt_mul hc.le]
  have e4 : Real.sqrt c * Real.sqrt Su * (Real.sqrt c * Real.sqrt Sv) = c * (Real.sqrt Su * Real.sqrt Sv) := by
    have := Real.mul_self_sqrt hc.le
    calc Real.sqrt c * Real.sqrt Su * (Real.sqrt c * Real.sqrt Sv)
        = (Real.sqrt c * Real.sqrt c) * (Real.sqrt Su * Real.sqrt Sv) := by ring
      _ = c * (Real.sqrt Su * Real.sqrt Sv) := by rw [this]
  rw [e4, mul_div_mul_left _ _ hc.ne']

/-- `correlation`: the channel mean of the model correlations -/
theorem correlation_eq_model_partial (D N : ℕ) (L : ℝ) (hL : 0 < L) (hN : 0 < N) (u r : List (Array ℝ))
    (hu : ∀ a ∈ u, a.size = N ^ D) (hr : ∀ a ∈ r, a.size = N ^ D) :
    correlation u r = (List.zipWith (Metrics.correlationChannel D N L) u r).sum
      / ((List.zipWith (Metrics.correlationChannel D N L) u r).length : ℝ) := by
  have h : List.zipWith (fun (a b : Array ℝ) => priv_correlation a b) u r
      = List.zipWith (Metrics.correlationChannel D N L) u r := by
    induction u generalizing r with
    | nil => simp
    | cons a as ih =>
      cases r with
      | nil => simp
      | cons b bs =>
        simp only [List.zipWith_cons_cons]
        rw [priv_correlation_eq_model_partial D N L hL hN a b (hu a List.mem_cons_self) (hr b List.mem_cons_self),
          ih bs (fun x hx => hu x (List.mem_cons_of_mem _ hx)) (fun x hx => hr x (List.mem_cons_of_mem _ hx))]
  rw [correlation_eq, h, sumList_eq, lit_eq]

end Exponax.Gen.MetricsGen
