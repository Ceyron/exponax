import ExponaxModel.Proofs.EquivarianceNDOneDim
/-
C08 in general dimension: `n` steps and whole rollouts of the ETDRK stage formulas of orders 1–4 with
any equivariant term commute with the n-D roll of a multi-channel state.

State space: `ℕ → ℕ → ℂ` (channel → flat stored mode → value), a commutative ring under the
pointwise operations; the coefficient arrays `E, Eh, c₁ … c₆ : ℕ → ℕ → ℂ` are arbitrary.
`liftTermND c C T` is the model term `T` read as a map on that space (`C` input channels, stored
modes; zero beyond).  The spectral statements are `Symmetry.E?step_phase` at the phase array
`phaseMC` in their `iterate`, `rollout` (orders 1–4) and `repeatN` (order 4) forms; in physical space
`irfftn(step^n(rfftn(rollND u))) = rollND(irfftn(step^n(rfftn u)))` channelwise
(`E?_physical_translation_nd`).
-/
namespace Exponax.EquivND
open Exponax Exponax.Layout Exponax.Transform Exponax.Nonlin Exponax.Alias Exponax.Symmetry
open Exponax.SymmetryND Exponax.Gen.Etdrk Finset

noncomputable def phaseMC (D N : ℕ) (s : List ℤ) : ℕ → ℕ → ℂ := fun _ h => shiftPhaseND D N s h

theorem phaseMC_mul_apply (D N : ℕ) (s : List ℤ) (v : ℕ → ℕ → ℂ) (ch h : ℕ) :
    (phaseMC D N s * v) ch h = shiftPhaseND D N s h * v ch h := rfl

theorem mcShift_tab2_phaseMC (c : Cfg ℂ) (s : List ℤ) (C : ℕ) (v : ℕ → ℕ → ℂ) :
    MCShift c s (tab2 C (modes c) v) (tab2 C (modes c) (phaseMC c.D c.N s * v)) :=
  mcShift_tab2 c s C _ _ (fun _ _ _ _ => rfl)

/-- an equivariant term satisfies the hypothesis of the `E?step_phase` lemmas -/
theorem liftTermND_phase (c : Cfg ℂ) (s : List ℤ) (C : ℕ) (T : MC ℂ → MC ℂ)
    (hT : TermEquivariant c s T) (v : ℕ → ℕ → ℂ) :
    liftTermND c C T (phaseMC c.D c.N s * v) = phaseMC c.D c.N s * liftTermND c C T v := by
  funext ch h
  rw [phaseMC_mul_apply]
  unfold liftTermND
  split_ifs with hh
  · exact hT _ _ (mcShift_tab2_phaseMC c s C v) ch h hh
  · rw [mul_zero]

theorem leray_comp_termEquivariant (c : Cfg ℂ) (s : List ℤ) (T : MC ℂ → MC ℂ)
    (hT : TermEquivariant c s T) : TermEquivariant c s (fun uh => leray c (T uh)) :=
  fun uh uh' h => leray_mcShift c s _ _ (hT uh uh' h)

section Steps
variable (c : Cfg ℂ) (s : List ℤ) (C : ℕ) (T : MC ℂ → MC ℂ) (hT : TermEquivariant c s T)
include hT

theorem E1step_iterate_translation_nd (E c1 : ℕ → ℕ → ℂ) (n : ℕ) (u : ℕ → ℕ → ℂ) :
    (E1step E c1 (liftTermND c C T))^[n] (phaseMC c.D c.N s * u)
      = phaseMC c.D c.N s * (E1step E c1 (liftTermND c C T))^[n] u :=
  iterate_equivariant (fun x => phaseMC c.D c.N s * x) _ (E1step_phase _ _ (liftTermND_phase c s C T hT) E c1) n u

theorem E2step_iterate_translation_nd (E c1 c2 : ℕ → ℕ → ℂ) (n : ℕ) (u : ℕ → ℕ → ℂ) :
    (E2step E c1 c2 (liftTermND c C T))^[n] (phaseMC c.D c.N s * u)
      = phaseMC c.D c.N s * (E2step E c1 c2 (liftTermND c C T))^[n] u :=
  iterate_equivariant (fun x => phaseMC c.D c.N s * x) _ (E2step_phase _ _ (liftTermND_phase c s C T hT) E c1 c2) n u

theorem E3step_iterate_translation_nd (E Eh c1 c2 c3 c4 c5 : ℕ → ℕ → ℂ) (n : ℕ) (u : ℕ → ℕ → ℂ) :
    (E3step E Eh c1 c2 c3 c4 c5 (liftTermND c C T))^[n] (phaseMC c.D c.N s * u)
      = phaseMC c.D c.N s * (E3step E Eh c1 c2 c3 c4 c5 (liftTermND c C T))^[n] u :=
  iterate_equivariant (fun x => phaseMC c.D c.N s * x) _
    (E3step_phase _ _ (liftTermND_phase c s C T hT) E Eh c1 c2 c3 c4 c5) n u

theorem E4step_iterate_translation_nd (E Eh c1 c2 c3 c4 c5 c6 : ℕ → ℕ → ℂ) (n : ℕ)
    (u : ℕ → ℕ → ℂ) :
    (E4step E Eh c1 c2 c3 c4 c5 c6 (liftTermND c C T))^[n] (phaseMC c.D c.N s * u)
      = phaseMC c.D c.N s * (E4step E Eh c1 c2 c3 c4 c5 c6 (liftTermND c C T))^[n] u :=
  iterate_equivariant (fun x => phaseMC c.D c.N s * x) _
    (E4step_phase _ _ (liftTermND_phase c s C T hT) E Eh c1 c2 c3 c4 c5 c6) n u

theorem E1step_rollout_translation_nd (E c1 : ℕ → ℕ → ℂ) (n : ℕ) (incl : Bool) (u : ℕ → ℕ → ℂ) :
    Loops.rollout (E1step E c1 (liftTermND c C T)) n incl (phaseMC c.D c.N s * u)
      = (Loops.rollout (E1step E c1 (liftTermND c C T)) n incl u).map
          (fun x => phaseMC c.D c.N s * x) :=
  rollout_equivariant (fun x => phaseMC c.D c.N s * x) _ (E1step_phase _ _ (liftTermND_phase c s C T hT) E c1) n incl u

theorem E2step_rollout_translation_nd (E c1 c2 : ℕ → ℕ → ℂ) (n : ℕ) (incl : Bool)
    (u : ℕ → ℕ → ℂ) :
    Loops.rollout (E2step E c1 c2 (liftTermND c C T)) n incl (phaseMC c.D c.N s * u)
      = (Loops.rollout (E2step E c1 c2 (liftTermND c C T)) n incl u).map
          (fun x => phaseMC c.D c.N s * x) :=
  rollout_equivariant (fun x => phaseMC c.D c.N s * x) _
    (E2step_phase _ _ (liftTermND_phase c s C T hT) E c1 c2) n incl u

theorem E3step_rollout_translation_nd (E Eh c1 c2 c3 c4 c5 : ℕ → ℕ → ℂ) (n : ℕ) (incl : Bool)
    (u : ℕ → ℕ → ℂ) :
    Loops.rollout (E3step E Eh c1 c2 c3 c4 c5 (liftTermND c C T)) n incl (phaseMC c.D c.N s * u)
      = (Loops.rollout (E3step E Eh c1 c2 c3 c4 c5 (liftTermND c C T)) n incl u).map
          (fun x => phaseMC c.D c.N s * x) :=
  rollout_equivariant (fun x => phaseMC c.D c.N s * x) _
    (E3step_phase _ _ (liftTermND_phase c s C T hT) E Eh c1 c2 c3 c4 c5) n incl u

theorem E4step_rollout_translation_nd (E Eh c1 c2 c3 c4 c5 c6 : ℕ → ℕ → ℂ) (n : ℕ) (incl : Bool)
    (u : ℕ → ℕ → ℂ) :
    Loops.rollout (E4step E Eh c1 c2 c3 c4 c5 c6 (liftTermND c C T)) n incl (phaseMC c.D c.N s * u)
      = (Loops.rollout (E4step E Eh c1 c2 c3 c4 c5 c6 (liftTermND c C T)) n incl u).map
          (fun x => phaseMC c.D c.N s * x) :=
  rollout_equivariant (fun x => phaseMC c.D c.N s * x) _
    (E4step_phase _ _ (liftTermND_phase c s C T hT) E Eh c1 c2 c3 c4 c5 c6) n incl u

/-- **`repeat` of ETDRK4** (`RepeatedStepper`). -/
theorem E4step_repeatN_translation_nd (E Eh c1 c2 c3 c4 c5 c6 : ℕ → ℕ → ℂ) (n : ℕ)
    (u : ℕ → ℕ → ℂ) :
    Loops.repeatN (E4step E Eh c1 c2 c3 c4 c5 c6 (liftTermND c C T)) n (phaseMC c.D c.N s * u)
      = phaseMC c.D c.N s * Loops.repeatN (E4step E Eh c1 c2 c3 c4 c5 c6 (liftTermND c C T)) n u :=
  repeatN_equivariant (fun x => phaseMC c.D c.N s * x) _
    (E4step_phase _ _ (liftTermND_phase c s C T hT) E Eh c1 c2 c3 c4 c5 c6) n u

end Steps

theorem shiftMC_getD (D N : ℕ) (s : List ℤ) (uh : MC ℂ) (ch : ℕ) (hc : ch < uh.size) :
    (shiftMC D N s uh).getD ch #[] = shiftSpecND D N s (uh.getD ch #[]) := by
  rw [shiftMC, getD_map, if_pos hc]

theorem rollMC_getD (D N : ℕ) (s : List ℤ) (u : MC ℂ) (ch : ℕ) (hc : ch < u.size) :
    (rollMC D N s u).getD ch #[] = rollND D N (u.getD ch #[]) s := by
  rw [rollMC, getD_map, if_pos hc]

/-- one channel: the 1-D style input `#[phase ⊙ û]` -/
theorem shiftMC_singleton (D N : ℕ) (s : List ℤ) (uh : Array ℂ) :
    shiftMC D N s #[uh] = #[shiftSpecND D N s uh] := by
  simp [shiftMC]

theorem shiftMC_pair (D N : ℕ) (s : List ℤ) (uh vh : Array ℂ) :
    shiftMC D N s #[uh, vh] = #[shiftSpecND D N s uh, shiftSpecND D N s vh] := by
  simp [shiftMC]

theorem specMC_rollMC (D N : ℕ) (hN : 0 < N) (s : List ℤ) (u : MC ℂ) :
    specMC D N (rollMC D N s u) = phaseMC D N s * specMC D N u := by
  funext ch h
  rw [phaseMC_mul_apply]
  unfold specMC rollMC
  rw [getD_map]
  have key : ∀ v : Array ℂ, (rfftnM D N (rollND D N v s)).getD h 0
      = shiftPhaseND D N s h * (rfftnM D N v).getD h 0 :=
    fun v => congrFun (specFun_rollND D N hN v s) h
  by_cases hc : ch < u.size
  · rw [if_pos hc]
    exact key _
  · -- a missing channel reads as `#[]`, whose roll is the zero field: the same spectrum
    have e : u.getD ch #[] = #[] := by
      unfold Array.getD
      exact dif_neg hc
    have hroll : rfftnM D N #[] = rfftnM D N (rollND D N #[] s) :=
      DFT.rfftnM_congr D N #[] (rollND D N #[] s) (fun j hj => by
        rw [rollND_getD _ _ _ _ j hj]
        rfl)
    rw [if_neg hc, e, ← key #[], hroll]

theorem physCh_phaseMC (D N : ℕ) (hN : 0 < N) (s : List ℤ) (v : ℕ → ℕ → ℂ) (ch : ℕ) :
    physCh D N (phaseMC D N s * v) ch = rollND D N (physCh D N v ch) s := by
  unfold physCh
  rw [← irfftn_shiftSpecND D N hN, ← tab_phaseND_mul]
  rfl

/-- **physical space, any step map commuting with the phases**: transform every channel, take
    `n` steps, transform back — rolling the initial multi-channel state rolls every channel of the
    result. -/
theorem physical_translation_nd (D N : ℕ) (hN : 0 < N) (s : List ℤ)
    (step : (ℕ → ℕ → ℂ) → (ℕ → ℕ → ℂ))
    (hstep : ∀ u, step (phaseMC D N s * u) = phaseMC D N s * step u) (n : ℕ) (u : MC ℂ) (ch : ℕ) :
    physCh D N (step^[n] (specMC D N (rollMC D N s u))) ch
      = rollND D N (physCh D N (step^[n] (specMC D N u)) ch) s := by
  rw [specMC_rollMC D N hN, iterate_equivariant (fun x => phaseMC D N s * x) step hstep, physCh_phaseMC D N hN]

section Physical
variable (c : Cfg ℂ) (hN : 0 < c.N) (s : List ℤ) (C : ℕ) (T : MC ℂ → MC ℂ)
  (hT : TermEquivariant c s T)
include hN hT

theorem E1_physical_translation_nd (E c1 : ℕ → ℕ → ℂ) (n : ℕ) (u : MC ℂ) (ch : ℕ) :
    physCh c.D c.N ((E1step E c1 (liftTermND c C T))^[n] (specMC c.D c.N (rollMC c.D c.N s u))) ch
      = rollND c.D c.N (physCh c.D c.N ((E1step E c1 (liftTermND c C T))^[n] (specMC c.D c.N u)) ch) s :=
  physical_translation_nd c.D c.N hN s _ (E1step_phase _ _ (liftTermND_phase c s C T hT) E c1) n u ch

theorem E2_physical_translation_nd (E c1 c2 : ℕ → ℕ → ℂ) (n : ℕ) (u : MC ℂ) (ch : ℕ) :
    physCh c.D c.N ((E2step E c1 c2 (liftTermND c C T))^[n] (specMC c.D c.N (rollMC c.D c.N s u))) ch
      = rollND c.D c.N
          (physCh c.D c.N ((E2step E c1 c2 (liftTermND c C T))^[n] (specMC c.D c.N u)) ch) s :=
  physical_translation_nd c.D c.N hN s _ (E2step_phase _ _ (liftTermND_phase c s C T hT) E c1 c2) n u ch

theorem E3_physical_translation_nd (E Eh c1 c2 c3 c4 c5 : ℕ → ℕ → ℂ) (n : ℕ) (u : MC ℂ) (ch : ℕ) :
    physCh c.D c.N ((E3step E Eh c1 c2 c3 c4 c5 (liftTermND c C T))^[n]
        (specMC c.D c.N (rollMC c.D c.N s u))) ch
      = rollND c.D c.N (physCh c.D c.N ((E3step E Eh c1 c2 c3 c4 c5 (liftTermND c C T))^[n]
        (specMC c.D c.N u)) ch) s :=
  physical_translation_nd c.D c.N hN s _ (E3step_phase _ _ (liftTermND_phase c s C T hT) E Eh c1 c2 c3 c4 c5) n u ch

theorem E4_physical_translation_nd (E Eh c1 c2 c3 c4 c5 c6 : ℕ → ℕ → ℂ) (n : ℕ) (u : MC ℂ)
    (ch : ℕ) :
    physCh c.D c.N ((E4step E Eh c1 c2 c3 c4 c5 c6 (liftTermND c C T))^[n]
        (specMC c.D c.N (rollMC c.D c.N s u))) ch
      = rollND c.D c.N (physCh c.D c.N ((E4step E Eh c1 c2 c3 c4 c5 c6 (liftTermND c C T))^[n]
        (specMC c.D c.N u)) ch) s :=
  physical_translation_nd c.D c.N hN s _ (E4step_phase _ _ (liftTermND_phase c s C T hT) E Eh c1 c2 c3 c4 c5 c6) n u ch

end Physical

/-- **Capstone (physical space, ETDRK4, multi-channel convection).**  Written out on the model's
    transforms: every dimension `D`, any channel count `C`, all four convection variants, ARBITRARY
    coefficient arrays, `n` steps, any shift list `s`, any (real or complex) state `u`, every
    `N ≥ 1`, any dealiasing fraction:
    `irfftn(step^n(rfftn(rollND u))) = rollND(irfftn(step^n(rfftn u)))` for every channel. -/
theorem E4_convection_physical_translation_nd (c : Cfg ℂ) (hN : 0 < c.N) (C : ℕ) (scale : ℂ)
    (single conservative : Bool) (s : List ℤ) (E Eh c1 c2 c3 c4 c5 c6 : ℕ → ℕ → ℂ) (n : ℕ)
    (u : MC ℂ) (ch : ℕ) :
    irfftnM c.D c.N (tab (numModes c.D c.N)
        (((E4step E Eh c1 c2 c3 c4 c5 c6
            (liftTermND c C (convection c C scale single conservative)))^[n]
          (fun ch h => (rfftnM c.D c.N ((u.map fun v => rollND c.D c.N v s).getD ch #[])).getD h 0)) ch))
      = rollND c.D c.N (irfftnM c.D c.N (tab (numModes c.D c.N)
        (((E4step E Eh c1 c2 c3 c4 c5 c6
            (liftTermND c C (convection c C scale single conservative)))^[n]
          (fun ch h => (rfftnM c.D c.N (u.getD ch #[])).getD h 0)) ch))) s :=
  E4_physical_translation_nd c hN s C _
    (convection_termEquivariant c hN C scale single conservative s) E Eh c1 c2 c3 c4 c5 c6 n u ch

/-- the case `D = 2` with the two-channel (Navier–Stokes-type / Burgers) convection term,
    conservative or not -/
theorem E4_convection_physical_translation_2d (c : Cfg ℂ) (hD : c.D = 2) (hN : 0 < c.N) (scale : ℂ)
    (conservative : Bool) (s : List ℤ) (E Eh c1 c2 c3 c4 c5 c6 : ℕ → ℕ → ℂ) (n : ℕ) (u : MC ℂ)
    (ch : ℕ) :
    irfftnM 2 c.N (tab (numModes 2 c.N)
        (((E4step E Eh c1 c2 c3 c4 c5 c6 (liftTermND c 2 (convection c 2 scale false conservative)))^[n]
          (fun ch h => (rfftnM 2 c.N ((u.map fun v => rollND 2 c.N v s).getD ch #[])).getD h 0)) ch))
      = rollND 2 c.N (irfftnM 2 c.N (tab (numModes 2 c.N)
        (((E4step E Eh c1 c2 c3 c4 c5 c6 (liftTermND c 2 (convection c 2 scale false conservative)))^[n]
          (fun ch h => (rfftnM 2 c.N (u.getD ch #[])).getD h 0)) ch))) s := by
  have h := E4_convection_physical_translation_nd c hN 2 scale false conservative s
    E Eh c1 c2 c3 c4 c5 c6 n u ch
  rw [hD] at h
  exact h

/-- equivariant terms exist for every configuration with `N ≥ 1` (so `hT` is satisfiable) -/
example (c : Cfg ℂ) (hN : 0 < c.N) (s : List ℤ) : ∃ T : MC ℂ → MC ℂ, TermEquivariant c s T :=
  ⟨convection c 2 1 false true, convection_termEquivariant c hN 2 1 false true s⟩

/-- step maps commuting with the phases exist -/
example (D N : ℕ) (s : List ℤ) : ∃ step : (ℕ → ℕ → ℂ) → (ℕ → ℕ → ℂ),
    ∀ u, step (phaseMC D N s * u) = phaseMC D N s * step u := ⟨id, fun _ => rfl⟩

example : ∃ c : Cfg ℂ, c.D = 2 ∧ 0 < c.N := ⟨⟨2, 4, 1, 2, 3⟩, rfl, by norm_num⟩

end Exponax.EquivND
