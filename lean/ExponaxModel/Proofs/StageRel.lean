import ExponaxModel.Proofs.LerayBasic
import ExponaxModel.Proofs.EtdrkStages
/-
What a symmetry of the pseudo-spectral pipeline has to provide, and the model terms walked once against it.

A `StageRel c c'` relates a run under `c` with a run under `c'`: stored spectra by `S`, grid fields by the
reindexing `v'_j = v_{ρ j}`, so that every pointwise stage is closed for free.  `P` is the subfield the left grid
values must lie in for `nfft` to carry the relation (`⊤` for translations and the 1-D embedding, `ℝ` for axis
permutations, where the Nyquist argument needs a real field: hence real scales and coefficients there and nowhere
else).  `Cov g g'` says that the multiplier pair `(g, g')` carries `S`; axis `e` of `c` is axis `ι e` of `c'`, and an
axis of `c'` that is not hit is dead: derivatives along it vanish on related data.
Instances: translations (`EquivND`), axis permutations and the embedding of a 1-D run (`AxisPerm`).  The file opens with
the gradient-norm term cut into stages (`gradFields`, `sqNorm`, `subMean`, then `nfft` and a scalar) and ends with the
ETDRK step over a stage relation.
-/

namespace Exponax.AxisPerm
open Exponax.Transform Exponax.Nonlin

theorem id_lt_iff (C : ℕ) : ∀ ch, id ch < C ↔ ch < C := fun _ => Iff.rfl

/-- channel-major pairs: entry `ch·D + d` of `tabC (C·D)` -/
theorem at2_tabC_pair (C D : ℕ) (G : ℕ → ℕ → Array ℂ) {ch d : ℕ} (hch : ch < C) (hd : d < D) (x : ℕ) :
    at2 (tabC (C * D) fun cd => G (cd % D) (cd / D)) (ch * D + d) x = (G d ch).getD x 0 := by
  rw [at2_tabC_any, if_pos (DFT.pair_lt hch hd), DFT.pair_mod D ch d hd, DFT.pair_div D ch d hd]

/-- the derivative fields `∂_d u_ch`, entry `ch·D + d` -/
noncomputable def gradFields (c : Cfg ℂ) (C : ℕ) (uh : MC ℂ) : MC ℂ :=
  tabC (C * c.D) fun cd => nifft c (tab (modes c) fun m => Nonlin.deriv c (cd % c.D) m * at2 uh (cd / c.D) m)

theorem at2_gradFields (c : Cfg ℂ) (C : ℕ) (uh : MC ℂ) {ch d : ℕ} (hch : ch < C) (hd : d < c.D) (x : ℕ) :
    at2 (gradFields c C uh) (ch * c.D + d) x
      = (nifft c (tab (modes c) fun m => Nonlin.deriv c d m * at2 uh ch m)).getD x 0 :=
  at2_tabC_pair C c.D (fun d ch => nifft c (tab (modes c) fun m => Nonlin.deriv c d m * at2 uh ch m)) hch hd x

noncomputable def sqNorm (c : Cfg ℂ) (C : ℕ) (g : MC ℂ) : MC ℂ :=
  tab2 C (gridSize c) fun ch x =>
    sumList ((List.range c.D).map fun d => at2 g (ch * c.D + d) x * at2 g (ch * c.D + d) x)

noncomputable def subMean (c : Cfg ℂ) (C : ℕ) (zeroFix : Bool) (q : MC ℂ) : MC ℂ :=
  tab2 C (gridSize c) fun ch x =>
    if zeroFix then
      at2 q ch x - (tab C fun ch => sumRange (gridSize c) (fun x => at2 q ch x) / lit (gridSize c)).getD ch 0
    else at2 q ch x

theorem gradientNorm_eq_stages (c : Cfg ℂ) (C : ℕ) (scale : ℂ) (zeroFix : Bool) (uh : MC ℂ) :
    gradientNorm c C scale zeroFix uh = tab2 C (modes c) fun ch h => -scale * (qlit 1 2 *
      at2 (tabC C fun ch => nfft c ((subMean c C zeroFix (sqNorm c C (gradFields c C uh))).getD ch #[])) ch h) :=
  rfl

end Exponax.AxisPerm

namespace Exponax.Stage
open Exponax Exponax.Layout Exponax.Transform Exponax.Nonlin Exponax.AxisPerm

structure StageRel (c c' : Cfg ℂ) where
  S : Array ℂ → Array ℂ → Prop
  ρ : ℕ → ℕ
  P : Subfield ℂ
  Cov : (ℕ → ℂ) → (ℕ → ℂ) → Prop
  ρ_lt : ∀ j, j < gridSize c' → ρ j < gridSize c
  S_congr : ∀ {a b a' b' : Array ℂ}, (∀ m, m < modes c → a.getD m 0 = b.getD m 0) →
    (∀ m, m < modes c' → a'.getD m 0 = b'.getD m 0) → S a a' → S b b'
  S_zero : S (tab (modes c) fun _ => 0) (tab (modes c') fun _ => 0)
  S_add : ∀ {f g f' g' : ℕ → ℂ}, S (tab (modes c) f) (tab (modes c') f') → S (tab (modes c) g) (tab (modes c') g') →
    S (tab (modes c) fun h => f h + g h) (tab (modes c') fun h => f' h + g' h)
  S_mul : ∀ {g g' : ℕ → ℂ} {a a' : Array ℂ}, Cov g g' → S a a' →
    S (tab (modes c) fun h => g h * a.getD h 0) (tab (modes c') fun h => g' h * a'.getD h 0)
  nifft_rel : ∀ {a a' : Array ℂ}, S a a' → ∀ j, j < gridSize c' → (nifft c' a').getD j 0 = (nifft c a).getD (ρ j) 0
  nifft_mem : ∀ (a : Array ℂ) j, j < gridSize c → (nifft c a).getD j 0 ∈ P
  nfft_rel : ∀ {v v' : Array ℂ}, (∀ j, j < gridSize c → v.getD j 0 ∈ P) →
    (∀ j, j < gridSize c' → v'.getD j 0 = v.getD (ρ j) 0) → S (nfft c v) (nfft c' v')
  /-- the grid mean does not see the reindexing -/
  mean : ∀ f : ℕ → ℂ, sumRange (gridSize c') (fun x => f (ρ x)) / lit (gridSize c')
    = sumRange (gridSize c) f / lit (gridSize c)
  cov_const : ∀ r ∈ P, Cov (fun _ => r) (fun _ => r)
  cov_mul : ∀ {g g' k k' : ℕ → ℂ}, Cov g g' → Cov k k' → Cov (fun h => g h * k h) (fun h => g' h * k' h)
  cov_mask : Cov (mask c) (mask c')
  cov_sumDeriv : Cov (fun h => sumList ((List.range c.D).map fun d => Nonlin.deriv c d h))
    (fun h => sumList ((List.range c'.D).map fun d => Nonlin.deriv c' d h))
  cov_laplace : Cov (laplace c 2) (laplace c' 2)
  ι : ℕ → ℕ
  ι_lt : ∀ e, e < c.D → ι e < c'.D
  ι_inj : ∀ e₁, e₁ < c.D → ∀ e₂, e₂ < c.D → ι e₁ = ι e₂ → e₁ = e₂
  cov_deriv : ∀ e, e < c.D → Cov (Nonlin.deriv c e) (Nonlin.deriv c' (ι e))
  dead : ∀ {a a' : Array ℂ} (d' : ℕ), d' < c'.D → (∀ e, e < c.D → ι e ≠ d') → S a a' → ∀ j, j < gridSize c' →
    (nifft c' (tab (modes c') fun m => Nonlin.deriv c' d' m * a'.getD m 0)).getD j 0 = 0

variable {c c' : Cfg ℂ}

def MCS (R : StageRel c c') (τ : ℕ → ℕ) (uh uh' : MC ℂ) : Prop :=
  ∀ ch, R.S (tab (modes c) (at2 uh ch)) (tab (modes c') (at2 uh' (τ ch)))

def TermRel (R : StageRel c c') (τ : ℕ → ℕ) (T T' : MC ℂ → MC ℂ) : Prop :=
  ∀ uh uh' : MC ℂ, MCS R τ uh uh' → MCS R τ (T uh) (T' uh')

theorem sumList_range_inj {n n' : ℕ} (ι : ℕ → ℕ) (hlt : ∀ e, e < n → ι e < n')
    (hinj : ∀ e₁, e₁ < n → ∀ e₂, e₂ < n → ι e₁ = ι e₂ → e₁ = e₂) (F' : ℕ → ℂ)
    (hdead : ∀ d', d' < n' → (∀ e, e < n → ι e ≠ d') → F' d' = 0) :
    sumList ((List.range n').map F') = sumList ((List.range n).map fun e => F' (ι e)) := by
  rw [sumList_range_eq, sumList_range_eq, ← Finset.sum_image (f := F') (g := ι)
    (fun e₁ h₁ e₂ h₂ => hinj e₁ (Finset.mem_range.mp h₁) e₂ (Finset.mem_range.mp h₂))]
  refine (Finset.sum_subset (fun d' hd' => ?_) fun d' hd' hni => ?_).symm
  · obtain ⟨e, he, rfl⟩ := Finset.mem_image.mp hd'
    exact Finset.mem_range.mpr (hlt e (Finset.mem_range.mp he))
  · exact hdead d' (Finset.mem_range.mp hd') fun e he h =>
      hni (Finset.mem_image.mpr ⟨e, Finset.mem_range.mpr he, h⟩)

theorem sumList_range_perm {C : ℕ} (τ : ℕ → ℕ) (hlt : ∀ e, e < C → τ e < C)
    (hinj : ∀ e₁, e₁ < C → ∀ e₂, e₂ < C → τ e₁ = τ e₂ → e₁ = e₂) (F' : ℕ → ℂ) :
    sumList ((List.range C).map F') = sumList ((List.range C).map fun e => F' (τ e)) := by
  refine sumList_range_inj τ hlt hinj F' fun d' hd' hni => absurd ?_ (Finset.mem_image.not.mpr fun ⟨e, he, h⟩ =>
    hni e (Finset.mem_range.mp he) h)
  have himg : (Finset.range C).image τ = Finset.range C :=
    Finset.eq_of_subset_of_card_le
      (Finset.image_subset_iff.mpr fun e he => Finset.mem_range.mpr (hlt e (Finset.mem_range.mp he)))
      (by rw [Finset.card_image_of_injOn fun e₁ h₁ e₂ h₂ =>
        hinj e₁ (Finset.mem_range.mp h₁) e₂ (Finset.mem_range.mp h₂)])
  rw [himg]
  exact Finset.mem_range.mpr hd'

theorem sumList_range_mem (P : Subfield ℂ) (n : ℕ) (F : ℕ → ℂ) (h : ∀ d, d < n → F d ∈ P) :
    sumList ((List.range n).map F) ∈ P := by
  rw [sumList_range_eq]
  exact sum_mem fun d hd => h d (Finset.mem_range.mp hd)

theorem polyEval_mem (P : Subfield ℂ) (coeffs : List ℂ) (hco : ∀ x ∈ coeffs, x ∈ P) (u : ℂ) (hu : u ∈ P) :
    polyEval coeffs u ∈ P := by
  unfold polyEval
  have key : ∀ cs : List ℂ, (∀ x ∈ cs, x ∈ P) → ∀ a p : ℂ, a ∈ P → p ∈ P →
      (cs.foldl (fun (acc : ℂ × ℂ) co => (acc.1 + co * acc.2, acc.2 * u)) (a, p)).1 ∈ P := by
    intro cs
    induction cs with
    | nil => intro _ a p ha _; exact ha
    | cons x cs ih =>
      intro hcs a p ha hp
      exact ih (fun y hy => hcs y (List.mem_cons_of_mem _ hy)) _ _
        (add_mem ha (mul_mem (hcs x List.mem_cons_self) hp)) (mul_mem hp hu)
  exact key coeffs hco 0 1 (zero_mem _) (one_mem _)

theorem neg_half_mem (P : Subfield ℂ) {scale : ℂ} (hsc : scale ∈ P) : -scale * qlit 1 2 ∈ P :=
  mul_mem (neg_mem hsc) (div_mem (natCast_mem _ _) (natCast_mem _ _))

theorem getD_getD (q : MC ℂ) (ch x : ℕ) : (q.getD ch #[]).getD x 0 = at2 q ch x := by
  unfold at2
  rfl

namespace StageRel
variable (R : StageRel c c') {τ : ℕ → ℕ} {C : ℕ}

theorem chan {uh uh' : MC ℂ} (h : MCS R τ uh uh') (ch : ℕ) : R.S (uh.getD ch #[]) (uh'.getD (τ ch) #[]) :=
  R.S_congr (fun _ hm => by rw [tab_getD _ _ _ _ hm, at2]) (fun _ hm => by rw [tab_getD _ _ _ _ hm, at2]) (h ch)

theorem mcs_tabC (hτ : ∀ ch, τ ch < C ↔ ch < C) {F F' : ℕ → Array ℂ}
    (h : ∀ ch, ch < C → R.S (F ch) (F' (τ ch))) : MCS R τ (tabC C F) (tabC C F') := by
  intro ch
  by_cases hc : ch < C
  · refine R.S_congr (fun m hm => ?_) (fun m hm => ?_) (h ch hc)
    · rw [tab_getD _ _ _ _ hm, at2_tabC_any, if_pos hc]
    · rw [tab_getD _ _ _ _ hm, at2_tabC_any, if_pos ((hτ ch).mpr hc)]
  · refine R.S_congr (fun m hm => ?_) (fun m hm => ?_) R.S_zero
    · rw [tab_getD _ _ _ _ hm, tab_getD _ _ _ _ hm, at2_tabC_any, if_neg hc]
    · rw [tab_getD _ _ _ _ hm, tab_getD _ _ _ _ hm, at2_tabC_any, if_neg fun h' => hc ((hτ ch).mp h')]

theorem mcs_tab2 (hτ : ∀ ch, τ ch < C ↔ ch < C) {f f' : ℕ → ℕ → ℂ}
    (h : ∀ ch, ch < C → R.S (tab (modes c) (f ch)) (tab (modes c') (f' (τ ch)))) :
    MCS R τ (tab2 C (modes c) f) (tab2 C (modes c') f') :=
  R.mcs_tabC hτ (F := fun ch => tab (modes c) (f ch)) (F' := fun ch => tab (modes c') (f' ch)) h

theorem fields_rel (hτ : ∀ ch, τ ch < C ↔ ch < C) {F F' : ℕ → Array ℂ}
    (hF : ∀ ch, ch < C → ∀ j, j < gridSize c' → (F' (τ ch)).getD j 0 = (F ch).getD (R.ρ j) 0) (ch j : ℕ)
    (hj : j < gridSize c') : at2 (tabC C F') (τ ch) j = at2 (tabC C F) ch (R.ρ j) := by
  rw [at2_tabC_any, at2_tabC_any]
  by_cases hc : ch < C
  · rw [if_pos ((hτ ch).mpr hc), if_pos hc, hF ch hc j hj]
  · rw [if_neg fun h' => hc ((hτ ch).mp h'), if_neg hc]

theorem fields_mem {F : ℕ → Array ℂ} (hF : ∀ ch j, j < gridSize c → (F ch).getD j 0 ∈ R.P) (ch j : ℕ)
    (hj : j < gridSize c) : at2 (tabC C F) ch j ∈ R.P := by
  rw [at2_tabC_any]
  by_cases hc : ch < C
  · rw [if_pos hc]
    exact hF ch j hj
  · rw [if_neg hc]
    exact zero_mem _

/-- the opening stage: the fields of related spectra -/
theorem field_nifft (hτ : ∀ ch, τ ch < C ↔ ch < C) {uh uh' : MC ℂ} (h : MCS R τ uh uh') (ch j : ℕ)
    (hj : j < gridSize c') :
    at2 (tabC C fun ch => nifft c' (uh'.getD ch #[])) (τ ch) j
      = at2 (tabC C fun ch => nifft c (uh.getD ch #[])) ch (R.ρ j) :=
  R.fields_rel hτ (F := fun ch => nifft c (uh.getD ch #[])) (F' := fun ch => nifft c' (uh'.getD ch #[]))
    (fun ch _ => R.nifft_rel (R.chan h ch)) ch j hj

theorem field_mem (uh : MC ℂ) (ch j : ℕ) (hj : j < gridSize c) :
    at2 (tabC C fun ch => nifft c (uh.getD ch #[])) ch j ∈ R.P :=
  R.fields_mem (F := fun ch => nifft c (uh.getD ch #[])) (fun _ => R.nifft_mem _) ch j hj

theorem nifft_mul {g g' : ℕ → ℂ} (hg : R.Cov g g') {a a' : Array ℂ} (h : R.S a a') (j : ℕ) (hj : j < gridSize c') :
    (nifft c' (tab (modes c') fun m => g' m * a'.getD m 0)).getD j 0
      = (nifft c (tab (modes c) fun m => g m * a.getD m 0)).getD (R.ρ j) 0 :=
  R.nifft_rel (R.S_mul hg h) j hj

/-- `nifft_mul` on a channel of related multi-channel spectra, in the form `g h * at2 uh ch h` of the model terms:
    through `R.chan` it would meet `(uh.getD ch #[]).getD h 0`, and the unifier compares the two by unfolding
    `Array.getD` before `at2` (some 100k heartbeats each time) -/
theorem field_mul {g g' : ℕ → ℂ} (hg : R.Cov g g') {uh uh' : MC ℂ} (h : MCS R τ uh uh') (ch j : ℕ)
    (hj : j < gridSize c') :
    (nifft c' (tab (modes c') fun m => g' m * at2 uh' (τ ch) m)).getD j 0
      = (nifft c (tab (modes c) fun m => g m * at2 uh ch m)).getD (R.ρ j) 0 :=
  R.nifft_rel (R.S_congr
    (fun m hm => by rw [tab_getD _ _ _ _ hm, tab_getD _ _ _ _ hm, tab_getD _ _ _ _ hm])
    (fun m hm => by rw [tab_getD _ _ _ _ hm, tab_getD _ _ _ _ hm, tab_getD _ _ _ _ hm]) (R.S_mul hg (h ch))) j hj

theorem field_dead {uh uh' : MC ℂ} (h : MCS R τ uh uh') (ch d' : ℕ) (hd' : d' < c'.D)
    (hni : ∀ e, e < c.D → R.ι e ≠ d') (j : ℕ) (hj : j < gridSize c') :
    (nifft c' (tab (modes c') fun m => Nonlin.deriv c' d' m * at2 uh' (τ ch) m)).getD j 0 = 0 :=
  (congrArg (fun A : Array ℂ => A.getD j 0) (nifft_congr c' _ _ fun m hm => by
    rw [tab_getD _ _ _ _ hm, tab_getD _ _ _ _ hm, tab_getD _ _ _ _ hm])).trans (R.dead d' hd' hni (h ch) j hj)

/-- the pointwise stage: `nfft` of fields tabulated on the grid -/
theorem nfft_tab {f f' : ℕ → ℂ} (hmem : ∀ x, x < gridSize c → f x ∈ R.P)
    (hre : ∀ x, x < gridSize c' → f' x = f (R.ρ x)) :
    R.S (nfft c (tab (gridSize c) f)) (nfft c' (tab (gridSize c') f')) :=
  R.nfft_rel (fun j hj => by rw [tab_getD _ _ _ _ hj]; exact hmem j hj)
    (fun j hj => by rw [tab_getD _ _ _ _ hj, tab_getD _ _ _ _ (R.ρ_lt j hj), hre j hj])

/-- the closing stage: a covariant multiplier pair on channelwise related spectra, tabulated -/
theorem mcs_tab2_mul (hτ : ∀ ch, τ ch < C ↔ ch < C) {g g' : ℕ → ℂ} (hg : R.Cov g g') {F F' : ℕ → Array ℂ}
    {f f' : ℕ → ℕ → ℂ} (h : ∀ ch, ch < C → R.S (F ch) (F' (τ ch)))
    (hf : ∀ ch, ch < C → ∀ m, m < modes c → f ch m = g m * (F ch).getD m 0)
    (hf' : ∀ ch, ch < C → ∀ m, m < modes c' → f' (τ ch) m = g' m * (F' (τ ch)).getD m 0) :
    MCS R τ (tab2 C (modes c) f) (tab2 C (modes c') f') :=
  R.mcs_tab2 hτ fun ch hch => R.S_congr
    (fun m hm => by rw [tab_getD _ _ _ _ hm, tab_getD _ _ _ _ hm, hf ch hch m hm])
    (fun m hm => by rw [tab_getD _ _ _ _ hm, tab_getD _ _ _ _ hm, hf' ch hch m hm]) (R.S_mul hg (h ch hch))

theorem S_sum (n : ℕ) {F F' : ℕ → ℕ → ℂ} (h : ∀ j, j < n → R.S (tab (modes c) (F j)) (tab (modes c') (F' j))) :
    R.S (tab (modes c) fun m => sumList ((List.range n).map fun j => F j m))
      (tab (modes c') fun m => sumList ((List.range n).map fun j => F' j m)) := by
  simp only [sumList_range_eq]
  induction n with
  | zero =>
    simp only [Finset.sum_range_zero]
    exact R.S_zero
  | succ n ih =>
    simp only [Finset.sum_range_succ]
    exact R.S_add (ih fun j hj => h j (Nat.lt_succ_of_lt hj)) (h n (Nat.lt_succ_self n))

theorem S_sub {f g f' g' : ℕ → ℂ} (h1 : R.S (tab (modes c) f) (tab (modes c') f'))
    (h2 : R.S (tab (modes c) g) (tab (modes c') g')) :
    R.S (tab (modes c) fun m => f m - g m) (tab (modes c') fun m => f' m - g' m) := by
  refine R.S_congr ?_ ?_ (R.S_add h1 (R.S_mul (R.cov_const (-1) (neg_mem (one_mem _))) h2)) <;>
  · intro m hm
    rw [tab_getD _ _ _ _ hm, tab_getD _ _ _ _ hm, tab_getD _ _ _ _ hm, neg_one_mul, ← sub_eq_add_neg]

theorem sum_axes (F' : ℕ → ℂ) (hdead : ∀ d', d' < c'.D → (∀ e, e < c.D → R.ι e ≠ d') → F' d' = 0) :
    sumList ((List.range c'.D).map F') = sumList ((List.range c.D).map fun e => F' (R.ι e)) :=
  sumList_range_inj R.ι R.ι_lt R.ι_inj F' hdead

theorem gradFields_mem (uh : MC ℂ) {ch d : ℕ} (hch : ch < C) (hd : d < c.D) (x : ℕ) (hx : x < gridSize c) :
    at2 (gradFields c C uh) (ch * c.D + d) x ∈ R.P := by
  rw [at2_gradFields c C uh hch hd]
  exact R.nifft_mem _ x hx

/-- `∂_{ι e} u' = (∂_e u) ∘ ρ`, and `∂_{d'} u' = 0` along a dead axis -/
theorem gradFields_rel {uh uh' : MC ℂ} (h : MCS R id uh uh') {ch : ℕ} (hch : ch < C) (x : ℕ)
    (hx : x < gridSize c') :
    (∀ e, e < c.D → at2 (gradFields c' C uh') (ch * c'.D + R.ι e) x
        = at2 (gradFields c C uh) (ch * c.D + e) (R.ρ x)) ∧
    ∀ d', d' < c'.D → (∀ e, e < c.D → R.ι e ≠ d') → at2 (gradFields c' C uh') (ch * c'.D + d') x = 0 := by
  refine ⟨fun e he => ?_, fun d' hd' hni => ?_⟩
  · rw [at2_gradFields c' C uh' hch (R.ι_lt e he), at2_gradFields c C uh hch he]
    exact R.field_mul (R.cov_deriv e he) h ch x hx
  · rw [at2_gradFields c' C uh' hch hd']
    exact R.field_dead h ch d' hd' hni x hx

theorem sqNorm_mem (g : MC ℂ) (hg : ∀ ch, ch < C → ∀ d, d < c.D → ∀ x, x < gridSize c →
    at2 g (ch * c.D + d) x ∈ R.P) (ch x : ℕ) (hx : x < gridSize c) : at2 (sqNorm c C g) ch x ∈ R.P := by
  unfold sqNorm
  rw [at2_tab2_any]
  by_cases hc : ch < C ∧ x < gridSize c
  · rw [if_pos hc]
    exact sumList_range_mem _ _ _ fun d hd => mul_mem (hg ch hc.1 d hd x hx) (hg ch hc.1 d hd x hx)
  · rw [if_neg hc]
    exact zero_mem _

theorem sqNorm_rel (g g' : MC ℂ) {ch : ℕ} (hch : ch < C) (x : ℕ) (hx : x < gridSize c')
    (hg : ∀ e, e < c.D → at2 g' (ch * c'.D + R.ι e) x = at2 g (ch * c.D + e) (R.ρ x))
    (hd : ∀ d', d' < c'.D → (∀ e, e < c.D → R.ι e ≠ d') → at2 g' (ch * c'.D + d') x = 0) :
    at2 (sqNorm c' C g') ch x = at2 (sqNorm c C g) ch (R.ρ x) := by
  unfold sqNorm
  rw [at2_tab2_any, at2_tab2_any, if_pos ⟨hch, hx⟩, if_pos ⟨hch, R.ρ_lt x hx⟩,
    R.sum_axes _ fun d' hd' hni => by rw [hd d' hd' hni, mul_zero]]
  exact sumList_range_congr _ _ _ fun e he => by rw [hg e he]

theorem subMean_mem (zeroFix : Bool) (q : MC ℂ) (hq : ∀ ch x, x < gridSize c → at2 q ch x ∈ R.P)
    (ch x : ℕ) (hx : x < gridSize c) : ((subMean c C zeroFix q).getD ch #[]).getD x 0 ∈ R.P := by
  unfold subMean
  rw [getD_getD, at2_tab2_any]
  by_cases hc : ch < C ∧ x < gridSize c
  · rw [if_pos hc]
    cases zeroFix
    · rw [if_neg Bool.false_ne_true]
      exact hq ch x hx
    · rw [if_pos rfl, tab_getD _ _ _ _ hc.1, DFT.sumRange_eq, lit_eq]
      exact sub_mem (hq ch x hx)
        (div_mem (sum_mem fun y hy => hq ch y (Finset.mem_range.mp hy)) (natCast_mem _ _))
  · rw [if_neg hc]
    exact zero_mem _

theorem subMean_rel (zeroFix : Bool) (q q' : MC ℂ)
    (hq : ∀ ch, ch < C → ∀ x, x < gridSize c' → at2 q' ch x = at2 q ch (R.ρ x))
    {ch : ℕ} (hch : ch < C) (x : ℕ) (hx : x < gridSize c') :
    ((subMean c' C zeroFix q').getD ch #[]).getD x 0 = ((subMean c C zeroFix q).getD ch #[]).getD (R.ρ x) 0 := by
  unfold subMean
  rw [getD_getD, getD_getD, at2_tab2 _ _ _ _ _ hch hx, at2_tab2 _ _ _ _ _ hch (R.ρ_lt x hx), hq ch hch x hx]
  cases zeroFix
  · rw [if_neg Bool.false_ne_true, if_neg Bool.false_ne_true]
  · rw [if_pos rfl, if_pos rfl, tab_getD _ _ _ _ hch, tab_getD _ _ _ _ hch,
      DFT.sumRange_congr _ _ _ fun y hy => hq ch hch y hy, R.mean fun y => at2 q ch y]

end StageRel

variable (R : StageRel c c') {τ : ℕ → ℕ}

theorem polynomial_termRel (C : ℕ) (hτ : ∀ ch, τ ch < C ↔ ch < C) (coeffs : List ℂ)
    (hco : ∀ x ∈ coeffs, x ∈ R.P) : TermRel R τ (polynomial c C coeffs) (polynomial c' C coeffs) := by
  intro uh uh' h
  exact R.mcs_tabC hτ fun ch _ => R.nfft_tab
    (fun x hx => polyEval_mem R.P coeffs hco _ (R.field_mem uh ch x hx))
    (fun x hx => congrArg (polyEval coeffs) (R.field_nifft hτ h ch x hx))

/-- `single_channel = True`, conservative: `−b ½ (Σ_d ∂_d) u²` on every channel -/
theorem convection_cons_termRel (C : ℕ) (hτ : ∀ ch, τ ch < C ↔ ch < C) (scale : ℂ) (hsc : scale ∈ R.P) :
    TermRel R τ (convection c C scale true true) (convection c' C scale true true) := by
  intro uh uh' h
  have hu := R.field_nifft hτ h
  have hr := R.field_mem (C := C) uh
  unfold convection
  simp only [↓reduceIte]
  generalize (tabC C fun ch => nifft c (uh.getD ch #[])) = U at hu hr ⊢
  generalize (tabC C fun ch => nifft c' (uh'.getD ch #[])) = U' at hu ⊢
  refine R.mcs_tab2_mul hτ
    (R.cov_mul (R.cov_const _ (neg_half_mem _ hsc)) R.cov_sumDeriv)
    (F := fun ch => nfft c (tab (gridSize c) fun j => at2 U ch j * at2 U ch j))
    (F' := fun ch => nfft c' (tab (gridSize c') fun j => at2 U' ch j * at2 U' ch j))
    (fun ch _ => R.nfft_tab (fun x hx => mul_mem (hr ch x hx) (hr ch x hx))
      (fun x hx => by rw [hu ch x hx])) ?_ ?_
  · intro ch hch m hm
    rw [at2_tabC_any, if_pos hch]
    ring
  · intro ch hch m hm
    rw [at2_tabC_any, if_pos ((hτ ch).mpr hch)]
    ring

/-- `single_channel = True`, non-conservative: `−b u Σ_d ∂_d u`, one channel -/
theorem convection_noncons_termRel (C : ℕ) (scale : ℂ) (hsc : scale ∈ R.P) :
    TermRel R id (convection c C scale true false) (convection c' C scale true false) := by
  intro uh uh' h
  have hu := R.field_nifft (id_lt_iff C) h
  have hr := R.field_mem (C := C) uh
  unfold convection
  simp only [↓reduceIte, Bool.false_eq_true]
  generalize (tabC C fun ch => nifft c (uh.getD ch #[])) = U at hu hr ⊢
  generalize (tabC C fun ch => nifft c' (uh'.getD ch #[])) = U' at hu ⊢
  refine R.mcs_tab2_mul (id_lt_iff 1) (R.cov_const (-scale) (neg_mem hsc)) (F := fun _ => nfft c _)
    (F' := fun _ => nfft c' _) (fun _ _ => R.nfft_tab (fun x hx => ?_) fun x hx => ?_)
    (fun _ _ _ _ => rfl) (fun _ _ _ _ => rfl)
  · refine sumList_range_mem _ _ _ fun d hd => mul_mem (hr 0 x hx) ?_
    rw [at2_tabC_any, if_pos hd]
    exact R.nifft_mem _ x hx
  · rw [R.sum_axes _ fun d' hd' hni => by
      rw [at2_tabC_any, if_pos hd']
      exact mul_eq_zero_of_right _ (R.field_dead h 0 d' hd' hni x hx)]
    refine sumList_range_congr _ _ _ fun e he => ?_
    rw [at2_tabC_any, if_pos (R.ι_lt e he), at2_tabC_any, if_pos he, show at2 U' 0 x = _ from hu 0 x hx]
    exact congrArg _ (R.field_mul (R.cov_deriv e he) h 0 x hx)

/-- `−b ½ Σ_d (∂_d u)²`, both `zeroFix` -/
theorem gradientNorm_termRel (C : ℕ) (scale : ℂ) (hsc : scale ∈ R.P) (zeroFix : Bool) :
    TermRel R id (gradientNorm c C scale zeroFix) (gradientNorm c' C scale zeroFix) := by
  intro uh uh' h
  rw [gradientNorm_eq_stages, gradientNorm_eq_stages]
  refine R.mcs_tab2_mul (id_lt_iff C) (g := fun _ => -scale * qlit 1 2) (g' := fun _ => -scale * qlit 1 2)
    (R.cov_const _ (neg_half_mem _ hsc))
    (F := fun ch => nfft c ((subMean c C zeroFix (sqNorm c C (gradFields c C uh))).getD ch #[]))
    (F' := fun ch => nfft c' ((subMean c' C zeroFix (sqNorm c' C (gradFields c' C uh'))).getD ch #[]))
    (fun ch hch => R.nfft_rel
      (fun x hx => R.subMean_mem zeroFix _
        (R.sqNorm_mem _ fun ch hch d hd x hx => R.gradFields_mem uh hch hd x hx) ch x hx)
      (fun x hx => R.subMean_rel zeroFix _ _
        (fun ch hch x hx => R.sqNorm_rel _ _ hch x hx (R.gradFields_rel h hch x hx).1
          (R.gradFields_rel h hch x hx).2) hch x hx)) ?_ ?_ <;>
  · intro ch hch m hm
    simp only [id_eq, at2_tabC_any, if_pos hch]
    ring

/-- `GeneralNonlinearFun`: quadratic polynomial + single-channel conservative convection + gradient norm -/
theorem general_termRel (C : ℕ) (s0 s1 s2 : ℂ) (h0 : s0 ∈ R.P) (h1 : s1 ∈ R.P) (h2 : s2 ∈ R.P) (zeroFix : Bool) :
    TermRel R id (general c C s0 s1 s2 zeroFix) (general c' C s0 s1 s2 zeroFix) := by
  intro uh uh' h
  have hco : ∀ x ∈ [0, 0, s0], x ∈ R.P := by
    simp only [List.forall_mem_cons]
    exact ⟨zero_mem _, zero_mem _, h0, fun _ hx => absurd hx List.not_mem_nil⟩
  have ha := polynomial_termRel R C (id_lt_iff C) [0, 0, s0] hco uh uh' h
  have hb := convection_cons_termRel R C (id_lt_iff C) (-s1) (neg_mem h1) uh uh' h
  have hg := gradientNorm_termRel R C (-s2) (neg_mem h2) zeroFix uh uh' h
  exact R.mcs_tab2 (id_lt_iff C) fun ch _ => R.S_add (R.S_add (ha ch) (hb ch)) (hg ch)

/-- `single_channel = False`, non-conservative: `−b Σ_j u_j ∂_j u_i`; the channels are the velocity components,
    so the channel map `τ` has to go with the axes: `∂_j` against `∂_{τ j}` -/
theorem convection_multi_noncons_termRel (C : ℕ) (hτ : ∀ ch, τ ch < C ↔ ch < C)
    (hτi : ∀ i, i < C → ∀ j, j < C → τ i = τ j → i = j)
    (hcov : ∀ j, j < C → R.Cov (Nonlin.deriv c j) (Nonlin.deriv c' (τ j))) (scale : ℂ) (hsc : scale ∈ R.P) :
    TermRel R τ (convection c C scale false false) (convection c' C scale false false) := by
  intro uh uh' h
  have hu := R.field_nifft hτ h
  have hr := R.field_mem (C := C) uh
  have hn : ∀ i, i < C → ∀ j, j < C → ∀ x, x < gridSize c' →
      at2 (tabC (C * C) fun ij => nifft c' (tab (modes c') fun m => Nonlin.deriv c' (ij % C) m * at2 uh' (ij / C) m))
          (τ i * C + τ j) x
        = at2 (tabC (C * C) fun ij => nifft c (tab (modes c) fun m => Nonlin.deriv c (ij % C) m * at2 uh (ij / C) m))
          (i * C + j) (R.ρ x) := by
    intro i hi j hj x hx
    rw [at2_tabC_pair C C (fun j i => nifft c' (tab (modes c') fun m => Nonlin.deriv c' j m * at2 uh' i m))
        ((hτ i).mpr hi) ((hτ j).mpr hj),
      at2_tabC_pair C C (fun j i => nifft c (tab (modes c) fun m => Nonlin.deriv c j m * at2 uh i m)) hi hj]
    exact R.field_mul (hcov j hj) h i x hx
  have hnr : ∀ i, i < C → ∀ j, j < C → ∀ x, x < gridSize c →
      at2 (tabC (C * C) fun ij => nifft c (tab (modes c) fun m => Nonlin.deriv c (ij % C) m * at2 uh (ij / C) m))
        (i * C + j) x ∈ R.P := by
    intro i hi j hj x hx
    rw [at2_tabC_pair C C (fun j i => nifft c (tab (modes c) fun m => Nonlin.deriv c j m * at2 uh i m)) hi hj]
    exact R.nifft_mem _ x hx
  unfold convection
  simp only [↓reduceIte, Bool.false_eq_true]
  generalize (tabC C fun ch => nifft c (uh.getD ch #[])) = U at hu hr ⊢
  generalize (tabC C fun ch => nifft c' (uh'.getD ch #[])) = U' at hu ⊢
  generalize (tabC (C * C) fun ij => nifft c (tab (modes c) fun m => Nonlin.deriv c (ij % C) m * at2 uh (ij / C) m))
    = G at hn hnr ⊢
  generalize (tabC (C * C) fun ij => nifft c' (tab (modes c') fun m => Nonlin.deriv c' (ij % C) m * at2 uh' (ij / C) m))
    = G' at hn ⊢
  refine R.mcs_tab2_mul hτ (R.cov_const (-scale) (neg_mem hsc))
    (F := fun i => nfft c (tab (gridSize c) fun x => sumList ((List.range C).map fun j =>
      at2 U j x * at2 G (i * C + j) x)))
    (F' := fun i => nfft c' (tab (gridSize c') fun x => sumList ((List.range C).map fun j =>
      at2 U' j x * at2 G' (i * C + j) x)))
    (fun i hi => R.nfft_tab
      (fun x hx => sumList_range_mem _ _ _ fun j hj => mul_mem (hr j x hx) (hnr i hi j hj x hx))
      fun x hx => ?_) ?_ ?_
  · rw [sumList_range_perm τ (fun e he => (hτ e).mpr he) hτi]
    exact sumList_range_congr _ _ _ fun j hj => by rw [hu j x hx, hn i hi j hj x hx]
  · intro i hi m hm
    rw [at2_tabC_any, if_pos hi]
  · intro i hi m hm
    rw [at2_tabC_any, if_pos ((hτ i).mpr hi)]

/-- `single_channel = False`, conservative: `−b ½ Σ_j ∂_j (u_j u_i)` -/
theorem convection_multi_cons_termRel (C : ℕ) (hτ : ∀ ch, τ ch < C ↔ ch < C)
    (hτi : ∀ i, i < C → ∀ j, j < C → τ i = τ j → i = j)
    (hcov : ∀ j, j < C → R.Cov (Nonlin.deriv c j) (Nonlin.deriv c' (τ j))) (scale : ℂ) (hsc : scale ∈ R.P) :
    TermRel R τ (convection c C scale false true) (convection c' C scale false true) := by
  intro uh uh' h
  have hu := R.field_nifft hτ h
  have hr := R.field_mem (C := C) uh
  unfold convection
  simp only [↓reduceIte, Bool.false_eq_true]
  generalize (tabC C fun ch => nifft c (uh.getD ch #[])) = U at hu hr ⊢
  generalize (tabC C fun ch => nifft c' (uh'.getD ch #[])) = U' at hu ⊢
  -- `ℱ(u_j u_i)` against `ℱ(u'_{τ j} u'_{τ i})`
  have hout : ∀ i, i < C → ∀ j, j < C → R.S
      (tab (modes c) fun m => Nonlin.deriv c j m * at2 (tabC (C * C) fun ij => nfft c (tab (gridSize c) fun x =>
        at2 U (ij % C) x * at2 U (ij / C) x)) (i * C + j) m)
      (tab (modes c') fun m => Nonlin.deriv c' (τ j) m * at2 (tabC (C * C) fun ij => nfft c' (tab (gridSize c') fun x =>
        at2 U' (ij % C) x * at2 U' (ij / C) x)) (τ i * C + τ j) m) := by
    intro i hi j hj
    refine R.S_congr (fun m hm => ?_) (fun m hm => ?_) (R.S_mul (hcov j hj) (R.nfft_tab
      (f := fun x => at2 U j x * at2 U i x) (f' := fun x => at2 U' (τ j) x * at2 U' (τ i) x)
      (fun x hx => mul_mem (hr j x hx) (hr i x hx)) fun x hx => by rw [hu j x hx, hu i x hx]))
    · rw [tab_getD _ _ _ _ hm, tab_getD _ _ _ _ hm,
        at2_tabC_pair C C (fun j i => nfft c (tab (gridSize c) fun x => at2 U j x * at2 U i x)) hi hj]
    · rw [tab_getD _ _ _ _ hm, tab_getD _ _ _ _ hm,
        at2_tabC_pair C C (fun j i => nfft c' (tab (gridSize c') fun x => at2 U' j x * at2 U' i x))
          ((hτ i).mpr hi) ((hτ j).mpr hj)]
  generalize (tabC (C * C) fun ij => nfft c (tab (gridSize c) fun x => at2 U (ij % C) x * at2 U (ij / C) x))
    = O at hout ⊢
  generalize (tabC (C * C) fun ij => nfft c' (tab (gridSize c') fun x => at2 U' (ij % C) x * at2 U' (ij / C) x))
    = O' at hout ⊢
  refine R.mcs_tab2_mul hτ (R.cov_const _ (neg_half_mem _ hsc))
    (F := fun i => tab (modes c) fun m => sumList ((List.range C).map fun j => Nonlin.deriv c j m * at2 O (i * C + j) m))
    (F' := fun i => tab (modes c') fun m =>
      sumList ((List.range C).map fun j => Nonlin.deriv c' (τ j) m * at2 O' (i * C + τ j) m))
    (fun i hi => R.S_sum C (hout i hi)) ?_ ?_
  · intro i hi m hm
    rw [tab_getD _ _ _ _ hm]
    ring
  · intro i hi m hm
    rw [tab_getD _ _ _ _ hm, sumList_range_perm τ (fun e he => (hτ e).mpr he) hτi]
    ring

/-- `fft(react(ifft(mask·û)))`, any pointwise map `react` that keeps `P`-valued lists `P`-valued -/
theorem reaction_termRel (C : ℕ) (react : List ℂ → List ℂ)
    (hre : ∀ l : List ℂ, (∀ x ∈ l, x ∈ R.P) → ∀ ch, (react l).getD ch 0 ∈ R.P) :
    TermRel R id (reaction c C react) (reaction c' C react) := by
  intro uh uh' h
  have hu := R.fields_rel (id_lt_iff C) (F := fun ch => nifft c (tab (modes c) fun m => mask c m * at2 uh ch m))
    (F' := fun ch => nifft c' (tab (modes c') fun m => mask c' m * at2 uh' ch m))
    fun ch _ => R.field_mul R.cov_mask h ch
  have hr := R.fields_mem (C := C) (F := fun ch => nifft c (tab (modes c) fun m => mask c m * at2 uh ch m))
    fun _ => R.nifft_mem _
  unfold reaction
  simp only []
  generalize (tabC C fun ch => nifft c (tab (modes c) fun m => mask c m * at2 uh ch m)) = U at hu hr ⊢
  generalize (tabC C fun ch => nifft c' (tab (modes c') fun m => mask c' m * at2 uh' ch m)) = U' at hu ⊢
  refine R.mcs_tabC (id_lt_iff C) fun ch hch => ?_
  rw [id_eq, tab2_getD _ _ _ _ hch, tab2_getD _ _ _ _ hch]
  refine R.nfft_tab (fun x hx => hre _ (fun y hy => ?_) ch) fun x hx => ?_
  · obtain ⟨k, _, rfl⟩ := List.mem_map.mp hy
    exact hr k x hx
  · rw [List.map_congr_left fun k _ => show at2 U' k x = _ from hu k x hx]

/-- `scale · Δ̂ · fft(u³)`, `u = ifft(mask·û)` -/
theorem cahnHilliard_termRel (scale : ℂ) (hsc : scale ∈ R.P) :
    TermRel R id (cahnHilliard c scale) (cahnHilliard c' scale) := by
  intro uh uh' h
  have hu : ∀ j, j < gridSize c' → (nifft c' (tab (modes c') fun m => mask c' m * at2 uh' 0 m)).getD j 0
      = (nifft c (tab (modes c) fun m => mask c m * at2 uh 0 m)).getD (R.ρ j) 0 :=
    R.field_mul R.cov_mask h 0
  have hr := R.nifft_mem (tab (modes c) fun m => mask c m * at2 uh 0 m)
  unfold cahnHilliard
  simp only []
  generalize nifft c (tab (modes c) fun m => mask c m * at2 uh 0 m) = U at hu hr ⊢
  generalize nifft c' (tab (modes c') fun m => mask c' m * at2 uh' 0 m) = U' at hu ⊢
  exact R.mcs_tab2_mul (id_lt_iff 1) (R.cov_mul R.cov_laplace (R.cov_const scale hsc)) (F := fun _ => nfft c _)
    (F' := fun _ => nfft c' _)
    (fun _ _ => R.nfft_tab (fun x hx => mul_mem (mul_mem (hr x hx) (hr x hx)) (hr x hx))
      fun x hx => by rw [hu x hx])
    (fun _ _ _ _ => mul_right_comm _ _ _) (fun _ _ _ _ => mul_right_comm _ _ _)

end Exponax.Stage

/-
The ETDRK step level over a stage relation.  Spectral states are functions `ℕ → ℕ → ℂ` (channel → stored mode → value);
two of them are related when every channel pair is `R.S`-related (`FnS`), two coefficient arrays when every channel pair
is `R.Cov`-related (`FnCov`).  That pair is an `Etdrk.StepRel`, and a term pair that carries `MCS` carries `FnS` once
lifted by `liftTermND`; so `Etdrk.E?step_rel` gives the step of every order for every symmetry that is a `StageRel`.
-/
namespace Exponax.Stage
open Exponax Exponax.Layout Exponax.Transform Exponax.Nonlin Exponax.AxisPerm
open Exponax.EquivND (liftTermND liftTermND_apply)

variable {c c' : Cfg ℂ}

def FnS (R : StageRel c c') (τ : ℕ → ℕ) (v v' : ℕ → ℕ → ℂ) : Prop :=
  ∀ ch, R.S (tab (modes c) (v ch)) (tab (modes c') (v' (τ ch)))

def FnCov (R : StageRel c c') (τ : ℕ → ℕ) (e e' : ℕ → ℕ → ℂ) : Prop := ∀ ch, R.Cov (e ch) (e' (τ ch))

namespace StageRel
variable (R : StageRel c c') (τ : ℕ → ℕ)

theorem stepRel : Etdrk.StepRel (FnS R τ) (FnCov R τ) where
  add h1 h2 ch := R.S_add (h1 ch) (h2 ch)
  sub h1 h2 ch := R.S_sub (h1 ch) (h2 ch)
  mul he h ch := R.S_congr
    (fun m hm => by rw [tab_getD _ _ _ _ hm, tab_getD _ _ _ _ hm, tab_getD _ _ _ _ hm]; rfl)
    (fun m hm => by rw [tab_getD _ _ _ _ hm, tab_getD _ _ _ _ hm, tab_getD _ _ _ _ hm]; rfl)
    (R.S_mul (he ch) (h ch))
  two _ := R.cov_const ((2 : ℕ) : ℂ) (natCast_mem _ 2)

theorem liftTermND_rel {C : ℕ} (hτ : ∀ ch, τ ch < C ↔ ch < C) {T T' : MC ℂ → MC ℂ} (hT : TermRel R τ T T')
    (v v' : ℕ → ℕ → ℂ) (h : FnS R τ v v') : FnS R τ (liftTermND c C T v) (liftTermND c' C T' v') := fun ch =>
  R.S_congr
    (fun m hm => by rw [tab_getD _ _ _ _ hm, tab_getD _ _ _ _ hm, liftTermND_apply c C T v ch m hm])
    (fun m hm => by rw [tab_getD _ _ _ _ hm, tab_getD _ _ _ _ hm, liftTermND_apply c' C T' v' (τ ch) m hm])
    (hT _ _ (R.mcs_tab2 hτ fun ch _ => h ch) ch)

end StageRel

end Exponax.Stage
