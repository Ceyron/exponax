import ExponaxModel.Proofs.LoopsLemmas
/-
C06 — "mapping a rollout equals rolling out the mapped stepper with batch and time axes
exchanged".  List lemmas about `Loops.rollout` / `Loops.repeatN` for an arbitrary state
type `S`.  A batch of states is a `List S`; the batched (`vmap`-ped) stepper is `List.map f`;
a sweep over constructor parameters is `List.zipWith (fun f u => f u) (ps.map mk)`.
-/
namespace Exponax.Loops

variable {S P : Type}

theorem iterate_map (f : S → S) (k : ℕ) (us : List S) :
    (List.map f)^[k] us = us.map (f^[k]) := by
  induction k generalizing us with
  | zero => simp
  | succ k ih =>
    rw [Function.iterate_succ_apply, ih, List.map_map]
    apply List.map_congr_left
    intro u _
    rw [Function.comp_apply, Function.iterate_succ_apply]

theorem repeatN_map (f : S → S) (n : ℕ) (us : List S) :
    repeatN (List.map f) n us = us.map (repeatN f n) := by
  rw [repeatN_eq_iterate, iterate_map]
  apply List.map_congr_left
  intro u _
  rw [repeatN_eq_iterate]

/-- number of time entries of a rollout -/
def trjLen (n : ℕ) (incl : Bool) : ℕ := if incl then n + 1 else n

/-- number of applications of the stepper in entry `t` of a rollout -/
def trjPow (incl : Bool) (t : ℕ) : ℕ := if incl then t else t + 1

theorem rollout_eq_map (f : S → S) (n : ℕ) (incl : Bool) (u0 : S) :
    rollout f n incl u0 = (List.range (trjLen n incl)).map (fun t => f^[trjPow incl t] u0) := by
  cases incl
  · simpa [trjLen, trjPow] using rollout_false f n u0
  · simpa [trjLen, trjPow] using rollout_true f n u0

theorem rollout_getElem?' (f : S → S) (n : ℕ) (incl : Bool) (u0 : S) (t : ℕ) :
    (rollout f n incl u0)[t]? = if t < trjLen n incl then some (f^[trjPow incl t] u0) else none := by
  rw [rollout_eq_map]
  split_ifs with h
  · simp [h]
  · simp [Nat.le_of_not_lt h]

theorem rollout_map_length (f : S → S) (n : ℕ) (incl : Bool) (us : List S) :
    (rollout (List.map f) n incl us).length = trjLen n incl :=
  rollout_length _ n incl us

theorem rollout_map_entry_length (f : S → S) (n : ℕ) (incl : Bool) (us : List S) (x : List S)
    (hx : x ∈ rollout (List.map f) n incl us) : x.length = us.length := by
  rw [rollout_eq_map, List.mem_map] at hx
  obtain ⟨t, _, rfl⟩ := hx
  rw [iterate_map, List.length_map]

theorem map_rollout_length (f : S → S) (n : ℕ) (incl : Bool) (us : List S) :
    (us.map (rollout f n incl)).length = us.length := List.length_map _

theorem map_rollout_entry_length (f : S → S) (n : ℕ) (incl : Bool) (us : List S) (x : List S)
    (hx : x ∈ us.map (rollout f n incl)) : x.length = trjLen n incl := by
  rw [List.mem_map] at hx
  obtain ⟨u, _, rfl⟩ := hx
  exact rollout_length f n incl u

theorem rollout_map_entry (f : S → S) (n : ℕ) (incl : Bool) (us : List S) (t b : ℕ) :
    ((rollout (List.map f) n incl us)[t]?).bind (fun x => x[b]?)
      = if t < trjLen n incl then (us[b]?).map (f^[trjPow incl t]) else none := by
  rw [rollout_getElem?', iterate_map]
  split_ifs with h
  · simp
  · rfl

theorem map_rollout_entry (f : S → S) (n : ℕ) (incl : Bool) (us : List S) (t b : ℕ) :
    ((us.map (rollout f n incl))[b]?).bind (fun x => x[t]?)
      = if t < trjLen n incl then (us[b]?).map (f^[trjPow incl t]) else none := by
  rw [List.getElem?_map]
  cases hb : us[b]? with
  | none => simp
  | some u =>
    simp only [Option.map_some, Option.bind_some]
    rw [rollout_getElem?']

/-- entry `[t][b]` of `rollout (vmap f)` is entry `[b][t]` of `vmap (rollout f)`, for indices in or out of range -/
theorem rollout_map_transpose (f : S → S) (n : ℕ) (incl : Bool) (us : List S) (t b : ℕ) :
    ((rollout (List.map f) n incl us)[t]?).bind (fun x => x[b]?)
      = ((us.map (rollout f n incl))[b]?).bind (fun x => x[t]?) := by
  rw [rollout_map_entry, map_rollout_entry]

theorem getD_getD_eq_bind {X : Type} (l : List (List X)) (i j : ℕ) (d : X) :
    (l.getD i []).getD j d = ((l[i]?).bind (fun x => x[j]?)).getD d := by
  rw [List.getD_eq_getElem?_getD, List.getD_eq_getElem?_getD]
  cases l[i]? <;> rfl

theorem rollout_map_transpose_getD (f : S → S) (n : ℕ) (incl : Bool) (us : List S) (t b : ℕ)
    (d : S) :
    ((rollout (List.map f) n incl us).getD t []).getD b d
      = ((us.map (rollout f n incl)).getD b []).getD t d := by
  rw [getD_getD_eq_bind, getD_getD_eq_bind, rollout_map_transpose]

theorem rollout_map_transpose_getElem (f : S → S) (n : ℕ) (incl : Bool) (us : List S) (t b : ℕ)
    (ht : t < (rollout (List.map f) n incl us).length)
    (hb : b < ((rollout (List.map f) n incl us)[t]).length)
    (hb' : b < (us.map (rollout f n incl)).length)
    (ht' : t < ((us.map (rollout f n incl))[b]).length) :
    ((rollout (List.map f) n incl us)[t])[b] = ((us.map (rollout f n incl))[b])[t] := by
  have h := rollout_map_transpose f n incl us t b
  rw [List.getElem?_eq_getElem ht, List.getElem?_eq_getElem hb'] at h
  simp only [Option.bind_some] at h
  rw [List.getElem?_eq_getElem hb, List.getElem?_eq_getElem ht'] at h
  exact Option.some.inj h

theorem rollout_map_value (f : S → S) (n : ℕ) (incl : Bool) (us : List S) (t b : ℕ)
    (ht : t < trjLen n incl) (hb : b < us.length) :
    ((rollout (List.map f) n incl us)[t]?).bind (fun x => x[b]?)
      = some (f^[trjPow incl t] us[b]) := by
  rw [rollout_map_entry, if_pos ht, List.getElem?_eq_getElem hb]
  rfl

/-- batch independence: two batches (of possibly different sizes) that agree at index `b` have the same row `b`
    at every time -/
theorem rollout_map_row_congr (f : S → S) (n : ℕ) (incl : Bool) (us vs : List S) (b : ℕ)
    (h : us[b]? = vs[b]?) (t : ℕ) :
    ((rollout (List.map f) n incl us)[t]?).bind (fun x => x[b]?)
      = ((rollout (List.map f) n incl vs)[t]?).bind (fun x => x[b]?) := by
  rw [rollout_map_entry, rollout_map_entry, h]

theorem rollout_map_row_set (f : S → S) (n : ℕ) (incl : Bool) (us : List S) (b b' : ℕ)
    (hb : b' ≠ b) (x : S) (t : ℕ) :
    ((rollout (List.map f) n incl (us.set b' x))[t]?).bind (fun y => y[b]?)
      = ((rollout (List.map f) n incl us)[t]?).bind (fun y => y[b]?) := by
  apply rollout_map_row_congr
  rw [List.getElem?_set_ne hb]

theorem repeatN_map_row_congr (f : S → S) (n : ℕ) (us vs : List S) (b : ℕ)
    (h : us[b]? = vs[b]?) :
    (repeatN (List.map f) n us)[b]? = (repeatN (List.map f) n vs)[b]? := by
  rw [repeatN_map, repeatN_map, List.getElem?_map, List.getElem?_map, h]

theorem rollout_map_singleton (f : S → S) (n : ℕ) (incl : Bool) (u : S) :
    rollout (List.map f) n incl [u] = (rollout f n incl u).map (fun x => [x]) := by
  rw [rollout_eq_map, rollout_eq_map, List.map_map]
  apply List.map_congr_left
  intro t _
  rw [iterate_map]
  rfl

theorem zipWith_map_mk (mk : P → S → S) (ps : List P) (us : List S) :
    List.zipWith (fun f u => f u) (ps.map mk) us = List.zipWith (fun p u => mk p u) ps us := by
  rw [List.zipWith_map_left]

theorem zipWith_mk_getElem? (mk : P → S → S) (ps : List P) (us : List S) (b : ℕ) :
    (List.zipWith (fun f u => f u) (ps.map mk) us)[b]?
      = (ps[b]?).bind (fun p => (us[b]?).map (mk p)) := by
  rw [zipWith_map_mk, List.getElem?_zipWith]
  cases ps[b]? <;> cases us[b]?
  all_goals rfl

/-- with fewer parameters than states the right side is cut to `ps.length` already at `k = 0` -/
theorem iterate_zipWith_mk (mk : P → S → S) (ps : List P) (k : ℕ) (us : List S)
    (hlen : us.length ≤ ps.length) :
    (List.zipWith (fun f u => f u) (ps.map mk))^[k] us
      = List.zipWith (fun p u => (mk p)^[k] u) ps us := by
  induction k generalizing us with
  | zero =>
    simp only [Function.iterate_zero, id_eq]
    apply List.ext_getElem?
    intro i
    rw [List.getElem?_zipWith]
    rcases Nat.lt_or_ge i us.length with hi | hi
    · rw [List.getElem?_eq_getElem hi, List.getElem?_eq_getElem (Nat.lt_of_lt_of_le hi hlen)]
    · rw [List.getElem?_eq_none hi]
      cases ps[i]? <;> rfl
  | succ k ih =>
    rw [Function.iterate_succ_apply, ih _ (by
      rw [zipWith_map_mk, List.length_zipWith]; omega), zipWith_map_mk]
    apply List.ext_getElem?
    intro i
    simp only [List.getElem?_zipWith]
    cases ps[i]? <;> cases us[i]?
    all_goals simp [Function.iterate_succ_apply]

theorem rollout_sweep_entry (mk : P → S → S) (ps : List P) (n : ℕ) (incl : Bool) (us : List S)
    (hlen : us.length ≤ ps.length) (t b : ℕ) :
    ((rollout (List.zipWith (fun f u => f u) (ps.map mk)) n incl us)[t]?).bind (fun x => x[b]?)
      = (ps[b]?).bind (fun p => (us[b]?).bind (fun u => (rollout (mk p) n incl u)[t]?)) := by
  rw [rollout_getElem?', iterate_zipWith_mk mk ps _ us hlen]
  simp only [rollout_getElem?']
  split_ifs with h
  · rw [Option.bind_some, List.getElem?_zipWith]
    cases ps[b]? <;> cases us[b]?
    all_goals rfl
  · cases ps[b]? <;> cases us[b]?
    all_goals rfl

end Exponax.Loops
