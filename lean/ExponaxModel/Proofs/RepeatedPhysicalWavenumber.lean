import ExponaxModel.Proofs.RepeatedPhysicalDiag
/-
C14 — the condition `HermSymbol` in terms of wavenumbers, for symbols `e_h = g (wnFlat D N h)` (every exponax linear
operator / ETDRK coefficient is of this form).  On the self-conjugate columns `conjIdx` negates every wavenumber
component except Nyquist ones (even `N`, `|k_d| = N/2`), which are kept (`wnFlat_conjIdx_getD`).  Hence `g(−k) = conj g(k)`
gives a `HermSymbol` on odd grids, and a real `g` depending on `|k_d|` only (even-order derivatives) on every grid.
-/
namespace Exponax.C2R
open Exponax Exponax.Layout Exponax.Transform Exponax.DFT Exponax.Conserve Finset

theorem wnFlat_conjIdx_neg (D N h : ℕ) (hD : 0 < D) (hN : 0 < N) (hh : h < numModes D N)
    (hw : herm_weight D N h = 1)
    (hq : ∀ d < D, N % 2 = 0 → ((wnFlat D N h).getD d 0).natAbs ≠ N / 2) :
    wnFlat D N (conjIdx D N h) = (wnFlat D N h).map (fun k => -k) := by
  have key : ∀ d ∈ List.range D,
      wn D N (unflatten (wavenumberShape D N) (conjIdx D N h)) d
        = -(wn D N (unflatten (wavenumberShape D N) h) d) := by
    intro d hd
    have hd' : d < D := List.mem_range.mp hd
    rw [← wnFlat_getD D N _ d hd', ← wnFlat_getD D N h d hd']
    rcases wnFlat_conjIdx_getD D N h d hD hN hh hw hd' with h1 | ⟨hev, hab, _⟩
    · exact h1
    · exact absurd hab (hq d hd' hev)
  show wnVec D N _ = (wnVec D N _).map _
  unfold wnVec
  rw [List.map_map]
  exact List.map_congr_left key

/-- **odd grids, any `D`**: a symbol `e_h = g(k(h))` with `g(−k) = conj g(k)` (every linear operator
    with real coefficients — advection, diffusion, dispersion, … — and its ETDRK coefficients) is
    Hermitian on the self-conjugate columns. -/
theorem odd_grid_hermSymbol_of_wavenumber (D N : ℕ) (hD : 0 < D) (hodd : N % 2 = 1)
    (g : List ℤ → ℂ) (hg : ∀ k : List ℤ, g (k.map (fun x => -x)) = (starRingEnd ℂ) (g k)) :
    HermSymbol D N (fun h => g (wnFlat D N h)) := by
  intro h hh hw
  show g (wnFlat D N (conjIdx D N h)) = _
  rw [wnFlat_conjIdx_neg D N h hD (by omega) hh hw (fun _ _ hev => by omega), hg]

/-- **every grid**: a REAL-valued symbol that depends on the wavenumbers only through `|k_d|`
    (even-order derivatives: `(i k_d)^{2m} = (−1)^m k_d^{2m}`) is Hermitian on the self-conjugate
    columns — also on the Nyquist planes of even grids. -/
theorem hermSymbol_of_abs_real (D N : ℕ) (hD : 0 < D) (hN : 0 < N) (g : List ℤ → ℂ)
    (hreal : ∀ k, (g k).im = 0)
    (habs : ∀ k k' : List ℤ, k.length = k'.length →
      (∀ d < k.length, (k'.getD d 0).natAbs = (k.getD d 0).natAbs) → g k' = g k) :
    HermSymbol D N (fun h => g (wnFlat D N h)) := by
  intro h hh hw
  show g (wnFlat D N (conjIdx D N h)) = (starRingEnd ℂ) (g (wnFlat D N h))
  rw [Complex.conj_eq_iff_im.mpr (hreal _)]
  apply habs
  · rw [wnFlat_length, wnFlat_length]
  · intro d hd
    rw [wnFlat_length] at hd
    exact natAbs_wnFlat_conjIdx D N h d hD hN hh hd

/-- the index hypotheses of `wnFlat_conjIdx_getD` / `wnFlat_conjIdx_neg` are satisfiable with a
    non-trivial partner: on the odd `3 × 3` grid mode `(1, 0)` (stored index 2) is paired with `(−1, 0)`
    (stored index 4); on the even `4 × 4` grid the Nyquist-column mode `(1, 2)` (index 5) with `(−1, 2)` -/
example : (3 : ℕ) % 2 = 1 ∧ (2 : ℕ) < numModes 2 3 ∧ herm_weight 2 3 2 = 1 ∧ conjIdx 2 3 2 = 4 ∧
    (5 : ℕ) < numModes 2 4 ∧ herm_weight 2 4 5 = 1 ∧ conjIdx 2 4 5 = 11 := by decide

theorem getD_zero_map_neg (k : List ℤ) : (k.map (fun x => -x)).getD 0 0 = -(k.getD 0 0) := by
  cases k <;> simp

/-- the hypotheses of `odd_grid_hermSymbol_of_wavenumber` hold for the advection–diffusion factor
    `exp(Δt (−c·i k_0 + ν (i k_0)²))` with real `c, ν, Δt` -/
example (c ν dt : ℝ) : ∀ k : List ℤ,
    (fun k : List ℤ => Complex.exp ((dt : ℂ) * (-(c : ℂ) * (Complex.I * ((k.getD 0 0 : ℤ) : ℂ))
        + (ν : ℂ) * (Complex.I * ((k.getD 0 0 : ℤ) : ℂ)) ^ 2))) (k.map (fun x => -x))
      = (starRingEnd ℂ) ((fun k : List ℤ => Complex.exp ((dt : ℂ) * (-(c : ℂ) * (Complex.I * ((k.getD 0 0 : ℤ) : ℂ))
        + (ν : ℂ) * (Complex.I * ((k.getD 0 0 : ℤ) : ℂ)) ^ 2))) k) := by
  intro k
  simp only [getD_zero_map_neg]
  rw [← Complex.exp_conj]
  congr 1
  simp only [map_mul, map_add, map_neg, map_pow, Complex.conj_ofReal, Complex.conj_I, Int.cast_neg, map_intCast]
  ring

/-- the hypotheses of `hermSymbol_of_abs_real` hold for the diffusion factor `exp(−ν Δt k_0²)` -/
example (ν dt : ℝ) :
    (∀ k : List ℤ, (Complex.exp (((-(ν * dt * ((k.getD 0 0).natAbs : ℝ) ^ 2) : ℝ) : ℂ))).im = 0) ∧
    (∀ k k' : List ℤ, k.length = k'.length →
      (∀ d < k.length, (k'.getD d 0).natAbs = (k.getD d 0).natAbs) →
        Complex.exp (((-(ν * dt * ((k'.getD 0 0).natAbs : ℝ) ^ 2) : ℝ) : ℂ))
          = Complex.exp (((-(ν * dt * ((k.getD 0 0).natAbs : ℝ) ^ 2) : ℝ) : ℂ))) := by
  refine ⟨fun k => Complex.exp_ofReal_im _, ?_⟩
  intro k k' hlen h
  rcases k with _ | ⟨a, k⟩
  · have : k' = [] := List.length_eq_zero_iff.mp hlen.symm
    rw [this]
  · have := h 0 (by simp)
    rw [this]

end Exponax.C2R
