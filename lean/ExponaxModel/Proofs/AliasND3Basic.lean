import ExponaxModel.Proofs.AliasND2Grad
import ExponaxModel.Proofs.AliasND2React
/-
C03 in general dimension: `GeneralNonlinearFun` (any channel count, `3·Kc < N`) and the
Belousov–Zhabotinsky reaction (`reaction c 3 bzReact`; `bzReact` is QUADRATIC in the model,
`[a + b − a·b − a², d − b − a·b, a − d]`, so the cut-off is `3·Kc < N`).

Model conventions for `general` (`Model/Nonlin.lean`):

  `general c C s0 s1 s2 zeroFix û = polynomial c C [0, 0, s0] û + convection c C (−s1) true true û
                                     + gradientNorm c C (−s2) zeroFix û`

  and `convection … scale … = −scale·½·(Σ_d i s k_d)·F[u²]`, `gradientNorm … scale … = −scale·½·F[|∇u|²]`,
  so the three contributions are `+s0·F[u²]`, `+s1·½·(Σ_d i s k_d)·F[u²]`, `+s2·½·F[|∇u|²]` (ALL with
  a plus sign; with `zero_mode_fix` the mean mode of the third one is set to `0`).
-/
namespace Exponax.AliasND
open Exponax Exponax.Layout Exponax.Transform Exponax.DFT Exponax.Nonlin Exponax.Alias Finset

theorem general_nd_readoff (c : Cfg ℂ) (C : ℕ) (s0 s1 s2 : ℂ) (zeroFix : Bool) (uh : MC ℂ)
    (ch : ℕ) (hch : ch < C) (h : ℕ) (hh : h < numModes c.D c.N) :
    at2 (general c C s0 s1 s2 zeroFix uh) ch h
      = at2 (polynomial c C [0, 0, s0] uh) ch h + at2 (convection c C (-s1) true true uh) ch h
        + at2 (gradientNorm c C (-s2) zeroFix uh) ch h := by
  have hM : h < modes c := hh
  unfold general
  simp only []
  rw [at2_tab2 _ _ _ _ _ hch hM]

/-- `GeneralNonlinearFun`, any channel count: for real states `xs ch` with `û_ch = rfftnM D N (xs ch)`, channel `ch`
    of the output at a retained stored mode holds the coefficient of `s0·u² + s1·½·(Σ_d ∂_d)(u²) + s2·½·|∇u|²` for
    the band-truncated state `u = P_K (xs ch)`, alias-free (the last term replaced by `0` at the mean mode `h = 0`
    when `zero_mode_fix = True`) -/
theorem general_alias_free_nd (c : Cfg ℂ) (hD : 0 < c.D) (hq : c.fq ≠ 0)
    (hK : 3 * Kc c < (c.N : ℤ)) (hN : 0 < c.N) (s : ℝ) (hs : c.s = (s : ℂ)) (C : ℕ) (s0 s1 s2 : ℂ)
    (zeroFix : Bool) (uh : MC ℂ) (xs : ℕ → Array ℂ)
    (hx : ∀ ch, ch < C → IsRealND c.D c.N (xs ch))
    (huh : ∀ ch, ch < C → uh.getD ch #[] = rfftnM c.D c.N (xs ch))
    (ch : ℕ) (hch : ch < C) (h : ℕ) (hh : h < numModes c.D c.N) :
    (mask c h = 1 →
      at2 (general c C s0 s1 s2 zeroFix uh) ch h
        = s0 * linConv c.D c.N (Kc c) (dftV c.D c.N (xs ch)) (dftV c.D c.N (xs ch)) (kvec c.D c.N h)
          + s1 * ((1 : ℂ) / 2 * (∑ d ∈ range c.D, Nonlin.deriv c d h) *
              linConv c.D c.N (Kc c) (dftV c.D c.N (xs ch)) (dftV c.D c.N (xs ch)) (kvec c.D c.N h))
          + (if zeroFix = true ∧ h = 0 then 0 else
              s2 * (1 / 2) * ∑ d ∈ range c.D,
                linConv c.D c.N (Kc c) (dspec c d (xs ch)) (dspec c d (xs ch)) (kvec c.D c.N h)))
    ∧ (mask c h = 0 → at2 (general c C s0 s1 s2 zeroFix uh) ch h = 0) := by
  refine ⟨fun hm => ?_, fun hm => general_zero_off_band c C s0 s1 s2 zeroFix _ ch h hm⟩
  have hP := (polynomial_quadratic_alias_free_nd c hD hq hK hN C 0 0 s0 uh xs hx huh ch hch h hh).1 hm
  have hC := (convection_single_conservative_alias_free_nd c hD hq hK hN C (-s1) uh xs hx huh ch hch h hh).1 hm
  have hG := (gradientNorm_alias_free_nd c hD hq hK hN s hs C (-s2) zeroFix uh xs hx huh ch hch h hh).1 hm
  rw [general_nd_readoff c C s0 s1 s2 zeroFix _ ch hch h hh, hP, hC, hG, zero_mul, zero_mul,
    zero_add, zero_add]
  split_ifs <;> ring

theorem general_alias_free_nd_two_thirds (c : Cfg ℂ) (hD : 0 < c.D) (hp : c.fp = 2) (hq : c.fq = 3)
    (hN : 0 < c.N) (s : ℝ) (hs : c.s = (s : ℂ)) (s0 s1 s2 : ℂ)
    (zeroFix : Bool) (x : Array ℂ) (hx : IsRealND c.D c.N x) (h : ℕ) (hh : h < numModes c.D c.N) :
    (mask c h = 1 →
      at2 (general c 1 s0 s1 s2 zeroFix #[rfftnM c.D c.N x]) 0 h
        = s0 * linConv c.D c.N (Kc c) (dftV c.D c.N x) (dftV c.D c.N x) (kvec c.D c.N h)
          + s1 * ((1 : ℂ) / 2 * (∑ d ∈ range c.D, deriv c d h) *
              linConv c.D c.N (Kc c) (dftV c.D c.N x) (dftV c.D c.N x) (kvec c.D c.N h))
          + (if zeroFix = true ∧ h = 0 then 0 else
              s2 * (1 / 2) * ∑ d ∈ range c.D,
                linConv c.D c.N (Kc c) (dspec c d x) (dspec c d x) (kvec c.D c.N h)))
    ∧ (mask c h = 0 → at2 (general c 1 s0 s1 s2 zeroFix #[rfftnM c.D c.N x]) 0 h = 0) :=
  general_alias_free_nd c hD (by omega) (Kc_two_thirds c hp hq).1 hN s hs 1 s0 s1 s2 zeroFix _ (fun _ => x)
    (fun _ _ => hx) (single_getD _) 0 Nat.zero_lt_one h hh

theorem bz_nd_readoff (c : Cfg ℂ) (hN : 0 < c.N) (uh : MC ℂ)
    (ch : ℕ) (hch : ch < 3) (h : ℕ) (hh : h < numModes c.D c.N) :
    at2 (reaction c 3 bzReact uh) ch h
      = mask c h * dftV c.D c.N (tab (c.N ^ c.D) fun x =>
          (bzReact [(nifft c (uh.getD 0 #[])).getD x 0, (nifft c (uh.getD 1 #[])).getD x 0,
            (nifft c (uh.getD 2 #[])).getD x 0]).getD ch 0) (kvec c.D c.N h) :=
  reaction_nd_readoff c hN 3 _ uh ch hch h hh

theorem bz_ch0 (a b d : ℂ) : (bzReact [a, b, d]).getD 0 0 = a + b - a * b - a * a := by
  simp [bzReact]

theorem bz_ch1 (a b d : ℂ) : (bzReact [a, b, d]).getD 1 0 = d - b - a * b := by
  simp [bzReact]

theorem bz_ch2 (a b d : ℂ) : (bzReact [a, b, d]).getD 2 0 = a - d := by
  simp [bzReact]

/-- for real states `xa`, `xb`, `xd` and `û = (rfftnM xa, rfftnM xb, rfftnM xd)`, the three channels at a retained
    stored mode hold the coefficients of the reaction term applied to the band-truncated state, alias-free -/
theorem bz_alias_free_nd (c : Cfg ℂ) (hD : 0 < c.D) (hq : c.fq ≠ 0)
    (hK : 3 * Kc c < (c.N : ℤ)) (hN : 0 < c.N) (xa xb xd : Array ℂ)
    (hxa : IsRealND c.D c.N xa) (hxb : IsRealND c.D c.N xb) (hxd : IsRealND c.D c.N xd)
    (h : ℕ) (hh : h < numModes c.D c.N) :
    (mask c h = 1 →
      at2 (reaction c 3 bzReact #[rfftnM c.D c.N xa, rfftnM c.D c.N xb, rfftnM c.D c.N xd]) 0 h
        = (rfftnM c.D c.N xa).getD h 0 + (rfftnM c.D c.N xb).getD h 0
          - linConv c.D c.N (Kc c) (dftV c.D c.N xa) (dftV c.D c.N xb) (kvec c.D c.N h)
          - linConv c.D c.N (Kc c) (dftV c.D c.N xa) (dftV c.D c.N xa) (kvec c.D c.N h)
      ∧ at2 (reaction c 3 bzReact #[rfftnM c.D c.N xa, rfftnM c.D c.N xb, rfftnM c.D c.N xd]) 1 h
        = (rfftnM c.D c.N xd).getD h 0 - (rfftnM c.D c.N xb).getD h 0
          - linConv c.D c.N (Kc c) (dftV c.D c.N xa) (dftV c.D c.N xb) (kvec c.D c.N h)
      ∧ at2 (reaction c 3 bzReact #[rfftnM c.D c.N xa, rfftnM c.D c.N xb, rfftnM c.D c.N xd]) 2 h
        = (rfftnM c.D c.N xa).getD h 0 - (rfftnM c.D c.N xd).getD h 0)
    ∧ (mask c h = 0 →
      at2 (reaction c 3 bzReact #[rfftnM c.D c.N xa, rfftnM c.D c.N xb, rfftnM c.D c.N xd]) 0 h = 0
      ∧ at2 (reaction c 3 bzReact #[rfftnM c.D c.N xa, rfftnM c.D c.N xb, rfftnM c.D c.N xd]) 1 h = 0
      ∧ at2 (reaction c 3 bzReact #[rfftnM c.D c.N xa, rfftnM c.D c.N xb, rfftnM c.D c.N xd]) 2 h = 0) := by
  have h2 := two_lt_of_three c.N (Kc c) hK
  refine ⟨fun hm => ?_, fun hm =>
    ⟨reaction_zero_off_band c 3 _ _ 0 h hm, reaction_zero_off_band c 3 _ _ 1 h hm,
      reaction_zero_off_band c 3 _ _ 2 h hm⟩⟩
  have hk : ∀ d, |kvec c.D c.N h d| ≤ Kc c := (mask_nd_eq_one_iff c hq h).mp hm
  have e0 : (#[rfftnM c.D c.N xa, rfftnM c.D c.N xb, rfftnM c.D c.N xd] : MC ℂ).getD 0 #[]
      = rfftnM c.D c.N xa := rfl
  have e1 : (#[rfftnM c.D c.N xa, rfftnM c.D c.N xb, rfftnM c.D c.N xd] : MC ℂ).getD 1 #[]
      = rfftnM c.D c.N xb := rfl
  have e2 : (#[rfftnM c.D c.N xa, rfftnM c.D c.N xb, rfftnM c.D c.N xd] : MC ℂ).getD 2 #[]
      = rfftnM c.D c.N xd := rfl
  rw [bz_nd_readoff c hN _ 0 (by norm_num) h hh, bz_nd_readoff c hN _ 1 (by norm_num) h hh,
    bz_nd_readoff c hN _ 2 (by norm_num) h hh, hm, one_mul, one_mul, one_mul, e0, e1, e2]
  simp only [bz_ch0, bz_ch1, bz_ch2]
  have hA := dftV_nifft_rfftn_stored c hD hq hN h2 xa hxa h hh hk
  have hB := dftV_nifft_rfftn_stored c hD hq hN h2 xb hxb h hh hk
  have hDd := dftV_nifft_rfftn_stored c hD hq hN h2 xd hxd h hh hk
  have ha := boxSpec_nifft_rfftn c hD hq hN h2 xa hxa
  have hab := ha.dftV_mul (boxSpec_nifft_rfftn c hD hq hN h2 xb hxb) hN hK _ hk
  have haa := ha.dftV_mul ha hN hK _ hk
  refine ⟨?_, ?_, ?_⟩
  · rw [dftV_sub, dftV_sub, dftV_add, dftV_self_tab, dftV_self_tab, hab, haa, hA, hB]
  · rw [dftV_sub, dftV_sub, dftV_self_tab, dftV_self_tab, hab, hB, hDd]
  · rw [dftV_sub, dftV_self_tab, dftV_self_tab, hA, hDd]

theorem bz_alias_free_nd_two_thirds (c : Cfg ℂ) (hD : 0 < c.D) (hp : c.fp = 2) (hq : c.fq = 3)
    (hN : 0 < c.N) (xa xb xd : Array ℂ)
    (hxa : IsRealND c.D c.N xa) (hxb : IsRealND c.D c.N xb) (hxd : IsRealND c.D c.N xd)
    (h : ℕ) (hh : h < numModes c.D c.N) :
    (mask c h = 1 →
      at2 (reaction c 3 bzReact #[rfftnM c.D c.N xa, rfftnM c.D c.N xb, rfftnM c.D c.N xd]) 0 h
        = (rfftnM c.D c.N xa).getD h 0 + (rfftnM c.D c.N xb).getD h 0
          - linConv c.D c.N (Kc c) (dftV c.D c.N xa) (dftV c.D c.N xb) (kvec c.D c.N h)
          - linConv c.D c.N (Kc c) (dftV c.D c.N xa) (dftV c.D c.N xa) (kvec c.D c.N h)
      ∧ at2 (reaction c 3 bzReact #[rfftnM c.D c.N xa, rfftnM c.D c.N xb, rfftnM c.D c.N xd]) 1 h
        = (rfftnM c.D c.N xd).getD h 0 - (rfftnM c.D c.N xb).getD h 0
          - linConv c.D c.N (Kc c) (dftV c.D c.N xa) (dftV c.D c.N xb) (kvec c.D c.N h)
      ∧ at2 (reaction c 3 bzReact #[rfftnM c.D c.N xa, rfftnM c.D c.N xb, rfftnM c.D c.N xd]) 2 h
        = (rfftnM c.D c.N xa).getD h 0 - (rfftnM c.D c.N xd).getD h 0)
    ∧ (mask c h = 0 →
      at2 (reaction c 3 bzReact #[rfftnM c.D c.N xa, rfftnM c.D c.N xb, rfftnM c.D c.N xd]) 0 h = 0
      ∧ at2 (reaction c 3 bzReact #[rfftnM c.D c.N xa, rfftnM c.D c.N xb, rfftnM c.D c.N xd]) 1 h = 0
      ∧ at2 (reaction c 3 bzReact #[rfftnM c.D c.N xa, rfftnM c.D c.N xb, rfftnM c.D c.N xd]) 2 h = 0) :=
  bz_alias_free_nd c hD (by omega) (Kc_two_thirds c hp hq).1 hN xa xb xd hxa hxb hxd h hh

end Exponax.AliasND
