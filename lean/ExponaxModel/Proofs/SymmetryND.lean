import ExponaxModel.Proofs.SymmetryNDDigits
import ExponaxModel.Proofs.Symmetry
/-
C08 in general dimension `D` (every `D`, in particular `D = 1, 2, 3`), every `N ≥ 1`:

* n-D roll (`jnp.roll(u, s, axis=(0,…,D-1))`): forward shift theorem at every stored mode and
  INVERSE shift theorem for ANY stored half spectrum;
* every per-mode (diagonal) stepper `irfftn(E ⊙ rfftn u)` (`Gen.Etdrk.E0step`, arbitrary
  `E : ℕ → ℂ`) commutes with the n-D roll, for every real or complex `u`; `n` steps;
* reflection `x ↦ −x` on every axis: `rfftn (reflect u) = conj (rfftn u)` for real `u`,
  `irfftn (conj c) = reflect (irfftn c)` for ANY `c`; a diagonal stepper with multiplier `E`
  is mapped by the reflection to the stepper with multiplier `conj E` (real `E`: commutes;
  advection: velocity `c ↦ −c`).

All statements are about the model's `rfftnM` / `irfftnM` / `phaseK` / `wnFlat`.  The definitions made here
(`rollIdx`, `rollND`, `reflIdx`, `reflect`, `dotKS`, `shiftPhaseND`, `shiftSpecND`, `specFun`,
`linStep`, `conjSpec`) are only used to state the theorems; `rollIdx`/`reflIdx` are characterised
by their digits (`digit_rollIdx`, `digit_reflIdx`) and `rollND 1` is the 1-D `roll`.
-/
namespace Exponax.SymmetryND
open Exponax Exponax.Layout Exponax.Transform Exponax.DFT Exponax.Symmetry Finset
open Exponax.Gen.Etdrk

/-- source index of entry `j` of the rolled field: digit `d` of `j` is replaced by
    `(j_d − s_d) mod N` -/
def rollIdx (D N : ℕ) (s : List ℤ) (j : ℕ) : ℕ :=
  digitMap D N (fun d => shiftDigit N (s.getD d 0)) j

/-- `jnp.roll(u, s, axis=(0,…,D-1))` on the `N^D` grid (flat C order):
    `rollND(u,s)[j₀,…] = u[(j₀ − s₀) mod N, …]` -/
def rollND (D N : ℕ) (u : Array ℂ) (s : List ℤ) : Array ℂ :=
  tab (N ^ D) (fun j => u.getD (rollIdx D N s j) 0)

def dotKS (D : ℕ) (k : List ℤ) (s : List ℤ) : ℤ := ∑ d ∈ range D, k.getD d 0 * s.getD d 0

/-- the phase `e^{-2πi k(h)·s/N}` that the roll by `s` puts on stored mode `h` -/
noncomputable def shiftPhaseND (D N : ℕ) (s : List ℤ) (h : ℕ) : ℂ :=
  twiddle N (dotKS D (wnFlat D N h) s)

noncomputable def shiftSpecND (D N : ℕ) (s : List ℤ) (c : Array ℂ) : Array ℂ :=
  tab (numModes D N) (fun h => shiftPhaseND D N s h * c.getD h 0)

@[simp] theorem rollND_size (D N : ℕ) (u : Array ℂ) (s : List ℤ) : (rollND D N u s).size = N ^ D := by
  simp [rollND]

@[simp] theorem shiftSpecND_size (D N : ℕ) (s : List ℤ) (c : Array ℂ) :
    (shiftSpecND D N s c).size = numModes D N := by
  simp [shiftSpecND]

theorem shiftSpecND_getD (D N : ℕ) (s : List ℤ) (c : Array ℂ) (h : ℕ) (hh : h < numModes D N) :
    (shiftSpecND D N s c).getD h 0 = shiftPhaseND D N s h * c.getD h 0 := by
  rw [shiftSpecND, DFT.tab_getD _ _ _ _ hh]

theorem rollIdx_lt (D N : ℕ) (hN : 0 < N) (s : List ℤ) (j : ℕ) : rollIdx D N s j < N ^ D :=
  digitMap_lt D N hN _ (fun _ _ x _ => shiftDigit_lt N hN _ x) j

theorem digit_rollIdx (D N : ℕ) (hN : 0 < N) (s : List ℤ) (j d : ℕ) (hd : d < D) :
    digit D N (rollIdx D N s j) d = (((digit D N j d : ℤ) - s.getD d 0) % (N : ℤ)).toNat :=
  digit_digitMap D N hN _ (fun _ _ x _ => shiftDigit_lt N hN _ x) j d hd

theorem rollND_getD (D N : ℕ) (u : Array ℂ) (s : List ℤ) (j : ℕ) (hj : j < N ^ D) :
    (rollND D N u s).getD j 0 = u.getD (rollIdx D N s j) 0 := by
  rw [rollND, DFT.tab_getD _ _ _ _ hj]

theorem rollND_one (N : ℕ) (u : Array ℂ) (s : ℤ) : rollND 1 N u [s] = roll N u s := by
  unfold rollND roll
  rw [pow_one]
  apply DFT.tab_congr
  intro j hj
  have : rollIdx 1 N [s] j = (((j : ℤ) - s) % (N : ℤ)).toNat := by
    simp [rollIdx, digitMap, ofDigits, shiftDigit, digit, Nat.mod_eq_of_lt hj]
  rw [this]

set_option linter.unusedVariables false in
theorem rollIdx_two (N : ℕ) (hN : 0 < N) (s0 s1 : ℤ) (j0 j1 : ℕ) (h0 : j0 < N) (h1 : j1 < N) :
    rollIdx 2 N [s0, s1] (j0 * N + j1)
      = (((j0 : ℤ) - s0) % (N : ℤ)).toNat * N + (((j1 : ℤ) - s1) % (N : ℤ)).toNat := by
  simp [rollIdx, digitMap, ofDigits, shiftDigit, digit, pair_div N j0 j1 h1, pair_mod N j0 j1 h1,
    Nat.mod_eq_of_lt h0]

theorem phaseK_rollIdx_modEq (D N : ℕ) (hN : 0 < N) (k s : List ℤ) (j : ℕ) :
    phaseK D N k (rollIdx D N s j) ≡ phaseK D N k j - dotKS D k s [ZMOD (N : ℤ)] := by
  unfold rollIdx
  rw [phaseK_digitMap D N hN _ (fun _ _ x _ => shiftDigit_lt N hN _ x), phaseK_eq_sum, dotKS,
    ← Finset.sum_sub_distrib]
  refine Int.ModEq.sum fun d _ => ?_
  rw [← mul_sub]
  exact (shiftDigit_modEq N hN _ _).mul_left _

/-- `rollIdx` permutes the grid -/
theorem sum_rollIdx {M : Type} [AddCommMonoid M] (D N : ℕ) (hN : 0 < N) (s : List ℤ) (F : ℕ → M) :
    ∑ j ∈ range (N ^ D), F (rollIdx D N s j) = ∑ j ∈ range (N ^ D), F j :=
  sum_digitMap D N hN (fun d => shiftDigit N (s.getD d 0)) (fun d => shiftDigit N (-(s.getD d 0)))
    (fun _ _ x _ => shiftDigit_lt N hN _ x) (fun _ _ x _ => shiftDigit_lt N hN _ x)
    (fun d _ x hx => shiftDigit_inv N hN _ x hx)
    (fun d _ x hx => by
      have := shiftDigit_inv N hN (-(s.getD d 0)) x hx
      rwa [neg_neg] at this) F

/-- Forward shift theorem in `D` dimensions: rolling the field by `s` multiplies every
    stored mode `h` by `e^{-2πi k(h)·s/N}`, `k(h) = wnFlat D N h`; any (real or complex) `u`, every
    `N ≥ 1`, every `D`. -/
theorem rfftn_rollND (D N : ℕ) (hN : 0 < N) (u : Array ℂ) (s : List ℤ) (h : ℕ)
    (hh : h < numModes D N) :
    (rfftnM D N (rollND D N u s)).getD h 0
      = twiddle N (dotKS D (wnFlat D N h) s) * (rfftnM D N u).getD h 0 := by
  rw [rfftnM_getD D N hN _ h hh, rfftnM_getD D N hN _ h hh, Finset.mul_sum]
  rw [← sum_rollIdx D N hN s (fun j => twiddle N (dotKS D (wnFlat D N h) s)
      * (u.getD j 0 * twiddle N (phaseK D N (wnFlat D N h) j)))]
  apply Finset.sum_congr rfl
  intro j hj
  rw [rollND_getD D N u s j (Finset.mem_range.mp hj)]
  rw [mul_left_comm, ← twiddle_add]
  congr 1
  apply twiddle_congr
  have := phaseK_rollIdx_modEq D N hN (wnFlat D N h) s j
  calc phaseK D N (wnFlat D N h) j
      = dotKS D (wnFlat D N h) s + (phaseK D N (wnFlat D N h) j - dotKS D (wnFlat D N h) s) := by ring
    _ ≡ dotKS D (wnFlat D N h) s + phaseK D N (wnFlat D N h) (rollIdx D N s j) [ZMOD (N : ℤ)] :=
      this.symm.add_left _

theorem rfftn_rollND_array (D N : ℕ) (hN : 0 < N) (u : Array ℂ) (s : List ℤ) :
    rfftnM D N (rollND D N u s) = shiftSpecND D N s (rfftnM D N u) := by
  apply array_ext_getD _ _ (numModes D N) (by simp) (by simp)
  intro h hh
  rw [rfftn_rollND D N hN u s h hh, shiftSpecND_getD D N s _ h hh, shiftPhaseND]

/-- INVERSE shift theorem in `D` dimensions: for ANY stored half spectrum `c`
    (Hermitian or not), multiplying mode `h` by `e^{-2πi k(h)·s/N}` before the c2r transform rolls
    the result by `s`. -/
theorem irfftn_shiftSpecND_getD (D N : ℕ) (hN : 0 < N) (c : Array ℂ) (s : List ℤ) (j : ℕ)
    (hj : j < N ^ D) :
    (irfftnM D N (shiftSpecND D N s c)).getD j 0 = (rollND D N (irfftnM D N c) s).getD j 0 := by
  rw [rollND_getD D N _ s j hj, irfftnM_getD D N hN _ j hj,
    irfftnM_getD D N hN _ _ (rollIdx_lt D N hN s j)]
  congr 1
  apply Finset.sum_congr rfl
  intro h hh
  have hh' := Finset.mem_range.mp hh
  have key : (shiftSpecND D N s c).getD h 0 * twiddle N (-(phaseK D N (wnFlat D N h) j))
      = c.getD h 0 * twiddle N (-(phaseK D N (wnFlat D N h) (rollIdx D N s j))) := by
    rw [shiftSpecND_getD D N s c h hh', shiftPhaseND, mul_comm (twiddle N _) (c.getD h 0),
      mul_assoc, ← twiddle_add]
    congr 1
    apply twiddle_congr
    have := (phaseK_rollIdx_modEq D N hN (wnFlat D N h) s j).neg
    calc dotKS D (wnFlat D N h) s + -(phaseK D N (wnFlat D N h) j)
        = -(phaseK D N (wnFlat D N h) j - dotKS D (wnFlat D N h) s) := by ring
      _ ≡ -(phaseK D N (wnFlat D N h) (rollIdx D N s j)) [ZMOD (N : ℤ)] := this.symm
  rw [key]

theorem irfftn_shiftSpecND (D N : ℕ) (hN : 0 < N) (c : Array ℂ) (s : List ℤ) :
    irfftnM D N (shiftSpecND D N s c) = rollND D N (irfftnM D N c) s := by
  apply array_ext_getD _ _ (N ^ D) (by simp) (by simp)
  intro j hj
  exact irfftn_shiftSpecND_getD D N hN c s j hj

theorem irfftn_rfftn_rollND (D N : ℕ) (hD : 0 < D) (hN : 0 < N) (u : Array ℂ)
    (hu : ∀ j < N ^ D, (u.getD j 0).im = 0) (s : List ℤ) (j : ℕ) (hj : j < N ^ D) :
    (irfftnM D N (shiftSpecND D N s (rfftnM D N u))).getD j 0 = (rollND D N u s).getD j 0 := by
  rw [irfftn_shiftSpecND_getD D N hN _ s j hj, rollND_getD _ _ _ _ _ hj, rollND_getD _ _ _ _ _ hj,
    irfftn_rfftn D N hD hN u hu _ (rollIdx_lt D N hN s j)]

noncomputable def specFun (D N : ℕ) (u : Array ℂ) : ℕ → ℂ := fun h => (rfftnM D N u).getD h 0

/-- one step of a linear stepper in physical space: `irfftn (E ⊙ rfftn u)`, with the regenerated
    order-0 ETDRK stage formula `E0step` applied to the whole spectrum -/
noncomputable def linStep (D N : ℕ) (E : ℕ → ℂ) (u : Array ℂ) : Array ℂ :=
  irfftnM D N (tab (numModes D N) (E0step E (specFun D N u)))

theorem specFun_rollND (D N : ℕ) (hN : 0 < N) (u : Array ℂ) (s : List ℤ) :
    specFun D N (rollND D N u s) = (fun h => shiftPhaseND D N s h) * specFun D N u := by
  funext h
  simp only [specFun, Pi.mul_apply]
  rcases Nat.lt_or_ge h (numModes D N) with hlt | hge
  · exact rfftn_rollND D N hN u s h hlt
  · have hs : ∀ w : Array ℂ, (rfftnM D N w).size ≤ h := fun w => by rwa [rfftnM_size]
    rw [DFT.getD_of_size_le _ h (hs _), DFT.getD_of_size_le _ h (hs _), mul_zero]

theorem tab_phaseND_mul (D N : ℕ) (s : List ℤ) (v : ℕ → ℂ) :
    tab (numModes D N) ((fun h => shiftPhaseND D N s h) * v)
      = shiftSpecND D N s (tab (numModes D N) v) := by
  unfold shiftSpecND
  apply DFT.tab_congr
  intro h hh
  rw [DFT.tab_getD _ _ _ _ hh]
  rfl

theorem shiftSpecND_mul_diag (D N : ℕ) (s : List ℤ) (m : ℕ → ℂ) (c : Array ℂ) :
    shiftSpecND D N s (tab (numModes D N) fun h => m h * c.getD h 0)
      = tab (numModes D N) fun h => m h * (shiftSpecND D N s c).getD h 0 := by
  unfold shiftSpecND
  apply DFT.tab_congr
  intro h hh
  rw [DFT.tab_getD _ _ _ _ hh, DFT.tab_getD _ _ _ _ hh]
  ring

/-- Transform, take `n` steps of the diagonal stepper
    `û ↦ E ⊙ û` (`E0step`, ARBITRARY `E : ℕ → ℂ`), transform back: rolling the initial state by
    `s` rolls the result by `s`.  Any real or complex `u`, every `D`, every `N ≥ 1`. -/
theorem E0step_rollND (D N : ℕ) (hN : 0 < N) (E : ℕ → ℂ) (n : ℕ) (u : Array ℂ) (s : List ℤ) :
    irfftnM D N (tab (numModes D N) ((E0step E)^[n] (specFun D N (rollND D N u s))))
      = rollND D N (irfftnM D N (tab (numModes D N) ((E0step E)^[n] (specFun D N u)))) s := by
  rw [specFun_rollND D N hN u s, E0step_phase_iterate, tab_phaseND_mul, irfftn_shiftSpecND D N hN]

theorem linStep_rollND (D N : ℕ) (hN : 0 < N) (E : ℕ → ℂ) (u : Array ℂ) (s : List ℤ) :
    linStep D N E (rollND D N u s) = rollND D N (linStep D N E u) s :=
  E0step_rollND D N hN E 1 u s

/-- source index of entry `j` of the reflected field: every digit `j_d ↦ (−j_d) mod N` -/
def reflIdx (D N : ℕ) (j : ℕ) : ℕ := digitMap D N (fun _ => reflDigit N) j

/-- the reflected field `u(−x)`: `reflect(u)[j₀,…] = u[(−j₀) mod N, …]` -/
def reflect (D N : ℕ) (u : Array ℂ) : Array ℂ :=
  tab (N ^ D) (fun j => u.getD (reflIdx D N j) 0)

noncomputable def conjSpec (D N : ℕ) (c : Array ℂ) : Array ℂ :=
  tab (numModes D N) (fun h => (starRingEnd ℂ) (c.getD h 0))

@[simp] theorem reflect_size (D N : ℕ) (u : Array ℂ) : (reflect D N u).size = N ^ D := by
  simp [reflect]

@[simp] theorem conjSpec_size (D N : ℕ) (c : Array ℂ) : (conjSpec D N c).size = numModes D N := by
  simp [conjSpec]

theorem conjSpec_getD (D N : ℕ) (c : Array ℂ) (h : ℕ) (hh : h < numModes D N) :
    (conjSpec D N c).getD h 0 = (starRingEnd ℂ) (c.getD h 0) := by
  rw [conjSpec, DFT.tab_getD _ _ _ _ hh]

theorem reflIdx_lt (D N : ℕ) (hN : 0 < N) (j : ℕ) : reflIdx D N j < N ^ D :=
  digitMap_lt D N hN _ (fun _ _ x _ => reflDigit_lt N hN x) j

theorem digit_reflIdx (D N : ℕ) (hN : 0 < N) (j d : ℕ) (hd : d < D) :
    digit D N (reflIdx D N j) d = (N - digit D N j d) % N :=
  digit_digitMap D N hN _ (fun _ _ x _ => reflDigit_lt N hN x) j d hd

theorem reflIdx_reflIdx (D N : ℕ) (hN : 0 < N) (j : ℕ) (hj : j < N ^ D) :
    reflIdx D N (reflIdx D N j) = j :=
  digitMap_inv D N hN _ _ (fun _ _ x _ => reflDigit_lt N hN x)
    (fun _ _ x hx => reflDigit_inv N x hx) j hj

theorem reflect_getD (D N : ℕ) (u : Array ℂ) (j : ℕ) (hj : j < N ^ D) :
    (reflect D N u).getD j 0 = u.getD (reflIdx D N j) 0 := by
  rw [reflect, DFT.tab_getD _ _ _ _ hj]

theorem reflect_one_getD (N : ℕ) (u : Array ℂ) (j : ℕ) (hj : j < N) :
    (reflect 1 N u).getD j 0 = u.getD ((N - j) % N) 0 := by
  rw [reflect_getD 1 N u j (by simpa using hj)]
  congr 1
  simp [reflIdx, digitMap, ofDigits, reflDigit, digit, Nat.mod_eq_of_lt hj]

theorem phaseK_reflIdx_modEq (D N : ℕ) (hN : 0 < N) (k : List ℤ) (j : ℕ) :
    phaseK D N k (reflIdx D N j) ≡ -(phaseK D N k j) [ZMOD (N : ℤ)] := by
  unfold reflIdx
  rw [phaseK_digitMap D N hN _ (fun _ _ x _ => reflDigit_lt N hN x), phaseK_eq_sum,
    ← Finset.sum_neg_distrib]
  refine Int.ModEq.sum fun d _ => ?_
  rw [← mul_neg]
  exact (reflDigit_modEq N _ (digit_lt D N j d hN)).mul_left _

/-- the transform of the reflected field, any complex `u`: the conjugate DFT kernel -/
theorem rfftn_reflect_sum (D N : ℕ) (hN : 0 < N) (u : Array ℂ) (h : ℕ) (hh : h < numModes D N) :
    (rfftnM D N (reflect D N u)).getD h 0
      = ∑ j ∈ range (N ^ D), u.getD j 0 * twiddle N (-(phaseK D N (wnFlat D N h) j)) := by
  rw [rfftnM_getD D N hN _ h hh]
  rw [← sum_digitMap D N hN (fun _ => reflDigit N) (fun _ => reflDigit N)
    (fun _ _ x _ => reflDigit_lt N hN x) (fun _ _ x _ => reflDigit_lt N hN x)
    (fun _ _ x hx => reflDigit_inv N x hx) (fun _ _ x hx => reflDigit_inv N x hx)
    (fun j => u.getD j 0 * twiddle N (-(phaseK D N (wnFlat D N h) j)))]
  apply Finset.sum_congr rfl
  intro j hj
  rw [reflect_getD D N u j (Finset.mem_range.mp hj)]
  change u.getD (reflIdx D N j) 0 * twiddle N (phaseK D N (wnFlat D N h) j)
    = u.getD (reflIdx D N j) 0 * twiddle N (-(phaseK D N (wnFlat D N h) (reflIdx D N j)))
  congr 1
  apply twiddle_congr
  have := (phaseK_reflIdx_modEq D N hN (wnFlat D N h) j).neg
  rw [neg_neg] at this
  exact this.symm

theorem rfftn_reflect_conj (D N : ℕ) (hN : 0 < N) (u : Array ℂ) (h : ℕ) (hh : h < numModes D N) :
    (rfftnM D N (reflect D N u)).getD h 0
      = (starRingEnd ℂ) ((rfftnM D N (tab (N ^ D) fun j => (starRingEnd ℂ) (u.getD j 0))).getD h 0) := by
  rw [rfftn_reflect_sum D N hN u h hh, rfftnM_getD D N hN _ h hh, map_sum]
  apply Finset.sum_congr rfl
  intro j hj
  rw [DFT.tab_getD _ _ _ _ (Finset.mem_range.mp hj), map_mul, Complex.conj_conj, conj_twiddle]

/-- For a REAL field, reflecting `x ↦ −x` conjugates every stored mode. -/
theorem rfftn_reflect (D N : ℕ) (hN : 0 < N) (u : Array ℂ)
    (hu : ∀ j < N ^ D, (u.getD j 0).im = 0) (h : ℕ) (hh : h < numModes D N) :
    (rfftnM D N (reflect D N u)).getD h 0 = (starRingEnd ℂ) ((rfftnM D N u).getD h 0) := by
  rw [rfftn_reflect_sum D N hN u h hh, rfftnM_getD D N hN _ h hh, map_sum]
  apply Finset.sum_congr rfl
  intro j hj
  rw [map_mul, Complex.conj_eq_iff_im.mpr (hu j (Finset.mem_range.mp hj)), conj_twiddle]

theorem rfftn_reflect_array (D N : ℕ) (hN : 0 < N) (u : Array ℂ)
    (hu : ∀ j < N ^ D, (u.getD j 0).im = 0) :
    rfftnM D N (reflect D N u) = conjSpec D N (rfftnM D N u) := by
  apply array_ext_getD _ _ (numModes D N) (by simp) (by simp)
  intro h hh
  rw [rfftn_reflect D N hN u hu h hh, conjSpec_getD D N _ h hh]

/-- For ANY stored half spectrum `c`, conjugating every mode before
    the c2r transform reflects the result. -/
theorem irfftn_conjSpec_getD (D N : ℕ) (hN : 0 < N) (c : Array ℂ) (j : ℕ) (hj : j < N ^ D) :
    (irfftnM D N (conjSpec D N c)).getD j 0 = (reflect D N (irfftnM D N c)).getD j 0 := by
  rw [reflect_getD D N _ j hj, irfftnM_getD D N hN _ j hj,
    irfftnM_getD D N hN _ _ (reflIdx_lt D N hN j)]
  congr 1
  apply Finset.sum_congr rfl
  intro h hh
  have hh' := Finset.mem_range.mp hh
  have key : (conjSpec D N c).getD h 0 * twiddle N (-(phaseK D N (wnFlat D N h) j))
      = (starRingEnd ℂ) (c.getD h 0 * twiddle N (-(phaseK D N (wnFlat D N h) (reflIdx D N j)))) := by
    rw [conjSpec_getD D N c h hh', map_mul, conj_twiddle, neg_neg]
    congr 1
    apply twiddle_congr
    exact (phaseK_reflIdx_modEq D N hN (wnFlat D N h) j).symm
  rw [key, Complex.conj_re]

theorem irfftn_conjSpec (D N : ℕ) (hN : 0 < N) (c : Array ℂ) :
    irfftnM D N (conjSpec D N c) = reflect D N (irfftnM D N c) := by
  apply array_ext_getD _ _ (N ^ D) (by simp) (by simp)
  intro j hj
  exact irfftn_conjSpec_getD D N hN c j hj

theorem linStep_im (D N : ℕ) (E : ℕ → ℂ) (u : Array ℂ) (j : ℕ) : ((linStep D N E u).getD j 0).im = 0 :=
  irfftnM_im D N _ j

theorem E0step_reflect (D N : ℕ) (hN : 0 < N) (E E' : ℕ → ℂ)
    (hE : ∀ h < numModes D N, E' h = (starRingEnd ℂ) (E h)) (n : ℕ) (u : Array ℂ)
    (hu : ∀ j < N ^ D, (u.getD j 0).im = 0) :
    irfftnM D N (tab (numModes D N) ((E0step E')^[n] (specFun D N (reflect D N u))))
      = reflect D N (irfftnM D N (tab (numModes D N) ((E0step E)^[n] (specFun D N u)))) := by
  rw [← irfftn_conjSpec D N hN]
  congr 1
  unfold conjSpec
  apply DFT.tab_congr
  intro h hh
  rw [DFT.tab_getD _ _ _ _ hh]
  have hit : ∀ (F v : ℕ → ℂ) (m : ℕ), ((E0step F)^[m] v) h = F h ^ m * v h := by
    intro F v m
    induction m generalizing v with
    | zero => simp
    | succ m ihm =>
      rw [Function.iterate_succ_apply, ihm]
      simp only [E0step, Pi.mul_apply]
      ring
  rw [hit, hit, map_mul, map_pow, hE h hh]
  simp only [specFun]
  rw [rfftn_reflect D N hN u hu h hh]

/-- the reflection maps the diagonal stepper with multiplier `E` to the one with `conj E`
    (advection with velocity `c`, `E = e^{-i c k·dt}`, to velocity `−c`); real `u` -/
theorem linStep_reflect (D N : ℕ) (hN : 0 < N) (E E' : ℕ → ℂ)
    (hE : ∀ h < numModes D N, E' h = (starRingEnd ℂ) (E h)) (u : Array ℂ)
    (hu : ∀ j < N ^ D, (u.getD j 0).im = 0) :
    linStep D N E' (reflect D N u) = reflect D N (linStep D N E u) :=
  E0step_reflect D N hN E E' hE 1 u hu

/-- even-order operators: a REAL multiplier (diffusion, hyper-diffusion, any `E` built
    from an even symbol) gives a stepper that commutes with the reflection, real `u`. -/
theorem linStep_reflect_real (D N : ℕ) (hN : 0 < N) (E : ℕ → ℂ)
    (hE : ∀ h < numModes D N, (E h).im = 0) (u : Array ℂ)
    (hu : ∀ j < N ^ D, (u.getD j 0).im = 0) :
    linStep D N E (reflect D N u) = reflect D N (linStep D N E u) :=
  linStep_reflect D N hN E E (fun h hh => (Complex.conj_eq_iff_im.mpr (hE h hh)).symm) u hu

theorem reflect_im (D N : ℕ) (hN : 0 < N) (u : Array ℂ) (hu : ∀ j < N ^ D, (u.getD j 0).im = 0)
    (j : ℕ) (hj : j < N ^ D) : ((reflect D N u).getD j 0).im = 0 := by
  rw [reflect_getD D N u j hj]
  exact hu _ (reflIdx_lt D N hN j)

theorem linStep_iterate_reflect (D N : ℕ) (hN : 0 < N) (E E' : ℕ → ℂ)
    (hE : ∀ h < numModes D N, E' h = (starRingEnd ℂ) (E h)) (n : ℕ) (u : Array ℂ)
    (hu : ∀ j < N ^ D, (u.getD j 0).im = 0) :
    (linStep D N E')^[n] (reflect D N u) = reflect D N ((linStep D N E)^[n] u) := by
  induction n generalizing u with
  | zero => rfl
  | succ n ih =>
    rw [Function.iterate_succ_apply, Function.iterate_succ_apply,
      linStep_reflect D N hN E E' hE u hu, ih _ (fun j _ => linStep_im D N E u j)]

/-! ### one dimension

The 1-D notions of `Symmetry.lean` are the case `D = 1`, shift vector `[s]`. -/

theorem shiftPhaseND_one (N : ℕ) (s : ℤ) (h : ℕ) : shiftPhaseND 1 N [s] h = shiftPhase N s h := by
  simp [shiftPhaseND, shiftPhase, dotKS, wnFlat_one]

theorem shiftSpecND_one (N : ℕ) (s : ℤ) (c : Array ℂ) : shiftSpecND 1 N [s] c = shiftSpec N s c := by
  unfold shiftSpecND shiftSpec
  rw [numModes_one]
  exact DFT.tab_congr _ _ _ (fun h _ => by rw [shiftPhaseND_one])

example : ∃ (D N h : ℕ), 0 < N ∧ h < numModes D N := ⟨2, 4, 5, by norm_num, by decide⟩
example : ∃ (D N h : ℕ), 0 < N ∧ h < numModes D N := ⟨3, 3, 17, by norm_num, by decide⟩

example : ∃ (D N j : ℕ), 0 < D ∧ 0 < N ∧ j < N ^ D := ⟨2, 4, 7, by norm_num, by norm_num, by norm_num⟩

/-- a real field exists on every grid -/
example (D N : ℕ) : ∃ u : Array ℂ, u.size = N ^ D ∧ ∀ j < N ^ D, (u.getD j 0).im = 0 :=
  ⟨tab (N ^ D) (fun _ => 1), by simp, fun j hj => by rw [DFT.tab_getD _ _ _ _ hj]; simp⟩

/-- multiplier pairs `E' = conj E` exist (and real multipliers exist) -/
example (D N : ℕ) : ∃ E E' : ℕ → ℂ, (∀ h < numModes D N, E' h = (starRingEnd ℂ) (E h)) ∧
    ¬ (∀ h, (E h).im = 0) :=
  ⟨fun _ => Complex.I, fun _ => -Complex.I, fun _ _ => by simp, fun h => by simpa using h 0⟩

example (D N : ℕ) : ∃ E : ℕ → ℂ, ∀ h < numModes D N, (E h).im = 0 := ⟨fun _ => 2, fun _ _ => by simp⟩

end Exponax.SymmetryND

namespace Exponax.DFT
open Exponax Exponax.Layout Exponax.Transform Finset

theorem rfft_roll_1d (N : ℕ) (hN : 0 < N) (u : Array ℂ) (s : ℤ) (h : ℕ) (hh : h ≤ N / 2) :
    (rfftnM 1 N (roll N u s)).getD h 0 = twiddle N ((h : ℤ) * s) * (rfftnM 1 N u).getD h 0 := by
  have := SymmetryND.rfftn_rollND 1 N hN u [s] h (by rw [numModes_one]; omega)
  rwa [SymmetryND.rollND_one, ← SymmetryND.shiftPhaseND, SymmetryND.shiftPhaseND_one] at this

theorem roll_nat_index (N j s : ℕ) (hN : 0 < N) :
    (((j : ℤ) - (s : ℤ)) % (N : ℤ)).toNat = (j + (N - s % N)) % N := by
  have hNz : (N : ℤ) ≠ 0 := by exact_mod_cast hN.ne'
  apply Int.ofNat_inj.mp
  rw [Int.toNat_of_nonneg (Int.emod_nonneg _ hNz)]
  push_cast [Nat.cast_sub (Nat.mod_lt s hN).le]
  have h1 := Int.emod_add_mul_ediv (s : ℤ) (N : ℤ)
  have : (j : ℤ) + ((N : ℤ) - (s : ℤ) % (N : ℤ)) = ((j : ℤ) - (s : ℤ)) + (N : ℤ) * (1 + (s : ℤ) / (N : ℤ)) := by
    linear_combination -h1
  rw [this, Int.add_mul_emod_self_left]

theorem rfft_roll_1d_nat (N : ℕ) (hN : 0 < N) (u : Array ℂ) (s h : ℕ) (hh : h ≤ N / 2) :
    (rfftnM 1 N (tab N (fun j => u.getD ((j + (N - s % N)) % N) 0))).getD h 0
      = twiddle N ((h : ℤ) * (s : ℤ)) * (rfftnM 1 N u).getD h 0 := by
  rw [← rfft_roll_1d N hN u (s : ℤ) h hh, roll]
  simp only [roll_nat_index N _ s hN]

end Exponax.DFT

namespace Exponax.Symmetry
open Exponax Exponax.Transform Exponax.DFT Exponax.SymmetryND

theorem rfft_roll_fun (N : ℕ) (hN : 0 < N) (u : Array ℂ) (s : ℤ) :
    (fun h => (rfftnM 1 N (roll N u s)).getD h 0)
      = (fun h => shiftPhase N s h) * (fun h => (rfftnM 1 N u).getD h 0) := by
  have := specFun_rollND 1 N hN u [s]
  rwa [rollND_one, funext (shiftPhaseND_one N s)] at this

theorem tab_phase_mul (N : ℕ) (s : ℤ) (v : ℕ → ℂ) :
    tab (N / 2 + 1) ((fun h => shiftPhase N s h) * v) = shiftSpec N s (tab (N / 2 + 1) v) := by
  have := tab_phaseND_mul 1 N [s] v
  rwa [numModes_one, funext (shiftPhaseND_one N s), shiftSpecND_one] at this

open Exponax.Nonlin in
/-- a term that commutes with the shift phases (`hT`) satisfies the hypothesis of the `E?step_phase` lemmas -/
theorem liftTerm_phase (N : ℕ) (s : ℤ) (T : MC ℂ → MC ℂ)
    (hT : ∀ (uh : Array ℂ) (h : ℕ), h ≤ N / 2 →
      at2 (T #[shiftSpec N s uh]) 0 h = shiftPhase N s h * at2 (T #[uh]) 0 h) (v : ℕ → ℂ) :
    liftTerm N T ((fun h => shiftPhase N s h) * v) = (fun h => shiftPhase N s h) * liftTerm N T v := by
  funext h
  simp only [liftTerm, Pi.mul_apply]
  split_ifs with hh
  · rw [tab_phase_mul, hT _ h hh]
  · rw [mul_zero]

/-- the 1-D inverse shift theorem: for ANY stored half spectrum `c` (Hermitian or not, any
    imaginary parts in the DC / Nyquist entries), multiplying mode `h` by `e^{-2πi h s/N}` before the
    c2r transform rolls the result by `s`; every `N`, odd or even. -/
theorem irfft_shiftSpec (N : ℕ) (c : Array ℂ) (s : ℤ) :
    irfftnM 1 N (shiftSpec N s c) = roll N (irfftnM 1 N c) s := by
  rcases Nat.eq_zero_or_pos N with rfl | hN
  · exact array_ext_getD _ _ 0 (by simp) (by simp) (fun j hj => absurd hj (Nat.not_lt_zero j))
  · rw [← shiftSpecND_one, irfftn_shiftSpecND 1 N hN, rollND_one]

theorem irfft_rfft_roll (N : ℕ) (hN : 0 < N) (u : Array ℂ) (hu : ∀ j < N, (u.getD j 0).im = 0)
    (s : ℤ) (j : ℕ) (hj : j < N) :
    (irfftnM 1 N (shiftSpec N s (rfftnM 1 N u))).getD j 0 = (roll N u s).getD j 0 := by
  rw [← shiftSpecND_one, ← rollND_one]
  exact irfftn_rfftn_rollND 1 N Nat.one_pos hN u (by rwa [pow_one]) [s] j (by rwa [pow_one])

end Exponax.Symmetry
