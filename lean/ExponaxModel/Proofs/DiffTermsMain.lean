import ExponaxModel.Proofs.DiffTermsSpace
import ExponaxModel.Proofs.DiffTermsMore
import ExponaxModel.Proofs.Differentiability
/-
C07 support: for the terms `T` of `Model/Nonlin.lean` (`convection`, `gradientNorm`, `vorticity2d`, `polynomial`,
`general`, `projected3d`, `cahnHilliard`, `reaction` with Gray–Scott and BZ kinetics), functions `MC ℂ → MC ℂ` on
multi-channel spectra: `T` carries every `FunAlg₂` relation with tangent `TJvp` (`T_termCalc`), hence
`irfftn ∘ T ∘ rfftn : Phys C G → Phys C' G` is `ContDiff ℝ n` for every `n`, with Fréchet derivative
`v ↦ irfftn (TJvp (rfftn u) (rfftn v))`; for `convection`, `gradientNorm`, `vorticity2d` also `T` on stored spectra
(`T_spec_contDiff`).  `leray` is linear (`leray_termLin`) and is its own derivative.  `TJvp` (`DiffTermsConv`,
`DiffTermsMore`) is the term's pipeline with the product rule at the pointwise products.
-/
namespace Exponax.DiffTerms
open Exponax Exponax.Transform Exponax.Nonlin

theorem convection_termCalc (c : Cfg ℂ) (C : ℕ) (scale : ℂ) (single conservative : Bool) :
    TermCalc (convection c C scale single conservative) (convectionJvp c C scale single conservative) :=
  ⟨fun _ _ hR _ _ hf => convection_rel hR c C scale single conservative hf⟩

theorem convection_spec_contDiff (c : Cfg ℂ) (C C' : ℕ) (scale : ℂ) (single conservative : Bool) (n : WithTop ℕ∞) :
    ContDiff ℝ n (specMap c C C' (convection c C scale single conservative)) :=
  (convection_termCalc c C scale single conservative).specMap_contDiff c C C' n

theorem convection_phys_hasFDerivAt (c : Cfg ℂ) (C C' : ℕ) (scale : ℂ) (single conservative : Bool)
    (u : Phys C (gridSize c)) :
    ∃ L : Phys C (gridSize c) →L[ℝ] Phys C' (gridSize c),
      HasFDerivAt (physMap c C C' (convection c C scale single conservative)) L u ∧
      ∀ v, L v = physJvp c C C' (convectionJvp c C scale single conservative) u v :=
  (convection_termCalc c C scale single conservative).physMap_hasFDerivAt c C C' u

theorem convection_phys_fderiv (c : Cfg ℂ) (C C' : ℕ) (scale : ℂ) (single conservative : Bool)
    (u v : Phys C (gridSize c)) :
    fderiv ℝ (physMap c C C' (convection c C scale single conservative)) u v
      = physJvp c C C' (convectionJvp c C scale single conservative) u v :=
  (convection_termCalc c C scale single conservative).physMap_fderiv c C C' u v

theorem convection_spec_hasFDerivAt (c : Cfg ℂ) (C C' : ℕ) (scale : ℂ) (single conservative : Bool)
    (x : Spec C (modes c)) :
    ∃ L : Spec C (modes c) →L[ℝ] Spec C' (modes c),
      HasFDerivAt (specMap c C C' (convection c C scale single conservative)) L x ∧
      ∀ v, L v = specJvp c C C' (convectionJvp c C scale single conservative) x v :=
  (convection_termCalc c C scale single conservative).specMap_hasFDerivAt c C C' x

/-- the tangent, written out: single channel, non-conservative — `−b · P(Σ_d u ∂_d v + v ∂_d u)` -/
theorem convectionJvp_single_nc (c : Cfg ℂ) (C : ℕ) (scale : ℂ) (uh vh : MC ℂ) :
    convectionJvp c C scale true false uh vh
      = tab2 1 (modes c) (fun _ h => -scale * (nfft c (tab (gridSize c) (fun j =>
          sumList ((List.range c.D).map (fun d =>
            at2 (tabC C (fun ch => nifft c (uh.getD ch #[]))) 0 j *
              at2 (tabC c.D (fun d => nifft c (tab (modes c) (fun h => deriv c d h * at2 vh 0 h)))) d j +
            at2 (tabC C (fun ch => nifft c (vh.getD ch #[]))) 0 j *
              at2 (tabC c.D (fun d => nifft c (tab (modes c) (fun h => deriv c d h * at2 uh 0 h)))) d j))))).getD h 0) := by
  simp only [convectionJvp, Bool.false_eq_true, if_false, if_true]

/-- the tangent, written out: single channel, conservative — `−b/2 · (Σ_d ∂_d) P(u v + v u)` -/
theorem convectionJvp_single_cons (c : Cfg ℂ) (C : ℕ) (scale : ℂ) (uh vh : MC ℂ) :
    convectionJvp c C scale true true uh vh
      = tab2 C (modes c) (fun ch h => -scale * (qlit 1 2 * sumList ((List.range c.D).map (fun d => deriv c d h)) *
          at2 (tabC C (fun ch => nfft c (tab (gridSize c) (fun j =>
            at2 (tabC C (fun ch => nifft c (uh.getD ch #[]))) ch j * at2 (tabC C (fun ch => nifft c (vh.getD ch #[]))) ch j +
            at2 (tabC C (fun ch => nifft c (vh.getD ch #[]))) ch j * at2 (tabC C (fun ch => nifft c (uh.getD ch #[]))) ch j))))
            ch h)) := by
  simp only [convectionJvp, if_true]

theorem gradientNorm_termCalc (c : Cfg ℂ) (C : ℕ) (scale : ℂ) (zeroFix : Bool) :
    TermCalc (gradientNorm c C scale zeroFix) (gradientNormJvp c C scale zeroFix) :=
  ⟨fun _ _ hR _ _ hf => gradientNorm_rel hR c C scale zeroFix hf⟩

theorem gradientNorm_spec_contDiff (c : Cfg ℂ) (C C' : ℕ) (scale : ℂ) (zeroFix : Bool) (n : WithTop ℕ∞) :
    ContDiff ℝ n (specMap c C C' (gradientNorm c C scale zeroFix)) :=
  (gradientNorm_termCalc c C scale zeroFix).specMap_contDiff c C C' n

theorem gradientNorm_phys_hasFDerivAt (c : Cfg ℂ) (C C' : ℕ) (scale : ℂ) (zeroFix : Bool) (u : Phys C (gridSize c)) :
    ∃ L : Phys C (gridSize c) →L[ℝ] Phys C' (gridSize c),
      HasFDerivAt (physMap c C C' (gradientNorm c C scale zeroFix)) L u ∧
      ∀ v, L v = physJvp c C C' (gradientNormJvp c C scale zeroFix) u v :=
  (gradientNorm_termCalc c C scale zeroFix).physMap_hasFDerivAt c C C' u

theorem gradientNorm_phys_fderiv (c : Cfg ℂ) (C C' : ℕ) (scale : ℂ) (zeroFix : Bool) (u v : Phys C (gridSize c)) :
    fderiv ℝ (physMap c C C' (gradientNorm c C scale zeroFix)) u v
      = physJvp c C C' (gradientNormJvp c C scale zeroFix) u v :=
  (gradientNorm_termCalc c C scale zeroFix).physMap_fderiv c C C' u v

theorem gradientNorm_spec_hasFDerivAt (c : Cfg ℂ) (C C' : ℕ) (scale : ℂ) (zeroFix : Bool) (x : Spec C (modes c)) :
    ∃ L : Spec C (modes c) →L[ℝ] Spec C' (modes c),
      HasFDerivAt (specMap c C C' (gradientNorm c C scale zeroFix)) L x ∧
      ∀ v, L v = specJvp c C C' (gradientNormJvp c C scale zeroFix) x v :=
  (gradientNorm_termCalc c C scale zeroFix).specMap_hasFDerivAt c C C' x

theorem vorticity2d_termCalc (c : Cfg ℂ) (scale : ℂ) (inj : Option (ℕ × ℂ)) :
    TermCalc (vorticity2d c scale inj) (vorticity2dJvp c scale) :=
  ⟨fun _ _ hR _ _ hf => vorticity2d_rel hR c scale inj hf⟩

theorem vorticity2d_spec_contDiff (c : Cfg ℂ) (C C' : ℕ) (scale : ℂ) (inj : Option (ℕ × ℂ)) (n : WithTop ℕ∞) :
    ContDiff ℝ n (specMap c C C' (vorticity2d c scale inj)) :=
  (vorticity2d_termCalc c scale inj).specMap_contDiff c C C' n

/-- `DF(u)[v] = −b · P(u[ω]·∇dω + u[dω]·∇ω)`; the injection is a constant -/
theorem vorticity2d_phys_hasFDerivAt (c : Cfg ℂ) (C C' : ℕ) (scale : ℂ) (inj : Option (ℕ × ℂ)) (u : Phys C (gridSize c)) :
    ∃ L : Phys C (gridSize c) →L[ℝ] Phys C' (gridSize c),
      HasFDerivAt (physMap c C C' (vorticity2d c scale inj)) L u ∧
      ∀ v, L v = physJvp c C C' (vorticity2dJvp c scale) u v :=
  (vorticity2d_termCalc c scale inj).physMap_hasFDerivAt c C C' u

theorem vorticity2d_spec_hasFDerivAt (c : Cfg ℂ) (C C' : ℕ) (scale : ℂ) (inj : Option (ℕ × ℂ)) (x : Spec C (modes c)) :
    ∃ L : Spec C (modes c) →L[ℝ] Spec C' (modes c),
      HasFDerivAt (specMap c C C' (vorticity2d c scale inj)) L x ∧
      ∀ v, L v = specJvp c C C' (vorticity2dJvp c scale) x v :=
  (vorticity2d_termCalc c scale inj).specMap_hasFDerivAt c C C' x

theorem polynomial_termCalc (c : Cfg ℂ) (C : ℕ) (coeffs : List ℂ) :
    TermCalc (polynomial c C coeffs) (polynomialJvp c C coeffs) :=
  ⟨fun _ _ hR _ _ hf => polynomial_rel hR c C coeffs hf⟩

theorem polynomial_phys_contDiff (c : Cfg ℂ) (C C' : ℕ) (coeffs : List ℂ) (n : WithTop ℕ∞) :
    ContDiff ℝ n (physMap c C C' (polynomial c C coeffs)) :=
  (polynomial_termCalc c C coeffs).physMap_contDiff c C C' n

theorem polynomial_phys_hasFDerivAt (c : Cfg ℂ) (C C' : ℕ) (coeffs : List ℂ) (u : Phys C (gridSize c)) :
    ∃ L : Phys C (gridSize c) →L[ℝ] Phys C' (gridSize c),
      HasFDerivAt (physMap c C C' (polynomial c C coeffs)) L u ∧
      ∀ v, L v = physJvp c C C' (polynomialJvp c C coeffs) u v :=
  (polynomial_termCalc c C coeffs).physMap_hasFDerivAt c C C' u

theorem polyEvalJvp_eq (cs : List ℂ) (u du : ℂ) : polyEvalJvp cs u du = Diff.polyDeriv cs u * du := by
  have h := polyEval_rel (funAlg₂_hasFD u) cs (HasFD.of_clm u (ContinuousLinearMap.id ℝ ℂ))
  obtain ⟨L, hL, hv⟩ := h
  have h2 : HasFDerivAt (polyEval cs) ((ContinuousLinearMap.toSpanSingleton ℂ (Diff.polyDeriv cs u)).restrictScalars ℝ) u :=
    (Diff.polyEval_hasDerivAt cs u).hasFDerivAt.restrictScalars ℝ
  have e := hL.unique h2
  have := hv du
  simp only [ContinuousLinearMap.id_apply] at this
  rw [← this, e]
  simp [mul_comm]

theorem general_termCalc (c : Cfg ℂ) (C : ℕ) (s0 s1 s2 : ℂ) (zeroFix : Bool) :
    TermCalc (general c C s0 s1 s2 zeroFix) (generalJvp c C s0 s1 s2 zeroFix) :=
  ⟨fun _ _ hR _ _ hf => general_rel hR c C s0 s1 s2 zeroFix hf⟩

theorem general_phys_hasFDerivAt (c : Cfg ℂ) (C C' : ℕ) (s0 s1 s2 : ℂ) (zeroFix : Bool) (u : Phys C (gridSize c)) :
    ∃ L : Phys C (gridSize c) →L[ℝ] Phys C' (gridSize c),
      HasFDerivAt (physMap c C C' (general c C s0 s1 s2 zeroFix)) L u ∧
      ∀ v, L v = physJvp c C C' (generalJvp c C s0 s1 s2 zeroFix) u v :=
  (general_termCalc c C s0 s1 s2 zeroFix).physMap_hasFDerivAt c C C' u

theorem leray_termLin (c : Cfg ℂ) : TermLin (leray c) :=
  ⟨fun _ hM _ _ hf => leray_rel hM c hf⟩

theorem leray_phys_fderiv (c : Cfg ℂ) (C C' : ℕ) (u v : Phys C (gridSize c)) :
    fderiv ℝ (physMap c C C' (leray c)) u v = physMap c C C' (leray c) v :=
  (leray_termLin c).physMap_fderiv c C C' u v

theorem projected3d_termCalc (c : Cfg ℂ) (inj : Option (ℕ × ℂ)) : TermCalc (projected3d c inj) (projected3dJvp c) :=
  ⟨fun _ _ hR _ _ hf => projected3d_rel hR c inj hf⟩

theorem projected3d_phys_hasFDerivAt (c : Cfg ℂ) (C C' : ℕ) (inj : Option (ℕ × ℂ)) (u : Phys C (gridSize c)) :
    ∃ L : Phys C (gridSize c) →L[ℝ] Phys C' (gridSize c),
      HasFDerivAt (physMap c C C' (projected3d c inj)) L u ∧ ∀ v, L v = physJvp c C C' (projected3dJvp c) u v :=
  (projected3d_termCalc c inj).physMap_hasFDerivAt c C C' u

theorem cahnHilliard_termCalc (c : Cfg ℂ) (scale : ℂ) : TermCalc (cahnHilliard c scale) (cahnHilliardJvp c scale) :=
  ⟨fun _ _ hR _ _ hf => cahnHilliard_rel hR c scale hf⟩

theorem cahnHilliard_phys_hasFDerivAt (c : Cfg ℂ) (C C' : ℕ) (scale : ℂ) (u : Phys C (gridSize c)) :
    ∃ L : Phys C (gridSize c) →L[ℝ] Phys C' (gridSize c),
      HasFDerivAt (physMap c C C' (cahnHilliard c scale)) L u ∧
      ∀ v, L v = physJvp c C C' (cahnHilliardJvp c scale) u v :=
  (cahnHilliard_termCalc c scale).physMap_hasFDerivAt c C C' u

theorem reaction_termCalc (c : Cfg ℂ) (C : ℕ) {react : List ℂ → List ℂ} {reactJ : List ℂ → List ℂ → List ℂ}
    (h : ReactCalc C react reactJ) : TermCalc (reaction c C react) (reactionJvp c C reactJ) :=
  ⟨fun _ _ hR _ _ hf => reaction_rel hR c C h hf⟩

theorem reaction_grayScott_phys_hasFDerivAt (c : Cfg ℂ) (C C' : ℕ) (feed kill : ℂ) (u : Phys C (gridSize c)) :
    ∃ L : Phys C (gridSize c) →L[ℝ] Phys C' (gridSize c),
      HasFDerivAt (physMap c C C' (reaction c C (grayScottReact feed kill))) L u ∧
      ∀ v, L v = physJvp c C C' (reactionJvp c C (grayScottReactJvp feed kill)) u v :=
  (reaction_termCalc c C (grayScott_reactCalc C feed kill)).physMap_hasFDerivAt c C C' u

theorem reaction_bz_phys_contDiff (c : Cfg ℂ) (C C' : ℕ) (n : WithTop ℕ∞) :
    ContDiff ℝ n (physMap c C C' (reaction c C bzReact)) :=
  (reaction_termCalc c C (bz_reactCalc C)).physMap_contDiff c C C' n

theorem reaction_bz_phys_hasFDerivAt (c : Cfg ℂ) (C C' : ℕ) (u : Phys C (gridSize c)) :
    ∃ L : Phys C (gridSize c) →L[ℝ] Phys C' (gridSize c),
      HasFDerivAt (physMap c C C' (reaction c C bzReact)) L u ∧
      ∀ v, L v = physJvp c C C' (reactionJvp c C bzReactJvp) u v :=
  (reaction_termCalc c C (bz_reactCalc C)).physMap_hasFDerivAt c C C' u

end Exponax.DiffTerms
