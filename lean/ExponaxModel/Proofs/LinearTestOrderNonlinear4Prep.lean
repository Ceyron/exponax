import ExponaxModel.Proofs.LinearTestOrderNonlinear3
/-
C02 support for ETDRK4 with a nonlinear term: the defect `etd_defectV` at `n = 4` written out, the third-order Taylor
bound from Lipschitz derivatives, the φ-identities behind the order conditions, and the constants.
-/
noncomputable section
namespace Exponax.LinearOrder
open Exponax Exponax.Spec Exponax.ContourTail Exponax.Gen.Etdrk

/-- `etd_defectV` at `n = 4`, written out with `phi1e, phi2e, phi3e`, `phiE 4` -/
theorem etd_defectV4 {ι : Type} [Fintype ι] (l : ι → ℂ) (ω G T : ℝ) (u f : ℝ → ι → ℂ) (hω : 0 ≤ ω)
    (hl : ∀ k, (l k).re ≤ ω) (hu : ∀ t ∈ Set.Icc (0 : ℝ) T, HasDerivAt u (l * u t + f t) t)
    (hf : ContinuousOn f (Set.Icc (0 : ℝ) T)) (d1 d2 d3 : ι → ℂ) (t : ℝ) (ht : 0 ≤ t) (hG : 0 ≤ G)
    (hTay : ∀ s : ℝ, 0 ≤ s → t + s ≤ T →
      ‖f (t + s) - f t - (s : ℂ) • d1 - ((s : ℂ) ^ 2 / 2) • d2 - ((s : ℂ) ^ 3 / 6) • d3‖ ≤ G * s ^ 4 / 24)
    (s : ℝ) (hs : 0 ≤ s) (hsT : t + s ≤ T) :
    ‖u (t + s) - ((fun k => Complex.exp (l k * s)) * u t + (s : ℂ) • (fun k => phi1e (l k * s)) * f t
        + ((s : ℂ) ^ 2) • (fun k => phi2e (l k * s)) * d1 + ((s : ℂ) ^ 3) • (fun k => phi3e (l k * s)) * d2
        + ((s : ℂ) ^ 4) • (fun k => phiE 4 (l k * s)) * d3)‖ ≤ Real.exp (ω * T) * G * s ^ 5 / 120 := by
  have h := etd_defectV 4 l ω G T u f hω hl hu hf
    (fun j => if j = 0 then f t else if j = 1 then d1 else if j = 2 then d2 else d3) t ht hG
    (fun s hs hsT => by
      simpa only [Finset.sum_range_succ, Finset.sum_range_zero, zero_add, pow_zero, pow_one,
        Nat.factorial, Nat.succ_eq_add_one, Nat.reduceAdd, Nat.reduceMul, Nat.cast_one, Nat.cast_ofNat,
        div_one, one_smul, mul_one, if_true, if_false, one_ne_zero, OfNat.ofNat_ne_zero, OfNat.ofNat_ne_one,
        Nat.reduceEqDiff, sub_add_eq_sub_sub] using hTay s hs hsT) s hs hsT
  simpa only [Finset.sum_range_succ, Finset.sum_range_zero, zero_add, pow_one, phiE_one, phiE_two, phiE_three,
    Nat.reduceAdd, Nat.factorial, Nat.succ_eq_add_one, Nat.reduceMul, Nat.cast_ofNat, if_true, if_false,
    one_ne_zero, OfNat.ofNat_ne_zero, OfNat.ofNat_ne_one, Nat.reduceEqDiff, add_assoc] using h

theorem taylor3_of_lipschitz_deriv (f f1 f2 f3 : ℝ → ℂ) (T G : ℝ)
    (hf : ∀ t ∈ Set.Icc (0 : ℝ) T, HasDerivAt f (f1 t) t)
    (hf1 : ∀ t ∈ Set.Icc (0 : ℝ) T, HasDerivAt f1 (f2 t) t)
    (hf2 : ∀ t ∈ Set.Icc (0 : ℝ) T, HasDerivAt f2 (f3 t) t)
    (hG : ∀ x ∈ Set.Icc (0 : ℝ) T, ∀ y ∈ Set.Icc (0 : ℝ) T, ‖f3 x - f3 y‖ ≤ G * |x - y|)
    (t s : ℝ) (ht : 0 ≤ t) (hs : 0 ≤ s) (hts : t + s ≤ T) :
    ‖f (t + s) - f t - (s : ℂ) * f1 t - (s : ℂ) ^ 2 / 2 * f2 t - (s : ℂ) ^ 3 / 6 * f3 t‖
      ≤ G * s ^ 4 / 24 := by
  have h := taylor_step f f1 (fun σ => f1 t + (σ : ℂ) * f2 t + (σ : ℂ) ^ 2 / 2 * f3 t)
    (fun σ => (σ : ℂ) * f1 t + (σ : ℂ) ^ 2 / 2 * f2 t + (σ : ℂ) ^ 3 / 6 * f3 t) 3 t s G
    (fun x hx => hf x ⟨ht.trans hx.1, hx.2.trans hts⟩)
    (fun σ => by
      have h1 := (hasDerivAt_ofReal σ).mul_const (f1 t)
      have h2 := (((hasDerivAt_ofReal σ).pow 2).div_const 2).mul_const (f2 t)
      have h3 := (((hasDerivAt_ofReal σ).pow 3).div_const 6).mul_const (f3 t)
      exact ((h1.add h2).add h3).congr_deriv (by push_cast; ring))
    (by simp)
    (fun σ hσ => by
      have := taylor2_of_lipschitz_deriv f1 f2 f3 T G hf1 hf2 hG t σ ht hσ.1 (by linarith [hσ.2])
      simpa only [sub_add_eq_sub_sub, Nat.factorial, Nat.succ_eq_add_one, Nat.reduceAdd, Nat.reduceMul,
        Nat.cast_ofNat] using this)
    s ⟨hs, le_rfl⟩
  simpa only [sub_add_eq_sub_sub, Nat.factorial, Nat.succ_eq_add_one, Nat.reduceAdd, Nat.reduceMul,
    Nat.cast_ofNat] using h

theorem phi1e_double (z : ℂ) : phi1e z = phi1e (z / 2) * (Complex.exp (z / 2) + 1) / 2 := by
  rcases eq_or_ne z 0 with rfl | hz
  · simp
  · have hz2 : z / 2 ≠ 0 := div_ne_zero hz (by norm_num)
    rw [phi1e_of_ne z hz, phi1e_of_ne _ hz2, phi1_closed, phi1_closed, ← exp_half_sq z]
    field_simp
    ring

theorem phi_q1_sub_2q2 (w : ℂ) : phi1e w - 2 * phi2e w - w / 6 = w ^ 2 * (phi3e w - 2 * phiE 4 w) := by
  have h1 := phiE_expand 1 2 w
  have h2 := phiE_expand 2 2 w
  rw [phiE_one, phiE_three] at h1
  rw [phiE_two] at h2
  norm_num [Finset.sum_range_succ, Nat.factorial] at h1 h2
  linear_combination h1 - 2 * h2

theorem phi_q1_sub_4q3 (w : ℂ) : phi1e w - 4 * phi3e w - 1 / 3 = w * (phi2e w - 4 * phiE 4 w) := by
  have h1 := phiE_succ 1 w
  have h3 := phiE_succ 3 w
  rw [phiE_one, phiE_two] at h1
  rw [phiE_three] at h3
  norm_num [Nat.factorial] at h1 h3
  linear_combination h1 - 4 * h3

theorem phi_c1 (z : ℂ) :
    phi1e (z / 2) / 2 - phi2e z + z / 24 = z ^ 2 * (phi3e (z / 2) / 8 - phiE 4 z) := by
  have h1 := phiE_expand 1 2 (z / 2)
  have h2 := phiE_expand 2 2 z
  rw [phiE_one, phiE_three] at h1
  rw [phiE_two] at h2
  norm_num [Finset.sum_range_succ, Nat.factorial] at h1 h2
  linear_combination (1 / 2) * h1 - h2

theorem phi_c2 (z : ℂ) :
    phi1e (z / 2) / 8 - phi3e z + 1 / 24 = z * (phi2e (z / 2) / 16 - phiE 4 z) := by
  have h1 := phiE_succ 1 (z / 2)
  have h3 := phiE_succ 3 z
  rw [phiE_one, phiE_two] at h1
  rw [phiE_three] at h3
  norm_num [Nat.factorial] at h1 h3
  linear_combination (1 / 8) * h1 - h3

/-- the quadrature defect of the final weights on the cubic term of `f` (`dQ` in `etd4_final`) carries a factor `z` -/
theorem phi_quad4 (w : ℂ) :
    -(phi2e w) / 12 + phi3e w / 2 - phiE 4 w = w * (-(phi3e w) / 12 + phiE 4 w / 2 - phiE 5 w) := by
  have h2 := phiE_succ 2 w
  have h3 := phiE_succ 3 w
  have h4 := phiE_succ 4 w
  rw [phiE_two, phiE_three] at h2
  rw [phiE_three] at h3
  norm_num [Nat.factorial] at h2 h3 h4
  linear_combination (-1 / 12 : ℂ) * h2 + (1 / 2 : ℂ) * h3 - h4

structure NL4 where
  K : ℝ
  M1 : ℝ
  M2 : ℝ
  M3 : ℝ
  G4 : ℝ
  H : ℝ
  HL : ℝ
  Lam : ℝ
  ω : ℝ
  T : ℝ

namespace NL4
def W (c : NL4) : ℝ := Real.exp (c.ω * c.T)
/-- third- and second-order Taylor constants of `f` -/
def G3 (c : NL4) : ℝ := c.M3 + c.G4 * c.T / 4
def G2 (c : NL4) : ℝ := c.M2 + c.G3 * c.T / 3
def EA (c : NL4) : ℝ := c.W * (c.Lam * c.M1 + c.M2) / 48 + c.W * c.G3 * c.T / 384
def Ea2 (c : NL4) : ℝ := c.M1 / 8 + c.EA * c.T
def EB (c : NL4) : ℝ := c.EA + c.Lam * c.W * c.M1 / 16 + c.W * c.G2 / 16 + c.W * c.K * c.Ea2 / 2
def Eb2 (c : NL4) : ℝ := c.M1 / 8 + c.EB * c.T
/-- bound of `P = (λ f₁ + f₂)/48 − L f₁/16` -/
def Pb (c : NL4) : ℝ := (c.Lam * c.M1 + c.M2) / 48 + c.K * c.M1 / 16
def EAB (c : NL4) : ℝ :=
  c.Lam ^ 2 * c.W * c.M1 / 64 + c.Lam * c.W * c.M2 / 48 + c.Lam * c.W * c.K * c.M1 / 64
    + c.W * c.G3 / 192 + c.W / 2 * (c.G3 / 48 + c.K * c.EA + c.H / 2 * c.Ea2 ^ 2 * c.T)
def EC (c : NL4) : ℝ :=
  c.Lam ^ 2 * c.W * c.M1 / 16 + c.Lam * c.W * c.M2 * (7 / 96) + c.Lam * c.W * c.K * c.M1 / 32
    + c.W * (c.G3 / 48 + c.K * c.EB + c.H / 2 * c.Eb2 ^ 2 * c.T) + c.W * c.G3 / 24
def Ec3 (c : NL4) : ℝ := 2 * c.Pb + c.EC * c.T
def Cloc (c : NL4) : ℝ :=
  (10 * c.W / 3) * (c.G4 / 384) + (7 * c.W / 6) * (c.G4 / 24) + c.W * c.G4 / 120
    + c.Lam * (c.W / 72 + c.W / 48 + c.W / 120) * c.M3
    + 2 * (c.Lam * (7 * c.W / 12) * (c.K * c.Pb) + (7 * c.W / 6) * (c.HL / 2 * c.Pb))
    + 2 * (5 * c.W / 6) * (c.K * c.EAB + c.H / 2 * c.Ea2 ^ 2 + c.H / 2 * c.Eb2 ^ 2)
    + (7 * c.W / 6) * (c.K * c.EC + c.H / 2 * c.Ec3 ^ 2 * c.T ^ 2)
end NL4

/-- in the theorems the data are bounds of norms, `0 ≤ ω` and `0 ≤ T` -/
structure NL4.Nonneg (c : NL4) : Prop where
  K : 0 ≤ c.K
  M1 : 0 ≤ c.M1
  M2 : 0 ≤ c.M2
  M3 : 0 ≤ c.M3
  G4 : 0 ≤ c.G4
  H : 0 ≤ c.H
  HL : 0 ≤ c.HL
  Lam : 0 ≤ c.Lam
  ω : 0 ≤ c.ω
  T : 0 ≤ c.T

theorem NL4.Nonneg.nonnegs {c : NL4} (hc : c.Nonneg) :
    0 ≤ c.W ∧ 0 ≤ c.G3 ∧ 0 ≤ c.EA ∧ 0 ≤ c.EB ∧ 0 ≤ c.EC ∧ 0 ≤ c.Cloc := by
  obtain ⟨hK0, hM10, hM20, hM30, hG4, hH, hHL, hΛ0, -, hT⟩ := hc
  have hW0 : 0 ≤ c.W := (Real.exp_pos _).le
  have hG30 : 0 ≤ c.G3 := by unfold NL4.G3; positivity
  have hG20 : 0 ≤ c.G2 := by unfold NL4.G2; positivity
  have hEA0 : 0 ≤ c.EA := by unfold NL4.EA; positivity
  have hEa20 : 0 ≤ c.Ea2 := by unfold NL4.Ea2; positivity
  have hEB0 : 0 ≤ c.EB := by unfold NL4.EB; positivity
  have hEb20 : 0 ≤ c.Eb2 := by unfold NL4.Eb2; positivity
  have hPb0 : 0 ≤ c.Pb := by unfold NL4.Pb; positivity
  have hEAB0 : 0 ≤ c.EAB := by unfold NL4.EAB; positivity
  have hEC0 : 0 ≤ c.EC := by unfold NL4.EC; positivity
  have hEc30 : 0 ≤ c.Ec3 := by unfold NL4.Ec3; positivity
  refine ⟨hW0, hG30, hEA0, hEB0, hEC0, ?_⟩
  unfold NL4.Cloc; positivity

theorem NL4.Nonneg.Cloc {c : NL4} (hc : c.Nonneg) : 0 ≤ c.Cloc := by
  obtain ⟨-, -, -, -, -, hCl⟩ := hc.nonnegs
  exact hCl

/-- stability constants of ETDRK4 -/
def etd4Aa (K ω T : ℝ) : ℝ := Real.exp (ω * T) * (1 + K * T / 2)
def etd4Ab (K ω T : ℝ) : ℝ := Real.exp (ω * T) * (1 + T / 2 * K * etd4Aa K ω T)
def etd4Ac (K ω T : ℝ) : ℝ :=
  Real.exp (ω * T) * (etd4Aa K ω T + T / 2 * K * (2 * etd4Ab K ω T + 1))
def etd4Θ (K ω T : ℝ) : ℝ :=
  K * Real.exp (ω * T) * (19 / 6 + 5 / 3 * (etd4Aa K ω T + etd4Ab K ω T) + 7 / 6 * etd4Ac K ω T)
def NL4.Cglob (c : NL4) : ℝ := c.T * c.Cloc * Real.exp ((c.ω + etd4Θ c.K c.ω c.T) * c.T)

theorem etd4Θ_nonneg {K ω T : ℝ} (hK : 0 ≤ K) (hT : 0 ≤ T) : 0 ≤ etd4Θ K ω T := by
  unfold etd4Θ etd4Ac etd4Ab etd4Aa; positivity

end Exponax.LinearOrder
end
