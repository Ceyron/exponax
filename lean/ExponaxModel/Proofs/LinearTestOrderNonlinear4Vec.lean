import ExponaxModel.Proofs.LinearTestOrderNonlinear4
import ExponaxModel.Proofs.LinearTestOrderNonlinear4Stages
import ExponaxModel.Proofs.LinearTestOrderNonlinear3Vec
/-
C02 support: ETDRK4 (the regenerated `Gen.Etdrk.E4step`) for systems `u' = L u + N(u)` on `ι → ℂ`, `L = diag(l k)`, sup
norm: classical order 4.  Hypotheses as for ETDRK3 (`LinearTestOrderNonlinear3.lean`) with one more Taylor term of
`f t = N (u t)`:  `‖f(t+s) − f t − s f₁ t − s²/2 f₂ t − s³/6 f₃ t‖ ≤ G₄ s⁴/24`,  `‖f_j t‖ ≤ M_j` on `[0,T]`.

With `P = (l f₁ + f₂)/48 − L f₁/16`:  `(a − u(t+h/2)) + (b − u(t+h/2)) = h³ P + O(h⁴)`,  `c − u(t+h) = −2h³ P + O(h⁴)`,
and the weights satisfy `2β·1 + γ·(−2) = O(l h)`, so the `h⁴`-terms of the defect cancel.  The stage estimates
(`LinearTestOrderNonlinear4Stages.lean`) are used at `V = ι → ℂ`, with `N` by its linearisations (`lin_along`) between them.  The
scalar equation is the system with one mode.
-/
noncomputable section
namespace Exponax.LinearOrder
open Exponax Exponax.Spec Exponax.ContourTail Exponax.Gen.Etdrk

section Systems
variable {ι : Type} [Fintype ι]

/-- the ETDRK4 step on vectors: the regenerated `E4step` with per-mode exact coefficients -/
def etd4Vec (l : ι → ℂ) (N : (ι → ℂ) → (ι → ℂ)) (dt : ℝ) : (ι → ℂ) → (ι → ℂ) :=
  E4step (fun k => Complex.exp (l k * dt)) (fun k => Complex.exp (l k * dt / 2))
    (fun k => dt * (phi1e (l k * dt / 2) / 2)) (fun k => dt * (phi1e (l k * dt / 2) / 2))
    (fun k => dt * (phi1e (l k * dt / 2) / 2))
    (fun k => dt * (phi1e (l k * dt) - 3 * phi2e (l k * dt) + 4 * phi3e (l k * dt)))
    (fun k => dt * (phi2e (l k * dt) - 2 * phi3e (l k * dt)))
    (fun k => dt * (4 * phi3e (l k * dt) - phi2e (l k * dt))) N

def etd4VecA (l : ι → ℂ) (N : (ι → ℂ) → (ι → ℂ)) (dt : ℝ) (x : ι → ℂ) : ι → ℂ :=
  fun k => Complex.exp (l k * dt / 2) * x k + dt * (phi1e (l k * dt / 2) / 2) * N x k
def etd4VecB (l : ι → ℂ) (N : (ι → ℂ) → (ι → ℂ)) (dt : ℝ) (x : ι → ℂ) : ι → ℂ :=
  fun k => Complex.exp (l k * dt / 2) * x k
    + dt * (phi1e (l k * dt / 2) / 2) * N (etd4VecA l N dt x) k
def etd4VecC (l : ι → ℂ) (N : (ι → ℂ) → (ι → ℂ)) (dt : ℝ) (x : ι → ℂ) : ι → ℂ :=
  fun k => Complex.exp (l k * dt / 2) * etd4VecA l N dt x k
    + dt * (phi1e (l k * dt / 2) / 2) * (2 * N (etd4VecB l N dt x) k - N x k)

omit [Fintype ι] in
theorem etd4Vec_apply (l : ι → ℂ) (N : (ι → ℂ) → (ι → ℂ)) (dt : ℝ) (x : ι → ℂ) (k : ι) :
    etd4Vec l N dt x k = Complex.exp (l k * dt) * x k
      + dt * (phi1e (l k * dt) - 3 * phi2e (l k * dt) + 4 * phi3e (l k * dt)) * N x k
      + dt * (phi2e (l k * dt) - 2 * phi3e (l k * dt)) * 2
        * (N (etd4VecA l N dt x) k + N (etd4VecB l N dt x) k)
      + dt * (4 * phi3e (l k * dt) - phi2e (l k * dt)) * N (etd4VecC l N dt x) k := by
  rw [etd4Vec, Etdrk.E4step_eq_stages]
  rfl

omit [Fintype ι] in
theorem etd4VecA_eq (l : ι → ℂ) (N : (ι → ℂ) → (ι → ℂ)) (dt : ℝ) (x : ι → ℂ) :
    etd4VecA l N dt x = (fun k => Complex.exp (l k * dt / 2)) * x
      + ((dt : ℂ) / 2) • (fun k => phi1e (l k * dt / 2)) * N x :=
  half_stage_eq l dt x (N x)

omit [Fintype ι] in
theorem etd4VecB_eq (l : ι → ℂ) (N : (ι → ℂ) → (ι → ℂ)) (dt : ℝ) (x : ι → ℂ) :
    etd4VecB l N dt x = (fun k => Complex.exp (l k * dt / 2)) * x
      + ((dt : ℂ) / 2) • (fun k => phi1e (l k * dt / 2)) * N (etd4VecA l N dt x) :=
  half_stage_eq l dt x (N (etd4VecA l N dt x))

omit [Fintype ι] in
theorem etd4VecC_eq (l : ι → ℂ) (N : (ι → ℂ) → (ι → ℂ)) (dt : ℝ) (x : ι → ℂ) :
    etd4VecC l N dt x = (fun k => Complex.exp (l k * dt / 2)) * etd4VecA l N dt x
      + ((dt : ℂ) / 2) • (fun k => phi1e (l k * dt / 2)) * (2 * N (etd4VecB l N dt x) - N x) :=
  half_stage_eq l dt (etd4VecA l N dt x) (2 * N (etd4VecB l N dt x) - N x)

omit [Fintype ι] in
theorem etd4Vec_eq (l : ι → ℂ) (N : (ι → ℂ) → (ι → ℂ)) (dt : ℝ) (x : ι → ℂ) :
    etd4Vec l N dt x = (fun k => Complex.exp (l k * dt)) * x
      + (dt : ℂ) • ((fun k => phi1e (l k * dt)) - 3 * (fun k => phi2e (l k * dt)) + 4 * fun k => phi3e (l k * dt)) * N x
      + (dt : ℂ) • ((fun k => phi2e (l k * dt)) - 2 * fun k => phi3e (l k * dt))
        * (2 * (N (etd4VecA l N dt x) + N (etd4VecB l N dt x)))
      + (dt : ℂ) • (4 * (fun k => phi3e (l k * dt)) - fun k => phi2e (l k * dt)) * N (etd4VecC l N dt x) :=
  funext fun k => (etd4Vec_apply l N dt x k).trans (by
    simp only [Pi.add_apply, Pi.sub_apply, Pi.mul_apply, Pi.smul_apply, Pi.ofNat_apply, smul_eq_mul, mul_assoc])

theorem etd4Vec_local_error (l : ι → ℂ) (N : (ι → ℂ) → (ι → ℂ)) (K : NNReal)
    (hN : LipschitzWith K N) (u : ℝ → (ι → ℂ)) (T ω M1 M2 M3 G4 H HL : ℝ) (hω : 0 ≤ ω)
    (hl : ∀ k, (l k).re ≤ ω) (hG4 : 0 ≤ G4) (hH : 0 ≤ H) (hHL : 0 ≤ HL)
    (hu : ∀ t ∈ Set.Icc (0 : ℝ) T, HasDerivAt u (l * u t + N (u t)) t)
    (f1 f2 f3 : ℝ → (ι → ℂ)) (hM1 : ∀ t ∈ Set.Icc (0 : ℝ) T, ‖f1 t‖ ≤ M1)
    (hM2 : ∀ t ∈ Set.Icc (0 : ℝ) T, ‖f2 t‖ ≤ M2) (hM3 : ∀ t ∈ Set.Icc (0 : ℝ) T, ‖f3 t‖ ≤ M3)
    (hTay : ∀ t s : ℝ, 0 ≤ t → 0 ≤ s → t + s ≤ T →
      ‖N (u (t + s)) - N (u t) - (s : ℂ) • f1 t - ((s : ℂ) ^ 2 / 2) • f2 t - ((s : ℂ) ^ 3 / 6) • f3 t‖
        ≤ G4 * s ^ 4 / 24)
    (L : ℝ → (ι → ℂ) →ₗ[ℝ] (ι → ℂ))
    (hLK : ∀ τ ∈ Set.Icc (0 : ℝ) T, ∀ v, ‖L τ v‖ ≤ K * ‖v‖)
    (hLin : ∀ τ ∈ Set.Icc (0 : ℝ) T, ∀ y, ‖N y - N (u τ) - L τ (y - u τ)‖ ≤ H / 2 * ‖y - u τ‖ ^ 2)
    (hLlip : ∀ τ ∈ Set.Icc (0 : ℝ) T, ∀ τ' ∈ Set.Icc (0 : ℝ) T, ∀ v,
      ‖L τ v - L τ' v‖ ≤ HL * |τ - τ'| * ‖v‖)
    (t h : ℝ) (ht : 0 ≤ t) (hh : 0 ≤ h) (hth : t + h ≤ T) :
    ‖u (t + h) - etd4Vec l N h (u t)‖ ≤ NL4.Cloc ⟨K, M1, M2, M3, G4, H, HL, ‖l‖, ω, T⟩ * h ^ 5 := by
  have hh' : 0 ≤ h / 2 := div_nonneg hh zero_le_two
  have hhT : h ≤ T := (le_add_of_nonneg_left ht).trans hth
  have htm : t ∈ Set.Icc (0 : ℝ) T := ⟨ht, (le_add_of_nonneg_right hh).trans hth⟩
  have hthm : t + h / 2 ∈ Set.Icc (0 : ℝ) T :=
    ⟨add_nonneg ht hh', (add_le_add_right (half_le_self hh) t).trans hth⟩
  have ht1m : t + h ∈ Set.Icc (0 : ℝ) T := ⟨add_nonneg ht hh, hth⟩
  set c : NL4 := ⟨K, M1, M2, M3, G4, H, HL, ‖l‖, ω, T⟩
  have hc : c.Nonneg := ⟨K.coe_nonneg, (norm_nonneg _).trans (hM1 t htm), (norm_nonneg _).trans (hM2 t htm),
    (norm_nonneg _).trans (hM3 t htm), hG4, hH, hHL, norm_nonneg l, hω, hh.trans hhT⟩
  obtain ⟨nρa, nρ3, nρ4, nσ2, nσ3, nτh, nτe⟩ := etd4_exact_facts c hc l hl u (fun s => N (u s)) f1 f2 f3 hu
    (hN.continuous.comp_continuousOn fun s hs => (hu s hs).continuousAt.continuousWithinAt) hM2 hM3 hTay t h ht hh hth
  obtain ⟨-, -, -, -, bq1, -, bq3, -⟩ := etd_phi_boundsV l ω h T hω hl hh hhT
  obtain ⟨dA, -, d_gb, -, bγ, -⟩ := etd3_phi_diffsV l ω h T hω hl hh hhT
  obtain ⟨dB, dAB1, dAB2, dC1, dC2, dQ, bβ⟩ := etd4_phi_diffsV l ω h T hω hl hh hhT
  have eE : (fun k => Complex.exp (l k * h))
      = (fun k => Complex.exp (l k * h / 2)) * fun k => Complex.exp (l k * h / 2) :=
    funext fun k => (exp_half_sq (l k * h)).symm
  have eP1 : (h : ℂ) • (fun k => phi1e (l k * h))
      = ((h : ℂ) / 2) • (fun k => phi1e (l k * h / 2)) * ((fun k => Complex.exp (l k * h / 2)) + 1) :=
    funext fun k => by
      show (h : ℂ) * phi1e (l k * h) = (h : ℂ) / 2 * phi1e (l k * h / 2) * (Complex.exp (l k * h / 2) + 1)
      rw [phi1e_double (l k * h)]; ring
  have hd1M : ‖f1 t‖ ≤ c.M1 := hM1 t htm
  have hd2M : ‖f2 t‖ ≤ c.M2 := hM2 t htm
  -- the half-step stages `a, b`; `N` of them by its linearisation at `u (t + h/2)`
  obtain ⟨nεa, nea⟩ := etd4_stageA c hc hh hhT (etd4VecA_eq l N h (u t)) bq3 dA hd1M hd2M nρa
  obtain ⟨nδa, e1, nA1, nqa⟩ := lin_along hN (L (t + h / 2)) hc.H (hLK _ hthm) (hLin _ hthm) nεa nea
  obtain ⟨nεb, neb⟩ := etd4_stageB c hc hh hhT (etd4VecA_eq l N h (u t)) (etd4VecB_eq l N h (u t)) bq1 dB hd1M nεa nσ2 nδa
  obtain ⟨-, e2, nB1, nqb⟩ := lin_along hN (L (t + h / 2)) hc.H (hLK _ hthm) (hLin _ hthm) nεb neb
  have nA2 : ‖L (t + h / 2) (f1 t)‖ ≤ c.K * c.M1 := (hLK _ hthm _).trans (mul_le_mul_of_nonneg_left hd1M hc.K)
  -- the cubic coefficient, the sum of the half-step errors, stage `c`
  obtain ⟨P, hP⟩ : ∃ P, P = (1 / 48 : ℂ) • (l * f1 t + f2 t) - (1 / 16 : ℂ) • L (t + h / 2) (f1 t) := ⟨_, rfl⟩
  have nP : ‖P‖ ≤ c.Pb := hP ▸ etd4_P_bound c (le_refl ‖l‖) hd1M hd2M nA2
  obtain ⟨e3, nAB1⟩ := lin_along_add N (L (t + h / 2)) (hLK _ hthm)
    (etd4_stageAB c hc hh hhT (etd4VecA_eq l N h (u t)) (etd4VecB_eq l N h (u t)) bq1 dB dAB1 dAB2 hd1M hd2M nρa nσ3 e1 nA1 nA2 nqa hP)
  obtain ⟨nεc, nec⟩ := etd4_stageC c hc hh hhT (etd4VecA_eq l N h (u t)) (etd4VecC_eq l N h (u t)) eE eP1 bq1 dB dC1 dC2 hd1M hd2M nρ3 nσ3 e2 nB1 nA2 nqb hP nP
  obtain ⟨-, e4, nC1, nqc⟩ := lin_along hN (L (t + h)) hc.H (hLK _ ht1m) (hLin _ ht1m) nεc nec
  have nLabP : ‖L (t + h / 2) P - L (t + h) P‖ ≤ c.HL * (h / 2) * c.Pb := by
    have := hLlip (t + h) ht1m (t + h / 2) hthm P
    rw [add_sub_add_left_eq_sub, sub_half, abs_of_nonneg hh', norm_sub_rev] at this
    exact this.trans (mul_le_mul_of_nonneg_left nP (mul_nonneg hHL hh'))
  rw [etd4Vec_eq]
  exact etd4_final c hc hh hhT ((norm_sub_rev _ _).trans_le d_gb) dQ bβ bγ (hM3 t htm) nρ4 nτh nτe e3 e4 nAB1 nC1
    ((hLK _ hthm _).trans (mul_le_mul_of_nonneg_left nP hc.K)) nLabP nqa nqb nqc

theorem etd4Vec_stable (l : ι → ℂ) (N : (ι → ℂ) → (ι → ℂ)) (K : NNReal) (hN : LipschitzWith K N)
    (ω T dt : ℝ) (hω : 0 ≤ ω) (hl : ∀ k, (l k).re ≤ ω) (hdt : 0 ≤ dt) (hdtT : dt ≤ T) (x y : ι → ℂ) :
    ‖etd4Vec l N dt x - etd4Vec l N dt y‖ ≤ (Real.exp (ω * dt) + dt * etd4Θ K ω T) * ‖x - y‖ := by
  obtain ⟨-, -, -, -, bq1, -, -, -, vEh⟩ := etd_phi_boundsV l ω dt T hω hl hdt hdtT
  obtain ⟨-, -, -, -, bγ, bα⟩ := etd3_phi_diffsV l ω dt T hω hl hdt hdtT
  obtain ⟨-, -, -, -, -, -, bβ⟩ := etd4_phi_diffsV l ω dt T hω hl hdt hdtT
  have bdt : ‖(dt : ℂ)‖ ≤ dt := nrm_ofReal hdt le_rfl
  obtain ⟨-, -, -, -, -, -, -, vE, -⟩ := etd_phi_boundsV l ω dt dt hω hl hdt le_rfl
  have vch := norm_smul_le_of_le ((nrm_half hdt).trans (div_le_div_of_nonneg_right hdtT zero_le_two)) bq1
  have hNl : ∀ {p q : ι → ℂ} {A : ℝ}, ‖p - q‖ ≤ A → ‖N p - N q‖ ≤ K * A := fun h => hN.norm_sub_le_of_le h
  have nx := hNl (le_refl ‖x - y‖)
  have na : ‖etd4VecA l N dt x - etd4VecA l N dt y‖ ≤ etd4Aa K ω T * ‖x - y‖ := by
    rw [etd4VecA_eq, etd4VecA_eq]
    exact (norm_add_mul_sub_le (norm_mul_sub_mul_le vEh le_rfl) vch nx).trans_eq (by unfold etd4Aa; ring)
  have nb : ‖etd4VecB l N dt x - etd4VecB l N dt y‖ ≤ etd4Ab K ω T * ‖x - y‖ := by
    rw [etd4VecB_eq, etd4VecB_eq]
    exact (norm_add_mul_sub_le (norm_mul_sub_mul_le vEh le_rfl) vch (hNl na)).trans_eq (by unfold etd4Ab; ring)
  have nc : ‖etd4VecC l N dt x - etd4VecC l N dt y‖ ≤ etd4Ac K ω T * ‖x - y‖ := by
    rw [etd4VecC_eq, etd4VecC_eq]
    exact (norm_add_mul_sub_le (norm_mul_sub_mul_le vEh na) vch
      (norm_two_mul_sub_sub_le (hNl nb) nx)).trans_eq (by unfold etd4Ac; ring)
  have nab := norm_add_le_of_le (hNl na) (hNl nb)
  rw [← add_sub_add_comm] at nab
  rw [etd4Vec_eq, etd4Vec_eq]
  exact (norm_add_mul_sub_le (norm_add_mul_sub_le (norm_add_mul_sub_le (norm_mul_sub_mul_le vE le_rfl)
    (norm_smul_le_of_le bdt bα) nx) (norm_smul_le_of_le bdt bβ) (norm_two_mul_sub_le nab)) (norm_smul_le_of_le bdt bγ)
    (hNl nc)).trans_eq (by unfold etd4Θ; ring)

end Systems

/-! ### the scalar case: the system with one mode, `ι = Unit`

`z : ℂ` is the constant vector `fun _ => z`; `N` acts on the one component, and so does `L τ`.  Both norms agree, and
`etd4Vec` of the constant vector is `E4step` of `z` by definition. -/

/-- ETDRK4: local error `O(h⁵)` of one regenerated `E4step` with the exact coefficients, started on the
    exact solution, for a nonlinear `N` (classical order; the constant involves `‖λ‖`) -/
theorem etd4_local_error (l : ℂ) (N : ℂ → ℂ) (K : NNReal) (hN : LipschitzWith K N) (u : ℝ → ℂ)
    (T ω M1 M2 M3 G4 H HL : ℝ) (hω : 0 ≤ ω) (hl : l.re ≤ ω) (hG4 : 0 ≤ G4) (hH : 0 ≤ H)
    (hHL : 0 ≤ HL)
    (hu : ∀ t ∈ Set.Icc (0 : ℝ) T, HasDerivAt u (l * u t + N (u t)) t)
    (f1 f2 f3 : ℝ → ℂ) (hM1 : ∀ t ∈ Set.Icc (0 : ℝ) T, ‖f1 t‖ ≤ M1)
    (hM2 : ∀ t ∈ Set.Icc (0 : ℝ) T, ‖f2 t‖ ≤ M2) (hM3 : ∀ t ∈ Set.Icc (0 : ℝ) T, ‖f3 t‖ ≤ M3)
    (hTay : ∀ t s : ℝ, 0 ≤ t → 0 ≤ s → t + s ≤ T →
      ‖N (u (t + s)) - N (u t) - (s : ℂ) * f1 t - (s : ℂ) ^ 2 / 2 * f2 t - (s : ℂ) ^ 3 / 6 * f3 t‖
        ≤ G4 * s ^ 4 / 24)
    (L : ℝ → ℂ →ₗ[ℝ] ℂ)
    (hLK : ∀ τ ∈ Set.Icc (0 : ℝ) T, ∀ v, ‖L τ v‖ ≤ K * ‖v‖)
    (hLin : ∀ τ ∈ Set.Icc (0 : ℝ) T, ∀ y, ‖N y - N (u τ) - L τ (y - u τ)‖ ≤ H / 2 * ‖y - u τ‖ ^ 2)
    (hLlip : ∀ τ ∈ Set.Icc (0 : ℝ) T, ∀ τ' ∈ Set.Icc (0 : ℝ) T, ∀ v,
      ‖L τ v - L τ' v‖ ≤ HL * |τ - τ'| * ‖v‖)
    (t h : ℝ) (ht : 0 ≤ t) (hh : 0 ≤ h) (hth : t + h ≤ T) :
    ‖u (t + h) - E4step (Complex.exp (l * h)) (Complex.exp (l * h / 2)) (h * (phi1e (l * h / 2) / 2))
        (h * (phi1e (l * h / 2) / 2)) (h * (phi1e (l * h / 2) / 2))
        (h * (phi1e (l * h) - 3 * phi2e (l * h) + 4 * phi3e (l * h)))
        (h * (phi2e (l * h) - 2 * phi3e (l * h))) (h * (4 * phi3e (l * h) - phi2e (l * h))) N (u t)‖
      ≤ NL4.Cloc ⟨K, M1, M2, M3, G4, H, HL, ‖l‖, ω, T⟩ * h ^ 5 := by
  have := etd4Vec_local_error (fun _ : Unit => l) (fun v k => N (v k)) K (lipschitzWith_modewise hN)
    (fun t _ => u t) T ω M1 M2 M3 G4 H HL hω (fun _ => hl) hG4 hH hHL
    (fun t ht => hasDerivAt_pi.mpr fun _ => hu t ht) (fun t _ => f1 t) (fun t _ => f2 t) (fun t _ => f3 t)
    (fun t ht => (unit_norm _).le.trans (hM1 t ht)) (fun t ht => (unit_norm _).le.trans (hM2 t ht))
    (fun t ht => (unit_norm _).le.trans (hM3 t ht))
    (fun t s ht hs hts => (unit_norm _).le.trans (hTay t s ht hs hts))
    (fun τ => LinearMap.pi fun _ => L τ ∘ₗ LinearMap.proj ())
    (fun τ hτ v => by rw [unit_norm, unit_norm]; exact hLK τ hτ (v ()))
    (fun τ hτ y => by rw [unit_norm, unit_norm]; exact hLin τ hτ (y ()))
    (fun τ hτ τ' hτ' v => by rw [unit_norm, unit_norm]; exact hLlip τ hτ τ' hτ' (v ()))
    t h ht hh hth
  rwa [unit_norm, pi_norm_const] at this

/-- ETDRK4: global error `O(dt⁴)` for a nonlinear `N` (classical order) -/
theorem etd4_global_error (l : ℂ) (N : ℂ → ℂ) (K : NNReal) (hN : LipschitzWith K N) (u : ℝ → ℂ)
    (T ω M1 M2 M3 G4 H HL : ℝ) (hω : 0 ≤ ω) (hl : l.re ≤ ω) (hG4 : 0 ≤ G4) (hH : 0 ≤ H)
    (hHL : 0 ≤ HL)
    (hu : ∀ t ∈ Set.Icc (0 : ℝ) T, HasDerivAt u (l * u t + N (u t)) t)
    (f1 f2 f3 : ℝ → ℂ) (hM1 : ∀ t ∈ Set.Icc (0 : ℝ) T, ‖f1 t‖ ≤ M1)
    (hM2 : ∀ t ∈ Set.Icc (0 : ℝ) T, ‖f2 t‖ ≤ M2) (hM3 : ∀ t ∈ Set.Icc (0 : ℝ) T, ‖f3 t‖ ≤ M3)
    (hTay : ∀ t s : ℝ, 0 ≤ t → 0 ≤ s → t + s ≤ T →
      ‖N (u (t + s)) - N (u t) - (s : ℂ) * f1 t - (s : ℂ) ^ 2 / 2 * f2 t - (s : ℂ) ^ 3 / 6 * f3 t‖
        ≤ G4 * s ^ 4 / 24)
    (L : ℝ → ℂ →ₗ[ℝ] ℂ)
    (hLK : ∀ τ ∈ Set.Icc (0 : ℝ) T, ∀ v, ‖L τ v‖ ≤ K * ‖v‖)
    (hLin : ∀ τ ∈ Set.Icc (0 : ℝ) T, ∀ y, ‖N y - N (u τ) - L τ (y - u τ)‖ ≤ H / 2 * ‖y - u τ‖ ^ 2)
    (hLlip : ∀ τ ∈ Set.Icc (0 : ℝ) T, ∀ τ' ∈ Set.Icc (0 : ℝ) T, ∀ v,
      ‖L τ v - L τ' v‖ ≤ HL * |τ - τ'| * ‖v‖)
    (n : ℕ) (dt : ℝ) (hdt : 0 ≤ dt) (hn : n * dt ≤ T) :
    ‖u (n * dt) - (E4step (Complex.exp (l * dt)) (Complex.exp (l * dt / 2)) (dt * (phi1e (l * dt / 2) / 2))
        (dt * (phi1e (l * dt / 2) / 2)) (dt * (phi1e (l * dt / 2) / 2))
        (dt * (phi1e (l * dt) - 3 * phi2e (l * dt) + 4 * phi3e (l * dt)))
        (dt * (phi2e (l * dt) - 2 * phi3e (l * dt))) (dt * (4 * phi3e (l * dt) - phi2e (l * dt)))
        N)^[n] (u 0)‖
      ≤ NL4.Cglob ⟨K, M1, M2, M3, G4, H, HL, ‖l‖, ω, T⟩ * dt ^ 4 := by
  have hT : 0 ≤ T := (mul_nonneg (Nat.cast_nonneg n) hdt).trans hn
  have h0mem : (0 : ℝ) ∈ Set.Icc (0 : ℝ) T := ⟨le_rfl, hT⟩
  have hc : NL4.Nonneg ⟨K, M1, M2, M3, G4, H, HL, ‖l‖, ω, T⟩ := ⟨K.coe_nonneg, (norm_nonneg _).trans (hM1 0 h0mem),
    (norm_nonneg _).trans (hM2 0 h0mem), (norm_nonneg _).trans (hM3 0 h0mem), hG4, hH, hHL, norm_nonneg l, hω, hT⟩
  exact fan_grid_exp_add _ u _ ω (etd4Θ K ω T) T dt 4 n hc.Cloc hω (etd4Θ_nonneg K.coe_nonneg hT) hdt hn
    (fun t ht htT => etd4_local_error l N K hN u T ω M1 M2 M3 G4 H HL hω hl hG4 hH hHL hu f1 f2 f3 hM1 hM2 hM3
      hTay L hLK hLin hLlip t dt ht hdt htT)
    (fun hdtT x y => by
      have key := etd4Vec_stable (fun _ : Unit => l) (fun v k => N (v k)) K (lipschitzWith_modewise hN) ω T dt hω
        (fun _ => hl) hdt hdtT (fun _ => x) (fun _ => y)
      rwa [unit_norm, unit_norm] at key)

/-! ### non-vacuity: the problems of the ETDRK3 examples, with one more derivative `f₃ = i c³ u`, `G₄ = 101⁴` -/

theorem expI_taylor3 {c : ℂ} {C : ℝ} (hc : ‖c‖ ≤ C) (hre : c.re ≤ 0) (t s : ℝ) (ht : 0 ≤ t) (hs : 0 ≤ s)
    (hts : t + s ≤ 1) :
    ‖Complex.I * Complex.exp (c * (t + s : ℝ)) - Complex.I * Complex.exp (c * t)
        - (s : ℂ) * (Complex.I * (c ^ 1 * Complex.exp (c * t)))
        - (s : ℂ) ^ 2 / 2 * (Complex.I * (c ^ 2 * Complex.exp (c * t)))
        - (s : ℂ) ^ 3 / 6 * (Complex.I * (c ^ 3 * Complex.exp (c * t)))‖ ≤ C ^ 4 * s ^ 4 / 24 := by
  have := taylor3_of_lipschitz_deriv _ _ _ _ 1 (C ^ 4) (fun x _ => expI_hasDerivAt c 0 x)
    (fun x _ => expI_hasDerivAt c 1 x) (fun x _ => expI_hasDerivAt c 2 x) (expI_lipschitz hc hre 3 1) t s ht hs hts
  simpa only [pow_zero, one_mul, zero_add] using this

example : ∃ (l : ℂ) (N : ℂ → ℂ) (K : NNReal) (u f1 f2 f3 : ℝ → ℂ) (L : ℝ → ℂ →ₗ[ℝ] ℂ)
    (T ω M1 M2 M3 G4 H HL : ℝ), LipschitzWith K N ∧ 0 ≤ ω ∧ l.re ≤ ω ∧ 0 ≤ G4 ∧ 0 ≤ H ∧ 0 ≤ HL ∧ 0 < T ∧
    (∀ t ∈ Set.Icc (0 : ℝ) T, HasDerivAt u (l * u t + N (u t)) t) ∧
    (∀ t ∈ Set.Icc (0 : ℝ) T, ‖f1 t‖ ≤ M1) ∧ (∀ t ∈ Set.Icc (0 : ℝ) T, ‖f2 t‖ ≤ M2) ∧
    (∀ t ∈ Set.Icc (0 : ℝ) T, ‖f3 t‖ ≤ M3) ∧
    (∀ t s : ℝ, 0 ≤ t → 0 ≤ s → t + s ≤ T →
      ‖N (u (t + s)) - N (u t) - (s : ℂ) * f1 t - (s : ℂ) ^ 2 / 2 * f2 t - (s : ℂ) ^ 3 / 6 * f3 t‖
        ≤ G4 * s ^ 4 / 24) ∧
    (∀ τ ∈ Set.Icc (0 : ℝ) T, ∀ v, ‖L τ v‖ ≤ K * ‖v‖) ∧
    (∀ τ ∈ Set.Icc (0 : ℝ) T, ∀ y, ‖N y - N (u τ) - L τ (y - u τ)‖ ≤ H / 2 * ‖y - u τ‖ ^ 2) ∧
    (∀ τ ∈ Set.Icc (0 : ℝ) T, ∀ τ' ∈ Set.Icc (0 : ℝ) T, ∀ v,
      ‖L τ v - L τ' v‖ ≤ HL * |τ - τ'| * ‖v‖) := by
  set c : ℂ := -100 + Complex.I with hcdef
  obtain ⟨hc, hre⟩ : ‖c‖ ≤ 101 ∧ c.re ≤ 0 := expI_c
  obtain ⟨hN, hLK, hLin, hLlip⟩ :=
    mulLeft_linearisation Complex.I Complex.norm_I.le (fun t : ℝ => Complex.exp (c * t)) 1
  exact ⟨-100, fun v => Complex.I * v, 1, fun t => Complex.exp (c * t),
    fun t => Complex.I * (c ^ 1 * Complex.exp (c * t)), fun t => Complex.I * (c ^ 2 * Complex.exp (c * t)),
    fun t => Complex.I * (c ^ 3 * Complex.exp (c * t)), fun _ => LinearMap.mulLeft ℝ Complex.I,
    1, 0, 101 ^ 1, 101 ^ 2, 101 ^ 3, 101 ^ 4, 0, 0, hN, le_rfl, by simp, by norm_num, le_rfl, le_rfl, one_pos,
    fun t _ => (hasDerivAt_exp_mul c t).congr_deriv (by simp only [hcdef]; ring),
    fun t ht => expI_norm_le hc hre 1 ht.1, fun t ht => expI_norm_le hc hre 2 ht.1,
    fun t ht => expI_norm_le hc hre 3 ht.1, expI_taylor3 hc hre, hLK, hLin, hLlip⟩

example : ∃ (l : Fin 2 → ℂ) (N : (Fin 2 → ℂ) → (Fin 2 → ℂ)) (K : NNReal)
    (u f1 f2 f3 : ℝ → (Fin 2 → ℂ)) (L : ℝ → (Fin 2 → ℂ) →ₗ[ℝ] (Fin 2 → ℂ))
    (T ω M1 M2 M3 G4 H HL : ℝ), LipschitzWith K N ∧ 0 ≤ ω ∧
    (∀ k, (l k).re ≤ ω) ∧ 0 ≤ G4 ∧ 0 ≤ H ∧ 0 ≤ HL ∧ 0 < T ∧
    (∀ t ∈ Set.Icc (0 : ℝ) T, HasDerivAt u (l * u t + N (u t)) t) ∧
    (∀ t ∈ Set.Icc (0 : ℝ) T, ‖f1 t‖ ≤ M1) ∧ (∀ t ∈ Set.Icc (0 : ℝ) T, ‖f2 t‖ ≤ M2) ∧
    (∀ t ∈ Set.Icc (0 : ℝ) T, ‖f3 t‖ ≤ M3) ∧
    (∀ t s : ℝ, 0 ≤ t → 0 ≤ s → t + s ≤ T →
      ‖N (u (t + s)) - N (u t) - (s : ℂ) • f1 t - ((s : ℂ) ^ 2 / 2) • f2 t - ((s : ℂ) ^ 3 / 6) • f3 t‖
        ≤ G4 * s ^ 4 / 24) ∧
    (∀ τ ∈ Set.Icc (0 : ℝ) T, ∀ v, ‖L τ v‖ ≤ K * ‖v‖) ∧
    (∀ τ ∈ Set.Icc (0 : ℝ) T, ∀ y, ‖N y - N (u τ) - L τ (y - u τ)‖ ≤ H / 2 * ‖y - u τ‖ ^ 2) ∧
    (∀ τ ∈ Set.Icc (0 : ℝ) T, ∀ τ' ∈ Set.Icc (0 : ℝ) T, ∀ v,
      ‖L τ v - L τ' v‖ ≤ HL * |τ - τ'| * ‖v‖) := by
  set c : Fin 2 → ℂ := fun k => ![-1, -100] k + Complex.I with hcdef
  have hc : ∀ k, ‖c k‖ ≤ 101 := fun k => (twoModes k).2.1
  have hre : ∀ k, (c k).re ≤ 0 := fun k => (twoModes k).2.2
  obtain ⟨hN, hLK, hLin, hLlip⟩ := mulLeft_linearisation (fun _ => Complex.I : Fin 2 → ℂ)
    ((pi_norm_const_le _).trans Complex.norm_I.le) (fun (t : ℝ) k => Complex.exp (c k * t)) 1
  exact ⟨![-1, -100], fun v => (fun _ => Complex.I) * v, 1, fun t k => Complex.exp (c k * t),
    fun t k => Complex.I * (c k ^ 1 * Complex.exp (c k * t)),
    fun t k => Complex.I * (c k ^ 2 * Complex.exp (c k * t)),
    fun t k => Complex.I * (c k ^ 3 * Complex.exp (c k * t)),
    fun _ => LinearMap.mulLeft ℝ (fun _ => Complex.I : Fin 2 → ℂ), 1, 0, 101 ^ 1, 101 ^ 2, 101 ^ 3, 101 ^ 4, 0, 0,
    hN, le_rfl, fun k => (twoModes k).1, by norm_num, le_rfl, le_rfl, one_pos,
    fun t _ => hasDerivAt_pi.mpr fun k => (hasDerivAt_exp_mul (c k) t).congr_deriv (by
      simp only [Pi.add_apply, Pi.mul_apply, hcdef]; ring),
    fun t ht => (pi_norm_le_iff_of_nonneg (by norm_num)).mpr fun k => expI_norm_le (hc k) (hre k) 1 ht.1,
    fun t ht => (pi_norm_le_iff_of_nonneg (by norm_num)).mpr fun k => expI_norm_le (hc k) (hre k) 2 ht.1,
    fun t ht => (pi_norm_le_iff_of_nonneg (by norm_num)).mpr fun k => expI_norm_le (hc k) (hre k) 3 ht.1,
    fun t s ht hs hts => (pi_norm_le_iff_of_nonneg (by positivity)).mpr fun k =>
      expI_taylor3 (hc k) (hre k) t s ht hs hts,
    hLK, hLin, hLlip⟩

end Exponax.LinearOrder
end
