import ExponaxModel.Proofs.AliasND2
/-
C03 in general dimension: the Gray–Scott reaction term (cubic), two channels, cut-off `4·Kc < N`.
`reaction c 2 (grayScottReact f κ) û = fft( react( ifft(mask·mask·û) ) )` with
`react(a, b) = ( f·(1 − a) − a·b², −(f + κ)·b + a·b² )`.
-/
namespace Exponax.AliasND
open Exponax Exponax.Layout Exponax.Transform Exponax.DFT Exponax.Nonlin Exponax.Alias Finset

/-- `reaction` read off the pipeline, for any reaction term and any stored input; the double masking of the model
    collapses (`nifft_mask_idem`) -/
theorem reaction_nd_readoff (c : Cfg ℂ) (hN : 0 < c.N) (C : ℕ) (react : List ℂ → List ℂ) (uh : MC ℂ)
    (ch : ℕ) (hch : ch < C) (h : ℕ) (hh : h < numModes c.D c.N) :
    at2 (reaction c C react uh) ch h
      = mask c h * dftV c.D c.N (tab (c.N ^ c.D) fun x =>
          (react ((List.range C).map fun k => (nifft c (uh.getD k #[])).getD x 0)).getD ch 0)
          (kvec c.D c.N h) := by
  unfold reaction
  simp only []
  rw [at2_tabC _ _ _ _ hch, nfft_nd c hN _ h hh, tab2, Nonlin.tab_getD _ _ _ _ hch]
  refine congrArg (fun v => mask c h * dftV c.D c.N v (kvec c.D c.N h))
    (Nonlin.tab_congr _ _ _ fun x _ => ?_)
  refine congrArg (fun l => (react l).getD ch 0) (List.map_congr_left fun k hk => ?_)
  rw [at2_tabC _ _ _ _ (List.mem_range.mp hk)]
  exact congrArg (fun v => (v : Array ℂ).getD x 0) (nifft_mask_idem c (uh.getD k #[]))

theorem grayScott_nd_readoff (c : Cfg ℂ) (hN : 0 < c.N) (feed kill : ℂ) (uh : MC ℂ)
    (ch : ℕ) (hch : ch < 2) (h : ℕ) (hh : h < numModes c.D c.N) :
    at2 (reaction c 2 (grayScottReact feed kill) uh) ch h
      = mask c h * dftV c.D c.N (tab (c.N ^ c.D) fun x =>
          (grayScottReact feed kill [(nifft c (uh.getD 0 #[])).getD x 0,
            (nifft c (uh.getD 1 #[])).getD x 0]).getD ch 0) (kvec c.D c.N h) :=
  reaction_nd_readoff c hN 2 _ uh ch hch h hh

theorem grayScott_ch0 (feed kill a b : ℂ) :
    (grayScottReact feed kill [a, b]).getD 0 0 = feed * (1 - a) - a * b * b := by
  simp [grayScottReact, mul_assoc]

theorem grayScott_ch1 (feed kill a b : ℂ) :
    (grayScottReact feed kill [a, b]).getD 1 0 = -(feed + kill) * b + a * b * b := by
  simp [grayScottReact, mul_assoc]

/-- for real states `xa`, `xb` and `û = (rfftnM xa, rfftnM xb)`, both channels at a retained stored mode hold the
    coefficients of the reaction term applied to the band-truncated state, alias-free (`4·Kc < N`, e.g. the 1/2
    rule) -/
theorem grayScott_alias_free_nd (c : Cfg ℂ) (hD : 0 < c.D) (hq : c.fq ≠ 0)
    (hK : 4 * Kc c < (c.N : ℤ)) (hN : 0 < c.N) (feed kill : ℂ) (xa xb : Array ℂ)
    (hxa : IsRealND c.D c.N xa) (hxb : IsRealND c.D c.N xb) (h : ℕ) (hh : h < numModes c.D c.N) :
    (mask c h = 1 →
      at2 (reaction c 2 (grayScottReact feed kill) #[rfftnM c.D c.N xa, rfftnM c.D c.N xb]) 0 h
        = feed * ((if h = 0 then ((c.N ^ c.D : ℕ) : ℂ) else 0) - (rfftnM c.D c.N xa).getD h 0)
          - linConv3 c.D c.N (Kc c) (dftV c.D c.N xa) (dftV c.D c.N xb) (dftV c.D c.N xb)
              (kvec c.D c.N h)
      ∧ at2 (reaction c 2 (grayScottReact feed kill) #[rfftnM c.D c.N xa, rfftnM c.D c.N xb]) 1 h
        = -(feed + kill) * (rfftnM c.D c.N xb).getD h 0
          + linConv3 c.D c.N (Kc c) (dftV c.D c.N xa) (dftV c.D c.N xb) (dftV c.D c.N xb)
              (kvec c.D c.N h))
    ∧ (mask c h = 0 →
      at2 (reaction c 2 (grayScottReact feed kill) #[rfftnM c.D c.N xa, rfftnM c.D c.N xb]) 0 h = 0
      ∧ at2 (reaction c 2 (grayScottReact feed kill) #[rfftnM c.D c.N xa, rfftnM c.D c.N xb]) 1 h = 0) := by
  have h2 := two_lt_of_four c.N (Kc c) hK
  refine ⟨fun hm => ?_, fun hm =>
    ⟨reaction_zero_off_band c 2 _ _ 0 h hm, reaction_zero_off_band c 2 _ _ 1 h hm⟩⟩
  have hk : ∀ d, |kvec c.D c.N h d| ≤ Kc c := (mask_nd_eq_one_iff c hq h).mp hm
  have e0 : (#[rfftnM c.D c.N xa, rfftnM c.D c.N xb] : MC ℂ).getD 0 #[] = rfftnM c.D c.N xa := rfl
  have e1 : (#[rfftnM c.D c.N xa, rfftnM c.D c.N xb] : MC ℂ).getD 1 #[] = rfftnM c.D c.N xb := rfl
  rw [grayScott_nd_readoff c hN feed kill _ 0 (by norm_num) h hh,
    grayScott_nd_readoff c hN feed kill _ 1 (by norm_num) h hh, hm, one_mul, one_mul, e0, e1]
  simp only [grayScott_ch0, grayScott_ch1]
  have hA := dftV_nifft_rfftn_stored c hD hq hN h2 xa hxa h hh hk
  have hB := dftV_nifft_rfftn_stored c hD hq hN h2 xb hxb h hh hk
  have hb := boxSpec_nifft_rfftn c hD hq hN h2 xb hxb
  have hcube := (boxSpec_nifft_rfftn c hD hq hN h2 xa hxa).dftV_mul3 hb hb hN hK _ hk
  constructor
  · rw [dftV_sub, dftV_smul, dftV_sub, dftV_const c.D c.N hN, dftV_self_tab, hA, hcube, one_mul]
    simp only [stored_dvd_iff c.D c.N h hD hN hh]
  · rw [dftV_add, dftV_smul, dftV_self_tab, hB, hcube]

theorem grayScott_alias_free_nd_half (c : Cfg ℂ) (hD : 0 < c.D) (hp : c.fp = 1) (hq : c.fq = 2)
    (hN : 0 < c.N) (feed kill : ℂ) (xa xb : Array ℂ)
    (hxa : IsRealND c.D c.N xa) (hxb : IsRealND c.D c.N xb) (h : ℕ) (hh : h < numModes c.D c.N) :
    (mask c h = 1 →
      at2 (reaction c 2 (grayScottReact feed kill) #[rfftnM c.D c.N xa, rfftnM c.D c.N xb]) 0 h
        = feed * ((if h = 0 then ((c.N ^ c.D : ℕ) : ℂ) else 0) - (rfftnM c.D c.N xa).getD h 0)
          - linConv3 c.D c.N (Kc c) (dftV c.D c.N xa) (dftV c.D c.N xb) (dftV c.D c.N xb)
              (kvec c.D c.N h)
      ∧ at2 (reaction c 2 (grayScottReact feed kill) #[rfftnM c.D c.N xa, rfftnM c.D c.N xb]) 1 h
        = -(feed + kill) * (rfftnM c.D c.N xb).getD h 0
          + linConv3 c.D c.N (Kc c) (dftV c.D c.N xa) (dftV c.D c.N xb) (dftV c.D c.N xb)
              (kvec c.D c.N h))
    ∧ (mask c h = 0 →
      at2 (reaction c 2 (grayScottReact feed kill) #[rfftnM c.D c.N xa, rfftnM c.D c.N xb]) 0 h = 0
      ∧ at2 (reaction c 2 (grayScottReact feed kill) #[rfftnM c.D c.N xa, rfftnM c.D c.N xb]) 1 h = 0) :=
  grayScott_alias_free_nd c hD (by omega) (Kc_half c hp hq) hN feed kill xa xb hxa hxb h hh

end Exponax.AliasND
