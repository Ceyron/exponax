import ExponaxModel.Proofs.ContourComplex
/-
C19 support — for complex symbols `z = λ·dt` with `Re z ≤ 0` (or `Re z ≤ c`) outside the exclusion set `{−ζ_j}`,
defaults `M = 16`, `r = 1`: the stored coefficients are bounded by `‖dt‖ (k_i + 1.7·10⁻¹²)`, the propagators
by `1`, and one ETDRK1–4 step on a vector of modes (the nonlinearity couples them) by `‖u_i‖ + ‖dt‖ · C_p · B`.
-/
namespace Exponax.ContourComplex
open Exponax Exponax.Spec Exponax.Gen.Etdrk Exponax.ContourTail

theorem norm_exactPhi_le_strip (z : ℂ) (c : ℝ) (hc : 0 ≤ c) (hz : z.re ≤ c) (i : Fin 14) :
    ‖exactPhi z i‖ ≤ coefWeight i * Real.exp c :=
  (norm_exactPhi_le_max z i).trans
    (mul_le_mul_of_nonneg_left (max_le (Real.one_le_exp hc) (Real.exp_le_exp.mpr hz))
      (coefWeight_nonneg i))

theorem norm_exactPhi_le (z : ℂ) (hz : z.re ≤ 0) (i : Fin 14) : ‖exactPhi z i‖ ≤ coefWeight i := by
  have h := norm_exactPhi_le_strip z 0 le_rfl hz i
  rwa [Real.exp_zero, mul_one] at h

theorem norm_storedCoef_le_strip (dt lam : ℂ) (c : ℝ) (hc : 0 ≤ c) (hz : (lam * dt).re ≤ c)
    (hnz : ∀ ζ ∈ (roots_of_unity 16 : List ℂ), lam * dt ≠ -(1 * ζ)) (i : Fin 14) :
    ‖storedCoef dt lam 16 1 i‖ ≤ ‖dt‖ * ((coefWeight i + 1.7e-12) * Real.exp c) := by
  have h1 := storedCoef_error_strip dt lam c (by linarith) hz hnz i
  have h2 := (norm_mul_le dt _).trans
    (mul_le_mul_of_nonneg_left (norm_exactPhi_le_strip (lam * dt) c hc hz i) (norm_nonneg dt))
  exact ((norm_le_insert' _ _).trans (add_le_add h2 h1)).trans_eq (by ring)

theorem norm_storedCoef_le (dt lam : ℂ) (hz : (lam * dt).re ≤ 0)
    (hnz : ∀ ζ ∈ (roots_of_unity 16 : List ℂ), lam * dt ≠ -(1 * ζ)) (i : Fin 14) :
    ‖storedCoef dt lam 16 1 i‖ ≤ ‖dt‖ * (coefWeight i + 1.7e-12) := by
  have h := norm_storedCoef_le_strip dt lam 0 le_rfl hz hnz i
  rwa [Real.exp_zero, mul_one] at h

theorem norm_storedCoef_le_uniform (dt lam : ℂ) (hz : (lam * dt).re ≤ 0)
    (hnz : ∀ ζ ∈ (roots_of_unity 16 : List ℂ), lam * dt ≠ -(1 * ζ)) (i : Fin 14) :
    ‖storedCoef dt lam 16 1 i‖ ≤ ‖dt‖ * 3.34 := by
  refine (norm_storedCoef_le dt lam hz hnz i).trans (mul_le_mul_of_nonneg_left ?_ (norm_nonneg dt))
  linarith [coefWeight_le i]

theorem norm_exp_term_eq (dt lam : ℂ) : ‖exp_term dt lam‖ = Real.exp (lam * dt).re := by
  rw [C02_exp_term, Complex.norm_exp, mul_comm]

theorem norm_E3_half_exp_term_eq (dt lam r : ℂ) (M : ℕ) :
    ‖E3_half_exp_term dt lam M r‖ = Real.exp ((lam * dt).re / 2) := by
  rw [C02_half_exp_term_E3, Complex.norm_exp, mul_comm]
  congr 1
  simp

theorem norm_exp_term_le_one' (dt lam : ℂ) (hz : (lam * dt).re ≤ 0) : ‖exp_term dt lam‖ ≤ 1 := by
  rw [norm_exp_term_eq, Real.exp_le_one_iff]
  exact hz

theorem norm_exp_term_le_exp (dt lam : ℂ) (c : ℝ) (hz : (lam * dt).re ≤ c) :
    ‖exp_term dt lam‖ ≤ Real.exp c := by
  rw [norm_exp_term_eq]
  exact Real.exp_le_exp.mpr hz

theorem norm_E3_half_exp_term_le_one' (dt lam r : ℂ) (M : ℕ) (hz : (lam * dt).re ≤ 0) :
    ‖E3_half_exp_term dt lam M r‖ ≤ 1 := by
  rw [norm_E3_half_exp_term_eq, Real.exp_le_one_iff]
  linarith

theorem norm_E4_half_exp_term_le_one' (dt lam r : ℂ) (M : ℕ) (hz : (lam * dt).re ≤ 0) :
    ‖E4_half_exp_term dt lam M r‖ ≤ 1 :=
  norm_E3_half_exp_term_le_one' dt lam r M hz

/-! One step on a vector of modes (`ι → ℂ`, pointwise operations; `N` couples the modes): propagator bounded
by `G`, coefficients by `d·k_j`, nonlinearity by `B` componentwise; `C` is any bound for the combination of
the `k_j` the scheme uses. -/

section generic
variable {ι : Type}

theorem scale_le (d k C B : ℝ) (hd : 0 ≤ d) (hB : 0 ≤ B) (hk : k ≤ C) : d * k * B ≤ d * (C * B) := by
  rw [mul_assoc]
  exact mul_le_mul_of_nonneg_left (mul_le_mul_of_nonneg_right hk hB) hd

variable (N : (ι → ℂ) → ι → ℂ) (u : ι → ℂ) (G d C B : ℝ) (hd : 0 ≤ d) (hN : ∀ v i, ‖N v i‖ ≤ B)
include hd hN

theorem norm_E1step_vec (E c1 : ι → ℂ) (k1 : ℝ) (hE : ∀ i, ‖E i‖ ≤ G) (h1 : ∀ i, ‖c1 i‖ ≤ d * k1)
    (hC : k1 ≤ C) (i : ι) : ‖E1step E c1 N u i‖ ≤ G * ‖u i‖ + d * (C * B) := by
  have hB : 0 ≤ B := (norm_nonneg _).trans (hN u i)
  simp only [E1step, Pi.add_apply, Pi.mul_apply]
  refine (norm_add_le_of_le (norm_mul_le_of_le (hE i) (le_refl ‖u i‖))
    (norm_mul_le_of_le (h1 i) (hN _ i))).trans ?_
  linarith [scale_le d k1 C B hd hB hC]

theorem norm_E2step_vec (E c1 c2 : ι → ℂ) (k1 k2 : ℝ) (hE : ∀ i, ‖E i‖ ≤ G)
    (h1 : ∀ i, ‖c1 i‖ ≤ d * k1) (h2 : ∀ i, ‖c2 i‖ ≤ d * k2) (hC : k1 + 2 * k2 ≤ C) (i : ι) :
    ‖E2step E c1 c2 N u i‖ ≤ G * ‖u i‖ + d * (C * B) := by
  have hB : 0 ≤ B := (norm_nonneg _).trans (hN u i)
  simp only [E2step, Pi.add_apply, Pi.mul_apply, Pi.sub_apply]
  have hd2 : ‖N (E * u + c1 * N u) i - N u i‖ ≤ 2 * B :=
    (norm_sub_le _ _).trans (by linarith [hN (E * u + c1 * N u) i, hN u i])
  refine (norm_add_le_of_le (norm_add_le_of_le (norm_mul_le_of_le (hE i) (le_refl ‖u i‖))
    (norm_mul_le_of_le (h1 i) (hN u i))) (norm_mul_le_of_le (h2 i) hd2)).trans ?_
  linarith [scale_le d (k1 + 2 * k2) C B hd hB hC]

theorem norm_E3step_vec (E Eh c1 c2 c3 c4 c5 : ι → ℂ) (k3 k4 k5 : ℝ) (hE : ∀ i, ‖E i‖ ≤ G)
    (h3 : ∀ i, ‖c3 i‖ ≤ d * k3) (h4 : ∀ i, ‖c4 i‖ ≤ d * k4) (h5 : ∀ i, ‖c5 i‖ ≤ d * k5)
    (hC : k3 + k4 + k5 ≤ C) (i : ι) :
    ‖E3step E Eh c1 c2 c3 c4 c5 N u i‖ ≤ G * ‖u i‖ + d * (C * B) := by
  have hB : 0 ≤ B := (norm_nonneg _).trans (hN u i)
  simp only [E3step, Pi.add_apply, Pi.mul_apply]
  refine (norm_add_le_of_le (norm_add_le_of_le (norm_add_le_of_le
    (norm_mul_le_of_le (hE i) (le_refl ‖u i‖)) (norm_mul_le_of_le (h3 i) (hN _ i)))
    (norm_mul_le_of_le (h4 i) (hN _ i))) (norm_mul_le_of_le (h5 i) (hN _ i))).trans ?_
  linarith [scale_le d (k3 + k4 + k5) C B hd hB hC]

theorem norm_E4step_vec (E Eh c1 c2 c3 c4 c5 c6 : ι → ℂ) (k4 k5 k6 : ℝ) (hE : ∀ i, ‖E i‖ ≤ G)
    (h4 : ∀ i, ‖c4 i‖ ≤ d * k4) (h5 : ∀ i, ‖c5 i‖ ≤ d * k5) (h6 : ∀ i, ‖c6 i‖ ≤ d * k6)
    (hC : k4 + 4 * k5 + k6 ≤ C) (i : ι) :
    ‖E4step E Eh c1 c2 c3 c4 c5 c6 N u i‖ ≤ G * ‖u i‖ + d * (C * B) := by
  have hB : 0 ≤ B := (norm_nonneg _).trans (hN u i)
  simp only [E4step, Pi.add_apply, Pi.mul_apply]
  have h2 : ‖(lit 2 : ι → ℂ) i‖ ≤ 2 := (Complex.norm_natCast 2).le
  refine (norm_add_le_of_le (norm_add_le_of_le (norm_add_le_of_le
    (norm_mul_le_of_le (hE i) (le_refl ‖u i‖)) (norm_mul_le_of_le (h4 i) (hN _ i)))
    (norm_mul_le_of_le (norm_mul_le_of_le (h5 i) h2) (norm_add_le_of_le (hN _ i) (hN _ i))))
    (norm_mul_le_of_le (h6 i) (hN _ i))).trans ?_
  linarith [scale_le d (k4 + 4 * k5 + k6) C B hd hB hC]

end generic

section stored
variable {ι : Type}

theorem norm_E4step_stored_le (dt : ℂ) (lam : ι → ℂ) (N : (ι → ℂ) → ι → ℂ) (u : ι → ℂ) (B : ℝ)
    (hz : ∀ i, (lam i * dt).re ≤ 0)
    (hnz : ∀ i, ∀ ζ ∈ (roots_of_unity 16 : List ℂ), lam i * dt ≠ -(1 * ζ))
    (hN : ∀ v i, ‖N v i‖ ≤ B) (i : ι) :
    ‖E4step (fun i => exp_term dt (lam i)) (fun i => E4_half_exp_term dt (lam i) 16 1)
        (fun i => E4_coef_1 dt (lam i) 16 1) (fun i => E4_coef_2 dt (lam i) 16 1)
        (fun i => E4_coef_3 dt (lam i) 16 1) (fun i => E4_coef_4 dt (lam i) 16 1)
        (fun i => E4_coef_5 dt (lam i) 16 1) (fun i => E4_coef_6 dt (lam i) 16 1) N u i‖
      ≤ ‖u i‖ + ‖dt‖ * (7.67 * B) := by
  have h := norm_E4step_vec N u 1 ‖dt‖ 7.67 B (norm_nonneg dt) hN _
    (fun i => E4_half_exp_term dt (lam i) 16 1) (fun i => E4_coef_1 dt (lam i) 16 1)
    (fun i => E4_coef_2 dt (lam i) 16 1) (fun i => E4_coef_3 dt (lam i) 16 1) _ _ _ _ _ _
    (fun i => norm_exp_term_le_one' dt (lam i) (hz i))
    (fun i => norm_storedCoef_le dt (lam i) (hz i) (hnz i) 11)
    (fun i => norm_storedCoef_le dt (lam i) (hz i) (hnz i) 12)
    (fun i => norm_storedCoef_le dt (lam i) (hz i) (hnz i) 13)
    (show ((19 / 6 : ℝ) + 1.7e-12) + 4 * (5 / 6 + 1.7e-12) + (7 / 6 + 1.7e-12) ≤ 7.67 by norm_num) i
  rwa [one_mul] at h

/-- sup-norm form; stated for ETDRK4 only, the other orders go the same way with their constants -/
theorem norm_E4step_stored_le_sup (dt : ℂ) (lam : ι → ℂ) (N : (ι → ℂ) → ι → ℂ) (u : ι → ℂ)
    (U B : ℝ) (hz : ∀ i, (lam i * dt).re ≤ 0)
    (hnz : ∀ i, ∀ ζ ∈ (roots_of_unity 16 : List ℂ), lam i * dt ≠ -(1 * ζ))
    (hu : ∀ i, ‖u i‖ ≤ U) (hN : ∀ v i, ‖N v i‖ ≤ B) (i : ι) :
    ‖E4step (fun i => exp_term dt (lam i)) (fun i => E4_half_exp_term dt (lam i) 16 1)
        (fun i => E4_coef_1 dt (lam i) 16 1) (fun i => E4_coef_2 dt (lam i) 16 1)
        (fun i => E4_coef_3 dt (lam i) 16 1) (fun i => E4_coef_4 dt (lam i) 16 1)
        (fun i => E4_coef_5 dt (lam i) 16 1) (fun i => E4_coef_6 dt (lam i) 16 1) N u i‖
      ≤ U + ‖dt‖ * (7.67 * B) :=
  (norm_E4step_stored_le dt lam N u B hz hnz hN i).trans (by linarith [hu i])

end stored

theorem norm_div_one_add_norm_le (x : ℂ) : ‖x / (1 + (‖x‖ : ℂ))‖ ≤ 1 := by
  rw [norm_div, ← Complex.ofReal_one, ← Complex.ofReal_add, Complex.norm_real, Real.norm_eq_abs,
    abs_of_nonneg (by positivity), div_le_one (by positivity)]
  linarith [norm_nonneg x]

/-- three modes with symbols `0`, `−10⁶`, `3i` (mean, very stiff, advective), `dt = 1/10`, and the
    bounded coupling nonlinearity `N(v)_i = v_0 / (1 + ‖v_0‖)` -/
example : (∀ i : Fin 3, ((![0, -1e6, 3 * Complex.I] : Fin 3 → ℂ) i * (1 / 10 : ℂ)).re ≤ 0) ∧
    (∀ (v : Fin 3 → ℂ) (i : Fin 3), ‖(fun (w : Fin 3 → ℂ) (_ : Fin 3) => w 0 / (1 + ‖w 0‖)) v i‖ ≤ 1) := by
  refine ⟨?_, fun v _ => norm_div_one_add_norm_le (v 0)⟩
  simp only [Fin.forall_fin_succ, Matrix.cons_val_zero, Matrix.cons_val_succ, IsEmpty.forall_iff,
    and_true]
  norm_num

/-- a full instance of the step theorem: two modes (`λ = 0` and the advective `λ = 3i`), `dt = 1`,
    coupling nonlinearity `N(v)_i = v_0/(1 + ‖v_0‖)` bounded by `1` -/
example (u : Fin 2 → ℂ) (i : Fin 2) :
    ‖E4step (fun i => exp_term 1 ((![0, Complex.I * 3] : Fin 2 → ℂ) i))
        (fun i => E4_half_exp_term 1 ((![0, Complex.I * 3] : Fin 2 → ℂ) i) 16 1)
        (fun i => E4_coef_1 1 ((![0, Complex.I * 3] : Fin 2 → ℂ) i) 16 1)
        (fun i => E4_coef_2 1 ((![0, Complex.I * 3] : Fin 2 → ℂ) i) 16 1)
        (fun i => E4_coef_3 1 ((![0, Complex.I * 3] : Fin 2 → ℂ) i) 16 1)
        (fun i => E4_coef_4 1 ((![0, Complex.I * 3] : Fin 2 → ℂ) i) 16 1)
        (fun i => E4_coef_5 1 ((![0, Complex.I * 3] : Fin 2 → ℂ) i) 16 1)
        (fun i => E4_coef_6 1 ((![0, Complex.I * 3] : Fin 2 → ℂ) i) 16 1)
        (fun (w : Fin 2 → ℂ) (_ : Fin 2) => w 0 / (1 + ‖w 0‖)) u i‖
      ≤ ‖u i‖ + ‖(1 : ℂ)‖ * (7.67 * 1) := by
  refine norm_E4step_stored_le 1 _ _ u 1 ?_ ?_ ?_ i
  · intro j
    fin_cases j <;> simp
  · intro j
    refine excluded_of_norm_ne_one 16 _ ?_
    fin_cases j <;> simp
  · exact fun v _ => norm_div_one_add_norm_le (v 0)

example (i : Fin 14) : ‖storedCoef 1 (Complex.I * 3) 16 1 i‖ ≤ ‖(1 : ℂ)‖ * (coefWeight i + 1.7e-12) :=
  norm_storedCoef_le 1 (Complex.I * 3) (by simp) (excluded_of_norm_ne_one 16 _ (by simp)) i

end Exponax.ContourComplex
