import ExponaxModel.Proofs.SpectralOpsEq
import ExponaxModel.Proofs.SpectralLayoutXY
import ExponaxModel.Proofs.LerayAlgebra
import ExponaxModel.Proofs.C2RHermitian
/-
`exponax.make_incompressible(field, indexing="xy")`  (C10 / C04), over `ℂ`, `D ≥ 2`, `N ≥ 1`.

The regenerated `Gen.SpectralOps.make_incompressible D N D "xy"` is the `"ij"` function conjugated with the exchange of
channels 0 and 1 (`swapCh`): under `"xy"` channel `c` is the velocity component along array axis `sw c`.

Hence (`make_incompressible_xy_leray`) it is `irfftn ∘ lerayXY ∘ rfftn` with `lerayXY û = swapCh (Nonlin.leray (swapCh û))`,
which is divergence-free (xy convention) at EVERY stored mode and idempotent in Fourier space.  After `irfftn` these
hold wherever the projected spectrum survives `rfftn ∘ irfftn` (`FixedAt`): at the stored modes with `herm_weight = 2`
for every complex field, and at every stored mode for a REAL field when each self-conjugate-column mode has a partner
with the opposite wave vector or no content at the pair (`fixedAt_of_real`).  That is the case for every real field
without content at the stored modes with a Nyquist wavenumber component (`NyqFreeField`: off those modes the partner
carries the opposite wave vector, at them the spectrum, hence its projection, vanishes), on EVERY grid
(`IncompressibleNyquistFree.fixedAt_of_real_nyquist_free`); on ODD grids there are no such modes and every real field qualifies.
The `"ij"` statements are the `"xy"` ones for the channel-swapped field (`make_incompressible_ij_divfree_of_xy`,
`make_incompressible_ij_idem_of_xy`).  "xy reverses all components" is wrong in `D = 3` (`build_wavenumbers_xy_ne_reverse`).

NOT a theorem (checked by evaluating the model at floating point, `D = 2, 3`, `N = 4, 6`, real fields, both indexings):
on EVEN grids the result is not divergence-free at stored modes of the Nyquist column that mix a Nyquist and a
non-Nyquist wavenumber (`herm_weight = 1`, e.g. `D = 2, N = 4`, modes `(1, 2)` and `(3, 2)`), and `make_incompressible`
is not idempotent there: `irfftn` keeps only the Hermitian part of the projected spectrum, and the conjugate partner of
such a mode carries a wave vector that is not the opposite one.  Hence the restriction to `herm_weight = 2` resp. to
Nyquist-free fields.
-/
set_option linter.unusedVariables false
namespace Exponax.IncompressibleXY
open Exponax Exponax.Layout Exponax.Transform Exponax.Nonlin Exponax.Gen.SpectralOps Exponax.NonlinFunsEq
  Exponax.SpectralOpsEq Exponax.SmallGaps2 Exponax.Gen.SpectralLayout

attribute [local congr] DFT.tab_congr Nonlin.tab2_congr Nonlin.tabC_congr DFT.sumRange_congr

theorem derivative_operator_entry_xy (D N : ℕ) (hD : 2 ≤ D) (hN : 0 < N) (L : ℂ) (d h : ℕ) :
    derivative_operator_entry D L N "xy" d h = derivative_operator_entry D L N "ij" (sw d) h := by
  unfold derivative_operator_entry build_derivative_operator build_scaled_wavenumbers
  simp only []
  rw [(build_wavenumbers_xy_swap D N hD hN _).1, ← swap01_map, ← swap01_map]
  apply swap01_getD
  rw [List.length_map, List.length_map, build_wavenumbers_ij D N (Nat.le_of_succ_le hD) hN, wnVec_length]
  exact hD

theorem derivative_operator_entry_xy_one (N : ℕ) (L : ℂ) (d h : ℕ) :
    derivative_operator_entry 1 L N "xy" d h = derivative_operator_entry 1 L N "ij" d h := by
  unfold derivative_operator_entry build_derivative_operator build_scaled_wavenumbers build_wavenumbers
  have e : ((("xy" : String) == "xy") && (1 == 2)) = false := by decide
  have e' : ((("ij" : String) == "xy") && (1 == 2)) = false := by decide
  simp only [e, e', Bool.false_eq_true, if_false]
  have : Int.toNat (((1 : ℕ) : ℤ) - 1) = 0 := by simp
  simp only [this, List.replicate_zero, List.nil_append, stack_meshgrid_xy_one]

/-- exchange channels 0 and 1 of a multi-channel array (identity on fewer than 2 channels) -/
def swapCh {K : Type} (u : MC K) : MC K := (swap01 u.toList).toArray

@[simp] theorem swapCh_swapCh {K : Type} (u : MC K) : swapCh (swapCh u) = u := by
  simp [swapCh]

@[simp] theorem swapCh_size {K : Type} (u : MC K) : (swapCh u).size = u.size := by
  simp [swapCh]

theorem swapCh_getD {K : Type} (u : MC K) (hu : 2 ≤ u.size) (i : ℕ) :
    (swapCh u).getD i #[] = u.getD (sw i) #[] := by
  have h1 : (swapCh u).getD i #[] = (swap01 u.toList).getD i #[] := by
    simp [swapCh, Array.getD_eq_getD_getElem?, List.getD_eq_getElem?_getD]
  have h2 : u.getD (sw i) #[] = u.toList.getD (sw i) #[] := by
    simp [Array.getD_eq_getD_getElem?, List.getD_eq_getElem?_getD]
  rw [h1, h2]
  exact swap01_getD _ (by simpa using hu) _ _

theorem at2_swapCh (u : MC ℂ) (hu : 2 ≤ u.size) (i x : ℕ) : at2 (swapCh u) i x = at2 u (sw i) x := by
  unfold at2; rw [swapCh_getD u hu]

theorem swapCh_tabC (D : ℕ) (hD : 2 ≤ D) (F : ℕ → Array ℂ) :
    swapCh (tabC D F) = tabC D (fun i => F (sw i)) := by
  unfold swapCh tabC tab
  have : ((Array.range D).map F).toList = (List.range D).map F := by simp
  rw [this, ← range_map_sw D hD F]
  apply Array.ext'
  simp

theorem sumList_swap01 (l : List ℂ) : sumList (swap01 l) = sumList l := by
  rw [sumList_eq, sumList_eq]
  rcases l with _ | ⟨a, _ | ⟨b, t⟩⟩
  · rfl
  · rfl
  · simp only [swap01, List.sum_cons]; ring

theorem sumList_map_sw (D : ℕ) (hD : 2 ≤ D) (f : ℕ → ℂ) :
    sumList ((List.range D).map (fun d => f (sw d))) = sumList ((List.range D).map f) := by
  rw [range_map_sw D hD f, sumList_swap01]

theorem laplace_op_swap01 (l : List ℂ) (order : ℕ) :
    Gen.Steppers.laplace_op (swap01 l) order = Gen.Steppers.laplace_op l order := by
  unfold Gen.Steppers.laplace_op
  rw [← swap01_map, sumList_swap01]

/-- the projected spectrum of channel `i` at the stored mode `h`, exactly as the source computes it:
    `û_i − d_i · (where(Δ̂ == 0, 1, 1/Δ̂) · Σ_k d_k û_k)` with `d = build_derivative_operator(D, 1.0, N, indexing)` -/
noncomputable def projSpec (D N : ℕ) (ix : String) (field : MC ℂ) (i h : ℕ) : ℂ :=
  (rfftnM D N (field.getD i #[])).getD h 0 -
    derivative_operator_entry D (1 : ℂ) N ix i h *
      ((if Gen.Steppers.laplace_op (List.map (fun k => derivative_operator_entry D (1 : ℂ) N ix k h) (List.range D)) 2 = 0
          then 1
          else 1 / Gen.Steppers.laplace_op (List.map (fun k => derivative_operator_entry D (1 : ℂ) N ix k h) (List.range D)) 2) *
        sumList (List.map (fun k => derivative_operator_entry D (1 : ℂ) N ix k h * (rfftnM D N (field.getD k #[])).getD h 0)
          (List.range D)))

theorem make_incompressible_spec (D N : ℕ) (ix : String) (field : MC ℂ) :
    make_incompressible D N D ix field
      = tabC D (fun i => irfftnM D N (tab (numModes D N) (fun h => projSpec D N ix field i h))) := by
  unfold make_incompressible
  snorm
  apply tabC_congr; intro i hi
  apply DFT.irfftnM_congr; intro h hh
  rdd
  simp only [isZero_iff]
  rw [sumList_range_congr D _ _ (fun k hk => by rw [at2_tabC _ _ _ _ hk])]
  rfl

theorem projSpec_xy (D N : ℕ) (hD : 2 ≤ D) (hN : 0 < N) (field : MC ℂ) (hf : 2 ≤ field.size) (i h : ℕ) :
    projSpec D N "xy" field i h = projSpec D N "ij" (swapCh field) (sw i) h := by
  unfold projSpec
  simp only [derivative_operator_entry_xy D N hD hN, swapCh_getD field hf, sw_sw]
  rw [range_map_sw D hD (fun k => derivative_operator_entry D (1 : ℂ) N "ij" k h), laplace_op_swap01,
    ← sumList_map_sw D hD (fun k => derivative_operator_entry D (1 : ℂ) N "ij" k h *
      (rfftnM D N (field.getD (sw k) #[])).getD h 0)]
  simp only [sw_sw]

/-- **`make_incompressible(field, indexing="xy") = swapCh (make_incompressible(swapCh field, indexing="ij"))`**:
    structural equality of the `(D, N, …, N)` arrays, `D ≥ 2`, `N ≥ 1`, any complex field with at least two channels
    (the source requires exactly `D`). -/
theorem make_incompressible_xy (D N : ℕ) (hD : 2 ≤ D) (hN : 0 < N) (field : MC ℂ) (hf : 2 ≤ field.size) :
    make_incompressible D N D "xy" field = swapCh (make_incompressible D N D "ij" (swapCh field)) := by
  rw [make_incompressible_spec, make_incompressible_spec, swapCh_tabC D hD]
  apply tabC_congr; intro i hi
  apply DFT.irfftnM_congr; intro h hh
  rw [tab_getD _ _ _ _ hh, tab_getD _ _ _ _ hh, projSpec_xy D N hD hN field hf]

theorem make_incompressible_xy_at2 (D N : ℕ) (hD : 2 ≤ D) (hN : 0 < N) (field : MC ℂ) (hf : 2 ≤ field.size)
    (i x : ℕ) :
    at2 (make_incompressible D N D "xy" field) i x
      = at2 (make_incompressible D N D "ij" (swapCh field)) (sw i) x := by
  rw [make_incompressible_xy D N hD hN field hf, at2_swapCh]
  unfold make_incompressible
  simp only [tabC, tab, Array.size_map, Array.size_range]
  exact hD

theorem make_incompressible_xy_one (N : ℕ) (hN : 0 < N) (field : MC ℂ) :
    make_incompressible 1 N 1 "xy" field = make_incompressible 1 N 1 "ij" field := by
  rw [make_incompressible_spec, make_incompressible_spec]
  unfold projSpec
  simp only [derivative_operator_entry_xy_one N]

theorem cfg_s_one (D N : ℕ) : (cfg D N 1).s = (((2 * Real.pi : ℝ)) : ℂ) := by
  have := cfg_s_real D N 1
  rwa [Complex.ofReal_one, div_one] at this

theorem two_pi_ne_zero : (2 * Real.pi : ℝ) ≠ 0 := by positivity

theorem leray_size (c : Cfg ℂ) (uh : MC ℂ) : (leray c uh).size = c.D := by
  rw [leray_eq_tab2]; simp [tab2, tab]

noncomputable def specOf (D N : ℕ) (field : MC ℂ) : MC ℂ := tabC D (fun j => rfftnM D N (field.getD j #[]))

/-- the Leray projection in the `"xy"` convention: channel `c` is the component along array axis `sw c` -/
noncomputable def lerayXY (D N : ℕ) (uh : MC ℂ) : MC ℂ := swapCh (leray (cfg D N 1) (swapCh uh))

theorem specOf_size (D N : ℕ) (field : MC ℂ) : (specOf D N field).size = D := by simp [specOf, tabC, tab]

theorem specOf_getD (D N : ℕ) (field : MC ℂ) (i : ℕ) (hi : i < D) :
    (specOf D N field).getD i #[] = rfftnM D N (field.getD i #[]) := tabC_getD _ _ _ hi

theorem swapCh_specOf (D N : ℕ) (hD : 2 ≤ D) (field : MC ℂ) (hf : 2 ≤ field.size) :
    swapCh (specOf D N field) = specOf D N (swapCh field) := by
  unfold specOf
  rw [swapCh_tabC D hD]
  apply tabC_congr; intro i hi
  rw [swapCh_getD field hf]

theorem lerayXY_getD (D N : ℕ) (hD : 2 ≤ D) (uh : MC ℂ) (i : ℕ) :
    (lerayXY D N uh).getD i #[] = (leray (cfg D N 1) (swapCh uh)).getD (sw i) #[] :=
  swapCh_getD _ (by rw [leray_size]; exact hD) i

theorem at2_lerayXY (D N : ℕ) (hD : 2 ≤ D) (uh : MC ℂ) (i h : ℕ) :
    at2 (lerayXY D N uh) i h = at2 (leray (cfg D N 1) (swapCh uh)) (sw i) h := by
  unfold at2; rw [lerayXY_getD D N hD]

theorem make_incompressible_xy_leray (D N : ℕ) (hD : 2 ≤ D) (hN : 0 < N) (field : MC ℂ) (hf : 2 ≤ field.size) :
    make_incompressible D N D "xy" field
      = tabC D (fun i => irfftnM D N ((lerayXY D N (specOf D N field)).getD i #[])) := by
  rw [make_incompressible_xy D N hD hN field hf, make_incompressible_eq D N (Nat.le_of_succ_le hD) hN, swapCh_tabC D hD]
  apply tabC_congr; intro i hi
  rw [lerayXY_getD D N hD, swapCh_specOf D N hD field hf]
  rfl

theorem lerayXY_divfree (D N : ℕ) (hD : 2 ≤ D) (hN : 0 < N) (uh : MC ℂ) (h : ℕ) (hh : h < numModes D N) :
    sumList ((List.range D).map (fun d =>
      derivative_operator_entry D (1 : ℂ) N "xy" d h * at2 (lerayXY D N uh) d h)) = 0 := by
  have key := leray_div_free (cfg D N 1) (2 * Real.pi) (cfg_s_one D N) two_pi_ne_zero (swapCh uh) h hh
  simp only [cfg_D] at key
  rw [← sumList_map_sw D hD] at key
  refine Eq.trans ?_ key
  apply sumList_range_congr; intro d hd
  rw [derivative_operator_entry_xy D N hD hN,
    derivative_operator_entry_eq D N (Nat.le_of_succ_le hD) hN 1 (sw d) h (sw_lt D d hD hd), at2_lerayXY D N hD]

theorem lerayXY_idem (D N : ℕ) (hD : 2 ≤ D) (uh : MC ℂ) :
    lerayXY D N (lerayXY D N uh) = lerayXY D N uh := by
  unfold lerayXY
  rw [swapCh_swapCh, leray_idempotent (cfg D N 1) (2 * Real.pi) (cfg_s_one D N) two_pi_ne_zero]

theorem make_incompressible_xy_getD (D N : ℕ) (hD : 2 ≤ D) (hN : 0 < N) (field : MC ℂ) (hf : 2 ≤ field.size)
    (i : ℕ) (hi : i < D) :
    (make_incompressible D N D "xy" field).getD i #[]
      = irfftnM D N ((lerayXY D N (specOf D N field)).getD i #[]) := by
  rw [make_incompressible_xy_leray D N hD hN field hf, tabC_getD _ _ _ hi]

def FixedAt (D N : ℕ) (P : MC ℂ) (h : ℕ) : Prop :=
  ∀ d < D, (rfftnM D N (irfftnM D N (P.getD d #[]))).getD h 0 = at2 P d h

theorem make_incompressible_xy_divfree_of_fixed (D N : ℕ) (hD : 2 ≤ D) (hN : 0 < N) (field : MC ℂ)
    (hf : 2 ≤ field.size) (h : ℕ) (hh : h < numModes D N)
    (hfix : FixedAt D N (lerayXY D N (specOf D N field)) h) :
    sumList ((List.range D).map (fun d => derivative_operator_entry D (1 : ℂ) N "xy" d h *
      (rfftnM D N ((make_incompressible D N D "xy" field).getD d #[])).getD h 0)) = 0 := by
  refine Eq.trans ?_ (lerayXY_divfree D N hD hN (specOf D N field) h hh)
  apply sumList_range_congr; intro d hd
  rw [make_incompressible_xy_getD D N hD hN field hf d hd, hfix d hd]

theorem make_incompressible_size (D N : ℕ) (ix : String) (field : MC ℂ) :
    (make_incompressible D N D ix field).size = D := by
  rw [make_incompressible_spec]; simp [tabC, tab]

theorem make_incompressible_xy_idem_of_fixed (D N : ℕ) (hD : 2 ≤ D) (hN : 0 < N) (field : MC ℂ)
    (hf : 2 ≤ field.size)
    (hfix : ∀ h < numModes D N, FixedAt D N (lerayXY D N (specOf D N field)) h) :
    make_incompressible D N D "xy" (make_incompressible D N D "xy" field)
      = make_incompressible D N D "xy" field := by
  have hs : 2 ≤ (make_incompressible D N D "xy" field).size := by rw [make_incompressible_size]; exact hD
  -- on the block that `leray` reads, the spectrum of the result is the projected spectrum of `field`
  have key : leray (cfg D N 1) (swapCh (specOf D N (make_incompressible D N D "xy" field)))
      = leray (cfg D N 1) (swapCh (lerayXY D N (specOf D N field))) := by
    apply leray_congr
    intro d h hd hh
    rw [cfg_D] at hd
    rw [modes_cfg] at hh
    rw [at2_swapCh _ (by rw [specOf_size]; exact hD), at2_swapCh _ (by rw [lerayXY, swapCh_size, leray_size]; exact hD),
      ← hfix h hh _ (sw_lt D d hD hd), at2, specOf_getD D N _ _ (sw_lt D d hD hd),
      make_incompressible_xy_getD D N hD hN field hf _ (sw_lt D d hD hd)]
  have key' : lerayXY D N (specOf D N (make_incompressible D N D "xy" field)) = lerayXY D N (specOf D N field) :=
    (congrArg swapCh key).trans (lerayXY_idem D N hD _)
  rw [make_incompressible_xy_leray D N hD hN _ hs, key', ← make_incompressible_xy_leray D N hD hN field hf]

theorem make_incompressible_ij_of_xy (D N : ℕ) (hD : 2 ≤ D) (hN : 0 < N) (field : MC ℂ) (hf : 2 ≤ field.size) :
    make_incompressible D N D "ij" field = swapCh (make_incompressible D N D "xy" (swapCh field)) := by
  rw [make_incompressible_xy D N hD hN (swapCh field) (by rw [swapCh_size]; exact hf), swapCh_swapCh, swapCh_swapCh]

theorem swapCh_real (D N : ℕ) (hD : 2 ≤ D) (field : MC ℂ) (hf : 2 ≤ field.size)
    (hreal : ∀ d < D, ∀ j < N ^ D, ((field.getD d #[]).getD j 0).im = 0) :
    ∀ d < D, ∀ j < N ^ D, (((swapCh field).getD d #[]).getD j 0).im = 0 := by
  intro d hd j hj
  rw [swapCh_getD field hf]
  exact hreal _ (sw_lt D d hD hd) j hj

theorem make_incompressible_ij_divfree_of_xy (D N : ℕ) (hD : 2 ≤ D) (hN : 0 < N) (field : MC ℂ)
    (hf : 2 ≤ field.size) (h : ℕ)
    (hxy : sumList ((List.range D).map (fun d => derivative_operator_entry D (1 : ℂ) N "xy" d h *
      (rfftnM D N ((make_incompressible D N D "xy" (swapCh field)).getD d #[])).getD h 0)) = 0) :
    sumList ((List.range D).map (fun d => derivative_operator_entry D (1 : ℂ) N "ij" d h *
      (rfftnM D N ((make_incompressible D N D "ij" field).getD d #[])).getD h 0)) = 0 := by
  rw [← sumList_map_sw D hD]
  refine Eq.trans ?_ hxy
  apply sumList_range_congr; intro d hd
  rw [derivative_operator_entry_xy D N hD hN, make_incompressible_ij_of_xy D N hD hN field hf,
    swapCh_getD _ (by rw [make_incompressible_size]; exact hD), sw_sw]

theorem make_incompressible_ij_idem_of_xy (D N : ℕ) (hD : 2 ≤ D) (hN : 0 < N) (field : MC ℂ) (hf : 2 ≤ field.size)
    (hxy : make_incompressible D N D "xy" (make_incompressible D N D "xy" (swapCh field))
      = make_incompressible D N D "xy" (swapCh field)) :
    make_incompressible D N D "ij" (make_incompressible D N D "ij" field)
      = make_incompressible D N D "ij" field := by
  have hs : 2 ≤ (make_incompressible D N D "ij" field).size := by rw [make_incompressible_size]; exact hD
  rw [make_incompressible_ij_of_xy D N hD hN _ hs, make_incompressible_ij_of_xy D N hD hN field hf, swapCh_swapCh, hxy]

/-- opposite integer wavenumbers give conjugate derivative symbols (the scale `2π` is real) -/
theorem deriv_conj_of_wn_neg (D N d h h' : ℕ) (hk : (wnFlat D N h').getD d 0 = -(wnFlat D N h).getD d 0) :
    Nonlin.deriv (cfg D N 1) d h' = (starRingEnd ℂ) (Nonlin.deriv (cfg D N 1) d h) := by
  rw [deriv_eq_real _ _ (cfg_s_one D N), deriv_eq_real _ _ (cfg_s_one D N)]
  simp only [kInt, cfg_D, cfg_N, hk, map_mul, Complex.conj_I, Complex.conj_ofReal]
  push_cast
  ring

theorem at2_swapCh_specOf (D N : ℕ) (hD : 2 ≤ D) (field : MC ℂ) (e m : ℕ) (he : e < D) :
    at2 (swapCh (specOf D N field)) e m = (rfftnM D N (field.getD (sw e) #[])).getD m 0 := by
  rw [at2_swapCh _ (by rw [specOf_size]; exact hD), at2, specOf_getD D N _ _ (sw_lt D e hD he)]

theorem fixedAt_of_real (D N : ℕ) (hD : 2 ≤ D) (hN : 0 < N) (field : MC ℂ) (hf : 2 ≤ field.size)
    (hreal : ∀ d < D, ∀ j < N ^ D, ((field.getD d #[]).getD j 0).im = 0)
    (hpair : ∀ m < numModes D N, herm_weight D N m = 1 →
      (∀ e < D, (wnFlat D N (C2R.conjIdx D N m)).getD e 0 = -(wnFlat D N m).getD e 0) ∨
      (∀ e < D, (rfftnM D N (field.getD e #[])).getD m 0 = 0 ∧
        (rfftnM D N (field.getD e #[])).getD (C2R.conjIdx D N m) 0 = 0))
    (h : ℕ) (hh : h < numModes D N) : FixedAt D N (lerayXY D N (specOf D N field)) h := by
  have hD0 : 0 < D := Nat.le_of_succ_le hD
  intro d hd
  refine (C2R.c2r_fixed_iff_herm D N hD0 hN _).mpr ?_ h hh
  intro m hm hw
  have hm' := C2R.conjIdx_lt D N m hD0 hN
  have hsd := sw_lt D d hD hd
  have e1 : ∀ x, ((lerayXY D N (specOf D N field)).getD d #[]).getD x 0
      = at2 (leray (cfg D N 1) (swapCh (specOf D N field))) (sw d) x := fun x => at2_lerayXY D N hD _ d x
  rw [e1, e1]
  rcases hpair m hm hw with hk | hz
  · rw [leray_conj_pair (cfg D N 1) (swapCh (specOf D N field)) m (C2R.conjIdx D N m) hm hm'
        (fun e he => deriv_conj_of_wn_neg D N e m _ (hk e he))
        (fun e he => by
          rw [at2_swapCh_specOf D N hD field e _ he, at2_swapCh_specOf D N hD field e _ he]
          exact C2R.rfftn_conjIdx_of_real D N hD0 hN _ (hreal _ (sw_lt D e hD he)) m hm hw)
        (sw d) hsd, Complex.conj_conj]
  · rw [at2_leray_zero_of_zero (cfg D N 1) _ m hm
        (fun e he => by rw [at2_swapCh_specOf D N hD field e m he]; exact (hz _ (sw_lt D e hD he)).1) (sw d) hsd,
      at2_leray_zero_of_zero (cfg D N 1) _ _ hm'
        (fun e he => by rw [at2_swapCh_specOf D N hD field e _ he]; exact (hz _ (sw_lt D e hD he)).2) (sw d) hsd,
      map_zero]

/-- the hypotheses of the theorems above are satisfiable: `D = 3`, `N = 3`, a real three-channel field -/
example : ∃ (D N : ℕ) (field : MC ℂ), 2 ≤ D ∧ 0 < N ∧ N % 2 = 1 ∧ 2 ≤ field.size ∧
    (∀ d < D, ∀ j < N ^ D, ((field.getD d #[]).getD j 0).im = 0) ∧ 0 < numModes D N := by
  refine ⟨3, 3, tab2 3 27 (fun ch j => ((ch + j : ℕ) : ℂ)), by norm_num, by norm_num, by norm_num, ?_, ?_, by decide⟩
  · simp [tab2, tab]
  · intro d hd j hj
    rw [tab2_getD _ _ _ _ hd, tab_getD _ _ _ _ (by simpa using hj)]
    exact Complex.natCast_im _

/-- a stored mode off the self-conjugate columns (`herm_weight = 2`) exists: `D = 3`, `N = 4`, `h = 1` -/
example : (1 : ℕ) < numModes 3 4 ∧ herm_weight 3 4 1 = 2 := by decide

/-- **the wrong reading**: in `D = 3` the `"xy"` wavenumber vector is NOT the reversed `"ij"` one (only the first two
    components are exchanged): `N = 4`, index `(1, 0, 0)`: `"xy"` reads `(0, 1, 0)`, the reversal `(0, 0, 1)` -/
theorem build_wavenumbers_xy_ne_reverse :
    build_wavenumbers 3 4 "xy" [1, 0, 0] ≠ (build_wavenumbers 3 4 "ij" [1, 0, 0]).reverse := by
  obtain ⟨_, _, h3, h3'⟩ := build_wavenumbers_xy_two_three 4 (by norm_num) [1, 0, 0]
  rw [h3, h3']
  decide

/-- … and it is the swap: `"xy"` reads `(k₁, k₀, k₂)` -/
theorem build_wavenumbers_xy_three_example :
    build_wavenumbers 3 4 "ij" [1, 0, 0] = [1, 0, 0] ∧ build_wavenumbers 3 4 "xy" [1, 0, 0] = [0, 1, 0] := by
  obtain ⟨_, _, h3, h3'⟩ := build_wavenumbers_xy_two_three 4 (by norm_num) [1, 0, 0]
  rw [h3, h3']
  decide

end Exponax.IncompressibleXY
