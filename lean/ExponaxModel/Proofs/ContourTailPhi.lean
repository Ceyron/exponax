import ExponaxModel.Proofs.ContourTail
import Mathlib.Analysis.SpecialFunctions.Integrals.Basic
import Mathlib.Analysis.Complex.RemovableSingularity
/-
C02 support — the entire φ-functions. `LinearOrder.phiE k` is `φ_k(w) = Σ_n wⁿ/(n+k)!` for every `k`: `φ₀ = exp` and
`φ_{k+1}(w) = ∫₀¹ (1−t)^k/k! · e^{wt} dt`. Integration by parts is the recurrence `φ_k(w) = 1/k! + w φ_{k+1}(w)` at
every `w`; entireness follows from it by induction on `k` (removable singularity at `0`), and the integral gives
`‖φ_{k+1}(w)‖ ≤ max 1 e^{Re w}/(k+1)!`. The three the coefficients use, `phi?e w` (`Spec.phi? w` off `0`, the limit
`1/j!` at `0`), are `phiE 1, 2, 3`, and inherit all of it. The order proofs take from the recurrence the Taylor expansion
with entire remainder (`phiE_expand`) and the bound `‖φ_k(w)‖ ≤ e^{‖w‖}/k!` (`norm_phiE_le`).
-/
namespace Exponax.ContourTail
open Exponax Exponax.Spec intervalIntegral

noncomputable def phi1e (w : ℂ) : ℂ := if w = 0 then 1 else phi1 w
noncomputable def phi2e (w : ℂ) : ℂ := if w = 0 then 1 / 2 else phi2 w
noncomputable def phi3e (w : ℂ) : ℂ := if w = 0 then 1 / 6 else phi3 w

theorem phi1e_of_ne (w : ℂ) (hw : w ≠ 0) : phi1e w = phi1 w := if_neg hw
theorem phi2e_of_ne (w : ℂ) (hw : w ≠ 0) : phi2e w = phi2 w := if_neg hw
theorem phi3e_of_ne (w : ℂ) (hw : w ≠ 0) : phi3e w = phi3 w := if_neg hw
@[simp] theorem phi1e_zero : phi1e 0 = 1 := if_pos rfl
@[simp] theorem phi2e_zero : phi2e 0 = 1 / 2 := if_pos rfl
@[simp] theorem phi3e_zero : phi3e 0 = 1 / 6 := if_pos rfl

theorem hasDerivAt_ofReal (t : ℝ) : HasDerivAt (fun t : ℝ => (t : ℂ)) 1 t := by
  simpa using (hasDerivAt_id t).ofReal_comp

theorem hasDerivAt_exp_mul (w : ℂ) (t : ℝ) :
    HasDerivAt (fun t : ℝ => Complex.exp (w * t)) (Complex.exp (w * t) * w) t := by
  simpa using ((hasDerivAt_ofReal t).const_mul w).cexp

theorem continuous_weighted_integral (g : ℝ → ℂ) (hg : Continuous g) :
    Continuous fun w : ℂ => ∫ t in (0 : ℝ)..1, g t * Complex.exp (w * t) := by
  refine continuous_parametric_intervalIntegral_of_continuous' ?_ 0 1
  simp only [Function.uncurry_def]
  fun_prop

theorem differentiable_of_removable (φ g : ℂ → ℂ) (hc : Continuous φ)
    (hg : DifferentiableOn ℂ g {0}ᶜ) (heq : ∀ w, w ≠ 0 → φ w = g w) : Differentiable ℂ φ := by
  have hsub : (Set.univ \ {0} : Set ℂ) ⊆ {0}ᶜ := fun w hw => hw.2
  have hd : DifferentiableOn ℂ φ (Set.univ \ {0}) :=
    (hg.mono hsub).congr (fun w hw => heq w hw.2)
  have h := (Complex.differentiableOn_compl_singleton_and_continuousAt_iff
    (s := Set.univ) (c := (0 : ℂ)) Filter.univ_mem).mp ⟨hd, hc.continuousAt⟩
  exact differentiableOn_univ.mp h

theorem exp_mul_le_max (x t : ℝ) (h0 : 0 ≤ t) (h1 : t ≤ 1) : Real.exp (x * t) ≤ max 1 (Real.exp x) := by
  rcases le_total x 0 with hx | hx
  · exact le_max_of_le_left (Real.exp_le_one_iff.mpr (mul_nonpos_of_nonpos_of_nonneg hx h0))
  · exact le_max_of_le_right (Real.exp_le_exp.mpr (mul_le_of_le_one_right hx h1))

theorem norm_weighted_integral_le (g : ℝ → ℂ) (G : ℝ → ℝ) (I : ℝ) (w : ℂ) (hg : Continuous g)
    (hG : Continuous G) (hgG : ∀ t ∈ Set.Icc (0 : ℝ) 1, ‖g t‖ ≤ G t)
    (hI : ∫ t in (0 : ℝ)..1, G t = I) :
    ‖∫ t in (0 : ℝ)..1, g t * Complex.exp (w * t)‖ ≤ I * max 1 (Real.exp w.re) := by
  refine (norm_integral_le_integral_norm zero_le_one).trans ?_
  rw [← hI, ← integral_mul_const]
  refine integral_mono_on zero_le_one ?_ ?_ ?_
  · exact (by fun_prop : Continuous fun t : ℝ => ‖g t * Complex.exp (w * t)‖).intervalIntegrable _ _
  · exact (by fun_prop : Continuous fun t : ℝ => G t * max 1 (Real.exp w.re)).intervalIntegrable _ _
  · intro t ht
    rw [norm_mul, Complex.norm_exp, Complex.re_mul_ofReal]
    exact mul_le_mul (hgG t ht) (exp_mul_le_max w.re t ht.1 ht.2) (Real.exp_pos _).le
      ((norm_nonneg _).trans (hgG t ht))

end Exponax.ContourTail

-- the entire φ-functions carry the names `LinearOrder.*` of the order proofs (LinearTestOrder*.lean), their users
namespace Exponax.LinearOrder
open Exponax Exponax.Spec Exponax.ContourTail

/-- `phiI k` is `φ_{k+1}`: the index is shifted by one -/
noncomputable def phiI (k : ℕ) (w : ℂ) : ℂ :=
  ∫ t in (0 : ℝ)..1, ((1 - (t : ℂ)) ^ k / (k.factorial : ℂ)) * Complex.exp (w * t)

noncomputable def phiE : ℕ → ℂ → ℂ
  | 0 => Complex.exp
  | (k + 1) => phiI k

@[simp] theorem phiE_zero (w : ℂ) : phiE 0 w = Complex.exp w := rfl
theorem phiE_succ_eq (k : ℕ) (w : ℂ) : phiE (k + 1) w = phiI k w := rfl

open intervalIntegral

@[fun_prop]
theorem continuous_phiE (k : ℕ) : Continuous (phiE k) := by
  cases k with
  | zero => exact Complex.continuous_exp
  | succ k =>
    exact continuous_weighted_integral (fun t : ℝ => (1 - (t : ℂ)) ^ k / (k.factorial : ℂ)) (by fun_prop)

/-- integration by parts, with `−(1−t)^{k+1}/(k+1)! · e^{wt}` as the primitive -/
theorem phiI_succ (k : ℕ) (w : ℂ) :
    phiI k w = 1 / ((k + 1).factorial : ℂ) + w * phiI (k + 1) w := by
  have hk : ((k : ℂ) + 1) ≠ 0 := Nat.cast_add_one_ne_zero k
  have hfac : (k.factorial : ℂ) ≠ 0 := Nat.cast_ne_zero.mpr k.factorial_ne_zero
  have h : ∀ t ∈ Set.uIcc (0 : ℝ) 1,
      HasDerivAt (fun t : ℝ => -(1 - (t : ℂ)) ^ (k + 1) / ((k + 1).factorial : ℂ) * Complex.exp (w * t))
        ((1 - (t : ℂ)) ^ k / (k.factorial : ℂ) * Complex.exp (w * t)
          - w * ((1 - (t : ℂ)) ^ (k + 1) / ((k + 1).factorial : ℂ) * Complex.exp (w * t))) t := by
    intro t _
    have h1 := ((((hasDerivAt_ofReal t).const_sub 1).pow (k + 1)).neg.div_const
      ((k + 1).factorial : ℂ)).mul (hasDerivAt_exp_mul w t)
    refine h1.congr_deriv ?_
    simp only [Nat.add_sub_cancel, Nat.cast_add, Nat.cast_one, Pi.neg_apply, Pi.pow_apply,
      Nat.factorial_succ, Nat.cast_mul]
    field_simp
    ring
  have hI : ∀ j : ℕ, IntervalIntegrable
      (fun t : ℝ => (1 - (t : ℂ)) ^ j / (j.factorial : ℂ) * Complex.exp (w * t))
      MeasureTheory.volume 0 1 := fun j => (by fun_prop : Continuous _).intervalIntegrable _ _
  have hi := integral_eq_sub_of_hasDerivAt h ((hI k).sub ((hI (k + 1)).const_mul w))
  rw [integral_sub (hI k) ((hI (k + 1)).const_mul w), integral_const_mul] at hi
  rw [phiI, phiI, eq_add_of_sub_eq hi]
  simp [neg_div]

theorem mul_phiI_zero (w : ℂ) : w * phiI 0 w = Complex.exp w - 1 := by
  rcases eq_or_ne w 0 with rfl | hw
  · simp
  · simp [phiI, integral_exp_mul_complex hw, mul_div_cancel₀ _ hw]

/-- the recurrence holds at `w = 0` too, where the closed forms `Spec.phi?` do not -/
theorem phiE_succ : ∀ (k : ℕ) (w : ℂ), phiE k w = 1 / (k.factorial : ℂ) + w * phiE (k + 1) w
  | 0, w => by simp [phiE_succ_eq, mul_phiI_zero]
  | k + 1, w => phiI_succ k w

theorem phiE_at_zero (k : ℕ) : phiE k 0 = 1 / (k.factorial : ℂ) := by
  rw [phiE_succ k 0, zero_mul, add_zero]

theorem phiE_succ_of_ne (k : ℕ) {w : ℂ} (hw : w ≠ 0) :
    phiE (k + 1) w = (phiE k w - 1 / (k.factorial : ℂ)) / w := by
  rw [phiE_succ k w, add_sub_cancel_left, mul_div_cancel_left₀ _ hw]

theorem differentiable_phiE : ∀ k, Differentiable ℂ (phiE k)
  | 0 => Complex.differentiable_exp
  | k + 1 => by
    refine differentiable_of_removable (phiE (k + 1))
      (fun w => (phiE k w - 1 / (k.factorial : ℂ)) / w) (continuous_phiE _) ?_
      (fun w hw => phiE_succ_of_ne k hw)
    exact ((differentiable_phiE k).differentiableOn.sub_const _).div differentiableOn_id
      (fun w hw => hw)

theorem norm_phiE_succ_le (k : ℕ) (w : ℂ) :
    ‖phiE (k + 1) w‖ ≤ max 1 (Real.exp w.re) / ((k + 1).factorial : ℝ) := by
  have hg : ∀ t ∈ Set.Icc (0 : ℝ) 1,
      ‖(1 - (t : ℂ)) ^ k / (k.factorial : ℂ)‖ ≤ (1 - t) ^ k / (k.factorial : ℝ) := by
    intro t ht
    rw [norm_div, Complex.norm_natCast, norm_pow, ← Complex.ofReal_one, ← Complex.ofReal_sub,
      Complex.norm_real, Real.norm_eq_abs, abs_of_nonneg (sub_nonneg.mpr ht.2)]
  have hI : ∫ t in (0 : ℝ)..1, (1 - t) ^ k / (k.factorial : ℝ) = 1 / ((k + 1).factorial : ℝ) := by
    rw [integral_div, integral_comp_sub_left (fun x => x ^ k) 1, sub_self, sub_zero, integral_pow,
      one_pow, zero_pow k.succ_ne_zero, sub_zero, div_div, Nat.factorial_succ, Nat.cast_mul,
      Nat.cast_succ]
  exact (norm_weighted_integral_le _ _ _ w (by fun_prop) (by fun_prop) hg hI).trans_eq
    (one_div_mul_eq_div _ _)

theorem phiE_one (w : ℂ) : phiE 1 w = phi1e w := by
  rcases eq_or_ne w 0 with rfl | hw
  · simp [phiE_at_zero]
  · simp [phi1e_of_ne w hw, phiE_succ_of_ne 0 hw, phi1]

theorem phiE_two (w : ℂ) : phiE 2 w = phi2e w := by
  rcases eq_or_ne w 0 with rfl | hw
  · simp [phiE_at_zero]
  · simp [phi2e_of_ne w hw, phi2_rec w hw, ← phi1e_of_ne w hw, ← phiE_one, phiE_succ_of_ne 1 hw]

theorem phiE_three (w : ℂ) : phiE 3 w = phi3e w := by
  rcases eq_or_ne w 0 with rfl | hw
  · simp [phiE_at_zero, Nat.factorial]
  · simp [phi3e_of_ne w hw, phi3_rec w hw, ← phi2e_of_ne w hw, ← phiE_two, phiE_succ_of_ne 2 hw]

theorem exp_eq_one_add_mul_phi1e (w : ℂ) : Complex.exp w = 1 + w * phi1e w := by
  simpa [phiE_one] using phiE_succ 0 w

theorem phiE_expand (k n : ℕ) (w : ℂ) :
    phiE k w = (∑ j ∈ Finset.range n, w ^ j / ((k + j).factorial : ℂ)) + w ^ n * phiE (k + n) w := by
  induction n with
  | zero => simp
  | succ n ih =>
    rw [Finset.sum_range_succ, ih, phiE_succ (k + n) w]
    rw [show k + (n + 1) = k + n + 1 by ring]
    ring

theorem norm_phiE_le (k : ℕ) (w : ℂ) :
    ‖phiE k w‖ ≤ Real.exp ‖w‖ / (k.factorial : ℝ) := by
  have hre : w.re ≤ ‖w‖ := Complex.re_le_norm w
  cases k with
  | zero =>
    simp only [phiE_zero, Nat.factorial_zero, Nat.cast_one, div_one, Complex.norm_exp]
    exact Real.exp_le_exp.mpr hre
  | succ k =>
    refine (norm_phiE_succ_le k w).trans ?_
    refine div_le_div_of_nonneg_right ?_ (by positivity)
    exact max_le (Real.one_le_exp (norm_nonneg w)) (Real.exp_le_exp.mpr hre)

end Exponax.LinearOrder

namespace Exponax.ContourTail
open Exponax Exponax.Spec intervalIntegral

theorem continuous_phi1e : Continuous phi1e := funext LinearOrder.phiE_one ▸ LinearOrder.continuous_phiE 1
theorem continuous_phi2e : Continuous phi2e := funext LinearOrder.phiE_two ▸ LinearOrder.continuous_phiE 2
theorem continuous_phi3e : Continuous phi3e := funext LinearOrder.phiE_three ▸ LinearOrder.continuous_phiE 3

theorem differentiable_phi1e : Differentiable ℂ phi1e :=
  funext LinearOrder.phiE_one ▸ LinearOrder.differentiable_phiE 1
theorem differentiable_phi2e : Differentiable ℂ phi2e :=
  funext LinearOrder.phiE_two ▸ LinearOrder.differentiable_phiE 2
theorem differentiable_phi3e : Differentiable ℂ phi3e :=
  funext LinearOrder.phiE_three ▸ LinearOrder.differentiable_phiE 3

theorem norm_phi1e_le (w : ℂ) : ‖phi1e w‖ ≤ max 1 (Real.exp w.re) := by
  simpa only [LinearOrder.phiE_one, zero_add, Nat.factorial_one, Nat.cast_one, div_one]
    using LinearOrder.norm_phiE_succ_le 0 w

theorem norm_phi2e_le (w : ℂ) : ‖phi2e w‖ ≤ max 1 (Real.exp w.re) / 2 := by
  simpa only [LinearOrder.phiE_two, Nat.reduceAdd, Nat.factorial_two, Nat.cast_ofNat]
    using LinearOrder.norm_phiE_succ_le 1 w

theorem norm_phi3e_le (w : ℂ) : ‖phi3e w‖ ≤ max 1 (Real.exp w.re) / 6 := by
  simpa only [LinearOrder.phiE_three, Nat.reduceAdd, show Nat.factorial 3 = 6 from rfl, Nat.cast_ofNat]
    using LinearOrder.norm_phiE_succ_le 2 w

theorem norm_phi_le_of_re_nonpos (w : ℂ) (h : w.re ≤ 0) :
    ‖phi1e w‖ ≤ 1 ∧ ‖phi2e w‖ ≤ 1 / 2 ∧ ‖phi3e w‖ ≤ 1 / 6 := by
  have h1 := norm_phi1e_le w
  have h2 := norm_phi2e_le w
  have h3 := norm_phi3e_le w
  rw [max_eq_left (Real.exp_le_one_iff.mpr h)] at h1 h2 h3
  exact ⟨h1, h2, h3⟩

example : phi1e 2 = phi1 2 := phi1e_of_ne 2 (by norm_num)
example : ((-3 : ℂ)).re ≤ 0 := by norm_num

end Exponax.ContourTail
