import ExponaxModel.Proofs.SymmetryND
import ExponaxModel.Proofs.LerayAlgebra
import ExponaxModel.Proofs.StageRel
import ExponaxModel.Proofs.AliasOffBand
/-
C08 in general dimension: the pseudo-spectral pipeline commutes with the n-D roll.  Every `D`, every
`N ≥ 1`, any shift vector `s : List ℤ`, arbitrary complex stored spectra.

  `nifft c (phase ⊙ û) = rollND (nifft c û) s`   (mask, then c2r)
  `nfft c (rollND v s) = phase ⊙ nfft c v`       (r2c, then mask)

Pointwise maps and the grid sum commute with the roll; per-mode multipliers (`deriv`, `laplace`,
`invLapOne`, `mask`, Leray's matrix) commute with the phase.

The model terms build their fields with `tab`, so the statements about them are phrased with four
relations that only look at the entries that are read:

  `SpecShift c s a a'`  : `a'_h = phase_s(h) · a_h` on the stored modes   (holds for `shiftSpecND`)
  `FieldRoll c s v v'`  : `v'_j = v_{rollIdx j}` on the grid               (holds for `rollND`)
  `MCShift`, `MCRoll`   : the same for every channel of a multi-channel array;

`TermEquivariant c s T` says that `T` maps `MCShift`-related inputs to `MCShift`-related outputs.
`shiftRel c hN s` is the translation as an instance of `Stage.StageRel` (`SpecShift` on spectra, `rollIdx` on the
grid, no condition on grid values, every multiplier its own partner), so that a walk `Stage.T_termRel` of a model
term gives `TermEquivariant c s T` (`termEquivariant_of_termRel`).
-/
namespace Exponax.EquivND
open Exponax Exponax.Layout Exponax.Transform Exponax.Nonlin Exponax.Alias Exponax.Symmetry
open Exponax.SymmetryND Finset

def SpecShift (c : Cfg ℂ) (s : List ℤ) (a a' : Array ℂ) : Prop :=
  ∀ h, h < modes c → a'.getD h 0 = shiftPhaseND c.D c.N s h * a.getD h 0

def FieldRoll (c : Cfg ℂ) (s : List ℤ) (v v' : Array ℂ) : Prop :=
  ∀ j, j < gridSize c → v'.getD j 0 = v.getD (rollIdx c.D c.N s j) 0

def MCShift (c : Cfg ℂ) (s : List ℤ) (uh uh' : MC ℂ) : Prop :=
  ∀ ch h, h < modes c → at2 uh' ch h = shiftPhaseND c.D c.N s h * at2 uh ch h

def MCRoll (c : Cfg ℂ) (s : List ℤ) (u u' : MC ℂ) : Prop :=
  ∀ ch j, j < gridSize c → at2 u' ch j = at2 u ch (rollIdx c.D c.N s j)

noncomputable def shiftMC (D N : ℕ) (s : List ℤ) (uh : MC ℂ) : MC ℂ := uh.map (shiftSpecND D N s)

def rollMC (D N : ℕ) (s : List ℤ) (u : MC ℂ) : MC ℂ := u.map (fun v => rollND D N v s)

def TermEquivariant (c : Cfg ℂ) (s : List ℤ) (T : MC ℂ → MC ℂ) : Prop :=
  ∀ uh uh' : MC ℂ, MCShift c s uh uh' → MCShift c s (T uh) (T uh')

theorem modes_eq (c : Cfg ℂ) : modes c = numModes c.D c.N := rfl
theorem gridSize_eq (c : Cfg ℂ) : gridSize c = c.N ^ c.D := rfl

theorem at2_getD (uh : MC ℂ) (ch h : ℕ) : (uh.getD ch #[]).getD h 0 = at2 uh ch h := Stage.getD_getD uh ch h

theorem specShift_shiftSpecND (c : Cfg ℂ) (s : List ℤ) (a : Array ℂ) :
    SpecShift c s a (shiftSpecND c.D c.N s a) :=
  fun h hh => shiftSpecND_getD c.D c.N s a h hh

theorem fieldRoll_rollND (c : Cfg ℂ) (s : List ℤ) (v : Array ℂ) :
    FieldRoll c s v (rollND c.D c.N v s) :=
  fun j hj => rollND_getD _ _ _ _ j hj

theorem at2_map (f : Array ℂ → Array ℂ) (u : MC ℂ) (ch i : ℕ) :
    at2 (u.map f) ch i = if ch < u.size then (f (u.getD ch #[])).getD i 0 else 0 := by
  unfold at2
  rw [getD_map]
  split_ifs
  · rfl
  · rfl

theorem mcShift_shiftMC (c : Cfg ℂ) (s : List ℤ) (uh : MC ℂ) :
    MCShift c s uh (shiftMC c.D c.N s uh) := by
  intro ch h hh
  rw [shiftMC, at2_map]
  by_cases hc : ch < uh.size
  · rw [if_pos hc]
    exact specShift_shiftSpecND c s _ h hh
  · rw [if_neg hc, at2_of_size_le uh ch h (by omega), mul_zero]

theorem TermEquivariant.shiftMC {c : Cfg ℂ} {s : List ℤ} {T : MC ℂ → MC ℂ}
    (hT : TermEquivariant c s T) (uh : MC ℂ) (ch h : ℕ) (hh : h < modes c) :
    at2 (T (shiftMC c.D c.N s uh)) ch h = shiftPhaseND c.D c.N s h * at2 (T uh) ch h :=
  hT _ _ (mcShift_shiftMC c s uh) ch h hh

/-- `rollIdx` stays on the grid (no positivity hypothesis needed) -/
theorem rollIdx_lt' (D N : ℕ) (s : List ℤ) (j : ℕ) (hj : j < N ^ D) : rollIdx D N s j < N ^ D := by
  rcases Nat.eq_zero_or_pos N with h0 | hN
  · subst h0
    rcases Nat.eq_zero_or_pos D with hD | hD
    · subst hD
      simp [rollIdx, digitMap, ofDigits]
    · rw [zero_pow (by omega)] at hj
      omega
  · exact rollIdx_lt D N hN s j

theorem mcRoll_rollMC (c : Cfg ℂ) (s : List ℤ) (u : MC ℂ) :
    MCRoll c s u (rollMC c.D c.N s u) := by
  intro ch j hj
  rw [rollMC, at2_map]
  by_cases hc : ch < u.size
  · rw [if_pos hc]
    exact fieldRoll_rollND c s _ j hj
  · rw [if_neg hc, at2_of_size_le u ch _ (by omega)]

theorem specShift_tab (c : Cfg ℂ) (s : List ℤ) (f f' : ℕ → ℂ)
    (h : ∀ m, m < modes c → f' m = shiftPhaseND c.D c.N s m * f m) :
    SpecShift c s (tab (modes c) f) (tab (modes c) f') := by
  intro m hm
  rw [Nonlin.tab_getD _ _ _ _ hm, Nonlin.tab_getD _ _ _ _ hm, h m hm]

theorem mcShift_tab2 (c : Cfg ℂ) (s : List ℤ) (C : ℕ) (f f' : ℕ → ℕ → ℂ)
    (h : ∀ ch, ch < C → ∀ m, m < modes c → f' ch m = shiftPhaseND c.D c.N s m * f ch m) :
    MCShift c s (tab2 C (modes c) f) (tab2 C (modes c) f') := by
  intro ch m hm
  rw [at2_tab2_any, at2_tab2_any]
  split_ifs with hc
  · exact h ch hc.1 m hc.2
  · rw [mul_zero]

theorem phase_mul_left {p a a' : ℂ} (k : ℂ) (h : a' = p * a) : k * a' = p * (k * a) := by
  rw [h, mul_left_comm]

theorem nifft_eq_rollND (c : Cfg ℂ) (hN : 0 < c.N) (s : List ℤ) (a a' : Array ℂ)
    (h : SpecShift c s a a') : nifft c a' = rollND c.D c.N (nifft c a) s := by
  unfold nifft
  rw [← irfftn_shiftSpecND c.D c.N hN]
  congr 1
  unfold shiftSpecND
  apply Nonlin.tab_congr
  intro m hm
  rw [Nonlin.tab_getD _ _ _ _ hm, h m hm]
  ring

theorem nifft_fieldRoll (c : Cfg ℂ) (hN : 0 < c.N) (s : List ℤ) (a a' : Array ℂ)
    (h : SpecShift c s a a') : FieldRoll c s (nifft c a) (nifft c a') := by
  rw [nifft_eq_rollND c hN s a a' h]
  exact fieldRoll_rollND c s _

theorem nifft_shiftSpecND (c : Cfg ℂ) (hN : 0 < c.N) (s : List ℤ) (uh : Array ℂ) :
    nifft c (shiftSpecND c.D c.N s uh) = rollND c.D c.N (nifft c uh) s :=
  nifft_eq_rollND c hN s _ _ (specShift_shiftSpecND c s uh)

theorem nfft_rollND (c : Cfg ℂ) (hN : 0 < c.N) (s : List ℤ) (v : Array ℂ) (h : ℕ) (hh : h < modes c) :
    (nfft c (rollND c.D c.N v s)).getD h 0 = shiftPhaseND c.D c.N s h * (nfft c v).getD h 0 := by
  rw [nfft_getD c _ h hh, nfft_getD c _ h hh, rfftn_rollND c.D c.N hN v s h hh, shiftPhaseND]
  ring

theorem nfft_size (c : Cfg ℂ) (v : Array ℂ) : (nfft c v).size = numModes c.D c.N := by
  unfold nfft
  simp [modes]

theorem nifft_size (c : Cfg ℂ) (a : Array ℂ) : (nifft c a).size = c.N ^ c.D := by
  unfold nifft
  simp

theorem nfft_rollND_array (c : Cfg ℂ) (hN : 0 < c.N) (s : List ℤ) (v : Array ℂ) :
    nfft c (rollND c.D c.N v s) = shiftSpecND c.D c.N s (nfft c v) := by
  apply array_ext_getD _ _ (numModes c.D c.N) (nfft_size c _) (by simp)
  intro h hh
  rw [nfft_rollND c hN s v h hh, shiftSpecND_getD _ _ _ _ h hh]

theorem nfft_specShift (c : Cfg ℂ) (hN : 0 < c.N) (s : List ℤ) (v v' : Array ℂ)
    (h : FieldRoll c s v v') : SpecShift c s (nfft c v) (nfft c v') := by
  have e : nfft c v' = nfft c (rollND c.D c.N v s) :=
    nfft_congr c _ _ (fun j hj => by rw [h j hj, rollND_getD _ _ _ _ j hj])
  intro m hm
  rw [e, nfft_rollND c hN s v m hm]

theorem rollND_tab (D N : ℕ) (s : List ℤ) (f : ℕ → ℂ) :
    rollND D N (tab (N ^ D) f) s = tab (N ^ D) (fun j => f (rollIdx D N s j)) := by
  unfold rollND
  apply Nonlin.tab_congr
  intro j hj
  rw [Nonlin.tab_getD _ _ _ _ (rollIdx_lt' D N s j hj)]

/-- any index type `ι` of fields, e.g. the channels -/
theorem rollND_mapN {ι : Type} (D N : ℕ) (g : (ι → ℂ) → ℂ) (u : ι → Array ℂ) (s : List ℤ) :
    rollND D N (tab (N ^ D) fun j => g (fun i => (u i).getD j 0)) s
      = tab (N ^ D) fun j => g (fun i => (rollND D N (u i) s).getD j 0) := by
  rw [rollND_tab]
  apply Nonlin.tab_congr
  intro j hj
  congr 1
  funext i
  rw [rollND_getD _ _ _ _ j hj]

theorem rollND_map (D N : ℕ) (g : ℂ → ℂ) (u : Array ℂ) (s : List ℤ) :
    rollND D N (tab (N ^ D) fun j => g (u.getD j 0)) s
      = tab (N ^ D) fun j => g ((rollND D N u s).getD j 0) :=
  rollND_mapN D N (fun f : ℕ → ℂ => g (f 0)) (fun _ => u) s

theorem rollND_map₂ (D N : ℕ) (g : ℂ → ℂ → ℂ) (u v : Array ℂ) (s : List ℤ) :
    rollND D N (tab (N ^ D) fun j => g (u.getD j 0) (v.getD j 0)) s
      = tab (N ^ D) fun j => g ((rollND D N u s).getD j 0) ((rollND D N v s).getD j 0) :=
  rollND_mapN D N (fun f : ℕ → ℂ => g (f 0) (f 1)) (fun i => match i with | 0 => u | _ => v) s

theorem rollND_mul (D N : ℕ) (u v : Array ℂ) (s : List ℤ) :
    rollND D N (tab (N ^ D) fun j => u.getD j 0 * v.getD j 0) s
      = tab (N ^ D) fun j => (rollND D N u s).getD j 0 * (rollND D N v s).getD j 0 :=
  rollND_map₂ D N (fun x y => x * y) u v s

theorem rollND_map₃ (D N : ℕ) (g : ℂ → ℂ → ℂ → ℂ) (u v w : Array ℂ) (s : List ℤ) :
    rollND D N (tab (N ^ D) fun j => g (u.getD j 0) (v.getD j 0) (w.getD j 0)) s
      = tab (N ^ D) fun j => g ((rollND D N u s).getD j 0) ((rollND D N v s).getD j 0)
          ((rollND D N w s).getD j 0) :=
  rollND_mapN D N (fun f : ℕ → ℂ => g (f 0) (f 1) (f 2)) (fun i => match i with | 0 => u | 1 => v | _ => w) s

theorem sumRange_rollND (D N : ℕ) (hN : 0 < N) (s : List ℤ) (u : Array ℂ) :
    sumRange (N ^ D) (fun j => (rollND D N u s).getD j 0) = sumRange (N ^ D) (fun j => u.getD j 0) := by
  rw [DFT.sumRange_eq, DFT.sumRange_eq, ← sum_rollIdx D N hN s (fun j => u.getD j 0)]
  exact Finset.sum_congr rfl (fun j hj => rollND_getD _ _ _ _ j (Finset.mem_range.mp hj))

noncomputable def shiftRel (c : Cfg ℂ) (hN : 0 < c.N) (s : List ℤ) : Stage.StageRel c c where
  S := SpecShift c s
  ρ := rollIdx c.D c.N s
  P := ⊤
  Cov g g' := ∀ m, m < modes c → g' m = g m
  ρ_lt := rollIdx_lt' c.D c.N s
  S_congr h1 h2 h m hm := by rw [← h1 m hm, ← h2 m hm, h m hm]
  S_zero := specShift_tab c s _ _ fun _ _ => (mul_zero _).symm
  S_add h1 h2 := specShift_tab c s _ _ fun m hm => by
    have e1 := h1 m hm
    have e2 := h2 m hm
    rw [Nonlin.tab_getD _ _ _ _ hm, Nonlin.tab_getD _ _ _ _ hm] at e1 e2
    rw [e1, e2, mul_add]
  S_mul hg h := specShift_tab c s _ _ fun m hm => by rw [hg m hm]; exact phase_mul_left _ (h m hm)
  nifft_rel h := nifft_fieldRoll c hN s _ _ h
  nifft_mem _ _ _ := Subfield.mem_top _
  nfft_rel _ h := nfft_specShift c hN s _ _ h
  mean f := by
    rw [DFT.sumRange_eq, DFT.sumRange_eq]
    exact congrArg (· / _) (sum_rollIdx c.D c.N hN s f)
  cov_const _ _ _ _ := rfl
  cov_mul hg hk m hm := by show _ * _ = _ * _; rw [hg m hm, hk m hm]
  cov_mask _ _ := rfl
  cov_sumDeriv _ _ := rfl
  cov_laplace _ _ := rfl
  ι := id
  ι_lt _ h := h
  ι_inj _ _ _ _ h := h
  cov_deriv _ _ _ _ := rfl
  dead d' hd' hni := absurd rfl (hni d' hd')

theorem shiftRel_cov (c : Cfg ℂ) (hN : 0 < c.N) (s : List ℤ) (g : ℕ → ℂ) : (shiftRel c hN s).Cov g g :=
  fun _ _ => rfl

theorem mcs_shiftRel_iff (c : Cfg ℂ) (hN : 0 < c.N) (s : List ℤ) (uh uh' : MC ℂ) :
    Stage.MCS (shiftRel c hN s) id uh uh' ↔ MCShift c s uh uh' := by
  refine forall_congr' fun ch => forall_congr' fun m => imp_congr_right fun hm => ?_
  rw [Nonlin.tab_getD _ _ _ _ hm, Nonlin.tab_getD _ _ _ _ hm]
  rfl

theorem termEquivariant_of_termRel {c : Cfg ℂ} {hN : 0 < c.N} {s : List ℤ} {T : MC ℂ → MC ℂ}
    (h : Stage.TermRel (shiftRel c hN s) id T T) : TermEquivariant c s T :=
  fun uh uh' hu => (mcs_shiftRel_iff c hN s _ _).mp (h uh uh' ((mcs_shiftRel_iff c hN s _ _).mpr hu))

/-! ## per-mode multipliers

`deriv c d`, `laplace c order`, `invLapOne c`, `mask c`, `invLapZero c`, `polySymbol c terms` are
functions `ℕ → ℂ` of the mode index: `SymmetryND.shiftSpecND_mul_diag` / `(shiftRel c hN s).S_mul` apply to
each of them (written out below for the first four). -/

theorem shiftSpecND_deriv (c : Cfg ℂ) (s : List ℤ) (d : ℕ) (a : Array ℂ) :
    shiftSpecND c.D c.N s (tab (numModes c.D c.N) fun h => deriv c d h * a.getD h 0)
      = tab (numModes c.D c.N) fun h => deriv c d h * (shiftSpecND c.D c.N s a).getD h 0 :=
  shiftSpecND_mul_diag c.D c.N s _ a

theorem shiftSpecND_laplace (c : Cfg ℂ) (s : List ℤ) (order : ℕ) (a : Array ℂ) :
    shiftSpecND c.D c.N s (tab (numModes c.D c.N) fun h => laplace c order h * a.getD h 0)
      = tab (numModes c.D c.N) fun h => laplace c order h * (shiftSpecND c.D c.N s a).getD h 0 :=
  shiftSpecND_mul_diag c.D c.N s _ a

theorem shiftSpecND_invLapOne (c : Cfg ℂ) (s : List ℤ) (a : Array ℂ) :
    shiftSpecND c.D c.N s (tab (numModes c.D c.N) fun h => invLapOne c h * a.getD h 0)
      = tab (numModes c.D c.N) fun h => invLapOne c h * (shiftSpecND c.D c.N s a).getD h 0 :=
  shiftSpecND_mul_diag c.D c.N s _ a

theorem shiftSpecND_mask (c : Cfg ℂ) (s : List ℤ) (a : Array ℂ) :
    shiftSpecND c.D c.N s (tab (numModes c.D c.N) fun h => mask c h * a.getD h 0)
      = tab (numModes c.D c.N) fun h => mask c h * (shiftSpecND c.D c.N s a).getD h 0 :=
  shiftSpecND_mul_diag c.D c.N s _ a

theorem leray_mcShift (c : Cfg ℂ) (s : List ℤ) (uh uh' : MC ℂ) (h : MCShift c s uh uh') :
    MCShift c s (leray c uh) (leray c uh') := by
  rw [leray_eq_tab2, leray_eq_tab2]
  apply mcShift_tab2
  intro d hd m hm
  have hdiv : specDiv c uh' m = shiftPhaseND c.D c.N s m * specDiv c uh m := by
    rw [specDiv_eq_sum, specDiv_eq_sum, Finset.mul_sum]
    exact Finset.sum_congr rfl fun e _ => phase_mul_left _ (h e m hm)
  rw [h d m hm, hdiv]
  ring

theorem leray_shiftMC (c : Cfg ℂ) (s : List ℤ) (uh : MC ℂ) (d h : ℕ) (hh : h < modes c) :
    at2 (leray c (shiftMC c.D c.N s uh)) d h = shiftPhaseND c.D c.N s h * at2 (leray c uh) d h :=
  leray_mcShift c s _ _ (mcShift_shiftMC c s uh) d h hh

/-- `mask·fft(g(ifft(mask·â_i) …))` with an arbitrary pointwise map `g` of arbitrarily many fields -/
theorem pointwise_termN_specShift {ι : Type} (c : Cfg ℂ) (hN : 0 < c.N) (s : List ℤ)
    (g : (ι → ℂ) → ℂ) (a a' : ι → Array ℂ) (h : ∀ i, SpecShift c s (a i) (a' i)) :
    SpecShift c s (nfft c (tab (gridSize c) fun j => g (fun i => (nifft c (a i)).getD j 0)))
      (nfft c (tab (gridSize c) fun j => g (fun i => (nifft c (a' i)).getD j 0))) :=
  (shiftRel c hN s).nfft_tab (fun _ _ => Subfield.mem_top _) fun j hj =>
    congrArg g (funext fun i => nifft_fieldRoll c hN s _ _ (h i) j hj)

example : ∃ (c : Cfg ℂ), 0 < c.N ∧ ∃ h, h < modes c := ⟨⟨2, 4, 1, 2, 3⟩, by norm_num, 5, by decide⟩
example : ∃ (c : Cfg ℂ), 0 < c.N ∧ ∃ h, h < modes c := ⟨⟨3, 3, 1, 2, 3⟩, by norm_num, 17, by decide⟩

example (c : Cfg ℂ) (s : List ℤ) (uh : MC ℂ) : ∃ uh', MCShift c s uh uh' := ⟨_, mcShift_shiftMC c s uh⟩
example (c : Cfg ℂ) (s : List ℤ) (a : Array ℂ) : ∃ a', SpecShift c s a a' := ⟨_, specShift_shiftSpecND c s a⟩
example (c : Cfg ℂ) (s : List ℤ) (v : Array ℂ) : ∃ v', FieldRoll c s v v' := ⟨_, fieldRoll_rollND c s v⟩
example (c : Cfg ℂ) (s : List ℤ) (u : MC ℂ) : ∃ u', MCRoll c s u u' := ⟨_, mcRoll_rollMC c s u⟩

end Exponax.EquivND
