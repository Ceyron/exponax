import ExponaxModel.Proofs.DiffTermsAdjoint
import ExponaxModel.Proofs.DiffTermsMain
/-
C07 support: reverse mode for the convection term (single channel, non-conservative, any dimension `D`).

With `P = multOp mask` (dealiasing), `∂̃_d = multOp (mask · i s k_d)` (derivative of the dealiased field) and
`S = multOp (−b · mask)`, the JVP `convectionJvp` (`DiffTermsConv`) reads `DF(u)[v] = S (Σ_d P u · ∂̃_d v + P v · ∂̃_d u)`
(`convection_phys_jvp_eq`), and what reverse-mode AD must return is (`C07_convection_reverse_mode`)
`DF(u)ᵀ w = Σ_d ( −∂̃_d (w̃ · P u) + P (w̃ · ∂̃_d u) )`, `w̃ = multOp (conj(−b) · mask) w`:
every `D`, every `N ≥ 1` (even `N` included), real `2π/L`, complex `b` allowed.
-/
namespace Exponax.DiffTerms
open Exponax Exponax.Transform Exponax.Nonlin Finset

theorem nifft_fft_entry (c : Cfg ℂ) (C : ℕ) (σ : ℕ → ℂ) (u : Phys C (gridSize c)) (ch : Fin C)
    (j : Fin (gridSize c)) :
    (nifft c (tab (modes c) (fun h => σ h * at2 (fftC c C (embP C (gridSize c) u)) ch h))).getD j 0
      = ((multOp c (fun h => mask c h * σ h) (u ch) j : ℝ) : ℂ) := by
  rw [multOp_ofReal c]
  unfold nifft
  exact congrArg (fun a : Array ℂ => (irfftnM c.D c.N a).getD j 0)
    (DFT.tab_congr _ _ _ fun m hm => by rw [tab_getD _ _ _ _ hm, at2_fftC_embP, mul_assoc])

theorem nifft_row_entry (c : Cfg ℂ) (C : ℕ) (u : Phys C (gridSize c)) (ch : Fin C)
    (j : Fin (gridSize c)) :
    (nifft c ((fftC c C (embP C (gridSize c) u)).getD ch #[])).getD j 0
      = ((multOp c (mask c) (u ch) j : ℝ) : ℂ) := by
  have e : nifft c ((fftC c C (embP C (gridSize c) u)).getD ch #[])
      = nifft c (tab (modes c) (fun h => 1 * at2 (fftC c C (embP C (gridSize c) u)) ch h)) :=
    Nonlin.nifft_congr c _ _ (fun m hm => by rw [tab_getD _ _ _ _ hm, one_mul]; rfl)
  rw [e, nifft_fft_entry c C (fun _ => 1) u ch j]
  congr 2
  funext m
  exact mul_one _

theorem irfft_nfft_entry (c : Cfg ℂ) (τ : ℕ → ℂ) (A : Array ℂ) (a : Fin (gridSize c) → ℝ)
    (hA : ∀ j : Fin (gridSize c), A.getD j 0 = ((a j : ℝ) : ℂ)) (j : Fin (gridSize c)) :
    ((irfftnM c.D c.N (tab (modes c) (fun h => τ h * (nfft c A).getD h 0))).getD j 0).re
      = multOp c (fun h => τ h * mask c h) a j := by
  unfold multOp
  have e1 : rfftnM c.D c.N A = rfftnM c.D c.N (emb1 (gridSize c) a) :=
    DFT.rfftnM_congr c.D c.N _ _ (fun i hi => by
      have hi' : i < gridSize c := hi
      rw [hA ⟨i, hi'⟩, emb1_getD (gridSize c) a ⟨i, hi'⟩])
  exact congrArg (fun a : Array ℂ => ((irfftnM c.D c.N a).getD j 0).re)
    (DFT.tab_congr _ _ _ fun m hm => by
      unfold nfft
      rw [tab_getD _ _ _ _ hm, e1, mul_assoc])

noncomputable def Pm (c : Cfg ℂ) (f : Fin (gridSize c) → ℝ) : Fin (gridSize c) → ℝ := multOp c (mask c) f
noncomputable def Dm (c : Cfg ℂ) (d : ℕ) (f : Fin (gridSize c) → ℝ) : Fin (gridSize c) → ℝ :=
  multOp c (fun h => mask c h * Nonlin.deriv c d h) f
noncomputable def Sm (c : Cfg ℂ) (scale : ℂ) (f : Fin (gridSize c) → ℝ) : Fin (gridSize c) → ℝ :=
  multOp c (fun h => -scale * mask c h) f

noncomputable def convJ (c : Cfg ℂ) (scale : ℂ) (u v : Fin (gridSize c) → ℝ) : Fin (gridSize c) → ℝ :=
  Sm c scale (fun j => ∑ d ∈ range c.D, (Pm c u j * Dm c d v j + Pm c v j * Dm c d u j))

/-- the flags `true false` select the single-channel, non-conservative branch -/
theorem convection_phys_jvp_eq (c : Cfg ℂ) (scale : ℂ) (u v : Phys 1 (gridSize c)) :
    physJvp c 1 1 (convectionJvp c 1 scale true false) u v 0 = convJ c scale (u 0) (v 0) := by
  funext j
  show (at2 (ifftC c 1 (convectionJvp c 1 scale true false (fftC c 1 (embP 1 (gridSize c) u))
        (fftC c 1 (embP 1 (gridSize c) v)))) 0 j).re = _
  unfold ifftC
  rw [at2_tabC _ _ _ _ Nat.one_pos, convectionJvp_single_nc, NonlinFunsEq.tab2_getD _ _ _ _ Nat.one_pos]
  -- the product array has real entries `Σ_d P u · ∂̃_d v + P v · ∂̃_d u`
  refine irfft_nfft_entry c (fun _ => -scale) _ _ (fun i => ?_) j
  rw [tab_getD _ _ _ _ i.2, sumList_eq, DFT.list_range_map_sum]
  push_cast
  refine Finset.sum_congr rfl (fun d hd => ?_)
  have hd' := Finset.mem_range.mp hd
  rw [at2_tabC _ _ _ _ Nat.one_pos, at2_tabC _ _ _ _ Nat.one_pos, at2_tabC _ _ _ _ hd', at2_tabC _ _ _ _ hd']
  exact congrArg₂ (· + ·)
    (congrArg₂ (· * ·) (nifft_row_entry c 1 u 0 i) (nifft_fft_entry c 1 (fun h => Nonlin.deriv c d h) v 0 i))
    (congrArg₂ (· * ·) (nifft_row_entry c 1 v 0 i) (nifft_fft_entry c 1 (fun h => Nonlin.deriv c d h) u 0 i))

theorem ip_finsum_right {G : ℕ} {ι : Type} (s : Finset ι) (f : Fin G → ℝ) (g : ι → Fin G → ℝ) :
    ip f (fun j => ∑ d ∈ s, g d j) = ∑ d ∈ s, ip f (g d) := by
  unfold ip
  simp only [Finset.mul_sum]
  exact Finset.sum_comm

theorem ip_finsum_left {G : ℕ} {ι : Type} (s : Finset ι) (f : Fin G → ℝ) (g : ι → Fin G → ℝ) :
    ip (fun j => ∑ d ∈ s, g d j) f = ∑ d ∈ s, ip (g d) f := by
  rw [ip_comm, ip_finsum_right]
  exact Finset.sum_congr rfl (fun d _ => ip_comm _ _)

theorem Dm_transpose (c : Cfg ℂ) (hN : 0 < c.N) (s : ℝ) (hs : c.s = (s : ℂ)) (d : ℕ) (f g : Fin (gridSize c) → ℝ) :
    ip g (Dm c d f) = -ip (Dm c d g) f :=
  (multOp_adjoint_of_conj c hN (-1) _ (fun m _ => by
    rw [map_mul, Conserve.conj_mask, conj_deriv c s hs]; push_cast; ring) f g).trans (neg_one_mul _)

theorem Pm_transpose (c : Cfg ℂ) (hN : 0 < c.N) (f g : Fin (gridSize c) → ℝ) :
    ip g (Pm c f) = ip (Pm c g) f :=
  multOp_self_adjoint c hN _ (fun m _ => Conserve.conj_mask c m) f g

noncomputable def convVjp (c : Cfg ℂ) (scale : ℂ) (u w : Fin (gridSize c) → ℝ) : Fin (gridSize c) → ℝ :=
  fun j => ∑ d ∈ range c.D,
    (-Dm c d (fun i => multOp c (fun h => (starRingEnd ℂ) (-scale * mask c h)) w i * Pm c u i) j
      + Pm c (fun i => multOp c (fun h => (starRingEnd ℂ) (-scale * mask c h)) w i * Dm c d u i) j)

theorem convJ_transpose (c : Cfg ℂ) (hN : 0 < c.N) (s : ℝ) (hs : c.s = (s : ℂ)) (scale : ℂ)
    (u v w : Fin (gridSize c) → ℝ) :
    ip w (convJ c scale u v) = ip (convVjp c scale u w) v := by
  unfold convJ Sm convVjp
  rw [multOp_adjoint c hN, ip_finsum_right, ip_finsum_left]
  refine Finset.sum_congr rfl (fun d _ => ?_)
  set wt := multOp c (fun h => (starRingEnd ℂ) (-scale * mask c h)) w with hwt
  have h1 : ip wt (fun j => Pm c u j * Dm c d v j + Pm c v j * Dm c d u j)
      = ip (fun i => wt i * Pm c u i) (Dm c d v) + ip (fun i => wt i * Dm c d u i) (Pm c v) := by
    unfold ip
    rw [← Finset.sum_add_distrib]
    exact Finset.sum_congr rfl (fun j _ => by ring)
  have h2 : ip (fun j => -Dm c d (fun i => wt i * Pm c u i) j + Pm c (fun i => wt i * Dm c d u i) j) v
      = -ip (Dm c d (fun i => wt i * Pm c u i)) v + ip (Pm c (fun i => wt i * Dm c d u i)) v := by
    unfold ip
    rw [← Finset.sum_neg_distrib, ← Finset.sum_add_distrib]
    exact Finset.sum_congr rfl (fun j _ => by ring)
  rw [h1, h2, Dm_transpose c hN s hs, Pm_transpose c hN]

/-- non-vacuity of the hypotheses: `N = 4`, `D = 1`, `2π/L = 1` -/
example : ∃ (c : Cfg ℂ) (s : ℝ), 0 < c.N ∧ c.s = (s : ℂ) := ⟨⟨1, 4, 1, 2, 3⟩, 1, by norm_num, by norm_num⟩

end Exponax.DiffTerms
