import ExponaxModel.Proofs.AliasNDBasic
import ExponaxModel.Proofs.StoredModes
/-
C01 support: the `D`-dimensional single-mode read-off.

For an integer wave vector `κ` (length `D`) the grid field
  `u_j = a · cos(2π (κ·j)/N + φ)`,   `κ·j = phaseK D N κ j = Σ_d κ_d · digit D N j d`,
has the stored half spectrum (`rfftnM D N`)
  `û_h = (a/2) e^{iφ} N^D · [k(h) ≡ κ mod N] + (a/2) e^{-iφ} N^D · [k(h) ≡ -κ mod N]`   (every `κ`)
and, when `2|κ_d| < N` on every axis (strictly below Nyquist),
  `û_h = (a/2) e^{iφ} N^D · [k(h) = κ] + (a/2) e^{-iφ} N^D · [k(h) = -κ]`.
The three cases of the half layout (`κ ≠ 0` stored, its stored partner when `κ_last = 0`, `κ = 0`)
are read off as corollaries.
-/
namespace Exponax.ExactLinear
open Exponax Exponax.Layout Exponax.Transform Exponax.DFT Finset

def negK (κ : List ℤ) : List ℤ := κ.map (fun x => -x)

@[simp] theorem negK_length (κ : List ℤ) : (negK κ).length = κ.length := by simp [negK]

theorem negK_getD (κ : List ℤ) (d : ℕ) : (negK κ).getD d 0 = -(κ.getD d 0) := by
  simp only [negK, List.getD_eq_getElem?_getD, List.getElem?_map]
  cases κ[d]? <;> simp

@[simp] theorem negK_negK (κ : List ℤ) : negK (negK κ) = κ := by
  simp [negK, List.map_map]

theorem list_ext_getD (l l' : List ℤ) (n : ℕ) (hl : l.length = n) (hl' : l'.length = n)
    (h : ∀ d < n, l.getD d 0 = l'.getD d 0) : l = l' := by
  apply List.ext_getElem (by omega)
  intro d h1 h2
  have := h d (by omega)
  rw [List.getD_eq_getElem?_getD, List.getD_eq_getElem?_getD, List.getElem?_eq_getElem h1,
    List.getElem?_eq_getElem h2] at this
  simpa using this

noncomputable def modeField (D N : ℕ) (κ : List ℤ) (a φ : ℝ) : Array ℂ :=
  tab (N ^ D) (fun j => (((a * Real.cos (2 * Real.pi * ((phaseK D N κ j : ℤ) : ℝ) / N + φ)) : ℝ) : ℂ))

@[simp] theorem modeField_size (D N : ℕ) (κ : List ℤ) (a φ : ℝ) : (modeField D N κ a φ).size = N ^ D := by
  simp [modeField]

theorem modeField_getD (D N : ℕ) (κ : List ℤ) (a φ : ℝ) (j : ℕ) (hj : j < N ^ D) :
    (modeField D N κ a φ).getD j 0
      = (((a * Real.cos (2 * Real.pi * ((phaseK D N κ j : ℤ) : ℝ) / N + φ)) : ℝ) : ℂ) := by
  rw [modeField, tab_getD _ _ _ _ hj]

theorem modeField_real (D N : ℕ) (κ : List ℤ) (a φ : ℝ) (j : ℕ) (hj : j < N ^ D) :
    ((modeField D N κ a φ).getD j 0).im = 0 := by
  rw [modeField_getD D N κ a φ j hj, Complex.ofReal_im]

theorem phaseK_eq_dot (D N : ℕ) (κ : List ℤ) (j : ℕ) :
    phaseK D N κ j = ∑ d ∈ range D, κ.getD d 0 * (digit D N j d : ℤ) := phaseK_eq_sum D N κ j

theorem phaseK_negK (D N : ℕ) (κ : List ℤ) (j : ℕ) : phaseK D N (negK κ) j = -phaseK D N κ j := by
  rw [phaseK_eq_sum, phaseK_eq_sum, ← Finset.sum_neg_distrib]
  apply Finset.sum_congr rfl
  intro d _
  rw [negK_getD]; ring

theorem modeField_negK (D N : ℕ) (κ : List ℤ) (a φ : ℝ) :
    modeField D N (negK κ) a φ = modeField D N κ a (-φ) := by
  unfold modeField
  congr 1
  funext j
  rw [phaseK_negK, ← Real.cos_neg]
  congr 3
  push_cast
  ring

theorem rfftnM_modeField_general (D N : ℕ) (hN : 0 < N) (κ : List ℤ) (a φ : ℝ) (h : ℕ)
    (hh : h < numModes D N) :
    (rfftnM D N (modeField D N κ a φ)).getD h 0
      = (a / 2 : ℂ) * Complex.exp (φ * Complex.I) *
          (if ∀ d < D, (N : ℤ) ∣ (wnFlat D N h).getD d 0 - κ.getD d 0 then ((N ^ D : ℕ) : ℂ) else 0)
        + (a / 2 : ℂ) * Complex.exp (-(φ * Complex.I)) *
          (if ∀ d < D, (N : ℤ) ∣ (wnFlat D N h).getD d 0 + κ.getD d 0 then ((N ^ D : ℕ) : ℂ) else 0) := by
  have := AliasND.dftV_cos D N hN (fun d : Fin D => κ.getD d 0) (AliasND.kvec D N h) a φ
  simp only [← AliasND.phaseK_eq_vdot, AliasND.kvec, Fin.forall_iff] at this
  rw [AliasND.rfftn_eq_dftV D N hN _ h hh]
  exact this

/-! ### below Nyquist, congruence mod `N` is equality -/

def BelowNyquist (D N : ℕ) (κ : List ℤ) : Prop :=
  κ.length = D ∧ ∀ d < D, 2 * |κ.getD d 0| < (N : ℤ)

theorem belowNyquist_of_forall_mem {N : ℕ} {κ : List ℤ} (h : ∀ k ∈ κ, 2 * |k| < (N : ℤ)) :
    BelowNyquist κ.length N κ := by
  refine ⟨rfl, fun d hd => ?_⟩
  rw [List.getD_eq_getElem?_getD, List.getElem?_eq_getElem hd, Option.getD_some]
  exact h _ (List.getElem_mem hd)

theorem BelowNyquist.negK {D N : ℕ} {κ : List ℤ} (hκ : BelowNyquist D N κ) :
    BelowNyquist D N (negK κ) := by
  refine ⟨by rw [negK_length]; exact hκ.1, ?_⟩
  intro d hd
  rw [negK_getD, abs_neg]
  exact hκ.2 d hd

theorem not_belowNyquist_of_nyquist_component (D N : ℕ) (κ : List ℤ) (d : ℕ) (hd : d < D) (hev : N % 2 = 0)
    (hk : (κ.getD d 0).natAbs = N / 2) : ¬ BelowNyquist D N κ := by
  intro hB
  have h1 := hB.2 d hd
  have h2 : |κ.getD d 0| = ((N / 2 : ℕ) : ℤ) := by rw [← hk, Int.natCast_natAbs]
  rw [h2] at h1
  omega

end Exponax.ExactLinear

namespace Exponax.SmallGaps2
open Exponax Exponax.Layout Exponax.Transform Exponax.DFT Exponax.ExactLinear Finset

theorem list_eq_iff_getD {l l' : List ℤ} (n : ℕ) (hl : l.length = n) (hl' : l'.length = n) :
    l = l' ↔ ∀ d < n, l.getD d 0 = l'.getD d 0 :=
  ⟨fun e d _ => by rw [e], list_ext_getD l l' n hl hl'⟩

def AtMostNyquist (D N : ℕ) (κ : List ℤ) : Prop :=
  κ.length = D ∧ ∀ d < D, 2 * |κ.getD d 0| ≤ (N : ℤ)

theorem AtMostNyquist.negK {D N : ℕ} {κ : List ℤ} (hκ : AtMostNyquist D N κ) : AtMostNyquist D N (negK κ) := by
  refine ⟨by rw [negK_length]; exact hκ.1, ?_⟩
  intro d hd
  rw [negK_getD, abs_neg]
  exact hκ.2 d hd

theorem atMostNyquist_of_below {D N : ℕ} {κ : List ℤ} (hκ : BelowNyquist D N κ) : AtMostNyquist D N κ :=
  ⟨hκ.1, fun d hd => (hκ.2 d hd).le⟩

/-- one component of the stored representative: leading axes store `+N/2` as `−N/2`, the last axis `−N/2` as `+N/2` -/
def canonC (D N d : ℕ) (x : ℤ) : ℤ :=
  if d + 1 = D then (if 2 * x = -(N : ℤ) then -x else x) else (if 2 * x = (N : ℤ) then -x else x)

/-- the stored representative of `κ` modulo `N` -/
def canonK (D N : ℕ) (κ : List ℤ) : List ℤ := (List.range D).map (fun d => canonC D N d (κ.getD d 0))

@[simp] theorem canonK_length (D N : ℕ) (κ : List ℤ) : (canonK D N κ).length = D := by simp [canonK]

theorem canonK_getD (D N : ℕ) (κ : List ℤ) (d : ℕ) (hd : d < D) :
    (canonK D N κ).getD d 0 = canonC D N d (κ.getD d 0) := by
  simp [canonK, List.getD_eq_getElem?_getD, hd]

theorem dvd_canonC_sub (D N d : ℕ) (x : ℤ) : (N : ℤ) ∣ canonC D N d x - x := by
  unfold canonC
  split_ifs with _ h h
  · exact ⟨1, by rw [mul_one, ← neg_eq_iff_eq_neg.mpr h]; ring⟩
  · exact sub_self x ▸ dvd_zero _
  · exact ⟨-1, by rw [← h]; ring⟩
  · exact sub_self x ▸ dvd_zero _

theorem flip_neg_eq_iff (s x : ℤ) :
    (if 2 * -x = s then - -x else -x) = (if 2 * x = s then -x else x) ↔ x = 0 ∨ 2 * x = s ∨ 2 * x = -s := by
  split_ifs <;> omega

theorem canonC_neg_eq_iff (D N d : ℕ) (x : ℤ) :
    canonC D N d (-x) = canonC D N d x ↔ x = 0 ∨ 2 * x = (N : ℤ) ∨ 2 * x = -(N : ℤ) := by
  by_cases hl : d + 1 = D
  · rw [canonC, canonC, if_pos hl, if_pos hl, flip_neg_eq_iff, neg_neg, @or_comm (2 * x = -(N : ℤ))]
  · rw [canonC, canonC, if_neg hl, if_neg hl, flip_neg_eq_iff]

theorem canonK_of_belowNyquist (D N : ℕ) (κ : List ℤ) (hκ : BelowNyquist D N κ) : canonK D N κ = κ := by
  apply list_ext_getD _ _ D (canonK_length D N κ) hκ.1
  intro d hd
  rw [canonK_getD D N κ d hd]
  have h := hκ.2 d hd
  have h1 := le_abs_self (κ.getD d 0)
  have h2 := neg_abs_le (κ.getD d 0)
  have hp : 2 * κ.getD d 0 ≠ (N : ℤ) := by omega
  have hm : 2 * κ.getD d 0 ≠ -(N : ℤ) := by omega
  rw [canonC, if_neg hp, if_neg hm, ite_self]

theorem canonK_one (N : ℕ) (x : ℤ) : canonK 1 N [x] = [if 2 * x = -(N : ℤ) then -x else x] := rfl

theorem stored_eq_canonK_one (N k h : ℕ) (hN : 0 < N) :
    ([(h : ℤ)] = canonK 1 N [(k : ℤ)] ↔ h = k) ∧
      ([(h : ℤ)] = canonK 1 N (negK [(k : ℤ)]) ↔ h = k ∧ (k = 0 ∨ 2 * k = N)) := by
  have hk : 2 * (k : ℤ) ≠ -(N : ℤ) :=
    ((neg_neg_of_pos (Int.natCast_pos.mpr hN)).trans_le (mul_nonneg zero_le_two (Int.natCast_nonneg k))).ne'
  rw [canonK_one, if_neg hk, show negK [(k : ℤ)] = [-(k : ℤ)] from rfl, canonK_one, List.singleton_inj,
    List.singleton_inj, Nat.cast_inj]
  refine ⟨Iff.rfl, ?_⟩
  by_cases e : 2 * k = N
  · rw [if_pos (by rw [mul_neg, neg_inj]; exact_mod_cast e), neg_neg, Nat.cast_inj]
    exact ⟨fun e' => ⟨e', Or.inr e⟩, And.left⟩
  · rw [if_neg (by rw [mul_neg, neg_inj]; exact_mod_cast e)]
    omega

/-- the stored wavenumbers of axis `d`: `rfftfreq` on the last axis, `fftfreq` on the others -/
theorem stored_range (D N h d : ℕ) (hN : 0 < N) (hh : h < numModes D N) (hd : d < D) :
    if d + 1 = D then 0 ≤ (wnFlat D N h).getD d 0 ∧ 2 * (wnFlat D N h).getD d 0 ≤ (N : ℤ)
    else -(N : ℤ) ≤ 2 * (wnFlat D N h).getD d 0 ∧ 2 * (wnFlat D N h).getD d 0 < (N : ℤ) := by
  have := unflatten_getD_lt (wavenumberShape D N) (wavenumberShape_pos D N hN) h hh d
    (by rw [wavenumberShape_length D N (by omega)]; exact hd)
  rw [wavenumberShape_getD D N d hd] at this
  rw [wnFlat_getD D N h d hd]
  split_ifs with hl
  · rw [wn_last D N _ d hl]
    rw [if_pos hl] at this
    omega
  · rw [wn_leading D N _ d hl]
    rw [if_neg hl] at this
    have h1 := fftfreq_lower N _ this
    have h2 := fftfreq_upper N _ this
    omega

/-- a stored component `w` of axis `d` and `canonC x` lie in the same window of length `N` (`(−N/2, N/2]` on the last
    axis, `[−N/2, N/2)` on the others), so they are equal as soon as they are congruent -/
theorem dvd_sub_iff_canonC {D N d : ℕ} {w x : ℤ} (hN : 0 < N) (hx : 2 * |x| ≤ (N : ℤ))
    (hw : if d + 1 = D then 0 ≤ w ∧ 2 * w ≤ (N : ℤ) else -(N : ℤ) ≤ 2 * w ∧ 2 * w < (N : ℤ)) :
    (N : ℤ) ∣ w - x ↔ w = canonC D N d x := by
  rw [← sub_add_sub_cancel w (canonC D N d x) x, dvd_add_left (dvd_canonC_sub D N d x)]
  refine ⟨fun hdv => sub_eq_zero.mp (Int.eq_zero_of_abs_lt_dvd hdv ?_), fun e => e ▸ (sub_self w).symm ▸ dvd_zero _⟩
  have h1 := le_abs_self x
  have h2 := neg_abs_le x
  rw [abs_lt]
  unfold canonC
  split_ifs at hw ⊢ <;> omega

theorem dvd_sub_iff_canon (D N : ℕ) (hN : 0 < N) (κ : List ℤ) (hκ : AtMostNyquist D N κ)
    (h : ℕ) (hh : h < numModes D N) :
    (∀ d < D, (N : ℤ) ∣ (wnFlat D N h).getD d 0 - κ.getD d 0) ↔ wnFlat D N h = canonK D N κ := by
  rw [list_eq_iff_getD D (wnFlat_length D N h) (canonK_length D N κ)]
  refine forall₂_congr fun d hd => ?_
  rw [canonK_getD D N κ d hd]
  exact dvd_sub_iff_canonC hN (hκ.2 d hd) (stored_range D N h d hN hh hd)

theorem dvd_add_iff_canon (D N : ℕ) (hN : 0 < N) (κ : List ℤ) (hκ : AtMostNyquist D N κ)
    (h : ℕ) (hh : h < numModes D N) :
    (∀ d < D, (N : ℤ) ∣ (wnFlat D N h).getD d 0 + κ.getD d 0) ↔ wnFlat D N h = canonK D N (negK κ) := by
  rw [← dvd_sub_iff_canon D N hN (negK κ) hκ.negK h hh]
  simp only [negK_getD, sub_neg_eq_add]

/-- Nyquist components included: one with `2|κ_d| = N` exists only for even `N`, the statement holds for every
    `N ≥ 1` -/
theorem rfftnM_modeField_nyquist (D N : ℕ) (hD : 0 < D) (hN : 0 < N) (κ : List ℤ) (hκ : AtMostNyquist D N κ)
    (a φ : ℝ) (h : ℕ) (hh : h < numModes D N) :
    (rfftnM D N (modeField D N κ a φ)).getD h 0
      = (if wnFlat D N h = canonK D N κ then (a / 2 : ℂ) * ((N ^ D : ℕ) : ℂ) * Complex.exp (φ * Complex.I) else 0)
        + (if wnFlat D N h = canonK D N (negK κ)
            then (a / 2 : ℂ) * ((N ^ D : ℕ) : ℂ) * Complex.exp (-(φ * Complex.I)) else 0) := by
  rw [rfftnM_modeField_general D N hN κ a φ h hh]
  simp only [dvd_sub_iff_canon D N hN κ hκ h hh, dvd_add_iff_canon D N hN κ hκ h hh]
  congr 1
  · split_ifs <;> ring
  · split_ifs <;> ring

end Exponax.SmallGaps2

namespace Exponax.ExactLinear
open Exponax Exponax.Layout Exponax.Transform Exponax.DFT Exponax.SmallGaps2 Finset

theorem rfftnM_modeField (D N : ℕ) (hD : 0 < D) (hN : 0 < N) (κ : List ℤ) (hκ : BelowNyquist D N κ)
    (a φ : ℝ) (h : ℕ) (hh : h < numModes D N) :
    (rfftnM D N (modeField D N κ a φ)).getD h 0
      = (if wnFlat D N h = κ then (a / 2 : ℂ) * ((N ^ D : ℕ) : ℂ) * Complex.exp (φ * Complex.I) else 0)
        + (if wnFlat D N h = negK κ then (a / 2 : ℂ) * ((N ^ D : ℕ) : ℂ) * Complex.exp (-(φ * Complex.I))
            else 0) := by
  have := rfftnM_modeField_nyquist D N hD hN κ (atMostNyquist_of_below hκ) a φ h hh
  rwa [canonK_of_belowNyquist D N κ hκ, canonK_of_belowNyquist D N _ hκ.negK] at this

theorem eq_negK_iff (D : ℕ) (κ : List ℤ) (hκ : κ.length = D) :
    κ = negK κ ↔ ∀ d < D, κ.getD d 0 = 0 := by
  constructor
  · intro he d _
    have : κ.getD d 0 = (negK κ).getD d 0 := by rw [← he]
    rw [negK_getD] at this
    omega
  · intro h0
    apply list_ext_getD _ _ D hκ (by rw [negK_length]; exact hκ)
    intro d hd
    rw [negK_getD, h0 d hd, neg_zero]

theorem rfftnM_modeField_at (D N : ℕ) (hD : 0 < D) (hN : 0 < N) (κ : List ℤ) (hκ : BelowNyquist D N κ)
    (hne : ∃ d < D, κ.getD d 0 ≠ 0) (a φ : ℝ) (h : ℕ) (hh : h < numModes D N) (hk : wnFlat D N h = κ) :
    (rfftnM D N (modeField D N κ a φ)).getD h 0
      = (a / 2 : ℂ) * ((N ^ D : ℕ) : ℂ) * Complex.exp (φ * Complex.I) := by
  rw [rfftnM_modeField D N hD hN κ hκ a φ h hh, if_pos hk, if_neg, add_zero]
  rw [hk]
  intro he
  obtain ⟨d, hd, hne⟩ := hne
  exact hne ((eq_negK_iff D κ hκ.1).mp he d hd)

theorem conj_coef (a φ : ℝ) (n : ℕ) :
    (starRingEnd ℂ) ((a / 2 : ℂ) * (n : ℂ) * Complex.exp (φ * Complex.I))
      = (a / 2 : ℂ) * (n : ℂ) * Complex.exp (-(φ * Complex.I)) := by
  have e1 : ((a : ℂ) / 2) = (((a / 2 : ℝ)) : ℂ) := by push_cast; ring
  rw [map_mul, map_mul, e1, Complex.conj_ofReal, Complex.conj_natCast, ← Complex.exp_conj, map_mul,
    Complex.conj_I, Complex.conj_ofReal, mul_neg]

theorem rfftnM_modeField_partner (D N : ℕ) (hD : 0 < D) (hN : 0 < N) (κ : List ℤ)
    (hκ : BelowNyquist D N κ) (hne : ∃ d < D, κ.getD d 0 ≠ 0) (a φ : ℝ) (h : ℕ) (hh : h < numModes D N)
    (hk : wnFlat D N h = negK κ) :
    (rfftnM D N (modeField D N κ a φ)).getD h 0
      = (starRingEnd ℂ) ((a / 2 : ℂ) * ((N ^ D : ℕ) : ℂ) * Complex.exp (φ * Complex.I)) := by
  have hk' : wnFlat D N h ≠ κ := by
    rw [hk]
    intro he
    obtain ⟨d, hd, hne⟩ := hne
    exact hne ((eq_negK_iff D κ hκ.1).mp he.symm d hd)
  rw [rfftnM_modeField D N hD hN κ hκ a φ h hh, if_pos hk, if_neg hk', zero_add, conj_coef]

theorem rfftnM_modeField_other (D N : ℕ) (hD : 0 < D) (hN : 0 < N) (κ : List ℤ) (hκ : BelowNyquist D N κ)
    (a φ : ℝ) (h : ℕ) (hh : h < numModes D N) (h1 : wnFlat D N h ≠ κ) (h2 : wnFlat D N h ≠ negK κ) :
    (rfftnM D N (modeField D N κ a φ)).getD h 0 = 0 := by
  rw [rfftnM_modeField D N hD hN κ hκ a φ h hh, if_neg h1, if_neg h2, add_zero]

/-! non-vacuity (existence of the stored indices: `ExactLinear.stored_existsUnique` in `ExactLinearIndex.lean`) -/
example : BelowNyquist 2 4 [1, -1] ∧ ∃ d < 2, ([1, -1] : List ℤ).getD d 0 ≠ 0 :=
  ⟨belowNyquist_of_forall_mem (by decide), 0, by norm_num, by decide⟩
example : BelowNyquist 3 5 [2, -2, 0] := belowNyquist_of_forall_mem (by decide)
example : ([0, 0] : List ℤ).length = 2 ∧ ∀ d < 2, ([0, 0] : List ℤ).getD d 0 = 0 :=
  ⟨rfl, by intro d hd; interval_cases d <;> simp⟩
example : (0 : ℕ) < numModes 2 4 := by rw [numModes_eq]; norm_num

end Exponax.ExactLinear

/-
C04 — the n-D single-mode read-off INCLUDING Nyquist components (`C04_single_mode_nyquist_nd`; `C04_single_mode_nd`
excludes them, the 1-D `C04_single_mode_1d` is the case `D = 1`).  `rfftnM_modeField_nyquist`, from which the
below-Nyquist read-offs above are derived, is in the first block of this namespace.

For `κ` with `|κ_d| ≤ N/2` on every axis (`AtMostNyquist`), `u_j = a cos(2π κ·j/N + φ)`:

    û_h = (a/2) N^D e^{iφ} [k(h) = canonK κ] + (a/2) N^D e^{−iφ} [k(h) = canonK (−κ)]      (`rfftnM_modeField_nyquist`)

where `canonK D N κ` is the STORED representative of `κ` modulo `N`: a leading-axis component `+N/2` is stored as `−N/2`
(`fftfreq` puts the Nyquist row at `−N/2`), a last-axis component `−N/2` as `+N/2` (`rfftfreq` is non-negative); all
other components are unchanged, so `canonK κ = κ` strictly below Nyquist (`canonK_of_belowNyquist`: this IS
`C04_single_mode_nd` then).  Consequences:

 * every component in `{0, ±N/2}` (the real-symmetric waves `cos(π j_d …)`):  `canonK (−κ) = canonK κ`, both terms land
   on the SAME stored mode, which holds `a cos φ · N^D` — the n-D version of the 1-D `a·cos φ·N` (`…_selfconj`);
 * otherwise `canonK (−κ) ≠ canonK κ`: the two terms are at different stored modes (or not stored: a stored wave
   vector has a non-negative last component), each with `(a/2) N^D e^{±iφ}` as below Nyquist, but at the canonical index —
   e.g. `D = 2`, `κ = (N/2, 1)` is found at `k = (−N/2, 1)`, and `κ = (1, N/2)` at BOTH `k = (1, N/2)` (with `e^{iφ}`)
   and `k = (−1, N/2)` (with `e^{−iφ}`).
-/
set_option linter.unusedVariables false
namespace Exponax.SmallGaps2
open Exponax Exponax.Layout Exponax.Transform Exponax.DFT Exponax.ExactLinear Finset

/-- every component is `0` or `±N/2`: the real-symmetric ("self-conjugate") waves -/
def SelfConj (D N : ℕ) (κ : List ℤ) : Prop :=
  ∀ d < D, κ.getD d 0 = 0 ∨ 2 * κ.getD d 0 = (N : ℤ) ∨ 2 * κ.getD d 0 = -(N : ℤ)

theorem canonK_negK_eq_iff (D N : ℕ) (κ : List ℤ) : canonK D N (negK κ) = canonK D N κ ↔ SelfConj D N κ := by
  rw [list_eq_iff_getD D (canonK_length D N _) (canonK_length D N κ)]
  refine forall₂_congr fun d hd => ?_
  rw [canonK_getD D N _ d hd, canonK_getD D N κ d hd, negK_getD, canonC_neg_eq_iff]

theorem canonK_negK_of_selfConj (D N : ℕ) (κ : List ℤ) (hs : SelfConj D N κ) :
    canonK D N (negK κ) = canonK D N κ :=
  (canonK_negK_eq_iff D N κ).mpr hs

theorem canonK_negK_ne_of_not_selfConj (D N : ℕ) (κ : List ℤ) (hs : ¬ SelfConj D N κ) :
    canonK D N (negK κ) ≠ canonK D N κ :=
  mt (canonK_negK_eq_iff D N κ).mp hs

theorem rfftnM_modeField_selfconj (D N : ℕ) (hD : 0 < D) (hN : 0 < N) (κ : List ℤ) (hκ : AtMostNyquist D N κ)
    (hs : SelfConj D N κ) (a φ : ℝ) (h : ℕ) (hh : h < numModes D N) :
    (rfftnM D N (modeField D N κ a φ)).getD h 0
      = if wnFlat D N h = canonK D N κ then (((a * Real.cos φ * ((N ^ D : ℕ) : ℝ)) : ℝ) : ℂ) else 0 := by
  rw [rfftnM_modeField_nyquist D N hD hN κ hκ a φ h hh, canonK_negK_of_selfConj D N κ hs]
  by_cases hk : wnFlat D N h = canonK D N κ
  · rw [if_pos hk, if_pos hk, if_pos hk]
    push_cast
    rw [Complex.cos]
    ring_nf
  · rw [if_neg hk, if_neg hk, if_neg hk, add_zero]

theorem rfftnM_modeField_nyquist_cases (D N : ℕ) (hD : 0 < D) (hN : 0 < N) (κ : List ℤ) (hκ : AtMostNyquist D N κ)
    (hs : ¬ SelfConj D N κ) (a φ : ℝ) (h : ℕ) (hh : h < numModes D N) :
    (wnFlat D N h = canonK D N κ →
      (rfftnM D N (modeField D N κ a φ)).getD h 0 = (a / 2 : ℂ) * ((N ^ D : ℕ) : ℂ) * Complex.exp (φ * Complex.I)) ∧
    (wnFlat D N h = canonK D N (negK κ) →
      (rfftnM D N (modeField D N κ a φ)).getD h 0
        = (a / 2 : ℂ) * ((N ^ D : ℕ) : ℂ) * Complex.exp (-(φ * Complex.I))) ∧
    (wnFlat D N h ≠ canonK D N κ → wnFlat D N h ≠ canonK D N (negK κ) →
      (rfftnM D N (modeField D N κ a φ)).getD h 0 = 0) := by
  have hne := canonK_negK_ne_of_not_selfConj D N κ hs
  rw [rfftnM_modeField_nyquist D N hD hN κ hκ a φ h hh]
  refine ⟨fun h1 => ?_, fun h2 => ?_, fun h1 h2 => ?_⟩
  · rw [if_pos h1, if_neg (fun h2 => hne (h2.symm.trans h1)), add_zero]
  · rw [if_neg (fun h1 => hne (h2.symm.trans h1)), if_pos h2, zero_add]
  · rw [if_neg h1, if_neg h2, add_zero]

/-- consistency with the 1-D theorem: `D = 1`, `κ = N/2` is self-conjugate and stored at `k = N/2` -/
theorem canonK_one_dim_nyquist (M : ℕ) (hM : 0 < M) :
    canonK 1 (2 * M) [(M : ℤ)] = [(M : ℤ)] ∧ canonK 1 (2 * M) (negK [(M : ℤ)]) = [(M : ℤ)] ∧
    SelfConj 1 (2 * M) [(M : ℤ)] ∧ AtMostNyquist 1 (2 * M) [(M : ℤ)] := by
  have hs : SelfConj 1 (2 * M) [(M : ℤ)] := fun d hd => by
    obtain rfl : d = 0 := by omega
    exact Or.inr (Or.inl (by push_cast; rfl))
  have hc : canonK 1 (2 * M) [(M : ℤ)] = [(M : ℤ)] := by
    have hm : 2 * (M : ℤ) ≠ -((2 * M : ℕ) : ℤ) := by omega
    show [canonC 1 (2 * M) 0 (M : ℤ)] = [(M : ℤ)]
    rw [canonC, if_pos rfl, if_neg hm]
  refine ⟨hc, (canonK_negK_of_selfConj 1 (2 * M) _ hs).trans hc, hs, rfl, fun d hd => ?_⟩
  obtain rfl : d = 0 := by omega
  show 2 * |(M : ℤ)| ≤ ((2 * M : ℕ) : ℤ)
  rw [abs_of_nonneg (Int.natCast_nonneg M)]
  push_cast
  exact le_rfl

/-! non-vacuity / the examples of the comment above on a 4 × 4 grid (`N/2 = 2`) -/
example : AtMostNyquist 2 4 [2, 1] ∧ ¬ SelfConj 2 4 [2, 1] ∧ canonK 2 4 [2, 1] = [-2, 1] ∧
    canonK 2 4 (negK [2, 1]) = [-2, -1] ∧ wnFlat 2 4 7 = [-2, 1] := by
  refine ⟨⟨rfl, by intro d hd; interval_cases d <;> simp⟩, ?_, rfl, rfl, rfl⟩
  intro h
  have := h 1 (by norm_num)
  simp at this
example : AtMostNyquist 2 4 [1, 2] ∧ canonK 2 4 [1, 2] = [1, 2] ∧ canonK 2 4 (negK [1, 2]) = [-1, 2] ∧
    wnFlat 2 4 5 = [1, 2] ∧ wnFlat 2 4 11 = [-1, 2] :=
  ⟨⟨rfl, by intro d hd; interval_cases d <;> simp⟩, rfl, rfl, rfl, rfl⟩
example : AtMostNyquist 2 4 [2, 2] ∧ SelfConj 2 4 [2, 2] ∧ canonK 2 4 [2, 2] = [-2, 2] ∧ wnFlat 2 4 8 = [-2, 2] := by
  refine ⟨⟨rfl, by intro d hd; interval_cases d <;> simp⟩, ?_, rfl, rfl⟩
  intro d hd
  interval_cases d <;> simp

end Exponax.SmallGaps2
