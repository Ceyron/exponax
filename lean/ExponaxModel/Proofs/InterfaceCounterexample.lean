import ExponaxModel.Proofs.InterfaceScaling
import ExponaxModel.Proofs.DFT1D
import ExponaxModel.Proofs.AliasOffBand
/-
C13: the real domain extent in `gradientNorm_scaling`, `convection_scaling` (non-conservative) is
necessary.  `irfftn` takes real parts, so a non-real `1/L` cannot be pulled through it: on the 1-D two-point grid without
dealiasing mask, with `L = i`, `dt = 1`, scale `1`, the mean mode of the gradient-norm term of `û = (0, 1)` is `-π²` on
the left and `0` on the right, that of the single-channel non-conservative convection of `û = (1, 1)` is `-π` against `0`.
-/
namespace Exponax.Interface
open Exponax Exponax.Layout Exponax.Transform Exponax.Nonlin Exponax.Gen.Convert Exponax.Alias Finset

theorem mask_two_point (L : ℂ) (h : ℕ) : mask (cfgOf 1 2 L (0, 0)) h = 1 := by simp [mask, cfgOf]

theorem modes_two_point (L : ℂ) : modes (cfgOf 1 2 L (0, 0)) = 2 := by
  show numModes 1 2 = 2
  decide

theorem gridSize_two_point (L : ℂ) : gridSize (cfgOf 1 2 L (0, 0)) = 2 := by
  show 2 ^ 1 = 2
  norm_num

theorem nifft_two_point (L : ℂ) (a : Array ℂ) (x : ℕ) (hx : x < 2) :
    (nifft (cfgOf 1 2 L (0, 0)) a).getD x 0
      = (((a.getD 0 0).re : ℂ) + ((a.getD 1 0).re : ℂ) * (if x = 0 then 1 else -1)) / 2 := by
  unfold nifft
  show (irfftnM 1 2 (tab (numModes 1 2) _)).getD x 0 = _
  rw [show numModes 1 2 = 2 by decide]
  interval_cases x
  · rw [C2R.irfft2_zero, DFT.tab_getD _ _ _ _ (by norm_num : 0 < 2), DFT.tab_getD _ _ _ _ (by norm_num : 1 < 2),
      mask_two_point, mask_two_point]
    simp
  · rw [C2R.irfft2_one, DFT.tab_getD _ _ _ _ (by norm_num : 0 < 2), DFT.tab_getD _ _ _ _ (by norm_num : 1 < 2),
      mask_two_point, mask_two_point]
    simp
    ring

theorem nfft_two_point_zero (L : ℂ) (v : Array ℂ) :
    (nfft (cfgOf 1 2 L (0, 0)) v).getD 0 0 = v.getD 0 0 + v.getD 1 0 := by
  rw [nfft_getD _ _ 0 (by show 0 < numModes 1 2; decide), mask_two_point, one_mul]
  exact C2R.rfft2_zero v

theorem deriv_two_point (L : ℂ) : Nonlin.deriv (cfgOf 1 2 L (0, 0)) 0 1 = Complex.I * (2 * (Real.pi : ℂ) / L) := by
  unfold Nonlin.deriv
  simp only [cfgOf_D, cfgOf_N, show wnFlat 1 2 1 = [1] by decide]
  simp [cfgOf]

theorem deriv_two_point_zero (L : ℂ) : Nonlin.deriv (cfgOf 1 2 L (0, 0)) 0 0 = 0 := by
  unfold Nonlin.deriv
  simp only [cfgOf_D, cfgOf_N, show wnFlat 1 2 0 = [0] by decide]
  simp

/-- for `L = i` the Nyquist entry `i·2π/L = 2π` is real, for `L = 1` it is purely imaginary -/
theorem deriv_two_point_re_I : (Nonlin.deriv (cfgOf 1 2 Complex.I (0, 0)) 0 1).re = 2 * Real.pi := by
  rw [deriv_two_point, mul_div_assoc', mul_div_cancel_left₀ _ Complex.I_ne_zero]
  simp

theorem deriv_two_point_re_one : (Nonlin.deriv (cfgOf 1 2 1 (0, 0)) 0 1).re = 0 := by
  rw [deriv_two_point]
  simp

theorem g_two_point (L : ℂ) (x : ℕ) (hx : x < 2) :
    (nifft (cfgOf 1 2 L (0, 0)) (tab 2 fun h =>
        Nonlin.deriv (cfgOf 1 2 L (0, 0)) 0 h * at2 (#[#[0, 1]] : MC ℂ) 0 h)).getD x 0
      = ((Nonlin.deriv (cfgOf 1 2 L (0, 0)) 0 1).re : ℂ) * (if x = 0 then 1 else -1) / 2 := by
  rw [nifft_two_point L _ x hx, DFT.tab_getD _ _ _ _ (by norm_num : 0 < 2), DFT.tab_getD _ _ _ _ (by norm_num : 1 < 2),
    deriv_two_point_zero]
  simp [at2]

/-- closed form of the gradient-norm term (no mean fix, no dealiasing) on the 1-D two-point grid for the spectrum `(0, 1)`
    at the mean mode -/
theorem gradientNorm_two_point (L b : ℂ) :
    at2 (gradientNorm (cfgOf 1 2 L (0, 0)) 1 b false #[#[0, 1]]) 0 0
      = -b * (1 / 2 * (((Nonlin.deriv (cfgOf 1 2 L (0, 0)) 0 1).re : ℂ) ^ 2 / 2)) := by
  unfold gradientNorm
  simp only [modes_two_point, gridSize_two_point, cfgOf_D, Bool.false_eq_true, ↓reduceIte]
  rw [Nonlin.at2_tab2 _ _ _ 0 0 (by norm_num) (by norm_num), Nonlin.at2_tabC _ _ 0 0 (by norm_num),
    nfft_two_point_zero]
  -- the two grid values of `(∂ₓu)²`
  change -b * (qlit 1 2 * (at2 _ 0 0 + at2 _ 0 1)) = _
  rw [Nonlin.at2_tab2 _ _ _ 0 0 (by norm_num) (by norm_num), Nonlin.at2_tab2 _ _ _ 0 1 (by norm_num) (by norm_num),
    Nonlin.at2_tab2 _ _ _ 0 0 (by norm_num) (by norm_num), Nonlin.at2_tab2 _ _ _ 0 1 (by norm_num) (by norm_num)]
  simp only [List.range_one, List.map_cons, List.map_nil, sumList, List.foldl_cons, List.foldl_nil, zero_add,
    Nat.zero_mul]
  rw [Nonlin.at2_tabC _ _ 0 0 (by norm_num), Nonlin.at2_tabC _ _ 0 1 (by norm_num)]
  simp only [Nat.zero_mod, Nat.zero_div]
  rw [g_two_point L 0 (by norm_num), g_two_point L 1 (by norm_num)]
  simp only [qlit_eq, ↓reduceIte, one_ne_zero]
  push_cast
  ring

/-- closed form of the single-channel non-conservative convection term on the 1-D two-point grid for the spectrum
    `(1, 1)` at the mean mode -/
theorem convection_two_point (L b : ℂ) :
    at2 (convection (cfgOf 1 2 L (0, 0)) 1 b true false #[#[1, 1]]) 0 0
      = -b * (((Nonlin.deriv (cfgOf 1 2 L (0, 0)) 0 1).re : ℂ) / 2) := by
  unfold convection
  simp only [modes_two_point, gridSize_two_point, cfgOf_D, Bool.false_eq_true, ↓reduceIte]
  rw [Nonlin.at2_tab2 _ _ _ 0 0 (by norm_num) (by norm_num), nfft_two_point_zero]
  rw [DFT.tab_getD _ _ _ _ (by norm_num : 0 < 2), DFT.tab_getD _ _ _ _ (by norm_num : 1 < 2)]
  simp only [List.range_one, List.map_cons, List.map_nil, sumList, List.foldl_cons, List.foldl_nil, zero_add]
  rw [Nonlin.at2_tabC _ _ 0 0 (by norm_num), Nonlin.at2_tabC _ _ 0 1 (by norm_num),
    Nonlin.at2_tabC _ _ 0 0 (by norm_num), Nonlin.at2_tabC _ _ 0 1 (by norm_num)]
  rw [nifft_two_point L _ 0 (by norm_num), nifft_two_point L _ 1 (by norm_num),
    nifft_two_point L _ 0 (by norm_num), nifft_two_point L _ 1 (by norm_num)]
  rw [DFT.tab_getD _ _ _ _ (by norm_num : 0 < 2), DFT.tab_getD _ _ _ _ (by norm_num : 1 < 2), deriv_two_point_zero]
  have h0 : at2 (#[#[1, 1]] : MC ℂ) 0 0 = 1 := by simp [at2]
  have h1 : at2 (#[#[1, 1]] : MC ℂ) 0 1 = 1 := by simp [at2]
  have e0 : ((#[#[1, 1]] : MC ℂ).getD 0 #[]).getD 0 0 = 1 := by simp
  have e1 : ((#[#[1, 1]] : MC ℂ).getD 0 #[]).getD 1 0 = 1 := by simp
  rw [h0, h1, e0, e1]
  simp

/-- **with a complex extent the scaling law is false (non-conservative convection).**  For `L = i`, `dt = 1`,
    `b = 1`: `dt · convection(L; b) ≠ convection(1; b dt / L)` at the mean mode. -/
theorem convection_scaling_false_of_complex_extent :
    (1 : ℂ) * at2 (convection (cfgOf 1 2 Complex.I (0, 0)) 1 1 true false #[#[1, 1]]) 0 0
      ≠ at2 (convection (cfgOf 1 2 1 (0, 0)) 1 (normalize_convection_scale 1 Complex.I 1) true false
          #[#[1, 1]]) 0 0 := by
  rw [convection_two_point, convection_two_point, deriv_two_point_re_I, deriv_two_point_re_one]
  simp [Real.pi_ne_zero]

end Exponax.Interface
