import ExponaxModel.Proofs.ExactLinear
/-
C01 support: "every real state whose Fourier content lies strictly below Nyquist".

A real grid state whose stored spectrum vanishes at every mode with a Nyquist component IS a finite
superposition of cosine modes strictly below Nyquist (`exists_modes_of_bandLimited`: amplitudes
`w_h |û_h| / N^D`, phases `arg û_h`), so `linStep_stateOf` applies to it: the step is the exact solution.
-/
namespace Exponax.ExactLinear
open Exponax Exponax.Layout Exponax.Transform Exponax.DFT Exponax.Gen.Etdrk Finset
open scoped ComplexConjugate

def BandLimited (D N : ℕ) (u : Array ℂ) : Prop :=
  ∀ h < numModes D N, ¬ BelowNyquist D N (wnFlat D N h) → (rfftnM D N u).getD h 0 = 0

theorem belowNyquist_zero (D N : ℕ) (hN : 0 < N) : BelowNyquist D N (List.replicate D 0) := by
  refine ⟨by simp, ?_⟩
  intro d hd
  have : (List.replicate D (0 : ℤ)).getD d 0 = 0 := by
    simp [List.getD_eq_getElem?_getD, hd]
  rw [this]
  simpa using hN

theorem re_mul_zeta (N : ℕ) (z : ℂ) (p : ℤ) :
    (z * zeta N ^ (-p)).re = ‖z‖ * Real.cos (2 * Real.pi * (p : ℝ) / N + Complex.arg z) := by
  rw [← re_polar_mul_zeta, Complex.norm_mul_exp_arg_mul_I]

/-- the band is `2|κ_d| < m`; `m = N` is strictly below Nyquist -/
theorem exists_modes_of_vanishing (D N m : ℕ) (hD : 0 < D) (hN : 0 < N) (hm : 0 < m) (u : Array ℂ)
    (hsz : u.size = N ^ D) (hre : ∀ j < N ^ D, (u.getD j 0).im = 0)
    (hb : ∀ h < numModes D N, ¬ BelowNyquist D m (wnFlat D N h) → (rfftnM D N u).getD h 0 = 0) :
    ∃ ms : Modes, (∀ x ∈ ms, BelowNyquist D m x.1) ∧ u = stateOf D N ms := by
  classical
  set U := rfftnM D N u with hU
  set f : ℕ → (List ℤ × ℝ × ℝ) := fun h =>
    if BelowNyquist D m (wnFlat D N h) then
      (wnFlat D N h, (herm_weight D N h : ℝ) * ‖U.getD h 0‖ / ((N ^ D : ℕ) : ℝ), Complex.arg (U.getD h 0))
    else (List.replicate D 0, 0, 0) with hf
  refine ⟨(List.range (numModes D N)).map f, ?_, ?_⟩
  · intro x hx
    rw [List.mem_map] at hx
    obtain ⟨h, _, rfl⟩ := hx
    simp only [hf]
    split_ifs with hB
    · exact hB
    · exact belowNyquist_zero D m hm
  · apply array_ext_getD _ _ (N ^ D) hsz (by simp)
    intro j hj
    rw [stateOf_getD D N _ j hj, List.map_map, list_range_map_sum, Complex.ofReal_sum,
      ← irfftn_rfftn D N hD hN u hre j hj, irfftnM_getD D N hN _ j hj, Finset.sum_div]
    apply Finset.sum_congr rfl
    intro h hh
    have hh' := Finset.mem_range.mp hh
    simp only [Function.comp, hf]
    rw [twiddle_eq_zpow, ← hU]
    split_ifs with hB
    · rw [re_mul_zeta]
      push_cast
      ring
    · have h0 : U.getD h 0 = 0 := hb h hh' hB
      rw [h0]
      simp

theorem exists_modes_of_bandLimited (D N : ℕ) (hD : 0 < D) (hN : 0 < N) (u : Array ℂ)
    (hsz : u.size = N ^ D) (hre : ∀ j < N ^ D, (u.getD j 0).im = 0) (hb : BandLimited D N u) :
    ∃ ms : Modes, (∀ m ∈ ms, BelowNyquist D N m.1) ∧ u = stateOf D N ms :=
  exists_modes_of_vanishing D N N hD hN hN u hsz hre hb

theorem bandLimited_stateOf (D N : ℕ) (hD : 0 < D) (hN : 0 < N) (ms : Modes)
    (hms : ∀ m ∈ ms, BelowNyquist D N m.1) : BandLimited D N (stateOf D N ms) := by
  intro h hh hB
  induction ms with
  | nil =>
    rw [stateOf, List.map_nil, vsum_nil, rfftnM_vzero D N hN, vzero_getD]
  | cons m ms ih =>
    have hm := hms m List.mem_cons_self
    rw [stateOf, List.map_cons, vsum_cons, rfftnM_vadd D N hN, vadd_getD _ _ _ _ hh]
    have ih' := ih (fun m' hm' => hms m' (List.mem_cons_of_mem _ hm'))
    rw [stateOf] at ih'
    rw [ih', add_zero]
    apply rfftnM_modeField_other D N hD hN m.1 hm _ _ h hh
    · intro he; rw [he] at hB; exact hB hm
    · intro he; rw [he] at hB; exact hB hm.negK

/-! non-vacuity -/
example : ∃ u : Array ℂ, u.size = 4 ^ 2 ∧ (∀ j < 4 ^ 2, (u.getD j 0).im = 0) ∧ BandLimited 2 4 u := by
  have hms : ∀ m ∈ ([([1, 1], 2, 0.5)] : Modes), BelowNyquist 2 4 m.1 := by
    intro m hm
    simp only [List.mem_cons, List.mem_nil_iff, or_false] at hm
    subst hm
    exact belowNyquist_of_forall_mem (by decide)
  exact ⟨stateOf 2 4 [([1, 1], 2, 0.5)], by simp, stateOf_real 2 4 _,
    bandLimited_stateOf 2 4 (by norm_num) (by norm_num) _ hms⟩

end Exponax.ExactLinear
