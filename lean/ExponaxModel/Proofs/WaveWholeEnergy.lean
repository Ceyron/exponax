import ExponaxModel.Proofs.WaveWholeSemigroup
import ExponaxModel.Proofs.MultiplierCalc
/-
C11 for the wave stepper on whole states: the discrete wave energy

    `E(h, v) = Σ_j v_j² + c² Σ_j Σ_d (∂_d h)_j²`,   `∂_d = Nonlin.derivativeM (cfg D N L) 1 d` (the model's spectral derivative)

is conserved by the whole step `waveStep` on every real two-channel state without content at or above Nyquist
(`waveStep_energy_bandLimited`; for odd `N` every state qualifies, `bandLimited_of_odd`).

Route: Parseval in the half layout (`DFT.parseval_nd`) turns `E` into
    `N^{-D} Σ_h w_h (|ω_h ĥ_h|² + |v̂_h|²)`            (`waveEnergy_spectral`),
the spectrum of the stepped state is the per-mode image (`rfftnM_waveStep`, by `ExactLinear.rfftnM_specApply`), and every mode conserves
`|ω ĥ|² + |v̂|²` by the per-mode theorem `stepMode_energy` (= `C11_wave_energy`), the mean mode (`ω = 0`) keeping `v̂`.

The Nyquist caveat is sharp: `WaveWholeNyquist.lean` has the counterexample for even `N`.
-/
namespace Exponax.WaveWhole
open Exponax Exponax.Layout Exponax.Transform Exponax.DFT Exponax.ExactLinear Exponax.SpectralOpsEq
  Exponax.ReadOff Exponax.Nonlin Finset
open scoped ComplexConjugate

theorem rfftnM_mulStep (D N : ℕ) (hD : 0 < D) (hN : 0 < N) (c L : ℝ) (f : ℝ → ℝ) (u : Array ℂ) (hu : RealBL D N u)
    (m : ℕ) (hm : m < numModes D N) :
    (rfftnM D N (mulStep D N (omMul D N c L f) u)).getD m 0
      = ((omMul D N c L f m : ℝ) : ℂ) * (rfftnM D N u).getD m 0 := by
  rw [show mulStep D N (omMul D N c L f) u = specApply D N (fun h => ((omMul D N c L f h : ℝ) : ℂ)) u from rfl,
    (rfftnM_specApply D N hD hN _ (hermSym_omMul D N c L f) u hu.2.1 hu.2.2).1, C2R.diagStep_getD D N _ _ m hm]

theorem realBL_mulStep (D N : ℕ) (hD : 0 < D) (hN : 0 < N) (c L : ℝ) (f : ℝ → ℝ) (u : Array ℂ) (hu : RealBL D N u) :
    RealBL D N (mulStep D N (omMul D N c L f) u) :=
  (rfftnM_specApply D N hD hN _ (hermSym_omMul D N c L f) u hu.2.1 hu.2.2).2

theorem realBL_vadd (D N : ℕ) (hN : 0 < N) (u v : Array ℂ) (hu : RealBL D N u) (hv : RealBL D N v) :
    RealBL D N (vadd (N ^ D) u v) := by
  refine ⟨vadd_size .., fun j hj => ?_, fun h hh hk => ?_⟩
  · rw [vadd_getD _ _ _ _ hj, Complex.add_im, hu.2.1 j hj, hv.2.1 j hj, add_zero]
  · rw [rfftnM_vadd D N hN, vadd_getD _ _ _ _ hh, hu.2.2 h hh hk, hv.2.2 h hh hk, add_zero]

/-- the discrete wave energy `Σ_j v_j² + c² Σ_j Σ_d (∂_d h)_j²` of the two-channel state `u = #[h, v]`, with the model's
    spectral derivative; `‖z‖² = z²` for the real values of a real state -/
noncomputable def waveEnergy (D N : ℕ) (L c : ℝ) (u : MC ℂ) : ℝ :=
  ∑ j ∈ range (N ^ D), ‖at2 u 1 j‖ ^ 2
    + c ^ 2 * ∑ j ∈ range (N ^ D), ∑ d ∈ range D,
        ‖(derivativeM (cfg D N (L : ℂ)) 1 d (u.getD 0 #[])).getD j 0‖ ^ 2

/-- the energy in the half layout -/
noncomputable def specEnergy (D N : ℕ) (L c : ℝ) (hh vh : Array ℂ) : ℝ :=
  (1 / ((N ^ D : ℕ) : ℝ)) * ∑ m ∈ range (numModes D N), (herm_weight D N m : ℝ) *
    (‖((waveOmega D c L (wnFlat D N m) : ℝ) : ℂ) * hh.getD m 0‖ ^ 2 + ‖vh.getD m 0‖ ^ 2)

theorem waveOmega_sq (D : ℕ) (c L : ℝ) (κ : List ℤ) :
    waveOmega D c L κ ^ 2 = c ^ 2 * ((2 * Real.pi / L) ^ 2 * ((kappaSq D κ : ℤ) : ℝ)) := by
  have hk : (0 : ℝ) ≤ ((kappaSq D κ : ℤ) : ℝ) := by exact_mod_cast kappaSq_nonneg D κ
  unfold waveOmega
  rw [mul_pow, mul_pow, Real.sq_sqrt hk]

theorem sum_norm_deriv_sq (D N : ℕ) (L : ℝ) (m : ℕ) :
    ∑ d ∈ range D, ‖Nonlin.deriv (cfg D N (L : ℂ)) d m‖ ^ 2
      = (2 * Real.pi / L) ^ 2 * ((kappaSq D (wnFlat D N m) : ℤ) : ℝ) := by
  unfold kappaSq
  push_cast
  rw [Finset.mul_sum]
  apply Finset.sum_congr rfl
  intro d _
  rw [Nonlin.deriv_eq_real _ _ (cfg_s_real D N L), norm_mul, Complex.norm_I, one_mul, Complex.norm_real, Real.norm_eq_abs,
    sq_abs, mul_pow]
  rfl

theorem sum_derivative_sq (D N : ℕ) (hD : 0 < D) (hN : 0 < N) (L : ℝ) (d : ℕ) (hd : d < D) (u : Array ℂ)
    (hu : RealBL D N u) :
    ∑ j ∈ range (N ^ D), ‖(derivativeM (cfg D N (L : ℂ)) 1 d u).getD j 0‖ ^ 2
      = (1 / ((N ^ D : ℕ) : ℝ)) * ∑ m ∈ range (numModes D N), (herm_weight D N m : ℝ) *
          (‖Nonlin.deriv (cfg D N (L : ℂ)) d m‖ ^ 2 * ‖(rfftnM D N u).getD m 0‖ ^ 2) := by
  have hre : ∀ j < N ^ D, ((derivativeM (cfg D N (L : ℂ)) 1 d u).getD j 0).im = 0 := fun j _ => irfftnM_im D N _ j
  rw [parseval_nd D N hD hN _ hre]
  congr 1
  apply Finset.sum_congr rfl
  intro m hm
  have key : (rfftnM D N (derivativeM (cfg D N (L : ℂ)) 1 d u)).getD m 0
      = Nonlin.deriv (cfg D N (L : ℂ)) d m ^ 1 * (rfftnM D N u).getD m 0 :=
    rfftnM_derivativeM (cfg D N (L : ℂ)) _ (cfg_s_real D N L) hD hN 1 d hd u hu m (Finset.mem_range.mp hm)
  rw [key, pow_one, norm_mul, mul_pow]

theorem waveEnergy_spectral (D N : ℕ) (hD : 0 < D) (hN : 0 < N) (L c : ℝ) (U : MC ℂ)
    (hu : RealBL D N (U.getD 0 #[])) (hv : ∀ j < N ^ D, ((U.getD 1 #[]).getD j 0).im = 0) :
    waveEnergy D N L c U = specEnergy D N L c (rfftnM D N (U.getD 0 #[])) (rfftnM D N (U.getD 1 #[])) := by
  unfold waveEnergy specEnergy at2
  rw [parseval_nd D N hD hN _ hv, Finset.sum_comm,
    Finset.sum_congr rfl fun d hd => sum_derivative_sq D N hD hN L d (Finset.mem_range.mp hd) _ hu,
    ← Finset.mul_sum, Finset.sum_comm, ← mul_assoc, mul_comm (c ^ 2), mul_assoc, ← mul_add, Finset.mul_sum,
    ← Finset.sum_add_distrib]
  congr 1
  apply Finset.sum_congr rfl
  intro m _
  rw [← Finset.mul_sum, ← Finset.sum_mul, sum_norm_deriv_sq, norm_mul, mul_pow, Complex.norm_real,
    Real.norm_eq_abs, sq_abs, waveOmega_sq]
  ring

theorem realBL_waveStep (D N : ℕ) (hD : 0 < D) (hN : 0 < N) (c L t : ℝ) (hc : c ≠ 0) (hL : 0 < L)
    (u₀ u₁ : Array ℂ) (h₀ : RealBL D N u₀) (h₁ : RealBL D N u₁) :
    RealBL D N ((waveStep D N (L : ℂ) (t : ℂ) (c : ℂ) #[u₀, u₁]).getD 0 #[]) ∧
      RealBL D N ((waveStep D N (L : ℂ) (t : ℂ) (c : ℂ) #[u₀, u₁]).getD 1 #[]) := by
  rw [waveStep_channels D N hD hN c L t hc hL, pair_getD_zero, pair_getD_one]
  simp only [mCos_eq, mSinc_eq, mOmSin_eq]
  exact ⟨realBL_vadd D N hN _ _ (realBL_mulStep D N hD hN c L _ u₀ h₀) (realBL_mulStep D N hD hN c L _ u₁ h₁),
    realBL_vadd D N hN _ _ (realBL_mulStep D N hD hN c L _ u₀ h₀) (realBL_mulStep D N hD hN c L _ u₁ h₁)⟩

theorem rfftnM_waveStep (D N : ℕ) (hD : 0 < D) (hN : 0 < N) (c L t : ℝ) (hc : c ≠ 0) (hL : 0 < L)
    (u₀ u₁ : Array ℂ) (h₀ : RealBL D N u₀) (h₁ : RealBL D N u₁) (m : ℕ) (hm : m < numModes D N) :
    (rfftnM D N ((waveStep D N (L : ℂ) (t : ℂ) (c : ℂ) #[u₀, u₁]).getD 0 #[])).getD m 0
        = ((mCos D N c L t m : ℝ) : ℂ) * (rfftnM D N u₀).getD m 0
          + ((mSinc D N c L t m : ℝ) : ℂ) * (rfftnM D N u₁).getD m 0 ∧
      (rfftnM D N ((waveStep D N (L : ℂ) (t : ℂ) (c : ℂ) #[u₀, u₁]).getD 1 #[])).getD m 0
        = ((mOmSin D N c L t m : ℝ) : ℂ) * (rfftnM D N u₀).getD m 0
          + ((mCos D N c L t m : ℝ) : ℂ) * (rfftnM D N u₁).getD m 0 := by
  rw [waveStep_channels D N hD hN c L t hc hL, pair_getD_zero, pair_getD_one, rfftnM_vadd D N hN,
    rfftnM_vadd D N hN, vadd_getD _ _ _ _ hm, vadd_getD _ _ _ _ hm]
  simp only [mCos_eq, mSinc_eq, mOmSin_eq]
  rw [rfftnM_mulStep D N hD hN c L _ u₀ h₀ m hm, rfftnM_mulStep D N hD hN c L _ u₁ h₁ m hm,
    rfftnM_mulStep D N hD hN c L _ u₀ h₀ m hm, rfftnM_mulStep D N hD hN c L _ u₁ h₁ m hm]
  exact ⟨rfl, rfl⟩

theorem mode_energy (D N : ℕ) (hD : 0 < D) (hN : 0 < N) (c L t : ℝ) (hc : c ≠ 0) (hL : 0 < L) (m : ℕ)
    (hm : m < numModes D N) (x y : ℂ) :
    ‖((waveOmega D c L (wnFlat D N m) : ℝ) : ℂ) * (((mCos D N c L t m : ℝ) : ℂ) * x + ((mSinc D N c L t m : ℝ) : ℂ) * y)‖ ^ 2
        + ‖((mOmSin D N c L t m : ℝ) : ℂ) * x + ((mCos D N c L t m : ℝ) : ℂ) * y‖ ^ 2
      = ‖((waveOmega D c L (wnFlat D N m) : ℝ) : ℂ) * x‖ ^ 2 + ‖y‖ ^ 2 := by
  have cl := stepMode_closed D N hD hN c L t hc hL m hm x y
  by_cases h0 : m = 0
  · subst h0
    have hz : ∀ d < D, (wnFlat D N 0).getD d 0 = 0 := fun d _ => wnFlat_zero D N d
    obtain ⟨hω, h1, h2, h3⟩ := wave_mean_mode D c L t (wnFlat D N 0) hz
    unfold mCos mSinc mOmSin
    rw [h1, h3, hω]
    simp
  · have hω : waveOmega D c L (wnFlat D N m) ≠ 0 := mt (waveOmega_stored_eq_zero_iff D N hD hN c L hc hL m hm).1 h0
    have hkn : 2 * Real.pi / L * Real.sqrt ((kappaSq D (wnFlat D N m) : ℤ) : ℝ) ≠ 0 := by
      intro e
      apply hω
      unfold waveOmega
      rw [e, mul_zero]
    have en := stepMode_energy c t (2 * Real.pi / L * Real.sqrt ((kappaSq D (wnFlat D N m) : ℤ) : ℝ)) x y hc hkn
    rw [waveKn_omega D N hD hN L hL m hm, show decide (m = 0) = false from decide_eq_false h0] at cl
    rw [cl] at en
    exact en

/-- **C11: the whole wave step conserves the discrete wave energy** of every pair of real arrays without content at or
    above Nyquist — all `D ≥ 1`, `N ≥ 1`, every real `t`, `L > 0`, `c ≠ 0` -/
theorem waveStep_energy_bandLimited (D N : ℕ) (hD : 0 < D) (hN : 0 < N) (c L t : ℝ) (hc : c ≠ 0) (hL : 0 < L)
    (u₀ u₁ : Array ℂ) (h₀ : RealBL D N u₀) (h₁ : RealBL D N u₁) :
    waveEnergy D N L c (waveStep D N (L : ℂ) (t : ℂ) (c : ℂ) #[u₀, u₁]) = waveEnergy D N L c #[u₀, u₁] := by
  obtain ⟨r₀, r₁⟩ := realBL_waveStep D N hD hN c L t hc hL u₀ u₁ h₀ h₁
  rw [waveEnergy_spectral D N hD hN L c _ r₀ r₁.2.1, waveEnergy_spectral D N hD hN L c #[u₀, u₁] h₀ h₁.2.1]
  unfold specEnergy
  refine congrArg _ (Finset.sum_congr rfl fun m hm => ?_)
  obtain ⟨e0, e1⟩ := rfftnM_waveStep D N hD hN c L t hc hL u₀ u₁ h₀ h₁ m (Finset.mem_range.mp hm)
  rw [e0, e1, pair_getD_zero, pair_getD_one, mode_energy D N hD hN c L t hc hL m (Finset.mem_range.mp hm)]

/-! non-vacuity (the first: the hypotheses `h1`, `h2` of `specApply_modeField` in `ExactLinear.lean`, for a list of modes) -/
example : ∃ (G : ℕ → ℂ) (ms : Modes), (∀ q ∈ ms, BelowNyquist 2 4 q.1) ∧
    ∀ q ∈ ms, ∃ μ : ℂ, (∀ h < numModes 2 4, wnFlat 2 4 h = q.1 → G h = μ) ∧
      (∀ h < numModes 2 4, wnFlat 2 4 h = negK q.1 → G h = conj μ) := by
  refine ⟨fun _ => 1, [([1, 1], 2, 0.5)], ?_, fun q _ => ⟨1, fun _ _ _ => rfl, fun _ _ _ => by simp⟩⟩
  intro m hm
  simp only [List.mem_cons, List.mem_nil_iff, or_false] at hm
  subst hm
  exact belowNyquist_of_forall_mem (by decide)
example : ∃ (u₀ u₁ : Array ℂ) (c L : ℝ), RealBL 2 4 u₀ ∧ RealBL 2 4 u₁ ∧ c ≠ 0 ∧ 0 < L := by
  have hms : ∀ m ∈ ([([1, 1], 2, 0.5)] : Modes), BelowNyquist 2 4 m.1 := by
    intro m hm
    simp only [List.mem_cons, List.mem_nil_iff, or_false] at hm
    subst hm
    exact belowNyquist_of_forall_mem (by decide)
  have h : RealBL 2 4 (stateOf 2 4 [([1, 1], 2, 0.5)]) :=
    ⟨by simp, stateOf_real 2 4 _, bandLimited_stateOf 2 4 (by norm_num) (by norm_num) _ hms⟩
  exact ⟨_, _, 3, 2, h, h, by norm_num, by norm_num⟩

end Exponax.WaveWhole
