import Mathlib.Tactic
import ExponaxModel.Proofs.Instances
import ExponaxModel.Generated.Misc
/-
Algebra of the REGENERATED `Gen.Misc.cross_product_3d` over any commutative ring.

The definition is read off once (`cross_formula'`, by `rfl`); the other identities either follow from
one another or are `ring` on the three components.
-/
namespace Exponax.Cross
open Exponax.Gen.Misc

variable {K : Type} [CommRing K]

/-- Euclidean (bilinear, not Hermitian) dot product of two triples -/
def dot3 (a b : K × K × K) : K := a.1 * b.1 + a.2.1 * b.2.1 + a.2.2 * b.2.2

def cyc (a : K × K × K) : K × K × K := (a.2.1, a.2.2, a.1)
def swap12 (a : K × K × K) : K × K × K := (a.2.1, a.1, a.2.2)
def swap13 (a : K × K × K) : K × K × K := (a.2.2, a.2.1, a.1)
def swap23 (a : K × K × K) : K × K × K := (a.1, a.2.2, a.2.1)

/-- the documented formula `(a₂b₃ − a₃b₂, a₃b₁ − a₁b₃, a₁b₂ − a₂b₁)` -/
theorem cross_formula' (a b : K × K × K) :
    cross_product_3d a b
      = (a.2.1 * b.2.2 - a.2.2 * b.2.1, a.2.2 * b.1 - a.1 * b.2.2, a.1 * b.2.1 - a.2.1 * b.1) := rfl

theorem cross_antisymm (a b : K × K × K) : cross_product_3d a b = -(cross_product_3d b a) := by
  simp only [cross_formula', Prod.neg_mk, Prod.mk.injEq]
  exact ⟨by ring, by ring, by ring⟩

theorem cross_self (a : K × K × K) : cross_product_3d a a = 0 := by
  simp only [cross_formula', Prod.zero_eq_mk, Prod.mk.injEq]
  exact ⟨by ring, by ring, by ring⟩

theorem cross_add_left (a a' b : K × K × K) :
    cross_product_3d (a + a') b = cross_product_3d a b + cross_product_3d a' b := by
  simp only [cross_formula', Prod.fst_add, Prod.snd_add, Prod.mk_add_mk, Prod.mk.injEq]
  exact ⟨by ring, by ring, by ring⟩

theorem cross_smul_left (r : K) (a b : K × K × K) :
    cross_product_3d (r • a) b = r • cross_product_3d a b := by
  simp only [cross_formula', Prod.smul_fst, Prod.smul_snd, Prod.smul_mk, smul_eq_mul, Prod.mk.injEq]
  exact ⟨by ring, by ring, by ring⟩

theorem cross_add_right (a b b' : K × K × K) :
    cross_product_3d a (b + b') = cross_product_3d a b + cross_product_3d a b' := by
  rw [cross_antisymm a, cross_add_left, neg_add, ← cross_antisymm, ← cross_antisymm]

theorem cross_smul_right (r : K) (a b : K × K × K) :
    cross_product_3d a (r • b) = r • cross_product_3d a b := by
  rw [cross_antisymm a, cross_smul_left, ← smul_neg, ← cross_antisymm]

theorem cross_bilinear (r t : K) (a a' b b' : K × K × K) :
    cross_product_3d (r • a + t • a') b = r • cross_product_3d a b + t • cross_product_3d a' b ∧
    cross_product_3d a (r • b + t • b') = r • cross_product_3d a b + t • cross_product_3d a b' := by
  rw [cross_add_left, cross_add_right, cross_smul_left, cross_smul_left, cross_smul_right, cross_smul_right]
  exact ⟨rfl, rfl⟩

theorem cross_sub_left (a a' b : K × K × K) :
    cross_product_3d (a - a') b = cross_product_3d a b - cross_product_3d a' b := by
  rw [sub_eq_add_neg, ← neg_one_smul K a', cross_add_left, cross_smul_left, neg_one_smul,
    ← sub_eq_add_neg]

theorem cross_cyc (a b : K × K × K) :
    cross_product_3d (cyc a) (cyc b) = cyc (cross_product_3d a b) := rfl

theorem cross_cyc_cyc (a b : K × K × K) :
    cross_product_3d (cyc (cyc a)) (cyc (cyc b)) = cyc (cyc (cross_product_3d a b)) := rfl

omit [CommRing K] in
theorem cyc_cyc_cyc (a : K × K × K) : cyc (cyc (cyc a)) = a := rfl

/-- a transposition flips the sign (pseudo-vector); the other two transpositions are `swap12`
    followed by a cyclic permutation -/
theorem cross_swap12 (a b : K × K × K) :
    cross_product_3d (swap12 a) (swap12 b) = -swap12 (cross_product_3d a b) := by
  simp only [cross_formula', swap12, Prod.neg_mk, Prod.mk.injEq]
  exact ⟨by ring, by ring, by ring⟩

theorem cross_swap23 (a b : K × K × K) :
    cross_product_3d (swap23 a) (swap23 b) = -swap23 (cross_product_3d a b) := by
  show cross_product_3d (cyc (swap12 a)) (cyc (swap12 b)) = -cyc (swap12 (cross_product_3d a b))
  rw [cross_cyc, cross_swap12]
  rfl

theorem cross_swap13 (a b : K × K × K) :
    cross_product_3d (swap13 a) (swap13 b) = -swap13 (cross_product_3d a b) := by
  show cross_product_3d (cyc (swap23 a)) (cyc (swap23 b)) = -cyc (swap23 (cross_product_3d a b))
  rw [cross_cyc, cross_swap23]
  rfl

theorem cross_cross (a b c : K × K × K) :
    cross_product_3d a (cross_product_3d b c) = dot3 a c • b - dot3 a b • c := by
  obtain ⟨b1, b2, b3⟩ := b
  obtain ⟨c1, c2, c3⟩ := c
  simp only [cross_formula', dot3, Prod.smul_mk, smul_eq_mul, Prod.mk_sub_mk, Prod.mk.injEq]
  exact ⟨by ring, by ring, by ring⟩

theorem cross_cross_self (a b : K × K × K) :
    cross_product_3d a (cross_product_3d a b) = dot3 a b • a - dot3 a a • b :=
  cross_cross a a b

theorem triple_cyclic (a b c : K × K × K) :
    dot3 a (cross_product_3d b c) = dot3 b (cross_product_3d c a) := by
  simp only [dot3, cross_formula']; ring

theorem dot3_zero (a : K × K × K) : dot3 a 0 = 0 := by
  simp only [dot3, Prod.fst_zero, Prod.snd_zero, mul_zero, add_zero]

theorem dot_cross_self_left (a b : K × K × K) : dot3 a (cross_product_3d a b) = 0 := by
  rw [← triple_cyclic b a a, cross_self, dot3_zero]

theorem dot_cross_self_right (a b : K × K × K) : dot3 b (cross_product_3d a b) = 0 := by
  rw [triple_cyclic b a b, cross_self, dot3_zero]

theorem cross_norm_sq (a b : K × K × K) :
    dot3 (cross_product_3d a b) (cross_product_3d a b) = dot3 a a * dot3 b b - dot3 a b ^ 2 := by
  simp only [dot3, cross_formula']; ring

/-- the curl of any spectrum is divergence-free mode by mode: `k · (k × û) = 0` -/
theorem div_curl (k u : K × K × K) : dot3 k (cross_product_3d k u) = 0 := dot_cross_self_left k u

end Exponax.Cross
