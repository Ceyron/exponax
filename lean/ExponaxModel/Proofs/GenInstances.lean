import Mathlib.Analysis.SpecialFunctions.Pow.Real
import Mathlib.Analysis.SpecialFunctions.Pow.Complex
import Mathlib.Tactic
import ExponaxModel.Generated.GenPrelude
import ExponaxModel.Proofs.Instances
/-
Proof interpretation at `ℂ` of the operation-only classes `HasRpow`, `HasLtB` (real interpretation in
`RealInstances.lean`, IEEE one in `Model/CF.lean`) and `HasCpow`; `hasAbs_complex` unfolds the `HasAbs ℂ` instance
of `Instances.lean`.  The instances here mirror the `CF` instances of the driver: real power and `<` act on
the real parts (the metric / IC code applies them to real-valued quantities only).
-/
namespace Exponax
/-- real power on the real parts (exactly the instance of the IEEE scalar `CF` of the driver) -/
noncomputable instance : HasRpow ℂ := ⟨fun x y => ((x.re ^ y.re : ℝ) : ℂ)⟩
/-- `<` on the real parts (as for `CF`) -/
noncomputable instance : HasLtB ℂ := ⟨fun a b => decide (a.re < b.re)⟩
/-- complex power, principal branch -/
noncomputable instance : Gen.Prelude.HasCpow ℂ := ⟨fun z w => z ^ w⟩

theorem hasRpow_complex (x y : ℂ) : HasRpow.rpow x y = ((x.re ^ y.re : ℝ) : ℂ) := rfl
theorem hasLtB_complex (a b : ℂ) : HasLtB.ltb a b = decide (a.re < b.re) := rfl
theorem hasCpow_complex (z w : ℂ) : Gen.Prelude.HasCpow.cpow z w = z ^ w := rfl
theorem hasAbs_complex (z : ℂ) : HasAbs.abs z = ((‖z‖ : ℝ) : ℂ) := rfl
end Exponax
