import ExponaxModel.Proofs.LaminarWhole
import ExponaxModel.Proofs.AliasOffBand
import ExponaxModel.Proofs.OperatorAlgebra
/-
C09 — constant states: the whole-array behaviour of the nonlinear model terms on the spectrum of a constant state, more
generally on any spectrum carried by the mean mode only (`MeanSpec`).  `rfftn` of a constant field is `N^D·u₀` at the
mean mode and `0` elsewhere; the masked inverse transform of a mean-mode spectrum is the constant field
`Re(mask(0)·a)/N^D`; hence all four variants of `Nonlin.convection`, `Nonlin.gradientNorm` (with or without the
zero-mode fix) and `Nonlin.vorticity2d … none` return `0` at EVERY entry.  The reaction terms and the equilibria are in
`Proofs/EquilibriaReaction.lean`.
-/
namespace Exponax.Equilibria
open Exponax Exponax.Layout Exponax.Transform Exponax.DFT Finset
open Exponax.Nonlin (Cfg MC at2 tab2 tabC modes gridSize mask nfft nifft vorticity2d kInt convection
  gradientNorm polynomial polyEval reaction)

theorem rfftnM_const (D N : ℕ) (hD : 0 < D) (hN : 0 < N) (a : ℂ) (h : ℕ) (hh : h < numModes D N) :
    (rfftnM D N (tab (N ^ D) (fun _ => a))).getD h 0 = if h = 0 then ((N ^ D : ℕ) : ℂ) * a else 0 := by
  rw [AliasND.rfftn_eq_dftV D N hN _ h hh, AliasND.dftV_const D N hN,
    if_congr (AliasND.stored_dvd_iff D N h hD hN hh) rfl rfl, mul_comm]

theorem nfft_const (c : Cfg ℂ) (hD : 0 < c.D) (hN : 0 < c.N) (u : Array ℂ) (a : ℂ)
    (hu : ∀ j < gridSize c, u.getD j 0 = a) (h : ℕ) :
    (nfft c u).getD h 0 = if h = 0 then mask c 0 * (((c.N ^ c.D : ℕ) : ℂ) * a) else 0 := by
  rw [Nonlin.nfft_congr c u (tab (c.N ^ c.D) (fun _ => a)) (fun j hj => by
    rw [hu j hj, Nonlin.tab_getD _ _ _ _ (show j < c.N ^ c.D from hj)])]
  rcases Nat.lt_or_ge h (modes c) with hh | hh
  · rw [Alias.nfft_getD c _ h hh, rfftnM_const c.D c.N hD hN a h hh]
    split_ifs with h0
    · rw [h0]
    · rw [mul_zero]
  · unfold nfft
    rw [Nonlin.tab_getD_of_le _ _ _ _ hh, if_neg]
    have := Conserve.modes_pos c hN
    omega

/-- only the mean mode is occupied: the spectrum of a constant state (`constSpec_meanSpec`) -/
def MeanSpec (c : Cfg ℂ) (uh : MC ℂ) : Prop := ∀ ch h, 0 < h → h < modes c → at2 uh ch h = 0

theorem nifft_mean (c : Cfg ℂ) (hN : 0 < c.N) (z : Array ℂ) (hz : ∀ h, 0 < h → h < modes c → z.getD h 0 = 0)
    (x : ℕ) (hx : x < gridSize c) :
    (nifft c z).getD x 0 = (((mask c 0 * z.getD 0 0).re : ℝ) : ℂ) / ((c.N ^ c.D : ℕ) : ℂ) := by
  have hM : 0 < modes c := Conserve.modes_pos c hN
  unfold nifft
  rw [irfftnM_getD c.D c.N hN _ x hx, Finset.sum_eq_single 0]
  · rw [herm_weight_zero, Nonlin.tab_getD _ _ _ _ hM, Conserve.phaseK_zero_mode, twiddle_eq_zpow, neg_zero, zpow_zero,
      mul_one, Nat.cast_one, one_mul]
  · intro h hh h0
    have hh' : h < modes c := Finset.mem_range.mp hh
    rw [Nonlin.tab_getD _ _ _ _ hh', hz h (Nat.pos_of_ne_zero h0) hh', mul_zero, zero_mul, Complex.zero_re,
      Complex.ofReal_zero, mul_zero]
  · intro h0
    exact absurd (Finset.mem_range.mpr hM) h0

/-- the value of the constant field of channel `ch` -/
noncomputable def meanValue (c : Cfg ℂ) (uh : MC ℂ) (ch : ℕ) : ℂ :=
  (((mask c 0 * at2 uh ch 0).re : ℝ) : ℂ) / ((c.N ^ c.D : ℕ) : ℂ)

theorem nifft_channel_mean (c : Cfg ℂ) (hN : 0 < c.N) (uh : MC ℂ) (hu : MeanSpec c uh) (ch x : ℕ)
    (hx : x < gridSize c) : (nifft c (uh.getD ch #[])).getD x 0 = meanValue c uh ch := by
  rw [meanValue, at2]
  exact nifft_mean c hN _ (fun h h0 hh => hu ch h h0 hh) x hx

theorem deriv_mul_mean (c : Cfg ℂ) (uh : MC ℂ) (hu : MeanSpec c uh) (d ch h : ℕ) (hh : h < modes c) :
    Nonlin.deriv c d h * at2 uh ch h = 0 := by
  rcases Nat.eq_zero_or_pos h with h0 | h0
  · rw [h0, Conserve.deriv_zero_mode, zero_mul]
  · rw [hu ch h h0 hh, mul_zero]

/-- the spectrum of the state that equals `u0 ch` everywhere in channel `ch` -/
noncomputable def constSpec (c : Cfg ℂ) (C : ℕ) (u0 : ℕ → ℂ) : MC ℂ :=
  tabC C (fun ch => rfftnM c.D c.N (tab (gridSize c) (fun _ => u0 ch)))

theorem at2_constSpec (c : Cfg ℂ) (hD : 0 < c.D) (hN : 0 < c.N) (C : ℕ) (u0 : ℕ → ℂ) (ch h : ℕ) (hch : ch < C) :
    at2 (constSpec c C u0) ch h = if h = 0 then ((c.N ^ c.D : ℕ) : ℂ) * u0 ch else 0 := by
  unfold constSpec
  rw [Nonlin.at2_tabC _ _ _ _ hch]
  rcases Nat.lt_or_ge h (modes c) with hh | hh
  · exact rfftnM_const c.D c.N hD hN (u0 ch) h hh
  · rw [rfftnM, Nonlin.tab_getD_of_le _ _ _ _ (show numModes c.D c.N ≤ h from hh), if_neg]
    have := Conserve.modes_pos c hN
    omega

theorem constSpec_meanSpec (c : Cfg ℂ) (hD : 0 < c.D) (hN : 0 < c.N) (C : ℕ) (u0 : ℕ → ℂ) :
    MeanSpec c (constSpec c C u0) := by
  intro ch h h0 hh
  rcases Nat.lt_or_ge ch C with hch | hch
  · rw [at2_constSpec c hD hN C u0 ch h hch, if_neg (by omega)]
  · unfold constSpec
    rw [Alias.at2_tabC_any, if_neg (by omega)]

theorem meanValue_constSpec (c : Cfg ℂ) (hD : 0 < c.D) (hN : 0 < c.N) (hm : mask c 0 = 1) (C : ℕ) (u0 : ℕ → ℝ)
    (ch : ℕ) (hch : ch < C) : meanValue c (constSpec c C (fun k => (u0 k : ℂ))) ch = (u0 ch : ℂ) := by
  unfold meanValue
  rw [at2_constSpec c hD hN C _ ch 0 hch, if_pos rfl, hm, one_mul]
  have hG : ((c.N ^ c.D : ℕ) : ℂ) ≠ 0 := Nat.cast_ne_zero.mpr (pow_pos hN _).ne'
  rw [← Complex.ofReal_natCast, ← Complex.ofReal_mul, Complex.ofReal_re, Complex.ofReal_mul, Complex.ofReal_natCast,
    mul_div_cancel_left₀ _ hG]

theorem nifft_deriv_mean (c : Cfg ℂ) (hN : 0 < c.N) (uh : MC ℂ) (hu : MeanSpec c uh) (d k x : ℕ) :
    (nifft c (tab (modes c) (fun h => Nonlin.deriv c d h * at2 uh k h))).getD x 0 = 0 :=
  Nonlin.nifft_zero c _ (fun h' hh' => by
    rw [Nonlin.tab_getD _ _ _ _ hh', deriv_mul_mean c uh hu d k h' hh']) x

/-- all four variants of the convection term: every entry is `0` on a mean-mode spectrum.  Non-conservative: the
    gradient fields vanish; conservative: the products are constant fields, whose transform sits at the mean mode,
    where the derivative symbol vanishes. -/
theorem convection_const (c : Cfg ℂ) (hD : 0 < c.D) (hN : 0 < c.N) (C : ℕ) (scale : ℂ) (single conservative : Bool)
    (uh : MC ℂ) (hu : MeanSpec c uh) (ch h : ℕ) : at2 (convection c C scale single conservative uh) ch h = 0 := by
  cases single <;> cases conservative
  · unfold convection
    simp only [Bool.false_eq_true, ↓reduceIte]
    refine Nonlin.at2_tab2_eq_zero _ _ _ _ _ (fun hch hh => ?_)
    rw [Nonlin.at2_tabC _ _ _ _ hch, Nonlin.nfft_zero c, mul_zero]
    intro j hj
    rw [Nonlin.tab_getD _ _ _ _ (show j < gridSize c from hj)]
    exact Alias.sumList_range_zero _ _ (fun k => by
      rw [Nonlin.at2_tabC_zero _ _ (fun ij x => nifft_deriv_mean c hN uh hu _ _ x), mul_zero])
  · unfold convection
    simp only [Bool.false_eq_true, ↓reduceIte]
    refine Nonlin.at2_tab2_eq_zero _ _ _ _ _ (fun hch hh => ?_)
    rw [Alias.sumList_range_zero, mul_zero, mul_zero]
    intro j
    rcases Nat.eq_zero_or_pos h with h0 | h0
    · rw [h0, Conserve.deriv_zero_mode, zero_mul]
    · rw [Alias.at2_tabC_any]
      by_cases hij : ch * C + j < C * C
      · have hmod : (ch * C + j) % C < C := Nat.mod_lt _ (by omega)
        have hdiv : (ch * C + j) / C < C := by rw [Nat.div_lt_iff_lt_mul (by omega)]; exact hij
        rw [if_pos hij, nfft_const c hD hN _ (meanValue c uh ((ch * C + j) % C) * meanValue c uh ((ch * C + j) / C))
            (fun x hx => by
              rw [Nonlin.tab_getD _ _ _ _ hx, Nonlin.at2_tabC _ _ _ _ hmod, Nonlin.at2_tabC _ _ _ _ hdiv,
                nifft_channel_mean c hN uh hu _ x hx, nifft_channel_mean c hN uh hu _ x hx]) h,
          if_neg (by omega), mul_zero]
      · rw [if_neg hij, mul_zero]
  · unfold convection
    simp only [Bool.false_eq_true, ↓reduceIte]
    refine Nonlin.at2_tab2_eq_zero _ _ _ _ _ (fun hch hh => ?_)
    rw [Nonlin.nfft_zero c, mul_zero]
    intro j hj
    rw [Nonlin.tab_getD _ _ _ _ (show j < gridSize c from hj)]
    exact Alias.sumList_range_zero _ _ (fun d => by
      rw [Nonlin.at2_tabC_zero _ _ (fun d x => nifft_deriv_mean c hN uh hu _ _ x), mul_zero])
  · unfold convection
    simp only [↓reduceIte]
    refine Nonlin.at2_tab2_eq_zero _ _ _ _ _ (fun hch hh => ?_)
    rcases Nat.eq_zero_or_pos h with h0 | h0
    · rw [h0, Alias.sumList_range_zero _ _ (fun d => Conserve.deriv_zero_mode c d), mul_zero, zero_mul, mul_zero]
    · rw [Nonlin.at2_tabC _ _ _ _ hch,
        nfft_const c hD hN _ (meanValue c uh ch * meanValue c uh ch) (fun x hx => by
          rw [Nonlin.tab_getD _ _ _ _ hx, Nonlin.at2_tabC _ _ _ _ hch,
            nifft_channel_mean c hN uh hu _ x hx]) h, if_neg (by omega), mul_zero, mul_zero]

/-- the gradient-norm term (with or without the zero-mode fix): every entry is `0` on a mean-mode spectrum: the squared
    gradient vanishes on the grid, and so does its grid mean -/
theorem gradientNorm_const (c : Cfg ℂ) (hN : 0 < c.N) (C : ℕ) (scale : ℂ) (zeroFix : Bool) (uh : MC ℂ)
    (hu : MeanSpec c uh) (ch h : ℕ) : at2 (gradientNorm c C scale zeroFix uh) ch h = 0 := by
  unfold gradientNorm
  simp only []
  refine Nonlin.at2_tab2_eq_zero _ _ _ _ _ (fun hch hh => ?_)
  have hq : ∀ (k x : ℕ), at2 (tab2 C (gridSize c) (fun ch x =>
      sumList ((List.range c.D).map (fun d =>
        at2 (tabC (C * c.D) (fun cd =>
          nifft c (tab (modes c) (fun h => Nonlin.deriv c (cd % c.D) h * at2 uh (cd / c.D) h)))) (ch * c.D + d) x *
        at2 (tabC (C * c.D) (fun cd =>
          nifft c (tab (modes c) (fun h => Nonlin.deriv c (cd % c.D) h * at2 uh (cd / c.D) h)))) (ch * c.D + d) x))))
      k x = 0 :=
    fun k x => Nonlin.at2_tab2_eq_zero _ _ _ _ _ (fun _ _ => Alias.sumList_range_zero _ _ (fun d => by
      rw [Nonlin.at2_tabC_zero _ _ (fun cd x => nifft_deriv_mean c hN uh hu _ _ x), mul_zero]))
  rw [Nonlin.at2_tabC _ _ _ _ hch, Nonlin.nfft_zero c, mul_zero, mul_zero]
  intro j hj
  change at2 _ ch j = 0
  rw [Nonlin.at2_tab2 _ _ _ _ _ hch (show j < gridSize c from hj), hq ch j, Nonlin.tab_getD _ _ _ _ hch, sumRange_eq,
    Finset.sum_eq_zero (fun x _ => hq ch x), zero_div]
  split_ifs <;> simp

theorem vorticity2d_const (c : Cfg ℂ) (hN : 0 < c.N) (scale : ℂ) (uh : MC ℂ) (hu : MeanSpec c uh) :
    vorticity2d c scale none uh = tab2 1 (modes c) (fun _ _ => 0) := by
  apply Laminar.vorticity2d_shear_zero c hN scale uh
  intro h hh hk
  rcases Nat.eq_zero_or_pos h with h0 | h0
  · subst h0
    exact absurd (Conserve.kInt_zero_mode c 0) hk
  · exact hu 0 h h0 hh

end Exponax.Equilibria
