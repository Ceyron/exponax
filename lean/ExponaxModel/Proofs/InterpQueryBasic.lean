import ExponaxModel.Proofs.ExactLinearBand
import ExponaxModel.Proofs.InterpGrid
/-
C15 support — the `FourierInterpolator` at an ARBITRARY query point: the real phase `s κ·x` (`dotC`) for real `s` and a
query point with real coordinates, linearity of `Interp.interpolate` in the state, and the interpolant of one cosine
mode strictly below Nyquist (U1 of `InterpQuery.lean`), which is `sum_rfftnM_modeField_mul` with the interpolator's
phase factor in the place of the multiplier, and `Wsum_eq_two`.
-/
namespace Exponax.Interp
open Exponax Exponax.Layout Exponax.Transform Exponax.DFT Exponax.ExactLinear Finset
open scoped ComplexConjugate

/-- a real query point as the list of complex coordinates handed to the model -/
noncomputable def cx (x : List ℝ) : List ℂ := List.map (fun t : ℝ => (t : ℂ)) x

theorem cx_getD (x : List ℝ) (d : ℕ) : (cx x).getD d 0 = ((x.getD d 0 : ℝ) : ℂ) := by
  unfold cx
  rw [List.getD_eq_getElem?_getD, List.getD_eq_getElem?_getD, List.getElem?_map]
  cases x[d]? <;> simp

theorem cx_real (x : List ℝ) (d : ℕ) : ((cx x).getD d 0).im = 0 := by
  rw [cx_getD, Complex.ofReal_im]

theorem cx_re (x : List ℝ) (d : ℕ) : ((cx x).getD d 0).re = x.getD d 0 := by
  rw [cx_getD, Complex.ofReal_re]

/-- the real phase `Σ_d s κ_d x_d` (for a query point with real coordinates: its real parts) -/
noncomputable def dotC (D : ℕ) (s : ℝ) (κ : List ℤ) (x : List ℂ) : ℝ :=
  ∑ d ∈ range D, s * (κ.getD d 0 : ℝ) * (x.getD d 0).re

theorem dotC_cx (D : ℕ) (s : ℝ) (κ : List ℤ) (x : List ℝ) :
    dotC D s κ (cx x) = ∑ d ∈ range D, s * (κ.getD d 0 : ℝ) * x.getD d 0 := by
  unfold dotC
  apply Finset.sum_congr rfl
  intro d _
  rw [cx_re]

theorem dotC_negK (D : ℕ) (s : ℝ) (κ : List ℤ) (x : List ℂ) :
    dotC D s (negK κ) x = -dotC D s κ x := by
  unfold dotC
  rw [← Finset.sum_neg_distrib]
  apply Finset.sum_congr rfl
  intro d _
  rw [negK_getD]
  push_cast
  ring

theorem phase_of_real (D : ℕ) (s : ℝ) (k : List ℤ) (x : List ℂ) (hx : ∀ d < D, (x.getD d 0).im = 0) :
    ∑ d ∈ range D, Complex.I * ((s : ℂ) * ((k.getD d 0 : ℤ) : ℂ)) * x.getD d 0
      = ((dotC D s k x : ℝ) : ℂ) * Complex.I := by
  unfold dotC
  rw [Complex.ofReal_sum, Finset.sum_mul]
  apply Finset.sum_congr rfl
  intro d hd
  obtain ⟨r, hr⟩ : ∃ r : ℝ, x.getD d 0 = (r : ℂ) :=
    ⟨(x.getD d 0).re, Complex.ext (Complex.ofReal_re _).symm
      (by rw [Complex.ofReal_im]; exact hx d (Finset.mem_range.mp hd))⟩
  rw [hr, Complex.ofReal_re]
  push_cast
  ring

theorem interpolate_vadd (D N : ℕ) (hD : 0 < D) (hN : 0 < N) (s : ℂ) (u v : Array ℂ) (x : List ℂ) :
    interpolate D N s (vadd (N ^ D) u v) x = interpolate D N s u x + interpolate D N s v x := by
  rw [interpolate_eq D N hD hN, interpolate_eq D N hD hN, interpolate_eq D N hD hN,
    rfftnM_vadd D N hN, ← add_div, ← Finset.sum_add_distrib]
  refine congrArg (· / _) (Finset.sum_congr rfl fun h hh => ?_)
  rw [vadd_getD _ _ _ _ (Finset.mem_range.mp hh), add_mul, Complex.add_re]
  push_cast
  ring

/-- the interpolator is homogeneous for REAL scalars (it takes real parts) -/
theorem interpolate_vsmul_real (D N : ℕ) (hD : 0 < D) (hN : 0 < N) (s : ℂ) (r : ℝ) (u : Array ℂ)
    (x : List ℂ) :
    interpolate D N s (vsmul (N ^ D) (r : ℂ) u) x = (r : ℂ) * interpolate D N s u x := by
  rw [interpolate_eq D N hD hN, interpolate_eq D N hD hN, rfftnM_vsmul D N hN, ← mul_div_assoc,
    Finset.mul_sum]
  refine congrArg (· / _) (Finset.sum_congr rfl fun h hh => ?_)
  rw [vsmul_getD _ _ _ _ (Finset.mem_range.mp hh), mul_assoc, Complex.re_ofReal_mul]
  push_cast
  ring

theorem interpolate_vzero (D N : ℕ) (hD : 0 < D) (hN : 0 < N) (s : ℂ) (x : List ℂ) :
    interpolate D N s (vzero (N ^ D)) x = 0 := by
  rw [interpolate_eq D N hD hN, rfftnM_vzero D N hN]
  have : ∀ h ∈ range (numModes D N), (herm_weight D N h : ℂ) *
      ((((vzero (numModes D N)).getD h 0 * Complex.exp (∑ d ∈ range D,
          Complex.I * (s * (((wnFlat D N h).getD d 0 : ℤ) : ℂ)) * x.getD d 0)).re : ℝ) : ℂ) = 0 := by
    intro h _
    rw [vzero_getD, zero_mul]
    simp
  rw [Finset.sum_eq_zero this, zero_div]

theorem interpolate_vsum (D N : ℕ) (hD : 0 < D) (hN : 0 < N) (s : ℂ) (us : List (Array ℂ)) (x : List ℂ) :
    interpolate D N s (vsum (N ^ D) us) x = (us.map (fun u => interpolate D N s u x)).sum := by
  induction us with
  | nil => rw [vsum_nil, interpolate_vzero D N hD hN]; simp
  | cons u us ih => rw [vsum_cons, interpolate_vadd D N hD hN, ih, List.map_cons, List.sum_cons]

theorem re_coef_phase (a φ θ : ℝ) (n : ℕ) :
    ((a / 2 : ℂ) * (n : ℂ) * Complex.exp (φ * Complex.I) * Complex.exp ((θ : ℂ) * Complex.I)).re
      = a / 2 * n * Real.cos (θ + φ) := by
  have e : (a / 2 : ℂ) * (n : ℂ) * Complex.exp (φ * Complex.I) * Complex.exp ((θ : ℂ) * Complex.I)
      = ((a / 2 * n : ℝ) : ℂ) * Complex.exp (((θ + φ : ℝ) : ℂ) * Complex.I) := by
    have hw : (((θ + φ : ℝ) : ℂ)) * Complex.I = (φ : ℂ) * Complex.I + (θ : ℂ) * Complex.I := by
      push_cast; ring
    rw [hw, Complex.exp_add]
    push_cast
    ring
  rw [e, Complex.re_ofReal_mul, Complex.exp_ofReal_mul_I_re]

theorem interpolate_modeField_sum (D N : ℕ) (hD : 0 < D) (hN : 0 < N) (s : ℝ) (κ : List ℤ)
    (hκ : BelowNyquist D N κ) (a φ : ℝ) (x : List ℂ) (hx : ∀ d < D, (x.getD d 0).im = 0) :
    interpolate D N (s : ℂ) (modeField D N κ a φ) x
      = ((((a / 2 : ℂ) * ((N ^ D : ℕ) : ℂ) * Complex.exp (φ * Complex.I)
            * Complex.exp (((dotC D s κ x : ℝ) : ℂ) * Complex.I)).re : ℝ) : ℂ) * Wsum D N κ / (N : ℂ) ^ D := by
  have key := sum_rfftnM_modeField_mul D N hD hN κ hκ a φ
    (fun h => Complex.exp (((dotC D s (wnFlat D N h) x : ℝ) : ℂ) * Complex.I))
    (Complex.exp (((dotC D s κ x : ℝ) : ℂ) * Complex.I))
    (fun h hh hA => by rw [hA])
    (fun h hh hB => by
      rw [hB, dotC_negK, ← Complex.exp_conj, map_mul, Complex.conj_I, Complex.conj_ofReal, Complex.ofReal_neg,
        neg_mul, mul_neg])
  rw [interpolate_eq D N hD hN, ← key]
  exact congrArg (· / _) (Finset.sum_congr rfl fun h _ => by rw [phase_of_real D s _ x hx])

/-- **U1 (core form, query point = complex list with real entries).** -/
theorem interpolate_modeField_of_real (D N : ℕ) (hD : 0 < D) (hN : 0 < N) (s : ℝ) (κ : List ℤ)
    (hκ : BelowNyquist D N κ) (a φ : ℝ) (x : List ℂ) (hx : ∀ d < D, (x.getD d 0).im = 0) :
    interpolate D N (s : ℂ) (modeField D N κ a φ) x
      = (((a * Real.cos (dotC D s κ x + φ) : ℝ)) : ℂ) := by
  rw [interpolate_modeField_sum D N hD hN s κ hκ a φ x hx, Wsum_eq_two D N hD hN κ hκ, re_coef_phase]
  have hNne : ((N : ℂ) ^ D) ≠ 0 := pow_ne_zero _ (by exact_mod_cast hN.ne')
  rw [div_eq_iff hNne]
  push_cast
  ring

end Exponax.Interp
