import ExponaxModel.Proofs.LaminarWhole
import ExponaxModel.Proofs.EquilibriaStored
/-
C12, explicit form: the forcing spectrum of the 2-D Kolmogorov stepper is carried by the single stored mode
`h = m` (wave vector `(0, m)`), so from rest the whole spectrum after `n` steps of ETDRK-p is

    h = m :  f̂ (e^{n σ dt} − 1)/σ      (exact coefficients at the forced mode, σ the linear symbol there)
    h ≠ m :  0

for p = 1..4 (`from_rest_exact` on the closed forms `laminar_E?`: `C12_laminar_every_order_exact`,
`C12_laminar_from_rest_exact`), and with ALL coefficients stored (contour means) the same with `dt φ₁(σ dt)` replaced by the
stored `E1_coef_1 dt σ M r` — the same trajectory for all four orders (`from_rest_stored`: `C12_laminar_every_order_stored`).
-/
namespace Exponax.Laminar
open Exponax Exponax.Layout Exponax.Transform Exponax.Gen.Etdrk Exponax.Spec Finset
open Exponax.Nonlin (Cfg MC at2 tab2 tabC modes gridSize mask nfft nifft vorticity2d kInt invLapOne inj2)
open Exponax.Conserve (liftNl)

theorem modes_two (c : Cfg ℂ) (hD : c.D = 2) : modes c = c.N * (c.N / 2 + 1) := by
  simp [modes, numModes, wavenumberShape, shapeSize, hD]

theorem forced_mode_lt (c : Cfg ℂ) (hD : c.D = 2) (m : ℕ) (hm : 2 * m < c.N) : m < modes c := by
  rw [modes_two c hD]
  have h1 : m < c.N / 2 + 1 := by omega
  have h2 : 1 ≤ c.N := by omega
  calc m < c.N / 2 + 1 := h1
    _ = 1 * (c.N / 2 + 1) := (one_mul _).symm
    _ ≤ c.N * (c.N / 2 + 1) := Nat.mul_le_mul_right _ h2

/-- stored modes are row-major, `(k₀, k₁)` at `k₀·(N/2+1) + k₁`: the forced wave vector `(0, m)` sits at flat index `m` -/
theorem wnFlat_forced (c : Cfg ℂ) (hD : c.D = 2) (m : ℕ) (hm : 2 * m < c.N) :
    wnFlat c.D c.N m = [0, (m : ℤ)] := by
  have h := SymmetryND.wnFlat_two c.N 0 m (by omega)
  rw [zero_mul, zero_add] at h
  rw [hD, h]
  simp [fftfreq]

theorem forced_mode_iff (c : Cfg ℂ) (hD : c.D = 2) (m : ℕ) (hm : 2 * m < c.N) (h : ℕ) (hh : h < modes c) :
    (kInt c 0 h = 0 ∧ kInt c 1 h = (m : ℤ)) ↔ h = m := by
  rw [← ReadOff.wnFlat_eq_2d c hD h 0 m]
  constructor
  · intro he
    exact ExactLinear.wnFlat_inj c.D c.N (hD ▸ Nat.succ_pos 1) (Nat.zero_lt_of_lt hm) h m hh (forced_mode_lt c hD m hm)
      (by rw [he, wnFlat_forced c hD m hm])
  · rintro rfl
    exact wnFlat_forced c hD h hm

theorem forcing_eq (c : Cfg ℂ) (hD : c.D = 2) (scale γ : ℂ) (m : ℕ) (hm0 : 0 < m) (hm : 2 * m < c.N) :
    forcing c scale (some (m, γ))
      = fun h => if h = m then -(c.s * (m : ℂ)) * γ * ((c.N : ℂ) * ((c.N : ℂ) / 2)) else 0 := by
  funext h
  rw [forcing_apply c (Nat.zero_lt_of_lt hm)]
  by_cases hh : h < modes c
  · rw [if_pos hh]
    simp only [inj2]
    by_cases he : h = m
    · have hk := (forced_mode_iff c hD m hm h hh).mpr he
      rw [if_pos hk, if_pos he, Nonlin.scaling_at_kolmogorov_2d c hD h m hm0 hm hk.1 hk.2, hk.2]
      push_cast
      ring
    · rw [if_neg (fun hk => he ((forced_mode_iff c hD m hm h hh).mp hk)), if_neg he]
  · rw [if_neg hh, if_neg]
    intro he
    exact hh (he ▸ forced_mode_lt c hD m hm)

/-- evaluation of the closed form of `laminar_E*` from rest -/
theorem from_rest_eval (c : Cfg ℂ) (hD : c.D = 2) (scale γ : ℂ) (m : ℕ) (hm0 : 0 < m) (hm : 2 * m < c.N)
    (E κ : ℕ → ℂ) (n : ℕ) :
    E ^ n * 0 + (∑ i ∈ range n, E ^ i) * (κ * forcing c scale (some (m, γ)))
      = fun h => if h = m
          then (∑ i ∈ range n, E m ^ i) * (κ m * (-(c.s * (m : ℂ)) * γ * ((c.N : ℂ) * ((c.N : ℂ) / 2))))
          else 0 := by
  rw [forcing_eq c hD scale γ m hm0 hm]
  funext h
  simp only [Pi.add_apply, Pi.mul_apply, Pi.zero_apply, mul_zero, zero_add, Finset.sum_apply, Pi.pow_apply]
  by_cases he : h = m
  · subst he; rw [if_pos rfl, if_pos rfl]
  · rw [if_neg he, if_neg he]; ring

theorem geom_phi1 (σ dt f : ℂ) (hσ : σ ≠ 0) (hdt : dt ≠ 0) (n : ℕ) :
    (∑ i ∈ range n, Complex.exp (σ * dt) ^ i) * (dt * phi1 (σ * dt) * f)
      = f * (Complex.exp (n * (σ * dt)) - 1) / σ := by
  have g := geom_sum_mul (Complex.exp (σ * dt)) n
  rw [Complex.exp_nat_mul]
  simp only [phi1, hasExp_complex]
  field_simp
  linear_combination f * g

noncomputable def fhat (c : Cfg ℂ) (γ : ℂ) (m : ℕ) : ℂ := -(c.s * (m : ℂ)) * γ * ((c.N : ℂ) * ((c.N : ℂ) / 2))

noncomputable def laminarSpectrum (c : Cfg ℂ) (γ : ℂ) (m : ℕ) (σ dt : ℂ) (n : ℕ) : ℕ → ℂ :=
  fun h => if h = m then fhat c γ m * (Complex.exp (n * (σ * dt)) - 1) / σ else 0

theorem from_rest_exact (c : Cfg ℂ) (hD : c.D = 2) (scale γ : ℂ) (m : ℕ) (hm0 : 0 < m) (hm : 2 * m < c.N)
    (σ dt : ℂ) (hσ : σ ≠ 0) (hdt : dt ≠ 0) (E κ : ℕ → ℂ) (hE : E m = Complex.exp (σ * dt))
    (hκ : κ m = dt * phi1 (σ * dt)) (n : ℕ) :
    E ^ n * 0 + (∑ i ∈ range n, E ^ i) * (κ * forcing c scale (some (m, γ))) = laminarSpectrum c γ m σ dt n := by
  rw [from_rest_eval c hD scale γ m hm0 hm, hE, hκ]
  funext h
  unfold laminarSpectrum
  by_cases he : h = m
  · rw [if_pos he, if_pos he]
    exact geom_phi1 σ dt _ hσ hdt n
  · rw [if_neg he, if_neg he]

noncomputable def laminarStored (c : Cfg ℂ) (γ : ℂ) (m : ℕ) (dt σ r : ℂ) (M n : ℕ) : ℕ → ℂ :=
  fun h => if h = m then (∑ i ∈ range n, exp_term dt σ ^ i) * (E1_coef_1 dt σ M r * fhat c γ m) else 0

theorem from_rest_stored (c : Cfg ℂ) (hD : c.D = 2) (scale γ : ℂ) (m : ℕ) (hm0 : 0 < m) (hm : 2 * m < c.N)
    (dt r : ℂ) (M : ℕ) (L κ : ℕ → ℂ) (hκ : κ m = E1_coef_1 dt (L m) M r) (n : ℕ) :
    (fun h => exp_term dt (L h)) ^ n * 0
        + (∑ i ∈ range n, (fun h => exp_term dt (L h)) ^ i) * (κ * forcing c scale (some (m, γ)))
      = laminarStored c γ m dt (L m) r M n := by
  rw [from_rest_eval c hD scale γ m hm0 hm, hκ]
  rfl

theorem laminar_stored_E4 (c : Cfg ℂ) (hD : c.D = 2) (scale γ : ℂ) (m : ℕ) (hm0 : 0 < m) (hm : 2 * m < c.N)
    (dt r : ℂ) (M : ℕ) (L : ℕ → ℂ) (n : ℕ) :
    (E4step (fun h => exp_term dt (L h)) (fun h => E4_half_exp_term dt (L h) M r)
      (fun h => E4_coef_1 dt (L h) M r) (fun h => E4_coef_2 dt (L h) M r) (fun h => E4_coef_3 dt (L h) M r)
      (fun h => E4_coef_4 dt (L h) M r) (fun h => E4_coef_5 dt (L h) M r) (fun h => E4_coef_6 dt (L h) M r)
      (liftNl c (vorticity2d c scale (some (m, γ)))))^[n] 0 = laminarStored c γ m dt (L m) r M n := by
  rw [laminar_E4 c (Nat.zero_lt_of_lt hm) scale _ _ _ _ _ _ _ _ _ 0 (shearSpec_zero c) n]
  exact from_rest_stored c hD scale γ m hm0 hm dt r M L _ (EquilibriaStored.stored_E4_sum dt (L m) r M) n

/-! non-vacuity -/

example : ∃ c : Cfg ℂ, c.D = 2 ∧ 0 < 4 ∧ 2 * 4 < c.N := ⟨⟨2, 16, 1, 2, 3⟩, rfl, by norm_num, by norm_num⟩
example : ((-0.3 : ℂ)) ≠ 0 ∧ ((0.01 : ℂ)) ≠ 0 := by norm_num
example (c : Cfg ℂ) : ShearSpec c 0 := shearSpec_zero c
example (c : Cfg ℂ) : IsShear c (#[] : MC ℂ) := fun h _ _ => at2_empty 0 h

end Exponax.Laminar
