import ExponaxModel.Proofs.DFTnD
/-
Digit machinery for the n-D symmetry theorems (C08): digit-wise index maps (`digitMap`, through `ofDigits` of
GridIndex), their bijectivity on the grid `range (N^D)`, re-indexing of grid sums, and the model's `phaseK` at a
mapped index; the 2-D transposition `transpose2 : u ↦ uᵀ` of the `N × N` grid and what it does entry by entry (it swaps
the two grid digits).
-/
namespace Exponax.SymmetryND
open Exponax Exponax.Layout Exponax.Transform Exponax.DFT Finset

def digitMap (D N : ℕ) (g : ℕ → ℕ → ℕ) (j : ℕ) : ℕ :=
  ofDigits N (fun d => g d (digit D N j d)) D

section DigitMap
variable (D N : ℕ) (hN : 0 < N) (g g' : ℕ → ℕ → ℕ)
  (hg : ∀ d < D, ∀ x < N, g d x < N)
include hN hg

theorem digitMap_lt (j : ℕ) : digitMap D N g j < N ^ D :=
  ofDigits_lt N _ D (fun d hd => hg d hd _ (digit_lt D N j d hN))

theorem digit_digitMap (j d : ℕ) (hd : d < D) :
    digit D N (digitMap D N g j) d = g d (digit D N j d) :=
  digit_ofDigits N _ D (fun d hd => hg d hd _ (digit_lt D N j d hN)) d hd

theorem digitMap_inv (hinv : ∀ d < D, ∀ x < N, g' d (g d x) = x) (j : ℕ) (hj : j < N ^ D) :
    digitMap D N g' (digitMap D N g j) = j := by
  unfold digitMap
  rw [ofDigits_congr N _ (fun d => digit D N j d) D]
  · exact ofDigits_digit N D j hj
  · intro d hd
    have := digit_digitMap D N hN g hg j d hd
    unfold digitMap at this
    rw [this, hinv d hd _ (digit_lt D N j d hN)]

theorem phaseK_digitMap (k : List ℤ) (j : ℕ) :
    phaseK D N k (digitMap D N g j)
      = ∑ d ∈ range D, k.getD d 0 * ((g d (digit D N j d) : ℕ) : ℤ) := by
  rw [phaseK_eq_sum]
  apply Finset.sum_congr rfl
  intro d hd
  rw [digit_digitMap D N hN g hg j d (Finset.mem_range.mp hd)]

end DigitMap

theorem sum_digitMap {M : Type} [AddCommMonoid M] (D N : ℕ) (hN : 0 < N) (g g' : ℕ → ℕ → ℕ)
    (hg : ∀ d < D, ∀ x < N, g d x < N) (hg' : ∀ d < D, ∀ x < N, g' d x < N)
    (h1 : ∀ d < D, ∀ x < N, g' d (g d x) = x) (h2 : ∀ d < D, ∀ x < N, g d (g' d x) = x)
    (F : ℕ → M) :
    ∑ j ∈ range (N ^ D), F (digitMap D N g j) = ∑ j ∈ range (N ^ D), F j := by
  apply Finset.sum_nbij' (digitMap D N g) (digitMap D N g')
  · intro j _
    exact Finset.mem_range.mpr (digitMap_lt D N hN g hg j)
  · intro j _
    exact Finset.mem_range.mpr (digitMap_lt D N hN g' hg' j)
  · intro j hj
    exact digitMap_inv D N hN g g' hg h1 j (Finset.mem_range.mp hj)
  · intro j hj
    exact digitMap_inv D N hN g' g hg' h2 j (Finset.mem_range.mp hj)
  · intro j _
    rfl

theorem natCast_mod_modEq (N a : ℕ) : ((a % N : ℕ) : ℤ) ≡ (a : ℤ) [ZMOD (N : ℤ)] := by
  rw [Int.natCast_mod]
  exact Int.mod_modEq _ _

theorem natCast_sub_modEq (N q : ℕ) (h : q ≤ N) : ((N - q : ℕ) : ℤ) ≡ -(q : ℤ) [ZMOD (N : ℤ)] := by
  rw [Nat.cast_sub h, sub_eq_neg_add]
  exact Int.add_modEq_right

theorem twiddle_congr (N : ℕ) {a b : ℤ} (h : a ≡ b [ZMOD (N : ℤ)]) :
    (twiddle N a : ℂ) = twiddle N b := by
  rw [twiddle_eq_zpow, twiddle_eq_zpow, zeta_zpow_eq_of_modEq N h]

def shiftDigit (N : ℕ) (s : ℤ) (x : ℕ) : ℕ := (((x : ℤ) - s) % (N : ℤ)).toNat

theorem shiftDigit_lt (N : ℕ) (hN : 0 < N) (s : ℤ) (x : ℕ) : shiftDigit N s x < N := by
  unfold shiftDigit
  have h1 : 0 ≤ ((x : ℤ) - s) % (N : ℤ) := Int.emod_nonneg _ (by exact_mod_cast hN.ne')
  have h2 : ((x : ℤ) - s) % (N : ℤ) < N := Int.emod_lt_of_pos _ (by exact_mod_cast hN)
  omega

theorem shiftDigit_cast (N : ℕ) (hN : 0 < N) (s : ℤ) (x : ℕ) :
    ((shiftDigit N s x : ℕ) : ℤ) = ((x : ℤ) - s) % (N : ℤ) :=
  Int.toNat_of_nonneg (Int.emod_nonneg _ (by exact_mod_cast hN.ne'))

theorem shiftDigit_inv (N : ℕ) (hN : 0 < N) (s : ℤ) (x : ℕ) (hx : x < N) :
    shiftDigit N (-s) (shiftDigit N s x) = x := by
  have h := shiftDigit_cast N hN s x
  unfold shiftDigit at h ⊢
  rw [h, sub_neg_eq_add, Int.emod_add_emod, sub_add_cancel,
    Int.emod_eq_of_lt (by positivity) (by exact_mod_cast hx), Int.toNat_natCast]

theorem shiftDigit_modEq (N : ℕ) (hN : 0 < N) (s : ℤ) (x : ℕ) :
    ((shiftDigit N s x : ℕ) : ℤ) ≡ (x : ℤ) - s [ZMOD (N : ℤ)] := by
  rw [shiftDigit_cast N hN]
  exact Int.mod_modEq _ _

def reflDigit (N : ℕ) (x : ℕ) : ℕ := (N - x) % N

theorem reflDigit_lt (N : ℕ) (hN : 0 < N) (x : ℕ) : reflDigit N x < N := Nat.mod_lt _ hN

theorem reflDigit_inv (N : ℕ) (x : ℕ) (hx : x < N) : reflDigit N (reflDigit N x) = x := by
  unfold reflDigit
  rcases Nat.eq_zero_or_pos x with h0 | h0
  · subst h0
    simp
  · rw [Nat.mod_eq_of_lt (show N - x < N by omega), Nat.sub_sub_self hx.le, Nat.mod_eq_of_lt hx]

theorem reflDigit_modEq (N : ℕ) (x : ℕ) (hx : x < N) :
    ((reflDigit N x : ℕ) : ℤ) ≡ -(x : ℤ) [ZMOD (N : ℤ)] :=
  (natCast_mod_modEq N (N - x)).trans (natCast_sub_modEq N x hx.le)

/-- source index of entry `j = j₀N + j₁` of the transposed field: `j₁N + j₀` -/
def transIdx (N j : ℕ) : ℕ := (j % N) * N + j / N

/-- `u.T` on the `N × N` grid (flat C order): `transpose2(u)[j₀,j₁] = u[j₁,j₀]` -/
def transpose2 (N : ℕ) (u : Array ℂ) : Array ℂ := tab (N ^ 2) (fun j => u.getD (transIdx N j) 0)

@[simp] theorem transpose2_size (N : ℕ) (u : Array ℂ) : (transpose2 N u).size = N ^ 2 := by
  simp [transpose2]

theorem pair_lt_sq (N j0 j1 : ℕ) (h0 : j0 < N) (h1 : j1 < N) : j0 * N + j1 < N ^ 2 :=
  sq N ▸ pair_lt h0 h1

theorem transIdx_pair (N j0 j1 : ℕ) (h1 : j1 < N) : transIdx N (j0 * N + j1) = j1 * N + j0 := by
  rw [transIdx, pair_div N j0 j1 h1, pair_mod N j0 j1 h1]

theorem digit_transIdx (N j : ℕ) (hj : j < N ^ 2) :
    digit 2 N (transIdx N j) 0 = digit 2 N j 1 ∧ digit 2 N (transIdx N j) 1 = digit 2 N j 0 := by
  have hN : 0 < N := by
    rcases Nat.eq_zero_or_pos N with h | h
    · subst h
      simp at hj
    · exact h
  have hq : j / N < N := Nat.div_lt_of_lt_mul (by rw [sq] at hj; exact hj)
  have hr : j % N < N := Nat.mod_lt _ hN
  unfold transIdx
  constructor
  · simp only [digit, show 2 - 1 - 0 = 1 from rfl, show 2 - 1 - 1 = 0 from rfl, pow_one, pow_zero,
      Nat.div_one]
    rw [pair_div N _ _ hq, Nat.mod_mod]
  · simp only [digit, show 2 - 1 - 0 = 1 from rfl, show 2 - 1 - 1 = 0 from rfl, pow_one, pow_zero,
      Nat.div_one]
    rw [pair_mod N _ _ hq]
    exact (Nat.mod_eq_of_lt hq).symm

theorem transpose2_getD (N : ℕ) (u : Array ℂ) (j : ℕ) (hj : j < N ^ 2) :
    (transpose2 N u).getD j 0 = u.getD (transIdx N j) 0 := by
  rw [transpose2, DFT.tab_getD _ _ _ _ hj]

theorem transpose2_pair (N : ℕ) (u : Array ℂ) (j0 j1 : ℕ) (h0 : j0 < N) (h1 : j1 < N) :
    (transpose2 N u).getD (j0 * N + j1) 0 = u.getD (j1 * N + j0) 0 := by
  rw [transpose2_getD N u _ (pair_lt_sq N j0 j1 h0 h1), transIdx_pair N j0 j1 h1]

end Exponax.SymmetryND
