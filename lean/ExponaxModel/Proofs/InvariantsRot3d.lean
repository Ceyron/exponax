import ExponaxModel.Proofs.Invariants
import ExponaxModel.Proofs.LerayAlgebra
import ExponaxModel.Proofs.CrossProduct
import ExponaxModel.Proofs.ConserveMean
import ExponaxModel.Proofs.ConserveVorticity
/-
C09 (invariants) — 3-D Navier–Stokes in rotational form (`projected3d`, no injection): the
projected convection `P(u × ω)` does no work on a band-limited divergence-free velocity.

What the model does (`Model/Nonlin.lean`, `projected3d`):
  `ω̂ = (i s k) × û` (no mask), `ω = ifft(mask·ω̂)`, `u = ifft(mask·û)` (mask BEFORE every inverse
  transform), `c = u × ω` pointwise on the grid, `ĉ = mask·fft(c)` (mask AFTER the forward transform),
  `out = P ĉ` (Leray projection applied AFTER the mask; `P` is diagonal in `h`, so it commutes with it).

Identity satisfied:  `Σ_i Σ_j (u_i)_j · irfftn(out_i)_j = 0`  with `u_i = ifft(mask·û_i)` the TRUNCATED
velocity, provided the truncated velocity is divergence-free at every stored mode.
  * the pressure part `d_i·q` of `P ĉ` is orthogonal to `u` mode by mode (`Σ_i d_i conj û_i = −conj(d·û) = 0`);
  * the mask after the forward transform is invisible to the band-limited `u` (adjointness);
  * `Σ_i u_i (u × ω)_i = 0` POINTWISE on the grid — so no alias-freeness is needed: only `2·Kc < N`
    (band-limited ⇔ stored-band-limited), not `3·Kc < N`.
-/
namespace Exponax.Invariants
open Exponax Exponax.Layout Exponax.Transform Exponax.DFT Exponax.Nonlin Exponax.Alias Exponax.AliasND Exponax.Conserve Finset

noncomputable def crossArr (c : Cfg ℂ) (uh : MC ℂ) (i : ℕ) : Array ℂ :=
  tab (c.N ^ c.D) (fun x => crossGrid c uh i x)

noncomputable def convHat (c : Cfg ℂ) (uh : MC ℂ) : MC ℂ := tabC 3 (fun i => nfft c (crossArr c uh i))

theorem projected3d_none_at2 (c : Cfg ℂ) (uh : MC ℂ) (i h : ℕ) (hi : i < 3) (hh : h < modes c) :
    at2 (projected3d c none uh) i h = at2 (leray c (convHat c uh)) i h :=
  projected3d_none_eq c uh i h hi hh

theorem at2_convHat (c : Cfg ℂ) (uh : MC ℂ) (i h : ℕ) (hi : i < 3) :
    at2 (convHat c uh) i h = (nfft c (crossArr c uh i)).getD h 0 := at2_tabC _ _ _ _ hi

theorem velGrid_im (c : Cfg ℂ) (uh : MC ℂ) (k x : ℕ) (hx : x < c.N ^ c.D) :
    (velGrid c uh k x).im = 0 := nifft_isRealND c _ x hx

theorem curlGrid_im (c : Cfg ℂ) (uh : MC ℂ) (k x : ℕ) (hx : x < c.N ^ c.D) :
    (curlGrid c uh k x).im = 0 := nifft_isRealND c _ x hx

theorem crossArr_isRealND (c : Cfg ℂ) (uh : MC ℂ) (i : ℕ) :
    IsRealND c.D c.N (crossArr c uh i) := by
  intro x hx
  unfold crossArr
  rw [DFT.tab_getD _ _ _ _ hx]
  unfold crossGrid proj3
  simp only [Gen.Misc.cross_product_3d]
  have hm : ∀ i k, (velGrid c uh i x * curlGrid c uh k x).im = 0 := fun i k =>
    mul_im_eq_zero (velGrid_im c uh i x hx) (curlGrid_im c uh k x hx)
  split_ifs
  · rw [Complex.sub_im, hm, hm, sub_zero]
  · rw [Complex.sub_im, hm, hm, sub_zero]
  · rw [Complex.sub_im, hm, hm, sub_zero]

theorem vel_dot_cross (c : Cfg ℂ) (uh : MC ℂ) (x : ℕ) :
    ∑ i ∈ range 3, velGrid c uh i x * crossGrid c uh i x = 0 := by
  have h := Cross.dot_cross_self_left (velGrid c uh 0 x, velGrid c uh 1 x, velGrid c uh 2 x)
    (curlGrid c uh 0 x, curlGrid c uh 1 x, curlGrid c uh 2 x)
  rw [Finset.sum_range_succ, Finset.sum_range_succ, Finset.sum_range_one]
  exact h

theorem inner3_congr (D N : ℕ) (hN : 0 < N) (U : ℕ → Array ℂ) (hU : ∀ i, i < 3 → IsRealND D N (U i))
    (C C' : ℕ → Array ℂ)
    (hCC : ∀ h, h < numModes D N →
      ∑ i ∈ range 3, (C i).getD h 0 * (starRingEnd ℂ) ((rfftnM D N (U i)).getD h 0)
        = ∑ i ∈ range 3, (C' i).getD h 0 * (starRingEnd ℂ) ((rfftnM D N (U i)).getD h 0)) :
    ∑ i ∈ range 3, ∑ j ∈ range (N ^ D), (U i).getD j 0 * (irfftnM D N (C i)).getD j 0
      = ∑ i ∈ range 3, ∑ j ∈ range (N ^ D), (U i).getD j 0 * (irfftnM D N (C' i)).getD j 0 := by
  have e : ∀ Cx : ℕ → Array ℂ,
      ∑ i ∈ range 3, ∑ j ∈ range (N ^ D), (U i).getD j 0 * (irfftnM D N (Cx i)).getD j 0
      = ((∑ h ∈ range (numModes D N), (herm_weight D N h : ℝ) *
            (∑ i ∈ range 3, (Cx i).getD h 0 * (starRingEnd ℂ) ((rfftnM D N (U i)).getD h 0)).re : ℝ) : ℂ)
          / ((N ^ D : ℕ) : ℂ) := by
    intro Cx
    rw [Finset.sum_congr rfl fun i hi =>
        real_inner_irfftn D N hN (U i) (Cx i) (hU i (Finset.mem_range.mp hi)),
      ← Finset.sum_div, ← Complex.ofReal_sum, Finset.sum_comm]
    simp only [Complex.re_sum, Finset.mul_sum]
  rw [e C, e C', Finset.sum_congr rfl fun h hh =>
    congrArg (fun z : ℂ => (herm_weight D N h : ℝ) * z.re) (hCC h (Finset.mem_range.mp hh))]

theorem projected3d_none_getD (c : Cfg ℂ) (hD : c.D = 3) (uh : MC ℂ) (i h : ℕ) (hi : i < 3)
    (hM : h < modes c) :
    ((projected3d c none uh).getD i #[]).getD h 0
      = (nfft c (crossArr c uh i)).getD h 0
        + Nonlin.deriv c i h * (-(invLapZero c h) * specDiv c (convHat c uh) h) := by
  show at2 (projected3d c none uh) i h = _
  rw [projected3d_none_at2 c uh i h hi hM, at2_leray c _ i h (by omega) hM, at2_convHat c uh i h hi]

/-- the stored output vanishes at the dropped modes (the projection is applied after the mask and is
    diagonal in `h`) -/
theorem projected3d_none_off_band (c : Cfg ℂ) (hD : c.D = 3) (uh : MC ℂ) (i h : ℕ) (hi : i < 3)
    (hM : h < modes c) (hm : mask c h = 0) :
    ((projected3d c none uh).getD i #[]).getD h 0 = 0 := by
  rw [projected3d_none_getD c hD uh i h hi hM, nfft_getD_of_mask_zero c _ h hm, specDiv_eq_sum]
  have : ∑ d ∈ range c.D, Nonlin.deriv c d h * at2 (convHat c uh) d h = 0 := by
    apply Finset.sum_eq_zero
    intro d hd
    have hd' : d < 3 := by have := Finset.mem_range.mp hd; omega
    rw [at2_convHat c uh d h hd', nfft_getD_of_mask_zero c _ h hm, mul_zero]
  rw [this]
  ring

theorem projected3d_no_work (c : Cfg ℂ) (hD : c.D = 3) (hq : c.fq ≠ 0) (h2 : 2 * Kc c < (c.N : ℤ))
    (hN : 0 < c.N) (s : ℝ) (hs : c.s = (s : ℂ)) (uh : MC ℂ)
    (hdiv : ∀ h, h < modes c →
      ∑ d ∈ range c.D, Nonlin.deriv c d h * (rfftnM c.D c.N (nifft c (uh.getD d #[]))).getD h 0 = 0) :
    ∑ i ∈ range 3, ∑ j ∈ range (c.N ^ c.D), (nifft c (uh.getD i #[])).getD j 0 *
        (irfftnM c.D c.N ((projected3d c none uh).getD i #[])).getD j 0 = 0 := by
  have hD0 : 0 < c.D := by omega
  -- step 1: replace `P ĉ` by `ĉ` (the pressure part is orthogonal to `u` mode by mode)
  rw [inner3_congr c.D c.N hN (fun i => nifft c (uh.getD i #[])) (fun i _ => nifft_isRealND c _)
    (fun i => (projected3d c none uh).getD i #[]) (fun i => nfft c (crossArr c uh i)) ?_]
  · -- step 2: the mask after the forward transform is invisible to the band-limited `u`
    have h1 : ∀ i ∈ range 3,
        ∑ j ∈ range (c.N ^ c.D), (nifft c (uh.getD i #[])).getD j 0 *
          (irfftnM c.D c.N (nfft c (crossArr c uh i))).getD j 0
        = ∑ j ∈ range (c.N ^ c.D), velGrid c uh i j * crossGrid c uh i j := by
      intro i _
      rw [inner_irfftn_nfft c hD0 hq hN h2 _ (crossArr c uh i) (nifft_isRealND c _)
        (crossArr_isRealND c uh i) (nifft_bandLimitedV c hq hN _) 1 _
        (fun h _ => by push_cast; ring)]
      push_cast
      rw [one_mul]
      apply Finset.sum_congr rfl
      intro j hj
      unfold crossArr
      rw [DFT.tab_getD _ _ _ _ (Finset.mem_range.mp hj)]
      rfl
    -- step 3: pointwise orthogonality
    rw [Finset.sum_congr rfl h1, Finset.sum_comm]
    exact Finset.sum_eq_zero (fun x _ => vel_dot_cross c uh x)
  · intro h hh
    have hd := hdiv h hh
    rw [show Finset.range c.D = Finset.range 3 by rw [hD]] at hd
    simp only [Finset.sum_range_succ, Finset.sum_range_zero, zero_add] at hd ⊢
    rw [projected3d_none_getD c hD uh 0 h (by norm_num) hh, projected3d_none_getD c hD uh 1 h (by norm_num) hh,
      projected3d_none_getD c hD uh 2 h (by norm_num) hh]
    have hc := congrArg (starRingEnd ℂ) hd
    simp only [map_add, map_mul, map_zero, conj_deriv c s hs] at hc
    linear_combination (-(-(invLapZero c h) * specDiv c (convHat c uh) h)) * hc

theorem getD_three (a : ℕ → Array ℂ) (d : ℕ) (hd : d < 3) :
    (#[a 0, a 1, a 2] : MC ℂ).getD d #[] = a d := by
  interval_cases d <;> rfl

theorem projected3d_no_work_real (c : Cfg ℂ) (hD : c.D = 3) (hq : c.fq ≠ 0) (h2 : 2 * Kc c < (c.N : ℤ))
    (hN : 0 < c.N) (s : ℝ) (hs : c.s = (s : ℂ)) (v : ℕ → Array ℂ)
    (hv : ∀ i, i < 3 → IsRealND c.D c.N (v i))
    (hdiv : ∀ h, h < modes c → mask c h = 1 →
      ∑ d ∈ range c.D, Nonlin.deriv c d h * (rfftnM c.D c.N (v d)).getD h 0 = 0) :
    ∑ i ∈ range 3, ∑ j ∈ range (c.N ^ c.D),
        (nifft c ((#[rfftnM c.D c.N (v 0), rfftnM c.D c.N (v 1), rfftnM c.D c.N (v 2)] : MC ℂ).getD i #[])).getD j 0 *
        (irfftnM c.D c.N ((projected3d c none
          #[rfftnM c.D c.N (v 0), rfftnM c.D c.N (v 1), rfftnM c.D c.N (v 2)]).getD i #[])).getD j 0 = 0 := by
  have hD0 : 0 < c.D := by omega
  apply projected3d_no_work c hD hq h2 hN s hs
  intro h hh
  have hterm : ∀ d ∈ range c.D,
      Nonlin.deriv c d h * (rfftnM c.D c.N (nifft c
        ((#[rfftnM c.D c.N (v 0), rfftnM c.D c.N (v 1), rfftnM c.D c.N (v 2)] : MC ℂ).getD d #[]))).getD h 0
      = mask c h * (Nonlin.deriv c d h * (rfftnM c.D c.N (v d)).getD h 0) := by
    intro d hd
    have hd' : d < 3 := by have := Finset.mem_range.mp hd; omega
    rw [getD_three (fun d => rfftnM c.D c.N (v d)) d hd', rfftn_nifft_rfftn c hD0 hq hN h2 (v d) (hv d hd') h hh]
    ring
  rw [Finset.sum_congr rfl hterm, ← Finset.mul_sum]
  rcases Conserve.mask_zero_or_one c h with hm | hm
  · rw [hdiv h hh hm, mul_zero]
  · rw [hm, zero_mul]

/-- the same with the transforms written `rfftnM 3 N`, `irfftnM 3 N`, grid `N³`, divergence written out -/
theorem projected3d_no_work_real_three (c : Cfg ℂ) (hD : c.D = 3) (hq : c.fq ≠ 0)
    (h2 : 2 * Kc c < (c.N : ℤ)) (hN : 0 < c.N) (s : ℝ) (hs : c.s = (s : ℂ)) (v0 v1 v2 : Array ℂ)
    (hv0 : IsRealND 3 c.N v0) (hv1 : IsRealND 3 c.N v1) (hv2 : IsRealND 3 c.N v2)
    (hdiv : ∀ h, h < modes c → mask c h = 1 →
      deriv c 0 h * (rfftnM 3 c.N v0).getD h 0 + deriv c 1 h * (rfftnM 3 c.N v1).getD h 0
        + deriv c 2 h * (rfftnM 3 c.N v2).getD h 0 = 0) :
    ∑ j ∈ range (c.N ^ 3), (nifft c (rfftnM 3 c.N v0)).getD j 0 *
        (irfftnM 3 c.N ((projected3d c none #[rfftnM 3 c.N v0, rfftnM 3 c.N v1, rfftnM 3 c.N v2]).getD 0 #[])).getD j 0
    + ∑ j ∈ range (c.N ^ 3), (nifft c (rfftnM 3 c.N v1)).getD j 0 *
        (irfftnM 3 c.N ((projected3d c none #[rfftnM 3 c.N v0, rfftnM 3 c.N v1, rfftnM 3 c.N v2]).getD 1 #[])).getD j 0
    + ∑ j ∈ range (c.N ^ 3), (nifft c (rfftnM 3 c.N v2)).getD j 0 *
        (irfftnM 3 c.N ((projected3d c none #[rfftnM 3 c.N v0, rfftnM 3 c.N v1, rfftnM 3 c.N v2]).getD 2 #[])).getD j 0
      = 0 := by
  let v : ℕ → Array ℂ := fun i => if i = 0 then v0 else if i = 1 then v1 else v2
  have hv : ∀ i, i < 3 → IsRealND c.D c.N (v i) := by
    intro i hi
    rw [hD]
    interval_cases i
    · exact hv0
    · exact hv1
    · exact hv2
  have := projected3d_no_work_real c hD hq h2 hN s hs v hv (by
    intro h hh hm
    rw [hD]
    simp only [Finset.sum_range_succ, Finset.sum_range_zero, zero_add]
    exact hdiv h hh hm)
  rw [hD] at this
  simp only [Finset.sum_range_succ, Finset.sum_range_zero, zero_add] at this
  exact this

/-- the hypotheses of the theorems above are shown satisfiable in `InvariantsRot3dLeray`; `inner3_congr`: the pairing hypothesis holds e.g. when the two triples agree on the stored range -/
example (D N : ℕ) (U C : ℕ → Array ℂ) : ∀ h, h < numModes D N →
    ∑ i ∈ range 3, (C i).getD h 0 * (starRingEnd ℂ) ((rfftnM D N (U i)).getD h 0)
      = ∑ i ∈ range 3, (C i).getD h 0 * (starRingEnd ℂ) ((rfftnM D N (U i)).getD h 0) :=
  fun _ _ => rfl

end Exponax.Invariants
