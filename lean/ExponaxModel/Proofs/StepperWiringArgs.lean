import ExponaxModel.Properties.C13
import ExponaxModel.Generated.StepperWiring
/-
The wiring of the stepper classes, tied to the source by translation: constructor arguments.

`Generated/StepperWiring.lean` is regenerated (harness/translate_wiring.py) from `__init__` / `_build_nonlinear_fun`
of EVERY class under exponax/stepper/ that derives from `BaseStepper`.  Here, for every class `X`:

 * `X_defaults`        the documented default of every constructor argument;
 * `X_attrs_eq`        every attribute stored by `X.__init__` is the constructor argument of the same name, except
                       the arguments that are normalised (scalar → per-axis vector → matrix), for which
                       `X_init_<attr>_<form>_eq` gives the documented vector / matrix
                       (scalar ν ↦ ν·I, vector ↦ diag, matrix ↦ itself; scalar velocity ↦ constant vector);
 * `X_base_args_eq`    what reaches `BaseStepper.__init__`: the documented number of channels, `order`,
                       `num_circle_points`, `circle_radius` forwarded (linear steppers: order 0); for a class deriving
                       directly from `BaseStepper` these are the arguments of its `super().__init__`;
 * `X_super_args_eq`   (`Normalized*` / `Difficulty*`) the arguments of `super().__init__`: the documented conversion
                       (`Gen.Convert.extract_*`, L = 1, dt = 1) with EVERY flag forwarded unchanged;
 * `X_num_channels_eq` the documented number of channels;
 * `X_parent_receives_denormalized`  (`Normalized*`) the parent receives `denormalize_*` of the user's values at
                       `L = 1`, `dt = 1` (for `NormalizedConvectionStepper` this is `C13_normalized_interface` in
                       `Properties/C13_wiring.lean`);
 * `X_general_args`    the composition down to the `General*Stepper`.

The right-hand sides are the documented wiring, written by hand (harness/props/steppers.py is the same table in
executable form).  A source edit changes the regenerated left-hand sides and breaks the corresponding theorem.
-/
namespace Exponax.StepperWiringEq
open Exponax Exponax.Nonlin Exponax.Gen.StepperWiring Exponax.Gen.Convert

/-! ### the generated lists: a new class / attribute without a theorem breaks the build -/

theorem generated_classes_pinned : generated_classes =
    ["Advection", "AdvectionDiffusion", "AllenCahn", "BelousovZhabotinsky", "Burgers", "CahnHilliard",
     "GeneralConvectionStepper", "NormalizedConvectionStepper", "DifficultyConvectionStepper",
     "GeneralGradientNormStepper", "NormalizedGradientNormStepper", "DifficultyGradientNormStepper",
     "GeneralLinearStepper", "NormalizedLinearStepper", "DifficultyLinearStepper", "DifficultyLinearStepperSimple",
     "GeneralNonlinearStepper", "NormalizedNonlinearStepper", "DifficultyNonlinearStepper",
     "GeneralPolynomialStepper", "NormalizedPolynomialStepper", "DifficultyPolynomialStepper", "Diffusion",
     "Dispersion", "FisherKPP", "GeneralVorticityConvectionStepper", "GrayScott", "HyperDiffusion",
     "KolmogorovFlowVelocity", "KolmogorovFlowVorticity", "KortewegDeVries", "KuramotoSivashinsky",
     "KuramotoSivashinskyConservative", "NavierStokesVelocity", "NavierStokesVorticity", "SwiftHohenberg", "Wave"] :=
         rfl

theorem own_nonlinear_fun_classes_pinned : own_nonlinear_fun_classes =
    ["Advection", "AdvectionDiffusion", "AllenCahn", "BelousovZhabotinsky", "Burgers", "CahnHilliard",
     "GeneralConvectionStepper", "GeneralGradientNormStepper", "GeneralLinearStepper", "GeneralNonlinearStepper",
     "GeneralPolynomialStepper", "Diffusion", "Dispersion", "FisherKPP", "GeneralVorticityConvectionStepper",
     "GrayScott", "HyperDiffusion", "KolmogorovFlowVelocity", "KolmogorovFlowVorticity", "KortewegDeVries",
     "KuramotoSivashinsky", "KuramotoSivashinskyConservative", "NavierStokesVelocity", "NavierStokesVorticity",
     "SwiftHohenberg", "Wave"] := rfl

theorem inherited_nonlinear_fun_pinned : inherited_nonlinear_fun =
    [("NormalizedConvectionStepper", "GeneralConvectionStepper"),
     ("DifficultyConvectionStepper", "GeneralConvectionStepper"),
     ("NormalizedGradientNormStepper", "GeneralGradientNormStepper"),
     ("DifficultyGradientNormStepper", "GeneralGradientNormStepper"),
     ("NormalizedLinearStepper", "GeneralLinearStepper"), ("DifficultyLinearStepper", "GeneralLinearStepper"),
     ("DifficultyLinearStepperSimple", "GeneralLinearStepper"),
     ("NormalizedNonlinearStepper", "GeneralNonlinearStepper"),
     ("DifficultyNonlinearStepper", "GeneralNonlinearStepper"),
     ("NormalizedPolynomialStepper", "GeneralPolynomialStepper"),
     ("DifficultyPolynomialStepper", "GeneralPolynomialStepper")] := rfl

theorem parent_classes_pinned : parent_classes =
    [("Advection", "BaseStepper"), ("AdvectionDiffusion", "BaseStepper"), ("AllenCahn", "BaseStepper"),
     ("BelousovZhabotinsky", "BaseStepper"), ("Burgers", "BaseStepper"), ("CahnHilliard", "BaseStepper"),
     ("GeneralConvectionStepper", "BaseStepper"), ("NormalizedConvectionStepper", "GeneralConvectionStepper"),
     ("DifficultyConvectionStepper", "NormalizedConvectionStepper"), ("GeneralGradientNormStepper", "BaseStepper"),
     ("NormalizedGradientNormStepper", "GeneralGradientNormStepper"),
     ("DifficultyGradientNormStepper", "NormalizedGradientNormStepper"), ("GeneralLinearStepper", "BaseStepper"),
     ("NormalizedLinearStepper", "GeneralLinearStepper"), ("DifficultyLinearStepper", "NormalizedLinearStepper"),
     ("DifficultyLinearStepperSimple", "DifficultyLinearStepper"), ("GeneralNonlinearStepper", "BaseStepper"),
     ("NormalizedNonlinearStepper", "GeneralNonlinearStepper"),
     ("DifficultyNonlinearStepper", "NormalizedNonlinearStepper"), ("GeneralPolynomialStepper", "BaseStepper"),
     ("NormalizedPolynomialStepper", "GeneralPolynomialStepper"),
     ("DifficultyPolynomialStepper", "NormalizedPolynomialStepper"), ("Diffusion", "BaseStepper"),
     ("Dispersion", "BaseStepper"), ("FisherKPP", "BaseStepper"),
     ("GeneralVorticityConvectionStepper", "BaseStepper"), ("GrayScott", "BaseStepper"),
     ("HyperDiffusion", "BaseStepper"), ("KolmogorovFlowVelocity", "BaseStepper"),
     ("KolmogorovFlowVorticity", "BaseStepper"), ("KortewegDeVries", "BaseStepper"),
     ("KuramotoSivashinsky", "BaseStepper"), ("KuramotoSivashinskyConservative", "BaseStepper"),
     ("NavierStokesVelocity", "BaseStepper"), ("NavierStokesVorticity", "BaseStepper"),
     ("SwiftHohenberg", "BaseStepper"), ("Wave", "BaseStepper")] := rfl

/-- the one attribute that the wiring translator does not render: `Wave.wavenumber_norm`
    (`jnp.linalg.norm(build_scaled_wavenumbers(…), axis=0, keepdims=True)`); it is regenerated as
    `Gen.SpectralOps.Wave_init_wavenumber_norm` and is a parameter of the regenerated
    `Gen.Steppers.Wave_linear_operator` -/
theorem untranslated_attributes_pinned : untranslated_attributes = ["Wave.wavenumber_norm"] := rfl

theorem jnp_ones_eq (n : ℕ) : (jnp_ones n : List ℂ) = List.replicate n 1 := rfl

theorem ones_mul (n : ℕ) (v : ℂ) : List.map (fun x => x * v) (jnp_ones n) = List.replicate n v := by
  rw [jnp_ones, List.map_replicate, one_mul]

def diagM (v : List ℂ) : List (List ℂ) :=
  (List.range v.length).map (fun i => (List.range v.length).map (fun j => if i = j then v.getD i 0 else 0))

theorem jnp_diag_eq (v : List ℂ) : jnp_diag v = diagM v := rfl

def scalarM (D : ℕ) (ν : ℂ) : List (List ℂ) :=
  (List.range D).map (fun i => (List.range D).map (fun j => if i = j then ν else 0))

theorem diagM_replicate (D : ℕ) (ν : ℂ) : diagM (List.replicate D ν) = scalarM D ν := by
  simp only [diagM, scalarM, List.length_replicate]
  apply List.map_congr_left; intro i hi
  apply List.map_congr_left; intro j hj
  simp only [List.mem_range] at *
  split_ifs with h
  · simp [List.getD_eq_getElem?_getD, hi]
  · rfl

theorem diag_ones_mul (D : ℕ) (ν : ℂ) :
    List.map (fun r => List.map (fun x => x * ν) r) (jnp_diag (jnp_ones D)) = scalarM D ν := by
  rw [jnp_diag_eq, jnp_ones_eq, diagM_replicate]
  simp only [scalarM, List.map_map, Function.comp_def, ite_mul, one_mul, zero_mul]

theorem mfun_table (n m : ℕ) (f : ℕ → ℕ → ℂ) (i j : ℕ) (hi : i < n) (hj : j < m) :
    Exponax.mfun ((List.range n).map (fun i => (List.range m).map (f i))) i j = f i j := by
  simp only [Exponax.mfun, List.getD_eq_getElem?_getD, List.getElem?_map, List.getElem?_range hi,
    List.getElem?_range hj, Option.map_some, Option.getD_some]

theorem scalarM_entry (D : ℕ) (ν : ℂ) (i j : ℕ) (hi : i < D) (hj : j < D) :
    Exponax.mfun (scalarM D ν) i j = if i = j then ν else 0 :=
  mfun_table D D _ i j hi hj

theorem diagM_entry (v : List ℂ) (i j : ℕ) (hi : i < v.length) (hj : j < v.length) :
    Exponax.mfun (diagM v) i j = if i = j then v.getD i 0 else 0 :=
  mfun_table _ _ _ i j hi hj

/-! ### the conversions at `L = 1`, `dt = 1` (what the `Normalized*` classes hand to the `General*` classes) -/

theorem denormalize_coefficients_one (cs : List ℂ) : denormalize_coefficients cs 1 1 = cs := by
  rw [C13_denormalize_coefficients_formula]
  apply List.ext_getElem <;> simp

theorem denormalize_convection_scale_one (b : ℂ) : denormalize_convection_scale b 1 1 = b := by
  rw [denormalize_convection_scale, div_one, mul_one]

theorem denormalize_gradient_norm_scale_one (b : ℂ) : denormalize_gradient_norm_scale b 1 1 = b := by
  simp [denormalize_gradient_norm_scale]

theorem denormalize_polynomial_scales_one (cs : List ℂ) (L : ℂ) : denormalize_polynomial_scales cs L 1 = cs := by
  simp only [denormalize_polynomial_scales, div_one, List.map_id']

/-- the documented difficulty → normalized map of the linear coefficients: `α₀ = γ₀`, `αⱼ = γⱼ / (Nʲ 2ʲ⁻¹ D)` -/
noncomputable def normalizedOfDifficulty (γ : List ℂ) (D N : ℕ) : List ℂ :=
  γ.mapIdx (fun j g => if j = 0 then g else g / ((N : ℂ) ^ j * 2 ^ (j - 1) * (D : ℂ)))

theorem extract_coefficients_eq (γ : List ℂ) (D N : ℕ) :
    extract_normalized_coefficients_from_difficulty γ D N = normalizedOfDifficulty γ D N :=
  C13_extract_coefficients_formula γ D N

theorem extract_convection_eq (δ M : ℂ) (D N : ℕ) :
    extract_normalized_convection_scale_from_difficulty δ D N M = δ / (M * N * D) := rfl

theorem extract_gradient_norm_eq (δ M : ℂ) (D N : ℕ) :
    extract_normalized_gradient_norm_scale_from_difficulty δ D N M = δ / (M * (N : ℂ) ^ 2 * D) := by
  rw [← Nat.cast_pow]; rfl

theorem extract_nonlinear_eq (δ : ℂ × ℂ × ℂ) (M : ℂ) (D N : ℕ) :
    extract_normalized_nonlinear_scales_from_difficulty δ D N M
      = (δ.1, δ.2.1 / (M * N * D), δ.2.2 / (M * (N : ℂ) ^ 2 * D)) := by
  rw [← extract_convection_eq, ← extract_gradient_norm_eq]; rfl

/-! ### `Advection`  (stepper/_advection.py) -/

theorem Advection_defaults (D : ℕ) (L : ℂ) (N : ℕ) (dt : ℂ) :
    Advection_with_defaults D L N dt =
      ({ num_spatial_dims := D, domain_extent := L, num_points := N, dt := dt, velocity := Arg.scalar (1) } :
          AdvectionArgs ℂ) := by
  norm_num [Advection_with_defaults]

theorem Advection_init_velocity_vector_eq (v : List ℂ) : Advection_init_velocity_vector v = v :=
  rfl

theorem Advection_init_velocity_scalar_eq (D : ℕ) (v : ℂ) : Advection_init_velocity_scalar D v = List.replicate D v :=
  ones_mul D v

theorem Advection_attrs_eq (a : AdvectionArgs ℂ) :
    Advection_attrs a =
      ({
         velocity := match a.velocity with | .scalar v => some (List.replicate a.num_spatial_dims v) | .vector v => some v | .matrix _ => none } : AdvectionAttrs ℂ) := by
  cases hvelocity : a.velocity <;>
    simp [Advection_attrs, hvelocity, Advection_init_velocity_vector_eq, Advection_init_velocity_scalar_eq]

/-! ### `AdvectionDiffusion`  (stepper/_advection_diffusion.py) -/

theorem AdvectionDiffusion_defaults (D : ℕ) (L : ℂ) (N : ℕ) (dt : ℂ) :
    AdvectionDiffusion_with_defaults D L N dt =
      ({ num_spatial_dims := D, domain_extent := L, num_points := N, dt := dt, velocity := Arg.scalar (1),
         diffusivity := Arg.scalar (1 / 100) } : AdvectionDiffusionArgs ℂ) := by
  norm_num [AdvectionDiffusion_with_defaults]

theorem AdvectionDiffusion_init_velocity_vector_eq (v : List ℂ) : AdvectionDiffusion_init_velocity_vector v = v :=
  rfl

theorem AdvectionDiffusion_init_velocity_scalar_eq (D : ℕ) (v : ℂ) : AdvectionDiffusion_init_velocity_scalar D v =
    List.replicate D v :=
  ones_mul D v

theorem AdvectionDiffusion_init_diffusivity_matrix_eq (A : List (List ℂ)) :
    AdvectionDiffusion_init_diffusivity_matrix A = A :=
  rfl

theorem AdvectionDiffusion_init_diffusivity_vector_eq (v : List ℂ) : AdvectionDiffusion_init_diffusivity_vector v =
    diagM v :=
  jnp_diag_eq v

theorem AdvectionDiffusion_init_diffusivity_scalar_eq (D : ℕ) (ν : ℂ) : AdvectionDiffusion_init_diffusivity_scalar D
    ν = scalarM D ν :=
  diag_ones_mul D ν

theorem AdvectionDiffusion_attrs_eq (a : AdvectionDiffusionArgs ℂ) :
    AdvectionDiffusion_attrs a =
      ({
         velocity := match a.velocity with | .scalar v => some (List.replicate a.num_spatial_dims v) | .vector v => some v | .matrix _ => none,
         diffusivity := match a.diffusivity with | .scalar ν => some (scalarM a.num_spatial_dims ν) | .vector v => some (diagM v) | .matrix A => some A } : AdvectionDiffusionAttrs ℂ) := by
  cases hvelocity : a.velocity <;> cases hdiffusivity : a.diffusivity <;>
    simp [AdvectionDiffusion_attrs, hvelocity, hdiffusivity, AdvectionDiffusion_init_velocity_vector_eq,
        AdvectionDiffusion_init_velocity_scalar_eq, AdvectionDiffusion_init_diffusivity_matrix_eq,
            AdvectionDiffusion_init_diffusivity_vector_eq, AdvectionDiffusion_init_diffusivity_scalar_eq]

/-! ### `AllenCahn`  (stepper/reaction/_allen_cahn.py) -/

theorem AllenCahn_defaults (D : ℕ) (L : ℂ) (N : ℕ) (dt : ℂ) :
    AllenCahn_with_defaults D L N dt =
      ({ num_spatial_dims := D, domain_extent := L, num_points := N, dt := dt, diffusivity := 1 / 200,
         first_order_coefficient := 1, third_order_coefficient := -1, order := 2, dealiasing_fraction := (1, 2),
         num_circle_points := 16, circle_radius := 1 } : AllenCahnArgs ℂ) := by
  norm_num [AllenCahn_with_defaults]

theorem AllenCahn_attrs_eq (a : AllenCahnArgs ℂ) :
    AllenCahn_attrs a =
      ({ diffusivity := a.diffusivity, first_order_coefficient := a.first_order_coefficient,
         third_order_coefficient := a.third_order_coefficient, dealiasing_fraction := a.dealiasing_fraction } :
             AllenCahnAttrs ℂ) :=
  rfl

/-! ### `BelousovZhabotinsky`  (stepper/reaction/_belousov_zhabotinsky.py) -/

theorem BelousovZhabotinsky_defaults (D : ℕ) (L : ℂ) (N : ℕ) (dt : ℂ) :
    BelousovZhabotinsky_with_defaults D L N dt =
      ({ num_spatial_dims := D, domain_extent := L, num_points := N, dt := dt,
         diffusivities := (1 / 100000, 1 / 50000, 1 / 100000), order := 2, dealiasing_fraction := (1, 2),
         num_circle_points := 16, circle_radius := 1 } : BelousovZhabotinskyArgs ℂ) := by
  norm_num [BelousovZhabotinsky_with_defaults]

theorem BelousovZhabotinsky_attrs_eq (a : BelousovZhabotinskyArgs ℂ) :
    BelousovZhabotinsky_attrs a =
      ({ diffusivities := a.diffusivities, dealiasing_fraction := a.dealiasing_fraction } : BelousovZhabotinskyAttrs
          ℂ) :=
  rfl

/-! ### `Burgers`  (stepper/_burgers.py) -/

theorem Burgers_defaults (D : ℕ) (L : ℂ) (N : ℕ) (dt : ℂ) :
    Burgers_with_defaults D L N dt =
      ({ num_spatial_dims := D, domain_extent := L, num_points := N, dt := dt, diffusivity := 1 / 10,
         convection_scale := 1, single_channel := false, conservative := false, order := 2,
         dealiasing_fraction := (2, 3), num_circle_points := 16, circle_radius := 1 } : BurgersArgs ℂ) := by
  norm_num [Burgers_with_defaults]

theorem Burgers_attrs_eq (a : BurgersArgs ℂ) :
    Burgers_attrs a =
      ({ diffusivity := a.diffusivity, convection_scale := a.convection_scale, single_channel := a.single_channel,
         conservative := a.conservative, dealiasing_fraction := a.dealiasing_fraction } : BurgersAttrs ℂ) :=
  rfl

/-! ### `CahnHilliard`  (stepper/reaction/_cahn_hilliard.py) -/

theorem CahnHilliard_defaults (D : ℕ) (L : ℂ) (N : ℕ) (dt : ℂ) :
    CahnHilliard_with_defaults D L N dt =
      ({ num_spatial_dims := D, domain_extent := L, num_points := N, dt := dt, diffusivity := 1 / 100,
         gamma := 1 / 1000, first_order_coefficient := -1, third_order_coefficient := 1, order := 2,
         dealiasing_fraction := (1, 2), num_circle_points := 16, circle_radius := 1 } : CahnHilliardArgs ℂ) := by
  norm_num [CahnHilliard_with_defaults]

theorem CahnHilliard_attrs_eq (a : CahnHilliardArgs ℂ) :
    CahnHilliard_attrs a =
      ({ diffusivity := a.diffusivity, gamma := a.gamma, first_order_coefficient := a.first_order_coefficient,
         third_order_coefficient := a.third_order_coefficient, dealiasing_fraction := a.dealiasing_fraction } :
             CahnHilliardAttrs ℂ) :=
  rfl

/-! ### `GeneralConvectionStepper`  (stepper/generic/_convection.py) -/

theorem GeneralConvectionStepper_defaults (D : ℕ) (L : ℂ) (N : ℕ) (dt : ℂ) :
    GeneralConvectionStepper_with_defaults D L N dt =
      ({ num_spatial_dims := D, domain_extent := L, num_points := N, dt := dt,
         linear_coefficients := [0, 0, 1 / 100], convection_scale := 1, single_channel := false,
         conservative := false, order := 2, dealiasing_fraction := (2, 3), num_circle_points := 16,
         circle_radius := 1 } : GeneralConvectionStepperArgs ℂ) := by
  norm_num [GeneralConvectionStepper_with_defaults]

theorem GeneralConvectionStepper_attrs_eq (a : GeneralConvectionStepperArgs ℂ) :
    GeneralConvectionStepper_attrs a =
      ({ linear_coefficients := a.linear_coefficients, convection_scale := a.convection_scale,
         single_channel := a.single_channel, dealiasing_fraction := a.dealiasing_fraction,
         conservative := a.conservative } : GeneralConvectionStepperAttrs ℂ) :=
  rfl

/-! ### `NormalizedConvectionStepper`  (stepper/generic/_convection.py) -/

theorem NormalizedConvectionStepper_defaults (D : ℕ) (N : ℕ) :
    NormalizedConvectionStepper_with_defaults D N =
      ({ num_spatial_dims := D, num_points := N, normalized_linear_coefficients := [0, 0, 1 / 1000],
         normalized_convection_scale := 1 / 10, single_channel := false, conservative := false, order := 2,
         dealiasing_fraction := (2, 3), num_circle_points := 16, circle_radius := 1 } :
             NormalizedConvectionStepperArgs ℂ) := by
  norm_num [NormalizedConvectionStepper_with_defaults]

theorem NormalizedConvectionStepper_attrs_eq (a : NormalizedConvectionStepperArgs ℂ) :
    NormalizedConvectionStepper_attrs a =
      ({ normalized_linear_coefficients := a.normalized_linear_coefficients,
         normalized_convection_scale := a.normalized_convection_scale } : NormalizedConvectionStepperAttrs ℂ) :=
  rfl

theorem NormalizedConvectionStepper_super_args_eq (a : NormalizedConvectionStepperArgs ℂ) :
    NormalizedConvectionStepper_super_args a =
      ({ num_spatial_dims := a.num_spatial_dims, domain_extent := 1, num_points := a.num_points, dt := 1,
         linear_coefficients := a.normalized_linear_coefficients, convection_scale := a.normalized_convection_scale,
         single_channel := a.single_channel, conservative := a.conservative, order := a.order,
         dealiasing_fraction := a.dealiasing_fraction, num_circle_points := a.num_circle_points,
         circle_radius := a.circle_radius } : GeneralConvectionStepperArgs ℂ) := by
  simp [NormalizedConvectionStepper_super_args]

/-! ### `DifficultyConvectionStepper`  (stepper/generic/_convection.py) -/

theorem DifficultyConvectionStepper_defaults :
    DifficultyConvectionStepper_with_defaults =
      ({ num_spatial_dims := 1, num_points := 48, linear_difficulties := [0, 0, 9 / 2], convection_difficulty := 5,
         single_channel := false, conservative := false, maximum_absolute := 1, order := 2,
         dealiasing_fraction := (2, 3), num_circle_points := 16, circle_radius := 1 } :
             DifficultyConvectionStepperArgs ℂ) := by
  norm_num [DifficultyConvectionStepper_with_defaults]

theorem DifficultyConvectionStepper_attrs_eq (a : DifficultyConvectionStepperArgs ℂ) :
    DifficultyConvectionStepper_attrs a =
      ({ linear_difficulties := a.linear_difficulties, convection_difficulty := a.convection_difficulty } :
          DifficultyConvectionStepperAttrs ℂ) :=
  rfl

theorem DifficultyConvectionStepper_super_args_eq (a : DifficultyConvectionStepperArgs ℂ) :
    DifficultyConvectionStepper_super_args a =
      ({ num_spatial_dims := a.num_spatial_dims, num_points := a.num_points,
         normalized_linear_coefficients := extract_normalized_coefficients_from_difficulty a.linear_difficulties
             a.num_spatial_dims a.num_points,
         normalized_convection_scale := extract_normalized_convection_scale_from_difficulty a.convection_difficulty
             a.num_spatial_dims a.num_points a.maximum_absolute,
         single_channel := a.single_channel, conservative := a.conservative, order := a.order,
         dealiasing_fraction := a.dealiasing_fraction, num_circle_points := a.num_circle_points,
         circle_radius := a.circle_radius } : NormalizedConvectionStepperArgs ℂ) := by
  simp [DifficultyConvectionStepper_super_args]

/-! ### `GeneralGradientNormStepper`  (stepper/generic/_gradient_norm.py) -/

theorem GeneralGradientNormStepper_defaults (D : ℕ) (L : ℂ) (N : ℕ) (dt : ℂ) :
    GeneralGradientNormStepper_with_defaults D L N dt =
      ({ num_spatial_dims := D, domain_extent := L, num_points := N, dt := dt,
         linear_coefficients := [0, 0, -1, 0, -1], gradient_norm_scale := 1, order := 2,
         dealiasing_fraction := (2, 3), num_circle_points := 16, circle_radius := 1 } :
             GeneralGradientNormStepperArgs ℂ) := by
  norm_num [GeneralGradientNormStepper_with_defaults]

theorem GeneralGradientNormStepper_attrs_eq (a : GeneralGradientNormStepperArgs ℂ) :
    GeneralGradientNormStepper_attrs a =
      ({ linear_coefficients := a.linear_coefficients, gradient_norm_scale := a.gradient_norm_scale,
         dealiasing_fraction := a.dealiasing_fraction } : GeneralGradientNormStepperAttrs ℂ) :=
  rfl

/-! ### `NormalizedGradientNormStepper`  (stepper/generic/_gradient_norm.py) -/

theorem NormalizedGradientNormStepper_defaults (D : ℕ) (N : ℕ) :
    NormalizedGradientNormStepper_with_defaults D N =
      ({ num_spatial_dims := D, num_points := N,
         normalized_linear_coefficients := [0, 0, -1 / 36000, 0, -1 / 129600000],
         normalized_gradient_norm_scale := 1 / 36000, order := 2, dealiasing_fraction := (2, 3),
         num_circle_points := 16, circle_radius := 1 } : NormalizedGradientNormStepperArgs ℂ) := by
  norm_num [NormalizedGradientNormStepper_with_defaults]

theorem NormalizedGradientNormStepper_attrs_eq (a : NormalizedGradientNormStepperArgs ℂ) :
    NormalizedGradientNormStepper_attrs a =
      ({ normalized_linear_coefficients := a.normalized_linear_coefficients,
         normalized_gradient_norm_scale := a.normalized_gradient_norm_scale } : NormalizedGradientNormStepperAttrs ℂ)
             :=
  rfl

theorem NormalizedGradientNormStepper_super_args_eq (a : NormalizedGradientNormStepperArgs ℂ) :
    NormalizedGradientNormStepper_super_args a =
      ({ num_spatial_dims := a.num_spatial_dims, domain_extent := 1, num_points := a.num_points, dt := 1,
         linear_coefficients := a.normalized_linear_coefficients,
         gradient_norm_scale := a.normalized_gradient_norm_scale, order := a.order,
         dealiasing_fraction := a.dealiasing_fraction, num_circle_points := a.num_circle_points,
         circle_radius := a.circle_radius } : GeneralGradientNormStepperArgs ℂ) := by
  simp [NormalizedGradientNormStepper_super_args]

/-! ### `DifficultyGradientNormStepper`  (stepper/generic/_gradient_norm.py) -/

theorem DifficultyGradientNormStepper_defaults :
    DifficultyGradientNormStepper_with_defaults =
      ({ num_spatial_dims := 1, num_points := 48, linear_difficulties := [0, 0, -16 / 125, 0, -1024 / 3125],
         gradient_norm_difficulty := 8 / 125, maximum_absolute := 1, order := 2, dealiasing_fraction := (2, 3),
         num_circle_points := 16, circle_radius := 1 } : DifficultyGradientNormStepperArgs ℂ) := by
  norm_num [DifficultyGradientNormStepper_with_defaults]

theorem DifficultyGradientNormStepper_attrs_eq (a : DifficultyGradientNormStepperArgs ℂ) :
    DifficultyGradientNormStepper_attrs a =
      ({ linear_difficulties := a.linear_difficulties, gradient_norm_difficulty := a.gradient_norm_difficulty } :
          DifficultyGradientNormStepperAttrs ℂ) :=
  rfl

theorem DifficultyGradientNormStepper_super_args_eq (a : DifficultyGradientNormStepperArgs ℂ) :
    DifficultyGradientNormStepper_super_args a =
      ({ num_spatial_dims := a.num_spatial_dims, num_points := a.num_points,
         normalized_linear_coefficients := extract_normalized_coefficients_from_difficulty a.linear_difficulties
             a.num_spatial_dims a.num_points,
         normalized_gradient_norm_scale := extract_normalized_gradient_norm_scale_from_difficulty
             a.gradient_norm_difficulty a.num_spatial_dims a.num_points a.maximum_absolute,
         order := a.order, dealiasing_fraction := a.dealiasing_fraction, num_circle_points := a.num_circle_points,
         circle_radius := a.circle_radius } : NormalizedGradientNormStepperArgs ℂ) := by
  simp [DifficultyGradientNormStepper_super_args]

/-! ### `GeneralLinearStepper`  (stepper/generic/_linear.py) -/

theorem GeneralLinearStepper_defaults (D : ℕ) (L : ℂ) (N : ℕ) (dt : ℂ) :
    GeneralLinearStepper_with_defaults D L N dt =
      ({ num_spatial_dims := D, domain_extent := L, num_points := N, dt := dt,
         linear_coefficients := [0, -1 / 10, 1 / 100] } : GeneralLinearStepperArgs ℂ) := by
  norm_num [GeneralLinearStepper_with_defaults]

theorem GeneralLinearStepper_attrs_eq (a : GeneralLinearStepperArgs ℂ) :
    GeneralLinearStepper_attrs a =
      ({ linear_coefficients := a.linear_coefficients } : GeneralLinearStepperAttrs ℂ) :=
  rfl

/-! ### `NormalizedLinearStepper`  (stepper/generic/_linear.py) -/

theorem NormalizedLinearStepper_defaults (D : ℕ) (N : ℕ) :
    NormalizedLinearStepper_with_defaults D N =
      ({ num_spatial_dims := D, num_points := N, normalized_linear_coefficients := [0, -1 / 2, 1 / 100] } :
          NormalizedLinearStepperArgs ℂ) := by
  norm_num [NormalizedLinearStepper_with_defaults]

theorem NormalizedLinearStepper_attrs_eq (a : NormalizedLinearStepperArgs ℂ) :
    NormalizedLinearStepper_attrs a =
      ({ normalized_linear_coefficients := a.normalized_linear_coefficients } : NormalizedLinearStepperAttrs ℂ) :=
  rfl

theorem NormalizedLinearStepper_super_args_eq (a : NormalizedLinearStepperArgs ℂ) :
    NormalizedLinearStepper_super_args a =
      ({ num_spatial_dims := a.num_spatial_dims, domain_extent := 1, num_points := a.num_points, dt := 1,
         linear_coefficients := a.normalized_linear_coefficients } : GeneralLinearStepperArgs ℂ) := by
  simp [NormalizedLinearStepper_super_args]

/-! ### `DifficultyLinearStepper`  (stepper/generic/_linear.py) -/

theorem DifficultyLinearStepper_defaults :
    DifficultyLinearStepper_with_defaults =
      ({ num_spatial_dims := 1, num_points := 48, linear_difficulties := [0, -2] } : DifficultyLinearStepperArgs ℂ)
          := by
  norm_num [DifficultyLinearStepper_with_defaults]

theorem DifficultyLinearStepper_attrs_eq (a : DifficultyLinearStepperArgs ℂ) :
    DifficultyLinearStepper_attrs a =
      ({ linear_difficulties := a.linear_difficulties } : DifficultyLinearStepperAttrs ℂ) :=
  rfl

theorem DifficultyLinearStepper_super_args_eq (a : DifficultyLinearStepperArgs ℂ) :
    DifficultyLinearStepper_super_args a =
      ({ num_spatial_dims := a.num_spatial_dims, num_points := a.num_points,
         normalized_linear_coefficients := extract_normalized_coefficients_from_difficulty a.linear_difficulties
             a.num_spatial_dims a.num_points } : NormalizedLinearStepperArgs ℂ) := by
  simp [DifficultyLinearStepper_super_args]

/-! ### `DifficultyLinearStepperSimple`  (stepper/generic/_linear.py) -/

theorem DifficultyLinearStepperSimple_defaults :
    DifficultyLinearStepperSimple_with_defaults =
      ({ num_spatial_dims := 1, num_points := 48, difficulty := -2, order := 1 } : DifficultyLinearStepperSimpleArgs
          ℂ) := by
  norm_num [DifficultyLinearStepperSimple_with_defaults]

theorem DifficultyLinearStepperSimple_super_args_eq (a : DifficultyLinearStepperSimpleArgs ℂ) :
    DifficultyLinearStepperSimple_super_args a =
      ({ num_spatial_dims := a.num_spatial_dims, num_points := a.num_points,
         linear_difficulties := List.replicate a.order 0 ++ [a.difficulty] } : DifficultyLinearStepperArgs ℂ) := by
  simp [DifficultyLinearStepperSimple_super_args]

/-! ### `GeneralNonlinearStepper`  (stepper/generic/_nonlinear.py) -/

theorem GeneralNonlinearStepper_defaults (D : ℕ) (L : ℂ) (N : ℕ) (dt : ℂ) :
    GeneralNonlinearStepper_with_defaults D L N dt =
      ({ num_spatial_dims := D, domain_extent := L, num_points := N, dt := dt,
         linear_coefficients := [0, 0, 1 / 100], nonlinear_coefficients := (0, -1, 0), order := 2,
         dealiasing_fraction := (2, 3), num_circle_points := 16, circle_radius := 1 } : GeneralNonlinearStepperArgs
             ℂ) := by
  norm_num [GeneralNonlinearStepper_with_defaults]

theorem GeneralNonlinearStepper_attrs_eq (a : GeneralNonlinearStepperArgs ℂ) :
    GeneralNonlinearStepper_attrs a =
      ({ linear_coefficients := a.linear_coefficients, nonlinear_coefficients := a.nonlinear_coefficients,
         dealiasing_fraction := a.dealiasing_fraction } : GeneralNonlinearStepperAttrs ℂ) :=
  rfl

/-! ### `NormalizedNonlinearStepper`  (stepper/generic/_nonlinear.py) -/

theorem NormalizedNonlinearStepper_defaults (D : ℕ) (N : ℕ) :
    NormalizedNonlinearStepper_with_defaults D N =
      ({ num_spatial_dims := D, num_points := N, normalized_linear_coefficients := [0, 0, 1 / 100],
         normalized_nonlinear_coefficients := (0, -1 / 10, 0), order := 2, dealiasing_fraction := (2, 3),
         num_circle_points := 16, circle_radius := 1 } : NormalizedNonlinearStepperArgs ℂ) := by
  norm_num [NormalizedNonlinearStepper_with_defaults]

theorem NormalizedNonlinearStepper_attrs_eq (a : NormalizedNonlinearStepperArgs ℂ) :
    NormalizedNonlinearStepper_attrs a =
      ({ normalized_linear_coefficients := a.normalized_linear_coefficients,
         normalized_nonlinear_coefficients := a.normalized_nonlinear_coefficients } : NormalizedNonlinearStepperAttrs
             ℂ) :=
  rfl

theorem NormalizedNonlinearStepper_super_args_eq (a : NormalizedNonlinearStepperArgs ℂ) :
    NormalizedNonlinearStepper_super_args a =
      ({ num_spatial_dims := a.num_spatial_dims, domain_extent := 1, num_points := a.num_points, dt := 1,
         linear_coefficients := a.normalized_linear_coefficients,
         nonlinear_coefficients := a.normalized_nonlinear_coefficients, order := a.order,
         dealiasing_fraction := a.dealiasing_fraction, num_circle_points := a.num_circle_points,
         circle_radius := a.circle_radius } : GeneralNonlinearStepperArgs ℂ) := by
  simp [NormalizedNonlinearStepper_super_args]

/-! ### `DifficultyNonlinearStepper`  (stepper/generic/_nonlinear.py) -/

theorem DifficultyNonlinearStepper_defaults :
    DifficultyNonlinearStepper_with_defaults =
      ({ num_spatial_dims := 1, num_points := 48, linear_difficulties := [0, 0, 1152 / 25],
         nonlinear_difficulties := (0, -24 / 5, 0), maximum_absolute := 1, order := 2, dealiasing_fraction := (2, 3),
         num_circle_points := 16, circle_radius := 1 } : DifficultyNonlinearStepperArgs ℂ) := by
  norm_num [DifficultyNonlinearStepper_with_defaults]

theorem DifficultyNonlinearStepper_attrs_eq (a : DifficultyNonlinearStepperArgs ℂ) :
    DifficultyNonlinearStepper_attrs a =
      ({ linear_difficulties := a.linear_difficulties, nonlinear_difficulties := a.nonlinear_difficulties } :
          DifficultyNonlinearStepperAttrs ℂ) :=
  rfl

theorem DifficultyNonlinearStepper_super_args_eq (a : DifficultyNonlinearStepperArgs ℂ) :
    DifficultyNonlinearStepper_super_args a =
      ({ num_spatial_dims := a.num_spatial_dims, num_points := a.num_points,
         normalized_linear_coefficients := extract_normalized_coefficients_from_difficulty a.linear_difficulties
             a.num_spatial_dims a.num_points,
         normalized_nonlinear_coefficients := extract_normalized_nonlinear_scales_from_difficulty
             a.nonlinear_difficulties a.num_spatial_dims a.num_points a.maximum_absolute,
         order := a.order, dealiasing_fraction := a.dealiasing_fraction, num_circle_points := a.num_circle_points,
         circle_radius := a.circle_radius } : NormalizedNonlinearStepperArgs ℂ) := by
  simp [DifficultyNonlinearStepper_super_args]

/-! ### `GeneralPolynomialStepper`  (stepper/generic/_polynomial.py) -/

theorem GeneralPolynomialStepper_defaults (D : ℕ) (L : ℂ) (N : ℕ) (dt : ℂ) :
    GeneralPolynomialStepper_with_defaults D L N dt =
      ({ num_spatial_dims := D, domain_extent := L, num_points := N, dt := dt, linear_coefficients := [10, 0, 1],
         polynomial_coefficients := [0, 0, -10], order := 2, dealiasing_fraction := (2, 3), num_circle_points := 16,
         circle_radius := 1 } : GeneralPolynomialStepperArgs ℂ) := by
  norm_num [GeneralPolynomialStepper_with_defaults]

theorem GeneralPolynomialStepper_attrs_eq (a : GeneralPolynomialStepperArgs ℂ) :
    GeneralPolynomialStepper_attrs a =
      ({ linear_coefficients := a.linear_coefficients, polynomial_coefficients := a.polynomial_coefficients,
         dealiasing_fraction := a.dealiasing_fraction } : GeneralPolynomialStepperAttrs ℂ) :=
  rfl

/-! ### `NormalizedPolynomialStepper`  (stepper/generic/_polynomial.py) -/

theorem NormalizedPolynomialStepper_defaults (D : ℕ) (N : ℕ) :
    NormalizedPolynomialStepper_with_defaults D N =
      ({ num_spatial_dims := D, num_points := N, normalized_linear_coefficients := [1 / 100, 0, 1 / 100000],
         normalized_polynomial_coefficients := [0, 0, -1 / 100], order := 2, dealiasing_fraction := (2, 3),
         num_circle_points := 16, circle_radius := 1 } : NormalizedPolynomialStepperArgs ℂ) := by
  norm_num [NormalizedPolynomialStepper_with_defaults]

theorem NormalizedPolynomialStepper_attrs_eq (a : NormalizedPolynomialStepperArgs ℂ) :
    NormalizedPolynomialStepper_attrs a =
      ({ normalized_linear_coefficients := a.normalized_linear_coefficients,
         normalized_polynomial_coefficients := a.normalized_polynomial_coefficients } :
             NormalizedPolynomialStepperAttrs ℂ) :=
  rfl

theorem NormalizedPolynomialStepper_super_args_eq (a : NormalizedPolynomialStepperArgs ℂ) :
    NormalizedPolynomialStepper_super_args a =
      ({ num_spatial_dims := a.num_spatial_dims, domain_extent := 1, num_points := a.num_points, dt := 1,
         linear_coefficients := a.normalized_linear_coefficients,
         polynomial_coefficients := a.normalized_polynomial_coefficients, order := a.order,
         dealiasing_fraction := a.dealiasing_fraction, num_circle_points := a.num_circle_points,
         circle_radius := a.circle_radius } : GeneralPolynomialStepperArgs ℂ) := by
  simp [NormalizedPolynomialStepper_super_args]

/-! ### `DifficultyPolynomialStepper`  (stepper/generic/_polynomial.py) -/

theorem DifficultyPolynomialStepper_defaults :
    DifficultyPolynomialStepper_with_defaults =
      ({ num_spatial_dims := 1, num_points := 48, linear_difficulties := [1 / 100, 0, 144 / 3125],
         polynomial_difficulties := [0, 0, -1 / 100], order := 2, dealiasing_fraction := (2, 3),
         num_circle_points := 16, circle_radius := 1 } : DifficultyPolynomialStepperArgs ℂ) := by
  norm_num [DifficultyPolynomialStepper_with_defaults]

theorem DifficultyPolynomialStepper_attrs_eq (a : DifficultyPolynomialStepperArgs ℂ) :
    DifficultyPolynomialStepper_attrs a =
      ({ linear_difficulties := a.linear_difficulties, polynomial_difficulties := a.polynomial_difficulties } :
          DifficultyPolynomialStepperAttrs ℂ) :=
  rfl

theorem DifficultyPolynomialStepper_super_args_eq (a : DifficultyPolynomialStepperArgs ℂ) :
    DifficultyPolynomialStepper_super_args a =
      ({ num_spatial_dims := a.num_spatial_dims, num_points := a.num_points,
         normalized_linear_coefficients := extract_normalized_coefficients_from_difficulty a.linear_difficulties
             a.num_spatial_dims a.num_points,
         normalized_polynomial_coefficients := a.polynomial_difficulties, order := a.order,
         dealiasing_fraction := a.dealiasing_fraction, num_circle_points := a.num_circle_points,
         circle_radius := a.circle_radius } : NormalizedPolynomialStepperArgs ℂ) := by
  simp [DifficultyPolynomialStepper_super_args]

/-! ### `Diffusion`  (stepper/_diffusion.py) -/

theorem Diffusion_defaults (D : ℕ) (L : ℂ) (N : ℕ) (dt : ℂ) :
    Diffusion_with_defaults D L N dt =
      ({ num_spatial_dims := D, domain_extent := L, num_points := N, dt := dt, diffusivity := Arg.scalar (1 / 100) }
          : DiffusionArgs ℂ) := by
  norm_num [Diffusion_with_defaults]

theorem Diffusion_init_diffusivity_matrix_eq (A : List (List ℂ)) : Diffusion_init_diffusivity_matrix A = A :=
  rfl

theorem Diffusion_init_diffusivity_vector_eq (v : List ℂ) : Diffusion_init_diffusivity_vector v = diagM v :=
  jnp_diag_eq v

theorem Diffusion_init_diffusivity_scalar_eq (D : ℕ) (ν : ℂ) : Diffusion_init_diffusivity_scalar D ν = scalarM D ν :=
  diag_ones_mul D ν

theorem Diffusion_attrs_eq (a : DiffusionArgs ℂ) :
    Diffusion_attrs a =
      ({
         diffusivity := match a.diffusivity with | .scalar ν => some (scalarM a.num_spatial_dims ν) | .vector v => some (diagM v) | .matrix A => some A } : DiffusionAttrs ℂ) := by
  cases hdiffusivity : a.diffusivity <;>
    simp [Diffusion_attrs, hdiffusivity, Diffusion_init_diffusivity_matrix_eq, Diffusion_init_diffusivity_vector_eq,
        Diffusion_init_diffusivity_scalar_eq]

/-! ### `Dispersion`  (stepper/_dispersion.py) -/

theorem Dispersion_defaults (D : ℕ) (L : ℂ) (N : ℕ) (dt : ℂ) :
    Dispersion_with_defaults D L N dt =
      ({ num_spatial_dims := D, domain_extent := L, num_points := N, dt := dt, dispersivity := Arg.scalar (1),
         advect_on_diffusion := false } : DispersionArgs ℂ) := by
  norm_num [Dispersion_with_defaults]

theorem Dispersion_init_dispersivity_vector_eq (v : List ℂ) : Dispersion_init_dispersivity_vector v = v :=
  rfl

theorem Dispersion_init_dispersivity_scalar_eq (D : ℕ) (v : ℂ) : Dispersion_init_dispersivity_scalar D v =
    List.replicate D v :=
  ones_mul D v

theorem Dispersion_attrs_eq (a : DispersionArgs ℂ) :
    Dispersion_attrs a =
      ({
         dispersivity := match a.dispersivity with | .scalar v => some (List.replicate a.num_spatial_dims v) | .vector v => some v | .matrix _ => none,
         advect_on_diffusion := a.advect_on_diffusion } : DispersionAttrs ℂ) := by
  cases hdispersivity : a.dispersivity <;>
    simp [Dispersion_attrs, hdispersivity, Dispersion_init_dispersivity_vector_eq,
        Dispersion_init_dispersivity_scalar_eq, Dispersion_init_advect_on_diffusion]

/-! ### `FisherKPP`  (stepper/reaction/_fisher_kpp.py) -/

theorem FisherKPP_defaults (D : ℕ) (L : ℂ) (N : ℕ) (dt : ℂ) :
    FisherKPP_with_defaults D L N dt =
      ({ num_spatial_dims := D, domain_extent := L, num_points := N, dt := dt, diffusivity := 1 / 100,
         reactivity := 1, order := 2, dealiasing_fraction := (2, 3), num_circle_points := 16, circle_radius := 1 } :
             FisherKPPArgs ℂ) := by
  norm_num [FisherKPP_with_defaults]

theorem FisherKPP_attrs_eq (a : FisherKPPArgs ℂ) :
    FisherKPP_attrs a =
      ({ dealiasing_fraction := a.dealiasing_fraction, diffusivity := a.diffusivity, reactivity := a.reactivity } :
          FisherKPPAttrs ℂ) :=
  rfl

/-! ### `GeneralVorticityConvectionStepper`  (stepper/generic/_vorticity_convection.py) -/

theorem GeneralVorticityConvectionStepper_defaults (D : ℕ) (L : ℂ) (N : ℕ) (dt : ℂ) :
    GeneralVorticityConvectionStepper_with_defaults D L N dt =
      ({ num_spatial_dims := D, domain_extent := L, num_points := N, dt := dt, vorticity_convection_scale := 1,
         linear_coefficients := [0, 0, 1 / 1000], injection_mode := 4, injection_scale := 0, order := 2,
         dealiasing_fraction := (2, 3), num_circle_points := 16, circle_radius := 1 } :
             GeneralVorticityConvectionStepperArgs ℂ) := by
  norm_num [GeneralVorticityConvectionStepper_with_defaults]

theorem GeneralVorticityConvectionStepper_attrs_eq (a : GeneralVorticityConvectionStepperArgs ℂ) :
    GeneralVorticityConvectionStepper_attrs a =
      ({ vorticity_convection_scale := a.vorticity_convection_scale, linear_coefficients := a.linear_coefficients,
         injection_mode := a.injection_mode, injection_scale := a.injection_scale,
         dealiasing_fraction := a.dealiasing_fraction } : GeneralVorticityConvectionStepperAttrs ℂ) :=
  rfl

/-! ### `GrayScott`  (stepper/reaction/_gray_scott.py) -/

theorem GrayScott_defaults (D : ℕ) (L : ℂ) (N : ℕ) (dt : ℂ) :
    GrayScott_with_defaults D L N dt =
      ({ num_spatial_dims := D, domain_extent := L, num_points := N, dt := dt, diffusivity_1 := 1 / 50000,
         diffusivity_2 := 1 / 100000, feed_rate := 1 / 25, kill_rate := 3 / 50, order := 2,
         dealiasing_fraction := (1, 2), num_circle_points := 16, circle_radius := 1 } : GrayScottArgs ℂ) := by
  norm_num [GrayScott_with_defaults]

theorem GrayScott_attrs_eq (a : GrayScottArgs ℂ) :
    GrayScott_attrs a =
      ({ diffusivity_1 := a.diffusivity_1, diffusivity_2 := a.diffusivity_2, feed_rate := a.feed_rate,
         kill_rate := a.kill_rate, dealiasing_fraction := a.dealiasing_fraction } : GrayScottAttrs ℂ) :=
  rfl

/-! ### `HyperDiffusion`  (stepper/_hyper_diffusion.py) -/

theorem HyperDiffusion_defaults (D : ℕ) (L : ℂ) (N : ℕ) (dt : ℂ) :
    HyperDiffusion_with_defaults D L N dt =
      ({ num_spatial_dims := D, domain_extent := L, num_points := N, dt := dt, hyper_diffusivity := 1 / 10000,
         diffuse_on_diffuse := false } : HyperDiffusionArgs ℂ) := by
  norm_num [HyperDiffusion_with_defaults]

theorem HyperDiffusion_attrs_eq (a : HyperDiffusionArgs ℂ) :
    HyperDiffusion_attrs a =
      ({ hyper_diffusivity := a.hyper_diffusivity, diffuse_on_diffuse := a.diffuse_on_diffuse } : HyperDiffusionAttrs
          ℂ) :=
  rfl

/-! ### `KolmogorovFlowVelocity`  (stepper/_navier_stokes.py) -/

theorem KolmogorovFlowVelocity_defaults (D : ℕ) (L : ℂ) (N : ℕ) (dt : ℂ) :
    KolmogorovFlowVelocity_with_defaults D L N dt =
      ({ num_spatial_dims := D, domain_extent := L, num_points := N, dt := dt, diffusivity := 1 / 100, drag := 0,
         injection_mode := 4, injection_scale := 1, order := 2, dealiasing_fraction := (2, 3),
         num_circle_points := 16, circle_radius := 1 } : KolmogorovFlowVelocityArgs ℂ) := by
  norm_num [KolmogorovFlowVelocity_with_defaults]

theorem KolmogorovFlowVelocity_attrs_eq (a : KolmogorovFlowVelocityArgs ℂ) :
    KolmogorovFlowVelocity_attrs a =
      ({ diffusivity := a.diffusivity, drag := a.drag, injection_mode := a.injection_mode,
         injection_scale := a.injection_scale, dealiasing_fraction := a.dealiasing_fraction } :
             KolmogorovFlowVelocityAttrs ℂ) :=
  rfl

/-! ### `KolmogorovFlowVorticity`  (stepper/_navier_stokes.py) -/

theorem KolmogorovFlowVorticity_defaults (D : ℕ) (L : ℂ) (N : ℕ) (dt : ℂ) :
    KolmogorovFlowVorticity_with_defaults D L N dt =
      ({ num_spatial_dims := D, domain_extent := L, num_points := N, dt := dt, diffusivity := 1 / 1000,
         convection_scale := 1, drag := -1 / 10, injection_mode := 4, injection_scale := 1, order := 2,
         dealiasing_fraction := (2, 3), num_circle_points := 16, circle_radius := 1 } : KolmogorovFlowVorticityArgs
             ℂ) := by
  norm_num [KolmogorovFlowVorticity_with_defaults]

theorem KolmogorovFlowVorticity_attrs_eq (a : KolmogorovFlowVorticityArgs ℂ) :
    KolmogorovFlowVorticity_attrs a =
      ({ diffusivity := a.diffusivity, convection_scale := a.convection_scale, drag := a.drag,
         injection_mode := a.injection_mode, injection_scale := a.injection_scale,
         dealiasing_fraction := a.dealiasing_fraction } : KolmogorovFlowVorticityAttrs ℂ) :=
  rfl

/-! ### `KortewegDeVries`  (stepper/_korteweg_de_vries.py) -/

theorem KortewegDeVries_defaults (D : ℕ) (L : ℂ) (N : ℕ) (dt : ℂ) :
    KortewegDeVries_with_defaults D L N dt =
      ({ num_spatial_dims := D, domain_extent := L, num_points := N, dt := dt, convection_scale := -6,
         diffusivity := 0, dispersivity := 1, hyper_diffusivity := 1 / 100, advect_over_diffuse := false,
         diffuse_over_diffuse := false, single_channel := false, conservative := false, order := 2,
         dealiasing_fraction := (2, 3), num_circle_points := 16, circle_radius := 1 } : KortewegDeVriesArgs ℂ) := by
  norm_num [KortewegDeVries_with_defaults]

theorem KortewegDeVries_attrs_eq (a : KortewegDeVriesArgs ℂ) :
    KortewegDeVries_attrs a =
      ({ convection_scale := a.convection_scale, diffusivity := a.diffusivity, dispersivity := a.dispersivity,
         hyper_diffusivity := a.hyper_diffusivity, advect_over_diffuse := a.advect_over_diffuse,
         diffuse_over_diffuse := a.diffuse_over_diffuse, single_channel := a.single_channel,
         conservative := a.conservative, dealiasing_fraction := a.dealiasing_fraction } : KortewegDeVriesAttrs ℂ) :=
  rfl

/-! ### `KuramotoSivashinsky`  (stepper/_kuramoto_sivashinsky.py) -/

theorem KuramotoSivashinsky_defaults (D : ℕ) (L : ℂ) (N : ℕ) (dt : ℂ) :
    KuramotoSivashinsky_with_defaults D L N dt =
      ({ num_spatial_dims := D, domain_extent := L, num_points := N, dt := dt, gradient_norm_scale := 1,
         second_order_scale := 1, fourth_order_scale := 1, dealiasing_fraction := (2, 3), order := 2,
         num_circle_points := 16, circle_radius := 1 } : KuramotoSivashinskyArgs ℂ) := by
  norm_num [KuramotoSivashinsky_with_defaults]

theorem KuramotoSivashinsky_attrs_eq (a : KuramotoSivashinskyArgs ℂ) :
    KuramotoSivashinsky_attrs a =
      ({ gradient_norm_scale := a.gradient_norm_scale, second_order_scale := a.second_order_scale,
         fourth_order_scale := a.fourth_order_scale, dealiasing_fraction := a.dealiasing_fraction } :
             KuramotoSivashinskyAttrs ℂ) :=
  rfl

/-! ### `KuramotoSivashinskyConservative`  (stepper/_kuramoto_sivashinsky.py) -/

theorem KuramotoSivashinskyConservative_defaults (D : ℕ) (L : ℂ) (N : ℕ) (dt : ℂ) :
    KuramotoSivashinskyConservative_with_defaults D L N dt =
      ({ num_spatial_dims := D, domain_extent := L, num_points := N, dt := dt, convection_scale := 1,
         second_order_scale := 1, fourth_order_scale := 1, single_channel := false, conservative := true,
         dealiasing_fraction := (2, 3), order := 2, num_circle_points := 16, circle_radius := 1 } :
             KuramotoSivashinskyConservativeArgs ℂ) := by
  norm_num [KuramotoSivashinskyConservative_with_defaults]

theorem KuramotoSivashinskyConservative_attrs_eq (a : KuramotoSivashinskyConservativeArgs ℂ) :
    KuramotoSivashinskyConservative_attrs a =
      ({ convection_scale := a.convection_scale, second_order_scale := a.second_order_scale,
         fourth_order_scale := a.fourth_order_scale, single_channel := a.single_channel,
         conservative := a.conservative, dealiasing_fraction := a.dealiasing_fraction } :
             KuramotoSivashinskyConservativeAttrs ℂ) :=
  rfl

/-! ### `NavierStokesVelocity`  (stepper/_navier_stokes.py) -/

theorem NavierStokesVelocity_defaults (D : ℕ) (L : ℂ) (N : ℕ) (dt : ℂ) :
    NavierStokesVelocity_with_defaults D L N dt =
      ({ num_spatial_dims := D, domain_extent := L, num_points := N, dt := dt, diffusivity := 1 / 100, drag := 0,
         order := 2, dealiasing_fraction := (2, 3), num_circle_points := 16, circle_radius := 1 } :
             NavierStokesVelocityArgs ℂ) := by
  norm_num [NavierStokesVelocity_with_defaults]

theorem NavierStokesVelocity_attrs_eq (a : NavierStokesVelocityArgs ℂ) :
    NavierStokesVelocity_attrs a =
      ({ diffusivity := a.diffusivity, drag := a.drag, dealiasing_fraction := a.dealiasing_fraction } :
          NavierStokesVelocityAttrs ℂ) :=
  rfl

/-! ### `NavierStokesVorticity`  (stepper/_navier_stokes.py) -/

theorem NavierStokesVorticity_defaults (D : ℕ) (L : ℂ) (N : ℕ) (dt : ℂ) :
    NavierStokesVorticity_with_defaults D L N dt =
      ({ num_spatial_dims := D, domain_extent := L, num_points := N, dt := dt, diffusivity := 1 / 100,
         vorticity_convection_scale := 1, drag := 0, order := 2, dealiasing_fraction := (2, 3),
         num_circle_points := 16, circle_radius := 1 } : NavierStokesVorticityArgs ℂ) := by
  norm_num [NavierStokesVorticity_with_defaults]

theorem NavierStokesVorticity_attrs_eq (a : NavierStokesVorticityArgs ℂ) :
    NavierStokesVorticity_attrs a =
      ({ diffusivity := a.diffusivity, vorticity_convection_scale := a.vorticity_convection_scale, drag := a.drag,
         dealiasing_fraction := a.dealiasing_fraction } : NavierStokesVorticityAttrs ℂ) :=
  rfl

/-! ### `SwiftHohenberg`  (stepper/reaction/_swift_hohenberg.py) -/

theorem SwiftHohenberg_defaults (D : ℕ) (L : ℂ) (N : ℕ) (dt : ℂ) :
    SwiftHohenberg_with_defaults D L N dt =
      ({ num_spatial_dims := D, domain_extent := L, num_points := N, dt := dt, reactivity := 7 / 10,
         critical_number := 1, polynomial_coefficients := [0, 0, 1, -1], order := 2, dealiasing_fraction := (1, 2),
         num_circle_points := 16, circle_radius := 1 } : SwiftHohenbergArgs ℂ) := by
  norm_num [SwiftHohenberg_with_defaults]

theorem SwiftHohenberg_attrs_eq (a : SwiftHohenbergArgs ℂ) :
    SwiftHohenberg_attrs a =
      ({ reactivity := a.reactivity, critical_number := a.critical_number,
         polynomial_coefficients := a.polynomial_coefficients, dealiasing_fraction := a.dealiasing_fraction } :
             SwiftHohenbergAttrs ℂ) :=
  rfl

/-! ### `Wave`  (stepper/_wave.py) -/

theorem Wave_defaults (D : ℕ) (L : ℂ) (N : ℕ) (dt : ℂ) :
    Wave_with_defaults D L N dt =
      ({ num_spatial_dims := D, domain_extent := L, num_points := N, dt := dt, speed_of_sound := 1 } : WaveArgs ℂ) :=
          by
  norm_num [Wave_with_defaults]

theorem Wave_attrs_eq (a : WaveArgs ℂ) :
    Wave_attrs a =
      ({ speed_of_sound := a.speed_of_sound } : WaveAttrs ℂ) :=
  rfl

/-! ### what finally reaches `BaseStepper.__init__`: `num_channels`, `order`, `num_circle_points`, `circle_radius`
     (and `L = 1`, `dt = 1` for the `Normalized*` / `Difficulty*` classes) -/

theorem Advection_base_args_eq (a : AdvectionArgs ℂ) :
    Advection_base_args a =
      ({ num_spatial_dims := a.num_spatial_dims, domain_extent := a.domain_extent, num_points := a.num_points,
         dt := a.dt, num_channels := 1, order := 0, num_circle_points := 16, circle_radius := 1 } : BaseStepperArgs
             ℂ) := by
  simp [Advection_base_args, Advection_super_args]

theorem Advection_num_channels_eq (a : AdvectionArgs ℂ) : Advection_num_channels a = 1 :=
  congrArg BaseStepperArgs.num_channels (Advection_base_args_eq a)

theorem AdvectionDiffusion_base_args_eq (a : AdvectionDiffusionArgs ℂ) :
    AdvectionDiffusion_base_args a =
      ({ num_spatial_dims := a.num_spatial_dims, domain_extent := a.domain_extent, num_points := a.num_points,
         dt := a.dt, num_channels := 1, order := 0, num_circle_points := 16, circle_radius := 1 } : BaseStepperArgs
             ℂ) := by
  simp [AdvectionDiffusion_base_args, AdvectionDiffusion_super_args]

theorem AdvectionDiffusion_num_channels_eq (a : AdvectionDiffusionArgs ℂ) : AdvectionDiffusion_num_channels a = 1 :=
  congrArg BaseStepperArgs.num_channels (AdvectionDiffusion_base_args_eq a)

theorem AllenCahn_base_args_eq (a : AllenCahnArgs ℂ) :
    AllenCahn_base_args a =
      ({ num_spatial_dims := a.num_spatial_dims, domain_extent := a.domain_extent, num_points := a.num_points,
         dt := a.dt, num_channels := 1, order := a.order, num_circle_points := a.num_circle_points,
         circle_radius := a.circle_radius } : BaseStepperArgs ℂ) := by
  simp [AllenCahn_base_args, AllenCahn_super_args]

theorem AllenCahn_num_channels_eq (a : AllenCahnArgs ℂ) : AllenCahn_num_channels a = 1 :=
  congrArg BaseStepperArgs.num_channels (AllenCahn_base_args_eq a)

theorem BelousovZhabotinsky_base_args_eq (a : BelousovZhabotinskyArgs ℂ) :
    BelousovZhabotinsky_base_args a =
      ({ num_spatial_dims := a.num_spatial_dims, domain_extent := a.domain_extent, num_points := a.num_points,
         dt := a.dt, num_channels := 3, order := a.order, num_circle_points := a.num_circle_points,
         circle_radius := a.circle_radius } : BaseStepperArgs ℂ) := by
  simp [BelousovZhabotinsky_base_args, BelousovZhabotinsky_super_args]

theorem BelousovZhabotinsky_num_channels_eq (a : BelousovZhabotinskyArgs ℂ) : BelousovZhabotinsky_num_channels a = 3
    :=
  congrArg BaseStepperArgs.num_channels (BelousovZhabotinsky_base_args_eq a)

theorem Burgers_base_args_eq (a : BurgersArgs ℂ) :
    Burgers_base_args a =
      ({ num_spatial_dims := a.num_spatial_dims, domain_extent := a.domain_extent, num_points := a.num_points,
         dt := a.dt, num_channels := if a.single_channel then 1 else a.num_spatial_dims, order := a.order,
         num_circle_points := a.num_circle_points, circle_radius := a.circle_radius } : BaseStepperArgs ℂ) := by
  simp [Burgers_base_args, Burgers_super_args]

theorem Burgers_num_channels_eq (a : BurgersArgs ℂ) : Burgers_num_channels a = if a.single_channel then 1 else
    a.num_spatial_dims :=
  congrArg BaseStepperArgs.num_channels (Burgers_base_args_eq a)

theorem CahnHilliard_base_args_eq (a : CahnHilliardArgs ℂ) :
    CahnHilliard_base_args a =
      ({ num_spatial_dims := a.num_spatial_dims, domain_extent := a.domain_extent, num_points := a.num_points,
         dt := a.dt, num_channels := 1, order := a.order, num_circle_points := a.num_circle_points,
         circle_radius := a.circle_radius } : BaseStepperArgs ℂ) := by
  simp [CahnHilliard_base_args, CahnHilliard_super_args]

theorem CahnHilliard_num_channels_eq (a : CahnHilliardArgs ℂ) : CahnHilliard_num_channels a = 1 :=
  congrArg BaseStepperArgs.num_channels (CahnHilliard_base_args_eq a)

theorem GeneralConvectionStepper_base_args_eq (a : GeneralConvectionStepperArgs ℂ) :
    GeneralConvectionStepper_base_args a =
      ({ num_spatial_dims := a.num_spatial_dims, domain_extent := a.domain_extent, num_points := a.num_points,
         dt := a.dt, num_channels := if a.single_channel then 1 else a.num_spatial_dims, order := a.order,
         num_circle_points := a.num_circle_points, circle_radius := a.circle_radius } : BaseStepperArgs ℂ) := by
  simp [GeneralConvectionStepper_base_args, GeneralConvectionStepper_super_args]

theorem GeneralConvectionStepper_num_channels_eq (a : GeneralConvectionStepperArgs ℂ) :
    GeneralConvectionStepper_num_channels a = if a.single_channel then 1 else a.num_spatial_dims :=
  congrArg BaseStepperArgs.num_channels (GeneralConvectionStepper_base_args_eq a)

theorem NormalizedConvectionStepper_base_args_eq (a : NormalizedConvectionStepperArgs ℂ) :
    NormalizedConvectionStepper_base_args a =
      ({ num_spatial_dims := a.num_spatial_dims, domain_extent := 1, num_points := a.num_points, dt := 1,
         num_channels := if a.single_channel then 1 else a.num_spatial_dims, order := a.order,
         num_circle_points := a.num_circle_points, circle_radius := a.circle_radius } : BaseStepperArgs ℂ) := by
  unfold NormalizedConvectionStepper_base_args
  rw [NormalizedConvectionStepper_super_args_eq, GeneralConvectionStepper_base_args_eq]

theorem NormalizedConvectionStepper_num_channels_eq (a : NormalizedConvectionStepperArgs ℂ) :
    NormalizedConvectionStepper_num_channels a = if a.single_channel then 1 else a.num_spatial_dims :=
  congrArg BaseStepperArgs.num_channels (NormalizedConvectionStepper_base_args_eq a)

theorem DifficultyConvectionStepper_base_args_eq (a : DifficultyConvectionStepperArgs ℂ) :
    DifficultyConvectionStepper_base_args a =
      ({ num_spatial_dims := a.num_spatial_dims, domain_extent := 1, num_points := a.num_points, dt := 1,
         num_channels := if a.single_channel then 1 else a.num_spatial_dims, order := a.order,
         num_circle_points := a.num_circle_points, circle_radius := a.circle_radius } : BaseStepperArgs ℂ) := by
  unfold DifficultyConvectionStepper_base_args
  rw [DifficultyConvectionStepper_super_args_eq, NormalizedConvectionStepper_base_args_eq]

theorem DifficultyConvectionStepper_num_channels_eq (a : DifficultyConvectionStepperArgs ℂ) :
    DifficultyConvectionStepper_num_channels a = if a.single_channel then 1 else a.num_spatial_dims :=
  congrArg BaseStepperArgs.num_channels (DifficultyConvectionStepper_base_args_eq a)

theorem GeneralGradientNormStepper_base_args_eq (a : GeneralGradientNormStepperArgs ℂ) :
    GeneralGradientNormStepper_base_args a =
      ({ num_spatial_dims := a.num_spatial_dims, domain_extent := a.domain_extent, num_points := a.num_points,
         dt := a.dt, num_channels := 1, order := a.order, num_circle_points := a.num_circle_points,
         circle_radius := a.circle_radius } : BaseStepperArgs ℂ) := by
  simp [GeneralGradientNormStepper_base_args, GeneralGradientNormStepper_super_args]

theorem GeneralGradientNormStepper_num_channels_eq (a : GeneralGradientNormStepperArgs ℂ) :
    GeneralGradientNormStepper_num_channels a = 1 :=
  congrArg BaseStepperArgs.num_channels (GeneralGradientNormStepper_base_args_eq a)

theorem NormalizedGradientNormStepper_base_args_eq (a : NormalizedGradientNormStepperArgs ℂ) :
    NormalizedGradientNormStepper_base_args a =
      ({ num_spatial_dims := a.num_spatial_dims, domain_extent := 1, num_points := a.num_points, dt := 1,
         num_channels := 1, order := a.order, num_circle_points := a.num_circle_points,
         circle_radius := a.circle_radius } : BaseStepperArgs ℂ) := by
  unfold NormalizedGradientNormStepper_base_args
  rw [NormalizedGradientNormStepper_super_args_eq, GeneralGradientNormStepper_base_args_eq]

theorem NormalizedGradientNormStepper_num_channels_eq (a : NormalizedGradientNormStepperArgs ℂ) :
    NormalizedGradientNormStepper_num_channels a = 1 :=
  congrArg BaseStepperArgs.num_channels (NormalizedGradientNormStepper_base_args_eq a)

theorem DifficultyGradientNormStepper_base_args_eq (a : DifficultyGradientNormStepperArgs ℂ) :
    DifficultyGradientNormStepper_base_args a =
      ({ num_spatial_dims := a.num_spatial_dims, domain_extent := 1, num_points := a.num_points, dt := 1,
         num_channels := 1, order := a.order, num_circle_points := a.num_circle_points,
         circle_radius := a.circle_radius } : BaseStepperArgs ℂ) := by
  unfold DifficultyGradientNormStepper_base_args
  rw [DifficultyGradientNormStepper_super_args_eq, NormalizedGradientNormStepper_base_args_eq]

theorem DifficultyGradientNormStepper_num_channels_eq (a : DifficultyGradientNormStepperArgs ℂ) :
    DifficultyGradientNormStepper_num_channels a = 1 :=
  congrArg BaseStepperArgs.num_channels (DifficultyGradientNormStepper_base_args_eq a)

theorem GeneralLinearStepper_base_args_eq (a : GeneralLinearStepperArgs ℂ) :
    GeneralLinearStepper_base_args a =
      ({ num_spatial_dims := a.num_spatial_dims, domain_extent := a.domain_extent, num_points := a.num_points,
         dt := a.dt, num_channels := 1, order := 0, num_circle_points := 16, circle_radius := 1 } : BaseStepperArgs
             ℂ) := by
  simp [GeneralLinearStepper_base_args, GeneralLinearStepper_super_args]

theorem GeneralLinearStepper_num_channels_eq (a : GeneralLinearStepperArgs ℂ) : GeneralLinearStepper_num_channels a =
    1 :=
  congrArg BaseStepperArgs.num_channels (GeneralLinearStepper_base_args_eq a)

theorem NormalizedLinearStepper_base_args_eq (a : NormalizedLinearStepperArgs ℂ) :
    NormalizedLinearStepper_base_args a =
      ({ num_spatial_dims := a.num_spatial_dims, domain_extent := 1, num_points := a.num_points, dt := 1,
         num_channels := 1, order := 0, num_circle_points := 16, circle_radius := 1 } : BaseStepperArgs ℂ) := by
  unfold NormalizedLinearStepper_base_args
  rw [NormalizedLinearStepper_super_args_eq, GeneralLinearStepper_base_args_eq]

theorem NormalizedLinearStepper_num_channels_eq (a : NormalizedLinearStepperArgs ℂ) :
    NormalizedLinearStepper_num_channels a = 1 :=
  congrArg BaseStepperArgs.num_channels (NormalizedLinearStepper_base_args_eq a)

theorem DifficultyLinearStepper_base_args_eq (a : DifficultyLinearStepperArgs ℂ) :
    DifficultyLinearStepper_base_args a =
      ({ num_spatial_dims := a.num_spatial_dims, domain_extent := 1, num_points := a.num_points, dt := 1,
         num_channels := 1, order := 0, num_circle_points := 16, circle_radius := 1 } : BaseStepperArgs ℂ) := by
  unfold DifficultyLinearStepper_base_args
  rw [DifficultyLinearStepper_super_args_eq, NormalizedLinearStepper_base_args_eq]

theorem DifficultyLinearStepper_num_channels_eq (a : DifficultyLinearStepperArgs ℂ) :
    DifficultyLinearStepper_num_channels a = 1 :=
  congrArg BaseStepperArgs.num_channels (DifficultyLinearStepper_base_args_eq a)

theorem DifficultyLinearStepperSimple_base_args_eq (a : DifficultyLinearStepperSimpleArgs ℂ) :
    DifficultyLinearStepperSimple_base_args a =
      ({ num_spatial_dims := a.num_spatial_dims, domain_extent := 1, num_points := a.num_points, dt := 1,
         num_channels := 1, order := 0, num_circle_points := 16, circle_radius := 1 } : BaseStepperArgs ℂ) := by
  unfold DifficultyLinearStepperSimple_base_args
  rw [DifficultyLinearStepperSimple_super_args_eq, DifficultyLinearStepper_base_args_eq]

theorem DifficultyLinearStepperSimple_num_channels_eq (a : DifficultyLinearStepperSimpleArgs ℂ) :
    DifficultyLinearStepperSimple_num_channels a = 1 :=
  congrArg BaseStepperArgs.num_channels (DifficultyLinearStepperSimple_base_args_eq a)

theorem GeneralNonlinearStepper_base_args_eq (a : GeneralNonlinearStepperArgs ℂ) :
    GeneralNonlinearStepper_base_args a =
      ({ num_spatial_dims := a.num_spatial_dims, domain_extent := a.domain_extent, num_points := a.num_points,
         dt := a.dt, num_channels := 1, order := a.order, num_circle_points := a.num_circle_points,
         circle_radius := a.circle_radius } : BaseStepperArgs ℂ) := by
  simp [GeneralNonlinearStepper_base_args, GeneralNonlinearStepper_super_args]

theorem GeneralNonlinearStepper_num_channels_eq (a : GeneralNonlinearStepperArgs ℂ) :
    GeneralNonlinearStepper_num_channels a = 1 :=
  congrArg BaseStepperArgs.num_channels (GeneralNonlinearStepper_base_args_eq a)

theorem NormalizedNonlinearStepper_base_args_eq (a : NormalizedNonlinearStepperArgs ℂ) :
    NormalizedNonlinearStepper_base_args a =
      ({ num_spatial_dims := a.num_spatial_dims, domain_extent := 1, num_points := a.num_points, dt := 1,
         num_channels := 1, order := a.order, num_circle_points := a.num_circle_points,
         circle_radius := a.circle_radius } : BaseStepperArgs ℂ) := by
  unfold NormalizedNonlinearStepper_base_args
  rw [NormalizedNonlinearStepper_super_args_eq, GeneralNonlinearStepper_base_args_eq]

theorem NormalizedNonlinearStepper_num_channels_eq (a : NormalizedNonlinearStepperArgs ℂ) :
    NormalizedNonlinearStepper_num_channels a = 1 :=
  congrArg BaseStepperArgs.num_channels (NormalizedNonlinearStepper_base_args_eq a)

theorem DifficultyNonlinearStepper_base_args_eq (a : DifficultyNonlinearStepperArgs ℂ) :
    DifficultyNonlinearStepper_base_args a =
      ({ num_spatial_dims := a.num_spatial_dims, domain_extent := 1, num_points := a.num_points, dt := 1,
         num_channels := 1, order := a.order, num_circle_points := a.num_circle_points,
         circle_radius := a.circle_radius } : BaseStepperArgs ℂ) := by
  unfold DifficultyNonlinearStepper_base_args
  rw [DifficultyNonlinearStepper_super_args_eq, NormalizedNonlinearStepper_base_args_eq]

theorem DifficultyNonlinearStepper_num_channels_eq (a : DifficultyNonlinearStepperArgs ℂ) :
    DifficultyNonlinearStepper_num_channels a = 1 :=
  congrArg BaseStepperArgs.num_channels (DifficultyNonlinearStepper_base_args_eq a)

theorem GeneralPolynomialStepper_base_args_eq (a : GeneralPolynomialStepperArgs ℂ) :
    GeneralPolynomialStepper_base_args a =
      ({ num_spatial_dims := a.num_spatial_dims, domain_extent := a.domain_extent, num_points := a.num_points,
         dt := a.dt, num_channels := 1, order := a.order, num_circle_points := a.num_circle_points,
         circle_radius := a.circle_radius } : BaseStepperArgs ℂ) := by
  simp [GeneralPolynomialStepper_base_args, GeneralPolynomialStepper_super_args]

theorem GeneralPolynomialStepper_num_channels_eq (a : GeneralPolynomialStepperArgs ℂ) :
    GeneralPolynomialStepper_num_channels a = 1 :=
  congrArg BaseStepperArgs.num_channels (GeneralPolynomialStepper_base_args_eq a)

theorem NormalizedPolynomialStepper_base_args_eq (a : NormalizedPolynomialStepperArgs ℂ) :
    NormalizedPolynomialStepper_base_args a =
      ({ num_spatial_dims := a.num_spatial_dims, domain_extent := 1, num_points := a.num_points, dt := 1,
         num_channels := 1, order := a.order, num_circle_points := a.num_circle_points,
         circle_radius := a.circle_radius } : BaseStepperArgs ℂ) := by
  unfold NormalizedPolynomialStepper_base_args
  rw [NormalizedPolynomialStepper_super_args_eq, GeneralPolynomialStepper_base_args_eq]

theorem NormalizedPolynomialStepper_num_channels_eq (a : NormalizedPolynomialStepperArgs ℂ) :
    NormalizedPolynomialStepper_num_channels a = 1 :=
  congrArg BaseStepperArgs.num_channels (NormalizedPolynomialStepper_base_args_eq a)

theorem DifficultyPolynomialStepper_base_args_eq (a : DifficultyPolynomialStepperArgs ℂ) :
    DifficultyPolynomialStepper_base_args a =
      ({ num_spatial_dims := a.num_spatial_dims, domain_extent := 1, num_points := a.num_points, dt := 1,
         num_channels := 1, order := a.order, num_circle_points := a.num_circle_points,
         circle_radius := a.circle_radius } : BaseStepperArgs ℂ) := by
  unfold DifficultyPolynomialStepper_base_args
  rw [DifficultyPolynomialStepper_super_args_eq, NormalizedPolynomialStepper_base_args_eq]

theorem DifficultyPolynomialStepper_num_channels_eq (a : DifficultyPolynomialStepperArgs ℂ) :
    DifficultyPolynomialStepper_num_channels a = 1 :=
  congrArg BaseStepperArgs.num_channels (DifficultyPolynomialStepper_base_args_eq a)

theorem Diffusion_base_args_eq (a : DiffusionArgs ℂ) :
    Diffusion_base_args a =
      ({ num_spatial_dims := a.num_spatial_dims, domain_extent := a.domain_extent, num_points := a.num_points,
         dt := a.dt, num_channels := 1, order := 0, num_circle_points := 16, circle_radius := 1 } : BaseStepperArgs
             ℂ) := by
  simp [Diffusion_base_args, Diffusion_super_args]

theorem Diffusion_num_channels_eq (a : DiffusionArgs ℂ) : Diffusion_num_channels a = 1 :=
  congrArg BaseStepperArgs.num_channels (Diffusion_base_args_eq a)

theorem Dispersion_base_args_eq (a : DispersionArgs ℂ) :
    Dispersion_base_args a =
      ({ num_spatial_dims := a.num_spatial_dims, domain_extent := a.domain_extent, num_points := a.num_points,
         dt := a.dt, num_channels := 1, order := 0, num_circle_points := 16, circle_radius := 1 } : BaseStepperArgs
             ℂ) := by
  simp [Dispersion_base_args, Dispersion_super_args]

theorem Dispersion_num_channels_eq (a : DispersionArgs ℂ) : Dispersion_num_channels a = 1 :=
  congrArg BaseStepperArgs.num_channels (Dispersion_base_args_eq a)

theorem FisherKPP_base_args_eq (a : FisherKPPArgs ℂ) :
    FisherKPP_base_args a =
      ({ num_spatial_dims := a.num_spatial_dims, domain_extent := a.domain_extent, num_points := a.num_points,
         dt := a.dt, num_channels := 1, order := a.order, num_circle_points := a.num_circle_points,
         circle_radius := a.circle_radius } : BaseStepperArgs ℂ) := by
  simp [FisherKPP_base_args, FisherKPP_super_args]

theorem FisherKPP_num_channels_eq (a : FisherKPPArgs ℂ) : FisherKPP_num_channels a = 1 :=
  congrArg BaseStepperArgs.num_channels (FisherKPP_base_args_eq a)

theorem GeneralVorticityConvectionStepper_base_args_eq (a : GeneralVorticityConvectionStepperArgs ℂ) :
    GeneralVorticityConvectionStepper_base_args a =
      ({ num_spatial_dims := a.num_spatial_dims, domain_extent := a.domain_extent, num_points := a.num_points,
         dt := a.dt, num_channels := 1, order := a.order, num_circle_points := a.num_circle_points,
         circle_radius := a.circle_radius } : BaseStepperArgs ℂ) := by
  simp [GeneralVorticityConvectionStepper_base_args, GeneralVorticityConvectionStepper_super_args]

theorem GeneralVorticityConvectionStepper_num_channels_eq (a : GeneralVorticityConvectionStepperArgs ℂ) :
    GeneralVorticityConvectionStepper_num_channels a = 1 :=
  congrArg BaseStepperArgs.num_channels (GeneralVorticityConvectionStepper_base_args_eq a)

theorem GrayScott_base_args_eq (a : GrayScottArgs ℂ) :
    GrayScott_base_args a =
      ({ num_spatial_dims := a.num_spatial_dims, domain_extent := a.domain_extent, num_points := a.num_points,
         dt := a.dt, num_channels := 2, order := a.order, num_circle_points := a.num_circle_points,
         circle_radius := a.circle_radius } : BaseStepperArgs ℂ) := by
  simp [GrayScott_base_args, GrayScott_super_args]

theorem GrayScott_num_channels_eq (a : GrayScottArgs ℂ) : GrayScott_num_channels a = 2 :=
  congrArg BaseStepperArgs.num_channels (GrayScott_base_args_eq a)

theorem HyperDiffusion_base_args_eq (a : HyperDiffusionArgs ℂ) :
    HyperDiffusion_base_args a =
      ({ num_spatial_dims := a.num_spatial_dims, domain_extent := a.domain_extent, num_points := a.num_points,
         dt := a.dt, num_channels := 1, order := 0, num_circle_points := 16, circle_radius := 1 } : BaseStepperArgs
             ℂ) := by
  simp [HyperDiffusion_base_args, HyperDiffusion_super_args]

theorem HyperDiffusion_num_channels_eq (a : HyperDiffusionArgs ℂ) : HyperDiffusion_num_channels a = 1 :=
  congrArg BaseStepperArgs.num_channels (HyperDiffusion_base_args_eq a)

theorem KolmogorovFlowVelocity_base_args_eq (a : KolmogorovFlowVelocityArgs ℂ) :
    KolmogorovFlowVelocity_base_args a =
      ({ num_spatial_dims := a.num_spatial_dims, domain_extent := a.domain_extent, num_points := a.num_points,
         dt := a.dt, num_channels := 3, order := a.order, num_circle_points := a.num_circle_points,
         circle_radius := a.circle_radius } : BaseStepperArgs ℂ) := by
  simp [KolmogorovFlowVelocity_base_args, KolmogorovFlowVelocity_super_args]

theorem KolmogorovFlowVelocity_num_channels_eq (a : KolmogorovFlowVelocityArgs ℂ) :
    KolmogorovFlowVelocity_num_channels a = 3 :=
  congrArg BaseStepperArgs.num_channels (KolmogorovFlowVelocity_base_args_eq a)

theorem KolmogorovFlowVorticity_base_args_eq (a : KolmogorovFlowVorticityArgs ℂ) :
    KolmogorovFlowVorticity_base_args a =
      ({ num_spatial_dims := a.num_spatial_dims, domain_extent := a.domain_extent, num_points := a.num_points,
         dt := a.dt, num_channels := 1, order := a.order, num_circle_points := a.num_circle_points,
         circle_radius := a.circle_radius } : BaseStepperArgs ℂ) := by
  simp [KolmogorovFlowVorticity_base_args, KolmogorovFlowVorticity_super_args]

theorem KolmogorovFlowVorticity_num_channels_eq (a : KolmogorovFlowVorticityArgs ℂ) :
    KolmogorovFlowVorticity_num_channels a = 1 :=
  congrArg BaseStepperArgs.num_channels (KolmogorovFlowVorticity_base_args_eq a)

theorem KortewegDeVries_base_args_eq (a : KortewegDeVriesArgs ℂ) :
    KortewegDeVries_base_args a =
      ({ num_spatial_dims := a.num_spatial_dims, domain_extent := a.domain_extent, num_points := a.num_points,
         dt := a.dt, num_channels := if a.single_channel then 1 else a.num_spatial_dims, order := a.order,
         num_circle_points := a.num_circle_points, circle_radius := a.circle_radius } : BaseStepperArgs ℂ) := by
  simp [KortewegDeVries_base_args, KortewegDeVries_super_args]

theorem KortewegDeVries_num_channels_eq (a : KortewegDeVriesArgs ℂ) : KortewegDeVries_num_channels a = if
    a.single_channel then 1 else a.num_spatial_dims :=
  congrArg BaseStepperArgs.num_channels (KortewegDeVries_base_args_eq a)

theorem KuramotoSivashinsky_base_args_eq (a : KuramotoSivashinskyArgs ℂ) :
    KuramotoSivashinsky_base_args a =
      ({ num_spatial_dims := a.num_spatial_dims, domain_extent := a.domain_extent, num_points := a.num_points,
         dt := a.dt, num_channels := 1, order := a.order, num_circle_points := a.num_circle_points,
         circle_radius := a.circle_radius } : BaseStepperArgs ℂ) := by
  simp [KuramotoSivashinsky_base_args, KuramotoSivashinsky_super_args]

theorem KuramotoSivashinsky_num_channels_eq (a : KuramotoSivashinskyArgs ℂ) : KuramotoSivashinsky_num_channels a = 1
    :=
  congrArg BaseStepperArgs.num_channels (KuramotoSivashinsky_base_args_eq a)

theorem KuramotoSivashinskyConservative_base_args_eq (a : KuramotoSivashinskyConservativeArgs ℂ) :
    KuramotoSivashinskyConservative_base_args a =
      ({ num_spatial_dims := a.num_spatial_dims, domain_extent := a.domain_extent, num_points := a.num_points,
         dt := a.dt, num_channels := if a.single_channel then 1 else a.num_spatial_dims, order := a.order,
         num_circle_points := a.num_circle_points, circle_radius := a.circle_radius } : BaseStepperArgs ℂ) := by
  simp [KuramotoSivashinskyConservative_base_args, KuramotoSivashinskyConservative_super_args]

theorem KuramotoSivashinskyConservative_num_channels_eq (a : KuramotoSivashinskyConservativeArgs ℂ) :
    KuramotoSivashinskyConservative_num_channels a = if a.single_channel then 1 else a.num_spatial_dims :=
  congrArg BaseStepperArgs.num_channels (KuramotoSivashinskyConservative_base_args_eq a)

theorem NavierStokesVelocity_base_args_eq (a : NavierStokesVelocityArgs ℂ) :
    NavierStokesVelocity_base_args a =
      ({ num_spatial_dims := a.num_spatial_dims, domain_extent := a.domain_extent, num_points := a.num_points,
         dt := a.dt, num_channels := 3, order := a.order, num_circle_points := a.num_circle_points,
         circle_radius := a.circle_radius } : BaseStepperArgs ℂ) := by
  simp [NavierStokesVelocity_base_args, NavierStokesVelocity_super_args]

theorem NavierStokesVelocity_num_channels_eq (a : NavierStokesVelocityArgs ℂ) : NavierStokesVelocity_num_channels a =
    3 :=
  congrArg BaseStepperArgs.num_channels (NavierStokesVelocity_base_args_eq a)

theorem NavierStokesVorticity_base_args_eq (a : NavierStokesVorticityArgs ℂ) :
    NavierStokesVorticity_base_args a =
      ({ num_spatial_dims := a.num_spatial_dims, domain_extent := a.domain_extent, num_points := a.num_points,
         dt := a.dt, num_channels := 1, order := a.order, num_circle_points := a.num_circle_points,
         circle_radius := a.circle_radius } : BaseStepperArgs ℂ) := by
  simp [NavierStokesVorticity_base_args, NavierStokesVorticity_super_args]

theorem NavierStokesVorticity_num_channels_eq (a : NavierStokesVorticityArgs ℂ) : NavierStokesVorticity_num_channels
    a = 1 :=
  congrArg BaseStepperArgs.num_channels (NavierStokesVorticity_base_args_eq a)

theorem SwiftHohenberg_base_args_eq (a : SwiftHohenbergArgs ℂ) :
    SwiftHohenberg_base_args a =
      ({ num_spatial_dims := a.num_spatial_dims, domain_extent := a.domain_extent, num_points := a.num_points,
         dt := a.dt, num_channels := 1, order := a.order, num_circle_points := a.num_circle_points,
         circle_radius := a.circle_radius } : BaseStepperArgs ℂ) := by
  simp [SwiftHohenberg_base_args, SwiftHohenberg_super_args]

theorem SwiftHohenberg_num_channels_eq (a : SwiftHohenbergArgs ℂ) : SwiftHohenberg_num_channels a = 1 :=
  congrArg BaseStepperArgs.num_channels (SwiftHohenberg_base_args_eq a)

theorem Wave_base_args_eq (a : WaveArgs ℂ) :
    Wave_base_args a =
      ({ num_spatial_dims := a.num_spatial_dims, domain_extent := a.domain_extent, num_points := a.num_points,
         dt := a.dt, num_channels := 2, order := 0, num_circle_points := 16, circle_radius := 1 } : BaseStepperArgs
             ℂ) := by
  simp [Wave_base_args, Wave_super_args]

theorem Wave_num_channels_eq (a : WaveArgs ℂ) : Wave_num_channels a = 2 :=
  congrArg BaseStepperArgs.num_channels (Wave_base_args_eq a)

/-! ### `Normalized*`: the parent `General*Stepper` receives `denormalize_*` of the user's values at `L = 1`, `dt = 1`
     (the documented conversion), every other argument unchanged (`*_super_args_eq` above); the convection case is
     `C13_normalized_interface` in `Properties/C13_wiring.lean` -/

theorem NormalizedGradientNormStepper_parent_receives_denormalized (a : NormalizedGradientNormStepperArgs ℂ) :
    let g := NormalizedGradientNormStepper_super_args a
    g.domain_extent = 1 ∧
    g.dt = 1 ∧
    g.linear_coefficients = denormalize_coefficients a.normalized_linear_coefficients g.domain_extent g.dt ∧
    g.gradient_norm_scale = denormalize_gradient_norm_scale a.normalized_gradient_norm_scale g.domain_extent g.dt :=
        by
  simp [NormalizedGradientNormStepper_super_args_eq, denormalize_coefficients_one, denormalize_gradient_norm_scale_one]

theorem NormalizedLinearStepper_parent_receives_denormalized (a : NormalizedLinearStepperArgs ℂ) :
    let g := NormalizedLinearStepper_super_args a
    g.domain_extent = 1 ∧
    g.dt = 1 ∧
    g.linear_coefficients = denormalize_coefficients a.normalized_linear_coefficients g.domain_extent g.dt := by
  simp [NormalizedLinearStepper_super_args_eq, denormalize_coefficients_one]

theorem NormalizedNonlinearStepper_parent_receives_denormalized (a : NormalizedNonlinearStepperArgs ℂ) :
    let g := NormalizedNonlinearStepper_super_args a
    g.domain_extent = 1 ∧
    g.dt = 1 ∧
    g.linear_coefficients = denormalize_coefficients a.normalized_linear_coefficients g.domain_extent g.dt ∧
    g.nonlinear_coefficients.1 = a.normalized_nonlinear_coefficients.1 ∧
    g.nonlinear_coefficients.2.1 = denormalize_convection_scale a.normalized_nonlinear_coefficients.2.1
        g.domain_extent g.dt ∧
    g.nonlinear_coefficients.2.2 = denormalize_gradient_norm_scale a.normalized_nonlinear_coefficients.2.2
        g.domain_extent g.dt := by
  simp [NormalizedNonlinearStepper_super_args_eq, denormalize_coefficients_one, denormalize_convection_scale_one,
    denormalize_gradient_norm_scale_one]

theorem NormalizedPolynomialStepper_parent_receives_denormalized (a : NormalizedPolynomialStepperArgs ℂ) :
    let g := NormalizedPolynomialStepper_super_args a
    g.domain_extent = 1 ∧
    g.dt = 1 ∧
    g.linear_coefficients = denormalize_coefficients a.normalized_linear_coefficients g.domain_extent g.dt ∧
    g.polynomial_coefficients = denormalize_polynomial_scales a.normalized_polynomial_coefficients g.domain_extent
        g.dt := by
  simp [NormalizedPolynomialStepper_super_args_eq, denormalize_coefficients_one, denormalize_polynomial_scales_one]

/-! ### `Difficulty*`: the composition difficulty → normalized → `General*Stepper` (documented formulas), every flag
     forwarded unchanged -/

theorem DifficultyConvectionStepper_general_args (a : DifficultyConvectionStepperArgs ℂ) :
    NormalizedConvectionStepper_super_args (DifficultyConvectionStepper_super_args a) =
      ({ num_spatial_dims := a.num_spatial_dims, domain_extent := 1, num_points := a.num_points, dt := 1,
         linear_coefficients := normalizedOfDifficulty a.linear_difficulties a.num_spatial_dims a.num_points,
         convection_scale := a.convection_difficulty / (a.maximum_absolute * a.num_points * a.num_spatial_dims),
         single_channel := a.single_channel, conservative := a.conservative, order := a.order,
         dealiasing_fraction := a.dealiasing_fraction, num_circle_points := a.num_circle_points,
         circle_radius := a.circle_radius } : GeneralConvectionStepperArgs ℂ) := by
  rw [DifficultyConvectionStepper_super_args_eq, NormalizedConvectionStepper_super_args_eq, extract_coefficients_eq, extract_convection_eq]

theorem DifficultyGradientNormStepper_general_args (a : DifficultyGradientNormStepperArgs ℂ) :
    NormalizedGradientNormStepper_super_args (DifficultyGradientNormStepper_super_args a) =
      ({ num_spatial_dims := a.num_spatial_dims, domain_extent := 1, num_points := a.num_points, dt := 1,
         linear_coefficients := normalizedOfDifficulty a.linear_difficulties a.num_spatial_dims a.num_points,
         gradient_norm_scale := a.gradient_norm_difficulty / (a.maximum_absolute * (a.num_points : ℂ) ^ 2 *
             a.num_spatial_dims),
         order := a.order, dealiasing_fraction := a.dealiasing_fraction, num_circle_points := a.num_circle_points,
         circle_radius := a.circle_radius } : GeneralGradientNormStepperArgs ℂ) := by
  rw [DifficultyGradientNormStepper_super_args_eq, NormalizedGradientNormStepper_super_args_eq, extract_coefficients_eq, extract_gradient_norm_eq]

theorem DifficultyLinearStepper_general_args (a : DifficultyLinearStepperArgs ℂ) :
    NormalizedLinearStepper_super_args (DifficultyLinearStepper_super_args a) =
      ({ num_spatial_dims := a.num_spatial_dims, domain_extent := 1, num_points := a.num_points, dt := 1,
         linear_coefficients := normalizedOfDifficulty a.linear_difficulties a.num_spatial_dims a.num_points } :
             GeneralLinearStepperArgs ℂ) := by
  rw [DifficultyLinearStepper_super_args_eq, NormalizedLinearStepper_super_args_eq, extract_coefficients_eq]

theorem DifficultyLinearStepperSimple_general_args (a : DifficultyLinearStepperSimpleArgs ℂ) :
    NormalizedLinearStepper_super_args (DifficultyLinearStepper_super_args (DifficultyLinearStepperSimple_super_args
        a)) =
      ({ num_spatial_dims := a.num_spatial_dims, domain_extent := 1, num_points := a.num_points, dt := 1,
         linear_coefficients := normalizedOfDifficulty (List.replicate a.order 0 ++ [a.difficulty])
             a.num_spatial_dims a.num_points } : GeneralLinearStepperArgs ℂ) := by
  rw [DifficultyLinearStepperSimple_super_args_eq, DifficultyLinearStepper_general_args]

theorem DifficultyNonlinearStepper_general_args (a : DifficultyNonlinearStepperArgs ℂ) :
    NormalizedNonlinearStepper_super_args (DifficultyNonlinearStepper_super_args a) =
      ({ num_spatial_dims := a.num_spatial_dims, domain_extent := 1, num_points := a.num_points, dt := 1,
         linear_coefficients := normalizedOfDifficulty a.linear_difficulties a.num_spatial_dims a.num_points,
         nonlinear_coefficients := (a.nonlinear_difficulties.1, a.nonlinear_difficulties.2.1 / (a.maximum_absolute *
             a.num_points * a.num_spatial_dims), a.nonlinear_difficulties.2.2 / (a.maximum_absolute * (a.num_points :
                 ℂ) ^ 2 * a.num_spatial_dims)),
         order := a.order, dealiasing_fraction := a.dealiasing_fraction, num_circle_points := a.num_circle_points,
         circle_radius := a.circle_radius } : GeneralNonlinearStepperArgs ℂ) := by
  rw [DifficultyNonlinearStepper_super_args_eq, NormalizedNonlinearStepper_super_args_eq, extract_coefficients_eq, extract_nonlinear_eq]

theorem DifficultyPolynomialStepper_general_args (a : DifficultyPolynomialStepperArgs ℂ) :
    NormalizedPolynomialStepper_super_args (DifficultyPolynomialStepper_super_args a) =
      ({ num_spatial_dims := a.num_spatial_dims, domain_extent := 1, num_points := a.num_points, dt := 1,
         linear_coefficients := normalizedOfDifficulty a.linear_difficulties a.num_spatial_dims a.num_points,
         polynomial_coefficients := a.polynomial_difficulties, order := a.order,
         dealiasing_fraction := a.dealiasing_fraction, num_circle_points := a.num_circle_points,
         circle_radius := a.circle_radius } : GeneralPolynomialStepperArgs ℂ) := by
  rw [DifficultyPolynomialStepper_super_args_eq, NormalizedPolynomialStepper_super_args_eq, extract_coefficients_eq]

end Exponax.StepperWiringEq
