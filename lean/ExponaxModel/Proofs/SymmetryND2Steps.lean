import ExponaxModel.Proofs.AxisPermLinStep
/-
C08 — the transposition `transpose2` (`u ↦ uᵀ`, the axis swap `permField 2 N (swap 0 1)`), transforms and steppers.

* `rfftn_transpose2_stored`, `rfftn_transpose2_partner` : the stored mode `(a, l)` of the transposed field is the
  stored mode `(l, a)` of `u` when `a ≤ N/2` (any complex `u`) and the conjugate of the stored partner
  `((−l) mod N, N − a)` when `a > N/2` (real `u`).
* `linStep_transpose2` : a diagonal stepper with multiplier `E` is mapped by the transposition to
  the stepper with multiplier `E'` as soon as the effective FULL-spectrum multipliers (`fullMul`,
  what `E ⊙ ·` followed by the c2r transform does to a real field; `fullCoef_two`) are transposes of each other:
  then the impulse responses are (`kernel_transpose2`), which is all `AxisPerm.linStep_permField` asks for.
* `linStep_transpose2_symbol` (the case `D = 2`, `swap 0 1` of `AxisPerm.linStep_symbol_permField`) : for
  multipliers given by a symbol `σ(k₀,k₁)` of the wavenumbers with `σ(−k) = conj σ(k)`, the transposition maps the
  stepper of `σ` to the stepper of the swapped symbol `σ(k₁,k₀)` ("permuted anisotropic coefficients") PROVIDED, for
  even `N`, `σ` does not see the sign of the Nyquist wavenumber (`σ(−N/2,k) = σ(N/2,k)`, `σ(k,−N/2) = σ(k,N/2)`; true
  for even-order operators).  WITHOUT that proviso the statement is FALSE for the model (and the
  implementation): axis 0 stores the Nyquist wavenumber as `−N/2` (`fftfreq`), the last axis as
  `+N/2` (`rfftfreq`) and the c2r transform takes the real part of the last-axis Nyquist column.
  Counterexample (`N = 4`, `σ(k₀,k₁) = i(k₀+k₁)`, swap-invariant and conj-symmetric):
  `fullMul_counterexample` (the obstruction: the effective multiplier is `−i` at `(2,1)` and `3i` at `(1,2)`) and,
  resting on it, `transpose2_counterexample` (a stepper commuting with the transposition on the unit impulse has an
  impulse response with a transposition-invariant spectrum; here it is `−i` at `(2,1)` and `i` at `(1,2)`).
-/
namespace Exponax.SymmetryND
open Exponax Exponax.Layout Exponax.Transform Exponax.DFT Finset
open Exponax.Gen.Etdrk

theorem kvec_pair (N a l : ℕ) (hl : l ≤ N / 2) :
    AliasND.kvec 2 N (a * (N / 2 + 1) + l) = ![fftfreq N a, (l : ℤ)] := by
  funext d
  show (wnFlat 2 N _).getD (d : ℕ) 0 = _
  rw [wnFlat_two N a l hl]
  fin_cases d <;> rfl

theorem pair_lt_numModes (N a l : ℕ) (ha : a < N) (hl : l ≤ N / 2) : a * (N / 2 + 1) + l < numModes 2 N := by
  rw [numModes_two]
  exact pair_lt ha (Nat.lt_succ_of_le hl)

theorem rfftn_transpose2_stored (N : ℕ) (hN : 0 < N) (u : Array ℂ) (a l : ℕ) (ha : a ≤ N / 2)
    (hl : l ≤ N / 2) :
    (rfftnM 2 N (transpose2 N u)).getD (a * (N / 2 + 1) + l) 0
      = (rfftnM 2 N u).getD (l * (N / 2 + 1) + a) 0 := by
  rw [← AxisPerm.permField_two_eq_transpose2, AliasND.rfftn_eq_dftV 2 N hN _ _ (pair_lt_numModes N a l (by omega) hl),
    AxisPerm.dftV_permField 2 N hN, AliasND.rfftn_eq_dftV 2 N hN u _ (pair_lt_numModes N l a (by omega) ha),
    kvec_pair N a l hl, kvec_pair N l a ha]
  refine AliasND.dftV_of_congr u fun d => Int.modEq_iff_dvd.mp ?_
  fin_cases d
  · exact fftfreq_modEq N l
  · exact (fftfreq_modEq N a).symm

/-- `a > N/2`: for REAL `u` it is the conjugate of the stored mode
    `((−l) mod N, N − a)` of `u` (wavenumbers `(−l, −(a − N))`, the negative of the swapped pair). -/
theorem rfftn_transpose2_partner (N : ℕ) (hN : 0 < N) (u : Array ℂ)
    (hu : ∀ j < N ^ 2, (u.getD j 0).im = 0) (a l : ℕ) (ha : N / 2 < a) (haN : a < N) (hl : l ≤ N / 2) :
    (rfftnM 2 N (transpose2 N u)).getD (a * (N / 2 + 1) + l) 0
      = (starRingEnd ℂ) ((rfftnM 2 N u).getD (((N - l) % N) * (N / 2 + 1) + (N - a)) 0) := by
  rw [← AxisPerm.permField_two_eq_transpose2, AliasND.rfftn_eq_dftV 2 N hN _ _ (pair_lt_numModes N a l haN hl),
    AxisPerm.dftV_permField 2 N hN,
    AliasND.rfftn_eq_dftV 2 N hN u _ (pair_lt_numModes N _ (N - a) (Nat.mod_lt _ hN) (by omega)),
    AliasND.conj_dftV 2 N u hu, kvec_pair N a l hl, kvec_pair N _ (N - a) (by omega)]
  refine AliasND.dftV_of_congr u fun d => Int.modEq_iff_dvd.mp ?_
  fin_cases d
  · have h := ((fftfreq_modEq N _).trans (reflDigit_modEq N l (by omega))).neg
    rwa [neg_neg] at h
  · have h := (natCast_sub_modEq N a haN.le).neg
    rw [neg_neg] at h
    exact h.trans (fftfreq_modEq N a).symm

/-- the effective FULL-spectrum multiplier of the half-spectrum multiplier `E` followed by the c2r
    transform (acting on the spectrum of a real field): `E` on the stored half, the conjugate of
    the partner's `E` on the other half -/
noncomputable def fullMul (N : ℕ) (E : ℕ → ℂ) (a q : ℕ) : ℂ :=
  if q ≤ N / 2 then E (a * (N / 2 + 1) + q)
  else (starRingEnd ℂ) (E (reflDigit N a * (N / 2 + 1) + (N - q)))

section
open Exponax.AxisPerm Exponax.AliasND

theorem fullCoef_two (N : ℕ) (hN : 0 < N) (E : ℕ → ℂ) (κ : Fin 2 → ℤ) :
    fullCoef 2 N (tab (numModes 2 N) E) κ = fullMul N E (resid 2 N κ 0) (resid 2 N κ 1) := by
  have hs : ∀ κ : Fin 2 → ℤ, storedIdx 2 N κ = resid 2 N κ 0 * (N / 2 + 1) + resid 2 N κ 1 := fun κ => by
    show (0 * N + _) * _ + _ = _
    rw [Nat.zero_mul, Nat.zero_add]
  unfold fullCoef fullMul
  rw [show 2 - 1 = 1 from rfl]
  by_cases h : resid 2 N κ 1 ≤ N / 2
  · rw [if_pos h, if_pos h, DFT.tab_getD _ _ _ _ (storedIdx_lt 1 N hN κ h), hs]
  · have h0 : resid 2 N (-κ) 0 = reflDigit N (resid 2 N κ 0) := by
      have := resid_lt 2 N hN κ 0
      rcases resid_neg_cases 2 N hN κ 0 with ⟨z, z'⟩ | ⟨_, e⟩
      · rw [z, z']
        exact (Nat.mod_self N).symm
      · rw [e]
        exact (Nat.mod_eq_of_lt (by omega)).symm
    have h1 : resid 2 N (-κ) 1 = N - resid 2 N κ 1 := by
      rcases resid_neg_cases 2 N hN κ 1 with ⟨z, _⟩ | ⟨_, e⟩
      · omega
      · exact e
    rw [if_neg h, if_neg h, DFT.tab_getD _ _ _ _ (storedIdx_lt 1 N hN (-κ) (resid_neg_last 1 N hN κ h)), hs, h0, h1]

/-- the hypothesis of `linStep_transpose2` says that the impulse responses are transposes of each other -/
theorem kernel_transpose2 (N : ℕ) (hN : 0 < N) (E E' : ℕ → ℂ)
    (hE : ∀ a < N, ∀ q < N, fullMul N E' a q = fullMul N E q a) :
    FieldPerm 2 N (Equiv.swap 0 1) (irfftnM 2 N (tab (numModes 2 N) E)) (irfftnM 2 N (tab (numModes 2 N) E')) := by
  have key : ∀ κ : Fin 2 → ℤ, fullCoef 2 N (tab (numModes 2 N) E') κ
      = fullCoef 2 N (tab (numModes 2 N) E) (κ ∘ Equiv.swap 0 1) := fun κ => by
    rw [fullCoef_two N hN, fullCoef_two N hN, hE _ (resid_lt 2 N hN κ 0) _ (resid_lt 2 N hN κ 1)]
    rfl
  rw [fieldPerm_iff_dftV 2 N hN]
  intro m
  rw [dftV_irfftn_fullCoef 2 N two_pos hN, dftV_irfftn_fullCoef 2 N two_pos hN, key m, key (-m)]
  rfl

end

theorem linStep_transpose2 (N : ℕ) (hN : 0 < N) (E E' : ℕ → ℂ)
    (hE : ∀ a < N, ∀ q < N, fullMul N E' a q = fullMul N E q a) (u : Array ℂ)
    (hu : ∀ j < N ^ 2, (u.getD j 0).im = 0) :
    linStep 2 N E' (transpose2 N u) = transpose2 N (linStep 2 N E u) := by
  rw [← AxisPerm.permField_two_eq_transpose2, ← AxisPerm.permField_two_eq_transpose2]
  exact AxisPerm.linStep_permField 2 N two_pos hN _ E E' (kernel_transpose2 N hN E E' hE) u hu

theorem linStep_iterate_transpose2 (N : ℕ) (hN : 0 < N) (E E' : ℕ → ℂ)
    (hE : ∀ a < N, ∀ q < N, fullMul N E' a q = fullMul N E q a) (n : ℕ) (u : Array ℂ)
    (hu : ∀ j < N ^ 2, (u.getD j 0).im = 0) :
    (linStep 2 N E')^[n] (transpose2 N u) = transpose2 N ((linStep 2 N E)^[n] u) := by
  induction n generalizing u with
  | zero => rfl
  | succ n ih =>
    rw [Function.iterate_succ_apply, Function.iterate_succ_apply,
      linStep_transpose2 N hN E E' hE u hu, ih _ (fun j _ => linStep_im 2 N E u j)]

noncomputable def symMul (N : ℕ) (σ : ℤ → ℤ → ℂ) : ℕ → ℂ :=
  fun h => σ ((wnFlat 2 N h).getD 0 0) ((wnFlat 2 N h).getD 1 0)

theorem symMul_pair (N : ℕ) (σ : ℤ → ℤ → ℂ) (a l : ℕ) (hl : l ≤ N / 2) :
    symMul N σ (a * (N / 2 + 1) + l) = σ (fftfreq N a) (l : ℤ) := by
  simp [symMul, wnFlat_two N a l hl]

theorem linStep_transpose2_symbol (N : ℕ) (hN : 0 < N) (σ : ℤ → ℤ → ℂ)
    (hconj : ∀ k0 k1, σ (-k0) (-k1) = (starRingEnd ℂ) (σ k0 k1))
    (hnyq0 : N % 2 = 0 → ∀ k, σ (-((N / 2 : ℕ) : ℤ)) k = σ ((N / 2 : ℕ) : ℤ) k)
    (hnyq1 : N % 2 = 0 → ∀ k, σ k (-((N / 2 : ℕ) : ℤ)) = σ k ((N / 2 : ℕ) : ℤ))
    (u : Array ℂ) (hu : ∀ j < N ^ 2, (u.getD j 0).im = 0) :
    linStep 2 N (symMul N (fun k0 k1 => σ k1 k0)) (transpose2 N u)
      = transpose2 N (linStep 2 N (symMul N σ) u) := by
  rw [← AxisPerm.permField_two_eq_transpose2, ← AxisPerm.permField_two_eq_transpose2]
  exact AxisPerm.linStep_symbol_permField 2 N two_pos hN (Equiv.swap 0 1) (fun k => σ (k 0) (k 1))
    (fun k => hconj (k 0) (k 1)) (fun k k' hc hk hk' =>
      (AxisPerm.box_congr_apply N (σ · (k 1)) (fun hev => hnyq0 hev _) (hc 0) (hk 0) (hk' 0)).trans
        (AxisPerm.box_congr_apply N (σ (k' 0)) (fun hev => hnyq1 hev _) (hc 1) (hk 1) (hk' 1))) u hu

theorem linStep_transpose2_symmetric (N : ℕ) (hN : 0 < N) (σ : ℤ → ℤ → ℂ)
    (hswap : ∀ k0 k1, σ k1 k0 = σ k0 k1)
    (hconj : ∀ k0 k1, σ (-k0) (-k1) = (starRingEnd ℂ) (σ k0 k1))
    (hnyq : N % 2 = 0 → ∀ k, σ (-((N / 2 : ℕ) : ℤ)) k = σ ((N / 2 : ℕ) : ℤ) k)
    (u : Array ℂ) (hu : ∀ j < N ^ 2, (u.getD j 0).im = 0) :
    linStep 2 N (symMul N σ) (transpose2 N u) = transpose2 N (linStep 2 N (symMul N σ) u) := by
  have h := linStep_transpose2_symbol N hN σ hconj hnyq
    (fun hev k => by rw [← hswap, ← hswap k, hnyq hev]) u hu
  have e : (fun k0 k1 => σ k1 k0) = σ := by
    funext k0 k1
    exact hswap k0 k1
  rwa [e] at h

theorem linStep_transpose2_symbol_odd (N : ℕ) (hodd : N % 2 = 1) (σ : ℤ → ℤ → ℂ)
    (hconj : ∀ k0 k1, σ (-k0) (-k1) = (starRingEnd ℂ) (σ k0 k1))
    (u : Array ℂ) (hu : ∀ j < N ^ 2, (u.getD j 0).im = 0) :
    linStep 2 N (symMul N (fun k0 k1 => σ k1 k0)) (transpose2 N u)
      = transpose2 N (linStep 2 N (symMul N σ) u) :=
  linStep_transpose2_symbol N (by omega) σ hconj (fun h => by omega) (fun h => by omega) u hu

/-- **The Nyquist proviso cannot be dropped.**  For `N = 4` and the swap-invariant,
    conj-symmetric symbol `σ(k₀,k₁) = i(k₀+k₁)` the effective full-spectrum multiplier is NOT
    symmetric: at `(a,q) = (2,1)` it is `σ(−2,1) = −i`, at `(1,2)` it is `σ(1,2) = 3i`. -/
theorem fullMul_counterexample :
    fullMul 4 (symMul 4 (fun k0 k1 => Complex.I * ((k0 : ℂ) + (k1 : ℂ)))) 2 1 = -Complex.I ∧
    fullMul 4 (symMul 4 (fun k0 k1 => Complex.I * ((k0 : ℂ) + (k1 : ℂ)))) 1 2 = 3 * Complex.I := by
  constructor
  · rw [fullMul, if_pos (by norm_num), symMul_pair 4 _ 2 1 (by norm_num)]
    simp only [fftfreq]
    norm_num
  · rw [fullMul, if_pos (by norm_num), symMul_pair 4 _ 1 2 (by norm_num)]
    simp only [fftfreq]
    norm_num
    ring


/-- **`linStep_transpose2_symbol` is false without the Nyquist proviso.**  There are a
    swap-invariant symbol with `σ(−k) = conj σ(k)` and a real field on the `4 × 4` grid for which
    the stepper does NOT commute with the transposition. -/
theorem transpose2_counterexample :
    ∃ (σ : ℤ → ℤ → ℂ) (u : Array ℂ), (∀ k0 k1, σ k1 k0 = σ k0 k1) ∧
      (∀ k0 k1, σ (-k0) (-k1) = (starRingEnd ℂ) (σ k0 k1)) ∧
      (u.size = 4 ^ 2 ∧ ∀ j < 4 ^ 2, (u.getD j 0).im = 0) ∧
      linStep 2 4 (symMul 4 σ) (transpose2 4 u) ≠ transpose2 4 (linStep 2 4 (symMul 4 σ) u) := by
  refine ⟨fun k0 k1 => Complex.I * ((k0 : ℂ) + (k1 : ℂ)), AliasND.delta0 2 4, fun k0 k1 => by ring, fun k0 k1 => ?_,
    ⟨DFT.tab_size _ _, AliasND.delta0_real 2 4⟩, fun heq => ?_⟩
  · simp only [map_mul, map_add, Complex.conj_I, map_intCast]
    push_cast
    ring
  -- the impulse response would have a transposition-invariant spectrum; read off at `(2,1)` and `(1,2)`, with the
  -- partners `(2,3)`, `(3,2)` of the c2r transform
  · rw [← AxisPerm.permField_two_eq_transpose2, ← AxisPerm.permField_two_eq_transpose2] at heq
    have key := AxisPerm.kernel_of_linStep_permField 2 4 two_pos (by norm_num) (Equiv.swap 0 1) _ _ heq ![2, 1]
    rw [AxisPerm.dftV_irfftn_fullCoef 2 4 two_pos (by norm_num), AxisPerm.dftV_irfftn_fullCoef 2 4 two_pos (by norm_num),
      fullCoef_two 4 (by norm_num), fullCoef_two 4 (by norm_num), fullCoef_two 4 (by norm_num),
      fullCoef_two 4 (by norm_num)] at key
    have key' : (fullMul 4 _ 2 1 + (starRingEnd ℂ) (fullMul 4 _ 2 3)) / 2
        = (fullMul 4 _ 1 2 + (starRingEnd ℂ) (fullMul 4 _ 3 2)) / 2 := key
    have f23 : fullMul 4 (symMul 4 fun k0 k1 => Complex.I * ((k0 : ℂ) + (k1 : ℂ))) 2 3 = Complex.I := by
      rw [fullMul, if_neg (by norm_num), symMul_pair 4 _ _ _ (by norm_num)]
      simp only [fftfreq, reflDigit]
      norm_num
    have f32 : fullMul 4 (symMul 4 fun k0 k1 => Complex.I * ((k0 : ℂ) + (k1 : ℂ))) 3 2 = Complex.I := by
      rw [fullMul, if_pos (by norm_num), symMul_pair 4 _ 3 2 (by norm_num)]
      simp only [fftfreq]
      norm_num
    rw [fullMul_counterexample.1, fullMul_counterexample.2, f23, f32] at key'
    have := congrArg Complex.im key'
    norm_num at this

example : ∃ (N a l : ℕ), 0 < N ∧ N / 2 < a ∧ a < N ∧ l ≤ N / 2 := ⟨4, 3, 1, by norm_num⟩
example : ∃ (N a l : ℕ), 0 < N ∧ a ≤ N / 2 ∧ l ≤ N / 2 := ⟨4, 2, 1, by norm_num⟩

example (N : ℕ) : ∃ u : Array ℂ, ∀ j < N ^ 2, (u.getD j 0).im = 0 :=
  ⟨tab (N ^ 2) (fun _ => 1), fun j hj => by rw [DFT.tab_getD _ _ _ _ hj]; simp⟩

/-- symbols satisfying all hypotheses of `linStep_transpose2_symmetric` exist for every `N`
    (the heat-kernel-like `σ = k₀² + k₁²`) -/
example (N : ℕ) : ∃ σ : ℤ → ℤ → ℂ, (∀ k0 k1, σ k1 k0 = σ k0 k1) ∧
    (∀ k0 k1, σ (-k0) (-k1) = (starRingEnd ℂ) (σ k0 k1)) ∧
    (N % 2 = 0 → ∀ k, σ (-((N / 2 : ℕ) : ℤ)) k = σ ((N / 2 : ℕ) : ℤ) k) :=
  ⟨fun k0 k1 => (((k0 ^ 2 + k1 ^ 2 : ℤ) : ℝ) : ℂ),
    fun k0 k1 => by beta_reduce; rw [add_comm],
    fun k0 k1 => by beta_reduce; rw [Complex.conj_ofReal, neg_sq, neg_sq],
    fun _ k => by beta_reduce; rw [neg_sq]⟩

/-- pairs `E`, `E'` satisfying the hypothesis of `linStep_transpose2` exist -/
example (N : ℕ) : ∃ E E' : ℕ → ℂ, ∀ a < N, ∀ q < N, fullMul N E' a q = fullMul N E q a :=
  ⟨fun _ => 1, fun _ => 1, fun a _ q _ => by simp [fullMul]⟩

example : ∃ N : ℕ, N % 2 = 1 := ⟨3, rfl⟩

end Exponax.SymmetryND
