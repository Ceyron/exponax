import ExponaxModel.Proofs.DiffTermsCalc
import Mathlib.Analysis.Calculus.FDeriv.Pi
import Mathlib.Analysis.Calculus.FDeriv.Linear
import Mathlib.Topology.Algebra.Module.FiniteDimension
import Mathlib.LinearAlgebra.Complex.FiniteDimensional
/-
C07 support: the state spaces.  `Phys C G = Fin C → Fin G → ℝ` are the physical grid states (`C` channels, `G = N^D`
points), `Spec C M = Fin C → Fin M → ℂ` the stored spectra (`M = modes c`) as a real normed space.

`physMap c C C' term = read ∘ irfftn ∘ term ∘ rfftn ∘ embed` and `specMap c C C' term = read ∘ term ∘ embed` are the maps
the theorems are about; `term : MC ℂ → MC ℂ` is a model term (`Exponax.Nonlin.convection c C scale single conservative`, …).
`TermCalc term jvp` says the term carries every `FunAlg₂` relation with tangent `jvp (point) (direction)`; `TermLin term`
that it carries every `FunMod₂` relation with the term itself as tangent (ℝ-linear terms).
-/
namespace Exponax.DiffTerms
open Exponax Exponax.Transform Exponax.Nonlin

abbrev Phys (C G : ℕ) := Fin C → Fin G → ℝ
abbrev Spec (C M : ℕ) := Fin C → Fin M → ℂ

noncomputable def embP (C G : ℕ) (u : Phys C G) : MC ℂ :=
  tab2 C G (fun ch j => if h : ch < C ∧ j < G then ((u ⟨ch, h.1⟩ ⟨j, h.2⟩ : ℝ) : ℂ) else 0)

noncomputable def embS (C M : ℕ) (x : Spec C M) : MC ℂ :=
  tab2 C M (fun ch m => if h : ch < C ∧ m < M then x ⟨ch, h.1⟩ ⟨m, h.2⟩ else 0)

noncomputable def readP (C G : ℕ) (a : MC ℂ) : Phys C G := fun ch j => (at2 a ch j).re

noncomputable def readS (C M : ℕ) (a : MC ℂ) : Spec C M := fun ch m => at2 a ch m

noncomputable def fftC (c : Cfg ℂ) (C : ℕ) (u : MC ℂ) : MC ℂ := tabC C (fun ch => rfftnM c.D c.N (u.getD ch #[]))

noncomputable def ifftC (c : Cfg ℂ) (C : ℕ) (uh : MC ℂ) : MC ℂ := tabC C (fun ch => irfftnM c.D c.N (uh.getD ch #[]))

noncomputable def physMap (c : Cfg ℂ) (C C' : ℕ) (term : MC ℂ → MC ℂ) (u : Phys C (gridSize c)) : Phys C' (gridSize c) :=
  readP C' (gridSize c) (ifftC c C' (term (fftC c C (embP C (gridSize c) u))))

noncomputable def physJvp (c : Cfg ℂ) (C C' : ℕ) (jvp : MC ℂ → MC ℂ → MC ℂ) (u v : Phys C (gridSize c)) :
    Phys C' (gridSize c) :=
  readP C' (gridSize c) (ifftC c C' (jvp (fftC c C (embP C (gridSize c) u)) (fftC c C (embP C (gridSize c) v))))

noncomputable def specMap (c : Cfg ℂ) (C C' : ℕ) (term : MC ℂ → MC ℂ) (x : Spec C (modes c)) : Spec C' (modes c) :=
  readS C' (modes c) (term (embS C (modes c) x))

noncomputable def specJvp (c : Cfg ℂ) (C C' : ℕ) (jvp : MC ℂ → MC ℂ → MC ℂ) (x v : Spec C (modes c)) : Spec C' (modes c) :=
  readS C' (modes c) (jvp (embS C (modes c) x) (embS C (modes c) v))

theorem at2_embP (C G : ℕ) (u : Phys C G) (ch : Fin C) (j : Fin G) : at2 (embP C G u) ch j = ((u ch j : ℝ) : ℂ) := by
  unfold embP
  rw [at2_tab2 _ _ _ _ _ ch.2 j.2, dif_pos ⟨ch.2, j.2⟩]

theorem at2_embS (C M : ℕ) (x : Spec C M) (ch : Fin C) (m : Fin M) : at2 (embS C M x) ch m = x ch m := by
  unfold embS
  rw [at2_tab2 _ _ _ _ _ ch.2 m.2, dif_pos ⟨ch.2, m.2⟩]

theorem readP_embP (C G : ℕ) (u : Phys C G) : readP C G (embP C G u) = u := by
  funext ch j
  simp only [readP, at2_embP, Complex.ofReal_re]

theorem readS_embS (C M : ℕ) (x : Spec C M) : readS C M (embS C M x) = x := by
  funext ch m
  simp only [readS, at2_embS]

section Rel
variable {X Y : Type} {R : (X → ℂ) → (Y → ℂ) → Prop}

theorem fftC_rel (hM : FunMod₂ R) (c : Cfg ℂ) (C : ℕ) {f : X → MC ℂ} {f' : Y → MC ℂ} (hf : RelM R f f') :
    RelM R (fun x => fftC c C (f x)) (fun v => fftC c C (f' v)) :=
  hM.tabC_rel C _ _ (fun ch _ => hM.rfftnM_rel c.D c.N _ _ (hf.row ch))

theorem ifftC_rel (hM : FunMod₂ R) (c : Cfg ℂ) (C : ℕ) {f : X → MC ℂ} {f' : Y → MC ℂ} (hf : RelM R f f') :
    RelM R (fun x => ifftC c C (f x)) (fun v => ifftC c C (f' v)) :=
  hM.tabC_rel C _ _ (fun ch _ => hM.irfftnM_rel c.D c.N _ _ (hf.row ch))

end Rel

section Emb
variable {C G : ℕ}

noncomputable def coordP (ch : Fin C) (j : Fin G) : Phys C G →L[ℝ] ℂ :=
  Complex.ofRealCLM.comp ((ContinuousLinearMap.proj (R := ℝ) (φ := fun _ : Fin G => ℝ) j).comp
    (ContinuousLinearMap.proj (R := ℝ) (φ := fun _ : Fin C => Fin G → ℝ) ch))

theorem coordP_apply (ch : Fin C) (j : Fin G) (u : Phys C G) : coordP ch j u = ((u ch j : ℝ) : ℂ) := rfl

noncomputable def coordS {M : ℕ} (ch : Fin C) (m : Fin M) : Spec C M →L[ℝ] ℂ :=
  (ContinuousLinearMap.proj (R := ℝ) (φ := fun _ : Fin M => ℂ) m).comp
    (ContinuousLinearMap.proj (R := ℝ) (φ := fun _ : Fin C => Fin M → ℂ) ch)

theorem coordS_apply {M : ℕ} (ch : Fin C) (m : Fin M) (x : Spec C M) : coordS ch m x = x ch m := rfl

theorem embP_rel {R : (Phys C G → ℂ) → (Phys C G → ℂ) → Prop} (hM : FunMod₂ R)
    (hclm : ∀ L : Phys C G →L[ℝ] ℂ, R (fun x => L x) (fun v => L v)) : RelM R (embP C G) (embP C G) := by
  intro ch j
  unfold embP
  refine hM.tab2_rel _ _ _ _ (fun ch hc j hj => ?_) ch j
  have e : (fun x : Phys C G => if h : ch < C ∧ j < G then ((x ⟨ch, h.1⟩ ⟨j, h.2⟩ : ℝ) : ℂ) else 0)
      = fun x => coordP ⟨ch, hc⟩ ⟨j, hj⟩ x := funext fun x => by rw [dif_pos ⟨hc, hj⟩]; rfl
  rw [e]
  exact hclm _

theorem embS_rel {M : ℕ} {R : (Spec C M → ℂ) → (Spec C M → ℂ) → Prop} (hM : FunMod₂ R)
    (hclm : ∀ L : Spec C M →L[ℝ] ℂ, R (fun x => L x) (fun v => L v)) : RelM R (embS C M) (embS C M) := by
  intro ch m
  unfold embS
  refine hM.tab2_rel _ _ _ _ (fun ch hc m hm => ?_) ch m
  have e : (fun x : Spec C M => if h : ch < C ∧ m < M then x ⟨ch, h.1⟩ ⟨m, h.2⟩ else 0)
      = fun x => coordS ⟨ch, hc⟩ ⟨m, hm⟩ x := funext fun x => by rw [dif_pos ⟨hc, hm⟩]; rfl
  rw [e]
  exact hclm _

end Emb

section Read
variable {X : Type} [NormedAddCommGroup X] [NormedSpace ℝ X]

theorem contDiff_readP {n : WithTop ℕ∞} (C G : ℕ) (F : X → MC ℂ)
    (hF : RelM (lift₁ (fun g : X → ℂ => ContDiff ℝ n g)) F F) : ContDiff ℝ n (fun x => readP C G (F x)) :=
  contDiff_pi.2 (fun ch => contDiff_pi.2 (fun j => Complex.reCLM.contDiff.comp (hF ch j)))

theorem contDiff_readS {n : WithTop ℕ∞} (C M : ℕ) (F : X → MC ℂ)
    (hF : RelM (lift₁ (fun g : X → ℂ => ContDiff ℝ n g)) F F) : ContDiff ℝ n (fun x => readS C M (F x)) :=
  contDiff_pi.2 (fun ch => contDiff_pi.2 (fun m => hF ch m))

theorem hasFDerivAt_readP (C G : ℕ) (u : X) (F F' : X → MC ℂ) (hF : RelM (HasFD u) F F') :
    ∃ L : X →L[ℝ] Phys C G, HasFDerivAt (fun x => readP C G (F x)) L u ∧ ∀ v, L v = readP C G (F' v) := by
  choose L hL hv using hF
  refine ⟨ContinuousLinearMap.pi (fun ch : Fin C => ContinuousLinearMap.pi (fun j : Fin G =>
    Complex.reCLM.comp (L ch j))), ?_, fun v => ?_⟩
  · refine hasFDerivAt_pi.2 (fun ch => hasFDerivAt_pi.2 (fun j => ?_))
    exact Complex.reCLM.hasFDerivAt.comp u (hL ch j)
  · funext ch j
    simp only [readP, ContinuousLinearMap.pi_apply, ContinuousLinearMap.comp_apply, hv, Complex.reCLM_apply]

theorem hasFDerivAt_readS (C M : ℕ) (u : X) (F F' : X → MC ℂ) (hF : RelM (HasFD u) F F') :
    ∃ L : X →L[ℝ] Spec C M, HasFDerivAt (fun x => readS C M (F x)) L u ∧ ∀ v, L v = readS C M (F' v) := by
  choose L hL hv using hF
  refine ⟨ContinuousLinearMap.pi (fun ch : Fin C => ContinuousLinearMap.pi (fun m : Fin M => L ch m)), ?_, fun v => ?_⟩
  · exact hasFDerivAt_pi.2 (fun ch => hasFDerivAt_pi.2 (fun m => hL ch m))
  · funext ch m
    simp only [readS, ContinuousLinearMap.pi_apply, hv]

end Read

section ReadLin
variable {X : Type} [AddCommGroup X] [Module ℝ X]

theorem isLinearMap_readP (C G : ℕ) (F : X → MC ℂ)
    (hF : RelM (lift₁ (fun g : X → ℂ => IsLinearMap ℝ g)) F F) : IsLinearMap ℝ (fun x => readP C G (F x)) :=
  ⟨fun x y => by funext ch j; simp only [readP, (hF ch j).map_add, Complex.add_re, Pi.add_apply],
   fun r x => by
    funext ch j
    simp only [readP, (hF ch j).map_smul, Complex.real_smul, Complex.re_ofReal_mul, Pi.smul_apply, smul_eq_mul]⟩

theorem isLinearMap_readS (C M : ℕ) (F : X → MC ℂ)
    (hF : RelM (lift₁ (fun g : X → ℂ => IsLinearMap ℝ g)) F F) : IsLinearMap ℝ (fun x => readS C M (F x)) :=
  ⟨fun x y => by funext ch m; simp only [readS, (hF ch m).map_add, Pi.add_apply],
   fun r x => by funext ch m; simp only [readS, (hF ch m).map_smul, Pi.smul_apply]⟩

end ReadLin

section LinearFD
variable {X Y : Type} [NormedAddCommGroup X] [NormedSpace ℝ X] [FiniteDimensional ℝ X]
  [NormedAddCommGroup Y] [NormedSpace ℝ Y] {f : X → Y}

noncomputable def _root_.IsLinearMap.toCLM (hf : IsLinearMap ℝ f) : X →L[ℝ] Y :=
  LinearMap.toContinuousLinearMap hf.mk'

theorem _root_.IsLinearMap.toCLM_apply (hf : IsLinearMap ℝ f) (v : X) : hf.toCLM v = f v := rfl

theorem _root_.IsLinearMap.hasFDerivAt_toCLM (hf : IsLinearMap ℝ f) (u : X) : HasFDerivAt f hf.toCLM u :=
  hf.toCLM.hasFDerivAt

theorem _root_.IsLinearMap.fderiv_apply (hf : IsLinearMap ℝ f) (u v : X) : fderiv ℝ f u v = f v :=
  congrArg (fun L : X →L[ℝ] Y => L v) (hf.hasFDerivAt_toCLM u).fderiv

theorem _root_.IsLinearMap.contDiff (hf : IsLinearMap ℝ f) {n : WithTop ℕ∞} : ContDiff ℝ n f :=
  hf.toCLM.contDiff

end LinearFD

structure TermCalc (term : MC ℂ → MC ℂ) (jvp : MC ℂ → MC ℂ → MC ℂ) : Prop where
  rel : ∀ {X Y : Type} (R : (X → ℂ) → (Y → ℂ) → Prop) (u : X), FunAlg₂ R u → ∀ (f : X → MC ℂ) (f' : Y → MC ℂ),
    RelM R f f' → RelM R (fun x => term (f x)) (fun v => jvp (f u) (f' v))

structure TermLin (term : MC ℂ → MC ℂ) : Prop where
  rel : ∀ {X Y : Type} (R : (X → ℂ) → (Y → ℂ) → Prop), FunMod₂ R → ∀ (f : X → MC ℂ) (f' : Y → MC ℂ),
    RelM R f f' → RelM R (fun x => term (f x)) (fun v => term (f' v))

theorem TermLin.termCalc {term : MC ℂ → MC ℂ} (h : TermLin term) : TermCalc term (fun _ vh => term vh) :=
  ⟨fun R _ hR f f' hf => h.rel R hR.toFunMod₂ f f' hf⟩

namespace TermCalc
variable {term : MC ℂ → MC ℂ} {jvp : MC ℂ → MC ℂ → MC ℂ} (h : TermCalc term jvp)
include h

/-- C07: `irfftn ∘ term ∘ rfftn` is `C^n` for every `n` (in particular `n = ⊤`, `ω`) -/
theorem physMap_contDiff (c : Cfg ℂ) (C C' : ℕ) (n : WithTop ℕ∞) : ContDiff ℝ n (physMap c C C' term) := by
  have hA := funAlg₂_contDiff (X := Phys C (gridSize c)) n 0
  have hM := hA.toFunMod₂
  exact contDiff_readP C' (gridSize c) _
    (ifftC_rel hM c C' (h.rel _ 0 hA _ _ (fftC_rel hM c C (embP_rel hM (fun L => L.contDiff)))))

theorem specMap_contDiff (c : Cfg ℂ) (C C' : ℕ) (n : WithTop ℕ∞) : ContDiff ℝ n (specMap c C C' term) := by
  have hA := funAlg₂_contDiff (X := Spec C (modes c)) n 0
  exact contDiff_readS C' (modes c) _ (h.rel _ 0 hA _ _ (embS_rel hA.toFunMod₂ (fun L => L.contDiff)))

/-- C07: the Fréchet derivative of `irfftn ∘ term ∘ rfftn` at `u` is
    `v ↦ irfftn (jvp (rfftn u) (rfftn v))` -/
theorem physMap_hasFDerivAt (c : Cfg ℂ) (C C' : ℕ) (u : Phys C (gridSize c)) :
    ∃ L : Phys C (gridSize c) →L[ℝ] Phys C' (gridSize c),
      HasFDerivAt (physMap c C C' term) L u ∧ ∀ v, L v = physJvp c C C' jvp u v := by
  have hA := funAlg₂_hasFD u
  have hM := hA.toFunMod₂
  exact hasFDerivAt_readP C' (gridSize c) u _ _
    (ifftC_rel hM c C' (h.rel _ u hA _ _ (fftC_rel hM c C (embP_rel hM (HasFD.of_clm u)))))

theorem physMap_fderiv (c : Cfg ℂ) (C C' : ℕ) (u v : Phys C (gridSize c)) :
    fderiv ℝ (physMap c C C' term) u v = physJvp c C C' jvp u v := by
  obtain ⟨L, hL, hv⟩ := h.physMap_hasFDerivAt c C C' u
  rw [hL.fderiv, hv]

theorem specMap_hasFDerivAt (c : Cfg ℂ) (C C' : ℕ) (x : Spec C (modes c)) :
    ∃ L : Spec C (modes c) →L[ℝ] Spec C' (modes c),
      HasFDerivAt (specMap c C C' term) L x ∧ ∀ v, L v = specJvp c C C' jvp x v := by
  have hA := funAlg₂_hasFD x
  exact hasFDerivAt_readS C' (modes c) x _ _ (h.rel _ x hA _ _ (embS_rel hA.toFunMod₂ (HasFD.of_clm x)))

theorem specMap_fderiv (c : Cfg ℂ) (C C' : ℕ) (x v : Spec C (modes c)) :
    fderiv ℝ (specMap c C C' term) x v = specJvp c C C' jvp x v := by
  obtain ⟨L, hL, hv⟩ := h.specMap_hasFDerivAt c C C' x
  rw [hL.fderiv, hv]

end TermCalc

namespace TermLin
variable {term : MC ℂ → MC ℂ} (h : TermLin term)
include h

theorem physMap_isLinearMap (c : Cfg ℂ) (C C' : ℕ) : IsLinearMap ℝ (physMap c C C' term) := by
  have hM := funMod₂_linear (X := Phys C (gridSize c))
  exact isLinearMap_readP C' (gridSize c) _
    (ifftC_rel hM c C' (h.rel _ hM _ _ (fftC_rel hM c C (embP_rel hM (fun L => L.toLinearMap.isLinear)))))

theorem specMap_isLinearMap (c : Cfg ℂ) (C C' : ℕ) : IsLinearMap ℝ (specMap c C C' term) := by
  have hM := funMod₂_linear (X := Spec C (modes c))
  exact isLinearMap_readS C' (modes c) _ (h.rel _ hM _ _ (embS_rel hM (fun L => L.toLinearMap.isLinear)))

theorem physMap_fderiv (c : Cfg ℂ) (C C' : ℕ) (u v : Phys C (gridSize c)) :
    fderiv ℝ (physMap c C C' term) u v = physMap c C C' term v :=
  (h.physMap_isLinearMap c C C').fderiv_apply u v

theorem specMap_fderiv (c : Cfg ℂ) (C C' : ℕ) (x v : Spec C (modes c)) :
    fderiv ℝ (specMap c C C' term) x v = specMap c C C' term v :=
  (h.specMap_isLinearMap c C C').fderiv_apply x v

end TermLin

end Exponax.DiffTerms
