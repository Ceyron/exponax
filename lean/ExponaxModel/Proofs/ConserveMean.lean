import ExponaxModel.Proofs.StoredModes
import ExponaxModel.Proofs.DFTnD
import ExponaxModel.Proofs.LerayAlgebra
import ExponaxModel.Proofs.OperatorAlgebra
import ExponaxModel.Proofs.AliasND2Grad
import ExponaxModel.Proofs.ConserveVorticity
import ExponaxModel.Proofs.ConserveEtdrk
/-
C09 — the stored mean mode (flat index `h = 0`) of the nonlinear terms of
`Model/Nonlin.lean` at `K := ℂ`.
-/
namespace Exponax.Conserve
open Exponax Exponax.Layout Exponax.Transform Exponax.DFT Exponax.Nonlin Exponax.Alias Finset

theorem convection_conservative_mean (c : Cfg ℂ) (C : ℕ) (scale : ℂ) (single : Bool) (uh : MC ℂ)
    (ch : ℕ) : at2 (convection c C scale single true uh) ch 0 = 0 := by
  cases single
  · unfold convection
    simp only [Bool.false_eq_true, ↓reduceIte]
    apply at2_tab2_zero
    intro i
    rw [sumList_range_zero _ _ (fun j => by rw [deriv_zero_mode, zero_mul])]
    ring
  · unfold convection
    simp only [↓reduceIte]
    apply at2_tab2_zero
    intro i
    rw [sumList_range_zero _ _ (fun d => deriv_zero_mode c d)]
    ring

theorem cahnHilliard_mean (c : Cfg ℂ) (scale : ℂ) (uh : MC ℂ) (ch : ℕ) :
    at2 (cahnHilliard c scale uh) ch 0 = 0 := by
  unfold cahnHilliard
  simp only []
  apply at2_tab2_zero
  intro i
  rw [laplace_zero_mode]
  ring

/-- `GradientNormNonlinearFun` with `zero_mode_fix=True`: the mean has been subtracted on the grid -/
theorem gradientNorm_zeroFix_mean (c : Cfg ℂ) (hN : 0 < c.N) (C : ℕ) (scale : ℂ) (uh : MC ℂ)
    (ch : ℕ) : at2 (gradientNorm c C scale true uh) ch 0 = 0 := by
  rcases Nat.lt_or_ge ch C with hch | hch
  · rw [AliasND.gradientNorm_nd_readoff c hN C scale true uh ch hch 0 (modes_pos c hN)]
    simp only [AliasND.gradSq, if_true]
    rw [AliasND.dftV_sub_mean_zero c.D c.N hN, mul_zero, mul_zero, mul_zero]
  · unfold gradientNorm
    simp only []
    exact at2_tab2_of_le_ch _ _ _ _ _ hch

theorem leray_mean (c : Cfg ℂ) (hN : 0 < c.N) (uh : MC ℂ) (d : ℕ) (hd : d < c.D) :
    at2 (leray c uh) d 0 = at2 uh d 0 := by
  rw [at2_leray c uh d 0 hd (modes_pos c hN), deriv_zero_mode]
  ring

theorem projected3d_mean (c : Cfg ℂ) (hN : 0 < c.N) (hD : c.D = 3) (uh : MC ℂ) (i : ℕ) (hi : i < 3) :
    at2 (projected3d c none uh) i 0
      = mask c 0 * ∑ x ∈ range (gridSize c), crossGrid c uh i x := by
  rw [projected3d_none_eq c uh i 0 hi (modes_pos c hN), leray_mean c hN _ i (by omega),
    at2_tabC _ _ _ _ hi, nfft_zero_mode c hN,
    Finset.sum_congr rfl fun x hx => DFT.tab_getD _ _ _ _ (Finset.mem_range.mp hx)]

/-- `GeneralNonlinearFun` with the zero-mode fix: at the mean mode only the quadratic polynomial
    part survives -/
theorem general_zeroFix_mean (c : Cfg ℂ) (hN : 0 < c.N) (C : ℕ) (s0 s1 s2 : ℂ) (uh : MC ℂ) (ch : ℕ)
    (hch : ch < C) :
    at2 (general c C s0 s1 s2 true uh) ch 0 = at2 (polynomial c C [0, 0, s0] uh) ch 0 := by
  unfold general
  simp only []
  rw [at2_tab2 _ _ _ _ _ hch (modes_pos c hN), convection_conservative_mean,
    gradientNorm_zeroFix_mean c hN]
  ring

section
open Exponax.Gen.Etdrk

/-- gradient-norm nonlinearity (KS in combustion form) with the zero-mode fix: the mean is kept -/
theorem etdrk_mean_gradientNorm (c : Cfg ℂ) (hN : 0 < c.N) (scale : ℂ)
    (E Eh a1 a2 a3 a4 a5 a6 : ℕ → ℂ) (hE : E 0 = 1) (n : ℕ) (u : ℕ → ℂ) :
    ((E4step E Eh a1 a2 a3 a4 a5 a6 (liftNl c (gradientNorm c 1 scale true)))^[n] u) 0 = u 0 :=
  mean_E4step_iterate E Eh a1 a2 a3 a4 a5 a6 _ hE
    (fun _ => gradientNorm_zeroFix_mean c hN 1 scale _ 0) n u

end

end Exponax.Conserve
