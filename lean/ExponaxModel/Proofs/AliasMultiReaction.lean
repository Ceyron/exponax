import ExponaxModel.Proofs.AliasMultiOperators2
/-
C03 in `D` variables, link to the model, the reaction terms: the Cahn–Hilliard term `b·Δ(u³)`
(`CahnHilliardNonlinearFun`, `b = ν·c₃`, the documented `uₜ = ν Δ(c₃u³ + …)`) and the two Gray–Scott reaction terms
`f(1 − u) − u v²`, `−(f + k) v + u v²` (`GrayScottNonlinearFun`) as CONTINUOUS OPERATORS applied to the continuous
band-truncated fields `P_K u = PKfield c s x`, with the 1/2 rule `4·Kc < N`.  Here: the operators, their coefficient
families, and `N^D ×` the Cahn–Hilliard coefficient as the model's alias-free form; the statements about the model terms
are `C03_cahn_hilliard_is_continuous_operator_nd`, `C03_gray_scott_is_continuous_operator_nd`.
-/
namespace Exponax.AliasMulti
open Exponax Exponax.Layout Exponax.Transform Exponax.DFT Exponax.Nonlin Exponax.Alias Exponax.AliasND Finset

/-- `b·Δ(u³) = b·Σ_d ∂_d ∂_d (u³)` (`CahnHilliardNonlinearFun`, `b = scale = ν·c₃`) -/
noncomputable def opCH {D : ℕ} (b : ℂ) (u : (Fin D → ℝ) → ℂ) : (Fin D → ℝ) → ℂ :=
  fun ξ => b * ∑ d : Fin D, pderiv d (pderiv d (fun η => u η * u η * u η)) ξ

noncomputable def chCoef {D : ℕ} (s : ℝ) (K : ℤ) (b : ℂ) (U : (Fin D → ℤ) → ℂ) : (Fin D → ℤ) → ℂ :=
  fun r => b * ∑ d : Fin D, dcoef s d (dcoef s d (conv3 K U U U)) r

noncomputable def opGS0 {D : ℕ} (f : ℂ) (u v : (Fin D → ℝ) → ℂ) : (Fin D → ℝ) → ℂ :=
  fun ξ => f * (1 - u ξ) - u ξ * v ξ * v ξ

noncomputable def opGS1 {D : ℕ} (f k : ℂ) (u v : (Fin D → ℝ) → ℂ) : (Fin D → ℝ) → ℂ :=
  fun ξ => -(f + k) * v ξ + u ξ * v ξ * v ξ

noncomputable def gs0Coef {D : ℕ} (K : ℤ) (f : ℂ) (U V : (Fin D → ℤ) → ℂ) : (Fin D → ℤ) → ℂ :=
  fun r => f * ((if r = 0 then 1 else 0) - truncV K U r) - conv3 K U V V r

noncomputable def gs1Coef {D : ℕ} (K : ℤ) (f k : ℂ) (U V : (Fin D → ℤ) → ℂ) : (Fin D → ℤ) → ℂ :=
  fun r => -(f + k) * truncV K V r + conv3 K U V V r

theorem opCH_hasCoeffs {D : ℕ} {s : ℝ} {K : ℤ} (b : ℂ) {u : (Fin D → ℝ) → ℂ} {U : (Fin D → ℤ) → ℂ}
    (hu : HasCoeffs s K u U) : HasCoeffs s (K + K + K) (opCH b u) (chCoef s K b U) := by
  unfold opCH chCoef
  exact hasCoeffs_smul b
    (hasCoeffs_sum Finset.univ _ _ (fun d _ => hasCoeffs_pderiv d (hasCoeffs_pderiv d (hasCoeffs_mul3 hu hu hu))))

/-- both derivatives in `opCH` are honest (`pderiv` is defined through `deriv`) -/
theorem opCH_derivs {D : ℕ} {s : ℝ} {K : ℤ} {u : (Fin D → ℝ) → ℂ} {U : (Fin D → ℤ) → ℂ}
    (hu : HasCoeffs s K u U) (d : Fin D) (ξ : Fin D → ℝ) :
    HasDerivAt (fun t : ℝ => (fun η => u η * u η * u η) (Function.update ξ d t))
      (pderiv d (fun η => u η * u η * u η) ξ) (ξ d) ∧
    HasDerivAt (fun t : ℝ => pderiv d (fun η => u η * u η * u η) (Function.update ξ d t))
      (pderiv d (pderiv d (fun η => u η * u η * u η)) ξ) (ξ d) :=
  ⟨hasCoeffs_hasDerivAt (hasCoeffs_mul3 hu hu hu) d ξ,
    hasCoeffs_hasDerivAt (hasCoeffs_pderiv d (hasCoeffs_mul3 hu hu hu)) d ξ⟩

theorem opGS0_hasCoeffs {D : ℕ} {s : ℝ} {K : ℤ} (hK : 0 ≤ K) (f : ℂ) {u v : (Fin D → ℝ) → ℂ}
    {U V : (Fin D → ℤ) → ℂ} (hu : HasCoeffs s K u U) (hv : HasCoeffs s K v V) :
    HasCoeffs s (K + K + K) (opGS0 f u v) (gs0Coef K f U V) := by
  unfold opGS0 gs0Coef
  exact hasCoeffs_sub (hasCoeffs_smul f (hasCoeffs_sub (hasCoeffs_const s (by omega) 1)
    (hasCoeffs_raise (by omega) hu))) (hasCoeffs_mul3 hu hv hv)

theorem opGS1_hasCoeffs {D : ℕ} {s : ℝ} {K : ℤ} (hK : 0 ≤ K) (f k : ℂ) {u v : (Fin D → ℝ) → ℂ}
    {U V : (Fin D → ℤ) → ℂ} (hu : HasCoeffs s K u U) (hv : HasCoeffs s K v V) :
    HasCoeffs s (K + K + K) (opGS1 f k u v) (gs1Coef K f k U V) := by
  unfold opGS1 gs1Coef
  exact hasCoeffs_add (hasCoeffs_smul (-(f + k)) (hasCoeffs_raise (by omega) hv)) (hasCoeffs_mul3 hu hv hv)

/-- `N^D ×` the coefficient of `b·Δ(P_K u)³` is the model's alias-free form `Δ̂_h·(X⋆X⋆X)(k(h))·b` -/
theorem chCoef_model (c : Cfg ℂ) (hN : 0 < c.N) (s : ℝ) (hs : c.s = (s : ℂ)) (b : ℂ) (x : Array ℂ) (h : ℕ) :
    ((c.N ^ c.D : ℕ) : ℂ) * chCoef s (Kc c) b (ucoef c x) (kvec c.D c.N h)
      = laplace c 2 h * linConv3 c.D c.N (Kc c) (dftV c.D c.N x) (dftV c.D c.N x) (dftV c.D c.N x)
          (kvec c.D c.N h) * b := by
  have hl : laplace c 2 h = ∑ d : Fin c.D, (Complex.I * ((s : ℂ) * ((kvec c.D c.N h d : ℤ) : ℂ))) ^ 2 := by
    rw [laplace_two_eq_sum, ← Fin.sum_univ_eq_sum_range (fun d => deriv c d h ^ 2) c.D]
    apply Finset.sum_congr rfl
    intro d _
    rw [← hs]
    rfl
  unfold chCoef dcoef
  rw [conv3_ucoef, hl]
  generalize linConv3 c.D c.N (Kc c) (dftV c.D c.N x) (dftV c.D c.N x) (dftV c.D c.N x) (kvec c.D c.N h) = Cv
  have e : ∀ d : Fin c.D,
      Complex.I * ((s : ℂ) * ((kvec c.D c.N h d : ℤ) : ℂ)) *
        (Complex.I * ((s : ℂ) * ((kvec c.D c.N h d : ℤ) : ℂ)) * (1 / ((c.N ^ c.D : ℕ) : ℂ) * Cv))
      = (Complex.I * ((s : ℂ) * ((kvec c.D c.N h d : ℤ) : ℂ))) ^ 2 * (1 / ((c.N ^ c.D : ℕ) : ℂ) * Cv) :=
    fun d => by rw [← mul_assoc, ← sq]
  rw [Finset.sum_congr rfl (fun d _ => e d), ← Finset.sum_mul]
  generalize (∑ d : Fin c.D, (Complex.I * ((s : ℂ) * ((kvec c.D c.N h d : ℤ) : ℂ))) ^ 2) = S
  linear_combination (b * S) * natPow_mul_scaled c hN Cv

end Exponax.AliasMulti
