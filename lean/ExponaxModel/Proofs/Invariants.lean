import ExponaxModel.Proofs.AliasND2Vort
import ExponaxModel.Proofs.ConserveEnergy
/-
C09 (invariants) — tools shared by the 2-D vorticity and the 3-D rotational form: triad sums over the
box of `ℤ^D` (`triV`, an instance of `Conserve.triS`), and the band projection
`P_K = irfftn ∘ mask ∘ rfftn`, which is self-adjoint and the identity on band-limited fields.
-/
set_option linter.unusedVariables false
namespace Exponax.Invariants
open Exponax Exponax.Layout Exponax.Transform Exponax.DFT Exponax.Nonlin Exponax.Alias Exponax.AliasND Exponax.Conserve Finset

noncomputable def triV {D : ℕ} (K : ℤ) (Y : (Fin D → ℤ) → ℂ)
    (w : (Fin D → ℤ) → (Fin D → ℤ) → (Fin D → ℤ) → ℂ) : ℂ :=
  ∑ a ∈ box D K, ∑ b ∈ box D K, ∑ c ∈ box D K,
    if a + b + c = 0 then w a b c * (Y a * Y b * Y c) else 0

section
variable {D : ℕ} (K : ℤ) (Y : (Fin D → ℤ) → ℂ) (w : (Fin D → ℤ) → (Fin D → ℤ) → (Fin D → ℤ) → ℂ)

theorem triV_congr (w' : (Fin D → ℤ) → (Fin D → ℤ) → (Fin D → ℤ) → ℂ)
    (h : ∀ a b c, a + b + c = 0 → w a b c = w' a b c) : triV K Y w = triV K Y w' :=
  triS_congr _ Y w w' h

theorem triV_add (w1 w2 : (Fin D → ℤ) → (Fin D → ℤ) → (Fin D → ℤ) → ℂ) :
    triV K Y w1 + triV K Y w2 = triV K Y (fun a b c => w1 a b c + w2 a b c) := triS_add _ Y w1 w2

theorem triV_eq_zero_of_antisymm13 (h : ∀ a b c, a + b + c = 0 → w c b a = -w a b c) :
    triV K Y w = 0 := triS_eq_zero_of_antisymm13 _ Y w h

theorem triV_eq_zero_of_antisymm12 (h : ∀ a b c, a + b + c = 0 → w b a c = -w a b c) :
    triV K Y w = 0 := triS_eq_zero_of_antisymm12 _ Y w h

end

theorem sum_box_neg {D : ℕ} (K : ℤ) (f : (Fin D → ℤ) → ℂ) :
    ∑ m ∈ box D K, f m = ∑ m ∈ box D K, f (-m) :=
  sum_neg_of_symm _ (fun _ hm => neg_mem_box hm) f

theorem truncV_eq_sum_ite {D : ℕ} (K : ℤ) (G : (Fin D → ℤ) → ℂ) (p q : Fin D → ℤ) :
    truncV K G (-p - q) = ∑ r ∈ box D K, if p + q + r = 0 then G r else 0 := by
  have e : ∀ r : Fin D → ℤ, (p + q + r = 0) ↔ (r = -p - q) := by
    intro r
    constructor
    · intro h
      have : r = -(p + q) := eq_neg_of_add_eq_zero_right h
      rw [this, neg_add, sub_eq_add_neg]
    · intro h
      rw [h]; abel
  simp only [e]
  rw [Finset.sum_ite_eq']
  unfold truncV
  by_cases hmem : -p - q ∈ box D K
  · rw [if_pos hmem, if_pos (mem_box.mp hmem)]
  · rw [if_neg hmem, if_neg (fun h => hmem (mem_box.mpr h))]

theorem sum_trunc_conv_eq_triV {D : ℕ} (K : ℤ) (lam μ ν X : (Fin D → ℤ) → ℂ) :
    ∑ k ∈ box D K, truncV K (fun p => lam p * X p) (-k) *
        ∑ q ∈ box D K, truncV K (fun p => μ p * X p) q * truncV K (fun p => ν p * X p) (k - q)
      = triV K X (fun p q r => lam p * μ q * ν r) := by
  rw [sum_box_neg]
  unfold triV
  apply Finset.sum_congr rfl; intro p hp
  rw [neg_neg, Finset.mul_sum]
  apply Finset.sum_congr rfl; intro q hq
  rw [truncV_of_le _ _ _ (mem_box.mp hp), truncV_of_le _ _ _ (mem_box.mp hq),
    truncV_eq_sum_ite K (fun p => ν p * X p) p q, Finset.mul_sum, Finset.mul_sum]
  apply Finset.sum_congr rfl; intro r _
  split_ifs
  · ring
  · ring

/-- the same with `linConv` (which carries the normalisation `N^{-D}`) -/
theorem sum_trunc_linConv_eq_triV {D : ℕ} (N : ℕ) (K : ℤ) (lam μ ν X : (Fin D → ℤ) → ℂ) :
    ∑ k ∈ box D K, truncV K (fun p => lam p * X p) (-k) *
        linConv D N K (fun p => μ p * X p) (fun p => ν p * X p) k
      = (1 / ((N ^ D : ℕ) : ℂ)) * triV K X (fun p q r => lam p * μ q * ν r) := by
  rw [← sum_trunc_conv_eq_triV, Finset.mul_sum]
  apply Finset.sum_congr rfl; intro k _
  unfold linConv
  ring

theorem inner_mfield (c : Cfg ℂ) (hD : 0 < c.D) (hq : c.fq ≠ 0) (hN : 0 < c.N) (h2 : 2 * Kc c < (c.N : ℤ))
    {σ : ℕ → ℂ} {μ : (Fin c.D → ℤ) → ℂ} (hσ : HermMult c σ μ) (f g : Array ℂ)
    (hbf : BandLimitedV c.D c.N (Kc c) f) (hg : IsRealND c.D c.N g) :
    ∑ j ∈ range (c.N ^ c.D), f.getD j 0 * (mfield c σ (rfftnM c.D c.N g)).getD j 0
      = (1 / ((c.N ^ c.D : ℕ) : ℂ)) *
          ∑ k ∈ box c.D (Kc c), dftV c.D c.N f (-k) * (μ k * dftV c.D c.N g k) := by
  rw [sum_mul_band c.D c.N hN (Kc c) h2 f _ hbf, sum_box_neg]
  refine congrArg _ (Finset.sum_congr rfl fun k hk => ?_)
  rw [neg_neg, (boxSpec_mfield c hD hq hN h2 hσ g hg).2 k (mem_box.mp hk)]

/-- the mask applied after the forward transform is invisible to a band-limited test field `f` (e.g. any `nifft c ·`);
    only `2·Kc < N` is used -/
theorem inner_irfftn_nfft (c : Cfg ℂ) (hD : 0 < c.D) (hq : c.fq ≠ 0) (hN : 0 < c.N)
    (h2 : 2 * Kc c < (c.N : ℤ)) (f g : Array ℂ) (hf : IsRealND c.D c.N f) (hg : IsRealND c.D c.N g)
    (hbf : BandLimitedV c.D c.N (Kc c) f) (r : ℝ) (C : Array ℂ)
    (hC : ∀ h, h < numModes c.D c.N → C.getD h 0 = (r : ℂ) * (nfft c g).getD h 0) :
    ∑ j ∈ range (c.N ^ c.D), f.getD j 0 * (irfftnM c.D c.N C).getD j 0
      = (r : ℂ) * ∑ j ∈ range (c.N ^ c.D), f.getD j 0 * g.getD j 0 := by
  -- `irfftn C = ifft(mask·r·ĝ)`: the constant multiplier `r`
  have hC' : irfftnM c.D c.N C = mfield c (fun _ => (r : ℂ)) (rfftnM c.D c.N g) :=
    irfftnM_congr c.D c.N _ _ fun h hh => by
      have hM : h < modes c := hh
      rw [hC h hh, nfft_getD c g h hh, DFT.tab_getD _ _ _ _ hM, DFT.tab_getD _ _ _ _ hM]
      ring
  rw [hC', inner_mfield c hD hq hN h2 ⟨fun _ => Complex.conj_ofReal r, fun _ _ _ => rfl⟩ f g hbf hg,
    sum_mul_band c.D c.N hN (Kc c) h2 f g hbf, sum_box_neg, Finset.mul_sum, Finset.mul_sum, Finset.mul_sum]
  exact Finset.sum_congr rfl fun k _ => by rw [neg_neg]; ring

/-- the test field may be left untruncated: `hC` holds of every output of a dealiased nonlinear term -/
theorem inner_irfftn_trunc (c : Cfg ℂ) (hD : 0 < c.D) (hq : c.fq ≠ 0) (hN : 0 < c.N)
    (h2 : 2 * Kc c < (c.N : ℤ)) (x : Array ℂ) (hx : IsRealND c.D c.N x) (C : Array ℂ)
    (hC : ∀ h, h < numModes c.D c.N → mask c h = 0 → C.getD h 0 = 0) :
    ∑ j ∈ range (c.N ^ c.D), x.getD j 0 * (irfftnM c.D c.N C).getD j 0
      = ∑ j ∈ range (c.N ^ c.D), (nifft c (rfftnM c.D c.N x)).getD j 0 * (irfftnM c.D c.N C).getD j 0 := by
  have hterm : ∀ h ∈ range (numModes c.D c.N),
      (herm_weight c.D c.N h : ℝ) * (C.getD h 0 * (starRingEnd ℂ) ((rfftnM c.D c.N x).getD h 0)).re
        = (herm_weight c.D c.N h : ℝ) * (C.getD h 0 * (starRingEnd ℂ)
            ((rfftnM c.D c.N (nifft c (rfftnM c.D c.N x))).getD h 0)).re := by
    intro h hh
    have hh' := Finset.mem_range.mp hh
    rw [rfftn_nifft_rfftn c hD hq hN h2 x hx h hh']
    rcases Conserve.mask_zero_or_one c h with hm | hm
    · rw [hm, one_mul]
    · rw [hC h hh' hm, zero_mul, zero_mul]
  rw [real_inner_irfftn c.D c.N hN x C hx,
    real_inner_irfftn c.D c.N hN _ C (nifft_isRealND c (rfftnM c.D c.N x)),
    Finset.sum_congr rfl hterm]

/-- the antisymmetry hypotheses are satisfiable by a non-zero weight (`D = 1`, `w(a,b,c) = a − c`, resp.
    `a − b`) -/
example : ∀ a b c : Fin 1 → ℤ, a + b + c = 0 →
    (fun a b c : Fin 1 → ℤ => ((a 0 : ℤ) : ℂ) - ((c 0 : ℤ) : ℂ)) c b a
      = -(fun a b c : Fin 1 → ℤ => ((a 0 : ℤ) : ℂ) - ((c 0 : ℤ) : ℂ)) a b c := by
  intro a b c _; ring

example : ∀ a b c : Fin 1 → ℤ, a + b + c = 0 →
    (fun a b c : Fin 1 → ℤ => ((a 0 : ℤ) : ℂ) - ((b 0 : ℤ) : ℂ)) b a c
      = -(fun a b c : Fin 1 → ℤ => ((a 0 : ℤ) : ℂ) - ((b 0 : ℤ) : ℂ)) a b c := by
  intro a b c _; ring

/-- hypotheses of `inner_irfftn_nfft` / `sum_mul_band` / `inner_irfftn_trunc`: any `f = nifft c ûh` is real
    and band-limited, `C = r·nfft c g` tabulated is admissible, and it vanishes at the dropped modes -/
example (c : Cfg ℂ) (hq : c.fq ≠ 0) (hN : 0 < c.N) (uh g : Array ℂ) (r : ℝ) :
    IsRealND c.D c.N (nifft c uh) ∧ BandLimitedV c.D c.N (Kc c) (nifft c uh) ∧
    (∀ h, h < numModes c.D c.N →
      (tab (numModes c.D c.N) fun h => (r : ℂ) * (nfft c g).getD h 0).getD h 0
        = (r : ℂ) * (nfft c g).getD h 0) ∧
    (∀ h, h < numModes c.D c.N → mask c h = 0 →
      (tab (numModes c.D c.N) fun h => (r : ℂ) * (nfft c g).getD h 0).getD h 0 = 0) :=
  ⟨nifft_isRealND c uh, nifft_bandLimitedV c hq hN uh, fun h hh => DFT.tab_getD _ _ _ _ hh,
    fun h hh hm => by rw [DFT.tab_getD _ _ _ _ hh, nfft_getD_of_mask_zero c g h hm, mul_zero]⟩

end Exponax.Invariants
