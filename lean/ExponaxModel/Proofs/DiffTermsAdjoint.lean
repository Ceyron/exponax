import ExponaxModel.Proofs.DiffTermsSteps
import ExponaxModel.Proofs.AliasCutoff
import ExponaxModel.Proofs.DFTnD
/-
C07 support: transposes, with respect to the grid inner product `⟪f, g⟫ = Σ_j f_j g_j`, of the ℝ-linear pieces of the model.

Every ℝ-linear piece between the transforms is a Fourier multiplier on real grid functions,
`multOp c σ f = Re irfftn (σ ⊙ rfftn f)` with `σ` an arbitrary array over the stored modes, and reverse mode rests on one
fact (`multOp_adjoint`, from `Conserve.real_inner_irfftn`): `⟪g, multOp c σ f⟫ = ⟪multOp c (conj σ) g, f⟫`.

No Nyquist-free, odd-`N` or Hermitian-consistency hypothesis is needed: the model's `irfftnM` takes real parts with the
half-spectrum weights, and with that definition the identity is exact for every stored array `σ`, every `D`, every `N ≥ 1`.
-/
namespace Exponax.DiffTerms
open Exponax Exponax.Layout Exponax.Transform Exponax.Nonlin Finset

noncomputable def emb1 (G : ℕ) (f : Fin G → ℝ) : Array ℂ :=
  tab G (fun j => if h : j < G then ((f ⟨j, h⟩ : ℝ) : ℂ) else 0)

theorem emb1_getD (G : ℕ) (f : Fin G → ℝ) (j : Fin G) : (emb1 G f).getD j 0 = ((f j : ℝ) : ℂ) := by
  unfold emb1
  rw [tab_getD _ _ _ _ j.2, dif_pos j.2]

theorem emb1_real (G : ℕ) (f : Fin G → ℝ) (j : ℕ) (hj : j < G) : ((emb1 G f).getD j 0).im = 0 := by
  rw [emb1_getD G f ⟨j, hj⟩, Complex.ofReal_im]

def ip {G : ℕ} (f g : Fin G → ℝ) : ℝ := ∑ j, f j * g j

theorem ip_comm {G : ℕ} (f g : Fin G → ℝ) : ip f g = ip g f := by
  unfold ip; exact Finset.sum_congr rfl (fun j _ => mul_comm _ _)

noncomputable def multOp (c : Cfg ℂ) (σ : ℕ → ℂ) (f : Fin (gridSize c) → ℝ) : Fin (gridSize c) → ℝ :=
  fun j => ((irfftnM c.D c.N (tab (modes c) (fun h => σ h * (rfftnM c.D c.N (emb1 (gridSize c) f)).getD h 0))).getD j 0).re

/-- `irfftn` returns real values, so taking `Re` in `multOp` loses nothing -/
theorem multOp_ofReal (c : Cfg ℂ) (σ : ℕ → ℂ) (f : Fin (gridSize c) → ℝ) (j : Fin (gridSize c)) :
    ((multOp c σ f j : ℝ) : ℂ)
      = (irfftnM c.D c.N (tab (modes c) (fun h => σ h * (rfftnM c.D c.N (emb1 (gridSize c) f)).getD h 0))).getD j 0 := by
  apply Complex.ext
  · rw [Complex.ofReal_re]; rfl
  · rw [Complex.ofReal_im, DFT.irfftnM_im c.D c.N _ j]

theorem ip_multOp (c : Cfg ℂ) (hN : 0 < c.N) (σ : ℕ → ℂ) (f g : Fin (gridSize c) → ℝ) :
    ip g (multOp c σ f)
      = (∑ h ∈ range (modes c), (herm_weight c.D c.N h : ℝ) *
          ((σ h * (rfftnM c.D c.N (emb1 (gridSize c) f)).getD h 0) *
            (starRingEnd ℂ) ((rfftnM c.D c.N (emb1 (gridSize c) g)).getD h 0)).re) / ((gridSize c : ℕ) : ℝ) := by
  have h := Conserve.real_inner_irfftn c.D c.N hN (emb1 (gridSize c) g)
    (tab (modes c) (fun h => σ h * (rfftnM c.D c.N (emb1 (gridSize c) f)).getD h 0))
    (fun j hj => emb1_real _ g j hj)
  apply Complex.ofReal_injective
  rw [Complex.ofReal_div]
  -- both sides of `h`, read off entry by entry
  refine Eq.trans ?_ (h.trans ?_)
  · refine (Complex.ofReal_sum _ _).trans ((Finset.sum_congr rfl fun j _ => ?_).trans (Finset.sum_range _).symm)
    rw [Complex.ofReal_mul, multOp_ofReal c σ f j, emb1_getD]
  · refine congrArg (fun x : ℝ => (x : ℂ) / _) (Finset.sum_congr rfl fun m hm => ?_)
    rw [tab_getD _ _ _ _ (Finset.mem_range.mp hm)]

theorem multOp_adjoint (c : Cfg ℂ) (hN : 0 < c.N) (σ : ℕ → ℂ) (f g : Fin (gridSize c) → ℝ) :
    ip g (multOp c σ f) = ip (multOp c (fun h => (starRingEnd ℂ) (σ h)) g) f := by
  rw [ip_comm (multOp c _ g) f, ip_multOp c hN σ f g, ip_multOp c hN _ g f]
  refine congrArg (· / _) (Finset.sum_congr rfl fun h _ => congrArg (_ * ·) ?_)
  rw [← Complex.conj_re, map_mul, map_mul, Complex.conj_conj, mul_right_comm]

theorem multOp_smul_symbol (c : Cfg ℂ) (a : ℝ) (σ : ℕ → ℂ) (f : Fin (gridSize c) → ℝ)
    (j : Fin (gridSize c)) : multOp c (fun h => (a : ℂ) * σ h) f j = a * multOp c σ f j := by
  unfold multOp
  rw [DFT.irfftnM_lin_real c.D c.N a 0 (tab (modes c) fun h => σ h * (rfftnM c.D c.N (emb1 (gridSize c) f)).getD h 0) #[] _
    (fun m (hm : m < modes c) => by
      rw [tab_getD _ _ _ _ hm, tab_getD _ _ _ _ hm, Complex.ofReal_zero, zero_mul, add_zero, mul_assoc]) j,
    Complex.ofReal_zero, zero_mul, add_zero, Complex.re_ofReal_mul]

theorem multOp_congr (c : Cfg ℂ) (σ τ : ℕ → ℂ) (h : ∀ m, m < modes c → σ m = τ m) (f : Fin (gridSize c) → ℝ) :
    multOp c σ f = multOp c τ f := by
  funext j
  exact congrArg (fun a : Array ℂ => ((irfftnM c.D c.N a).getD j 0).re)
    (DFT.tab_congr _ _ _ fun m hm => by rw [h m hm])

/-- a symbol that conjugation multiplies by a real `a` gives `multOp σᵀ = a · multOp σ`: self-adjoint for `a = 1`
    (masks), skew for `a = −1` (first derivatives) -/
theorem multOp_adjoint_of_conj (c : Cfg ℂ) (hN : 0 < c.N) (a : ℝ) (σ : ℕ → ℂ)
    (hσ : ∀ m, m < modes c → (starRingEnd ℂ) (σ m) = (a : ℂ) * σ m) (f g : Fin (gridSize c) → ℝ) :
    ip g (multOp c σ f) = a * ip (multOp c σ g) f := by
  rw [multOp_adjoint c hN, multOp_congr c _ _ hσ g]
  unfold ip
  rw [Finset.mul_sum]
  exact Finset.sum_congr rfl fun j _ => by rw [multOp_smul_symbol c, mul_assoc]

theorem multOp_self_adjoint (c : Cfg ℂ) (hN : 0 < c.N) (σ : ℕ → ℂ)
    (hσ : ∀ m, m < modes c → (starRingEnd ℂ) (σ m) = σ m) (f g : Fin (gridSize c) → ℝ) :
    ip g (multOp c σ f) = ip (multOp c σ g) f :=
  (multOp_adjoint_of_conj c hN 1 σ (fun m hm => by rw [hσ m hm, Complex.ofReal_one, one_mul]) f g).trans (one_mul _)

/-- `derivative(u, L, order)` of the model on a real grid function -/
noncomputable def derivOp (c : Cfg ℂ) (order d : ℕ) (f : Fin (gridSize c) → ℝ) : Fin (gridSize c) → ℝ :=
  fun j => ((derivativeM c order d (emb1 (gridSize c) f)).getD j 0).re

theorem derivOp_eq_multOp (c : Cfg ℂ) (order d : ℕ) (f : Fin (gridSize c) → ℝ) :
    derivOp c order d f = multOp c (fun h => npow (Nonlin.deriv c d h) order) f := rfl

/-- C07: `(∂_d^m)ᵀ = (−1)^m ∂_d^m` for the model's `derivativeM` -/
theorem derivativeM_adjoint (c : Cfg ℂ) (hN : 0 < c.N) (s : ℝ) (hs : c.s = (s : ℂ)) (order d : ℕ)
    (f g : Fin (gridSize c) → ℝ) :
    ip g (derivOp c order d f) = (-1) ^ order * ip (derivOp c order d g) f := by
  rw [derivOp_eq_multOp, derivOp_eq_multOp]
  refine multOp_adjoint_of_conj c hN _ _ (fun m _ => ?_) f g
  rw [npow_eq, map_pow, conj_deriv c s hs, neg_pow]
  push_cast
  ring

theorem derivativeM_adjoint_one (c : Cfg ℂ) (hN : 0 < c.N) (s : ℝ) (hs : c.s = (s : ℂ)) (d : ℕ)
    (f g : Fin (gridSize c) → ℝ) :
    ip g (derivOp c 1 d f) = -ip (derivOp c 1 d g) f := by
  rw [derivativeM_adjoint c hN s hs 1 d f g]; ring

/-- the dealiasing projection of the model: `nifft ∘ nfft` (mask applied by both) -/
noncomputable def dealiasOp (c : Cfg ℂ) (f : Fin (gridSize c) → ℝ) : Fin (gridSize c) → ℝ :=
  fun j => ((nifft c (nfft c (emb1 (gridSize c) f))).getD j 0).re

theorem dealiasOp_eq_multOp (c : Cfg ℂ) (f : Fin (gridSize c) → ℝ) :
    dealiasOp c f = multOp c (fun h => mask c h * mask c h) f := by
  funext j
  unfold dealiasOp multOp nifft nfft
  exact congrArg (fun a : Array ℂ => ((irfftnM c.D c.N a).getD j 0).re)
    (DFT.tab_congr _ _ _ fun m hm => by rw [tab_getD _ _ _ _ hm, mul_assoc])

theorem dealias_self_adjoint (c : Cfg ℂ) (hN : 0 < c.N) (f g : Fin (gridSize c) → ℝ) :
    ip g (dealiasOp c f) = ip (dealiasOp c g) f := by
  rw [dealiasOp_eq_multOp, dealiasOp_eq_multOp]
  exact multOp_self_adjoint c hN _ (fun m _ => by rw [map_mul, Conserve.conj_mask]) f g

def ipP {C G : ℕ} (u v : Phys C G) : ℝ := ∑ ch, ip (u ch) (v ch)

theorem rfftnM_embP_row (c : Cfg ℂ) (C : ℕ) (u : Phys C (gridSize c)) (ch : Fin C) :
    rfftnM c.D c.N ((embP C (gridSize c) u).getD ch #[]) = rfftnM c.D c.N (emb1 (gridSize c) (u ch)) := by
  apply DFT.rfftnM_congr
  intro j hj
  have hj' : j < gridSize c := hj
  unfold embP Nonlin.tab2
  rw [tab_getD _ _ _ _ ch.2, tab_getD _ _ _ _ hj', emb1_getD (gridSize c) (u ch) ⟨j, hj'⟩]
  exact dif_pos ⟨ch.2, hj'⟩

theorem at2_fftC_embP (c : Cfg ℂ) (C : ℕ) (u : Phys C (gridSize c)) (ch : Fin C) (h : ℕ) :
    at2 (fftC c C (embP C (gridSize c) u)) ch h = (rfftnM c.D c.N (emb1 (gridSize c) (u ch))).getD h 0 := by
  unfold fftC
  rw [at2_tabC _ _ _ _ ch.2, rfftnM_embP_row]

theorem linearStep_phys_eq_multOp (c : Cfg ℂ) (C : ℕ) (E : ℕ → ℕ → ℂ) (u : Phys C (gridSize c)) (ch : Fin C) :
    physMap c C C (linearStepTerm c C E) u ch = multOp c (E ch) (u ch) := by
  funext j
  have e1 : (linearStepTerm c C E (fftC c C (embP C (gridSize c) u))).getD ch #[]
      = tab (modes c) (fun h => E ch h * (rfftnM c.D c.N (emb1 (gridSize c) (u ch))).getD h 0) := by
    unfold linearStepTerm
    rw [NonlinFunsEq.tab2_getD _ _ _ _ ch.2]
    exact DFT.tab_congr _ _ _ (fun m hm => by rw [at2_fftC_embP]; rfl)
  show (at2 (ifftC c C (linearStepTerm c C E (fftC c C (embP C (gridSize c) u)))) ch j).re = _
  unfold ifftC
  rw [at2_tabC _ _ _ _ ch.2, e1]
  rfl

/-- C07: the transpose of the linear step with symbol array `E` is the linear step with `conj E`, on the whole
    multi-channel state; `E` need not be Hermitian-consistent -/
theorem linearStep_adjoint (c : Cfg ℂ) (hN : 0 < c.N) (C : ℕ) (E : ℕ → ℕ → ℂ) (u w : Phys C (gridSize c)) :
    ipP w (physMap c C C (linearStepTerm c C E) u)
      = ipP (physMap c C C (linearStepTerm c C (fun ch h => (starRingEnd ℂ) (E ch h))) w) u := by
  unfold ipP
  refine Finset.sum_congr rfl (fun ch _ => ?_)
  rw [linearStep_phys_eq_multOp, linearStep_phys_eq_multOp, multOp_adjoint c hN]

/-- reverse mode through the linear stepper: `⟪w, DS(u) v⟫ = ⟪S_{conj E} w, v⟫` -/
theorem linearStep_vjp (c : Cfg ℂ) (hN : 0 < c.N) (C : ℕ) (E : ℕ → ℕ → ℂ) (u v w : Phys C (gridSize c)) :
    ipP w (fderiv ℝ (physMap c C C (linearStepTerm c C E)) u v)
      = ipP (physMap c C C (linearStepTerm c C (fun ch h => (starRingEnd ℂ) (E ch h))) w) v := by
  rw [linearStep_phys_fderiv, linearStep_adjoint c hN]

end Exponax.DiffTerms
