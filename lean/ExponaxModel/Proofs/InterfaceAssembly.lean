import ExponaxModel.Proofs.InterfaceScaling
import ExponaxModel.Proofs.InterfaceEtdrk
import ExponaxModel.Proofs.SpectralOpsBasic
import ExponaxModel.Properties.C13_wiring
/-
C13 — "general, normalized and difficulty interfaces describe the same dynamics: only the non-dimensional groups
matter" — the pieces assembled into step equalities.

On the model terms: for every order, on whole stored multi-channel spectra, the ETDRK step of the physical stepper
`(L, dt, a, b)` equals the step of the normalised stepper `(1, 1, normalize_coefficients a L dt, normalize_*_scale b L dt)`,
for every term `T` with `dt · T_L = T_1` entrywise (`step_normalized`).

On the regenerated wiring: `baseStep` mirrors `BaseStepper.__init__` + `step_fourier`; `X_step g` is `baseStep`
on the class `X`'s regenerated pieces; `Normalized…_step n`, `Difficulty…_step d` are the parent's step on the regenerated
`super().__init__` arguments (inheritance: `C13_generated_inheritance`).  Per family: the step on the model
(`…_step_model`), physical = normalised on `(α, β)` (`…_step_eq_normalized`, real `domain_extent`), the difficulty
stepper built from `(γ, δ) = reduce_*(α, β)` hands its parent exactly `(α, β)` (`…_super_args_to_difficulty`; `D, N, M ≠ 0`),
physical = difficulty (`…_step_eq_difficulty`), and equal `(α, β)` give equal steps (`…_step_only_groups`).
The convection family is here, the other four in `InterfaceAssembly2.lean`.
-/
namespace Exponax.Interface
open Exponax Exponax.Layout Exponax.Transform Exponax.Nonlin Exponax.Gen.Convert Exponax.Gen.Etdrk
open Exponax.Gen.StepperWiring Exponax.Gen.Steppers Exponax.StepperWiringEq
open Exponax.EquivND (liftTermND)

theorem liftTermND_scale (cL c1 : Cfg ℂ) (hm : modes cL = modes c1) (C : ℕ) (TL T1 : MC ℂ → MC ℂ) (dt : ℂ)
    (hT : ∀ uh ch h, dt * at2 (TL uh) ch h = at2 (T1 uh) ch h) (v : Spec) (ch h : ℕ) :
    dt * liftTermND cL C TL v ch h = liftTermND c1 C T1 v ch h := by
  unfold liftTermND
  rw [hm]
  split_ifs
  · exact hT _ ch h
  · rw [mul_zero]

/-- **Physical = normalised, any term**: if `dt · T_L = T_1` entrywise, `T_L` being the term on a configuration whose scale is divided by
    `L`, the step of `(L, dt, a, T_L)` is the step of `(1, 1, normalize_coefficients a L dt, T_1)`; the symbol side is
    `polySymbol_generalLinear_cfgOf` (every complex `L`). -/
theorem step_normalized (p D N : ℕ) (df : ℕ × ℕ) (L dt : ℂ) (a : List ℂ) (C : ℕ) (TL T1 : Cfg ℂ → MC ℂ → MC ℂ)
    (hT : ∀ c uh ch h, dt * at2 (TL (withS c (c.s / L)) uh) ch h = at2 (T1 c uh) ch h) (M : ℕ) (r : ℂ) (u : Spec) :
    etdrkStep p dt (fun _ h => polySymbol (cfgOf D N L df) (generalLinear D a) h) M r
        (liftTermND (cfgOf D N L df) C (TL (cfgOf D N L df))) u
      = etdrkStep p 1 (fun _ h => polySymbol (cfgOf D N 1 df) (generalLinear D (normalize_coefficients a L dt)) h) M r
        (liftTermND (cfgOf D N 1 df) C (T1 (cfgOf D N 1 df))) u :=
  etdrkStep_normalize p dt _ _ M r _ _ (fun _ h => polySymbol_generalLinear_cfgOf D N L dt df a h)
    (liftTermND_scale _ _ rfl C _ _ dt (fun uh ch h => by rw [cfgOf_eq_withS D N L df]; exact hT _ uh ch h)) u

/-- **Physical = normalised, convection** (single/multi channel, conservative or not). -/
theorem convection_step_normalized (p D N : ℕ) (df : ℕ × ℕ) (ℓ : ℝ) (dt : ℂ) (a : List ℂ) (b : ℂ) (C : ℕ)
    (single conservative : Bool) (M : ℕ) (r : ℂ) (u : Spec) :
    etdrkStep p dt (fun _ h => polySymbol (cfgOf D N (ℓ : ℂ) df) (generalLinear D a) h) M r
        (liftTermND (cfgOf D N (ℓ : ℂ) df) C (convection (cfgOf D N (ℓ : ℂ) df) C b single conservative)) u
      = etdrkStep p 1
        (fun _ h => polySymbol (cfgOf D N 1 df) (generalLinear D (normalize_coefficients a (ℓ : ℂ) dt)) h) M r
        (liftTermND (cfgOf D N 1 df) C
          (convection (cfgOf D N 1 df) C (normalize_convection_scale b (ℓ : ℂ) dt) single conservative)) u :=
  step_normalized p D N df ℓ dt a C (fun c => convection c C b single conservative)
    (fun c => convection c C (normalize_convection_scale b (ℓ : ℂ) dt) single conservative)
    (fun c => convection_scaling c ℓ dt b C single conservative) M r u

/-- **Physical = normalised, gradient norm** (with or without the mean fix). -/
theorem gradientNorm_step_normalized (p D N : ℕ) (df : ℕ × ℕ) (ℓ : ℝ) (dt : ℂ) (a : List ℂ) (b : ℂ) (C : ℕ)
    (zeroFix : Bool) (M : ℕ) (r : ℂ) (u : Spec) :
    etdrkStep p dt (fun _ h => polySymbol (cfgOf D N (ℓ : ℂ) df) (generalLinear D a) h) M r
        (liftTermND (cfgOf D N (ℓ : ℂ) df) C (gradientNorm (cfgOf D N (ℓ : ℂ) df) C b zeroFix)) u
      = etdrkStep p 1
        (fun _ h => polySymbol (cfgOf D N 1 df) (generalLinear D (normalize_coefficients a (ℓ : ℂ) dt)) h) M r
        (liftTermND (cfgOf D N 1 df) C
          (gradientNorm (cfgOf D N 1 df) C (normalize_gradient_norm_scale b (ℓ : ℂ) dt) zeroFix)) u :=
  step_normalized p D N df ℓ dt a C (fun c => gradientNorm c C b zeroFix)
    (fun c => gradientNorm c C (normalize_gradient_norm_scale b (ℓ : ℂ) dt) zeroFix)
    (fun c => gradientNorm_scaling c ℓ dt b C zeroFix) M r u

/-- **Physical = normalised, general nonlinear term** (quadratic + single-channel conservative convection + gradient norm). -/
theorem general_step_normalized (p D N : ℕ) (df : ℕ × ℕ) (ℓ : ℝ) (dt : ℂ) (a : List ℂ) (b0 b1 b2 : ℂ) (C : ℕ)
    (zeroFix : Bool) (M : ℕ) (r : ℂ) (u : Spec) :
    etdrkStep p dt (fun _ h => polySymbol (cfgOf D N (ℓ : ℂ) df) (generalLinear D a) h) M r
        (liftTermND (cfgOf D N (ℓ : ℂ) df) C (general (cfgOf D N (ℓ : ℂ) df) C b0 b1 b2 zeroFix)) u
      = etdrkStep p 1
        (fun _ h => polySymbol (cfgOf D N 1 df) (generalLinear D (normalize_coefficients a (ℓ : ℂ) dt)) h) M r
        (liftTermND (cfgOf D N 1 df) C
          (general (cfgOf D N 1 df) C (b0 * dt) (normalize_convection_scale b1 (ℓ : ℂ) dt)
            (normalize_gradient_norm_scale b2 (ℓ : ℂ) dt) zeroFix)) u :=
  step_normalized p D N df ℓ dt a C (fun c => general c C b0 b1 b2 zeroFix)
    (fun c => general c C (b0 * dt) (normalize_convection_scale b1 (ℓ : ℂ) dt)
      (normalize_gradient_norm_scale b2 (ℓ : ℂ) dt) zeroFix)
    (fun c => general_scaling c ℓ dt b0 b1 b2 C zeroFix) M r u

theorem at2_zeroNonlin (c : Cfg ℂ) (C ch h : ℕ) : at2 (zeroNonlin c C) ch h = 0 := by
  rw [zeroNonlin, Exponax.Nonlin.at2_tab2_any, ite_self]

/-- per stored mode: the entry `(ch, h)` of the two steps agrees (convection shown; the other terms by `congrFun`) -/
theorem convection_step_normalized_apply (p D N : ℕ) (df : ℕ × ℕ) (ℓ : ℝ) (dt : ℂ) (a : List ℂ) (b : ℂ) (C : ℕ)
    (single conservative : Bool) (M : ℕ) (r : ℂ) (u : Spec) (ch h : ℕ) :
    etdrkStep p dt (fun _ h => polySymbol (cfgOf D N (ℓ : ℂ) df) (generalLinear D a) h) M r
        (liftTermND (cfgOf D N (ℓ : ℂ) df) C (convection (cfgOf D N (ℓ : ℂ) df) C b single conservative)) u ch h
      = etdrkStep p 1
        (fun _ h => polySymbol (cfgOf D N 1 df) (generalLinear D (normalize_coefficients a (ℓ : ℂ) dt)) h) M r
        (liftTermND (cfgOf D N 1 df) C
          (convection (cfgOf D N 1 df) C (normalize_convection_scale b (ℓ : ℂ) dt) single conservative)) u ch h := by
  rw [convection_step_normalized]

/-- the configuration `BaseStepper.__init__` hands to `_build_linear_operator` / `_build_nonlinear_fun`: the derivative
    operator of `(D, L, N)`; the dealiasing fraction is set by the nonlinear function itself (`withDF`) -/
noncomputable def baseCfg (D N : ℕ) (L : ℂ) : Cfg ℂ := cfgOf D N L (0, 0)

theorem withDF_baseCfg (D N : ℕ) (L : ℂ) (df : ℕ × ℕ) : withDF (baseCfg D N L) df = cfgOf D N L df := rfl

theorem baseCfg_eq_cfg (D N : ℕ) (L : ℂ) : baseCfg D N L = SpectralOpsEq.cfg D N L := rfl

/-- `BaseStepper.__init__` + `step_fourier`: derivative operator of `(D, L, N)`; linear operator and nonlinear function
    built from it by the class (`linop`, `nonlin`); ETDRK method of order `b.order` with `dt`, `num_circle_points`,
    `circle_radius`; the state has `b.num_channels` channels -/
noncomputable def baseStep (b : BaseStepperArgs ℂ) (linop : List ℂ → ℂ) (nonlin : Cfg ℂ → MC ℂ → MC ℂ) :
    Spec → Spec :=
  etdrkStep b.order b.dt
    (fun _ h => linop (kappa (baseCfg b.num_spatial_dims b.num_points b.domain_extent) h))
    b.num_circle_points b.circle_radius
    (liftTermND (baseCfg b.num_spatial_dims b.num_points b.domain_extent) b.num_channels
      (nonlin (baseCfg b.num_spatial_dims b.num_points b.domain_extent)))

/-- the assembled step of a class whose linear operator is the general linear symbol with coefficients `a` and whose
    nonlinear function on the base configuration is the model term `T`.  The symbol and `liftTermND` do not see the
    dealiasing fraction, so it may be set to the one `T` carries (`withDF_baseCfg`). -/
theorem baseStep_model (b : BaseStepperArgs ℂ) (linop : List ℂ → ℂ) (nonlin : Cfg ℂ → MC ℂ → MC ℂ)
    (a : List ℂ) (df : ℕ × ℕ) (T : MC ℂ → MC ℂ)
    (hlin : ∀ c h, linop (kappa c h) = polySymbol c (generalLinear c.D a) h)
    (hnl : ∀ uh, nonlin (baseCfg b.num_spatial_dims b.num_points b.domain_extent) uh = T uh) :
    baseStep b linop nonlin
      = etdrkStep b.order b.dt
          (fun _ h => polySymbol (cfgOf b.num_spatial_dims b.num_points b.domain_extent df)
            (generalLinear b.num_spatial_dims a) h)
          b.num_circle_points b.circle_radius
          (liftTermND (cfgOf b.num_spatial_dims b.num_points b.domain_extent df) b.num_channels T) := by
  unfold baseStep
  rw [funext hnl]
  simp only [hlin]
  rfl

/-- the step of `GeneralConvectionStepper(**g)`: regenerated linear operator, regenerated nonlinear-function wiring -/
noncomputable def GeneralConvectionStepper_step (g : GeneralConvectionStepperArgs ℂ) : Spec → Spec :=
  baseStep (GeneralConvectionStepper_base_args g)
    (fun κ => GeneralConvectionStepper_linear_operator κ (GeneralConvectionStepper_attrs g).linear_coefficients)
    (fun c => GeneralConvectionStepper_stepper_nonlinear_fun c g)

/-- `NormalizedConvectionStepper(**n)`: the parent's step on the regenerated `super().__init__` arguments -/
noncomputable def NormalizedConvectionStepper_step (n : NormalizedConvectionStepperArgs ℂ) : Spec → Spec :=
  GeneralConvectionStepper_step (NormalizedConvectionStepper_super_args n)

/-- `DifficultyConvectionStepper(**d)`: the parent's step on the regenerated `super().__init__` arguments -/
noncomputable def DifficultyConvectionStepper_step (d : DifficultyConvectionStepperArgs ℂ) : Spec → Spec :=
  NormalizedConvectionStepper_step (DifficultyConvectionStepper_super_args d)

/-- the assembled step in terms of the MODEL: general linear symbol, convection term with the user's flags -/
theorem GeneralConvectionStepper_step_model (g : GeneralConvectionStepperArgs ℂ) :
    GeneralConvectionStepper_step g
      = etdrkStep g.order g.dt
          (fun _ h => polySymbol (cfgOf g.num_spatial_dims g.num_points g.domain_extent g.dealiasing_fraction)
            (generalLinear g.num_spatial_dims g.linear_coefficients) h)
          g.num_circle_points g.circle_radius
          (liftTermND (cfgOf g.num_spatial_dims g.num_points g.domain_extent g.dealiasing_fraction)
            (if g.single_channel then 1 else g.num_spatial_dims)
            (convection (cfgOf g.num_spatial_dims g.num_points g.domain_extent g.dealiasing_fraction)
              (if g.single_channel then 1 else g.num_spatial_dims) g.convection_scale g.single_channel
              g.conservative)) := by
  unfold GeneralConvectionStepper_step
  rw [GeneralConvectionStepper_base_args_eq, GeneralConvectionStepper_attrs_eq]
  exact baseStep_model _ _ _ _ g.dealiasing_fraction _
    (fun c h => GeneralConvectionStepper_linear_operator_polySymbol c h _)
    (fun uh => GeneralConvectionStepper_stepper_nonlinear_fun_eq _ g uh rfl)

/-- the normalised arguments `(α, β)` of a physical configuration, every option unchanged -/
noncomputable def GeneralConvectionStepper_to_normalized (g : GeneralConvectionStepperArgs ℂ) :
    NormalizedConvectionStepperArgs ℂ :=
  { num_spatial_dims := g.num_spatial_dims, num_points := g.num_points,
    normalized_linear_coefficients := normalize_coefficients g.linear_coefficients g.domain_extent g.dt,
    normalized_convection_scale := normalize_convection_scale g.convection_scale g.domain_extent g.dt,
    single_channel := g.single_channel, conservative := g.conservative, order := g.order,
    dealiasing_fraction := g.dealiasing_fraction, num_circle_points := g.num_circle_points,
    circle_radius := g.circle_radius }

/-- the difficulties `(γ, δ) = reduce_*(α, β)` of a normalised configuration, every option unchanged -/
noncomputable def NormalizedConvectionStepper_to_difficulty (n : NormalizedConvectionStepperArgs ℂ) (Mx : ℂ) :
    DifficultyConvectionStepperArgs ℂ :=
  { num_spatial_dims := n.num_spatial_dims, num_points := n.num_points,
    linear_difficulties := reduce_normalized_coefficients_to_difficulty n.normalized_linear_coefficients
      n.num_spatial_dims n.num_points,
    convection_difficulty := reduce_normalized_convection_scale_to_difficulty n.normalized_convection_scale
      n.num_spatial_dims n.num_points Mx,
    single_channel := n.single_channel, conservative := n.conservative, maximum_absolute := Mx, order := n.order,
    dealiasing_fraction := n.dealiasing_fraction, num_circle_points := n.num_circle_points,
    circle_radius := n.circle_radius }

/-- **Physical = normalised on the wiring, convection.**  The step of the physical stepper `(L, dt, a, b)` (real `L`) IS the step of the
    normalised stepper on `α = a_j dt / L^j`, `β = b dt / L`, for every order, flag combination and option. -/
theorem GeneralConvectionStepper_step_eq_normalized (g : GeneralConvectionStepperArgs ℂ) (ℓ : ℝ)
    (hL : g.domain_extent = (ℓ : ℂ)) :
    GeneralConvectionStepper_step g
      = NormalizedConvectionStepper_step (GeneralConvectionStepper_to_normalized g) := by
  unfold NormalizedConvectionStepper_step
  rw [GeneralConvectionStepper_step_model, GeneralConvectionStepper_step_model,
    NormalizedConvectionStepper_super_args_eq]
  simp only [GeneralConvectionStepper_to_normalized, hL]
  funext u
  exact convection_step_normalized _ _ _ _ ℓ _ _ _ _ _ _ _ _ u

/-- **Difficulty arguments, convection.**  The difficulty stepper built from `(γ, δ) = reduce_*(α, β)` hands its parent EXACTLY `(α, β)`
    and every option. -/
theorem DifficultyConvectionStepper_super_args_to_difficulty (n : NormalizedConvectionStepperArgs ℂ) (Mx : ℂ)
    (hD : n.num_spatial_dims ≠ 0) (hN : n.num_points ≠ 0) (hM : Mx ≠ 0) :
    DifficultyConvectionStepper_super_args (NormalizedConvectionStepper_to_difficulty n Mx) = n := by
  have hD' : (n.num_spatial_dims : ℂ) ≠ 0 := Nat.cast_ne_zero.mpr hD
  have hN' : (n.num_points : ℂ) ≠ 0 := Nat.cast_ne_zero.mpr hN
  rw [DifficultyConvectionStepper_super_args_eq]
  simp only [NormalizedConvectionStepper_to_difficulty,
    (C13_difficulty_coefficients_inverse n.normalized_linear_coefficients _ _ hD' hN' two_ne_zero).1,
    (C13_difficulty_scales_inverse n.normalized_convection_scale Mx _ _ hD' hN' hM).1]

/-- **Physical = difficulty, convection.**  physical stepper = difficulty stepper on `γ_j = α_j N^j 2^{j-1} D`, `δ = β M N D`. -/
theorem GeneralConvectionStepper_step_eq_difficulty (g : GeneralConvectionStepperArgs ℂ) (ℓ : ℝ)
    (hL : g.domain_extent = (ℓ : ℂ)) (Mx : ℂ) (hD : g.num_spatial_dims ≠ 0) (hN : g.num_points ≠ 0)
    (hM : Mx ≠ 0) :
    GeneralConvectionStepper_step g
      = DifficultyConvectionStepper_step
          (NormalizedConvectionStepper_to_difficulty (GeneralConvectionStepper_to_normalized g) Mx) := by
  unfold DifficultyConvectionStepper_step
  rw [DifficultyConvectionStepper_super_args_to_difficulty _ Mx hD hN hM]
  exact GeneralConvectionStepper_step_eq_normalized g ℓ hL

/-- **only the groups matter, convection.**  Two physical configurations (possibly different `L`, `dt`, `a`, `b`)
    with the same normalised arguments have the same step. -/
theorem GeneralConvectionStepper_step_only_groups (g g' : GeneralConvectionStepperArgs ℂ) (ℓ ℓ' : ℝ)
    (hL : g.domain_extent = (ℓ : ℂ)) (hL' : g'.domain_extent = (ℓ' : ℂ))
    (h : GeneralConvectionStepper_to_normalized g = GeneralConvectionStepper_to_normalized g') :
    GeneralConvectionStepper_step g = GeneralConvectionStepper_step g' := by
  rw [GeneralConvectionStepper_step_eq_normalized g ℓ hL, GeneralConvectionStepper_step_eq_normalized g' ℓ' hL', h]

/-- the difficulty stepper written out on the MODEL: `L = 1`, `dt = 1`, `α = extract(γ)`, `β = δ / (M N D)`, the user's
    flags and options -/
theorem DifficultyConvectionStepper_step_model (d : DifficultyConvectionStepperArgs ℂ) :
    DifficultyConvectionStepper_step d
      = etdrkStep d.order 1
          (fun _ h => polySymbol (cfgOf d.num_spatial_dims d.num_points 1 d.dealiasing_fraction)
            (generalLinear d.num_spatial_dims
              (extract_normalized_coefficients_from_difficulty d.linear_difficulties d.num_spatial_dims
                d.num_points)) h)
          d.num_circle_points d.circle_radius
          (liftTermND (cfgOf d.num_spatial_dims d.num_points 1 d.dealiasing_fraction)
            (if d.single_channel then 1 else d.num_spatial_dims)
            (convection (cfgOf d.num_spatial_dims d.num_points 1 d.dealiasing_fraction)
              (if d.single_channel then 1 else d.num_spatial_dims)
              (extract_normalized_convection_scale_from_difficulty d.convection_difficulty d.num_spatial_dims
                d.num_points d.maximum_absolute) d.single_channel d.conservative)) := by
  unfold DifficultyConvectionStepper_step NormalizedConvectionStepper_step
  rw [GeneralConvectionStepper_step_model, DifficultyConvectionStepper_super_args_eq,
    NormalizedConvectionStepper_super_args_eq]

/-- a physical configuration with a real domain extent, `D, N ≠ 0`, and a non-zero `maximum_absolute` -/
example : ∃ (g : GeneralConvectionStepperArgs ℂ) (ℓ : ℝ) (Mx : ℂ),
    g.domain_extent = (ℓ : ℂ) ∧ g.num_spatial_dims ≠ 0 ∧ g.num_points ≠ 0 ∧ Mx ≠ 0 :=
  ⟨GeneralConvectionStepper_with_defaults 1 ((3 : ℝ) : ℂ) 32 (1 / 10), 3, 1, rfl, Nat.one_ne_zero, by decide,
    one_ne_zero⟩

example : ∃ (n : NormalizedConvectionStepperArgs ℂ) (Mx : ℂ),
    n.num_spatial_dims ≠ 0 ∧ n.num_points ≠ 0 ∧ Mx ≠ 0 :=
  ⟨NormalizedConvectionStepper_with_defaults 2 48, 1, by decide, by decide, one_ne_zero⟩

/-- two DIFFERENT physical configurations (`L = 1` vs `L = 2`, diffusivity `1` vs `4`, convection scale `1` vs `2`)
    with the same normalised arguments: the hypothesis of `GeneralConvectionStepper_step_only_groups` is satisfiable
    non-trivially -/
example : ∃ (g g' : GeneralConvectionStepperArgs ℂ) (ℓ ℓ' : ℝ),
    g.domain_extent = (ℓ : ℂ) ∧ g'.domain_extent = (ℓ' : ℂ) ∧ ℓ ≠ ℓ' ∧
      GeneralConvectionStepper_to_normalized g = GeneralConvectionStepper_to_normalized g' :=
  ⟨{ num_spatial_dims := 1, domain_extent := ((1 : ℝ) : ℂ), num_points := 32, dt := 1,
     linear_coefficients := [0, 0, 1], convection_scale := 1, single_channel := false, conservative := false,
     order := 2, dealiasing_fraction := (2, 3), num_circle_points := 16, circle_radius := 1 },
   { num_spatial_dims := 1, domain_extent := ((2 : ℝ) : ℂ), num_points := 32, dt := 1,
     linear_coefficients := [0, 0, 4], convection_scale := 2, single_channel := false, conservative := false,
     order := 2, dealiasing_fraction := (2, 3), num_circle_points := 16, circle_radius := 1 },
   1, 2, rfl, rfl, by norm_num, by
    simp only [GeneralConvectionStepper_to_normalized, C13_normalize_coefficients_formula,
      normalize_convection_scale, List.mapIdx_cons, List.mapIdx_nil]
    norm_num⟩

/-- the hypotheses of `liftTermND_scale` are satisfiable -/
example : ∃ (cL c1 : Cfg ℂ) (TL T1 : MC ℂ → MC ℂ) (dt : ℂ),
    modes cL = modes c1 ∧ ∀ uh ch h, dt * at2 (TL uh) ch h = at2 (T1 uh) ch h :=
  ⟨cfgOf 1 8 2 (2, 3), cfgOf 1 8 1 (2, 3), id, id, 1, rfl, fun _ _ _ => one_mul _⟩

end Exponax.Interface
