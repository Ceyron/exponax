import ExponaxModel.Proofs.SpectralLayoutPrelude
import ExponaxModel.Model.Nonlin
/-
`Generated/SpectralLayout.lean` is regenerated by `harness/translate_layout.py` from the source of
`exponax/_spectral.py`, `exponax/_utils.py` (`make_grid`, `wrap_bc`) and
`exponax/nonlin_fun/_base.py`.  Here every regenerated definition is proved equal to the
hand-written model function of `Model/Layout.lean` (on the domain where the Python code is
defined), so every theorem about the model transfers to the regenerated definition, and an edit of
the source breaks a proof.
-/
set_option linter.unusedSectionVars false
namespace Exponax
open Exponax.Layout Exponax.Gen.SpectralLayout

theorem generated_functions_eq : generated_functions =
    ["build_wavenumbers", "build_scaled_wavenumbers", "build_derivative_operator", "space_indices",
     "spatial_shape", "wavenumber_shape", "low_pass_filter_mask", "oddball_filter_mask",
     "_build_scaling_array", "build_scaling_array", "get_modes_slices", "make_grid", "wrap_bc",
     "dealias_cutoff_layout", "dealiasing_mask"] := rfl

theorem generated_shapes_eq : generated_shapes =
    ["build_wavenumbers", "build_scaled_wavenumbers", "build_derivative_operator",
     "_build_scaling_array", "make_grid", "wrap_bc"] := rfl

/-- the functions of `exponax/_spectral.py` that the layout translator leaves out (a new function appears here
    and breaks this `rfl`).  "Untranslated" means by `translate_layout.py` only: they are regenerated in
    `Generated/SpectralOps.lean` and `Generated/Steppers.lean`, those of `_utils.py` below in `Generated/LoopsGen.lean`
    and `Generated/BaseStepperGen.lean`. -/
theorem untranslated_spectral_functions_eq : untranslated_spectral_functions =
    ["build_gradient_inner_product_operator", "build_laplace_operator", "derivative", "fft",
     "get_fourier_coefficients", "get_spectrum", "ifft", "make_incompressible"] := rfl

theorem untranslated_utils_functions_eq : untranslated_utils_functions =
    ["build_ic_set", "repeat", "rollout", "stack_sub_trajectories"] := rfl

/-- the list of per-axis wavenumber arrays of `build_wavenumbers` before the `"xy"` reversal -/
def wnAxes (D N : ℕ) : List (Vec ℤ) :=
  List.replicate (D - 1) (Vec.mk N (fun i => fftfreq N i)) ++ [Vec.mk (N / 2 + 1) (fun i => rfftfreq N i)]

theorem build_wavenumbers_unfold (D N : ℕ) (hN : 0 < N) (ix : String) (h : List ℕ) :
    build_wavenumbers D N ix h =
      stack_meshgrid (if (ix == "xy" && D == 2) = true then (wnAxes D N).reverse else wnAxes D N) ix h := by
  simp only [build_wavenumbers, rightmost_vec N hN, other_vec N hN, toNat_pred, wnAxes]

theorem mapIdx_axes {α β : Type} (D : ℕ) (hD : 1 ≤ D) (a b : α) (f : ℕ → α → β) :
    (List.replicate (D - 1) a ++ [b]).mapIdx f =
      (List.range D).map (fun d => if d + 1 = D then f d b else f d a) := by
  rw [mapIdx_replicate_append, Nat.sub_add_cancel hD]
  apply List.map_congr_left
  intro d _
  have : d = D - 1 ↔ d + 1 = D := by omega
  simp only [this]

theorem build_wavenumbers_ij (D N : ℕ) (hD : 1 ≤ D) (hN : 0 < N) (h : List ℕ) :
    build_wavenumbers D N "ij" h = wnVec D N h := by
  rw [build_wavenumbers_unfold D N hN, str_ij_ne_xy, Bool.false_and, if_neg Bool.false_ne_true,
    stack_meshgrid_ij, wnAxes, mapIdx_axes D hD]
  rfl

theorem build_wavenumbers_ij_getD (D N : ℕ) (hD : 1 ≤ D) (hN : 0 < N) (h : List ℕ) (d : ℕ) (hd : d < D) :
    (build_wavenumbers D N "ij" h).getD d 0 = wn D N h d := by
  rw [build_wavenumbers_ij D N hD hN, wnVec]
  simp [hd]

theorem build_wavenumbers_ij_flat (D N : ℕ) (hD : 1 ≤ D) (hN : 0 < N) (i : ℕ) :
    build_wavenumbers D N "ij" (unflatten (wavenumberShape D N) i) = wnFlat D N i := by
  rw [build_wavenumbers_ij D N hD hN]; rfl

theorem build_wavenumbers_shape_ij (D N : ℕ) (hD : 1 ≤ D) (hN : 0 < N) :
    build_wavenumbers_shape D N "ij" = D :: wavenumberShape D N := by
  simp only [build_wavenumbers_shape, rightmost_vec N hN, other_vec N hN, toNat_pred,
    str_ij_ne_xy, Bool.false_and, Bool.false_eq_true, if_false, meshgrid_shape_ij, wavenumberShape,
    List.length_append, List.length_replicate, List.length_singleton, Nat.sub_add_cancel hD, List.map_append,
    List.map_replicate, List.map_cons, List.map_nil]

/-- why the library rounds: ANY evaluation of `fftfreq(N, 1/N)[i]` / `rfftfreq(N, 1/N)[i]` with an absolute
    error below `1/2` (floating point: `49 * (1 / 49) != 1`) is rounded to the exact integer wavenumber -/
theorem wavenumber_rounding_robust (N i : ℕ) (q : ℚ) :
    (|q - ((fftfreq N i : ℤ) : ℚ)| < 1 / 2 → jnp_round q = fftfreq N i) ∧
    (|q - ((rfftfreq N i : ℤ) : ℚ)| < 1 / 2 → jnp_round q = rfftfreq N i) :=
  ⟨jnp_round_near q _, jnp_round_near q _⟩

def xyIndex (h : List ℕ) (d : ℕ) : ℕ := h.getD (if d = 0 then 1 else if d = 1 then 0 else d) 0

theorem stack_meshgrid_xy {T : Type} (xs : List (Vec T)) (hx : 2 ≤ xs.length) (idx : List ℕ) :
    stack_meshgrid xs "xy" idx = xs.mapIdx (fun d x => x.get (xyIndex idx d)) := by
  simp only [stack_meshgrid, meshgrid_axis_xy _ _ hx, xyIndex]

theorem str_xy_eq : (("xy" : String) == "xy") = true := by decide

theorem build_wavenumbers_xy_one (N : ℕ) (hN : 0 < N) (h : List ℕ) :
    build_wavenumbers 1 N "xy" h = wnVec 1 N h := by
  rw [build_wavenumbers_unfold 1 N hN]
  rfl

/-- three and more spatial dimensions: no reversal, `meshgrid` swaps the first two axes -/
theorem build_wavenumbers_xy_ge_three (D N : ℕ) (hD : 3 ≤ D) (hN : 0 < N) (h : List ℕ) :
    build_wavenumbers D N "xy" h =
      (List.range D).map (fun d => if d + 1 = D then rfftfreq N (xyIndex h d) else fftfreq N (xyIndex h d)) := by
  have h2 : (D == 2) = false := beq_eq_false_iff_ne.2 (by omega)
  have hl : 2 ≤ (wnAxes D N).length := by
    rw [wnAxes, List.length_append, List.length_replicate]; exact le_trans (by omega) (Nat.le_add_right _ _)
  rw [build_wavenumbers_unfold D N hN, h2, Bool.and_false, if_neg Bool.false_ne_true, stack_meshgrid_xy _ hl,
    wnAxes, mapIdx_axes D (by omega)]

/-- under `"xy"` the array has the same shape: for `D = 2` the reversal and the swap cancel, for `D ≥ 3` the two
    swapped axes have the same length -/
theorem build_wavenumbers_shape_xy (D N : ℕ) (hD : 1 ≤ D) (hN : 0 < N) :
    build_wavenumbers_shape D N "xy" = D :: wavenumberShape D N := by
  simp only [build_wavenumbers_shape, rightmost_vec N hN, other_vec N hN, toNat_pred, wavenumberShape, str_xy_eq,
    Bool.true_and]
  obtain _ | _ | _ | k := D
  · omega
  · rfl
  · exact congrArg _ (meshgrid_shape_xy _ _ [])
  · exact congrArg₂ _ (by simp) (by
      simp only [show k + 3 - 1 = k + 2 from rfl, List.replicate_succ, List.cons_append]
      exact (meshgrid_shape_xy _ _ _).trans (by simp))

section deriv
variable {K : Type} [Add K] [Sub K] [Mul K] [Div K] [Neg K] [Zero K] [One K] [NatCast K] [IntCast K]
  [HasExp K] [HasI K] [HasPi K] [HasRe K] [HasIsZero K]

/-- no algebraic law of `K` is used: the generated term is literally this one -/
theorem build_scaled_wavenumbers_ij (D N : ℕ) (L : K) (hD : 1 ≤ D) (hN : 0 < N) (h : List ℕ) :
    build_scaled_wavenumbers D L N "ij" h =
      (wnVec D N h).map (fun k => (lit 2 * HasPi.pi / L) * (IntCast.intCast k : K)) := by
  simp only [build_scaled_wavenumbers, build_wavenumbers_ij D N hD hN]

theorem build_derivative_operator_ij (D N : ℕ) (L : K) (hD : 1 ≤ D) (hN : 0 < N) (h : List ℕ) :
    build_derivative_operator D L N "ij" h =
      (wnVec D N h).map (fun k => HasI.I * ((lit 2 * HasPi.pi / L) * (IntCast.intCast k : K))) := by
  simp only [build_derivative_operator, build_scaled_wavenumbers_ij D N L hD hN, List.map_map]
  rfl

/-- **entry `d` of `build_derivative_operator` at the flat stored mode `i` is `Nonlin.deriv c d i`**
    (the derivative symbol every nonlinear function and every stepper symbol of the model is built
    from), for the configuration with `s = 2π/L` -/
theorem build_derivative_operator_deriv (c : Nonlin.Cfg K) (L : K) (hs : c.s = lit 2 * HasPi.pi / L)
    (hD : 1 ≤ c.D) (hN : 0 < c.N) (i d : ℕ) (hd : d < c.D) :
    (build_derivative_operator c.D L c.N "ij" (unflatten (wavenumberShape c.D c.N) i))[d]? =
      some (Nonlin.deriv c d i) := by
  rw [build_derivative_operator_ij c.D c.N L hD hN]
  have hl : d < (wnVec c.D c.N (unflatten (wavenumberShape c.D c.N) i)).length := by
    rw [wnVec_length]; exact hd
  rw [List.getElem?_map, List.getElem?_eq_getElem hl]
  simp only [Option.map_some, Nonlin.deriv, wnFlat, hs]
  rw [List.getD_eq_getElem?_getD, List.getElem?_eq_getElem hl]
  rfl

theorem build_derivative_operator_shape_ij (D N : ℕ) (L : K) (hD : 1 ≤ D) (hN : 0 < N) :
    build_derivative_operator_shape D L N "ij" = D :: wavenumberShape D N := by
  simp only [build_derivative_operator_shape, build_scaled_wavenumbers_shape,
    build_wavenumbers_shape_ij D N hD hN]

end deriv

/-- for every `D` and `N` (also `D = 0`, where Python's `(N,) * (-1)` is the empty tuple) -/
theorem wavenumber_shape_eq (D N : ℕ) : wavenumber_shape D N = wavenumberShape D N := by
  simp only [wavenumber_shape, toNat_pred, wavenumberShape]

theorem spatial_shape_eq (D N : ℕ) : spatial_shape D N = spatialShape D N := rfl

theorem build_wavenumbers_shape_eq (D N : ℕ) (hD : 1 ≤ D) (hN : 0 < N) :
    build_wavenumbers_shape D N "ij" = D :: wavenumber_shape D N := by
  rw [build_wavenumbers_shape_ij D N hD hN, wavenumber_shape_eq]

theorem space_indices_eq (D : ℕ) : space_indices D = (List.range D).map (fun (i : ℕ) => (i : ℤ) - (D : ℤ)) := by
  simp only [space_indices, py_range]
  have : (0 - -(D : ℤ)).toNat = D := by omega
  rw [this]
  apply List.map_congr_left
  intro i _
  ring

theorem space_indices_length (D : ℕ) : (space_indices D).length = D := by
  simp [space_indices_eq]

/-- on an array with `D + 1` axes (channel axis first) the `i`-th space index is axis `i + 1`:
    exactly the `D` trailing axes, in order -/
theorem space_indices_resolve (D i : ℕ) (hi : i < D) :
    (space_indices D).getD i 0 + ((D + 1 : ℕ) : ℤ) = ((i + 1 : ℕ) : ℤ) := by
  rw [space_indices_eq]
  simp [hi]
  ring

/-- `axis_separate=True` with the rational cut-off `p/q`: the model's `lowPassSep` -/
theorem low_pass_filter_mask_sep (D N : ℕ) (hD : 1 ≤ D) (hN : 0 < N) (p q : ℤ) (hq : 0 < q) (h : List ℕ) :
    low_pass_filter_mask D N ((p : ℚ) / (q : ℚ)) true "ij" h = lowPassSep (wnVec D N h) p q := by
  simp only [low_pass_filter_mask, build_wavenumbers_ij D N hD hN, if_true]
  rw [foldl_and_eq_all (fun k => decide (((((Int.natAbs k : ℕ) : ℤ) : ℤ) : ℚ) ≤ (p : ℚ) / (q : ℚ)))]
  simp only [Bool.true_and, lowPassSep]
  congr 1
  funext k
  exact decide_abs_le_div k p q hq

theorem low_pass_filter_mask_sep_int (D N : ℕ) (hD : 1 ≤ D) (hN : 0 < N) (c : ℤ) (h : List ℕ) :
    low_pass_filter_mask D N (c : ℚ) true "ij" h = lowPassSep (wnVec D N h) c 1 := by
  simpa using low_pass_filter_mask_sep D N hD hN c 1 one_pos h

/-- `axis_separate=False` with an integer cut-off: the model's `lowPassSphere` -/
theorem low_pass_filter_mask_sphere (D N : ℕ) (hD : 1 ≤ D) (hN : 0 < N) (c : ℤ) (h : List ℕ) :
    low_pass_filter_mask D N (c : ℚ) false "ij" h = lowPassSphere (wnVec D N h) c := by
  simp only [low_pass_filter_mask, build_wavenumbers_ij D N hD hN, Bool.false_eq_true, if_false]
  exact l2norm_le_intCast _ c

/-- `axis_separate=False` with any rational cut-off: `‖k‖₂ ≤ c` over the reals -/
theorem low_pass_filter_mask_sphere_iff (D N : ℕ) (hD : 1 ≤ D) (hN : 0 < N) (c : ℚ) (h : List ℕ) :
    low_pass_filter_mask D N c false "ij" h = true ↔
      Real.sqrt ((normSq (wnVec D N h) : ℤ) : ℝ) ≤ (c : ℝ) := by
  simp only [low_pass_filter_mask, build_wavenumbers_ij D N hD hN, Bool.false_eq_true, if_false]
  exact l2norm_le_iff_sqrt _ c

theorem oddball_filter_mask_eq (D N : ℕ) (hD : 1 ≤ D) (hN : 0 < N) (h : List ℕ) :
    oddball_filter_mask D N h = oddball N (wnVec D N h) := by
  unfold oddball_filter_mask oddball
  by_cases hodd : N % 2 = 1
  · simp [hodd]
  · have h1 : (N % 2 == 1) = false := by simpa using hodd
    simp only [h1, Bool.false_eq_true, if_false, hodd]
    exact low_pass_filter_mask_sep_int D N hD hN _ h

theorem oddball_filter_mask_flat (D N : ℕ) (hD : 1 ≤ D) (hN : 0 < N) (i : ℕ) :
    oddball_filter_mask D N (unflatten (wavenumberShape D N) i) = oddball N (wnFlat D N i) :=
  oddball_filter_mask_eq D N hD hN _

/-- the cut-off arithmetic of `BaseNonlinearFun.__init__` translated here (exact rationals) is the
    definition `Gen.Misc.dealias_cutoff` regenerated by `translate.py`, at `K := ℚ` -/
theorem dealias_cutoff_layout_eq (N : ℕ) (f : ℚ) :
    dealias_cutoff_layout N f = Exponax.Gen.Misc.dealias_cutoff (K := ℚ) N f := by
  simp only [dealias_cutoff_layout, Exponax.Gen.Misc.dealias_cutoff, lit]

theorem dealias_cutoff_eq (N fp fq : ℕ) (hq : 0 < fq) :
    Exponax.Gen.Misc.dealias_cutoff (K := ℚ) N ((fp : ℚ) / (fq : ℚ)) =
      (((dealiasCutoff N fp fq).1 : ℤ) : ℚ) / (((dealiasCutoff N fp fq).2 : ℤ) : ℚ) := by
  have h : (fq : ℚ) ≠ 0 := Nat.cast_ne_zero.2 hq.ne'
  simp only [Exponax.Gen.Misc.dealias_cutoff, dealiasCutoff, lit]
  push_cast
  rw [sub_div, div_self h, add_sub_cancel_right, div_mul_eq_mul_div]

/-- **the dealiasing mask `BaseNonlinearFun.__init__` stores, at the stored index `h`, is the model's
    `dealiasMask`** (`dealiasing_fraction = fp/fq`) -/
theorem dealiasing_mask_eq (D N fp fq : ℕ) (hD : 1 ≤ D) (hN : 0 < N) (hq : 0 < fq) (h : List ℕ) :
    dealiasing_mask D N (some ((fp : ℚ) / (fq : ℚ))) h = some (dealiasMask N fp fq (wnVec D N h)) := by
  simp only [dealiasing_mask, dealias_cutoff_eq N fp fq hq, dealiasMask]
  rw [low_pass_filter_mask_sep D N hD hN _ _ (by simpa [dealiasCutoff] using hq)]

theorem dealiasing_mask_flat (D N fp fq : ℕ) (hD : 1 ≤ D) (hN : 0 < N) (hq : 0 < fq) (i : ℕ) :
    dealiasing_mask D N (some ((fp : ℚ) / (fq : ℚ))) (unflatten (wavenumberShape D N) i) =
      some (dealiasMask N fp fq (wnFlat D N i)) :=
  dealiasing_mask_eq D N fp fq hD hN hq _

theorem dealiasing_mask_none (D N : ℕ) (h : List ℕ) : dealiasing_mask D N none h = none := rfl

/-- the per-axis scaling factors of `_build_scaling_array`, in the model's words -/
def scAxes (D N r o : ℕ) : List (Vec ℚ) :=
  List.replicate (D - 1) (Vec.mk N (fun i => (axisScale N o false (fftfreq N i) : ℚ))) ++
    [Vec.mk (N / 2 + 1) (fun i => (axisScale N r true (rfftfreq N i) : ℚ))]

/-- `axisScale` in the nested form `_build_scaling_array` writes it: the Nyquist test is made first, and only for
    even `N` -/
theorem axisScale_eq (N den : ℕ) (isLast : Bool) (k : ℤ) :
    (axisScale N den isLast k : ℚ) =
      if N % 2 = 0 then
        (if k = (if isLast then ((N / 2 : ℕ) : ℤ) else Int.fdiv (-(N : ℤ)) 2) then ((N : ℕ) : ℚ)
          else if k = 0 then ((N : ℕ) : ℚ) else ((N : ℕ) : ℚ) / ((den : ℕ) : ℚ))
      else (if k = 0 then ((N : ℕ) : ℚ) else ((N : ℕ) : ℚ) / ((den : ℕ) : ℚ)) := by
  unfold axisScale isSpecial
  cases isLast <;> by_cases he : N % 2 = 0 <;> by_cases h0 : k = 0 <;>
    simp only [he, h0, lit, beq_iff_eq, Bool.or_eq_true, Bool.and_eq_true, true_or, false_or, true_and, false_and,
      if_true, if_false, ite_self, Bool.false_eq_true]

theorem build_scaling_array_unfold (D N r o : ℕ) (hN : 0 < N) (ix : String) (h : List ℕ) :
    _build_scaling_array D N r o ix h =
      prod_axis0 (stack_meshgrid
        (if (ix == "xy" && D == 2) = true then (scAxes D N r o).reverse else scAxes D N r o) ix h) := by
  simp only [_build_scaling_array, jnp_rfftfreq_get N _ hN, jnp_fftfreq_get N _ hN, jnp_round_intCast,
    jnp_rfftfreq_len, jnp_fftfreq_len, toNat_pred, scAxes, axisScale_eq, beq_iff_eq, if_true, Bool.false_eq_true,
    if_false]
  by_cases he : N % 2 = 0
  · simp only [he, if_true]
  · simp only [he, if_false]

/-- `r`, `o` are `right_most_scaling_denominator`, `others_scaling_denominator` of `_build_scaling_array` -/
theorem _build_scaling_array_ij (D N r o : ℕ) (hD : 1 ≤ D) (hN : 0 < N) (h : List ℕ) :
    _build_scaling_array D N r o "ij" h =
      prodList ((List.range D).map (fun d =>
        (axisScale N (if (d + 1 == D) = true then r else o) (d + 1 == D) (wn D N h d) : ℚ))) := by
  rw [build_scaling_array_unfold D N r o hN, str_ij_ne_xy, Bool.false_and, if_neg Bool.false_ne_true,
    stack_meshgrid_ij, scAxes, mapIdx_axes D hD]
  refine congrArg prodList (List.map_congr_left fun d _ => ?_)
  unfold wn
  by_cases h2 : d + 1 = D
  · rw [if_pos h2, if_pos h2, beq_iff_eq.2 h2]; rfl
  · rw [if_neg h2, if_neg h2, beq_eq_false_iff_ne.2 h2]; rfl

/-- the denominators `build_scaling_array` passes for the mode with code `mode` are those of the model's `scaling` -/
theorem _build_scaling_array_scaling (D N mode : ℕ) (hD : 1 ≤ D) (hN : 0 < N) (h : List ℕ) :
    _build_scaling_array D N (if mode = 0 then 1 else 2) (if mode = 2 then 2 else 1) "ij" h = scaling D N mode h := by
  rw [_build_scaling_array_ij D N _ _ hD hN]
  rfl

theorem build_scaling_array_norm_compensation (D N : ℕ) (hD : 1 ≤ D) (hN : 0 < N) (h : List ℕ) :
    build_scaling_array D N "norm_compensation" "ij" h = some (scaling D N 0 h : ℚ) :=
  congrArg some (_build_scaling_array_scaling D N 0 hD hN h)

theorem build_scaling_array_reconstruction (D N : ℕ) (hD : 1 ≤ D) (hN : 0 < N) (h : List ℕ) :
    build_scaling_array D N "reconstruction" "ij" h = some (scaling D N 1 h : ℚ) :=
  congrArg some (_build_scaling_array_scaling D N 1 hD hN h)

theorem build_scaling_array_coef_extraction (D N : ℕ) (hD : 1 ≤ D) (hN : 0 < N) (h : List ℕ) :
    build_scaling_array D N "coef_extraction" "ij" h = some (scaling D N 2 h : ℚ) :=
  congrArg some (_build_scaling_array_scaling D N 2 hD hN h)

/-- every other mode string raises `ValueError` -/
theorem build_scaling_array_invalid (D N : ℕ) (mode ix : String) (h : List ℕ)
    (h1 : mode ≠ "norm_compensation") (h2 : mode ≠ "reconstruction") (h3 : mode ≠ "coef_extraction") :
    build_scaling_array D N mode ix h = none := by
  simp [build_scaling_array, h1, h2, h3]

theorem _build_scaling_array_shape_ij (D N r o : ℕ) :
    _build_scaling_array_shape D N r o "ij" = 1 :: wavenumberShape D N := by
  by_cases he : N % 2 = 0 <;>
    simp only [_build_scaling_array_shape, jnp_rfftfreq_len, jnp_fftfreq_len, toNat_pred, str_ij_ne_xy,
      Bool.false_and, Bool.false_eq_true, if_false, meshgrid_shape_ij, List.tail_cons, he, beq_self_eq_true, if_true,
      beq_iff_eq, List.map_append, List.map_replicate, List.map_cons, List.map_nil, wavenumberShape]

/-- so the generated rational array also determines `scaling` at `K := ℂ` -/
theorem scaling_cast {K : Type} [Field K] [CharZero K] (D N mode : ℕ) (h : List ℕ) :
    (((scaling D N mode h : ℚ)) : K) = (scaling D N mode h : K) := by
  rw [scaling_eq, scaling_eq]
  push_cast
  rfl

/-- **`get_modes_slices(D, N)`: every block is the channel slice `slice(None)` followed by the model's
    block of `modeSlices D N`, in the same order** (for every `D`, `N`) -/
theorem get_modes_slices_eq (D N : ℕ) :
    get_modes_slices D N = (modeSlices D N).map (fun b => ((none, none) : Option ℤ × Option ℤ) :: b) := by
  by_cases he : N % 2 = 0 <;>
    simp only [get_modes_slices, map_const_py_range, itertools_product_cons_singleton,
      itertools_product_replicate, List.map_map, modeSlices, he, beq_self_eq_true, beq_iff_eq, if_true, if_false,
      Function.comp_def, List.reverse_cons, List.cons_append, List.nil_append, Nat.cast_add, Nat.cast_one]

theorem get_modes_slices_blocks (D N : ℕ) :
    (get_modes_slices D N).map (fun b =>
        (List.zip b.tail (wavenumberShape D N)).map (fun (s, len) => pySlice len s.1 s.2)) =
      modeBlocks D N := by
  rw [get_modes_slices_eq, List.map_map]
  rfl

theorem get_modes_slices_length (D N : ℕ) : (get_modes_slices D N).length = 2 ^ (D - 1) := by
  rw [get_modes_slices_eq, List.length_map, modeSlices_length]

section grid
variable {K : Type} [Field K]

/-- the 1-D grid of `make_grid` (after the `full` / `zero_centered` branches), in the model's words -/
def gridVec (L : K) (N : ℕ) (full zc : Bool) : Vec K :=
  Vec.mk (gridLen N full) (fun j => gridCoord L N zc j)

theorem make_grid_unfold (D N : ℕ) (L : K) (full zc : Bool) (ix : String) (idx : List ℕ) :
    make_grid D L N full zc ix idx = stack_meshgrid (List.replicate D (gridVec L N full zc)) ix idx := by
  cases full <;> cases zc <;>
    simp only [make_grid, jnp_linspace_zero, gridVec, gridLen, gridCoord, Bool.false_eq_true, if_false, if_true,
      Nat.add_sub_cancel]

/-- **`make_grid(D, L, N, full, zero_centered)` at the grid index `idx`: coordinate `d` is
    `gridCoord L N zero_centered idx[d] = idx[d]·L/N (− L/2)`** — left end `0` included, spacing `L/N` -/
theorem make_grid_ij (D N : ℕ) (L : K) (full zc : Bool) (idx : List ℕ) :
    make_grid D L N full zc "ij" idx = (List.range D).map (fun d => gridCoord L N zc (idx.getD d 0)) := by
  rw [make_grid_unfold, stack_meshgrid_ij, mapIdx_replicate]
  rfl

/-- the grid has `N` points per axis (right end excluded), `N + 1` with `full=True` -/
theorem make_grid_shape_ij (D N : ℕ) (L : K) (full zc : Bool) :
    make_grid_shape D L N full zc "ij" = D :: List.replicate D (gridLen N full) := by
  cases full <;> cases zc <;>
    simp only [make_grid_shape, meshgrid_shape_ij, jnp_linspace, gridLen, List.length_replicate, List.map_replicate,
      Bool.false_eq_true, if_false, if_true]

theorem make_grid_xy_two (N : ℕ) (L : K) (full zc : Bool) (idx : List ℕ) :
    make_grid 2 L N full zc "xy" idx =
      [gridCoord L N zc (idx.getD 1 0), gridCoord L N zc (idx.getD 0 0)] := by
  rw [make_grid_unfold, stack_meshgrid_xy _ (by simp)]
  rfl

end grid

section wrap
variable {K : Type}

/-- `wrap_bc(u)[c, j₁, …, j_D] = u[c, j₁ mod N, …, j_D mod N]` for `u` of shape `(C, N, …, N)`:
    the channel axis is not padded, every spatial axis gets one wrapped entry at the end -/
theorem wrap_bc_mod (u : List ℕ → K) (C D N c : ℕ) (js : List ℕ) (hc : c < C) (hj : js.length = D) :
    wrap_bc u (C :: List.replicate D N) (c :: js) = u (c :: js.map (fun j => j % N)) := by
  simp only [wrap_bc, jnp_pad_wrap, List.drop_one, List.tail_cons, List.length_replicate,
    List.singleton_append, List.mapIdx_cons, List.getD_cons_zero, wrap_index_zero, Nat.mod_eq_of_lt hc]
  congr 2
  apply List.ext_getElem
  · rw [List.length_mapIdx, List.length_map]
  · intro a h1 h2
    have ha : a < D := by rwa [List.length_mapIdx, hj] at h1
    rw [List.getElem_mapIdx, List.getElem_map, getD_cons_replicate _ _ _ _ _ ha, getD_cons_replicate _ _ _ _ _ ha]
    exact wrap_index_zero _ _

/-- **`wrap_bc` in the model's flat indexing: entry `i` of channel `c` of the padded `(N+1)^D` array is
    entry `wrapSource D N i` of channel `c` of the state** -/
theorem wrap_bc_eq (u : List ℕ → K) (C D N c i : ℕ) (hN : 0 < N) (hc : c < C) :
    wrap_bc u (C :: List.replicate D N) (c :: unflatten (List.replicate D (N + 1)) i) =
      u (c :: unflatten (List.replicate D N) (wrapSource D N i)) := by
  rw [wrap_bc_mod u C D N c _ hc (by rw [unflatten_length]; simp)]
  unfold wrapSource
  rw [unflatten_flatten]
  rw [List.forall₂_iff_get]
  refine ⟨by simp [unflatten_length], ?_⟩
  intro a h1 h2
  simp only [List.get_eq_getElem, List.getElem_map, List.getElem_replicate]
  exact Nat.mod_lt _ hN

theorem wrap_bc_shape_eq (u : List ℕ → K) (C D N : ℕ) :
    wrap_bc_shape u (C :: List.replicate D N) = C :: List.replicate D (N + 1) := by
  simp only [wrap_bc_shape, jnp_pad_shape, List.drop_one, List.tail_cons, List.length_replicate,
    List.singleton_append, List.mapIdx_cons, List.getD_cons_zero, Nat.zero_add]
  congr 1
  rw [mapIdx_replicate]
  apply List.ext_getElem
  · rw [List.length_map, List.length_range, List.length_replicate]
  · intro a h1 h2
    have ha : a < D := by rwa [List.length_map, List.length_range] at h1
    rw [List.getElem_map, List.getElem_range, List.getElem_replicate, getD_cons_replicate _ _ _ _ _ ha]
    exact congrArg (· + 1) (Nat.zero_add N)

end wrap

end Exponax
