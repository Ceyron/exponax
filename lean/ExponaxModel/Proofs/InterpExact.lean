import ExponaxModel.Proofs.InterpRoundTrip
import ExponaxModel.Proofs.InterpThereBack
/-
C15 — "Fourier interpolation and `map_between_resolutions` are exact on band-limited states and
preserve the mean".  Entry point: the claims I1–I4 about the MODEL definitions
`Interp.mapBetween`, `Interp.interpolate` (`K := ℂ`, `HasPi/HasExp/HasI/HasRe` as in `Instances.lean`).
I1 is `mapBetween_mean` (`InterpMean`), I3 `interpolate_gridPoint` (`InterpGrid`), I4 `mapBetween_nd_exact` (`InterpND`),
I2 (b) `mapBetween_one_subsample` with its odd and even cases (`InterpRoundTrip`: the one 1-D statement about states that
are not band-limited); I2 and I2 (a) are the `D = 1` cases of I4 and of the n-D round trip of `InterpThereBack`.  They are
stated as `C15_*` in `Properties/C15.lean`; here are the 1-D and written-out forms, with non-vacuity examples.

Range of validity:
  I1  holds for all `D ≥ 1`, `N_old ≥ 1`, `N_new ≥ 1` (no `≥ 2` needed in the model), both flags;
      it FAILS for `N_new = 0` (example below); real input is needed (for complex input the mapped
      mean is the real part of the mean: `mapBetween_sum`).
  I2  needs only `N_new ≥ 1`, `N_old ≠ N_new` (the `interpolate` form also `N_old ≥ 1`, `s ≠ 0`); realness of `u` is not needed for exactness itself,
      only for the round trip / sub-sampling corollaries.
  I2b odd `N_old`: no hypothesis.  Even `N_old`: exact iff `û_{N/2} = 0`; otherwise the Nyquist mode
      is removed (`oddballZero = true`) or DOUBLED (`oddballZero = false`).
  I3  all `D ≥ 1`, `N ≥ 1`, `s ≠ 0`, real `u`.
  I4  all `D ≥ 1`, `N_old ≠ N_new`, both `≥ 1`.  (For `min(N_old, N_new) = 1` and `D ≥ 2` the slice
      `-0:` of `get_modes_slices` is the whole axis; in the MODEL the out-of-range source entries
      read as `0` (`Array.getD`) and exactness still holds — proved separately in `InterpNDOne`.
      The Python code would instead broadcast / fail there; not covered by this model.)
-/
namespace Exponax.Interp
open Exponax Exponax.Layout Exponax.Transform Exponax.DFT Finset

/-- non-vacuity of I1 (and of every `real input` hypothesis below): real samples -/
theorem real_tab (n : ℕ) (x : ℕ → ℝ) : ∀ j < n, ((tab n (fun j => ((x j : ℝ) : ℂ))).getD j 0).im = 0 := by
  intro j hj
  rw [tab_getD _ _ _ _ hj]
  simp

example : ∃ (D Nold Nnew : ℕ) (u : Array ℂ), 0 < D ∧ 0 < Nold ∧ 0 < Nnew ∧ Nold ≠ Nnew ∧
    ∀ j < Nold ^ D, (u.getD j 0).im = 0 :=
  ⟨2, 4, 6, tab (4 ^ 2) (fun j => (((j : ℝ)) : ℂ)), by norm_num, by norm_num, by norm_num, by norm_num,
    real_tab _ _⟩

/-- I1 is FALSE for `N_new = 0` (the model then returns the empty field, of "mean" `0/0 = 0`) -/
example : (∑ j ∈ range (0 ^ 1), (mapBetween 1 1 0 false #[(1 : ℂ)]).getD j 0) / ((0 : ℕ) : ℂ) ^ 1
    ≠ (∑ j ∈ range (1 ^ 1), (#[(1 : ℂ)]).getD j 0) / ((1 : ℕ) : ℂ) ^ 1 := by
  simp

/-- **I2** (explicit trigonometric interpolant). -/
theorem I2_exact_1d (Nold Nnew : ℕ) (hne : Nold ≠ Nnew) (hNn : 0 < Nnew) (ob : Bool)
    (u : Array ℂ) (hbl : BandLimited1 Nold (min Nold Nnew) u) (j : ℕ) (hj : j < Nnew) :
    (mapBetween 1 Nold Nnew ob u).getD j 0 =
      (∑ h ∈ range (Nold / 2 + 1), (herm_weight 1 Nold h : ℂ) *
        ((((rfftnM 1 Nold u).getD h 0 *
            Complex.exp (2 * Real.pi * Complex.I * (h : ℂ) * (((j : ℝ) / (Nnew : ℝ) : ℝ) : ℂ))).re : ℝ) : ℂ))
        / (Nold : ℂ) := by
  rcases Nat.eq_zero_or_pos Nold with rfl | hNo
  · rw [mapBetween_one_getD 0 Nnew hne hNn ob u j hj, Nat.cast_zero, div_zero, div_zero]
  · rw [mapBetween_nd_exact 1 Nold Nnew one_pos hNo hNn hne ob 1 one_ne_zero u
        ((bandLimitedN_one_iff _ _ u).mpr hbl) j (by rwa [pow_one]),
      interpolate_eq 1 Nold one_pos hNo, numModes_one, pow_one]
    refine congrArg (· / _) (Finset.sum_congr rfl fun h _ => ?_)
    rw [exp_gridPoint 1 Nnew 1 one_ne_zero, wnFlat_one, phaseK_one_of_lt Nnew _ j hj, zeta_neg_eq_exp]

/-- **I2** (in terms of the model's `FourierInterpolator`). -/
theorem I2_exact_1d_interpolate (Nold Nnew : ℕ) (hne : Nold ≠ Nnew) (hNo : 0 < Nold) (hNn : 0 < Nnew)
    (ob : Bool) (s : ℂ) (hs : s ≠ 0) (u : Array ℂ) (hbl : BandLimited1 Nold (min Nold Nnew) u)
    (j : ℕ) (hj : j < Nnew) :
    (mapBetween 1 Nold Nnew ob u).getD j 0 = interpolate 1 Nold s u (gridPoint 1 Nnew s j) :=
  mapBetween_nd_exact 1 Nold Nnew one_pos hNo hNn hne ob s hs u ((bandLimitedN_one_iff _ _ u).mpr hbl) j
    (by rwa [pow_one])

/-- the band-limit hypothesis is EMPTY when up-sampling from an odd grid: I2 then holds for every `u` -/
theorem bandLimited1_of_odd_up (Nold Nnew : ℕ) (hodd : Nold % 2 = 1) (hlt : Nold < Nnew) (u : Array ℂ) :
    BandLimited1 Nold (min Nold Nnew) u := by
  intro h hh hm
  have : min Nold Nnew = Nold := by omega
  omega

/-- when up-sampling from an even grid it says exactly: the Nyquist coefficient vanishes -/
theorem bandLimited1_even_up_iff (Nold Nnew : ℕ) (hev : Nold % 2 = 0) (hlt : Nold < Nnew) (u : Array ℂ) :
    BandLimited1 Nold (min Nold Nnew) u ↔ (rfftnM 1 Nold u).getD (Nold / 2) 0 = 0 := by
  have hmin : min Nold Nnew = Nold := by omega
  rw [hmin]
  constructor
  · intro hbl; exact hbl (Nold / 2) le_rfl (by omega)
  · intro hz h hh hm
    have : h = Nold / 2 := by omega
    rw [this]; exact hz

/-- the constant field is band-limited in every dimension (non-vacuity of `BandLimitedN`) -/
theorem bandLimitedN_ones (D N m : ℕ) (hD : 0 < D) (hN : 0 < N) (hm : 1 ≤ m) :
    BandLimitedN D N m (tab (N ^ D) (fun _ => (1 : ℂ))) := by
  intro h hh hnb
  rw [rfftnM_ones D N hD hN h hh, if_neg]
  rintro rfl
  apply hnb
  rw [inBand_wnFlat_iff]
  intro d _
  rw [wnFlat_zero]
  simp
  omega

/-- non-vacuity of `BandLimited1` when down-sampling: the constant field -/
example : BandLimited1 6 (min 6 4) (tab (6 ^ 1) (fun _ => (1 : ℂ))) :=
  (bandLimitedN_one_iff 6 (min 6 4) _).mp (bandLimitedN_ones 1 6 (min 6 4) (by norm_num) (by norm_num) (by norm_num))

/-- **I2 (a)** round trip (up-then-down and down-then-up). -/
theorem I2a_roundtrip (Nold Nnew : ℕ) (hne : Nold ≠ Nnew) (hNo : 0 < Nold) (hNn : 0 < Nnew)
    (ob ob' : Bool) (u : Array ℂ) (hu : ∀ j < Nold, (u.getD j 0).im = 0)
    (hbl : BandLimited1 Nold (min Nold Nnew) u) (j : ℕ) (hj : j < Nold) :
    (mapBetween 1 Nnew Nold ob' (mapBetween 1 Nold Nnew ob u)).getD j 0 = u.getD j 0 :=
  SmallGaps.mapBetween_round_trip_getD 1 Nold Nnew one_pos hNo hNn ob ob' u (by rwa [pow_one])
    ((bandLimitedN_one_iff _ _ u).mpr hbl) j (by rwa [pow_one])

/-- up-then-down from an odd grid is the identity on EVERY real field -/
theorem I2a_roundtrip_odd_up (Nold Nnew : ℕ) (hodd : Nold % 2 = 1) (hlt : Nold < Nnew)
    (ob ob' : Bool) (u : Array ℂ) (hu : ∀ j < Nold, (u.getD j 0).im = 0) (j : ℕ) (hj : j < Nold) :
    (mapBetween 1 Nnew Nold ob' (mapBetween 1 Nold Nnew ob u)).getD j 0 = u.getD j 0 :=
  I2a_roundtrip Nold Nnew (by omega) (by omega) (by omega) ob ob' u hu
    (bandLimited1_of_odd_up Nold Nnew hodd hlt u) j hj

/-- **I2 (b)**, even `N_old`: the criterion (exact form: `mapBetween_one_subsample`) -/
theorem I2b_subsample_even_iff (Nold p : ℕ) (hNo : 0 < Nold) (hp : 2 ≤ p) (hev : Nold % 2 = 0)
    (ob : Bool) (u : Array ℂ) (hu : ∀ j < Nold, (u.getD j 0).im = 0) :
    (∀ j < Nold, (mapBetween 1 Nold (p * Nold) ob u).getD (p * j) 0 = u.getD j 0)
      ↔ (rfftnM 1 Nold u).getD (Nold / 2) 0 = 0 :=
  mapBetween_one_subsample_even_iff Nold p hNo hp hev ob u hu

/-- non-vacuity of the hypotheses of I2 (a)/(b): a real field on an odd grid (any such field is
    admissible), and a real field on an even grid whose Nyquist coefficient vanishes -/
example : ∃ (Nold Nnew : ℕ) (u : Array ℂ), Nold ≠ Nnew ∧ 0 < Nold ∧ 0 < Nnew ∧
    (∀ j < Nold, (u.getD j 0).im = 0) ∧ BandLimited1 Nold (min Nold Nnew) u :=
  ⟨5, 8, tab 5 (fun j => (((j : ℝ)) : ℂ)), by norm_num, by norm_num, by norm_num, real_tab _ _,
    bandLimited1_of_odd_up 5 8 (by norm_num) (by norm_num) _⟩

example : ∃ (Nold : ℕ) (u : Array ℂ), 0 < Nold ∧ Nold % 2 = 0 ∧
    (∀ j < Nold, (u.getD j 0).im = 0) ∧ (rfftnM 1 Nold u).getD (Nold / 2) 0 = 0 :=
  ⟨4, tab (4 ^ 1) (fun _ => (1 : ℂ)), by norm_num, by norm_num,
    by intro j hj; rw [tab_getD _ _ _ _ (by simpa using hj)]; simp,
    by rw [rfftnM_ones 1 4 (by norm_num) (by norm_num) _ (by rw [numModes_one]; norm_num)]; norm_num⟩

/-- I3 (`interpolate_gridPoint`) in 1-D with the coordinate written out: `x_j = (2π/s)·j/N` -/
theorem I3_interpolate_grid_1d (N : ℕ) (hN : 0 < N) (s : ℂ) (hs : s ≠ 0) (u : Array ℂ)
    (hu : ∀ j < N, (u.getD j 0).im = 0) (j : ℕ) (hj : j < N) :
    interpolate 1 N s u [(2 * (Real.pi : ℂ) / s) * (j : ℂ) / (N : ℂ)] = u.getD j 0 := by
  have := interpolate_gridPoint 1 N Nat.one_pos hN s hs u (by simpa using hu) j (by simpa using hj)
  simpa [gridPoint, digit_one_of_lt N j hj] using this

example : ∃ (s : ℂ), s ≠ 0 := ⟨1, one_ne_zero⟩

/-- I4 (`mapBetween_nd_exact`) with the band-limit hypothesis written out per axis -/
theorem I4_exact_nd' (D Nold Nnew : ℕ) (hD : 0 < D) (hNo : 0 < Nold) (hNn : 0 < Nnew) (hne : Nold ≠ Nnew)
    (ob : Bool) (s : ℂ) (hs : s ≠ 0) (u : Array ℂ)
    (hbl : ∀ h, h < numModes D Nold →
      (∃ d, d < D ∧ ((min Nold Nnew : ℕ) : ℤ) ≤ 2 * |(wnFlat D Nold h).getD d 0|) →
        (rfftnM D Nold u).getD h 0 = 0)
    (j : ℕ) (hj : j < Nnew ^ D) :
    (mapBetween D Nold Nnew ob u).getD j 0 = interpolate D Nold s u (gridPoint D Nnew s j) :=
  mapBetween_nd_exact D Nold Nnew hD hNo hNn hne ob s hs u
    ((bandLimitedN_iff D Nold (min Nold Nnew) u).mpr hbl) j hj

/-- non-vacuity of I4 -/
example : ∃ (D Nold Nnew : ℕ) (u : Array ℂ), 0 < D ∧ 0 < Nold ∧ 0 < Nnew ∧ Nold ≠ Nnew ∧
    BandLimitedN D Nold (min Nold Nnew) u :=
  ⟨3, 4, 6, _, by norm_num, by norm_num, by norm_num, by norm_num,
    bandLimitedN_ones 3 4 (min 4 6) (by norm_num) (by norm_num) (by norm_num)⟩

end Exponax.Interp
