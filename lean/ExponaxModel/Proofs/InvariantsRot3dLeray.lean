import ExponaxModel.Proofs.InvariantsRot3d
import ExponaxModel.Proofs.AliasND2Examples
/-
C09 (invariants) — the divergence hypothesis of the no-work identity of `InvariantsRot3d` holds for a projected velocity `û = leray(rfftn w)` (`leray_div_free`:
the Leray projection of the transforms of three real fields is Hermitian-consistent on the retained
band, lattice symbol `δ_de − d_d Δ̂⁻¹ d_e`), and non-vacuity of the hypotheses of the `InvariantsRot3d` theorems.
-/
namespace Exponax.Invariants
open Exponax Exponax.Layout Exponax.Transform Exponax.DFT Exponax.Nonlin Exponax.Alias Exponax.AliasND Exponax.Conserve Finset

theorem conj_invLapZeroSym (c : Cfg ℂ) (s : ℝ) (hs : c.s = (s : ℂ)) (p : Fin c.D → ℤ) :
    (starRingEnd ℂ) (invLapZeroSym c p) = invLapZeroSym c (-p) := by
  unfold invLapZeroSym
  rw [lapsym_neg]
  split_ifs with h0
  · exact map_zero _
  · rw [map_div₀, map_one, conj_lapsym c s hs]

noncomputable def lerayLattice (c : Cfg ℂ) (w : ℕ → Array ℂ) (d : ℕ) (k : Fin c.D → ℤ) : ℂ :=
  dftV c.D c.N (w d) k
    + dsym c d k * (-(invLapZeroSym c k) * ∑ e ∈ range c.D, dsym c e k * dftV c.D c.N (w e) k)

theorem conj_lerayLattice (c : Cfg ℂ) (s : ℝ) (hs : c.s = (s : ℂ)) (w : ℕ → Array ℂ)
    (hw : ∀ e, e < c.D → IsRealND c.D c.N (w e)) (d : ℕ) (hd : d < c.D) (k : Fin c.D → ℤ) :
    (starRingEnd ℂ) (lerayLattice c w d k) = lerayLattice c w d (-k) := by
  unfold lerayLattice
  rw [map_add, map_mul, map_mul, map_neg, map_sum, conj_dftV c.D c.N (w d) (hw d hd),
    conj_dsym c s hs, conj_invLapZeroSym c s hs]
  refine congrArg (fun z => _ + _ * (_ * z)) (Finset.sum_congr rfl fun e he => ?_)
  rw [map_mul, conj_dsym c s hs, conj_dftV c.D c.N (w e) (hw e (Finset.mem_range.mp he))]

theorem leray_eq_lattice (c : Cfg ℂ) (hD : c.D = 3) (hN : 0 < c.N) (w : ℕ → Array ℂ) (d h : ℕ)
    (hd : d < 3) (hh : h < numModes c.D c.N) :
    ((leray c #[rfftnM c.D c.N (w 0), rfftnM c.D c.N (w 1), rfftnM c.D c.N (w 2)]).getD d #[]).getD h 0
      = lerayLattice c w d (kvec c.D c.N h) := by
  have hM : h < modes c := hh
  have hat : ∀ e, e < 3 →
      at2 (#[rfftnM c.D c.N (w 0), rfftnM c.D c.N (w 1), rfftnM c.D c.N (w 2)] : MC ℂ) e h
        = dftV c.D c.N (w e) (kvec c.D c.N h) := by
    intro e he
    unfold at2
    rw [getD_three (fun e => rfftnM c.D c.N (w e)) e he, rfftn_eq_dftV c.D c.N hN (w e) h hh]
  show at2 (leray c _) d h = _
  rw [at2_leray c _ d h (by omega) hM, specDiv_eq_sum, hat d hd, deriv_eq_dsym c d (by omega) h,
    invLapZero_eq_invLapZeroSym]
  unfold lerayLattice
  refine congrArg (fun z => _ + _ * (_ * z)) (Finset.sum_congr rfl fun e he => ?_)
  have he' : e < 3 := by have := Finset.mem_range.mp he; omega
  rw [hat e he', deriv_eq_dsym c e (Finset.mem_range.mp he) h]

theorem rfftn_nifft_leray (c : Cfg ℂ) (hD : c.D = 3) (hq : c.fq ≠ 0) (hN : 0 < c.N)
    (h2 : 2 * Kc c < (c.N : ℤ)) (s : ℝ) (hs : c.s = (s : ℂ)) (w : ℕ → Array ℂ)
    (hw : ∀ e, e < 3 → IsRealND c.D c.N (w e)) (d h : ℕ) (hd : d < 3) (hh : h < numModes c.D c.N) :
    (rfftnM c.D c.N (nifft c
        ((leray c #[rfftnM c.D c.N (w 0), rfftnM c.D c.N (w 1), rfftnM c.D c.N (w 2)]).getD d #[]))).getD h 0
      = mask c h *
        at2 (leray c #[rfftnM c.D c.N (w 0), rfftnM c.D c.N (w 1), rfftnM c.D c.N (w 2)]) d h := by
  have hw' : ∀ e, e < c.D → IsRealND c.D c.N (w e) := fun e he => hw e (by omega)
  refine rfftn_nifft_of_hermitian c (by omega) hq hN h2 _ (lerayLattice c w d) (fun h' hh' _ => ?_) h hh
  have e1 := leray_eq_lattice c hD hN w d h' hd hh'
  exact ⟨e1, by rw [e1, conj_lerayLattice c s hs w hw' d (by omega)]⟩

theorem leray_div_free (c : Cfg ℂ) (hD : c.D = 3) (hq : c.fq ≠ 0) (h2 : 2 * Kc c < (c.N : ℤ))
    (hN : 0 < c.N) (s : ℝ) (hs : c.s = (s : ℂ)) (hs0 : s ≠ 0) (w : ℕ → Array ℂ)
    (hw : ∀ e, e < 3 → IsRealND c.D c.N (w e)) (h : ℕ) (hh : h < modes c) :
    ∑ d ∈ range c.D, Nonlin.deriv c d h * (rfftnM c.D c.N (nifft c
      ((leray c #[rfftnM c.D c.N (w 0), rfftnM c.D c.N (w 1), rfftnM c.D c.N (w 2)]).getD d #[]))).getD h 0
      = 0 := by
  have hterm : ∀ d ∈ range c.D,
      Nonlin.deriv c d h * (rfftnM c.D c.N (nifft c
        ((leray c #[rfftnM c.D c.N (w 0), rfftnM c.D c.N (w 1), rfftnM c.D c.N (w 2)]).getD d #[]))).getD h 0
      = mask c h * (Nonlin.deriv c d h *
          at2 (leray c #[rfftnM c.D c.N (w 0), rfftnM c.D c.N (w 1), rfftnM c.D c.N (w 2)]) d h) := by
    intro d hd
    have hd' : d < 3 := by have := Finset.mem_range.mp hd; omega
    rw [rfftn_nifft_leray c hD hq hN h2 s hs w hw d h hd' hh, mul_left_comm]
  rw [Finset.sum_congr rfl hterm, ← Finset.mul_sum, ← specDiv_eq_sum, specDiv_leray c s hs hs0 _ h hh,
    mul_zero]

theorem deriv_mul_rfftn_const (c : Cfg ℂ) (hD : 0 < c.D) (hN : 0 < c.N) (a : ℂ) (d h : ℕ)
    (hh : h < numModes c.D c.N) :
    deriv c d h * (rfftnM c.D c.N (tab (c.N ^ c.D) fun _ => a)).getD h 0 = 0 := by
  rw [rfftn_eq_dftV c.D c.N hN _ h hh, dftV_const c.D c.N hN]
  split_ifs with hk
  · rw [(stored_dvd_iff c.D c.N h hD hN hh).mp hk, deriv_zero_mode, zero_mul]
  · rw [mul_zero]

theorem const_isRealND (D N : ℕ) (r : ℝ) : IsRealND D N (tab (N ^ D) fun _ => (r : ℂ)) := by
  intro j hj
  rw [DFT.tab_getD _ _ _ _ hj, Complex.ofReal_im]

/-- the hypotheses of `projected3d_no_work_real` are satisfiable: `D = 3`, `N = 8`, fraction 2/3
    (`Kc = 1`), unit scale, the constant velocity `(1, 2, 3)` -/
example : (cfg23 3).D = 3 ∧ (cfg23 3).fq ≠ 0 ∧ 2 * Kc (cfg23 3) < (((cfg23 3).N : ℕ) : ℤ) ∧ 0 < (cfg23 3).N ∧
    (cfg23 3).s = ((1 : ℝ) : ℂ) ∧
    (∀ i, i < 3 → IsRealND (cfg23 3).D (cfg23 3).N
      ((fun i => tab ((cfg23 3).N ^ (cfg23 3).D) fun _ => (((i + 1 : ℕ) : ℝ) : ℂ)) i)) ∧
    (∀ h, h < modes (cfg23 3) → mask (cfg23 3) h = 1 →
      ∑ d ∈ range (cfg23 3).D, deriv (cfg23 3) d h *
        (rfftnM (cfg23 3).D (cfg23 3).N
          ((fun i => tab ((cfg23 3).N ^ (cfg23 3).D) fun _ => (((i + 1 : ℕ) : ℝ) : ℂ)) d)).getD h 0 = 0) :=
  ⟨rfl, by simp [cfg23], by rw [Kc_cfg23]; simp [cfg23], by simp [cfg23], cfg23_s 3,
    fun i _ => const_isRealND _ _ _,
    fun h hh _ => Finset.sum_eq_zero (fun d _ =>
      deriv_mul_rfftn_const (cfg23 3) (by simp [cfg23]) (by simp [cfg23]) _ d h hh)⟩

/-- the divergence hypothesis of the general form `projected3d_no_work` is satisfiable: it holds for
    `û = leray(rfftn w)` with arbitrary real `w` (this is the content of `C09_rotational_no_work_projected`),
    e.g. for the ramp fields on the 8³ grid -/
example : ∀ h, h < modes (cfg23 3) →
    ∑ d ∈ range (cfg23 3).D, deriv (cfg23 3) d h *
      (rfftnM (cfg23 3).D (cfg23 3).N (nifft (cfg23 3)
        ((leray (cfg23 3) #[rfftnM (cfg23 3).D (cfg23 3).N (ramp ((cfg23 3).N ^ (cfg23 3).D)),
            rfftnM (cfg23 3).D (cfg23 3).N (ramp ((cfg23 3).N ^ (cfg23 3).D)),
            rfftnM (cfg23 3).D (cfg23 3).N (ramp ((cfg23 3).N ^ (cfg23 3).D))]).getD d #[]))).getD h 0 = 0 :=
  fun h hh => leray_div_free (cfg23 3) rfl (by simp [cfg23]) (by rw [Kc_cfg23]; simp [cfg23])
    (by simp [cfg23]) 1 (cfg23_s 3) one_ne_zero (fun _ => ramp ((cfg23 3).N ^ (cfg23 3).D))
    (fun _ _ => ramp_real _ _) h hh

/-- hypotheses of `projected3d_no_work_real_three` (literal `D = 3` layout): the constant velocity `(1, 2, 3)` -/
example : IsRealND 3 (cfg23 3).N (tab ((cfg23 3).N ^ 3) fun _ => ((1 : ℝ) : ℂ)) ∧
    IsRealND 3 (cfg23 3).N (tab ((cfg23 3).N ^ 3) fun _ => ((2 : ℝ) : ℂ)) ∧
    IsRealND 3 (cfg23 3).N (tab ((cfg23 3).N ^ 3) fun _ => ((3 : ℝ) : ℂ)) ∧
    (∀ h, h < modes (cfg23 3) → mask (cfg23 3) h = 1 →
      deriv (cfg23 3) 0 h * (rfftnM 3 (cfg23 3).N (tab ((cfg23 3).N ^ 3) fun _ => ((1 : ℝ) : ℂ))).getD h 0
        + deriv (cfg23 3) 1 h * (rfftnM 3 (cfg23 3).N (tab ((cfg23 3).N ^ 3) fun _ => ((2 : ℝ) : ℂ))).getD h 0
        + deriv (cfg23 3) 2 h * (rfftnM 3 (cfg23 3).N (tab ((cfg23 3).N ^ 3) fun _ => ((3 : ℝ) : ℂ))).getD h 0
        = 0) := by
  refine ⟨const_isRealND 3 _ 1, const_isRealND 3 _ 2, const_isRealND 3 _ 3, fun h hh _ => ?_⟩
  have e := fun (a : ℂ) (d : ℕ) =>
    deriv_mul_rfftn_const (cfg23 3) (by simp [cfg23]) (by simp [cfg23]) a d h hh
  have e0 := e ((1 : ℝ) : ℂ) 0
  have e1 := e ((2 : ℝ) : ℂ) 1
  have e2 := e ((3 : ℝ) : ℂ) 2
  have hD : (cfg23 3).D = 3 := rfl
  rw [hD] at e0 e1 e2
  rw [e0, e1, e2]
  ring

/-- hypotheses of `C09_rotational_no_work_projected`: real fields, `s = 1 ≠ 0` -/
example : (∀ e, e < 3 → IsRealND (cfg23 3).D (cfg23 3).N ((fun _ => ramp ((cfg23 3).N ^ (cfg23 3).D)) e)) ∧
    (cfg23 3).s = ((1 : ℝ) : ℂ) ∧ (1 : ℝ) ≠ 0 :=
  ⟨fun _ _ => ramp_real _ _, cfg23_s 3, one_ne_zero⟩

/-- hypothesis `hF` of `rfftn_nifft_of_hermitian`: the stored transform of a real field, `F = dftV x` -/
example (c : Cfg ℂ) (hN : 0 < c.N) (x : Array ℂ) (hx : IsRealND c.D c.N x) :
    ∀ h, h < numModes c.D c.N → (∀ d, |kvec c.D c.N h d| ≤ Kc c) →
      (rfftnM c.D c.N x).getD h 0 = dftV c.D c.N x (kvec c.D c.N h) ∧
      (starRingEnd ℂ) ((rfftnM c.D c.N x).getD h 0) = dftV c.D c.N x (-kvec c.D c.N h) :=
  fun h hh _ => rfftn_hermitian c.D c.N hN x hx h hh

end Exponax.Invariants
