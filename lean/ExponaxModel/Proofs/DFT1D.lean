import ExponaxModel.Proofs.DFTBasic
/-
`D = 1`, every `N ≥ 1` (odd and even): the layout, orthogonality of the powers of `ζ_N`, the
transforms as sums of such powers, the folding of a full sum onto the stored half, and the two transforms at `N = 2`
written out (`C2R.rfft2_*`, `C2R.irfft2_*`: what the `N = 2` counterexamples compute with).
-/
namespace Exponax.DFT
open Exponax Exponax.Layout Exponax.Transform Finset

theorem wavenumberShape_one (N : ℕ) : wavenumberShape 1 N = [N / 2 + 1] := by
  simp [wavenumberShape]

theorem numModes_one (N : ℕ) : numModes 1 N = N / 2 + 1 := by
  simp [numModes, wavenumberShape, shapeSize]

theorem wnFlat_one (N h : ℕ) : wnFlat 1 N h = [(h : ℤ)] := by
  simp [wnFlat, wnVec, wavenumberShape, unflatten, shapeSize, wn, rfftfreq]

theorem digit_one (N j : ℕ) : digit 1 N j 0 = j % N := by
  simp [digit]

theorem digit_one_of_lt (N j : ℕ) (hj : j < N) : digit 1 N j 0 = j := by
  rw [digit_one, Nat.mod_eq_of_lt hj]

theorem phaseK_one (N : ℕ) (k : ℤ) (j : ℕ) : phaseK 1 N [k] j = k * ((j % N : ℕ) : ℤ) := by
  simp [phaseK, digit]

theorem phaseK_one_of_lt (N : ℕ) (k : ℤ) (j : ℕ) (hj : j < N) : phaseK 1 N [k] j = k * (j : ℤ) := by
  rw [phaseK_one, Nat.mod_eq_of_lt hj]

theorem phase_one_of_lt (N h j : ℕ) (hj : j < N) : phase 1 N h j = (h : ℤ) * (j : ℤ) := by
  rw [phase, wnFlat_one, phaseK_one_of_lt N _ j hj]

theorem herm_weight_one (N h : ℕ) :
    herm_weight 1 N h = if h = 0 ∨ (N % 2 = 0 ∧ h = N / 2) then 1 else 2 := by
  simp [herm_weight, wavenumberShape, unflatten, shapeSize]

theorem zeta_zpow_eq_one_iff (N : ℕ) (hN : 0 < N) (m : ℤ) : zeta N ^ m = 1 ↔ (N : ℤ) ∣ m :=
  (zeta_isPrimitiveRoot N hN).zpow_eq_one_iff_dvd m

theorem zeta_sum_zpow (N : ℕ) (hN : 0 < N) (m : ℤ) :
    ∑ j ∈ range N, zeta N ^ (m * (j : ℤ)) = if (N : ℤ) ∣ m then (N : ℂ) else 0 := by
  have hpow : ∀ j : ℕ, zeta N ^ (m * (j : ℤ)) = (zeta N ^ m) ^ j := by
    intro j; rw [zpow_mul, zpow_natCast]
  simp only [hpow]
  split_ifs with hd
  · rw [(zeta_zpow_eq_one_iff N hN m).mpr hd]; simp
  · have h1 : zeta N ^ m ≠ 1 := fun h => hd ((zeta_zpow_eq_one_iff N hN m).mp h)
    rw [geom_sum_eq h1]
    have : (zeta N ^ m) ^ N = 1 := by
      rw [← zpow_natCast, ← zpow_mul, mul_comm, zpow_mul, zpow_natCast, zeta_pow_self, one_zpow]
    simp [this]

theorem twiddle_sum (N : ℕ) (hN : 0 < N) (m : ℤ) :
    ∑ j ∈ range N, (twiddle N (m * (j : ℤ)) : ℂ) = if (N : ℤ) ∣ m then (N : ℂ) else 0 := by
  simp only [twiddle_eq_zpow]
  exact zeta_sum_zpow N hN m

theorem natCast_dvd_sub_iff (N a b : ℕ) (ha : a < N) (hb : b < N) :
    (N : ℤ) ∣ (a : ℤ) - (b : ℤ) ↔ a = b := by
  constructor
  · intro hd
    have := Int.eq_zero_of_abs_lt_dvd hd (by rw [abs_lt]; constructor <;> omega)
    omega
  · rintro rfl
    rw [sub_self]
    exact dvd_zero _

theorem zeta_sum_sub (N : ℕ) (hN : 0 < N) (a b : ℕ) (ha : a < N) (hb : b < N) :
    ∑ h ∈ range N, zeta N ^ (((a : ℤ) - (b : ℤ)) * (h : ℤ)) = if a = b then (N : ℂ) else 0 := by
  rw [zeta_sum_zpow N hN]
  simp only [natCast_dvd_sub_iff N a b ha hb]

/-- the (periodically extended) DFT of `u`: `F_h = Σ_{j<N} u_j ζ^{h j}`, `h : ℤ` -/
noncomputable def dft (N : ℕ) (u : Array ℂ) (h : ℤ) : ℂ :=
  ∑ j ∈ range N, u.getD j 0 * zeta N ^ (h * (j : ℤ))

theorem rfft1_getD (N : ℕ) (hN : 0 < N) (u : Array ℂ) (h : ℕ) (hh : h ≤ N / 2) :
    (rfftnM 1 N u).getD h 0 = dft N u h := by
  rw [rfftnM_getD 1 N hN u h (by rw [numModes_one]; omega), pow_one, dft]
  apply Finset.sum_congr rfl
  intro j hj
  rw [wnFlat_one, phaseK_one_of_lt N _ j (Finset.mem_range.mp hj), twiddle_eq_zpow]

theorem irfft1_getD (N : ℕ) (hN : 0 < N) (c : Array ℂ) (j : ℕ) (hj : j < N) :
    (irfftnM 1 N c).getD j 0
      = (∑ h ∈ range (N / 2 + 1), (herm_weight 1 N h : ℂ) *
          (((c.getD h 0 * zeta N ^ (-((h : ℤ) * (j : ℤ)))).re : ℝ) : ℂ)) / (N : ℂ) := by
  rw [irfftnM_getD 1 N hN c j (by simpa using hj), numModes_one, pow_one]
  congr 1
  apply Finset.sum_congr rfl
  intro h _
  rw [wnFlat_one, phaseK_one_of_lt N _ j hj, twiddle_eq_zpow]

theorem dft_add_period (N : ℕ) (u : Array ℂ) (h k : ℤ) : dft N u (h + (N : ℤ) * k) = dft N u h := by
  unfold dft
  apply Finset.sum_congr rfl
  intro j _
  congr 1
  rw [show (h + (N : ℤ) * k) * (j : ℤ) = h * j + (N : ℤ) * (k * j) by ring, zeta_zpow_add_mul]

theorem conj_dft (N : ℕ) (u : Array ℂ) (hu : ∀ j < N, (u.getD j 0).im = 0) (h : ℤ) :
    (starRingEnd ℂ) (dft N u h) = dft N u (-h) := by
  unfold dft
  rw [map_sum]
  apply Finset.sum_congr rfl
  intro j hj
  rw [map_mul, conj_zeta_zpow, Complex.conj_eq_iff_im.mpr (hu j (Finset.mem_range.mp hj)), neg_mul]

/-- the indices of weight 2 are `0 < h < N/2`, and their mirror images `N - h` fill `(N/2, N)` -/
theorem half_sum {R : Type} [Semiring R] (N : ℕ) (hN : 0 < N) (f : ℕ → R)
    (hf : ∀ h, 0 < h → h < N → f (N - h) = f h) :
    ∑ h ∈ range (N / 2 + 1), (herm_weight 1 N h : R) * f h = ∑ h ∈ range N, f h := by
  have hw : ∀ h ∈ range (N / 2 + 1), (herm_weight 1 N h : R) * f h =
      f h + if h ∈ Ico 1 ((N + 1) / 2) then f h else 0 := by
    intro h hh
    rw [mem_range] at hh
    rw [herm_weight_one]
    by_cases hc : h = 0 ∨ (N % 2 = 0 ∧ h = N / 2)
    · rw [if_pos hc, if_neg (by rw [mem_Ico]; omega), Nat.cast_one, one_mul, add_zero]
    · rw [if_neg hc, if_pos (by rw [mem_Ico]; omega), Nat.cast_ofNat, two_mul]
  have hmirror : ∑ h ∈ Ico 1 ((N + 1) / 2), f h = ∑ h ∈ Ico (N / 2 + 1) N, f h := by
    have := Finset.sum_Ico_reflect f 1 (show (N + 1) / 2 ≤ N + 1 by omega)
    rw [show N + 1 - (N + 1) / 2 = N / 2 + 1 by omega, Nat.add_sub_cancel] at this
    rw [← this]
    refine (sum_congr rfl fun h hh => ?_).symm
    rw [mem_Ico] at hh
    exact hf h (by omega) (by omega)
  rw [sum_congr rfl hw, sum_add_distrib, sum_ite_mem,
    inter_eq_right.2 (fun h hh => by rw [mem_Ico] at hh; rw [mem_range]; omega), hmirror,
    range_eq_Ico, sum_Ico_consecutive f (Nat.zero_le _) (by omega), range_eq_Ico]

end Exponax.DFT

namespace Exponax.C2R
open Exponax Exponax.Layout Exponax.Transform Exponax.DFT Finset

theorem rfft2_zero (v : Array ℂ) : (rfftnM 1 2 v).getD 0 0 = v.getD 0 0 + v.getD 1 0 := by
  rw [rfft1_getD 2 (by norm_num) _ 0 (by norm_num), dft, Finset.sum_range_succ, Finset.sum_range_one]
  simp

theorem rfft2_one (v : Array ℂ) : (rfftnM 1 2 v).getD 1 0 = v.getD 0 0 - v.getD 1 0 := by
  rw [rfft1_getD 2 (by norm_num) _ 1 (by norm_num), dft, Finset.sum_range_succ, Finset.sum_range_one,
    zeta_two]
  simp
  ring

theorem irfft2_zero (c : Array ℂ) :
    (irfftnM 1 2 c).getD 0 0 = ((((c.getD 0 0).re + (c.getD 1 0).re) / 2 : ℝ) : ℂ) := by
  rw [irfft1_getD 2 (by norm_num) _ 0 (by norm_num), show 2 / 2 + 1 = 2 from rfl,
    Finset.sum_range_succ, Finset.sum_range_one, herm_weight_one, herm_weight_one,
    if_pos (Or.inl rfl), if_pos (Or.inr ⟨rfl, rfl⟩)]
  simp

theorem irfft2_one (c : Array ℂ) :
    (irfftnM 1 2 c).getD 1 0 = ((((c.getD 0 0).re - (c.getD 1 0).re) / 2 : ℝ) : ℂ) := by
  rw [irfft1_getD 2 (by norm_num) _ 1 (by norm_num), show 2 / 2 + 1 = 2 from rfl,
    Finset.sum_range_succ, Finset.sum_range_one, herm_weight_one, herm_weight_one,
    if_pos (Or.inl rfl), if_pos (Or.inr ⟨rfl, rfl⟩), zeta_two]
  simp
  ring

end Exponax.C2R
