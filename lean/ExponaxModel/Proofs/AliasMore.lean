import ExponaxModel.Proofs.AliasNonlin
import ExponaxModel.Proofs.AliasND2Conv
/-
Property C03 — "the pseudo-spectral nonlinear terms return the Fourier coefficients of the documented operator applied
to the band-truncated state, computed WITHOUT ALIASING ERROR on the retained band, and zero outside it" — in 1-D, about
`Model/Nonlin.lean` at `K := ℂ`, is four files, each the `D = 1` case of the `AliasND*` file it imports: `AliasConv`
(circular convolution, band-limited ⇒ linear convolution), `AliasMask` (`nifft` = band truncation), `AliasNonlin`
(conservative convection, polynomial) and this one (the remaining one-channel terms).  The cut-off `Kc` is in
`AliasCutoff`, zero off the band (any `D`) in `AliasOffBand`.

Here, with a real scale `s`, as the `D = 1`, one-channel case of `AliasND`, `AliasND2Grad`, `AliasND2Conv`:
`ifft(mask·û)` IS the band truncation `P_K x` sampled on the grid and `ifft(mask·(i s k)·û)` is `∂ₓ P_K x`
(`dfield c û 0`, box spectrum `dspec c 0 x`); non-conservative convection `u ∂ₓ u` (both code paths),
`GradientNormNonlinearFun` (with and without the zero-mode fix) and the Cahn–Hilliard term, each alias-free
on the retained band and zero outside it.
-/
namespace Exponax.Alias
open Exponax Exponax.Layout Exponax.Transform Exponax.DFT Exponax.Nonlin Exponax.AliasND Finset

theorem nifft_rfft_grid (c : Cfg ℂ) (hD : c.D = 1) (hq : c.fq ≠ 0) (hN : 0 < c.N)
    (h2 : 2 * Kc c < (c.N : ℤ)) (x : Array ℂ) (hx : IsRealField c.N x) (j : ℕ) (hj : j < c.N) :
    (nifft c (rfftnM 1 c.N x)).getD j 0
      = (1 / (c.N : ℂ)) * ∑ m ∈ Finset.Icc (-(Kc c)) (Kc c),
          dft c.N x m * zeta c.N ^ (-(m * (j : ℤ))) := by
  have := nifft_rfftn_grid c (hD ▸ Nat.one_pos) hq hN h2 x ((isRealND_iff hD x).mpr hx) j (by rwa [hD, pow_one])
  simpa only [sum_box_cst hD, dftV_cst hD, vdot_cst hD _ j hj, hD, pow_one] using this

theorem deriv_1d (c : Cfg ℂ) (hD : c.D = 1) (h : ℕ) :
    deriv c 0 h = Complex.I * (c.s * ((h : ℕ) : ℂ)) := by
  rw [deriv_eq]
  unfold kInt
  rw [hD, wnFlat_one]
  simp

theorem dsym_cst (c : Cfg ℂ) (hD : c.D = 1) (n : ℤ) :
    dsym c 0 (cst c.D n) = Complex.I * (c.s * (n : ℂ)) := by
  unfold dsym
  rw [comp_of_lt _ 0 (hD ▸ Nat.one_pos)]

/-- the differentiated field of the n-D files, written out as in the 1-D statements -/
theorem dfield_one (c : Cfg ℂ) (hD : c.D = 1) (uh : Array ℂ) :
    dfield c uh 0 = nifft c (tab (c.N / 2 + 1) fun k => deriv c 0 k * uh.getD k 0) := by
  unfold dfield
  rw [modes_one c hD]

/-- at a retained stored mode the output is the coefficient of `−scale · P_K u · ∂ₓ P_K u`, alias-free; both code
    paths (`single_channel` either way) compute `u ∂ₓ u` -/
theorem convection_nc_one_alias_free_of_cutoff (c : Cfg ℂ) (hD : c.D = 1) (hq : c.fq ≠ 0) (hK : 3 * Kc c < (c.N : ℤ))
    (hN : 0 < c.N) (s : ℝ) (hs : c.s = (s : ℂ)) (scale : ℂ) (x : Array ℂ) (hx : IsRealField c.N x)
    (single : Bool) (h : ℕ) (hh : h ≤ c.N / 2) :
    (mask c h = 1 →
      at2 (convection c 1 scale single false #[rfftnM 1 c.N x]) 0 h
        = -scale * ((1 / (c.N : ℂ)) * ∑ m ∈ Finset.Icc (-(Kc c)) (Kc c),
            trunc (Kc c) (dft c.N x) m *
              (Complex.I * (c.s * (((h : ℤ) - m : ℤ) : ℂ)) * trunc (Kc c) (dft c.N x) ((h : ℤ) - m))))
    ∧ (mask c h = 0 → at2 (convection c 1 scale single false #[rfftnM 1 c.N x]) 0 h = 0) := by
  refine ⟨fun hm => ?_, convection_zero_off_band c 1 scale single false _ 0 h⟩
  have hD' : 0 < c.D := hD ▸ Nat.one_pos
  have hx' := (isRealND_iff hD x).mpr hx
  have huh : (#[rfftnM 1 c.N x] : MC ℂ).getD 0 #[] = rfftnM c.D c.N x := by
    rw [hD]
    rfl
  have hM := lt_numModes_one c hD hh
  cases single
  · have := (convection_multi_nc_alias_free_nd c hD' hq hK hN s hs 1 hD' scale _ (fun _ => x) (fun _ _ => hx')
      (fun ch hch => by rw [Nat.lt_one_iff.mp hch, huh]) 0 Nat.one_pos h hM).1 hm
    rw [Finset.sum_range_one, kvec_one hD, linConv_cst hD] at this
    simpa only [dftV_cst hD, dspec, dsym_cst c hD, trunc_mul] using this
  · have := (convection_single_nc_alias_free_nd c hD' hq hK hN s hs 1 Nat.one_pos scale _ x hx' huh h hM).1 hm
    rw [sum_range_dim_one hD, kvec_one hD, linConv_cst hD] at this
    simpa only [dftV_cst hD, dspec, dsym_cst c hD, trunc_mul] using this

/-- `GradientNormNonlinearFun`: at a retained stored mode the output is the coefficient of `−scale·½·(∂ₓ P_K u)²`,
    alias-free, except that the zero-mode fix sets the mean mode `h = 0` to `0` -/
theorem gradientNorm_one_alias_free_of_cutoff (c : Cfg ℂ) (hD : c.D = 1) (hq : c.fq ≠ 0) (hK : 3 * Kc c < (c.N : ℤ))
    (hN : 0 < c.N) (s : ℝ) (hs : c.s = (s : ℂ)) (scale : ℂ) (zeroFix : Bool) (x : Array ℂ)
    (hx : IsRealField c.N x) (h : ℕ) (hh : h ≤ c.N / 2) :
    (mask c h = 1 →
      at2 (gradientNorm c 1 scale zeroFix #[rfftnM 1 c.N x]) 0 h
        = if zeroFix = true ∧ h = 0 then 0 else
          -scale * (1 / 2) * ((1 / (c.N : ℂ)) * ∑ m ∈ Finset.Icc (-(Kc c)) (Kc c),
            (Complex.I * (c.s * (m : ℂ)) * trunc (Kc c) (dft c.N x) m) *
              (Complex.I * (c.s * (((h : ℤ) - m : ℤ) : ℂ)) * trunc (Kc c) (dft c.N x) ((h : ℤ) - m))))
    ∧ (mask c h = 0 → at2 (gradientNorm c 1 scale zeroFix #[rfftnM 1 c.N x]) 0 h = 0) := by
  have := gradientNorm_alias_free_nd c (hD ▸ Nat.one_pos) hq hK hN s hs 1 scale zeroFix _ (fun _ => x)
    (fun _ _ => (isRealND_iff hD x).mpr hx) (single_getD _) 0 Nat.zero_lt_one h (lt_numModes_one c hD hh)
  rw [sum_range_dim_one hD, kvec_one hD, linConv_cst hD] at this
  simpa only [dftV_cst hD, dspec, dsym_cst c hD, trunc_mul, hD] using this

/-- `CahnHilliardNonlinearFun`: at a retained stored mode the output is the coefficient of `scale · Δ (P_K u)³`,
    alias-free (`4·Kc < N`, e.g. the fraction 1/2) -/
theorem cahnHilliard_one_alias_free_of_cutoff (c : Cfg ℂ) (hD : c.D = 1) (hq : c.fq ≠ 0) (hK : 4 * Kc c < (c.N : ℤ))
    (hN : 0 < c.N) (scale : ℂ) (x : Array ℂ) (hx : IsRealField c.N x) (h : ℕ) (hh : h ≤ c.N / 2) :
    (mask c h = 1 →
      at2 (cahnHilliard c scale #[rfftnM 1 c.N x]) 0 h
        = laplace c 2 h * ((1 / (c.N : ℂ) ^ 2) *
            ∑ a ∈ Finset.Icc (-(Kc c)) (Kc c), ∑ b ∈ Finset.Icc (-(Kc c)) (Kc c),
              trunc (Kc c) (dft c.N x) a * trunc (Kc c) (dft c.N x) b
                * trunc (Kc c) (dft c.N x) ((h : ℤ) - a - b)) * scale)
    ∧ (mask c h = 0 → at2 (cahnHilliard c scale #[rfftnM 1 c.N x]) 0 h = 0) := by
  have := cahnHilliard_alias_free_nd c (hD ▸ Nat.one_pos) hq hK hN scale x
    ((isRealND_iff hD x).mpr hx) h (lt_numModes_one c hD hh)
  rw [kvec_one hD, linConv3_cst hD] at this
  simpa only [dftV_cst hD, hD] using this

/-! Corollaries for the documented fractions 2/3 and 1/2 (literal `fp`, `fq`). -/

theorem dft_u_ux_nifft_rfft (c : Cfg ℂ) (hD : c.D = 1) (hp : c.fp = 2) (hq : c.fq = 3) (hN : 0 < c.N)
    (s : ℝ) (hs : c.s = (s : ℂ)) (x : Array ℂ) (hx : IsRealField c.N x) (h : ℤ) (hh : |h| ≤ Kc c) :
    dft c.N (tab c.N fun j => (nifft c (rfftnM 1 c.N x)).getD j 0 *
        (nifft c (tab (c.N / 2 + 1) fun k => deriv c 0 k * (rfftnM 1 c.N x).getD k 0)).getD j 0) h
      = (1 / (c.N : ℂ)) * ∑ m ∈ Finset.Icc (-(Kc c)) (Kc c),
          trunc (Kc c) (dft c.N x) m *
            (Complex.I * (c.s * ((h - m : ℤ) : ℂ)) * trunc (Kc c) (dft c.N x) (h - m)) := by
  have hD' : 0 < c.D := hD ▸ Nat.one_pos
  have hx' := (isRealND_iff hD x).mpr hx
  have hK := Kc_two_thirds c hp hq
  have := (boxSpec_nifft_rfftn c hD' (by omega) hN hK.2 x hx').dftV_mul
    (boxSpec_dfield c hD' (by omega) hN hK.2 s hs x hx' 0 hD') hN hK.1 (cst c.D h) fun _ => hh
  rw [linConv_cst hD, dfield_one c hD] at this
  simpa only [dftV_cst hD, dspec, dsym_cst c hD, trunc_mul, hD, pow_one] using this

theorem convection_nc_one_alias_free (c : Cfg ℂ) (hD : c.D = 1) (hp : c.fp = 2) (hq : c.fq = 3)
    (hN : 0 < c.N) (s : ℝ) (hs : c.s = (s : ℂ)) (scale : ℂ) (x : Array ℂ) (hx : IsRealField c.N x)
    (single : Bool) (h : ℕ) (hh : h ≤ c.N / 2) :
    (mask c h = 1 →
      at2 (convection c 1 scale single false #[rfftnM 1 c.N x]) 0 h
        = -scale * ((1 / (c.N : ℂ)) * ∑ m ∈ Finset.Icc (-(Kc c)) (Kc c),
            trunc (Kc c) (dft c.N x) m *
              (Complex.I * (c.s * (((h : ℤ) - m : ℤ) : ℂ)) * trunc (Kc c) (dft c.N x) ((h : ℤ) - m))))
    ∧ (mask c h = 0 → at2 (convection c 1 scale single false #[rfftnM 1 c.N x]) 0 h = 0) :=
  convection_nc_one_alias_free_of_cutoff c hD (by omega) (Kc_two_thirds c hp hq).1 hN s hs scale x hx single h hh

theorem dft_ux_sq_nifft_rfft (c : Cfg ℂ) (hD : c.D = 1) (hp : c.fp = 2) (hq : c.fq = 3) (hN : 0 < c.N)
    (s : ℝ) (hs : c.s = (s : ℂ)) (x : Array ℂ) (hx : IsRealField c.N x) (h : ℤ) (hh : |h| ≤ Kc c) :
    dft c.N (tab c.N fun j =>
        (nifft c (tab (c.N / 2 + 1) fun k => deriv c 0 k * (rfftnM 1 c.N x).getD k 0)).getD j 0 *
        (nifft c (tab (c.N / 2 + 1) fun k => deriv c 0 k * (rfftnM 1 c.N x).getD k 0)).getD j 0) h
      = (1 / (c.N : ℂ)) * ∑ m ∈ Finset.Icc (-(Kc c)) (Kc c),
          (Complex.I * (c.s * (m : ℂ)) * trunc (Kc c) (dft c.N x) m) *
            (Complex.I * (c.s * ((h - m : ℤ) : ℂ)) * trunc (Kc c) (dft c.N x) (h - m)) := by
  have hD' : 0 < c.D := hD ▸ Nat.one_pos
  have hK := Kc_two_thirds c hp hq
  have hF := boxSpec_dfield c hD' (by omega) hN hK.2 s hs x ((isRealND_iff hD x).mpr hx) 0 hD'
  have := hF.dftV_mul hF hN hK.1 (cst c.D h) fun _ => hh
  rw [linConv_cst hD, dfield_one c hD] at this
  simpa only [dftV_cst hD, dspec, dsym_cst c hD, trunc_mul, hD, pow_one] using this

theorem gradientNorm_one_alias_free (c : Cfg ℂ) (hD : c.D = 1) (hp : c.fp = 2) (hq : c.fq = 3)
    (hN : 0 < c.N) (s : ℝ) (hs : c.s = (s : ℂ)) (scale : ℂ) (zeroFix : Bool) (x : Array ℂ)
    (hx : IsRealField c.N x) (h : ℕ) (hh : h ≤ c.N / 2) :
    (mask c h = 1 →
      at2 (gradientNorm c 1 scale zeroFix #[rfftnM 1 c.N x]) 0 h
        = if zeroFix = true ∧ h = 0 then 0 else
          -scale * (1 / 2) * ((1 / (c.N : ℂ)) * ∑ m ∈ Finset.Icc (-(Kc c)) (Kc c),
            (Complex.I * (c.s * (m : ℂ)) * trunc (Kc c) (dft c.N x) m) *
              (Complex.I * (c.s * (((h : ℤ) - m : ℤ) : ℂ)) * trunc (Kc c) (dft c.N x) ((h : ℤ) - m))))
    ∧ (mask c h = 0 → at2 (gradientNorm c 1 scale zeroFix #[rfftnM 1 c.N x]) 0 h = 0) :=
  gradientNorm_one_alias_free_of_cutoff c hD (by omega) (Kc_two_thirds c hp hq).1 hN s hs scale zeroFix x hx h hh

theorem cahnHilliard_one_alias_free (c : Cfg ℂ) (hD : c.D = 1) (hp : c.fp = 1) (hq : c.fq = 2)
    (hN : 0 < c.N) (scale : ℂ) (x : Array ℂ) (hx : IsRealField c.N x) (h : ℕ) (hh : h ≤ c.N / 2) :
    (mask c h = 1 →
      at2 (cahnHilliard c scale #[rfftnM 1 c.N x]) 0 h
        = laplace c 2 h * ((1 / (c.N : ℂ) ^ 2) *
            ∑ a ∈ Finset.Icc (-(Kc c)) (Kc c), ∑ b ∈ Finset.Icc (-(Kc c)) (Kc c),
              trunc (Kc c) (dft c.N x) a * trunc (Kc c) (dft c.N x) b
                * trunc (Kc c) (dft c.N x) ((h : ℤ) - a - b)) * scale)
    ∧ (mask c h = 0 → at2 (cahnHilliard c scale #[rfftnM 1 c.N x]) 0 h = 0) :=
  cahnHilliard_one_alias_free_of_cutoff c hD (by omega) (Kc_half c hp hq) hN scale x hx h hh

end Exponax.Alias
