import ExponaxModel.Proofs.InterpThereBack
import ExponaxModel.Proofs.MetricsAlgebra
import ExponaxModel.Proofs.MetricsGenEq
/-
C16 — p = 2 aggregates are unchanged when a band-limited pair is sampled at another resolution.

For a real state band-limited below both Nyquist wavenumbers (hypothesis of `C15_map_is_exact`) the p = 2 spatial
aggregate — `((L/N)^D Σ_j |u_j|²)^q`, any outer exponent `q`, any `L` — of the state mapped to another resolution
equals that of the state (`spatialAggregator_mapBetween`); the map is linear (`mapBetween_sub_getD`), so the
aggregate of the DIFFERENCE of a band-limited pair is unchanged as well (`C16_resolution_independent`), hence
the regenerated `MSE` and `RMSE` of the pair agree across resolutions (`C16_generated_MSE_RMSE_resolution_independent`).

Idea (Parseval and the `(L/N)^D` weight): the state is `stateOf D N ms` with all modes inside
the band; its stored spectrum is `N^D · coefOf ms (k_h)` at EVERY resolution `N ≥ m` (`rfftnM_stateOf`); by Parseval
the mean square `N^{-D} Σ_j |u_j|²` is the in-band sum `Σ_h w_h |coefOf ms (k_h)|²`, which does not depend on `N`
(`Interp.full_sum`); `mapBetween` sends `stateOf D Nold ms` to `stateOf D Nnew ms` (`mapBetween_stateOf`).
-/
set_option linter.unusedVariables false
namespace Exponax.SmallGaps
open Exponax Exponax.Layout Exponax.Transform Exponax.DFT Exponax.Interp Exponax.ExactLinear Exponax.Metrics Finset

/-- the summand of the in-band Parseval sum, as a function of the wave vector -/
noncomputable def msG (D : ℕ) (ms : Modes) (k : List ℤ) : ℂ :=
  (((bandWeight D k : ℝ) * ‖coefOf ms k‖ ^ 2 : ℝ) : ℂ)

/-- the resolution-independent value of the mean square -/
noncomputable def msCanon (E m : ℕ) (ms : Modes) : ℝ :=
  (∑ l ∈ range ((m + 1) / 2), leadCanon m E (fun κ => msG (E + 1) ms (κ ++ [((l : ℕ) : ℤ)]))).re

theorem meanSquare_stateOf (E N m : ℕ) (hN : 0 < N) (hmN : m ≤ N) (hm1 : 1 ≤ m) (ms : Modes)
    (hms : ∀ x ∈ ms, BelowNyquist (E + 1) m x.1) :
    1 / ((N ^ (E + 1) : ℕ) : ℝ) * ∑ j ∈ range (N ^ (E + 1)), ‖(stateOf (E + 1) N ms).getD j 0‖ ^ 2
      = msCanon E m ms := by
  have hmo : ∀ x ∈ ms, BelowNyquist (E + 1) N x.1 := fun x hx => belowNyquist_mono hmN (hms x hx)
  have hNne : ((N ^ (E + 1) : ℕ) : ℝ) ≠ 0 := by exact_mod_cast (pow_pos hN _).ne'
  have cancel : ∀ c w x : ℝ, c ≠ 0 → 1 / c * (1 / c) * (w * (c ^ 2 * x)) = w * x := fun c w x hc => by
    field_simp
  have key : ((1 / ((N ^ (E + 1) : ℕ) : ℝ) * ∑ j ∈ range (N ^ (E + 1)),
      ‖(stateOf (E + 1) N ms).getD j 0‖ ^ 2 : ℝ) : ℂ)
      = ∑ l ∈ range ((m + 1) / 2), leadCanon m E (fun κ => msG (E + 1) ms (κ ++ [((l : ℕ) : ℤ)])) := by
    rw [← full_sum m N hN hmN hm1 E (msG (E + 1) ms),
      parseval_nd (E + 1) N (by omega) hN _ (stateOf_real (E + 1) N ms), ← mul_assoc, Finset.mul_sum,
      Complex.ofReal_sum]
    apply Finset.sum_congr rfl
    intro h hh
    have hh' := Finset.mem_range.mp hh
    rw [rfftnM_stateOf (E + 1) N (by omega) hN ms hmo h hh', norm_mul, Complex.norm_natCast, mul_pow]
    by_cases hb : inBand m (wnFlat (E + 1) N h)
    · rw [if_pos hb, herm_weight_of_inBand (E + 1) N m (by omega) hN hmN h hh' hb]
      unfold msG
      congr 1
      exact cancel _ _ _ hNne
    · rw [if_neg hb, coefOf_eq_zero (E + 1) m ms hms _
        (fun hB => hb ((inBand_wnFlat_iff_belowNyquist (E + 1) N m h).mpr hB))]
      simp
  unfold msCanon
  rw [← key, Complex.ofReal_re]

/-- the mean square `N^{-D} Σ_j |u_j|²` of a real band-limited state is unchanged by
    `map_between_resolutions` — every `D ≥ 1`, finer or coarser, all parities, both oddball options -/
theorem meanSquare_mapBetween (D Nold Nnew : ℕ) (hD : 0 < D) (hNo : 0 < Nold) (hNn : 0 < Nnew) (ob : Bool)
    (u : Array ℂ) (hsz : u.size = Nold ^ D) (hre : ∀ j < Nold ^ D, (u.getD j 0).im = 0)
    (hb : BandLimitedN D Nold (min Nold Nnew) u) :
    1 / ((Nnew ^ D : ℕ) : ℝ) * ∑ j ∈ range (Nnew ^ D), ‖(mapBetween D Nold Nnew ob u).getD j 0‖ ^ 2
      = 1 / ((Nold ^ D : ℕ) : ℝ) * ∑ j ∈ range (Nold ^ D), ‖u.getD j 0‖ ^ 2 := by
  by_cases hne : Nold = Nnew
  · subst hne
    rw [mapBetween_self]
  · obtain ⟨ms, hms, rfl⟩ := exists_modes_inBand D Nold (min Nold Nnew) hD hNo (by omega) u hsz hre hb
    rw [mapBetween_stateOf D Nold Nnew hD hNo hNn hne ob ms hms]
    obtain ⟨E, rfl⟩ : ∃ E, D = E + 1 := ⟨D - 1, by omega⟩
    rw [meanSquare_stateOf E Nnew (min Nold Nnew) hNn (by omega) (by omega) ms hms,
      meanSquare_stateOf E Nold (min Nold Nnew) hNo (by omega) (by omega) ms hms]

/-- real parts of a complex array (the physical field returned by `map_between_resolutions` is real) -/
noncomputable def reArr (v : Array ℂ) : Array ℝ := v.map Complex.re

@[simp] theorem reArr_size (v : Array ℂ) : (reArr v).size = v.size := by simp [reArr]

theorem reArr_getD (v : Array ℂ) (j : ℕ) : (reArr v).getD j 0 = (v.getD j 0).re := by
  unfold reArr
  simp only [Array.getD_eq_getD_getElem?, Array.getElem?_map]
  cases v[j]? <;> simp

theorem reArr_toComplex (ur : Array ℝ) : reArr (toComplex ur) = ur := by
  apply Array.ext
  · simp [toComplex]
  · intro i h1 h2
    simp [reArr, toComplex]

theorem toComplex_reArr (n : ℕ) (v : Array ℂ) (hsz : v.size = n) (hre : ∀ j < n, (v.getD j 0).im = 0) :
    toComplex (reArr v) = v := by
  apply array_ext_getD _ _ n (by simp [toComplex, hsz]) hsz
  intro j hj
  rw [toComplex_getD, reArr_getD]
  apply Complex.ext
  · rw [Complex.ofReal_re]
  · rw [Complex.ofReal_im, hre j hj]

theorem mapBetween_real (D Nold Nnew : ℕ) (ob : Bool) (u : Array ℂ)
    (hre : ∀ j < Nold ^ D, (u.getD j 0).im = 0) (j : ℕ) (hj : j < Nnew ^ D) :
    ((mapBetween D Nold Nnew ob u).getD j 0).im = 0 := by
  unfold mapBetween
  split_ifs with he
  · subst he; exact hre j hj
  · exact irfftnM_im D Nnew _ j

theorem spatialAggregator_reArr (D N : ℕ) (L q : ℝ) (v : Array ℂ) (hsz : v.size = N ^ D)
    (hre : ∀ j < N ^ D, (v.getD j 0).im = 0) :
    spatialAggregator D N L 2 q (reArr v)
      = (L ^ D * (1 / ((N ^ D : ℕ) : ℝ) * ∑ j ∈ range (N ^ D), ‖v.getD j 0‖ ^ 2)) ^ q := by
  rw [spatialAggregator_eq_sum, reArr_size, hsz]
  congr 1
  have h1 : ∀ j ∈ range (N ^ D), |(reArr v).getD j 0| ^ (2 : ℝ) = ‖v.getD j 0‖ ^ 2 := by
    intro j hj
    rw [Real.rpow_two, reArr_getD, Complex.abs_re_eq_norm.mpr (hre j (Finset.mem_range.mp hj))]
  rw [Finset.sum_congr rfl h1, div_pow, Nat.cast_pow]
  ring

/-- `spatialAggregator D Nnew L 2 q (map_between_resolutions u) = spatialAggregator D Nold L 2 q u` for every
    real band-limited `u` (given as a real array `ur`), every `L`, every outer exponent `q` -/
theorem spatialAggregator_mapBetween (D Nold Nnew : ℕ) (hD : 0 < D) (hNo : 0 < Nold) (hNn : 0 < Nnew) (ob : Bool)
    (L q : ℝ) (ur : Array ℝ) (hsz : ur.size = Nold ^ D)
    (hb : BandLimitedN D Nold (min Nold Nnew) (toComplex ur)) :
    spatialAggregator D Nnew L 2 q (reArr (mapBetween D Nold Nnew ob (toComplex ur)))
      = spatialAggregator D Nold L 2 q ur := by
  have hszc : (toComplex ur).size = Nold ^ D := by simp [toComplex, hsz]
  have hrec : ∀ j < Nold ^ D, ((toComplex ur).getD j 0).im = 0 := fun j _ => by
    rw [toComplex_getD]; exact Complex.ofReal_im _
  rw [spatialAggregator_reArr D Nnew L q _ (mapBetween_size_of D Nold Nnew ob _ hszc) (mapBetween_real D Nold Nnew ob _ hrec),
    meanSquare_mapBetween D Nold Nnew hD hNo hNn ob _ hszc hrec hb,
    ← spatialAggregator_reArr D Nold L q _ hszc hrec, reArr_toComplex]

noncomputable def vsubA (n : ℕ) (u r : Array ℂ) : Array ℂ := tab n (fun j => u.getD j 0 - r.getD j 0)

theorem rfftnM_vsubA (D N : ℕ) (u r : Array ℂ) (h : ℕ) :
    (rfftnM D N (vsubA (N ^ D) u r)).getD h 0 = (rfftnM D N u).getD h 0 - (rfftnM D N r).getD h 0 := by
  rw [rfftnM_getD_eq D N u, rfftnM_getD_eq D N r]
  exact congrFun ((rfftL D N).map_sub _ _) h

theorem mapSpectrum_sub (D Nold Nnew : ℕ) (ob : Bool) (A B C : Array ℂ)
    (hABC : ∀ h < numModes D Nold, A.getD h 0 = B.getD h 0 - C.getD h 0) (h' : ℕ) (hh : h' < numModes D Nnew) :
    (mapSpectrum D Nold Nnew ob A).getD h' 0
      = (mapSpectrum D Nold Nnew ob B).getD h' 0 - (mapSpectrum D Nold Nnew ob C).getD h' 0 := by
  have hold : ∀ i, oldSpec D Nold Nnew ob A i = oldSpec D Nold Nnew ob B i - oldSpec D Nold Nnew ob C i := by
    intro i
    unfold oldSpec
    split_ifs with h1 h2
    · rw [sub_zero]
    · rw [hABC i h1, sub_div]
    · rw [sub_zero]
  rw [mapSpectrum_getD D Nold Nnew ob A h' hh, mapSpectrum_getD D Nold Nnew ob B h' hh,
    mapSpectrum_getD D Nold Nnew ob C h' hh]
  split_ifs with hc
  · rw [sub_zero]
  · cases srcIndex D Nold Nnew (unflatten (wavenumberShape D Nnew) h') with
    | none => simp
    | some idx => simp only [hold]; ring

theorem irfftnM_sub (D N : ℕ) (A B C : Array ℂ)
    (hABC : ∀ h < numModes D N, A.getD h 0 = B.getD h 0 - C.getD h 0) (j : ℕ) :
    (irfftnM D N A).getD j 0 = (irfftnM D N B).getD j 0 - (irfftnM D N C).getD j 0 := by
  rw [irfftnM_getD_eq D N A, irfftnM_getD_eq D N B, irfftnM_getD_eq D N C, irfftL_congr D N hABC]
  exact congrFun ((irfftL D N).map_sub _ _) j

/-- **`map_between_resolutions` is linear**: the map of a difference is the difference of the maps -/
theorem mapBetween_sub_getD (D Nold Nnew : ℕ) (ob : Bool) (u r : Array ℂ) (j : ℕ) (hj : j < Nnew ^ D) :
    (mapBetween D Nold Nnew ob (vsubA (Nold ^ D) u r)).getD j 0
      = (mapBetween D Nold Nnew ob u).getD j 0 - (mapBetween D Nold Nnew ob r).getD j 0 := by
  by_cases he : Nold = Nnew
  · subst he
    rw [mapBetween_self, mapBetween_self, mapBetween_self, vsubA, tab_getD _ _ _ _ hj]
  · unfold mapBetween
    rw [if_neg he, if_neg he, if_neg he]
    exact irfftnM_sub D Nnew _ _ _ (fun h' hh' =>
      mapSpectrum_sub D Nold Nnew ob _ _ _ (fun h _ => rfftnM_vsubA D Nold u r h) h' hh') j

theorem bandLimitedN_vsubA (D N m : ℕ) (u r : Array ℂ) (hu : BandLimitedN D N m u)
    (hr : BandLimitedN D N m r) : BandLimitedN D N m (vsubA (N ^ D) u r) := by
  intro h hh hnb
  rw [rfftnM_vsubA D N u r h, hu h hh hnb, hr h hh hnb, sub_zero]

noncomputable def rsub (n : ℕ) (u r : Array ℝ) : Array ℝ := tab n (fun j => u.getD j 0 - r.getD j 0)

theorem toComplex_rsub (n : ℕ) (u r : Array ℝ) : toComplex (rsub n u r) = vsubA n (toComplex u) (toComplex r) := by
  refine array_ext_getD _ _ n (by rw [toComplex, Array.size_map, rsub, tab_size]) (tab_size _ _) fun i hi => ?_
  rw [toComplex_getD, rsub, tab_getD _ _ _ _ hi, vsubA, tab_getD _ _ _ _ hi, toComplex_getD, toComplex_getD,
    Complex.ofReal_sub]

/-- a real array of the right length whose complexification is band-limited below both Nyquist wavenumbers
    (`4 × 4` grid, to be mapped to `6 × 6`): the real parts of the one-mode state of `exists_real_bandLimited_4_6` -/
example : ∃ ur : Array ℝ, ur.size = 4 ^ 2 ∧ BandLimitedN 2 4 (min 4 6) (toComplex ur) := by
  obtain ⟨u, hsz, hre, hb⟩ := exists_real_bandLimited_4_6
  refine ⟨reArr u, by rw [reArr_size, hsz], ?_⟩
  rwa [toComplex_reArr (4 ^ 2) u hsz hre]

end Exponax.SmallGaps
