import Mathlib.Tactic
import Mathlib.Logic.Function.Iterate
import ExponaxModel.Model.Loops
/-
Closed forms of the model of `rollout`, `repeat`, `stack_sub_trajectories` and `RepeatedStepper`
(`Model/Loops.lean`): a rollout is the list of iterates, with aux input the list of left folds.
-/
namespace Exponax.Loops

variable {S A : Type}

theorem scanStates_eq_map (f : S → S) (n : ℕ) (u : S) :
    scanStates f n u = (List.range n).map (fun i => f^[i + 1] u) := by
  induction n generalizing u with
  | zero => rfl
  | succ n ih =>
    rw [scanStates, List.range_succ_eq_map, List.map_cons, List.map_map]
    simp only [ih, Function.iterate_succ, Function.comp_apply, Function.iterate_zero, id_eq]
    rfl

@[simp] theorem scanStates_length (f : S → S) (n : ℕ) (u : S) :
    (scanStates f n u).length = n := by
  simp [scanStates_eq_map]

theorem scanStates_getElem (f : S → S) (n : ℕ) (u : S) (i : ℕ)
    (h : i < (scanStates f n u).length) :
    (scanStates f n u)[i] = f^[i + 1] u := by
  simp [scanStates_eq_map]

theorem scanStates_getElem? (f : S → S) (n : ℕ) (u : S) (i : ℕ) (h : i < n) :
    (scanStates f n u)[i]? = some (f^[i + 1] u) := by
  simp [scanStates_eq_map, h]

theorem rollout_false (f : S → S) (n : ℕ) (u0 : S) :
    rollout f n false u0 = (List.range n).map (fun i => f^[i + 1] u0) := by
  simp [rollout, scanStates_eq_map]

theorem rollout_true (f : S → S) (n : ℕ) (u0 : S) :
    rollout f n true u0 = (List.range (n + 1)).map (fun i => f^[i] u0) := by
  simp only [rollout, if_true, scanStates_eq_map]
  rw [List.range_succ_eq_map, List.map_cons, List.map_map]
  rfl

theorem rollout_length (f : S → S) (n : ℕ) (b : Bool) (u0 : S) :
    (rollout f n b u0).length = if b then n + 1 else n := by
  cases b
  · simp [rollout_false]
  · simp [rollout_true]

theorem rollout_false_getElem? (f : S → S) (n : ℕ) (u0 : S) (i : ℕ) (h : i < n) :
    (rollout f n false u0)[i]? = some (f^[i + 1] u0) := by
  simp [rollout_false, h]

theorem rollout_true_getElem? (f : S → S) (n : ℕ) (u0 : S) (i : ℕ) (h : i ≤ n) :
    (rollout f n true u0)[i]? = some (f^[i] u0) := by
  have : i < n + 1 := by omega
  rw [rollout_true, List.getElem?_map, List.getElem?_range this]
  rfl

theorem rollout_true_eq_cons (f : S → S) (n : ℕ) (u0 : S) :
    rollout f n true u0 = u0 :: rollout f n false u0 := by
  simp [rollout]

theorem repeatN_eq_iterate (f : S → S) (n : ℕ) (u : S) : repeatN f n u = f^[n] u := by
  induction n generalizing u with
  | zero => rfl
  | succ n ih => rw [repeatN, ih, Function.iterate_succ, Function.comp_apply]

theorem repeatN_eq_rollout_getLast? (f : S → S) (n : ℕ) (hn : 0 < n) (u : S) :
    (rollout f n false u).getLast? = some (repeatN f n u) := by
  obtain ⟨m, rfl⟩ : ∃ m, n = m + 1 := ⟨n - 1, by omega⟩
  rw [rollout_false, repeatN_eq_iterate, List.range_succ, List.map_append]
  simp

theorem repeatN_eq_rollout_true_getLast? (f : S → S) (n : ℕ) (u : S) :
    (rollout f n true u).getLast? = some (repeatN f n u) := by
  rw [rollout_true, repeatN_eq_iterate, List.range_succ, List.map_append]
  simp

theorem repeatN_eq_rollout_getLast (f : S → S) (n : ℕ) (hn : 0 < n) (u : S)
    (hne : rollout f n false u ≠ []) :
    (rollout f n false u).getLast hne = repeatN f n u := by
  have h := repeatN_eq_rollout_getLast? f n hn u
  rw [List.getLast?_eq_some_getLast hne] at h
  exact Option.some.inj h

theorem repeatN_add (f : S → S) (m n : ℕ) :
    repeatN f (m + n) = repeatN f n ∘ repeatN f m := by
  funext u
  simp only [Function.comp_apply, repeatN_eq_iterate]
  rw [Nat.add_comm, Function.iterate_add_apply]

theorem repeatN_add_apply (f : S → S) (m n : ℕ) (u : S) :
    repeatN f (m + n) u = repeatN f n (repeatN f m u) := by
  rw [repeatN_add]; rfl

theorem scanStatesAux_replicate (f : S → A → S) (a : A) (n : ℕ) (u : S) :
    scanStatesAux f (List.replicate n a) u = scanStates (fun u => f u a) n u := by
  induction n generalizing u with
  | zero => rfl
  | succ n ih => simp only [List.replicate_succ, scanStatesAux, scanStates, ih]

theorem filterMap_replicate_some (a : A) (n : ℕ) :
    (List.replicate n (some a)).filterMap id = List.replicate n a := by
  induction n with
  | zero => rfl
  | succ n ih => simp [List.replicate_succ]

/-- constant aux (only the head of the aux list is read): the rollout of the partially applied stepper -/
theorem rolloutAux_constant_cons (f : S → A → S) (n : ℕ) (inc : Bool) (u0 : S) (a : A)
    (as : List A) :
    rolloutAux f n inc true u0 (a :: as) = rollout (fun u => f u a) n inc u0 := by
  simp only [rolloutAux, rollout, if_true, List.head?_cons, filterMap_replicate_some,
    scanStatesAux_replicate]

theorem rolloutAux_constant (f : S → A → S) (n : ℕ) (inc : Bool) (u0 : S) (a : A) :
    rolloutAux f n inc true u0 [a] = rollout (fun u => f u a) n inc u0 :=
  rolloutAux_constant_cons f n inc u0 a []

theorem scanStatesAux_length (f : S → A → S) (as : List A) (u : S) :
    (scanStatesAux f as u).length = as.length := by
  induction as generalizing u with
  | nil => rfl
  | cons a as ih => simp [scanStatesAux, ih]

theorem scanStatesAux_getElem? (f : S → A → S) (as : List A) (u : S) (i : ℕ)
    (h : i < as.length) :
    (scanStatesAux f as u)[i]? = some ((as.take (i + 1)).foldl f u) := by
  induction as generalizing u i with
  | nil => simp at h
  | cons a as ih =>
    cases i with
    | zero => simp [scanStatesAux]
    | succ i =>
      simp only [List.length_cons] at h
      simp only [scanStatesAux, List.getElem?_cons_succ, List.take_succ_cons, List.foldl_cons]
      exact ih (f u a) i (by omega)

theorem rolloutAux_false_length (f : S → A → S) (n : ℕ) (u0 : S) (aux : List A)
    (h : n ≤ aux.length) :
    (rolloutAux f n false false u0 aux).length = n := by
  simp [rolloutAux, scanStatesAux_length, h]

theorem rolloutAux_true_length (f : S → A → S) (n : ℕ) (u0 : S) (aux : List A)
    (h : n ≤ aux.length) :
    (rolloutAux f n true false u0 aux).length = n + 1 := by
  simp [rolloutAux, scanStatesAux_length, h]

theorem rolloutAux_false_getElem? (f : S → A → S) (n : ℕ) (u0 : S) (aux : List A)
    (h : n ≤ aux.length) (i : ℕ) (hi : i < n) :
    (rolloutAux f n false false u0 aux)[i]? = some ((aux.take (i + 1)).foldl f u0) := by
  simp only [rolloutAux, Bool.false_eq_true, if_false]
  rw [scanStatesAux_getElem? f (aux.take n) u0 i (by simp; omega), List.take_take]
  congr 3
  omega

theorem rolloutAux_true_getElem? (f : S → A → S) (n : ℕ) (u0 : S) (aux : List A)
    (h : n ≤ aux.length) (i : ℕ) (hi : i ≤ n) :
    (rolloutAux f n true false u0 aux)[i]? = some ((aux.take i).foldl f u0) := by
  cases i with
  | zero => simp [rolloutAux]
  | succ i =>
    have := rolloutAux_false_getElem? f n u0 aux h i (by omega)
    simp only [rolloutAux, Bool.false_eq_true, if_false, if_true, List.getElem?_cons_succ] at this ⊢
    exact this

theorem foldl_replicate_eq_repeatN (f : S → A → S) (a : A) (n : ℕ) (u : S) :
    (List.replicate n a).foldl f u = repeatN (fun u => f u a) n u := by
  induction n generalizing u with
  | zero => rfl
  | succ n ih => simp only [List.replicate_succ, List.foldl_cons, repeatN, ih]

theorem repeatAux_constant (f : S → A → S) (n : ℕ) (u0 : S) (a : A) (as : List A) :
    repeatAux f n true u0 (a :: as) = repeatN (fun u => f u a) n u0 := by
  simp only [repeatAux, if_true, List.head?_cons, filterMap_replicate_some]
  exact foldl_replicate_eq_repeatN f a n u0

theorem repeatAux_false (f : S → A → S) (n : ℕ) (u0 : S) (aux : List A) :
    repeatAux f n false u0 aux = (aux.take n).foldl f u0 := by
  simp [repeatAux]

theorem repeatAux_eq_rolloutAux_getLast? (f : S → A → S) (n : ℕ) (hn : 0 < n) (u0 : S)
    (aux : List A) (h : n ≤ aux.length) :
    (rolloutAux f n false false u0 aux).getLast? = some (repeatAux f n false u0 aux) := by
  rw [List.getLast?_eq_getElem?, rolloutAux_false_length f n u0 aux h,
    rolloutAux_false_getElem? f n u0 aux h (n - 1) (by omega), repeatAux_false]
  congr 3
  omega

theorem repeatAux_constant_eq_rolloutAux_getLast? (f : S → A → S) (n : ℕ) (hn : 0 < n) (u0 : S)
    (a : A) :
    (rolloutAux f n false true u0 [a]).getLast? = some (repeatAux f n true u0 [a]) := by
  rw [rolloutAux_constant, repeatAux_constant, repeatN_eq_rollout_getLast? _ n hn]

theorem stackSub_eq_none_iff (trj : List S) (subLen : ℕ) :
    stackSub trj subLen = none ↔ subLen > trj.length := by
  unfold stackSub
  split <;> simp_all

theorem stackSub_eq_some (trj : List S) (subLen : ℕ) (h : subLen ≤ trj.length) :
    stackSub trj subLen
      = some ((List.range (trj.length - subLen + 1)).map (fun i => (trj.drop i).take subLen)) := by
  unfold stackSub
  rw [if_neg (by omega)]

theorem stackSub_some (trj : List S) (subLen : ℕ) (w : List (List S)) (hw : stackSub trj subLen = some w) :
    subLen ≤ trj.length ∧
      w = (List.range (trj.length - subLen + 1)).map (fun i => (trj.drop i).take subLen) := by
  unfold stackSub at hw
  split at hw
  · exact absurd hw (by simp)
  · exact ⟨by omega, (Option.some.inj hw).symm⟩

theorem stackSub_length (trj : List S) (subLen : ℕ) (w : List (List S))
    (hw : stackSub trj subLen = some w) : w.length = trj.length - subLen + 1 := by
  obtain ⟨-, rfl⟩ := stackSub_some trj subLen w hw
  rw [List.length_map, List.length_range]

theorem stackSub_getElem? (trj : List S) (subLen : ℕ) (w : List (List S))
    (hw : stackSub trj subLen = some w) (i : ℕ) (hi : i < trj.length - subLen + 1) :
    w[i]? = some ((trj.drop i).take subLen) := by
  obtain ⟨-, rfl⟩ := stackSub_some trj subLen w hw
  rw [List.getElem?_map, List.getElem?_range hi]
  rfl

theorem stackSub_window_length (trj : List S) (subLen : ℕ) (w : List (List S))
    (hw : stackSub trj subLen = some w) (x : List S) (hx : x ∈ w) : x.length = subLen := by
  obtain ⟨hle, rfl⟩ := stackSub_some trj subLen w hw
  obtain ⟨i, hi, rfl⟩ := List.mem_map.1 hx
  have := List.mem_range.1 hi
  rw [List.length_take, List.length_drop]
  omega

theorem stackSub_entry (trj : List S) (subLen : ℕ) (w : List (List S))
    (hw : stackSub trj subLen = some w) (i j : ℕ) (hi : i < trj.length - subLen + 1)
    (hj : j < subLen) :
    (w[i]?.bind (fun x => x[j]?)) = trj[i + j]? := by
  rw [stackSub_getElem? trj subLen w hw i hi, Option.bind_some, List.getElem?_take_of_lt hj, List.getElem?_drop]

theorem stackSub_overlap (trj : List S) (subLen : ℕ) (w : List (List S))
    (hw : stackSub trj subLen = some w) (i j : ℕ) (hi : i + 1 < trj.length - subLen + 1)
    (hj : j + 1 < subLen) :
    (w[i + 1]?.bind (fun x => x[j]?)) = (w[i]?.bind (fun x => x[j + 1]?)) := by
  rw [stackSub_entry trj subLen w hw (i + 1) j hi (by omega),
    stackSub_entry trj subLen w hw i (j + 1) (by omega) hj]
  congr 1
  omega

theorem repeatedStepFourier_eq_iterate (stepFourier : S → S) (n : ℕ) :
    repeatedStepFourier stepFourier n = stepFourier^[n] := by
  funext u
  exact repeatN_eq_iterate stepFourier n u

theorem repeatedDt_eq {K : Type} [Semiring K] (dt : K) (n : ℕ) :
    repeatedDt dt n = dt * (n : K) := rfl

end Exponax.Loops
