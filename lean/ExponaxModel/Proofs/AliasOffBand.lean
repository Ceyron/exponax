import ExponaxModel.Proofs.AliasCutoff
/-
C03, what the nonlinear pipelines of `Model/Nonlin.lean` at `K := ℂ` do in any dimension `D` and for any
channel count, before any transform is looked into: the last step `nfft` multiplies by the mask, so every
model function ending in it is zero outside the retained band; masking twice is masking once; the
mean-subtraction stage of `gradientNorm`; `polyEval` on short coefficient lists.
-/
namespace Exponax.Alias
open Exponax Exponax.Layout Exponax.Transform Exponax.DFT Exponax.Nonlin Finset

theorem nfft_getD (c : Cfg ℂ) (v : Array ℂ) (h : ℕ) (hh : h < modes c) :
    (nfft c v).getD h 0 = mask c h * (rfftnM c.D c.N v).getD h 0 := by
  unfold nfft
  rw [DFT.tab_getD _ _ _ _ hh]

/-- also beyond the stored modes, where the entry reads `0` -/
theorem nfft_getD_of_mask_zero (c : Cfg ℂ) (v : Array ℂ) (h : ℕ) (hm : mask c h = 0) :
    (nfft c v).getD h 0 = 0 := by
  rcases Nat.lt_or_ge h (modes c) with hh | hh
  · rw [nfft_getD c v h hh, hm, zero_mul]
  · unfold nfft
    rw [DFT.tab_getD_of_le _ _ _ _ hh]

export Exponax.Nonlin (at2_tabC_any at2_tab2_any at2_tab2_zero sumList_range_zero)

theorem at2_tabC_nfft_zero (c : Cfg ℂ) (nc : ℕ) (g : ℕ → Array ℂ) (ch h : ℕ) (hm : mask c h = 0) :
    at2 (tabC nc (fun k => nfft c (g k))) ch h = 0 := by
  rw [at2_tabC_any]
  split_ifs
  · exact nfft_getD_of_mask_zero c _ h hm
  · rfl

/-! Zero outside the retained band: every model function whose last step is `nfft` (any dimension
`D`, any number of channels, any input spectrum, any channel / mode index). -/

theorem convection_zero_off_band (c : Cfg ℂ) (C : ℕ) (scale : ℂ) (single conservative : Bool)
    (uh : MC ℂ) (ch h : ℕ) (hm : mask c h = 0) :
    at2 (convection c C scale single conservative uh) ch h = 0 := by
  unfold convection
  cases single <;> cases conservative <;> simp only [↓reduceIte, Bool.false_eq_true]
  · -- multi-channel, non-conservative
    apply at2_tab2_zero
    intro i
    rw [at2_tabC_nfft_zero c _ _ _ _ hm, mul_zero]
  · -- multi-channel, conservative
    apply at2_tab2_zero
    intro i
    rw [sumList_range_zero _ _ (fun j => by rw [at2_tabC_nfft_zero c _ _ _ _ hm, mul_zero])]
    ring
  · -- single channel, non-conservative
    apply at2_tab2_zero
    intro _
    rw [nfft_getD_of_mask_zero c _ h hm, mul_zero]
  · -- single channel, conservative
    apply at2_tab2_zero
    intro i
    rw [at2_tabC_nfft_zero c _ _ _ _ hm]
    ring

theorem gradientNorm_zero_off_band (c : Cfg ℂ) (C : ℕ) (scale : ℂ) (zeroFix : Bool)
    (uh : MC ℂ) (ch h : ℕ) (hm : mask c h = 0) :
    at2 (gradientNorm c C scale zeroFix uh) ch h = 0 := by
  unfold gradientNorm
  simp only []
  apply at2_tab2_zero
  intro i
  rw [at2_tabC_nfft_zero c _ _ _ _ hm]
  ring

theorem polynomial_zero_off_band (c : Cfg ℂ) (C : ℕ) (coeffs : List ℂ)
    (uh : MC ℂ) (ch h : ℕ) (hm : mask c h = 0) :
    at2 (polynomial c C coeffs uh) ch h = 0 := by
  unfold polynomial
  exact at2_tabC_nfft_zero c _ _ _ _ hm

theorem reaction_zero_off_band (c : Cfg ℂ) (C : ℕ) (react : List ℂ → List ℂ)
    (uh : MC ℂ) (ch h : ℕ) (hm : mask c h = 0) :
    at2 (reaction c C react uh) ch h = 0 := by
  unfold reaction
  exact at2_tabC_nfft_zero c _ _ _ _ hm

theorem vorticity2d_zero_off_band (c : Cfg ℂ) (scale : ℂ)
    (uh : MC ℂ) (ch h : ℕ) (hm : mask c h = 0) :
    at2 (vorticity2d c scale none uh) ch h = 0 := by
  unfold vorticity2d
  simp only []
  apply at2_tab2_zero
  intro _
  rw [nfft_getD_of_mask_zero c _ h hm, mul_zero]

theorem cahnHilliard_zero_off_band (c : Cfg ℂ) (scale : ℂ)
    (uh : MC ℂ) (ch h : ℕ) (hm : mask c h = 0) :
    at2 (cahnHilliard c scale uh) ch h = 0 := by
  unfold cahnHilliard
  simp only []
  apply at2_tab2_zero
  intro _
  rw [nfft_getD_of_mask_zero c _ h hm]
  ring

theorem general_zero_off_band (c : Cfg ℂ) (C : ℕ) (s0 s1 s2 : ℂ) (zeroFix : Bool)
    (uh : MC ℂ) (ch h : ℕ) (hm : mask c h = 0) :
    at2 (general c C s0 s1 s2 zeroFix uh) ch h = 0 := by
  unfold general
  simp only []
  apply at2_tab2_zero
  intro i
  rw [polynomial_zero_off_band c C _ uh i h hm, convection_zero_off_band c C _ true true uh i h hm,
    gradientNorm_zero_off_band c C _ zeroFix uh i h hm]
  ring

theorem polyEval_quadratic (c0 c1 c2 y : ℂ) : polyEval [c0, c1, c2] y = c0 + c1 * y + c2 * (y * y) := by
  simp [polyEval]

theorem mask_mul_self (c : Cfg ℂ) (h : ℕ) : mask c h * mask c h = mask c h := by
  unfold mask
  split_ifs <;> simp

/-- `reaction`, `cahnHilliard` mask before calling `ifft`, which masks again -/
theorem nifft_mask_idem (c : Cfg ℂ) (uh : Array ℂ) :
    nifft c (tab (modes c) fun h => mask c h * uh.getD h 0) = nifft c uh := by
  unfold nifft
  congr 1
  apply Nonlin.tab_congr
  intro h hh
  rw [Nonlin.tab_getD _ _ _ _ hh, ← mul_assoc, mask_mul_self]

/-- the mean-subtraction stage of `gradientNorm` on channel `ch`, isolated from the rest of the pipeline;
    `q` is whatever the channel's pointwise field `Qf ch` has been shown to be -/
theorem gradientNorm_stage (C N : ℕ) (Qf : ℕ → ℕ → ℂ) (q : ℕ → ℂ) (zeroFix : Bool) (ch : ℕ) (hch : ch < C)
    (hq : ∀ x, x < N → Qf ch x = q x) :
    (tab2 C N fun ch x =>
        if zeroFix = true then
          at2 (tab2 C N Qf) ch x
            - (tab C fun ch => (sumRange N fun x => at2 (tab2 C N Qf) ch x) / lit N).getD ch 0
        else at2 (tab2 C N Qf) ch x).getD ch #[]
      = tab N (fun x => if zeroFix = true then q x - (∑ x ∈ range N, q x) / (N : ℂ) else q x) := by
  have hQ : ∀ y, y < N → at2 (tab2 C N Qf) ch y = q y := fun y hy => by
    rw [at2_tab2 C N Qf ch y hch hy, hq y hy]
  rw [show ∀ f, (tab2 C N f).getD ch #[] = tab N (f ch) from fun f => Nonlin.tab_getD _ _ _ _ hch]
  apply Nonlin.tab_congr
  intro x hx
  rw [hQ x hx, Nonlin.tab_getD _ _ _ _ hch, sumRange_eq,
    Finset.sum_congr rfl (fun y hy => hQ y (Finset.mem_range.mp hy))]

end Exponax.Alias
