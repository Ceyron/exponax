import ExponaxModel.Proofs.EquilibriaReaction
import ExponaxModel.Proofs.EquilibriaStoredDefect
import ExponaxModel.Proofs.ConserveEtdrk
/-
C09 — constant equilibria as fixed points of the regenerated ETDRK steps, whole spectrum.

`constSpectrum c u₀ : ℕ → ℂ` is the mode-indexed spectrum of the constant state `u₀` (`N^D u₀` at `h = 0`, `0` elsewhere);
`Conserve.liftNl c F` is the one-channel nonlinear function `F` as a map on such spectra.  Since the spectrum lives at the
mean mode only, a constant equilibrium is a fixed point of every order for ANY coefficient arrays whose two scalar
defects vanish AT THE MEAN MODE (`const_equilibrium_fixed_E1` … `_E4`): the exact φ-coefficients there (ETDRK4:
`const_equilibrium_fixed_exact`), or the stored ones when the nonlinear term vanishes on constants and `L(0) = 0`
(`C09_constants_fixed_by_transport_steppers_stored`); in general the stored ETDRK1 step moves `û` by exactly
`fpDefect dt L(0) M r · N^D u₀` in the mean mode
(`const_equilibrium_stored_E1`).
-/
namespace Exponax.Equilibria
open Exponax Exponax.Layout Exponax.Transform Exponax.DFT Exponax.Gen.Etdrk Exponax.Spec Finset
open Exponax.Nonlin (Cfg MC at2 tab2 tabC modes gridSize mask nfft nifft deriv polynomial polyEval reaction
  convection gradientNorm vorticity2d)
open Exponax.Conserve (liftNl)
open Exponax.EquilibriaStored

noncomputable def constSpectrum (c : Cfg ℂ) (u0 : ℂ) : ℕ → ℂ := fun h => at2 (constSpec c 1 (fun _ => u0)) 0 h

theorem constSpectrum_apply (c : Cfg ℂ) (hD : 0 < c.D) (hN : 0 < c.N) (u0 : ℂ) (h : ℕ) :
    constSpectrum c u0 h = if h = 0 then ((c.N ^ c.D : ℕ) : ℂ) * u0 else 0 :=
  at2_constSpec c hD hN 1 _ 0 h (by norm_num)

theorem lift_constSpectrum (c : Cfg ℂ) (u0 : ℂ) :
    (#[tab (modes c) (constSpectrum c u0)] : MC ℂ) = constSpec c 1 (fun _ => u0) := by
  have r1 : Array.range 1 = #[0] := rfl
  have e : constSpec c 1 (fun _ => u0) = #[rfftnM c.D c.N (tab (gridSize c) (fun _ => u0))] := by
    simp [constSpec, tabC, tab, r1]
  have e2 : tab (modes c) (constSpectrum c u0) = rfftnM c.D c.N (tab (gridSize c) (fun _ => u0)) := by
    apply DFT.array_ext_getD _ _ (modes c) (by simp) (rfftnM_size _ _ _)
    intro h hh
    rw [Nonlin.tab_getD _ _ _ _ hh]
    unfold constSpectrum
    rw [e]
    simp [at2]
  rw [e, e2]

theorem liftNl_constSpectrum (c : Cfg ℂ) (F : MC ℂ → MC ℂ) (u0 : ℂ) (h : ℕ) :
    liftNl c F (constSpectrum c u0) h = at2 (F (constSpec c 1 (fun _ => u0))) 0 h := by
  unfold liftNl
  rw [lift_constSpectrum]

theorem polynomial_equilibrium_spectrum (c : Cfg ℂ) (hD : 0 < c.D) (hN : 0 < c.N) (hm : mask c 0 = 1)
    (coeffs : List ℂ) (L : ℕ → ℂ) (u0 : ℝ) (hroot : L 0 * (u0 : ℂ) + polyEval coeffs (u0 : ℂ) = 0) (h : ℕ) :
    L h * constSpectrum c (u0 : ℂ) h + liftNl c (polynomial c 1 coeffs) (constSpectrum c (u0 : ℂ)) h = 0 := by
  rw [liftNl_constSpectrum]
  exact polynomial_equilibrium c hD hN hm 1 coeffs (fun _ => L) (fun _ => u0) (fun _ _ => hroot) 0 h (by norm_num)

theorem constSpectrum_support (c : Cfg ℂ) (hD : 0 < c.D) (hN : 0 < c.N) (u0 : ℂ) (h : ℕ)
    (hne : constSpectrum c u0 h ≠ 0) : h = 0 := by
  by_contra h0
  rw [constSpectrum_apply c hD hN, if_neg h0] at hne
  exact hne rfl

theorem defect_mul_constSpectrum (c : Cfg ℂ) (hD : 0 < c.D) (hN : 0 < c.N) (d : ℕ → ℂ) (u0 : ℂ) (hd : d 0 = 0) :
    d * constSpectrum c u0 = 0 :=
  Etdrk.defect_mul_spectrum d _ (fun h hu => by rw [constSpectrum_support c hD hN u0 h hu]; exact hd)

section fixed
variable (c : Cfg ℂ) (hD : 0 < c.D) (hN : 0 < c.N) (L : ℕ → ℂ) (Nl : (ℕ → ℂ) → ℕ → ℂ) (u0 : ℂ)
  (heq : ∀ h, L h * constSpectrum c u0 h + Nl (constSpectrum c u0) h = 0)
include hD hN heq

theorem const_equilibrium_fixed_E1 (E a1 : ℕ → ℂ) (hd : E 0 - 1 - L 0 * a1 0 = 0) :
    E1step E a1 Nl (constSpectrum c u0) = constSpectrum c u0 :=
  Etdrk.fixed_E1step_of_defect Nl _ L (funext heq) E a1 (defect_mul_constSpectrum c hD hN (E - 1 - L * a1) u0 hd)

theorem const_equilibrium_fixed_E2 (E a1 a2 : ℕ → ℂ) (hd : E 0 - 1 - L 0 * a1 0 = 0) :
    E2step E a1 a2 Nl (constSpectrum c u0) = constSpectrum c u0 :=
  Etdrk.fixed_E2step_of_defect Nl _ L (funext heq) E a1 a2 (defect_mul_constSpectrum c hD hN (E - 1 - L * a1) u0 hd)

/-- ETDRK3: `a₃ + a₄ + a₅ = a₂` as arrays (true for the exact AND for the stored coefficients) -/
theorem const_equilibrium_fixed_E3 (E Eh a1 a2 a3 a4 a5 : ℕ → ℂ) (hdh : Eh 0 - 1 - L 0 * a1 0 = 0)
    (hd : E 0 - 1 - L 0 * a2 0 = 0) (hsum : a3 + a4 + a5 = a2) :
    E3step E Eh a1 a2 a3 a4 a5 Nl (constSpectrum c u0) = constSpectrum c u0 :=
  have h2 := defect_mul_constSpectrum c hD hN (E - 1 - L * a2) u0 hd
  Etdrk.fixed_E3step_of_defect Nl _ L (funext heq) E Eh a1 a2 a3 a4 a5
    (defect_mul_constSpectrum c hD hN (Eh - 1 - L * a1) u0 hdh) h2 (hsum ▸ h2)

theorem const_equilibrium_fixed_E4 (E Eh a1 a4 a5 a6 : ℕ → ℂ) (hdh : Eh 0 - 1 - L 0 * a1 0 = 0)
    (hd : E 0 - 1 - L 0 * (a4 0 + 4 * a5 0 + a6 0) = 0) :
    E4step E Eh a1 a1 a1 a4 a5 a6 Nl (constSpectrum c u0) = constSpectrum c u0 :=
  have hh := defect_mul_constSpectrum c hD hN (Eh - 1 - L * a1) u0 hdh
  Etdrk.fixed_E4step_of_defect Nl _ L (funext heq) E Eh a1 a1 a1 a4 a5 a6 hh hh hh
    (defect_mul_constSpectrum c hD hN (E - 1 - L * (a4 + 4 * a5 + a6)) u0 hd)

end fixed

/-- **constant equilibria of a polynomial reaction–diffusion stepper are fixed points of ETDRK4** when the coefficient
    arrays are the exact Cox–Matthews ones AT THE MEAN MODE (arbitrary at every other mode), `dt·L(0) ≠ 0` -/
theorem const_equilibrium_fixed_exact (c : Cfg ℂ) (hD : 0 < c.D) (hN : 0 < c.N) (hm : mask c 0 = 1)
    (coeffs : List ℂ) (L : ℕ → ℂ) (u0 : ℝ) (hroot : L 0 * (u0 : ℂ) + polyEval coeffs (u0 : ℂ) = 0)
    (dt : ℂ) (hz : dt * L 0 ≠ 0) (E Eh a1 a4 a5 a6 : ℕ → ℂ)
    (hE : E 0 = Complex.exp (dt * L 0)) (hEh : Eh 0 = Complex.exp (dt * L 0 / 2))
    (h1 : a1 0 = dt * (phi1 (dt * L 0 / 2) / 2))
    (h4 : a4 0 = dt * (phi1 (dt * L 0) - 3 * phi2 (dt * L 0) + 4 * phi3 (dt * L 0)))
    (h5 : a5 0 = dt * (phi2 (dt * L 0) - 2 * phi3 (dt * L 0)))
    (h6 : a6 0 = dt * (4 * phi3 (dt * L 0) - phi2 (dt * L 0))) :
    E4step E Eh a1 a1 a1 a4 a5 a6 (liftNl c (polynomial c 1 coeffs)) (constSpectrum c (u0 : ℂ))
      = constSpectrum c (u0 : ℂ) := by
  have hdt := left_ne_zero_of_mul hz
  apply const_equilibrium_fixed_E4 c hD hN L _ _
    (polynomial_equilibrium_spectrum c hD hN hm coeffs L u0 hroot) E Eh a1 a4 a5 a6
  · rw [hEh, h1]
    exact Conserve.defect_exact_half dt (L 0) _ hdt fun _ => rfl
  -- the `φ₂`, `φ₃` parts of the output weights cancel
  · rw [hE, h4, h5, h6]
    exact Conserve.defect_exact dt (L 0) _ hdt fun _ => by ring

theorem const_equilibrium_stored_E1 (c : Cfg ℂ) (hD : 0 < c.D) (hN : 0 < c.N) (hm : mask c 0 = 1)
    (coeffs : List ℂ) (L : ℕ → ℂ) (u0 : ℝ) (hroot : L 0 * (u0 : ℂ) + polyEval coeffs (u0 : ℂ) = 0)
    (dt r : ℂ) (M : ℕ) (h : ℕ) :
    E1step (fun h => exp_term dt (L h)) (fun h => E1_coef_1 dt (L h) M r) (liftNl c (polynomial c 1 coeffs))
        (constSpectrum c (u0 : ℂ)) h - constSpectrum c (u0 : ℂ) h
      = if h = 0 then fpDefect dt (L 0) M r * (((c.N ^ c.D : ℕ) : ℂ) * (u0 : ℂ)) else 0 := by
  rw [stored_E1step_sub dt r M L _ _ (polynomial_equilibrium_spectrum c hD hN hm coeffs L u0 hroot) h,
    constSpectrum_apply c hD hN]
  split_ifs with h0
  · rw [h0]
  · rw [mul_zero]

/-- Burgers / KdV / KS (all four convection variants), gradient-norm (KS combustion form) and 2-D vorticity steppers:
    `F` vanishes on the spectrum of a constant, the hypothesis of `C09_constants_fixed_by_transport_steppers_stored` -/
theorem transport_terms_vanish (c : Cfg ℂ) (hD : 0 < c.D) (hN : 0 < c.N) (scale : ℂ) (single cons zeroFix : Bool)
    (u0 : ℂ) (h : ℕ) :
    at2 (convection c 1 scale single cons (constSpec c 1 (fun _ => u0))) 0 h = 0 ∧
    at2 (gradientNorm c 1 scale zeroFix (constSpec c 1 (fun _ => u0))) 0 h = 0 ∧
    at2 (vorticity2d c scale none (constSpec c 1 (fun _ => u0))) 0 h = 0 := by
  have hu := constSpec_meanSpec c hD hN 1 (fun _ => u0)
  refine ⟨convection_const c hD hN 1 scale single cons _ hu 0 h, gradientNorm_const c hN 1 scale zeroFix _ hu 0 h, ?_⟩
  rw [vorticity2d_const c hN scale _ hu, Alias.at2_tab2_any]
  split_ifs <;> rfl

end Exponax.Equilibria
