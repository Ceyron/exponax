import ExponaxModel.Proofs.Differentiability
import ExponaxModel.Proofs.Stiffness
import ExponaxModel.Proofs.StepperSymbols
/-
C07 support: for every stored coefficient `E?_coef_i`, differentiability in `λ` and in `dt` at real `λ₀ dt₀ = x` (real
radius `r ≠ 0`, even `M > 0`) and at the guarded point `λ₀ = 0` (any `dt₀`, any complex radius `r ≠ 0`, any `M`); a linear
step and an ETDRK1 step differentiated in a PDE coefficient `θ` entering through the symbol `λ(θ)`, with `Burgers` and
its diffusivity as instance; the whole step as a function of `(dt, λ)`.
-/
namespace Exponax.Diff

section Nodes
open Exponax Exponax.Gen.Etdrk Exponax.Stiffness Exponax.ContourComplex

theorem E1_scan_body_0_hasDerivAt (r ζ z₀ : ℂ) (h : r * ζ + z₀ ≠ 0) :
    HasDerivAt (fun z => E1_scan_body_0 z r ζ)
      (((r * ζ + z₀ - 1) * Complex.exp (r * ζ + z₀) + 1) / (r * ζ + z₀) ^ 2) z₀ := by
  simp only [E1_scan_body_0, hasExp_complex, lit_eq, Nat.cast_one]
  have hw : HasDerivAt (fun z : ℂ => r * ζ + z) 1 z₀ := (hasDerivAt_id z₀).const_add (r * ζ)
  have he : HasDerivAt (fun z : ℂ => Complex.exp (r * ζ + z) - 1) (Complex.exp (r * ζ + z₀) * 1) z₀ :=
    hw.cexp.sub_const 1
  have hd := HasDerivAt.div he hw h
  have e : ((r * ζ + z₀ - 1) * Complex.exp (r * ζ + z₀) + 1) / (r * ζ + z₀) ^ 2
      = (Complex.exp (r * ζ + z₀) * 1 * (r * ζ + z₀) - (Complex.exp (r * ζ + z₀) - 1) * 1)
          / (r * ζ + z₀) ^ 2 := by ring
  rw [e]
  exact hd

/-! non-vacuity of `r ζ + z₀ ≠ 0`: `r = ζ = 1`, `z₀ = 0` (the node `1`), and a very stiff `z₀ = −10⁶` off the node -/
example : DifferentiableAt ℂ (fun z : ℂ => E4_scan_body_1 z 1 1) 0 := by
  simp only [E4_scan_body_1, hasExp_complex, lit_eq, npow_eq]
  fun_prop (disch := norm_num)
example : DifferentiableAt ℂ (fun z : ℂ => E4_scan_body_3 z 1 1) (-1000000) := by
  simp only [E4_scan_body_3, hasExp_complex, lit_eq, npow_eq]
  fun_prop (disch := norm_num)

theorem nodesAvoidZero_real (M : ℕ) (hM : 0 < M) (hev : M % 2 = 0) (r x : ℝ) (hr : r ≠ 0) :
    NodesAvoidZero M (r : ℂ) (x : ℂ) := nodes_ne_zero M hM hev r x hr

/-- at `λ = 0`, `φ₁` is never evaluated at its removable singularity (any `M`, any complex `r ≠ 0`) -/
theorem nodesAvoidZero_zero (M : ℕ) (r : ℂ) (hr : r ≠ 0) : NodesAvoidZero M r 0 :=
  forall_mem_roots M fun j => C02_contour_avoids_zero M j r 0 (by rw [norm_zero]; exact (norm_pos_iff.mpr hr).ne)

theorem nodesAvoidZero_zero_mul (M : ℕ) (r : ℂ) (hr : r ≠ 0) (dt₀ : ℂ) : NodesAvoidZero M r (0 * dt₀) :=
  (zero_mul dt₀).symm ▸ nodesAvoidZero_zero M r hr

/-- non-vacuity of `NodesAvoidZero`: the guarded point `λ₀ = 0`, radius `1`, `M = 16`, `dt₀ = 1/10` -/
example : DifferentiableAt ℂ (fun p : ℂ × ℂ => E4_coef_5 p.1 p.2 16 1) (1 / 10, 0) :=
  storedCoef_differentiableAt_joint 16 1 (1 / 10) 0 (nodesAvoidZero_zero_mul 16 1 one_ne_zero _) 12

theorem E3_half_exp_term_differentiable (M : ℕ) (r : ℂ) :
    Differentiable ℂ (fun p : ℂ × ℂ => E3_half_exp_term p.1 p.2 M r) := by
  simp only [E3_half_exp_term, hasExp_complex, qlit_eq]
  fun_prop

theorem E4_half_exp_term_differentiable (M : ℕ) (r : ℂ) :
    Differentiable ℂ (fun p : ℂ × ℂ => E4_half_exp_term p.1 p.2 M r) := by
  simp only [E4_half_exp_term, hasExp_complex, qlit_eq]
  fun_prop

theorem exp_term_differentiable : Differentiable ℂ (fun p : ℂ × ℂ => exp_term p.1 p.2) := by
  simp only [exp_term, hasExp_complex]
  fun_prop

end Nodes

open Exponax Exponax.Gen.Etdrk Exponax.Gen.Steppers Exponax.Nonlin

section Real
variable (M : ℕ) (hM : 0 < M) (hev : M % 2 = 0) (r x : ℝ) (hr : r ≠ 0) (dt₀ lam₀ : ℂ)
  (hx : lam₀ * dt₀ = (x : ℂ))
include hM hev hr hx

theorem E1_coef_1_differentiableAt_lam :
    DifferentiableAt ℂ (fun lam => E1_coef_1 dt₀ lam M (r : ℂ)) lam₀ :=
  ContourComplex.storedCoef_differentiableAt_lam M r dt₀ lam₀ (hx ▸ nodesAvoidZero_real M hM hev r x hr) 0

theorem E1_coef_1_differentiableAt_dt :
    DifferentiableAt ℂ (fun dt => E1_coef_1 dt lam₀ M (r : ℂ)) dt₀ :=
  ContourComplex.storedCoef_differentiableAt_dt M r dt₀ lam₀ (hx ▸ nodesAvoidZero_real M hM hev r x hr) 0

theorem E2_coef_1_differentiableAt_lam :
    DifferentiableAt ℂ (fun lam => E2_coef_1 dt₀ lam M (r : ℂ)) lam₀ :=
  ContourComplex.storedCoef_differentiableAt_lam M r dt₀ lam₀ (hx ▸ nodesAvoidZero_real M hM hev r x hr) 1

theorem E2_coef_1_differentiableAt_dt :
    DifferentiableAt ℂ (fun dt => E2_coef_1 dt lam₀ M (r : ℂ)) dt₀ :=
  ContourComplex.storedCoef_differentiableAt_dt M r dt₀ lam₀ (hx ▸ nodesAvoidZero_real M hM hev r x hr) 1

theorem E2_coef_2_differentiableAt_lam :
    DifferentiableAt ℂ (fun lam => E2_coef_2 dt₀ lam M (r : ℂ)) lam₀ :=
  ContourComplex.storedCoef_differentiableAt_lam M r dt₀ lam₀ (hx ▸ nodesAvoidZero_real M hM hev r x hr) 2

theorem E2_coef_2_differentiableAt_dt :
    DifferentiableAt ℂ (fun dt => E2_coef_2 dt lam₀ M (r : ℂ)) dt₀ :=
  ContourComplex.storedCoef_differentiableAt_dt M r dt₀ lam₀ (hx ▸ nodesAvoidZero_real M hM hev r x hr) 2

theorem E3_coef_1_differentiableAt_lam :
    DifferentiableAt ℂ (fun lam => E3_coef_1 dt₀ lam M (r : ℂ)) lam₀ :=
  ContourComplex.storedCoef_differentiableAt_lam M r dt₀ lam₀ (hx ▸ nodesAvoidZero_real M hM hev r x hr) 3

theorem E3_coef_1_differentiableAt_dt :
    DifferentiableAt ℂ (fun dt => E3_coef_1 dt lam₀ M (r : ℂ)) dt₀ :=
  ContourComplex.storedCoef_differentiableAt_dt M r dt₀ lam₀ (hx ▸ nodesAvoidZero_real M hM hev r x hr) 3

theorem E3_coef_2_differentiableAt_lam :
    DifferentiableAt ℂ (fun lam => E3_coef_2 dt₀ lam M (r : ℂ)) lam₀ :=
  ContourComplex.storedCoef_differentiableAt_lam M r dt₀ lam₀ (hx ▸ nodesAvoidZero_real M hM hev r x hr) 4

theorem E3_coef_2_differentiableAt_dt :
    DifferentiableAt ℂ (fun dt => E3_coef_2 dt lam₀ M (r : ℂ)) dt₀ :=
  ContourComplex.storedCoef_differentiableAt_dt M r dt₀ lam₀ (hx ▸ nodesAvoidZero_real M hM hev r x hr) 4

theorem E3_coef_3_differentiableAt_lam :
    DifferentiableAt ℂ (fun lam => E3_coef_3 dt₀ lam M (r : ℂ)) lam₀ :=
  ContourComplex.storedCoef_differentiableAt_lam M r dt₀ lam₀ (hx ▸ nodesAvoidZero_real M hM hev r x hr) 5

theorem E3_coef_3_differentiableAt_dt :
    DifferentiableAt ℂ (fun dt => E3_coef_3 dt lam₀ M (r : ℂ)) dt₀ :=
  ContourComplex.storedCoef_differentiableAt_dt M r dt₀ lam₀ (hx ▸ nodesAvoidZero_real M hM hev r x hr) 5

theorem E3_coef_4_differentiableAt_lam :
    DifferentiableAt ℂ (fun lam => E3_coef_4 dt₀ lam M (r : ℂ)) lam₀ :=
  ContourComplex.storedCoef_differentiableAt_lam M r dt₀ lam₀ (hx ▸ nodesAvoidZero_real M hM hev r x hr) 6

theorem E3_coef_4_differentiableAt_dt :
    DifferentiableAt ℂ (fun dt => E3_coef_4 dt lam₀ M (r : ℂ)) dt₀ :=
  ContourComplex.storedCoef_differentiableAt_dt M r dt₀ lam₀ (hx ▸ nodesAvoidZero_real M hM hev r x hr) 6

theorem E3_coef_5_differentiableAt_lam :
    DifferentiableAt ℂ (fun lam => E3_coef_5 dt₀ lam M (r : ℂ)) lam₀ :=
  ContourComplex.storedCoef_differentiableAt_lam M r dt₀ lam₀ (hx ▸ nodesAvoidZero_real M hM hev r x hr) 7

theorem E3_coef_5_differentiableAt_dt :
    DifferentiableAt ℂ (fun dt => E3_coef_5 dt lam₀ M (r : ℂ)) dt₀ :=
  ContourComplex.storedCoef_differentiableAt_dt M r dt₀ lam₀ (hx ▸ nodesAvoidZero_real M hM hev r x hr) 7

theorem E4_coef_1_differentiableAt_lam :
    DifferentiableAt ℂ (fun lam => E4_coef_1 dt₀ lam M (r : ℂ)) lam₀ :=
  ContourComplex.storedCoef_differentiableAt_lam M r dt₀ lam₀ (hx ▸ nodesAvoidZero_real M hM hev r x hr) 8

theorem E4_coef_1_differentiableAt_dt :
    DifferentiableAt ℂ (fun dt => E4_coef_1 dt lam₀ M (r : ℂ)) dt₀ :=
  ContourComplex.storedCoef_differentiableAt_dt M r dt₀ lam₀ (hx ▸ nodesAvoidZero_real M hM hev r x hr) 8

theorem E4_coef_2_differentiableAt_lam :
    DifferentiableAt ℂ (fun lam => E4_coef_2 dt₀ lam M (r : ℂ)) lam₀ :=
  ContourComplex.storedCoef_differentiableAt_lam M r dt₀ lam₀ (hx ▸ nodesAvoidZero_real M hM hev r x hr) 9

theorem E4_coef_2_differentiableAt_dt :
    DifferentiableAt ℂ (fun dt => E4_coef_2 dt lam₀ M (r : ℂ)) dt₀ :=
  ContourComplex.storedCoef_differentiableAt_dt M r dt₀ lam₀ (hx ▸ nodesAvoidZero_real M hM hev r x hr) 9

theorem E4_coef_3_differentiableAt_lam :
    DifferentiableAt ℂ (fun lam => E4_coef_3 dt₀ lam M (r : ℂ)) lam₀ :=
  ContourComplex.storedCoef_differentiableAt_lam M r dt₀ lam₀ (hx ▸ nodesAvoidZero_real M hM hev r x hr) 10

theorem E4_coef_3_differentiableAt_dt :
    DifferentiableAt ℂ (fun dt => E4_coef_3 dt lam₀ M (r : ℂ)) dt₀ :=
  ContourComplex.storedCoef_differentiableAt_dt M r dt₀ lam₀ (hx ▸ nodesAvoidZero_real M hM hev r x hr) 10

theorem E4_coef_4_differentiableAt_lam :
    DifferentiableAt ℂ (fun lam => E4_coef_4 dt₀ lam M (r : ℂ)) lam₀ :=
  ContourComplex.storedCoef_differentiableAt_lam M r dt₀ lam₀ (hx ▸ nodesAvoidZero_real M hM hev r x hr) 11

theorem E4_coef_4_differentiableAt_dt :
    DifferentiableAt ℂ (fun dt => E4_coef_4 dt lam₀ M (r : ℂ)) dt₀ :=
  ContourComplex.storedCoef_differentiableAt_dt M r dt₀ lam₀ (hx ▸ nodesAvoidZero_real M hM hev r x hr) 11

theorem E4_coef_5_differentiableAt_lam :
    DifferentiableAt ℂ (fun lam => E4_coef_5 dt₀ lam M (r : ℂ)) lam₀ :=
  ContourComplex.storedCoef_differentiableAt_lam M r dt₀ lam₀ (hx ▸ nodesAvoidZero_real M hM hev r x hr) 12

theorem E4_coef_5_differentiableAt_dt :
    DifferentiableAt ℂ (fun dt => E4_coef_5 dt lam₀ M (r : ℂ)) dt₀ :=
  ContourComplex.storedCoef_differentiableAt_dt M r dt₀ lam₀ (hx ▸ nodesAvoidZero_real M hM hev r x hr) 12

theorem E4_coef_6_differentiableAt_lam :
    DifferentiableAt ℂ (fun lam => E4_coef_6 dt₀ lam M (r : ℂ)) lam₀ :=
  ContourComplex.storedCoef_differentiableAt_lam M r dt₀ lam₀ (hx ▸ nodesAvoidZero_real M hM hev r x hr) 13

theorem E4_coef_6_differentiableAt_dt :
    DifferentiableAt ℂ (fun dt => E4_coef_6 dt lam₀ M (r : ℂ)) dt₀ :=
  ContourComplex.storedCoef_differentiableAt_dt M r dt₀ lam₀ (hx ▸ nodesAvoidZero_real M hM hev r x hr) 13

end Real

/-- non-vacuity of the hypotheses of the section above: `M = 16`, `r = 1`, `λ₀ = −3`, `dt₀ = 2` -/
example : DifferentiableAt ℂ (fun lam => E4_coef_6 (2 : ℂ) lam 16 ((1 : ℝ) : ℂ)) (-3 : ℂ) :=
  E4_coef_6_differentiableAt_lam 16 (by norm_num) (by norm_num) 1 (-6) one_ne_zero 2 (-3)
    (by push_cast; norm_num)

/-- the guarded point `λ₀ = 0`, `dt₀ = 0.1` -/
example : DifferentiableAt ℂ (fun lam => E4_coef_4 (1 / 10 : ℂ) lam 16 ((1 : ℝ) : ℂ)) (0 : ℂ) :=
  E4_coef_4_differentiableAt_lam 16 (by norm_num) (by norm_num) 1 0 one_ne_zero (1 / 10) 0
    (by push_cast; norm_num)

section Zero
variable (M : ℕ) (r : ℂ) (hr : r ≠ 0) (dt₀ : ℂ)
include hr

theorem E1_coef_1_differentiableAt_lam_zero :
    DifferentiableAt ℂ (fun lam => E1_coef_1 dt₀ lam M r) 0 :=
  ContourComplex.storedCoef_differentiableAt_lam M r dt₀ 0 (nodesAvoidZero_zero_mul M r hr dt₀) 0

theorem E1_coef_1_differentiableAt_dt_zero :
    DifferentiableAt ℂ (fun dt => E1_coef_1 dt 0 M r) dt₀ :=
  ContourComplex.storedCoef_differentiableAt_dt M r dt₀ 0 (nodesAvoidZero_zero_mul M r hr dt₀) 0

theorem E2_coef_1_differentiableAt_lam_zero :
    DifferentiableAt ℂ (fun lam => E2_coef_1 dt₀ lam M r) 0 :=
  ContourComplex.storedCoef_differentiableAt_lam M r dt₀ 0 (nodesAvoidZero_zero_mul M r hr dt₀) 1

theorem E2_coef_1_differentiableAt_dt_zero :
    DifferentiableAt ℂ (fun dt => E2_coef_1 dt 0 M r) dt₀ :=
  ContourComplex.storedCoef_differentiableAt_dt M r dt₀ 0 (nodesAvoidZero_zero_mul M r hr dt₀) 1

theorem E2_coef_2_differentiableAt_lam_zero :
    DifferentiableAt ℂ (fun lam => E2_coef_2 dt₀ lam M r) 0 :=
  ContourComplex.storedCoef_differentiableAt_lam M r dt₀ 0 (nodesAvoidZero_zero_mul M r hr dt₀) 2

theorem E2_coef_2_differentiableAt_dt_zero :
    DifferentiableAt ℂ (fun dt => E2_coef_2 dt 0 M r) dt₀ :=
  ContourComplex.storedCoef_differentiableAt_dt M r dt₀ 0 (nodesAvoidZero_zero_mul M r hr dt₀) 2

theorem E3_coef_1_differentiableAt_lam_zero :
    DifferentiableAt ℂ (fun lam => E3_coef_1 dt₀ lam M r) 0 :=
  ContourComplex.storedCoef_differentiableAt_lam M r dt₀ 0 (nodesAvoidZero_zero_mul M r hr dt₀) 3

theorem E3_coef_1_differentiableAt_dt_zero :
    DifferentiableAt ℂ (fun dt => E3_coef_1 dt 0 M r) dt₀ :=
  ContourComplex.storedCoef_differentiableAt_dt M r dt₀ 0 (nodesAvoidZero_zero_mul M r hr dt₀) 3

theorem E3_coef_2_differentiableAt_lam_zero :
    DifferentiableAt ℂ (fun lam => E3_coef_2 dt₀ lam M r) 0 :=
  ContourComplex.storedCoef_differentiableAt_lam M r dt₀ 0 (nodesAvoidZero_zero_mul M r hr dt₀) 4

theorem E3_coef_2_differentiableAt_dt_zero :
    DifferentiableAt ℂ (fun dt => E3_coef_2 dt 0 M r) dt₀ :=
  ContourComplex.storedCoef_differentiableAt_dt M r dt₀ 0 (nodesAvoidZero_zero_mul M r hr dt₀) 4

theorem E3_coef_3_differentiableAt_lam_zero :
    DifferentiableAt ℂ (fun lam => E3_coef_3 dt₀ lam M r) 0 :=
  ContourComplex.storedCoef_differentiableAt_lam M r dt₀ 0 (nodesAvoidZero_zero_mul M r hr dt₀) 5

theorem E3_coef_3_differentiableAt_dt_zero :
    DifferentiableAt ℂ (fun dt => E3_coef_3 dt 0 M r) dt₀ :=
  ContourComplex.storedCoef_differentiableAt_dt M r dt₀ 0 (nodesAvoidZero_zero_mul M r hr dt₀) 5

theorem E3_coef_4_differentiableAt_lam_zero :
    DifferentiableAt ℂ (fun lam => E3_coef_4 dt₀ lam M r) 0 :=
  ContourComplex.storedCoef_differentiableAt_lam M r dt₀ 0 (nodesAvoidZero_zero_mul M r hr dt₀) 6

theorem E3_coef_4_differentiableAt_dt_zero :
    DifferentiableAt ℂ (fun dt => E3_coef_4 dt 0 M r) dt₀ :=
  ContourComplex.storedCoef_differentiableAt_dt M r dt₀ 0 (nodesAvoidZero_zero_mul M r hr dt₀) 6

theorem E3_coef_5_differentiableAt_lam_zero :
    DifferentiableAt ℂ (fun lam => E3_coef_5 dt₀ lam M r) 0 :=
  ContourComplex.storedCoef_differentiableAt_lam M r dt₀ 0 (nodesAvoidZero_zero_mul M r hr dt₀) 7

theorem E3_coef_5_differentiableAt_dt_zero :
    DifferentiableAt ℂ (fun dt => E3_coef_5 dt 0 M r) dt₀ :=
  ContourComplex.storedCoef_differentiableAt_dt M r dt₀ 0 (nodesAvoidZero_zero_mul M r hr dt₀) 7

theorem E4_coef_1_differentiableAt_lam_zero :
    DifferentiableAt ℂ (fun lam => E4_coef_1 dt₀ lam M r) 0 :=
  ContourComplex.storedCoef_differentiableAt_lam M r dt₀ 0 (nodesAvoidZero_zero_mul M r hr dt₀) 8

theorem E4_coef_1_differentiableAt_dt_zero :
    DifferentiableAt ℂ (fun dt => E4_coef_1 dt 0 M r) dt₀ :=
  ContourComplex.storedCoef_differentiableAt_dt M r dt₀ 0 (nodesAvoidZero_zero_mul M r hr dt₀) 8

theorem E4_coef_2_differentiableAt_lam_zero :
    DifferentiableAt ℂ (fun lam => E4_coef_2 dt₀ lam M r) 0 :=
  ContourComplex.storedCoef_differentiableAt_lam M r dt₀ 0 (nodesAvoidZero_zero_mul M r hr dt₀) 9

theorem E4_coef_2_differentiableAt_dt_zero :
    DifferentiableAt ℂ (fun dt => E4_coef_2 dt 0 M r) dt₀ :=
  ContourComplex.storedCoef_differentiableAt_dt M r dt₀ 0 (nodesAvoidZero_zero_mul M r hr dt₀) 9

theorem E4_coef_3_differentiableAt_lam_zero :
    DifferentiableAt ℂ (fun lam => E4_coef_3 dt₀ lam M r) 0 :=
  ContourComplex.storedCoef_differentiableAt_lam M r dt₀ 0 (nodesAvoidZero_zero_mul M r hr dt₀) 10

theorem E4_coef_3_differentiableAt_dt_zero :
    DifferentiableAt ℂ (fun dt => E4_coef_3 dt 0 M r) dt₀ :=
  ContourComplex.storedCoef_differentiableAt_dt M r dt₀ 0 (nodesAvoidZero_zero_mul M r hr dt₀) 10

theorem E4_coef_4_differentiableAt_lam_zero :
    DifferentiableAt ℂ (fun lam => E4_coef_4 dt₀ lam M r) 0 :=
  ContourComplex.storedCoef_differentiableAt_lam M r dt₀ 0 (nodesAvoidZero_zero_mul M r hr dt₀) 11

theorem E4_coef_4_differentiableAt_dt_zero :
    DifferentiableAt ℂ (fun dt => E4_coef_4 dt 0 M r) dt₀ :=
  ContourComplex.storedCoef_differentiableAt_dt M r dt₀ 0 (nodesAvoidZero_zero_mul M r hr dt₀) 11

theorem E4_coef_5_differentiableAt_lam_zero :
    DifferentiableAt ℂ (fun lam => E4_coef_5 dt₀ lam M r) 0 :=
  ContourComplex.storedCoef_differentiableAt_lam M r dt₀ 0 (nodesAvoidZero_zero_mul M r hr dt₀) 12

theorem E4_coef_5_differentiableAt_dt_zero :
    DifferentiableAt ℂ (fun dt => E4_coef_5 dt 0 M r) dt₀ :=
  ContourComplex.storedCoef_differentiableAt_dt M r dt₀ 0 (nodesAvoidZero_zero_mul M r hr dt₀) 12

theorem E4_coef_6_differentiableAt_lam_zero :
    DifferentiableAt ℂ (fun lam => E4_coef_6 dt₀ lam M r) 0 :=
  ContourComplex.storedCoef_differentiableAt_lam M r dt₀ 0 (nodesAvoidZero_zero_mul M r hr dt₀) 13

theorem E4_coef_6_differentiableAt_dt_zero :
    DifferentiableAt ℂ (fun dt => E4_coef_6 dt 0 M r) dt₀ :=
  ContourComplex.storedCoef_differentiableAt_dt M r dt₀ 0 (nodesAvoidZero_zero_mul M r hr dt₀) 13

end Zero

example : DifferentiableAt ℂ (fun lam => E1_coef_1 (1 / 10 : ℂ) lam 7 Complex.I) 0 :=
  E1_coef_1_differentiableAt_lam_zero 7 Complex.I Complex.I_ne_zero _

theorem linear_step_hasDerivAt_param (dt u : ℂ) (lamf : ℂ → ℂ) (lam' θ₀ : ℂ) (hl : HasDerivAt lamf lam' θ₀) :
    HasDerivAt (fun θ => E0step (exp_term dt (lamf θ)) u)
      (dt * lam' * exp_term dt (lamf θ₀) * u) θ₀ := by
  simp only [E0step, exp_term, hasExp_complex]
  have h1 : HasDerivAt (fun θ => Complex.exp (dt * lamf θ)) (Complex.exp (dt * lamf θ₀) * (dt * lam')) θ₀ :=
    (hl.const_mul dt).cexp
  have h2 := h1.mul_const u
  have e : dt * lam' * Complex.exp (dt * lamf θ₀) * u = Complex.exp (dt * lamf θ₀) * (dt * lam') * u := by
    ring
  rw [e]
  exact h2

/-- for a real PDE coefficient `θ`, which is what `jax.grad` differentiates -/
theorem linear_step_hasDerivAt_param_real (dt u : ℂ) (lamf : ℂ → ℂ) (lam' : ℂ) (θ₀ : ℝ)
    (hl : HasDerivAt lamf lam' (θ₀ : ℂ)) :
    HasDerivAt (fun θ : ℝ => E0step (exp_term dt (lamf (θ : ℂ))) u)
      (dt * lam' * exp_term dt (lamf (θ₀ : ℂ)) * u) θ₀ :=
  (linear_step_hasDerivAt_param dt u lamf lam' (θ₀ : ℂ) hl).comp_ofReal

theorem linear_step_hasDerivAt_poly (dt u : ℂ) (cs : List ℂ) (θ₀ : ℂ) :
    HasDerivAt (fun θ => E0step (exp_term dt (polyEval cs θ)) u)
      (dt * polyDeriv cs θ₀ * exp_term dt (polyEval cs θ₀) * u) θ₀ :=
  linear_step_hasDerivAt_param dt u (polyEval cs) _ θ₀ (polyEval_hasDerivAt cs θ₀)

theorem linear_step_hasDerivAt_diffusivity (dt u k ν₀ : ℂ) :
    HasDerivAt (fun ν => E0step (exp_term dt (-ν * k ^ 2)) u)
      (dt * (-(k ^ 2)) * exp_term dt (-ν₀ * k ^ 2) * u) ν₀ := by
  have hl : HasDerivAt (fun ν : ℂ => -ν * k ^ 2) (-(k ^ 2)) ν₀ := by
    have h := ((hasDerivAt_id ν₀).neg).mul_const (k ^ 2)
    simpa using h
  exact linear_step_hasDerivAt_param dt u _ _ ν₀ hl

/-- the regenerated `Burgers._build_linear_operator` at one stored mode is linear
    in the diffusivity, derivative `Σ_d κ_d²` (`κ_d = i s k_d`, so this is `−|k|²s²`) -/
theorem Burgers_linear_operator_hasDerivAt (κ : List ℂ) (ν₀ : ℂ) :
    HasDerivAt (fun ν => Burgers_linear_operator κ ν) (psum κ 2) ν₀ := by
  have e : (fun ν => Burgers_linear_operator κ ν) = fun ν => ν * psum κ 2 :=
    funext (Burgers_linear_operator_eq κ)
  rw [e]
  have h := (hasDerivAt_id ν₀).mul_const (psum κ 2)
  simpa using h

theorem Burgers_linear_step_hasDerivAt (dt u : ℂ) (κ : List ℂ) (ν₀ : ℂ) :
    HasDerivAt (fun ν => E0step (exp_term dt (Burgers_linear_operator κ ν)) u)
      (dt * psum κ 2 * exp_term dt (Burgers_linear_operator κ ν₀) * u) ν₀ :=
  linear_step_hasDerivAt_param dt u _ _ ν₀ (Burgers_linear_operator_hasDerivAt κ ν₀)

theorem E1step_hasDerivAt_param (dt u r : ℂ) (M : ℕ) (N : ℂ → ℂ) (lamf : ℂ → ℂ) (lam' θ₀ : ℂ)
    (hl : HasDerivAt lamf lam' θ₀) (hn : NodesAvoidZero M r (lamf θ₀ * dt)) :
    HasDerivAt (fun θ => E1step (exp_term dt (lamf θ)) (E1_coef_1 dt (lamf θ) M r) N u)
      (dt * lam' * exp_term dt (lamf θ₀) * u
        + deriv (fun lam => E1_coef_1 dt lam M r) (lamf θ₀) * lam' * N u) θ₀ := by
  have h1 := linear_step_hasDerivAt_param dt u lamf lam' θ₀ hl
  have hc : DifferentiableAt ℂ (fun lam => E1_coef_1 dt lam M r) (lamf θ₀) :=
    ContourComplex.storedCoef_differentiableAt_lam M r dt (lamf θ₀) hn 0
  have h2 := (HasDerivAt.comp θ₀ hc.hasDerivAt hl).mul_const (N u)
  exact h1.add h2

theorem E1step_differentiableAt_param (dt u : ℂ) (r x : ℝ) (hr : r ≠ 0) (M : ℕ) (hM : 0 < M) (hev : M % 2 = 0)
    (N : ℂ → ℂ) (lamf : ℂ → ℂ) (θ₀ : ℂ) (hl : DifferentiableAt ℂ lamf θ₀) (hx : lamf θ₀ * dt = (x : ℂ)) :
    DifferentiableAt ℂ (fun θ => E1step (exp_term dt (lamf θ)) (E1_coef_1 dt (lamf θ) M (r : ℂ)) N u) θ₀ :=
  (E1step_hasDerivAt_param dt u r M N lamf _ θ₀ hl.hasDerivAt
    (hx ▸ nodesAvoidZero_real M hM hev r x hr)).differentiableAt

/-- `Burgers` diffusivity at the mean mode, `κ = 0` (so `λ = 0` whatever `ν`): the step is
    differentiable in `ν` — the guarded point -/
theorem E1step_Burgers_differentiableAt_mean_mode (dt u r : ℂ) (hr : r ≠ 0) (M : ℕ) (N : ℂ → ℂ) (D : ℕ) (ν₀ : ℂ) :
    DifferentiableAt ℂ (fun ν => E1step (exp_term dt (Burgers_linear_operator (List.replicate D 0) ν))
      (E1_coef_1 dt (Burgers_linear_operator (List.replicate D 0) ν) M r) N u) ν₀ := by
  apply (E1step_hasDerivAt_param dt u r M N _ _ ν₀
    (Burgers_linear_operator_hasDerivAt (List.replicate D 0) ν₀) _).differentiableAt
  have h0 : Burgers_linear_operator (List.replicate D (0 : ℂ)) ν₀ = 0 := by
    rw [Burgers_linear_operator_eq, psum_def]
    refine mul_eq_zero_of_right _ (Finset.sum_eq_zero fun d hd => ?_)
    rw [List.length_replicate] at hd
    rw [List.getD_eq_getElem?_getD, List.getElem?_replicate, if_pos (Finset.mem_range.mp hd), Option.getD_some,
      zero_pow two_ne_zero]
  rw [h0]
  exact nodesAvoidZero_zero_mul M r hr dt

/-- non-vacuity: diffusion `λ(ν) = −ν·4`, `ν₀ = 1/100`, `dt = 1/10` -/
example (u : ℂ) (N : ℂ → ℂ) :
    DifferentiableAt ℂ (fun ν : ℂ => E1step (exp_term (1 / 10) (-ν * 4))
      (E1_coef_1 (1 / 10) (-ν * 4) 16 ((1 : ℝ) : ℂ)) N u) (1 / 100) :=
  E1step_differentiableAt_param (1 / 10) u 1 (-(1 / 250)) one_ne_zero 16 (by norm_num) (by norm_num) N
    (fun ν => -ν * 4) (1 / 100) (by fun_prop) (by push_cast; norm_num)

theorem E4step_differentiableAt_coefs {X : Type} [NormedAddCommGroup X] [NormedSpace ℂ X]
    (E Eh c1 c2 c3 c4 c5 c6 : X → ℂ) (N : ℂ → ℂ) (u : ℂ) (p₀ : X) (hN : Differentiable ℂ N)
    (hE : DifferentiableAt ℂ E p₀) (hEh : DifferentiableAt ℂ Eh p₀) (h1 : DifferentiableAt ℂ c1 p₀)
    (h2 : DifferentiableAt ℂ c2 p₀) (h3 : DifferentiableAt ℂ c3 p₀) (h4 : DifferentiableAt ℂ c4 p₀)
    (h5 : DifferentiableAt ℂ c5 p₀) (h6 : DifferentiableAt ℂ c6 p₀) :
    DifferentiableAt ℂ (fun p => E4step (E p) (Eh p) (c1 p) (c2 p) (c3 p) (c4 p) (c5 p) (c6 p) N u) p₀ := by
  simp only [E4step, lit_eq]
  fun_prop

theorem E1step_differentiableAt_coefs {X : Type} [NormedAddCommGroup X] [NormedSpace ℂ X]
    (E c1 : X → ℂ) (N : ℂ → ℂ) (u : ℂ) (p₀ : X) (hE : DifferentiableAt ℂ E p₀) (h1 : DifferentiableAt ℂ c1 p₀) :
    DifferentiableAt ℂ (fun p => E1step (E p) (c1 p) N u) p₀ := by
  simp only [E1step]
  fun_prop

theorem E2step_differentiableAt_coefs {X : Type} [NormedAddCommGroup X] [NormedSpace ℂ X]
    (E c1 c2 : X → ℂ) (N : ℂ → ℂ) (u : ℂ) (p₀ : X) (hN : Differentiable ℂ N) (hE : DifferentiableAt ℂ E p₀)
    (h1 : DifferentiableAt ℂ c1 p₀) (h2 : DifferentiableAt ℂ c2 p₀) :
    DifferentiableAt ℂ (fun p => E2step (E p) (c1 p) (c2 p) N u) p₀ := by
  simp only [E2step]
  fun_prop

/-- no assumption on `N`: with `u` fixed it enters only through the value `N u` -/
theorem E1step_model_differentiableAt_joint (M : ℕ) (r dt₀ lam₀ : ℂ) (h : NodesAvoidZero M r (lam₀ * dt₀))
    (N : ℂ → ℂ) (u : ℂ) :
    DifferentiableAt ℂ (fun p : ℂ × ℂ => E1step (exp_term p.1 p.2) (E1_coef_1 p.1 p.2 M r) N u) (dt₀, lam₀) :=
  E1step_differentiableAt_coefs _ _ N u _ (exp_term_differentiable _)
    (ContourComplex.storedCoef_differentiableAt_joint M r dt₀ lam₀ h 0)

theorem E2step_model_differentiableAt_joint (M : ℕ) (r dt₀ lam₀ : ℂ) (h : NodesAvoidZero M r (lam₀ * dt₀))
    (N : ℂ → ℂ) (hN : Differentiable ℂ N) (u : ℂ) :
    DifferentiableAt ℂ (fun p : ℂ × ℂ => E2step (exp_term p.1 p.2) (E2_coef_1 p.1 p.2 M r) (E2_coef_2 p.1 p.2 M r)
      N u) (dt₀, lam₀) :=
  E2step_differentiableAt_coefs _ _ _ N u _ hN (exp_term_differentiable _)
    (ContourComplex.storedCoef_differentiableAt_joint M r dt₀ lam₀ h 1) (ContourComplex.storedCoef_differentiableAt_joint M r dt₀ lam₀ h 2)

/-- C07: one ETDRK4 step assembled from the STORED propagators and coefficients is
    jointly differentiable in `(dt, λ)` wherever the nodes avoid `0` (real `r ≠ 0`, even `M > 0`: every real
    `λ₀ dt₀`; any `r ≠ 0`: `λ₀ = 0`), for every differentiable `N` -/
theorem E4step_model_differentiableAt_joint (M : ℕ) (r dt₀ lam₀ : ℂ) (h : NodesAvoidZero M r (lam₀ * dt₀))
    (N : ℂ → ℂ) (hN : Differentiable ℂ N) (u : ℂ) :
    DifferentiableAt ℂ (fun p : ℂ × ℂ => E4step (exp_term p.1 p.2) (E4_half_exp_term p.1 p.2 M r)
      (E4_coef_1 p.1 p.2 M r) (E4_coef_2 p.1 p.2 M r) (E4_coef_3 p.1 p.2 M r) (E4_coef_4 p.1 p.2 M r)
      (E4_coef_5 p.1 p.2 M r) (E4_coef_6 p.1 p.2 M r) N u) (dt₀, lam₀) :=
  E4step_differentiableAt_coefs _ _ _ _ _ _ _ _ N u _ hN (exp_term_differentiable _)
    (E4_half_exp_term_differentiable M r _)
    (ContourComplex.storedCoef_differentiableAt_joint M r dt₀ lam₀ h 8) (ContourComplex.storedCoef_differentiableAt_joint M r dt₀ lam₀ h 9)
    (ContourComplex.storedCoef_differentiableAt_joint M r dt₀ lam₀ h 10) (ContourComplex.storedCoef_differentiableAt_joint M r dt₀ lam₀ h 11)
    (ContourComplex.storedCoef_differentiableAt_joint M r dt₀ lam₀ h 12) (ContourComplex.storedCoef_differentiableAt_joint M r dt₀ lam₀ h 13)

theorem E4step_model_differentiableAt_dt (M : ℕ) (r dt₀ lam₀ : ℂ) (h : NodesAvoidZero M r (lam₀ * dt₀))
    (N : ℂ → ℂ) (hN : Differentiable ℂ N) (u : ℂ) :
    DifferentiableAt ℂ (fun dt : ℂ => E4step (exp_term dt lam₀) (E4_half_exp_term dt lam₀ M r)
      (E4_coef_1 dt lam₀ M r) (E4_coef_2 dt lam₀ M r) (E4_coef_3 dt lam₀ M r) (E4_coef_4 dt lam₀ M r)
      (E4_coef_5 dt lam₀ M r) (E4_coef_6 dt lam₀ M r) N u) dt₀ :=
  ContourComplex.differentiableAt_dt_of_joint (E4step_model_differentiableAt_joint M r dt₀ lam₀ h N hN u)

theorem E4step_model_differentiableAt_lam (M : ℕ) (r dt₀ lam₀ : ℂ) (h : NodesAvoidZero M r (lam₀ * dt₀))
    (N : ℂ → ℂ) (hN : Differentiable ℂ N) (u : ℂ) :
    DifferentiableAt ℂ (fun lam : ℂ => E4step (exp_term dt₀ lam) (E4_half_exp_term dt₀ lam M r)
      (E4_coef_1 dt₀ lam M r) (E4_coef_2 dt₀ lam M r) (E4_coef_3 dt₀ lam M r) (E4_coef_4 dt₀ lam M r)
      (E4_coef_5 dt₀ lam M r) (E4_coef_6 dt₀ lam M r) N u) lam₀ :=
  ContourComplex.differentiableAt_lam_of_joint (E4step_model_differentiableAt_joint M r dt₀ lam₀ h N hN u)

/-- non-vacuity / the guarded point: the mean mode `λ₀ = 0`, any `dt₀`, any radius `r ≠ 0`, any `M`,
    polynomial reaction term -/
example (M : ℕ) (r : ℂ) (hr : r ≠ 0) (dt₀ u : ℂ) (cs : List ℂ) :
    DifferentiableAt ℂ (fun lam : ℂ => E4step (exp_term dt₀ lam) (E4_half_exp_term dt₀ lam M r)
      (E4_coef_1 dt₀ lam M r) (E4_coef_2 dt₀ lam M r) (E4_coef_3 dt₀ lam M r) (E4_coef_4 dt₀ lam M r)
      (E4_coef_5 dt₀ lam M r) (E4_coef_6 dt₀ lam M r) (polyEval cs) u) 0 :=
  E4step_model_differentiableAt_lam M r dt₀ 0 (nodesAvoidZero_zero_mul M r hr dt₀)
    (polyEval cs) (polyEval_differentiable cs) u

end Exponax.Diff
