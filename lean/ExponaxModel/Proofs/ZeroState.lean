import ExponaxModel.Proofs.LerayAlgebra
import ExponaxModel.Proofs.DFTBasic
import ExponaxModel.Proofs.Differentiability
import ExponaxModel.Generated.Etdrk
import ExponaxModel.Proofs.EtdrkStages
/-
C19 — the zero state maps to zero for unforced steppers.

Every model nonlinear term WITHOUT injection maps every spectrum all of whose entries are `0`
(`IsZeroMC`: in particular the zero spectrum of any shape, and the empty array) to THE zero
spectrum `zeroMC C (modes c)`; hence every regenerated ETDRK stage formula `E{0..4}step` maps `0`
to `0`, for any coefficients, as soon as `N 0 = 0`.

No hypothesis on the configuration is needed (any `D`, `N`, `s`, dealiasing fraction).
-/
namespace Exponax.SmallGaps
open Exponax Exponax.Layout Exponax.Transform Exponax.Nonlin Exponax.Gen.Etdrk

def IsZeroArr (a : Array ℂ) : Prop := ∀ i, a.getD i 0 = 0

/-- every entry of a multi-channel array vanishes (as read by `at2`, the only way the model reads it) -/
def IsZeroMC (A : MC ℂ) : Prop := ∀ ch i, at2 A ch i = 0

def zeroMC (C M : ℕ) : MC ℂ := tab2 C M (fun _ _ => 0)

theorem isZeroArr_tab (n : ℕ) (f : ℕ → ℂ) (hf : ∀ i, i < n → f i = 0) : IsZeroArr (tab n f) := by
  intro i
  rcases Nat.lt_or_ge i n with h | h
  · rw [Nonlin.tab_getD _ _ _ _ h, hf i h]
  · rw [Nonlin.tab_getD_of_le _ _ _ _ h]

theorem isZeroArr_empty : IsZeroArr (#[] : Array ℂ) := fun i => by simp [Array.getD]

theorem isZeroMC_zeroMC (C M : ℕ) : IsZeroMC (zeroMC C M) := fun ch i =>
  Nonlin.at2_tab2_zero C M _ ch i (fun _ => rfl)

theorem isZeroMC_empty : IsZeroMC (#[] : MC ℂ) := fun ch i => by simp [at2, Array.getD]

theorem IsZeroMC.channel {A : MC ℂ} (hA : IsZeroMC A) (ch : ℕ) : IsZeroArr (A.getD ch #[]) :=
  fun i => hA ch i

theorem IsZeroMC.at2 {A : MC ℂ} (hA : IsZeroMC A) (ch i : ℕ) : at2 A ch i = 0 := hA ch i
theorem IsZeroArr.getD {a : Array ℂ} (ha : IsZeroArr a) (i : ℕ) : a.getD i 0 = 0 := ha i

theorem isZeroMC_tabC (nc : ℕ) (f : ℕ → Array ℂ) (hf : ∀ ch, ch < nc → IsZeroArr (f ch)) :
    IsZeroMC (tabC nc f) := by
  intro ch i
  rw [Nonlin.at2_tabC_any]
  split_ifs with h
  · exact hf ch h i
  · rfl

theorem isZeroMC_tab2 (nc n : ℕ) (f : ℕ → ℕ → ℂ) (hf : ∀ ch i, ch < nc → i < n → f ch i = 0) :
    IsZeroMC (tab2 nc n f) := by
  intro ch i
  rw [Nonlin.at2_tab2_any]
  split_ifs with h
  · exact hf ch i h.1 h.2
  · rfl

theorem tab2_eq_zeroMC (nc n : ℕ) (f : ℕ → ℕ → ℂ) (hf : ∀ ch i, ch < nc → i < n → f ch i = 0) :
    tab2 nc n f = zeroMC nc n :=
  tab2_congr nc n f _ hf

theorem eq_zeroMC_of_isZeroMC {nc n : ℕ} {f : ℕ → ℕ → ℂ} (hz : IsZeroMC (tab2 nc n f)) : tab2 nc n f = zeroMC nc n :=
  tab2_eq_zeroMC nc n f fun ch i hch hi => (at2_tab2 _ _ _ _ _ hch hi).symm.trans (hz ch i)

theorem tabC_eq_zeroMC (nc n : ℕ) (f : ℕ → Array ℂ) (hf : ∀ ch, ch < nc → f ch = tab n (fun _ => 0)) :
    tabC nc f = zeroMC nc n := by
  unfold tabC zeroMC tab2
  exact tab_congr _ _ _ hf

theorem isZeroArr_nifft (c : Cfg ℂ) (uh : Array ℂ) (hu : IsZeroArr uh) : IsZeroArr (nifft c uh) :=
  Nonlin.nifft_zero c uh fun h _ => hu h

theorem nfft_zero (c : Cfg ℂ) (u : Array ℂ) (hu : IsZeroArr u) : nfft c u = tab (modes c) (fun _ => 0) :=
  tab_congr _ _ _ fun h _ => by rw [DFT.rfftnM_eq_zero c.D c.N u (fun j _ => hu j), mul_zero]

theorem isZeroArr_nfft (c : Cfg ℂ) (u : Array ℂ) (hu : IsZeroArr u) : IsZeroArr (nfft c u) :=
  Nonlin.nfft_zero c u fun j _ => hu j

theorem isZeroMC_nifft_channels (c : Cfg ℂ) (C : ℕ) (uh : MC ℂ) (hz : IsZeroMC uh) :
    IsZeroMC (tabC C (fun ch => nifft c (uh.getD ch #[]))) :=
  isZeroMC_tabC _ _ (fun ch _ => isZeroArr_nifft c _ (hz.channel ch))

/-- the single-channel non-conservative variant returns one channel -/
theorem convection_zero (c : Cfg ℂ) (C : ℕ) (scale : ℂ) (single conservative : Bool) (uh : MC ℂ)
    (hz : IsZeroMC uh) :
    convection c C scale single conservative uh
      = zeroMC (if single && !conservative then 1 else C) (modes c) := by
  have hu := isZeroMC_nifft_channels c C uh hz
  cases single <;> cases conservative
  all_goals
    simp only [convection, Bool.false_eq_true, if_false, if_true, Bool.and_false, Bool.and_true,
      Bool.not_false, Bool.not_true]
    apply tab2_eq_zeroMC
    intro ch h _ _
  case false.false =>
    apply mul_eq_zero_of_right
    apply IsZeroMC.at2
    apply isZeroMC_tabC
    intro i _
    apply isZeroArr_nfft
    apply isZeroArr_tab
    intro x _
    apply Nonlin.sumList_range_zero
    intro j
    rw [hu.at2, zero_mul]
  case false.true =>
    apply mul_eq_zero_of_right
    apply mul_eq_zero_of_right
    apply Nonlin.sumList_range_zero
    intro j
    apply mul_eq_zero_of_right
    apply IsZeroMC.at2
    apply isZeroMC_tabC
    intro ij _
    apply isZeroArr_nfft
    apply isZeroArr_tab
    intro x _
    rw [hu.at2, zero_mul]
  case true.false =>
    apply mul_eq_zero_of_right
    apply IsZeroArr.getD
    apply isZeroArr_nfft
    apply isZeroArr_tab
    intro x _
    apply Nonlin.sumList_range_zero
    intro d
    rw [hu.at2, zero_mul]
  case true.true =>
    apply mul_eq_zero_of_right
    apply mul_eq_zero_of_right
    apply IsZeroMC.at2
    apply isZeroMC_tabC
    intro ch' _
    apply isZeroArr_nfft
    apply isZeroArr_tab
    intro x _
    rw [hu.at2, zero_mul]

theorem gradientNorm_zero (c : Cfg ℂ) (C : ℕ) (scale : ℂ) (zeroFix : Bool) (uh : MC ℂ)
    (hz : IsZeroMC uh) :
    gradientNorm c C scale zeroFix uh = zeroMC C (modes c) := by
  unfold gradientNorm
  extract_lets G M g q mean q' qh
  have hg : IsZeroMC g := by
    apply isZeroMC_tabC
    intro cd _
    apply isZeroArr_nifft
    apply isZeroArr_tab
    intro h _
    rw [hz.at2, mul_zero]
  have hq : IsZeroMC q := by
    apply isZeroMC_tab2
    intro ch x _ _
    apply Nonlin.sumList_range_zero
    intro d
    rw [hg.at2, zero_mul]
  have hmean : IsZeroArr mean := by
    apply isZeroArr_tab
    intro ch _
    rw [DFT.sumRange_eq, Finset.sum_eq_zero (fun x _ => hq.at2 ch x), zero_div]
  have hq' : IsZeroMC q' := by
    apply isZeroMC_tab2
    intro ch x _ _
    rw [hq.at2, hmean.getD, sub_zero, ite_self]
  apply tab2_eq_zeroMC
  intro ch h _ _
  apply mul_eq_zero_of_right
  apply mul_eq_zero_of_right
  apply IsZeroMC.at2
  apply isZeroMC_tabC
  intro ch' _
  apply isZeroArr_nfft; exact hq'.channel ch'

theorem polynomial_zero (c : Cfg ℂ) (C : ℕ) (coeffs : List ℂ) (h0 : coeffs.getD 0 0 = 0) (uh : MC ℂ)
    (hz : IsZeroMC uh) :
    polynomial c C coeffs uh = zeroMC C (modes c) := by
  have hu := isZeroMC_nifft_channels c C uh hz
  unfold polynomial
  apply tabC_eq_zeroMC
  intro ch _
  apply nfft_zero
  apply isZeroArr_tab
  intro x _
  rw [hu.at2, Diff.polyEval_zero, h0]

theorem general_zero (c : Cfg ℂ) (C : ℕ) (s0 s1 s2 : ℂ) (zeroFix : Bool) (uh : MC ℂ)
    (hz : IsZeroMC uh) :
    general c C s0 s1 s2 zeroFix uh = zeroMC C (modes c) := by
  unfold general
  apply tab2_eq_zeroMC
  intro ch h _ _
  rw [polynomial_zero c C _ rfl uh hz, convection_zero c C _ true true uh hz,
    gradientNorm_zero c C _ zeroFix uh hz]
  simp only [Bool.not_true, Bool.and_false, Bool.false_eq_true, if_false]
  rw [(isZeroMC_zeroMC C (modes c)).at2, add_zero, add_zero]

theorem vorticity2d_zero (c : Cfg ℂ) (scale : ℂ) (uh : MC ℂ) (hz : IsZeroMC uh) :
    vorticity2d c scale none uh = zeroMC 1 (modes c) :=
  eq_zeroMC_of_isZeroMC (vorticity2d_none_zero c scale uh (hz 0))

theorem leray_zero (c : Cfg ℂ) (uh : MC ℂ) (hz : IsZeroMC uh) : leray c uh = zeroMC c.D (modes c) := by
  rw [leray_eq_tab2]
  apply tab2_eq_zeroMC
  intro d h hd hh
  rw [← at2_leray c uh d h hd hh]
  exact at2_leray_zero_of_zero c uh h hh (fun e _ => hz e h) d hd

theorem projected3d_zero (c : Cfg ℂ) (uh : MC ℂ) (hz : IsZeroMC uh) :
    projected3d c none uh = zeroMC 3 (modes c) :=
  eq_zeroMC_of_isZeroMC (projected3d_none_zero c uh hz)

theorem cahnHilliard_zero (c : Cfg ℂ) (scale : ℂ) (uh : MC ℂ) (hz : IsZeroMC uh) :
    cahnHilliard c scale uh = zeroMC 1 (modes c) := by
  unfold cahnHilliard
  extract_lets G M u cube
  have hu : IsZeroArr u := by
    apply isZeroArr_nifft
    apply isZeroArr_tab
    intro h _
    rw [hz.at2, mul_zero]
  have hcube : IsZeroArr cube := by
    apply isZeroArr_nfft
    apply isZeroArr_tab
    intro x _
    rw [hu.getD, mul_zero]
  apply tab2_eq_zeroMC
  intro ch h _ _
  rw [hcube.getD, mul_zero, zero_mul]

theorem reaction_zero (c : Cfg ℂ) (C : ℕ) (react : List ℂ → List ℂ)
    (hreact : ∀ ch, (react (List.replicate C 0)).getD ch 0 = 0) (uh : MC ℂ) (hz : IsZeroMC uh) :
    reaction c C react uh = zeroMC C (modes c) := by
  unfold reaction
  extract_lets G M u r
  have hu : IsZeroMC u := by
    apply isZeroMC_tabC
    intro ch _
    apply isZeroArr_nifft
    apply isZeroArr_tab
    intro h _
    rw [hz.at2, mul_zero]
  have hr : IsZeroMC r := by
    apply isZeroMC_tab2
    intro ch x _ _
    have : (List.range C).map (fun k => at2 u k x) = List.replicate C 0 := by
      rw [show (fun k => at2 u k x) = (fun _ => (0 : ℂ)) from funext (fun k => hu.at2 k x),
        List.map_const', List.length_range]
    rw [this]; exact hreact ch
  apply tabC_eq_zeroMC
  intro ch _
  exact nfft_zero c _ (hr.channel ch)

/-- the Gray–Scott reaction with zero feed rate has no source -/
theorem grayScott_no_source (kill : ℂ) (ch : ℕ) :
    (grayScottReact 0 kill (List.replicate 2 0)).getD ch 0 = 0 := by
  unfold grayScottReact
  rcases ch with _ | _ | ch <;> simp [List.replicate]

theorem bz_no_source (ch : ℕ) : (bzReact (List.replicate 3 (0 : ℂ))).getD ch 0 = 0 := by
  unfold bzReact
  rcases ch with _ | _ | _ | ch <;> simp [List.replicate]

def ZeroPreserving (T : MC ℂ → MC ℂ) : Prop := ∀ uh, IsZeroMC uh → IsZeroMC (T uh)

theorem zeroPreserving_of_eq {T : MC ℂ → MC ℂ} {C M : ℕ} (h : ∀ uh, IsZeroMC uh → T uh = zeroMC C M) :
    ZeroPreserving T :=
  fun uh hz => h uh hz ▸ isZeroMC_zeroMC C M

theorem zeroPreserving_terms (c : Cfg ℂ) (C : ℕ) (scale s0 s1 s2 kill : ℂ) (single conservative zeroFix : Bool)
    (coeffs : List ℂ) (h0 : coeffs.getD 0 0 = 0) (react : List ℂ → List ℂ)
    (hreact : ∀ ch, (react (List.replicate C 0)).getD ch 0 = 0) :
    ZeroPreserving (convection c C scale single conservative) ∧
    ZeroPreserving (gradientNorm c C scale zeroFix) ∧
    ZeroPreserving (polynomial c C coeffs) ∧
    ZeroPreserving (general c C s0 s1 s2 zeroFix) ∧
    ZeroPreserving (vorticity2d c scale none) ∧
    ZeroPreserving (projected3d c none) ∧
    ZeroPreserving (leray c) ∧
    ZeroPreserving (cahnHilliard c scale) ∧
    ZeroPreserving (reaction c C react) ∧
    ZeroPreserving (reaction c 2 (grayScottReact 0 kill)) ∧
    ZeroPreserving (reaction c 3 bzReact) :=
  ⟨zeroPreserving_of_eq (convection_zero c C scale single conservative),
    zeroPreserving_of_eq (gradientNorm_zero c C scale zeroFix), zeroPreserving_of_eq (polynomial_zero c C coeffs h0),
    zeroPreserving_of_eq (general_zero c C s0 s1 s2 zeroFix), zeroPreserving_of_eq (vorticity2d_zero c scale),
    zeroPreserving_of_eq (projected3d_zero c), zeroPreserving_of_eq (leray_zero c),
    zeroPreserving_of_eq (cahnHilliard_zero c scale), zeroPreserving_of_eq (reaction_zero c C react hreact),
    zeroPreserving_of_eq (reaction_zero c 2 _ (grayScott_no_source kill)),
    zeroPreserving_of_eq (reaction_zero c 3 _ bz_no_source)⟩

section
variable {K : Type} [Ring K]

/-- any ring `K` (`ℂ` per mode, `ℕ → ℂ`, `ℕ → ℕ → ℂ` for whole spectra): being `0` is kept by every stage operation -/
theorem etdrk_rollout_zero (e eh a1 a2 a3 a4 a5 a6 : K) (N : K → K) (hN : N 0 = 0) (n : ℕ) :
    (E0step e)^[n] (0 : K) = 0 ∧ (E1step e a1 N)^[n] 0 = 0 ∧ (E2step e a1 a2 N)^[n] 0 = 0 ∧
    (E3step e eh a1 a2 a3 a4 a5 N)^[n] 0 = 0 ∧ (E4step e eh a1 a2 a3 a4 a5 a6 N)^[n] 0 = 0 :=
  (Etdrk.etdrkAll_pred (P := (· = 0)) (C := fun _ => True)
    (Etdrk.StepRel.pred (fun ha hb => by rw [ha, hb, add_zero]) (fun ha hb => by rw [ha, hb, sub_zero])
      (fun _ ha => by rw [ha, mul_zero]) trivial)
    (fun x hx => by rw [hx, hN]) trivial trivial trivial trivial trivial trivial trivial trivial).mono
    fun _ h => Function.iterate_fixed (h 0 rfl) n
end

theorem liftTermND_zero (c : Cfg ℂ) (C : ℕ) (T : MC ℂ → MC ℂ) (hT : ZeroPreserving T) :
    EquivND.liftTermND c C T 0 = 0 := by
  funext ch h
  unfold EquivND.liftTermND
  split_ifs
  · exact (hT _ (isZeroMC_tab2 _ _ _ (fun _ _ _ _ => rfl))).at2 ch h
  · rfl

example : IsZeroMC (zeroMC 3 5) ∧ IsZeroMC (#[] : MC ℂ) := ⟨isZeroMC_zeroMC _ _, isZeroMC_empty⟩
example : ([0, 1, -1] : List ℂ).getD 0 0 = 0 := rfl
example (c : Cfg ℂ) : ZeroPreserving (polynomial c 1 [0, 1, -1]) :=
  (zeroPreserving_terms c 1 0 0 0 0 0 true true true [0, 1, -1] rfl (fun _ => [0]) (fun ch => by
    rcases ch with _ | ch <;> simp)).2.2.1
example : ∃ N : ℂ → ℂ, N 0 = 0 ∧ N 1 ≠ 0 := ⟨fun z => z * z, by simp, by simp⟩

end Exponax.SmallGaps
