import Mathlib.Analysis.SpecialFunctions.Pow.Real
import Mathlib.Analysis.SpecialFunctions.Sqrt
import Mathlib.Tactic
import Mathlib.Data.List.Fold
import ExponaxModel.Proofs.RealInstances
import ExponaxModel.Proofs.LayoutLemmas
import ExponaxModel.Proofs.StoredModes
import ExponaxModel.Proofs.DFTBasic
import ExponaxModel.Model.IC
/-
"Initial-condition generators honour their documented options": theorems about `IC.mean`, `IC.std`,
`IC.maxAbs`, `IC.normalizeIc`, `IC.minOf`, `IC.maxOf`, `IC.clamp`, `IC.scale` at `K := ℝ`, and the
spectrum read-off of `IC.truncatedSeries` at `K := ℂ`.
-/
namespace Exponax.IC
open Exponax Exponax.Layout Exponax.Transform Finset

theorem mean_eq (u : Array ℝ) : mean u = u.toList.sum / (u.size : ℝ) := by
  unfold mean; rw [sumList_eq]

theorem mean_eq_sum (u : Array ℝ) : mean u = (∑ j ∈ range u.size, u.getD j 0) / (u.size : ℝ) := by
  rw [mean_eq, ← array_map_sum_eq_sum_range u 0 (fun x => x), List.map_id']

theorem std_eq (u : Array ℝ) :
    std u = Real.sqrt ((u.toList.map (fun x => (x - mean u) * (x - mean u))).sum / (u.size : ℝ)) := by
  unfold std
  simp only [sumList_eq]
  rfl

theorem std_eq_sum (u : Array ℝ) :
    std u = Real.sqrt ((∑ j ∈ range u.size, (u.getD j 0 - mean u) ^ 2) / (u.size : ℝ)) := by
  rw [std_eq, array_map_sum_eq_sum_range u 0]
  congr 2
  exact Finset.sum_congr rfl (fun j _ => by ring)

theorem std_nonneg (u : Array ℝ) : 0 ≤ std u := by
  rw [std_eq]; exact Real.sqrt_nonneg _

theorem list_sum_map_sub_const (l : List ℝ) (m : ℝ) :
    (l.map (fun x => x - m)).sum = l.sum - (l.length : ℝ) * m := by
  induction l with
  | nil => simp
  | cons a l ih =>
    simp only [List.map_cons, List.sum_cons, ih, List.length_cons]
    push_cast
    ring

theorem list_sum_map_div_const (l : List ℝ) (a : ℝ) :
    (l.map (fun x => x / a)).sum = l.sum / a := by
  induction l with
  | nil => simp
  | cons b l ih => simp only [List.map_cons, List.sum_cons, ih]; ring

section
variable {α : Type*} [LinearOrder α]

/-- Each further entry is one `IsGreatest.insert`; `foldl min` is this statement in `αᵒᵈ`. -/
theorem foldl_max_isGreatest (l : List α) (i : α) : IsGreatest (insert i {x | x ∈ l}) (l.foldl max i) := by
  induction l using List.reverseRecOn with
  | nil => simp
  | append_singleton l a ih =>
    rw [List.foldl_append, List.foldl_cons, List.foldl_nil, max_comm]
    convert ih.insert a using 1
    ext x
    simp [or_comm, or_left_comm]

theorem foldl_max_isGreatest_of_mem (l : List α) (i : α) (hi : i ∈ l) :
    IsGreatest {x | x ∈ l} (l.foldl max i) := by
  rw [← Set.insert_eq_of_mem (s := {x | x ∈ l}) hi]
  exact foldl_max_isGreatest l i

theorem ite_lt_eq_max (acc a : α) : (if acc < a then a else acc) = max acc a := by
  split_ifs with h
  exacts [(max_eq_right h.le).symm, (max_eq_left (not_lt.1 h)).symm]

end

theorem setOf_mem_map {α β : Type*} (f : α → β) (l : List α) : {y | y ∈ l.map f} = f '' {x | x ∈ l} :=
  Set.ext fun _ => List.mem_map

theorem mem_toList_iff_getD (u : Array ℝ) (x : ℝ) :
    x ∈ u.toList ↔ ∃ j < u.size, u.getD j 0 = x := by
  constructor
  · intro hx
    obtain ⟨j, hj, rfl⟩ := List.getElem_of_mem hx
    rw [Array.length_toList] at hj
    exact ⟨j, hj, by simp [Array.getD, hj]⟩
  · rintro ⟨j, hj, rfl⟩
    have : u.getD j 0 = u[j] := by simp [Array.getD, hj]
    rw [this]
    exact Array.getElem_mem_toList hj

theorem getD_zero_mem (u : Array ℝ) (hu : 0 < u.size) : u.getD 0 0 ∈ u.toList :=
  (mem_toList_iff_getD u _).2 ⟨0, hu, rfl⟩

theorem maxOf_eq_foldl (u : Array ℝ) : maxOf u = u.toList.foldl max (u.getD 0 0) := by
  unfold maxOf
  simp only [hasLtB_real, decide_eq_true_eq, ite_lt_eq_max]

theorem minOf_eq_foldl (u : Array ℝ) : minOf u = u.toList.foldl min (u.getD 0 0) := by
  unfold minOf
  simp only [hasLtB_real, decide_eq_true_eq]
  exact congrArg (fun g => List.foldl g (u.getD 0 0) u.toList)
    (funext fun acc => funext fun x => ite_lt_eq_max (α := ℝᵒᵈ) acc x)

theorem maxOf_isGreatest (u : Array ℝ) (hu : 0 < u.size) : IsGreatest {x | x ∈ u.toList} (maxOf u) :=
  maxOf_eq_foldl u ▸ foldl_max_isGreatest_of_mem _ _ (getD_zero_mem u hu)

theorem minOf_isLeast (u : Array ℝ) (hu : 0 < u.size) : IsLeast {x | x ∈ u.toList} (minOf u) :=
  minOf_eq_foldl u ▸ foldl_max_isGreatest_of_mem (α := ℝᵒᵈ) _ _ (getD_zero_mem u hu)

theorem maxOf_map (f : ℝ → ℝ) (hf : Monotone f) (u : Array ℝ) (hu : 0 < u.size) :
    maxOf (u.map f) = f (maxOf u) :=
  (maxOf_isGreatest (u.map f) (by rwa [Array.size_map])).unique
    (by rw [Array.toList_map, setOf_mem_map]; exact hf.map_isGreatest (maxOf_isGreatest u hu))

theorem minOf_map (f : ℝ → ℝ) (hf : Monotone f) (u : Array ℝ) (hu : 0 < u.size) :
    minOf (u.map f) = f (minOf u) :=
  (minOf_isLeast (u.map f) (by rwa [Array.size_map])).unique
    (by rw [Array.toList_map, setOf_mem_map]; exact hf.map_isLeast (minOf_isLeast u hu))

/-- `β = ℝᵒᵈ` turns it into the `inf'` statement. -/
theorem isGreatest_eq_sup' {β : Type*} [LinearOrder β] (f : ℝ → β) (u : Array ℝ) (hu : 0 < u.size) (M : β)
    (h : IsGreatest (f '' {x | x ∈ u.toList}) M) :
    M = (range u.size).sup' (Finset.nonempty_range_iff.mpr hu.ne') (fun j => f (u.getD j 0)) := by
  obtain ⟨⟨x, hx, rfl⟩, hub⟩ := h
  obtain ⟨j, hj, rfl⟩ := (mem_toList_iff_getD u x).1 hx
  exact le_antisymm (Finset.le_sup' (fun j => f (u.getD j 0)) (Finset.mem_range.mpr hj))
    (Finset.sup'_le _ _ fun i hi =>
      hub ⟨_, (mem_toList_iff_getD u _).2 ⟨i, Finset.mem_range.mp hi, rfl⟩, rfl⟩)

theorem maxOf_eq_sup' (u : Array ℝ) (hu : 0 < u.size) :
    maxOf u = (range u.size).sup' (Finset.nonempty_range_iff.mpr hu.ne') (fun j => u.getD j 0) :=
  isGreatest_eq_sup' id u hu _ (by rw [Set.image_id]; exact maxOf_isGreatest u hu)

theorem minOf_eq_inf' (u : Array ℝ) (hu : 0 < u.size) :
    minOf u = (range u.size).inf' (Finset.nonempty_range_iff.mpr hu.ne') (fun j => u.getD j 0) :=
  isGreatest_eq_sup' OrderDual.toDual u hu _
    ⟨⟨_, (minOf_isLeast u hu).1, rfl⟩, fun _ ⟨_, hx, hy⟩ => hy ▸ (minOf_isLeast u hu).2 hx⟩

theorem maxAbs_eq_foldl (u : Array ℝ) : maxAbs u = (u.toList.map (fun x => |x|)).foldl max 0 := by
  unfold maxAbs
  rw [List.foldl_map]
  simp only [hasLtB_real, hasAbs_real, decide_eq_true_eq, ite_lt_eq_max]

theorem maxAbs_eq_foldr (u : Array ℝ) : maxAbs u = (u.toList.map (fun x => |x|)).foldr max 0 := by
  rw [maxAbs_eq_foldl, List.foldl_eq_foldr]

theorem maxAbs_isGreatest (u : Array ℝ) :
    IsGreatest (insert 0 ((fun x => |x|) '' {x | x ∈ u.toList})) (maxAbs u) := by
  rw [maxAbs_eq_foldl, ← setOf_mem_map]
  exact foldl_max_isGreatest _ 0

theorem maxAbs_nonneg (u : Array ℝ) : 0 ≤ maxAbs u := (maxAbs_isGreatest u).2 (Or.inl rfl)

theorem abs_le_maxAbs (u : Array ℝ) (x : ℝ) (hx : x ∈ u.toList) : |x| ≤ maxAbs u :=
  (maxAbs_isGreatest u).2 (Or.inr ⟨x, hx, rfl⟩)

/-- On a non-empty array the start value `0` of the fold is not needed. -/
theorem maxAbs_isGreatest_of_pos (u : Array ℝ) (hu : 0 < u.size) :
    IsGreatest ((fun x => |x|) '' {x | x ∈ u.toList}) (maxAbs u) := by
  refine ⟨(maxAbs_isGreatest u).1.elim (fun h => ⟨_, getD_zero_mem u hu, ?_⟩) id,
    fun y ⟨x, hx, hy⟩ => hy ▸ abs_le_maxAbs u x hx⟩
  exact le_antisymm (abs_le_maxAbs u _ (getD_zero_mem u hu)) (h.le.trans (abs_nonneg _))

theorem maxAbs_eq_sup' (u : Array ℝ) (hu : 0 < u.size) :
    maxAbs u = (range u.size).sup' (Finset.nonempty_range_iff.mpr hu.ne') (fun j => |u.getD j 0|) :=
  isGreatest_eq_sup' (fun x => |x|) u hu _ (maxAbs_isGreatest_of_pos u hu)

theorem maxAbs_smul (c : ℝ) (u : Array ℝ) : maxAbs (u.map (fun x => c * x)) = |c| * maxAbs u := by
  refine (maxAbs_isGreatest _).unique ?_
  have h := (monotone_mul_left_of_nonneg (abs_nonneg c)).map_isGreatest (maxAbs_isGreatest u)
  -- both sets are `insert 0` of the image of the entries under `x ↦ |c| * |x|`
  simp only [Array.toList_map, setOf_mem_map, Set.image_insert_eq, Set.image_image, abs_mul, mul_zero] at h ⊢
  exact h

theorem mean_map_sub (u : Array ℝ) (hu : 0 < u.size) (m : ℝ) :
    mean (u.map (fun x => x - m)) = mean u - m := by
  rw [mean_eq, mean_eq, Array.toList_map, list_sum_map_sub_const, Array.size_map, Array.length_toList]
  have : (u.size : ℝ) ≠ 0 := Nat.cast_ne_zero.mpr hu.ne'
  rw [sub_div, mul_div_cancel_left₀ _ this]

theorem mean_map_div (u : Array ℝ) (a : ℝ) : mean (u.map (fun x => x / a)) = mean u / a := by
  rw [mean_eq, mean_eq, Array.toList_map, list_sum_map_div_const, Array.size_map]
  ring

theorem mean_map_mul (u : Array ℝ) (a : ℝ) : mean (u.map (fun x => a * x)) = a * mean u := by
  rw [mean_eq, mean_eq, Array.toList_map, List.sum_map_mul_left, List.map_id', Array.size_map]
  ring

theorem std_map_div (u : Array ℝ) (a : ℝ) : std (u.map (fun x => x / a)) = std u / |a| := by
  rw [std_eq, std_eq, mean_map_div, Array.toList_map, List.map_map, Array.size_map]
  have h1 : (u.toList.map ((fun x => (x - mean u / a) * (x - mean u / a)) ∘ fun x => x / a))
      = (u.toList.map (fun x => (x - mean u) * (x - mean u))).map (fun y => y / (a * a)) := by
    rw [List.map_map]
    apply List.map_congr_left
    intro x _
    simp only [Function.comp]
    rw [← sub_div, div_mul_div_comm]
  rw [h1, list_sum_map_div_const, div_right_comm, Real.sqrt_div' _ (mul_self_nonneg a),
    Real.sqrt_mul_self_eq_abs]

theorem normalizeIc_center (u : Array ℝ) :
    normalizeIc true false false u = u.map (fun x => x - mean u) := by
  simp [normalizeIc]

/-- `zero_mean=True` gives mean zero -/
theorem mean_normalizeIc_center (u : Array ℝ) (hu : 0 < u.size) :
    mean (normalizeIc true false false u) = 0 := by
  rw [normalizeIc_center, mean_map_sub u hu, sub_self]

theorem normalizeIc_std (z : Bool) (u : Array ℝ) :
    normalizeIc z true false u
      = (normalizeIc z false false u).map (fun x => x / std (normalizeIc z false false u)) := by
  cases z <;> simp [normalizeIc]

theorem std_div_self (u : Array ℝ) (h : std u ≠ 0) : std (u.map (fun x => x / std u)) = 1 := by
  rw [std_map_div, abs_of_nonneg (std_nonneg u), div_self h]

/-- `std_one=True` gives standard deviation one (with or without centring) -/
theorem std_normalizeIc (z : Bool) (u : Array ℝ) (h : std (normalizeIc z false false u) ≠ 0) :
    std (normalizeIc z true false u) = 1 := by
  rw [normalizeIc_std, std_div_self _ h]

/-- and with `zero_mean=True` the mean stays zero -/
theorem mean_normalizeIc_center_std (u : Array ℝ) (hu : 0 < u.size) :
    mean (normalizeIc true true false u) = 0 := by
  rw [normalizeIc_std, mean_map_div, mean_normalizeIc_center u hu, zero_div]

theorem normalizeIc_max (z s : Bool) (u : Array ℝ) :
    normalizeIc z s true u
      = (normalizeIc z s false u).map (fun x => x / maxAbs (normalizeIc z s false u)) := by
  cases z <;> cases s
  all_goals simp [normalizeIc]

theorem maxAbs_div_self (u : Array ℝ) (h : maxAbs u ≠ 0) : maxAbs (u.map (fun x => x / maxAbs u)) = 1 := by
  have := maxAbs_smul (maxAbs u)⁻¹ u
  simp only [inv_mul_eq_div] at this
  rw [this, abs_inv, abs_of_nonneg (maxAbs_nonneg u), inv_mul_cancel₀ h]

theorem clamp_eq (lo hi : ℝ) (u : Array ℝ) :
    clamp lo hi u = u.map (fun x => (x - minOf u) / (maxOf u - minOf u) * (hi - lo) + lo) := rfl

/-- `clamp` applies the increasing affine map that sends `[min, max]` onto `[lo, hi]`. -/
theorem clampMap_mono (lo hi mn mx : ℝ) (hlh : lo ≤ hi) (hlt : mn < mx) :
    Monotone fun x : ℝ => (x - mn) / (mx - mn) * (hi - lo) + lo := fun _ _ hxy =>
  show _ + lo ≤ _ + lo from add_le_add_left (mul_le_mul_of_nonneg_right
    (div_le_div_of_nonneg_right (sub_le_sub_right hxy _) (sub_pos.2 hlt).le) (sub_nonneg.2 hlh)) lo

theorem size_pos_of_lt (u : Array ℝ) (hlt : minOf u < maxOf u) : 0 < u.size := by
  by_contra h0
  obtain rfl : u = #[] := Array.eq_empty_of_size_eq_zero (Nat.eq_zero_of_not_pos h0)
  simp [minOf, maxOf] at hlt

theorem minOf_clamp (lo hi : ℝ) (hlh : lo ≤ hi) (u : Array ℝ) (hlt : minOf u < maxOf u) :
    minOf (clamp lo hi u) = lo := by
  rw [clamp_eq, minOf_map _ (clampMap_mono lo hi _ _ hlh hlt) u (size_pos_of_lt u hlt)]
  simp

theorem maxOf_clamp (lo hi : ℝ) (hlh : lo ≤ hi) (u : Array ℝ) (hlt : minOf u < maxOf u) :
    maxOf (clamp lo hi u) = hi := by
  rw [clamp_eq, maxOf_map _ (clampMap_mono lo hi _ _ hlh hlt) u (size_pos_of_lt u hlt),
    div_self (sub_pos.2 hlt).ne']
  ring

theorem clamp_mem_Icc (lo hi : ℝ) (hlh : lo ≤ hi) (u : Array ℝ) (hlt : minOf u < maxOf u) (y : ℝ)
    (hy : y ∈ (clamp lo hi u).toList) : lo ≤ y ∧ y ≤ hi := by
  have hu : 0 < (clamp lo hi u).size := by rw [clamp_eq, Array.size_map]; exact size_pos_of_lt u hlt
  exact ⟨minOf_clamp lo hi hlh u hlt ▸ (minOf_isLeast _ hu).2 hy,
    maxOf_clamp lo hi hlh u hlt ▸ (maxOf_isGreatest _ hu).2 hy⟩

@[simp] theorem scale_size (a : ℝ) (u : Array ℝ) : (scale a u).size = u.size := by
  simp [scale]

theorem scale_getD (a : ℝ) (u : Array ℝ) (j : ℕ) : (scale a u).getD j 0 = a * u.getD j 0 := by
  unfold scale
  simp only [Array.getD_eq_getD_getElem?, Array.getElem?_map]
  cases u[j]? <;> simp

theorem mean_scale (a : ℝ) (u : Array ℝ) : mean (scale a u) = a * mean u :=
  mean_map_mul u a

/-- the filtered spectrum handed to `irfftnM` in `truncatedSeries` -/
noncomputable def truncatedSpectrum (D N cutoff : ℕ) (offset : ℂ) (noise : Array ℂ) : Array ℂ :=
  tab (numModes D N) (fun h =>
    if h = 0 then offset * lit (N ^ D)
    else if lowPassSep (wnFlat D N h) (cutoff : ℤ) 1 then (rfftnM D N noise).getD h 0 else 0)

theorem truncatedSeries_eq (D N cutoff : ℕ) (offset : ℂ) (noise : Array ℂ) :
    truncatedSeries D N cutoff offset noise = irfftnM D N (truncatedSpectrum D N cutoff offset noise) := rfl

theorem truncatedSpectrum_zero (D N cutoff : ℕ) (offset : ℂ) (noise : Array ℂ) (hM : 0 < numModes D N) :
    (truncatedSpectrum D N cutoff offset noise).getD 0 0 = offset * ((N : ℂ) ^ D) := by
  unfold truncatedSpectrum
  rw [DFT.tab_getD _ _ _ _ hM]
  simp

theorem truncatedSpectrum_inside (D N cutoff : ℕ) (offset : ℂ) (noise : Array ℂ) (h : ℕ)
    (hh : h < numModes D N) (h0 : h ≠ 0) (hk : ∀ kd ∈ wnFlat D N h, |kd| ≤ (cutoff : ℤ)) :
    (truncatedSpectrum D N cutoff offset noise).getD h 0 = (rfftnM D N noise).getD h 0 := by
  unfold truncatedSpectrum
  rw [DFT.tab_getD _ _ _ _ hh, if_neg h0, if_pos]
  rw [lowPassSep_iff]
  exact fun kd hkd => by rw [mul_one]; exact hk kd hkd

theorem truncatedSpectrum_outside (D N cutoff : ℕ) (offset : ℂ) (noise : Array ℂ) (h : ℕ)
    (hh : h < numModes D N) (h0 : h ≠ 0) (hk : ∃ kd ∈ wnFlat D N h, (cutoff : ℤ) < |kd|) :
    (truncatedSpectrum D N cutoff offset noise).getD h 0 = 0 := by
  unfold truncatedSpectrum
  rw [DFT.tab_getD _ _ _ _ hh, if_neg h0, if_neg]
  rw [lowPassSep_iff]
  obtain ⟨kd, hkd, hlt⟩ := hk
  intro hall
  have := hall kd hkd
  omega

theorem truncatedSpectrum_size (D N cutoff : ℕ) (offset : ℂ) (noise : Array ℂ) :
    (truncatedSpectrum D N cutoff offset noise).size = numModes D N := by
  simp [truncatedSpectrum]

/-- the flat index `0` that receives the offset is the mean mode (all `k_d = 0`), and it is the only
    stored mode with that property -/
theorem truncatedSpectrum_mean_mode (D N h : ℕ) (hD : 1 ≤ D) (hN : 0 < N) (hh : h < numModes D N) :
    (∀ d < D, (wnFlat D N h).getD d 0 = 0) ↔ h = 0 :=
  wnFlat_eq_zero_iff D N h hD hN hh

theorem truncatedSpectrum_getD (D N cutoff : ℕ) (offset : ℂ) (noise : Array ℂ) (h : ℕ)
    (hh : h < numModes D N) :
    (truncatedSpectrum D N cutoff offset noise).getD h 0
      = if h = 0 then offset * ((N : ℂ) ^ D)
        else if ∀ kd ∈ wnFlat D N h, |kd| ≤ (cutoff : ℤ) then (rfftnM D N noise).getD h 0 else 0 := by
  split_ifs with h0 hk
  · subst h0; exact truncatedSpectrum_zero D N cutoff offset noise hh
  · exact truncatedSpectrum_inside D N cutoff offset noise h hh h0 hk
  · push Not at hk
    exact truncatedSpectrum_outside D N cutoff offset noise h hh h0 hk

end Exponax.IC
