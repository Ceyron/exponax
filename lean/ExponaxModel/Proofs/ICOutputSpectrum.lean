import Mathlib.Tactic
import ExponaxModel.Proofs.RepeatedPhysicalWavenumber
import ExponaxModel.Proofs.ICAlgebra
import ExponaxModel.Proofs.ICGen2Eq
import ExponaxModel.Proofs.LerayBasic
import ExponaxModel.Proofs.AliasNDBasic
/-
C18 support — the spectrum OF THE RETURNED ARRAY of the spectral initial-condition generators.

The read-offs `truncatedSpectrum_getD`, `C18_diffused_noise_contract`, `C18_gaussian_random_field_contract` describe the half
spectrum HANDED TO `irfftn`.  `irfftn` keeps only the Hermitian part of what it is given (`C2RProjection`), so a
statement about the output needs the handed-over spectrum to be `Realisable`: shown here for the three generators
(real noise; real offset resp. real intensity and extent; for the random field any complex `L`, `e`, since the
`HasRpow ℂ` instance acts on real parts), for general `D ≥ 1`, `N ≥ 1`.
-/
namespace Exponax.ICOut
open Exponax Exponax.Layout Exponax.Transform Exponax.DFT Exponax.C2R Exponax.IC Finset


theorem wnFlat_conjIdx_map_natAbs (D N h : ℕ) (hD : 0 < D) (hN : 0 < N) (hh : h < numModes D N) :
    (wnFlat D N (conjIdx D N h)).map Int.natAbs = (wnFlat D N h).map Int.natAbs := by
  apply List.ext_getElem
  · simp [wnFlat_length]
  · intro d h1 h2
    have hd : d < D := by simpa [wnFlat_length] using h1
    have key := natAbs_wnFlat_conjIdx D N h d hD hN hh hd
    have e : ∀ l : List ℤ, ∀ (hl : d < l.length), l.getD d 0 = l[d] := by
      intro l hl
      simp [List.getD_eq_getElem?_getD, hl]
    rw [e _ (by rw [wnFlat_length]; exact hd), e _ (by rw [wnFlat_length]; exact hd)] at key
    simpa using key

theorem map_even_of_natAbs {α : Type} (f : ℤ → α) (hf : ∀ k, f (-k) = f k) (k k' : List ℤ)
    (h : k'.map Int.natAbs = k.map Int.natAbs) : k'.map f = k.map f := by
  have key : ∀ l : List ℤ, l.map f = (l.map Int.natAbs).map (fun n : ℕ => f (n : ℤ)) := by
    intro l
    rw [List.map_map]
    apply List.map_congr_left
    intro a _
    show f a = f ((a.natAbs : ℕ) : ℤ)
    rcases Int.natAbs_eq a with h1 | h1
    · rw [← h1]
    · conv_lhs => rw [h1]
      rw [hf]
  rw [key k', key k, h]

theorem conjIdx_eq_zero_iff (D N h : ℕ) (hD : 0 < D) (hN : 0 < N) (hh : h < numModes D N) :
    conjIdx D N h = 0 ↔ h = 0 := by
  rw [← wnFlat_eq_zero_iff D N h hD hN hh, ← wnFlat_eq_zero_iff D N _ hD hN (conjIdx_lt D N h hD hN)]
  have key : ∀ d < D, ((wnFlat D N (conjIdx D N h)).getD d 0 = 0 ↔ (wnFlat D N h).getD d 0 = 0) := by
    intro d hd
    rw [← Int.natAbs_eq_zero, natAbs_wnFlat_conjIdx D N h d hD hN hh hd, Int.natAbs_eq_zero]
  exact ⟨fun H d hd => (key d hd).mp (H d hd), fun H d hd => (key d hd).mpr (H d hd)⟩

theorem box_conjIdx_iff (D N h : ℕ) (c : ℤ) (hD : 0 < D) (hN : 0 < N) (hh : h < numModes D N) :
    (∀ kd ∈ wnFlat D N (conjIdx D N h), |kd| ≤ c) ↔ (∀ kd ∈ wnFlat D N h, |kd| ≤ c) := by
  have key : ∀ l : List ℤ, (∀ kd ∈ l, |kd| ≤ c) ↔ ∀ n ∈ l.map Int.natAbs, (n : ℤ) ≤ c := fun l => by
    rw [List.forall_mem_map]
    exact forall₂_congr fun kd _ => by rw [Int.natCast_natAbs]
  rw [key, key, wnFlat_conjIdx_map_natAbs D N h hD hN hh]

theorem normSq_conjIdx (D N h : ℕ) (hD : 0 < D) (hN : 0 < N) (hh : h < numModes D N) :
    normSq (wnFlat D N (conjIdx D N h)) = normSq (wnFlat D N h) := by
  unfold normSq
  rw [map_even_of_natAbs (fun kd : ℤ => kd * kd) (fun k => by ring) _ _
    (wnFlat_conjIdx_map_natAbs D N h hD hN hh)]

theorem hermSymbol_of_real_inv (D N : ℕ) (A : ℕ → ℂ) (hreal : ∀ h, (A h).im = 0)
    (hinv : ∀ h < numModes D N, herm_weight D N h = 1 → A (conjIdx D N h) = A h) : HermSymbol D N A := by
  intro h hh hw
  rw [hinv h hh hw, Complex.conj_eq_iff_im.mpr (hreal h)]


/-- **real white noise and a real offset: the truncated spectrum is realisable** -/
theorem truncatedSpectrum_realisable (D N cutoff : ℕ) (hD : 0 < D) (hN : 0 < N) (offset : ℂ)
    (ho : offset.im = 0) (noise : Array ℂ) (hn : ∀ j < N ^ D, (noise.getD j 0).im = 0) :
    Realisable D N (truncatedSpectrum D N cutoff offset noise) := by
  have hR := rfftn_realisable' D N hD hN noise hn
  refine ⟨truncatedSpectrum_size D N cutoff offset noise, ?_⟩
  intro h hh hw
  have hh' := conjIdx_lt D N h hD hN
  have h0 := conjIdx_eq_zero_iff D N h hD hN hh
  have hm := box_conjIdx_iff D N h (cutoff : ℤ) hD hN hh
  rw [truncatedSpectrum_getD D N cutoff offset noise h hh,
    truncatedSpectrum_getD D N cutoff offset noise _ hh']
  by_cases hz : h = 0
  · rw [if_pos hz, if_pos (h0.mpr hz), map_mul, map_pow, Complex.conj_natCast,
      Complex.conj_eq_iff_im.mpr ho]
  · rw [if_neg hz, if_neg (fun q => hz (h0.mp q))]
    by_cases hc : ∀ kd ∈ wnFlat D N h, |kd| ≤ (cutoff : ℤ)
    · rw [if_pos hc, if_pos (hm.mpr hc)]
      exact hR.2 h hh hw
    · rw [if_neg hc, if_neg (fun q => hc (hm.mp q)), map_zero]

theorem truncatedSeries_realState (D N cutoff : ℕ) (offset : ℂ) (noise : Array ℂ) :
    RealState D N (truncatedSeries D N cutoff offset noise) := by
  rw [truncatedSeries_eq]
  exact irfftn_realState D N _

theorem sum_truncatedSeries (D N cutoff : ℕ) (hD : 0 < D) (hN : 0 < N) (offset : ℂ)
    (ho : offset.im = 0) (noise : Array ℂ) :
    ∑ j ∈ range (N ^ D), (truncatedSeries D N cutoff offset noise).getD j 0 = offset * (N : ℂ) ^ D := by
  have hM : 0 < numModes D N := shapeSize_pos _ (wavenumberShape_pos D N hN)
  rw [truncatedSeries_eq, Interp.sum_irfftnM D N hD hN, truncatedSpectrum_zero D N cutoff offset noise hM]
  apply Complex.ext
  · simp
  · rw [Complex.ofReal_im, Complex.mul_im, ho]
    have : (((N : ℂ) ^ D)).im = 0 := by
      rw [← Nat.cast_pow]; exact Complex.natCast_im _
    rw [this]; ring

theorem sumList_toList (u : Array ℂ) : sumList u.toList = ∑ j ∈ range u.size, u.getD j 0 := by
  have h := Exponax.Gen.sumRange_size_getD u (0 : ℂ) (fun x : ℂ => x)
  rw [List.map_id'] at h
  rw [← h]
  exact Exponax.Nonlin.sumList_range_eq _ _

/-- **the grid mean of the returned array is the requested offset** (real offset; ANY noise) -/
theorem mean_truncatedSeries (D N cutoff : ℕ) (hD : 0 < D) (hN : 0 < N) (offset : ℂ)
    (ho : offset.im = 0) (noise : Array ℂ) :
    IC.mean (truncatedSeries D N cutoff offset noise) = offset := by
  have hs : (truncatedSeries D N cutoff offset noise).size = N ^ D := by
    rw [truncatedSeries_eq]; exact irfftnM_size D N _
  unfold IC.mean
  rw [sumList_toList, hs, sum_truncatedSeries D N cutoff hD hN offset ho noise]
  have : ((N : ℂ) ^ D) ≠ 0 := pow_ne_zero _ (by exact_mod_cast hN.ne')
  show offset * (N : ℂ) ^ D / ((N ^ D : ℕ) : ℂ) = offset
  rw [Nat.cast_pow]
  field_simp


theorem diffusionKernel_im (D N : ℕ) (L ν : ℝ) (h : ℕ) :
    (IC2.diffusionKernel D N (L : ℂ) (ν : ℂ) h).im = 0 := by
  have : IC2.diffusionKernel D N (L : ℂ) (ν : ℂ) h
      = Complex.exp (((-(ν * ((2 * Real.pi / L) * (2 * Real.pi / L)) * ((normSq (wnFlat D N h) : ℤ) : ℝ)) : ℝ) : ℂ)) := by
    unfold IC2.diffusionKernel
    push_cast
    rfl
  rw [this]
  exact Complex.exp_ofReal_im _

theorem diffusionKernel_hermSymbol (D N : ℕ) (hD : 0 < D) (hN : 0 < N) (L ν : ℝ) :
    HermSymbol D N (IC2.diffusionKernel D N (L : ℂ) (ν : ℂ)) := by
  apply hermSymbol_of_real_inv D N _ (diffusionKernel_im D N L ν)
  intro h hh _
  unfold IC2.diffusionKernel
  rw [normSq_conjIdx D N h hD hN hh]

theorem diffusedSpectrum_eq_diagStep (D N : ℕ) (L ν : ℂ) (noise : Array ℂ) :
    IC2.diffusedSpectrum D N L ν noise = diagStep D N (IC2.diffusionKernel D N L ν) (rfftnM D N noise) := rfl

/-- **real white noise, real intensity, real extent: the diffused spectrum is realisable** -/
theorem diffusedSpectrum_realisable (D N : ℕ) (hD : 0 < D) (hN : 0 < N) (L ν : ℝ) (noise : Array ℂ)
    (hn : ∀ j < N ^ D, (noise.getD j 0).im = 0) :
    Realisable D N (IC2.diffusedSpectrum D N (L : ℂ) (ν : ℂ) noise) := by
  rw [diffusedSpectrum_eq_diagStep]
  exact diag_preserves_realisable D N hD hN _ (diffusionKernel_hermSymbol D N hD hN L ν) _
    (rfftn_realisable' D N hD hN noise hn)

/-- **the half spectrum of the (un-normalised) diffused noise IS `kernel ⊙ rfftn noise`** (whole arrays) -/
theorem rfftn_irfftn_diffusedSpectrum (D N : ℕ) (hD : 0 < D) (hN : 0 < N) (L ν : ℝ) (noise : Array ℂ)
    (hn : ∀ j < N ^ D, (noise.getD j 0).im = 0) :
    rfftnM D N (irfftnM D N (IC2.diffusedSpectrum D N (L : ℂ) (ν : ℂ) noise))
      = IC2.diffusedSpectrum D N (L : ℂ) (ν : ℂ) noise :=
  rfftn_irfftn_of_realisable D N hD hN _ (diffusedSpectrum_realisable D N hD hN L ν noise hn)


/-- the `HasRpow ℂ` instance acts on real parts -/
theorem powerLawAmplitude_im (D N : ℕ) (L e : ℂ) (h : ℕ) : (IC2.powerLawAmplitude D N L e h).im = 0 := by
  unfold IC2.powerLawAmplitude
  by_cases h0 : h = 0
  · rw [if_pos h0]; simp
  · rw [if_neg h0, hasRpow_complex]; exact Complex.ofReal_im _

theorem wnNorm_conjIdx (D N : ℕ) (L : ℂ) (h : ℕ) (hD : 0 < D) (hN : 0 < N) (hh : h < numModes D N) :
    IC2.wnNorm D N L (conjIdx D N h) = IC2.wnNorm D N L h := by
  unfold IC2.wnNorm
  have heven : ∀ k : ℤ, IC2.scaledWn L (-k) * IC2.scaledWn L (-k) = IC2.scaledWn L k * IC2.scaledWn L k := by
    intro k
    unfold IC2.scaledWn
    show _ * ((-k : ℤ) : ℂ) * (_ * ((-k : ℤ) : ℂ)) = _ * ((k : ℤ) : ℂ) * (_ * ((k : ℤ) : ℂ))
    push_cast
    ring
  rw [map_even_of_natAbs (fun k : ℤ => IC2.scaledWn L k * IC2.scaledWn L k) heven _ _
    (wnFlat_conjIdx_map_natAbs D N h hD hN hh)]

theorem powerLawAmplitude_hermSymbol (D N : ℕ) (hD : 0 < D) (hN : 0 < N) (L e : ℂ) :
    HermSymbol D N (IC2.powerLawAmplitude D N L e) := by
  apply hermSymbol_of_real_inv D N _ (powerLawAmplitude_im D N L e)
  intro h hh _
  unfold IC2.powerLawAmplitude
  have h0 := conjIdx_eq_zero_iff D N h hD hN hh
  by_cases hz : h = 0
  · rw [if_pos hz, if_pos (h0.mpr hz)]
  · rw [if_neg hz, if_neg (fun q => hz (h0.mp q)), wnNorm_conjIdx D N L h hD hN hh]

theorem grfSpectrum_eq_diagStep (D N : ℕ) (L e : ℂ) (noise : Array ℂ) :
    IC2.grfSpectrum D N L e noise = diagStep D N (IC2.powerLawAmplitude D N L e) (rfftnM D N noise) := by
  unfold IC2.grfSpectrum diagStep
  congr 1
  funext h
  ring

/-- **real white noise: the power-law shaped spectrum is realisable** (any `L`, `e`) -/
theorem grfSpectrum_realisable (D N : ℕ) (hD : 0 < D) (hN : 0 < N) (L e : ℂ) (noise : Array ℂ)
    (hn : ∀ j < N ^ D, (noise.getD j 0).im = 0) : Realisable D N (IC2.grfSpectrum D N L e noise) := by
  rw [grfSpectrum_eq_diagStep]
  exact diag_preserves_realisable D N hD hN _ (powerLawAmplitude_hermSymbol D N hD hN L e) _
    (rfftn_realisable' D N hD hN noise hn)

/-- **the half spectrum of the (un-normalised) Gaussian random field IS the shaped spectrum** -/
theorem rfftn_irfftn_grfSpectrum (D N : ℕ) (hD : 0 < D) (hN : 0 < N) (L e : ℂ) (noise : Array ℂ)
    (hn : ∀ j < N ^ D, (noise.getD j 0).im = 0) :
    rfftnM D N (irfftnM D N (IC2.grfSpectrum D N L e noise)) = IC2.grfSpectrum D N L e noise :=
  rfftn_irfftn_of_realisable D N hD hN _ (grfSpectrum_realisable D N hD hN L e noise hn)

theorem normalizeIc_off (u : Array ℂ) : IC.normalizeIc false false false u = u := rfl

end Exponax.ICOut
