import ExponaxModel.Proofs.AliasMultiOperators2
import ExponaxModel.Proofs.AliasND2Examples
import ExponaxModel.Proofs.AliasND3Basic
/-
Non-vacuity of the hypotheses of `Proofs/AliasMulti*.lean` and the headline theorems instantiated at the witnesses
(`cfg23 D`: `N = 8`, `s = 1`, fraction 2/3, `Kc = 1`; `cfg12 D`: fraction 1/2; `cfg23odd D`: `N = 9`).
-/
namespace Exponax.AliasMulti
open Exponax Exponax.Layout Exponax.Transform Exponax.DFT Exponax.Nonlin Exponax.Alias Exponax.AliasND Finset

noncomputable def uh2 (D : ℕ) : MC ℂ := #[rfftnM D 8 (ramp (8 ^ D)), rfftnM D 8 (tab (8 ^ D) fun _ => (1 : ℂ))]

noncomputable def xs2 (D : ℕ) : ℕ → Array ℂ := fun ch => if ch = 0 then ramp (8 ^ D) else tab (8 ^ D) fun _ => (1 : ℂ)

theorem xs2_real (D ch : ℕ) : IsRealND D 8 (xs2 D ch) := by
  unfold xs2
  split_ifs
  · exact ramp_real D 8
  · exact const_real D 8

theorem uh2_eq (D ch : ℕ) (hch : ch < 2) : (uh2 D).getD ch #[] = rfftnM D 8 (xs2 D ch) := by
  interval_cases ch <;> rfl

/-- hypotheses of the `C`-channel theorems, quadratic cut-off: `C = 2` channels in `D = 3`, a retained and a dropped
    mode -/
example : ∃ (c : Cfg ℂ) (s : ℝ) (C : ℕ) (uh : MC ℂ) (xs : ℕ → Array ℂ) (ch h h' : ℕ),
    0 < c.D ∧ c.fq ≠ 0 ∧ 3 * Kc c < (c.N : ℤ) ∧ 0 < c.N ∧ c.s = (s : ℂ) ∧ 1 < C ∧
    (∀ ch, ch < C → IsRealND c.D c.N (xs ch)) ∧
    (∀ ch, ch < C → uh.getD ch #[] = rfftnM c.D c.N (xs ch)) ∧ ch < C ∧ 0 < ch ∧ h < numModes c.D c.N ∧
    mask c h = 1 ∧ h' < numModes c.D c.N ∧ mask c h' = 0 :=
  ⟨cfg23 3, 1, 2, uh2 3, xs2 3, 1, 0, 2, by decide, by decide, by decide, by decide, cfg23_s 3, by decide,
    fun ch _ => xs2_real 3 ch, fun ch hch => uh2_eq 3 ch hch, by decide, by decide, by decide,
    mask_zero_mode _ (by decide) (by decide), by decide, by
      unfold mask
      rw [if_neg (by decide), if_neg (by decide)]⟩

/-- … cubic cut-off -/
example : ∃ (c : Cfg ℂ) (C : ℕ) (uh : MC ℂ) (xs : ℕ → Array ℂ) (ch h : ℕ),
    0 < c.D ∧ c.fq ≠ 0 ∧ 4 * Kc c < (c.N : ℤ) ∧ 0 < c.N ∧ 1 < C ∧
    (∀ ch, ch < C → IsRealND c.D c.N (xs ch)) ∧
    (∀ ch, ch < C → uh.getD ch #[] = rfftnM c.D c.N (xs ch)) ∧ ch < C ∧ h < numModes c.D c.N ∧
    mask c h = 1 :=
  ⟨cfg12 2, 2, uh2 2, xs2 2, 1, 0, by decide, by decide, by decide, by decide, by decide,
    fun ch _ => xs2_real 2 ch, fun ch hch => uh2_eq 2 ch hch, by decide, by decide,
    mask_zero_mode _ (by decide) (by decide)⟩

/-- hypotheses of the continuous statements: additionally `s ≠ 0`, `0 ≤ Kc`, a finer grid `M > 3·Kc` -/
example : ∃ (c : Cfg ℂ) (s : ℝ) (x : Array ℂ) (M h : ℕ),
    0 < c.D ∧ c.fq ≠ 0 ∧ 3 * Kc c < (c.N : ℤ) ∧ 0 < c.N ∧ c.s = (s : ℂ) ∧ s ≠ 0 ∧ 0 ≤ Kc c ∧
    IsRealND c.D c.N x ∧ 3 * Kc c < (M : ℤ) ∧ c.N < M ∧ h < numModes c.D c.N ∧ mask c h = 1 ∧ h ≠ 0 :=
  ⟨cfg23 2, 1, ramp (8 ^ 2), 32, 1, by decide, by decide, by decide, by decide, cfg23_s 2, one_ne_zero, by decide,
    ramp_real 2 8, by decide, by decide, by decide, by
      rw [mask_nd_eq_one_iff _ (by decide)]
      decide, by decide⟩

/-! The headline theorems instantiated. -/

example (c0 c1 c2 : ℂ) (ch : ℕ) (hch : ch < 2) (h : ℕ) (hh : h < numModes 3 8) :=
  polynomial_quadratic_alias_free_nd (cfg23 3) (by decide) (by decide) (by decide) (by decide) 2 c0 c1 c2
    (uh2 3) (xs2 3) (fun ch _ => xs2_real 3 ch) (fun ch hch => uh2_eq 3 ch hch) ch hch h hh

example (c0 c1 c2 c3 : ℂ) (ch : ℕ) (hch : ch < 2) (h : ℕ) (hh : h < numModes 2 8) :=
  polynomial_cubic_alias_free_nd (cfg12 2) (by decide) (by decide) (by decide) (by decide) 2 c0 c1 c2 c3
    (uh2 2) (xs2 2) (fun ch _ => xs2_real 2 ch) (fun ch hch => uh2_eq 2 ch hch) ch hch h hh

example (scale : ℂ) (zf : Bool) (ch : ℕ) (hch : ch < 2) (h : ℕ) (hh : h < numModes 3 8) :=
  gradientNorm_alias_free_nd (cfg23 3) (by decide) (by decide) (by decide) (by decide) 1 (cfg23_s 3) 2
    scale zf (uh2 3) (xs2 3) (fun ch _ => xs2_real 3 ch) (fun ch hch => uh2_eq 3 ch hch) ch hch h hh

example (s0 s1 s2 : ℂ) (zf : Bool) (ch : ℕ) (hch : ch < 2) (h : ℕ) (hh : h < numModes 3 8) :=
  general_alias_free_nd (cfg23 3) (by decide) (by decide) (by decide) (by decide) 1 (cfg23_s 3) 2
    s0 s1 s2 zf (uh2 3) (xs2 3) (fun ch _ => xs2_real 3 ch) (fun ch hch => uh2_eq 3 ch hch) ch hch h hh

example (scale : ℂ) (h : ℕ) (hh : h < numModes 3 8) :=
  convection_single_nc_nd_explicit (cfg23 3) (by decide) (by decide) (by decide) (by decide) 1 (cfg23_s 3) scale _
    (ramp_real 3 8) h hh

example (b : ℂ) :=
  convection_conservative_continuous_nd (cfg23 3) (by decide) (by decide) (by decide) (by decide) 1 (cfg23_s 3) b _
    (ramp_real 3 8)

example (b : ℂ) (zf : Bool) :=
  gradientNorm_continuous_nd (cfg23odd 2) (by decide) (by decide) (by decide) (by decide) 1 (cfg23odd_s 2) b zf _
    (ramp_real 2 9)

example (b : ℂ) (h : ℕ) (hh : h < numModes 2 8) (hm : mask (cfg23 2) h = 1) :=
  convection_conservative_fine_grid (cfg23 2) (by decide) (by decide) (by decide) (by decide) 1 (cfg23_s 2)
    one_ne_zero b _ (ramp_real 2 8) 32 (by decide) h hh hm

example (c0 c1 c2 c3 : ℂ) :=
  polynomial_cubic_continuous_nd (cfg12 3) (by decide) (by decide) (by decide) (by decide) 1 c0 c1 c2 c3 _
    (ramp_real 3 8)

example (b : ℂ) :=
  convection_single_nc_continuous_nd (cfg23 3) (by decide) (by decide) (by decide) (by decide) 1 (cfg23_s 3) b _
    (ramp_real 3 8)

end Exponax.AliasMulti
