import ExponaxModel.Proofs.InterfaceAssembly
/-
C13 — the gradient-norm, general-nonlinear, polynomial and linear families, laid out as the convection family of
`Proofs/InterfaceAssembly.lean`.  The domain extent is real for the gradient-norm and general-nonlinear families (the
derivative acts before `irfftn`), arbitrary complex for the polynomial and linear families.
-/
namespace Exponax.Interface
open Exponax Exponax.Layout Exponax.Transform Exponax.Nonlin Exponax.Gen.Convert Exponax.Gen.Etdrk
open Exponax.Gen.StepperWiring Exponax.Gen.Steppers Exponax.StepperWiringEq
open Exponax.EquivND (liftTermND)

noncomputable def GeneralGradientNormStepper_step (g : GeneralGradientNormStepperArgs ℂ) : Spec → Spec :=
  baseStep (GeneralGradientNormStepper_base_args g)
    (fun κ => GeneralGradientNormStepper_linear_operator κ (GeneralGradientNormStepper_attrs g).linear_coefficients)
    (fun c => GeneralGradientNormStepper_stepper_nonlinear_fun c g)

noncomputable def NormalizedGradientNormStepper_step (n : NormalizedGradientNormStepperArgs ℂ) : Spec → Spec :=
  GeneralGradientNormStepper_step (NormalizedGradientNormStepper_super_args n)

noncomputable def DifficultyGradientNormStepper_step (d : DifficultyGradientNormStepperArgs ℂ) : Spec → Spec :=
  NormalizedGradientNormStepper_step (DifficultyGradientNormStepper_super_args d)

/-- the assembled step in terms of the MODEL: general linear symbol, gradient-norm term with the mean fix, one channel -/
theorem GeneralGradientNormStepper_step_model (g : GeneralGradientNormStepperArgs ℂ) :
    GeneralGradientNormStepper_step g
      = etdrkStep g.order g.dt
          (fun _ h => polySymbol (cfgOf g.num_spatial_dims g.num_points g.domain_extent g.dealiasing_fraction)
            (generalLinear g.num_spatial_dims g.linear_coefficients) h)
          g.num_circle_points g.circle_radius
          (liftTermND (cfgOf g.num_spatial_dims g.num_points g.domain_extent g.dealiasing_fraction) 1
            (gradientNorm (cfgOf g.num_spatial_dims g.num_points g.domain_extent g.dealiasing_fraction) 1
              g.gradient_norm_scale true)) := by
  unfold GeneralGradientNormStepper_step
  rw [GeneralGradientNormStepper_base_args_eq, GeneralGradientNormStepper_attrs_eq]
  exact baseStep_model _ _ _ _ g.dealiasing_fraction _
    (fun c h => GeneralGradientNormStepper_linear_operator_polySymbol c h _)
    (fun uh => GeneralGradientNormStepper_stepper_nonlinear_fun_eq _ g uh)

noncomputable def GeneralGradientNormStepper_to_normalized (g : GeneralGradientNormStepperArgs ℂ) :
    NormalizedGradientNormStepperArgs ℂ :=
  { num_spatial_dims := g.num_spatial_dims, num_points := g.num_points,
    normalized_linear_coefficients := normalize_coefficients g.linear_coefficients g.domain_extent g.dt,
    normalized_gradient_norm_scale := normalize_gradient_norm_scale g.gradient_norm_scale g.domain_extent g.dt,
    order := g.order, dealiasing_fraction := g.dealiasing_fraction, num_circle_points := g.num_circle_points,
    circle_radius := g.circle_radius }

noncomputable def NormalizedGradientNormStepper_to_difficulty (n : NormalizedGradientNormStepperArgs ℂ) (Mx : ℂ) :
    DifficultyGradientNormStepperArgs ℂ :=
  { num_spatial_dims := n.num_spatial_dims, num_points := n.num_points,
    linear_difficulties := reduce_normalized_coefficients_to_difficulty n.normalized_linear_coefficients
      n.num_spatial_dims n.num_points,
    gradient_norm_difficulty := reduce_normalized_gradient_norm_scale_to_difficulty n.normalized_gradient_norm_scale
      n.num_spatial_dims n.num_points Mx,
    maximum_absolute := Mx, order := n.order, dealiasing_fraction := n.dealiasing_fraction,
    num_circle_points := n.num_circle_points, circle_radius := n.circle_radius }

/-- **Physical = normalised on the wiring, gradient norm**: `α = a_j dt / L^j`, `β₂ = b₂ dt / L²`. -/
theorem GeneralGradientNormStepper_step_eq_normalized (g : GeneralGradientNormStepperArgs ℂ) (ℓ : ℝ)
    (hL : g.domain_extent = (ℓ : ℂ)) :
    GeneralGradientNormStepper_step g
      = NormalizedGradientNormStepper_step (GeneralGradientNormStepper_to_normalized g) := by
  unfold NormalizedGradientNormStepper_step
  rw [GeneralGradientNormStepper_step_model, GeneralGradientNormStepper_step_model,
    NormalizedGradientNormStepper_super_args_eq]
  simp only [GeneralGradientNormStepper_to_normalized, hL]
  funext u
  exact gradientNorm_step_normalized _ _ _ _ ℓ _ _ _ _ _ _ _ u

theorem DifficultyGradientNormStepper_super_args_to_difficulty (n : NormalizedGradientNormStepperArgs ℂ) (Mx : ℂ)
    (hD : n.num_spatial_dims ≠ 0) (hN : n.num_points ≠ 0) (hM : Mx ≠ 0) :
    DifficultyGradientNormStepper_super_args (NormalizedGradientNormStepper_to_difficulty n Mx) = n := by
  have hD' : (n.num_spatial_dims : ℂ) ≠ 0 := Nat.cast_ne_zero.mpr hD
  have hN' : (n.num_points : ℂ) ≠ 0 := Nat.cast_ne_zero.mpr hN
  rw [DifficultyGradientNormStepper_super_args_eq]
  simp only [NormalizedGradientNormStepper_to_difficulty,
    (C13_difficulty_coefficients_inverse n.normalized_linear_coefficients _ _ hD' hN' two_ne_zero).1,
    (C13_difficulty_scales_inverse n.normalized_gradient_norm_scale Mx _ _ hD' hN' hM).2.2.1]

/-- **Physical = difficulty, gradient norm**: `γ_j = α_j N^j 2^{j-1} D`, `δ₂ = β₂ M N² D`. -/
theorem GeneralGradientNormStepper_step_eq_difficulty (g : GeneralGradientNormStepperArgs ℂ) (ℓ : ℝ)
    (hL : g.domain_extent = (ℓ : ℂ)) (Mx : ℂ) (hD : g.num_spatial_dims ≠ 0) (hN : g.num_points ≠ 0)
    (hM : Mx ≠ 0) :
    GeneralGradientNormStepper_step g
      = DifficultyGradientNormStepper_step
          (NormalizedGradientNormStepper_to_difficulty (GeneralGradientNormStepper_to_normalized g) Mx) := by
  unfold DifficultyGradientNormStepper_step
  rw [DifficultyGradientNormStepper_super_args_to_difficulty _ Mx hD hN hM]
  exact GeneralGradientNormStepper_step_eq_normalized g ℓ hL

theorem GeneralGradientNormStepper_step_only_groups (g g' : GeneralGradientNormStepperArgs ℂ) (ℓ ℓ' : ℝ)
    (hL : g.domain_extent = (ℓ : ℂ)) (hL' : g'.domain_extent = (ℓ' : ℂ))
    (h : GeneralGradientNormStepper_to_normalized g = GeneralGradientNormStepper_to_normalized g') :
    GeneralGradientNormStepper_step g = GeneralGradientNormStepper_step g' := by
  rw [GeneralGradientNormStepper_step_eq_normalized g ℓ hL, GeneralGradientNormStepper_step_eq_normalized g' ℓ' hL',
    h]

noncomputable def GeneralNonlinearStepper_step (g : GeneralNonlinearStepperArgs ℂ) : Spec → Spec :=
  baseStep (GeneralNonlinearStepper_base_args g)
    (fun κ => GeneralNonlinearStepper_linear_operator κ (GeneralNonlinearStepper_attrs g).linear_coefficients)
    (fun c => GeneralNonlinearStepper_stepper_nonlinear_fun c g)

noncomputable def NormalizedNonlinearStepper_step (n : NormalizedNonlinearStepperArgs ℂ) : Spec → Spec :=
  GeneralNonlinearStepper_step (NormalizedNonlinearStepper_super_args n)

noncomputable def DifficultyNonlinearStepper_step (d : DifficultyNonlinearStepperArgs ℂ) : Spec → Spec :=
  NormalizedNonlinearStepper_step (DifficultyNonlinearStepper_super_args d)

/-- the assembled step in terms of the MODEL: general linear symbol, general nonlinear term, one channel -/
theorem GeneralNonlinearStepper_step_model (g : GeneralNonlinearStepperArgs ℂ) :
    GeneralNonlinearStepper_step g
      = etdrkStep g.order g.dt
          (fun _ h => polySymbol (cfgOf g.num_spatial_dims g.num_points g.domain_extent g.dealiasing_fraction)
            (generalLinear g.num_spatial_dims g.linear_coefficients) h)
          g.num_circle_points g.circle_radius
          (liftTermND (cfgOf g.num_spatial_dims g.num_points g.domain_extent g.dealiasing_fraction) 1
            (general (cfgOf g.num_spatial_dims g.num_points g.domain_extent g.dealiasing_fraction) 1
              g.nonlinear_coefficients.1 g.nonlinear_coefficients.2.1 g.nonlinear_coefficients.2.2 true)) := by
  unfold GeneralNonlinearStepper_step
  rw [GeneralNonlinearStepper_base_args_eq, GeneralNonlinearStepper_attrs_eq]
  exact baseStep_model _ _ _ _ g.dealiasing_fraction _
    (fun c h => GeneralNonlinearStepper_linear_operator_polySymbol c h _)
    (fun uh => GeneralNonlinearStepper_stepper_nonlinear_fun_eq _ g uh)

/-- `(β₀, β₁, β₂) = (b₀ dt, b₁ dt / L, b₂ dt / L²)` -/
noncomputable def GeneralNonlinearStepper_to_normalized (g : GeneralNonlinearStepperArgs ℂ) :
    NormalizedNonlinearStepperArgs ℂ :=
  { num_spatial_dims := g.num_spatial_dims, num_points := g.num_points,
    normalized_linear_coefficients := normalize_coefficients g.linear_coefficients g.domain_extent g.dt,
    normalized_nonlinear_coefficients :=
      (g.nonlinear_coefficients.1 * g.dt,
       normalize_convection_scale g.nonlinear_coefficients.2.1 g.domain_extent g.dt,
       normalize_gradient_norm_scale g.nonlinear_coefficients.2.2 g.domain_extent g.dt),
    order := g.order, dealiasing_fraction := g.dealiasing_fraction, num_circle_points := g.num_circle_points,
    circle_radius := g.circle_radius }

noncomputable def NormalizedNonlinearStepper_to_difficulty (n : NormalizedNonlinearStepperArgs ℂ) (Mx : ℂ) :
    DifficultyNonlinearStepperArgs ℂ :=
  { num_spatial_dims := n.num_spatial_dims, num_points := n.num_points,
    linear_difficulties := reduce_normalized_coefficients_to_difficulty n.normalized_linear_coefficients
      n.num_spatial_dims n.num_points,
    nonlinear_difficulties := reduce_normalized_nonlinear_scales_to_difficulty n.normalized_nonlinear_coefficients
      n.num_spatial_dims n.num_points Mx,
    maximum_absolute := Mx, order := n.order, dealiasing_fraction := n.dealiasing_fraction,
    num_circle_points := n.num_circle_points, circle_radius := n.circle_radius }

/-- **Physical = normalised on the wiring, general nonlinear stepper.** -/
theorem GeneralNonlinearStepper_step_eq_normalized (g : GeneralNonlinearStepperArgs ℂ) (ℓ : ℝ)
    (hL : g.domain_extent = (ℓ : ℂ)) :
    GeneralNonlinearStepper_step g
      = NormalizedNonlinearStepper_step (GeneralNonlinearStepper_to_normalized g) := by
  unfold NormalizedNonlinearStepper_step
  rw [GeneralNonlinearStepper_step_model, GeneralNonlinearStepper_step_model,
    NormalizedNonlinearStepper_super_args_eq]
  simp only [GeneralNonlinearStepper_to_normalized, hL]
  funext u
  exact general_step_normalized _ _ _ _ ℓ _ _ _ _ _ _ _ _ _ u

/-- **Difficulty arguments, general nonlinear stepper**: `δ₀ = β₀`, `δ₁ = β₁ M N D`, `δ₂ = β₂ M N² D`. -/
theorem DifficultyNonlinearStepper_super_args_to_difficulty (n : NormalizedNonlinearStepperArgs ℂ) (Mx : ℂ)
    (hD : n.num_spatial_dims ≠ 0) (hN : n.num_points ≠ 0) (hM : Mx ≠ 0) :
    DifficultyNonlinearStepper_super_args (NormalizedNonlinearStepper_to_difficulty n Mx) = n := by
  have hD' : (n.num_spatial_dims : ℂ) ≠ 0 := Nat.cast_ne_zero.mpr hD
  have hN' : (n.num_points : ℂ) ≠ 0 := Nat.cast_ne_zero.mpr hN
  rw [DifficultyNonlinearStepper_super_args_eq]
  simp only [NormalizedNonlinearStepper_to_difficulty,
    (C13_difficulty_coefficients_inverse n.normalized_linear_coefficients _ _ hD' hN' two_ne_zero).1,
    (C13_nonlinear_scales_inverse n.normalized_nonlinear_coefficients Mx _ _ hD' hN' hM).1]

theorem GeneralNonlinearStepper_step_eq_difficulty (g : GeneralNonlinearStepperArgs ℂ) (ℓ : ℝ)
    (hL : g.domain_extent = (ℓ : ℂ)) (Mx : ℂ) (hD : g.num_spatial_dims ≠ 0) (hN : g.num_points ≠ 0)
    (hM : Mx ≠ 0) :
    GeneralNonlinearStepper_step g
      = DifficultyNonlinearStepper_step
          (NormalizedNonlinearStepper_to_difficulty (GeneralNonlinearStepper_to_normalized g) Mx) := by
  unfold DifficultyNonlinearStepper_step
  rw [DifficultyNonlinearStepper_super_args_to_difficulty _ Mx hD hN hM]
  exact GeneralNonlinearStepper_step_eq_normalized g ℓ hL

theorem GeneralNonlinearStepper_step_only_groups (g g' : GeneralNonlinearStepperArgs ℂ) (ℓ ℓ' : ℝ)
    (hL : g.domain_extent = (ℓ : ℂ)) (hL' : g'.domain_extent = (ℓ' : ℂ))
    (h : GeneralNonlinearStepper_to_normalized g = GeneralNonlinearStepper_to_normalized g') :
    GeneralNonlinearStepper_step g = GeneralNonlinearStepper_step g' := by
  rw [GeneralNonlinearStepper_step_eq_normalized g ℓ hL, GeneralNonlinearStepper_step_eq_normalized g' ℓ' hL', h]

noncomputable def GeneralPolynomialStepper_step (g : GeneralPolynomialStepperArgs ℂ) : Spec → Spec :=
  baseStep (GeneralPolynomialStepper_base_args g)
    (fun κ => GeneralPolynomialStepper_linear_operator κ (GeneralPolynomialStepper_attrs g).linear_coefficients)
    (fun c => GeneralPolynomialStepper_stepper_nonlinear_fun c g)

noncomputable def NormalizedPolynomialStepper_step (n : NormalizedPolynomialStepperArgs ℂ) : Spec → Spec :=
  GeneralPolynomialStepper_step (NormalizedPolynomialStepper_super_args n)

noncomputable def DifficultyPolynomialStepper_step (d : DifficultyPolynomialStepperArgs ℂ) : Spec → Spec :=
  NormalizedPolynomialStepper_step (DifficultyPolynomialStepper_super_args d)

/-- the assembled step in terms of the MODEL: general linear symbol, polynomial term, one channel -/
theorem GeneralPolynomialStepper_step_model (g : GeneralPolynomialStepperArgs ℂ) :
    GeneralPolynomialStepper_step g
      = etdrkStep g.order g.dt
          (fun _ h => polySymbol (cfgOf g.num_spatial_dims g.num_points g.domain_extent g.dealiasing_fraction)
            (generalLinear g.num_spatial_dims g.linear_coefficients) h)
          g.num_circle_points g.circle_radius
          (liftTermND (cfgOf g.num_spatial_dims g.num_points g.domain_extent g.dealiasing_fraction) 1
            (polynomial (cfgOf g.num_spatial_dims g.num_points g.domain_extent g.dealiasing_fraction) 1
              g.polynomial_coefficients)) := by
  unfold GeneralPolynomialStepper_step
  rw [GeneralPolynomialStepper_base_args_eq, GeneralPolynomialStepper_attrs_eq]
  exact baseStep_model _ _ _ _ g.dealiasing_fraction _
    (fun c h => GeneralPolynomialStepper_linear_operator_polySymbol c h _)
    (fun uh => GeneralPolynomialStepper_stepper_nonlinear_fun_eq _ g uh)

noncomputable def GeneralPolynomialStepper_to_normalized (g : GeneralPolynomialStepperArgs ℂ) :
    NormalizedPolynomialStepperArgs ℂ :=
  { num_spatial_dims := g.num_spatial_dims, num_points := g.num_points,
    normalized_linear_coefficients := normalize_coefficients g.linear_coefficients g.domain_extent g.dt,
    normalized_polynomial_coefficients := normalize_polynomial_scales g.polynomial_coefficients g.domain_extent g.dt,
    order := g.order, dealiasing_fraction := g.dealiasing_fraction, num_circle_points := g.num_circle_points,
    circle_radius := g.circle_radius }

/-- the polynomial difficulties ARE the normalised polynomial scales -/
noncomputable def NormalizedPolynomialStepper_to_difficulty (n : NormalizedPolynomialStepperArgs ℂ) :
    DifficultyPolynomialStepperArgs ℂ :=
  { num_spatial_dims := n.num_spatial_dims, num_points := n.num_points,
    linear_difficulties := reduce_normalized_coefficients_to_difficulty n.normalized_linear_coefficients
      n.num_spatial_dims n.num_points,
    polynomial_difficulties := n.normalized_polynomial_coefficients,
    order := n.order, dealiasing_fraction := n.dealiasing_fraction, num_circle_points := n.num_circle_points,
    circle_radius := n.circle_radius }

/-- **Physical = normalised on the wiring, polynomial stepper** (every complex `L`): `α = a_j dt / L^j`, `β_k = b_k dt`. -/
theorem GeneralPolynomialStepper_step_eq_normalized (g : GeneralPolynomialStepperArgs ℂ) :
    GeneralPolynomialStepper_step g
      = NormalizedPolynomialStepper_step (GeneralPolynomialStepper_to_normalized g) := by
  unfold NormalizedPolynomialStepper_step
  rw [GeneralPolynomialStepper_step_model, GeneralPolynomialStepper_step_model,
    NormalizedPolynomialStepper_super_args_eq]
  simp only [GeneralPolynomialStepper_to_normalized]
  funext u
  exact step_normalized _ _ _ _ _ _ _ _ (fun c => polynomial c _ g.polynomial_coefficients) (fun c => polynomial c _ _)
    (fun c => polynomial_scaling c _ _ _ _) _ _ u

theorem DifficultyPolynomialStepper_super_args_to_difficulty (n : NormalizedPolynomialStepperArgs ℂ)
    (hD : n.num_spatial_dims ≠ 0) (hN : n.num_points ≠ 0) :
    DifficultyPolynomialStepper_super_args (NormalizedPolynomialStepper_to_difficulty n) = n := by
  have hD' : (n.num_spatial_dims : ℂ) ≠ 0 := Nat.cast_ne_zero.mpr hD
  have hN' : (n.num_points : ℂ) ≠ 0 := Nat.cast_ne_zero.mpr hN
  rw [DifficultyPolynomialStepper_super_args_eq]
  simp only [NormalizedPolynomialStepper_to_difficulty,
    (C13_difficulty_coefficients_inverse n.normalized_linear_coefficients _ _ hD' hN' two_ne_zero).1]

theorem GeneralPolynomialStepper_step_eq_difficulty (g : GeneralPolynomialStepperArgs ℂ)
    (hD : g.num_spatial_dims ≠ 0) (hN : g.num_points ≠ 0) :
    GeneralPolynomialStepper_step g
      = DifficultyPolynomialStepper_step
          (NormalizedPolynomialStepper_to_difficulty (GeneralPolynomialStepper_to_normalized g)) := by
  unfold DifficultyPolynomialStepper_step
  rw [DifficultyPolynomialStepper_super_args_to_difficulty _ hD hN]
  exact GeneralPolynomialStepper_step_eq_normalized g

theorem GeneralPolynomialStepper_step_only_groups (g g' : GeneralPolynomialStepperArgs ℂ)
    (h : GeneralPolynomialStepper_to_normalized g = GeneralPolynomialStepper_to_normalized g') :
    GeneralPolynomialStepper_step g = GeneralPolynomialStepper_step g' := by
  rw [GeneralPolynomialStepper_step_eq_normalized g, GeneralPolynomialStepper_step_eq_normalized g', h]

/-- `order = 0`, 16 contour points of radius 1 are fixed by the class -/
noncomputable def GeneralLinearStepper_step (g : GeneralLinearStepperArgs ℂ) : Spec → Spec :=
  baseStep (GeneralLinearStepper_base_args g)
    (fun κ => GeneralLinearStepper_linear_operator κ (GeneralLinearStepper_attrs g).linear_coefficients)
    (fun c => GeneralLinearStepper_stepper_nonlinear_fun c g)

noncomputable def NormalizedLinearStepper_step (n : NormalizedLinearStepperArgs ℂ) : Spec → Spec :=
  GeneralLinearStepper_step (NormalizedLinearStepper_super_args n)

noncomputable def DifficultyLinearStepper_step (d : DifficultyLinearStepperArgs ℂ) : Spec → Spec :=
  NormalizedLinearStepper_step (DifficultyLinearStepper_super_args d)

/-- the assembled step in terms of the MODEL: the exact propagator of the general linear symbol -/
theorem GeneralLinearStepper_step_model (g : GeneralLinearStepperArgs ℂ) :
    GeneralLinearStepper_step g
      = etdrkStep 0 g.dt
          (fun _ h => polySymbol (cfgOf g.num_spatial_dims g.num_points g.domain_extent (0, 0))
            (generalLinear g.num_spatial_dims g.linear_coefficients) h)
          16 1
          (liftTermND (cfgOf g.num_spatial_dims g.num_points g.domain_extent (0, 0)) 1
            (fun _ => zeroNonlin (cfgOf g.num_spatial_dims g.num_points g.domain_extent (0, 0)) 1)) := by
  unfold GeneralLinearStepper_step
  rw [GeneralLinearStepper_base_args_eq, GeneralLinearStepper_attrs_eq]
  exact baseStep_model _ _ _ _ (0, 0) _
    (fun c h => GeneralLinearStepper_linear_operator_polySymbol c h _)
    (fun uh => GeneralLinearStepper_stepper_nonlinear_fun_eq _ g uh)

/-- written out: every entry is multiplied by `exp(dt · λ)` -/
theorem GeneralLinearStepper_step_apply (g : GeneralLinearStepperArgs ℂ) (u : Spec) (ch h : ℕ) :
    GeneralLinearStepper_step g u ch h
      = Complex.exp (g.dt * polySymbol (cfgOf g.num_spatial_dims g.num_points g.domain_extent (0, 0))
          (generalLinear g.num_spatial_dims g.linear_coefficients) h) * u ch h := by
  rw [GeneralLinearStepper_step_model]
  rfl

noncomputable def GeneralLinearStepper_to_normalized (g : GeneralLinearStepperArgs ℂ) :
    NormalizedLinearStepperArgs ℂ :=
  { num_spatial_dims := g.num_spatial_dims, num_points := g.num_points,
    normalized_linear_coefficients := normalize_coefficients g.linear_coefficients g.domain_extent g.dt }

noncomputable def NormalizedLinearStepper_to_difficulty (n : NormalizedLinearStepperArgs ℂ) :
    DifficultyLinearStepperArgs ℂ :=
  { num_spatial_dims := n.num_spatial_dims, num_points := n.num_points,
    linear_difficulties := reduce_normalized_coefficients_to_difficulty n.normalized_linear_coefficients
      n.num_spatial_dims n.num_points }

/-- **Physical = normalised on the wiring, linear stepper** (every complex `L`). -/
theorem GeneralLinearStepper_step_eq_normalized (g : GeneralLinearStepperArgs ℂ) :
    GeneralLinearStepper_step g = NormalizedLinearStepper_step (GeneralLinearStepper_to_normalized g) := by
  unfold NormalizedLinearStepper_step
  rw [GeneralLinearStepper_step_model, GeneralLinearStepper_step_model, NormalizedLinearStepper_super_args_eq]
  simp only [GeneralLinearStepper_to_normalized]
  funext u
  exact step_normalized _ _ _ _ _ g.dt _ _ (fun c _ => zeroNonlin c _) (fun c _ => zeroNonlin c _)
    (fun c uh ch h => by rw [at2_zeroNonlin, at2_zeroNonlin, mul_zero]) _ _ u

theorem DifficultyLinearStepper_super_args_to_difficulty (n : NormalizedLinearStepperArgs ℂ)
    (hD : n.num_spatial_dims ≠ 0) (hN : n.num_points ≠ 0) :
    DifficultyLinearStepper_super_args (NormalizedLinearStepper_to_difficulty n) = n := by
  have hD' : (n.num_spatial_dims : ℂ) ≠ 0 := Nat.cast_ne_zero.mpr hD
  have hN' : (n.num_points : ℂ) ≠ 0 := Nat.cast_ne_zero.mpr hN
  rw [DifficultyLinearStepper_super_args_eq]
  simp only [NormalizedLinearStepper_to_difficulty,
    (C13_difficulty_coefficients_inverse n.normalized_linear_coefficients _ _ hD' hN' two_ne_zero).1]

theorem GeneralLinearStepper_step_eq_difficulty (g : GeneralLinearStepperArgs ℂ)
    (hD : g.num_spatial_dims ≠ 0) (hN : g.num_points ≠ 0) :
    GeneralLinearStepper_step g
      = DifficultyLinearStepper_step
          (NormalizedLinearStepper_to_difficulty (GeneralLinearStepper_to_normalized g)) := by
  unfold DifficultyLinearStepper_step
  rw [DifficultyLinearStepper_super_args_to_difficulty _ hD hN]
  exact GeneralLinearStepper_step_eq_normalized g

theorem GeneralLinearStepper_step_only_groups (g g' : GeneralLinearStepperArgs ℂ)
    (h : GeneralLinearStepper_to_normalized g = GeneralLinearStepper_to_normalized g') :
    GeneralLinearStepper_step g = GeneralLinearStepper_step g' := by
  rw [GeneralLinearStepper_step_eq_normalized g, GeneralLinearStepper_step_eq_normalized g', h]

example : ∃ (g : GeneralGradientNormStepperArgs ℂ) (ℓ : ℝ) (Mx : ℂ),
    g.domain_extent = (ℓ : ℂ) ∧ g.num_spatial_dims ≠ 0 ∧ g.num_points ≠ 0 ∧ Mx ≠ 0 :=
  ⟨GeneralGradientNormStepper_with_defaults 1 ((60 : ℝ) : ℂ) 64 (1 / 10), 60, 1, rfl, Nat.one_ne_zero, by decide,
    one_ne_zero⟩

example : ∃ (g : GeneralNonlinearStepperArgs ℂ) (ℓ : ℝ) (Mx : ℂ),
    g.domain_extent = (ℓ : ℂ) ∧ g.num_spatial_dims ≠ 0 ∧ g.num_points ≠ 0 ∧ Mx ≠ 0 :=
  ⟨GeneralNonlinearStepper_with_defaults 2 ((3 : ℝ) : ℂ) 32 (1 / 10), 3, 1, rfl, by decide, by decide,
    one_ne_zero⟩

example : ∃ g : GeneralPolynomialStepperArgs ℂ, g.num_spatial_dims ≠ 0 ∧ g.num_points ≠ 0 :=
  ⟨GeneralPolynomialStepper_with_defaults 3 10 16 (1 / 100), by decide, by decide⟩

example : ∃ g : GeneralLinearStepperArgs ℂ, g.num_spatial_dims ≠ 0 ∧ g.num_points ≠ 0 :=
  ⟨GeneralLinearStepper_with_defaults 1 1 32 (1 / 10), Nat.one_ne_zero, by decide⟩

example : ∃ (n : NormalizedGradientNormStepperArgs ℂ) (Mx : ℂ), n.num_spatial_dims ≠ 0 ∧ n.num_points ≠ 0 ∧ Mx ≠ 0 :=
  ⟨NormalizedGradientNormStepper_with_defaults 1 48, 1, Nat.one_ne_zero, by decide, one_ne_zero⟩

example : ∃ (n : NormalizedNonlinearStepperArgs ℂ) (Mx : ℂ), n.num_spatial_dims ≠ 0 ∧ n.num_points ≠ 0 ∧ Mx ≠ 0 :=
  ⟨NormalizedNonlinearStepper_with_defaults 1 48, 1, Nat.one_ne_zero, by decide, one_ne_zero⟩

example : ∃ n : NormalizedPolynomialStepperArgs ℂ, n.num_spatial_dims ≠ 0 ∧ n.num_points ≠ 0 :=
  ⟨NormalizedPolynomialStepper_with_defaults 1 48, Nat.one_ne_zero, by decide⟩

example : ∃ n : NormalizedLinearStepperArgs ℂ, n.num_spatial_dims ≠ 0 ∧ n.num_points ≠ 0 :=
  ⟨NormalizedLinearStepper_with_defaults 1 48, Nat.one_ne_zero, by decide⟩

/-- `…_step_only_groups`: DIFFERENT physical configurations with the same normalised arguments -/
example : ∃ (g g' : GeneralGradientNormStepperArgs ℂ) (ℓ ℓ' : ℝ),
    g.domain_extent = (ℓ : ℂ) ∧ g'.domain_extent = (ℓ' : ℂ) ∧ ℓ ≠ ℓ' ∧
      GeneralGradientNormStepper_to_normalized g = GeneralGradientNormStepper_to_normalized g' :=
  ⟨{ num_spatial_dims := 1, domain_extent := ((1 : ℝ) : ℂ), num_points := 32, dt := 1,
     linear_coefficients := [0, 0, -1], gradient_norm_scale := 1, order := 2, dealiasing_fraction := (2, 3),
     num_circle_points := 16, circle_radius := 1 },
   { num_spatial_dims := 1, domain_extent := ((2 : ℝ) : ℂ), num_points := 32, dt := 1,
     linear_coefficients := [0, 0, -4], gradient_norm_scale := 4, order := 2, dealiasing_fraction := (2, 3),
     num_circle_points := 16, circle_radius := 1 },
   1, 2, rfl, rfl, by norm_num, by
    simp only [GeneralGradientNormStepper_to_normalized, C13_normalize_coefficients_formula,
      normalize_gradient_norm_scale, npow_eq, List.mapIdx_cons, List.mapIdx_nil]
    norm_num⟩

example : ∃ (g g' : GeneralNonlinearStepperArgs ℂ) (ℓ ℓ' : ℝ),
    g.domain_extent = (ℓ : ℂ) ∧ g'.domain_extent = (ℓ' : ℂ) ∧ ℓ ≠ ℓ' ∧
      GeneralNonlinearStepper_to_normalized g = GeneralNonlinearStepper_to_normalized g' :=
  ⟨{ num_spatial_dims := 1, domain_extent := ((1 : ℝ) : ℂ), num_points := 32, dt := 1,
     linear_coefficients := [0, 0, 1], nonlinear_coefficients := (3, -1, 1), order := 2,
     dealiasing_fraction := (2, 3), num_circle_points := 16, circle_radius := 1 },
   { num_spatial_dims := 1, domain_extent := ((2 : ℝ) : ℂ), num_points := 32, dt := 1,
     linear_coefficients := [0, 0, 4], nonlinear_coefficients := (3, -2, 4), order := 2,
     dealiasing_fraction := (2, 3), num_circle_points := 16, circle_radius := 1 },
   1, 2, rfl, rfl, by norm_num, by
    simp only [GeneralNonlinearStepper_to_normalized, C13_normalize_coefficients_formula,
      normalize_convection_scale, normalize_gradient_norm_scale, npow_eq, List.mapIdx_cons, List.mapIdx_nil]
    norm_num⟩

example : ∃ g g' : GeneralPolynomialStepperArgs ℂ, g.dt ≠ g'.dt ∧
      GeneralPolynomialStepper_to_normalized g = GeneralPolynomialStepper_to_normalized g' :=
  ⟨{ num_spatial_dims := 1, domain_extent := 1, num_points := 32, dt := 1,
     linear_coefficients := [2, 0, 1], polynomial_coefficients := [0, 0, -2], order := 2,
     dealiasing_fraction := (2, 3), num_circle_points := 16, circle_radius := 1 },
   { num_spatial_dims := 1, domain_extent := 1, num_points := 32, dt := 2,
     linear_coefficients := [1, 0, 1 / 2], polynomial_coefficients := [0, 0, -1], order := 2,
     dealiasing_fraction := (2, 3), num_circle_points := 16, circle_radius := 1 },
   by norm_num, by
    simp only [GeneralPolynomialStepper_to_normalized, C13_normalize_coefficients_formula,
      normalize_polynomial_scales, List.mapIdx_cons, List.mapIdx_nil, List.map_cons, List.map_nil]
    norm_num⟩

example : ∃ g g' : GeneralLinearStepperArgs ℂ, g.domain_extent ≠ g'.domain_extent ∧
      GeneralLinearStepper_to_normalized g = GeneralLinearStepper_to_normalized g' :=
  ⟨{ num_spatial_dims := 1, domain_extent := 1, num_points := 32, dt := 1, linear_coefficients := [0, -1, 1] },
   { num_spatial_dims := 1, domain_extent := 2, num_points := 32, dt := 1, linear_coefficients := [0, -2, 4] },
   by norm_num, by
    simp only [GeneralLinearStepper_to_normalized, C13_normalize_coefficients_formula, List.mapIdx_cons,
      List.mapIdx_nil]
    norm_num⟩

end Exponax.Interface
