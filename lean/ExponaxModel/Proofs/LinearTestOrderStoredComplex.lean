import ExponaxModel.Proofs.LinearTestOrderStored
import ExponaxModel.Proofs.ContourComplexNodes
/-
C02: the perturbed-coefficient order theorems instantiated with the STORED contour coefficients (defaults
`num_circle_points = 16`, `circle_radius = 1`) for a COMPLEX linear symbol `λ` in the closed left half-plane (`Re λ ≤ 0`:
diffusive, advective, dispersive, or any mixture), real `dt ≥ 0`, and `λ·dt` not one of the sixteen quadrature nodes `−ζ_j`
(`C02_accuracy_iff_off_the_nodes`: on a node the stored value is NOT accurate, so the hypothesis cannot be dropped;
purely imaginary and real `λ·dt` are never on a node).  Every stored ETDRK1–4 coefficient is then within `1.7·10⁻¹²·dt` of
its exact value (`ContourComplex.storedCoef_error_dissipative`), hence on `u' = λu + μu` (`μ ∈ ℂ`), for p = 1, 2, 3, 4,

   ‖(stored ETDRKp step)ⁿ u − e^{(λ+μ) n dt} u‖ ≤ Cfloor · (Cloc_p · dt^p + pertD_p(1.7·10⁻¹²)) · ‖u‖     (n·dt ≤ T).

(`stored_global_of_accuracy` in `LinearTestOrderStored.lean` at δ = 1.7·10⁻¹².)
-/
noncomputable section
namespace Exponax.LinearOrder
open Exponax Exponax.Spec Exponax.ContourTail Exponax.ContourComplex Exponax.Gen.Etdrk

/-- the half-plane quadrature accuracy of the stored coefficients -/
def δstoredC : ℝ := 1.7e-12

theorem δstoredC_nonneg : 0 ≤ δstoredC := by unfold δstoredC; norm_num

/-- the imaginary axis (advection `λ = −i c k`, dispersion `λ = i k³`) carries no quadrature node: `M = 16` is a multiple of 4 -/
theorem imaginary_off_nodes (l : ℂ) (dt : ℝ) (hl : l.re = 0) :
    ∀ ζ ∈ (roots_of_unity 16 : List ℂ), l * (dt : ℂ) ≠ -(1 * ζ) := by
  refine excluded_of_re_eq_zero 16 (by norm_num) (by norm_num) (l * (dt : ℂ)) ?_
  rw [Complex.re_mul_ofReal, hl, zero_mul]

/-- all four stored steppers for a purely imaginary symbol: no node hypothesis -/
theorem stored_global_imaginary (l m : ℂ) (T : ℝ) (hl : l.re = 0) (n : ℕ) (dt : ℝ) (hdt : 0 ≤ dt)
    (hn : n * dt ≤ T) (u : ℂ) :
    ‖(E1step (exp_term (dt : ℂ) l) (E1_coef_1 (dt : ℂ) l 16 1) (fun v => m * v))^[n] u
        - Complex.exp ((l + m) * (n * dt)) * u‖
      ≤ Cfloor (Cloc1 l m T) (pertD1 m δstoredC) (l + m) 1 T
          * (Cloc1 l m T * dt ^ 1 + pertD1 m δstoredC) * ‖u‖ ∧
    ‖(E2step (exp_term (dt : ℂ) l) (E2_coef_1 (dt : ℂ) l 16 1) (E2_coef_2 (dt : ℂ) l 16 1)
          (fun v => m * v))^[n] u
        - Complex.exp ((l + m) * (n * dt)) * u‖
      ≤ Cfloor (Cloc2 l m T) (pertD2 l m T δstoredC) (l + m) 2 T
          * (Cloc2 l m T * dt ^ 2 + pertD2 l m T δstoredC) * ‖u‖ ∧
    ‖(E3step (exp_term (dt : ℂ) l) (E3_half_exp_term (dt : ℂ) l 16 1)
          (E3_coef_1 (dt : ℂ) l 16 1) (E3_coef_2 (dt : ℂ) l 16 1)
          (E3_coef_3 (dt : ℂ) l 16 1) (E3_coef_4 (dt : ℂ) l 16 1)
          (E3_coef_5 (dt : ℂ) l 16 1) (fun v => m * v))^[n] u
        - Complex.exp ((l + m) * (n * dt)) * u‖
      ≤ Cfloor (Cloc3 l m T) (pertD3 l m T δstoredC) (l + m) 3 T
          * (Cloc3 l m T * dt ^ 3 + pertD3 l m T δstoredC) * ‖u‖ ∧
    ‖(E4step (exp_term (dt : ℂ) l) (E4_half_exp_term (dt : ℂ) l 16 1)
          (E4_coef_1 (dt : ℂ) l 16 1) (E4_coef_2 (dt : ℂ) l 16 1)
          (E4_coef_3 (dt : ℂ) l 16 1) (E4_coef_4 (dt : ℂ) l 16 1)
          (E4_coef_5 (dt : ℂ) l 16 1) (E4_coef_6 (dt : ℂ) l 16 1)
          (fun v => m * v))^[n] u
        - Complex.exp ((l + m) * (n * dt)) * u‖
      ≤ Cfloor (Cloc4 l m T) (pertD4 l m T δstoredC) (l + m) 4 T
          * (Cloc4 l m T * dt ^ 4 + pertD4 l m T δstoredC) * ‖u‖ :=
  stored_global_of_accuracy l m T δstoredC δstoredC_nonneg n dt hdt hn
    (storedCoef_error_dissipative dt l hdt hl.le (imaginary_off_nodes l dt hl)) u

theorem pertD1_storedC (m : ℂ) : pertD1 m δstoredC = 1.7e-12 * ‖m‖ := by
  unfold pertD1 pertK1 δstoredC; ring

theorem pertD2_storedC (l m : ℂ) (T : ℝ) (hl : l.re ≤ 0) (hT : 0 ≤ T) :
    pertD2 l m T δstoredC
      = 1.7e-12 * (‖m‖ * (1 + (1 + T * (1 + 1.7e-12) * ‖m‖ + 1) + T * (1 / 2) * ‖m‖)) := by
  unfold pertD2 pertK2 δstoredC
  rw [expMax_of_nonpos l.re T hl hT]

/-- the floor is non-negative (so the bound is a genuine `C'·dt^p + C''·δ`) -/
theorem pertD1_storedC_nonneg (m : ℂ) : 0 ≤ pertD1 m δstoredC := by
  rw [pertD1_storedC]; positivity

/-! ### non-vacuity -/

/-- a damped travelling wave `λ = −1 + 2i`, `dt = 1/10`: `‖λ dt‖² = 1/20 ≠ 1`, so `λ dt` is not a node -/
theorem wave_norm_ne_one : ‖((-1 : ℂ) + 2 * Complex.I) * ((1 / 10 : ℝ) : ℂ)‖ ≠ 1 := by
  intro h
  have h2 : Complex.normSq (((-1 : ℂ) + 2 * Complex.I) * ((1 / 10 : ℝ) : ℂ)) = 1 := by
    rw [Complex.normSq_eq_norm_sq, h]; norm_num
  rw [Complex.normSq_mul, Complex.normSq_ofReal, Complex.normSq_apply] at h2
  simp at h2
  norm_num at h2

/-- all hypotheses hold for it -/
example : ((-1 : ℂ) + 2 * Complex.I).re ≤ 0 ∧ (0 : ℝ) ≤ 1 / 10 ∧ ((10 : ℕ) : ℝ) * (1 / 10) ≤ 1 ∧
    ∀ ζ ∈ (roots_of_unity 16 : List ℂ), ((-1 : ℂ) + 2 * Complex.I) * ((1 / 10 : ℝ) : ℂ) ≠ -(1 * ζ) :=
  ⟨by simp, by norm_num, by norm_num, excluded_of_norm_ne_one 16 _ wave_norm_ne_one⟩

/-- hence the ETDRK4 bound holds for it (10 steps of 1/10 up to T = 1) -/
example (m u : ℂ) :
    ‖(E4step (exp_term ((1 / 10 : ℝ) : ℂ) (-1 + 2 * Complex.I)) (E4_half_exp_term ((1 / 10 : ℝ) : ℂ) (-1 + 2 * Complex.I) 16 1)
          (E4_coef_1 ((1 / 10 : ℝ) : ℂ) (-1 + 2 * Complex.I) 16 1) (E4_coef_2 ((1 / 10 : ℝ) : ℂ) (-1 + 2 * Complex.I) 16 1)
          (E4_coef_3 ((1 / 10 : ℝ) : ℂ) (-1 + 2 * Complex.I) 16 1) (E4_coef_4 ((1 / 10 : ℝ) : ℂ) (-1 + 2 * Complex.I) 16 1)
          (E4_coef_5 ((1 / 10 : ℝ) : ℂ) (-1 + 2 * Complex.I) 16 1) (E4_coef_6 ((1 / 10 : ℝ) : ℂ) (-1 + 2 * Complex.I) 16 1)
          (fun v => m * v))^[10] u
        - Complex.exp (((-1 + 2 * Complex.I) + m) * ((10 : ℕ) * ((1 / 10 : ℝ) : ℂ))) * u‖
      ≤ Cfloor (Cloc4 (-1 + 2 * Complex.I) m 1) (pertD4 (-1 + 2 * Complex.I) m 1 δstoredC) ((-1 + 2 * Complex.I) + m) 4 1
          * (Cloc4 (-1 + 2 * Complex.I) m 1 * (1 / 10 : ℝ) ^ 4 + pertD4 (-1 + 2 * Complex.I) m 1 δstoredC) * ‖u‖ :=
  (stored_global_of_accuracy (-1 + 2 * Complex.I) m 1 δstoredC δstoredC_nonneg 10 (1 / 10) (by norm_num) (by norm_num)
    (storedCoef_error_dissipative _ _ (by norm_num) (by simp) (excluded_of_norm_ne_one 16 _ wave_norm_ne_one)) u).2.2.2

/-- an advection symbol `λ = 3i`, `dt = 1/10` -/
example : (3 * Complex.I).re = 0 ∧ (0 : ℝ) ≤ 1 / 10 ∧ ((10 : ℕ) : ℝ) * (1 / 10) ≤ 1 := by
  refine ⟨by simp, by norm_num, by norm_num⟩

end Exponax.LinearOrder
end
