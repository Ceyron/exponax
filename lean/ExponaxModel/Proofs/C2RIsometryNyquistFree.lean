import ExponaxModel.Proofs.MultiplierCalc
import ExponaxModel.Proofs.C2RIsometry
/-
C11: isometry of a linear step on NYQUIST-FREE states, every grid size (even included), general symbol.

The condition of `C2R.linear_step_isometry_iff_herm` — the propagator is Hermitian-consistent at a self-conjugate stored mode
or the state has no content there — holds for every symbol with `ExactLinear.HermSym` on every `ExactLinear.BandLimited`
state: such a mode either has its conjugate partner `conjIdx` at the OPPOSITE wave vector or has a Nyquist component (even
`N`, `|k_d| = N/2`).  On odd grids every state qualifies (`ExactLinear.bandLimited_of_odd`).  The instances for advection
and dispersion, odd and Nyquist-free, are in `SymbolDissipation`.
-/
namespace Exponax.SmallGaps
open Exponax Exponax.Layout Exponax.Transform Exponax.DFT Exponax.Nonlin Exponax.Gen.Etdrk Exponax.C2R
open Exponax.Conserve Exponax.ExactLinear Finset
open scoped ComplexConjugate

/-- the condition of `C11_isometry_iff`, for a Hermitian-symmetric symbol and a Nyquist-free state -/
theorem isometry_condition_of_hermSym_bandLimited (D N : ℕ) (hD : 0 < D) (hN : 0 < N) (Λ : ℕ → ℂ)
    (hΛ : HermSym D N Λ) (u : Array ℂ) (hb : BandLimited D N u) (dt : ℝ) (h : ℕ) (hh : h < numModes D N)
    (hw : herm_weight D N h = 1) :
    exp_term (dt : ℂ) (Λ h) = (starRingEnd ℂ) (exp_term (dt : ℂ) (Λ (conjIdx D N h)))
      ∨ (rfftnM D N u).getD h 0 = 0 := by
  by_cases hq : NyqMode D N h
  · exact Or.inr (hb h hh ((nyqMode_iff_not_belowNyquist D N h hD hN hh).mp hq))
  · have e := hermOffNyq_of_hermSym D N hD hN _ (hermSym_exp D N Λ hΛ dt) h hh hw hq
    exact Or.inl (((congrArg conj e).trans (Complex.conj_conj _)).symm)

/-- any `D ≥ 1`, any `N ≥ 1` (even included): a Hermitian-symmetric symbol with `Re λ = 0` on the stored modes
    (advection, dispersion, any odd-order operator with real coefficients) gives an isometry of the grid `L²` norm for
    every real Nyquist-free state and every real `dt`, with the regenerated `E0step` / `exp_term` -/
theorem linear_step_isometry_of_hermSym_bandLimited (D N : ℕ) (hD : 0 < D) (hN : 0 < N) (u : Array ℂ)
    (hu : ∀ j < N ^ D, (u.getD j 0).im = 0) (hb : BandLimited D N u) (dt : ℝ) (Λ : ℕ → ℂ) (hΛ : HermSym D N Λ)
    (hre : ∀ h < numModes D N, (Λ h).re = 0) :
    ∑ j ∈ range (N ^ D), ((irfftnM D N (tab (numModes D N) fun h =>
        E0step (exp_term (dt : ℂ) (Λ h)) ((rfftnM D N u).getD h 0))).getD j 0).re ^ 2
      = ∑ j ∈ range (N ^ D), (u.getD j 0).re ^ 2 :=
  (linear_step_isometry_iff_herm D N hD hN u hu (fun h => exp_term (dt : ℂ) (Λ h))
    (fun h hh => by rw [norm_exp_term_real, hre h hh, mul_zero, Real.exp_zero])).mpr
    (fun h hh hw => isometry_condition_of_hermSym_bandLimited D N hD hN Λ hΛ u hb dt h hh hw)

/-- a real Nyquist-free state on the even `4 × 4` grid (the mode `(1, 1)`), which is not the zero state of the
    hypotheses: the mode `(1, 2)` (stored index 5) is on a self-conjugate column and is a Nyquist mode, so this is a
    grid on which the odd-grid theorem does not apply and the band-limitedness is used -/
example : ∃ u : Array ℂ, u.size = 4 ^ 2 ∧ (∀ j < 4 ^ 2, (u.getD j 0).im = 0) ∧ BandLimited 2 4 u ∧
    (4 : ℕ) % 2 = 0 ∧ (5 : ℕ) < numModes 2 4 ∧ herm_weight 2 4 5 = 1 := by
  have hms : ∀ m ∈ ([([1, 1], 2, 0.5)] : Modes), BelowNyquist 2 4 m.1 := by
    intro m hm
    simp only [List.mem_cons, List.mem_nil_iff, or_false] at hm
    subst hm
    exact ⟨rfl, by intro d hd; interval_cases d <;> simp⟩
  exact ⟨stateOf 2 4 [([1, 1], 2, 0.5)], by simp, stateOf_real 2 4 _,
    bandLimited_stateOf 2 4 (by norm_num) (by norm_num) _ hms, by decide, by decide, by decide⟩

end Exponax.SmallGaps
