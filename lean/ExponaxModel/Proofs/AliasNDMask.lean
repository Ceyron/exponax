import ExponaxModel.Proofs.AliasNDStored
import ExponaxModel.Proofs.AliasCutoff
/-
C03 in general dimension: the model pipeline `nifft c ûh = ifft(mask·ûh)`.  The mask is the
indicator of the box `|k_d(h)| ≤ Kc`; the c2r transform completes ANY stored array to a Hermitian
spectrum (`dftV_irfftn`, AliasNDBasic); so `nifft c ûh` is band-limited, and on the box its spectrum is that of any
lattice function with which `ûh` is Hermitian-consistent there (`dftV_nifft_of_hermitian`), in
particular that of a real state `x` when `ûh = rfftnM x`: band truncation.
-/
namespace Exponax.AliasND
open Exponax Exponax.Layout Exponax.Transform Exponax.DFT Exponax.Nonlin Exponax.Alias Finset

theorem mask_nd (c : Cfg ℂ) (hq : c.fq ≠ 0) (h : ℕ) :
    mask c h = if ∀ d, |kvec c.D c.N h d| ≤ Kc c then 1 else 0 := by
  have hk : ∀ d : Fin c.D, kvec c.D c.N h d = wn c.D c.N (unflatten (wavenumberShape c.D c.N) h) d :=
    fun d => wnFlat_getD _ _ _ _ d.2
  have key : dealiasMask c.N c.fp c.fq (wnFlat c.D c.N h) = true ↔
      ∀ d, |kvec c.D c.N h d| ≤ Kc c := by
    rw [dealiasMask_iff, wnFlat]
    simp only [mem_wnVec, le_Kc_iff c hq, hk]
    exact ⟨fun H d => H _ ⟨d, d.2, rfl⟩, fun H kd ⟨d, hd, e⟩ => e ▸ H ⟨d, hd⟩⟩
  unfold mask
  rw [if_neg hq]
  simp only [key]

theorem mask_nd_eq_one_iff (c : Cfg ℂ) (hq : c.fq ≠ 0) (h : ℕ) :
    mask c h = 1 ↔ ∀ d, |kvec c.D c.N h d| ≤ Kc c := by
  rw [mask_nd c hq]
  split_ifs with hk
  · exact iff_of_true rfl hk
  · exact iff_of_false zero_ne_one hk

theorem mask_nd_eq_zero_iff (c : Cfg ℂ) (hq : c.fq ≠ 0) (h : ℕ) :
    mask c h = 0 ↔ ¬ ∀ d, |kvec c.D c.N h d| ≤ Kc c := by
  rw [mask_nd c hq]
  split_ifs with hk
  · exact iff_of_false one_ne_zero (not_not.mpr hk)
  · exact iff_of_true rfl hk

theorem nifft_nd (c : Cfg ℂ) (uh : Array ℂ) :
    nifft c uh = irfftnM c.D c.N (tab (numModes c.D c.N) (fun h => mask c h * uh.getD h 0)) := rfl

theorem dftV_nifft (c : Cfg ℂ) (hN : 0 < c.N) (uh : Array ℂ) (m : Fin c.D → ℤ) :
    dftV c.D c.N (nifft c uh) m
      = ∑ h ∈ range (numModes c.D c.N), ((herm_weight c.D c.N h : ℂ) / 2) *
          ((mask c h * uh.getD h 0) * (if ∀ d, (c.N : ℤ) ∣ m d - kvec c.D c.N h d then 1 else 0)
            + (starRingEnd ℂ) (mask c h * uh.getD h 0)
                * (if ∀ d, (c.N : ℤ) ∣ m d + kvec c.D c.N h d then 1 else 0)) := by
  rw [nifft_nd, dftV_irfftn c.D c.N hN]
  apply Finset.sum_congr rfl
  intro h hh
  rw [DFT.tab_getD _ _ _ _ (Finset.mem_range.mp hh)]

theorem nifft_bandLimitedV (c : Cfg ℂ) (hq : c.fq ≠ 0) (hN : 0 < c.N) (uh : Array ℂ) :
    BandLimitedV c.D c.N (Kc c) (nifft c uh) := by
  intro a ha
  rw [dftV_nifft c hN]
  apply Finset.sum_eq_zero
  intro h _
  by_cases hk : ∀ d, |kvec c.D c.N h d| ≤ Kc c
  · have h1 : ¬ ∀ d, (c.N : ℤ) ∣ a d - kvec c.D c.N h d := fun hd =>
      ha ⟨kvec c.D c.N h, hk, hd⟩
    have h2 : ¬ ∀ d, (c.N : ℤ) ∣ a d + kvec c.D c.N h d := by
      intro hd
      refine ha ⟨-kvec c.D c.N h, abs_neg_le hk, fun d => ?_⟩
      rw [Pi.neg_apply, sub_neg_eq_add]
      exact hd d
    rw [if_neg h1, if_neg h2, mul_zero, mul_zero, add_zero, mul_zero]
  · rw [(mask_nd_eq_zero_iff c hq h).mpr hk, zero_mul, map_zero, zero_mul, zero_mul, add_zero, mul_zero]

/-- the total weight with which the stored modes cover a wavenumber vector -/
noncomputable def cover (D N : ℕ) (m : Fin D → ℤ) : ℂ :=
  ∑ h ∈ range (numModes D N), ((herm_weight D N h : ℂ) / 2) *
    ((if ∀ d, (N : ℤ) ∣ m d - kvec D N h d then 1 else 0)
      + (if ∀ d, (N : ℤ) ∣ m d + kvec D N h d then 1 else 0))

noncomputable def delta0 (D N : ℕ) : Array ℂ := tab (N ^ D) (fun j => if j = 0 then 1 else 0)

theorem delta0_real (D N : ℕ) : IsRealND D N (delta0 D N) := by
  intro j hj
  unfold delta0
  rw [DFT.tab_getD _ _ _ _ hj]
  split_ifs <;> simp

theorem dftV_delta0 (D N : ℕ) (hN : 0 < N) (k : Fin D → ℤ) : dftV D N (delta0 D N) k = 1 := by
  unfold delta0
  rw [dftV_tab, Finset.sum_eq_single_of_mem 0 (Finset.mem_range.mpr (pow_pos hN D))]
  · rw [if_pos rfl, vdot_zero_index, zpow_zero, one_mul]
  · intro j _ hj
    rw [if_neg hj, zero_mul]

/-- from the round trip `irfftn ∘ rfftn = id` applied to the unit impulse -/
theorem cover_eq_one (D N : ℕ) (hD : 0 < D) (hN : 0 < N) (m : Fin D → ℤ) : cover D N m = 1 := by
  have h1 : dftV D N (irfftnM D N (rfftnM D N (delta0 D N))) m = 1 := by
    rw [dftV_congr D N _ (delta0 D N)
      (fun j hj => irfftn_rfftn D N hD hN (delta0 D N) (delta0_real D N) j hj), dftV_delta0 D N hN]
  rw [dftV_irfftn D N hN] at h1
  rw [← h1]
  unfold cover
  apply Finset.sum_congr rfl
  intro h hh
  rw [rfftn_eq_dftV D N hN _ h (Finset.mem_range.mp hh), dftV_delta0 D N hN, map_one, one_mul, one_mul]

theorem box_congr_eq {D N : ℕ} (hD : 0 < D) (hN : 0 < N) (K : ℤ) (hK : 2 * K < (N : ℤ))
    (m : Fin D → ℤ) (hm : ∀ d, |m d| ≤ K) (h : ℕ) (hh : h < numModes D N)
    (hc : ∀ d, (N : ℤ) ∣ m d - kvec D N h d) : kvec D N h = m := by
  funext d
  have hle : |m d - kvec D N h d| ≤ K + ((N / 2 : ℕ) : ℤ) :=
    (abs_sub _ _).trans (add_le_add (hm d) (kvec_abs_le D N h hD hN hh d))
  exact (eq_of_dvd_sub_of_abs_lt (hc d) (hle.trans_lt (by omega))).symm

theorem box_congr_eq_neg {D N : ℕ} (hD : 0 < D) (hN : 0 < N) (K : ℤ) (hK : 2 * K < (N : ℤ))
    (m : Fin D → ℤ) (hm : ∀ d, |m d| ≤ K) (h : ℕ) (hh : h < numModes D N)
    (hc : ∀ d, (N : ℤ) ∣ m d + kvec D N h d) : kvec D N h = -m := by
  refine box_congr_eq hD hN K hK (-m) (abs_neg_le hm) h hh fun d => ?_
  rw [Pi.neg_apply, ← neg_add']
  exact (hc d).neg_right

theorem box_congr_stored {D N : ℕ} (hD : 0 < D) (hN : 0 < N) (K : ℤ) (hK : 2 * K < (N : ℤ))
    (m : Fin D → ℤ) (hm : ∀ d, |m d| ≤ K) (h : ℕ) (hh : h < numModes D N)
    (hc : (∀ d, (N : ℤ) ∣ m d - kvec D N h d) ∨ (∀ d, (N : ℤ) ∣ m d + kvec D N h d)) :
    ∀ d, |kvec D N h d| ≤ K := by
  intro d
  rcases hc with hc | hc
  · rw [box_congr_eq hD hN K hK m hm h hh hc]
    exact hm d
  · rw [box_congr_eq_neg hD hN K hK m hm h hh hc]
    exact abs_neg_le hm d

/-- truncation of a stored spectrum that is Hermitian-consistent with a lattice function `F` on the
    RETAINED band.  Nothing is assumed about the dropped modes — in particular about the Nyquist
    columns, which `2·Kc < N` excludes from the band. -/
theorem dftV_nifft_of_hermitian (c : Cfg ℂ) (hD : 0 < c.D) (hq : c.fq ≠ 0) (hN : 0 < c.N)
    (h2 : 2 * Kc c < (c.N : ℤ)) (uh : Array ℂ) (F : (Fin c.D → ℤ) → ℂ)
    (hF : ∀ h, h < numModes c.D c.N → (∀ d, |kvec c.D c.N h d| ≤ Kc c) →
      uh.getD h 0 = F (kvec c.D c.N h) ∧ (starRingEnd ℂ) (uh.getD h 0) = F (-kvec c.D c.N h))
    (m : Fin c.D → ℤ) (hm : ∀ d, |m d| ≤ Kc c) :
    dftV c.D c.N (nifft c uh) m = F m := by
  have key : F m = F m * cover c.D c.N m := by rw [cover_eq_one c.D c.N hD hN m, mul_one]
  rw [dftV_nifft c hN, key, cover, Finset.mul_sum]
  refine Finset.sum_congr rfl fun h hh => ?_
  have hh' := Finset.mem_range.mp hh
  have eA : (mask c h * uh.getD h 0) * (if ∀ d, (c.N : ℤ) ∣ m d - kvec c.D c.N h d then 1 else 0)
      = F m * (if ∀ d, (c.N : ℤ) ∣ m d - kvec c.D c.N h d then 1 else 0) := by
    split_ifs with hc
    · have hk := box_congr_stored hD hN (Kc c) h2 m hm h hh' (Or.inl hc)
      rw [(mask_nd_eq_one_iff c hq h).mpr hk, one_mul, (hF h hh' hk).1,
        box_congr_eq hD hN (Kc c) h2 m hm h hh' hc]
    · rw [mul_zero, mul_zero]
  have eB : (starRingEnd ℂ) (mask c h * uh.getD h 0)
        * (if ∀ d, (c.N : ℤ) ∣ m d + kvec c.D c.N h d then 1 else 0)
      = F m * (if ∀ d, (c.N : ℤ) ∣ m d + kvec c.D c.N h d then 1 else 0) := by
    split_ifs with hc
    · have hk := box_congr_stored hD hN (Kc c) h2 m hm h hh' (Or.inr hc)
      rw [(mask_nd_eq_one_iff c hq h).mpr hk, one_mul, (hF h hh' hk).2,
        box_congr_eq_neg hD hN (Kc c) h2 m hm h hh' hc, neg_neg]
    · rw [mul_zero, mul_zero]
  rw [eA, eB]
  ring

theorem rfftn_nifft_of_hermitian (c : Cfg ℂ) (hD : 0 < c.D) (hq : c.fq ≠ 0) (hN : 0 < c.N)
    (h2 : 2 * Kc c < (c.N : ℤ)) (uh : Array ℂ) (F : (Fin c.D → ℤ) → ℂ)
    (hF : ∀ h, h < numModes c.D c.N → (∀ d, |kvec c.D c.N h d| ≤ Kc c) →
      uh.getD h 0 = F (kvec c.D c.N h) ∧ (starRingEnd ℂ) (uh.getD h 0) = F (-kvec c.D c.N h))
    (h : ℕ) (hh : h < numModes c.D c.N) :
    (rfftnM c.D c.N (nifft c uh)).getD h 0 = mask c h * uh.getD h 0 := by
  rw [rfftn_eq_dftV c.D c.N hN _ h hh]
  by_cases hk : ∀ d, |kvec c.D c.N h d| ≤ Kc c
  · rw [(mask_nd_eq_one_iff c hq h).mpr hk, one_mul,
      dftV_nifft_of_hermitian c hD hq hN h2 uh F hF _ hk, (hF h hh hk).1]
  · rw [(mask_nd_eq_zero_iff c hq h).mpr hk, zero_mul]
    apply nifft_bandLimitedV c hq hN
    exact not_congr_box (Kc c) ((c.N / 2 : ℕ) : ℤ) (by omega) _ hk (kvec_abs_le c.D c.N h hD hN hh)

/-- `2·Kc < N` holds for every fraction `≤ 1` (`Kc_two_lt`) -/
theorem dftV_nifft_rfftn (c : Cfg ℂ) (hD : 0 < c.D) (hq : c.fq ≠ 0) (hN : 0 < c.N)
    (h2 : 2 * Kc c < (c.N : ℤ)) (x : Array ℂ) (hx : IsRealND c.D c.N x)
    (m : Fin c.D → ℤ) (hm : ∀ d, |m d| ≤ Kc c) :
    dftV c.D c.N (nifft c (rfftnM c.D c.N x)) m = dftV c.D c.N x m :=
  dftV_nifft_of_hermitian c hD hq hN h2 _ _ (fun h hh _ => rfftn_hermitian c.D c.N hN x hx h hh) m hm

theorem dftV_nifft_rfftn_stored (c : Cfg ℂ) (hD : 0 < c.D) (hq : c.fq ≠ 0) (hN : 0 < c.N)
    (h2 : 2 * Kc c < (c.N : ℤ)) (x : Array ℂ) (hx : IsRealND c.D c.N x) (h : ℕ)
    (hh : h < numModes c.D c.N) (hk : ∀ d, |kvec c.D c.N h d| ≤ Kc c) :
    dftV c.D c.N (nifft c (rfftnM c.D c.N x)) (kvec c.D c.N h) = (rfftnM c.D c.N x).getD h 0 := by
  rw [dftV_nifft_rfftn c hD hq hN h2 x hx _ hk, rfftn_eq_dftV c.D c.N hN x h hh]

theorem dftV_nifft_rfftn_off (c : Cfg ℂ) (hq : c.fq ≠ 0) (hN : 0 < c.N)
    (x : Array ℂ) (a : Fin c.D → ℤ)
    (ha : ¬ ∃ m : Fin c.D → ℤ, (∀ d, |m d| ≤ Kc c) ∧ VCongr c.D c.N a m) :
    dftV c.D c.N (nifft c (rfftnM c.D c.N x)) a = 0 :=
  nifft_bandLimitedV c hq hN _ a ha

theorem nifft_isRealND (c : Cfg ℂ) (uh : Array ℂ) : IsRealND c.D c.N (nifft c uh) :=
  fun j _ => irfftnM_im c.D c.N _ j

theorem rfftn_nifft_rfftn (c : Cfg ℂ) (hD : 0 < c.D) (hq : c.fq ≠ 0) (hN : 0 < c.N)
    (h2 : 2 * Kc c < (c.N : ℤ)) (x : Array ℂ) (hx : IsRealND c.D c.N x)
    (h : ℕ) (hh : h < numModes c.D c.N) :
    (rfftnM c.D c.N (nifft c (rfftnM c.D c.N x))).getD h 0 = mask c h * (rfftnM c.D c.N x).getD h 0 :=
  rfftn_nifft_of_hermitian c hD hq hN h2 _ _ (fun h hh _ => rfftn_hermitian c.D c.N hN x hx h hh) h hh

theorem nifft_rfftn_grid (c : Cfg ℂ) (hD : 0 < c.D) (hq : c.fq ≠ 0) (hN : 0 < c.N)
    (h2 : 2 * Kc c < (c.N : ℤ)) (x : Array ℂ) (hx : IsRealND c.D c.N x) (j : ℕ) (hj : j < c.N ^ c.D) :
    (nifft c (rfftnM c.D c.N x)).getD j 0
      = (1 / ((c.N ^ c.D : ℕ) : ℂ)) * ∑ m ∈ box c.D (Kc c),
          dftV c.D c.N x m * zeta c.N ^ (-(vdot c.D c.N m j)) := by
  rw [bandLimitedV_grid c.D c.N hN (Kc c) h2 _ (nifft_bandLimitedV c hq hN _) j hj]
  refine congrArg _ (Finset.sum_congr rfl fun m hm => ?_)
  rw [dftV_nifft_rfftn c hD hq hN h2 x hx m (mem_box.mp hm)]

end Exponax.AliasND
