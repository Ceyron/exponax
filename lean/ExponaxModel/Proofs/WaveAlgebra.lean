import Mathlib.Analysis.Calculus.Deriv.Mul
import Mathlib.Analysis.Calculus.Deriv.Add
import Mathlib.Analysis.SpecialFunctions.ExpDeriv
import Mathlib.Analysis.SpecialFunctions.Trigonometric.Deriv
import Mathlib.Analysis.Complex.RealDeriv
import ExponaxModel.Proofs.Instances
import ExponaxModel.Model.Wave
/-
The per-mode wave stepper `Wave.stepMode` at `K := ℂ`:
closed form (rotation with angle `ω·dt`, `ω = c·|κ|`), DC drift, exactness for
`h' = v, v' = −ω² h`, energy conservation, the group law on the mean mode (the non-DC law is `C01_wave_semigroup`).
-/
namespace Exponax
open Exponax.Wave

theorem hasIsZero_complex (z : ℂ) : HasIsZero.isZero z = decide (z = 0) := rfl

theorem hasSqrt_complex (z : ℂ) : HasSqrt.sqrt z = z ^ ((1 : ℂ) / 2) := rfl

theorem kGuard_of_ne (kn : ℂ) (h : kn ≠ 0) : kGuard kn = kn := by
  simp [kGuard, hasIsZero_complex, h]

theorem kGuard_zero : kGuard (0 : ℂ) = 1 := by
  simp [kGuard, hasIsZero_complex]

theorem sqrt_two_mul_self : HasSqrt.sqrt (lit 2 : ℂ) * HasSqrt.sqrt (lit 2 : ℂ) = 2 := by
  rw [hasSqrt_complex, lit_eq]
  have h := Complex.cpow_nat_inv_pow ((2 : ℕ) : ℂ) (n := 2) (by norm_num)
  rw [one_div, ← pow_two]
  exact_mod_cast h

theorem sqrt_two_sq : (HasSqrt.sqrt (lit 2 : ℂ)) ^ 2 = 2 := by
  rw [pow_two, sqrt_two_mul_self]

theorem sqrt_two_ne_zero : HasSqrt.sqrt (lit 2 : ℂ) ≠ 0 := by
  intro h
  have := sqrt_two_mul_self
  rw [h, mul_zero] at this
  norm_num at this

theorem inv_sqrt_two_mul_self :
    1 / HasSqrt.sqrt (lit 2 : ℂ) * (1 / HasSqrt.sqrt (lit 2 : ℂ)) = 1 / 2 := by
  rw [div_mul_div_comm, sqrt_two_mul_self, one_mul]

/-- the `1/√2 … 1/√2` sandwich of forward and inverse transform is a factor `1/2` -/
theorem sandwich (a b x y : ℂ) :
    1 / HasSqrt.sqrt (lit 2 : ℂ) * (a * (1 / HasSqrt.sqrt (lit 2 : ℂ) * x)
        + b * (1 / HasSqrt.sqrt (lit 2 : ℂ) * y)) = (a * x + b * y) / 2 := by
  have h := inv_sqrt_two_mul_self
  calc _ = (1 / HasSqrt.sqrt (lit 2 : ℂ) * (1 / HasSqrt.sqrt (lit 2 : ℂ))) * (a * x + b * y) := by ring
    _ = _ := by rw [h]; ring

theorem sandwich' (a b x y : ℂ) :
    1 / HasSqrt.sqrt (lit 2 : ℂ) * (a * (1 / HasSqrt.sqrt (lit 2 : ℂ) * x)
        - b * (1 / HasSqrt.sqrt (lit 2 : ℂ) * y)) = (a * x - b * y) / 2 := by
  have h := sandwich a (-b) x y
  rw [neg_mul, neg_mul, ← sub_eq_add_neg, ← sub_eq_add_neg] at h
  exact h

theorem inverse_forward (c kn h v : ℂ) (hc : c ≠ 0) :
    inverse c kn (forward c kn h v).1 (forward c kn h v).2 = (h, v) := by
  have hg : kGuard kn ≠ 0 := by
    rcases eq_or_ne kn 0 with h0 | h0
    · rw [h0, kGuard_zero]; exact one_ne_zero
    · rw [kGuard_of_ne kn h0]; exact h0
  have hden : Complex.I * c * kGuard kn ≠ 0 := mul_ne_zero (mul_ne_zero Complex.I_ne_zero hc) hg
  simp only [inverse, forward, hasI_complex]
  have h1 := sandwich 1 1 (Complex.I * c * kGuard kn * h + v) (Complex.I * c * kGuard kn * h - v)
  have h2 := sandwich' 1 1 (Complex.I * c * kGuard kn * h + v) (Complex.I * c * kGuard kn * h - v)
  simp only [one_mul] at h1 h2
  rw [h1, h2]
  refine Prod.ext ?_ ?_
  · simp only
    field_simp
    ring
  · simp only
    ring

/-- `stepMode` with the `1/√2` factors combined -/
theorem stepMode_halved (c dt kn : ℂ) (isDC : Bool) (h v : ℂ) :
    stepMode c dt kn isDC h v =
      let w := Complex.I * c * kGuard kn * h
      let E1 := Complex.exp (dt * (Complex.I * c * kn))
      let E2 := Complex.exp (dt * -(Complex.I * c * kn))
      let o1 := (E1 * (w + v) + E2 * (w - v)) / 2 / (Complex.I * c * kGuard kn)
      let o2 := (E1 * (w + v) - E2 * (w - v)) / 2
      if isDC then (o1 + dt * v, o2) else (o1, o2) := by
  simp only [stepMode, forward, inverse, symbols, hasExp_complex, hasI_complex]
  rw [sandwich, sandwich']

theorem exp_pos_eq (c dt kn : ℂ) :
    Complex.exp (dt * (Complex.I * c * kn))
      = Complex.cos (c * kn * dt) + Complex.sin (c * kn * dt) * Complex.I := by
  rw [← Complex.exp_mul_I]; congr 1; ring

theorem exp_neg_eq (c dt kn : ℂ) :
    Complex.exp (dt * -(Complex.I * c * kn))
      = Complex.cos (c * kn * dt) - Complex.sin (c * kn * dt) * Complex.I := by
  have h : dt * -(Complex.I * c * kn) = (-(c * kn * dt)) * Complex.I := by ring
  rw [h, Complex.exp_mul_I, Complex.cos_neg, Complex.sin_neg]; ring

theorem stepMode_nonDC (c dt kn h v : ℂ) (hc : c ≠ 0) (hkn : kn ≠ 0) :
    stepMode c dt kn false h v =
      (Complex.cos (c * kn * dt) * h + Complex.sin (c * kn * dt) / (c * kn) * v,
       -(c * kn) * Complex.sin (c * kn * dt) * h + Complex.cos (c * kn * dt) * v) := by
  rw [stepMode_halved, kGuard_of_ne kn hkn, exp_pos_eq, exp_neg_eq]
  simp only [Bool.false_eq_true, if_false]
  refine Prod.ext ?_ ?_
  · simp only
    have hI := Complex.I_ne_zero
    field_simp
    ring
  · simp only
    linear_combination (Complex.sin (c * kn * dt) * c * kn * h) * Complex.I_sq

theorem stepMode_nonDC_real (c dt kn : ℝ) (h v : ℂ) (hc : c ≠ 0) (hkn : kn ≠ 0) :
    stepMode (c : ℂ) (dt : ℂ) (kn : ℂ) false h v =
      ((Real.cos (c * kn * dt) : ℂ) * h + ((Real.sin (c * kn * dt) / (c * kn) : ℝ) : ℂ) * v,
       ((-(c * kn) * Real.sin (c * kn * dt) : ℝ) : ℂ) * h + (Real.cos (c * kn * dt) : ℂ) * v) := by
  rw [stepMode_nonDC (c : ℂ) dt kn h v (by exact_mod_cast hc) (by exact_mod_cast hkn)]
  push_cast
  rfl

theorem stepMode_DC (c dt h v : ℂ) (hc : c ≠ 0) :
    stepMode c dt 0 true h v = (h + dt * v, v) := by
  rw [stepMode_halved, kGuard_zero]
  simp only [mul_zero, neg_zero, Complex.exp_zero, if_true, one_mul, mul_one]
  refine Prod.ext ?_ ?_
  · simp only
    have hI := Complex.I_ne_zero
    field_simp
    ring
  · simp only
    ring

theorem hasDerivAt_cos_mul (w t : ℂ) :
    HasDerivAt (fun t : ℂ => Complex.cos (w * t)) (-(w * Complex.sin (w * t))) t := by
  have h1 : HasDerivAt (fun t : ℂ => w * t) w t := by
    simpa using HasDerivAt.const_mul w (hasDerivAt_id t)
  exact HasDerivAt.congr_deriv (HasDerivAt.ccos h1) (by ring)

theorem hasDerivAt_sin_mul (w t : ℂ) :
    HasDerivAt (fun t : ℂ => Complex.sin (w * t)) (w * Complex.cos (w * t)) t := by
  have h1 : HasDerivAt (fun t : ℂ => w * t) w t := by
    simpa using HasDerivAt.const_mul w (hasDerivAt_id t)
  exact HasDerivAt.congr_deriv (HasDerivAt.csin h1) (by ring)

theorem stepMode_nonDC_exact (c kn h0 v0 : ℂ) (hc : c ≠ 0) (hkn : kn ≠ 0) (t : ℂ) :
    HasDerivAt (fun t : ℂ => (stepMode c t kn false h0 v0).1) (stepMode c t kn false h0 v0).2 t
    ∧ HasDerivAt (fun t : ℂ => (stepMode c t kn false h0 v0).2)
        (-((c * kn) ^ 2) * (stepMode c t kn false h0 v0).1) t
    ∧ stepMode c 0 kn false h0 v0 = (h0, v0) := by
  have hw : c * kn ≠ 0 := mul_ne_zero hc hkn
  have hf1 : (fun t : ℂ => (stepMode c t kn false h0 v0).1)
      = fun t => Complex.cos (c * kn * t) * h0 + Complex.sin (c * kn * t) / (c * kn) * v0 := by
    funext t; rw [stepMode_nonDC c t kn h0 v0 hc hkn]
  have hf2 : (fun t : ℂ => (stepMode c t kn false h0 v0).2)
      = fun t => -(c * kn) * Complex.sin (c * kn * t) * h0 + Complex.cos (c * kn * t) * v0 := by
    funext t; rw [stepMode_nonDC c t kn h0 v0 hc hkn]
  have hC := hasDerivAt_cos_mul (c * kn) t
  have hS := hasDerivAt_sin_mul (c * kn) t
  refine ⟨?_, ?_, ?_⟩
  · rw [hf1, stepMode_nonDC c t kn h0 v0 hc hkn]
    have h1 := HasDerivAt.add (HasDerivAt.mul_const hC h0)
      (HasDerivAt.mul_const (HasDerivAt.div_const hS (c * kn)) v0)
    refine HasDerivAt.congr_deriv h1 ?_
    simp only
    field_simp
  · rw [hf2, stepMode_nonDC c t kn h0 v0 hc hkn]
    have h1 := HasDerivAt.add (HasDerivAt.mul_const (HasDerivAt.const_mul (-(c * kn)) hS) h0)
      (HasDerivAt.mul_const hC v0)
    refine HasDerivAt.congr_deriv h1 ?_
    simp only
    field_simp
    ring
  · rw [stepMode_nonDC c 0 kn h0 v0 hc hkn]
    simp

theorem stepMode_DC_exact (c h0 v0 : ℂ) (hc : c ≠ 0) (t : ℝ) :
    HasDerivAt (fun t : ℝ => (stepMode c (t : ℂ) 0 true h0 v0).1) (stepMode c (t : ℂ) 0 true h0 v0).2 t
    ∧ HasDerivAt (fun t : ℝ => (stepMode c (t : ℂ) 0 true h0 v0).2) 0 t
    ∧ stepMode c ((0 : ℝ) : ℂ) 0 true h0 v0 = (h0, v0) := by
  have hf1 : (fun t : ℝ => (stepMode c (t : ℂ) 0 true h0 v0).1) = fun t : ℝ => h0 + (t : ℂ) * v0 := by
    funext t; rw [stepMode_DC c t h0 v0 hc]
  have hf2 : (fun t : ℝ => (stepMode c (t : ℂ) 0 true h0 v0).2) = fun _ : ℝ => v0 := by
    funext t; rw [stepMode_DC c t h0 v0 hc]
  refine ⟨?_, ?_, ?_⟩
  · rw [hf1, stepMode_DC c t h0 v0 hc]
    have h1 : HasDerivAt (fun z : ℂ => h0 + z * v0) v0 (t : ℂ) := by
      have := HasDerivAt.const_add h0 (HasDerivAt.mul_const (hasDerivAt_id (t : ℂ)) v0)
      simpa using this
    exact HasDerivAt.comp_ofReal h1
  · rw [hf2]; exact hasDerivAt_const t v0
  · rw [stepMode_DC c _ h0 v0 hc]; simp

theorem rotation_energy (C S : ℝ) (hCS : C ^ 2 + S ^ 2 = 1) (a b : ℂ) :
    ‖(C : ℂ) * a + (S : ℂ) * b‖ ^ 2 + ‖-(S : ℂ) * a + (C : ℂ) * b‖ ^ 2 = ‖a‖ ^ 2 + ‖b‖ ^ 2 := by
  simp only [Complex.sq_norm, Complex.normSq_apply, Complex.add_re, Complex.add_im,
    Complex.neg_re, Complex.neg_im, Complex.mul_re, Complex.mul_im, Complex.ofReal_re,
    Complex.ofReal_im, neg_mul]
  linear_combination (a.re ^ 2 + a.im ^ 2 + b.re ^ 2 + b.im ^ 2) * hCS

/-- the wave energy `|ω ĥ|² + |v̂|²` of a non-DC mode is conserved by a step -/
theorem stepMode_energy (c dt kn : ℝ) (h v : ℂ) (hc : c ≠ 0) (hkn : kn ≠ 0) :
    ‖((c * kn : ℝ) : ℂ) * (stepMode (c : ℂ) (dt : ℂ) (kn : ℂ) false h v).1‖ ^ 2
      + ‖(stepMode (c : ℂ) (dt : ℂ) (kn : ℂ) false h v).2‖ ^ 2
      = ‖((c * kn : ℝ) : ℂ) * h‖ ^ 2 + ‖v‖ ^ 2 := by
  rw [stepMode_nonDC_real c dt kn h v hc hkn]
  have hw : c * kn ≠ 0 := mul_ne_zero hc hkn
  have hCS : Real.cos (c * kn * dt) ^ 2 + Real.sin (c * kn * dt) ^ 2 = 1 :=
    Real.cos_sq_add_sin_sq _
  rw [← rotation_energy _ _ hCS (((c * kn : ℝ) : ℂ) * h) v]
  have hc' : (c : ℂ) ≠ 0 := by exact_mod_cast hc
  have hkn' : (kn : ℂ) ≠ 0 := by exact_mod_cast hkn
  congr 3
  · simp only
    push_cast
    field_simp
  · simp only
    push_cast
    ring

theorem stepMode_nonDC_zero (c kn h v : ℂ) (hc : c ≠ 0) (hkn : kn ≠ 0) :
    stepMode c 0 kn false h v = (h, v) := by
  rw [stepMode_nonDC c 0 kn h v hc hkn]; simp

theorem stepMode_DC_add (c dt1 dt2 h v : ℂ) (hc : c ≠ 0) :
    stepMode c dt2 0 true (stepMode c dt1 0 true h v).1 (stepMode c dt1 0 true h v).2
      = stepMode c (dt1 + dt2) 0 true h v := by
  rw [stepMode_DC c dt1 h v hc, stepMode_DC c dt2 _ _ hc, stepMode_DC c (dt1 + dt2) h v hc]
  refine Prod.ext ?_ rfl
  simp only
  ring

theorem stepMode_DC_neg (c dt h v : ℂ) (hc : c ≠ 0) :
    stepMode c (-dt) 0 true (stepMode c dt 0 true h v).1 (stepMode c dt 0 true h v).2 = (h, v) := by
  rw [stepMode_DC_add c dt (-dt) h v hc, add_neg_cancel, stepMode_DC c 0 h v hc]
  simp

end Exponax
