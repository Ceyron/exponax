import ExponaxModel.Proofs.InterpNDSpec
import ExponaxModel.Proofs.InterpMean
/-
C15 support — n-D exactness in the degenerate case `min(N_old, N_new) = 1` (where the slice `-0:` of
`get_modes_slices` is the whole axis), and with it the new half spectrum of a band-limited state for every pair of
resolutions `≥ 1` (`mapSpectrum_bandlimited_pos`).
-/
namespace Exponax.Interp
open Exponax Exponax.Layout Exponax.Transform Exponax.DFT Finset

theorem srcAxis_one_some (lenNew lenOld : ℕ) (isLast : Bool) (i j : ℕ) (hi : i < lenNew)
    (hs : srcAxis 1 lenNew lenOld isLast i = some j) : j = i := by
  unfold srcAxis at hs
  cases isLast
  · simp only [Bool.false_eq_true, if_false, show (1 : ℕ) / 2 = 0 by norm_num] at hs
    rw [pySlice_negZero_none, pySlice_negZero_none] at hs
    simp only [Nat.zero_le, hi, and_self, if_true, Nat.sub_zero, Nat.zero_add,
      Option.some.injEq] at hs
    exact hs.symm
  · simp only [if_true] at hs
    exact (Option.some.inj (Option.ite_none_right_eq_some.mp hs).2).symm

theorem flatten_eq_zero (shape : List ℕ) (hpos : ∀ a ∈ shape, 0 < a) (idx : List ℕ)
    (h0 : flatten shape idx = 0) : ∀ d, d < shape.length → idx.getD d 0 = 0 := by
  induction shape generalizing idx with
  | nil => intro d hd; simp at hd
  | cons a rest ih =>
    have hrest : ∀ b ∈ rest, 0 < b := fun b hb => hpos b (by simp [hb])
    have hsz := shapeSize_pos rest hrest
    simp only [flatten] at h0
    obtain ⟨h1, h2⟩ := Nat.add_eq_zero_iff.mp h0
    have hhead : idx.headD 0 = 0 := by
      rcases Nat.mul_eq_zero.mp h1 with h | h
      · exact h
      · omega
    intro d hd
    cases d with
    | zero =>
      cases idx with
      | nil => simp
      | cons x xs => simpa using hhead
    | succ d =>
      have := ih hrest idx.tail h2 d (by simpa using hd)
      cases idx with
      | nil => simp
      | cons x xs => simpa using this

/-- `m = 1`: only the DC target entry can receive the DC source entry -/
theorem srcIndex_one_flatten_zero (D Nold Nnew : ℕ) (hD : 0 < D) (hNo : 0 < Nold) (hNn : 0 < Nnew)
    (hm : min Nold Nnew = 1) (h' : ℕ) (hh : h' < numModes D Nnew) (idx : List ℕ)
    (hs : srcIndex D Nold Nnew (unflatten (wavenumberShape D Nnew) h') = some idx)
    (h0 : flatten (wavenumberShape D Nold) idx = 0) : h' = 0 := by
  set idx' := unflatten (wavenumberShape D Nnew) h' with hidx'
  have hz := flatten_eq_zero _ (wavenumberShape_pos D Nold hNo) idx h0
  rw [wavenumberShape_length D Nold hD] at hz
  rw [srcIndex_eq] at hs
  obtain ⟨hall, hs⟩ := Option.ite_none_right_eq_some.mp hs
  simp only [Option.some.injEq] at hs
  have hdig : ∀ d, d < D → idx'.getD d 0 = 0 := by
    intro d hd
    have h1 := hall d (List.mem_range.mpr hd)
    have h2 := hz d hd
    rw [← hs, range_map_getD D _ d hd] at h2
    have hlt := unflatten_getD_lt (wavenumberShape D Nnew) (wavenumberShape_pos D Nnew hNn) h' hh d
      (by rw [wavenumberShape_length D Nnew hD]; exact hd)
    cases hx : axisSrc D Nold Nnew idx' d with
    | none => rw [hx] at h1; simp at h1
    | some j =>
      rw [hx] at h2
      simp only [Option.getD_some] at h2
      subst h2
      unfold axisSrc at hx
      rw [hm] at hx
      exact (srcAxis_one_some _ _ _ _ _ hlt hx).symm
  apply (wnFlat_eq_zero_iff D Nnew h' hD hNn hh).mp
  intro d hd
  rw [wnFlat_getD D Nnew h' d hd]
  unfold wn
  rw [← hidx', hdig d hd]
  simp [rfftfreq, fftfreq]

theorem inBand_one_wnFlat_iff (D N h : ℕ) (hD : 0 < D) (hN : 0 < N) (hh : h < numModes D N) :
    inBand 1 (wnFlat D N h) ↔ h = 0 := by
  rw [inBand_wnFlat_iff, ← wnFlat_eq_zero_iff D N h hD hN hh]
  refine forall₂_congr fun d _ => ?_
  rw [← abs_eq_zero]
  have := abs_nonneg ((wnFlat D N h).getD d 0)
  omega

theorem bandLimitedN_one_spec (D Nold : ℕ) (hD : 0 < D) (hNo : 0 < Nold) (u : Array ℂ)
    (hbl : BandLimitedN D Nold 1 u) (h : ℕ) (hh : h < numModes D Nold) (hne : h ≠ 0) :
    (rfftnM D Nold u).getD h 0 = 0 :=
  hbl h hh (mt (inBand_one_wnFlat_iff D Nold h hD hNo hh).mp hne)

theorem mapSpectrum_min_one (D Nold Nnew : ℕ) (hD : 0 < D) (hNo : 0 < Nold) (hNn : 0 < Nnew)
    (hm : min Nold Nnew = 1) (ob : Bool) (u : Array ℂ) (hbl : BandLimitedN D Nold 1 u)
    (h' : ℕ) (hh : h' < numModes D Nnew) :
    (mapSpectrum D Nold Nnew ob (rfftnM D Nold u)).getD h' 0 =
      if h' = 0 then (rfftnM D Nold u).getD 0 0 / (Nold : ℂ) ^ D * (Nnew : ℂ) ^ D else 0 := by
  by_cases h0 : h' = 0
  · subst h0
    rw [if_pos rfl, mapSpectrum_zero_mode D Nold Nnew hNo hNn]
  · rw [if_neg h0, mapSpectrum_getD D Nold Nnew ob _ h' hh]
    split_ifs with hc
    · rfl
    · cases hs : srcIndex D Nold Nnew (unflatten (wavenumberShape D Nnew) h') with
      | none => simp
      | some idx =>
        have hH : flatten (wavenumberShape D Nold) idx ≠ 0 :=
          fun hz => h0 (srcIndex_one_flatten_zero D Nold Nnew hD hNo hNn hm h' hh idx hs hz)
        have : oldSpec D Nold Nnew ob (rfftnM D Nold u) (flatten (wavenumberShape D Nold) idx) = 0 := by
          unfold oldSpec
          split_ifs with h1 h2
          · rfl
          · rw [bandLimitedN_one_spec D Nold hD hNo u hbl _ h1 hH]; simp
          · rfl
        simp only [this, zero_mul]

theorem mapSpectrum_bandlimited_pos (D Nold Nnew : ℕ) (hD : 0 < D) (hNo : 0 < Nold) (hNn : 0 < Nnew) (ob : Bool)
    (u : Array ℂ) (hbl : BandLimitedN D Nold (min Nold Nnew) u) (h' : ℕ) (hh : h' < numModes D Nnew) :
    (mapSpectrum D Nold Nnew ob (rfftnM D Nold u)).getD h' 0 =
      if inBand (min Nold Nnew) (wnFlat D Nnew h') then
        specAt D Nold u (wnFlat D Nnew h') / (Nold : ℂ) ^ D * (Nnew : ℂ) ^ D
      else 0 := by
  by_cases hm : 2 ≤ min Nold Nnew
  · exact mapSpectrum_bandlimited D Nold Nnew hD hm ob u hbl h' hh
  · have hm1 : min Nold Nnew = 1 := by omega
    rw [hm1] at hbl ⊢
    rw [mapSpectrum_min_one D Nold Nnew hD hNo hNn hm1 ob u hbl h' hh]
    have hi := inBand_one_wnFlat_iff D Nnew h' hD hNn hh
    by_cases h0 : h' = 0
    · have hk : wnFlat D Nnew 0 = wnFlat D Nold 0 :=
        List.ext_getElem (by rw [wnFlat_length, wnFlat_length]) fun d h1 h2 => by
          simpa [List.getD_eq_getElem?_getD, h1, h2] using (wnFlat_zero D Nnew d).trans (wnFlat_zero D Nold d).symm
      subst h0
      rw [if_pos rfl, if_pos (hi.mpr rfl), hk,
        rfftnM_eq_specAt D Nold hNo u 0 (shapeSize_pos _ (wavenumberShape_pos D Nold hNo))]
    · rw [if_neg h0, if_neg (mt hi.mp h0)]

end Exponax.Interp
