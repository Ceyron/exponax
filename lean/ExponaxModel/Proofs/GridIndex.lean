import ExponaxModel.Proofs.DFT1D
/-
The flat C-order index `j < N^D` of the grid and its base-`N` digits `digit D N j d` (axis 0 most significant):
`ofDigits` is the inverse of `j ↦ (digit D N j ·)`, so a sum over the grid is a sum over digit vectors
(`sum_digits`), and the characters `j ↦ ζ_N^(k·j)` are orthogonal (`sum_zeta_vdot`).
-/
open Exponax Exponax.Layout Exponax.Transform Finset

namespace Exponax.DFT

theorem digit_succ_of_lt (E N a d : ℕ) (hd : d < E) :
    digit (E + 1) N a d = digit E N (a / N) d := by
  unfold digit
  rw [show E + 1 - 1 - d = (E - 1 - d) + 1 by omega, pow_succ', Nat.div_div_eq_div_mul]

theorem digit_succ_last (E N a : ℕ) : digit (E + 1) N a E = a % N := by
  simp [digit]

theorem sum_range_mul {M : Type} [AddCommMonoid M] (a b : ℕ) (F : ℕ → M) :
    ∑ h ∈ range (a * b), F h = ∑ x ∈ range a, ∑ y ∈ range b, F (x * b + y) := by
  induction a with
  | zero => simp
  | succ a ih => rw [Nat.succ_mul, Finset.sum_range_add, ih, Finset.sum_range_succ]

theorem sum_range_mul_div_mod {M : Type} [AddCommMonoid M] (a b : ℕ) (G : ℕ → ℕ → M) :
    ∑ h ∈ range (a * b), G (h / b) (h % b) = ∑ x ∈ range a, ∑ y ∈ range b, G x y := by
  rw [sum_range_mul]
  apply Finset.sum_congr rfl
  intro x _
  apply Finset.sum_congr rfl
  intro y hy
  have hy' := Finset.mem_range.mp hy
  rw [pair_div b x y hy', pair_mod b x y hy']

/-- `a · b` for two flat indices read as digit vectors of length `E`: the phase of the `E`-dimensional DFT kernel -/
def dotPhase (E N a b : ℕ) : ℤ :=
  ∑ d ∈ range E, (digit E N a d : ℤ) * (digit E N b d : ℤ)

theorem dotPhase_comm (E N a b : ℕ) : dotPhase E N a b = dotPhase E N b a :=
  Finset.sum_congr rfl fun _ _ => mul_comm _ _

end Exponax.DFT

namespace Exponax.SymmetryND
open Exponax.DFT

/-! ### flat index from digits (Horner form, axis 0 most significant) -/

/-- the flat C-order index whose digits (axes `0 … D-1`) are `f 0, …, f (D-1)` -/
def ofDigits (N : ℕ) (f : ℕ → ℕ) : ℕ → ℕ
  | 0 => 0
  | E + 1 => ofDigits N f E * N + f E

theorem ofDigits_congr (N : ℕ) (f g : ℕ → ℕ) :
    ∀ D, (∀ d < D, f d = g d) → ofDigits N f D = ofDigits N g D
  | 0, _ => rfl
  | E + 1, h => by
    simp only [ofDigits]
    rw [ofDigits_congr N f g E (fun d hd => h d (by omega)), h E (by omega)]

theorem ofDigits_lt (N : ℕ) (f : ℕ → ℕ) : ∀ D, (∀ d < D, f d < N) → ofDigits N f D < N ^ D
  | 0, _ => by simp [ofDigits]
  | E + 1, h => by
    have ih := ofDigits_lt N f E (fun d hd => h d (by omega))
    have hE := h E (by omega)
    simp only [ofDigits, pow_succ]
    exact pair_lt ih hE

theorem ofDigits_eq_sum (N : ℕ) (f : ℕ → ℕ) :
    ∀ D, ofDigits N f D = ∑ d ∈ range D, f d * N ^ (D - 1 - d)
  | 0 => by simp [ofDigits]
  | E + 1 => by
    rw [Finset.sum_range_succ, ofDigits, ofDigits_eq_sum N f E, Finset.sum_mul]
    congr 1
    · apply Finset.sum_congr rfl
      intro d hd
      have hd' := Finset.mem_range.mp hd
      rw [mul_assoc, ← pow_succ]
      congr 2
      omega
    · simp

theorem digit_ofDigits (N : ℕ) (f : ℕ → ℕ) : ∀ D, (∀ d < D, f d < N) → ∀ d < D,
    digit D N (ofDigits N f D) d = f d
  | 0, _, d, hd => absurd hd (Nat.not_lt_zero _)
  | E + 1, h, d, hd => by
    have hE := h E (by omega)
    rcases Nat.lt_or_ge d E with hlt | hge
    · rw [digit_succ_of_lt E N _ d hlt, ofDigits, pair_div N _ _ hE]
      exact digit_ofDigits N f E (fun d hd => h d (by omega)) d hlt
    · have hdE : d = E := by omega
      subst hdE
      rw [digit_succ_last, ofDigits, pair_mod N _ _ hE]

theorem ofDigits_digit (N : ℕ) : ∀ D j, j < N ^ D →
    ofDigits N (fun d => digit D N j d) D = j
  | 0, j, hj => by
    have : j = 0 := by simpa using hj
    simp [ofDigits, this]
  | E + 1, j, hj => by
    have hj' : j / N < N ^ E := Nat.div_lt_of_lt_mul (by rw [pow_succ'] at hj; exact hj)
    simp only [ofDigits]
    rw [digit_succ_last,
      ofDigits_congr N _ (fun d => digit E N (j / N) d) E (fun d hd => digit_succ_of_lt E N j d hd),
      ofDigits_digit N E (j / N) hj']
    exact Nat.div_add_mod' j N

end Exponax.SymmetryND

namespace Exponax.AliasND
open Exponax.DFT Exponax.SymmetryND

theorem digit_zero (D N d : ℕ) : digit D N 0 d = 0 := by simp [digit]

theorem digits_inj (N E a b : ℕ) (ha : a < N ^ E) (hb : b < N ^ E)
    (h : ∀ d < E, digit E N a d = digit E N b d) : a = b := by
  rw [← ofDigits_digit N E a ha, ← ofDigits_digit N E b hb]
  exact ofDigits_congr N _ _ E h

theorem sum_digits {M : Type} [AddCommMonoid M] (D N : ℕ) (hN : 0 < N) (Ψ : (Fin D → ℕ) → M) :
    ∑ j ∈ range (N ^ D), Ψ (fun d => digit D N j d)
      = ∑ p ∈ Fintype.piFinset (fun _ : Fin D => range N), Ψ p := by
  apply Finset.sum_bij (fun j _ => fun d : Fin D => digit D N j d)
  · intro j _
    rw [Fintype.mem_piFinset]
    intro d
    exact mem_range.mpr (digit_lt D N j d hN)
  · intro a ha b hb hab
    exact digits_inj N D a b (mem_range.mp ha) (mem_range.mp hb)
      (fun d hd => congrFun hab ⟨d, hd⟩)
  · intro p hp
    rw [Fintype.mem_piFinset] at hp
    have hf : ∀ d < D, (fun d => if h : d < D then p ⟨d, h⟩ else 0) d < N := fun d hd => by
      simp only [hd, dif_pos]
      exact mem_range.mp (hp ⟨d, hd⟩)
    refine ⟨ofDigits N _ D, mem_range.mpr (ofDigits_lt N _ D hf), funext fun d => ?_⟩
    rw [digit_ofDigits N _ D hf d d.2, dif_pos d.2]
  · intro j _
    rfl

/-- `k·j = Σ_d k_d j_d` for a wavenumber vector `k` and the flat grid index `j` -/
def vdot (D N : ℕ) (k : Fin D → ℤ) (j : ℕ) : ℤ := ∑ d : Fin D, k d * (digit D N j d : ℤ)

theorem vdot_add (D N : ℕ) (k k' : Fin D → ℤ) (j : ℕ) :
    vdot D N (k + k') j = vdot D N k j + vdot D N k' j := by
  simp only [vdot, Pi.add_apply, add_mul, Finset.sum_add_distrib]

theorem vdot_neg (D N : ℕ) (k : Fin D → ℤ) (j : ℕ) : vdot D N (-k) j = -vdot D N k j := by
  simp only [vdot, Pi.neg_apply, neg_mul, Finset.sum_neg_distrib]

theorem vdot_sub (D N : ℕ) (k k' : Fin D → ℤ) (j : ℕ) :
    vdot D N (k - k') j = vdot D N k j - vdot D N k' j := by
  rw [sub_eq_add_neg, vdot_add, vdot_neg, sub_eq_add_neg]

theorem vdot_zero_index (D N : ℕ) (k : Fin D → ℤ) : vdot D N k 0 = 0 := by
  simp only [vdot, digit_zero, Nat.cast_zero, mul_zero, Finset.sum_const_zero]

theorem vdot_zero (D N j : ℕ) : vdot D N 0 j = 0 := by
  simp only [vdot, Pi.zero_apply, zero_mul, Finset.sum_const_zero]

theorem zeta_zpow_sum {ι : Type} (N : ℕ) (s : Finset ι) (e : ι → ℤ) :
    zeta N ^ (∑ d ∈ s, e d) = ∏ d ∈ s, zeta N ^ e d := by
  classical
  induction s using Finset.induction_on with
  | empty => simp
  | insert a s ha ih => rw [Finset.sum_insert ha, Finset.prod_insert ha, zpow_add₀ (zeta_ne_zero N), ih]

/-- orthogonality of the characters of the grid: the sum factors over the axes into 1-D sums `zeta_sum_zpow` -/
theorem sum_zeta_vdot (D N : ℕ) (hN : 0 < N) (k : Fin D → ℤ) :
    ∑ j ∈ range (N ^ D), zeta N ^ vdot D N k j
      = if ∀ d, (N : ℤ) ∣ k d then ((N ^ D : ℕ) : ℂ) else 0 := by
  have h1 : ∀ j ∈ range (N ^ D), zeta N ^ vdot D N k j
      = (fun p : Fin D → ℕ => ∏ d : Fin D, zeta N ^ (k d * (p d : ℤ))) (fun d => digit D N j d) := by
    intro j _
    unfold vdot
    rw [zeta_zpow_sum]
  rw [Finset.sum_congr rfl h1,
    sum_digits D N hN (fun p : Fin D → ℕ => ∏ d : Fin D, zeta N ^ (k d * (p d : ℤ))),
    ← Finset.prod_univ_sum (fun _ : Fin D => range N) (fun (d : Fin D) (i : ℕ) => zeta N ^ (k d * (i : ℤ)))]
  simp only [zeta_sum_zpow N hN]
  rw [Finset.prod_ite_zero]
  simp only [Finset.mem_univ, forall_true_left, Finset.prod_const, Finset.card_univ, Fintype.card_fin]
  push_cast
  rfl

/-- the digits of the flat index `a` as an integer vector, the form `sum_zeta_vdot` takes -/
def digZ (D N a : ℕ) : Fin D → ℤ := fun d => (digit D N a d : ℤ)

theorem vdot_digits (D N a j : ℕ) : vdot D N (digZ D N a) j = dotPhase D N a j := by
  unfold vdot dotPhase digZ
  rw [Finset.sum_range]

end Exponax.AliasND

namespace Exponax.DFT
open Exponax.AliasND

theorem dotPhase_orth (N : ℕ) (hN : 0 < N) (E b1 b2 : ℕ) (h1 : b1 < N ^ E) (h2 : b2 < N ^ E) :
    ∑ a ∈ range (N ^ E), zeta N ^ (dotPhase E N a b1 - dotPhase E N a b2)
      = if b1 = b2 then ((N ^ E : ℕ) : ℂ) else 0 := by
  have hterm : ∀ a ∈ range (N ^ E), zeta N ^ (dotPhase E N a b1 - dotPhase E N a b2)
      = zeta N ^ vdot E N (digZ E N b1 - digZ E N b2) a := fun a _ => by
    rw [vdot_sub, vdot_digits, vdot_digits, dotPhase_comm E N a, dotPhase_comm E N a]
  rw [Finset.sum_congr rfl hterm, sum_zeta_vdot E N hN]
  refine if_congr ⟨fun h => digits_inj N E b1 b2 h1 h2 fun d hd => ?_, fun h d => by rw [h, sub_self]; exact dvd_zero _⟩
    rfl rfl
  exact (natCast_dvd_sub_iff N _ _ (digit_lt E N b1 d hN) (digit_lt E N b2 d hN)).mp (h ⟨d, hd⟩)

end Exponax.DFT
