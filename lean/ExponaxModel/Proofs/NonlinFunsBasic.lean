import ExponaxModel.Proofs.LerayBasic
import ExponaxModel.Generated.NonlinFuns
/-
Read-off and congruence lemmas for comparing generated array programs with the model at `K := ℂ`: `tab`, `tab2`,
`tabC`, `nfft`, `nifft`, `sumRange` depend only on the entries below their static extents.
-/
namespace Exponax.NonlinFunsEq
open Exponax Exponax.Layout Exponax.Transform Exponax.Nonlin

export Exponax.Nonlin (tabC_congr tabC_getD tab2_getD nifft_congr nfft_congr)
export Exponax.DFT (sumRange_congr rfftnM_congr irfftnM_congr rfftnM_tab)

theorem tabC_getD_self (D : ℕ) (u : MC ℂ) (hu : u.size = D) : tabC D (fun i => u.getD i #[]) = u := by
  unfold tabC tab
  apply Array.ext
  · simp [hu]
  · intro i h1 h2
    simp [Array.getD, h2]

/- For a transform `T` that only reads the entries below `n` (`hT`; instances: the four `_congr` lemmas of the
   transforms), storing its argument first changes nothing: for one array, for the rows of a stored array, for the
   channels of a given one. -/
section readsBelow
variable {n : ℕ} {T : Array ℂ → Array ℂ}

theorem readsBelow_tab (hT : ∀ a b : Array ℂ, (∀ x, x < n → a.getD x 0 = b.getD x 0) → T a = T b) (a : Array ℂ) :
    T (tab n (fun x => a.getD x 0)) = T a :=
  hT _ _ (fun _ hx => tab_getD _ _ _ _ hx)

theorem readsBelow_rows (hT : ∀ a b : Array ℂ, (∀ x, x < n → a.getD x 0 = b.getD x 0) → T a = T b) (A : ℕ)
    (f : ℕ → ℕ → ℂ) :
    tabC A (fun p => T (tab n (fun x => at2 (tab2 A n f) p x))) = tabC A (fun p => T (tab n (f p))) := by
  apply tabC_congr; intro p hp
  apply hT; intro x hx
  rw [tab_getD _ _ _ _ hx, tab_getD _ _ _ _ hx, at2_tab2 _ _ _ _ _ hp hx]

theorem readsBelow_channels (hT : ∀ a b : Array ℂ, (∀ x, x < n → a.getD x 0 = b.getD x 0) → T a = T b) (C : ℕ)
    (u : MC ℂ) :
    tabC C (fun i => T (tab n (fun x => at2 u i x))) = tabC C (fun ch => T (u.getD ch #[])) :=
  tabC_congr _ _ _ (fun _ _ => readsBelow_tab hT _)

end readsBelow

theorem nifft_tab (c : Cfg ℂ) (a : Array ℂ) : nifft c (tab (modes c) (fun h => a.getD h 0)) = nifft c a :=
  readsBelow_tab (nifft_congr c) a

theorem nfft_tab (c : Cfg ℂ) (a : Array ℂ) : nfft c (tab (gridSize c) (fun x => a.getD x 0)) = nfft c a :=
  readsBelow_tab (nfft_congr c) a

theorem tab2_eq_tabC (nc n : ℕ) (f : ℕ → ℕ → ℂ) : tab2 nc n f = tabC nc (fun i => tab n (f i)) := rfl

theorem flat_div (i j B : ℕ) (hj : j < B) : (i * B + j) / B = i := DFT.pair_div B i j hj

theorem flat_mod (i j B : ℕ) (hj : j < B) : (i * B + j) % B = j := Nat.mul_add_mod_of_lt hj

theorem flat_div_lt (p A B : ℕ) (hp : p < A * B) : p / B < A := by
  apply Nat.div_lt_of_lt_mul
  rwa [Nat.mul_comm]

theorem flat_mod_lt (p A B : ℕ) (hp : p < A * B) : p % B < B := by
  apply Nat.mod_lt
  rcases Nat.eq_zero_or_pos B with h | h
  · subst h; simp at hp
  · exact h

theorem map_range_two {α : Type} (f : ℕ → α) : List.map f (List.range 2) = [f 0, f 1] := by
  simp [List.range_succ]

theorem map_range_three {α : Type} (f : ℕ → α) : List.map f (List.range 3) = [f 0, f 1, f 2] := by
  simp [List.range_succ]

theorem at2_tab2_flat (A B n : ℕ) (f : ℕ → ℕ → ℂ) (i j x : ℕ) (hi : i < A) (hj : j < B) (hx : x < n) :
    at2 (tab2 (A * B) n f) (i * B + j) x = f (i * B + j) x :=
  at2_tab2 _ _ _ _ _ (DFT.pair_lt hi hj) hx

theorem at2_tabC_flat (A B : ℕ) (f : ℕ → Array ℂ) (i j x : ℕ) (hi : i < A) (hj : j < B) :
    at2 (tabC (A * B) f) (i * B + j) x = (f (i * B + j)).getD x 0 :=
  at2_tabC _ _ _ _ (DFT.pair_lt hi hj)

theorem at2_flat_self (u : MC ℂ) (p B x : ℕ) : at2 u (p / B * B + p % B) x = at2 u p x := by
  rw [Nat.mul_comm, Nat.div_add_mod]

theorem rfftnM_retab (D N : ℕ) (a : Array ℂ) :
    tab (numModes D N) (fun h => (rfftnM D N a).getD h 0) = rfftnM D N a := by
  unfold rfftnM
  exact tab_congr _ _ _ (fun h hh => tab_getD _ _ _ _ hh)

theorem fft_rows (c : Cfg ℂ) (A : ℕ) (f : ℕ → ℕ → ℂ) :
    tabC A (fun p => nfft c (tab (gridSize c) (fun x => at2 (tab2 A (gridSize c) f) p x)))
      = tabC A (fun p => nfft c (tab (gridSize c) (f p))) :=
  readsBelow_rows (nfft_congr c) A f

theorem ifft_rows (c : Cfg ℂ) (A : ℕ) (f : ℕ → ℕ → ℂ) :
    tabC A (fun p => nifft c (tab (modes c) (fun h => at2 (tab2 A (modes c) f) p h)))
      = tabC A (fun p => nifft c (tab (modes c) (f p))) :=
  readsBelow_rows (nifft_congr c) A f

theorem fft_rows' (c : Cfg ℂ) (A : ℕ) (f : ℕ → ℕ → ℂ) :
    tabC A (fun p => nfft c ((tab2 A (gridSize c) f).getD p #[])) = tabC A (fun p => nfft c (tab (gridSize c) (f p))) := by
  apply tabC_congr; intro p hp
  rw [tab2_getD _ _ _ _ hp]

/-- the physical channels, as the generated code and the model compute them -/
theorem ifft_channels (c : Cfg ℂ) (C : ℕ) (uh : MC ℂ) :
    tabC C (fun i0 => nifft c (tab (modes c) (fun h => at2 uh i0 h))) = tabC C (fun ch => nifft c (uh.getD ch #[])) :=
  readsBelow_channels (nifft_congr c) C uh

theorem fft_channels (c : Cfg ℂ) (C : ℕ) (u : MC ℂ) :
    tabC C (fun i0 => nfft c (tab (gridSize c) (fun x => at2 u i0 x))) = tabC C (fun ch => nfft c (u.getD ch #[])) :=
  readsBelow_channels (nfft_congr c) C u

theorem getD_two (a b : ℂ) (i : ℕ) (hi : i < 2) : [a, b].getD i 0 = if i = 0 then a else b := by
  interval_cases i <;> rfl

theorem getD_three (a b c : ℂ) (i : ℕ) (hi : i < 3) :
    [a, b, c].getD i 0 = if i = 0 then a else if i = 1 then b else c := by
  interval_cases i <;> rfl

theorem not_two_eq_zero : ¬ (2 : ℕ) = 0 := by decide
theorem not_two_eq_one : ¬ (2 : ℕ) = 1 := by decide
theorem not_one_eq_zero : ¬ (1 : ℕ) = 0 := by decide

theorem ite_bnot (b : Bool) (x y : ℂ) : (if (!b) = true then x else y) = if b = true then y else x := by
  cases b <;> rfl

theorem npow_two (x : ℂ) : npow x 2 = x * x := by simp [npow]
theorem npow_three (x : ℂ) : npow x 3 = x * x * x := by simp [npow]
theorem lit_zero : (lit 0 : ℂ) = 0 := by simp
theorem lit_one : (lit 1 : ℂ) = 1 := by simp

theorem laplace_op_deriv (c : Cfg ℂ) (order h : ℕ) :
    Gen.Steppers.laplace_op (List.map (fun k => Nonlin.deriv c k h) (List.range c.D)) order = laplace c order h := by
  unfold Gen.Steppers.laplace_op laplace
  split_ifs
  · rfl
  · rw [List.map_map]; rfl

end Exponax.NonlinFunsEq
