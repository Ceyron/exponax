import ExponaxModel.Properties.C02
import Mathlib.Analysis.Calculus.Deriv.Inv
import Mathlib.Analysis.SpecialFunctions.ExpDeriv
import Mathlib.Analysis.Calculus.FDeriv.Prod
/-
The fourteen stored ETDRK coefficients as ONE object: `storedCoef dt λ M r i = dt · contourMean (rawPhi · i) (λ dt)`,
`i : Fin 14`.  A property of a coefficient is a property of the closed form `rawPhi · i` at the nodes `r ζ_j + z`
(all `≠ 0` in every use) carried through `dt · mean`; this file has the carrying lemmas and, with them, smoothness
(`storedCoef_differentiableAt_*`); the libraries above it (`Stiffness`: bounds, `ContourComplex`: accuracy,
`RepeatedPhysicalEtdrkCoef`: conjugation) have one lemma each about `rawPhi` and one theorem over `i`.
The names are `ContourComplex.*` and `Diff.NodesAvoidZero`: the namespaces of the libraries whose statements cite them.
-/
namespace Exponax.ContourComplex
open Exponax Exponax.Spec Exponax.Gen.Etdrk

/- index `0`: ETDRK1; `1, 2`: ETDRK2; `3 … 7`: ETDRK3 `coef_1 … 5`; `8 … 13`: ETDRK4 `coef_1 … 6`.  `rawPhi`, `exactPhi` and
   `coefWeight` (ContourComplex.lean) list the φ-combination and its weight `Σ |a_j|/j!` in the same order. -/
noncomputable def storedCoef (dt lam : ℂ) (M : ℕ) (r : ℂ) : Fin 14 → ℂ :=
  ![E1_coef_1 dt lam M r, E2_coef_1 dt lam M r, E2_coef_2 dt lam M r,
    E3_coef_1 dt lam M r, E3_coef_2 dt lam M r, E3_coef_3 dt lam M r, E3_coef_4 dt lam M r,
    E3_coef_5 dt lam M r,
    E4_coef_1 dt lam M r, E4_coef_2 dt lam M r, E4_coef_3 dt lam M r, E4_coef_4 dt lam M r,
    E4_coef_5 dt lam M r, E4_coef_6 dt lam M r]

/-- the closed forms under the fourteen contour means, as written in the code (total division) -/
noncomputable def rawPhi (w : ℂ) : Fin 14 → ℂ :=
  ![phi1 w, phi1 w, phi2 w,
    phi1 (w / 2) / 2, phi1 w, phi1 w - 3 * phi2 w + 4 * phi3 w, 4 * phi2 w - 8 * phi3 w,
    4 * phi3 w - phi2 w,
    phi1 (w / 2) / 2, phi1 (w / 2) / 2, phi1 (w / 2) / 2, phi1 w - 3 * phi2 w + 4 * phi3 w,
    phi2 w - 2 * phi3 w, 4 * phi3 w - phi2 w]

/-! A statement `∀ i : Fin 14, P i` about these vectors is proved by unrolling it into its fourteen
entries (`Fin.forall_fin_succ` with the `Matrix.cons_val` lemmas). -/

theorem storedCoef_eq_rawMean (dt lam r : ℂ) (M : ℕ) : ∀ i : Fin 14,
    storedCoef dt lam M r i
      = dt * contourMean (roots_of_unity M) r (fun w => rawPhi w i) (lam * dt) := by
  unfold storedCoef rawPhi
  simp only [Fin.forall_fin_succ, Matrix.cons_val_zero, Matrix.cons_val_succ]
  exact ⟨C02_coef_E1_1 dt lam r M, C02_coef_E2_1 dt lam r M, C02_coef_E2_2 dt lam r M,
    C02_coef_E3_1 dt lam r M, C02_coef_E3_2 dt lam r M, C02_coef_E3_3 dt lam r M,
    C02_coef_E3_4 dt lam r M, C02_coef_E3_5 dt lam r M, C02_coef_E4_1 dt lam r M,
    C02_coef_E4_1 dt lam r M, C02_coef_E4_1 dt lam r M, C02_coef_E4_4 dt lam r M,
    C02_coef_E4_5 dt lam r M, C02_coef_E4_6 dt lam r M, fun i => i.elim0⟩

theorem norm_contourMean_le (M : ℕ) (hM : 0 < M) (r z : ℂ) (f : ℂ → ℂ) (C : ℝ)
    (h : ∀ ζ ∈ (roots_of_unity M : List ℂ), ‖f (r * ζ + z)‖ ≤ C) :
    ‖contourMean (roots_of_unity M) r f z‖ ≤ C := by
  rw [contourMean_eq, length_roots, norm_div, Complex.norm_natCast,
    div_le_iff₀ (by exact_mod_cast hM), mul_comm]
  simpa using norm_list_map_sum_le (roots_of_unity M) (fun ζ => f (r * ζ + z)) C h

theorem differentiableAt_contourMean (l : List ℂ) (r : ℂ) (f : ℂ → ℂ) (z₀ : ℂ)
    (h : ∀ ζ ∈ l, DifferentiableAt ℂ f (r * ζ + z₀)) :
    DifferentiableAt ℂ (contourMean l r f) z₀ := by
  have hs : DifferentiableAt ℂ (fun z => (l.map (fun ζ => f (r * ζ + z))).sum) z₀ := by
    induction l with
    | nil => simp
    | cons a l ih =>
      simp only [List.map_cons, List.sum_cons]
      exact ((h a List.mem_cons_self).comp z₀ ((differentiableAt_id).const_add _)).add
        (ih fun ζ hζ => h ζ (List.mem_cons_of_mem a hζ))
  exact (hs.div_const _).congr_of_eventuallyEq (.of_forall fun z => contourMean_eq l r f z)

theorem differentiableAt_dt_mul_contourMean (M : ℕ) (r : ℂ) (f : ℂ → ℂ) (dt₀ lam₀ : ℂ)
    (hf : ∀ w, w ≠ 0 → DifferentiableAt ℂ f w) (h : ∀ ζ ∈ (roots_of_unity M : List ℂ), r * ζ + lam₀ * dt₀ ≠ 0) :
    DifferentiableAt ℂ
      (fun p : ℂ × ℂ => p.1 * contourMean (roots_of_unity M) r f (p.2 * p.1)) (dt₀, lam₀) := by
  have hm : DifferentiableAt ℂ (fun p : ℂ × ℂ => p.2 * p.1) (dt₀, lam₀) :=
    differentiableAt_snd.mul differentiableAt_fst
  have hc : DifferentiableAt ℂ (fun p : ℂ × ℂ => contourMean (roots_of_unity M) r f (p.2 * p.1))
      (dt₀, lam₀) :=
    DifferentiableAt.comp (g := contourMean (roots_of_unity M) r f) (dt₀, lam₀)
      (differentiableAt_contourMean _ r f _ fun ζ hζ => hf _ (h ζ hζ)) hm
  exact differentiableAt_fst.mul hc

theorem differentiableAt_rawPhi (w : ℂ) (hw : w ≠ 0) :
    ∀ i : Fin 14, DifferentiableAt ℂ (fun w => rawPhi w i) w := by
  have d1 : DifferentiableAt ℂ phi1 w := by
    unfold phi1
    simp only [hasExp_complex]
    fun_prop (disch := exact hw)
  have d2 : DifferentiableAt ℂ phi2 w := by
    unfold phi2
    simp only [hasExp_complex]
    fun_prop (disch := exact mul_ne_zero hw hw)
  have d3 : DifferentiableAt ℂ phi3 w := by
    unfold phi3
    simp only [hasExp_complex, lit_eq]
    fun_prop (disch := exact mul_ne_zero (mul_ne_zero hw hw) hw)
  have dh : DifferentiableAt ℂ (fun w => phi1 (w / 2) / 2) w := by
    unfold phi1
    simp only [hasExp_complex]
    fun_prop (disch := exact div_ne_zero hw two_ne_zero)
  unfold rawPhi
  simp only [Fin.forall_fin_succ, Matrix.cons_val_zero, Matrix.cons_val_succ]
  exact ⟨d1, d1, d2, dh, d1, (d1.sub (d2.const_mul 3)).add (d3.const_mul 4),
    (d2.const_mul 4).sub (d3.const_mul 8), (d3.const_mul 4).sub d2, dh, dh, dh,
    (d1.sub (d2.const_mul 3)).add (d3.const_mul 4), d2.sub (d3.const_mul 2),
    (d3.const_mul 4).sub d2, fun i => i.elim0⟩

theorem differentiableAt_lam_of_joint {f : ℂ × ℂ → ℂ} {dt₀ lam₀ : ℂ} (h : DifferentiableAt ℂ f (dt₀, lam₀)) :
    DifferentiableAt ℂ (fun lam => f (dt₀, lam)) lam₀ :=
  h.comp lam₀ ((differentiableAt_const dt₀).prodMk differentiableAt_id)

theorem differentiableAt_dt_of_joint {f : ℂ × ℂ → ℂ} {dt₀ lam₀ : ℂ} (h : DifferentiableAt ℂ f (dt₀, lam₀)) :
    DifferentiableAt ℂ (fun dt => f (dt, lam₀)) dt₀ :=
  h.comp dt₀ (differentiableAt_id.prodMk (differentiableAt_const lam₀))

/-- the node condition: no contour node is the removable singularity -/
def _root_.Exponax.Diff.NodesAvoidZero (M : ℕ) (r z : ℂ) : Prop := ∀ ζ ∈ (roots_of_unity M : List ℂ), r * ζ + z ≠ 0

section Joint
variable (M : ℕ) (r dt₀ lam₀ : ℂ) (h : Diff.NodesAvoidZero M r (lam₀ * dt₀)) (i : Fin 14)
include h

theorem storedCoef_differentiableAt_joint :
    DifferentiableAt ℂ (fun p : ℂ × ℂ => storedCoef p.1 p.2 M r i) (dt₀, lam₀) := by
  simp only [storedCoef_eq_rawMean]
  exact differentiableAt_dt_mul_contourMean M r _ dt₀ lam₀
    (fun w hw => differentiableAt_rawPhi w hw i) h

theorem storedCoef_differentiableAt_lam :
    DifferentiableAt ℂ (fun lam => storedCoef dt₀ lam M r i) lam₀ :=
  differentiableAt_lam_of_joint (storedCoef_differentiableAt_joint M r dt₀ lam₀ h i)

theorem storedCoef_differentiableAt_dt :
    DifferentiableAt ℂ (fun dt => storedCoef dt lam₀ M r i) dt₀ :=
  differentiableAt_dt_of_joint (storedCoef_differentiableAt_joint M r dt₀ lam₀ h i)

end Joint

end Exponax.ContourComplex
