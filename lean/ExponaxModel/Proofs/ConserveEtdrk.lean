import ExponaxModel.Properties.C02
import ExponaxModel.Proofs.EtdrkStages
/-
C09 — the regenerated ETDRK stage formulas `Gen.Etdrk.E?step` keep the mean mode and keep equilibria; the hand-written
Cox–Matthews schemes `Spec.cm?` follow through `C02_step_E?` (`C09_fixed_point`; here only the zero symbol).
-/
namespace Exponax.Conserve
open Exponax Exponax.Spec Exponax.Gen.Etdrk

/-! ### The mean mode is kept by every ETDRK order

`ℕ → ℂ` are the mode-indexed spectra of one channel, with the pointwise ring structure; the
propagator array has `E 0 = 1` (the linear symbol vanishes at the mean mode) and the nonlinear term
has no mean (`N v 0 = 0`). -/

/-- evaluation at mode `0` is a ring homomorphism that `N` does not feed -/
theorem mean_all_orders (E Eh a1 a2 a3 a4 a5 a6 : ℕ → ℂ) (N : (ℕ → ℂ) → (ℕ → ℂ)) (hE : E 0 = 1)
    (hN : ∀ v, N v 0 = 0) (n : ℕ) :
    Etdrk.EtdrkAll (fun step => ∀ u : ℕ → ℂ, (step^[n] u) 0 = u 0) E Eh a1 a2 a3 a4 a5 a6 N :=
  (Etdrk.etdrkAll_conserved (P := fun _ => True) (C := fun _ => True)
    ⟨fun _ _ => trivial, fun _ _ => trivial, fun _ _ => trivial, trivial⟩ (fun _ _ => trivial)
    (Pi.evalRingHom (fun _ => ℂ) 0) (fun v _ => hN v) trivial trivial trivial trivial trivial trivial trivial trivial
    hE n).mono fun _ h u => (h u trivial).2

theorem mean_E4step_iterate (E Eh a1 a2 a3 a4 a5 a6 : ℕ → ℂ) (N : (ℕ → ℂ) → (ℕ → ℂ))
    (hE : E 0 = 1) (hN : ∀ v, N v 0 = 0) (n : ℕ) (u : ℕ → ℂ) :
    ((E4step E Eh a1 a2 a3 a4 a5 a6 N)^[n] u) 0 = u 0 :=
  (mean_all_orders E Eh a1 a2 a3 a4 a5 a6 N hE hN n).2.2.2.2 u

theorem exp_term_zero (dt : ℂ) : exp_term dt 0 = 1 := by
  simp [exp_term]

theorem half_exp_term_zero_E3 (dt r : ℂ) (M : ℕ) : E3_half_exp_term dt 0 M r = 1 := by
  simp [E3_half_exp_term]

theorem half_exp_term_zero_E4 (dt r : ℂ) (M : ℕ) : E4_half_exp_term dt 0 M r = 1 := by
  simp [E4_half_exp_term]

theorem mean_E4step_of_symbol (dt r : ℂ) (M : ℕ) (L a1 a2 a3 a4 a5 a6 : ℕ → ℂ)
    (N : (ℕ → ℂ) → (ℕ → ℂ)) (hL : L 0 = 0) (hN : ∀ v, N v 0 = 0) (n : ℕ) (u : ℕ → ℂ) :
    ((E4step (fun h => exp_term dt (L h)) (fun h => E4_half_exp_term dt (L h) M r)
        a1 a2 a3 a4 a5 a6 N)^[n] u) 0 = u 0 :=
  mean_E4step_iterate _ _ a1 a2 a3 a4 a5 a6 N (by simp only [hL, exp_term_zero]) hN n u

/-! ### Equilibria are fixed points (per mode)

`λ u + N u = 0`, exact coefficients: every stage `A u + B N(u)` has the defect `A − 1 − λ B = 0`
(`Etdrk.fixed_E?step_of_defect`).  `N` is ANY map: it is only ever evaluated at stages that all equal `u`. -/

theorem defect_exact (dt lam a : ℂ) (hdt : dt ≠ 0) (ha : lam ≠ 0 → a = dt * phi1 (dt * lam)) :
    Complex.exp (dt * lam) - 1 - lam * a = 0 := by
  rcases eq_or_ne lam 0 with h0 | h0
  · rw [h0, mul_zero, Complex.exp_zero, zero_mul, sub_self, sub_zero]
  · rw [ha h0]
    simp only [phi1, hasExp_complex]
    field_simp
    ring

/-- the half step is the full step with `dt/2` -/
theorem defect_exact_half (dt lam a : ℂ) (hdt : dt ≠ 0) (ha : lam ≠ 0 → a = dt * (phi1 (dt * lam / 2) / 2)) :
    Complex.exp (dt * lam / 2) - 1 - lam * a = 0 := by
  have h := defect_exact (dt / 2) lam a (div_ne_zero hdt two_ne_zero)
    (fun h0 => by rw [ha h0, div_mul_eq_mul_div dt 2 lam]; ring)
  rwa [div_mul_eq_mul_div] at h

theorem fixed_E1step (dt lam u : ℂ) (N : ℂ → ℂ) (hz : dt * lam ≠ 0) (heq : lam * u + N u = 0) :
    E1step (Complex.exp (dt * lam)) (dt * phi1 (dt * lam)) N u = u :=
  Etdrk.fixed_E1step_of_defect N u lam heq _ _
    (mul_eq_zero_of_left (defect_exact dt lam _ (left_ne_zero_of_mul hz) fun _ => rfl) u)

theorem fixed_E2step (dt lam u : ℂ) (N : ℂ → ℂ) (hz : dt * lam ≠ 0) (heq : lam * u + N u = 0) :
    E2step (Complex.exp (dt * lam)) (dt * phi1 (dt * lam)) (dt * phi2 (dt * lam)) N u = u :=
  Etdrk.fixed_E2step_of_defect N u lam heq _ _ _
    (mul_eq_zero_of_left (defect_exact dt lam _ (left_ne_zero_of_mul hz) fun _ => rfl) u)

theorem fixed_E3step (dt lam u : ℂ) (N : ℂ → ℂ) (hz : dt * lam ≠ 0) (heq : lam * u + N u = 0) :
    let z := dt * lam
    E3step (Complex.exp z) (Complex.exp (z / 2)) (dt * (phi1 (z / 2) / 2)) (dt * phi1 z)
      (dt * (phi1 z - 3 * phi2 z + 4 * phi3 z)) (dt * (4 * phi2 z - 8 * phi3 z))
      (dt * (4 * phi3 z - phi2 z)) N u = u := by
  have hdt := left_ne_zero_of_mul hz
  -- the three weights add up to `dt φ₁`
  exact Etdrk.fixed_E3step_of_defect N u lam heq _ _ _ _ _ _ _
    (mul_eq_zero_of_left (defect_exact_half dt lam _ hdt fun _ => rfl) u)
    (mul_eq_zero_of_left (defect_exact dt lam _ hdt fun _ => rfl) u)
    (mul_eq_zero_of_left (defect_exact dt lam _ hdt fun _ => by ring) u)

theorem fixed_E4step (dt lam u : ℂ) (N : ℂ → ℂ) (hz : dt * lam ≠ 0) (heq : lam * u + N u = 0) :
    let z := dt * lam
    let ah := dt * (phi1 (z / 2) / 2)
    E4step (Complex.exp z) (Complex.exp (z / 2)) ah ah ah
      (dt * (phi1 z - 3 * phi2 z + 4 * phi3 z)) (dt * (phi2 z - 2 * phi3 z))
      (dt * (4 * phi3 z - phi2 z)) N u = u := by
  have hdt := left_ne_zero_of_mul hz
  have hh := mul_eq_zero_of_left (defect_exact_half dt lam _ hdt fun _ => rfl) u
  exact Etdrk.fixed_E4step_of_defect N u lam heq _ _ _ _ _ _ _ _ hh hh hh
    (mul_eq_zero_of_left (defect_exact dt lam _ hdt fun _ => by ring) u)

theorem fixed_E4step_gen (dt lam r u : ℂ) (M : ℕ) (N : ℂ → ℂ) (hz : dt * lam ≠ 0)
    (heq : lam * u + N u = 0) :
    let z := dt * lam
    let ah := dt * (phi1 (z / 2) / 2)
    E4step (exp_term dt lam) (E4_half_exp_term dt lam M r) ah ah ah
      (dt * (phi1 z - 3 * phi2 z + 4 * phi3 z)) (dt * (phi2 z - 2 * phi3 z))
      (dt * (4 * phi3 z - phi2 z)) N u = u := by
  intro z ah
  rw [C02_exp_term, C02_half_exp_term_E4]
  exact fixed_E4step dt lam u N hz heq

theorem fixed_E3step_gen (dt lam r u : ℂ) (M : ℕ) (N : ℂ → ℂ) (hz : dt * lam ≠ 0)
    (heq : lam * u + N u = 0) :
    let z := dt * lam
    E3step (exp_term dt lam) (E3_half_exp_term dt lam M r) (dt * (phi1 (z / 2) / 2)) (dt * phi1 z)
      (dt * (phi1 z - 3 * phi2 z + 4 * phi3 z)) (dt * (4 * phi2 z - 8 * phi3 z))
      (dt * (4 * phi3 z - phi2 z)) N u = u := by
  intro z
  rw [C02_exp_term, C02_half_exp_term_E3]
  exact fixed_E3step dt lam u N hz heq

theorem fixed_of_lambda_zero (a1 a2 a3 a4 a5 a6 u : ℂ) (N : ℂ → ℂ) (hN : N u = 0) :
    E0step 1 u = u ∧ E1step 1 a1 N u = u ∧ E2step 1 a1 a2 N u = u ∧
    E3step 1 1 a1 a2 a3 a4 a5 N u = u ∧ E4step 1 1 a1 a2 a3 a4 a5 a6 N u = u := by
  simp only [E0step, E1step, E2step, E3step, E4step, hN, one_mul, mul_zero, add_zero, sub_zero,
    and_self]

theorem fixed_cm_of_lambda_zero (ah a1 a2 b1 b2 b3 u : ℂ) (N : ℂ → ℂ) (hN : N u = 0) :
    cm1 1 a1 N u = u ∧ cm2 1 a1 a2 N u = u ∧ cm3 1 1 ah a1 b1 b2 b3 N u = u ∧
    cm4 1 1 ah b1 b2 b3 N u = u := by
  simp only [cm1, cm2, cm3, cm4, hN, one_mul, mul_zero, add_zero, sub_zero, and_self]

/-! ### Fixed points on the whole spectrum (function ring `ℕ → ℂ`, ANY nonlinear map on spectra)

`L` is the linear symbol array, `u` a spectrum with `L h · u h + N(u) h = 0` at every mode.  The
coefficient arrays are the exact ones wherever `L h ≠ 0`; where `L h = 0` (the mean mode, say) they
are ARBITRARY — there `N(u) h = 0` by the equilibrium condition and `E = Eh = 1`. -/

theorem defect_exact_spectrum (dt : ℂ) (hdt : dt ≠ 0) (L a u : ℕ → ℂ)
    (ha : ∀ h, L h ≠ 0 → a h = dt * phi1 (dt * L h)) : ((fun h => exp_term dt (L h)) - 1 - L * a) * u = 0 :=
  Etdrk.defect_mul_spectrum _ u fun h _ => by
    show exp_term dt (L h) - 1 - L h * a h = 0
    rw [C02_exp_term]
    exact defect_exact dt (L h) (a h) hdt (ha h)

theorem defect_exact_half_spectrum (dt : ℂ) (hdt : dt ≠ 0) (L Eh a u : ℕ → ℂ)
    (hEh : ∀ h, Eh h = Complex.exp (dt * L h / 2)) (ha : ∀ h, L h ≠ 0 → a h = dt * (phi1 (dt * L h / 2) / 2)) :
    (Eh - 1 - L * a) * u = 0 :=
  Etdrk.defect_mul_spectrum _ u fun h _ => by
    show Eh h - 1 - L h * a h = 0
    rw [hEh]
    exact defect_exact_half dt (L h) (a h) hdt (ha h)

theorem fixed_E1step_spectrum (dt : ℂ) (hdt : dt ≠ 0) (L a1 u : ℕ → ℂ) (N : (ℕ → ℂ) → (ℕ → ℂ))
    (ha1 : ∀ h, L h ≠ 0 → a1 h = dt * phi1 (dt * L h))
    (heq : ∀ h, L h * u h + N u h = 0) :
    E1step (fun h => exp_term dt (L h)) a1 N u = u :=
  Etdrk.fixed_E1step_of_defect N u L (funext heq) _ a1 (defect_exact_spectrum dt hdt L a1 u ha1)

theorem fixed_E2step_spectrum (dt : ℂ) (hdt : dt ≠ 0) (L a1 a2 u : ℕ → ℂ) (N : (ℕ → ℂ) → (ℕ → ℂ))
    (ha1 : ∀ h, L h ≠ 0 → a1 h = dt * phi1 (dt * L h))
    (heq : ∀ h, L h * u h + N u h = 0) :
    E2step (fun h => exp_term dt (L h)) a1 a2 N u = u :=
  Etdrk.fixed_E2step_of_defect N u L (funext heq) _ a1 a2 (defect_exact_spectrum dt hdt L a1 u ha1)

theorem fixed_E3step_spectrum (dt r : ℂ) (M : ℕ) (hdt : dt ≠ 0) (L ah a1 b1 b2 b3 u : ℕ → ℂ)
    (N : (ℕ → ℂ) → (ℕ → ℂ))
    (hah : ∀ h, L h ≠ 0 → ah h = dt * (phi1 (dt * L h / 2) / 2))
    (ha1 : ∀ h, L h ≠ 0 → a1 h = dt * phi1 (dt * L h))
    (hb1 : ∀ h, L h ≠ 0 → b1 h = dt * (phi1 (dt * L h) - 3 * phi2 (dt * L h) + 4 * phi3 (dt * L h)))
    (hb2 : ∀ h, L h ≠ 0 → b2 h = dt * (4 * phi2 (dt * L h) - 8 * phi3 (dt * L h)))
    (hb3 : ∀ h, L h ≠ 0 → b3 h = dt * (4 * phi3 (dt * L h) - phi2 (dt * L h)))
    (heq : ∀ h, L h * u h + N u h = 0) :
    E3step (fun h => exp_term dt (L h)) (fun h => E3_half_exp_term dt (L h) M r)
      ah a1 b1 b2 b3 N u = u := by
  refine Etdrk.fixed_E3step_of_defect N u L (funext heq) _ _ ah a1 b1 b2 b3
    (defect_exact_half_spectrum dt hdt L (fun h => E3_half_exp_term dt (L h) M r) ah u
      (fun h => C02_half_exp_term_E3 dt (L h) r M) hah)
    (defect_exact_spectrum dt hdt L a1 u ha1)
    (defect_exact_spectrum dt hdt L (b1 + b2 + b3) u fun h h0 => ?_)
  simp only [Pi.add_apply, hb1 h h0, hb2 h h0, hb3 h h0]
  ring

end Exponax.Conserve
