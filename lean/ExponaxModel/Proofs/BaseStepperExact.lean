import ExponaxModel.Proofs.BaseStepperGenEq
import Mathlib.Tactic
/-
The bridge between the two carriers of the regenerated `BaseStepper` (`Generated/BaseStepperGen.lean`):
`BaseStepper_step_fourier` acts on whole spectra as functions `Spec = ℕ → ℕ → ℂ` (channel, stored mode),
`BaseStepper_step` / `BaseStepper_call` on arrays `MC ℂ = Array (Array ℂ)`.  `liftStepFourier` runs a step on `Spec` on
stored arrays (read with zero outside the array, step, tabulate); with it `Properties/C01_call.lean` says that `__call__`
of a one-channel, order-0 stepper is `ExactLinear.linStep`, the map the C01 theorems are about.
-/
namespace Exponax.BaseStepperExact
open Exponax Exponax.Layout Exponax.Transform Exponax.Nonlin Exponax.Gen.Etdrk Exponax.Gen.StepperWiring
open Exponax.Gen.Base Exponax.Interface Exponax.BaseStepperGenEq Exponax.ExactLinear

noncomputable def specOfMC (uh : MC ℂ) : Spec := fun ch h => at2 uh ch h

noncomputable def mcOfSpec (C M : ℕ) (v : Spec) : MC ℂ := tab2 C M v

noncomputable def liftStepFourier (C M : ℕ) (F : Spec → Option Spec) : MC ℂ → Option (MC ℂ) :=
  fun uh => (F (specOfMC uh)).map (mcOfSpec C M)

theorem tabC_one (f : ℕ → Array ℂ) : tabC 1 f = #[f 0] := by
  apply Array.ext
  · simp [tabC, tab]
  · intro i h1 h2
    have hi : i < 1 := by simpa [tabC, tab] using h1
    interval_cases i
    simp [tabC, tab]

theorem mcOfSpec_one (M : ℕ) (v : Spec) : mcOfSpec 1 M v = #[tab M (v 0)] := by
  unfold mcOfSpec tab2
  exact tabC_one (fun ch => tab M (v ch))

theorem specOfMC_singleton (x : Array ℂ) (h : ℕ) : specOfMC #[x] 0 h = x.getD h 0 := rfl

theorem specOfMC_mcOfSpec (C M : ℕ) (v : Spec) (ch h : ℕ) (hc : ch < C) (hh : h < M) :
    specOfMC (mcOfSpec C M v) ch h = v ch h := by
  unfold specOfMC mcOfSpec
  rw [Exponax.SpectralOpsEq.at2_tab2_row C M v ch h hc, Nonlin.tab_getD _ _ _ _ hh]

end Exponax.BaseStepperExact
