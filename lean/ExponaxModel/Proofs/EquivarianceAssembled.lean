import ExponaxModel.Proofs.InterfaceSpecific
import ExponaxModel.Proofs.InterfaceLinear
import ExponaxModel.Proofs.EquivarianceNDSteps
/-
C08 — translation equivariance of the ASSEMBLED, REGENERATED whole step of every ETDRK order.

`Proofs/EquivarianceNDSteps.lean` treats the stage formulas of each order with ABSTRACT coefficient arrays.  Here the same
phase relation (`Symmetry.phase_stepRel`, `liftTermND_phase`) is carried through the assembled steps of
`Proofs/InterfaceAssembly*.lean` / `Proofs/InterfaceSpecific.lean` / `Proofs/InterfaceLinear.lean`
(`X_step = baseStep` on the class's regenerated `_build_linear_operator`, regenerated
`__init__ → _build_nonlinear_fun` wiring, regenerated ETDRK coefficients and stage formulas of the requested order):

* `etdrkStep_translation_nd`  : `etdrkStep p dt lam M r (liftTermND c C T)` commutes with the multiplication of every stored
  mode by the shift phase, for EVERY `p : ℕ` (`Etdrk.etdrkGen_rel`: orders 0–4 by the `E?step_rel` of that order; for
  `p ≥ 5` the model's `etdrkStep` is the identity), any symbol array `lam` (diagonal symbols commute with shifts), any equivariant term `T`.
* `X_step_translation`        : Fourier-space form for `X` = GeneralConvection / GradientNorm / Nonlinear / Polynomial /
  Linear stepper, Burgers, KdV (every mixing flag), KS-conservative, KS, Fisher-KPP, Advection, Diffusion,
  AdvectionDiffusion, Dispersion, HyperDiffusion, NavierStokesVorticity and (for the shifts that leave the injection
  invariant) GeneralVorticityConvection.
* `PhysicallyEquivariant D N step`: `irfftn(step^n(rfftn(roll u))) = roll(irfftn(step^n(rfftn u)))` for every channel, every
  integer shift vector, every `n`, every (real or complex, any channel count) state; it follows from the Fourier-space form
  (`physicallyEquivariant_of_phase`), stated here for the five `General*` steppers and in `Properties/C08_assembled.lean`
  for every `X` above (GeneralVorticityConvection: written out there, for its admissible shifts).
-/
namespace Exponax.EquivAssembled
open Exponax Exponax.Layout Exponax.Transform Exponax.Nonlin Exponax.Gen.Etdrk
open Exponax.Gen.StepperWiring Exponax.Gen.Steppers Exponax.StepperWiringEq
open Exponax.EquivND Exponax.Interface Exponax.Alias Exponax.Symmetry Exponax.SymmetryND

theorem etdrkStep_translation_nd (c : Cfg ℂ) (s : List ℤ) (C : ℕ) (T : MC ℂ → MC ℂ) (hT : TermEquivariant c s T)
    (p : ℕ) (dt : ℂ) (lam : Spec) (M : ℕ) (r : ℂ) (u : Spec) :
    etdrkStep p dt lam M r (liftTermND c C T) (phaseMC c.D c.N s * u)
      = phaseMC c.D c.N s * etdrkStep p dt lam M r (liftTermND c C T) u := by
  rw [etdrkStep_eq_gen, etdrkStep_eq_gen]
  exact (Etdrk.etdrkGen_rel (phase_stepRel _) (fun x _ h => h ▸ (liftTermND_phase c s C T hT x).symm) (fun _ => rfl)
    p dt M r rfl).symm

/-- every stepper assembled by `baseStep` (regenerated `BaseStepper.__init__` + `step_fourier`) from ANY linear operator
    (it is applied mode by mode, hence diagonal) and a nonlinear function that is, on the stepper's grid, an equivariant
    model term `T` (`X_stepper_nonlinear_fun_eq`) commutes with the shift phases.  `TermEquivariant` reads only `D` and `N`
    of its configuration, so the hypothesis may be given with whatever dealiasing fraction `df` the nonlinear function
    sets for itself. -/
theorem baseStep_translation (b : Gen.StepperWiring.BaseStepperArgs ℂ) (linop : List ℂ → ℂ)
    (nonlin : Cfg ℂ → MC ℂ → MC ℂ) (s : List ℤ) (df : ℕ × ℕ) (T : MC ℂ → MC ℂ)
    (hnl : ∀ uh, nonlin (baseCfg b.num_spatial_dims b.num_points b.domain_extent) uh = T uh)
    (hT : TermEquivariant (cfgOf b.num_spatial_dims b.num_points b.domain_extent df) s T) (u : Spec) :
    baseStep b linop nonlin (phaseMC b.num_spatial_dims b.num_points s * u)
      = phaseMC b.num_spatial_dims b.num_points s * baseStep b linop nonlin u :=
  etdrkStep_translation_nd (baseCfg b.num_spatial_dims b.num_points b.domain_extent) s _ _
    ((funext hnl : nonlin _ = T) ▸ hT) _ _ _ _ _ u

/-- an assembled stepper of order 0 never evaluates its nonlinear function -/
theorem baseStep_translation_order0 (b : Gen.StepperWiring.BaseStepperArgs ℂ) (hb : b.order = 0) (linop : List ℂ → ℂ)
    (nonlin : Cfg ℂ → MC ℂ → MC ℂ) (s : List ℤ) (u : Spec) :
    baseStep b linop nonlin (phaseMC b.num_spatial_dims b.num_points s * u)
      = phaseMC b.num_spatial_dims b.num_points s * baseStep b linop nonlin u := by
  unfold baseStep
  rw [hb]
  exact E0step_phase _ _ u

theorem GeneralConvectionStepper_step_translation (g : GeneralConvectionStepperArgs ℂ) (hN : 0 < g.num_points)
    (s : List ℤ) (u : Spec) :
    GeneralConvectionStepper_step g (phaseMC g.num_spatial_dims g.num_points s * u)
      = phaseMC g.num_spatial_dims g.num_points s * GeneralConvectionStepper_step g u :=
  baseStep_translation _ _ _ s g.dealiasing_fraction _ (fun uh => GeneralConvectionStepper_stepper_nonlinear_fun_eq
    (baseCfg g.num_spatial_dims g.num_points g.domain_extent) g uh rfl)
    (convection_termEquivariant _ hN _ _ _ _ s) u

theorem GeneralGradientNormStepper_step_translation (g : GeneralGradientNormStepperArgs ℂ) (hN : 0 < g.num_points)
    (s : List ℤ) (u : Spec) :
    GeneralGradientNormStepper_step g (phaseMC g.num_spatial_dims g.num_points s * u)
      = phaseMC g.num_spatial_dims g.num_points s * GeneralGradientNormStepper_step g u :=
  baseStep_translation _ _ _ s g.dealiasing_fraction _ (GeneralGradientNormStepper_stepper_nonlinear_fun_eq _ g)
    (gradientNorm_termEquivariant _ hN _ _ _ s) u

theorem GeneralNonlinearStepper_step_translation (g : GeneralNonlinearStepperArgs ℂ) (hN : 0 < g.num_points)
    (s : List ℤ) (u : Spec) :
    GeneralNonlinearStepper_step g (phaseMC g.num_spatial_dims g.num_points s * u)
      = phaseMC g.num_spatial_dims g.num_points s * GeneralNonlinearStepper_step g u :=
  baseStep_translation _ _ _ s g.dealiasing_fraction _ (GeneralNonlinearStepper_stepper_nonlinear_fun_eq _ g)
    (general_termEquivariant _ hN _ _ _ _ _ s) u

theorem GeneralPolynomialStepper_step_translation (g : GeneralPolynomialStepperArgs ℂ) (hN : 0 < g.num_points)
    (s : List ℤ) (u : Spec) :
    GeneralPolynomialStepper_step g (phaseMC g.num_spatial_dims g.num_points s * u)
      = phaseMC g.num_spatial_dims g.num_points s * GeneralPolynomialStepper_step g u :=
  baseStep_translation _ _ _ s g.dealiasing_fraction _ (GeneralPolynomialStepper_stepper_nonlinear_fun_eq _ g)
    (polynomial_termEquivariant _ hN _ _ s) u

/-- the linear stepper (order 0): no term is evaluated, so not even `N ≥ 1` is needed -/
theorem GeneralLinearStepper_step_translation (g : GeneralLinearStepperArgs ℂ) (s : List ℤ) (u : Spec) :
    GeneralLinearStepper_step g (phaseMC g.num_spatial_dims g.num_points s * u)
      = phaseMC g.num_spatial_dims g.num_points s * GeneralLinearStepper_step g u :=
  baseStep_translation_order0 _ rfl _ _ s u

theorem Burgers_step_translation (a : BurgersArgs ℂ) (hN : 0 < a.num_points) (s : List ℤ) (u : Spec) :
    Burgers_step a (phaseMC a.num_spatial_dims a.num_points s * u)
      = phaseMC a.num_spatial_dims a.num_points s * Burgers_step a u :=
  baseStep_translation _ _ _ s a.dealiasing_fraction _ (fun uh => Burgers_stepper_nonlinear_fun_eq
    (baseCfg a.num_spatial_dims a.num_points a.domain_extent) a uh rfl)
    (convection_termEquivariant _ hN _ _ _ _ s) u

theorem KuramotoSivashinskyConservative_step_translation (a : KuramotoSivashinskyConservativeArgs ℂ)
    (hN : 0 < a.num_points) (s : List ℤ) (u : Spec) :
    KuramotoSivashinskyConservative_step a (phaseMC a.num_spatial_dims a.num_points s * u)
      = phaseMC a.num_spatial_dims a.num_points s * KuramotoSivashinskyConservative_step a u :=
  baseStep_translation _ _ _ s a.dealiasing_fraction _
    (fun uh => KuramotoSivashinskyConservative_stepper_nonlinear_fun_eq
      (baseCfg a.num_spatial_dims a.num_points a.domain_extent) a uh rfl)
    (convection_termEquivariant _ hN _ _ _ _ s) u

theorem KuramotoSivashinsky_step_translation (a : KuramotoSivashinskyArgs ℂ) (hN : 0 < a.num_points) (s : List ℤ)
    (u : Spec) :
    KuramotoSivashinsky_step a (phaseMC a.num_spatial_dims a.num_points s * u)
      = phaseMC a.num_spatial_dims a.num_points s * KuramotoSivashinsky_step a u :=
  baseStep_translation _ _ _ s a.dealiasing_fraction _ (KuramotoSivashinsky_stepper_nonlinear_fun_eq _ a)
    (gradientNorm_termEquivariant _ hN _ _ _ s) u

/-- KdV with EVERY combination of the mixing flags `advect_over_diffuse`, `diffuse_over_diffuse` and in every dimension (for
    non-default flags in `D ≥ 2` the stepper is NOT a `GeneralConvectionStepper`; its linear operator is still diagonal) -/
theorem KortewegDeVries_step_translation (a : KortewegDeVriesArgs ℂ) (hN : 0 < a.num_points) (s : List ℤ) (u : Spec) :
    KortewegDeVries_step a (phaseMC a.num_spatial_dims a.num_points s * u)
      = phaseMC a.num_spatial_dims a.num_points s * KortewegDeVries_step a u :=
  baseStep_translation _ _ _ s a.dealiasing_fraction _ (fun uh => KortewegDeVries_stepper_nonlinear_fun_eq
    (baseCfg a.num_spatial_dims a.num_points a.domain_extent) a uh rfl)
    (convection_termEquivariant _ hN _ _ _ _ s) u

/-- Fisher–KPP, every `D` (also without the `D ≠ 0` needed for its general-polynomial equivalent) -/
theorem FisherKPP_step_translation (a : FisherKPPArgs ℂ) (hN : 0 < a.num_points) (s : List ℤ) (u : Spec) :
    FisherKPP_step a (phaseMC a.num_spatial_dims a.num_points s * u)
      = phaseMC a.num_spatial_dims a.num_points s * FisherKPP_step a u :=
  baseStep_translation _ _ _ s a.dealiasing_fraction _ (FisherKPP_stepper_nonlinear_fun_eq _ a)
    (polynomial_termEquivariant _ hN _ _ s) u

/-! ### the linear steppers (order 0): ANY velocity vector, diffusivity matrix, mixing flag -/

theorem Advection_step_translation (a : AdvectionArgs ℂ) (s : List ℤ) (u : Spec) :
    Advection_step a (phaseMC a.num_spatial_dims a.num_points s * u)
      = phaseMC a.num_spatial_dims a.num_points s * Advection_step a u :=
  baseStep_translation_order0 _ rfl _ _ s u

theorem Diffusion_step_translation (a : DiffusionArgs ℂ) (s : List ℤ) (u : Spec) :
    Diffusion_step a (phaseMC a.num_spatial_dims a.num_points s * u)
      = phaseMC a.num_spatial_dims a.num_points s * Diffusion_step a u :=
  baseStep_translation_order0 _ rfl _ _ s u

theorem AdvectionDiffusion_step_translation (a : AdvectionDiffusionArgs ℂ) (s : List ℤ) (u : Spec) :
    AdvectionDiffusion_step a (phaseMC a.num_spatial_dims a.num_points s * u)
      = phaseMC a.num_spatial_dims a.num_points s * AdvectionDiffusion_step a u :=
  baseStep_translation_order0 _ rfl _ _ s u

theorem Dispersion_step_translation (a : DispersionArgs ℂ) (s : List ℤ) (u : Spec) :
    Dispersion_step a (phaseMC a.num_spatial_dims a.num_points s * u)
      = phaseMC a.num_spatial_dims a.num_points s * Dispersion_step a u :=
  baseStep_translation_order0 _ rfl _ _ s u

theorem HyperDiffusion_step_translation (a : HyperDiffusionArgs ℂ) (s : List ℤ) (u : Spec) :
    HyperDiffusion_step a (phaseMC a.num_spatial_dims a.num_points s * u)
      = phaseMC a.num_spatial_dims a.num_points s * HyperDiffusion_step a u :=
  baseStep_translation_order0 _ rfl _ _ s u

theorem NavierStokesVorticity_step_translation (a : NavierStokesVorticityArgs ℂ) (hN : 0 < a.num_points) (s : List ℤ)
    (u : Spec) :
    NavierStokesVorticity_step a (phaseMC a.num_spatial_dims a.num_points s * u)
      = phaseMC a.num_spatial_dims a.num_points s * NavierStokesVorticity_step a u :=
  baseStep_translation _ _ _ s a.dealiasing_fraction _ (NavierStokesVorticity_stepper_nonlinear_fun_eq _ a)
    (vorticity2d_termEquivariant _ hN _ s) u

/-- the generic vorticity stepper WITH Kolmogorov injection `γ sin(m·2πx₁/L)` is NOT autonomous under every shift: it
    commutes with the shifts that leave the forcing invariant, `N ∣ m·s₁` (all shifts along `x₀`); without injection
    (a number `injection_scale = 0`) with every shift.  Real domain extent, `D = 2` (the class accepts nothing else). -/
theorem GeneralVorticityConvectionStepper_step_translation (g : GeneralVorticityConvectionStepperArgs ℂ)
    (isNumber : Bool) (ℓ : ℝ) (hL : g.domain_extent = (ℓ : ℂ)) (hD : g.num_spatial_dims = 2) (hN : 0 < g.num_points)
    (s : List ℤ)
    (hs : (isNumber = true ∧ g.injection_scale = 0) ∨ (g.num_points : ℤ) ∣ (g.injection_mode : ℤ) * s.getD 1 0)
    (u : Spec) :
    GeneralVorticityConvectionStepper_step g isNumber (phaseMC g.num_spatial_dims g.num_points s * u)
      = phaseMC g.num_spatial_dims g.num_points s * GeneralVorticityConvectionStepper_step g isNumber u := by
  have hsr : (baseCfg g.num_spatial_dims g.num_points g.domain_extent).s = ((2 * Real.pi / ℓ : ℝ) : ℂ) := by
    show 2 * (Real.pi : ℂ) / g.domain_extent = _
    rw [hL]
    push_cast
    ring
  refine baseStep_translation _ _ _ s g.dealiasing_fraction _
    (fun uh => GeneralVorticityConvectionStepper_stepper_nonlinear_fun_eq _ g isNumber uh _ hsr) ?_ u
  split_ifs with h0
  · exact vorticity2d_termEquivariant _ hN _ s
  · exact vorticity2d_inj_termEquivariant _ hD hN _ _ _ s (hs.resolve_left h0)

def PhysicallyEquivariant (D N : ℕ) (step : Spec → Spec) : Prop :=
  ∀ (s : List ℤ) (n : ℕ) (u : MC ℂ) (ch : ℕ),
    physCh D N (step^[n] (specMC D N (rollMC D N s u))) ch
      = rollND D N (physCh D N (step^[n] (specMC D N u)) ch) s

theorem physicallyEquivariant_of_phase (D N : ℕ) (hN : 0 < N) (step : Spec → Spec)
    (h : ∀ (s : List ℤ) (u : Spec), step (phaseMC D N s * u) = phaseMC D N s * step u) :
    PhysicallyEquivariant D N step :=
  fun s n u ch => physical_translation_nd D N hN s step (h s) n u ch

theorem GeneralConvectionStepper_physical_translation (g : GeneralConvectionStepperArgs ℂ) (hN : 0 < g.num_points)
    (s : List ℤ) (n : ℕ) (u : MC ℂ) (ch : ℕ) :
    physCh g.num_spatial_dims g.num_points
        ((GeneralConvectionStepper_step g)^[n]
          (specMC g.num_spatial_dims g.num_points (rollMC g.num_spatial_dims g.num_points s u))) ch
      = rollND g.num_spatial_dims g.num_points
          (physCh g.num_spatial_dims g.num_points
            ((GeneralConvectionStepper_step g)^[n] (specMC g.num_spatial_dims g.num_points u)) ch) s :=
  physical_translation_nd _ _ hN s _ (GeneralConvectionStepper_step_translation g hN s) n u ch

theorem GeneralGradientNormStepper_physical_translation (g : GeneralGradientNormStepperArgs ℂ) (hN : 0 < g.num_points) :
    PhysicallyEquivariant g.num_spatial_dims g.num_points (GeneralGradientNormStepper_step g) :=
  physicallyEquivariant_of_phase _ _ hN _ (GeneralGradientNormStepper_step_translation g hN)

theorem GeneralNonlinearStepper_physical_translation (g : GeneralNonlinearStepperArgs ℂ) (hN : 0 < g.num_points) :
    PhysicallyEquivariant g.num_spatial_dims g.num_points (GeneralNonlinearStepper_step g) :=
  physicallyEquivariant_of_phase _ _ hN _ (GeneralNonlinearStepper_step_translation g hN)

theorem GeneralPolynomialStepper_physical_translation (g : GeneralPolynomialStepperArgs ℂ) (hN : 0 < g.num_points) :
    PhysicallyEquivariant g.num_spatial_dims g.num_points (GeneralPolynomialStepper_step g) :=
  physicallyEquivariant_of_phase _ _ hN _ (GeneralPolynomialStepper_step_translation g hN)

theorem GeneralLinearStepper_physical_translation (g : GeneralLinearStepperArgs ℂ) (hN : 0 < g.num_points) :
    PhysicallyEquivariant g.num_spatial_dims g.num_points (GeneralLinearStepper_step g) :=
  physicallyEquivariant_of_phase _ _ hN _ (GeneralLinearStepper_step_translation g)

example : ∃ g : GeneralConvectionStepperArgs ℂ, 0 < g.num_points ∧ g.order = 3 ∧ g.num_spatial_dims = 2 :=
  ⟨{ num_spatial_dims := 2, domain_extent := 1, num_points := 8, dt := 1, linear_coefficients := [0, 0, 1],
     convection_scale := 1, single_channel := false, conservative := false, order := 3,
     dealiasing_fraction := (2, 3), num_circle_points := 16, circle_radius := 1 }, by decide, rfl, rfl⟩

/-- the shift hypothesis of `GeneralVorticityConvectionStepper_step_translation` with injection: every shift along `x₀`,
    and along `x₁` the multiples of `N / gcd(N, m)` (here `N = 8`, `m = 4`, shift `(3, 2)`) -/
example : ((8 : ℕ) : ℤ) ∣ ((4 : ℕ) : ℤ) * ([3, 2] : List ℤ).getD 1 0 := by decide

end Exponax.EquivAssembled
