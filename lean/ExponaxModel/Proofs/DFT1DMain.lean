import ExponaxModel.Proofs.DFT1D
/-
`D = 1`: the inversion sum in the half layout (`half_inversion`) and Parseval for real `u`.  The n-D round trip and
Parseval of `DFTnD.lean` split off the last axis once, sum out the leading axes together, and use these on one row.
Also the definition of the 1-D `roll` (its lemmas are in `Symmetry.lean`).
-/
namespace Exponax.DFT
open Exponax Exponax.Layout Exponax.Transform Finset

/-- the cross-correlation identity behind both inversion and Parseval -/
theorem dft_cross (N : ℕ) (hN : 0 < N) (a b : ℕ → ℂ) :
    ∑ h ∈ range N, (∑ j ∈ range N, a j * zeta N ^ ((h : ℤ) * (j : ℤ))) *
        (∑ j ∈ range N, b j * zeta N ^ (-((h : ℤ) * (j : ℤ))))
      = (N : ℂ) * ∑ j ∈ range N, a j * b j := by
  simp only [Finset.sum_mul_sum]
  rw [Finset.sum_comm]
  rw [Finset.mul_sum]
  apply Finset.sum_congr rfl
  intro j hj
  rw [Finset.sum_comm]
  have key : ∀ j' ∈ range N,
      ∑ h ∈ range N, a j * zeta N ^ ((h : ℤ) * (j : ℤ)) * (b j' * zeta N ^ (-((h : ℤ) * (j' : ℤ))))
        = a j * b j' * (if j = j' then (N : ℂ) else 0) := by
    intro j' hj'
    rw [← zeta_sum_sub N hN j j' (Finset.mem_range.mp hj) (Finset.mem_range.mp hj'), Finset.mul_sum]
    apply Finset.sum_congr rfl
    intro h _
    rw [show a j * zeta N ^ ((h : ℤ) * (j : ℤ)) * (b j' * zeta N ^ (-((h : ℤ) * (j' : ℤ))))
        = a j * b j' * (zeta N ^ ((h : ℤ) * (j : ℤ)) * zeta N ^ (-((h : ℤ) * (j' : ℤ)))) by ring,
      ← zpow_add₀ (zeta_ne_zero N)]
    congr 2
    ring
  rw [Finset.sum_congr rfl key]
  simp only [mul_ite, mul_zero, Finset.sum_ite_eq, hj, if_true]
  ring

theorem dft_inversion (N : ℕ) (hN : 0 < N) (u : Array ℂ) (j : ℕ) (hj : j < N) :
    ∑ h ∈ range N, dft N u h * zeta N ^ (-((h : ℤ) * (j : ℤ))) = u.getD j 0 * (N : ℂ) := by
  have := dft_cross N hN (fun j' => u.getD j' 0) (fun j' => if j' = j then 1 else 0)
  simp only [ite_mul, one_mul, zero_mul, mul_ite, mul_one, mul_zero, Finset.sum_ite_eq',
    mem_range, hj, if_true] at this
  rw [mul_comm (N : ℂ)] at this
  exact this

theorem half_inversion (N : ℕ) (hN : 0 < N) (u : Array ℂ)
    (hu : ∀ j < N, (u.getD j 0).im = 0) (j : ℕ) (hj : j < N) :
    ∑ h ∈ range (N / 2 + 1), (herm_weight 1 N h : ℂ) *
        (((dft N u h * zeta N ^ (-((h : ℤ) * (j : ℤ)))).re : ℝ) : ℂ)
      = u.getD j 0 * (N : ℂ) := by
  rw [half_sum N hN (fun h : ℕ => (((dft N u h * zeta N ^ (-((h : ℤ) * (j : ℤ)))).re : ℝ) : ℂ))]
  · rw [← Complex.ofReal_sum, ← Complex.re_sum, dft_inversion N hN u j hj]
    have hre : u.getD j 0 = (((u.getD j 0).re : ℝ) : ℂ) := by
      apply Complex.ext
      · simp
      · rw [Complex.ofReal_im]; exact hu j hj
    obtain ⟨x, hx⟩ : ∃ x : ℝ, u.getD j 0 = (x : ℂ) := ⟨_, hre⟩
    rw [hx, show (x : ℂ) * (N : ℂ) = ((x * N : ℝ) : ℂ) by push_cast; rfl, Complex.ofReal_re]
  · intro h h0 hhN
    have : dft N u ((N - h : ℕ) : ℤ) * zeta N ^ (-(((N - h : ℕ) : ℤ) * (j : ℤ)))
        = (starRingEnd ℂ) (dft N u h * zeta N ^ (-((h : ℤ) * (j : ℤ)))) := by
      rw [map_mul, conj_dft N u hu, conj_zeta_zpow, Nat.cast_sub hhN.le]
      congr 1
      · rw [show (N : ℤ) - (h : ℤ) = -(h : ℤ) + (N : ℤ) * 1 by ring, dft_add_period]
      · rw [show -(((N : ℤ) - (h : ℤ)) * (j : ℤ)) = - -((h : ℤ) * (j : ℤ)) + (N : ℤ) * (-(j : ℤ)) by ring,
          zeta_zpow_add_mul]
    show (((dft N u ((N - h : ℕ) : ℤ) * zeta N ^ (-(((N - h : ℕ) : ℤ) * (j : ℤ)))).re : ℝ) : ℂ) = _
    rw [this, Complex.conj_re]

theorem normsq_eq (z : ℂ) : (((‖z‖ ^ 2 : ℝ)) : ℂ) = z * (starRingEnd ℂ) z := by
  rw [Complex.mul_conj, Complex.normSq_eq_norm_sq]

theorem conj_dft_general (N : ℕ) (u : Array ℂ) (h : ℤ) :
    (starRingEnd ℂ) (dft N u h)
      = ∑ j ∈ range N, (starRingEnd ℂ) (u.getD j 0) * zeta N ^ (-(h * (j : ℤ))) := by
  unfold dft
  rw [map_sum]
  apply Finset.sum_congr rfl
  intro j _
  rw [map_mul, conj_zeta_zpow]

theorem dft_parseval_full (N : ℕ) (hN : 0 < N) (u : Array ℂ) :
    ∑ h ∈ range N, ‖dft N u h‖ ^ 2 = (N : ℝ) * ∑ j ∈ range N, ‖u.getD j 0‖ ^ 2 := by
  apply Complex.ofReal_injective
  rw [Complex.ofReal_sum, Complex.ofReal_mul, Complex.ofReal_sum]
  simp only [normsq_eq]
  have := dft_cross N hN (fun j => u.getD j 0) (fun j => (starRingEnd ℂ) (u.getD j 0))
  rw [Complex.ofReal_natCast, ← this]
  apply Finset.sum_congr rfl
  intro h _
  rw [conj_dft_general]
  rfl

theorem half_parseval (N : ℕ) (hN : 0 < N) (u : Array ℂ) (hu : ∀ j < N, (u.getD j 0).im = 0) :
    ∑ h ∈ range (N / 2 + 1), (herm_weight 1 N h : ℝ) * ‖dft N u h‖ ^ 2
      = (N : ℝ) * ∑ j ∈ range N, ‖u.getD j 0‖ ^ 2 := by
  rw [half_sum N hN (fun h : ℕ => ‖dft N u h‖ ^ 2), dft_parseval_full N hN]
  intro h h0 hhN
  show ‖dft N u ((N - h : ℕ) : ℤ)‖ ^ 2 = ‖dft N u h‖ ^ 2
  rw [Nat.cast_sub hhN.le, show (N : ℤ) - (h : ℤ) = -(h : ℤ) + (N : ℤ) * 1 by ring, dft_add_period,
    ← conj_dft N u hu, Complex.norm_conj]

theorem parseval_1d (N : ℕ) (hN : 0 < N) (u : Array ℂ) (hu : ∀ j < N, (u.getD j 0).im = 0) :
    ∑ j ∈ range N, ‖u.getD j 0‖ ^ 2
      = (1 / (N : ℝ)) * ∑ h ∈ range (N / 2 + 1),
          (herm_weight 1 N h : ℝ) * ‖(rfftnM 1 N u).getD h 0‖ ^ 2 := by
  have h1 : ∀ h ∈ range (N / 2 + 1),
      (herm_weight 1 N h : ℝ) * ‖(rfftnM 1 N u).getD h 0‖ ^ 2
        = (herm_weight 1 N h : ℝ) * ‖dft N u h‖ ^ 2 := by
    intro h hh
    rw [rfft1_getD N hN u h (by have := Finset.mem_range.mp hh; omega)]
  rw [Finset.sum_congr rfl h1, half_parseval N hN u hu, one_div,
    inv_mul_cancel_left₀ (Nat.cast_ne_zero.2 hN.ne')]

/-- `jnp.roll(u, s)` on `N` points: `roll(u,s)[j] = u[(j - s) mod N]` -/
def roll (N : ℕ) (u : Array ℂ) (s : ℤ) : Array ℂ :=
  tab N (fun j => u.getD (((j : ℤ) - s) % (N : ℤ)).toNat 0)

theorem rfft_nyquist_real (N : ℕ) (hN : 0 < N) (hev : N % 2 = 0) (u : Array ℂ)
    (hu : ∀ j < N, (u.getD j 0).im = 0) :
    ((rfftnM 1 N u).getD (N / 2) 0).im = 0 := by
  rw [rfft1_getD N hN u (N / 2) le_rfl]
  apply Complex.conj_eq_iff_im.mp
  rw [conj_dft N u hu]
  have : -(((N / 2 : ℕ) : ℤ)) + (N : ℤ) * 1 = ((N / 2 : ℕ) : ℤ) := by
    have : (N : ℤ) = 2 * ((N / 2 : ℕ) : ℤ) := by
      have := Nat.div_add_mod N 2
      omega
    linarith
  rw [← dft_add_period N u _ 1, this]

end Exponax.DFT
