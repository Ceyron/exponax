import ExponaxModel.Properties.C10
import ExponaxModel.Proofs.IncompressibleNyquistFree
/-
C10 — `exponax.make_incompressible(field, indexing="xy")` (regenerated `Gen.SpectralOps.make_incompressible`): for
D ≥ 2 the "xy" derivative operator is the "ij" one with components 0 and 1 exchanged, so the "xy" projection is the "ij"
projection of the field with channels 0 and 1 exchanged (exchanged back) — the Leray projection in the numpy.meshgrid
convention: divergence-free in that convention and idempotent in Fourier space for every spectrum; for the physical-space
result at every stored mode of Hermitian weight 2, and at every mode for real fields on odd grids (on even grids `irfftn`
keeps only the Hermitian part of the self-conjugate columns — the Nyquist caveat of the property).  The same physical-space
facts for the default "ij".  "xy" is NOT "all components reversed" in 3-D (concrete witness).
-/
namespace Exponax

open Exponax.IncompressibleXY Exponax.SmallGaps2 in
theorem C10_derivative_operator_xy :
    ∀ (D N : ℕ),
      2 ≤ D →
        0 < N →
          ∀ (L : ℂ) (d h : ℕ),
            Gen.SpectralOps.derivative_operator_entry D L N "xy" d h =
              Gen.SpectralOps.derivative_operator_entry D L N "ij" (sw d) h :=
  @Exponax.IncompressibleXY.derivative_operator_entry_xy

open Exponax.IncompressibleXY Exponax.SmallGaps2 in
theorem C10_make_incompressible_xy_is_swapped_ij :
    ∀ (D N : ℕ),
      2 ≤ D →
        0 < N →
          ∀ (field : Nonlin.MC ℂ),
            2 ≤ Array.size field →
              Gen.SpectralOps.make_incompressible D N D "xy" field =
                swapCh (Gen.SpectralOps.make_incompressible D N D "ij" (swapCh field)) :=
  @Exponax.IncompressibleXY.make_incompressible_xy

open Exponax.IncompressibleXY Exponax.SmallGaps2 in
theorem C10_make_incompressible_xy_is_leray :
    ∀ (D N : ℕ),
      2 ≤ D →
        0 < N →
          ∀ (field : Nonlin.MC ℂ),
            2 ≤ Array.size field →
              Gen.SpectralOps.make_incompressible D N D "xy" field =
                Nonlin.tabC D fun i ↦ Transform.irfftnM D N (Array.getD (lerayXY D N (specOf D N field)) i #[]) :=
  @Exponax.IncompressibleXY.make_incompressible_xy_leray

open Exponax.IncompressibleXY Exponax.SmallGaps2 in
theorem C10_leray_xy_divfree :
    ∀ (D N : ℕ),
      2 ≤ D →
        0 < N →
          ∀ (uh : Nonlin.MC ℂ),
            ∀ h < Layout.numModes D N,
              sumList
                  (List.map
                    (fun d ↦ Gen.SpectralOps.derivative_operator_entry D 1 N "xy" d h * Nonlin.at2 (lerayXY D N uh) d h)
                    (List.range D)) =
                0 :=
  @Exponax.IncompressibleXY.lerayXY_divfree

open Exponax.IncompressibleXY Exponax.SmallGaps2 in
theorem C10_leray_xy_idem :
    ∀ (D N : ℕ), 2 ≤ D → ∀ (uh : Nonlin.MC ℂ), lerayXY D N (lerayXY D N uh) = lerayXY D N uh :=
  @Exponax.IncompressibleXY.lerayXY_idem

open Exponax.IncompressibleXY Exponax.SmallGaps2 in
theorem C10_make_incompressible_xy_divfree :
    ∀ (D N : ℕ),
      2 ≤ D →
        0 < N →
          ∀ (field : Nonlin.MC ℂ),
            2 ≤ Array.size field →
              ∀ h < Layout.numModes D N,
                Transform.herm_weight D N h = 2 →
                  sumList
                      (List.map
                        (fun d ↦
                          Gen.SpectralOps.derivative_operator_entry D 1 N "xy" d h *
                            (Transform.rfftnM D N
                                  (Array.getD (Gen.SpectralOps.make_incompressible D N D "xy" field) d #[])).getD
                              h 0)
                        (List.range D)) =
                    0 :=
  fun D N hD hN field hf h hh hw => make_incompressible_xy_divfree_of_fixed D N hD hN field hf h hh
    (fun d _ => C2R.rfftn_irfftn_nd_w2 D N (Nat.le_of_succ_le hD) hN _ h hh hw)

open Exponax.IncompressibleXY Exponax.SmallGaps2 in
theorem C10_make_incompressible_xy_divfree_odd_grid :
    ∀ (D N : ℕ),
      2 ≤ D →
        N % 2 = 1 →
          ∀ (field : Nonlin.MC ℂ),
            2 ≤ Array.size field →
              (∀ d < D, ∀ j < N ^ D, ((Array.getD field d #[]).getD j 0).im = 0) →
                ∀ h < Layout.numModes D N,
                  sumList
                      (List.map
                        (fun d ↦
                          Gen.SpectralOps.derivative_operator_entry D 1 N "xy" d h *
                            (Transform.rfftnM D N
                                  (Array.getD (Gen.SpectralOps.make_incompressible D N D "xy" field) d #[])).getD
                              h 0)
                        (List.range D)) =
                    0 :=
  fun D N hD hodd field hf hreal h hh =>
    IncompressibleNyquistFree.make_incompressible_xy_divfree_nyquist_free D N hD (Nat.odd_iff.mpr hodd).pos field hf hreal
      (IncompressibleNyquistFree.nyqFreeField_of_odd D N hodd field) h hh

open Exponax.IncompressibleXY Exponax.SmallGaps2 in
theorem C10_make_incompressible_xy_idem_odd_grid :
    ∀ (D N : ℕ),
      2 ≤ D →
        N % 2 = 1 →
          ∀ (field : Nonlin.MC ℂ),
            2 ≤ Array.size field →
              (∀ d < D, ∀ j < N ^ D, ((Array.getD field d #[]).getD j 0).im = 0) →
                Gen.SpectralOps.make_incompressible D N D "xy" (Gen.SpectralOps.make_incompressible D N D "xy" field) =
                  Gen.SpectralOps.make_incompressible D N D "xy" field :=
  fun D N hD hodd field hf hreal =>
    IncompressibleNyquistFree.make_incompressible_xy_idem_nyquist_free D N hD (Nat.odd_iff.mpr hodd).pos field hf hreal
      (IncompressibleNyquistFree.nyqFreeField_of_odd D N hodd field)

open Exponax.IncompressibleXY Exponax.SmallGaps2 in
theorem C10_make_incompressible_divfree_odd_grid :
    ∀ (D N : ℕ),
      2 ≤ D →
        N % 2 = 1 →
          ∀ (field : Nonlin.MC ℂ),
            2 ≤ Array.size field →
              (∀ d < D, ∀ j < N ^ D, ((Array.getD field d #[]).getD j 0).im = 0) →
                ∀ h < Layout.numModes D N,
                  sumList
                      (List.map
                        (fun d ↦
                          Gen.SpectralOps.derivative_operator_entry D 1 N "ij" d h *
                            (Transform.rfftnM D N
                                  (Array.getD (Gen.SpectralOps.make_incompressible D N D "ij" field) d #[])).getD
                              h 0)
                        (List.range D)) =
                    0 :=
  fun D N hD hodd field hf hreal h hh =>
    IncompressibleNyquistFree.make_incompressible_ij_divfree_nyquist_free D N hD (Nat.odd_iff.mpr hodd).pos field hf hreal
      (IncompressibleNyquistFree.nyqFreeField_of_odd D N hodd field) h hh

open Exponax.IncompressibleXY Exponax.SmallGaps2 in
theorem C10_make_incompressible_idem_odd_grid :
    ∀ (D N : ℕ),
      2 ≤ D →
        N % 2 = 1 →
          ∀ (field : Nonlin.MC ℂ),
            2 ≤ Array.size field →
              (∀ d < D, ∀ j < N ^ D, ((Array.getD field d #[]).getD j 0).im = 0) →
                Gen.SpectralOps.make_incompressible D N D "ij" (Gen.SpectralOps.make_incompressible D N D "ij" field) =
                  Gen.SpectralOps.make_incompressible D N D "ij" field :=
  fun D N hD hodd field hf hreal =>
    IncompressibleNyquistFree.make_incompressible_ij_idem_nyquist_free D N hD (Nat.odd_iff.mpr hodd).pos field hf hreal
      (IncompressibleNyquistFree.nyqFreeField_of_odd D N hodd field)

open Exponax.IncompressibleXY Exponax.SmallGaps2 in
theorem C10_make_incompressible_divfree :
    ∀ (D N : ℕ),
      2 ≤ D →
        0 < N →
          ∀ (field : Nonlin.MC ℂ),
            2 ≤ Array.size field →
              ∀ h < Layout.numModes D N,
                Transform.herm_weight D N h = 2 →
                  sumList
                      (List.map
                        (fun d ↦
                          Gen.SpectralOps.derivative_operator_entry D 1 N "ij" d h *
                            (Transform.rfftnM D N
                                  (Array.getD (Gen.SpectralOps.make_incompressible D N D "ij" field) d #[])).getD
                              h 0)
                        (List.range D)) =
                    0 :=
  fun D N hD hN field hf h hh hw =>
    make_incompressible_ij_divfree_of_xy D N hD hN field hf h
      (C10_make_incompressible_xy_divfree D N hD hN _ (by rw [swapCh_size]; exact hf) h hh hw)

open Exponax.IncompressibleXY Exponax.SmallGaps2 in
theorem C10_xy_is_not_reversed_ij :
    Gen.SpectralLayout.build_wavenumbers 3 4 "xy" [1, 0, 0] ≠
      (Gen.SpectralLayout.build_wavenumbers 3 4 "ij" [1, 0, 0]).reverse :=
  @Exponax.IncompressibleXY.build_wavenumbers_xy_ne_reverse

end Exponax
