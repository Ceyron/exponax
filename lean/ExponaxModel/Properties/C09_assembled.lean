import ExponaxModel.Proofs.ConserveAssembled
/-
C09 — the spatial mean on the ASSEMBLED regenerated step of the stepper classes, every order.

`Interface.X_step` is `Interface.baseStep` (regenerated `BaseStepper.__init__` + `step_fourier`: regenerated `exp_term`,
`E?_half_exp_term`, STORED contour coefficients `E?_coef_i`, regenerated stage formulas `E?step` of the requested order) on the
class's regenerated `_build_linear_operator` and `__init__ → _build_nonlinear_fun` wiring.  States are whole stored multi-channel
spectra `Spec = ℕ → ℕ → ℂ` (channel → flat stored mode); the mean mode is stored mode `0`.

For `conservative = True` and a linear part without zeroth-order term the mean mode of EVERY channel is returned unchanged by
any number of steps — every order `0 … 4` (and the orders the assembly does not implement, where it returns the state), every
`dt`, every contour (`num_circle_points`, `circle_radius`), every `D`, `N`, `L`, every state (no reality, band or well-formedness
hypothesis is needed: the derivative entries of stored mode `0` vanish for every configuration, so the symbol is `D·a₀ = 0`,
`exp_term = 1`, and every stage enters the update only through the nonlinear function, whose mean mode vanishes for every
input).  The statement holds for every channel index `ch` (in particular for `ch <` number of channels).  Physical form
(`D, N ≥ 1`): the grid sum of `irfftn` of the result equals the grid sum of the real input state.
-/
set_option linter.unusedVariables false
namespace Exponax
open Exponax.Interface Exponax.ConserveAssembled Exponax.Gen.StepperWiring

/-- one assembled ETDRK step of ANY order keeps the entry `(ch, 0)` when the symbol array vanishes there and the nonlinear
    map has no `(ch, 0)` output for any input — any `dt`, any stored contour coefficients -/
theorem C09_assembled_step_keeps_mean_mode (p : ℕ) (dt : ℂ) (lam : Spec) (M : ℕ) (r : ℂ) (N : Spec → Spec) (ch : ℕ)
    (hlam : lam ch 0 = 0) (hN : ∀ v, N v ch 0 = 0) (n : ℕ) (u : Spec) :
    ((etdrkStep p dt lam M r N)^[n] u) ch 0 = u ch 0 :=
  etdrkStep_mean_iterate p dt lam M r N ch hlam hN n u

/-- `BaseStepper.__init__` + `step_fourier` of any class whose regenerated linear operator vanishes on the derivative
    entries of stored mode `0` and whose regenerated nonlinear function has zero mean-mode output -/
theorem C09_base_stepper_conserves_mean (b : BaseStepperArgs ℂ) (linop : List ℂ → ℂ)
    (nonlin : Nonlin.Cfg ℂ → Nonlin.MC ℂ → Nonlin.MC ℂ)
    (hl : linop (kappa (baseCfg b.num_spatial_dims b.num_points b.domain_extent) 0) = 0)
    (hn : ∀ uh ch, Nonlin.at2 (nonlin (baseCfg b.num_spatial_dims b.num_points b.domain_extent) uh) ch 0 = 0)
    (n : ℕ) (u : Spec) (ch : ℕ) :
    ((baseStep b linop nonlin)^[n] u) ch 0 = u ch 0 :=
  baseStep_mean_iterate b linop nonlin _ hl (fun _ => rfl) hn n u ch

/-- the regenerated general linear operator at the mean mode vanishes when `a₀ = 0`; the regenerated KdV operator
    vanishes there for every mixing flag -/
theorem C09_linear_operators_zero_mean_mode (c : Nonlin.Cfg ℂ) :
    (∀ a : List ℂ, a.getD 0 0 = 0 → Gen.Steppers.GeneralConvectionStepper_linear_operator (kappa c 0) a = 0) ∧
    (∀ (a3 ν μ : ℂ) (aod dod : Bool), Gen.Steppers.KortewegDeVries_linear_operator (kappa c 0) a3 ν μ aod dod c.D = 0) :=
  ⟨fun a h0 => GeneralConvectionStepper_linear_operator_mean c a h0,
   fun a3 ν μ aod dod => KortewegDeVries_linear_operator_mean c a3 ν μ aod dod⟩

/-- **`GeneralConvectionStepper(conservative=True)`, `a₀ = 0`: the assembled regenerated step conserves the mean mode of
    every channel** — every order, `dt`, contour, `D`, `N`, `L`, every state, any number of steps -/
theorem C09_general_convection_stepper_conserves_mean (g : GeneralConvectionStepperArgs ℂ) (hc : g.conservative = true)
    (h0 : g.linear_coefficients.getD 0 0 = 0) (n : ℕ) (u : Spec) (ch : ℕ) :
    ((GeneralConvectionStepper_step g)^[n] u) ch 0 = u ch 0 := by
  refine baseStep_mean_iterate _ _ _ _ ?_ (fun uh => StepperWiringEq.GeneralConvectionStepper_stepper_nonlinear_fun_eq
    (baseCfg g.num_spatial_dims g.num_points g.domain_extent) g uh rfl) (fun uh ch => ?_) n u ch
  · exact GeneralConvectionStepper_linear_operator_mean _ _ h0
  · rw [hc]
    exact Conserve.convection_conservative_mean _ _ _ _ uh ch

/-- the same restricted to orders `0 … 4` and channels below the channel count -/
theorem C09_general_convection_stepper_conserves_mean_channels (g : GeneralConvectionStepperArgs ℂ)
    (hc : g.conservative = true) (h0 : g.linear_coefficients.getD 0 0 = 0) (ho : g.order ≤ 4) :
    ∀ (n : ℕ) (u : Spec) (ch : ℕ), ch < (if g.single_channel then 1 else g.num_spatial_dims) →
      ((GeneralConvectionStepper_step g)^[n] u) ch 0 = u ch 0 :=
  fun n u ch _ => C09_general_convection_stepper_conserves_mean g hc h0 n u ch

/-- **Burgers (`conservative=True`)**, single- or multi-channel, every order -/
theorem C09_burgers_stepper_conserves_mean (a : BurgersArgs ℂ) (hc : a.conservative = true) (n : ℕ) (u : Spec)
    (ch : ℕ) : ((Burgers_step a)^[n] u) ch 0 = u ch 0 := by
  rw [Burgers_step_eq_general]
  exact C09_general_convection_stepper_conserves_mean (Burgers_to_general a) hc rfl n u ch

/-- **Korteweg–de Vries (`conservative=True`)**, every mixing flag, every `D`, every order -/
theorem C09_kdv_stepper_conserves_mean (a : KortewegDeVriesArgs ℂ) (hc : a.conservative = true) (n : ℕ) (u : Spec)
    (ch : ℕ) : ((KortewegDeVries_step a)^[n] u) ch 0 = u ch 0 := by
  refine baseStep_mean_iterate _ _ _ _ ?_ (fun uh => StepperWiringEq.KortewegDeVries_stepper_nonlinear_fun_eq
    (baseCfg a.num_spatial_dims a.num_points a.domain_extent) a uh rfl) (fun uh ch => ?_) n u ch
  · exact KortewegDeVries_linear_operator_mean (baseCfg a.num_spatial_dims a.num_points a.domain_extent) _ _ _ _ _
  · rw [hc]
    exact Conserve.convection_conservative_mean _ _ _ _ uh ch

/-- **Kuramoto–Sivashinsky in conservative form (`conservative=True`, its default)**, every order -/
theorem C09_ks_conservative_stepper_conserves_mean (a : KuramotoSivashinskyConservativeArgs ℂ)
    (hc : a.conservative = true) (n : ℕ) (u : Spec) (ch : ℕ) :
    ((KuramotoSivashinskyConservative_step a)^[n] u) ch 0 = u ch 0 := by
  rw [KuramotoSivashinskyConservative_step_eq_general]
  exact C09_general_convection_stepper_conserves_mean (KuramotoSivashinskyConservative_to_general a) hc rfl n u ch

/-! ### physical space (`gridOf D N v ch = irfftn` of the stored entries of channel `ch`; `specOf D N x` = `rfftn` of each
channel of the grid state `x`) -/

/-- the grid sum of a channel is the real part of its stored mean mode, so a step that keeps the mean mode keeps the
    grid sum (hence the grid mean) — any stored spectrum -/
theorem C09_grid_sum_is_mean_mode (D N : ℕ) (hD : 0 < D) (hN : 0 < N) (v : Spec) (ch : ℕ) :
    ∑ j ∈ Finset.range (N ^ D), (gridOf D N v ch).getD j 0 = (((v ch 0).re : ℝ) : ℂ) :=
  sum_gridOf D N hD hN v ch

/-- **physical form, `GeneralConvectionStepper`**: `n` steps from the spectrum of a real state `x` — the grid sum of every
    channel of `irfftn(result)` equals the grid sum of that channel of `x` -/
theorem C09_general_convection_stepper_conserves_grid_mean (g : GeneralConvectionStepperArgs ℂ)
    (hc : g.conservative = true) (h0 : g.linear_coefficients.getD 0 0 = 0) (hD : 0 < g.num_spatial_dims)
    (hN : 0 < g.num_points) (x : ℕ → Array ℂ) (ch : ℕ)
    (hx : ∀ j < g.num_points ^ g.num_spatial_dims, ((x ch).getD j 0).im = 0) (n : ℕ) :
    ∑ j ∈ Finset.range (g.num_points ^ g.num_spatial_dims),
        (gridOf g.num_spatial_dims g.num_points
          ((GeneralConvectionStepper_step g)^[n] (specOf g.num_spatial_dims g.num_points x)) ch).getD j 0
      = ∑ j ∈ Finset.range (g.num_points ^ g.num_spatial_dims), (x ch).getD j 0 :=
  sum_gridOf_specOf _ _ hD hN x ch hx _ (C09_general_convection_stepper_conserves_mean g hc h0 n _ ch)

/-- **physical form, Burgers / KdV / KS-conservative** -/
theorem C09_specific_steppers_conserve_grid_mean (D N : ℕ) (hD : 0 < D) (hN : 0 < N) (x : ℕ → Array ℂ) (ch : ℕ)
    (hx : ∀ j < N ^ D, ((x ch).getD j 0).im = 0) (n : ℕ) :
    (∀ a : BurgersArgs ℂ, a.conservative = true →
      ∑ j ∈ Finset.range (N ^ D), (gridOf D N ((Burgers_step a)^[n] (specOf D N x)) ch).getD j 0
        = ∑ j ∈ Finset.range (N ^ D), (x ch).getD j 0) ∧
    (∀ a : KortewegDeVriesArgs ℂ, a.conservative = true →
      ∑ j ∈ Finset.range (N ^ D), (gridOf D N ((KortewegDeVries_step a)^[n] (specOf D N x)) ch).getD j 0
        = ∑ j ∈ Finset.range (N ^ D), (x ch).getD j 0) ∧
    (∀ a : KuramotoSivashinskyConservativeArgs ℂ, a.conservative = true →
      ∑ j ∈ Finset.range (N ^ D), (gridOf D N ((KuramotoSivashinskyConservative_step a)^[n] (specOf D N x)) ch).getD j 0
        = ∑ j ∈ Finset.range (N ^ D), (x ch).getD j 0) :=
  ⟨fun a hc => sum_gridOf_specOf D N hD hN x ch hx _ (C09_burgers_stepper_conserves_mean a hc n _ ch),
   fun a hc => sum_gridOf_specOf D N hD hN x ch hx _ (C09_kdv_stepper_conserves_mean a hc n _ ch),
   fun a hc => sum_gridOf_specOf D N hD hN x ch hx _ (C09_ks_conservative_stepper_conserves_mean a hc n _ ch)⟩

/-- concrete arguments: the defaults with `conservative = True`, `order = 3`, real extent, `D = 1`, `N = 32` -/
example : ∃ g : GeneralConvectionStepperArgs ℂ, g.conservative = true ∧ g.linear_coefficients.getD 0 0 = 0 ∧
    g.order = 3 ∧ g.order ≤ 4 ∧ 0 < g.num_spatial_dims ∧ 0 < g.num_points :=
  ⟨{ GeneralConvectionStepper_with_defaults 1 ((3 : ℝ) : ℂ) 32 (1 / 10) with conservative := true, order := 3 },
    rfl, by simp [GeneralConvectionStepper_with_defaults], rfl, by decide, Nat.one_pos, by decide⟩

/-- the theorem applied to them: three steps of the third-order conservative stepper keep the mean mode of channel 0 -/
example (u : Spec) :
    ((GeneralConvectionStepper_step
      { GeneralConvectionStepper_with_defaults 1 ((3 : ℝ) : ℂ) 32 (1 / 10) with conservative := true, order := 3 })^[3]
        u) 0 0 = u 0 0 :=
  C09_general_convection_stepper_conserves_mean _ rfl (by simp [GeneralConvectionStepper_with_defaults]) 3 u 0

example : ∃ a : BurgersArgs ℂ, a.conservative = true ∧ a.order = 3 :=
  ⟨{ Burgers_with_defaults 1 1 32 (1 / 10) with conservative := true, order := 3 }, rfl, rfl⟩

example : ∃ a : KortewegDeVriesArgs ℂ, a.conservative = true ∧ a.advect_over_diffuse = true :=
  ⟨{ KortewegDeVries_with_defaults 2 1 16 1 with conservative := true, advect_over_diffuse := true }, rfl, rfl⟩

example : ∃ a : KuramotoSivashinskyConservativeArgs ℂ, a.conservative = true :=
  ⟨KuramotoSivashinskyConservative_with_defaults 1 1 32 (1 / 10), rfl⟩

/-- a real grid state -/
example : ∃ x : ℕ → Array ℂ, ∀ j < 32 ^ 1, ((x 0).getD j 0).im = 0 :=
  ⟨fun _ => #[], fun j _ => by simp⟩

end Exponax
