import ExponaxModel.Proofs.BaseStepperGenEq
/-
C18 — `build_ic_set` (regenerated from `exponax/_utils.py`): a deterministic function of the key; `S`
samples; sample `i` is the generator called with the second half of the split of the key carried after `i` samples —
so it does not depend on `num_samples`, and every sample sees the requested `num_points`.
-/
namespace Exponax
open Exponax.Gen.Base Exponax.BaseStepperGenEq

theorem C18_build_ic_set_samples {Key IC : Type} (split : Key → Key × Key) (g : ℕ → Key → IC) (n S : ℕ) (key : Key) :
    build_ic_set split g n S key = (List.range S).map (fun i => g n (split (carried split key i)).2) :=
  build_ic_set_eq split g n S key

theorem C18_build_ic_set_count {Key IC : Type} (split : Key → Key × Key) (g : ℕ → Key → IC) (n S : ℕ) (key : Key) :
    (build_ic_set split g n S key).length = S := by
  simp [build_ic_set_eq]

theorem C18_build_ic_set_prefix_stable {Key IC : Type} (split : Key → Key × Key) (g : ℕ → Key → IC) (n S S' : ℕ)
    (h : S ≤ S') (key : Key) :
    (build_ic_set split g n S' key).take S = build_ic_set split g n S key := by
  simp only [build_ic_set_eq, ← List.map_take]
  congr 1
  rw [List.take_range, Nat.min_eq_left h]

/-- non-vacuity with a concrete splitting: keys are numbers, `split k = (2k, 2k+1)` -/
example : build_ic_set (fun k : ℕ => (2 * k, 2 * k + 1)) (fun n k => (n, k)) 7 3 1 = [(7, 3), (7, 5), (7, 9)] := by
  decide

end Exponax
