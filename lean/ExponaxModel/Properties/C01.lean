import ExponaxModel.Proofs.SymbolAlgebra
import ExponaxModel.Proofs.WaveAlgebra
import ExponaxModel.Proofs.ExactLinearBand
import ExponaxModel.Proofs.ExactLinearSemigroup
import ExponaxModel.Proofs.StepperSymbols
import ExponaxModel.Proofs.SpectralOpsEq
import ExponaxModel.Proofs.WaveWholeNyquist
import ExponaxModel.Proofs.DFTnD
/-
C01 — linear steppers advance band-limited states by the exact PDE solution.

* `Nonlin.polySymbol c terms h` is the symbol `Σ coef·Π_d (i·s·k_d)^{α_d}` of the documented operator
  `Σ coef·∂^α` at stored mode `h` (`s = 2π/L`); the check compares `exp(dt·polySymbol)` of the documented
  operator of every linear stepper class with the implementation's `_exp_term`, mode by mode.
* `Gen.Etdrk.exp_term`, `Gen.Etdrk.E0step` are regenerated from `etdrk/_base_etdrk.py`, `_etdrk_0.py`.
* `Wave.stepMode` mirrors `stepper/_wave.py` per mode.
-/
namespace Exponax
open Exponax.Nonlin Exponax.Gen.Etdrk

/-! ### the propagated mode is the exact solution -/

/-- plane waves are eigenfunctions of the documented operator with eigenvalue the symbol … -/
theorem C01_symbol_is_eigenvalue (κ : List ℂ) (terms : List (ℂ × List ℕ)) (a : ℂ) (x : ℕ → ℝ) :
    applyOp κ.length terms (fun x => a * planeWave κ x) x = polyAt κ terms * (a * planeWave κ x) := by
  unfold applyOp polyAt
  rw [← List.sum_map_mul_right]
  congr 1
  apply List.map_congr_left
  intro t _
  rw [pderivMulti_planeWave]
  ring

/-- … and `û(t)·e^{κ·x}` with `û(t) = E0step(exp_term t λ) û₀` solves `∂_t u = (Σ coef ∂^α) u` for every `t`
    (any `dt`, however large; any dimension `κ.length`) -/
theorem C01_exact_mode (κ : List ℂ) (terms : List (ℂ × List ℕ)) (u0 : ℂ) (x : ℕ → ℝ) (t : ℝ) :
    HasDerivAt (fun t : ℝ => E0step (exp_term (t : ℂ) (polyAt κ terms)) u0 * planeWave κ x)
      (applyOp κ.length terms (fun x => E0step (exp_term (t : ℂ) (polyAt κ terms)) u0 * planeWave κ x) x) t := by
  rw [C01_symbol_is_eigenvalue, ← mul_assoc]
  exact (E0step_solves (polyAt κ terms) u0 t).1.mul_const (planeWave κ x)

/-- the stored-mode version: `û_h(t)` solves `û' = λ_h û`, `û_h(0) = û₀` with `λ_h` the model symbol -/
theorem C01_exact_stored_mode (c : Cfg ℂ) (terms : List (ℂ × List ℕ)) (h : ℕ) (u0 : ℂ) (t : ℝ) :
    HasDerivAt (fun t : ℝ => E0step (exp_term (t : ℂ) (polySymbol c terms h)) u0)
        (polySymbol c terms h * E0step (exp_term (t : ℂ) (polySymbol c terms h)) u0) t ∧
      E0step (exp_term ((0 : ℝ) : ℂ) (polySymbol c terms h)) u0 = u0 :=
  E0step_solves _ u0 t

/-- `n` calls with `dt` equal one call with `n·dt` -/
theorem C01_semigroup (dt lam u : ℂ) (n : ℕ) :
    (E0step (exp_term dt lam))^[n] u = E0step (exp_term (n * dt) lam) u := by
  rw [← exp_term_pow]
  induction n generalizing u with
  | zero => rw [Function.iterate_zero, id, pow_zero, E0step_eq, one_mul]
  | succ n ih => rw [Function.iterate_succ_apply', ih, E0step_eq, E0step_eq, E0step_eq, pow_succ', mul_assoc]

/-- a call with `−dt` undoes a call with `dt` -/
theorem C01_inverse (dt lam u : ℂ) : E0step (exp_term (-dt) lam) (E0step (exp_term dt lam) u) = u := by
  rw [E0step_eq, E0step_eq, ← mul_assoc, exp_term_neg_mul, one_mul]

/-- real operators: the symbol at `−k` is the conjugate of the symbol at `k`, so the propagated spectrum of a
    real state stays Hermitian -/
theorem C01_hermitian (c : Cfg ℂ) (s : ℝ) (hs : c.s = (s : ℂ)) (terms : List (ℂ × List ℕ)) (h h' : ℕ)
    (hk : ∀ d < c.D, wnAt c d h' = -wnAt c d h) (hc : ∀ t ∈ terms, t.1.im = 0) (dt : ℝ) :
    exp_term (dt : ℂ) (polySymbol c terms h') = (starRingEnd ℂ) (exp_term (dt : ℂ) (polySymbol c terms h)) := by
  rw [polySymbol_neg_wn_eq_conj c s hs terms h h' hk hc, exp_term_conj]

/-! ### the documented symbols in closed form (general `D`; sums over `d < c.D`, `k_d = wnAt c d h`) -/

theorem C01_symbol_advection (c : Cfg ℂ) (s : ℝ) (hs : c.s = (s : ℂ)) (h : ℕ) (v : ℕ → ℝ) :
    polySymbol c (pscale (-1) (gradInner c.D (fun d => ((v d : ℝ) : ℂ)) 1)) h
      = -(Complex.I * ((s * ∑ d ∈ Finset.range c.D, v d * (wnAt c d h : ℝ) : ℝ) : ℂ)) :=
  advection_symbol c s hs h v

theorem C01_symbol_diffusion (c : Cfg ℂ) (s : ℝ) (hs : c.s = (s : ℂ)) (h : ℕ) (A : ℕ → ℕ → ℝ) :
    polySymbol c (quadTerms c.D fun i j => ((A i j : ℝ) : ℂ)) h
      = ((-(s ^ 2 * ∑ i ∈ Finset.range c.D, ∑ j ∈ Finset.range c.D, A i j * ((wnAt c i h : ℝ) * (wnAt c j h : ℝ))) : ℝ) : ℂ) :=
  diffusion_symbol c s hs h A

theorem C01_symbol_advection_diffusion (c : Cfg ℂ) (s : ℝ) (hs : c.s = (s : ℂ)) (h : ℕ) (v : ℕ → ℝ) (A : ℕ → ℕ → ℝ) :
    polySymbol c (pscale (-1) (gradInner c.D (fun d => ((v d : ℝ) : ℂ)) 1) ++ quadTerms c.D fun i j => ((A i j : ℝ) : ℂ)) h
      = -(Complex.I * ((s * ∑ d ∈ Finset.range c.D, v d * (wnAt c d h : ℝ) : ℝ) : ℂ)) +
        ((-(s ^ 2 * ∑ i ∈ Finset.range c.D, ∑ j ∈ Finset.range c.D, A i j * ((wnAt c i h : ℝ) * (wnAt c j h : ℝ))) : ℝ) : ℂ) :=
  advection_diffusion_symbol c s hs h v A

theorem C01_symbol_dispersion (c : Cfg ℂ) (s : ℝ) (hs : c.s = (s : ℂ)) (h : ℕ) (ξ : ℕ → ℝ) :
    polySymbol c (gradInner c.D (fun d => ((ξ d : ℝ) : ℂ)) 3) h
      = -(Complex.I * ((s ^ 3 * ∑ d ∈ Finset.range c.D, ξ d * (wnAt c d h : ℝ) ^ 3 : ℝ) : ℂ)) :=
  dispersion_symbol c s hs h ξ

/-- spatially mixing form `(ξ·∇)(∇·∇)` -/
theorem C01_symbol_dispersion_mixed (c : Cfg ℂ) (s : ℝ) (hs : c.s = (s : ℂ)) (h : ℕ) (ξ : ℕ → ℝ) :
    polySymbol c (pmul (gradInner c.D (fun d => ((ξ d : ℝ) : ℂ)) 1) (lapT c.D 1 2)) h
      = -(Complex.I * (((s ^ 3 * ∑ d ∈ Finset.range c.D, ξ d * (wnAt c d h : ℝ)) * ∑ d ∈ Finset.range c.D, (wnAt c d h : ℝ) ^ 2 : ℝ) : ℂ)) :=
  dispersion_mixed_symbol c s hs h ξ

theorem C01_symbol_hyper (c : Cfg ℂ) (s : ℝ) (hs : c.s = (s : ℂ)) (h : ℕ) (μ : ℝ) :
    polySymbol c (lapT c.D (((-μ : ℝ)) : ℂ) 4) h = ((-(μ * s ^ 4 * ∑ d ∈ Finset.range c.D, (wnAt c d h : ℝ) ^ 4) : ℝ) : ℂ) :=
  hyper_symbol c s hs h μ

/-- spatially mixing form `−μ(∇·∇)²` -/
theorem C01_symbol_hyper_mixed (c : Cfg ℂ) (s : ℝ) (hs : c.s = (s : ℂ)) (h : ℕ) (μ : ℝ) :
    polySymbol c (pscale (((-μ : ℝ)) : ℂ) (pmul (lapT c.D 1 2) (lapT c.D 1 2))) h
      = ((-(μ * s ^ 4 * (∑ d ∈ Finset.range c.D, (wnAt c d h : ℝ) ^ 2) ^ 2) : ℝ) : ℂ) :=
  hyper_mixed_symbol c s hs h μ

/-- general / normalized / difficulty linear family: `Σ_j a_j Σ_d (i s k_d)^j` -/
theorem C01_symbol_general_linear (c : Cfg ℂ) (s : ℝ) (hs : c.s = (s : ℂ)) (h : ℕ) (a : List ℝ) :
    polySymbol c (generalLinear c.D (a.map fun r => ((r : ℝ) : ℂ))) h
      = ∑ j ∈ Finset.range a.length, Complex.I ^ j * ((a.getD j 0 * (s ^ j * ∑ d ∈ Finset.range c.D, (wnAt c d h : ℝ) ^ j) : ℝ) : ℂ) :=
  general_linear_symbol c s hs h a

/-! ### the wave stepper, per Fourier mode (`ω = c·|κ|`) -/

/-- non-DC modes: the exact rotation `[[cos ωdt, sin ωdt/ω], [−ω sin ωdt, cos ωdt]]` -/
theorem C01_wave (c dt kn : ℝ) (h v : ℂ) (hc : c ≠ 0) (hkn : kn ≠ 0) :
    Wave.stepMode (c : ℂ) (dt : ℂ) (kn : ℂ) false h v =
      (((Real.cos (c * kn * dt) : ℝ) : ℂ) * h + ((Real.sin (c * kn * dt) / (c * kn) : ℝ) : ℂ) * v,
        ((-(c * kn) * Real.sin (c * kn * dt) : ℝ) : ℂ) * h + ((Real.cos (c * kn * dt) : ℝ) : ℂ) * v) :=
  stepMode_nonDC_real c dt kn h v hc hkn

/-- DC mode: `h ↦ h + dt·v`, `v ↦ v` -/
theorem C01_wave_dc (c dt h v : ℂ) (hc : c ≠ 0) : Wave.stepMode c dt 0 true h v = (h + dt * v, v) :=
  stepMode_DC c dt h v hc

/-- it is the solution of `h' = v`, `v' = −ω² h` -/
theorem C01_wave_exact (c kn : ℝ) (h0 v0 : ℂ) (hc : c ≠ 0) (hkn : kn ≠ 0) (t : ℝ) :
    HasDerivAt (fun t : ℝ => (Wave.stepMode (c : ℂ) (t : ℂ) (kn : ℂ) false h0 v0).1)
        (Wave.stepMode (c : ℂ) (t : ℂ) (kn : ℂ) false h0 v0).2 t ∧
      HasDerivAt (fun t : ℝ => (Wave.stepMode (c : ℂ) (t : ℂ) (kn : ℂ) false h0 v0).2)
          (-((c * kn : ℝ) : ℂ) ^ 2 * (Wave.stepMode (c : ℂ) (t : ℂ) (kn : ℂ) false h0 v0).1) t ∧
        Wave.stepMode (c : ℂ) ((0 : ℝ) : ℂ) (kn : ℂ) false h0 v0 = (h0, v0) := by
  obtain ⟨h1, h2, h3⟩ := stepMode_nonDC_exact (c : ℂ) (kn : ℂ) h0 v0
    (by exact_mod_cast hc) (by exact_mod_cast hkn) (t : ℂ)
  refine ⟨HasDerivAt.comp_ofReal h1, ?_, ?_⟩
  · have := HasDerivAt.comp_ofReal h2
    push_cast
    exact this
  · simpa using h3

theorem C01_wave_semigroup (c dt1 dt2 kn h v : ℂ) (hc : c ≠ 0) (hkn : kn ≠ 0) :
    Wave.stepMode c dt2 kn false (Wave.stepMode c dt1 kn false h v).1 (Wave.stepMode c dt1 kn false h v).2
      = Wave.stepMode c (dt1 + dt2) kn false h v := by
  have hw : c * kn ≠ 0 := mul_ne_zero hc hkn
  have e : c * kn * (dt1 + dt2) = c * kn * dt1 + c * kn * dt2 := by ring
  rw [stepMode_nonDC c dt1 kn h v hc hkn, stepMode_nonDC c dt2 kn _ _ hc hkn,
    stepMode_nonDC c (dt1 + dt2) kn h v hc hkn, e, Complex.cos_add, Complex.sin_add]
  refine Prod.ext ?_ ?_
  · simp only
    field_simp
    ring
  · simp only
    field_simp
    ring

theorem C01_wave_inverse (c dt kn h v : ℂ) (hc : c ≠ 0) (hkn : kn ≠ 0) :
    Wave.stepMode c (-dt) kn false (Wave.stepMode c dt kn false h v).1 (Wave.stepMode c dt kn false h v).2 = (h, v) := by
  rw [C01_wave_semigroup c dt (-dt) kn h v hc hkn, add_neg_cancel, stepMode_nonDC_zero c kn h v hc hkn]

/-! ### from modes to states: the transform pair is exact on every real grid function (all `D ≥ 1`, `N ≥ 1`) -/

theorem C01_transform_roundtrip (D N : ℕ) (hD : 0 < D) (hN : 0 < N) (x : ℕ → ℝ) :
    Transform.irfftnM D N (Transform.rfftnM D N (Transform.tab (N ^ D) (fun j => ((x j : ℝ) : ℂ))))
      = Transform.tab (N ^ D) (fun j => ((x j : ℝ) : ℂ)) :=
  DFT.irfftn_rfftn_ofReal D N hD hN x

/-! ### THE PROPERTY, assembled: the whole step on every Nyquist-free real state, all `D ≥ 1`, all `N ≥ 1`, every real `t`

`ExactLinear.linStep D N Λ t u = irfftnM (E0step (exp_term t Λ_h) (rfftnM u)_h)` is the regenerated ETDRK0 step between
the model transforms; `stateOf D N ms` is the grid sample of `Σ_m a_m cos(2π κ_m·j/N + φ_m)`. -/

/-- the step of a superposition of modes strictly below Nyquist, under the documented operator `terms` (real
    coefficients), is the superposition of the analytic solutions `a e^{t Re λ_κ} cos(κ·x + φ + t Im λ_κ)`, with `λ_κ`
    the eigenvalue of `C01_symbol_is_eigenvalue` — whole arrays, any `t ∈ ℝ` (no CFL restriction, negative `t`) -/
theorem C01_exact_state (c : Cfg ℂ) (hD : 0 < c.D) (hN : 0 < c.N) (s : ℝ) (hs : c.s = (s : ℂ))
    (terms : List (ℂ × List ℕ)) (hre : ∀ t ∈ terms, t.1.im = 0) (t : ℝ) (ms : ExactLinear.Modes)
    (hms : ∀ m ∈ ms, ExactLinear.BelowNyquist c.D c.N m.1) :
    ExactLinear.linStep c.D c.N (polySymbol c terms) (t : ℂ) (ExactLinear.stateOf c.D c.N ms) =
      ExactLinear.stateOf c.D c.N (ms.map fun m =>
        (m.1, m.2.1 * Real.exp (t * (polyAt (imagVec c.D fun d => s * (m.1.getD d 0 : ℤ)) terms).re),
          m.2.2 + t * (polyAt (imagVec c.D fun d => s * (m.1.getD d 0 : ℤ)) terms).im)) := by
  rw [ExactLinear.linStep_stateOf c.D c.N hD hN _ (ExactLinear.hermSym_polySymbol c s hs terms hre) t ms hms]
  congr 1
  unfold ExactLinear.evolve
  apply List.map_congr_left
  intro m hm
  rw [ExactLinear.symAt_polySymbol c hD hN s hs terms hre m.1 (hms m hm)]

/-- every real grid state whose transform vanishes at and above Nyquist IS such a superposition, and the step
    acts on it mode by mode -/
theorem C01_exact_every_band_limited_state (D N : ℕ) (hD : 0 < D) (hN : 0 < N) (Λ : ℕ → ℂ)
    (hΛ : ExactLinear.HermSym D N Λ) (u : Array ℂ) (hsz : u.size = N ^ D)
    (hu : ∀ j < N ^ D, (u.getD j 0).im = 0) (hb : ExactLinear.BandLimited D N u) :
    ∃ ms, (∀ m ∈ ms, ExactLinear.BelowNyquist D N m.1) ∧ u = ExactLinear.stateOf D N ms ∧
      ∀ t : ℝ, ExactLinear.linStep D N Λ (t : ℂ) u = ExactLinear.stateOf D N (ExactLinear.evolve D N Λ t ms) := by
  obtain ⟨ms, hms, rfl⟩ := ExactLinear.exists_modes_of_bandLimited D N hD hN u hsz hu hb
  exact ⟨ms, hms, rfl, fun t => ExactLinear.linStep_stateOf D N hD hN Λ hΛ t ms hms⟩

/-- "n calls with dt equal one call with n·dt" and "−dt undoes dt", for whole states -/
theorem C01_semigroup_inverse_states (D N : ℕ) (hD : 0 < D) (hN : 0 < N) (Λ : ℕ → ℂ)
    (hΛ : ExactLinear.HermSym D N Λ) (u : Array ℂ) (hsz : u.size = N ^ D)
    (hu : ∀ j < N ^ D, (u.getD j 0).im = 0) (hb : ExactLinear.BandLimited D N u) (t : ℝ) (n : ℕ) :
    (ExactLinear.linStep D N Λ (t : ℂ))^[n] u = ExactLinear.linStep D N Λ (((n : ℝ) * t : ℝ) : ℂ) u ∧
      ExactLinear.linStep D N Λ ((-t : ℝ) : ℂ) (ExactLinear.linStep D N Λ (t : ℂ) u) = u :=
  have g := ExactLinear.linStep_group D N hD hN Λ hΛ t u ⟨hsz, hu, hb⟩
  ⟨g.1 n, g.2⟩

/-- the Nyquist-free hypothesis of the property is necessary: with Nyquist content both laws fail (N = 2) -/
theorem C01_nyquist_needed :
    ExactLinear.linStep 1 2 ExactLinear.nyqSym (-(1 / 2)) (ExactLinear.linStep 1 2 ExactLinear.nyqSym (1 / 2)
        ExactLinear.nyqState) ≠ ExactLinear.nyqState ∧
      (ExactLinear.linStep 1 2 ExactLinear.nyqSym (1 / 2))^[2] ExactLinear.nyqState
        ≠ ExactLinear.linStep 1 2 ExactLinear.nyqSym (↑(2 : ℕ) * (1 / 2)) ExactLinear.nyqState :=
  ⟨ExactLinear.nyquist_inverse_fails.2.2.2, ExactLinear.nyquist_semigroup_fails⟩

/-! ### the symbols of the stepper CLASSES, regenerated from their `_build_linear_operator` source on every run
(`Gen.Steppers.*`), equal the documented operators (a source edit changes the subject of these theorems) -/
open Exponax.Gen.Steppers in
theorem C01_generated_symbols (c : Cfg ℂ) (h : ℕ) (v ξ : List ℂ) (A : List (List ℂ)) (μ : ℂ) (mix : Bool) (a : List ℂ)
    (hv : v.length = c.D) (hξ : ξ.length = c.D) (hA : A.length = c.D) (hr : ∀ r ∈ A, r.length = c.D) :
    Advection_linear_operator (kappa c h) v = polySymbol c (pscale (-1) (gradInner c.D (vfun v) 1)) h ∧
    Diffusion_linear_operator (kappa c h) A = polySymbol c (quadTerms c.D (mfun A)) h ∧
    AdvectionDiffusion_linear_operator (kappa c h) v A
      = polySymbol c (pscale (-1) (gradInner c.D (vfun v) 1) ++ quadTerms c.D (mfun A)) h ∧
    Dispersion_linear_operator (kappa c h) ξ mix = polySymbol c (dispersionTerms c.D (vfun ξ) mix) h ∧
    HyperDiffusion_linear_operator (kappa c h) μ mix = polySymbol c (hyperTerms c.D μ mix) h ∧
    GeneralLinearStepper_linear_operator (kappa c h) a = polySymbol c (generalLinear c.D a) h :=
  ⟨Advection_linear_operator_polySymbol c h v hv, Diffusion_linear_operator_polySymbol c h A hA hr,
   AdvectionDiffusion_linear_operator_polySymbol c h v A hv hA hr, Dispersion_linear_operator_polySymbol c h ξ mix hξ,
   HyperDiffusion_linear_operator_polySymbol c h μ mix, GeneralLinearStepper_linear_operator_polySymbol c h a⟩

/-- the regenerated wave symbols are `±i c |κ|` -/
theorem C01_generated_wave (κ : List ℂ) (c kn : ℂ) :
    Gen.Steppers.Wave_linear_operator κ c kn = [(Wave.symbols c kn).1, (Wave.symbols c kn).2] :=
  rfl

/-- every class with its own `_build_linear_operator` is covered, and the Normalized…/Difficulty… classes inherit -/
theorem C01_generated_coverage : Gen.Steppers.generated_classes.length = 26 ∧
    Gen.Steppers.inherited_classes.length = 11 := by
  rw [coverage_generated, coverage_inherited]; exact ⟨rfl, rfl⟩

example : ∃ c : Cfg ℂ, ∃ s : ℝ, c.s = (s : ℂ) ∧ s ≠ 0 :=
  ⟨{ D := 2, N := 8, s := ((3 : ℝ) : ℂ), fp := 0, fq := 0 }, 3, rfl, by norm_num⟩
example : (2 : ℝ) ≠ 0 ∧ (1.5 : ℝ) ≠ 0 := by norm_num

/-! ### `Wave.step_fourier`, regenerated from `stepper/_wave.py` on every run (diagonalisation, propagation, back
transform, explicit mean-mode drift), is the per-mode model `Wave.stepMode` of `C01_wave` / `C01_wave_dc`, with the
wavenumber norm the constructor stores -/
open Exponax.SpectralOpsEq in
theorem C01_generated_wave_step (D N : ℕ) (hN : 0 < N) (L dt c : ℂ) (u_hat : MC ℂ) :
    Gen.SpectralOps.Wave_step_fourier D N L dt c u_hat =
      tab2 2 (Layout.numModes D N) (fun i h =>
        if i = 0 then (Wave.stepMode c dt (waveKn D N L h) (decide (h = 0)) (at2 u_hat 0 h) (at2 u_hat 1 h)).1
        else (Wave.stepMode c dt (waveKn D N L h) (decide (h = 0)) (at2 u_hat 0 h) (at2 u_hat 1 h)).2) :=
  Wave_step_fourier_eq D N hN L dt c u_hat

open Exponax.SpectralOpsEq in
/-- the stored wavenumber norm is `(2π/L)·|k|`, zero exactly at the mean mode -/
theorem C01_generated_wave_norm (D N : ℕ) (hD : 1 ≤ D) (hN : 0 < N) (ℓ : ℝ) (hℓ : 0 < ℓ) (h : ℕ)
    (hh : h < Layout.numModes D N) :
    waveKn D N (ℓ : ℂ) h = ((2 * Real.pi / ℓ * Real.sqrt (kSq (cfg D N (ℓ : ℂ)) h) : ℝ) : ℂ) ∧
      (waveKn D N (ℓ : ℂ) h = 0 ↔ ∀ d < D, (Layout.wnFlat D N h).getD d 0 = 0) :=
  ⟨waveKn_real D N hD hN ℓ hℓ h hh, waveKn_eq_zero_iff D N hD hN ℓ hℓ h hh⟩

/-! ### the wave stepper on WHOLE STATES in physical space (library `Proofs/WaveWhole*.lean`):
`WaveWhole.waveStep D N L dt c` is the regenerated pipeline fft → `Wave_step_fourier` → ifft on a two-channel state
(`C01_wave_whole_is_generated`); on every pair of real band-limited states it returns the superposition of the analytic
d'Alembert solutions  h(t) = a cos(ωt)·cos(κx+φ) + b sinc_ω(t)·cos(κx+ψ),  v(t) = −aω sin(ωt)·cos(κx+φ) + b cos(ωt)·cos(κx+ψ),
ω = c(2π/L)|k| (mean mode: h₀ + t v₀), for all D, N ≥ 1, every real dt (negative too), L > 0, c ≠ 0; n steps = one step of
n·dt, and −dt undoes dt.  (c = 0 is excluded: the diagonalisation divides by c|k|, `C01_wave_zero_speed_degenerate`.) -/

open Exponax.WaveWhole in
theorem C01_wave_whole_is_generated :
    ∀ (D N : ℕ),
      1 ≤ D →
        ∀ (L dt c : ℂ) (u : Nonlin.MC ℂ),
          ((Gen.SpectralOps.fft [2] D N (some D) u).bind fun uh ↦
              Gen.SpectralOps.ifft [2] D N (some D) (some N) (Gen.SpectralOps.Wave_step_fourier D N L dt c uh)) =
            some (waveStep D N L dt c u) := by
  intro D N hD L dt c u
  -- `BaseStepper.step` calls the transforms with `num_spatial_dims = D`, `num_points = N`
  rw [(SpectralOpsEq.fft_eq 2 D N hD u).1, Option.bind_some, (SpectralOpsEq.ifft_eq 2 D N hD _).1]
  rfl

open Exponax.WaveWhole in
theorem C01_wave_whole_state :
    ∀ (D N : ℕ),
      0 < D →
        0 < N →
          ∀ (c L t : ℝ),
            c ≠ 0 →
              0 < L →
                ∀ (ms ms' : ExactLinear.Modes),
                  (∀ q ∈ ms, ExactLinear.BelowNyquist D N q.1) →
                    (∀ q ∈ ms', ExactLinear.BelowNyquist D N q.1) →
                      waveStep D N ↑L ↑t ↑c #[ExactLinear.stateOf D N ms, ExactLinear.stateOf D N ms'] =
                        #[ExactLinear.stateOf D N (waveH D c L t ms ms'), ExactLinear.stateOf D N (waveV D c L t ms ms')] :=
  @Exponax.WaveWhole.waveStep_stateOf

open Exponax.WaveWhole in
theorem C01_wave_every_band_limited_state :
    ∀ (D N : ℕ),
      0 < D →
        0 < N →
          ∀ (c L : ℝ),
            c ≠ 0 →
              0 < L →
                ∀ (u₀ u₁ : Array ℂ),
                  RealBL D N u₀ →
                    RealBL D N u₁ →
                      ∃ ms ms',
                        (∀ q ∈ ms, ExactLinear.BelowNyquist D N q.1) ∧
                          (∀ q ∈ ms', ExactLinear.BelowNyquist D N q.1) ∧
                            u₀ = ExactLinear.stateOf D N ms ∧
                              u₁ = ExactLinear.stateOf D N ms' ∧
                                ∀ (t : ℝ),
                                  waveStep D N ↑L ↑t ↑c #[u₀, u₁] =
                                    #[ExactLinear.stateOf D N (waveH D c L t ms ms'),
                                      ExactLinear.stateOf D N (waveV D c L t ms ms')] := by
  intro D N hD hN c L hc hL u₀ u₁ h₀ h₁
  obtain ⟨ms, hms, rfl⟩ := ExactLinear.exists_modes_of_bandLimited D N hD hN u₀ h₀.1 h₀.2.1 h₀.2.2
  obtain ⟨ms', hms', rfl⟩ := ExactLinear.exists_modes_of_bandLimited D N hD hN u₁ h₁.1 h₁.2.1 h₁.2.2
  exact ⟨ms, ms', hms, hms', rfl, rfl, fun t => waveStep_stateOf D N hD hN c L t hc hL ms ms' hms hms'⟩

open Exponax.WaveWhole in
theorem C01_wave_amplitudes_solve_ode :
    ∀ (ω a b t : ℝ),
      HasDerivAt (fun t ↦ a * Real.cos (ω * t) + b * sincT ω t) (a * -(ω * Real.sin (ω * t)) + b * Real.cos (ω * t)) t ∧
        HasDerivAt (fun t ↦ a * -(ω * Real.sin (ω * t)) + b * Real.cos (ω * t))
            (-ω ^ 2 * (a * Real.cos (ω * t) + b * sincT ω t)) t ∧
          a * Real.cos (ω * 0) + b * sincT ω 0 = a ∧ a * -(ω * Real.sin (ω * 0)) + b * Real.cos (ω * 0) = b := by
  intro ω a b t
  have h1 : HasDerivAt (fun t : ℝ => ω * t) ω t := by
    simpa using HasDerivAt.const_mul ω (hasDerivAt_id t)
  have hcos : HasDerivAt (fun t => Real.cos (ω * t)) (-(ω * Real.sin (ω * t))) t :=
    HasDerivAt.congr_deriv (HasDerivAt.cos h1) (by ring)
  have hsin : HasDerivAt (fun t => Real.sin (ω * t)) (ω * Real.cos (ω * t)) t :=
    HasDerivAt.congr_deriv (HasDerivAt.sin h1) (by ring)
  refine ⟨?_, ?_, ?_, ?_⟩
  · exact (hcos.const_mul a).add ((hasDerivAt_sincT ω t).const_mul b)
  · have h2 := ((hsin.const_mul ω).neg.const_mul a).add (hcos.const_mul b)
    refine HasDerivAt.congr_deriv h2 ?_
    have := omega_sq_sincT ω t
    linear_combination b * this
  · unfold sincT
    by_cases h : ω = 0 <;> simp [h]
  · simp

open Exponax.WaveWhole in
theorem C01_wave_whole_semigroup :
    ∀ (D N : ℕ),
      0 < D →
        0 < N →
          ∀ (c L t : ℝ),
            c ≠ 0 →
              0 < L →
                ∀ (u₀ u₁ : Array ℂ),
                  RealBL D N u₀ →
                    RealBL D N u₁ →
                      ∀ (n : ℕ), (waveStep D N ↑L ↑t ↑c)^[n] #[u₀, u₁] = waveStep D N ↑L ↑(↑n * t) ↑c #[u₀, u₁] :=
  @Exponax.WaveWhole.waveStep_iterate_bandLimited

open Exponax.WaveWhole in
theorem C01_wave_whole_inverse :
    ∀ (D N : ℕ),
      0 < D →
        0 < N →
          ∀ (c L t : ℝ),
            c ≠ 0 →
              0 < L →
                ∀ (u₀ u₁ : Array ℂ),
                  RealBL D N u₀ →
                    RealBL D N u₁ → waveStep D N (↑L) (↑(-t)) (↑c) (waveStep D N ↑L ↑t ↑c #[u₀, u₁]) = #[u₀, u₁] :=
  fun D N hD hN c L t hc hL u₀ u₁ h₀ h₁ => (waveStep_group D N hD hN c L t hc hL u₀ u₁ h₀ h₁).2

open Exponax.WaveWhole in
theorem C01_wave_zero_speed_degenerate :
    ∀ (dt kn x y : ℂ), (Wave.stepMode 0 dt kn false x y).1 = 0 := by
  intro dt kn x y
  rw [stepMode_halved]
  simp

end Exponax
