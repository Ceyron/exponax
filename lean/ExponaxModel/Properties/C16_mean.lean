import ExponaxModel.Proofs.BaseStepperGenEq
/-
C16 — `mean_metric` (regenerated from `exponax/metrics/_utils.py`, the wrapper behind every `mean_*`
metric): the arithmetic mean over the batch of the per-member metric; for one member, or equal members, the metric itself.
-/
namespace Exponax
open Exponax.Gen.Base Exponax.BaseStepperGenEq

theorem C16_mean_metric_is_the_batch_mean {S : Type} (f : S → ℂ) (args : List S) :
    mean_metric f args = (args.map f).sum / (args.length : ℂ) :=
  mean_metric_eq f args

theorem C16_mean_metric_single_member {S : Type} (f : S → ℂ) (x : S) : mean_metric f [x] = f x := by
  simp [mean_metric_eq]

theorem C16_mean_metric_equal_members {S : Type} (f : S → ℂ) (x : S) (n : ℕ) (hn : n ≠ 0) :
    mean_metric f (List.replicate n x) = f x := by
  rw [mean_metric_eq, List.map_replicate, List.sum_replicate, List.length_replicate, nsmul_eq_mul,
    mul_div_cancel_left₀ _ (Nat.cast_ne_zero.2 hn)]

end Exponax
