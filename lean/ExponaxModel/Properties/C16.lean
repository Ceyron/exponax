import ExponaxModel.Proofs.MetricsAlgebra
import ExponaxModel.Proofs.MetricsGenEq
import ExponaxModel.Proofs.MetricsGenFourierEq
import ExponaxModel.Proofs.MetricsSobolev
import ExponaxModel.Proofs.MetricsResample
import ExponaxModel.Proofs.MetricsCorrelation
import ExponaxModel.Proofs.MetricsIntegral
/-
C16 — error metrics are consistent quadratures of the documented norms.
`Metrics.*` mirrors `exponax/metrics/*.py` on one channel + the per-channel combination; every exported metric function is
regenerated (`Gen.MetricsGen`) and proved equal to that model below (`C16_generated_*`), besides the correspondence runs.
-/
set_option linter.unusedVariables false
namespace Exponax
open Exponax.Metrics Exponax.Layout

/-- the value is the documented quadrature `((L/N)^D Σ |u_j|^p)^q` -/
theorem C16_quadrature (D N : ℕ) (L p q : ℝ) (u : Array ℝ) :
    spatialAggregator D N L p q u = ((L / (N : ℝ)) ^ D * ∑ j ∈ Finset.range u.size, |u.getD j 0| ^ p) ^ q :=
  spatialAggregator_eq_sum D N L p q u

/-- it scales with the domain extent as `(a^D)^q` (so `L^D` for outer exponent 1) -/
theorem C16_L_scaling (D N : ℕ) (a L p q : ℝ) (ha : 0 < a) (hL : 0 ≤ L) (u : Array ℝ) :
    spatialAggregator D N (a * L) p q u = (a ^ D) ^ q * spatialAggregator D N L p q u :=
  spatialAggregator_scale_L D N a L p q ha hL u

/-- PARSEVAL: with inner exponent 2 the Fourier aggregate of the stored half spectrum (weights
    `1/reconstruction scaling`) equals the spatial aggregate, every `D ≥ 1`, `N ≥ 1` (floor 0, no band) -/
theorem C16_parseval (D N : ℕ) (hD : 1 ≤ D) (hN : 0 < N) (L s q : ℝ) (ur : Array ℝ) (hsz : ur.size = N ^ D) :
    fourierAggregator D N L s 2 q none none 0 (magnitudes D N ur) = spatialAggregator D N L 2 q ur :=
  fourierAggregator_eq_spatialAggregator D N hD hN L s q ur hsz _ (fun _ hh => DFT.tab_getD _ _ _ _ hh)

theorem C16_parseval_weights (D N : ℕ) (hD : 1 ≤ D) (hN : 0 < N) (u : Array ℂ) (hu : ∀ j < N ^ D, (u.getD j 0).im = 0) :
    ∑ j ∈ Finset.range (N ^ D), ‖u.getD j 0‖ ^ 2 =
      ∑ h ∈ Finset.range (numModes D N),
        ‖(Transform.rfftnM D N u).getD h 0‖ ^ 2 / (scaling D N 1 (unflatten (wavenumberShape D N) h) : ℝ) :=
  parseval_scaling D N hD hN u hu

/-- absolute metrics split additively over channels -/
theorem C16_channel_additive (dn rn sn : List ℝ) : combine 0 dn rn sn = dn.sum := combine_zero dn rn sn

/-- … and (outer exponent 1) over disjoint frequency bands `[a,b]`, `[b+1,c]`; the full band is everything -/
theorem C16_band_additive (D N : ℕ) (L s p : ℝ) (hp : p ≠ 0) (a b c : ℕ) (hab : a ≤ b) (hbc : b ≤ c)
    (floor : ℝ) (mag : Array ℝ) :
    fourierAggregator D N L s p 1 (some (a, c)) none floor mag =
      fourierAggregator D N L s p 1 (some (a, b)) none floor mag +
        fourierAggregator D N L s p 1 (some (b + 1, c)) none floor mag := by
  simp only [fourierAggregator_none, Real.rpow_one]
  rw [← mul_add, ← Finset.sum_add_distrib]
  congr 1
  apply Finset.sum_congr rfl
  intro h _
  rw [keptVal_split D N a b c hab hbc floor mag h (fun x => x ^ p) (Real.zero_rpow hp), add_div]

theorem C16_band_full (D N hi : ℕ) (hD : 1 ≤ D) (hN : 0 < N) (hhi : N / 2 ≤ hi) (L s p q : ℝ) (deriv : Option ℝ)
    (floor : ℝ) (mag : Array ℝ) :
    fourierAggregator D N L s p q (some (0, hi)) deriv floor mag = fourierAggregator D N L s p q none deriv floor mag := by
  have hk : ∀ h ∈ Finset.range (numModes D N),
      keptVal D N (some (0, hi)) floor mag h = keptVal D N none floor mag h := by
    intro h hh
    rw [keptVal_some, if_pos (bandMask_full D N h hi hD hN (Finset.mem_range.mp hh) hhi)]
  rcases deriv with _ | m
  · rw [fourierAggregator_none, fourierAggregator_none]
    congr 2
    exact Finset.sum_congr rfl (fun h hh => by rw [hk h hh])
  · rw [fourierAggregator_some, fourierAggregator_some]
    apply Finset.sum_congr rfl
    intro d _
    congr 2
    exact Finset.sum_congr rfl (fun h hh => by rw [hk h hh])

/-- zero for identical inputs, positive otherwise -/
theorem C16_zero_iff (D N : ℕ) (L p q : ℝ) (hp : 0 < p) (hq : 0 < q) (hL : 0 < L) (hN : 0 < N) (u : Array ℝ) :
    (spatialAggregator D N L p q u = 0 ↔ ∀ x ∈ u.toList, x = 0) ∧
    ((∃ x ∈ u.toList, x ≠ 0) → 0 < spatialAggregator D N L p q u) :=
  ⟨spatialAggregator_eq_zero_iff D N L p q hp hq hL hN u, spatialAggregator_pos D N L p q hp hq hL hN u⟩

/-- symmetric in its two arguments -/
theorem C16_symmetric (D N n : ℕ) (L p q : ℝ) (u r : Array ℝ) :
    spatialAggregator D N L p q (Transform.tab n fun j => u.getD j 0 - r.getD j 0) =
      spatialAggregator D N L p q (Transform.tab n fun j => r.getD j 0 - u.getD j 0) :=
  spatialAggregator_sub_comm_tab D N n L p q u r

/-- homogeneous of degree `p·q` under common scaling (1 for MAE/RMSE, 2 for MSE) -/
theorem C16_homogeneous (D N : ℕ) (L p q a : ℝ) (hL : 0 ≤ L) (u : Array ℝ) :
    spatialAggregator D N L p q (u.map fun x => a * x) = |a| ^ (p * q) * spatialAggregator D N L p q u :=
  spatialAggregator_smul D N L p q a hL u

/-- normalized and symmetric variants are scale-free; the symmetric one is symmetric -/
theorem C16_scale_free (t : ℝ) (ht : t ≠ 0) (dn rn sn : List ℝ) :
    combine 1 (dn.map (t * ·)) (rn.map (t * ·)) (sn.map (t * ·)) = combine 1 dn rn sn ∧
    combine 2 (dn.map (t * ·)) (rn.map (t * ·)) (sn.map (t * ·)) = combine 2 dn rn sn ∧
    combine 2 dn rn sn = combine 2 dn sn rn :=
  ⟨combine_one_scale_free t ht dn rn sn, combine_two_scale_free t ht dn rn sn, combine_two_symm dn rn sn⟩

/-- correlation lies in `[−1, 1]`, and is `±1` for positively / negatively proportional fields -/
theorem C16_correlation (D N : ℕ) (L : ℝ) (hL : 0 < L) (hN : 0 < N) (u v : Array ℝ) (hu : u.size = N ^ D)
    (hv : v.size = N ^ D) :
    (-1 ≤ correlationChannel D N L u v ∧ correlationChannel D N L u v ≤ 1) ∧
    (∀ a : ℝ, 0 < a → (∃ x ∈ u.toList, x ≠ 0) → correlationChannel D N L u (u.map fun x => a * x) = 1) ∧
    (∀ a : ℝ, a < 0 → (∃ x ∈ u.toList, x ≠ 0) → correlationChannel D N L u (u.map fun x => a * x) = -1) :=
  ⟨correlationChannel_mem_Icc D N L hL.le u v hu hv,
    fun a ha hne => correlationChannel_smul_pos D N L a hL hN ha u hu hne,
    fun a ha hne => correlationChannel_smul_neg D N L a hL hN ha u hu hne⟩

example : bandMask [2, -3] 3 3 = true ∧ bandMask [2, -3] 0 2 = false := by decide
example : (0 : ℝ) < 2 ∧ (0 : ℝ) < 1 / 2 := by norm_num

/-! ### every exported metric, REGENERATED from `exponax/metrics/*.py` (27 functions found by `ast`), is the model
quadrature the theorems above are about -/
open Exponax.Gen.MetricsGen in
/-- the spatial aggregator and `spatial_norm` (all three modes) — for ANY scalar type, so also for the binary64 model the
    driver executes -/
theorem C16_generated_spatial {K : Type} [Add K] [Sub K] [Mul K] [Div K] [Neg K] [Zero K] [One K] [NatCast K] [IntCast K]
    [HasRpow K] [HasAbs K] [HasLtB K] [HasSqrt K] (D N : ℕ) (u : Array K) (us rs : List (Array K)) (mode : String)
    (L p q : K) :
    spatial_aggregator D N u none L none p (some q) = Metrics.spatialAggregator D N L p q u ∧
    spatial_norm D N us (some rs) mode L p (some q) =
      some (Metrics.combine (modeCode mode) (chanAgg D N L p q (chanSub us rs)) (chanAgg D N L p q rs)
        (chanAgg D N L p q us)) :=
  ⟨by simpa using spatial_aggregator_eq D N u none L none p (some q), spatial_norm_eq D N us rs mode L p q⟩

open Exponax.Gen.MetricsGen in
/-- the Fourier aggregator incl. its default band limits (`low = 0`, `high = N//2+1`), masks, scaling and cell volume -/
theorem C16_generated_fourier (D N : ℕ) (u : Array ℝ) (L p q : ℝ) (low high : Option ℕ) :
    fourier_aggregator D N (Metrics.toComplex u) none (L : ℂ) none (p : ℂ) (some (q : ℂ)) low high none =
      ((Metrics.fourierAggregator D N L (2 * Real.pi / L) p q (bandOf N low high) none (1 / 100000)
        (Metrics.magnitudes D N u) : ℝ) : ℂ) := fourier_aggregator_eq_model D N u L p q low high

theorem C16_generated_coverage : Gen.MetricsGen.generated_metrics.length = 27 := by
  rw [Gen.MetricsGen.generated_metrics_pinned]; rfl

/-! ### Sobolev metrics = plain metric + metric of the spectral gradient (regenerated `H1_*` functions, any scalar type; the
derivative-order-1 aggregator is the SUM over axes of the plain aggregator of the gradient components), and resolution
independence: the p = 2 metrics of a band-limited pair are unchanged by `mapBetween` to another resolution -/

open Exponax.SmallGaps in
theorem C16_sobolev_MSE_split :
    ∀ {K : Type} [inst : Add K] [inst_1 : Sub K] [inst_2 : Mul K] [inst_3 : Div K] [inst_4 : Neg K]
      [inst_5 : Zero K] [inst_6 : One K] [inst_7 : NatCast K] [inst_8 : IntCast K] [inst_9 : HasRpow K] [inst_10 : HasAbs K]
      [inst_11 : HasLtB K] [HasSqrt K] [inst_13 : HasExp K] [inst_14 : HasI K] [inst_15 : HasPi K]
      [inst_16 : Gen.Prelude.HasCpow K] (D N : ℕ) (u : List (Array K)) (L : K) (lo hi : Option ℕ)
      (ref : Option (List (Array K))),
      ∃ a b,
        Gen.MetricsGen.fourier_MSE D N u ref L lo hi none = some a ∧
          Gen.MetricsGen.fourier_MSE D N u ref L lo hi (some (lit 1)) = some b ∧
            Gen.MetricsGen.H1_MSE D N u ref L lo hi = some (a + b) :=
  @Exponax.SmallGaps.H1_MSE_split

open Exponax.SmallGaps in
theorem C16_sobolev_RMSE_split :
    ∀ {K : Type} [inst : Add K] [inst_1 : Sub K] [inst_2 : Mul K] [inst_3 : Div K] [inst_4 : Neg K]
      [inst_5 : Zero K] [inst_6 : One K] [inst_7 : NatCast K] [inst_8 : IntCast K] [inst_9 : HasRpow K] [inst_10 : HasAbs K]
      [inst_11 : HasLtB K] [HasSqrt K] [inst_13 : HasExp K] [inst_14 : HasI K] [inst_15 : HasPi K]
      [inst_16 : Gen.Prelude.HasCpow K] (D N : ℕ) (u : List (Array K)) (L : K) (lo hi : Option ℕ)
      (ref : Option (List (Array K))),
      ∃ a b,
        Gen.MetricsGen.fourier_RMSE D N u ref L lo hi none = some a ∧
          Gen.MetricsGen.fourier_RMSE D N u ref L lo hi (some (lit 1)) = some b ∧
            Gen.MetricsGen.H1_RMSE D N u ref L lo hi = some (a + b) :=
  @Exponax.SmallGaps.H1_RMSE_split

open Exponax.SmallGaps in
theorem C16_sobolev_nRMSE_split :
    ∀ {K : Type} [inst : Add K] [inst_1 : Sub K] [inst_2 : Mul K] [inst_3 : Div K] [inst_4 : Neg K]
      [inst_5 : Zero K] [inst_6 : One K] [inst_7 : NatCast K] [inst_8 : IntCast K] [inst_9 : HasRpow K] [inst_10 : HasAbs K]
      [inst_11 : HasLtB K] [HasSqrt K] [inst_13 : HasExp K] [inst_14 : HasI K] [inst_15 : HasPi K]
      [inst_16 : Gen.Prelude.HasCpow K] (D N : ℕ) (u : List (Array K)) (L : K) (lo hi : Option ℕ) (r : List (Array K)),
      ∃ a b,
        Gen.MetricsGen.fourier_nRMSE D N u r L lo hi none = some a ∧
          Gen.MetricsGen.fourier_nRMSE D N u r L lo hi (some (lit 1)) = some b ∧
            Gen.MetricsGen.H1_nRMSE D N u r L lo hi = some (a + b) :=
  @Exponax.SmallGaps.H1_nRMSE_split

open Exponax.SmallGaps in
theorem C16_derivative_metric_is_gradient_sum :
    ∀ (D N : ℕ) (L s p q : ℝ) (band : Option (ℕ × ℕ)) (floor : ℝ) (mag : Array ℝ),
      (∀ (h : ℕ), 0 ≤ mag.getD h 0) →
        Metrics.fourierAggregator D N L s p q band (some 1) floor mag =
          ∑ d ∈ Finset.range D, Metrics.fourierAggregator D N L s p q none none 0 (gradMag D N s band floor mag d) :=
  @Exponax.SmallGaps.fourierAggregator_deriv_one_eq_gradient

open Exponax.SmallGaps in
theorem C16_resolution_independent :
    ∀ (D Nold Nnew : ℕ),
      0 < D →
        0 < Nold →
          0 < Nnew →
            ∀ (ob : Bool) (L q : ℝ) (ur rr : Array ℝ),
              ur.size = Nold ^ D →
                rr.size = Nold ^ D →
                  Interp.BandLimitedN D Nold (min Nold Nnew) (Metrics.toComplex ur) →
                    Interp.BandLimitedN D Nold (min Nold Nnew) (Metrics.toComplex rr) →
                      Metrics.spatialAggregator D Nnew L 2 q
                          (rsub (Nnew ^ D) (reArr (Interp.mapBetween D Nold Nnew ob (Metrics.toComplex ur)))
                            (reArr (Interp.mapBetween D Nold Nnew ob (Metrics.toComplex rr)))) =
                        Metrics.spatialAggregator D Nold L 2 q (rsub (Nold ^ D) ur rr) := by
  intro D Nold Nnew hD hNo hNn ob L q ur rr hszu hszr hbu hbr
  have hd := spatialAggregator_mapBetween D Nold Nnew hD hNo hNn ob L q (rsub (Nold ^ D) ur rr)
    (by simp [rsub]) (by rw [toComplex_rsub]; exact bandLimitedN_vsubA D Nold _ _ _ hbu hbr)
  rw [← hd]
  congr 1
  have hszm : (Interp.mapBetween D Nold Nnew ob (toComplex (rsub (Nold ^ D) ur rr))).size = Nnew ^ D :=
    mapBetween_size_of D Nold Nnew ob _ (by simp [toComplex, rsub])
  apply Array.ext
  · rw [reArr_size, hszm]; simp [rsub]
  · intro i h1 h2
    have hi : i < Nnew ^ D := by simpa [rsub] using h1
    have e1 : ∀ (a : Array ℝ) (h : i < a.size), a[i] = a.getD i 0 := fun a h => by simp [Array.getD, h]
    rw [e1 _ h1, e1 _ h2, rsub, DFT.tab_getD _ _ _ _ hi, reArr_getD, reArr_getD, reArr_getD, toComplex_rsub,
      mapBetween_sub_getD D Nold Nnew ob _ _ i hi, Complex.sub_re]

open Exponax.SmallGaps in
theorem C16_generated_MSE_RMSE_resolution_independent :
    ∀ (D Nold Nnew : ℕ),
      0 < D →
        0 < Nold →
          0 < Nnew →
            ∀ (ob : Bool) (L : ℝ) (ur rr : Array ℝ),
              ur.size = Nold ^ D →
                rr.size = Nold ^ D →
                  Interp.BandLimitedN D Nold (min Nold Nnew) (Metrics.toComplex ur) →
                    Interp.BandLimitedN D Nold (min Nold Nnew) (Metrics.toComplex rr) →
                      have vu := reArr (Interp.mapBetween D Nold Nnew ob (Metrics.toComplex ur));
                      have vr := reArr (Interp.mapBetween D Nold Nnew ob (Metrics.toComplex rr));
                      Gen.MetricsGen.MSE D Nnew [vu] (some [vr]) L = Gen.MetricsGen.MSE D Nold [ur] (some [rr]) L ∧
                        Gen.MetricsGen.RMSE D Nnew [vu] (some [vr]) L = Gen.MetricsGen.RMSE D Nold [ur] (some [rr]) L := by
  intro D Nold Nnew hD hNo hNn ob L ur rr hszu hszr hbu hbr vu vr
  have hszv : vu.size = Nnew ^ D := by
    show (reArr _).size = _
    rw [reArr_size]
    exact mapBetween_size_of D Nold Nnew ob _ (by simp [Metrics.toComplex, hszu])
  have hmodel : ∀ (N : ℕ) (a b : Array ℝ) (p q : ℝ), a.size = N ^ D →
      Gen.MetricsGen.spatialModel 0 D N L p q [a] [b] = spatialAggregator D N L p q (rsub (N ^ D) a b) := by
    intro N a b p q ha
    unfold Gen.MetricsGen.spatialModel Gen.MetricsGen.chanAgg Gen.MetricsGen.chanSub
    rw [Metrics.combine_zero]
    simp [rsub, ha]
  rw [Gen.MetricsGen.MSE_eq, Gen.MetricsGen.MSE_eq, Gen.MetricsGen.RMSE_eq, Gen.MetricsGen.RMSE_eq,
    hmodel Nnew vu vr _ _ hszv, hmodel Nold ur rr _ _ hszu, hmodel Nnew vu vr _ _ hszv,
    hmodel Nold ur rr _ _ hszu, lit_two_real, qlit_half_real]
  have h1 : (lit 1 : ℝ) = 1 := by simp
  rw [h1]
  exact ⟨congrArg some (C16_resolution_independent D Nold Nnew hD hNo hNn ob L 1 ur rr hszu hszr hbu hbr),
    congrArg some (C16_resolution_independent D Nold Nnew hD hNo hNn ob L (1 / 2) ur rr hszu hszr hbu hbr)⟩

/-! ### the metric IS the continuous quantity: for a band-limited state the p = 2 aggregator equals the Mathlib integral of u²
over the box [0, L]^D (hence is independent of N); multi-channel correlation lies in [−1, 1] and is ±1 for proportional channels -/

open Exponax.SmallGaps2 in
theorem C16_correlation_multichannel :
    ∀ (D N : ℕ),
      0 < N →
        ∀ (u r : List (Array ℝ)),
          (∀ a ∈ u, a.size = N ^ D) →
            ((∀ a ∈ r, a.size = N ^ D) → -1 ≤ Gen.MetricsGen.correlation u r ∧ Gen.MetricsGen.correlation u r ≤ 1) ∧
              (u ≠ [] →
                  r.length = u.length →
                    (∀ a ∈ u, ∃ x ∈ a.toList, x ≠ 0) →
                      (∀ (c : ℕ) (h1 : c < u.length) (h2 : c < r.length),
                          ∃ a, 0 < a ∧ r[c] = Array.map (fun x ↦ a * x) u[c]) →
                        Gen.MetricsGen.correlation u r = 1) ∧
                (u ≠ [] →
                  r.length = u.length →
                    (∀ a ∈ u, ∃ x ∈ a.toList, x ≠ 0) →
                      (∀ (c : ℕ) (h1 : c < u.length) (h2 : c < r.length), ∃ a < 0, r[c] = Array.map (fun x ↦ a * x) u[c]) →
                        Gen.MetricsGen.correlation u r = -1) := by
  -- the implementation has no `domain_extent` argument (the cell volume cancels): `L = 1` links it to the model
  intro D N hN u r hu
  refine ⟨?_, ?_, ?_⟩
  · intro hr
    rw [correlation_eq_mean D N 1 one_pos hN u r hu hr]
    exact correlationMean_mem_Icc D N 1 zero_le_one u r hu hr
  · intro hne hlen hu0 hprop
    have hr := size_of_prop (N ^ D) u r hlen hu
      (fun c h1 h2 => by obtain ⟨a, _, h⟩ := hprop c h1 h2; exact ⟨a, h⟩)
    rw [correlation_eq_mean D N 1 one_pos hN u r hu hr]
    exact correlationMean_pos D N 1 one_pos hN u r hne hlen hu hu0 hprop
  · intro hne hlen hu0 hprop
    have hr := size_of_prop (N ^ D) u r hlen hu
      (fun c h1 h2 => by obtain ⟨a, _, h⟩ := hprop c h1 h2; exact ⟨a, h⟩)
    rw [correlation_eq_mean D N 1 one_pos hN u r hu hr]
    exact correlationMean_neg D N 1 one_pos hN u r hne hlen hu hu0 hprop

open Exponax.SmallGaps2 in
theorem C16_metric_is_the_integral :
    ∀ (D N : ℕ),
      0 < N →
        ∀ (L : ℝ),
          0 < L →
            ∀ (ms : ExactLinear.Modes),
              (∀ x ∈ ms, ExactLinear.BelowNyquist D N x.1) →
                Metrics.spatialAggregator D N L 2 1 (SmallGaps.reArr (ExactLinear.stateOf D N ms)) =
                  ∫ (x : Fin D → ℝ) in box D L, trigPoly D L ms x ^ 2 := by
  intro D N hN L hL ms hms
  rw [spatialAggregator_eq_integral_rpow D N hN L hL 1 ms hms, Real.rpow_one]

open Exponax.SmallGaps2 in
theorem C16_band_limited_metric_independent_of_N :
    ∀ (D N N' : ℕ),
      0 < N →
        0 < N' →
          ∀ (L q : ℝ) (ms : ExactLinear.Modes),
            (∀ x ∈ ms, ExactLinear.BelowNyquist D N x.1) →
              (∀ x ∈ ms, ExactLinear.BelowNyquist D N' x.1) →
                Metrics.spatialAggregator D N L 2 q (SmallGaps.reArr (ExactLinear.stateOf D N ms)) =
                  Metrics.spatialAggregator D N' L 2 q (SmallGaps.reArr (ExactLinear.stateOf D N' ms)) := by
  intro D N N' hN hN' L q ms hms hms'
  rw [spatialAggregator_stateOf D N hN L q ms hms, spatialAggregator_stateOf D N' hN' L q ms hms']

end Exponax
