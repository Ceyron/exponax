import ExponaxModel.Properties.C13_wiring
import ExponaxModel.Proofs.InterfaceAssembly2
import ExponaxModel.Proofs.InterfaceCounterexample
import ExponaxModel.Proofs.InterfaceSpecific
/-
C13 — the ASSEMBLED statement: general, normalized and difficulty interfaces give the same step.  Separate file
because the assembly library builds on `Properties/C13.lean` / `C13_wiring.lean`.

`Interface.etdrkStep p dt λ M r N u` is the regenerated `exp_term` / `E?_half_exp_term` / `E?_coef_i` fed into the regenerated
`E?step` (orders 0..4), `Interface.baseStep` mirrors `BaseStepper.__init__` + `step_fourier`, and `X_step` is `baseStep` on the
class's regenerated `_linear_operator` and `_stepper_nonlinear_fun` (`Gen.Steppers`, `Gen.StepperWiring`); for the Normalized /
Difficulty classes it is the parent's step on the regenerated `…_super_args`.  The nonlinear scaling laws need a REAL domain
extent (`irfftn` takes real parts; counterexample below); linear and polynomial families hold for complex L too.
-/
set_option linter.unusedVariables false
namespace Exponax

open Exponax.Interface in
theorem C13_step_rescaling_all_orders :
    ∀ (p : ℕ) (dt : ℂ) (lam : Spec) (M : ℕ) (r : ℂ) (N : Spec → Spec) (u : Spec),
      etdrkStep p dt lam M r N u = etdrkStep p 1 (fun ch h ↦ dt * lam ch h) M r (fun v ↦ (fun x x_1 ↦ dt) * N v) u :=
  @Exponax.Interface.etdrkStep_rescale

open Exponax.Interface in
theorem C13_convection_step_normalized :
    ∀ (p D N : ℕ) (df : ℕ × ℕ) (ℓ : ℝ) (dt : ℂ) (a : List ℂ) (b : ℂ) (C : ℕ)
      (single conservative : Bool) (M : ℕ) (r : ℂ) (u : Spec),
      etdrkStep p dt (fun x h ↦ Nonlin.polySymbol (cfgOf D N (↑ℓ) df) (generalLinear D a) h) M r
          (EquivND.liftTermND (cfgOf D N (↑ℓ) df) C (Nonlin.convection (cfgOf D N (↑ℓ) df) C b single conservative)) u =
        etdrkStep p 1
          (fun x h ↦ Nonlin.polySymbol (cfgOf D N 1 df) (generalLinear D (Gen.Convert.normalize_coefficients a (↑ℓ) dt)) h)
          M r
          (EquivND.liftTermND (cfgOf D N 1 df) C
            (Nonlin.convection (cfgOf D N 1 df) C (Gen.Convert.normalize_convection_scale b (↑ℓ) dt) single conservative))
          u :=
  @Exponax.Interface.convection_step_normalized

open Exponax.Interface in
theorem C13_gradient_norm_step_normalized :
    ∀ (p D N : ℕ) (df : ℕ × ℕ) (ℓ : ℝ) (dt : ℂ) (a : List ℂ) (b : ℂ) (C : ℕ) (zeroFix : Bool)
      (M : ℕ) (r : ℂ) (u : Spec),
      etdrkStep p dt (fun x h ↦ Nonlin.polySymbol (cfgOf D N (↑ℓ) df) (generalLinear D a) h) M r
          (EquivND.liftTermND (cfgOf D N (↑ℓ) df) C (Nonlin.gradientNorm (cfgOf D N (↑ℓ) df) C b zeroFix)) u =
        etdrkStep p 1
          (fun x h ↦ Nonlin.polySymbol (cfgOf D N 1 df) (generalLinear D (Gen.Convert.normalize_coefficients a (↑ℓ) dt)) h)
          M r
          (EquivND.liftTermND (cfgOf D N 1 df) C
            (Nonlin.gradientNorm (cfgOf D N 1 df) C (Gen.Convert.normalize_gradient_norm_scale b (↑ℓ) dt) zeroFix))
          u :=
  @Exponax.Interface.gradientNorm_step_normalized

open Exponax.Interface in
theorem C13_general_step_normalized :
    ∀ (p D N : ℕ) (df : ℕ × ℕ) (ℓ : ℝ) (dt : ℂ) (a : List ℂ) (b0 b1 b2 : ℂ) (C : ℕ)
      (zeroFix : Bool) (M : ℕ) (r : ℂ) (u : Spec),
      etdrkStep p dt (fun x h ↦ Nonlin.polySymbol (cfgOf D N (↑ℓ) df) (generalLinear D a) h) M r
          (EquivND.liftTermND (cfgOf D N (↑ℓ) df) C (Nonlin.general (cfgOf D N (↑ℓ) df) C b0 b1 b2 zeroFix)) u =
        etdrkStep p 1
          (fun x h ↦ Nonlin.polySymbol (cfgOf D N 1 df) (generalLinear D (Gen.Convert.normalize_coefficients a (↑ℓ) dt)) h)
          M r
          (EquivND.liftTermND (cfgOf D N 1 df) C
            (Nonlin.general (cfgOf D N 1 df) C (b0 * dt) (Gen.Convert.normalize_convection_scale b1 (↑ℓ) dt)
              (Gen.Convert.normalize_gradient_norm_scale b2 (↑ℓ) dt) zeroFix))
          u :=
  @Exponax.Interface.general_step_normalized

open Exponax.Interface in
theorem C13_general_convection_step_is_documented :
    ∀ (g : Gen.StepperWiring.GeneralConvectionStepperArgs ℂ),
      GeneralConvectionStepper_step g =
        etdrkStep g.order g.dt
          (fun x h ↦
            Nonlin.polySymbol (cfgOf g.num_spatial_dims g.num_points g.domain_extent g.dealiasing_fraction)
              (generalLinear g.num_spatial_dims g.linear_coefficients) h)
          g.num_circle_points g.circle_radius
          (EquivND.liftTermND (cfgOf g.num_spatial_dims g.num_points g.domain_extent g.dealiasing_fraction)
            (if g.single_channel = true then 1 else g.num_spatial_dims)
            (Nonlin.convection (cfgOf g.num_spatial_dims g.num_points g.domain_extent g.dealiasing_fraction)
              (if g.single_channel = true then 1 else g.num_spatial_dims) g.convection_scale g.single_channel
              g.conservative)) :=
  @Exponax.Interface.GeneralConvectionStepper_step_model

open Exponax.Interface in
theorem C13_general_equals_normalized :
    ∀ (g : Gen.StepperWiring.GeneralConvectionStepperArgs ℂ) (ℓ : ℝ),
      g.domain_extent = ↑ℓ →
        GeneralConvectionStepper_step g = NormalizedConvectionStepper_step (GeneralConvectionStepper_to_normalized g) :=
  @Exponax.Interface.GeneralConvectionStepper_step_eq_normalized

open Exponax.Interface in
theorem C13_general_equals_difficulty :
    ∀ (g : Gen.StepperWiring.GeneralConvectionStepperArgs ℂ) (ℓ : ℝ),
      g.domain_extent = ↑ℓ →
        ∀ (Mx : ℂ),
          g.num_spatial_dims ≠ 0 →
            g.num_points ≠ 0 →
              Mx ≠ 0 →
                GeneralConvectionStepper_step g =
                  DifficultyConvectionStepper_step
                    (NormalizedConvectionStepper_to_difficulty (GeneralConvectionStepper_to_normalized g) Mx) :=
  @Exponax.Interface.GeneralConvectionStepper_step_eq_difficulty

open Exponax.Interface in
theorem C13_only_the_groups_matter :
    ∀ (g g' : Gen.StepperWiring.GeneralConvectionStepperArgs ℂ) (ℓ ℓ' : ℝ),
      g.domain_extent = ↑ℓ →
        g'.domain_extent = ↑ℓ' →
          GeneralConvectionStepper_to_normalized g = GeneralConvectionStepper_to_normalized g' →
            GeneralConvectionStepper_step g = GeneralConvectionStepper_step g' :=
  @Exponax.Interface.GeneralConvectionStepper_step_only_groups

open Exponax.Interface in
theorem C13_gradient_norm_general_equals_difficulty :
    ∀ (g : Gen.StepperWiring.GeneralGradientNormStepperArgs ℂ) (ℓ : ℝ),
      g.domain_extent = ↑ℓ →
        ∀ (Mx : ℂ),
          g.num_spatial_dims ≠ 0 →
            g.num_points ≠ 0 →
              Mx ≠ 0 →
                GeneralGradientNormStepper_step g =
                  DifficultyGradientNormStepper_step
                    (NormalizedGradientNormStepper_to_difficulty (GeneralGradientNormStepper_to_normalized g) Mx) :=
  @Exponax.Interface.GeneralGradientNormStepper_step_eq_difficulty

open Exponax.Interface in
theorem C13_nonlinear_general_equals_difficulty :
    ∀ (g : Gen.StepperWiring.GeneralNonlinearStepperArgs ℂ) (ℓ : ℝ),
      g.domain_extent = ↑ℓ →
        ∀ (Mx : ℂ),
          g.num_spatial_dims ≠ 0 →
            g.num_points ≠ 0 →
              Mx ≠ 0 →
                GeneralNonlinearStepper_step g =
                  DifficultyNonlinearStepper_step
                    (NormalizedNonlinearStepper_to_difficulty (GeneralNonlinearStepper_to_normalized g) Mx) :=
  @Exponax.Interface.GeneralNonlinearStepper_step_eq_difficulty

open Exponax.Interface in
theorem C13_polynomial_only_the_groups_matter :
    ∀ (g g' : Gen.StepperWiring.GeneralPolynomialStepperArgs ℂ),
      GeneralPolynomialStepper_to_normalized g = GeneralPolynomialStepper_to_normalized g' →
        GeneralPolynomialStepper_step g = GeneralPolynomialStepper_step g' :=
  @Exponax.Interface.GeneralPolynomialStepper_step_only_groups

open Exponax.Interface in
theorem C13_linear_only_the_groups_matter :
    ∀ (g g' : Gen.StepperWiring.GeneralLinearStepperArgs ℂ),
      GeneralLinearStepper_to_normalized g = GeneralLinearStepper_to_normalized g' →
        GeneralLinearStepper_step g = GeneralLinearStepper_step g' :=
  @Exponax.Interface.GeneralLinearStepper_step_only_groups

open Exponax.Interface in
theorem C13_scaling_needs_real_extent :
    1 *
        Nonlin.at2 (Nonlin.gradientNorm (cfgOf 1 2 Complex.I (0, 0)) 1 1 false #[#[0, 1]]) 0 0 ≠
      Nonlin.at2
        (Nonlin.gradientNorm (cfgOf 1 2 1 (0, 0)) 1 (Gen.Convert.normalize_gradient_norm_scale 1 Complex.I 1) false
          #[#[0, 1]])
        0 0 := by
  -- the mean mode of the term is `-π²` for `L = i` (the Nyquist entry `i·2π/L` is real) and `0` for `L = 1`
  rw [gradientNorm_two_point, gradientNorm_two_point, deriv_two_point_re_I, deriv_two_point_re_one]
  simp [Real.pi_ne_zero]

/-! ### step-level "specific = generic": Burgers, KdV (default mixing flags), both KS forms and Fisher–KPP take the same step as
their generic equivalents on the regenerated operators and wiring (Fisher–KPP: the generic zeroth coefficient is r/D; with a₀ = r
the operators differ in 2-D) -/

open Exponax.Interface in
theorem C13_burgers_step_is_general_convection_step :
    ∀ (a : Gen.StepperWiring.BurgersArgs ℂ),
      Burgers_step a = GeneralConvectionStepper_step (Burgers_to_general a) :=
  @Exponax.Interface.Burgers_step_eq_general

open Exponax.Interface in
theorem C13_kdv_step_is_general_convection_step :
    ∀ (a : Gen.StepperWiring.KortewegDeVriesArgs ℂ),
      a.advect_over_diffuse = false →
        a.diffuse_over_diffuse = false →
          KortewegDeVries_step a = GeneralConvectionStepper_step (KortewegDeVries_to_general a) :=
  fun a h1 h2 => KortewegDeVries_step_eq_general_of a (Or.inr ⟨h1, h2⟩)

open Exponax.Interface in
theorem C13_ks_conservative_step_is_general_convection_step :
    ∀ (a : Gen.StepperWiring.KuramotoSivashinskyConservativeArgs ℂ),
      KuramotoSivashinskyConservative_step a = GeneralConvectionStepper_step (KuramotoSivashinskyConservative_to_general a) :=
  @Exponax.Interface.KuramotoSivashinskyConservative_step_eq_general

open Exponax.Interface in
theorem C13_ks_step_is_general_gradient_norm_step :
    ∀ (a : Gen.StepperWiring.KuramotoSivashinskyArgs ℂ),
      KuramotoSivashinsky_step a = GeneralGradientNormStepper_step (KuramotoSivashinsky_to_general a) :=
  @Exponax.Interface.KuramotoSivashinsky_step_eq_general

open Exponax.Interface in
theorem C13_fisher_kpp_step_is_general_polynomial_step :
    ∀ (a : Gen.StepperWiring.FisherKPPArgs ℂ),
      a.num_spatial_dims ≠ 0 → FisherKPP_step a = GeneralPolynomialStepper_step (FisherKPP_to_general a) :=
  @Exponax.Interface.FisherKPP_step_eq_general

open Exponax.Interface in
theorem C13_fisher_kpp_zeroth_coefficient_is_r_over_D :
    ∀ (N : ℕ) (L ν r : ℂ),
      r ≠ 0 →
        Gen.Steppers.FisherKPP_linear_operator (kappa (baseCfg 2 N L) 0) ν r ≠
          Gen.Steppers.GeneralPolynomialStepper_linear_operator (kappa (baseCfg 2 N L) 0) [r, 0, ν] := by
  intro N L ν r hr h
  rw [FisherKPP_linear_operator_eq, GeneralPolynomialStepper_linear_operator_eq, sum_coeffs_three, psum_zero,
    kappa_length, show (((baseCfg 2 N L).D : ℕ) : ℂ) = 2 from Nat.cast_ofNat] at h
  exact hr (by linear_combination -h)

end Exponax
