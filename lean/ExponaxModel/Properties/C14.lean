import Mathlib.Logic.Function.Iterate
import ExponaxModel.Model.Loops
import ExponaxModel.Proofs.LoopsGenEq
import ExponaxModel.Proofs.LoopsAuxSequence
/-
C14 — rollout, repeat and the wrapper steppers equal the naive loop.
`Loops.*` is the hand-written mirror of exponax/_utils.py (`lax.scan` as a fold);
it is tied to the implementation by the exact integer correspondence of the check.
The state type `S` is arbitrary (pytrees are handled leaf-wise by the harness).
-/
set_option linter.unusedVariables false
namespace Exponax
open Exponax.Loops

variable {S A : Type}

theorem scanStates_length (f : S → S) (n : ℕ) (u : S) : (scanStates f n u).length = n :=
  Loops.scanStates_length f n u

/-- `rollout(f, n)(u0)`: `n` entries, entry `i` is `f^(i+1)(u0)` -/
theorem C14_rollout_get (f : S → S) (n : ℕ) (u0 : S) :
    (rollout f n false u0).length = n ∧
    ∀ i (h : i < (rollout f n false u0).length), (rollout f n false u0)[i] = f^[i + 1] u0 :=
  ⟨rollout_length f n false u0, fun i h => scanStates_getElem f n u0 i h⟩

/-- `include_init=True`: `n+1` entries, entry `i` is `f^i(u0)` (the initial state is prepended) -/
theorem C14_rollout_init_get (f : S → S) (n : ℕ) (u0 : S) :
    (rollout f n true u0).length = n + 1 ∧
    ∀ i (h : i < (rollout f n true u0).length), (rollout f n true u0)[i] = f^[i] u0 := by
  refine ⟨rollout_length f n true u0, fun i h => ?_⟩
  simp only [rollout_true_eq_cons] at h ⊢
  cases i with
  | zero => rfl
  | succ i => exact (C14_rollout_get f n u0).2 i (Nat.lt_of_succ_lt_succ h)

/-- `repeat(f, n)(u0) = f^n(u0)` -/
theorem C14_repeat_iterate (f : S → S) (n : ℕ) (u0 : S) : repeatN f n u0 = f^[n] u0 :=
  repeatN_eq_iterate f n u0

/-- `repeat` returns the last entry of the rollout -/
theorem C14_repeat_last (f : S → S) (n : ℕ) (u0 : S) :
    (rollout f n true u0).getLast? = some (repeatN f n u0) :=
  repeatN_eq_rollout_true_getLast? f n u0

/-- step counts add: `repeat(f, m+n) = repeat(f, n) ∘ repeat(f, m)` -/
theorem C14_repeat_add (f : S → S) (m n : ℕ) (u0 : S) :
    repeatN f (m + n) u0 = repeatN f n (repeatN f m u0) :=
  repeatN_add_apply f m n u0

/-- variable aux: the first `n` auxiliary inputs are consumed in order -/
theorem C14_aux_order (f : S → A → S) (n : ℕ) (u0 : S) (aux : List A) (hn : n ≤ aux.length) :
    (rolloutAux f n false false u0 aux).length = n ∧
    ∀ i (h : i < (rolloutAux f n false false u0 aux).length),
      (rolloutAux f n false false u0 aux)[i] = (aux.take (i + 1)).foldl f u0 := by
  refine ⟨rolloutAux_false_length f n u0 aux hn, fun i h => ?_⟩
  have hi : i < n := by rwa [rolloutAux_false_length f n u0 aux hn] at h
  exact Option.some.inj ((List.getElem?_eq_getElem h).symm.trans (rolloutAux_false_getElem? f n u0 aux hn i hi))

/-- constant aux: the same auxiliary input is used at every step -/
theorem C14_aux_constant (f : S → A → S) (n : ℕ) (incl : Bool) (u0 : S) (a : A) :
    rolloutAux f n incl true u0 [a] = rollout (fun v => f v a) n incl u0 :=
  rolloutAux_constant f n incl u0 a

/-- `repeat` with aux returns the last state of the corresponding rollout fold -/
theorem C14_repeat_aux (f : S → A → S) (n : ℕ) (u0 : S) (aux : List A) :
    repeatAux f n false u0 aux = (aux.take n).foldl f u0 :=
  repeatAux_false f n u0 aux

theorem C14_repeat_aux_constant (f : S → A → S) (n : ℕ) (u0 : S) (a : A) :
    repeatAux f n true u0 [a] = repeatN (fun v => f v a) n u0 :=
  repeatAux_constant f n u0 a []

/-- `stack_sub_trajectories`: rejected iff the window is longer than the trajectory -/
theorem C14_windows_reject (trj : List S) (subLen : ℕ) :
    stackSub trj subLen = none ↔ subLen > trj.length :=
  stackSub_eq_none_iff trj subLen

/-- otherwise: `T − len + 1` windows, window `i` is `trj[i .. i+len)`, in order -/
theorem C14_windows (trj : List S) (subLen : ℕ) (h : subLen ≤ trj.length) :
    ∃ w, stackSub trj subLen = some w ∧ w.length = trj.length - subLen + 1 ∧
      ∀ i (hi : i < w.length), w[i] = (trj.drop i).take subLen ∧ (w[i]).length = subLen := by
  refine ⟨_, stackSub_eq_some trj subLen h, by simp, fun i hi => ?_⟩
  simp only [List.length_map, List.length_range] at hi
  simp only [List.getElem_map, List.getElem_range, List.length_take, List.length_drop, true_and]
  omega

/-- entry `j` of window `i` is entry `i+j` of the trajectory -/
theorem C14_windows_entry (trj : List S) (subLen i j : ℕ) (hj : j < subLen) (hij : i + j < trj.length) :
    ((trj.drop i).take subLen)[j]? = trj[i + j]? := by
  rw [List.getElem?_take_of_lt hj, List.getElem?_drop]

/-- a repeated stepper is `n` applications of its inner stepper, with effective time step `n·dt` -/
theorem C14_repeated_stepper (stepFourier : S → S) (n : ℕ) (u : S) :
    repeatedStepFourier stepFourier n u = stepFourier^[n] u := C14_repeat_iterate stepFourier n u

theorem C14_repeated_dt {K : Type} [Semiring K] (dt : K) (n : ℕ) : repeatedDt dt n = dt * (n : K) := rfl

example : rollout (fun x : ℕ => 2 * x + 1) 3 true 0 = [0, 1, 3, 7] := by decide
example : stackSub [1, 2, 3, 4] 3 = some [[1, 2, 3], [2, 3, 4]] := by decide
example : (3 : ℕ) ≤ [1, 2, 3, 4].length := by decide

/-! ### `rollout`, `repeat`, `stack_sub_trajectories` and `RepeatedStepper` as REGENERATED from `exponax/_utils.py` and
`_repeated_stepper.py` (`jax.lax.scan` read as the fold it denotes) are the model functions of the theorems above -/
open Exponax.Gen.LoopsGen in
theorem C14_generated_utilities {S A : Type} (f : S → S) (fa : S → A → S) (n k : ℕ) (b : Bool) (u0 : S) (a : A)
    (trj : List S) :
    rollout_noaux f n b u0 = Loops.rollout f n b u0 ∧
    repeat_noaux f n u0 = Loops.repeatN f n u0 ∧
    rollout_aux_constant fa n b u0 a = some (Loops.rolloutAux fa n b true u0 [a]) ∧
    stack_sub_trajectories trj k = Loops.stackSub trj k ∧
    RepeatedStepper_step_fourier n f u0 = Loops.repeatedStepFourier f n u0 :=
  ⟨congrFun (rollout_noaux_eq f n b) u0, congrFun (repeat_noaux_eq f n) u0, rollout_aux_constant_eq fa n b u0 a,
   stack_sub_trajectories_eq trj k, RepeatedStepper_step_fourier_eq f n u0⟩

theorem C14_generated_coverage : Gen.LoopsGen.generated_loops.length = 9 := by
  rw [Gen.LoopsGen.generated_loops_pinned]; rfl

/-! ### auxiliary inputs consumed in order WITH `include_init`, and the regenerated aux rollout (wrong-length aux is rejected) -/

open Exponax.SmallGaps2 in
theorem C14_aux_order_with_init :
    ∀ {S A : Type} (f : S → A → S) (n : ℕ) (u0 : S) (aux : List A),
      n ≤ aux.length →
        (Loops.rolloutAux f n true false u0 aux).length = n + 1 ∧
          ∀ (i : ℕ) (h : i < (Loops.rolloutAux f n true false u0 aux).length),
            (Loops.rolloutAux f n true false u0 aux)[i] = List.foldl f u0 (List.take i aux) :=
  @Exponax.SmallGaps2.aux_order_init

open Exponax.SmallGaps2 in
theorem C14_generated_aux_sequence_with_init :
    ∀ {S A : Type} (f : S → A → S) (n : ℕ) (u0 : S) (aux : List A),
      aux.length = n →
        ∃ trj,
          Gen.LoopsGen.rollout_aux_sequence f n true u0 aux = some trj ∧
            trj.length = n + 1 ∧ trj[0]? = some u0 ∧ ∀ i < n, trj[i + 1]? = some (List.foldl f u0 (List.take (i + 1) aux)) := by
  intro S A f n u0 aux h
  obtain ⟨trj, h1, h2, h3, h4⟩ := (generated_aux_sequence f n true u0 aux).2 h
  simp only [if_true, Nat.add_zero] at h3 h4
  refine ⟨trj, h1, h3, ?_, ?_⟩
  · rw [List.getElem?_eq_getElem (by omega), h4]; rfl
  · intro i hi
    rw [List.getElem?_eq_getElem (by omega), h4]

open Exponax.SmallGaps2 in
theorem C14_generated_aux_sequence :
    ∀ {S A : Type} (f : S → A → S) (n : ℕ) (b : Bool) (u0 : S) (aux : List A),
      (aux.length ≠ n → Gen.LoopsGen.rollout_aux_sequence f n b u0 aux = none) ∧
        (aux.length = n →
          ∃ trj,
            Gen.LoopsGen.rollout_aux_sequence f n b u0 aux = some trj ∧
              trj = Loops.rolloutAux f n b false u0 aux ∧
                (trj.length = n + if b = true then 1 else 0) ∧
                  ∀ (i : ℕ) (h : i < trj.length), trj[i] = List.foldl f u0 (List.take (i + if b = true then 0 else 1) aux)) :=
  @Exponax.SmallGaps2.generated_aux_sequence

end Exponax
