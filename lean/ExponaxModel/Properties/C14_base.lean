import ExponaxModel.Proofs.BaseStepperGenEq
/-
C14 — the premise of "a repeated stepper equals n applications of its inner stepper".  `RepeatedStepper` sub-steps
in FOURIER space (`step_fourier` of the inner stepper, regenerated in `Generated/LoopsGen.lean`), a user's loop calls the inner
stepper in PHYSICAL space (`__call__` → `step`).  The two agree (Properties/C14_physical.lean, C14_nyquist_free.lean) because
the physical step of every stepper class is `irfftn ∘ step_fourier ∘ rfftn`: `BaseStepper.step` and `__call__` are regenerated
from the source on every run (`Generated/BaseStepperGen.lean`) and NO class deriving from `BaseStepper` defines its own `step`
or `__call__` (found by walking exponax/**/*.py on every run; recorded here, so a class that starts to do part of its step
outside `step_fourier` breaks this file).
-/
namespace Exponax
open Exponax.Layout Exponax.Transform Exponax.Nonlin Exponax.Gen.StepperWiring Exponax.Gen.Base Exponax.BaseStepperGenEq

/-- no stepper class does any part of its step outside `step_fourier`; `Wave` is the only class with its own `step_fourier` -/
theorem C14_every_stepper_steps_through_step_fourier :
    stepper_overrides = [("Wave", ["step_fourier"])] ∧
      ∀ p ∈ stepper_overrides, "step" ∉ p.2 ∧ "__call__" ∉ p.2 :=
  ⟨stepper_overrides_pinned, no_stepper_overrides_step_or_call⟩

/-- the physical step every stepper class inherits is the model transform pair around its `step_fourier` -/
theorem C14_inherited_step_is_between_transforms (a : BaseStepperArgs ℂ) (hD : 1 ≤ a.num_spatial_dims)
    (sf : MC ℂ → Option (MC ℂ)) (u : MC ℂ) :
    BaseStepper_step a sf u
      = (sf (tabC a.num_channels (fun i => rfftnM a.num_spatial_dims a.num_points (u.getD i #[])))).map
          (fun v => tabC a.num_channels (fun i => irfftnM a.num_spatial_dims a.num_points (v.getD i #[]))) :=
  BaseStepper_step_eq a hD sf u

end Exponax
