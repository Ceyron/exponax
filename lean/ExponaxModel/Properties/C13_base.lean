import ExponaxModel.Proofs.BaseStepperGenEq
/-
C13 — `Interface.baseStep`, the assembly every step-level equivalence theorem of `Properties/C13_assembly.lean`
is stated about, IS what the regenerated `BaseStepper.__init__` + `step_fourier` evaluate (`Generated/BaseStepperGen.lean`,
rewritten from `exponax/_base_stepper.py` on every run).  So those theorems are about the constructor of the source.
-/
namespace Exponax
open Exponax.Layout Exponax.Nonlin Exponax.Gen.StepperWiring Exponax.Gen.Base Exponax.Interface
open Exponax.BaseStepperGenEq
open Exponax.EquivND (liftTermND)

theorem C13_base_step_is_the_regenerated_constructor (b : BaseStepperArgs ℂ) (h : b.order ≤ 4) (linop : List ℂ → ℂ)
    (nonlin : Cfg ℂ → MC ℂ → MC ℂ) (u : Spec) :
    BaseStepper_step_fourier b
        (entrywiseOf (fun _ h => linop (kappa (baseCfg b.num_spatial_dims b.num_points b.domain_extent) h)))
        (liftTermND (baseCfg b.num_spatial_dims b.num_points b.domain_extent) b.num_channels
          (nonlin (baseCfg b.num_spatial_dims b.num_points b.domain_extent))) u
      = some (baseStep b linop nonlin u) :=
  BaseStepper_step_fourier_baseStep b h linop nonlin u

/-- both builders of every stepper receive the derivative operator of the user's `(D, L, N)` -/
theorem C13_base_builders_share_the_derivative_operator (b : BaseStepperArgs ℂ) :
    BaseStepper_init_derivative_operator_args b = (b.num_spatial_dims, b.domain_extent, b.num_points, "ij") ∧
      BaseStepper_init_builders.map Prod.snd = ["_build_linear_operator", "_build_nonlinear_fun"] :=
  ⟨rfl, rfl⟩

end Exponax
