import ExponaxModel.Properties.C02
import ExponaxModel.Proofs.LinearTestOrderSharp
import ExponaxModel.Proofs.LinearTestOrderStored
import ExponaxModel.Proofs.LinearTestOrderNonlinear2Vec
import ExponaxModel.Proofs.LinearTestOrderNonlinear4Vec
/-
C02 — ORDER of the schemes ("… and the error decays like dt^p").  Separate file because the order
library builds on `Properties/C02.lean` (the regenerated steps ARE the Cox–Matthews schemes).

Full statement: for u' = Lu + N(u) with a sufficiently smooth nonlinear N, n steps of ETDRKp with
dt = T/n differ from the exact solution at time T by at most C·dt^p, C independent of n (and, for the stiff order, of
‖L‖).  PROVED HERE (the theorems named `_partial` are parts of that statement):
  * p = 1, 2, 3, 4 on the linear test family N(u) = μu, every λ, μ ∈ ℂ (λ = 0 and tiny λ·dt included — the
    coefficients are written with the entire φ functions), explicit constants, and the order is EXACTLY p;
  * p = 1 and p = 2 for every globally Lipschitz nonlinear N : ℂⁿ → ℂⁿ with diagonal L (p = 2: t ↦ N(u(t)) with a
    Lipschitz derivative along the exact solution), with constants that depend on the spectrum only through
    ω ≥ max(0, sup Re λ_k) — i.e. uniformly in the stiffness;
  * on the linear test family the same holds for PERTURBED coefficients up to a consistency floor proportional to the
    perturbation, and hence for the STORED contour coefficients (defaults M = 16, r = 1, real λ ≤ 0, δ = 5e-8).
  * p = 3 and p = 4 for genuinely nonlinear N (systems with diagonal L, sup norm) in the CLASSICAL sense: local error ≤ C h^{p+1},
    global error ≤ C dt^p with explicit constants that may depend on sup|λ_k| (`C02_global_order_etdrk3_nonlinear`,
    `C02_global_order_etdrk4_nonlinear`), under a Taylor hypothesis on t ↦ N(u(t)) and a linearisation N'(u τ) of N along the
    solution with quadratic remainder.
NOT PROVED: stiffness-uniform constants for p = 3, 4 (the stiff order of ETDRK3/4 is lower in general: Hochbruck–Ostermann), and
the nonlinear results for the stored rather than the exact coefficients.
-/
set_option linter.unusedVariables false
namespace Exponax
open Exponax.Gen.Etdrk Exponax.LinearOrder Exponax.ContourTail

/-! ### what is iterated: the REGENERATED step functions with the exact coefficients and N(v) = μ v -/

theorem C02_order_subject (l m : ℂ) (dt : ℝ) :
    E1lin l m dt = E1step (Complex.exp (l * dt)) (dt * phi1e (l * dt)) (fun v => m * v) ∧
    E2lin l m dt = E2step (Complex.exp (l * dt)) (dt * phi1e (l * dt)) (dt * phi2e (l * dt)) (fun v => m * v) ∧
    E3lin l m dt = E3step (Complex.exp (l * dt)) (Complex.exp (l * dt / 2)) (dt * (phi1e (l * dt / 2) / 2))
        (dt * phi1e (l * dt)) (dt * (phi1e (l * dt) - 3 * phi2e (l * dt) + 4 * phi3e (l * dt)))
        (dt * (4 * phi2e (l * dt) - 8 * phi3e (l * dt))) (dt * (4 * phi3e (l * dt) - phi2e (l * dt))) (fun v => m * v) ∧
    E4lin l m dt = E4step (Complex.exp (l * dt)) (Complex.exp (l * dt / 2)) (dt * (phi1e (l * dt / 2) / 2))
        (dt * (phi1e (l * dt / 2) / 2)) (dt * (phi1e (l * dt / 2) / 2))
        (dt * (phi1e (l * dt) - 3 * phi2e (l * dt) + 4 * phi3e (l * dt))) (dt * (phi2e (l * dt) - 2 * phi3e (l * dt)))
        (dt * (4 * phi3e (l * dt) - phi2e (l * dt))) (fun v => m * v) :=
  ⟨rfl, rfl, rfl, rfl⟩

/-- one step is multiplication by an explicit amplification factor `R_p(λdt, μdt)` … -/
theorem C02_amplification_factor (l m : ℂ) (dt : ℝ) (u : ℂ) :
    E1lin l m dt u = R1 (l * dt) (m * dt) * u ∧ E2lin l m dt u = R2 (l * dt) (m * dt) * u ∧
      E3lin l m dt u = R3 (l * dt) (m * dt) * u ∧ E4lin l m dt u = R4 (l * dt) (m * dt) * u :=
  ⟨E1lin_apply l m dt u, E2lin_apply l m dt u, E3lin_apply l m dt u, E4lin_apply l m dt u⟩

/-- … which for λ = 0 is the classical Runge–Kutta stability polynomial, and for μ = 0 the exact propagator -/
theorem C02_amplification_limits (z w : ℂ) :
    (R1 0 w = 1 + w ∧ R2 0 w = 1 + w + w ^ 2 / 2 ∧ R3 0 w = 1 + w + w ^ 2 / 2 + w ^ 3 / 6 ∧
      R4 0 w = 1 + w + w ^ 2 / 2 + w ^ 3 / 6 + w ^ 4 / 24) ∧
    (R1 z 0 = Complex.exp z ∧ R2 z 0 = Complex.exp z ∧ R3 z 0 = Complex.exp z ∧ R4 z 0 = Complex.exp z) :=
  ⟨R_at_zero w, R_no_nonlinearity z⟩

/-! ### local and global order p on the linear test family, explicit constants -/

/-- local error ≤ C t^{p+1} on [0, T], C explicit in ‖λ‖, ‖μ‖, T -/
theorem C02_local_order_partial (l m : ℂ) (T t : ℝ) (h0 : 0 ≤ t) (hT : t ≤ T) :
    ‖R1 (l * t) (m * t) - Complex.exp ((l + m) * t)‖ ≤ Cloc1 l m T * t ^ 2 ∧
    ‖R2 (l * t) (m * t) - Complex.exp ((l + m) * t)‖ ≤ Cloc2 l m T * t ^ 3 ∧
    ‖R3 (l * t) (m * t) - Complex.exp ((l + m) * t)‖ ≤ Cloc3 l m T * t ^ 4 ∧
    ‖R4 (l * t) (m * t) - Complex.exp ((l + m) * t)‖ ≤ Cloc4 l m T * t ^ 5 :=
  have h := h0.trans hT
  ⟨(order1 l m T h).loc t h0 hT, (order2 l m T h).loc t h0 hT, (order3 l m T h).loc t h0 hT, (order4 l m T h).loc t h0 hT⟩

/-- GLOBAL ORDER p: n steps of size dt with n·dt ≤ T stay within C'·dt^p·‖u‖ of the exact solution
    e^{(λ+μ) n dt} u, with C' = C_loc·T·exp((‖λ+μ‖ + C_loc T^p) T) independent of n and dt -/
theorem C02_global_order_partial (l m : ℂ) (T : ℝ) (hT : 0 ≤ T) (n : ℕ) (dt : ℝ) (u : ℂ) (hdt : 0 ≤ dt)
    (hn : n * dt ≤ T) :
    ‖(E1lin l m dt)^[n] u - Complex.exp ((l + m) * (n * dt)) * u‖ ≤ Cglob (Cloc1 l m T) (l + m) 1 T * dt ^ 1 * ‖u‖ ∧
    ‖(E2lin l m dt)^[n] u - Complex.exp ((l + m) * (n * dt)) * u‖ ≤ Cglob (Cloc2 l m T) (l + m) 2 T * dt ^ 2 * ‖u‖ ∧
    ‖(E3lin l m dt)^[n] u - Complex.exp ((l + m) * (n * dt)) * u‖ ≤ Cglob (Cloc3 l m T) (l + m) 3 T * dt ^ 3 * ‖u‖ ∧
    ‖(E4lin l m dt)^[n] u - Complex.exp ((l + m) * (n * dt)) * u‖ ≤ Cglob (Cloc4 l m T) (l + m) 4 T * dt ^ 4 * ‖u‖ :=
  ⟨(order1 l m T hT).glob n dt u hdt hn, (order2 l m T hT).glob n dt u hdt hn, (order3 l m T hT).glob n dt u hdt hn,
   (order4 l m T hT).glob n dt u hdt hn⟩

/-- the form a convergence study reads: T fixed, n steps of T/n, error ≤ C'·(T/n)^p -/
theorem C02_convergence_rate_partial (l m : ℂ) (T : ℝ) (hT : 0 ≤ T) :
    (∃ C', 0 ≤ C' ∧ ∀ (n : ℕ) (u : ℂ), 1 ≤ n →
        ‖(E1lin l m (T / n))^[n] u - Complex.exp ((l + m) * T) * u‖ ≤ C' * (T / n) ^ 1 * ‖u‖) ∧
    (∃ C', 0 ≤ C' ∧ ∀ (n : ℕ) (u : ℂ), 1 ≤ n →
        ‖(E2lin l m (T / n))^[n] u - Complex.exp ((l + m) * T) * u‖ ≤ C' * (T / n) ^ 2 * ‖u‖) ∧
    (∃ C', 0 ≤ C' ∧ ∀ (n : ℕ) (u : ℂ), 1 ≤ n →
        ‖(E3lin l m (T / n))^[n] u - Complex.exp ((l + m) * T) * u‖ ≤ C' * (T / n) ^ 3 * ‖u‖) ∧
    (∃ C', 0 ≤ C' ∧ ∀ (n : ℕ) (u : ℂ), 1 ≤ n →
        ‖(E4lin l m (T / n))^[n] u - Complex.exp ((l + m) * T) * u‖ ≤ C' * (T / n) ^ 4 * ‖u‖) :=
  ⟨(order1 l m T hT).unif hT, (order2 l m T hT).unif hT, (order3 l m T hT).unif hT, (order4 l m T hT).unif hT⟩

/-! ### the order is exactly p, and a wrong coefficient destroys it (the theorems above would notice) -/

/-- leading error constants: (R_p − e^{(λ+μ)t})/t^{p+1} → L_p(λ, μ) -/
theorem C02_error_constants (l m : ℂ) :
    Filter.Tendsto (fun t : ℝ => (R1 (l * t) (m * t) - Complex.exp ((l + m) * t)) / (t : ℂ) ^ 2) (nhdsWithin 0 {0}ᶜ)
        (nhds (-m * (l + m) / 2)) ∧
    Filter.Tendsto (fun t : ℝ => (R4 (l * t) (m * t) - Complex.exp ((l + m) * t)) / (t : ℂ) ^ 5) (nhdsWithin 0 {0}ᶜ)
        (nhds (L4 l m)) := by
  refine ⟨?_, R4_error_constant l m⟩
  have h := R1_error_constant l m
  simpa [L1] using h

/-- not of order p + 1 (λ = 0, μ = 1) -/
theorem C02_order_is_sharp (T : ℝ) (hT : 0 < T) :
    (¬∃ C, ∀ t : ℝ, 0 < t → t ≤ T → ‖R1 (0 * t) (1 * t) - Complex.exp ((0 + 1) * t)‖ ≤ C * t ^ 3) ∧
    (¬∃ C, ∀ t : ℝ, 0 < t → t ≤ T → ‖R2 (0 * t) (1 * t) - Complex.exp ((0 + 1) * t)‖ ≤ C * t ^ 4) ∧
    (¬∃ C, ∀ t : ℝ, 0 < t → t ≤ T → ‖R3 (0 * t) (1 * t) - Complex.exp ((0 + 1) * t)‖ ≤ C * t ^ 5) ∧
    (¬∃ C, ∀ t : ℝ, 0 < t → t ≤ T → ‖R4 (0 * t) (1 * t) - Complex.exp ((0 + 1) * t)‖ ≤ C * t ^ 6) :=
  ⟨not_isBigO_of_limit _ 2 3 (by norm_num) _ (by unfold L1; norm_num) (R1_error_constant 0 1) T hT,
   not_isBigO_of_limit _ 3 4 (by norm_num) _ (by unfold L2; norm_num) (R2_error_constant 0 1) T hT,
   not_isBigO_of_limit _ 4 5 (by norm_num) _ (by unfold L3; norm_num) (R3_error_constant 0 1) T hT,
   not_isBigO_of_limit _ 5 6 (by norm_num) _ (by unfold L4; norm_num) (R4_error_constant 0 1) T hT⟩

/-- the ETDRK4 first weight with the sign typo `(−4 + z + e^z(4 − 3z + z²))/z³` (for `−4 − z + …`) changes the step by
    `2μdt/z²·u`, and the scheme is then not of order 4 (the local error blows up like 2μ/(λ²t)) -/
theorem C02_sign_typo_loses_order (z dt μ u : ℂ) (hz : z ≠ 0) (T : ℝ) (hT : 0 < T) :
    E4step (Complex.exp z) (Complex.exp (z / 2)) (dt * (phi1e (z / 2) / 2)) (dt * (phi1e (z / 2) / 2))
        (dt * (phi1e (z / 2) / 2)) (dt * ((-4 + z + Complex.exp z * (4 - 3 * z + z ^ 2)) / z ^ 3))
        (dt * (phi2e z - 2 * phi3e z)) (dt * (4 * phi3e z - phi2e z)) (fun v => μ * v) u =
      (R4 z (μ * dt) + 2 * (μ * dt) / z ^ 2) * u ∧
    ¬∃ C, ∀ t : ℝ, 0 < t → t ≤ T →
      ‖R4 (1 * t) (1 * t) + 2 * (1 * t) / (1 * (t : ℂ)) ^ 2 - Complex.exp ((1 + 1) * t)‖ ≤ C * t ^ 5 :=
  ⟨E4step_sign_typo z dt μ u hz, sign_typo_not_order_4 T hT⟩

/-! ### exponential Euler (ETDRK1) with a genuinely NONLINEAR Lipschitz term, systems with diagonal L: first-order
convergence with a constant that does not depend on the stiffness -/

theorem C02_global_order_partial_etdrk1_nonlinear {ι : Type} [Fintype ι] (l : ι → ℂ) (N : (ι → ℂ) → ι → ℂ)
    (K : NNReal) (hN : LipschitzWith K N) (u : ℝ → ι → ℂ) (T M ω : ℝ) (hω : 0 ≤ ω) (hl : ∀ k, (l k).re ≤ ω)
    (hu : ∀ t ∈ Set.Icc 0 T, HasDerivAt u (l * u t + N (u t)) t) (hM : ∀ t ∈ Set.Icc 0 T, ‖l * u t + N (u t)‖ ≤ M)
    (n : ℕ) (dt : ℝ) (hdt : 0 ≤ dt) (hn : n * dt ≤ T) :
    ‖u (n * dt) - (E1step (fun k => Complex.exp (l k * dt)) (fun k => dt * phi1e (l k * dt)) N)^[n] (u 0)‖ ≤
      K * M * T / 2 * Real.exp ((2 * ω + K) * T) * dt :=
  expEulerVec_global_error l N K hN u T M ω hω hl hu hM n dt hdt hn

/-! ### ETDRK2 with a genuinely NONLINEAR Lipschitz term: second-order convergence, stiffness-uniform -/

/-- hypothesis on f = N∘u along the exact solution: a first-order Taylor expansion with remainder G s²/2 (implied by
    "f has a G-Lipschitz derivative", `LinearOrder.taylor_of_lipschitz_deriv`) -/
theorem C02_global_order_partial_etdrk2_nonlinear {ι : Type} [Fintype ι] (l : ι → ℂ) (N : (ι → ℂ) → ι → ℂ)
    (K : NNReal) (hN : LipschitzWith K N) (u : ℝ → ι → ℂ) (T M ω G : ℝ) (hω : 0 ≤ ω) (hl : ∀ k, (l k).re ≤ ω)
    (hG : 0 ≤ G) (hu : ∀ t ∈ Set.Icc 0 T, HasDerivAt u (l * u t + N (u t)) t)
    (hM : ∀ t ∈ Set.Icc 0 T, ‖l * u t + N (u t)‖ ≤ M) (f' : ℝ → ι → ℂ)
    (hf : ∀ t s : ℝ, 0 ≤ t → 0 ≤ s → t + s ≤ T → ‖N (u (t + s)) - N (u t) - (s : ℂ) • f' t‖ ≤ G * s ^ 2 / 2)
    (n : ℕ) (dt : ℝ) (hdt : 0 ≤ dt) (hn : n * dt ≤ T) :
    ‖u (n * dt) - (E2step (fun k => Complex.exp (l k * dt)) (fun k => dt * phi1e (l k * dt))
        (fun k => dt * phi2e (l k * dt)) N)^[n] (u 0)‖ ≤
      (T * (Real.exp (ω * T) * ((K : ℝ) ^ 2 * M * Real.exp (ω * T) / 4 + 5 * G / 12)) *
        Real.exp ((ω + K * (3 + Real.exp (ω * T)) / 2) * T)) * dt ^ 2 := by
  have h := etd2Vec_global_error l N K hN u T M ω G hω hl hG hu hM f' hf n dt hdt hn
  simpa [etd2Vec, etd2C] using h

/-! ### the STORED contour coefficients (regenerated `E?_coef_i dt λ 16 1`, `exp_term`, `E?_half_exp_term`): global
error ≤ C'·dt^p + C''·5e-8 on the linear test family, real λ ≤ 0 -/

theorem C02_global_order_partial_stored (lam : ℝ) (m : ℂ) (T : ℝ) (hlam : lam ≤ 0) (n : ℕ) (dt : ℝ) (hdt : 0 ≤ dt)
    (hn : n * dt ≤ T) (u : ℂ) :
    ‖(E1step (exp_term (dt : ℂ) (lam : ℂ)) (E1_coef_1 (dt : ℂ) (lam : ℂ) 16 1) (fun v : ℂ => m * v))^[n] u - Complex.exp ((lam + m) * (n * dt)) * u‖ ≤
        Cfloor (Cloc1 lam m T) (pertD1 m δstored) (lam + m) 1 T * (Cloc1 lam m T * dt ^ 1 + pertD1 m δstored) * ‖u‖ ∧
    ‖(E2step (exp_term (dt : ℂ) (lam : ℂ)) (E2_coef_1 (dt : ℂ) (lam : ℂ) 16 1) (E2_coef_2 (dt : ℂ) (lam : ℂ) 16 1) (fun v : ℂ => m * v))^[n] u -
          Complex.exp ((lam + m) * (n * dt)) * u‖ ≤
        Cfloor (Cloc2 lam m T) (pertD2 lam m T δstored) (lam + m) 2 T * (Cloc2 lam m T * dt ^ 2 + pertD2 lam m T δstored) * ‖u‖ ∧
    ‖(E4step (exp_term (dt : ℂ) (lam : ℂ)) (E4_half_exp_term (dt : ℂ) (lam : ℂ) 16 1) (E4_coef_1 (dt : ℂ) (lam : ℂ) 16 1) (E4_coef_2 (dt : ℂ) (lam : ℂ) 16 1)
          (E4_coef_3 (dt : ℂ) (lam : ℂ) 16 1) (E4_coef_4 (dt : ℂ) (lam : ℂ) 16 1) (E4_coef_5 (dt : ℂ) (lam : ℂ) 16 1) (E4_coef_6 (dt : ℂ) (lam : ℂ) 16 1)
          (fun v : ℂ => m * v))^[n] u - Complex.exp ((lam + m) * (n * dt)) * u‖ ≤
        Cfloor (Cloc4 lam m T) (pertD4 lam m T δstored) (lam + m) 4 T * (Cloc4 lam m T * dt ^ 4 + pertD4 lam m T δstored) * ‖u‖ :=
  have h := stored_global_of_accuracy lam m T δstored δstored_nonneg n dt hdt hn
    (storedCoef_error_default dt lam (mul_nonpos_of_nonpos_of_nonneg hlam hdt)) u
  ⟨h.1, h.2.1, h.2.2.2⟩

/-- the floor is proportional to the coefficient error: for ETDRK1 it is 5e-8·‖μ‖ -/
theorem C02_stored_floor (m : ℂ) : δstored = 5e-8 ∧ pertD1 m δstored = 5e-8 * ‖m‖ :=
  ⟨rfl, pertD1_stored m⟩

example : (0 : ℝ) ≤ 1 ∧ ((4 : ℕ) : ℝ) * (1 / 4) ≤ 1 := by norm_num
example : (1 : ℂ) ≠ 0 ∧ (0 : ℝ) < 1 := by norm_num
/-- `N v = i·v` is 1-Lipschitz; with u(t) = e^{(λ+i)t} it meets the hypotheses of the nonlinear theorems (the examples in
    `Proofs/LinearTestOrderNonlinear*.lean`) -/
example : LipschitzWith 1 (fun v : ℂ => Complex.I * v) := by
  refine LipschitzWith.of_dist_le_mul fun x y => ?_
  simp [dist_eq_norm, ← mul_sub]

/-! ### ETDRK3 and ETDRK4 with a genuinely NONLINEAR term: classical order 3 resp. 4 (library `Proofs/LinearTestOrderNonlinear{3,4}*.lean`).
`etd3Vec l N dt` / `etd4Vec l N dt` are by definition the regenerated `E3step` / `E4step` on `ι → ℂ` with the per-mode exact
coefficients (`C02_etdrk?_vector_step_is_generated` is their component formula); hypotheses: N Lipschitz, exact solution u, Taylor expansion of f(t) = N(u(t)) to order 2
resp. 3 with explicit remainder, and real-linear maps L τ (the role of N'(u τ), may couple the modes) with quadratic remainder and
Lipschitz dependence on τ. -/

open Exponax.LinearOrder in
theorem C02_etdrk3_nonlinear_local_error :
    ∀ (l : ℂ) (N : ℂ → ℂ) (K : NNReal),
      LipschitzWith K N →
        ∀ (u : ℝ → ℂ) (T ω M1 M2 G3 H HL : ℝ),
          0 ≤ ω →
            l.re ≤ ω →
              0 ≤ G3 →
                0 ≤ H →
                  0 ≤ HL →
                    (∀ t ∈ Set.Icc 0 T, HasDerivAt u (l * u t + N (u t)) t) →
                      ∀ (f1 f2 : ℝ → ℂ),
                        (∀ t ∈ Set.Icc 0 T, ‖f1 t‖ ≤ M1) →
                          (∀ t ∈ Set.Icc 0 T, ‖f2 t‖ ≤ M2) →
                            (∀ (t s : ℝ),
                                0 ≤ t →
                                  0 ≤ s →
                                    t + s ≤ T →
                                      ‖N (u (t + s)) - N (u t) - ↑s * f1 t - ↑s ^ 2 / 2 * f2 t‖ ≤ G3 * s ^ 3 / 6) →
                              ∀ (L : ℝ → ℂ →ₗ[ℝ] ℂ),
                                (∀ τ ∈ Set.Icc 0 T, ∀ (v : ℂ), ‖(L τ) v‖ ≤ ↑K * ‖v‖) →
                                  (∀ τ ∈ Set.Icc 0 T,
                                      ∀ (y : ℂ), ‖N y - N (u τ) - (L τ) (y - u τ)‖ ≤ H / 2 * ‖y - u τ‖ ^ 2) →
                                    (∀ τ ∈ Set.Icc 0 T,
                                        ∀ τ' ∈ Set.Icc 0 T, ∀ (v : ℂ), ‖(L τ) v - (L τ') v‖ ≤ HL * |τ - τ'| * ‖v‖) →
                                      ∀ (t h : ℝ),
                                        0 ≤ t →
                                          0 ≤ h →
                                            t + h ≤ T →
                                              ‖u (t + h) -
                                                    Gen.Etdrk.E3step (Complex.exp (l * ↑h)) (Complex.exp (l * ↑h / 2))
                                                      (↑h * (ContourTail.phi1e (l * ↑h / 2) / 2))
                                                      (↑h * ContourTail.phi1e (l * ↑h))
                                                      (↑h *
                                                        (ContourTail.phi1e (l * ↑h) - 3 * ContourTail.phi2e (l * ↑h) +
                                                          4 * ContourTail.phi3e (l * ↑h)))
                                                      (↑h *
                                                        (4 * ContourTail.phi2e (l * ↑h) - 8 * ContourTail.phi3e (l * ↑h)))
                                                      (↑h * (4 * ContourTail.phi3e (l * ↑h) - ContourTail.phi2e (l * ↑h))) N
                                                      (u t)‖ ≤
                                                ({ K := ↑K, M1 := M1, M2 := M2, G3 := G3, H := H, HL := HL, Lam := ‖l‖, ω := ω, T := T } : NL3).Cloc *
                                                  h ^ 4 :=
  @Exponax.LinearOrder.etd3_local_error

open Exponax.LinearOrder in
theorem C02_global_order_etdrk3_nonlinear :
    ∀ {ι : Type} [inst : Fintype ι] (l : ι → ℂ) (N : (ι → ℂ) → ι → ℂ) (K : NNReal),
      LipschitzWith K N →
        ∀ (u : ℝ → ι → ℂ) (T ω M1 M2 G3 H HL : ℝ),
          0 ≤ ω →
            (∀ (k : ι), (l k).re ≤ ω) →
              0 ≤ G3 →
                0 ≤ H →
                  0 ≤ HL →
                    (∀ t ∈ Set.Icc 0 T, HasDerivAt u (l * u t + N (u t)) t) →
                      ∀ (f1 f2 : ℝ → ι → ℂ),
                        (∀ t ∈ Set.Icc 0 T, ‖f1 t‖ ≤ M1) →
                          (∀ t ∈ Set.Icc 0 T, ‖f2 t‖ ≤ M2) →
                            (∀ (t s : ℝ),
                                0 ≤ t →
                                  0 ≤ s →
                                    t + s ≤ T →
                                      ‖N (u (t + s)) - N (u t) - (s : ℂ) • f1 t - ((s : ℂ) ^ 2 / 2) • f2 t‖ ≤ G3 * s ^ 3 / 6) →
                              ∀ (L : ℝ → (ι → ℂ) →ₗ[ℝ] ι → ℂ),
                                (∀ τ ∈ Set.Icc 0 T, ∀ (v : ι → ℂ), ‖(L τ) v‖ ≤ ↑K * ‖v‖) →
                                  (∀ τ ∈ Set.Icc 0 T,
                                      ∀ (y : ι → ℂ), ‖N y - N (u τ) - (L τ) (y - u τ)‖ ≤ H / 2 * ‖y - u τ‖ ^ 2) →
                                    (∀ τ ∈ Set.Icc 0 T,
                                        ∀ τ' ∈ Set.Icc 0 T, ∀ (v : ι → ℂ), ‖(L τ) v - (L τ') v‖ ≤ HL * |τ - τ'| * ‖v‖) →
                                      ∀ (n : ℕ) (dt : ℝ),
                                        0 ≤ dt →
                                          ↑n * dt ≤ T →
                                            ‖u (↑n * dt) - (etd3Vec l N dt)^[n] (u 0)‖ ≤
                                              ({ K := ↑K, M1 := M1, M2 := M2, G3 := G3, H := H, HL := HL, Lam := ‖l‖, ω := ω, T := T } : NL3).Cglob *
                                                dt ^ 3 := by
  intro ι _ l N K hN u T ω M1 M2 G3 H HL hω hl hG3 hH hHL hu f1 f2 hM1 hM2 hTay L hLK hLin hLlip n dt hdt hn
  have hT : 0 ≤ T := (mul_nonneg n.cast_nonneg hdt).trans hn
  have h0 : (0 : ℝ) ∈ Set.Icc (0 : ℝ) T := ⟨le_rfl, hT⟩
  have hc : NL3.Nonneg ⟨K, M1, M2, G3, H, HL, ‖l‖, ω, T⟩ := ⟨K.coe_nonneg, (norm_nonneg _).trans (hM1 0 h0),
    (norm_nonneg _).trans (hM2 0 h0), hG3, hH, hHL, norm_nonneg l, hω, hT⟩
  exact fan_grid_exp_add (etd3Vec l N dt) u _ ω (etd3Θ K ω T) T dt 3 n hc.Cloc hω (etd3Θ_nonneg K.coe_nonneg hT) hdt hn
    (fun t ht hth => etd3Vec_local_error l N K hN u T ω M1 M2 G3 H HL hω hl hG3 hH hHL hu f1 f2 hM1 hM2 hTay
      L hLK hLin hLlip t dt ht hdt hth)
    (fun hdtT => etd3Vec_stable l N K hN ω T dt hω hl hdt hdtT)

open Exponax.LinearOrder in
theorem C02_etdrk4_nonlinear_local_error :
    ∀ (l : ℂ) (N : ℂ → ℂ) (K : NNReal),
      LipschitzWith K N →
        ∀ (u : ℝ → ℂ) (T ω M1 M2 M3 G4 H HL : ℝ),
          0 ≤ ω →
            l.re ≤ ω →
              0 ≤ G4 →
                0 ≤ H →
                  0 ≤ HL →
                    (∀ t ∈ Set.Icc 0 T, HasDerivAt u (l * u t + N (u t)) t) →
                      ∀ (f1 f2 f3 : ℝ → ℂ),
                        (∀ t ∈ Set.Icc 0 T, ‖f1 t‖ ≤ M1) →
                          (∀ t ∈ Set.Icc 0 T, ‖f2 t‖ ≤ M2) →
                            (∀ t ∈ Set.Icc 0 T, ‖f3 t‖ ≤ M3) →
                              (∀ (t s : ℝ),
                                  0 ≤ t →
                                    0 ≤ s →
                                      t + s ≤ T →
                                        ‖N (u (t + s)) - N (u t) - ↑s * f1 t - ↑s ^ 2 / 2 * f2 t - ↑s ^ 3 / 6 * f3 t‖ ≤
                                          G4 * s ^ 4 / 24) →
                                ∀ (L : ℝ → ℂ →ₗ[ℝ] ℂ),
                                  (∀ τ ∈ Set.Icc 0 T, ∀ (v : ℂ), ‖(L τ) v‖ ≤ ↑K * ‖v‖) →
                                    (∀ τ ∈ Set.Icc 0 T,
                                        ∀ (y : ℂ), ‖N y - N (u τ) - (L τ) (y - u τ)‖ ≤ H / 2 * ‖y - u τ‖ ^ 2) →
                                      (∀ τ ∈ Set.Icc 0 T,
                                          ∀ τ' ∈ Set.Icc 0 T, ∀ (v : ℂ), ‖(L τ) v - (L τ') v‖ ≤ HL * |τ - τ'| * ‖v‖) →
                                        ∀ (t h : ℝ),
                                          0 ≤ t →
                                            0 ≤ h →
                                              t + h ≤ T →
                                                ‖u (t + h) -
                                                      Gen.Etdrk.E4step (Complex.exp (l * ↑h)) (Complex.exp (l * ↑h / 2))
                                                        (↑h * (ContourTail.phi1e (l * ↑h / 2) / 2))
                                                        (↑h * (ContourTail.phi1e (l * ↑h / 2) / 2))
                                                        (↑h * (ContourTail.phi1e (l * ↑h / 2) / 2))
                                                        (↑h *
                                                          (ContourTail.phi1e (l * ↑h) - 3 * ContourTail.phi2e (l * ↑h) +
                                                            4 * ContourTail.phi3e (l * ↑h)))
                                                        (↑h * (ContourTail.phi2e (l * ↑h) - 2 * ContourTail.phi3e (l * ↑h)))
                                                        (↑h * (4 * ContourTail.phi3e (l * ↑h) - ContourTail.phi2e (l * ↑h)))
                                                        N (u t)‖ ≤
                                                  ({ K := ↑K, M1 := M1, M2 := M2, M3 := M3, G4 := G4, H := H, HL := HL, Lam := ‖l‖, ω := ω, T := T } : NL4).Cloc *
                                                    h ^ 5 :=
  @Exponax.LinearOrder.etd4_local_error

open Exponax.LinearOrder in
theorem C02_global_order_etdrk4_nonlinear :
    ∀ {ι : Type} [inst : Fintype ι] (l : ι → ℂ) (N : (ι → ℂ) → ι → ℂ) (K : NNReal),
      LipschitzWith K N →
        ∀ (u : ℝ → ι → ℂ) (T ω M1 M2 M3 G4 H HL : ℝ),
          0 ≤ ω →
            (∀ (k : ι), (l k).re ≤ ω) →
              0 ≤ G4 →
                0 ≤ H →
                  0 ≤ HL →
                    (∀ t ∈ Set.Icc 0 T, HasDerivAt u (l * u t + N (u t)) t) →
                      ∀ (f1 f2 f3 : ℝ → ι → ℂ),
                        (∀ t ∈ Set.Icc 0 T, ‖f1 t‖ ≤ M1) →
                          (∀ t ∈ Set.Icc 0 T, ‖f2 t‖ ≤ M2) →
                            (∀ t ∈ Set.Icc 0 T, ‖f3 t‖ ≤ M3) →
                              (∀ (t s : ℝ),
                                  0 ≤ t →
                                    0 ≤ s →
                                      t + s ≤ T →
                                        ‖N (u (t + s)) - N (u t) - (s : ℂ) • f1 t - ((s : ℂ) ^ 2 / 2) • f2 t - ((s : ℂ) ^ 3 / 6) • f3 t‖ ≤
                                          G4 * s ^ 4 / 24) →
                                ∀ (L : ℝ → (ι → ℂ) →ₗ[ℝ] ι → ℂ),
                                  (∀ τ ∈ Set.Icc 0 T, ∀ (v : ι → ℂ), ‖(L τ) v‖ ≤ ↑K * ‖v‖) →
                                    (∀ τ ∈ Set.Icc 0 T,
                                        ∀ (y : ι → ℂ), ‖N y - N (u τ) - (L τ) (y - u τ)‖ ≤ H / 2 * ‖y - u τ‖ ^ 2) →
                                      (∀ τ ∈ Set.Icc 0 T,
                                          ∀ τ' ∈ Set.Icc 0 T, ∀ (v : ι → ℂ), ‖(L τ) v - (L τ') v‖ ≤ HL * |τ - τ'| * ‖v‖) →
                                        ∀ (n : ℕ) (dt : ℝ),
                                          0 ≤ dt →
                                            ↑n * dt ≤ T →
                                              ‖u (↑n * dt) - (etd4Vec l N dt)^[n] (u 0)‖ ≤
                                                ({ K := ↑K, M1 := M1, M2 := M2, M3 := M3, G4 := G4, H := H, HL := HL, Lam := ‖l‖, ω := ω, T := T } : NL4).Cglob *
                                                  dt ^ 4 := by
  intro ι _ l N K hN u T ω M1 M2 M3 G4 H HL hω hl hG4 hH hHL hu f1 f2 f3 hM1 hM2 hM3 hTay L hLK hLin hLlip n dt hdt hn
  have hT : 0 ≤ T := (mul_nonneg (Nat.cast_nonneg n) hdt).trans hn
  have h0mem : (0 : ℝ) ∈ Set.Icc (0 : ℝ) T := ⟨le_rfl, hT⟩
  have hc : NL4.Nonneg ⟨K, M1, M2, M3, G4, H, HL, ‖l‖, ω, T⟩ := ⟨K.coe_nonneg, (norm_nonneg _).trans (hM1 0 h0mem),
    (norm_nonneg _).trans (hM2 0 h0mem), (norm_nonneg _).trans (hM3 0 h0mem), hG4, hH, hHL, norm_nonneg l, hω, hT⟩
  exact fan_grid_exp_add (etd4Vec l N dt) u _ ω (etd4Θ K ω T) T dt 4 n hc.Cloc hω (etd4Θ_nonneg K.coe_nonneg hT) hdt hn
    (fun t ht htT => etd4Vec_local_error l N K hN u T ω M1 M2 M3 G4 H HL hω hl hG4 hH hHL hu f1 f2 f3 hM1 hM2 hM3
      hTay L hLK hLin hLlip t dt ht hdt htT)
    (fun hdtT => etd4Vec_stable l N K hN ω T dt hω hl hdt hdtT)

open Exponax.LinearOrder in
theorem C02_etdrk3_vector_step_is_generated :
    ∀ {ι : Type} (l : ι → ℂ) (N : (ι → ℂ) → ι → ℂ) (dt : ℝ) (x : ι → ℂ) (k : ι),
      etd3Vec l N dt x k =
        Complex.exp (l k * ↑dt) * x k +
              ↑dt *
                  (ContourTail.phi1e (l k * ↑dt) - 3 * ContourTail.phi2e (l k * ↑dt) + 4 * ContourTail.phi3e (l k * ↑dt)) *
                N x k +
            ↑dt * (4 * ContourTail.phi2e (l k * ↑dt) - 8 * ContourTail.phi3e (l k * ↑dt)) * N (etd3VecA l N dt x) k +
          ↑dt * (4 * ContourTail.phi3e (l k * ↑dt) - ContourTail.phi2e (l k * ↑dt)) * N (etd3VecB l N dt x) k :=
  fun l N dt x k => congrFun (etd3Vec_eq l N dt x) k

open Exponax.LinearOrder in
theorem C02_etdrk4_vector_step_is_generated :
    ∀ {ι : Type} (l : ι → ℂ) (N : (ι → ℂ) → ι → ℂ) (dt : ℝ) (x : ι → ℂ) (k : ι),
      etd4Vec l N dt x k =
        Complex.exp (l k * ↑dt) * x k +
              ↑dt *
                  (ContourTail.phi1e (l k * ↑dt) - 3 * ContourTail.phi2e (l k * ↑dt) + 4 * ContourTail.phi3e (l k * ↑dt)) *
                N x k +
            ↑dt * (ContourTail.phi2e (l k * ↑dt) - 2 * ContourTail.phi3e (l k * ↑dt)) * 2 *
              (N (etd4VecA l N dt x) k + N (etd4VecB l N dt x) k) +
          ↑dt * (4 * ContourTail.phi3e (l k * ↑dt) - ContourTail.phi2e (l k * ↑dt)) * N (etd4VecC l N dt x) k :=
  @Exponax.LinearOrder.etd4Vec_apply

end Exponax
