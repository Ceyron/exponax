import ExponaxModel.Proofs.ZeroStateAssembled
/-
C19 (beside `Properties/C19_assembled.lean`) — "the zero state maps to a finite state (zero for unforced
equations)" on the assembled regenerated steps not covered there: `NavierStokesVorticity` (no injection),
`FisherKPP` (`u = 0` is a fixed point of `u' = r u (1 − u)`: the regenerated polynomial list is `(0, 0, −r)`), and the
Normalized / Difficulty wrappers of the convection, gradient-norm, general-nonlinear and linear families (the generic
step on the regenerated `super().__init__` arguments); the polynomial wrappers under the hypothesis that the constant
coefficient handed to the parent vanishes.  Exact complex arithmetic; IEEE semantics are observed by the check.
-/
namespace Exponax
open Exponax.Interface Exponax.Gen.Etdrk Exponax.Gen.StepperWiring Exponax.Gen.Steppers

/-- **zero state, more regenerated steppers.**  For ALL constructor arguments (every order, `dt`, extent, resolution,
    coefficients / difficulties, scales, flags, dealiasing fraction, contour) the assembled steps of
    `NavierStokesVorticity`, `FisherKPP` and of the Normalized / Difficulty wrappers of the convection, gradient-norm,
    general-nonlinear and linear families keep the zero state zero over any number of steps. -/
theorem C19_zero_state_fixed_by_more_assembled_steppers (n : ℕ) :
    (∀ a : NavierStokesVorticityArgs ℂ, (NavierStokesVorticity_step a)^[n] 0 = 0) ∧
    (∀ a : FisherKPPArgs ℂ, (FisherKPP_step a)^[n] 0 = 0) ∧
    (∀ a : NormalizedConvectionStepperArgs ℂ, (NormalizedConvectionStepper_step a)^[n] 0 = 0) ∧
    (∀ a : DifficultyConvectionStepperArgs ℂ, (DifficultyConvectionStepper_step a)^[n] 0 = 0) ∧
    (∀ a : NormalizedGradientNormStepperArgs ℂ, (NormalizedGradientNormStepper_step a)^[n] 0 = 0) ∧
    (∀ a : DifficultyGradientNormStepperArgs ℂ, (DifficultyGradientNormStepper_step a)^[n] 0 = 0) ∧
    (∀ a : NormalizedNonlinearStepperArgs ℂ, (NormalizedNonlinearStepper_step a)^[n] 0 = 0) ∧
    (∀ a : DifficultyNonlinearStepperArgs ℂ, (DifficultyNonlinearStepper_step a)^[n] 0 = 0) ∧
    (∀ a : NormalizedLinearStepperArgs ℂ, (NormalizedLinearStepper_step a)^[n] 0 = 0) ∧
    (∀ a : DifficultyLinearStepperArgs ℂ, (DifficultyLinearStepper_step a)^[n] 0 = 0) :=
  ⟨fun a => Function.iterate_fixed (NavierStokesVorticity_step_zero a) n,
   fun a => Function.iterate_fixed (FisherKPP_step_zero a) n,
   fun _ => Function.iterate_fixed (GeneralConvectionStepper_step_zero _) n,
   fun _ => Function.iterate_fixed (GeneralConvectionStepper_step_zero _) n,
   fun _ => Function.iterate_fixed (GeneralGradientNormStepper_step_zero _) n,
   fun _ => Function.iterate_fixed (GeneralGradientNormStepper_step_zero _) n,
   fun _ => Function.iterate_fixed (GeneralNonlinearStepper_step_zero _) n,
   fun _ => Function.iterate_fixed (GeneralNonlinearStepper_step_zero _) n,
   fun _ => Function.iterate_fixed (GeneralLinearStepper_step_zero _) n,
   fun _ => Function.iterate_fixed (show NormalizedLinearStepper_step _ 0 = 0 from GeneralLinearStepper_step_zero _) n⟩

/-- the polynomial wrappers: zero is kept when the constant coefficient of the list the wrapper hands to
    `GeneralPolynomialStepper` (the regenerated `super().__init__` arguments) vanishes.  The hypothesis is stated on the
    regenerated parent arguments, not on the user's normalised coefficients / difficulties (the rescaling of the
    constant coefficient is not unfolded here). -/
theorem C19_zero_state_fixed_by_polynomial_wrappers_partial (n : ℕ) :
    (∀ a : NormalizedPolynomialStepperArgs ℂ,
      (NormalizedPolynomialStepper_super_args a).polynomial_coefficients.getD 0 0 = 0 →
        (NormalizedPolynomialStepper_step a)^[n] 0 = 0) ∧
    (∀ a : DifficultyPolynomialStepperArgs ℂ,
      (NormalizedPolynomialStepper_super_args
        (DifficultyPolynomialStepper_super_args a)).polynomial_coefficients.getD 0 0 = 0 →
        (DifficultyPolynomialStepper_step a)^[n] 0 = 0) :=
  ⟨fun _ h0 => Function.iterate_fixed (GeneralPolynomialStepper_step_zero _ h0) n,
   fun _ h0 => Function.iterate_fixed (GeneralPolynomialStepper_step_zero _ h0) n⟩

/-! non-vacuity: argument records exist (Fisher–KPP with a non-zero reactivity, order 2); the polynomial list of
Fisher–KPP has no constant term and is not the zero polynomial -/
example : ∃ a : FisherKPPArgs ℂ, a.reactivity ≠ 0 ∧ a.order = 2 :=
  ⟨{ num_spatial_dims := 1, domain_extent := 1, num_points := 8, dt := 1, diffusivity := 0.01, reactivity := 1,
     order := 2, dealiasing_fraction := (2, 3), num_circle_points := 16, circle_radius := 1 }, one_ne_zero, rfl⟩
example (r : ℂ) : ([0, 0, -r] : List ℂ).getD 0 0 = 0 := rfl

end Exponax
