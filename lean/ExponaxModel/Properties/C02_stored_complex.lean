import ExponaxModel.Properties.C02_accuracy
import ExponaxModel.Proofs.LinearTestOrderStoredComplex
/-
C02 — ORDER of the schemes with the STORED contour coefficients for COMPLEX linear symbols
("… whether that symbol is real (diffusive) or complex (advective/dispersive) … the global error decays like dt^p").

`C02_global_order_partial_stored` (Properties/C02_order.lean) covers real λ ≤ 0, orders 1, 2, 4, with δ = 5e-8.  Here:
  * every complex symbol in the CLOSED LEFT HALF-PLANE `Re λ ≤ 0` (diffusion, advection, dispersion and mixtures), real `dt ≥ 0`,
    `λ·dt` not one of the sixteen quadrature nodes `−ζ_j`, orders p = 1, 2, 3, 4, with the half-plane accuracy δ = 1.7e-12
    (`C02_coefficients_complex_halfplane_accuracy`): n steps of the REGENERATED `E?step` with the REGENERATED `exp_term`,
    `E?_half_exp_term`, `E?_coef_i dt λ 16 1` stay within `Cfloor·(Cloc_p·dt^p + pertD_p(1.7e-12))·‖u‖` of the exact solution;
  * the imaginary axis `Re λ = 0` (advection `−i c k`, dispersion `i k³`) without any node hypothesis
    (`C02_imaginary_symbols_never_on_a_node`, 16 is a multiple of 4);
  * the ETDRK3 case of the real-symbol theorem (`C02_global_order_partial_stored_etdrk3`).
The node hypothesis cannot be dropped: `C02_accuracy_iff_off_the_nodes` (on a node the stored coefficients are NOT accurate).
`_partial` with respect to the full C02 order statement: linear test family N(u) = μu only (for nonlinear N the results of
Properties/C02_order.lean are for the exact coefficients), and `Re λ ≤ 0` (growing modes have the weaker accuracy
`C02_coefficients_growing_modes_accuracy`, not carried through here).
-/
namespace Exponax
open Exponax.Gen.Etdrk Exponax.LinearOrder Exponax.ContourTail

/-! ### complex symbols in the closed left half-plane, one theorem per order -/

/-- stored ETDRK1, complex symbol `Re λ ≤ 0`, `λ dt` off the nodes: global error ≤ C'·dt + C''·1.7e-12 -/
theorem C02_global_order_stored_complex_partial_etdrk1 (l m : ℂ) (T : ℝ) (hl : l.re ≤ 0) (n : ℕ) (dt : ℝ) (hdt : 0 ≤ dt)
    (hn : n * dt ≤ T) (hnode : ∀ ζ ∈ (roots_of_unity 16 : List ℂ), l * (dt : ℂ) ≠ -(1 * ζ)) (u : ℂ) :
    ‖(E1step (exp_term (dt : ℂ) l) (E1_coef_1 (dt : ℂ) l 16 1) (fun v : ℂ => m * v))^[n] u
        - Complex.exp ((l + m) * (n * dt)) * u‖ ≤
      Cfloor (Cloc1 l m T) (pertD1 m δstoredC) (l + m) 1 T * (Cloc1 l m T * dt ^ 1 + pertD1 m δstoredC) * ‖u‖ :=
  (stored_global_of_accuracy l m T δstoredC δstoredC_nonneg n dt hdt hn
    (ContourComplex.storedCoef_error_dissipative dt l hdt hl hnode) u).1

/-- stored ETDRK2, complex symbol: global error ≤ C'·dt² + C''·1.7e-12 -/
theorem C02_global_order_stored_complex_partial_etdrk2 (l m : ℂ) (T : ℝ) (hl : l.re ≤ 0) (n : ℕ) (dt : ℝ) (hdt : 0 ≤ dt)
    (hn : n * dt ≤ T) (hnode : ∀ ζ ∈ (roots_of_unity 16 : List ℂ), l * (dt : ℂ) ≠ -(1 * ζ)) (u : ℂ) :
    ‖(E2step (exp_term (dt : ℂ) l) (E2_coef_1 (dt : ℂ) l 16 1) (E2_coef_2 (dt : ℂ) l 16 1) (fun v : ℂ => m * v))^[n] u
        - Complex.exp ((l + m) * (n * dt)) * u‖ ≤
      Cfloor (Cloc2 l m T) (pertD2 l m T δstoredC) (l + m) 2 T * (Cloc2 l m T * dt ^ 2 + pertD2 l m T δstoredC) * ‖u‖ :=
  (stored_global_of_accuracy l m T δstoredC δstoredC_nonneg n dt hdt hn
    (ContourComplex.storedCoef_error_dissipative dt l hdt hl hnode) u).2.1

/-- stored ETDRK3, complex symbol: global error ≤ C'·dt³ + C''·1.7e-12 -/
theorem C02_global_order_stored_complex_partial_etdrk3 (l m : ℂ) (T : ℝ) (hl : l.re ≤ 0) (n : ℕ) (dt : ℝ) (hdt : 0 ≤ dt)
    (hn : n * dt ≤ T) (hnode : ∀ ζ ∈ (roots_of_unity 16 : List ℂ), l * (dt : ℂ) ≠ -(1 * ζ)) (u : ℂ) :
    ‖(E3step (exp_term (dt : ℂ) l) (E3_half_exp_term (dt : ℂ) l 16 1) (E3_coef_1 (dt : ℂ) l 16 1) (E3_coef_2 (dt : ℂ) l 16 1)
          (E3_coef_3 (dt : ℂ) l 16 1) (E3_coef_4 (dt : ℂ) l 16 1) (E3_coef_5 (dt : ℂ) l 16 1) (fun v : ℂ => m * v))^[n] u
        - Complex.exp ((l + m) * (n * dt)) * u‖ ≤
      Cfloor (Cloc3 l m T) (pertD3 l m T δstoredC) (l + m) 3 T * (Cloc3 l m T * dt ^ 3 + pertD3 l m T δstoredC) * ‖u‖ :=
  (stored_global_of_accuracy l m T δstoredC δstoredC_nonneg n dt hdt hn
    (ContourComplex.storedCoef_error_dissipative dt l hdt hl hnode) u).2.2.1

/-- stored ETDRK4, complex symbol: global error ≤ C'·dt⁴ + C''·1.7e-12 -/
theorem C02_global_order_stored_complex_partial_etdrk4 (l m : ℂ) (T : ℝ) (hl : l.re ≤ 0) (n : ℕ) (dt : ℝ) (hdt : 0 ≤ dt)
    (hn : n * dt ≤ T) (hnode : ∀ ζ ∈ (roots_of_unity 16 : List ℂ), l * (dt : ℂ) ≠ -(1 * ζ)) (u : ℂ) :
    ‖(E4step (exp_term (dt : ℂ) l) (E4_half_exp_term (dt : ℂ) l 16 1) (E4_coef_1 (dt : ℂ) l 16 1) (E4_coef_2 (dt : ℂ) l 16 1)
          (E4_coef_3 (dt : ℂ) l 16 1) (E4_coef_4 (dt : ℂ) l 16 1) (E4_coef_5 (dt : ℂ) l 16 1) (E4_coef_6 (dt : ℂ) l 16 1)
          (fun v : ℂ => m * v))^[n] u
        - Complex.exp ((l + m) * (n * dt)) * u‖ ≤
      Cfloor (Cloc4 l m T) (pertD4 l m T δstoredC) (l + m) 4 T * (Cloc4 l m T * dt ^ 4 + pertD4 l m T δstoredC) * ‖u‖ :=
  (stored_global_of_accuracy l m T δstoredC δstoredC_nonneg n dt hdt hn
    (ContourComplex.storedCoef_error_dissipative dt l hdt hl hnode) u).2.2.2

/-- sufficient for the node hypothesis: `‖λ dt‖ ≠ 1` (the nodes lie on the unit circle) -/
theorem C02_off_the_nodes_of_norm_ne_one (l : ℂ) (dt : ℝ) (h : ‖l * (dt : ℂ)‖ ≠ 1) :
    ∀ ζ ∈ (roots_of_unity 16 : List ℂ), l * (dt : ℂ) ≠ -(1 * ζ) :=
  ContourComplex.excluded_of_norm_ne_one 16 _ h

/-! ### the imaginary axis: advection and dispersion symbols, all four orders, no node hypothesis -/

/-- `Re λ = 0` (advection `λ = −i c k`, dispersion `λ = i k³`, …): `λ dt` is never a node
    (`C02_imaginary_symbols_never_on_a_node`), so all four stored steppers converge with their order down to the 1.7e-12 floor -/
theorem C02_global_order_stored_imaginary_axis (l m : ℂ) (T : ℝ) (hl : l.re = 0) (n : ℕ) (dt : ℝ) (hdt : 0 ≤ dt)
    (hn : n * dt ≤ T) (u : ℂ) :
    ‖(E1step (exp_term (dt : ℂ) l) (E1_coef_1 (dt : ℂ) l 16 1) (fun v : ℂ => m * v))^[n] u
        - Complex.exp ((l + m) * (n * dt)) * u‖ ≤
      Cfloor (Cloc1 l m T) (pertD1 m δstoredC) (l + m) 1 T * (Cloc1 l m T * dt ^ 1 + pertD1 m δstoredC) * ‖u‖ ∧
    ‖(E2step (exp_term (dt : ℂ) l) (E2_coef_1 (dt : ℂ) l 16 1) (E2_coef_2 (dt : ℂ) l 16 1) (fun v : ℂ => m * v))^[n] u
        - Complex.exp ((l + m) * (n * dt)) * u‖ ≤
      Cfloor (Cloc2 l m T) (pertD2 l m T δstoredC) (l + m) 2 T * (Cloc2 l m T * dt ^ 2 + pertD2 l m T δstoredC) * ‖u‖ ∧
    ‖(E3step (exp_term (dt : ℂ) l) (E3_half_exp_term (dt : ℂ) l 16 1) (E3_coef_1 (dt : ℂ) l 16 1) (E3_coef_2 (dt : ℂ) l 16 1)
          (E3_coef_3 (dt : ℂ) l 16 1) (E3_coef_4 (dt : ℂ) l 16 1) (E3_coef_5 (dt : ℂ) l 16 1) (fun v : ℂ => m * v))^[n] u
        - Complex.exp ((l + m) * (n * dt)) * u‖ ≤
      Cfloor (Cloc3 l m T) (pertD3 l m T δstoredC) (l + m) 3 T * (Cloc3 l m T * dt ^ 3 + pertD3 l m T δstoredC) * ‖u‖ ∧
    ‖(E4step (exp_term (dt : ℂ) l) (E4_half_exp_term (dt : ℂ) l 16 1) (E4_coef_1 (dt : ℂ) l 16 1) (E4_coef_2 (dt : ℂ) l 16 1)
          (E4_coef_3 (dt : ℂ) l 16 1) (E4_coef_4 (dt : ℂ) l 16 1) (E4_coef_5 (dt : ℂ) l 16 1) (E4_coef_6 (dt : ℂ) l 16 1)
          (fun v : ℂ => m * v))^[n] u
        - Complex.exp ((l + m) * (n * dt)) * u‖ ≤
      Cfloor (Cloc4 l m T) (pertD4 l m T δstoredC) (l + m) 4 T * (Cloc4 l m T * dt ^ 4 + pertD4 l m T δstoredC) * ‖u‖ :=
  stored_global_imaginary l m T hl n dt hdt hn u

/-- the form with the symbol written `λ = i ω`, ω real (ω = −c k for advection, ω = k³ for dispersion), ETDRK4 -/
theorem C02_global_order_stored_advection_symbol_etdrk4 (ω : ℝ) (m : ℂ) (T : ℝ) (n : ℕ) (dt : ℝ) (hdt : 0 ≤ dt)
    (hn : n * dt ≤ T) (u : ℂ) :
    ‖(E4step (exp_term (dt : ℂ) (Complex.I * ω)) (E4_half_exp_term (dt : ℂ) (Complex.I * ω) 16 1)
          (E4_coef_1 (dt : ℂ) (Complex.I * ω) 16 1) (E4_coef_2 (dt : ℂ) (Complex.I * ω) 16 1)
          (E4_coef_3 (dt : ℂ) (Complex.I * ω) 16 1) (E4_coef_4 (dt : ℂ) (Complex.I * ω) 16 1)
          (E4_coef_5 (dt : ℂ) (Complex.I * ω) 16 1) (E4_coef_6 (dt : ℂ) (Complex.I * ω) 16 1)
          (fun v : ℂ => m * v))^[n] u
        - Complex.exp ((Complex.I * ω + m) * (n * dt)) * u‖ ≤
      Cfloor (Cloc4 (Complex.I * ω) m T) (pertD4 (Complex.I * ω) m T δstoredC) (Complex.I * ω + m) 4 T *
        (Cloc4 (Complex.I * ω) m T * dt ^ 4 + pertD4 (Complex.I * ω) m T δstoredC) * ‖u‖ :=
  (C02_global_order_stored_imaginary_axis (Complex.I * ω) m T (by simp) n dt hdt hn u).2.2.2

/-- the floor is proportional to the coefficient error: δ = 1.7e-12, for ETDRK1 the floor constant is 1.7e-12·‖μ‖, and for
    ETDRK2 (growth factor 1 in the half-plane) an explicit polynomial in ‖μ‖, T -/
theorem C02_stored_complex_floor (l m : ℂ) (T : ℝ) (hl : l.re ≤ 0) (hT : 0 ≤ T) :
    δstoredC = 1.7e-12 ∧ pertD1 m δstoredC = 1.7e-12 * ‖m‖ ∧
      pertD2 l m T δstoredC = 1.7e-12 * (‖m‖ * (1 + (1 + T * (1 + 1.7e-12) * ‖m‖ + 1) + T * (1 / 2) * ‖m‖)) :=
  ⟨rfl, pertD1_storedC m, pertD2_storedC l m T hl hT⟩

/-- the bound split into the order term and the floor term, `C'·dt^p·‖u‖ + C''·δ·‖u‖` (ETDRK1 written out) -/
theorem C02_stored_complex_bound_shape (l m : ℂ) (T dt : ℝ) (u : ℂ) :
    Cfloor (Cloc1 l m T) (pertD1 m δstoredC) (l + m) 1 T * (Cloc1 l m T * dt ^ 1 + pertD1 m δstoredC) * ‖u‖ =
      (Cfloor (Cloc1 l m T) (pertD1 m δstoredC) (l + m) 1 T * Cloc1 l m T) * dt ^ 1 * ‖u‖ +
        (Cfloor (Cloc1 l m T) (pertD1 m δstoredC) (l + m) 1 T * pertK1 ‖m‖) * δstoredC * ‖u‖ :=
  floor_split _ _ _ _ _ _ _

/-! ### ETDRK3 for real symbols (the order that `C02_global_order_partial_stored` leaves out) -/

/-- stored ETDRK3, real λ ≤ 0, δ = 5e-8 -/
theorem C02_global_order_partial_stored_etdrk3 (lam : ℝ) (m : ℂ) (T : ℝ) (hlam : lam ≤ 0) (n : ℕ) (dt : ℝ) (hdt : 0 ≤ dt)
    (hn : n * dt ≤ T) (u : ℂ) :
    ‖(E3step (exp_term (dt : ℂ) (lam : ℂ)) (E3_half_exp_term (dt : ℂ) (lam : ℂ) 16 1) (E3_coef_1 (dt : ℂ) (lam : ℂ) 16 1)
          (E3_coef_2 (dt : ℂ) (lam : ℂ) 16 1) (E3_coef_3 (dt : ℂ) (lam : ℂ) 16 1) (E3_coef_4 (dt : ℂ) (lam : ℂ) 16 1)
          (E3_coef_5 (dt : ℂ) (lam : ℂ) 16 1) (fun v : ℂ => m * v))^[n] u - Complex.exp ((lam + m) * (n * dt)) * u‖ ≤
      Cfloor (Cloc3 lam m T) (pertD3 lam m T δstored) (lam + m) 3 T * (Cloc3 lam m T * dt ^ 3 + pertD3 lam m T δstored) * ‖u‖ :=
  (stored_global_of_accuracy lam m T δstored δstored_nonneg n dt hdt hn
    (storedCoef_error_default dt lam (mul_nonpos_of_nonpos_of_nonneg hlam hdt)) u).2.2.1

/-- `λ = −1 + 2i`, `dt = 1/10`, 10 steps to T = 1: hypotheses hold (`‖λ dt‖² = 1/20`) -/
example : ((-1 : ℂ) + 2 * Complex.I).re ≤ 0 ∧ (0 : ℝ) ≤ 1 / 10 ∧ ((10 : ℕ) : ℝ) * (1 / 10) ≤ 1 ∧
    ∀ ζ ∈ (roots_of_unity 16 : List ℂ), ((-1 : ℂ) + 2 * Complex.I) * ((1 / 10 : ℝ) : ℂ) ≠ -(1 * ζ) :=
  ⟨by simp, by norm_num, by norm_num, C02_off_the_nodes_of_norm_ne_one _ _ wave_norm_ne_one⟩

/-- `λ = 3i` (advection), `dt = 1/10`, 10 steps: the imaginary-axis theorem applies as is -/
example (m u : ℂ) :
    ‖(E1step (exp_term ((1 / 10 : ℝ) : ℂ) (3 * Complex.I)) (E1_coef_1 ((1 / 10 : ℝ) : ℂ) (3 * Complex.I) 16 1)
          (fun v : ℂ => m * v))^[10] u
        - Complex.exp ((3 * Complex.I + m) * ((10 : ℕ) * ((1 / 10 : ℝ) : ℂ))) * u‖ ≤
      Cfloor (Cloc1 (3 * Complex.I) m 1) (pertD1 m δstoredC) (3 * Complex.I + m) 1 1 *
        (Cloc1 (3 * Complex.I) m 1 * (1 / 10 : ℝ) ^ 1 + pertD1 m δstoredC) * ‖u‖ :=
  (C02_global_order_stored_imaginary_axis (3 * Complex.I) m 1 (by simp) 10 (1 / 10) (by norm_num) (by norm_num) u).1

example : (-1 : ℝ) ≤ 0 ∧ (0 : ℝ) ≤ 1 / 10 ∧ ((10 : ℕ) : ℝ) * (1 / 10) ≤ 1 := by norm_num

end Exponax
