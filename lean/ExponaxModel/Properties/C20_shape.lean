import ExponaxModel.Proofs.BaseStepperGenEq
import ExponaxModel.Proofs.DFTBasic
/-
C20 — "Every correctly shaped state is accepted and returns the same shape", on the REGENERATED
`Gen.Base.BaseStepper_call` (guard of `__call__`, then `step` = `ifft ∘ step_fourier ∘ fft`):

* whenever `__call__` returns a value `v`, the argument had the configured shape `(C,) + (N,)*D` AND `v` has that very shape:
  `C` channels of `N^D` grid values each — whatever `step_fourier` does (no hypothesis on it: the inverse transform of the
  regenerated `ifft` is asked for `num_points` output points per axis and for `num_channels` channels);
* a state of the configured shape is accepted: `__call__` returns a value as soon as `step_fourier` does on the transformed state
  (for the ETDRK integrators of order ≤ 4 it always does: `BaseStepperGenEq.BaseStepper_step_fourier_isSome_iff`).
-/
namespace Exponax
open Exponax.Layout Exponax.Transform Exponax.Nonlin Exponax.Gen.StepperWiring Exponax.Gen.Base Exponax.BaseStepperGenEq

/-- a returned state has exactly the configured shape (and the argument had it too) -/
theorem C20_base_call_returns_the_configured_shape (a : BaseStepperArgs ℂ) (hD : 1 ≤ a.num_spatial_dims)
    (sf : MC ℂ → Option (MC ℂ)) (shape : List ℕ) (u v : MC ℂ) (h : BaseStepper_call a sf shape u = some v) :
    shape = a.num_channels :: List.replicate a.num_spatial_dims a.num_points ∧
    v.size = a.num_channels ∧
    ∀ ch < a.num_channels, (v.getD ch #[]).size = a.num_points ^ a.num_spatial_dims := by
  rw [BaseStepper_call_eq] at h
  split at h
  · rename_i hs
    rw [BaseStepper_step_eq a hD] at h
    obtain ⟨w, hw, rfl⟩ := Option.map_eq_some_iff.mp h
    refine ⟨hs, ?_, fun ch hch => ?_⟩
    · exact Exponax.DFT.tab_size _ _
    · rw [tabC_getD _ _ _ hch]
      exact Exponax.DFT.irfftnM_size _ _ _
  · exact absurd h (by simp)

/-- the configured shape is accepted: the only way `__call__` can fail on it is `step_fourier` failing -/
theorem C20_base_call_accepts_the_configured_shape (a : BaseStepperArgs ℂ) (hD : 1 ≤ a.num_spatial_dims)
    (sf : MC ℂ → Option (MC ℂ)) (u : MC ℂ)
    (hsf : (sf (tabC a.num_channels (fun i => rfftnM a.num_spatial_dims a.num_points (u.getD i #[])))).isSome = true) :
    ∃ v, BaseStepper_call a sf (a.num_channels :: List.replicate a.num_spatial_dims a.num_points) u = some v ∧
      v.size = a.num_channels ∧
      ∀ ch < a.num_channels, (v.getD ch #[]).size = a.num_points ^ a.num_spatial_dims := by
  obtain ⟨w, hw⟩ := Option.isSome_iff_exists.mp hsf
  have hc : BaseStepper_call a sf (a.num_channels :: List.replicate a.num_spatial_dims a.num_points) u
      = some (tabC a.num_channels (fun i => irfftnM a.num_spatial_dims a.num_points (w.getD i #[]))) := by
    rw [BaseStepper_call_eq, if_pos rfl, BaseStepper_step_eq a hD, hw]; rfl
  exact ⟨_, hc, (C20_base_call_returns_the_configured_shape a hD sf _ u _ hc).2⟩

/-! ### non-vacuity: a 2-channel 1-D stepper with 4 points and the identity as `step_fourier` -/
example : ∃ (a : BaseStepperArgs ℂ) (sf : MC ℂ → Option (MC ℂ)) (u v : MC ℂ),
    1 ≤ a.num_spatial_dims ∧ BaseStepper_call a sf [2, 4] u = some v := by
  let a : BaseStepperArgs ℂ :=
    { num_spatial_dims := 1, domain_extent := 1, num_points := 4, dt := 1, num_channels := 2, order := 2,
      num_circle_points := 16, circle_radius := 1 }
  obtain ⟨v, hv, -⟩ := C20_base_call_accepts_the_configured_shape a (le_refl 1) some #[] rfl
  exact ⟨a, some, #[], v, le_refl 1, hv⟩

end Exponax
