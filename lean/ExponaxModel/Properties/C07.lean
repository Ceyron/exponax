import ExponaxModel.Proofs.SymbolAlgebra
import ExponaxModel.Proofs.WaveAlgebra
import ExponaxModel.Proofs.LerayBasic
import ExponaxModel.Proofs.Differentiability
import ExponaxModel.Proofs.DifferentiabilityParam
import ExponaxModel.Proofs.DifferentiabilityVec
import ExponaxModel.Proofs.DiffTermsExamples
import ExponaxModel.Proofs.DiffTermsInterface
import ExponaxModel.Proofs.DiffTermsAdjointConv
/-
C07 — steppers are differentiable with correct derivatives — PARTIAL.
JAX's AD engine and IEEE NaN propagation are not modelled.  What is proved: the per-mode maps of the model are
(real-)linear in the state for the linear steppers (so the Jacobian is the map itself — the correspondence compares
`jax.jvp` with the model step of the tangent), smooth in `dt` and in the symbol with the stated derivatives, and the
guarded inverses are independent of the state and of every coefficient the property lists.  On whole physical states
(`Proofs/DiffTerms*.lean`): seven nonlinear terms are smooth, the stage formulas and rollouts are differentiable, and the
derivative operator, the linear step and single-channel convection have the stated adjoints.
-/
set_option linter.unusedVariables false
namespace Exponax
open Exponax.Gen.Etdrk Exponax.Nonlin

/-- linear steppers: one step is linear in the state, so its Fréchet derivative is the step itself -/
theorem C07_linear_jacobian (E a b u v : ℂ) : E0step E (a * u + b * v) = a * E0step E u + b * E0step E v := by
  simp only [E0step]
  ring

/-- derivative of the propagator w.r.t. `dt`: `∂_dt e^{dt λ} = λ e^{dt λ}` … -/
theorem C07_dt_derivative (lam : ℂ) (dt : ℝ) :
    HasDerivAt (fun t : ℝ => exp_term (t : ℂ) lam) (lam * exp_term (dt : ℂ) lam) dt := by
  simp only [exp_term, hasExp_complex]
  have h1 : HasDerivAt (fun t : ℝ => Complex.exp ((t : ℂ) * lam)) (Complex.exp ((dt : ℂ) * lam) * (1 * lam)) dt :=
    ((Complex.ofRealCLM.hasDerivAt (x := dt)).mul_const lam).cexp
  simpa [mul_comm] using h1

/-- … and w.r.t. the symbol (hence, by the chain rule, w.r.t. every PDE coefficient the symbol is polynomial in) -/
theorem C07_symbol_derivative (dt lam : ℂ) :
    HasDerivAt (fun l : ℂ => exp_term dt l) (dt * exp_term dt lam) lam := by
  simp only [exp_term, hasExp_complex]
  have h1 : HasDerivAt (fun l : ℂ => Complex.exp (dt * l)) (Complex.exp (dt * lam) * (dt * 1)) lam :=
    ((hasDerivAt_id lam).const_mul dt).cexp
  simpa [mul_comm] using h1

/-- the guarded inverse Laplacians depend on the grid and on `2π/L` only: not on the state, `dt` or any PDE
    coefficient, so no derivative the property lists flows through a guarded division -/
theorem C07_guards_parameter_free (c c' : Cfg ℂ) (hD : c.D = c'.D) (hN : c.N = c'.N) (hs : c.s = c'.s) (h : ℕ) :
    invLapZero c h = invLapZero c' h ∧ invLapOne c h = invLapOne c' h := by
  have hl : laplace c 2 h = laplace c' 2 h := by
    simp only [laplace, Nonlin.deriv, hD, hN, hs]
  simp only [invLapZero, invLapOne, hl, and_self]

example : (1 : ℂ) ≠ 0 := one_ne_zero

/-! ### the model maps ARE differentiable with the stated derivatives (`Proofs/Differentiability*.lean`), so an AD result
that differs from them — or is NaN — is a defect of the implementation, not of the mathematics -/

/-- one ETDRK1 step: derivative `E + c₁ N'(u)` -/
theorem C07_step_state_derivative {𝕜 : Type} [NontriviallyNormedField 𝕜] (E c1 : 𝕜) (N : 𝕜 → 𝕜) (u N'u : 𝕜)
    (hN : HasDerivAt N N'u u) : HasDerivAt (E1step E c1 N) (E + c1 * N'u) u :=
  Diff.E1step_hasDerivAt E c1 N u N'u hN

/-- n ETDRK4 steps (a rollout): differentiable, derivative = product of the per-step derivatives (chain rule) -/
theorem C07_rollout_state_derivative {𝕜 : Type} [NontriviallyNormedField 𝕜] (E Eh c1 c2 c3 c4 c5 c6 : 𝕜)
    (N N' : 𝕜 → 𝕜) (hN : ∀ x, HasDerivAt N (N' x) x) (u : 𝕜) (n : ℕ) :
    HasDerivAt (E4step E Eh c1 c2 c3 c4 c5 c6 N)^[n]
      (∏ k ∈ Finset.range n, Diff.E4step' E Eh c1 c2 c3 c4 c5 c6 N N' ((E4step E Eh c1 c2 c3 c4 c5 c6 N)^[k] u)) u :=
  Diff.E4_rollout_hasDerivAt E Eh c1 c2 c3 c4 c5 c6 N N' hN u n

/-- the same for vector states (any finite-dimensional normed algebra, e.g. the spectrum `Fin n → ℂ`): Fréchet
    derivative of an n-step rollout -/
theorem C07_rollout_frechet {𝕜 : Type} [NontriviallyNormedField 𝕜] {V : Type} [NormedRing V] [NormedAlgebra 𝕜 V]
    (E Eh c1 c2 c3 c4 c5 c6 : V) (N : V → V) (N' : V → V →L[𝕜] V) (hN : ∀ x, HasFDerivAt N (N' x) x) (u : V)
    (n : ℕ) :
    HasFDerivAt (E4step E Eh c1 c2 c3 c4 c5 c6 N)^[n]
      (Diff.iterFDeriv (E4step E Eh c1 c2 c3 c4 c5 c6 N) (Diff.E4stepV' E Eh c1 c2 c3 c4 c5 c6 N N') u n) u :=
  Diff.E4V_rollout_hasFDerivAt E Eh c1 c2 c3 c4 c5 c6 N N' hN u n

/-- polynomial nonlinearities are differentiable everywhere, at `u = 0` too (derivative = the linear coefficient) -/
theorem C07_polynomial_derivative {𝕜 : Type} [NontriviallyNormedField 𝕜] (cs : List 𝕜) (u : 𝕜) :
    HasDerivAt (polyEval cs) (Diff.polyDeriv cs u) u ∧ HasDerivAt (polyEval cs) (cs.getD 1 0) 0 :=
  ⟨Diff.polyEval_hasDerivAt cs u, Diff.polyEval_hasDerivAt_zero cs⟩

/-- THE GUARDED POINT λ = 0: the stored coefficients `E1_coef_1`, `E2_coef_2`, `E4_coef_4`, `E4_coef_6` (regenerated
    definitions) are differentiable in λ at 0, and `E4_coef_4` at `λ = 0` in dt, because the contour formulation never
    evaluates the removable singularity -/
theorem C07_coefficients_differentiable_at_zero_symbol (M : ℕ) (r : ℂ) (hr : r ≠ 0) (dt₀ : ℂ) :
    DifferentiableAt ℂ (fun lam => E1_coef_1 dt₀ lam M r) 0 ∧ DifferentiableAt ℂ (fun lam => E2_coef_2 dt₀ lam M r) 0 ∧
    DifferentiableAt ℂ (fun lam => E4_coef_4 dt₀ lam M r) 0 ∧ DifferentiableAt ℂ (fun lam => E4_coef_6 dt₀ lam M r) 0 ∧
    DifferentiableAt ℂ (fun dt => E4_coef_4 dt 0 M r) dt₀ :=
  ⟨Diff.E1_coef_1_differentiableAt_lam_zero M r hr dt₀, Diff.E2_coef_2_differentiableAt_lam_zero M r hr dt₀,
   Diff.E4_coef_4_differentiableAt_lam_zero M r hr dt₀, Diff.E4_coef_6_differentiableAt_lam_zero M r hr dt₀,
   Diff.E4_coef_4_differentiableAt_dt_zero M r hr dt₀⟩

/-- the whole ETDRK4 step, built from the regenerated propagators and coefficients, is jointly differentiable in
    `(dt, λ)` wherever no contour node is zero (every real `λ dt` for real `r ≠ 0` and even `M > 0`, by
    `C19_real_symbol_nodes_nonzero`) -/
theorem C07_step_differentiable_in_dt_and_symbol (M : ℕ) (r dt₀ lam₀ : ℂ) (hn : Diff.NodesAvoidZero M r (lam₀ * dt₀))
    (N : ℂ → ℂ) (hN : Differentiable ℂ N) (u : ℂ) :
    DifferentiableAt ℂ (fun p : ℂ × ℂ =>
      E4step (exp_term p.1 p.2) (E4_half_exp_term p.1 p.2 M r) (E4_coef_1 p.1 p.2 M r) (E4_coef_2 p.1 p.2 M r)
        (E4_coef_3 p.1 p.2 M r) (E4_coef_4 p.1 p.2 M r) (E4_coef_5 p.1 p.2 M r) (E4_coef_6 p.1 p.2 M r) N u)
      (dt₀, lam₀) :=
  Diff.E4step_model_differentiableAt_joint M r dt₀ lam₀ hn N hN u

/-- a PDE coefficient: the linear step with `λ = λ(θ)` has derivative `dt λ'(θ) e^{dt λ(θ)} u` -/
theorem C07_coefficient_derivative (dt u : ℂ) (lamf : ℂ → ℂ) (lam' θ₀ : ℂ) (h : HasDerivAt lamf lam' θ₀) :
    HasDerivAt (fun θ => E0step (exp_term dt (lamf θ)) u) (dt * lam' * exp_term dt (lamf θ₀) * u) θ₀ :=
  Diff.linear_step_hasDerivAt_param dt u lamf lam' θ₀ h

/-- GUARDED DIVISIONS: the model's `if d = 0 then 0 else x/d` is linear in `x` for every fixed `d` (also `d = 0`), so
    its derivative exists and is finite at the zero mean mode; the Poisson solve is linear in the right-hand side -/
theorem C07_guarded_division (d x : ℂ) (c : Cfg ℂ) (order h : ℕ) (f : ℂ) :
    HasDerivAt (Diff.guardedDiv d) (Diff.guardedDiv d 1) x ∧ HasDerivAt (Diff.guardedDiv 0) 0 x ∧
    HasDerivAt (poissonStep c order h) (poissonStep c order h 1) f :=
  ⟨Diff.guardedDiv_hasDerivAt d x, Diff.guardedDiv_hasDerivAt_at_zero_divisor x, Diff.poissonStep_hasDerivAt c order h f⟩

/-! ### the nonlinear TERMS are smooth, every order, whole states (library `Proofs/DiffTerms*.lean`): `physMap c C C' term` is
irfftn ∘ term ∘ rfftn on physical states `Fin C → Fin N^D → ℝ`; convection, gradient norm, 2-D vorticity, general, 3-D
projected convection, Cahn–Hilliard and Gray–Scott are `ContDiff ℝ n` for every n, for convection with Fréchet derivative equal
to an explicit JVP in model vocabulary; the regenerated stage formulas of orders 2 and 3 are differentiable with the
chain-rule derivative (orders 1 and 4: above), whole rollouts are smooth (also the regenerated
`GeneralConvectionStepper` wiring); a linear stepper is an ℝ-linear map of the whole state, so its Jacobian is the stepper itself; and the transposes that reverse mode must realise -/

open Exponax.DiffTerms Exponax.Nonlin in
theorem C07_convection_smooth :
    ∀ (c : Nonlin.Cfg ℂ) (C C' : ℕ) (scale : ℂ) (single conservative : Bool) (n : WithTop ℕ∞),
      ContDiff ℝ n (physMap c C C' (Nonlin.convection c C scale single conservative)) :=
  fun c C C' scale single conservative n => (convection_termCalc c C scale single conservative).physMap_contDiff c C C' n

open Exponax.DiffTerms Exponax.Nonlin in
theorem C07_gradient_norm_smooth :
    ∀ (c : Nonlin.Cfg ℂ) (C C' : ℕ) (scale : ℂ) (zeroFix : Bool) (n : WithTop ℕ∞),
      ContDiff ℝ n (physMap c C C' (Nonlin.gradientNorm c C scale zeroFix)) :=
  fun c C C' scale zeroFix n => (gradientNorm_termCalc c C scale zeroFix).physMap_contDiff c C C' n

open Exponax.DiffTerms Exponax.Nonlin in
theorem C07_vorticity_smooth :
    ∀ (c : Nonlin.Cfg ℂ) (C C' : ℕ) (scale : ℂ) (inj : Option (ℕ × ℂ)) (n : WithTop ℕ∞),
      ContDiff ℝ n (physMap c C C' (Nonlin.vorticity2d c scale inj)) :=
  fun c C C' scale inj n => (vorticity2d_termCalc c scale inj).physMap_contDiff c C C' n

open Exponax.DiffTerms Exponax.Nonlin in
theorem C07_general_smooth :
    ∀ (c : Nonlin.Cfg ℂ) (C C' : ℕ) (s0 s1 s2 : ℂ) (zeroFix : Bool) (n : WithTop ℕ∞),
      ContDiff ℝ n (physMap c C C' (Nonlin.general c C s0 s1 s2 zeroFix)) :=
  fun c C C' s0 s1 s2 zeroFix n => (general_termCalc c C s0 s1 s2 zeroFix).physMap_contDiff c C C' n

open Exponax.DiffTerms Exponax.Nonlin in
theorem C07_projected3d_smooth :
    ∀ (c : Nonlin.Cfg ℂ) (C C' : ℕ) (inj : Option (ℕ × ℂ)) (n : WithTop ℕ∞),
      ContDiff ℝ n (physMap c C C' (Nonlin.projected3d c inj)) :=
  fun c C C' inj n => (projected3d_termCalc c inj).physMap_contDiff c C C' n

open Exponax.DiffTerms Exponax.Nonlin in
theorem C07_cahn_hilliard_smooth :
    ∀ (c : Nonlin.Cfg ℂ) (C C' : ℕ) (scale : ℂ) (n : WithTop ℕ∞),
      ContDiff ℝ n (physMap c C C' (Nonlin.cahnHilliard c scale)) :=
  fun c C C' scale n => (cahnHilliard_termCalc c scale).physMap_contDiff c C C' n

open Exponax.DiffTerms Exponax.Nonlin in
theorem C07_gray_scott_smooth :
    ∀ (c : Nonlin.Cfg ℂ) (C C' : ℕ) (feed kill : ℂ) (n : WithTop ℕ∞),
      ContDiff ℝ n (physMap c C C' (Nonlin.reaction c C (Nonlin.grayScottReact feed kill))) :=
  fun c C C' feed kill n => (reaction_termCalc c C (grayScott_reactCalc C feed kill)).physMap_contDiff c C C' n

open Exponax.DiffTerms Exponax.Nonlin in
theorem C07_convection_derivative_is_jvp :
    ∀ (c : Nonlin.Cfg ℂ) (C C' : ℕ) (scale : ℂ) (single conservative : Bool)
      (u v : Phys C (Nonlin.gridSize c)),
      (fderiv ℝ (physMap c C C' (Nonlin.convection c C scale single conservative)) u) v =
        physJvp c C C' (convectionJvp c C scale single conservative) u v :=
  @Exponax.DiffTerms.convection_phys_fderiv

open Exponax.DiffTerms Exponax.Nonlin in
theorem C07_convection_jvp_formula :
    ∀ (c : Nonlin.Cfg ℂ) (C : ℕ) (scale : ℂ) (uh vh : Nonlin.MC ℂ),
      convectionJvp c C scale true false uh vh =
        Nonlin.tab2 1 (Nonlin.modes c) fun x h ↦
          -scale *
            (Nonlin.nfft c
                  (Transform.tab (Nonlin.gridSize c) fun j ↦
                    sumList
                      (List.map
                        (fun d ↦
                          Nonlin.at2 (Nonlin.tabC C fun ch ↦ Nonlin.nifft c (Array.getD uh ch #[])) 0 j *
                              Nonlin.at2
                                (Nonlin.tabC c.D fun d ↦
                                  Nonlin.nifft c
                                    (Transform.tab (Nonlin.modes c) fun h ↦ Nonlin.deriv c d h * Nonlin.at2 vh 0 h))
                                d j +
                            Nonlin.at2 (Nonlin.tabC C fun ch ↦ Nonlin.nifft c (Array.getD vh ch #[])) 0 j *
                              Nonlin.at2
                                (Nonlin.tabC c.D fun d ↦
                                  Nonlin.nifft c
                                    (Transform.tab (Nonlin.modes c) fun h ↦ Nonlin.deriv c d h * Nonlin.at2 uh 0 h))
                                d j)
                        (List.range c.D)))).getD
              h 0 :=
  @Exponax.DiffTerms.convectionJvp_single_nc

open Exponax.DiffTerms Exponax.Nonlin in
theorem C07_order2_state_derivative :
    ∀ {𝕜 : Type} [inst : NontriviallyNormedField 𝕜] {V : Type} [inst_1 : NormedRing V]
      [inst_2 : NormedAlgebra 𝕜 V] (E c1 c2 : V) (N : V → V),
      Differentiable 𝕜 N → ∀ (u : V), fderiv 𝕜 (Gen.Etdrk.E2step E c1 c2 N) u = E2stepV' E c1 c2 N (fderiv 𝕜 N) u :=
  @Exponax.DiffTerms.E2step_fderiv

open Exponax.DiffTerms Exponax.Nonlin in
theorem C07_order3_state_derivative :
    ∀ {𝕜 : Type} [inst : NontriviallyNormedField 𝕜] {V : Type} [inst_1 : NormedRing V]
      [inst_2 : NormedAlgebra 𝕜 V] (E Eh c1 c2 c3 c4 c5 : V) (N : V → V),
      Differentiable 𝕜 N →
        ∀ (u : V), fderiv 𝕜 (Gen.Etdrk.E3step E Eh c1 c2 c3 c4 c5 N) u = Diff.E3stepV' E Eh c1 c2 c3 c4 c5 N (fderiv 𝕜 N) u :=
  fun E Eh c1 c2 c3 c4 c5 N hN u =>
    (Diff.E3stepV_hasFDerivAt E Eh c1 c2 c3 c4 c5 N (fderiv _ N) u (hN u).hasFDerivAt (hN _).hasFDerivAt
      (hN _).hasFDerivAt).fderiv

open Exponax.DiffTerms Exponax.Nonlin in
theorem C07_rollout_smooth_every_order_every_term :
    ∀ {term : Nonlin.MC ℂ → Nonlin.MC ℂ} {jvp : Nonlin.MC ℂ → Nonlin.MC ℂ → Nonlin.MC ℂ},
      TermCalc term jvp →
        ∀ (c : Nonlin.Cfg ℂ) (C : ℕ) {n : WithTop ℕ∞} (p : ℕ) (dt : ℂ) (lam : Spec C (Nonlin.modes c)) (Mc : ℕ) (r : ℂ)
          (k : ℕ), ContDiff ℝ n (physStep c C (etdrkStepF p dt lam Mc r (specMap c C C term)))^[k] :=
  fun {term jvp} h c C {n} p dt lam Mc r k =>
    iterate_contDiff (physStep_contDiff c C _ (etdrkStepF_contDiff p dt lam Mc r _ (h.specMap_contDiff c C C n))) k

open Exponax.DiffTerms Exponax.Nonlin in
theorem C07_generated_convection_stepper_rollout_smooth :
    ∀ (g : Gen.StepperWiring.GeneralConvectionStepperArgs ℂ) (n : WithTop ℕ∞)
      (k : ℕ),
      ContDiff ℝ n fun x ↦
        res (if g.single_channel = true then 1 else g.num_spatial_dims)
          (Nonlin.modes (Interface.cfgOf g.num_spatial_dims g.num_points g.domain_extent g.dealiasing_fraction))
          ((Interface.GeneralConvectionStepper_step g)^[k]
            (ext (if g.single_channel = true then 1 else g.num_spatial_dims)
              (Nonlin.modes (Interface.cfgOf g.num_spatial_dims g.num_points g.domain_extent g.dealiasing_fraction)) x)) :=
  @Exponax.DiffTerms.GeneralConvectionStepper_rollout_contDiff

open Exponax.DiffTerms Exponax.Nonlin in
theorem C07_linear_jacobian_whole_state :
    ∀ (c : Nonlin.Cfg ℂ) (C : ℕ) (E : ℕ → ℕ → ℂ) (u : Phys C (Nonlin.gridSize c)),
      ∃ L,
        (∀ (v : Phys C (Nonlin.gridSize c)), L v = physMap c C C (linearStepTerm c C E) v) ∧
          HasFDerivAt (physMap c C C (linearStepTerm c C E)) L u ∧ fderiv ℝ (physMap c C C (linearStepTerm c C E)) u = L :=
  fun c C E u =>
    have h := (linearStep_phys_isLinearMap c C E).hasFDerivAt_toCLM u
    ⟨_, IsLinearMap.toCLM_apply _, h, h.fderiv⟩

open Exponax.DiffTerms Exponax.Nonlin in
theorem C07_linear_rollout_jacobian :
    ∀ (c : Nonlin.Cfg ℂ) (C : ℕ) (E : ℕ → ℕ → ℂ) (k : ℕ)
      (u v : Phys C (Nonlin.gridSize c)),
      (fderiv ℝ (physMap c C C (linearStepTerm c C E))^[k] u) v = (physMap c C C (linearStepTerm c C E))^[k] v :=
  fun c C E k u v => (isLinearMap_iterate (linearStep_phys_isLinearMap c C E) k).fderiv_apply u v

open Exponax.DiffTerms Exponax.Nonlin in
theorem C07_derivative_adjoint :
    ∀ (c : Nonlin.Cfg ℂ),
      0 < c.N →
        ∀ (s : ℝ),
          c.s = ↑s →
            ∀ (order d : ℕ) (f g : Fin (Nonlin.gridSize c) → ℝ),
              ip g (derivOp c order d f) = (-1) ^ order * ip (derivOp c order d g) f :=
  @Exponax.DiffTerms.derivativeM_adjoint

open Exponax.DiffTerms Exponax.Nonlin in
theorem C07_linear_step_adjoint :
    ∀ (c : Nonlin.Cfg ℂ),
      0 < c.N →
        ∀ (C : ℕ) (E : ℕ → ℕ → ℂ) (u w : Phys C (Nonlin.gridSize c)),
          ipP w (physMap c C C (linearStepTerm c C E) u) =
            ipP (physMap c C C (linearStepTerm c C fun ch h ↦ (starRingEnd ℂ) (E ch h)) w) u :=
  @Exponax.DiffTerms.linearStep_adjoint

open Exponax.DiffTerms Exponax.Nonlin in
theorem C07_convection_reverse_mode :
    ∀ (c : Nonlin.Cfg ℂ),
      0 < c.N →
        ∀ (s : ℝ),
          c.s = ↑s →
            ∀ (scale : ℂ) (u v : Phys 1 (Nonlin.gridSize c)) (w : Fin (Nonlin.gridSize c) → ℝ),
              ip w ((fderiv ℝ (physMap c 1 1 (Nonlin.convection c 1 scale true false)) u) v 0) =
                ip (convVjp c scale (u 0) w) (v 0) :=
  fun c hN s hs scale u v w => by
    rw [convection_phys_fderiv, convection_phys_jvp_eq c, convJ_transpose c hN s hs]

end Exponax
