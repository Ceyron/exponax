import ExponaxModel.Proofs.SymbolAlgebra
import ExponaxModel.Proofs.Symmetry
import ExponaxModel.Proofs.SymmetryND
import ExponaxModel.Proofs.SymmetryND2Steps
import ExponaxModel.Proofs.EquivarianceNDSteps
import ExponaxModel.Proofs.AxisPermEmbedAxis
import ExponaxModel.Proofs.AxisPermTerms
import ExponaxModel.Proofs.AxisPermVortSteps
import ExponaxModel.Proofs.AxisPermTermsMore
import ExponaxModel.Proofs.DFT1DMain
/-
C08 — steppers commute with the symmetries of the periodic box.
Translation (1-D, one channel, every `N ≥ 1`, every state): forward and inverse shift theorem, equivariance of every
nonlinear term of the model, of each regenerated ETDRK stage formula, of `n` steps and of rollouts — closing with the
physical-space statement for ETDRK4 + convection.  Axis permutation and embedding: at the level of the symbol for
every D (list and `Equiv.Perm (Fin D)` forms) and of the stage formulas for arbitrary relabellings.
n-D (`Proofs/SymmetryND*.lean`): forward and inverse shift theorem for every D and every per-axis shift vector, hence
every linear stepper `irfftn(E ⊙ rfftn u)` commutes with n-D rolls for n steps and whole rollouts; reflection
`x → −x` conjugates the spectrum of a real state, so even-order (real-symbol) steppers commute with it and a stepper with
symbol `E` is mapped to the one with `conj E` (velocity `c → −c`); 2-D transposition with permuted anisotropic symbols.
The property's own caveat ("odd-order linear terms need a Nyquist-free state on even grids for the axis permutation") is
a THEOREM here: `C08_transpose_counterexample` (advection, N = 4) and the corrected statement with the Nyquist-sign
hypothesis.  Nonlinear terms in every dimension: `C08_nonlinear_terms_equivariant_nd`, `C08_translation_nd`.  Axis
permutations of the transforms, the nonlinear terms and the steps in every dimension: `Proofs/AxisPerm*.lean`.
-/
set_option linter.unusedVariables false
namespace Exponax
open Exponax.Transform Exponax.DFT Exponax.Symmetry Exponax.Gen.Etdrk Exponax.Nonlin Exponax.Loops

/-- SHIFT THEOREM, forward -/
theorem C08_shift_forward (N : ℕ) (hN : 0 < N) (u : Array ℂ) (s : ℤ) (h : ℕ) (hh : h ≤ N / 2) :
    (rfftnM 1 N (roll N u s)).getD h 0 = twiddle N ((h : ℤ) * s) * (rfftnM 1 N u).getD h 0 :=
  rfft_roll_1d N hN u s h hh

theorem C08_shift_forward_array (N : ℕ) (hN : 0 < N) (u : Array ℂ) (s : ℤ) :
    rfftnM 1 N (roll N u s) = shiftSpec N s (rfftnM 1 N u) := by
  rw [← SymmetryND.rollND_one, SymmetryND.rfftn_rollND_array 1 N hN, SymmetryND.shiftSpecND_one]

/-- SHIFT THEOREM, inverse: for ANY stored half spectrum (no Hermitian side condition) -/
theorem C08_shift_inverse (N : ℕ) (c : Array ℂ) (s : ℤ) :
    irfftnM 1 N (shiftSpec N s c) = roll N (irfftnM 1 N c) s := irfft_shiftSpec N c s

/-- the phase is unimodular, `N`-periodic in the shift, and trivial on the mean mode -/
theorem C08_phase_facts (N : ℕ) (s t k : ℤ) (h : ℕ) :
    ‖shiftPhase N s h‖ = 1 ∧ shiftPhase N (s + t) h = shiftPhase N s h * shiftPhase N t h ∧
      shiftPhase N (s + N * k) h = shiftPhase N s h ∧ shiftPhase N s 0 = 1 :=
  ⟨norm_shiftPhase N s h, shiftPhase_add N s t h, shiftPhase_periodic N s k h, shiftPhase_zero_mode N s⟩

/-- per-mode (diagonal) operators commute with the phase -/
theorem C08_diagonal_commutes (E p u : ℂ) : E * (p * u) = p * (E * u) := by ring

/-- every nonlinear term of the model is translation equivariant (1-D, one channel, arbitrary state, arbitrary
    dealiasing mask and scales) -/
theorem C08_nonlinear_terms_equivariant (c : Cfg ℂ) (hD : c.D = 1) (hN : 0 < c.N) (s : ℤ) (uh : Array ℂ)
    (h : ℕ) (hh : h ≤ c.N / 2) (scale s0 s1 s2 : ℂ) (coeffs : List ℂ) (zf : Bool) :
    (at2 (convection c 1 scale true true #[shiftSpec c.N s uh]) 0 h
        = shiftPhase c.N s h * at2 (convection c 1 scale true true #[uh]) 0 h) ∧
    (at2 (convection c 1 scale true false #[shiftSpec c.N s uh]) 0 h
        = shiftPhase c.N s h * at2 (convection c 1 scale true false #[uh]) 0 h) ∧
    (at2 (polynomial c 1 coeffs #[shiftSpec c.N s uh]) 0 h
        = shiftPhase c.N s h * at2 (polynomial c 1 coeffs #[uh]) 0 h) ∧
    (at2 (gradientNorm c 1 scale zf #[shiftSpec c.N s uh]) 0 h
        = shiftPhase c.N s h * at2 (gradientNorm c 1 scale zf #[uh]) 0 h) ∧
    (at2 (general c 1 s0 s1 s2 zf #[shiftSpec c.N s uh]) 0 h
        = shiftPhase c.N s h * at2 (general c 1 s0 s1 s2 zf #[uh]) 0 h) ∧
    (at2 (cahnHilliard c scale #[shiftSpec c.N s uh]) 0 h
        = shiftPhase c.N s h * at2 (cahnHilliard c scale #[uh]) 0 h) :=
  ⟨termEquivariant_one c hD s _ (EquivND.convection_termEquivariant c hN 1 scale true true [s]) uh h hh,
   termEquivariant_one c hD s _ (EquivND.convection_termEquivariant c hN 1 scale true false [s]) uh h hh,
   termEquivariant_one c hD s _ (EquivND.polynomial_termEquivariant c hN 1 coeffs [s]) uh h hh,
   termEquivariant_one c hD s _ (EquivND.gradientNorm_termEquivariant c hN 1 scale zf [s]) uh h hh,
   termEquivariant_one c hD s _ (EquivND.general_termEquivariant c hN 1 s0 s1 s2 zf [s]) uh h hh,
   termEquivariant_one c hD s _ (EquivND.cahnHilliard_termEquivariant c hN scale [s]) uh h hh⟩

/-- every regenerated ETDRK stage formula commutes with a phase that the nonlinear term commutes with — arbitrary
    coefficients -/
theorem C08_stage_formulas_equivariant {V : Type} [CommRing V] (P : V) (N : V → V) (hN : ∀ v, N (P * v) = P * N v)
    (E Eh c1 c2 c3 c4 c5 c6 u : V) :
    E0step E (P * u) = P * E0step E u ∧ E1step E c1 N (P * u) = P * E1step E c1 N u ∧
    E2step E c1 c2 N (P * u) = P * E2step E c1 c2 N u ∧
    E3step E Eh c1 c2 c3 c4 c5 N (P * u) = P * E3step E Eh c1 c2 c3 c4 c5 N u ∧
    E4step E Eh c1 c2 c3 c4 c5 c6 N (P * u) = P * E4step E Eh c1 c2 c3 c4 c5 c6 N u :=
  ⟨E0step_phase P E u, E1step_phase P N hN E c1 u, E2step_phase P N hN E c1 c2 u,
   E3step_phase P N hN E Eh c1 c2 c3 c4 c5 u, E4step_phase P N hN E Eh c1 c2 c3 c4 c5 c6 u⟩

/-- lifted to `repeat` and `rollout` of any equivariant step -/
theorem C08_rollout_equivariant {S : Type} (φ step : S → S) (h : ∀ u, step (φ u) = φ (step u)) (n : ℕ)
    (incl : Bool) (u : S) :
    rollout step n incl (φ u) = (rollout step n incl u).map φ ∧ repeatN step n (φ u) = φ (repeatN step n u) :=
  ⟨rollout_equivariant φ step h n incl u, repeatN_equivariant φ step h n u⟩

/-- CAPSTONE: `n` ETDRK4 steps of a convection stepper (arbitrary coefficient arrays, arbitrary real or complex
    physical state) commute with the roll of the physical state -/
theorem C08_etdrk4_convection_translation (c : Cfg ℂ) (hD : c.D = 1) (hN : 0 < c.N) (scale : ℂ) (s : ℤ)
    (E Eh c1 c2 c3 c4 c5 c6 : ℕ → ℂ) (n : ℕ) (u : Array ℂ) :
    irfftnM 1 c.N (tab (c.N / 2 + 1)
        ((E4step E Eh c1 c2 c3 c4 c5 c6 (liftTerm c.N (convection c 1 scale true true)))^[n]
          fun h => (rfftnM 1 c.N (roll c.N u s)).getD h 0)) =
      roll c.N (irfftnM 1 c.N (tab (c.N / 2 + 1)
        ((E4step E Eh c1 c2 c3 c4 c5 c6 (liftTerm c.N (convection c 1 scale true true)))^[n]
          fun h => (rfftnM 1 c.N u).getD h 0))) s := by
  rw [rfft_roll_fun c.N hN u s,
    E4step_term_translation c hD s _ (EquivND.convection_termEquivariant c hN 1 scale true true [s]),
    tab_phase_mul, irfft_shiftSpec]

/-- AXIS PERMUTATION: the isotropic symbols (every `General*` linear operator, every Laplacian power) take the same
    value on two modes whose wavenumber tuples are permutations of each other — any D -/
theorem C08_symbol_axis_permutation (c : Cfg ℂ) (a : List ℂ) (order h h' : ℕ)
    (hp : (Layout.wnFlat c.D c.N h).Perm (Layout.wnFlat c.D c.N h')) :
    polySymbol c (generalLinear c.D a) h = polySymbol c (generalLinear c.D a) h' ∧
      laplace c order h = laplace c order h' :=
  ⟨polySymbol_generalLinear_perm c a h h' hp, laplace_perm c order h h' hp⟩

/-- and stage formulas commute with any relabelling of modes that fixes the coefficient arrays -/
theorem C08_stage_relabel {ι : Type} (σ : ι → ι) (N : (ι → ℂ) → ι → ℂ) (hN : ∀ v, N v ∘ σ = N (v ∘ σ))
    (E Eh c1 c2 c3 c4 c5 c6 u : ι → ℂ) (hE : E ∘ σ = E) (hEh : Eh ∘ σ = Eh) (h1 : c1 ∘ σ = c1) (h2 : c2 ∘ σ = c2)
    (h3 : c3 ∘ σ = c3) (h4 : c4 ∘ σ = c4) (h5 : c5 ∘ σ = c5) (h6 : c6 ∘ σ = c6) :
    E4step E Eh c1 c2 c3 c4 c5 c6 N (u ∘ σ) = E4step E Eh c1 c2 c3 c4 c5 c6 N u ∘ σ := by
  -- stated through `relabel σ` first: left to the unifier, `_ ∘ σ =?= relabel σ _` unfolds the whole step
  show E4step E Eh c1 c2 c3 c4 c5 c6 N (relabel σ u) = relabel σ (E4step E Eh c1 c2 c3 c4 c5 c6 N u)
  exact E4step_equivariant_hom (relabel σ) N hN E Eh c1 c2 c3 c4 c5 c6 u hE hEh h1 h2 h3 h4 h5 h6

/-- EMBEDDING: on modes that vary along one axis only, the D-dimensional symbol is the 1-D symbol (with the
    order-0 coefficient counted D times, as the code sums it over axes) -/
theorem C08_symbol_embedding (c c₁ : Cfg ℂ) (hD₁ : c₁.D = 1) (hs : c₁.s = c.s) (d₀ h h₁ : ℕ) (hd₀ : d₀ < c.D)
    (hz : ∀ e < c.D, e ≠ d₀ → wnAt c e h = 0) (hk : wnAt c₁ 0 h₁ = wnAt c d₀ h) (a : List ℂ) :
    polySymbol c (generalLinear c.D a) h = polySymbol c₁ (generalLinear c₁.D (embedCoefs c.D a)) h₁ :=
  polySymbol_generalLinear_embed c c₁ hD₁ hs d₀ h h₁ hd₀ hz hk a

/-! ### n-D translations, reflections, transposition (linear steppers, every D) -/
open Exponax.SymmetryND in
/-- n-D SHIFT THEOREM, forward and inverse, any D, any shift vector, any complex field / any stored spectrum -/
theorem C08_shift_nd (D N : ℕ) (hN : 0 < N) (u c : Array ℂ) (s : List ℤ) :
    rfftnM D N (rollND D N u s) = shiftSpecND D N s (rfftnM D N u) ∧
      irfftnM D N (shiftSpecND D N s c) = rollND D N (irfftnM D N c) s :=
  ⟨rfftn_rollND_array D N hN u s, irfftn_shiftSpecND D N hN c s⟩

open Exponax.SymmetryND in
/-- every linear stepper commutes with every n-D roll: one step, n steps, whole rollouts; arbitrary per-mode factors
    (the regenerated `E0step`), arbitrary state (white noise included) -/
theorem C08_linear_translation_nd (D N : ℕ) (hN : 0 < N) (E : ℕ → ℂ) (n : ℕ) (incl : Bool) (u : Array ℂ)
    (s : List ℤ) :
    (SymmetryND.linStep D N E)^[n] (rollND D N u s) = rollND D N ((SymmetryND.linStep D N E)^[n] u) s ∧
    Loops.rollout (SymmetryND.linStep D N E) n incl (rollND D N u s)
      = (Loops.rollout (SymmetryND.linStep D N E) n incl u).map (fun v => rollND D N v s) ∧
    irfftnM D N (tab (Layout.numModes D N) ((E0step E)^[n] (specFun D N (rollND D N u s))))
      = rollND D N (irfftnM D N (tab (Layout.numModes D N) ((E0step E)^[n] (specFun D N u)))) s :=
  -- `linStep` applies the transform pair at every step, as the implementation does; the third conjunct steps in Fourier space
  ⟨iterate_equivariant (fun v => rollND D N v s) _ (fun v => linStep_rollND D N hN E v s) n u,
   rollout_equivariant (fun v => rollND D N v s) _ (fun v => linStep_rollND D N hN E v s) n incl u,
   E0step_rollND D N hN E n u s⟩

open Exponax.SymmetryND in
/-- REFLECTION x → −x: conjugates the spectrum of a real state; a stepper with factors `E` becomes the stepper with
    `conj E` (advection velocity c → −c; even-order operators commute) -/
theorem C08_reflection (D N : ℕ) (hN : 0 < N) (E E' : ℕ → ℂ) (hE : ∀ h < Layout.numModes D N, E' h = (starRingEnd ℂ) (E h))
    (n : ℕ) (u : Array ℂ) (hu : ∀ j < N ^ D, (u.getD j 0).im = 0) :
    rfftnM D N (reflect D N u) = conjSpec D N (rfftnM D N u) ∧
      (SymmetryND.linStep D N E')^[n] (reflect D N u) = reflect D N ((SymmetryND.linStep D N E)^[n] u) :=
  ⟨rfftn_reflect_array D N hN u hu, linStep_iterate_reflect D N hN E E' hE n u hu⟩

open Exponax.SymmetryND in
/-- TRANSPOSITION (D = 2) with permuted anisotropic symbol `σ(k₀,k₁) ↦ σ(k₁,k₀)`: holds for real states whenever, on
    even grids, the symbol does not see the sign of a Nyquist wavenumber (every even-order operator; every operator on
    odd grids) … -/
theorem C08_transposition_2d (N : ℕ) (hN : 0 < N) (σ : ℤ → ℤ → ℂ)
    (hσ : ∀ k0 k1, σ (-k0) (-k1) = (starRingEnd ℂ) (σ k0 k1))
    (h0 : N % 2 = 0 → ∀ k, σ (-((N / 2 : ℕ) : ℤ)) k = σ ((N / 2 : ℕ) : ℤ) k)
    (h1 : N % 2 = 0 → ∀ k, σ k (-((N / 2 : ℕ) : ℤ)) = σ k ((N / 2 : ℕ) : ℤ))
    (u : Array ℂ) (hu : ∀ j < N ^ 2, (u.getD j 0).im = 0) :
    SymmetryND.linStep 2 N (symMul N fun k0 k1 => σ k1 k0) (transpose2 N u)
      = transpose2 N (SymmetryND.linStep 2 N (symMul N σ) u) :=
  linStep_transpose2_symbol N hN σ hσ h0 h1 u hu

open Exponax.SymmetryND in
/-- … and FAILS without that hypothesis: advection `σ = i(k₀+k₁)` on `N = 4` and a real state with Nyquist content —
    exactly the exception the property states ("odd-order linear terms need a Nyquist-free state on even grids") -/
theorem C08_transpose_counterexample :
    ∃ (σ : ℤ → ℤ → ℂ) (u : Array ℂ), (∀ k0 k1, σ k1 k0 = σ k0 k1) ∧
      (∀ k0 k1, σ (-k0) (-k1) = (starRingEnd ℂ) (σ k0 k1)) ∧ (u.size = 4 ^ 2 ∧ ∀ j < 4 ^ 2, (u.getD j 0).im = 0) ∧
      SymmetryND.linStep 2 4 (symMul 4 σ) (transpose2 4 u) ≠ transpose2 4 (SymmetryND.linStep 2 4 (symMul 4 σ) u) :=
  transpose2_counterexample

/-! ### every NONLINEAR term, every dimension, every channel count, every shift vector, arbitrary spectra
(`Proofs/EquivarianceND*.lean`): `EquivND.shiftMC` multiplies every channel's spectrum by the n-D phases -/

/-- convection (all four option combinations), polynomial, any pointwise reaction (Gray–Scott, BZ, …), gradient norm,
    general, Cahn–Hilliard, 2-D vorticity and 3-D rotational terms without injection are translation equivariant -/
theorem C08_nonlinear_terms_equivariant_nd (c : Cfg ℂ) (hN : 0 < c.N) (C : ℕ) (scale s0 s1 s2 : ℂ)
    (single conservative zeroFix : Bool) (coeffs : List ℂ) (react : List ℂ → List ℂ) (s : List ℤ) (uh : MC ℂ)
    (ch h : ℕ) (hh : h < modes c) :
    (at2 (convection c C scale single conservative (EquivND.shiftMC c.D c.N s uh)) ch h
      = SymmetryND.shiftPhaseND c.D c.N s h * at2 (convection c C scale single conservative uh) ch h) ∧
    (at2 (polynomial c C coeffs (EquivND.shiftMC c.D c.N s uh)) ch h
      = SymmetryND.shiftPhaseND c.D c.N s h * at2 (polynomial c C coeffs uh) ch h) ∧
    (at2 (reaction c C react (EquivND.shiftMC c.D c.N s uh)) ch h
      = SymmetryND.shiftPhaseND c.D c.N s h * at2 (reaction c C react uh) ch h) ∧
    (at2 (gradientNorm c C scale zeroFix (EquivND.shiftMC c.D c.N s uh)) ch h
      = SymmetryND.shiftPhaseND c.D c.N s h * at2 (gradientNorm c C scale zeroFix uh) ch h) ∧
    (at2 (general c C s0 s1 s2 zeroFix (EquivND.shiftMC c.D c.N s uh)) ch h
      = SymmetryND.shiftPhaseND c.D c.N s h * at2 (general c C s0 s1 s2 zeroFix uh) ch h) ∧
    (at2 (cahnHilliard c scale (EquivND.shiftMC c.D c.N s uh)) ch h
      = SymmetryND.shiftPhaseND c.D c.N s h * at2 (cahnHilliard c scale uh) ch h) ∧
    (at2 (vorticity2d c scale none (EquivND.shiftMC c.D c.N s uh)) ch h
      = SymmetryND.shiftPhaseND c.D c.N s h * at2 (vorticity2d c scale none uh) ch h) ∧
    (at2 (projected3d c none (EquivND.shiftMC c.D c.N s uh)) ch h
      = SymmetryND.shiftPhaseND c.D c.N s h * at2 (projected3d c none uh) ch h) :=
  ⟨(EquivND.convection_termEquivariant c hN C scale single conservative s).shiftMC uh ch h hh,
   (EquivND.polynomial_termEquivariant c hN C coeffs s).shiftMC uh ch h hh,
   (EquivND.reaction_termEquivariant c hN C react s).shiftMC uh ch h hh,
   (EquivND.gradientNorm_termEquivariant c hN C scale zeroFix s).shiftMC uh ch h hh,
   (EquivND.general_termEquivariant c hN C s0 s1 s2 zeroFix s).shiftMC uh ch h hh,
   (EquivND.cahnHilliard_termEquivariant c hN scale s).shiftMC uh ch h hh,
   (EquivND.vorticity2d_termEquivariant c hN scale s).shiftMC uh ch h hh,
   (EquivND.projected3d_termEquivariant c hN s).shiftMC uh ch h hh⟩

/-- Kolmogorov forcing restricts the translations to the forcing's invariant direction: shifts along axis 1 by whole
    forcing periods (`N ∣ m·s₁`), arbitrary along the other axes — the property's clause, in the direction `N ∣ m·s₁` ⇒ commutes -/
theorem C08_forced_terms_equivariant (c : Cfg ℂ) (hN : 0 < c.N) (scale : ℂ) (m : ℕ) (gam : ℂ) (s : List ℤ)
    (hs : (c.N : ℤ) ∣ (m : ℤ) * s.getD 1 0) (uh : MC ℂ) (ch h : ℕ) (hh : h < modes c) :
    (c.D = 2 → at2 (vorticity2d c scale (some (m, gam)) (EquivND.shiftMC c.D c.N s uh)) ch h
      = SymmetryND.shiftPhaseND c.D c.N s h * at2 (vorticity2d c scale (some (m, gam)) uh) ch h) ∧
    (c.D = 3 → at2 (projected3d c (some (m, gam)) (EquivND.shiftMC c.D c.N s uh)) ch h
      = SymmetryND.shiftPhaseND c.D c.N s h * at2 (projected3d c (some (m, gam)) uh) ch h) :=
  ⟨fun hD => (EquivND.vorticity2d_inj_termEquivariant c hD hN scale m gam s hs).shiftMC uh ch h hh,
   fun hD => (EquivND.projected3d_inj_termEquivariant c hD hN m gam s hs).shiftMC uh ch h hh⟩

/-- THE PROPERTY (translations): `n` steps of ETDRK4 with ANY translation-equivariant multi-channel term, arbitrary
    coefficient arrays, commute with the n-D roll of the physical multi-channel state — every D, every N, arbitrary
    states; orders 1–3 and rollouts are `EquivND.E?_physical_translation_nd` / `E?step_rollout_translation_nd` -/
theorem C08_translation_nd (c : Cfg ℂ) (hN : 0 < c.N) (s : List ℤ) (C : ℕ) (T : MC ℂ → MC ℂ)
    (hT : EquivND.TermEquivariant c s T) (E Eh c1 c2 c3 c4 c5 c6 : ℕ → ℕ → ℂ) (n : ℕ) (u : MC ℂ) (ch : ℕ) :
    EquivND.physCh c.D c.N ((E4step E Eh c1 c2 c3 c4 c5 c6 (EquivND.liftTermND c C T))^[n]
        (EquivND.specMC c.D c.N (EquivND.rollMC c.D c.N s u))) ch =
      SymmetryND.rollND c.D c.N (EquivND.physCh c.D c.N ((E4step E Eh c1 c2 c3 c4 c5 c6 (EquivND.liftTermND c C T))^[n]
        (EquivND.specMC c.D c.N u)) ch) s :=
  EquivND.E4_physical_translation_nd c hN s C T hT E Eh c1 c2 c3 c4 c5 c6 n u ch

/-- written out on the transforms for multi-channel convection (Burgers / KdV / KS-conservative in D dimensions) -/
theorem C08_convection_translation_nd (c : Cfg ℂ) (hN : 0 < c.N) (C : ℕ) (scale : ℂ) (single conservative : Bool)
    (s : List ℤ) (E Eh c1 c2 c3 c4 c5 c6 : ℕ → ℕ → ℂ) (n : ℕ) (u : MC ℂ) (ch : ℕ) :
    irfftnM c.D c.N (tab (Layout.numModes c.D c.N)
        ((E4step E Eh c1 c2 c3 c4 c5 c6 (EquivND.liftTermND c C (convection c C scale single conservative)))^[n]
          (fun ch h => (rfftnM c.D c.N ((u.map fun v => SymmetryND.rollND c.D c.N v s).getD ch #[])).getD h 0) ch)) =
      SymmetryND.rollND c.D c.N (irfftnM c.D c.N (tab (Layout.numModes c.D c.N)
        ((E4step E Eh c1 c2 c3 c4 c5 c6 (EquivND.liftTermND c C (convection c C scale single conservative)))^[n]
          (fun ch h => (rfftnM c.D c.N (u.getD ch #[])).getD h 0) ch))) s :=
  EquivND.E4_convection_physical_translation_nd c hN C scale single conservative s E Eh c1 c2 c3 c4 c5 c6 n u ch

example : (0 : ℕ) < 8 := by decide

/-! ### axis permutations and 1-D embedding in EVERY dimension (library `Proofs/AxisPerm*.lean`): `permField D N σ u` is
(P_σ u)(j) = u(j∘σ); `fullCoef` reads the coefficient of ANY integer wavenumber vector off the half layout (stored entry or
conjugate of the partner).  The spectrum of a permuted real state is the relabelled spectrum (every state); isotropic
single-channel terms commute with P_σ and multi-channel convection with the joint axis-and-channel permutation; ETDRK steps and
rollouts of isotropic steppers commute with P_σ on real Nyquist-free states when N is odd or a dealiasing mask is active; the
D-dimensional step of a 1-D state embedded along the last axis is the embedding of the 1-D step for every state -/

open Exponax.AxisPerm Exponax.AliasND in
theorem C08_dft_of_permuted_field :
    ∀ (D N : ℕ),
      0 < N →
        ∀ (σ : Equiv.Perm (Fin D)) (u : Array ℂ) (k : Fin D → ℤ),
          AliasND.dftV D N (permField D N σ u) k = AliasND.dftV D N u (k ∘ ⇑σ) :=
  @Exponax.AxisPerm.dftV_permField

open Exponax.AxisPerm Exponax.AliasND in
theorem C08_spectrum_of_permuted_state :
    ∀ (D N : ℕ),
      0 < D →
        0 < N →
          ∀ (σ : Equiv.Perm (Fin D)) (u : Array ℂ),
            AliasND.IsRealND D N u →
              ∀ (κ : Fin D → ℤ),
                fullCoef D N (Transform.rfftnM D N (permField D N σ u)) κ = fullCoef D N (Transform.rfftnM D N u) (κ ∘ ⇑σ) :=
  @Exponax.AxisPerm.rfftn_permField_fullCoef

open Exponax.AxisPerm Exponax.AliasND in
theorem C08_spectrum_of_permuted_state_3d :
    ∀ (N : ℕ),
      0 < N →
        ∀ (σ : Equiv.Perm (Fin 3)) (u : Array ℂ),
          AliasND.IsRealND 3 N u →
            ∀ (k : Fin 3 → ℤ),
              fullCoef 3 N (Transform.rfftnM 3 N (permField 3 N σ u)) k =
                fullCoef 3 N (Transform.rfftnM 3 N u) ![k (σ 0), k (σ 1), k (σ 2)] :=
  @Exponax.AxisPerm.rfftn_permField_3d

open Exponax.AxisPerm Exponax.AliasND in
theorem C08_general_term_commutes_with_axis_permutation :
    ∀ (c : Nonlin.Cfg ℂ),
      PermCfg c →
        ∀ (σ : Equiv.Perm (Fin c.D)) (C : ℕ) (s0 s1 s2 : ℂ),
          s0.im = 0 →
            s1.im = 0 →
              s2.im = 0 →
                ∀ (zeroFix : Bool) (uh uh' : Nonlin.MC ℂ),
                  MCSpecPerm c σ id uh uh' →
                    MCSpecPerm c σ id (Nonlin.general c C s0 s1 s2 zeroFix uh) (Nonlin.general c C s0 s1 s2 zeroFix uh') :=
  @Exponax.AxisPerm.general_mcSpecPerm

open Exponax.AxisPerm Exponax.AliasND in
theorem C08_multichannel_convection_commutes_with_axis_and_channel_permutation :
    ∀ (c : Nonlin.Cfg ℂ),
      PermCfg c →
        ∀ (σ : Equiv.Perm (Fin c.D)) (scale : ℂ),
          scale.im = 0 →
            ∀ (uh uh' : Nonlin.MC ℂ),
              MCSpecPerm c σ (chanMap σ) uh uh' →
                MCSpecPerm c σ (chanMap σ) (Nonlin.convection c c.D scale false false uh)
                  (Nonlin.convection c c.D scale false false uh') :=
  @Exponax.AxisPerm.convection_multi_noncons_mcSpecPerm

open Exponax.AxisPerm Exponax.AliasND in
theorem C08_term_axis_permutation_physical :
    ∀ (c : Nonlin.Cfg ℂ),
      0 < c.D →
        0 < c.N →
          ∀ (σ : Equiv.Perm (Fin c.D)) (τ : ℕ → ℕ) (C : ℕ),
            (∀ (ch : ℕ), τ ch < C ↔ ch < C) →
              ∀ (T : Nonlin.MC ℂ → Nonlin.MC ℂ),
                TermPerm c σ τ T →
                  ∀ (u u' : Nonlin.MC ℂ),
                    (∀ (ch : ℕ), AliasND.IsRealND c.D c.N (Array.getD u ch #[])) →
                      (∀ (ch : ℕ), NyqFreeS c.D c.N (Transform.rfftnM c.D c.N (Array.getD u ch #[]))) →
                        (∀ (ch : ℕ), FieldPerm c.D c.N σ (Array.getD u ch #[]) (Array.getD u' (τ ch) #[])) →
                          ∀ (ch : ℕ),
                            Transform.irfftnM c.D c.N
                                (Array.getD (T (Nonlin.tab2 C (Nonlin.modes c) (EquivND.specMC c.D c.N u'))) (τ ch) #[]) =
                              permField c.D c.N σ
                                (Transform.irfftnM c.D c.N
                                  (Array.getD (T (Nonlin.tab2 C (Nonlin.modes c) (EquivND.specMC c.D c.N u))) ch #[])) :=
  fun c hD hN σ τ C hτ T hT u u' hreal hfree hperm ch => by
    refine eq_permField_of_fieldPerm (DFT.irfftnM_size _ _ _) (fieldPerm_irfftn_congr c.D c.N σ _ _ _ _
      (fun m (hm : m < modes c) => ?_) (fun m (hm : m < modes c) => ?_)
      (hT _ _ (mcSpecPerm_of_goodMC c hN σ τ C hτ _ _ (goodMC_specMC c hD hN σ τ u u' hreal hfree hperm)) ch).2.2) <;>
    rw [DFT.tab_getD _ _ _ _ hm, Stage.getD_getD]

open Exponax.AxisPerm Exponax.AliasND in
theorem C08_step_commutes_with_axis_permutation :
    ∀ (c : Nonlin.Cfg ℂ),
      PermCfg c →
        ∀ (σ : Equiv.Perm (Fin c.D)) (a : List ℂ),
          (∀ x ∈ a, x.im = 0) →
            ∀ (F Fh F1 F2 F3 F4 F5 F6 : ℂ → ℂ),
              (∀ G ∈ [F, Fh, F1, F2, F3, F4, F5, F6], ∀ (z : ℂ), G ((starRingEnd ℂ) z) = (starRingEnd ℂ) (G z)) →
                ∀ (C : ℕ) (s0 s1 s2 : ℂ),
                  s0.im = 0 →
                    s1.im = 0 →
                      s2.im = 0 →
                        ∀ (zeroFix : Bool) (n : ℕ) (u : Nonlin.MC ℂ),
                          (∀ (ch : ℕ), AliasND.IsRealND c.D c.N (Array.getD u ch #[])) →
                            (∀ (ch : ℕ), NyqFreeS c.D c.N (Transform.rfftnM c.D c.N (Array.getD u ch #[]))) →
                              ∀ (ch : ℕ),
                                Transform.irfftnM c.D c.N
                                    (Transform.tab (Layout.numModes c.D c.N)
                                      ((Gen.Etdrk.E4step (fun x h ↦ F (Nonlin.polySymbol c (generalLinear c.D a) h))
                                            (fun x h ↦ Fh (Nonlin.polySymbol c (generalLinear c.D a) h))
                                            (fun x h ↦ F1 (Nonlin.polySymbol c (generalLinear c.D a) h))
                                            (fun x h ↦ F2 (Nonlin.polySymbol c (generalLinear c.D a) h))
                                            (fun x h ↦ F3 (Nonlin.polySymbol c (generalLinear c.D a) h))
                                            (fun x h ↦ F4 (Nonlin.polySymbol c (generalLinear c.D a) h))
                                            (fun x h ↦ F5 (Nonlin.polySymbol c (generalLinear c.D a) h))
                                            (fun x h ↦ F6 (Nonlin.polySymbol c (generalLinear c.D a) h))
                                            (EquivND.liftTermND c C (Nonlin.general c C s0 s1 s2 zeroFix)))^[n]
                                        (fun ch h ↦
                                          (Transform.rfftnM c.D c.N ((Array.map (permField c.D c.N σ) u).getD ch #[])).getD
                                            h 0)
                                        ch)) =
                                  permField c.D c.N σ
                                    (Transform.irfftnM c.D c.N
                                      (Transform.tab (Layout.numModes c.D c.N)
                                        ((Gen.Etdrk.E4step (fun x h ↦ F (Nonlin.polySymbol c (generalLinear c.D a) h))
                                              (fun x h ↦ Fh (Nonlin.polySymbol c (generalLinear c.D a) h))
                                              (fun x h ↦ F1 (Nonlin.polySymbol c (generalLinear c.D a) h))
                                              (fun x h ↦ F2 (Nonlin.polySymbol c (generalLinear c.D a) h))
                                              (fun x h ↦ F3 (Nonlin.polySymbol c (generalLinear c.D a) h))
                                              (fun x h ↦ F4 (Nonlin.polySymbol c (generalLinear c.D a) h))
                                              (fun x h ↦ F5 (Nonlin.polySymbol c (generalLinear c.D a) h))
                                              (fun x h ↦ F6 (Nonlin.polySymbol c (generalLinear c.D a) h))
                                              (EquivND.liftTermND c C (Nonlin.general c C s0 s1 s2 zeroFix)))^[n]
                                          (fun ch h ↦ (Transform.rfftnM c.D c.N (Array.getD u ch #[])).getD h 0) ch))) :=
  fun c hc σ a ha F Fh F1 F2 F3 F4 F5 F6 hF C s0 s1 s2 h0 h1 h2 zeroFix n u hreal hfree ch => by
    have hco : ∀ G ∈ [F, Fh, F1, F2, F3, F4, F5, F6],
        IsoCoef c σ id (fun _ h => G (polySymbol c (generalLinear c.D a) h))
          (fun _ h => G (polySymbol c (generalLinear c.D a) h)) :=
      fun G hG => isoCoef_generalLinear c hc.hs σ id a ha G (hF G hG)
    simp only [List.forall_mem_cons] at hco
    obtain ⟨e, eh, e1, e2, e3, e4, e5, e6, -⟩ := hco
    exact E4_axisPerm_physical c hc σ id C (id_lt_iff C) _ (general_mcSpecPerm c hc σ C s0 s1 s2 h0 h1 h2 zeroFix)
      u (permMC c σ u) hreal hfree (fieldPerm_permMC c σ u) e eh e1 e2 e3 e4 e5 e6 n ch

open Exponax.AxisPerm Exponax.AliasND in
theorem C08_convection_step_commutes_with_axis_and_channel_permutation :
    ∀ (c : Nonlin.Cfg ℂ),
      PermCfg c →
        ∀ (σ : Equiv.Perm (Fin c.D)) (scale : ℂ),
          scale.im = 0 →
            ∀ (conservative : Bool) {E Eh c1 c2 c3 c4 c5 c6 : ℕ → ℕ → ℂ},
              IsoCoef c σ (chanMap σ) E E →
                IsoCoef c σ (chanMap σ) Eh Eh →
                  IsoCoef c σ (chanMap σ) c1 c1 →
                    IsoCoef c σ (chanMap σ) c2 c2 →
                      IsoCoef c σ (chanMap σ) c3 c3 →
                        IsoCoef c σ (chanMap σ) c4 c4 →
                          IsoCoef c σ (chanMap σ) c5 c5 →
                            IsoCoef c σ (chanMap σ) c6 c6 →
                              ∀ (n : ℕ) (u : Nonlin.MC ℂ),
                                Array.size u ≤ c.D →
                                  (∀ (ch : ℕ), AliasND.IsRealND c.D c.N (Array.getD u ch #[])) →
                                    (∀ (ch : ℕ), NyqFreeS c.D c.N (Transform.rfftnM c.D c.N (Array.getD u ch #[]))) →
                                      ∀ (i : Fin c.D),
                                        EquivND.physCh c.D c.N
                                            ((Gen.Etdrk.E4step E Eh c1 c2 c3 c4 c5 c6
                                                  (EquivND.liftTermND c c.D
                                                    (Nonlin.convection c c.D scale false conservative)))^[n]
                                              (EquivND.specMC c.D c.N (permVecMC c σ u)))
                                            ↑(σ i) =
                                          permField c.D c.N σ
                                            (EquivND.physCh c.D c.N
                                              ((Gen.Etdrk.E4step E Eh c1 c2 c3 c4 c5 c6
                                                    (EquivND.liftTermND c c.D
                                                      (Nonlin.convection c c.D scale false conservative)))^[n]
                                                (EquivND.specMC c.D c.N u))
                                              ↑i) :=
  fun c hc σ scale hsc conservative {E Eh c1 c2 c3 c4 c5 c6} hE hEh h1 h2 h3 h4 h5 h6 n u hsz hreal hfree i => by
    have h := E4_axisPerm_physical c hc σ (chanMap σ) c.D (chanMap_lt_iff σ) _
      (convection_multi_termPerm c hc σ scale hsc conservative) u (permVecMC c σ u) hreal hfree
      (fieldPerm_permVecMC c σ u hsz) hE hEh h1 h2 h3 h4 h5 h6 n i
    rw [chanMap_fin] at h
    exact h

open Exponax.AxisPerm Exponax.AliasND in
theorem C08_spectrum_of_embedded_state :
    ∀ (E N : ℕ),
      0 < N →
        ∀ (w : Array ℂ),
          ∀ h < Layout.numModes (E + 1) N,
            (Transform.rfftnM (E + 1) N (embedAxis (E + 1) N E w)).getD h 0 =
              if h < N / 2 + 1 then ↑(N ^ E) * (Transform.rfftnM 1 N w).getD h 0 else 0 :=
  @Exponax.AxisPerm.rfftn_embedLast

open Exponax.AxisPerm Exponax.AliasND in
theorem C08_general_term_of_embedded_state :
    ∀ (c : Nonlin.Cfg ℂ),
      0 < c.D →
        0 < c.N →
          ∀ (C : ℕ) (s0 s1 s2 : ℂ) (zeroFix : Bool) (uh uh1 : Nonlin.MC ℂ),
            MCEmbSpec c uh uh1 →
              MCEmbSpec c (Nonlin.general c C s0 s1 s2 zeroFix uh) (Nonlin.general (cfg1 c) C s0 s1 s2 zeroFix uh1) :=
  @Exponax.AxisPerm.general_embed

open Exponax.AxisPerm Exponax.AliasND in
theorem C08_step_of_embedded_state_last_axis :
    ∀ (c : Nonlin.Cfg ℂ),
      0 < c.D →
        0 < c.N →
          ∀ (a : List ℂ) (F Fh F1 F2 F3 F4 F5 F6 : ℂ → ℂ) (s0 s1 s2 : ℂ) (zeroFix : Bool) (n : ℕ) (w : Array ℂ),
            Transform.irfftnM c.D c.N
                (Transform.tab (Layout.numModes c.D c.N)
                  ((Gen.Etdrk.E4step (fun x h ↦ F (Nonlin.polySymbol c (generalLinear c.D a) h))
                        (fun x h ↦ Fh (Nonlin.polySymbol c (generalLinear c.D a) h))
                        (fun x h ↦ F1 (Nonlin.polySymbol c (generalLinear c.D a) h))
                        (fun x h ↦ F2 (Nonlin.polySymbol c (generalLinear c.D a) h))
                        (fun x h ↦ F3 (Nonlin.polySymbol c (generalLinear c.D a) h))
                        (fun x h ↦ F4 (Nonlin.polySymbol c (generalLinear c.D a) h))
                        (fun x h ↦ F5 (Nonlin.polySymbol c (generalLinear c.D a) h))
                        (fun x h ↦ F6 (Nonlin.polySymbol c (generalLinear c.D a) h))
                        (EquivND.liftTermND c 1 (Nonlin.general c 1 s0 s1 s2 zeroFix)))^[n]
                    (fun ch h ↦ (Transform.rfftnM c.D c.N (#[embedAxis c.D c.N (c.D - 1) w].getD ch #[])).getD h 0) 0)) =
              embedAxis c.D c.N (c.D - 1)
                (Transform.irfftnM 1 c.N
                  (Transform.tab (Layout.numModes 1 c.N)
                    ((Gen.Etdrk.E4step
                          (fun x h ↦ F (Nonlin.polySymbol (cfg1 c) (generalLinear 1 (Symmetry.embedCoefs c.D a)) h))
                          (fun x h ↦ Fh (Nonlin.polySymbol (cfg1 c) (generalLinear 1 (Symmetry.embedCoefs c.D a)) h))
                          (fun x h ↦ F1 (Nonlin.polySymbol (cfg1 c) (generalLinear 1 (Symmetry.embedCoefs c.D a)) h))
                          (fun x h ↦ F2 (Nonlin.polySymbol (cfg1 c) (generalLinear 1 (Symmetry.embedCoefs c.D a)) h))
                          (fun x h ↦ F3 (Nonlin.polySymbol (cfg1 c) (generalLinear 1 (Symmetry.embedCoefs c.D a)) h))
                          (fun x h ↦ F4 (Nonlin.polySymbol (cfg1 c) (generalLinear 1 (Symmetry.embedCoefs c.D a)) h))
                          (fun x h ↦ F5 (Nonlin.polySymbol (cfg1 c) (generalLinear 1 (Symmetry.embedCoefs c.D a)) h))
                          (fun x h ↦ F6 (Nonlin.polySymbol (cfg1 c) (generalLinear 1 (Symmetry.embedCoefs c.D a)) h))
                          (EquivND.liftTermND (cfg1 c) 1 (Nonlin.general (cfg1 c) 1 s0 s1 s2 zeroFix)))^[n]
                      (fun ch h ↦ (Transform.rfftnM 1 c.N (#[w].getD ch #[])).getD h 0) 0))) :=
  fun c hD hN a F Fh F1 F2 F3 F4 F5 F6 s0 s1 s2 zeroFix n w => by
    have h := E4_embed_physical c hD hN 1 _ _ (general_embed c hD hN 1 s0 s1 s2 zeroFix)
      (embCoef_generalLinear c hD hN a F) (embCoef_generalLinear c hD hN a Fh)
      (embCoef_generalLinear c hD hN a F1) (embCoef_generalLinear c hD hN a F2)
      (embCoef_generalLinear c hD hN a F3) (embCoef_generalLinear c hD hN a F4)
      (embCoef_generalLinear c hD hN a F5) (embCoef_generalLinear c hD hN a F6) n #[w] 0
    have e : embedMC c #[w] = #[embedAxis c.D c.N (c.D - 1) w] := by simp [embedMC]
    rw [e] at h
    exact h

open Exponax.AxisPerm Exponax.AliasND in
theorem C08_step_of_embedded_state_any_axis :
    ∀ (c : Nonlin.Cfg ℂ),
      PermCfg c →
        ∀ (a : Fin c.D) (al : List ℂ),
          (∀ x ∈ al, x.im = 0) →
            ∀ (F Fh F1 F2 F3 F4 F5 F6 : ℂ → ℂ),
              (∀ G ∈ [F, Fh, F1, F2, F3, F4, F5, F6], ∀ (z : ℂ), G ((starRingEnd ℂ) z) = (starRingEnd ℂ) (G z)) →
                ∀ (s0 s1 s2 : ℂ),
                  s0.im = 0 →
                    s1.im = 0 →
                      s2.im = 0 →
                        ∀ (zeroFix : Bool) (n : ℕ) (w : Array ℂ),
                          (∀ i < c.N, (w.getD i 0).im = 0) →
                            NyqFreeS 1 c.N (Transform.rfftnM 1 c.N w) →
                              EquivND.physCh c.D c.N
                                  ((Gen.Etdrk.E4step (fun x h ↦ F (Nonlin.polySymbol c (generalLinear c.D al) h))
                                        (fun x h ↦ Fh (Nonlin.polySymbol c (generalLinear c.D al) h))
                                        (fun x h ↦ F1 (Nonlin.polySymbol c (generalLinear c.D al) h))
                                        (fun x h ↦ F2 (Nonlin.polySymbol c (generalLinear c.D al) h))
                                        (fun x h ↦ F3 (Nonlin.polySymbol c (generalLinear c.D al) h))
                                        (fun x h ↦ F4 (Nonlin.polySymbol c (generalLinear c.D al) h))
                                        (fun x h ↦ F5 (Nonlin.polySymbol c (generalLinear c.D al) h))
                                        (fun x h ↦ F6 (Nonlin.polySymbol c (generalLinear c.D al) h))
                                        (EquivND.liftTermND c 1 (Nonlin.general c 1 s0 s1 s2 zeroFix)))^[n]
                                    (EquivND.specMC c.D c.N #[embedAxis c.D c.N (↑a) w]))
                                  0 =
                                embedAxis c.D c.N (↑a)
                                  (EquivND.physCh 1 c.N
                                    ((Gen.Etdrk.E4step
                                          (fun x h ↦
                                            F
                                              (Nonlin.polySymbol (cfg1 c)
                                                (generalLinear (cfg1 c).D (Symmetry.embedCoefs c.D al)) h))
                                          (fun x h ↦
                                            Fh
                                              (Nonlin.polySymbol (cfg1 c)
                                                (generalLinear (cfg1 c).D (Symmetry.embedCoefs c.D al)) h))
                                          (fun x h ↦
                                            F1
                                              (Nonlin.polySymbol (cfg1 c)
                                                (generalLinear (cfg1 c).D (Symmetry.embedCoefs c.D al)) h))
                                          (fun x h ↦
                                            F2
                                              (Nonlin.polySymbol (cfg1 c)
                                                (generalLinear (cfg1 c).D (Symmetry.embedCoefs c.D al)) h))
                                          (fun x h ↦
                                            F3
                                              (Nonlin.polySymbol (cfg1 c)
                                                (generalLinear (cfg1 c).D (Symmetry.embedCoefs c.D al)) h))
                                          (fun x h ↦
                                            F4
                                              (Nonlin.polySymbol (cfg1 c)
                                                (generalLinear (cfg1 c).D (Symmetry.embedCoefs c.D al)) h))
                                          (fun x h ↦
                                            F5
                                              (Nonlin.polySymbol (cfg1 c)
                                                (generalLinear (cfg1 c).D (Symmetry.embedCoefs c.D al)) h))
                                          (fun x h ↦
                                            F6
                                              (Nonlin.polySymbol (cfg1 c)
                                                (generalLinear (cfg1 c).D (Symmetry.embedCoefs c.D al)) h))
                                          (EquivND.liftTermND (cfg1 c) 1 (Nonlin.general (cfg1 c) 1 s0 s1 s2 zeroFix)))^[n]
                                      (EquivND.specMC 1 c.N #[w]))
                                    0) :=
  fun c hc a al hal F Fh F1 F2 F3 F4 F5 F6 hF s0 s1 s2 h0 h1 h2 zeroFix n w hw hfree => by
    have hco : ∀ G ∈ [F, Fh, F1, F2, F3, F4, F5, F6],
        IsoCoef c (swapLast hc.hD a) id (fun _ h => G (polySymbol c (generalLinear c.D al) h))
          (fun _ h => G (polySymbol c (generalLinear c.D al) h)) :=
      fun G hG => isoCoef_generalLinear c hc.hs _ id al hal G (hF G hG)
    simp only [List.forall_mem_cons] at hco
    obtain ⟨i, ih, i1, i2, i3, i4, i5, i6, -⟩ := hco
    have hsingle : ∀ ch, (#[w] : MC ℂ).getD (ch + 1) #[] = #[] := fun ch => by simp [Array.getD]
    have hreal : ∀ ch, ∀ i < c.N, (((#[w] : MC ℂ).getD ch #[]).getD i 0).im = 0 := by
      rintro (_ | ch) i hi
      · exact hw i hi
      · rw [hsingle]; simp
    have hfr : ∀ ch, NyqFreeS 1 c.N (rfftnM 1 c.N ((#[w] : MC ℂ).getD ch #[])) := by
      rintro (_ | ch)
      · exact hfree
      · intro h hh _
        rw [hsingle, rfftn_eq_dftV 1 c.N hc.hN _ h hh]
        exact Finset.sum_eq_zero (fun j _ => by simp)
    have h := E4_embedAxis_physical c hc a 1 _ _ (general_mcSpecPerm c hc _ 1 s0 s1 s2 h0 h1 h2 zeroFix)
      (general_embed c hc.hD hc.hN 1 s0 s1 s2 zeroFix)
      i ih i1 i2 i3 i4 i5 i6
      (embCoef_generalLinear c hc.hD hc.hN al F) (embCoef_generalLinear c hc.hD hc.hN al Fh)
      (embCoef_generalLinear c hc.hD hc.hN al F1) (embCoef_generalLinear c hc.hD hc.hN al F2)
      (embCoef_generalLinear c hc.hD hc.hN al F3) (embCoef_generalLinear c hc.hD hc.hN al F4)
      (embCoef_generalLinear c hc.hD hc.hN al F5) (embCoef_generalLinear c hc.hD hc.hN al F6)
      n #[w] hreal hfr 0
    have e : (#[w] : MC ℂ).map (embedAxis c.D c.N a) = #[embedAxis c.D c.N a w] := by simp
    rw [e] at h
    exact h

/-! ### axis permutation for Cahn–Hilliard, pointwise reactions and the 2-D vorticity: Cahn–Hilliard and pointwise reactions
(Gray–Scott, BZ) commute with every axis permutation; the 2-D vorticity is a pseudo-scalar — under the swap of the two
axes the term and the whole step commute with ω ↦ −P_σ ω (unforced; the Kolmogorov injection singles out an axis) -/

open Exponax.SmallGaps3 Exponax.AxisPerm in
theorem C08_cahn_hilliard_commutes_with_axis_permutation :
    ∀ (c : Nonlin.Cfg ℂ),
      AxisPerm.PermCfg c →
        ∀ (σ : Equiv.Perm (Fin c.D)) (scale : ℂ),
          scale.im = 0 →
            ∀ (uh uh' : Nonlin.MC ℂ),
              AxisPerm.MCSpecPerm c σ id uh uh' →
                AxisPerm.MCSpecPerm c σ id (Nonlin.cahnHilliard c scale uh) (Nonlin.cahnHilliard c scale uh') :=
  @Exponax.SmallGaps3.cahnHilliard_mcSpecPerm

open Exponax.SmallGaps3 Exponax.AxisPerm in
theorem C08_reaction_commutes_with_axis_permutation :
    ∀ (c : Nonlin.Cfg ℂ),
      AxisPerm.PermCfg c →
        ∀ (σ : Equiv.Perm (Fin c.D)) (C : ℕ) (react : List ℂ → List ℂ),
          (∀ (l : List ℂ), (∀ x ∈ l, x.im = 0) → ∀ (ch : ℕ), ((react l).getD ch 0).im = 0) →
            ∀ (uh uh' : Nonlin.MC ℂ),
              AxisPerm.MCSpecPerm c σ id uh uh' →
                AxisPerm.MCSpecPerm c σ id (Nonlin.reaction c C react uh) (Nonlin.reaction c C react uh') :=
  @Exponax.SmallGaps3.reaction_mcSpecPerm

open Exponax.SmallGaps3 Exponax.AxisPerm in
theorem C08_vorticity_term_under_axis_swap :
    ∀ (c : Nonlin.Cfg ℂ),
      AxisPerm.PermCfg c →
        ∀ (hD : 2 ≤ c.D) (scale : ℂ),
          scale.im = 0 →
            ∀ (uh uh' : Nonlin.MC ℂ),
              AxisPerm.MCSpecPerm c (swapσ c hD) id uh uh' →
                AxisPerm.MCSpecPerm c (swapσ c hD) id (Nonlin.vorticity2d c scale none uh)
                  (negMC c (Nonlin.vorticity2d c scale none uh')) :=
  @Exponax.SmallGaps3.vorticity2d_swap

open Exponax.SmallGaps3 Exponax.AxisPerm in
theorem C08_vorticity_step_under_axis_swap :
    ∀ (c : Nonlin.Cfg ℂ),
      AxisPerm.PermCfg c →
        ∀ (hD : 2 ≤ c.D) (scale : ℂ),
          scale.im = 0 →
            ∀ {E Eh c1 c2 c3 c4 c5 c6 : ℕ → ℕ → ℂ},
              AxisPerm.IsoCoef c (swapσ c hD) id E E →
                AxisPerm.IsoCoef c (swapσ c hD) id Eh Eh →
                  AxisPerm.IsoCoef c (swapσ c hD) id c1 c1 →
                    AxisPerm.IsoCoef c (swapσ c hD) id c2 c2 →
                      AxisPerm.IsoCoef c (swapσ c hD) id c3 c3 →
                        AxisPerm.IsoCoef c (swapσ c hD) id c4 c4 →
                          AxisPerm.IsoCoef c (swapσ c hD) id c5 c5 →
                            AxisPerm.IsoCoef c (swapσ c hD) id c6 c6 →
                              ∀ (n : ℕ) (u u' : Nonlin.MC ℂ),
                                (∀ (ch : ℕ), AliasND.IsRealND c.D c.N (Array.getD u ch #[])) →
                                  (∀ (ch : ℕ), AxisPerm.NyqFreeS c.D c.N (Transform.rfftnM c.D c.N (Array.getD u ch #[]))) →
                                    (∀ (ch j : ℕ),
                                        j < c.N ^ c.D →
                                          (Array.getD u' ch #[]).getD j 0 =
                                            -(Array.getD u ch #[]).getD (AxisPerm.permIdx c.D c.N (swapσ c hD) j) 0) →
                                      ∀ (ch j : ℕ),
                                        j < c.N ^ c.D →
                                          (EquivND.physCh c.D c.N
                                                  ((Gen.Etdrk.E4step E Eh c1 c2 c3 c4 c5 c6
                                                        (EquivND.liftTermND c 1 (Nonlin.vorticity2d c scale none)))^[n]
                                                    (EquivND.specMC c.D c.N u'))
                                                  ch).getD
                                              j 0 =
                                            -(EquivND.physCh c.D c.N
                                                    ((Gen.Etdrk.E4step E Eh c1 c2 c3 c4 c5 c6
                                                          (EquivND.liftTermND c 1 (Nonlin.vorticity2d c scale none)))^[n]
                                                      (EquivND.specMC c.D c.N u))
                                                    ch).getD
                                                (AxisPerm.permIdx c.D c.N (swapσ c hD) j) 0 :=
  fun c hc hD scale hsc {E Eh c1 c2 c3 c4 c5 c6} hE hEh h1 h2 h3 h4 h5 h6 n u u' hreal hfree hperm ch j hj =>
    physical_axisSwapNeg c hc.hD hc.hN (swapσ c hD) _ _
      (fun _ _ hv => E4step_negGood c hc hD scale hsc hE hEh h1 h2 h3 h4 h5 h6 hv) n u u' hreal hfree hperm ch j hj

end Exponax
