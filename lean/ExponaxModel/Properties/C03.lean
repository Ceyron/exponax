import ExponaxModel.Proofs.CrossProduct
import ExponaxModel.Proofs.LayoutLemmas
import ExponaxModel.Proofs.AliasND
import ExponaxModel.Generated.Misc
import ExponaxModel.Proofs.AliasND2Grad
import ExponaxModel.Proofs.AliasND2Conv
import ExponaxModel.Proofs.AliasND2Vort
import ExponaxModel.Proofs.AliasND2React
import ExponaxModel.Proofs.AliasND3Basic
import ExponaxModel.Proofs.AliasND3Rot
import ExponaxModel.Proofs.NonlinFunsEq
import ExponaxModel.Proofs.AliasMultiExamples
import ExponaxModel.Proofs.AliasND3
import ExponaxModel.Proofs.AliasMore
/-
C03 — nonlinear terms equal the alias-free projection of the documented operator.

`Nonlin.*` are the hand-written mirrors of `exponax/nonlin_fun/*.py` and the reaction nonlinearities (proved equal
to each class's regenerated `__call__`: `C03_generated_nonlinear_functions`, `C03_generated_forced_functions`);
`Gen.Misc.dealias_cutoff` and `Gen.Misc.cross_product_3d` are regenerated from the source.

`X m := trunc K (dft N x) m` is the spectrum of the band-truncated state (`K = Kc c` the largest retained
wavenumber); the right-hand sides are LINEAR convolutions over the band: no wrapped-around (aliased) term
contributes.  `(1/N)·Σ_m X_m X_{h−m}` is `N ×` the `h`-th Fourier coefficient of the square of the
trigonometric polynomial (C03_convolution_is_product), the normalisation of the unnormalised forward transform.
-/
namespace Exponax
open Exponax.Alias Exponax.Nonlin Exponax.Layout

/-! ### the cutoff arithmetic: every grid size, odd or even -/

/-- 2/3 rule: the largest retained wavenumber `K` satisfies `3K < N` (so `k₁ + k₂ ≡ k₃ (mod N)` with all
    three in the band forces `k₁ + k₂ = k₃`) -/
theorem C03_cutoff_quadratic (c : Cfg ℂ) (hp : c.fp = 2) (hq : c.fq = 3) : 3 * Kc c < c.N ∧ 2 * Kc c < c.N :=
  Kc_two_thirds c hp hq

/-- 1/2 rule for cubic terms: `4K < N` -/
theorem C03_cutoff_cubic (c : Cfg ℂ) (hp : c.fp = 1) (hq : c.fq = 2) : 4 * Kc c < c.N := Kc_half c hp hq

theorem C03_no_alias_quadratic (N : ℕ) (K : ℤ) (hK : 3 * K < N) (a b h : ℤ) (ha : |a| ≤ K) (hb : |b| ≤ K)
    (hh : |h| ≤ K) (hd : (N : ℤ) ∣ a + b - h) : a + b = h :=
  no_alias_quadratic N K hK a b h ha hb hh hd

/-- FLOAT-EVALUATED CUTOFF.  The implementation evaluates `frac·(N//2) − 1` in binary64 (N = 49, frac = 2/3 gives
    14.999999999999998: band `K = 14`, one less than the rational `15`).  The check drives the model with the
    effective rational fraction `(K_float + 1)/(N/2)`; its retained band is exactly `K_float` … -/
theorem C03_effective_cutoff (c : Cfg ℂ) (K : ℕ) (hp : c.fp = K + 1) (hq : c.fq = c.N / 2) (hN : 0 < c.N / 2) :
    Kc c = (K : ℤ) := Kc_of_effective c K hp hq hN

/-- … and whenever `K_float` does not exceed the rational 2/3 (resp. 1/2) cutoff — compared exhaustively by the
    check — the hypotheses `3K < N` (resp. `4K < N`) of the alias-free theorems below hold -/
theorem C03_effective_cutoff_bounds (c : Cfg ℂ) (K : ℕ) (hp : c.fp = K + 1) (hq : c.fq = c.N / 2) (hN : 0 < c.N / 2) :
    ((K : ℤ) * 3 ≤ 2 * ((c.N / 2 : ℕ) : ℤ) - 3 → 3 * Kc c < (c.N : ℤ)) ∧
    ((K : ℤ) * 2 ≤ ((c.N / 2 : ℕ) : ℤ) - 2 → 4 * Kc c < (c.N : ℤ)) :=
  ⟨Kc_effective_two_thirds c K hp hq hN, Kc_effective_half c K hp hq hN⟩

/-- the mask keeps exactly the stored modes `h ≤ K` (1-D) -/
theorem C03_mask (c : Cfg ℂ) (hD : c.D = 1) (hq : c.fq ≠ 0) (h : ℕ) :
    mask c h = if (h : ℤ) ≤ Kc c then 1 else 0 := mask_one c hD hq h

/-- in every dimension the mask is the axis-separate low-pass at the rational cutoff -/
theorem C03_mask_iff (N fp fq : ℕ) (k : List ℤ) :
    dealiasMask N fp fq k = true ↔ ∀ kd ∈ k, |kd| * (fq : ℤ) ≤ (fp : ℤ) * ((N / 2 : ℕ) : ℤ) - (fq : ℤ) :=
  dealiasMask_iff N fp fq k

/-! ### the pseudo-spectral product is exact on band-limited fields -/

/-- circular convolution theorem (no band limitation) -/
theorem C03_circular_convolution (N : ℕ) (hN : 0 < N) (u v : Array ℂ) (h : ℤ) :
    DFT.dft N (Transform.tab N fun j => u.getD j 0 * v.getD j 0) h
      = 1 / (N : ℂ) * ∑ a ∈ Finset.range N, DFT.dft N u a * DFT.dft N v (h - a) :=
  dft_mul N hN u v h

/-- ALIAS-FREE: for band-limited `u`, `v` and `3K < N` the retained coefficients of the grid product are the
    linear convolution of the two band spectra -/
theorem C03_pseudospectral_exact (N : ℕ) (hN : 0 < N) (K : ℤ) (hK : 3 * K < N) (u v : Array ℂ)
    (hu : BandLimited N K u) (hv : BandLimited N K v) (h : ℤ) (hh : |h| ≤ K) :
    DFT.dft N (Transform.tab N fun j => u.getD j 0 * v.getD j 0) h
      = 1 / (N : ℂ) * ∑ m ∈ Finset.Icc (-K) K, trunc K (DFT.dft N u) m * trunc K (DFT.dft N v) (h - m) := by
  -- the `D = 1` case of `AliasND.dftV_mul_no_alias'`: a wavenumber `m` is the constant vector `cst 1 m`
  have := AliasND.dftV_mul_no_alias' 1 N hN K hK u v ((bandLimitedV_iff rfl K u).mpr hu)
    ((bandLimitedV_iff rfl K v).mpr hv) (cst 1 h) fun _ => hh
  simpa only [dftV_cst rfl, sum_box_cst rfl, cst_sub, truncV_cst rfl, pow_one] using this

theorem C03_pseudospectral_exact_cubic (N : ℕ) (hN : 0 < N) (K : ℤ) (hK : 4 * K < N) (u v w : Array ℂ)
    (hu : BandLimited N K u) (hv : BandLimited N K v) (hw : BandLimited N K w) (h : ℤ) (hh : |h| ≤ K) :
    DFT.dft N (Transform.tab N fun j => u.getD j 0 * v.getD j 0 * w.getD j 0) h
      = 1 / (N : ℂ) ^ 2 * ∑ a ∈ Finset.Icc (-K) K, ∑ b ∈ Finset.Icc (-K) K,
          trunc K (DFT.dft N u) a * trunc K (DFT.dft N v) b * trunc K (DFT.dft N w) (h - a - b) := by
  have := AliasND.dftV_mul3_no_alias' 1 N hN K hK u v w ((bandLimitedV_iff rfl K u).mpr hu)
    ((bandLimitedV_iff rfl K v).mpr hv) ((bandLimitedV_iff rfl K w).mpr hw) (cst 1 h) fun _ => hh
  simpa only [dftV_cst rfl, sum_box_cst rfl, cst_sub, truncV_cst rfl, pow_one, one_div, inv_pow] using this

/-- the linear convolution over the band IS the coefficient sequence of the product of the two
    trigonometric polynomials -/
theorem C03_convolution_is_product (K : ℤ) (U V : ℤ → ℂ) (z : ℂ) (hz : z ≠ 0) :
    (∑ a ∈ Finset.Icc (-K) K, U a * z ^ a) * ∑ b ∈ Finset.Icc (-K) K, V b * z ^ b
      = ∑ h ∈ Finset.Icc (-(2 * K)) (2 * K), (∑ m ∈ Finset.Icc (-K) K, trunc K U m * trunc K V (h - m)) * z ^ h := by
  have := AliasMulti.trigEval_mul K K (fun p : Fin 1 → ℤ => U (p 0)) (fun p => V (p 0)) (fun _ => z) fun _ => hz
  simp only [AliasMulti.trigEval, AliasMulti.conv, sum_box_cst rfl, truncV_cst rfl, AliasMulti.mono_cst, cst_sub,
    ← two_mul] at this
  exact this

/-- `ifft(mask·û)` is the band truncation `P_K` of the state -/
theorem C03_predealias (c : Cfg ℂ) (hD : c.D = 1) (hq : c.fq ≠ 0) (hN : 0 < c.N) (hK : 2 * Kc c < c.N)
    (x : Array ℂ) (hx : IsRealField c.N x) :
    BandLimited c.N (Kc c) (nifft c (Transform.rfftnM 1 c.N x)) ∧
    ∀ m : ℤ, |m| ≤ Kc c → DFT.dft c.N (nifft c (Transform.rfftnM 1 c.N x)) m = DFT.dft c.N x m :=
  ⟨nifft_bandLimited c hD hq hN _, dft_nifft_rfft c hD hq hN hK x hx⟩

/-! ### the built-in terms (1-D, one channel, every `N ≥ 1`, real state `x`, `û = rfft x`).
Hypotheses: any dealiasing fraction whose retained band satisfies `3·K < N` (quadratic terms; the documented 2/3 by
`C03_cutoff_quadratic`, and its float evaluation by `C03_effective_cutoff_bounds`) resp. `4·K < N` (cubic; 1/2). -/

/-- conservative convection `−b·½ ∂_x (P_K u)²`, projected -/
theorem C03_convection_conservative (c : Cfg ℂ) (hD : c.D = 1) (hq : c.fq ≠ 0) (hK : 3 * Kc c < (c.N : ℤ)) (hN : 0 < c.N)
    (scale : ℂ) (x : Array ℂ) (hx : IsRealField c.N x) (h : ℕ) (hh : h ≤ c.N / 2) :
    (mask c h = 1 →
        at2 (convection c 1 scale true true #[Transform.rfftnM 1 c.N x]) 0 h =
          -scale * (1 / 2) * deriv c 0 h *
            (1 / (c.N : ℂ) * ∑ m ∈ Finset.Icc (-Kc c) (Kc c),
              trunc (Kc c) (DFT.dft c.N x) m * trunc (Kc c) (DFT.dft c.N x) ((h : ℤ) - m))) ∧
      (mask c h = 0 → at2 (convection c 1 scale true true #[Transform.rfftnM 1 c.N x]) 0 h = 0) :=
  convection_c_one_alias_free_of_cutoff c hD hq hK hN scale x hx true h hh

/-- non-conservative convection `−b (P_K u) ∂_x (P_K u)`, projected (both code paths) -/
theorem C03_convection_nonconservative (c : Cfg ℂ) (hD : c.D = 1) (hq : c.fq ≠ 0) (hK : 3 * Kc c < (c.N : ℤ)) (hN : 0 < c.N)
    (s : ℝ) (hs : c.s = (s : ℂ)) (scale : ℂ) (x : Array ℂ) (hx : IsRealField c.N x) (single : Bool) (h : ℕ)
    (hh : h ≤ c.N / 2) :
    (mask c h = 1 →
        at2 (convection c 1 scale single false #[Transform.rfftnM 1 c.N x]) 0 h =
          -scale * (1 / (c.N : ℂ) * ∑ m ∈ Finset.Icc (-Kc c) (Kc c),
            trunc (Kc c) (DFT.dft c.N x) m *
              (Complex.I * (c.s * (((h : ℤ) - m : ℤ) : ℂ)) * trunc (Kc c) (DFT.dft c.N x) ((h : ℤ) - m)))) ∧
      (mask c h = 0 → at2 (convection c 1 scale single false #[Transform.rfftnM 1 c.N x]) 0 h = 0) :=
  convection_nc_one_alias_free_of_cutoff c hD hq hK hN s hs scale x hx single h hh

/-- gradient norm `−b ½ (∂_x P_K u)²` (minus its mean when `zero_mode_fix`), projected -/
theorem C03_gradient_norm (c : Cfg ℂ) (hD : c.D = 1) (hq : c.fq ≠ 0) (hK : 3 * Kc c < (c.N : ℤ)) (hN : 0 < c.N)
    (s : ℝ) (hs : c.s = (s : ℂ)) (scale : ℂ) (zeroFix : Bool) (x : Array ℂ) (hx : IsRealField c.N x) (h : ℕ)
    (hh : h ≤ c.N / 2) :
    (mask c h = 1 →
        at2 (gradientNorm c 1 scale zeroFix #[Transform.rfftnM 1 c.N x]) 0 h =
          if zeroFix = true ∧ h = 0 then 0
          else -scale * (1 / 2) * (1 / (c.N : ℂ) * ∑ m ∈ Finset.Icc (-Kc c) (Kc c),
            Complex.I * (c.s * (m : ℂ)) * trunc (Kc c) (DFT.dft c.N x) m *
              (Complex.I * (c.s * (((h : ℤ) - m : ℤ) : ℂ)) * trunc (Kc c) (DFT.dft c.N x) ((h : ℤ) - m)))) ∧
      (mask c h = 0 → at2 (gradientNorm c 1 scale zeroFix #[Transform.rfftnM 1 c.N x]) 0 h = 0) :=
  gradientNorm_one_alias_free_of_cutoff c hD hq hK hN s hs scale zeroFix x hx h hh

/-- quadratic polynomial `c₀ + c₁ P_K u + c₂ (P_K u)²`, projected (2/3 rule) -/
theorem C03_polynomial_quadratic (c : Cfg ℂ) (hD : c.D = 1) (hq : c.fq ≠ 0) (hK : 3 * Kc c < (c.N : ℤ)) (hN : 0 < c.N)
    (c0 c1 c2 : ℂ) (x : Array ℂ) (hx : IsRealField c.N x) (h : ℕ) (hh : h ≤ c.N / 2) :
    (mask c h = 1 →
        at2 (polynomial c 1 [c0, c1, c2] #[Transform.rfftnM 1 c.N x]) 0 h =
          (c0 * if h = 0 then (c.N : ℂ) else 0) + c1 * DFT.dft c.N x h +
            c2 * (1 / (c.N : ℂ) * ∑ m ∈ Finset.Icc (-Kc c) (Kc c),
              trunc (Kc c) (DFT.dft c.N x) m * trunc (Kc c) (DFT.dft c.N x) ((h : ℤ) - m))) ∧
      (mask c h = 0 → at2 (polynomial c 1 [c0, c1, c2] #[Transform.rfftnM 1 c.N x]) 0 h = 0) :=
  polynomial_quadratic_alias_free_of_cutoff c hD hq hK hN c0 c1 c2 x hx h hh

/-- cubic polynomial `c₃ (P_K u)³`, projected (1/2 rule) -/
theorem C03_polynomial_cubic (c : Cfg ℂ) (hD : c.D = 1) (hq : c.fq ≠ 0) (hK : 4 * Kc c < (c.N : ℤ)) (hN : 0 < c.N)
    (c3 : ℂ) (x : Array ℂ) (hx : IsRealField c.N x) (h : ℕ) (hh : h ≤ c.N / 2) :
    (mask c h = 1 →
        at2 (polynomial c 1 [0, 0, 0, c3] #[Transform.rfftnM 1 c.N x]) 0 h =
          c3 * (1 / (c.N : ℂ) ^ 2 * ∑ a ∈ Finset.Icc (-Kc c) (Kc c), ∑ b ∈ Finset.Icc (-Kc c) (Kc c),
            trunc (Kc c) (DFT.dft c.N x) a * trunc (Kc c) (DFT.dft c.N x) b *
              trunc (Kc c) (DFT.dft c.N x) ((h : ℤ) - a - b))) ∧
      (mask c h = 0 → at2 (polynomial c 1 [0, 0, 0, c3] #[Transform.rfftnM 1 c.N x]) 0 h = 0) :=
  polynomial_cubic_alias_free_of_cutoff c hD hq hK hN c3 x hx h hh

/-- Cahn–Hilliard `ν c₃ Δ (P_K u)³`, projected (1/2 rule) -/
theorem C03_cahn_hilliard (c : Cfg ℂ) (hD : c.D = 1) (hq : c.fq ≠ 0) (hK : 4 * Kc c < (c.N : ℤ)) (hN : 0 < c.N)
    (scale : ℂ) (x : Array ℂ) (hx : IsRealField c.N x) (h : ℕ) (hh : h ≤ c.N / 2) :
    (mask c h = 1 →
        at2 (cahnHilliard c scale #[Transform.rfftnM 1 c.N x]) 0 h =
          laplace c 2 h * (1 / (c.N : ℂ) ^ 2 * ∑ a ∈ Finset.Icc (-Kc c) (Kc c), ∑ b ∈ Finset.Icc (-Kc c) (Kc c),
            trunc (Kc c) (DFT.dft c.N x) a * trunc (Kc c) (DFT.dft c.N x) b *
              trunc (Kc c) (DFT.dft c.N x) ((h : ℤ) - a - b)) * scale) ∧
      (mask c h = 0 → at2 (cahnHilliard c scale #[Transform.rfftnM 1 c.N x]) 0 h = 0) :=
  cahnHilliard_one_alias_free_of_cutoff c hD hq hK hN scale x hx h hh

/-! ### zero outside the retained band: every dimension, channel count, input -/

theorem C03_zero_outside_band (c : Cfg ℂ) (C : ℕ) (scale s0 s1 s2 : ℂ) (b1 b2 : Bool) (coeffs : List ℂ)
    (react : List ℂ → List ℂ) (uh : MC ℂ) (ch h : ℕ) (hm : mask c h = 0) :
    at2 (convection c C scale b1 b2 uh) ch h = 0 ∧ at2 (gradientNorm c C scale b1 uh) ch h = 0 ∧
    at2 (polynomial c C coeffs uh) ch h = 0 ∧ at2 (general c C s0 s1 s2 b1 uh) ch h = 0 ∧
    at2 (vorticity2d c scale none uh) ch h = 0 ∧ at2 (reaction c C react uh) ch h = 0 ∧
    at2 (cahnHilliard c scale uh) ch h = 0 :=
  ⟨convection_zero_off_band c C scale b1 b2 uh ch h hm, gradientNorm_zero_off_band c C scale b1 uh ch h hm,
    polynomial_zero_off_band c C coeffs uh ch h hm, general_zero_off_band c C s0 s1 s2 b1 uh ch h hm,
    vorticity2d_zero_off_band c scale uh ch h hm, reaction_zero_off_band c C react uh ch h hm,
    cahnHilliard_zero_off_band c scale uh ch h hm⟩

/-! ### regenerated cross product = documented formula -/

theorem C03_cross_product {R : Type} [CommRing R] (a1 a2 a3 b1 b2 b3 : R) :
    Gen.Misc.cross_product_3d (a1, a2, a3) (b1, b2, b3) = (a2 * b3 - a3 * b2, a3 * b1 - a1 * b3, a1 * b2 - a2 * b1) :=
  rfl

/-! ### every dimension `D ≥ 1` (`Proofs/AliasND*.lean`): full spectrum `dftV`, box `|k_d| ≤ K` on every axis

`AliasND.linConv D N K F G k = N^{-D} Σ_{p ∈ box} F_p G_{k−p}` (truncated) is the LINEAR convolution: no wrapped-around
term.  `AliasND.dftV D N x k` is the D-dimensional DFT sum of the real state at the wavenumber vector `k`
(`rfftn_eq_dftV`: it is the stored coefficient at `k = kvec h`; Hermitian and `N`-periodic). -/

/-- n-D pseudo-spectral product of two band-limited real fields under `3K < N`: exactly the sum over `p + q = k` inside
    the box, for every retained stored mode -/
theorem C03_product_alias_free_nd (D N : ℕ) (hD : 0 < D) (hN : 0 < N) (K : ℤ) (hK : 3 * K < N) (f g : Array ℂ)
    (hf : AliasND.IsRealND D N f) (hg : AliasND.IsRealND D N g) (bf : AliasND.StoredBandLimited D N K f)
    (bg : AliasND.StoredBandLimited D N K g) (h : ℕ) (hh : h < numModes D N)
    (hk : ∀ d : Fin D, |AliasND.kvec D N h d| ≤ K) :
    (Transform.rfftnM D N (Transform.tab (N ^ D) fun j => f.getD j 0 * g.getD j 0)).getD h 0 =
      1 / ((N ^ D : ℕ) : ℂ) * ∑ pq ∈ AliasND.box D K ×ˢ AliasND.box D K with pq.1 + pq.2 = AliasND.kvec D N h,
        AliasND.dftV D N f pq.1 * AliasND.dftV D N g pq.2 := by
  rw [AliasND.rfftn_mul_no_alias D N hD hN K hK f g hf hg bf bg h hh hk, AliasND.sum_box_trunc_eq_pairs]

/-- the model's `ifft(mask · û)` is the band truncation, every D: transforming back gives `mask · û` -/
theorem C03_truncation_nd (c : Cfg ℂ) (hD : 0 < c.D) (hq : c.fq ≠ 0) (hN : 0 < c.N) (hK : 2 * Kc c < (c.N : ℤ))
    (x : Array ℂ) (hx : AliasND.IsRealND c.D c.N x) (h : ℕ) (hh : h < numModes c.D c.N) :
    (Transform.rfftnM c.D c.N (nifft c (Transform.rfftnM c.D c.N x))).getD h 0
      = mask c h * (Transform.rfftnM c.D c.N x).getD h 0 := AliasND.rfftn_nifft_rfftn c hD hq hN hK x hx h hh

/-- polynomial term, degree ≤ 2 with the 2/3 rule, every D, every N -/
theorem C03_polynomial_quadratic_nd (c : Cfg ℂ) (hD : 0 < c.D) (hp : c.fp = 2) (hq : c.fq = 3) (hN : 0 < c.N)
    (c0 c1 c2 : ℂ) (x : Array ℂ) (hx : AliasND.IsRealND c.D c.N x) (h : ℕ) (hh : h < numModes c.D c.N) :
    (mask c h = 1 → at2 (polynomial c 1 [c0, c1, c2] #[Transform.rfftnM c.D c.N x]) 0 h =
        (c0 * if h = 0 then ((c.N ^ c.D : ℕ) : ℂ) else 0) + c1 * (Transform.rfftnM c.D c.N x).getD h 0 +
          c2 * AliasND.linConv c.D c.N (Kc c) (AliasND.dftV c.D c.N x) (AliasND.dftV c.D c.N x)
            (AliasND.kvec c.D c.N h)) ∧
      (mask c h = 0 → at2 (polynomial c 1 [c0, c1, c2] #[Transform.rfftnM c.D c.N x]) 0 h = 0) :=
  AliasND.polynomial_quadratic_alias_free_nd_two_thirds c hD hp hq hN c0 c1 c2 x hx h hh

/-- polynomial term, degree ≤ 3 under `4K < N` (the 1/2 rule), every D -/
theorem C03_polynomial_cubic_nd (c : Cfg ℂ) (hD : 0 < c.D) (hq : c.fq ≠ 0) (hK : 4 * Kc c < (c.N : ℤ)) (hN : 0 < c.N)
    (c0 c1 c2 c3 : ℂ) (x : Array ℂ) (hx : AliasND.IsRealND c.D c.N x) (h : ℕ) (hh : h < numModes c.D c.N) :
    (mask c h = 1 → at2 (polynomial c 1 [c0, c1, c2, c3] #[Transform.rfftnM c.D c.N x]) 0 h =
        (c0 * if h = 0 then ((c.N ^ c.D : ℕ) : ℂ) else 0) + c1 * (Transform.rfftnM c.D c.N x).getD h 0 +
          c2 * AliasND.linConv c.D c.N (Kc c) (AliasND.dftV c.D c.N x) (AliasND.dftV c.D c.N x)
            (AliasND.kvec c.D c.N h) +
          c3 * AliasND.linConv3 c.D c.N (Kc c) (AliasND.dftV c.D c.N x) (AliasND.dftV c.D c.N x)
            (AliasND.dftV c.D c.N x) (AliasND.kvec c.D c.N h)) ∧
      (mask c h = 0 → at2 (polynomial c 1 [c0, c1, c2, c3] #[Transform.rfftnM c.D c.N x]) 0 h = 0) :=
  AliasND.polynomial_cubic_alias_free_nd c hD hq hK hN 1 c0 c1 c2 c3 _ (fun _ => x) (fun _ _ => hx)
    (AliasND.single_getD _) 0 Nat.zero_lt_one h hh

/-- conservative multi-channel convection `½ ∂_j(u_i u_j)` (Burgers, KdV, KS-conservative in D dimensions), any channel
    count, every D: the alias-free convolution form on retained modes, 0 on dropped modes -/
theorem C03_convection_conservative_nd (c : Cfg ℂ) (hD : 0 < c.D) (hq : c.fq ≠ 0) (hK : 3 * Kc c < (c.N : ℤ))
    (hN : 0 < c.N) (C : ℕ) (scale : ℂ) (uh : MC ℂ) (xs : ℕ → Array ℂ)
    (hx : ∀ ch < C, AliasND.IsRealND c.D c.N (xs ch))
    (hu : ∀ ch < C, uh.getD ch #[] = Transform.rfftnM c.D c.N (xs ch)) (i : ℕ) (hi : i < C) (h : ℕ)
    (hh : h < numModes c.D c.N) :
    (mask c h = 1 → at2 (convection c C scale false true uh) i h =
        -scale * (1 / 2 * ∑ j ∈ Finset.range C, deriv c j h *
          AliasND.linConv c.D c.N (Kc c) (AliasND.dftV c.D c.N (xs j)) (AliasND.dftV c.D c.N (xs i))
            (AliasND.kvec c.D c.N h))) ∧
      (mask c h = 0 → at2 (convection c C scale false true uh) i h = 0) :=
  AliasND.convection_multi_conservative_alias_free_nd c hD hq hK hN C scale uh xs hx hu i hi h hh

/-- single-channel conservative convection and the Cahn–Hilliard cubic term, every D -/
theorem C03_single_channel_and_cahn_hilliard_nd (c : Cfg ℂ) (hD : 0 < c.D) (hq : c.fq ≠ 0) (hN : 0 < c.N)
    (scale : ℂ) (x : Array ℂ) (hx : AliasND.IsRealND c.D c.N x) (h : ℕ) (hh : h < numModes c.D c.N) :
    (3 * Kc c < (c.N : ℤ) → mask c h = 1 →
      at2 (convection c 1 scale true true #[Transform.rfftnM c.D c.N x]) 0 h =
        -scale * ((1 / 2 * ∑ d ∈ Finset.range c.D, deriv c d h) *
          AliasND.linConv c.D c.N (Kc c) (AliasND.dftV c.D c.N x) (AliasND.dftV c.D c.N x)
            (AliasND.kvec c.D c.N h))) ∧
    (4 * Kc c < (c.N : ℤ) → mask c h = 1 →
      at2 (cahnHilliard c scale #[Transform.rfftnM c.D c.N x]) 0 h =
        laplace c 2 h * AliasND.linConv3 c.D c.N (Kc c) (AliasND.dftV c.D c.N x) (AliasND.dftV c.D c.N x)
          (AliasND.dftV c.D c.N x) (AliasND.kvec c.D c.N h) * scale) := by
  refine ⟨fun hK hm => ?_, fun hK hm => ?_⟩
  · have := AliasND.convection_single_conservative_alias_free_nd c hD hq hK hN 1 scale
      #[Transform.rfftnM c.D c.N x] (fun _ => x) (fun _ _ => hx) (fun ch hch => by
        have : ch = 0 := by omega
        subst this; rfl) 0 (by omega) h hh
    exact this.1 hm
  · exact (AliasND.cahnHilliard_alias_free_nd c hD hq hK hN scale x hx h hh).1 hm

/-! ### the regenerated cut-off arithmetic -/

/-- the cut-off expression regenerated from `BaseNonlinearFun.__init__` is `frac·(N//2) − 1` … -/
theorem C03_generated_cutoff (N : ℕ) (f : ℚ) :
    Gen.Misc.dealias_cutoff N f = f * ((N / 2 : ℕ) : ℚ) - 1 := by
  have h : ((N / 2 + 1 : ℕ) : ℤ) - 1 = ((N / 2 : ℕ) : ℤ) := by omega
  show f * (((((N / 2 + 1 : ℕ) : ℤ) - 1 : ℤ)) : ℚ) - ((1 : ℕ) : ℚ) = _
  rw [h, Int.cast_natCast, Nat.cast_one]

/-- … and the retained band of the model is its integer part (rational evaluation; the binary64 evaluation of the
    same regenerated expression is what the check drives the model with, see `C03_effective_cutoff`) -/
theorem C03_generated_cutoff_floor (c : Cfg ℂ) (hq : c.fq ≠ 0) :
    ⌊Gen.Misc.dealias_cutoff c.N ((c.fp : ℚ) / (c.fq : ℚ))⌋ = Kc c := by
  rw [C03_generated_cutoff]
  have hq' : (c.fq : ℚ) ≠ 0 := by exact_mod_cast hq
  have h1 : (c.fp : ℚ) / (c.fq : ℚ) * ((c.N / 2 : ℕ) : ℚ) - 1
      = (((c.fp : ℤ) * ((c.N / 2 : ℕ) : ℤ) - (c.fq : ℤ) : ℤ) : ℚ) / ((c.fq : ℕ) : ℚ) := by
    rw [Int.cast_sub, Int.cast_mul, Int.cast_natCast, Int.cast_natCast, Int.cast_natCast]
    field_simp
  rw [h1, Rat.floor_intCast_div_natCast]
  rfl

example : ∃ c : Cfg ℂ, c.D = 1 ∧ c.fp = 2 ∧ c.fq = 3 ∧ 0 < c.N ∧ mask c 3 = 1 :=
  ⟨{ D := 1, N := 12, s := 1, fp := 2, fq := 3 }, rfl, rfl, rfl, by decide, by
    rw [mask_one _ rfl (by decide)]; simp [Kc]⟩

/-! ### gradient norm, non-conservative convection, 2-D vorticity and Gray–Scott in every dimension (`Proofs/AliasND2*.lean`)

`AliasND.dspec c d x p = (i s p_d)·x̂_p` is the spectrum of `∂_d x`; `uspec/vspec` those of the velocity
`(∂₁ψ, −∂₀ψ)`, `ψ̂ = Δ̂⁻¹ ω̂` (guarded at the mean mode). Real scale `s = 2π/L`. -/

/-- gradient norm `½|∇u|²`, every D, both values of the zero-mode fix -/
theorem C03_gradient_norm_nd (c : Cfg ℂ) (hD : 0 < c.D) (hq : c.fq ≠ 0) (hK : 3 * Kc c < (c.N : ℤ)) (hN : 0 < c.N)
    (s : ℝ) (hs : c.s = (s : ℂ)) (scale : ℂ) (zeroFix : Bool) (x : Array ℂ) (hx : AliasND.IsRealND c.D c.N x) (h : ℕ)
    (hh : h < numModes c.D c.N) :
    (mask c h = 1 → at2 (gradientNorm c 1 scale zeroFix #[Transform.rfftnM c.D c.N x]) 0 h =
        if zeroFix = true ∧ h = 0 then 0 else
          -scale * (1 / 2) * ∑ d ∈ Finset.range c.D,
            AliasND.linConv c.D c.N (Kc c) (AliasND.dspec c d x) (AliasND.dspec c d x) (AliasND.kvec c.D c.N h)) ∧
      (mask c h = 0 → at2 (gradientNorm c 1 scale zeroFix #[Transform.rfftnM c.D c.N x]) 0 h = 0) :=
  AliasND.gradientNorm_alias_free_nd c hD hq hK hN s hs 1 scale zeroFix _ (fun _ => x) (fun _ _ => hx)
    (AliasND.single_getD _) 0 Nat.zero_lt_one h hh

/-- non-conservative multi-channel convection `(u·∇)u`, every D -/
theorem C03_convection_nonconservative_nd (c : Cfg ℂ) (hD : 0 < c.D) (hq : c.fq ≠ 0) (hK : 3 * Kc c < (c.N : ℤ))
    (hN : 0 < c.N) (s : ℝ) (hs : c.s = (s : ℂ)) (C : ℕ) (hC : C ≤ c.D) (scale : ℂ) (uh : MC ℂ) (xs : ℕ → Array ℂ)
    (hx : ∀ ch < C, AliasND.IsRealND c.D c.N (xs ch))
    (hu : ∀ ch < C, uh.getD ch #[] = Transform.rfftnM c.D c.N (xs ch)) (i : ℕ) (hi : i < C) (h : ℕ)
    (hh : h < numModes c.D c.N) :
    (mask c h = 1 → at2 (convection c C scale false false uh) i h =
        -scale * ∑ j ∈ Finset.range C,
          AliasND.linConv c.D c.N (Kc c) (AliasND.dftV c.D c.N (xs j)) (AliasND.dspec c j (xs i))
            (AliasND.kvec c.D c.N h)) ∧
      (mask c h = 0 → at2 (convection c C scale false false uh) i h = 0) :=
  AliasND.convection_multi_nc_alias_free_nd c hD hq hK hN s hs C hC scale uh xs hx hu i hi h hh

/-- 2-D vorticity convection `−b (u·∇)ω`, `u = ∇^⊥ Δ⁻¹ ω` -/
theorem C03_vorticity_2d (c : Cfg ℂ) (hD : c.D = 2) (hq : c.fq ≠ 0) (hK : 3 * Kc c < (c.N : ℤ)) (hN : 0 < c.N) (s : ℝ)
    (hs : c.s = (s : ℂ)) (scale : ℂ) (x : Array ℂ) (hx : AliasND.IsRealND c.D c.N x) (h : ℕ)
    (hh : h < numModes c.D c.N) :
    (mask c h = 1 → at2 (vorticity2d c scale none #[Transform.rfftnM c.D c.N x]) 0 h =
        -scale * (AliasND.linConv c.D c.N (Kc c) (AliasND.uspec c x) (AliasND.dspec c 0 x) (AliasND.kvec c.D c.N h) +
          AliasND.linConv c.D c.N (Kc c) (AliasND.vspec c x) (AliasND.dspec c 1 x) (AliasND.kvec c.D c.N h))) ∧
      (mask c h = 0 → at2 (vorticity2d c scale none #[Transform.rfftnM c.D c.N x]) 0 h = 0) :=
  AliasND.vorticity2d_alias_free c hD hq hK hN s hs scale x hx h hh

/-- Gray–Scott reaction (cubic, 1/2 rule), every D, both channels -/
theorem C03_gray_scott_nd (c : Cfg ℂ) (hD : 0 < c.D) (hq : c.fq ≠ 0) (hK : 4 * Kc c < (c.N : ℤ)) (hN : 0 < c.N)
    (feed kill : ℂ) (xa xb : Array ℂ) (hxa : AliasND.IsRealND c.D c.N xa) (hxb : AliasND.IsRealND c.D c.N xb) (h : ℕ)
    (hh : h < numModes c.D c.N) (hm : mask c h = 1) :
    at2 (reaction c 2 (grayScottReact feed kill) #[Transform.rfftnM c.D c.N xa, Transform.rfftnM c.D c.N xb]) 0 h =
        feed * ((if h = 0 then ((c.N ^ c.D : ℕ) : ℂ) else 0) - (Transform.rfftnM c.D c.N xa).getD h 0) -
          AliasND.linConv3 c.D c.N (Kc c) (AliasND.dftV c.D c.N xa) (AliasND.dftV c.D c.N xb) (AliasND.dftV c.D c.N xb)
            (AliasND.kvec c.D c.N h) ∧
    at2 (reaction c 2 (grayScottReact feed kill) #[Transform.rfftnM c.D c.N xa, Transform.rfftnM c.D c.N xb]) 1 h =
        -(feed + kill) * (Transform.rfftnM c.D c.N xb).getD h 0 +
          AliasND.linConv3 c.D c.N (Kc c) (AliasND.dftV c.D c.N xa) (AliasND.dftV c.D c.N xb) (AliasND.dftV c.D c.N xb)
            (AliasND.kvec c.D c.N h) :=
  (AliasND.grayScott_alias_free_nd c hD hq hK hN feed kill xa xb hxa hxb h hh).1 hm

/-! ### the 3-D rotational term, `general` and Belousov–Zhabotinsky (`Proofs/AliasND3*.lean`) -/

/-- the 3-D rotational term `P(u × ω)`, `ω = ∇ × u` (both cross products are the REGENERATED `cross_product_3d`):
    on retained modes the Leray projector symbol applied to the alias-free spectrum of
    `(u×ω)_e = Σ_j u_j ∂_e u_j − u_j ∂_j u_e`, zero on dropped modes -/
theorem C03_rotational_3d (c : Cfg ℂ) (hD : c.D = 3) (hq : c.fq ≠ 0) (hK : 3 * Kc c < (c.N : ℤ)) (hN : 0 < c.N) (s : ℝ)
    (hs : c.s = (s : ℂ)) (uh : MC ℂ) (xs : ℕ → Array ℂ) (hx : ∀ ch < 3, AliasND.IsRealND c.D c.N (xs ch))
    (hu : ∀ ch < 3, uh.getD ch #[] = Transform.rfftnM c.D c.N (xs ch)) (i : ℕ) (hi : i < 3) (h : ℕ)
    (hh : h < numModes c.D c.N) :
    (mask c h = 1 → at2 (projected3d c none uh) i h =
        ∑ e ∈ Finset.range 3, AliasND.lerayPsym c i e (AliasND.kvec c.D c.N h) * ∑ j ∈ Finset.range 3,
          (AliasND.linConv c.D c.N (Kc c) (AliasND.dftV c.D c.N (xs j)) (AliasND.dspec c e (xs j)) (AliasND.kvec c.D c.N h)
            - AliasND.linConv c.D c.N (Kc c) (AliasND.dftV c.D c.N (xs j)) (AliasND.dspec c j (xs e))
                (AliasND.kvec c.D c.N h))) ∧
      (mask c h = 0 → at2 (projected3d c none uh) i h = 0) :=
  AliasND.projected3d_alias_free_explicit c hD hq hK hN s hs uh xs hx hu i hi h hh

/-- the general nonlinear term `s₀u² + s₁·½∂(u²) + s₂·½|∇u|²` (model sign conventions), every D -/
theorem C03_general_nd (c : Cfg ℂ) (hD : 0 < c.D) (hq : c.fq ≠ 0) (hK : 3 * Kc c < (c.N : ℤ)) (hN : 0 < c.N) (s : ℝ)
    (hs : c.s = (s : ℂ)) (s0 s1 s2 : ℂ) (zeroFix : Bool) (x : Array ℂ) (hx : AliasND.IsRealND c.D c.N x) (h : ℕ)
    (hh : h < numModes c.D c.N) :
    (mask c h = 1 → at2 (general c 1 s0 s1 s2 zeroFix #[Transform.rfftnM c.D c.N x]) 0 h =
        s0 * AliasND.linConv c.D c.N (Kc c) (AliasND.dftV c.D c.N x) (AliasND.dftV c.D c.N x) (AliasND.kvec c.D c.N h)
        + s1 * ((1 / 2 * ∑ d ∈ Finset.range c.D, deriv c d h) *
            AliasND.linConv c.D c.N (Kc c) (AliasND.dftV c.D c.N x) (AliasND.dftV c.D c.N x) (AliasND.kvec c.D c.N h))
        + if zeroFix = true ∧ h = 0 then 0 else
            s2 * (1 / 2) * ∑ d ∈ Finset.range c.D,
              AliasND.linConv c.D c.N (Kc c) (AliasND.dspec c d x) (AliasND.dspec c d x) (AliasND.kvec c.D c.N h)) ∧
      (mask c h = 0 → at2 (general c 1 s0 s1 s2 zeroFix #[Transform.rfftnM c.D c.N x]) 0 h = 0) :=
  AliasND.general_alias_free_nd c hD hq hK hN s hs 1 s0 s1 s2 zeroFix _ (fun _ => x) (fun _ _ => hx)
    (AliasND.single_getD _) 0 Nat.zero_lt_one h hh

/-- Belousov–Zhabotinsky (quadratic: 2/3 rule), every D, three channels -/
theorem C03_belousov_zhabotinsky_nd (c : Cfg ℂ) (hD : 0 < c.D) (hq : c.fq ≠ 0) (hK : 3 * Kc c < (c.N : ℤ)) (hN : 0 < c.N)
    (xa xb xd : Array ℂ) (ha : AliasND.IsRealND c.D c.N xa) (hb : AliasND.IsRealND c.D c.N xb)
    (hd : AliasND.IsRealND c.D c.N xd) (h : ℕ) (hh : h < numModes c.D c.N) (hm : mask c h = 1) :
    at2 (reaction c 3 bzReact #[Transform.rfftnM c.D c.N xa, Transform.rfftnM c.D c.N xb, Transform.rfftnM c.D c.N xd]) 2 h
      = (Transform.rfftnM c.D c.N xa).getD h 0 - (Transform.rfftnM c.D c.N xd).getD h 0 ∧
    at2 (reaction c 3 bzReact #[Transform.rfftnM c.D c.N xa, Transform.rfftnM c.D c.N xb, Transform.rfftnM c.D c.N xd]) 1 h
      = (Transform.rfftnM c.D c.N xd).getD h 0 - (Transform.rfftnM c.D c.N xb).getD h 0
        - AliasND.linConv c.D c.N (Kc c) (AliasND.dftV c.D c.N xa) (AliasND.dftV c.D c.N xb) (AliasND.kvec c.D c.N h) := by
  have := (AliasND.bz_alias_free_nd c hD hq hK hN xa xb xd ha hb hd h hh).1 hm
  exact ⟨this.2.2, this.2.1⟩

/-! ### the `__call__` of EVERY nonlinear-function class, REGENERATED from its source on every run
(`Gen.NonlinFuns.*`, found by walking `exponax/**` for subclasses of `BaseNonlinearFun`), equals the model function all
the theorems above speak about — as whole multi-channel arrays.  The hypotheses are the source's own shape guards. -/
open Exponax.Gen.NonlinFuns in
theorem C03_generated_nonlinear_functions (c : Cfg ℂ) (C : ℕ) (scale s0 s1 s2 feed kill : ℂ) (coeffs : List ℂ)
    (single conservative zeroFix : Bool) (uh : MC ℂ) :
    PolynomialNonlinearFun_call c C coeffs uh = polynomial c C coeffs uh ∧
    ((if single = true then conservative = false → C = 1 else C = c.D) →
      ConvectionNonlinearFun_call c C scale single conservative uh = convection c C scale single conservative uh) ∧
    GradientNormNonlinearFun_call c C zeroFix scale uh = gradientNorm c C scale zeroFix uh ∧
    GeneralNonlinearFun_call c C (s0, s1, s2) zeroFix uh = general c C s0 s1 s2 zeroFix uh ∧
    (C = 2 → GrayScottNonlinearFun_call c C feed kill uh = reaction c C (grayScottReact feed kill) uh) ∧
    (C = 3 → BelousovZhabotinskyNonlinearFun_call c C uh = reaction c C bzReact uh) ∧
    (0 < C → CahnHilliardNonlinearFun_call c C scale uh = cahnHilliard c scale uh) ∧
    Leray_call c 2 uh = leray c uh ∧
    VorticityConvection2d_call c scale uh = vorticity2d c scale none uh ∧
    (c.D = 3 → ProjectedConvection3d_call c uh = projected3d c none uh) :=
  ⟨NonlinFunsEq.PolynomialNonlinearFun_call_eq c C coeffs uh,
   fun h => NonlinFunsEq.ConvectionNonlinearFun_call_eq c C scale single conservative uh h,
   NonlinFunsEq.GradientNormNonlinearFun_call_eq c C scale zeroFix uh,
   NonlinFunsEq.GeneralNonlinearFun_call_eq c C s0 s1 s2 zeroFix uh,
   fun h => NonlinFunsEq.GrayScottNonlinearFun_call_eq c C h feed kill uh,
   fun h => NonlinFunsEq.BelousovZhabotinskyNonlinearFun_call_eq c C h uh,
   fun h => NonlinFunsEq.CahnHilliardNonlinearFun_call_eq c C h scale uh,
   NonlinFunsEq.Leray_call_eq c uh, NonlinFunsEq.VorticityConvection2d_call_eq c scale uh,
   fun h => NonlinFunsEq.ProjectedConvection3d_call_eq c h uh⟩

/-- the Kolmogorov-forced variants (real scale `2π/L`; forcing mode `m ≥ 1` in 3-D) -/
theorem C03_generated_forced_functions (c : Cfg ℂ) (s : ℝ) (hs : c.s = (s : ℂ)) (scale gam : ℂ) (m : ℕ) (uh : MC ℂ) :
    Gen.NonlinFuns.VorticityConvection2dKolmogorov_call c scale m gam uh = vorticity2d c scale (some (m, gam)) uh ∧
    (c.D = 3 → 0 < m → Gen.NonlinFuns.ProjectedConvection3dKolmogorov_call c m gam uh = projected3d c (some (m, gam)) uh) :=
  ⟨NonlinFunsEq.VorticityConvection2dKolmogorov_call_eq c s hs scale m gam uh,
   fun hD hm => NonlinFunsEq.ProjectedConvection3dKolmogorov_call_eq c hD m hm gam uh⟩

/-- the class's own `fft` / `ifft` (mask included) are the model's `nfft` / `nifft` per channel; the regenerated class list has 13 entries -/
theorem C03_generated_transforms (c : Cfg ℂ) (C : ℕ) (u uh : MC ℂ) :
    Gen.NonlinFuns.BaseNonlinearFun_fft c C u = tabC C (fun i => nfft c (u.getD i #[])) ∧
    Gen.NonlinFuns.BaseNonlinearFun_ifft c C uh = tabC C (fun i => nifft c (uh.getD i #[])) ∧
    Gen.NonlinFuns.generated_classes.length = 13 := by
  refine ⟨NonlinFunsEq.BaseNonlinearFun_fft_eq c C u, NonlinFunsEq.BaseNonlinearFun_ifft_eq c C uh, ?_⟩
  rw [NonlinFunsEq.generated_classes_pinned]; rfl

/-! ### channels, every dimension, and the DOCUMENTED CONTINUOUS OPERATOR (library `Proofs/AliasMulti*.lean`): polynomial,
gradient-norm and general terms act channel-wise (whole-array equalities), so the alias-free statements hold per channel for any
C; single-channel non-conservative convection in every D; the linear convolution of band-limited coefficient families is the
coefficient family of the POINTWISE PRODUCT of the trigonometric polynomials in every D, and sampling on N > 3K (4K) points reads
it exactly; hence on the retained modes each term is the band truncation of the spectrum of the documented continuous operator
(½∂(u²), ½|∇u|², u Σ∂_d u, u³ — honest partial derivatives) applied to the continuous band-truncated field `PKfield` -/

open Exponax.AliasMulti Exponax.AliasND Exponax.Nonlin in
theorem C03_polynomial_is_channelwise :
    ∀ (c : Nonlin.Cfg ℂ) (C : ℕ) (coeffs : List ℂ) (uh : Nonlin.MC ℂ),
      ∀ ch < C,
        Array.getD (Nonlin.polynomial c C coeffs uh) ch #[] =
          Array.getD (Nonlin.polynomial c 1 coeffs #[Array.getD uh ch #[]]) 0 #[] := by
  intro c C coeffs uh ch hch
  rw [polynomial_getD c C coeffs uh ch hch, polynomial_getD c 1 coeffs _ 0 Nat.zero_lt_one]
  rfl

open Exponax.AliasMulti Exponax.AliasND Exponax.Nonlin in
theorem C03_gradient_norm_is_channelwise :
    ∀ (c : Nonlin.Cfg ℂ) (C : ℕ) (scale : ℂ) (zeroFix : Bool) (uh : Nonlin.MC ℂ),
      ∀ ch < C,
        Array.getD (Nonlin.gradientNorm c C scale zeroFix uh) ch #[] =
          Array.getD (Nonlin.gradientNorm c 1 scale zeroFix #[Array.getD uh ch #[]]) 0 #[] := by
  intro c C scale zeroFix uh ch hch
  rw [gradientNorm_getD c C scale zeroFix uh ch hch,
    gradientNorm_getD c 1 scale zeroFix #[uh.getD ch #[]] 0 Nat.zero_lt_one]
  rfl

open Exponax.AliasMulti Exponax.AliasND Exponax.Nonlin in
theorem C03_general_is_channelwise :
    ∀ (c : Nonlin.Cfg ℂ) (C : ℕ) (s0 s1 s2 : ℂ) (zeroFix : Bool) (uh : Nonlin.MC ℂ),
      ∀ ch < C,
        Array.getD (Nonlin.general c C s0 s1 s2 zeroFix uh) ch #[] =
          Array.getD (Nonlin.general c 1 s0 s1 s2 zeroFix #[Array.getD uh ch #[]]) 0 #[] := by
  intro c C s0 s1 s2 zeroFix uh ch hch
  unfold general
  simp only []
  rw [Nonlin.tab2_getD _ _ _ _ hch, Nonlin.tab2_getD _ _ _ _ Nat.zero_lt_one]
  apply Nonlin.tab_congr
  intro h _
  simp only [at2_eq]
  rw [C03_polynomial_is_channelwise c C _ uh ch hch, convection_single_conservative_channel c C _ uh ch hch,
    C03_gradient_norm_is_channelwise c C _ zeroFix uh ch hch]

open Exponax.AliasMulti Exponax.AliasND Exponax.Nonlin in
theorem C03_polynomial_quadratic_nd_channels :
    ∀ (c : Nonlin.Cfg ℂ),
      0 < c.D →
        c.fq ≠ 0 →
          3 * Alias.Kc c < ↑c.N →
            0 < c.N →
              ∀ (C : ℕ) (c0 c1 c2 : ℂ) (uh : Nonlin.MC ℂ) (xs : ℕ → Array ℂ),
                (∀ ch < C, AliasND.IsRealND c.D c.N (xs ch)) →
                  (∀ ch < C, Array.getD uh ch #[] = Transform.rfftnM c.D c.N (xs ch)) →
                    ∀ ch < C,
                      ∀ h < Layout.numModes c.D c.N,
                        (Nonlin.mask c h = 1 →
                            Nonlin.at2 (Nonlin.polynomial c C [c0, c1, c2] uh) ch h =
                              (c0 * if h = 0 then ↑(c.N ^ c.D) else 0) + c1 * (Transform.rfftnM c.D c.N (xs ch)).getD h 0 +
                                c2 *
                                  AliasND.linConv c.D c.N (Alias.Kc c) (AliasND.dftV c.D c.N (xs ch))
                                    (AliasND.dftV c.D c.N (xs ch)) (AliasND.kvec c.D c.N h)) ∧
                          (Nonlin.mask c h = 0 → Nonlin.at2 (Nonlin.polynomial c C [c0, c1, c2] uh) ch h = 0) :=
  @Exponax.AliasND.polynomial_quadratic_alias_free_nd

open Exponax.AliasMulti Exponax.AliasND Exponax.Nonlin in
theorem C03_polynomial_cubic_nd_channels :
    ∀ (c : Nonlin.Cfg ℂ),
      0 < c.D →
        c.fq ≠ 0 →
          4 * Alias.Kc c < ↑c.N →
            0 < c.N →
              ∀ (C : ℕ) (c0 c1 c2 c3 : ℂ) (uh : Nonlin.MC ℂ) (xs : ℕ → Array ℂ),
                (∀ ch < C, AliasND.IsRealND c.D c.N (xs ch)) →
                  (∀ ch < C, Array.getD uh ch #[] = Transform.rfftnM c.D c.N (xs ch)) →
                    ∀ ch < C,
                      ∀ h < Layout.numModes c.D c.N,
                        (Nonlin.mask c h = 1 →
                            Nonlin.at2 (Nonlin.polynomial c C [c0, c1, c2, c3] uh) ch h =
                              (c0 * if h = 0 then ↑(c.N ^ c.D) else 0) + c1 * (Transform.rfftnM c.D c.N (xs ch)).getD h 0 +
                                  c2 *
                                    AliasND.linConv c.D c.N (Alias.Kc c) (AliasND.dftV c.D c.N (xs ch))
                                      (AliasND.dftV c.D c.N (xs ch)) (AliasND.kvec c.D c.N h) +
                                c3 *
                                  AliasND.linConv3 c.D c.N (Alias.Kc c) (AliasND.dftV c.D c.N (xs ch))
                                    (AliasND.dftV c.D c.N (xs ch)) (AliasND.dftV c.D c.N (xs ch))
                                    (AliasND.kvec c.D c.N h)) ∧
                          (Nonlin.mask c h = 0 → Nonlin.at2 (Nonlin.polynomial c C [c0, c1, c2, c3] uh) ch h = 0) :=
  @Exponax.AliasND.polynomial_cubic_alias_free_nd

open Exponax.AliasMulti Exponax.AliasND Exponax.Nonlin in
theorem C03_gradient_norm_nd_channels :
    ∀ (c : Nonlin.Cfg ℂ),
      0 < c.D →
        c.fq ≠ 0 →
          3 * Alias.Kc c < ↑c.N →
            0 < c.N →
              ∀ (s : ℝ),
                c.s = ↑s →
                  ∀ (C : ℕ) (scale : ℂ) (zeroFix : Bool) (uh : Nonlin.MC ℂ) (xs : ℕ → Array ℂ),
                    (∀ ch < C, AliasND.IsRealND c.D c.N (xs ch)) →
                      (∀ ch < C, Array.getD uh ch #[] = Transform.rfftnM c.D c.N (xs ch)) →
                        ∀ ch < C,
                          ∀ h < Layout.numModes c.D c.N,
                            (Nonlin.mask c h = 1 →
                                Nonlin.at2 (Nonlin.gradientNorm c C scale zeroFix uh) ch h =
                                  if zeroFix = true ∧ h = 0 then 0
                                  else
                                    -scale * (1 / 2) *
                                      ∑ d ∈ Finset.range c.D,
                                        AliasND.linConv c.D c.N (Alias.Kc c) (AliasND.dspec c d (xs ch))
                                          (AliasND.dspec c d (xs ch)) (AliasND.kvec c.D c.N h)) ∧
                              (Nonlin.mask c h = 0 → Nonlin.at2 (Nonlin.gradientNorm c C scale zeroFix uh) ch h = 0) :=
  @Exponax.AliasND.gradientNorm_alias_free_nd

open Exponax.AliasMulti Exponax.AliasND Exponax.Nonlin in
theorem C03_general_nd_channels :
    ∀ (c : Nonlin.Cfg ℂ),
      0 < c.D →
        c.fq ≠ 0 →
          3 * Alias.Kc c < ↑c.N →
            0 < c.N →
              ∀ (s : ℝ),
                c.s = ↑s →
                  ∀ (C : ℕ) (s0 s1 s2 : ℂ) (zeroFix : Bool) (uh : Nonlin.MC ℂ) (xs : ℕ → Array ℂ),
                    (∀ ch < C, AliasND.IsRealND c.D c.N (xs ch)) →
                      (∀ ch < C, Array.getD uh ch #[] = Transform.rfftnM c.D c.N (xs ch)) →
                        ∀ ch < C,
                          ∀ h < Layout.numModes c.D c.N,
                            (Nonlin.mask c h = 1 →
                                Nonlin.at2 (Nonlin.general c C s0 s1 s2 zeroFix uh) ch h =
                                  s0 *
                                        AliasND.linConv c.D c.N (Alias.Kc c) (AliasND.dftV c.D c.N (xs ch))
                                          (AliasND.dftV c.D c.N (xs ch)) (AliasND.kvec c.D c.N h) +
                                      s1 *
                                        ((1 / 2 * ∑ d ∈ Finset.range c.D, Nonlin.deriv c d h) *
                                          AliasND.linConv c.D c.N (Alias.Kc c) (AliasND.dftV c.D c.N (xs ch))
                                            (AliasND.dftV c.D c.N (xs ch)) (AliasND.kvec c.D c.N h)) +
                                    if zeroFix = true ∧ h = 0 then 0
                                    else
                                      s2 * (1 / 2) *
                                        ∑ d ∈ Finset.range c.D,
                                          AliasND.linConv c.D c.N (Alias.Kc c) (AliasND.dspec c d (xs ch))
                                            (AliasND.dspec c d (xs ch)) (AliasND.kvec c.D c.N h)) ∧
                              (Nonlin.mask c h = 0 → Nonlin.at2 (Nonlin.general c C s0 s1 s2 zeroFix uh) ch h = 0) :=
  @Exponax.AliasND.general_alias_free_nd

open Exponax.AliasMulti Exponax.AliasND Exponax.Nonlin in
theorem C03_convection_single_nonconservative_nd :
    ∀ (c : Nonlin.Cfg ℂ),
      0 < c.D →
        c.fq ≠ 0 →
          3 * Alias.Kc c < ↑c.N →
            0 < c.N →
              ∀ (s : ℝ),
                c.s = ↑s →
                  ∀ (scale : ℂ) (x : Array ℂ),
                    AliasND.IsRealND c.D c.N x →
                      ∀ h < Layout.numModes c.D c.N,
                        (Nonlin.mask c h = 1 →
                            Nonlin.at2 (Nonlin.convection c 1 scale true false #[Transform.rfftnM c.D c.N x]) 0 h =
                              -scale *
                                ∑ d ∈ Finset.range c.D,
                                  AliasND.linConv c.D c.N (Alias.Kc c) (AliasND.dftV c.D c.N x) (AliasND.dspec c d x)
                                    (AliasND.kvec c.D c.N h)) ∧
                          (Nonlin.mask c h = 0 →
                            Nonlin.at2 (Nonlin.convection c 1 scale true false #[Transform.rfftnM c.D c.N x]) 0 h = 0) :=
  fun c hD hq hK hN s hs scale x hx h hh =>
    AliasND.convection_single_nc_alias_free_nd c hD hq hK hN s hs 1 Nat.zero_lt_one scale _ x hx rfl h hh

open Exponax.AliasMulti Exponax.AliasND Exponax.Nonlin in
theorem C03_convolution_is_product_nd :
    ∀ {D : ℕ} (s : ℝ) (K L : ℤ) (F G : (Fin D → ℤ) → ℂ) (ξ : Fin D → ℝ),
      tpoly s K F ξ * tpoly s L G ξ = tpoly s (K + L) (conv K L F G) ξ :=
  @Exponax.AliasMulti.tpoly_mul

open Exponax.AliasMulti Exponax.AliasND Exponax.Nonlin in
theorem C03_sampled_product_spectrum_nd :
    ∀ (D N : ℕ),
      0 < N →
        ∀ (K : ℤ),
          3 * K < ↑N →
            ∀ (F G : (Fin D → ℤ) → ℂ),
              ∀ h < Layout.numModes D N,
                (∀ (d : Fin D), |AliasND.kvec D N h d| ≤ K) →
                  (Transform.rfftnM D N
                          (Transform.tab (N ^ D) fun j ↦ (sampleTP D N K F).getD j 0 * (sampleTP D N K G).getD j 0)).getD
                      h 0 =
                    ↑(N ^ D) * conv K K F G (AliasND.kvec D N h) := by
  intro D N hN K hK F G h hh hk
  rw [rfftn_eq_dftV D N hN _ h hh, dftV_sampleTP_mul D N hN K hK F G _ hk]

open Exponax.AliasMulti Exponax.AliasND Exponax.Nonlin in
theorem C03_sampled_cubic_product_spectrum_nd :
    ∀ (D N : ℕ),
      0 < N →
        ∀ (K : ℤ),
          4 * K < ↑N →
            ∀ (F G H : (Fin D → ℤ) → ℂ),
              ∀ h < Layout.numModes D N,
                (∀ (d : Fin D), |AliasND.kvec D N h d| ≤ K) →
                  (Transform.rfftnM D N
                          (Transform.tab (N ^ D) fun j ↦
                            (sampleTP D N K F).getD j 0 * (sampleTP D N K G).getD j 0 * (sampleTP D N K H).getD j 0)).getD
                      h 0 =
                    ↑(N ^ D) * conv3 K F G H (AliasND.kvec D N h) := by
  intro D N hN K hK F G H h hh hk
  rw [rfftn_eq_dftV D N hN _ h hh, dftV_sampleTP_mul3 D N hN K hK F G H _ hk]

open Exponax.AliasMulti Exponax.AliasND Exponax.Nonlin in
theorem C03_dealiased_state_is_band_truncated_field :
    ∀ (c : Nonlin.Cfg ℂ),
      0 < c.D →
        c.fq ≠ 0 →
          0 < c.N →
            2 * Alias.Kc c < ↑c.N →
              ∀ (s : ℝ),
                s ≠ 0 →
                  ∀ (x : Array ℂ),
                    AliasND.IsRealND c.D c.N x →
                      ∀ j < c.N ^ c.D,
                        (Nonlin.nifft c (Transform.rfftnM c.D c.N x)).getD j 0 = PKfield c s x (gridPt s c.D c.N j) := by
  intro c hD hq hN h2 s hs0 x hx j hj
  rw [nifft_rfftn_eq_sampleTP c hD hq hN h2 x hx j hj, sampleTP_eq_tpoly c.D c.N s hs0 _ _ j hj]
  rfl

open Exponax.AliasMulti Exponax.AliasND Exponax.Nonlin in
theorem C03_convection_is_continuous_operator_nd :
    ∀ (c : Nonlin.Cfg ℂ),
      0 < c.D →
        c.fq ≠ 0 →
          3 * Alias.Kc c < ↑c.N →
            0 < c.N →
              ∀ (s : ℝ),
                c.s = ↑s →
                  ∀ (b : ℂ) (x : Array ℂ),
                    AliasND.IsRealND c.D c.N x →
                      HasCoeffs s (Alias.Kc c + Alias.Kc c) (opConsConv b (PKfield c s x))
                          (consConvCoef s (Alias.Kc c) b (ucoef c x)) ∧
                        ∀ h < Layout.numModes c.D c.N,
                          (Nonlin.mask c h = 1 →
                              Nonlin.at2 (Nonlin.convection c 1 b true true #[Transform.rfftnM c.D c.N x]) 0 h =
                                ↑(c.N ^ c.D) * consConvCoef s (Alias.Kc c) b (ucoef c x) (AliasND.kvec c.D c.N h)) ∧
                            (Nonlin.mask c h = 0 →
                              Nonlin.at2 (Nonlin.convection c 1 b true true #[Transform.rfftnM c.D c.N x]) 0 h = 0) :=
  @Exponax.AliasMulti.convection_conservative_continuous_nd

open Exponax.AliasMulti Exponax.AliasND Exponax.Nonlin in
theorem C03_gradient_norm_is_continuous_operator_nd :
    ∀ (c : Nonlin.Cfg ℂ),
      0 < c.D →
        c.fq ≠ 0 →
          3 * Alias.Kc c < ↑c.N →
            0 < c.N →
              ∀ (s : ℝ),
                c.s = ↑s →
                  ∀ (b : ℂ) (zeroFix : Bool) (x : Array ℂ),
                    AliasND.IsRealND c.D c.N x →
                      HasCoeffs s (Alias.Kc c + Alias.Kc c) (opGradNorm b (PKfield c s x))
                          (gradNormCoef s (Alias.Kc c) b (ucoef c x)) ∧
                        (∀ h < Layout.numModes c.D c.N,
                            (Nonlin.mask c h = 1 →
                                Nonlin.at2 (Nonlin.gradientNorm c 1 b zeroFix #[Transform.rfftnM c.D c.N x]) 0 h =
                                  ↑(c.N ^ c.D) *
                                    if zeroFix = true ∧ AliasND.kvec c.D c.N h = 0 then 0
                                    else gradNormCoef s (Alias.Kc c) b (ucoef c x) (AliasND.kvec c.D c.N h)) ∧
                              (Nonlin.mask c h = 0 →
                                Nonlin.at2 (Nonlin.gradientNorm c 1 b zeroFix #[Transform.rfftnM c.D c.N x]) 0 h = 0)) ∧
                          (0 ≤ Alias.Kc c →
                            HasCoeffs s (Alias.Kc c + Alias.Kc c)
                              (fun ξ ↦ opGradNorm b (PKfield c s x) ξ - gradNormCoef s (Alias.Kc c) b (ucoef c x) 0) fun r ↦
                              if r = 0 then 0 else gradNormCoef s (Alias.Kc c) b (ucoef c x) r) :=
  @Exponax.AliasMulti.gradientNorm_continuous_nd

open Exponax.AliasMulti Exponax.AliasND Exponax.Nonlin in
theorem C03_cubic_is_continuous_operator_nd :
    ∀ (c : Nonlin.Cfg ℂ),
      0 < c.D →
        c.fq ≠ 0 →
          4 * Alias.Kc c < ↑c.N →
            0 < c.N →
              ∀ (s : ℝ) (c0 c1 c2 c3 : ℂ) (x : Array ℂ),
                AliasND.IsRealND c.D c.N x →
                  (0 ≤ Alias.Kc c →
                      HasCoeffs s (Alias.Kc c + Alias.Kc c + Alias.Kc c) (opPoly3 c0 c1 c2 c3 (PKfield c s x))
                        (poly3Coef (Alias.Kc c) c0 c1 c2 c3 (ucoef c x))) ∧
                    ∀ h < Layout.numModes c.D c.N,
                      (Nonlin.mask c h = 1 →
                          Nonlin.at2 (Nonlin.polynomial c 1 [c0, c1, c2, c3] #[Transform.rfftnM c.D c.N x]) 0 h =
                            ↑(c.N ^ c.D) * poly3Coef (Alias.Kc c) c0 c1 c2 c3 (ucoef c x) (AliasND.kvec c.D c.N h)) ∧
                        (Nonlin.mask c h = 0 →
                          Nonlin.at2 (Nonlin.polynomial c 1 [c0, c1, c2, c3] #[Transform.rfftnM c.D c.N x]) 0 h = 0) :=
  @Exponax.AliasMulti.polynomial_cubic_continuous_nd

open Exponax.AliasMulti Exponax.AliasND Exponax.Nonlin in
theorem C03_convection_nonconservative_is_continuous_operator_nd :
    ∀ (c : Nonlin.Cfg ℂ),
      0 < c.D →
        c.fq ≠ 0 →
          3 * Alias.Kc c < ↑c.N →
            0 < c.N →
              ∀ (s : ℝ),
                c.s = ↑s →
                  ∀ (b : ℂ) (x : Array ℂ),
                    AliasND.IsRealND c.D c.N x →
                      HasCoeffs s (Alias.Kc c + Alias.Kc c) (opNonConsConv b (PKfield c s x))
                          (nonConsConvCoef s (Alias.Kc c) b (ucoef c x)) ∧
                        ∀ h < Layout.numModes c.D c.N,
                          (Nonlin.mask c h = 1 →
                              Nonlin.at2 (Nonlin.convection c 1 b true false #[Transform.rfftnM c.D c.N x]) 0 h =
                                ↑(c.N ^ c.D) * nonConsConvCoef s (Alias.Kc c) b (ucoef c x) (AliasND.kvec c.D c.N h)) ∧
                            (Nonlin.mask c h = 0 →
                              Nonlin.at2 (Nonlin.convection c 1 b true false #[Transform.rfftnM c.D c.N x]) 0 h = 0) :=
  @Exponax.AliasMulti.convection_single_nc_continuous_nd

end Exponax
