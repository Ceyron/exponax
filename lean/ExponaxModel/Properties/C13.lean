import ExponaxModel.Generated.Convert
import ExponaxModel.Generated.Etdrk
import ExponaxModel.Proofs.StepperSymbols
import ExponaxModel.Proofs.GenPreludeLemmas
/-
C13 — specific / generic / normalized / difficulty interfaces give the same dynamics.

The conversion functions are the definitions regenerated from
`exponax/stepper/generic/_utils.py`; the scaling covariance is proved on the
regenerated ETDRK definitions.
-/
set_option linter.unusedVariables false
namespace Exponax
open Exponax.Gen.Convert Exponax.Gen.Etdrk

/-- JAX's `.at[0].set(cs[0])` after an `enumerate` comprehension: entry 0 keeps its value, entry `j ≥ 1` is `f j` -/
theorem zipIdx_map_set_zero {K : Type} [Zero K] (f : ℕ → K → K) (cs : List K) :
    (List.map (fun (p : ℕ × K) => f p.1 p.2) (List.zip (List.range cs.length) cs)).set 0 (cs.getD 0 0)
      = cs.mapIdx (fun j a => if j = 0 then a else f j a) := by
  rw [zipIdx_map_eq_mapIdx]
  cases cs with
  | nil => rfl
  | cons a cs => simp only [List.mapIdx_cons, List.set_cons_zero, List.getD_cons_zero, if_true, Nat.succ_ne_zero, if_false]

theorem mapIdx_mapIdx_cancel {α β : Type} (f : ℕ → α → β) (g : ℕ → β → α) (cs : List α) (h : ∀ j a, g j (f j a) = a) :
    (cs.mapIdx f).mapIdx g = cs := by
  apply List.ext_getElem (by rw [List.length_mapIdx, List.length_mapIdx])
  intro i h1 h2
  rw [List.getElem_mapIdx, List.getElem_mapIdx]
  exact h _ _

variable {K : Type} [Field K]

/-- the exponent `j − 1` of `2.0 ** (j - 1)` is an integer in the source; for `j ≥ 1` it is the natural power -/
theorem two_zpow_pred (j : ℕ) (hj : j ≠ 0) : (2 : K) ^ ((j : ℤ) - 1) = 2 ^ (j - 1) := by
  rw [← zpow_natCast, Nat.cast_pred (Nat.pos_of_ne_zero hj)]

/-- α_j = a_j · dt / L^j -/
theorem C13_normalize_coefficients_formula (cs : List K) (L dt : K) :
    normalize_coefficients cs L dt = cs.mapIdx (fun j a => a * dt / L ^ j) := by
  simp only [normalize_coefficients, npow_eq]
  exact zipIdx_map_eq_mapIdx (fun j a => a * dt / L ^ j) cs

/-- a_j = α_j / dt · L^j -/
theorem C13_denormalize_coefficients_formula (cs : List K) (L dt : K) :
    denormalize_coefficients cs L dt = cs.mapIdx (fun j a => a / dt * L ^ j) := by
  simp only [denormalize_coefficients, npow_eq]
  exact zipIdx_map_eq_mapIdx (fun j a => a / dt * L ^ j) cs

theorem C13_convection_scale_formula (b L dt : K) :
    normalize_convection_scale b L dt = b * dt / L ∧ denormalize_convection_scale b L dt = b / dt * L :=
  ⟨rfl, rfl⟩

theorem C13_gradient_norm_scale_formula (b L dt : K) :
    normalize_gradient_norm_scale b L dt = b * dt / L ^ 2 ∧
    denormalize_gradient_norm_scale b L dt = b / dt * L ^ 2 := by
  simp [normalize_gradient_norm_scale, denormalize_gradient_norm_scale]

theorem C13_polynomial_scales_formula (cs : List K) (L dt : K) :
    normalize_polynomial_scales cs L dt = cs.map (· * dt) ∧
    denormalize_polynomial_scales cs L dt = cs.map (· / dt) := ⟨rfl, rfl⟩

/-- γ₀ = α₀, γ_j = α_j · N^j · 2^{j−1} · D -/
theorem C13_difficulty_coefficients_formula (cs : List K) (D N : ℕ) :
    reduce_normalized_coefficients_to_difficulty cs D N
      = cs.mapIdx (fun j a => if j = 0 then a else a * (N : K) ^ j * 2 ^ (j - 1) * (D : K)) := by
  simp only [reduce_normalized_coefficients_to_difficulty]
  rw [zipIdx_map_set_zero (fun j a => a * lit (N ^ j) * zpowK (lit 2) ((j : ℤ) - 1) * lit D)]
  congr 1
  funext j a
  split_ifs with hj
  · rfl
  · rw [zpowK_eq, lit_eq, lit_eq, lit_eq, Nat.cast_pow, Nat.cast_ofNat, two_zpow_pred j hj]

/-- α₀ = γ₀, α_j = γ_j / (N^j · 2^{j−1} · D) -/
theorem C13_extract_coefficients_formula (cs : List K) (D N : ℕ) :
    extract_normalized_coefficients_from_difficulty cs D N
      = cs.mapIdx (fun j g => if j = 0 then g else g / ((N : K) ^ j * 2 ^ (j - 1) * (D : K))) := by
  simp only [extract_normalized_coefficients_from_difficulty]
  rw [zipIdx_map_set_zero (fun j g => g / (lit (N ^ j) * zpowK (lit 2) ((j : ℤ) - 1) * lit D))]
  congr 1
  funext j a
  split_ifs with hj
  · rfl
  · rw [zpowK_eq, lit_eq, lit_eq, lit_eq, Nat.cast_pow, Nat.cast_ofNat, two_zpow_pred j hj]

/-- δ = β · M · N · D (convection), δ = β · M · N² · D (gradient norm) -/
theorem C13_difficulty_scales_formula (b M : K) (D N : ℕ) :
    reduce_normalized_convection_scale_to_difficulty b D N M = b * M * N * D ∧
    extract_normalized_convection_scale_from_difficulty b D N M = b / (M * N * D) ∧
    reduce_normalized_gradient_norm_scale_to_difficulty b D N M = b * M * (N : K) ^ 2 * D ∧
    extract_normalized_gradient_norm_scale_from_difficulty b D N M = b / (M * (N : K) ^ 2 * D) := by
  simp [reduce_normalized_convection_scale_to_difficulty, extract_normalized_convection_scale_from_difficulty,
    reduce_normalized_gradient_norm_scale_to_difficulty, extract_normalized_gradient_norm_scale_from_difficulty]

/-! ### the conversions are mutual inverses -/

theorem C13_coefficients_inverse (cs : List K) (L dt : K) (hL : L ≠ 0) (hdt : dt ≠ 0) :
    denormalize_coefficients (normalize_coefficients cs L dt) L dt = cs ∧
    normalize_coefficients (denormalize_coefficients cs L dt) L dt = cs := by
  simp only [C13_normalize_coefficients_formula, C13_denormalize_coefficients_formula]
  exact ⟨mapIdx_mapIdx_cancel _ _ cs fun j a => by field_simp,
    mapIdx_mapIdx_cancel _ _ cs fun j a => by field_simp⟩

theorem C13_convection_scale_inverse (b L dt : K) (hL : L ≠ 0) (hdt : dt ≠ 0) :
    denormalize_convection_scale (normalize_convection_scale b L dt) L dt = b ∧
    normalize_convection_scale (denormalize_convection_scale b L dt) L dt = b := by
  simp only [normalize_convection_scale, denormalize_convection_scale]
  constructor <;> field_simp

theorem C13_gradient_norm_scale_inverse (b L dt : K) (hL : L ≠ 0) (hdt : dt ≠ 0) :
    denormalize_gradient_norm_scale (normalize_gradient_norm_scale b L dt) L dt = b ∧
    normalize_gradient_norm_scale (denormalize_gradient_norm_scale b L dt) L dt = b := by
  simp only [normalize_gradient_norm_scale, denormalize_gradient_norm_scale, npow_eq]
  constructor <;> field_simp

theorem C13_polynomial_scales_inverse (cs : List K) (L dt : K) (hdt : dt ≠ 0) :
    denormalize_polynomial_scales (normalize_polynomial_scales cs L dt) L dt = cs ∧
    normalize_polynomial_scales (denormalize_polynomial_scales cs L dt) L dt = cs := by
  simp only [normalize_polynomial_scales, denormalize_polynomial_scales, List.map_map]
  constructor <;> refine (List.map_congr_left fun a _ => ?_).trans (List.map_id cs)
  · exact mul_div_cancel_right₀ a hdt
  · exact div_mul_cancel₀ a hdt

theorem C13_difficulty_coefficients_inverse (cs : List K) (D N : ℕ) (hD : (D : K) ≠ 0) (hN : (N : K) ≠ 0)
    (h2 : (2 : K) ≠ 0) :
    extract_normalized_coefficients_from_difficulty (reduce_normalized_coefficients_to_difficulty cs D N) D N = cs ∧
    reduce_normalized_coefficients_to_difficulty (extract_normalized_coefficients_from_difficulty cs D N) D N = cs := by
  simp only [C13_difficulty_coefficients_formula, C13_extract_coefficients_formula]
  have hc : ∀ j : ℕ, (N : K) ^ j * 2 ^ (j - 1) * (D : K) ≠ 0 := fun j =>
    mul_ne_zero (mul_ne_zero (pow_ne_zero _ hN) (pow_ne_zero _ h2)) hD
  constructor
  · refine mapIdx_mapIdx_cancel _ _ cs fun j a => ?_
    split_ifs
    · rfl
    · rw [mul_assoc, mul_assoc, ← mul_assoc (_ ^ j), mul_div_cancel_right₀ _ (hc j)]
  · refine mapIdx_mapIdx_cancel _ _ cs fun j a => ?_
    split_ifs
    · rfl
    · rw [mul_assoc, mul_assoc, ← mul_assoc (_ ^ j), div_mul_cancel₀ _ (hc j)]

theorem C13_difficulty_scales_inverse (b M : K) (D N : ℕ) (hD : (D : K) ≠ 0) (hN : (N : K) ≠ 0) (hM : M ≠ 0) :
    extract_normalized_convection_scale_from_difficulty
      (reduce_normalized_convection_scale_to_difficulty b D N M) D N M = b ∧
    reduce_normalized_convection_scale_to_difficulty
      (extract_normalized_convection_scale_from_difficulty b D N M) D N M = b ∧
    extract_normalized_gradient_norm_scale_from_difficulty
      (reduce_normalized_gradient_norm_scale_to_difficulty b D N M) D N M = b ∧
    reduce_normalized_gradient_norm_scale_to_difficulty
      (extract_normalized_gradient_norm_scale_from_difficulty b D N M) D N M = b := by
  simp only [reduce_normalized_convection_scale_to_difficulty, extract_normalized_convection_scale_from_difficulty,
    reduce_normalized_gradient_norm_scale_to_difficulty, extract_normalized_gradient_norm_scale_from_difficulty, lit_eq]
  push_cast
  refine ⟨?_, ?_, ?_, ?_⟩ <;> field_simp

theorem C13_nonlinear_scales_inverse (s : K × K × K) (M : K) (D N : ℕ) (hD : (D : K) ≠ 0) (hN : (N : K) ≠ 0)
    (hM : M ≠ 0) :
    extract_normalized_nonlinear_scales_from_difficulty
      (reduce_normalized_nonlinear_scales_to_difficulty s D N M) D N M = s ∧
    reduce_normalized_nonlinear_scales_to_difficulty
      (extract_normalized_nonlinear_scales_from_difficulty s D N M) D N M = s := by
  obtain ⟨a, b, c⟩ := s
  have h := C13_difficulty_scales_inverse b M D N hD hN hM
  have h' := C13_difficulty_scales_inverse c M D N hD hN hM
  simp only [extract_normalized_nonlinear_scales_from_difficulty, reduce_normalized_nonlinear_scales_to_difficulty]
  exact ⟨by rw [h.1, h'.2.2.1], by rw [h.2.1, h'.2.2.2]⟩

/-! ### only the non-dimensional groups matter: scaling covariance of the regenerated ETDRK code -/

/-- `_exp_term(dt, λ) = _exp_term(1, dt·λ)`: the propagator depends on `dt·λ` only -/
theorem C13_exp_term_scaling (dt lam : ℂ) : exp_term dt lam = exp_term 1 (dt * lam) := by
  simp [exp_term]

/-- each coefficient is `dt ×` the coefficient of the normalised problem (`dt = 1`, symbol `dt·λ`) -/
theorem C13_coef_scaling (dt lam r : ℂ) (M : ℕ) :
    E1_coef_1 dt lam M r = dt * E1_coef_1 1 (lam * dt) M r ∧
    E2_coef_1 dt lam M r = dt * E2_coef_1 1 (lam * dt) M r ∧
    E2_coef_2 dt lam M r = dt * E2_coef_2 1 (lam * dt) M r ∧
    E4_coef_1 dt lam M r = dt * E4_coef_1 1 (lam * dt) M r ∧
    E4_coef_4 dt lam M r = dt * E4_coef_4 1 (lam * dt) M r ∧
    E4_coef_5 dt lam M r = dt * E4_coef_5 1 (lam * dt) M r ∧
    E4_coef_6 dt lam M r = dt * E4_coef_6 1 (lam * dt) M r := by
  simp [E1_coef_1, E2_coef_1, E2_coef_2, E4_coef_1, E4_coef_4, E4_coef_5, E4_coef_6]

/-- a step with coefficients `dt·c` and nonlinearity `N` equals the step with coefficients `c`
    and nonlinearity `dt·N` — together with the two lemmas above: `step(dt, λ, N) = step(1, dtλ, dt·N)` -/
theorem C13_step_scaling {V : Type} [CommRing V] (dt E Eh c1 c2 c3 c4 c5 c6 : V) (N : V → V) (u : V) :
    E1step E (dt * c1) N u = E1step E c1 (fun v => dt * N v) u ∧
    E2step E (dt * c1) (dt * c2) N u = E2step E c1 c2 (fun v => dt * N v) u ∧
    E3step E Eh (dt * c1) (dt * c2) (dt * c3) (dt * c4) (dt * c5) N u
      = E3step E Eh c1 c2 c3 c4 c5 (fun v => dt * N v) u ∧
    E4step E Eh (dt * c1) (dt * c2) (dt * c3) (dt * c4) (dt * c5) (dt * c6) N u
      = E4step E Eh c1 c2 c3 c4 c5 c6 (fun v => dt * N v) u := by
  have e1 : ∀ a b : V, dt * a * b = a * (dt * b) := fun a b => by ring
  have e2 : ∀ a b : V, (2 : V) * (dt * a) - dt * b = dt * (2 * a - b) := fun a b => by ring
  refine ⟨?_, ?_, ?_, ?_⟩
  · simp only [E1step, e1]
  · simp only [E2step, e1, ← mul_sub]
  · simp only [E3step, e1, lit_eq, Nat.cast_ofNat, e2]
  · have e3 : ∀ a b : V, dt * a + dt * b = dt * (a + b) := fun a b => by ring
    simp only [E4step, e1, lit_eq, Nat.cast_ofNat, e2, e3]
    ring

/-- symbol side of the normalisation: `dt · a·(s/L·κ)^j = (a·dt/L^j)·(s·κ)^j` -/
theorem C13_symbol_term_scaling (a dt L s κ : K) (j : ℕ) (hL : L ≠ 0) :
    dt * (a * (s / L * κ) ^ j) = (a * dt / L ^ j) * (s * κ) ^ j := by
  rw [div_mul_eq_mul_div, div_pow]
  ring

/-! ### one linear symbol for the whole generic family, regenerated from the six `_build_linear_operator` sources; the
Normalized… / Difficulty… classes inherit it (they only convert their arguments) -/
open Exponax.Gen.Steppers Exponax.Nonlin in
theorem C13_generated_family_symbol (c : Cfg ℂ) (h : ℕ) (a : List ℂ) :
    GeneralLinearStepper_linear_operator (kappa c h) a = polySymbol c (generalLinear c.D a) h ∧
    GeneralConvectionStepper_linear_operator (kappa c h) a = polySymbol c (generalLinear c.D a) h ∧
    GeneralGradientNormStepper_linear_operator (kappa c h) a = polySymbol c (generalLinear c.D a) h ∧
    GeneralPolynomialStepper_linear_operator (kappa c h) a = polySymbol c (generalLinear c.D a) h ∧
    GeneralNonlinearStepper_linear_operator (kappa c h) a = polySymbol c (generalLinear c.D a) h ∧
    GeneralVorticityConvectionStepper_linear_operator (kappa c h) a = polySymbol c (generalLinear c.D a) h :=
  ⟨GeneralLinearStepper_linear_operator_polySymbol c h a, GeneralConvectionStepper_linear_operator_polySymbol c h a,
   GeneralGradientNormStepper_linear_operator_polySymbol c h a, GeneralPolynomialStepper_linear_operator_polySymbol c h a,
   GeneralNonlinearStepper_linear_operator_polySymbol c h a,
   GeneralVorticityConvectionStepper_linear_operator_polySymbol c h a⟩

theorem C13_generated_inheritance : Gen.Steppers.inherited_classes =
    [("DifficultyConvectionStepper", "GeneralConvectionStepper"),
     ("DifficultyGradientNormStepper", "GeneralGradientNormStepper"),
     ("DifficultyLinearStepper", "GeneralLinearStepper"),
     ("DifficultyLinearStepperSimple", "GeneralLinearStepper"),
     ("DifficultyNonlinearStepper", "GeneralNonlinearStepper"),
     ("DifficultyPolynomialStepper", "GeneralPolynomialStepper"),
     ("NormalizedConvectionStepper", "GeneralConvectionStepper"),
     ("NormalizedGradientNormStepper", "GeneralGradientNormStepper"),
     ("NormalizedLinearStepper", "GeneralLinearStepper"),
     ("NormalizedNonlinearStepper", "GeneralNonlinearStepper"),
     ("NormalizedPolynomialStepper", "GeneralPolynomialStepper")] := coverage_inherited

/-- the specific steppers of the overview against their generic equivalents, on the regenerated symbols:
    Burgers = general(0, 0, ν), KS = general(0, 0, −a, 0, −b) -/
theorem C13_generated_specific_vs_generic (c : Nonlin.Cfg ℂ) (h : ℕ) (ν a b : ℂ) :
    Gen.Steppers.Burgers_linear_operator (Exponax.kappa c h) ν
      = Gen.Steppers.GeneralLinearStepper_linear_operator (Exponax.kappa c h) [0, 0, ν] ∧
    Gen.Steppers.KuramotoSivashinsky_linear_operator (Exponax.kappa c h) a b
      = Gen.Steppers.GeneralLinearStepper_linear_operator (Exponax.kappa c h) [0, 0, -a, 0, -b] := by
  constructor
  · rw [Burgers_linear_operator_eq, GeneralLinearStepper_linear_operator_eq]
    simp [Finset.sum_range_succ]
  · rw [KuramotoSivashinsky_linear_operator_eq, GeneralLinearStepper_linear_operator_eq]
    simp [Finset.sum_range_succ]
    ring

example : ((3 : ℕ) : ℚ) ≠ 0 ∧ ((16 : ℕ) : ℚ) ≠ 0 ∧ (2 : ℚ) ≠ 0 := by norm_num
example : normalize_coefficients [(1 : ℚ), 2, 3] 2 (1 / 2) = [1 / 2, 1 / 2, 3 / 8] := by
  rw [C13_normalize_coefficients_formula]; norm_num [List.mapIdx_cons]

end Exponax
