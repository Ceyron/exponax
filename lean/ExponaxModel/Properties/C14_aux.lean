import ExponaxModel.Model.Loops
import ExponaxModel.Proofs.LoopsGenEq
import ExponaxModel.Properties.C14
/-
C14 — `repeat(..., takes_aux=True)` and `RepeatedStepper.dt`, as REGENERATED from `exponax/_utils.py` and
`exponax/_repeated_stepper.py` (`Generated/LoopsGen.lean`), are the naive fold / the product `dt · num_sub_steps`.
From `repeat_aux_constant_eq`, `repeat_aux_sequence_eq_partial`, `repeat_aux_sequence_none`, `RepeatedStepper_dt_eq`
of `Proofs/LoopsGenEq.lean` (not among the conjuncts of `C14_generated_utilities`).
-/
namespace Exponax
open Exponax.Loops

/-- the regenerated `repeat(f, n, takes_aux=True, constant_aux=…)`:
    * constant aux `a`: the model's `repeatAux`, i.e. the `n`-fold application of `u ↦ f u a`;
    * aux sequence with exactly `n` entries: the model's `repeatAux`, i.e. the left fold of `f` over the sequence, in order;
    * aux sequence of any other length: rejected (`jax.lax.scan(..., length=n)` raises). -/
theorem C14_repeat_with_aux_is_the_fold {S A : Type} (f : S → A → S) (n : ℕ) (u0 : S) (a : A) (aux : List A) :
    (Gen.LoopsGen.repeat_aux_constant f n u0 a = some (Loops.repeatAux f n true u0 [a]) ∧
      Gen.LoopsGen.repeat_aux_constant f n u0 a = some (Loops.repeatN (fun v => f v a) n u0)) ∧
    (aux.length = n →
      Gen.LoopsGen.repeat_aux_sequence f n u0 aux = some (Loops.repeatAux f n false u0 aux) ∧
      Gen.LoopsGen.repeat_aux_sequence f n u0 aux = some (aux.foldl f u0)) ∧
    (aux.length ≠ n → Gen.LoopsGen.repeat_aux_sequence f n u0 aux = none) := by
  refine ⟨⟨Gen.LoopsGen.repeat_aux_constant_eq f n u0 a, ?_⟩, fun h => ⟨?_, ?_⟩,
    Gen.LoopsGen.repeat_aux_sequence_none f n u0 aux⟩
  · rw [Gen.LoopsGen.repeat_aux_constant_eq f n u0 a, C14_repeat_aux_constant]
  · exact Gen.LoopsGen.repeat_aux_sequence_eq_partial f n u0 aux h
  · rw [Gen.LoopsGen.repeat_aux_sequence_eq_partial f n u0 aux h, C14_repeat_aux, ← h, List.take_length]

/-- the regenerated `RepeatedStepper.dt` is the model's `repeatedDt`, i.e. `dt · num_sub_steps` -/
theorem C14_repeated_stepper_dt {K : Type} [Semiring K] (dt : K) (numSubSteps : ℕ) :
    Gen.LoopsGen.RepeatedStepper_dt dt numSubSteps = Loops.repeatedDt dt numSubSteps ∧
    Gen.LoopsGen.RepeatedStepper_dt dt numSubSteps = dt * (numSubSteps : K) :=
  ⟨Gen.LoopsGen.RepeatedStepper_dt_eq dt numSubSteps, rfl⟩

example : Gen.LoopsGen.repeat_aux_sequence (fun (u a : ℕ) => 2 * u + a) 3 0 [1, 2, 3] = some 11 := by
  rw [((C14_repeat_with_aux_is_the_fold (fun (u a : ℕ) => 2 * u + a) 3 0 0 [1, 2, 3]).2.1 rfl).2]
  rfl
example : ([1, 2, 3] : List ℕ).length = 3 ∧ ([1, 2] : List ℕ).length ≠ 3 := by decide
example : Gen.LoopsGen.RepeatedStepper_dt (2 : ℚ) 5 = 10 := by
  rw [(C14_repeated_stepper_dt (2 : ℚ) 5).2]; norm_num

end Exponax
