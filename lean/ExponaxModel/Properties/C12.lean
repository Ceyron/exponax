import ExponaxModel.Properties.C02
import ExponaxModel.Generated.Misc
import ExponaxModel.Model.EtdrkSpec
import ExponaxModel.Proofs.ReadOffForcing
import ExponaxModel.Proofs.NonlinFunsEq
import ExponaxModel.Proofs.LaminarEquilibriaExamples
import ExponaxModel.Proofs.Laminar3DShear
import ExponaxModel.Proofs.SpectralLayoutEq
/-
C12 — forcing terms inject exactly the documented field.
`Gen.Misc.forced_step*` are regenerated from `exponax/_forced_stepper.py`; `Gen.Etdrk.*` from `etdrk/`.
The injected coefficients themselves (`Nonlin.vorticity2d`, `Nonlin.projected3d`) are treated in
`Proofs/LerayAlgebra.lean` (`*_injection_documented`) and compared exactly with the implementation.
-/
set_option linter.unusedVariables false
namespace Exponax
open Exponax.Spec Exponax.Gen.Etdrk Exponax.Gen.Misc

/-- a forced stepper with forcing `f` equals the unforced step of `u + dt·f` … -/
theorem C12_forced_stepper {V : Type} [CommRing V] (inner : V → V) (dt u f : V) :
    forced_step inner dt u f = inner (u + dt * f) ∧ forced_step_fourier inner dt u f = inner (u + dt * f) :=
  ⟨rfl, rfl⟩

/-- … and with zero forcing equals the unforced stepper -/
theorem C12_forced_zero {V : Type} [CommRing V] (inner : V → V) (dt u : V) :
    forced_step inner dt u 0 = inner u ∧ forced_step_fourier inner dt u 0 = inner u := by
  simp [forced_step, forced_step_fourier]

/-- LAMINAR RECURRENCE.  On the forced mode the nonlinear term is the constant injection `f` (the convection
    term vanishes there), so every ETDRK order updates `a ↦ e^z a + dt φ₁(z) f` (C02: constant nonlinearity
    is integrated exactly by every order).  From rest, after `n` steps: `a_n = f (e^{n z} − 1)/σ`, `z = σ dt`:
    the laminar solution of the forced linear equation `a' = σ a + f`, for every `dt`, `n`, `σ ≠ 0`. -/
theorem C12_laminar_solution (σ dt f : ℂ) (hσ : σ ≠ 0) (hdt : dt ≠ 0) (n : ℕ) :
    (fun a => Complex.exp (σ * dt) * a + dt * phi1 (σ * dt) * f)^[n] 0
      = f * (Complex.exp (n * (σ * dt)) - 1) / σ := by
  rw [(Etdrk.iterate_on (fun _ => True) _ _ _ (fun _ _ => trivial) (fun _ _ => rfl) 0 trivial n).2, mul_zero, zero_add]
  exact Laminar.geom_phi1 σ dt f hσ hdt n

/-- the same update written with the four regenerated stage formulas (constant nonlinearity `N ≡ f`, exact
    coefficients): each order produces `e^z a + dt φ₁(z) f` -/
theorem C12_forced_mode_update (dt z f a : ℂ) (hz : z ≠ 0) :
    cm1 (Complex.exp z) (dt * phi1 z) (fun _ => f) a = Complex.exp z * a + dt * phi1 z * f ∧
    cm2 (Complex.exp z) (dt * phi1 z) (dt * phi2 z) (fun _ => f) a = Complex.exp z * a + dt * phi1 z * f :=
  ⟨(C02_constant_nonlinearity_exact dt z f a hz).1, (C02_constant_nonlinearity_exact dt z f a hz).2.1⟩

/-- the steady laminar amplitude `−f/σ` (for `Re σ < 0`, `n → ∞`) is a fixed point of the update -/
theorem C12_laminar_steady (σ dt f : ℂ) (hσ : σ ≠ 0) (hdt : dt ≠ 0) :
    Complex.exp (σ * dt) * (-f / σ) + dt * phi1 (σ * dt) * f = -f / σ := by
  simp only [phi1, hasExp_complex]
  field_simp
  ring

example : ((-0.3 : ℂ)) ≠ 0 ∧ ((0.01 : ℂ)) ≠ 0 := by norm_num

/-! ### the injected spectra ARE the transforms of the documented forcing fields (every N with 2m < N) -/

/-- 2-D: at rest the vorticity term returns exactly `rfftn` of `−m s γ cos(m s x₁)`, the curl of `γ sin(m s x₁) e₀`,
    whatever the convection scale and dealiasing fraction -/
theorem C12_vorticity_forcing_field (c : Nonlin.Cfg ℂ) (s γ : ℝ) (hs : c.s = (s : ℂ)) (hD : c.D = 2) (scale : ℂ) (m : ℕ)
    (hm : 2 * m < c.N) (uh : Nonlin.MC ℂ) (h0 : ∀ h, Nonlin.at2 uh 0 h = 0) :
    (Nonlin.vorticity2d c scale (some (m, (γ : ℂ))) uh).getD 0 #[] =
      Transform.rfftnM 2 c.N (ReadOff.kolmogorovVorticity c.N m s γ) :=
  ReadOff.vorticity2d_injection_is_forcing_array c s γ hs hD scale m hm uh h0

/-- 3-D: at rest the velocity term returns `rfftn` of `γ sin(m s x₁)` in channel 0 and zero in channels 1, 2 -/
theorem C12_velocity_forcing_field (c : Nonlin.Cfg ℂ) (γ : ℝ) (hD : c.D = 3) (m : ℕ) (hm0 : 0 < m) (hm : 2 * m < c.N)
    (uh : Nonlin.MC ℂ) (h0 : ∀ i h, Nonlin.at2 uh i h = 0) :
    (Nonlin.projected3d c (some (m, (γ : ℂ))) uh).getD 0 #[] = Transform.rfftnM 3 c.N (ReadOff.kolmogorovVelocity c.N m γ) ∧
    (Nonlin.projected3d c (some (m, (γ : ℂ))) uh).getD 1 #[] = ExactLinear.vzero (Layout.numModes 3 c.N) ∧
    (Nonlin.projected3d c (some (m, (γ : ℂ))) uh).getD 2 #[] = ExactLinear.vzero (Layout.numModes 3 c.N) := by
  have hz : ∀ i < 3, i ≠ 0 →
      (Nonlin.projected3d c (some (m, (γ : ℂ))) uh).getD i #[] = ExactLinear.vzero (Layout.numModes 3 c.N) := by
    intro i hi hi0
    apply ExactLinear.array_ext_getD _ _ (Layout.numModes c.D c.N) (ReadOff.projected3d_channel_size c _ uh i hi)
      (by rw [hD]; simp)
    intro h hh
    have := ReadOff.projected3d_injection_is_forcing c γ hD m hm0 hm uh h0 i h hi hh
    rw [if_neg hi0] at this
    rw [ExactLinear.vzero_getD]
    exact this
  refine ⟨?_, hz 1 (by norm_num) one_ne_zero, hz 2 (by norm_num) two_ne_zero⟩
  rw [ReadOff.kolmogorovVelocity_eq]
  apply ExactLinear.array_ext_getD _ _ (Layout.numModes c.D c.N)
    (ReadOff.projected3d_channel_size c _ uh 0 (by norm_num)) (by rw [hD]; simp)
  intro h hh
  have := ReadOff.projected3d_injection_is_forcing c γ hD m hm0 hm uh h0 0 h (by norm_num) hh
  rw [if_pos rfl, hD] at this
  exact this

/-! ### the forced nonlinear functions REGENERATED from `_vorticity_convection.py` / `_projected_convection.py` (their
`__init__` builds the injection array) are the model terms of the theorems above -/
theorem C12_generated_forced_terms (c : Nonlin.Cfg ℂ) (s : ℝ) (hs : c.s = (s : ℂ)) (scale gam : ℂ) (m : ℕ)
    (uh : Nonlin.MC ℂ) :
    Gen.NonlinFuns.VorticityConvection2dKolmogorov_call c scale m gam uh = Nonlin.vorticity2d c scale (some (m, gam)) uh ∧
    (c.D = 3 → 0 < m →
      Gen.NonlinFuns.ProjectedConvection3dKolmogorov_call c m gam uh = Nonlin.projected3d c (some (m, gam)) uh) :=
  ⟨NonlinFunsEq.VorticityConvection2dKolmogorov_call_eq c s hs scale m gam uh,
   fun hD hm => NonlinFunsEq.ProjectedConvection3dKolmogorov_call_eq c hD m hm gam uh⟩

/-! ### the WHOLE spectrum along the laminar trajectory (library `Proofs/Laminar*.lean`): the 2-D vorticity convection term
vanishes identically on every shear spectrum (support on k₀ = 0), so from ANY shear state — in particular from rest — every
ETDRK order evolves the forced stepper by the scalar recurrence on the forced mode and leaves all other modes alone; with exact
coefficients the n-th iterate is f̂ (e^{nσdt} − 1)/σ at the forced mode and 0 elsewhere, and with the STORED contour
coefficients all four orders give one and the same trajectory Σ_i E^i · c₁ f̂ (any M, r).  3-D: the same for the two
Kolmogorov modes (`_partial`: the 3-D term vanishes on the two-mode shear spectra the trajectory visits, complex amplitudes
allowed; an arbitrary real profile f(x₁) is `C12_shear_3d_no_convection_every_profile` below). -/

open Exponax.Laminar Exponax.Laminar3D in
theorem C12_shear_flow_has_no_convection :
    ∀ (c : Nonlin.Cfg ℂ),
      0 < c.N →
        ∀ (scale : ℂ) (uh : Nonlin.MC ℂ),
          IsShear c uh → Nonlin.vorticity2d c scale none uh = Nonlin.tab2 1 (Nonlin.modes c) fun x x_1 ↦ 0 :=
  @Exponax.Laminar.vorticity2d_shear_zero

open Exponax.Laminar Exponax.Laminar3D in
theorem C12_injection_is_documented_field :
    ∀ (c : Nonlin.Cfg ℂ) (s γ : ℝ),
      c.s = ↑s →
        c.D = 2 →
          ∀ (scale : ℂ) (m : ℕ),
            2 * m < c.N →
              ∀ (h : ℕ),
                forcing c scale (some (m, ↑γ)) h = (Transform.rfftnM 2 c.N (ReadOff.kolmogorovVorticity c.N m s γ)).getD h 0 := by
  intro c s γ hs hD scale m hm h
  unfold forcing Conserve.liftNl
  have := ReadOff.vorticity2d_injection_is_forcing_array c s γ hs hD scale m hm
    (#[Transform.tab (Nonlin.modes c) (0 : ℕ → ℂ)] : Nonlin.MC ℂ) (fun h' => by
      rcases Nat.lt_or_ge h' (Nonlin.modes c) with hh | hh
      · rw [at2_singleton_tab _ _ _ hh]; rfl
      · unfold Nonlin.at2
        simp only [Array.getD, List.size_toArray, List.length_cons, List.length_nil, zero_add, Nat.lt_one_iff,
          dite_true]
        have := Nonlin.tab_getD_of_le (Nonlin.modes c) (0 : ℕ → ℂ) h' 0 hh
        simpa [Array.getD] using this)
  unfold Nonlin.at2
  rw [this]

open Exponax.Laminar Exponax.Laminar3D in
theorem C12_laminar_whole_spectrum_any_coefficients :
    ∀ (c : Nonlin.Cfg ℂ),
      0 < c.N →
        ∀ (scale : ℂ) (inj : Option (ℕ × ℂ)) (E Eh a1 a2 a3 a4 a5 a6 v : ℕ → ℂ),
          ShearSpec c v →
            ∀ (n : ℕ),
              (Gen.Etdrk.E4step E Eh a1 a2 a3 a4 a5 a6 (Conserve.liftNl c (Nonlin.vorticity2d c scale inj)))^[n] v =
                E ^ n * v + (∑ i ∈ Finset.range n, E ^ i) * ((a4 + 4 * a5 + a6) * forcing c scale inj) :=
  @Exponax.Laminar.laminar_E4

open Exponax.Laminar Exponax.Laminar3D in
theorem C12_laminar_from_rest_exact :
    ∀ (c : Nonlin.Cfg ℂ),
      c.D = 2 →
        ∀ (scale γ : ℂ) (m : ℕ),
          0 < m →
            2 * m < c.N →
              ∀ (σ dt : ℂ),
                σ ≠ 0 →
                  dt ≠ 0 →
                    ∀ (E Eh a1 a2 a3 a4 a5 a6 : ℕ → ℂ),
                      E m = Complex.exp (σ * dt) →
                        a4 m = dt * (Spec.phi1 (σ * dt) - 3 * Spec.phi2 (σ * dt) + 4 * Spec.phi3 (σ * dt)) →
                          a5 m = dt * (Spec.phi2 (σ * dt) - 2 * Spec.phi3 (σ * dt)) →
                            a6 m = dt * (4 * Spec.phi3 (σ * dt) - Spec.phi2 (σ * dt)) →
                              ∀ (n : ℕ),
                                (Gen.Etdrk.E4step E Eh a1 a2 a3 a4 a5 a6
                                        (Conserve.liftNl c (Nonlin.vorticity2d c scale (some (m, γ)))))^[n]
                                    0 =
                                  laminarSpectrum c γ m σ dt n := by
  intro c hD scale γ m hm0 hm σ dt hσ hdt E Eh a1 a2 a3 a4 a5 a6 hE h4 h5 h6 n
  rw [laminar_E4 c (Nat.zero_lt_of_lt hm) scale _ E Eh a1 a2 a3 a4 a5 a6 0 (shearSpec_zero c) n]
  refine from_rest_exact c hD scale γ m hm0 hm σ dt hσ hdt E (a4 + 4 * a5 + a6) hE ?_ n
  rw [Pi.add_apply, Pi.add_apply, Pi.mul_apply, h4, h5, h6, show (4 : ℕ → ℂ) m = 4 from rfl]
  ring

open Exponax.Laminar Exponax.Laminar3D in
theorem C12_laminar_from_rest_stored :
    ∀ (c : Nonlin.Cfg ℂ),
      c.D = 2 →
        ∀ (scale γ : ℂ) (m : ℕ),
          0 < m →
            2 * m < c.N →
              ∀ (dt r : ℂ) (M : ℕ) (L : ℕ → ℂ) (n : ℕ),
                (Gen.Etdrk.E4step (fun h ↦ Gen.Etdrk.exp_term dt (L h)) (fun h ↦ Gen.Etdrk.E4_half_exp_term dt (L h) M r)
                        (fun h ↦ Gen.Etdrk.E4_coef_1 dt (L h) M r) (fun h ↦ Gen.Etdrk.E4_coef_2 dt (L h) M r)
                        (fun h ↦ Gen.Etdrk.E4_coef_3 dt (L h) M r) (fun h ↦ Gen.Etdrk.E4_coef_4 dt (L h) M r)
                        (fun h ↦ Gen.Etdrk.E4_coef_5 dt (L h) M r) (fun h ↦ Gen.Etdrk.E4_coef_6 dt (L h) M r)
                        (Conserve.liftNl c (Nonlin.vorticity2d c scale (some (m, γ)))))^[n]
                    0 =
                  laminarStored c γ m dt (L m) r M n :=
  @Exponax.Laminar.laminar_stored_E4

open Exponax.Laminar Exponax.Laminar3D in
theorem C12_laminar_stored_is_exact_when_coefficient_is :
    ∀ (c : Nonlin.Cfg ℂ) (γ : ℂ) (m : ℕ) (dt σ r : ℂ) (M n : ℕ),
      σ ≠ 0 →
        dt ≠ 0 →
          Gen.Etdrk.E1_coef_1 dt σ M r = dt * Spec.phi1 (σ * dt) →
            laminarStored c γ m dt σ r M n = laminarSpectrum c γ m σ dt n := by
  intro c γ m dt σ r M n hσ hdt hc
  funext h
  unfold laminarStored laminarSpectrum
  by_cases he : h = m
  · rw [if_pos he, if_pos he, hc, C02_exp_term, mul_comm dt σ]
    exact geom_phi1 σ dt _ hσ hdt n
  · rw [if_neg he, if_neg he]

open Exponax.Laminar Exponax.Laminar3D in
theorem C12_unforced_shear_is_linear :
    ∀ (c : Nonlin.Cfg ℂ),
      0 < c.N →
        ∀ (scale : ℂ) (E Eh a1 a2 a3 a4 a5 a6 v : ℕ → ℂ),
          ShearSpec c v →
            ∀ (n : ℕ),
              (Gen.Etdrk.E4step E Eh a1 a2 a3 a4 a5 a6 (Conserve.liftNl c (Nonlin.vorticity2d c scale none)))^[n] v =
                E ^ n * v := by
  intro c hN scale E Eh a1 a2 a3 a4 a5 a6 v hv n
  rw [laminar_E4 c hN scale none E Eh a1 a2 a3 a4 a5 a6 v hv n, forcing_none c hN, mul_zero, mul_zero, add_zero]

open Exponax.Laminar Exponax.Laminar3D in
theorem C12_laminar_3d_stored :
    ∀ (c : Nonlin.Cfg ℂ),
      c.D = 3 →
        ∀ (s : ℝ),
          c.s = ↑s →
            s ≠ 0 →
              ∀ (m : ℕ),
                0 < m →
                  2 * m < c.N →
                    ∀ (gam dt r : ℂ) (M : ℕ) (L : ℕ → ℕ → ℂ) (n i h : ℕ),
                      (Gen.Etdrk.E1step (fun i h ↦ Gen.Etdrk.exp_term dt (L i h))
                                (fun i h ↦ Gen.Etdrk.E1_coef_1 dt (L i h) M r)
                                (liftNl3 c (Nonlin.projected3d c (some (m, gam)))))^[n]
                            0 i h =
                          (∑ j ∈ Finset.range n, Gen.Etdrk.exp_term dt (L i h) ^ j) *
                            (Gen.Etdrk.E1_coef_1 dt (L i h) M r * forcing3 c (some (m, gam)) i h) ∧
                        (Gen.Etdrk.E3step (fun i h ↦ Gen.Etdrk.exp_term dt (L i h))
                                  (fun i h ↦ Gen.Etdrk.E3_half_exp_term dt (L i h) M r)
                                  (fun i h ↦ Gen.Etdrk.E3_coef_1 dt (L i h) M r)
                                  (fun i h ↦ Gen.Etdrk.E3_coef_2 dt (L i h) M r)
                                  (fun i h ↦ Gen.Etdrk.E3_coef_3 dt (L i h) M r)
                                  (fun i h ↦ Gen.Etdrk.E3_coef_4 dt (L i h) M r)
                                  (fun i h ↦ Gen.Etdrk.E3_coef_5 dt (L i h) M r)
                                  (liftNl3 c (Nonlin.projected3d c (some (m, gam)))))^[n]
                              0 i h =
                            (∑ j ∈ Finset.range n, Gen.Etdrk.exp_term dt (L i h) ^ j) *
                              (Gen.Etdrk.E1_coef_1 dt (L i h) M r * forcing3 c (some (m, gam)) i h) ∧
                          (Gen.Etdrk.E4step (fun i h ↦ Gen.Etdrk.exp_term dt (L i h))
                                  (fun i h ↦ Gen.Etdrk.E4_half_exp_term dt (L i h) M r)
                                  (fun i h ↦ Gen.Etdrk.E4_coef_1 dt (L i h) M r)
                                  (fun i h ↦ Gen.Etdrk.E4_coef_2 dt (L i h) M r)
                                  (fun i h ↦ Gen.Etdrk.E4_coef_3 dt (L i h) M r)
                                  (fun i h ↦ Gen.Etdrk.E4_coef_4 dt (L i h) M r)
                                  (fun i h ↦ Gen.Etdrk.E4_coef_5 dt (L i h) M r)
                                  (fun i h ↦ Gen.Etdrk.E4_coef_6 dt (L i h) M r)
                                  (liftNl3 c (Nonlin.projected3d c (some (m, gam)))))^[n]
                              0 i h =
                            (∑ j ∈ Finset.range n, Gen.Etdrk.exp_term dt (L i h) ^ j) *
                              (Gen.Etdrk.E1_coef_1 dt (L i h) M r * forcing3 c (some (m, gam)) i h) := by
  intro c hD s hs hs0 m hm0 hm gam dt r M L n i h
  have hinj : (some (m, gam) : Option (ℕ × ℂ)) = none ∨ ∃ g, (some (m, gam) : Option (ℕ × ℂ)) = some (m, g) :=
    Or.inr ⟨gam, rfl⟩
  have h4 : (4 : ℕ → ℕ → ℂ) i h = 4 := rfl
  refine ⟨?_, ?_, ?_⟩
  · rw [(laminar3d_all c hD s hs hs0 m hm0 hm _ hinj _ 0 _ 0 0 0 0 0 0 (fun _ _ _ => rfl) n).1]
    simp only [Pi.add_apply, Pi.mul_apply, Pi.zero_apply, mul_zero, zero_add, Finset.sum_apply, Pi.pow_apply]
  · rw [(laminar3d_all c hD s hs hs0 m hm0 hm _ hinj _ _ _ _ _ _ _ 0 0 (fun _ _ _ => rfl) n).2.2.1]
    simp only [Pi.add_apply, Pi.mul_apply, Pi.zero_apply, mul_zero, zero_add, Finset.sum_apply, Pi.pow_apply]
    rw [EquilibriaStored.stored_E3_sum]
  · rw [(laminar3d_all c hD s hs hs0 m hm0 hm _ hinj _ _ _ _ _ _ _ _ 0 (fun _ _ _ => rfl) n).2.2.2]
    simp only [Pi.add_apply, Pi.mul_apply, Pi.zero_apply, mul_zero, zero_add, Finset.sum_apply, Pi.pow_apply, h4]
    rw [EquilibriaStored.stored_E4_sum]

open Exponax.Laminar Exponax.Laminar3D in
theorem C12_shear_3d_no_convection_partial :
    ∀ (c : Nonlin.Cfg ℂ),
      c.D = 3 →
        ∀ (s : ℝ),
          c.s = ↑s →
            s ≠ 0 →
              ∀ (m : ℕ),
                0 < m →
                  2 * m < c.N →
                    ∀ (uh : Nonlin.MC ℂ),
                      TwoMode c m uh →
                        ∀ (i h : ℕ), i < 3 → h < Nonlin.modes c → Nonlin.at2 (Nonlin.projected3d c none uh) i h = 0 :=
  @Exponax.Laminar3D.projected3d_shear_none_partial

/-! ### 3-D: the rotational term vanishes on EVERY real shear profile (f(x₁), 0, 0), any N, any mask, Nyquist content included
(discrete ∫u∂u = 0 for real grid fields) -/

open Exponax.SmallGaps3 in
theorem C12_shear_3d_no_convection_every_profile :
    ∀ (c : Nonlin.Cfg ℂ),
      c.D = 3 →
        0 < c.N →
          ∀ (s : ℝ),
            c.s = ↑s →
              s ≠ 0 →
                ∀ (f : ℕ → ℝ) (i h : ℕ),
                  Nonlin.at2 (Nonlin.projected3d c none #[Transform.rfftnM c.D c.N (profileField c f), #[], #[]]) i h = 0 :=
  fun c hD hN s hs hs0 f i h => projected3d_shear_real_all c hD hN s hs hs0 _ _ (shearSpec_of_profile c f) i h

open Exponax.SmallGaps3 in
theorem C12_discrete_integration_by_parts :
    ∀ (c : Nonlin.Cfg ℂ),
      0 < c.N →
        ∀ (x : Array ℂ),
          AliasND.IsRealND c.D c.N x →
            ∀ (ρ1 ρ2 : ℕ → ℂ),
              (∀ (h : ℕ), (Nonlin.mask c h * ρ1 h).im = 0) →
                (∀ (h : ℕ), (Nonlin.mask c h * ρ2 h).re = 0) →
                  ∑ j ∈ Finset.range (c.N ^ c.D),
                      (Nonlin.nifft c
                              (Transform.tab (Nonlin.modes c) fun h ↦ ρ1 h * (Transform.rfftnM c.D c.N x).getD h 0)).getD
                          j 0 *
                        (Nonlin.nifft c
                              (Transform.tab (Nonlin.modes c) fun h ↦ ρ2 h * (Transform.rfftnM c.D c.N x).getD h 0)).getD
                          j 0 =
                    0 :=
  @Exponax.SmallGaps3.sum_real_imag_mul_zero

/-! ### the scaling the injection is multiplied with: `build_scaling_array(mode="coef_extraction")`, REGENERATED from
`_spectral.py` on every run, is the model's `Layout.scaling … 2` that the regenerated injection arrays above use, and at the
forced 2-D mode `(0, m)` it is `N·N/2` for EVERY `0 < m` with `2m < N` — also the highest wavenumber `(N−1)/2` of an odd
grid, which carries no Nyquist special case -/
theorem C12_generated_injection_scaling (D N : ℕ) (hD : 1 ≤ D) (hN : 0 < N) (h : List ℕ) :
    Gen.SpectralLayout.build_scaling_array D N "coef_extraction" "ij" h = some (Layout.scaling D N 2 h : ℚ) :=
  build_scaling_array_coef_extraction D N hD hN h

theorem C12_injection_scaling_value_2d (c : Nonlin.Cfg ℂ) (hD : c.D = 2) (h m : ℕ) (hm : 0 < m) (hmN : 2 * m < c.N)
    (hk0 : Nonlin.kInt c 0 h = 0) (hk1 : Nonlin.kInt c 1 h = (m : ℤ)) :
    (Layout.scaling c.D c.N 2 (Layout.unflatten (Layout.wavenumberShape c.D c.N) h) : ℂ) = (c.N : ℂ) * ((c.N : ℂ) / 2) :=
  Nonlin.scaling_at_kolmogorov_2d c hD h m hm hmN hk0 hk1

/-- non-vacuity: an odd grid and its highest wavenumber -/
example : (0 : ℕ) < 4 ∧ 2 * 4 < 9 := by decide

end Exponax
