import ExponaxModel.Proofs.ZeroStateAssembled
/-
C19 — the zero state and the zero symbol on the REGENERATED assembled steps.

`Properties/C19.lean` states "the zero state stays zero" for the five stage formulas with arbitrary coefficient arrays and
the model terms.  Here the same clause is tied to the assembled steps `etdrkStep` / `baseStep` / `X_step` of
`Proofs/InterfaceAssembly*.lean`, `Proofs/InterfaceSpecific.lean`, `Proofs/InterfaceLinear.lean` (regenerated linear
operator, regenerated `_build_nonlinear_fun`, regenerated ETDRK coefficients, every order `p : ℕ`), and the clause
"coefficients are finite at λ = 0 exactly" to the regenerated stored coefficients evaluated at the symbol `0`.
Exact complex arithmetic; IEEE semantics are observed by the check, not modelled.
-/
namespace Exponax
open Exponax.Interface Exponax.Gen.Etdrk Exponax.Gen.StepperWiring Exponax.Gen.Steppers

/-- **zero state, every order.**  For every order `p : ℕ`, every time step, every symbol array `lam`, every contour
    `(M, r)` (no hypothesis on either: the coefficients may be anything) and every nonlinear map on spectra with
    `N 0 = 0`, the assembled ETDRK step maps the zero spectrum to the zero spectrum, and so does every rollout. -/
theorem C19_zero_state_fixed_by_every_order (p : ℕ) (dt : ℂ) (lam : Spec) (M : ℕ) (r : ℂ) (N : Spec → Spec)
    (hN : N 0 = 0) :
    etdrkStep p dt lam M r N 0 = 0 ∧ ∀ n : ℕ, (etdrkStep p dt lam M r N)^[n] 0 = 0 :=
  ⟨etdrkStep_zero p dt lam M r N hN, etdrkStep_rollout_zero p dt lam M r N hN⟩

/-- the same for `BaseStepper` with ANY class pieces: linear operator arbitrary, nonlinear function zero-preserving on
    the derivative operator `BaseStepper.__init__` hands to `_build_nonlinear_fun` -/
theorem C19_zero_state_fixed_by_base_stepper (b : BaseStepperArgs ℂ) (linop : List ℂ → ℂ)
    (nonlin : Nonlin.Cfg ℂ → Nonlin.MC ℂ → Nonlin.MC ℂ)
    (h : SmallGaps.ZeroPreserving (nonlin (baseCfg b.num_spatial_dims b.num_points b.domain_extent))) (n : ℕ) :
    (baseStep b linop nonlin)^[n] 0 = 0 :=
  Function.iterate_fixed (baseStep_zero b linop nonlin _ (fun _ => rfl) h) n

/-- **zero state, the regenerated steppers.**  For ALL constructor arguments (every order, `dt`, extent, resolution,
    coefficients, scales, flags, dealiasing fraction, contour) the assembled steps of the convection, gradient-norm,
    general-nonlinear and linear generic steppers, of Burgers, Korteweg–de Vries, both Kuramoto–Sivashinsky forms and of
    the five linear steppers keep the zero state zero over any number of steps: their regenerated nonlinear functions
    map the zero spectrum to the zero spectrum (`*_stepper_nonlinear_fun_eq` + the model terms). -/
theorem C19_zero_state_fixed_by_assembled_steppers (n : ℕ) :
    (∀ g : GeneralConvectionStepperArgs ℂ, (GeneralConvectionStepper_step g)^[n] 0 = 0) ∧
    (∀ g : GeneralGradientNormStepperArgs ℂ, (GeneralGradientNormStepper_step g)^[n] 0 = 0) ∧
    (∀ g : GeneralNonlinearStepperArgs ℂ, (GeneralNonlinearStepper_step g)^[n] 0 = 0) ∧
    (∀ g : GeneralLinearStepperArgs ℂ, (GeneralLinearStepper_step g)^[n] 0 = 0) ∧
    (∀ a : BurgersArgs ℂ, (Burgers_step a)^[n] 0 = 0) ∧
    (∀ a : KortewegDeVriesArgs ℂ, (KortewegDeVries_step a)^[n] 0 = 0) ∧
    (∀ a : KuramotoSivashinskyConservativeArgs ℂ, (KuramotoSivashinskyConservative_step a)^[n] 0 = 0) ∧
    (∀ a : KuramotoSivashinskyArgs ℂ, (KuramotoSivashinsky_step a)^[n] 0 = 0) ∧
    (∀ a : AdvectionArgs ℂ, (Advection_step a)^[n] 0 = 0) ∧
    (∀ a : DiffusionArgs ℂ, (Diffusion_step a)^[n] 0 = 0) ∧
    (∀ a : AdvectionDiffusionArgs ℂ, (AdvectionDiffusion_step a)^[n] 0 = 0) ∧
    (∀ a : DispersionArgs ℂ, (Dispersion_step a)^[n] 0 = 0) ∧
    (∀ a : HyperDiffusionArgs ℂ, (HyperDiffusion_step a)^[n] 0 = 0) :=
  ⟨fun g => Function.iterate_fixed (GeneralConvectionStepper_step_zero g) n,
   fun g => Function.iterate_fixed (GeneralGradientNormStepper_step_zero g) n,
   fun g => Function.iterate_fixed (GeneralNonlinearStepper_step_zero g) n,
   fun g => Function.iterate_fixed (GeneralLinearStepper_step_zero g) n,
   fun a => Function.iterate_fixed (Burgers_step_zero a) n,
   fun a => Function.iterate_fixed (KortewegDeVries_step_zero a) n,
   fun a => Function.iterate_fixed (KuramotoSivashinskyConservative_step_zero a) n,
   fun a => Function.iterate_fixed (KuramotoSivashinsky_step_zero a) n,
   fun a => Function.iterate_fixed (Advection_step_zero a) n,
   fun a => Function.iterate_fixed (Diffusion_step_zero a) n,
   fun a => Function.iterate_fixed (AdvectionDiffusion_step_zero a) n,
   fun a => Function.iterate_fixed (Dispersion_step_zero a) n,
   fun a => Function.iterate_fixed (HyperDiffusion_step_zero a) n⟩

/-- **polynomial family — PARTIAL** (the `←` half of "zero is a fixed point iff the constant coefficient vanishes").
    (i) if `c₀ = polynomial_coefficients[0]` is `0` (or the list is empty) the assembled `GeneralPolynomialStepper` step
    keeps the zero state zero over any rollout; (ii) the nonlinear term evaluated on the zero field is the CONSTANT field
    `c₀` (`polyEval cs 0 = c₀`), which is what a non-zero `c₀` injects; (iii) the converse cannot hold without
    non-degeneracy hypotheses: with `order = 0` the step is the exact linear propagator and fixes zero whatever `c₀`.
    NOT proved: for `1 ≤ order ≤ 4`, `dt ≠ 0`, at least one grid point and a non-vanishing mean-mode coefficient, a
    non-zero `c₀` moves the zero state (needs the forward transform of a constant field through `liftTermND`). -/
theorem C19_polynomial_zero_state_iff_no_constant_term_partial (g : GeneralPolynomialStepperArgs ℂ) :
    (g.polynomial_coefficients.getD 0 0 = 0 → ∀ n : ℕ, (GeneralPolynomialStepper_step g)^[n] 0 = 0) ∧
    Nonlin.polyEval g.polynomial_coefficients (0 : ℂ) = g.polynomial_coefficients.getD 0 0 ∧
    (g.order = 0 → ∀ n : ℕ, (GeneralPolynomialStepper_step g)^[n] 0 = 0) :=
  ⟨fun h0 n => Function.iterate_fixed (GeneralPolynomialStepper_step_zero g h0) n,
   Diff.polyEval_zero _,
   fun ho n => Function.iterate_fixed (GeneralPolynomialStepper_step_zero_of_order0 g ho) n⟩

open Exponax.ContourComplex in
/-- **λ = 0 exactly.**  At a mode whose linear symbol is exactly `0` (the mean mode of every equation without a
    zeroth-order term): the propagators are exactly `1`; for every contour with `r ≠ 0` no node `r ζ_j + 0·dt` is `0`,
    so no closed form is evaluated at its removable singularity (no division by zero); every one of the fourteen stored
    coefficients is within the contour error `|dt| k_i e^R q^M/(1 − q^M)`, `q = |r|/R < 1`, of `dt · φ_i(0)`,
    `φ_i(0) ∈ {1, 1/2, 1/6, 2/3}` (`phiAtZero`); with the code's defaults `M = 16`, `r = 1` within `1.7·10⁻¹² |dt|`. -/
theorem C19_stored_coefficients_at_zero_symbol (dt : ℂ) :
    (∀ (M : ℕ) (r : ℂ), exp_term dt 0 = 1 ∧ E3_half_exp_term dt 0 M r = 1 ∧ E4_half_exp_term dt 0 M r = 1) ∧
    (∀ (M : ℕ) (r : ℂ), r ≠ 0 → ∀ ζ ∈ (roots_of_unity M : List ℂ), r * ζ + 0 * dt ≠ 0) ∧
    (∀ (M : ℕ) (r : ℂ) (R : ℝ), 0 < M → r ≠ 0 → ‖r‖ < R → ∀ i : Fin 14,
      ‖storedCoef dt 0 M r i - dt * phiAtZero i‖
        ≤ ‖dt‖ * (coefWeight i * Real.exp R * (‖r‖ / R) ^ M / (1 - (‖r‖ / R) ^ M))) ∧
    (∀ i : Fin 14, ‖storedCoef dt 0 16 1 i - dt * phiAtZero i‖ ≤ ‖dt‖ * 1.7e-12) ∧
    phiAtZero = ![1, 1, 1 / 2, 1 / 2, 1, 1 / 6, 2 / 3, 1 / 6, 1 / 2, 1 / 2, 1 / 2, 1 / 6, 1 / 6, 1 / 6] :=
  ⟨fun M r => ⟨Conserve.exp_term_zero dt, Conserve.half_exp_term_zero_E3 dt r M, Conserve.half_exp_term_zero_E4 dt r M⟩,
   fun M r hr => nodes_ne_zero_at_zero_symbol M r dt hr,
   fun M r R hM hr hrR i => storedCoef_at_zero_symbol dt r M hM hr R hrR i,
   fun i => storedCoef_at_zero_symbol_default dt i,
   rfl⟩

/-- written out for the ETDRK1 / ETDRK2 / ETDRK4 weights at the defaults: `dt`, `dt/2`, `dt/6` up to `1.7·10⁻¹² |dt|` -/
theorem C19_stored_coefficients_at_zero_symbol_explicit (dt : ℂ) :
    ‖E1_coef_1 dt 0 16 1 - dt‖ ≤ ‖dt‖ * 1.7e-12 ∧
    ‖E2_coef_2 dt 0 16 1 - dt / 2‖ ≤ ‖dt‖ * 1.7e-12 ∧
    ‖E4_coef_4 dt 0 16 1 - dt / 6‖ ≤ ‖dt‖ * 1.7e-12 ∧
    ‖E4_coef_5 dt 0 16 1 - dt / 6‖ ≤ ‖dt‖ * 1.7e-12 ∧
    ‖E4_coef_6 dt 0 16 1 - dt / 6‖ ≤ ‖dt‖ * 1.7e-12 := by
  have e0 : dt * ContourComplex.phiAtZero 0 = dt := by simp [ContourComplex.phiAtZero]
  have e2 : dt * ContourComplex.phiAtZero 2 = dt / 2 := by simp [ContourComplex.phiAtZero]; ring
  have e6 : ∀ i : Fin 14, ContourComplex.phiAtZero i = 1 / 6 → dt * ContourComplex.phiAtZero i = dt / 6 :=
    fun i hi => by rw [hi, mul_one_div]
  have h0 := storedCoef_at_zero_symbol_default dt 0
  have h2 := storedCoef_at_zero_symbol_default dt 2
  have h11 := storedCoef_at_zero_symbol_default dt 11
  have h12 := storedCoef_at_zero_symbol_default dt 12
  have h13 := storedCoef_at_zero_symbol_default dt 13
  rw [ContourComplex.storedCoef_0, e0] at h0
  rw [ContourComplex.storedCoef_2, e2] at h2
  rw [ContourComplex.storedCoef_11, e6 11 (by simp [ContourComplex.phiAtZero])] at h11
  rw [ContourComplex.storedCoef_12, e6 12 (by simp [ContourComplex.phiAtZero])] at h12
  rw [ContourComplex.storedCoef_13, e6 13 (by simp [ContourComplex.phiAtZero])] at h13
  exact ⟨h0, h2, h11, h12, h13⟩

/-! non-vacuity: a nonlinear map with `N 0 = 0` that is not zero; a polynomial list without constant term (Fisher–KPP's
`[0, 0, −r]`); a contour satisfying the hypotheses (`M = 16`, `r = 1`, `R = 2`); a non-zero time step -/
example : ∃ N : Spec → Spec, N 0 = 0 ∧ N 1 ≠ 0 := ⟨fun u => u * u, by simp, by simp⟩
example : ([0, 0, -1] : List ℂ).getD 0 0 = 0 := rfl
example : (0 : ℕ) < 16 ∧ (1 : ℂ) ≠ 0 ∧ ‖(1 : ℂ)‖ < (2 : ℝ) := ⟨by norm_num, one_ne_zero, by norm_num⟩
example : ∃ g : GeneralPolynomialStepperArgs ℂ, g.polynomial_coefficients.getD 0 0 = 0 ∧ g.order = 2 :=
  ⟨{ num_spatial_dims := 1, domain_extent := 1, num_points := 8, dt := 1, linear_coefficients := [0, 0, 1],
     polynomial_coefficients := [0, 0, -1], order := 2, dealiasing_fraction := (2, 3), num_circle_points := 16,
     circle_radius := 1 }, rfl, rfl⟩

end Exponax
