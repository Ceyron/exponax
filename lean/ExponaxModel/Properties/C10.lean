import ExponaxModel.Proofs.LerayAlgebra
import ExponaxModel.Proofs.EtdrkStages
import ExponaxModel.Proofs.NonlinFunsEq
import ExponaxModel.Proofs.SpectralOpsEq
/-
C10 — incompressibility is enforced and preserved.

`Nonlin.leray`, `Nonlin.projected3d` are the hand-written mirrors of
`nonlin_fun/_leray.py`, `_projected_convection.py` (tied by the correspondence, and proved equal to the regenerated
`__call__`s in `C10_generated_projection`);
`Gen.Misc.cross_product_3d` and `Gen.Etdrk.E?step` are regenerated from the source.
`c.s = 2π/L` is real and non-zero; `h` ranges over every stored Fourier mode.
-/
namespace Exponax
open Exponax.Nonlin Exponax.Gen.Etdrk

/-- the Leray projection returns a field with zero spectral divergence, at every stored mode -/
theorem C10_leray_divfree (c : Cfg ℂ) (s : ℝ) (hs : c.s = (s : ℂ)) (hs0 : s ≠ 0) (uh : MC ℂ) (h : ℕ)
    (hh : h < modes c) :
    sumList ((List.range c.D).map (fun d => deriv c d h * at2 (leray c uh) d h)) = 0 :=
  leray_div_free c s hs hs0 uh h hh

/-- it is idempotent -/
theorem C10_leray_idem (c : Cfg ℂ) (s : ℝ) (hs : c.s = (s : ℂ)) (hs0 : s ≠ 0) (uh : MC ℂ) :
    leray c (leray c uh) = leray c uh :=
  leray_idempotent c s hs hs0 uh

/-- and leaves divergence-free fields unchanged -/
theorem C10_leray_id_on_divfree (c : Cfg ℂ) (uh : MC ℂ) (h : ℕ) (hh : h < modes c)
    (hdiv : sumList ((List.range c.D).map (fun d => deriv c d h * at2 uh d h)) = 0) (d : ℕ) (hd : d < c.D) :
    at2 (leray c uh) d h = at2 uh d h := by
  rw [at2_leray c uh d h hd hh]
  change specDiv c uh h = 0 at hdiv
  rw [hdiv]
  ring

/-- the projection is a per-mode matrix `δ_de − d_d d_e / Δ̂` acting on the channel vector -/
theorem C10_leray_matrix (c : Cfg ℂ) (uh : MC ℂ) (d h : ℕ) (hd : d < c.D) (hh : h < modes c) :
    at2 (leray c uh) d h
      = ∑ e ∈ Finset.range c.D, ((if d = e then 1 else 0) - deriv c d h * invLapZero c h * deriv c e h) * at2 uh e h :=
  at2_leray_matrix c uh d h hd hh

/-- the 3-D rotational convection term is divergence-free for every input, with and without the
    Kolmogorov injection -/
theorem C10_proj3d_divfree (c : Cfg ℂ) (s : ℝ) (hs : c.s = (s : ℂ)) (hs0 : s ≠ 0) (hD : c.D ≤ 3)
    (inj : Option (ℕ × ℂ)) (uh : MC ℂ) (h : ℕ) (hh : h < modes c) :
    sumList ((List.range c.D).map (fun d => deriv c d h * at2 (projected3d c inj uh) d h)) = 0 :=
  projected3d_div_free c s hs hs0 hD inj uh h hh

/-- the curl is divergence free (regenerated cross product) -/
theorem C10_div_curl (c : Cfg ℂ) (hD : c.D = 3) (h : ℕ) (u : ℂ × ℂ × ℂ) :
    vecDiv c h (proj3 (Gen.Misc.cross_product_3d (deriv c 0 h, deriv c 1 h, deriv c 2 h) u)) = 0 := by
  rw [vecDiv, hD, Finset.sum_range_succ, Finset.sum_range_succ, Finset.sum_range_one]
  -- `proj3 r 0`, `proj3 r 1`, `proj3 r 2` reduce to the components of `r`: the sum is `a · (a × u)`
  exact Cross.dot_cross_self_left (Nonlin.deriv c 0 h, Nonlin.deriv c 1 h, Nonlin.deriv c 2 h) u

/-! ### preservation by the ETDRK steppers

A spectrum is `U : mode → channel → ℂ`; the linear symbol of the velocity steppers is the same for
all channels, so every ETDRK coefficient array is of the form `fun h _ => e h`.  `N` is *any* map whose
output is divergence-free at every mode (C10_proj3d_divfree).  The statements are about the
regenerated stage formulas `Gen.Etdrk.E?step` at `V := ℕ → ℕ → ℂ`. -/

def DivFree (c : Cfg ℂ) (U : ℕ → ℕ → ℂ) : Prop := ∀ h, vecDiv c h (U h) = 0

theorem DivFree.add {c : Cfg ℂ} {U V : ℕ → ℕ → ℂ} (hU : DivFree c U) (hV : DivFree c V) : DivFree c (U + V) := by
  intro h
  show vecDiv c h (fun d => U h d + V h d) = 0
  rw [vecDiv_add, hU h, hV h, add_zero]

theorem DivFree.sub {c : Cfg ℂ} {U V : ℕ → ℕ → ℂ} (hU : DivFree c U) (hV : DivFree c V) : DivFree c (U - V) := by
  intro h
  have e : (U - V) h = fun d => U h d + -1 * V h d := by
    funext d
    simp [sub_eq_add_neg]
  rw [e, vecDiv_add, vecDiv_smul, hU h, hV h, mul_zero, add_zero]

theorem DivFree.smul {c : Cfg ℂ} {U : ℕ → ℕ → ℂ} (e : ℕ → ℂ) (hU : DivFree c U) :
    DivFree c ((fun (h : ℕ) (_ : ℕ) => e h) * U) := by
  intro h
  have : (((fun (h : ℕ) (_ : ℕ) => e h) * U) h) = (fun d => e h * U h d) := by funext d; rfl
  rw [this, vecDiv_smul, hU h, mul_zero]

theorem DivFree.natCast_mul {c : Cfg ℂ} {U : ℕ → ℕ → ℂ} (n : ℕ) (hU : DivFree c U) :
    DivFree c ((n : ℕ → ℕ → ℂ) * U) := by
  intro h
  have : (((n : ℕ → ℕ → ℂ) * U) h) = (fun d => (n : ℂ) * U h d) := by funext d; rfl
  rw [this, vecDiv_smul, hU h, mul_zero]

/-- every ETDRK order maps divergence-free spectra to divergence-free spectra -/
theorem C10_step_preserves (c : Cfg ℂ) (e eh a1 a2 a3 a4 a5 a6 : ℕ → ℂ) (N : (ℕ → ℕ → ℂ) → (ℕ → ℕ → ℂ))
    (hN : ∀ V, DivFree c (N V)) (U : ℕ → ℕ → ℂ) (hU : DivFree c U) :
    let b := fun (x : ℕ → ℂ) => (fun h (_ : ℕ) => x h)
    DivFree c (E0step (b e) U) ∧
    DivFree c (E1step (b e) (b a1) N U) ∧
    DivFree c (E2step (b e) (b a1) (b a2) N U) ∧
    DivFree c (E3step (b e) (b eh) (b a1) (b a2) (b a3) (b a4) (b a5) N U) ∧
    DivFree c (E4step (b e) (b eh) (b a1) (b a2) (b a3) (b a4) (b a5) (b a6) N U) := by
  intro b
  -- the coefficients are the arrays shared by all channels
  exact (Etdrk.etdrkAll_pred (P := DivFree c) (C := fun a => ∃ x : ℕ → ℂ, a = b x)
    (Etdrk.StepRel.pred DivFree.add DivFree.sub (fun ⟨x, hx⟩ hV => hx ▸ DivFree.smul x hV) ⟨fun _ => 2, rfl⟩)
    (fun V _ => hN V) ⟨e, rfl⟩ ⟨eh, rfl⟩ ⟨a1, rfl⟩ ⟨a2, rfl⟩ ⟨a3, rfl⟩ ⟨a4, rfl⟩ ⟨a5, rfl⟩ ⟨a6, rfl⟩).mono
    fun _ h => h U hU

/-- … hence over any number of steps (rollout of any length) -/
theorem C10_rollout_preserves (c : Cfg ℂ) (step : (ℕ → ℕ → ℂ) → (ℕ → ℕ → ℂ))
    (hstep : ∀ U, DivFree c U → DivFree c (step U)) (n : ℕ) (U : ℕ → ℕ → ℂ) (hU : DivFree c U) :
    DivFree c (step^[n] U) :=
  Function.Iterate.rec (DivFree c) hU hstep n

/-! non-vacuity: a configuration that meets the hypotheses on `c` (real non-zero scale, `D ≤ 3`, a stored mode) -/
example : ∃ c : Cfg ℂ, ∃ s : ℝ, c.s = (s : ℂ) ∧ s ≠ 0 ∧ c.D ≤ 3 ∧ 0 < modes c :=
  ⟨{ D := 3, N := 4, s := ((1 : ℝ) : ℂ), fp := 2, fq := 3 }, 1, rfl, one_ne_zero, by decide, by decide⟩

/-! ### the projection and the rotational term as REGENERATED from `nonlin_fun/_leray.py` and
`_projected_convection.py` are the model functions the theorems above are about -/
theorem C10_generated_projection (c : Nonlin.Cfg ℂ) (uh : Nonlin.MC ℂ) (m : ℕ) (gam : ℂ) :
    Gen.NonlinFuns.Leray_call c 2 uh = Nonlin.leray c uh ∧
    (c.D = 3 → Gen.NonlinFuns.ProjectedConvection3d_call c uh = Nonlin.projected3d c none uh) ∧
    (c.D = 3 → 0 < m →
      Gen.NonlinFuns.ProjectedConvection3dKolmogorov_call c m gam uh = Nonlin.projected3d c (some (m, gam)) uh) :=
  ⟨NonlinFunsEq.Leray_call_eq c uh, fun h => NonlinFunsEq.ProjectedConvection3d_call_eq c h uh,
   fun h hm => NonlinFunsEq.ProjectedConvection3dKolmogorov_call_eq c h m hm gam uh⟩

/-! ### `exponax.make_incompressible`, regenerated from `_spectral.py` on every run, is the Leray projection of the
theorems above between the model transforms -/
open Exponax.SpectralOpsEq in
theorem C10_generated_make_incompressible (D N : ℕ) (hD : 1 ≤ D) (hN : 0 < N) (field : MC ℂ) :
    Gen.SpectralOps.make_incompressible D N D "ij" field =
      tabC D (fun i => Transform.irfftnM D N
        ((leray (cfg D N 1) (tabC D (fun j => Transform.rfftnM D N (field.getD j #[])))).getD i #[])) :=
  make_incompressible_eq D N hD hN field

end Exponax
