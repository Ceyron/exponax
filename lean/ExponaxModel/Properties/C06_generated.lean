import ExponaxModel.Proofs.BatchGen
/-
C06 — the batch / rollout algebra for the loops REGENERATED from `exponax/_utils.py`
(`Generated/LoopsGen.lean`: `rollout`, `repeat` and their `include_init`, `takes_aux`, `constant_aux` variants), not for
the hand-written model.  Reading (the one the translators use): a batch of states is a `List S`, `vmap f` is
`List.map f`; a stepper with an auxiliary input mapped over both arguments is `fun us as => List.zipWith f us as`.
Entry `(t, b)` of a nested list `x` is `x[t]?.bind (·[b]?)`, so every statement below covers every pair of indices,
in or out of range.  The aux variants of the regenerated loops return an `Option` (`none` = the `ValueError` of
`jax.lax.scan(..., length=n)`), which is bound through.
Outside any theorem: XLA compilation and tracer semantics (see `C06.lean`).
-/
namespace Exponax
open Exponax.Loops Exponax.Gen.LoopsGen

/-- rolling out the mapped stepper (state = the whole batch) with the regenerated `rollout` gives the transpose of
    the batch of regenerated rollouts: entry `(t, b)` of one is entry `(b, t)` of the other — for every `n`, every
    batch, every `t` and `b`, with and without `include_init` -/
theorem C06_generated_rollout_of_mapped_stepper_is_transposed_map_of_rollouts {S : Type} (stepper : S → S) (n : ℕ)
    (includeInit : Bool) (batch : List S) (t b : ℕ) :
    ((rollout_noaux (List.map stepper) n includeInit batch)[t]?.bind fun x => x[b]?) =
      (batch.map (rollout_noaux stepper n includeInit))[b]?.bind fun x => x[t]? := by
  simp only [rollout_noaux_eq]
  exact rollout_map_transpose stepper n includeInit batch t b

/-- whole-array form: the regenerated rollout of the mapped stepper IS the list of the columns of the batch of
    regenerated rollouts: it has `n` (`n + 1` with `include_init`) time entries and time entry `t` is column `t` -/
theorem C06_generated_rollout_of_mapped_stepper_is_list_of_columns {S : Type} (stepper : S → S) (n : ℕ)
    (includeInit : Bool) (batch : List S) :
    rollout_noaux (List.map stepper) n includeInit batch =
      (List.range (if includeInit then n + 1 else n)).map
        (fun t => (batch.map (rollout_noaux stepper n includeInit)).filterMap (fun row => row[t]?)) := by
  simp only [rollout_noaux_eq]
  exact rollout_map_eq_columns stepper n includeInit batch

/-- shapes: the regenerated batched rollout has `n` (`n + 1`) time entries, each a batch of the size of the input;
    the batch of rollouts has one row per member, each with `n` (`n + 1`) entries -/
theorem C06_generated_rollout_shapes {S : Type} (stepper : S → S) (n : ℕ) (includeInit : Bool) (batch : List S) :
    (rollout_noaux (List.map stepper) n includeInit batch).length = (if includeInit then n + 1 else n) ∧
    (∀ x ∈ rollout_noaux (List.map stepper) n includeInit batch, x.length = batch.length) ∧
    (batch.map (rollout_noaux stepper n includeInit)).length = batch.length ∧
    (∀ x ∈ batch.map (rollout_noaux stepper n includeInit), x.length = (if includeInit then n + 1 else n)) := by
  simp only [rollout_noaux_eq]
  exact ⟨rollout_map_length stepper n includeInit batch, rollout_map_entry_length stepper n includeInit batch,
    List.length_map _, map_rollout_entry_length stepper n includeInit batch⟩

/-- value form: in range, entry `(t, b)` is the `t`-th (`t + 1`-st without `include_init`) iterate of the stepper on
    member `b` -/
theorem C06_generated_rollout_entry_value {S : Type} (stepper : S → S) (n : ℕ) (includeInit : Bool) (batch : List S)
    (t b : ℕ) (ht : t < (if includeInit then n + 1 else n)) (hb : b < batch.length) :
    ((rollout_noaux (List.map stepper) n includeInit batch)[t]?.bind fun x => x[b]?) =
      some (stepper^[if includeInit then t else t + 1] batch[b]) := by
  rw [rollout_noaux_eq]
  exact rollout_map_value stepper n includeInit batch t b ht hb

/-- member independence: two batches (of possibly different sizes) that agree at index `b` give the same member
    `b` of the regenerated batched rollout at every time -/
theorem C06_generated_member_independent {S : Type} (stepper : S → S) (n : ℕ) (includeInit : Bool)
    (batch batch' : List S) (b : ℕ) (h : batch[b]? = batch'[b]?) (t : ℕ) :
    ((rollout_noaux (List.map stepper) n includeInit batch)[t]?.bind fun x => x[b]?) =
      (rollout_noaux (List.map stepper) n includeInit batch')[t]?.bind fun x => x[b]? := by
  rw [rollout_noaux_eq]
  exact rollout_map_row_congr stepper n includeInit batch batch' b h t

/-- overwrite form: replacing another member `b' ≠ b` by anything leaves member `b` of the regenerated batched
    rollout unchanged -/
theorem C06_generated_no_cross_talk {S : Type} (stepper : S → S) (n : ℕ) (includeInit : Bool) (batch : List S)
    (b b' : ℕ) (hb : b' ≠ b) (x : S) (t : ℕ) :
    ((rollout_noaux (List.map stepper) n includeInit (batch.set b' x))[t]?.bind fun y => y[b]?) =
      (rollout_noaux (List.map stepper) n includeInit batch)[t]?.bind fun y => y[b]? := by
  rw [rollout_noaux_eq]
  exact rollout_map_row_set stepper n includeInit batch b b' hb x t

/-- the regenerated `repeat` of the mapped stepper is the mapped regenerated `repeat`, and its member `b` depends only
    on member `b` of the batch -/
theorem C06_generated_repeat_of_mapped_stepper {S : Type} (stepper : S → S) (n : ℕ) (batch batch' : List S) (b : ℕ)
    (h : batch[b]? = batch'[b]?) :
    repeat_noaux (List.map stepper) n batch = batch.map (repeat_noaux stepper n) ∧
    (repeat_noaux (List.map stepper) n batch)[b]? = (repeat_noaux (List.map stepper) n batch')[b]? := by
  simp only [repeat_noaux_eq]
  exact ⟨repeatN_map stepper n batch, repeatN_map_row_congr stepper n batch batch' b h⟩

/-- constant aux per member: the regenerated `rollout(…, takes_aux=True, constant_aux=True)` of the stepper mapped
    over (state, aux), applied to the batch and the batch of aux values, has entry `(t, b)` equal to entry `t` of the
    same regenerated rollout of the unmapped stepper on member `b` with aux `b` (each member needs an aux value) -/
theorem C06_generated_constant_aux_rollout_is_transposed_map_of_rollouts {S A : Type} (stepper : S → A → S) (n : ℕ)
    (includeInit : Bool) (batch : List S) (auxBatch : List A) (hl : batch.length ≤ auxBatch.length) (t b : ℕ) :
    (((rollout_aux_constant (fun us as => List.zipWith stepper us as) n includeInit batch auxBatch).bind
        fun x => x[t]?).bind fun x => x[b]?) =
      auxBatch[b]?.bind fun a => batch[b]?.bind fun u =>
        (rollout_aux_constant stepper n includeInit u a).bind fun x => x[t]? :=
  rollout_aux_constant_batched_entry stepper n includeInit batch auxBatch hl t b

/-- independence: with constant aux, member `b` of the batched regenerated rollout depends only on member `b` of
    the batch and of the aux batch -/
theorem C06_generated_constant_aux_member_independent {S A : Type} (stepper : S → A → S) (n : ℕ) (includeInit : Bool)
    (batch batch' : List S) (auxBatch auxBatch' : List A) (hl : batch.length ≤ auxBatch.length)
    (hl' : batch'.length ≤ auxBatch'.length) (b : ℕ) (h : batch[b]? = batch'[b]?)
    (ha : auxBatch[b]? = auxBatch'[b]?) (t : ℕ) :
    (((rollout_aux_constant (fun us as => List.zipWith stepper us as) n includeInit batch auxBatch).bind
        fun x => x[t]?).bind fun x => x[b]?) =
      ((rollout_aux_constant (fun us as => List.zipWith stepper us as) n includeInit batch' auxBatch').bind
        fun x => x[t]?).bind fun x => x[b]? := by
  rw [rollout_aux_constant_batched_entry stepper n includeInit batch auxBatch hl t b,
    rollout_aux_constant_batched_entry stepper n includeInit batch' auxBatch' hl' t b, h, ha]

/-- time-varying aux per member, aux axes exchanged: the regenerated `rollout(…, takes_aux=True,
    constant_aux=False)` of the stepper mapped over (state, aux), fed the TIME-major aux array `auxT` (`n` time entries,
    each holding one aux per member), has entry `(t, b)` equal to entry `t` of the same regenerated rollout of the
    unmapped stepper on member `b` fed the aux sequence of that member, i.e. column `b` of `auxT` (the BATCH-major
    array's row `b`) -/
theorem C06_generated_aux_sequence_rollout_is_transposed_map_of_rollouts {S A : Type} (stepper : S → A → S) (n : ℕ)
    (includeInit : Bool) (batch : List S) (auxT : List (List A)) (hn : auxT.length = n)
    (hl : ∀ x ∈ auxT, batch.length ≤ x.length) (t b : ℕ) :
    (((rollout_aux_sequence (fun us as => List.zipWith stepper us as) n includeInit batch auxT).bind
        fun x => x[t]?).bind fun x => x[b]?) =
      batch[b]?.bind fun u =>
        (rollout_aux_sequence stepper n includeInit u (auxT.filterMap fun x => x[b]?)).bind fun x => x[t]? :=
  rollout_aux_sequence_batched_entry stepper n includeInit batch auxT hn hl t b

/-- independence: with an aux sequence, member `b` of the batched regenerated rollout depends only on member `b` of
    the batch and on that member's aux sequence (column `b` of the time-major aux array) -/
theorem C06_generated_aux_sequence_member_independent {S A : Type} (stepper : S → A → S) (n : ℕ) (includeInit : Bool)
    (batch batch' : List S) (auxT auxT' : List (List A)) (hn : auxT.length = n) (hn' : auxT'.length = n)
    (hl : ∀ x ∈ auxT, batch.length ≤ x.length) (hl' : ∀ x ∈ auxT', batch'.length ≤ x.length) (b : ℕ)
    (h : batch[b]? = batch'[b]?)
    (ha : (auxT.filterMap fun x => x[b]?) = auxT'.filterMap fun x => x[b]?) (t : ℕ) :
    (((rollout_aux_sequence (fun us as => List.zipWith stepper us as) n includeInit batch auxT).bind
        fun x => x[t]?).bind fun x => x[b]?) =
      ((rollout_aux_sequence (fun us as => List.zipWith stepper us as) n includeInit batch' auxT').bind
        fun x => x[t]?).bind fun x => x[b]? := by
  rw [rollout_aux_sequence_batched_entry stepper n includeInit batch auxT hn hl t b,
    rollout_aux_sequence_batched_entry stepper n includeInit batch' auxT' hn' hl' t b, h]
  unfold column
  rw [ha]

/-! ### non-vacuity: the stepper `x ↦ 2x + 1` on `ℕ`, a batch of 3, `n = 2` -/

example : rollout_noaux (List.map fun x : ℕ => 2 * x + 1) 2 true [0, 1, 5] = [[0, 1, 5], [1, 3, 11], [3, 7, 23]] := by
  decide
example : [0, 1, 5].map (rollout_noaux (fun x : ℕ => 2 * x + 1) 2 true) = [[0, 1, 3], [1, 3, 7], [5, 11, 23]] := by
  decide
example : rollout_noaux (List.map fun x : ℕ => 2 * x + 1) 2 false [0, 1, 5] = [[1, 3, 11], [3, 7, 23]] := by decide
example : [0, 1, 5].map (rollout_noaux (fun x : ℕ => 2 * x + 1) 2 false) = [[1, 3], [3, 7], [11, 23]] := by decide
/-- changing members 0 and 2 leaves member 1 (`1, 3, 7`) in place -/
example : rollout_noaux (List.map fun x : ℕ => 2 * x + 1) 2 true [9, 1, 0] = [[9, 1, 0], [19, 3, 1], [39, 7, 3]] := by
  decide
example : repeat_noaux (List.map fun x : ℕ => 2 * x + 1) 2 [0, 1, 5] = [3, 7, 23] := by decide
/-- constant aux `x ↦ 2x + a` with `a = 1, 2, 3` per member (hypothesis `3 ≤ 3` holds) -/
example : rollout_aux_constant (fun us as => List.zipWith (fun (x a : ℕ) => 2 * x + a) us as) 2 true [0, 1, 5] [1, 2, 3]
    = some [[0, 1, 5], [1, 4, 13], [3, 10, 29]] := by decide
example : rollout_aux_constant (fun (x a : ℕ) => 2 * x + a) 2 true 1 2 = some [1, 4, 10] := by decide
example : ([0, 1, 5] : List ℕ).length ≤ ([1, 2, 3] : List ℕ).length := by decide
/-- aux sequence, time-major `[[1, 2, 3], [4, 5, 6]]`; member 1 sees column 1 = `[2, 5]` -/
example : rollout_aux_sequence (fun us as => List.zipWith (fun (x a : ℕ) => 2 * x + a) us as) 2 true [0, 1, 5]
    [[1, 2, 3], [4, 5, 6]] = some [[0, 1, 5], [1, 4, 13], [6, 13, 32]] := by decide
example : ([[1, 2, 3], [4, 5, 6]] : List (List ℕ)).filterMap (fun x => x[1]?) = [2, 5] := by decide
example : rollout_aux_sequence (fun (x a : ℕ) => 2 * x + a) 2 true 1 [2, 5] = some [1, 4, 13] := by decide
example : ([[1, 2, 3], [4, 5, 6]] : List (List ℕ)).length = 2 ∧
    ∀ x ∈ ([[1, 2, 3], [4, 5, 6]] : List (List ℕ)), ([0, 1, 5] : List ℕ).length ≤ x.length := by decide
/-- a wrong number of aux time entries is rejected (`none`), so the hypothesis `auxT.length = n` is the contract -/
example : rollout_aux_sequence (fun (x a : ℕ) => 2 * x + a) 2 true 1 [2, 5, 7] = none := by decide

end Exponax
