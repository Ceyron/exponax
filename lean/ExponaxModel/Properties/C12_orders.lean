import ExponaxModel.Proofs.LaminarWholeExact
import ExponaxModel.Proofs.Laminar3DSteps
import ExponaxModel.Proofs.EquilibriaStored
/-
C12 — the laminar trajectory of the Kolmogorov-forced steppers for EVERY ETDRK order.
`Properties/C12.lean` states the whole-spectrum laminar theorems for the ETDRK4 stage formulas
(`C12_laminar_whole_spectrum_any_coefficients`, `C12_laminar_from_rest_exact`, `C12_laminar_from_rest_stored`) and, in 3-D
with stored coefficients, for orders 1, 3, 4 (`C12_laminar_3d_stored`).  The library (`Proofs/LaminarWhole.lean`,
`Proofs/LaminarWholeExact.lean`, `Proofs/Laminar3DSteps.lean`) proves the same for orders 1, 2, 3; they are stated here,
together with the ETDRK2 case, which `C12_laminar_3d_stored` does not include.
-/
namespace Exponax
open Exponax.Spec Exponax.Gen.Etdrk Exponax.Laminar Exponax.Laminar3D

/-- 2-D, ANY coefficient arrays, every order: from any shear state `v` (support on `k₀ = 0`; in particular from rest) the
    `n`-fold ETDRK-p iterate of the forced vorticity stepper is `E^n v + (Σ_{i<n} E^i) · κ_p · F` on ALL stored modes, with
    `F` the forcing spectrum and `κ₁ = κ₂ = a₁`, `κ₃ = a₃+a₄+a₅`, `κ₄ = a₄+4a₅+a₆`. -/
theorem C12_laminar_every_order (c : Nonlin.Cfg ℂ) (hN : 0 < c.N) (scale : ℂ) (inj : Option (ℕ × ℂ))
    (E Eh a1 a2 a3 a4 a5 a6 v : ℕ → ℂ) (hv : ShearSpec c v) (n : ℕ) :
    (E1step E a1 (Conserve.liftNl c (Nonlin.vorticity2d c scale inj)))^[n] v
        = E ^ n * v + (∑ i ∈ Finset.range n, E ^ i) * (a1 * forcing c scale inj) ∧
    (E2step E a1 a2 (Conserve.liftNl c (Nonlin.vorticity2d c scale inj)))^[n] v
        = E ^ n * v + (∑ i ∈ Finset.range n, E ^ i) * (a1 * forcing c scale inj) ∧
    (E3step E Eh a1 a2 a3 a4 a5 (Conserve.liftNl c (Nonlin.vorticity2d c scale inj)))^[n] v
        = E ^ n * v + (∑ i ∈ Finset.range n, E ^ i) * ((a3 + a4 + a5) * forcing c scale inj) ∧
    (E4step E Eh a1 a2 a3 a4 a5 a6 (Conserve.liftNl c (Nonlin.vorticity2d c scale inj)))^[n] v
        = E ^ n * v + (∑ i ∈ Finset.range n, E ^ i) * ((a4 + 4 * a5 + a6) * forcing c scale inj) :=
  ⟨laminar_E1 c hN scale inj E a1 v hv n, laminar_E2 c hN scale inj E a1 a2 v hv n,
   laminar_E3 c hN scale inj E Eh a1 a2 a3 a4 a5 v hv n, laminar_E4 c hN scale inj E Eh a1 a2 a3 a4 a5 a6 v hv n⟩

/-- 2-D, from rest, EXACT coefficients at the forced mode (any coefficients elsewhere), orders 1, 2, 3 (order 4 is
    `C12_laminar_from_rest_exact`): the spectrum after `n` steps is `f̂ (e^{nσdt} − 1)/σ` at the forced mode, `0` elsewhere. -/
theorem C12_laminar_every_order_exact (c : Nonlin.Cfg ℂ) (hD : c.D = 2) (scale γ : ℂ) (m : ℕ) (hm0 : 0 < m)
    (hm : 2 * m < c.N) (σ dt : ℂ) (hσ : σ ≠ 0) (hdt : dt ≠ 0) (E Eh a1 a2 a3 a4 a5 : ℕ → ℂ)
    (hE : E m = Complex.exp (σ * dt)) (n : ℕ) :
    (a1 m = dt * phi1 (σ * dt) →
      (E1step E a1 (Conserve.liftNl c (Nonlin.vorticity2d c scale (some (m, γ)))))^[n] 0
        = laminarSpectrum c γ m σ dt n) ∧
    (a1 m = dt * phi1 (σ * dt) →
      (E2step E a1 a2 (Conserve.liftNl c (Nonlin.vorticity2d c scale (some (m, γ)))))^[n] 0
        = laminarSpectrum c γ m σ dt n) ∧
    (a3 m = dt * (phi1 (σ * dt) - 3 * phi2 (σ * dt) + 4 * phi3 (σ * dt)) →
      a4 m = dt * (4 * phi2 (σ * dt) - 8 * phi3 (σ * dt)) →
      a5 m = dt * (4 * phi3 (σ * dt) - phi2 (σ * dt)) →
      (E3step E Eh a1 a2 a3 a4 a5 (Conserve.liftNl c (Nonlin.vorticity2d c scale (some (m, γ)))))^[n] 0
        = laminarSpectrum c γ m σ dt n) :=
  have hN := Nat.zero_lt_of_lt hm
  have rest := from_rest_exact c hD scale γ m hm0 hm σ dt hσ hdt E
  ⟨fun h1 => (laminar_E1 c hN scale _ E a1 0 (shearSpec_zero c) n).trans (rest a1 hE h1 n),
   fun h1 => (laminar_E2 c hN scale _ E a1 a2 0 (shearSpec_zero c) n).trans (rest a1 hE h1 n),
   fun h3 h4 h5 => (laminar_E3 c hN scale _ E Eh a1 a2 a3 a4 a5 0 (shearSpec_zero c) n).trans
     (rest (a3 + a4 + a5) hE (by
       rw [Pi.add_apply, Pi.add_apply, h3, h4, h5]
       ring) n)⟩

/-- 2-D, from rest, ALL coefficients STORED (contour means, any `M`, `r`), every order: the four orders produce one and the
    same spectrum `laminarStored` = `(Σ_{i<n} e^{i dt L_m}) · E1_coef_1 · f̂` at the forced mode and `0` elsewhere. -/
theorem C12_laminar_every_order_stored (c : Nonlin.Cfg ℂ) (hD : c.D = 2) (scale γ : ℂ) (m : ℕ) (hm0 : 0 < m)
    (hm : 2 * m < c.N) (dt r : ℂ) (M : ℕ) (L : ℕ → ℂ) (n : ℕ) :
    (E1step (fun h => exp_term dt (L h)) (fun h => E1_coef_1 dt (L h) M r)
      (Conserve.liftNl c (Nonlin.vorticity2d c scale (some (m, γ)))))^[n] 0 = laminarStored c γ m dt (L m) r M n ∧
    (E2step (fun h => exp_term dt (L h)) (fun h => E2_coef_1 dt (L h) M r) (fun h => E2_coef_2 dt (L h) M r)
      (Conserve.liftNl c (Nonlin.vorticity2d c scale (some (m, γ)))))^[n] 0 = laminarStored c γ m dt (L m) r M n ∧
    (E3step (fun h => exp_term dt (L h)) (fun h => E3_half_exp_term dt (L h) M r)
      (fun h => E3_coef_1 dt (L h) M r) (fun h => E3_coef_2 dt (L h) M r) (fun h => E3_coef_3 dt (L h) M r)
      (fun h => E3_coef_4 dt (L h) M r) (fun h => E3_coef_5 dt (L h) M r)
      (Conserve.liftNl c (Nonlin.vorticity2d c scale (some (m, γ)))))^[n] 0 = laminarStored c γ m dt (L m) r M n ∧
    (E4step (fun h => exp_term dt (L h)) (fun h => E4_half_exp_term dt (L h) M r)
      (fun h => E4_coef_1 dt (L h) M r) (fun h => E4_coef_2 dt (L h) M r) (fun h => E4_coef_3 dt (L h) M r)
      (fun h => E4_coef_4 dt (L h) M r) (fun h => E4_coef_5 dt (L h) M r) (fun h => E4_coef_6 dt (L h) M r)
      (Conserve.liftNl c (Nonlin.vorticity2d c scale (some (m, γ)))))^[n] 0 = laminarStored c γ m dt (L m) r M n :=
  have hN := Nat.zero_lt_of_lt hm
  have rest := from_rest_stored c hD scale γ m hm0 hm dt r M L
  ⟨(laminar_E1 c hN scale _ _ _ 0 (shearSpec_zero c) n).trans (rest _ rfl n),
   (laminar_E2 c hN scale _ _ _ _ 0 (shearSpec_zero c) n).trans (rest _ (EquilibriaStored.stored_E2_1 dt (L m) r M) n),
   (laminar_E3 c hN scale _ _ _ _ _ _ _ _ 0 (shearSpec_zero c) n).trans
     (rest _ (EquilibriaStored.stored_E3_sum dt (L m) r M) n),
   laminar_stored_E4 c hD scale γ m hm0 hm dt r M L n⟩

/-- 3-D, ANY coefficient arrays, every order: from any two-mode shear state (channel 0 carried by the stored modes
    `(0, ±m, 0)`, channels 1, 2 zero; in particular from rest) the whole (channel, mode) spectrum after `n` steps. -/
theorem C12_laminar_3d_every_order (c : Nonlin.Cfg ℂ) (hD : c.D = 3) (s : ℝ) (hs : c.s = (s : ℂ)) (hs0 : s ≠ 0) (m : ℕ)
    (hm0 : 0 < m) (hm : 2 * m < c.N) (inj : Option (ℕ × ℂ)) (hinj : inj = none ∨ ∃ gam, inj = some (m, gam))
    (E Eh a1 a2 a3 a4 a5 a6 v : ℕ → ℕ → ℂ) (hv : TwoModeSpec c m v) (n : ℕ) :
    (E1step E a1 (liftNl3 c (Nonlin.projected3d c inj)))^[n] v
        = E ^ n * v + (∑ i ∈ Finset.range n, E ^ i) * (a1 * forcing3 c inj) ∧
    (E2step E a1 a2 (liftNl3 c (Nonlin.projected3d c inj)))^[n] v
        = E ^ n * v + (∑ i ∈ Finset.range n, E ^ i) * (a1 * forcing3 c inj) ∧
    (E3step E Eh a1 a2 a3 a4 a5 (liftNl3 c (Nonlin.projected3d c inj)))^[n] v
        = E ^ n * v + (∑ i ∈ Finset.range n, E ^ i) * ((a3 + a4 + a5) * forcing3 c inj) ∧
    (E4step E Eh a1 a2 a3 a4 a5 a6 (liftNl3 c (Nonlin.projected3d c inj)))^[n] v
        = E ^ n * v + (∑ i ∈ Finset.range n, E ^ i) * ((a4 + 4 * a5 + a6) * forcing3 c inj) :=
  laminar3d_all c hD s hs hs0 m hm0 hm inj hinj E Eh a1 a2 a3 a4 a5 a6 v hv n

/-- 3-D, from rest, ALL coefficients STORED, ETDRK2 — the order missing from `C12_laminar_3d_stored`: entrywise the same
    trajectory `(Σ_{j<n} e^{j dt L}) · E1_coef_1 dt L M r · f̂` as orders 1, 3, 4 (the stored `E2_coef_1` IS `E1_coef_1`). -/
theorem C12_laminar_3d_stored_E2 (c : Nonlin.Cfg ℂ) (hD : c.D = 3) (s : ℝ) (hs : c.s = (s : ℂ)) (hs0 : s ≠ 0) (m : ℕ)
    (hm0 : 0 < m) (hm : 2 * m < c.N) (gam dt r : ℂ) (M : ℕ) (L : ℕ → ℕ → ℂ) (n i h : ℕ) :
    (E2step (fun i h => exp_term dt (L i h)) (fun i h => E2_coef_1 dt (L i h) M r)
      (fun i h => E2_coef_2 dt (L i h) M r) (liftNl3 c (Nonlin.projected3d c (some (m, gam)))))^[n] 0 i h
        = (∑ j ∈ Finset.range n, exp_term dt (L i h) ^ j)
          * (E1_coef_1 dt (L i h) M r * forcing3 c (some (m, gam)) i h) := by
  have hinj : (some (m, gam) : Option (ℕ × ℂ)) = none ∨ ∃ g, (some (m, gam) : Option (ℕ × ℂ)) = some (m, g) :=
    Or.inr ⟨gam, rfl⟩
  rw [(laminar3d_all c hD s hs hs0 m hm0 hm _ hinj _ 0 _ _ 0 0 0 0 0 (fun _ _ _ => rfl) n).2.1]
  simp only [Pi.add_apply, Pi.mul_apply, Pi.zero_apply, mul_zero, zero_add, Finset.sum_apply, Pi.pow_apply]
  rw [EquilibriaStored.stored_E2_1]

example : ∃ c : Nonlin.Cfg ℂ, c.D = 2 ∧ 0 < 4 ∧ 2 * 4 < c.N := ⟨⟨2, 16, 1, 2, 3⟩, rfl, by norm_num, by norm_num⟩
example (c : Nonlin.Cfg ℂ) : ShearSpec c 0 := shearSpec_zero c
example : ∃ c : Nonlin.Cfg ℂ, c.D = 3 ∧ c.s = ((1 : ℝ) : ℂ) ∧ (1 : ℝ) ≠ 0 ∧ 0 < 2 ∧ 2 * 2 < c.N :=
  ⟨⟨3, 8, ((1 : ℝ) : ℂ), 2, 3⟩, rfl, rfl, one_ne_zero, by norm_num, by norm_num⟩
example (c : Nonlin.Cfg ℂ) (m : ℕ) : TwoModeSpec c m 0 := fun _ _ _ => rfl
example : ((-0.3 : ℂ)) ≠ 0 ∧ ((0.01 : ℂ)) ≠ 0 := by norm_num

end Exponax
