import ExponaxModel.Properties.C02
import ExponaxModel.Proofs.ContourTailETDRK
import ExponaxModel.Proofs.ContourComplexNodes
/-
C02 — accuracy of the contour rule.  Separate file because the tail-bound library builds on the
coefficient theorems of `Properties/C02.lean`.
-/
namespace Exponax
open Exponax.Gen.Etdrk

/-! ### accuracy of the contour rule: the stored coefficients are the exact φ-combinations up to an explicit,
stiffness-uniform quadrature error (Kassam–Trefethen), proved about the REGENERATED coefficient definitions

`ContourTail.phi1e/phi2e/phi3e` are the entire extensions of `Spec.phi1..3` (value 1, 1/2, 1/6 at 0; integral
representations; differentiable on ℂ; equal to the closed forms off 0). -/

/-- aliasing identity: the M-point mean of a power series about `z` picks exactly the coefficients `b_{mM}` -/
theorem C02_contour_aliasing (M : ℕ) (hM : 0 < M) (r z : ℂ) (f : ℂ → ℂ) (b : ℕ → ℂ)
    (h : ∀ ζ ∈ roots_of_unity M, HasSum (fun n => b n * (r * ζ) ^ n) (f (r * ζ + z))) :
    HasSum (fun m => (-1) ^ m * b (m * M) * r ^ (m * M)) (Spec.contourMean (roots_of_unity M) r f z) :=
  ContourTail.contourMean_hasSum M hM r z f b h

/-- Cauchy-estimate form: for `f` holomorphic on a disc of radius `R > |r|` about `z` and bounded by `S` on its
    boundary, the rule errs by at most `S q^M/(1 − q^M)`, `q = |r|/R` -/
theorem C02_contour_error (M : ℕ) (hM : 0 < M) (r z : ℂ) (f : ℂ → ℂ) (R S : ℝ) (hr : ‖r‖ < R)
    (hf : DiffContOnCl ℂ f (Metric.ball z R)) (hS : ∀ w ∈ Metric.sphere z R, ‖f w‖ ≤ S) :
    ‖Spec.contourMean (roots_of_unity M) r f z - f z‖ ≤ S * (‖r‖ / R) ^ M / (1 - (‖r‖ / R) ^ M) :=
  ContourTail.norm_contourMean_sub_le_cauchy M hM r z f R S hr hf hS

/-- the entire φ functions: limit values, agreement with the closed forms off zero, differentiability -/
theorem C02_entire_phi :
    ContourTail.phi1e 0 = 1 ∧ ContourTail.phi2e 0 = 1 / 2 ∧ ContourTail.phi3e 0 = 1 / 6 ∧
    (∀ w : ℂ, w ≠ 0 → ContourTail.phi1e w = Spec.phi1 w ∧ ContourTail.phi2e w = Spec.phi2 w ∧
      ContourTail.phi3e w = Spec.phi3 w) ∧
    Differentiable ℂ ContourTail.phi1e ∧ Differentiable ℂ ContourTail.phi2e ∧ Differentiable ℂ ContourTail.phi3e :=
  ⟨ContourTail.phi1e_zero, ContourTail.phi2e_zero, ContourTail.phi3e_zero,
   fun w hw => ⟨ContourTail.phi1e_of_ne w hw, ContourTail.phi2e_of_ne w hw, ContourTail.phi3e_of_ne w hw⟩,
   ContourTail.differentiable_phi1e, ContourTail.differentiable_phi2e, ContourTail.differentiable_phi3e⟩

/-- a stored coefficient for every real `z = λ dt` (zero, tiny, stiff — no case distinction), any even `M`, any
    `0 < r < R`: ETDRK4's `coef_4` as an instance (all fourteen are in `Proofs/ContourTailETDRK.lean`) -/
theorem C02_coefficient_error (dt lam r R : ℝ) (M : ℕ) (hM : 0 < M) (hev : M % 2 = 0) (hr : 0 < r) (hR : r < R) :
    ‖E4_coef_4 (dt : ℂ) (lam : ℂ) M (r : ℂ) - (dt : ℂ) * (ContourTail.phi1e ((lam : ℂ) * dt)
        - 3 * ContourTail.phi2e ((lam : ℂ) * dt) + 4 * ContourTail.phi3e ((lam : ℂ) * dt))‖ ≤
      |dt| * (19 / 6 * Real.exp (max 0 (lam * dt + R)) * (r / R) ^ M / (1 - (r / R) ^ M)) :=
  ContourTail.E4_coef_4_error_real dt lam r R M hM hev hr hR

/-- with the code's defaults `M = 16`, `r = 1`: EVERY stored ETDRK1–4 coefficient is within `5·10⁻⁸·|dt|` of the exact
    Cox–Matthews value, for every `λ dt ≤ 0` -/
theorem C02_coefficients_default_accuracy (dt lam : ℝ) (hz : lam * dt ≤ 0) :
    ‖E1_coef_1 (dt : ℂ) (lam : ℂ) 16 1 - (dt : ℂ) * ContourTail.phi1e ((lam : ℂ) * dt)‖ ≤ |dt| * 5e-8 ∧
    ‖E2_coef_2 (dt : ℂ) (lam : ℂ) 16 1 - (dt : ℂ) * ContourTail.phi2e ((lam : ℂ) * dt)‖ ≤ |dt| * 5e-8 ∧
    ‖E4_coef_1 (dt : ℂ) (lam : ℂ) 16 1 - (dt : ℂ) * (ContourTail.phi1e ((lam : ℂ) * dt / 2) / 2)‖ ≤ |dt| * 5e-8 ∧
    ‖E4_coef_4 (dt : ℂ) (lam : ℂ) 16 1 - (dt : ℂ) * (ContourTail.phi1e ((lam : ℂ) * dt)
        - 3 * ContourTail.phi2e ((lam : ℂ) * dt) + 4 * ContourTail.phi3e ((lam : ℂ) * dt))‖ ≤ |dt| * 5e-8 ∧
    ‖E4_coef_5 (dt : ℂ) (lam : ℂ) 16 1 - (dt : ℂ) * (ContourTail.phi2e ((lam : ℂ) * dt)
        - 2 * ContourTail.phi3e ((lam : ℂ) * dt))‖ ≤ |dt| * 5e-8 ∧
    ‖E4_coef_6 (dt : ℂ) (lam : ℂ) 16 1 - (dt : ℂ) * (4 * ContourTail.phi3e ((lam : ℂ) * dt)
        - ContourTail.phi2e ((lam : ℂ) * dt))‖ ≤ |dt| * 5e-8 := by
  have h := ContourTail.storedCoef_error_default dt lam hz
  exact ⟨h 0, h 2, h 8, h 11, h 12, h 13⟩

/-! ### the whole closed left half-plane and the growing strip (library `Proofs/ContourComplex*.lean`): for COMPLEX
z = λ·dt (advection, dispersion, damped waves) with the defaults M = 16, r = 1, all fourteen stored coefficients are
within 1.7·10⁻¹²·|dt| of dt × the exact φ-combination for Re z ≤ 0 (Cauchy radius R = 16), within 8.3·10⁻⁴·|dt| for
Re z ≤ 20 — PROVIDED z is none of the sixteen points −ζ_j (a contour node then sits on the removable singularity and the
closed form is 0/0); that condition is necessary and sufficient (`C02_accuracy_iff_off_the_nodes`), real and purely
imaginary symbols never meet it, and the stored coefficient is continuous (holomorphic) in λ everywhere else -/

open Exponax.ContourComplex in
theorem C02_contour_node_vanishes_iff :
    ∀ (M : ℕ) (r z : ℂ),
      (∃ ζ ∈ Gen.Etdrk.roots_of_unity M, r * ζ + z = 0) ↔ ∃ j < M, z = -(r * Gen.Etdrk.root_of_unity M (j + 1)) := by
  intro M r z
  constructor
  · rintro ⟨ζ, hζ, h⟩
    obtain ⟨j, hj, rfl⟩ := (mem_roots_iff M ζ).mp hζ
    exact ⟨j, hj, add_eq_zero_iff_eq_neg'.mp h⟩
  · rintro ⟨j, hj, h⟩
    exact ⟨_, (mem_roots_iff M _).mpr ⟨j, hj, rfl⟩, add_eq_zero_iff_eq_neg'.mpr h⟩

open Exponax.ContourComplex in
theorem C02_coefficients_complex_halfplane_accuracy :
    ∀ (dt lam : ℂ),
      (lam * dt).re ≤ 0 →
        (∀ ζ ∈ Gen.Etdrk.roots_of_unity 16, lam * dt ≠ -(1 * ζ)) →
          ‖Gen.Etdrk.E1_coef_1 dt lam 16 1 - dt * ContourTail.phi1e (lam * dt)‖ ≤ ‖dt‖ * 17e-13 ∧
            ‖Gen.Etdrk.E2_coef_1 dt lam 16 1 - dt * ContourTail.phi1e (lam * dt)‖ ≤ ‖dt‖ * 17e-13 ∧
              ‖Gen.Etdrk.E2_coef_2 dt lam 16 1 - dt * ContourTail.phi2e (lam * dt)‖ ≤ ‖dt‖ * 17e-13 ∧
                ‖Gen.Etdrk.E3_coef_1 dt lam 16 1 - dt * (ContourTail.phi1e (lam * dt / 2) / 2)‖ ≤ ‖dt‖ * 17e-13 ∧
                  ‖Gen.Etdrk.E3_coef_2 dt lam 16 1 - dt * ContourTail.phi1e (lam * dt)‖ ≤ ‖dt‖ * 17e-13 ∧
                    ‖Gen.Etdrk.E3_coef_3 dt lam 16 1 -
                            dt *
                              (ContourTail.phi1e (lam * dt) - 3 * ContourTail.phi2e (lam * dt) +
                                4 * ContourTail.phi3e (lam * dt))‖ ≤
                        ‖dt‖ * 17e-13 ∧
                      ‖Gen.Etdrk.E3_coef_4 dt lam 16 1 -
                              dt * (4 * ContourTail.phi2e (lam * dt) - 8 * ContourTail.phi3e (lam * dt))‖ ≤
                          ‖dt‖ * 17e-13 ∧
                        ‖Gen.Etdrk.E3_coef_5 dt lam 16 1 -
                                dt * (4 * ContourTail.phi3e (lam * dt) - ContourTail.phi2e (lam * dt))‖ ≤
                            ‖dt‖ * 17e-13 ∧
                          ‖Gen.Etdrk.E4_coef_1 dt lam 16 1 - dt * (ContourTail.phi1e (lam * dt / 2) / 2)‖ ≤ ‖dt‖ * 17e-13 ∧
                            ‖Gen.Etdrk.E4_coef_2 dt lam 16 1 - dt * (ContourTail.phi1e (lam * dt / 2) / 2)‖ ≤
                                ‖dt‖ * 17e-13 ∧
                              ‖Gen.Etdrk.E4_coef_3 dt lam 16 1 - dt * (ContourTail.phi1e (lam * dt / 2) / 2)‖ ≤
                                  ‖dt‖ * 17e-13 ∧
                                ‖Gen.Etdrk.E4_coef_4 dt lam 16 1 -
                                        dt *
                                          (ContourTail.phi1e (lam * dt) - 3 * ContourTail.phi2e (lam * dt) +
                                            4 * ContourTail.phi3e (lam * dt))‖ ≤
                                    ‖dt‖ * 17e-13 ∧
                                  ‖Gen.Etdrk.E4_coef_5 dt lam 16 1 -
                                          dt * (ContourTail.phi2e (lam * dt) - 2 * ContourTail.phi3e (lam * dt))‖ ≤
                                      ‖dt‖ * 17e-13 ∧
                                    ‖Gen.Etdrk.E4_coef_6 dt lam 16 1 -
                                          dt * (4 * ContourTail.phi3e (lam * dt) - ContourTail.phi2e (lam * dt))‖ ≤
                                      ‖dt‖ * 17e-13 :=
  fun dt lam hz hnz =>
    have h := storedCoef_error_halfplane dt lam hz hnz
    ⟨h 0, h 1, h 2, h 3, h 4, h 5, h 6, h 7, h 8, h 9, h 10, h 11, h 12, h 13⟩

open Exponax.ContourComplex in
theorem C02_coefficients_growing_modes_accuracy :
    ∀ (dt lam : ℂ),
      (lam * dt).re ≤ 20 →
        (∀ ζ ∈ Gen.Etdrk.roots_of_unity 16, lam * dt ≠ -(1 * ζ)) →
          ∀ (i : Fin 14), ‖storedCoef dt lam 16 1 i - dt * exactPhi (lam * dt) i‖ ≤ ‖dt‖ * 83e-5 :=
  @Exponax.ContourComplex.storedCoef_error_re_le_20

open Exponax.ContourComplex in
theorem C02_coefficients_imaginary_symbol_accuracy :
    ∀ (dt ω : ℝ) (i : Fin 14),
      ‖storedCoef (↑dt) (Complex.I * ↑ω) 16 1 i - ↑dt * exactPhi (Complex.I * ↑ω * ↑dt) i‖ ≤ |dt| * 17e-13 := by
  -- `λ = iω` is the form odd-order derivatives produce
  intro dt ω i
  have h := storedCoef_error_imaginary (dt : ℂ) (Complex.I * ω) (by simp) i
  rwa [Complex.norm_real, Real.norm_eq_abs] at h

open Exponax.ContourComplex in
theorem C02_accuracy_iff_off_the_nodes :
    ∀ (dt lam : ℂ),
      dt ≠ 0 →
        (lam * dt).re ≤ 0 →
          ((∀ (i : Fin 14), ‖storedCoef dt lam 16 1 i - dt * exactPhi (lam * dt) i‖ ≤ ‖dt‖ * 17e-13) ↔
            ∀ ζ ∈ Gen.Etdrk.roots_of_unity 16, lam * dt ≠ -(1 * ζ)) := by
  intro dt lam hdt hz
  constructor
  · intro h ζ hζ hzζ
    exact absurd ((storedCoef_error_at_node' dt lam ζ hζ hzζ 0).trans (h 0))
      (not_le.mpr (mul_lt_mul_of_pos_left (by norm_num) (norm_pos_iff.mpr hdt)))
  · intro hnz i
    exact storedCoef_error_halfplane dt lam hz hnz i

open Exponax.ContourComplex in
theorem C02_real_symbols_never_on_a_node :
    ∀ (M : ℕ), 0 < M → M % 2 = 0 → ∀ (x : ℝ), ∀ ζ ∈ (Gen.Etdrk.roots_of_unity M : List ℂ), (x : ℂ) ≠ -(1 * ζ) :=
  @Exponax.ContourComplex.excluded_of_real

open Exponax.ContourComplex in
theorem C02_imaginary_symbols_never_on_a_node :
    ∀ (M : ℕ),
      0 < M → M % 4 = 0 → ∀ (z : ℂ), z.re = 0 → ∀ ζ ∈ Gen.Etdrk.roots_of_unity M, z ≠ -(1 * ζ) :=
  @Exponax.ContourComplex.excluded_of_re_eq_zero

open Exponax.ContourComplex in
theorem C02_coefficients_continuous_off_the_nodes :
    ∀ (dt r : ℂ) (M : ℕ) (lam0 : ℂ),
      (∀ ζ ∈ Gen.Etdrk.roots_of_unity M, lam0 * dt ≠ -(r * ζ)) →
        ∀ (i : Fin 14), ContinuousAt (fun lam ↦ storedCoef dt lam M r i) lam0 :=
  fun dt r M lam0 hnz i => (differentiableAt_storedCoef dt r M lam0 hnz i).continuousAt

end Exponax
