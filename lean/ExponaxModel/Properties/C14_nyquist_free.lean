import ExponaxModel.Proofs.RepeatedPhysicalInvariant
/-
C14 — the NYQUIST-FREE positive case of "RepeatedStepper(stepper, n)(u) = n applications of the inner stepper".
`C14_repeated_stepper_is_the_physical_loop` (C14_physical.lean) asks the Fourier step to map EVERY realisable spectrum to a
realisable one; a linear step with an odd-order symbol on an even grid does not (`C14_repeated_differs_from_loop_at_nyquist`).
Here the hypothesis is weakened to an INVARIANT: the step only has to preserve `Realisable ∧ P` for a property `P` of the
spectrum that holds initially.  With `P` = Nyquist-free (`NyqFree`: the spectrum vanishes at every stored mode that has a
wavenumber component `|k_d| = N/2`, `N` even) every symbol `g(−k) = conj g(k)` qualifies on EVERY grid — odd-order symbols
(advection, dispersion) on even grids included — because off the Nyquist modes the Hermitian partner of a stored mode carries
exactly the wavenumber vector `−k`.  Also for ETD-type steps whose nonlinear coefficient removes the Nyquist modes
(dealiasing mask).  General D ≥ 1, N ≥ 1, n ≥ 0.
-/
namespace Exponax

open Exponax.C2R in
/-- **Invariant form of C14.**  If the Fourier step `F` maps every realisable spectrum with property `P` to a realisable
    spectrum with property `P`, then for every real grid state `u` whose spectrum has `P` and every `n ≥ 0` the `n`-fold
    physical-space loop `repeat(ifft ∘ F ∘ fft, n)(u)` equals `RepeatedStepper`: `ifft (F^n (fft u))`. -/
theorem C14_repeated_stepper_is_the_loop_under_invariant :
    ∀ (D N : ℕ),
      0 < D →
        0 < N →
          ∀ (F : Array ℂ → Array ℂ) (P : Array ℂ → Prop),
            (∀ (C : Array ℂ), Realisable D N C → P C → Realisable D N (F C) ∧ P (F C)) →
              ∀ (u : Array ℂ),
                RealState D N u →
                  P (Transform.rfftnM D N u) →
                    ∀ (n : ℕ),
                      Loops.repeatN (fun v ↦ Transform.irfftnM D N (F (Transform.rfftnM D N v))) n u =
                        Transform.irfftnM D N (Loops.repeatedStepFourier F n (Transform.rfftnM D N u)) :=
  @Exponax.C2R.repeatedStepper_eq_loop_of_invariant

open Exponax.C2R in
/-- Under the same hypotheses the invariant holds for the spectrum of every intermediate state of the physical loop. -/
theorem C14_invariant_holds_along_the_loop :
    ∀ (D N : ℕ),
      0 < D →
        0 < N →
          ∀ (F : Array ℂ → Array ℂ) (P : Array ℂ → Prop),
            (∀ (C : Array ℂ), Realisable D N C → P C → Realisable D N (F C) ∧ P (F C)) →
              ∀ (u : Array ℂ),
                RealState D N u →
                  P (Transform.rfftnM D N u) →
                    ∀ (n : ℕ),
                      P (Transform.rfftnM D N
                        ((fun v ↦ Transform.irfftnM D N (F (Transform.rfftnM D N v)))^[n] u)) :=
  @Exponax.C2R.loop_spectrum_invariant

open Exponax.C2R in
/-- What "Nyquist-free" means: `NyqMode D N h` — `N` is even and some wavenumber component of the stored mode `h` has
    `|k_d| = N/2`; `NyqFree D N C` — the stored spectrum `C` vanishes at all such modes. -/
theorem C14_nyquist_free_def :
    ∀ (D N : ℕ) (C : Array ℂ),
      NyqFree D N C ↔
        ∀ h < Layout.numModes D N,
          (N % 2 = 0 ∧ ∃ d < D, ((Layout.wnFlat D N h).getD d 0).natAbs = N / 2) → C.getD h 0 = 0 :=
  fun _ _ _ => Iff.rfl

open Exponax.C2R in
/-- Off the Nyquist modes, on every grid, the Hermitian partner `conjIdx D N h` of a stored mode on a self-conjugate column
    carries exactly the wavenumber vector `−k(h)`. -/
theorem C14_partner_wavenumber_off_nyquist :
    ∀ (D N h : ℕ),
      0 < D →
        0 < N →
          h < Layout.numModes D N →
            Transform.herm_weight D N h = 1 →
              ¬NyqMode D N h →
                Layout.wnFlat D N (conjIdx D N h) = List.map (fun k ↦ -k) (Layout.wnFlat D N h) :=
  @Exponax.C2R.wnFlat_conjIdx_of_not_nyq

open Exponax.C2R in
/-- A linear step whose symbol is Hermitian on the self-conjugate columns off the Nyquist modes (`HermOffNyq`; nothing is
    required AT the Nyquist modes) maps realisable Nyquist-free spectra to realisable Nyquist-free spectra. -/
theorem C14_linear_step_preserves_realisable_nyquist_free :
    ∀ (D N : ℕ),
      0 < D →
        0 < N →
          ∀ (e : ℕ → ℂ),
            HermOffNyq D N e →
              ∀ (C : Array ℂ),
                Realisable D N C →
                  NyqFree D N C → Realisable D N (diagStep D N e C) ∧ NyqFree D N (diagStep D N e C) :=
  @Exponax.C2R.diag_preserves_realisable_nyqFree

open Exponax.C2R in
/-- Every symbol that is a function of the wavenumber vector with `g(−k) = conj g(k)` (all linear operators with real
    coefficients, odd orders included, and their exponentials / ETDRK coefficients) is `HermOffNyq`, on every grid. -/
theorem C14_wavenumber_symbols_qualify_off_nyquist :
    ∀ (D N : ℕ),
      0 < D →
        0 < N →
          ∀ (g : List ℤ → ℂ),
            (∀ (k : List ℤ), g (List.map (fun x ↦ -x) k) = (starRingEnd ℂ) (g k)) →
              HermOffNyq D N fun h ↦ g (Layout.wnFlat D N h) :=
  @Exponax.C2R.hermOffNyq_of_wavenumber

open Exponax.C2R in
/-- **C14 on Nyquist-free states, every grid (even `N` included), every symbol `g(−k) = conj g(k)` (odd-order symbols
    included).**  For every real grid state whose spectrum vanishes at the Nyquist modes and every `n ≥ 0`, the repeated
    stepper of the linear step `û ↦ g(k) ⊙ û` equals the `n`-fold physical-space loop of that step. -/
theorem C14_repeated_linear_nyquist_free_even_grid :
    ∀ (D N : ℕ),
      0 < D →
        0 < N →
          ∀ (g : List ℤ → ℂ),
            (∀ (k : List ℤ), g (List.map (fun x ↦ -x) k) = (starRingEnd ℂ) (g k)) →
              ∀ (u : Array ℂ),
                RealState D N u →
                  NyqFree D N (Transform.rfftnM D N u) →
                    ∀ (n : ℕ),
                      Loops.repeatN
                          (fun v ↦
                            Transform.irfftnM D N
                              (diagStep D N (fun h ↦ g (Layout.wnFlat D N h)) (Transform.rfftnM D N v)))
                          n u =
                        Transform.irfftnM D N
                          (Loops.repeatedStepFourier (diagStep D N fun h ↦ g (Layout.wnFlat D N h)) n
                            (Transform.rfftnM D N u)) :=
  @Exponax.C2R.repeated_loop_wavenumber_nyqFree

open Exponax.C2R in
/-- The same for an arbitrary stored symbol `e` that is Hermitian off the Nyquist modes. -/
theorem C14_repeated_linear_nyquist_free :
    ∀ (D N : ℕ),
      0 < D →
        0 < N →
          ∀ (e : ℕ → ℂ),
            HermOffNyq D N e →
              ∀ (u : Array ℂ),
                RealState D N u →
                  NyqFree D N (Transform.rfftnM D N u) →
                    ∀ (n : ℕ),
                      Loops.repeatN (fun v ↦ Transform.irfftnM D N (diagStep D N e (Transform.rfftnM D N v))) n u =
                        Transform.irfftnM D N
                          (Loops.repeatedStepFourier (diagStep D N e) n (Transform.rfftnM D N u)) :=
  @Exponax.C2R.repeated_loop_diag_nyqFree

open Exponax.C2R in
/-- Every intermediate state of the physical loop of such a linear step is again Nyquist-free. -/
theorem C14_linear_loop_stays_nyquist_free :
    ∀ (D N : ℕ),
      0 < D →
        0 < N →
          ∀ (g : List ℤ → ℂ),
            (∀ (k : List ℤ), g (List.map (fun x ↦ -x) k) = (starRingEnd ℂ) (g k)) →
              ∀ (u : Array ℂ),
                RealState D N u →
                  NyqFree D N (Transform.rfftnM D N u) →
                    ∀ (n : ℕ),
                      NyqFree D N
                        (Transform.rfftnM D N
                          ((fun v ↦
                              Transform.irfftnM D N
                                (diagStep D N (fun h ↦ g (Layout.wnFlat D N h)) (Transform.rfftnM D N v)))^[n]
                            u)) :=
  fun D N hD hN g hg u hu hP n =>
    loop_spectrum_invariant D N hD hN _ (NyqFree D N)
      (fun C hC hPC => diag_preserves_realisable_nyqFree D N hD hN _
        (hermOffNyq_of_wavenumber D N hD hN g hg) C hC hPC) u hu hP n

open Exponax.C2R in
/-- On odd grids there are no Nyquist modes: every spectrum is Nyquist-free, so `C14_repeated_linear_odd_grid` is a special
    case of `C14_repeated_linear_nyquist_free_even_grid`. -/
theorem C14_odd_grid_is_nyquist_free :
    ∀ (D N : ℕ), N % 2 = 1 → ∀ (C : Array ℂ), NyqFree D N C :=
  @Exponax.C2R.odd_grid_nyqFree

open Exponax.C2R in
/-- **ETD-type steps, general form.**  `F û = e ⊙ û + c ⊙ rfftn (𝒩 (irfftn û))` with `e`, `c` Hermitian off the Nyquist modes,
    `𝒩` real on real states and a nonlinear contribution that is empty at the Nyquist modes whenever `û` is realisable and
    Nyquist-free: on Nyquist-free real states the repeated stepper equals the physical-space loop, every `n`. -/
theorem C14_repeated_etd_step_nyquist_free :
    ∀ (D N : ℕ),
      0 < D →
        0 < N →
          ∀ (e c : ℕ → ℂ),
            HermOffNyq D N e →
              HermOffNyq D N c →
                ∀ (𝒩 : Array ℂ → Array ℂ),
                  (∀ (v : Array ℂ), RealState D N v → ∀ j < N ^ D, ((𝒩 v).getD j 0).im = 0) →
                    (∀ (C : Array ℂ),
                        Realisable D N C →
                          NyqFree D N C →
                            ∀ h < Layout.numModes D N,
                              NyqMode D N h →
                                c h * (Transform.rfftnM D N (𝒩 (Transform.irfftnM D N C))).getD h 0 = 0) →
                      ∀ (u : Array ℂ),
                        RealState D N u →
                          NyqFree D N (Transform.rfftnM D N u) →
                            ∀ (n : ℕ),
                              Loops.repeatN
                                  (fun v ↦
                                    Transform.irfftnM D N
                                      ((fun C ↦
                                          addSpec D N (diagStep D N e C)
                                            (diagStep D N c (Transform.rfftnM D N (𝒩 (Transform.irfftnM D N C)))))
                                        (Transform.rfftnM D N v)))
                                  n u =
                                Transform.irfftnM D N
                                  (Loops.repeatedStepFourier
                                    (fun C ↦
                                      addSpec D N (diagStep D N e C)
                                        (diagStep D N c (Transform.rfftnM D N (𝒩 (Transform.irfftnM D N C)))))
                                    n (Transform.rfftnM D N u)) :=
  @Exponax.C2R.repeated_loop_etd_nyqFree

open Exponax.C2R in
/-- **ETD-type steps with wavenumber symbols and a Nyquist-removing mask on the nonlinear coefficient**
    (`maskNyq D N c h = 0` at the Nyquist modes, `c h` elsewhere — a dealiasing mask with cut-off below `N/2`):
    `F û = g_e(k) ⊙ û + mask ⊙ g_c(k) ⊙ rfftn (𝒩 (irfftn û))`, `g_e`, `g_c` with `g(−k) = conj g(k)` (odd orders included),
    `𝒩` real on real states; every grid, Nyquist-free real states, every `n`. -/
theorem C14_repeated_etd_step_nyquist_free_masked :
    ∀ (D N : ℕ),
      0 < D →
        0 < N →
          ∀ (ge gc : List ℤ → ℂ),
            (∀ (k : List ℤ), ge (List.map (fun x ↦ -x) k) = (starRingEnd ℂ) (ge k)) →
              (∀ (k : List ℤ), gc (List.map (fun x ↦ -x) k) = (starRingEnd ℂ) (gc k)) →
                ∀ (𝒩 : Array ℂ → Array ℂ),
                  (∀ (v : Array ℂ), RealState D N v → ∀ j < N ^ D, ((𝒩 v).getD j 0).im = 0) →
                    ∀ (u : Array ℂ),
                      RealState D N u →
                        NyqFree D N (Transform.rfftnM D N u) →
                          ∀ (n : ℕ),
                            Loops.repeatN
                                (fun v ↦
                                  Transform.irfftnM D N
                                    ((fun C ↦
                                        addSpec D N (diagStep D N (fun h ↦ ge (Layout.wnFlat D N h)) C)
                                          (diagStep D N (maskNyq D N fun h ↦ gc (Layout.wnFlat D N h))
                                            (Transform.rfftnM D N (𝒩 (Transform.irfftnM D N C)))))
                                      (Transform.rfftnM D N v)))
                                n u =
                              Transform.irfftnM D N
                                (Loops.repeatedStepFourier
                                  (fun C ↦
                                    addSpec D N (diagStep D N (fun h ↦ ge (Layout.wnFlat D N h)) C)
                                      (diagStep D N (maskNyq D N fun h ↦ gc (Layout.wnFlat D N h))
                                        (Transform.rfftnM D N (𝒩 (Transform.irfftnM D N C)))))
                                  n (Transform.rfftnM D N u)) :=
  fun D N hD hN ge gc hge hgc 𝒩 h𝒩 u hu hP n =>
    repeated_loop_etd_nyqFree D N hD hN _ _ (hermOffNyq_of_wavenumber D N hD hN ge hge)
      (hermOffNyq_maskNyq D N hD hN _ (hermOffNyq_of_wavenumber D N hD hN gc hgc)) 𝒩 h𝒩
      (fun C _ _ h hh hq => by rw [maskNyq_of_nyq D N _ h hq, zero_mul]) u hu hP n

/-! ### non-vacuity on an even grid with an odd-order symbol -/

open Exponax.C2R in
/-- the hypotheses of `C14_repeated_linear_nyquist_free_even_grid` are jointly satisfiable on the EVEN grid `D = 1`, `N = 4`
    with the ODD-order symbol `g(k) = i·k` (one derivative) and the real state `u = (1, 0, −1, 0)` (`cos(2πx)` sampled), whose
    spectrum is Nyquist-free but not zero (`û_1 = 2`); the conclusion then holds for every `n` -/
example :
    (4 : ℕ) % 2 = 0 ∧
    (∀ k : List ℤ, (fun k : List ℤ => Complex.I * ((k.getD 0 0 : ℤ) : ℂ)) (k.map (fun x => -x))
        = (starRingEnd ℂ) ((fun k : List ℤ => Complex.I * ((k.getD 0 0 : ℤ) : ℂ)) k)) ∧
    RealState 1 4 #[(1 : ℂ), 0, -1, 0] ∧
    NyqFree 1 4 (Transform.rfftnM 1 4 #[(1 : ℂ), 0, -1, 0]) ∧
    NyqMode 1 4 2 ∧
    (Transform.rfftnM 1 4 #[(1 : ℂ), 0, -1, 0]).getD 1 0 = 2 ∧
    ∀ n : ℕ,
      Loops.repeatN (fun v ↦ Transform.irfftnM 1 4
          (diagStep 1 4 (fun h ↦ Complex.I * (((Layout.wnFlat 1 4 h).getD 0 0 : ℤ) : ℂ)) (Transform.rfftnM 1 4 v))) n
          #[(1 : ℂ), 0, -1, 0]
        = Transform.irfftnM 1 4
          (Loops.repeatedStepFourier (diagStep 1 4 fun h ↦ Complex.I * (((Layout.wnFlat 1 4 h).getD 0 0 : ℤ) : ℂ)) n
            (Transform.rfftnM 1 4 #[(1 : ℂ), 0, -1, 0])) :=
  ⟨rfl, deriv_symbol_herm, realState_cos4, nyqFree_cos4,
    (nyqMode_1_4 2 (by rw [DFT.numModes_one]; norm_num)).mpr rfl, rfft_cos4_one,
    fun n => C14_repeated_linear_nyquist_free_even_grid 1 4 (by norm_num) (by norm_num)
      (fun k : List ℤ => Complex.I * ((k.getD 0 0 : ℤ) : ℂ)) deriv_symbol_herm _ realState_cos4 nyqFree_cos4 n⟩

open Exponax.C2R in
/-- the symbol of that example is NOT Hermitian at the Nyquist mode (its Nyquist factor `2i` is not real), so
    `C14_repeated_linear_is_the_loop` does not apply to it: the Nyquist-free theorem covers a case outside that theorem -/
example : ¬ HermSymbol 1 4 (fun h ↦ Complex.I * (((Layout.wnFlat 1 4 h).getD 0 0 : ℤ) : ℂ)) := by
  intro H
  have h2 := ((hermSymbol_1d_iff 4 (by norm_num) _).mp H).2 rfl
  have hk : (Layout.wnFlat 1 4 (4 / 2)).getD 0 0 = ((2 : ℕ) : ℤ) := by
    rw [wnFlat_getD_last 0 4 (4 / 2) (by rw [DFT.numModes_one]; norm_num)]
  simp only [hk] at h2
  norm_num at h2

end Exponax
