import ExponaxModel.Properties.C12
import ExponaxModel.Properties.C14_aux
/-
C12 — the two wrappers composed.  `ForcedStepper(RepeatedStepper(s, n))` reads the time step it multiplies the forcing
with from the wrapped object (`self.stepper.dt`), and a `RepeatedStepper` reports `dt·n`.  On the REGENERATED definitions
(`Gen.Misc.forced_step_fourier` from `_forced_stepper.py`, `Gen.LoopsGen.RepeatedStepper_step_fourier` / `RepeatedStepper_dt` from
`_repeated_stepper.py`): the forced step of a sub-stepped stepper with forcing `f` is the `n`-fold inner step of `u + (n·dt)·f`;
with zero forcing it is the sub-stepped stepper; as a function of `dt` the forcing enters through the exact product `dt·n`
(no rounding, no truncation of the effective time step; `round(dt·n, 14)` in its place would break the statements below).
-/
namespace Exponax
open Exponax.Gen.Misc Exponax.Gen.LoopsGen

/-- forced step of a repeated stepper = `n` inner Fourier steps of `û + (dt·n)·f̂` -/
theorem C12_forced_repeated_stepper {V : Type} [CommRing V] (inner : V → V) (dt : V) (n : ℕ) (u f : V) :
    forced_step_fourier (RepeatedStepper_step_fourier n inner) (RepeatedStepper_dt dt n) u f
      = Loops.repeatN inner n (u + dt * (n : V) * f) := by
  unfold forced_step_fourier RepeatedStepper_step_fourier
  rw [Gen.LoopsGen.repeat_noaux_eq]
  rfl

/-- … with zero forcing it is the repeated stepper itself -/
theorem C12_forced_repeated_stepper_zero_forcing {V : Type} [CommRing V] (inner : V → V) (dt : V) (n : ℕ) (u : V) :
    forced_step_fourier (RepeatedStepper_step_fourier n inner) (RepeatedStepper_dt dt n) u 0
      = RepeatedStepper_step_fourier n inner u := by
  simp [forced_step_fourier]

/-- the effective time step a forced stepper sees is the exact product: linear in `dt`, slope `n` -/
theorem C12_forced_repeated_effective_dt {V : Type} [CommRing V] (dt dt' : V) (n : ℕ) :
    RepeatedStepper_dt (dt + dt') n = RepeatedStepper_dt dt n + RepeatedStepper_dt dt' n ∧
      RepeatedStepper_dt dt n = dt * (n : V) := by
  constructor
  · simp only [RepeatedStepper_dt, lit]
    ring
  · rfl

/-- non-vacuity: inner step `x ↦ 2x + 1` on ℤ, three sub-steps of dt = 5, forcing 7: `(x ↦ 2x+1)^3 (1 + 15·7)` -/
example : forced_step_fourier (RepeatedStepper_step_fourier 3 (fun x : ℤ => 2 * x + 1)) (RepeatedStepper_dt 5 3) 1 7
    = 855 := by decide

end Exponax
