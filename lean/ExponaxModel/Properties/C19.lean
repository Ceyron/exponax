import ExponaxModel.Proofs.SymbolAlgebra
import ExponaxModel.Proofs.Stiffness
import ExponaxModel.Properties.C02
import ExponaxModel.Proofs.ContourComplexNodes
import ExponaxModel.Proofs.ZeroState
/-
C19 — steps stay finite and precision-faithful across stiffness and dtype — PARTIAL.
Proved in exact arithmetic about the REGENERATED coefficient definitions: for real `z = λ dt ≤ 0` and even `M`
(the code's default M = 16) every contour node has non-zero imaginary part, hence is at distance ≥ r·sin(π/M) from 0,
for z = 0, tiny z and every stiff z alike; every contour integrand and every stored ETDRK1–4 coefficient is bounded
by `|dt|·C(r, M)` UNIFORMLY in the stiffness; the propagators are bounded by 1; one step is bounded in terms of the
state and the nonlinear evaluations.  IEEE overflow / underflow / NaN semantics and JAX dtype promotion are not
modelled: they are observed in a default (float32) and an x64 subprocess by the check.
-/
namespace Exponax
open Exponax.Gen.Etdrk Exponax.Stiffness

theorem C19_node_distance (M j : ℕ) (r z : ℂ) : ‖r * root_of_unity M j + z - z‖ = ‖r‖ := by
  rw [add_sub_cancel_right, norm_mul, norm_root_of_unity, mul_one]

theorem C19_contour_avoids_singularity (M j : ℕ) (r z : ℂ) (h : ‖z‖ ≠ ‖r‖) : r * root_of_unity M j + z ≠ 0 :=
  C02_contour_avoids_zero M j r z h

/-- for REAL z (every dissipative symbol) and even M no node is zero — for every z, including |z| = r -/
theorem C19_real_symbol_nodes_nonzero (M j : ℕ) (hM : 0 < M) (hev : M % 2 = 0) (r z : ℝ) (hr : r ≠ 0) :
    (r : ℂ) * root_of_unity M j + (z : ℂ) ≠ 0 := node_ne_zero M j hM hev r z hr

/-- quantitatively: distance at least `|r| sin(π/M)` from the singularity, uniformly in `z` -/
theorem C19_node_norm_lower (M j : ℕ) (hev : M % 2 = 0) (hM : 2 ≤ M) (hj : 1 ≤ j) (hj' : j ≤ M) (r z : ℝ) :
    |r| * Real.sin (Real.pi / M) ≤ ‖(r : ℂ) * root_of_unity M j + (z : ℂ)‖ ∧ 0 < Real.sin (Real.pi / M) :=
  ⟨node_norm_ge M j hev hM r z, sin_pi_div_pos M hM⟩

theorem C19_exp_term_bounded (dt : ℝ) (lam : ℂ) (hdt : 0 ≤ dt) (hl : lam.re ≤ 0) : ‖exp_term (dt : ℂ) lam‖ ≤ 1 :=
  norm_exp_term_le_one dt lam hdt hl

/-- every stored coefficient of the regenerated ETDRK1 / ETDRK4 definitions is bounded uniformly in the stiffness
    (the twelve others are in `Proofs/Stiffness.lean`) -/
theorem C19_coefficients_bounded (dt lam r : ℝ) (M : ℕ) (hev : M % 2 = 0) (hM : 2 ≤ M) (hr : 0 < r)
    (hz : lam * dt ≤ 0) :
    ‖E1_coef_1 (dt : ℂ) (lam : ℂ) M (r : ℂ)‖ ≤ |dt| * ((Real.exp r + 1) / nodeDist r M) ∧
    ‖E4_coef_4 (dt : ℂ) (lam : ℂ) M (r : ℂ)‖ ≤ |dt| * (4 * (1 + Real.exp r) / nodeDist r M ^ 3
        + (1 + 3 * Real.exp r) / nodeDist r M ^ 2 + Real.exp r / nodeDist r M) ∧ 0 < nodeDist r M :=
  ⟨E1_coef_1_bounded dt lam r M hev hM hr hz, E4_coef_4_bounded dt lam r M hev hM hr hz,
   nodeDist_pos r M hr hM⟩

/-- one ETDRK4 step per mode is bounded by the state plus `K` times four nonlinear evaluations -/
theorem C19_step_bounded (E Eh c1 c2 c3 c4 c5 c6 : ℂ) (N : ℂ → ℂ) (u : ℂ) (K : ℝ) (hE : ‖E‖ ≤ 1)
    (h4 : ‖c4‖ ≤ K) (h5 : ‖c5‖ ≤ K) (h6 : ‖c6‖ ≤ K) :
    ∃ a b c, ‖E4step E Eh c1 c2 c3 c4 c5 c6 N u‖ ≤ ‖u‖ + K * (‖N u‖ + 2 * (‖N a‖ + ‖N b‖) + ‖N c‖) := by
  refine ⟨Eh * u + c1 * N u, Eh * u + c2 * N (Eh * u + c1 * N u),
    Eh * (Eh * u + c1 * N u) + c3 * (2 * N (Eh * u + c2 * N (Eh * u + c1 * N u)) - N u), ?_⟩
  have := norm_E4_final_le E c4 c5 c6 u (N u) (N (Eh * u + c1 * N u))
    (N (Eh * u + c2 * N (Eh * u + c1 * N u)))
    (N (Eh * (Eh * u + c1 * N u) + c3 * (2 * N (Eh * u + c2 * N (Eh * u + c1 * N u)) - N u)))
    K hE h4 h5 h6
  simpa only [E4step, lit_eq, Nat.cast_ofNat] using this

example : (16 : ℕ) % 2 = 0 ∧ 2 ≤ 16 ∧ (0 : ℝ) < 1 ∧ (-1e15 : ℝ) * 1 ≤ 0 := by norm_num

/-! ### boundedness for COMPLEX symbols with Re λdt ≤ 0 (and a strip to the right), all fourteen coefficients, and a
bound on one step of every order for a bounded nonlinear term; what happens exactly ON a contour node -/

open Exponax.ContourComplex in
theorem C19_coefficients_bounded_complex :
    ∀ (dt lam : ℂ),
      (lam * dt).re ≤ 0 →
        (∀ ζ ∈ Gen.Etdrk.roots_of_unity 16, lam * dt ≠ -(1 * ζ)) →
          ‖Gen.Etdrk.E1_coef_1 dt lam 16 1‖ ≤ ‖dt‖ * (1 + 17e-13) ∧
            ‖Gen.Etdrk.E2_coef_1 dt lam 16 1‖ ≤ ‖dt‖ * (1 + 17e-13) ∧
              ‖Gen.Etdrk.E2_coef_2 dt lam 16 1‖ ≤ ‖dt‖ * (1 / 2 + 17e-13) ∧
                ‖Gen.Etdrk.E3_coef_1 dt lam 16 1‖ ≤ ‖dt‖ * (1 / 2 + 17e-13) ∧
                  ‖Gen.Etdrk.E3_coef_2 dt lam 16 1‖ ≤ ‖dt‖ * (1 + 17e-13) ∧
                    ‖Gen.Etdrk.E3_coef_3 dt lam 16 1‖ ≤ ‖dt‖ * (19 / 6 + 17e-13) ∧
                      ‖Gen.Etdrk.E3_coef_4 dt lam 16 1‖ ≤ ‖dt‖ * (10 / 3 + 17e-13) ∧
                        ‖Gen.Etdrk.E3_coef_5 dt lam 16 1‖ ≤ ‖dt‖ * (7 / 6 + 17e-13) ∧
                          ‖Gen.Etdrk.E4_coef_1 dt lam 16 1‖ ≤ ‖dt‖ * (1 / 2 + 17e-13) ∧
                            ‖Gen.Etdrk.E4_coef_2 dt lam 16 1‖ ≤ ‖dt‖ * (1 / 2 + 17e-13) ∧
                              ‖Gen.Etdrk.E4_coef_3 dt lam 16 1‖ ≤ ‖dt‖ * (1 / 2 + 17e-13) ∧
                                ‖Gen.Etdrk.E4_coef_4 dt lam 16 1‖ ≤ ‖dt‖ * (19 / 6 + 17e-13) ∧
                                  ‖Gen.Etdrk.E4_coef_5 dt lam 16 1‖ ≤ ‖dt‖ * (5 / 6 + 17e-13) ∧
                                    ‖Gen.Etdrk.E4_coef_6 dt lam 16 1‖ ≤ ‖dt‖ * (7 / 6 + 17e-13) :=
  fun dt lam hz hnz => by
    have h := norm_storedCoef_le dt lam hz hnz
    unfold storedCoef coefWeight at h
    simpa only [Fin.forall_fin_succ, Matrix.cons_val_zero, Matrix.cons_val_succ, IsEmpty.forall_iff,
      and_true] using h

open Exponax.ContourComplex in
theorem C19_coefficients_bounded_strip :
    ∀ (dt lam : ℂ) (c : ℝ),
      0 ≤ c →
        (lam * dt).re ≤ c →
          (∀ ζ ∈ Gen.Etdrk.roots_of_unity 16, lam * dt ≠ -(1 * ζ)) →
            ∀ (i : Fin 14), ‖storedCoef dt lam 16 1 i‖ ≤ ‖dt‖ * ((coefWeight i + 17e-13) * Real.exp c) :=
  @Exponax.ContourComplex.norm_storedCoef_le_strip

open Exponax.ContourComplex in
theorem C19_step_bounded_E1 :
    ∀ {ι : Type} (dt : ℂ) (lam : ι → ℂ) (N : (ι → ℂ) → ι → ℂ) (u : ι → ℂ) (B : ℝ),
      (∀ (i : ι), (lam i * dt).re ≤ 0) →
        (∀ (i : ι), ∀ ζ ∈ Gen.Etdrk.roots_of_unity 16, lam i * dt ≠ -(1 * ζ)) →
          (∀ (v : ι → ℂ) (i : ι), ‖N v i‖ ≤ B) →
            ∀ (i : ι),
              ‖Gen.Etdrk.E1step (fun i ↦ Gen.Etdrk.exp_term dt (lam i)) (fun i ↦ Gen.Etdrk.E1_coef_1 dt (lam i) 16 1) N u
                    i‖ ≤
                ‖u i‖ + ‖dt‖ * (1.001 * B) :=
  fun dt lam N u B hz hnz hN i => by
    have h := norm_E1step_vec N u 1 ‖dt‖ 1.001 B (norm_nonneg dt) hN _ _ _
      (fun i => norm_exp_term_le_one' dt (lam i) (hz i))
      (fun i => norm_storedCoef_le dt (lam i) (hz i) (hnz i) 0)
      (show (1 : ℝ) + 1.7e-12 ≤ 1.001 by norm_num) i
    rwa [one_mul] at h

open Exponax.ContourComplex in
theorem C19_step_bounded_E2 :
    ∀ {ι : Type} (dt : ℂ) (lam : ι → ℂ) (N : (ι → ℂ) → ι → ℂ) (u : ι → ℂ) (B : ℝ),
      (∀ (i : ι), (lam i * dt).re ≤ 0) →
        (∀ (i : ι), ∀ ζ ∈ Gen.Etdrk.roots_of_unity 16, lam i * dt ≠ -(1 * ζ)) →
          (∀ (v : ι → ℂ) (i : ι), ‖N v i‖ ≤ B) →
            ∀ (i : ι),
              ‖Gen.Etdrk.E2step (fun i ↦ Gen.Etdrk.exp_term dt (lam i)) (fun i ↦ Gen.Etdrk.E2_coef_1 dt (lam i) 16 1)
                    (fun i ↦ Gen.Etdrk.E2_coef_2 dt (lam i) 16 1) N u i‖ ≤
                ‖u i‖ + ‖dt‖ * (2.001 * B) :=
  fun dt lam N u B hz hnz hN i => by
    have h := norm_E2step_vec N u 1 ‖dt‖ 2.001 B (norm_nonneg dt) hN _ _ _ _ _
      (fun i => norm_exp_term_le_one' dt (lam i) (hz i))
      (fun i => norm_storedCoef_le dt (lam i) (hz i) (hnz i) 1)
      (fun i => norm_storedCoef_le dt (lam i) (hz i) (hnz i) 2)
      (show ((1 : ℝ) + 1.7e-12) + 2 * (1 / 2 + 1.7e-12) ≤ 2.001 by norm_num) i
    rwa [one_mul] at h

open Exponax.ContourComplex in
theorem C19_step_bounded_E3 :
    ∀ {ι : Type} (dt : ℂ) (lam : ι → ℂ) (N : (ι → ℂ) → ι → ℂ) (u : ι → ℂ) (B : ℝ),
      (∀ (i : ι), (lam i * dt).re ≤ 0) →
        (∀ (i : ι), ∀ ζ ∈ Gen.Etdrk.roots_of_unity 16, lam i * dt ≠ -(1 * ζ)) →
          (∀ (v : ι → ℂ) (i : ι), ‖N v i‖ ≤ B) →
            ∀ (i : ι),
              ‖Gen.Etdrk.E3step (fun i ↦ Gen.Etdrk.exp_term dt (lam i)) (fun i ↦ Gen.Etdrk.E3_half_exp_term dt (lam i) 16 1)
                    (fun i ↦ Gen.Etdrk.E3_coef_1 dt (lam i) 16 1) (fun i ↦ Gen.Etdrk.E3_coef_2 dt (lam i) 16 1)
                    (fun i ↦ Gen.Etdrk.E3_coef_3 dt (lam i) 16 1) (fun i ↦ Gen.Etdrk.E3_coef_4 dt (lam i) 16 1)
                    (fun i ↦ Gen.Etdrk.E3_coef_5 dt (lam i) 16 1) N u i‖ ≤
                ‖u i‖ + ‖dt‖ * (7.67 * B) :=
  fun dt lam N u B hz hnz hN i => by
    have h := norm_E3step_vec N u 1 ‖dt‖ 7.67 B (norm_nonneg dt) hN _
      (fun i => Gen.Etdrk.E3_half_exp_term dt (lam i) 16 1) (fun i => Gen.Etdrk.E3_coef_1 dt (lam i) 16 1)
      (fun i => Gen.Etdrk.E3_coef_2 dt (lam i) 16 1) _ _ _ _ _ _
      (fun i => norm_exp_term_le_one' dt (lam i) (hz i))
      (fun i => norm_storedCoef_le dt (lam i) (hz i) (hnz i) 5)
      (fun i => norm_storedCoef_le dt (lam i) (hz i) (hnz i) 6)
      (fun i => norm_storedCoef_le dt (lam i) (hz i) (hnz i) 7)
      (show ((19 / 6 : ℝ) + 1.7e-12) + (10 / 3 + 1.7e-12) + (7 / 6 + 1.7e-12) ≤ 7.67 by norm_num) i
    rwa [one_mul] at h

open Exponax.ContourComplex in
theorem C19_step_bounded_E4_complex :
    ∀ {ι : Type} (dt : ℂ) (lam : ι → ℂ) (N : (ι → ℂ) → ι → ℂ) (u : ι → ℂ) (B : ℝ),
      (∀ (i : ι), (lam i * dt).re ≤ 0) →
        (∀ (i : ι), ∀ ζ ∈ Gen.Etdrk.roots_of_unity 16, lam i * dt ≠ -(1 * ζ)) →
          (∀ (v : ι → ℂ) (i : ι), ‖N v i‖ ≤ B) →
            ∀ (i : ι),
              ‖Gen.Etdrk.E4step (fun i ↦ Gen.Etdrk.exp_term dt (lam i)) (fun i ↦ Gen.Etdrk.E4_half_exp_term dt (lam i) 16 1)
                    (fun i ↦ Gen.Etdrk.E4_coef_1 dt (lam i) 16 1) (fun i ↦ Gen.Etdrk.E4_coef_2 dt (lam i) 16 1)
                    (fun i ↦ Gen.Etdrk.E4_coef_3 dt (lam i) 16 1) (fun i ↦ Gen.Etdrk.E4_coef_4 dt (lam i) 16 1)
                    (fun i ↦ Gen.Etdrk.E4_coef_5 dt (lam i) 16 1) (fun i ↦ Gen.Etdrk.E4_coef_6 dt (lam i) 16 1) N u i‖ ≤
                ‖u i‖ + ‖dt‖ * (7.67 * B) :=
  @Exponax.ContourComplex.norm_E4step_stored_le

open Exponax.ContourComplex in
theorem C19_on_a_node_the_closed_form_fails :
    ∀ (dt lam ζ0 : ℂ),
      ζ0 ∈ Gen.Etdrk.roots_of_unity 16 →
        lam * dt = -(1 * ζ0) → ∀ (i : Fin 14), ‖dt‖ * 1e-2 ≤ ‖storedCoef dt lam 16 1 i - dt * exactPhi (lam * dt) i‖ :=
  @Exponax.ContourComplex.storedCoef_error_at_node'

/-! ### the zero state: every model term without injection / source maps the zero spectrum to zero, hence every ETDRK
order keeps the zero state zero over any rollout -/

open Exponax.SmallGaps in
theorem C19_terms_map_zero_to_zero :
    ∀ (c : Nonlin.Cfg ℂ) (C : ℕ) (scale s0 s1 s2 kill : ℂ) (single conservative zeroFix : Bool)
      (coeffs : List ℂ),
      coeffs.getD 0 0 = 0 →
        ∀ (react : List ℂ → List ℂ),
          (∀ (ch : ℕ), (react (List.replicate C 0)).getD ch 0 = 0) →
            ZeroPreserving (Nonlin.convection c C scale single conservative) ∧
              ZeroPreserving (Nonlin.gradientNorm c C scale zeroFix) ∧
                ZeroPreserving (Nonlin.polynomial c C coeffs) ∧
                  ZeroPreserving (Nonlin.general c C s0 s1 s2 zeroFix) ∧
                    ZeroPreserving (Nonlin.vorticity2d c scale none) ∧
                      ZeroPreserving (Nonlin.projected3d c none) ∧
                        ZeroPreserving (Nonlin.leray c) ∧
                          ZeroPreserving (Nonlin.cahnHilliard c scale) ∧
                            ZeroPreserving (Nonlin.reaction c C react) ∧
                              ZeroPreserving (Nonlin.reaction c 2 (Nonlin.grayScottReact 0 kill)) ∧
                                ZeroPreserving (Nonlin.reaction c 3 Nonlin.bzReact) :=
  @Exponax.SmallGaps.zeroPreserving_terms

open Exponax.SmallGaps in
theorem C19_zero_state_stays_zero :
    ∀ (c : Nonlin.Cfg ℂ) (C : ℕ) (T : Nonlin.MC ℂ → Nonlin.MC ℂ),
      ZeroPreserving T →
        ∀ (e eh a1 a2 a3 a4 a5 a6 : ℕ → ℕ → ℂ) (n : ℕ),
          have N := EquivND.liftTermND c C T;
          (Gen.Etdrk.E0step e)^[n] 0 = 0 ∧
            (Gen.Etdrk.E1step e a1 N)^[n] 0 = 0 ∧
              (Gen.Etdrk.E2step e a1 a2 N)^[n] 0 = 0 ∧
                (Gen.Etdrk.E3step e eh a1 a2 a3 a4 a5 N)^[n] 0 = 0 ∧ (Gen.Etdrk.E4step e eh a1 a2 a3 a4 a5 a6 N)^[n] 0 = 0 :=
  fun c C T hT e eh a1 a2 a3 a4 a5 a6 n => etdrk_rollout_zero e eh a1 a2 a3 a4 a5 a6 _ (liftTermND_zero c C T hT) n

end Exponax
