import ExponaxModel.Properties.C13
import ExponaxModel.Proofs.StepperWiringEq
/-
C13 — the wiring of the stepper classes.  Separate file because the wiring library builds on the
conversion-formula theorems of `Properties/C13.lean`.
-/
namespace Exponax

/-! ### the WIRING of the stepper classes, regenerated from their `__init__` / `_build_nonlinear_fun` source
(`Gen.StepperWiring.*`, 37 classes): which nonlinear function is instantiated with which arguments, how the difficulty
and normalized interfaces convert their arguments, and that every option is forwarded unchanged -/
open Exponax.Gen.StepperWiring in
/-- the difficulty interface hands its parent exactly the documented conversions and EVERY option unchanged … -/
theorem C13_difficulty_interface_forwards (a : DifficultyConvectionStepperArgs ℂ) :
    DifficultyConvectionStepper_super_args a =
      { num_spatial_dims := a.num_spatial_dims, num_points := a.num_points,
        normalized_linear_coefficients :=
          Gen.Convert.extract_normalized_coefficients_from_difficulty a.linear_difficulties a.num_spatial_dims a.num_points,
        normalized_convection_scale :=
          Gen.Convert.extract_normalized_convection_scale_from_difficulty a.convection_difficulty a.num_spatial_dims
            a.num_points a.maximum_absolute,
        single_channel := a.single_channel, conservative := a.conservative, order := a.order,
        dealiasing_fraction := a.dealiasing_fraction, num_circle_points := a.num_circle_points,
        circle_radius := a.circle_radius } :=
  StepperWiringEq.DifficultyConvectionStepper_super_args_eq a

open Exponax.Gen.StepperWiring in
/-- … the normalized interface is the physical one at `L = 1`, `dt = 1` with the documented denormalisation … -/
theorem C13_normalized_interface (a : NormalizedConvectionStepperArgs ℂ) :
    let g := NormalizedConvectionStepper_super_args a
    g.domain_extent = 1 ∧ g.dt = 1 ∧
      g.linear_coefficients = Gen.Convert.denormalize_coefficients a.normalized_linear_coefficients g.domain_extent g.dt ∧
      g.convection_scale = Gen.Convert.denormalize_convection_scale a.normalized_convection_scale g.domain_extent g.dt := by
  simp [StepperWiringEq.NormalizedConvectionStepper_super_args_eq, StepperWiringEq.denormalize_coefficients_one,
    StepperWiringEq.denormalize_convection_scale_one]

open Exponax.Gen.StepperWiring in
/-- … and, end to end on the constructor arguments, the three interfaces and the specific steppers run the same
    documented convection term with the user's flags (Burgers, KdV, difficulty interface shown; all 37 classes are in
    `Proofs/StepperWiringEq.lean`) -/
theorem C13_same_nonlinear_term (c : Nonlin.Cfg ℂ) (b : BurgersArgs ℂ) (k : KortewegDeVriesArgs ℂ)
    (d : DifficultyConvectionStepperArgs ℂ) (uh : Nonlin.MC ℂ) (hb : b.num_spatial_dims = c.D)
    (hk : k.num_spatial_dims = c.D) (hd : d.num_spatial_dims = c.D) :
    Burgers_stepper_nonlinear_fun c b uh =
      Nonlin.convection (StepperWiringEq.withDF c b.dealiasing_fraction) (if b.single_channel = true then 1 else c.D)
        b.convection_scale b.single_channel b.conservative uh ∧
    KortewegDeVries_stepper_nonlinear_fun c k uh =
      Nonlin.convection (StepperWiringEq.withDF c k.dealiasing_fraction) (if k.single_channel = true then 1 else c.D)
        k.convection_scale k.single_channel k.conservative uh ∧
    DifficultyConvectionStepper_stepper_nonlinear_fun c d uh =
      Nonlin.convection (StepperWiringEq.withDF c d.dealiasing_fraction) (if d.single_channel = true then 1 else c.D)
        (d.convection_difficulty / (d.maximum_absolute * (d.num_points : ℂ) * (d.num_spatial_dims : ℂ))) d.single_channel
        d.conservative uh :=
  ⟨StepperWiringEq.Burgers_stepper_nonlinear_fun_eq c b uh hb,
   StepperWiringEq.KortewegDeVries_stepper_nonlinear_fun_eq c k uh hk,
   StepperWiringEq.DifficultyConvectionStepper_stepper_nonlinear_fun_eq c d uh hd⟩

/-- argument normalisation: a full matrix diffusivity is stored as given, a scalar as ν·I -/
theorem C13_argument_normalisation (A : List (List ℂ)) (D : ℕ) (ν : ℂ) :
    Gen.StepperWiring.AdvectionDiffusion_init_diffusivity_matrix A = A ∧
      Gen.StepperWiring.Diffusion_init_diffusivity_scalar D ν = StepperWiringEq.scalarM D ν :=
  ⟨StepperWiringEq.AdvectionDiffusion_init_diffusivity_matrix_eq A, StepperWiringEq.Diffusion_init_diffusivity_scalar_eq D ν⟩

theorem C13_wiring_coverage : Gen.StepperWiring.generated_classes.length = 37 := by
  rw [StepperWiringEq.generated_classes_pinned]; rfl

end Exponax
