import ExponaxModel.Model.Loops
import ExponaxModel.Proofs.LoopsLemmas
import ExponaxModel.Proofs.BatchLemmas
/-
C06 — results are invariant under jit, vmap and scan composition — PARTIAL.
What a theorem can carry: the pure-function statements about `Loops.*` below (a batch is a list of states, `vmap f`
is `List.map f`; a swept parameter is `zipWith`).  XLA compilation, tracer semantics and Python-level
value-dependent branching under tracing are not modelled; they are reached by the correspondence (eager /
filter_jit / vmap / vmap∘jit∘rollout outputs of every public stepper class against the single model evaluation) and
by the oracle.
-/
namespace Exponax
open Exponax.Loops

/-- mapping `repeat` over a batch equals repeating the mapped stepper -/
theorem C06_repeat_map {S : Type} (f : S → S) (n : ℕ) (us : List S) :
    repeatN (List.map f) n us = us.map (repeatN f n) := repeatN_map f n us

/-- each batch member's result depends only on that member -/
theorem C06_batch_independence {S : Type} (f : S → S) (us : List S) (b : ℕ) (hb : b < us.length) :
    (us.map f)[b]'(by simpa using hb) = f (us[b]) := by simp

/-- time entry `t` of the rollout of the mapped stepper is the batch of the `t`-th iterates -/
theorem C06_rollout_map_entry {S : Type} (f : S → S) (n t : ℕ) (ht : t < n) (us : List S) :
    (rollout (List.map f) n false us)[t]? = some (us.map (f^[t + 1])) := by
  rw [rollout_false_getElem? _ _ _ _ ht, iterate_map]

/-- vmap∘rollout = transpose(rollout∘vmap): entry `[t][b]` of the rollout of the batched stepper is entry `[b][t]`
    of the batch of rollouts — for every `t`, `b`, in or out of range, with or without the initial state -/
theorem C06_rollout_vmap_transpose {S : Type} (f : S → S) (n : ℕ) (incl : Bool) (us : List S) (t b : ℕ) :
    ((rollout (List.map f) n incl us)[t]?.bind fun x => x[b]?) =
      (List.map (rollout f n incl) us)[b]?.bind fun x => x[t]? := rollout_map_transpose f n incl us t b

/-- no cross-talk: replacing another batch member leaves row `b` of the whole trajectory unchanged -/
theorem C06_no_cross_talk {S : Type} (f : S → S) (n : ℕ) (incl : Bool) (us : List S) (b b' : ℕ) (hb : b' ≠ b)
    (x : S) (t : ℕ) :
    ((rollout (List.map f) n incl (us.set b' x))[t]?.bind fun y => y[b]?) =
      (rollout (List.map f) n incl us)[t]?.bind fun y => y[b]? := rollout_map_row_set f n incl us b b' hb x t

/-- a parameter sweep (vmap over a constructor argument) equals building each stepper separately -/
theorem C06_parameter_sweep {S P : Type} (mk : P → S → S) (ps : List P) (n : ℕ) (incl : Bool) (us : List S)
    (hl : us.length ≤ ps.length) (t b : ℕ) :
    ((rollout (List.zipWith (fun f u => f u) (List.map mk ps)) n incl us)[t]?.bind fun x => x[b]?) =
      ps[b]?.bind fun p => us[b]?.bind fun u => (rollout (mk p) n incl u)[t]? :=
  rollout_sweep_entry mk ps n incl us hl t b

example : repeatN (List.map (· + 1)) 3 [0, 10] = [3, 13] := by decide

end Exponax
