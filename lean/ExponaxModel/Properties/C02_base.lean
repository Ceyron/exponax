import ExponaxModel.Proofs.BaseStepperGenEq
/-
C02 — the glue between a stepper and its integrator.  `BaseStepper.__init__` (order dispatch: which ETDRK
class is built for `order`, with which `dt`, `num_circle_points`, `circle_radius` — bound through each constructor's real
signature, defaults included), `BaseStepper.step_fourier`, `BaseStepper.step` are REGENERATED from
`exponax/_base_stepper.py` on every run (`Generated/BaseStepperGen.lean`).  The theorems say that a stepper constructed
with `order = p` evaluates exactly the ETDRK-p update (`Interface.etdrkStep`: regenerated coefficient arrays computed
entrywise from the stepper's own linear operator and the USER's `dt`, `M`, `r`, fed to the regenerated stage formulas with
the stepper's own nonlinear function), that `order = 0` is the pure linear propagation, and that `step` is that update
between the model transforms.  Separate file because the library builds on `Properties/C13*.lean`.
-/
namespace Exponax
open Exponax.Layout Exponax.Transform Exponax.Nonlin Exponax.Gen.Etdrk Exponax.Gen.StepperWiring Exponax.Gen.Base
open Exponax.Interface Exponax.BaseStepperGenEq

/-- a stepper constructed with `order = p ≤ 4` steps with the ETDRK-p update assembled from ITS OWN linear operator
    (`lam`), ITS OWN nonlinear function (`N`) and the USER's `dt`, `num_circle_points`, `circle_radius` -/
theorem C02_base_stepper_step_is_etdrk (a : BaseStepperArgs ℂ) (h : a.order ≤ 4) (lam : Spec) (N : Spec → Spec)
    (u : Spec) :
    BaseStepper_step_fourier a (entrywiseOf lam) N u
      = some (etdrkStep a.order a.dt lam a.num_circle_points a.circle_radius N u) :=
  BaseStepper_step_fourier_some a h lam N u

/-- every other order is refused by the constructor (`NotImplementedError`), in agreement with the regenerated guard -/
theorem C02_base_stepper_unsupported_order_raises (a : BaseStepperArgs ℂ) (h : 4 < a.order) (lam : Spec)
    (N : Spec → Spec) (u : Spec) :
    BaseStepper_step_fourier a (entrywiseOf lam) N u = none ∧
      Exponax.Gen.Guards.BaseStepper_init_accepts a.num_spatial_dims a.num_points a.num_channels a.order
        ([1] ++ Exponax.Gen.SpectralLayout.wavenumber_shape a.num_spatial_dims a.num_points) = false := by
  refine ⟨BaseStepper_step_fourier_raises a h lam N u, ?_⟩
  have h0 : (a.order == 0) = false := by simp; omega
  have h1 : (a.order == 1) = false := by simp; omega
  have h2 : (a.order == 2) = false := by simp; omega
  have h3 : (a.order == 3) = false := by simp; omega
  have h4 : (a.order == 4) = false := by simp; omega
  simp [Exponax.Gen.Guards.BaseStepper_init_accepts, h0, h1, h2, h3, h4]

/-- the integrator class per order -/
theorem C02_base_stepper_integrator_class (p : ℕ) :
    BaseStepper_init_integrator_class p = if p ≤ 4 then some s!"ETDRK{p}" else none := by
  rcases p with _ | _ | _ | _ | _ | p
  · rfl
  · rfl
  · rfl
  · rfl
  · rfl
  · have : ¬ (p + 1 + 1 + 1 + 1 + 1 ≤ 4) := by omega
    simp [BaseStepper_init_integrator_class, this]

/-- "order 0 reduces to the pure linear propagation": whole spectra, `û ↦ e^{dt·λ}·û` entry by entry, whatever the
    nonlinear function, the contour parameters and the channel count are -/
theorem C02_base_stepper_order0_is_linear_propagation (a : BaseStepperArgs ℂ) (h0 : a.order = 0) (lam : Spec)
    (N : Spec → Spec) (u : Spec) :
    BaseStepper_step_fourier a (entrywiseOf lam) N u
      = some (fun ch h => Complex.exp (a.dt * lam ch h) * u ch h) := by
  rw [BaseStepper_step_fourier_some a (by omega), h0]
  rfl

/-- order 1, entry by entry: exponential Euler with the stored contour coefficient of the user's `(dt, M, r)` -/
theorem C02_base_stepper_order1_entrywise (a : BaseStepperArgs ℂ) (h1 : a.order = 1) (lam : Spec)
    (N : Spec → Spec) (u : Spec) :
    BaseStepper_step_fourier a (entrywiseOf lam) N u
      = some (fun ch h => Complex.exp (a.dt * lam ch h) * u ch h
          + E1_coef_1 a.dt (lam ch h) a.num_circle_points a.circle_radius * N u ch h) := by
  rw [BaseStepper_step_fourier_some a (by omega), h1]
  rfl

/-- the step depends on the constructor arguments only through `(order, dt, num_circle_points, circle_radius)` and the
    class's operator / nonlinear function: two configurations that agree on these step identically -/
theorem C02_base_stepper_only_these_arguments_matter (a b : BaseStepperArgs ℂ) (ho : a.order = b.order)
    (hdt : a.dt = b.dt) (hM : a.num_circle_points = b.num_circle_points) (hr : a.circle_radius = b.circle_radius)
    (lam : Spec) (N : Spec → Spec) (u : Spec) :
    BaseStepper_step_fourier a (entrywiseOf lam) N u = BaseStepper_step_fourier b (entrywiseOf lam) N u := by
  rw [BaseStepper_step_fourier_eq, BaseStepper_step_fourier_eq, ho, hdt, hM, hr]

/-- `BaseStepper.step` is `irfftn ∘ step_fourier ∘ rfftn` of the configured `(D, N)`, channel by channel -/
theorem C02_base_stepper_step_between_transforms (a : BaseStepperArgs ℂ) (hD : 1 ≤ a.num_spatial_dims)
    (sf : MC ℂ → Option (MC ℂ)) (u : MC ℂ) :
    BaseStepper_step a sf u
      = (sf (tabC a.num_channels (fun i => rfftnM a.num_spatial_dims a.num_points (u.getD i #[])))).map
          (fun v => tabC a.num_channels (fun i => irfftnM a.num_spatial_dims a.num_points (v.getD i #[]))) :=
  BaseStepper_step_eq a hD sf u

/-- what the constructor stores and hands on: the user's arguments, `dx = L/N`, one derivative operator (of the user's
    `(D, L, N)`, "ij") for both builders -/
theorem C02_base_stepper_constructor_forwards (a : BaseStepperArgs ℂ) :
    BaseStepper_init_derivative_operator_args a = (a.num_spatial_dims, a.domain_extent, a.num_points, "ij") ∧
    BaseStepper_init_builders
      = [("linear_operator", "_build_linear_operator"), ("nonlinear_fun", "_build_nonlinear_fun")] ∧
    BaseStepper_init_attr_dt a = a.dt ∧ BaseStepper_init_attr_dx a = a.domain_extent / (a.num_points : ℂ) :=
  ⟨rfl, rfl, rfl, rfl⟩

/-- non-vacuity: a third-order stepper on a concrete symbol evaluates `etdrkStep 3`; a fifth-order one is refused -/
example : BaseStepper_step_fourier (K := ℂ) ⟨1, 1, 8, 0.1, 1, 3, 16, 1⟩ (entrywiseOf (fun _ h => -(h : ℂ))) id (fun _ _ => 1)
    = some (etdrkStep 3 0.1 (fun _ h => -(h : ℂ)) 16 1 id (fun _ _ => 1)) :=
  BaseStepper_step_fourier_some _ (by decide) _ _ _
example : BaseStepper_step_fourier (K := ℂ) ⟨1, 1, 8, 0.1, 1, 5, 16, 1⟩ (entrywiseOf (fun _ h => -(h : ℂ))) id (fun _ _ => 1)
    = none :=
  BaseStepper_step_fourier_raises _ (by decide) _ _ _

end Exponax
