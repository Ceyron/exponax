import ExponaxModel.Proofs.InterfaceLinear
/-
C13 — step-level "specific = generic" for the LINEAR steppers and for Navier–Stokes in vorticity form.  Separate
file because the library builds on `Proofs/InterfaceSpecific.lean` (`baseStep_congr`) and `Proofs/InterfaceAssembly2.lean`
(`GeneralLinearStepper_step`).

`X_step a` is `Interface.baseStep` (regenerated `BaseStepper.__init__` + `step_fourier`: derivative operator of `(D, L, N)`,
regenerated ETDRK coefficients and stage formulas of the order the class hands to `BaseStepper`, whole spectra of all channels)
on the class's regenerated `_build_linear_operator` (`Gen.Steppers`) applied to the regenerated STORED attributes and on its
regenerated `__init__ → _build_nonlinear_fun` wiring (`Gen.StepperWiring`).  The linear classes (`Advection`, `Diffusion`,
`AdvectionDiffusion`, `Dispersion`, `HyperDiffusion`, `GeneralLinearStepper`) fix `order = 0`, 16 contour points, radius 1
themselves, so that is the order covered for them; `NavierStokesVorticity` / `GeneralVorticityConvectionStepper` forward the
order (0..4), the dealiasing fraction and the contour.  Every `D`, `N`, complex `L`, `dt`.

  Advection(v)                 = GeneralLinearStepper([0, −v])
  Diffusion(ν)                 = GeneralLinearStepper([0, 0, ν])
  AdvectionDiffusion(v, ν)     = GeneralLinearStepper([0, −v, ν])
  Dispersion(ξ)                = GeneralLinearStepper([0, 0, 0, +ξ])      default flag, or D = 1 with any flag
  HyperDiffusion(μ)            = GeneralLinearStepper([0, 0, 0, 0, −μ])   default flag, or D = 1 with any flag
  NavierStokesVorticity(ν, b, drag) = GeneralVorticityConvectionStepper(b, [drag / D, 0, ν], injection_scale = 0)

The non-default mixing flags and anisotropic coefficients have no generic equivalent in `D ≥ 2`, and the naive zeroth coefficient
`drag` (instead of `drag / D`) is wrong in the class's dimension `D = 2` — counterexample theorems below.
-/
namespace Exponax

open Exponax.Interface in
/-- `Advection` with a scalar velocity `v` takes the same step (whole spectrum) as `GeneralLinearStepper` with
    `linear_coefficients = (0, −v)` on the same `D`, `L`, `N`, `dt`; every `D`, `N`, complex `L`, `dt`. -/
theorem C13_advection_step_is_general_linear_step :
    ∀ (a : Gen.StepperWiring.AdvectionArgs ℂ) (v : ℂ),
      a.velocity = Gen.StepperWiring.Arg.scalar v →
        Advection_step a =
          GeneralLinearStepper_step
            { num_spatial_dims := a.num_spatial_dims, domain_extent := a.domain_extent, num_points := a.num_points,
              dt := a.dt, linear_coefficients := [0, -v] } :=
  fun a v hv => Advection_step_eq_general_of_stored a v (by rw [StepperWiringEq.Advection_attrs_eq, hv])

open Exponax.Interface in
/-- the same for a velocity VECTOR all of whose entries are `v` (in particular every one-entry vector in 1-D). -/
theorem C13_advection_uniform_vector_step_is_general_linear_step :
    ∀ (a : Gen.StepperWiring.AdvectionArgs ℂ) (v : ℂ),
      a.velocity = Gen.StepperWiring.Arg.vector (List.replicate a.num_spatial_dims v) →
        Advection_step a =
          GeneralLinearStepper_step
            { num_spatial_dims := a.num_spatial_dims, domain_extent := a.domain_extent, num_points := a.num_points,
              dt := a.dt, linear_coefficients := [0, -v] } :=
  fun a v hv => Advection_step_eq_general_of_stored a v (by rw [StepperWiringEq.Advection_attrs_eq, hv])

open Exponax.Interface in
/-- an ANISOTROPIC velocity `(v₁, v₂)`, `v₁ ≠ v₂`, has no generic equivalent, whatever the coefficient list: the generic
    operator agrees on `κ = (i, 0)` and `κ = (0, i)`, the regenerated `Advection` operator does not. -/
theorem C13_advection_anisotropic_has_no_general_equivalent :
    ∀ (v₁ v₂ : ℂ), v₁ ≠ v₂ → ∀ (cs : List ℂ),
      ¬ (Gen.Steppers.Advection_linear_operator [Complex.I, 0] [v₁, v₂]
            = Gen.Steppers.GeneralLinearStepper_linear_operator [Complex.I, 0] cs
          ∧ Gen.Steppers.Advection_linear_operator [0, Complex.I] [v₁, v₂]
            = Gen.Steppers.GeneralLinearStepper_linear_operator [0, Complex.I] cs) := by
  rintro v₁ v₂ hv cs ⟨h1, h2⟩
  have hg : Gen.Steppers.GeneralLinearStepper_linear_operator [Complex.I, 0] cs
      = Gen.Steppers.GeneralLinearStepper_linear_operator [0, Complex.I] cs := by
    rw [GeneralLinearStepper_linear_operator_eq, GeneralLinearStepper_linear_operator_eq]
    exact Finset.sum_congr rfl fun j _ => by rw [psum_pair, psum_pair, add_comm]
  rw [← hg, ← h1, Advection_linear_operator_eq [0, Complex.I] [v₁, v₂] rfl,
    Advection_linear_operator_eq [Complex.I, 0] [v₁, v₂] rfl, vdot_pair, vdot_pair, pow_one, pow_one, mul_zero, mul_zero,
    zero_add, add_zero, neg_inj] at h2
  exact hv (mul_right_cancel₀ Complex.I_ne_zero h2).symm

open Exponax.Interface in
/-- `Diffusion` with a scalar diffusivity `ν` takes the same step as `GeneralLinearStepper` with
    `linear_coefficients = (0, 0, ν)`. -/
theorem C13_diffusion_step_is_general_linear_step :
    ∀ (a : Gen.StepperWiring.DiffusionArgs ℂ) (ν : ℂ),
      a.diffusivity = Gen.StepperWiring.Arg.scalar ν →
        Diffusion_step a =
          GeneralLinearStepper_step
            { num_spatial_dims := a.num_spatial_dims, domain_extent := a.domain_extent, num_points := a.num_points,
              dt := a.dt, linear_coefficients := [0, 0, ν] } :=
  fun a ν hν => Diffusion_step_eq_general_of_stored a ν (by rw [StepperWiringEq.Diffusion_attrs_eq, hν])

open Exponax.Interface in
/-- the same for a diffusivity VECTOR all of whose entries are `ν` (stored as `diag(ν, …, ν)`). -/
theorem C13_diffusion_uniform_vector_step_is_general_linear_step :
    ∀ (a : Gen.StepperWiring.DiffusionArgs ℂ) (ν : ℂ),
      a.diffusivity = Gen.StepperWiring.Arg.vector (List.replicate a.num_spatial_dims ν) →
        Diffusion_step a =
          GeneralLinearStepper_step
            { num_spatial_dims := a.num_spatial_dims, domain_extent := a.domain_extent, num_points := a.num_points,
              dt := a.dt, linear_coefficients := [0, 0, ν] } :=
  fun a ν hν => Diffusion_step_eq_general_of_stored a ν
    (by rw [StepperWiringEq.Diffusion_attrs_eq, hν]; simp only [StepperWiringEq.diagM_replicate])

open Exponax.Interface in
/-- … and for the diffusivity MATRIX `ν·I`. -/
theorem C13_diffusion_scalar_matrix_step_is_general_linear_step :
    ∀ (a : Gen.StepperWiring.DiffusionArgs ℂ) (ν : ℂ),
      a.diffusivity = Gen.StepperWiring.Arg.matrix (StepperWiringEq.scalarM a.num_spatial_dims ν) →
        Diffusion_step a =
          GeneralLinearStepper_step
            { num_spatial_dims := a.num_spatial_dims, domain_extent := a.domain_extent, num_points := a.num_points,
              dt := a.dt, linear_coefficients := [0, 0, ν] } :=
  fun a ν hν => Diffusion_step_eq_general_of_stored a ν (by rw [StepperWiringEq.Diffusion_attrs_eq, hν])

open Exponax.Interface in
/-- `AdvectionDiffusion` with scalar velocity `v` and scalar diffusivity `ν` takes the same step as `GeneralLinearStepper`
    with `linear_coefficients = (0, −v, ν)`. -/
theorem C13_advection_diffusion_step_is_general_linear_step :
    ∀ (a : Gen.StepperWiring.AdvectionDiffusionArgs ℂ) (v ν : ℂ),
      a.velocity = Gen.StepperWiring.Arg.scalar v →
        a.diffusivity = Gen.StepperWiring.Arg.scalar ν →
          AdvectionDiffusion_step a =
            GeneralLinearStepper_step
              { num_spatial_dims := a.num_spatial_dims, domain_extent := a.domain_extent, num_points := a.num_points,
                dt := a.dt, linear_coefficients := [0, -v, ν] } :=
  fun a v ν hv hν => AdvectionDiffusion_step_eq_general_of_stored a v ν
    (by rw [StepperWiringEq.AdvectionDiffusion_attrs_eq, hv]) (by rw [StepperWiringEq.AdvectionDiffusion_attrs_eq, hν])

open Exponax.Interface in
/-- the same for a velocity vector and a diffusivity vector with equal entries. -/
theorem C13_advection_diffusion_uniform_vector_step_is_general_linear_step :
    ∀ (a : Gen.StepperWiring.AdvectionDiffusionArgs ℂ) (v ν : ℂ),
      a.velocity = Gen.StepperWiring.Arg.vector (List.replicate a.num_spatial_dims v) →
        a.diffusivity = Gen.StepperWiring.Arg.vector (List.replicate a.num_spatial_dims ν) →
          AdvectionDiffusion_step a =
            GeneralLinearStepper_step
              { num_spatial_dims := a.num_spatial_dims, domain_extent := a.domain_extent, num_points := a.num_points,
                dt := a.dt, linear_coefficients := [0, -v, ν] } :=
  fun a v ν hv hν => AdvectionDiffusion_step_eq_general_of_stored a v ν
    (by rw [StepperWiringEq.AdvectionDiffusion_attrs_eq, hv])
    (by rw [StepperWiringEq.AdvectionDiffusion_attrs_eq, hν]; simp only [StepperWiringEq.diagM_replicate])

open Exponax.Interface in
/-- `Dispersion` with a scalar dispersivity `ξ` and the default `advect_on_diffusion = False` takes the same step as
    `GeneralLinearStepper` with `linear_coefficients = (0, 0, 0, +ξ)` (PLUS: unlike the dispersivity of `KortewegDeVries`,
    which enters the generic list as `−ξ`). -/
theorem C13_dispersion_step_is_general_linear_step :
    ∀ (a : Gen.StepperWiring.DispersionArgs ℂ) (ξ : ℂ),
      a.dispersivity = Gen.StepperWiring.Arg.scalar ξ →
        a.advect_on_diffusion = false →
          Dispersion_step a =
            GeneralLinearStepper_step
              { num_spatial_dims := a.num_spatial_dims, domain_extent := a.domain_extent, num_points := a.num_points,
                dt := a.dt, linear_coefficients := [0, 0, 0, ξ] } :=
  fun a ξ hξ hmix =>
    Dispersion_step_eq_general_of_stored a ξ (by rw [StepperWiringEq.Dispersion_attrs_eq, hξ]) (Or.inl hmix)

open Exponax.Interface in
/-- in ONE dimension the same holds for either value of `advect_on_diffusion` (`∂_x ∘ ∂_xx = ∂_xxx`). -/
theorem C13_dispersion_step_is_general_linear_step_1d :
    ∀ (a : Gen.StepperWiring.DispersionArgs ℂ) (ξ : ℂ),
      a.dispersivity = Gen.StepperWiring.Arg.scalar ξ →
        a.num_spatial_dims = 1 →
          Dispersion_step a =
            GeneralLinearStepper_step
              { num_spatial_dims := a.num_spatial_dims, domain_extent := a.domain_extent, num_points := a.num_points,
                dt := a.dt, linear_coefficients := [0, 0, 0, ξ] } :=
  fun a ξ hξ hD =>
    Dispersion_step_eq_general_of_stored a ξ (by rw [StepperWiringEq.Dispersion_attrs_eq, hξ]) (Or.inr hD)

open Exponax.Interface in
/-- `advect_on_diffusion = True` is NOT the generic `(0, 0, 0, ξ)` in two dimensions: at `κ = (i, i)` the regenerated
    operators are `−4iξ` and `−2iξ`, for every `ξ ≠ 0`. -/
theorem C13_dispersion_mixed_flag_is_not_general_2d :
    ∀ (ξ : ℂ), ξ ≠ 0 →
      Gen.Steppers.Dispersion_linear_operator [Complex.I, Complex.I] (List.replicate 2 ξ) true ≠
        Gen.Steppers.GeneralLinearStepper_linear_operator [Complex.I, Complex.I] [0, 0, 0, ξ] := by
  intro ξ hξ h
  rw [Dispersion_linear_operator_mixed [Complex.I, Complex.I] (List.replicate 2 ξ) rfl,
    GeneralLinearStepper_linear_operator_eq, sum_coeffs_four, show List.replicate 2 ξ = [ξ, ξ] from rfl, vdot_pair] at h
  simp only [psum_pair] at h
  have h' : ξ * Complex.I = 0 := by linear_combination (-1 / 2 : ℂ) * h + ξ * Complex.I * Complex.I_sq
  exact hξ ((mul_eq_zero.mp h').resolve_right Complex.I_ne_zero)

open Exponax.Interface in
/-- `HyperDiffusion` with hyper-diffusivity `μ` and the default `diffuse_on_diffuse = False` takes the same step as
    `GeneralLinearStepper` with `linear_coefficients = (0, 0, 0, 0, −μ)`. -/
theorem C13_hyper_diffusion_step_is_general_linear_step :
    ∀ (a : Gen.StepperWiring.HyperDiffusionArgs ℂ),
      a.diffuse_on_diffuse = false →
        HyperDiffusion_step a =
          GeneralLinearStepper_step
            { num_spatial_dims := a.num_spatial_dims, domain_extent := a.domain_extent, num_points := a.num_points,
              dt := a.dt, linear_coefficients := [0, 0, 0, 0, -a.hyper_diffusivity] } :=
  fun a hmix => HyperDiffusion_step_eq_general_of a (Or.inl hmix)

open Exponax.Interface in
/-- in ONE dimension the same holds for either value of `diffuse_on_diffuse` (`∂_xx ∘ ∂_xx = ∂_xxxx`). -/
theorem C13_hyper_diffusion_step_is_general_linear_step_1d :
    ∀ (a : Gen.StepperWiring.HyperDiffusionArgs ℂ),
      a.num_spatial_dims = 1 →
        HyperDiffusion_step a =
          GeneralLinearStepper_step
            { num_spatial_dims := a.num_spatial_dims, domain_extent := a.domain_extent, num_points := a.num_points,
              dt := a.dt, linear_coefficients := [0, 0, 0, 0, -a.hyper_diffusivity] } :=
  fun a hD => HyperDiffusion_step_eq_general_of a (Or.inr hD)

open Exponax.Interface in
/-- `diffuse_on_diffuse = True` is NOT the generic `(0, 0, 0, 0, −μ)` in two dimensions: at `κ = (i, i)` the regenerated
    operators are `−4μ` and `−2μ`, for every `μ ≠ 0`. -/
theorem C13_hyper_diffusion_mixed_flag_is_not_general_2d :
    ∀ (μ : ℂ), μ ≠ 0 →
      Gen.Steppers.HyperDiffusion_linear_operator [Complex.I, Complex.I] μ true ≠
        Gen.Steppers.GeneralLinearStepper_linear_operator [Complex.I, Complex.I] [0, 0, 0, 0, -μ] := by
  intro μ hμ h
  rw [HyperDiffusion_linear_operator_mixed, GeneralLinearStepper_linear_operator_eq, sum_coeffs_five] at h
  simp only [psum_pair] at h
  exact hμ (by linear_combination (-1 / 2 : ℂ) * h + μ * (1 - Complex.I ^ 2) * Complex.I_sq)

open Exponax.Interface in
/-- `NavierStokesVorticity(ν, b, drag, order, dealiasing, contour)` takes the same step as
    `GeneralVorticityConvectionStepper` with the same `b`, order (0..4), dealiasing fraction and contour,
    `linear_coefficients = (drag / D, 0, ν)`, a numeric `injection_scale = 0` and ANY `injection_mode`; `D ≥ 1`
    (the class accepts `D = 2`: `drag / 2`). -/
theorem C13_navier_stokes_vorticity_step_is_general_vorticity_step :
    ∀ (a : Gen.StepperWiring.NavierStokesVorticityArgs ℂ),
      a.num_spatial_dims ≠ 0 →
        ∀ (m : ℕ),
          NavierStokesVorticity_step a =
            GeneralVorticityConvectionStepper_step
              { num_spatial_dims := a.num_spatial_dims, domain_extent := a.domain_extent, num_points := a.num_points,
                dt := a.dt, vorticity_convection_scale := a.vorticity_convection_scale,
                linear_coefficients := [a.drag / (a.num_spatial_dims : ℂ), 0, a.diffusivity], injection_mode := m,
                injection_scale := 0, order := a.order, dealiasing_fraction := a.dealiasing_fraction,
                num_circle_points := a.num_circle_points, circle_radius := a.circle_radius }
              true :=
  @Exponax.Interface.NavierStokesVorticity_step_eq_general_any_mode

open Exponax.Interface in
/-- without drag (the default `drag = 0`) the list is `(0, 0, ν)`, for every `D`. -/
theorem C13_navier_stokes_vorticity_no_drag_step_is_general_vorticity_step :
    ∀ (a : Gen.StepperWiring.NavierStokesVorticityArgs ℂ),
      a.drag = 0 →
        NavierStokesVorticity_step a =
          GeneralVorticityConvectionStepper_step
            { num_spatial_dims := a.num_spatial_dims, domain_extent := a.domain_extent, num_points := a.num_points,
              dt := a.dt, vorticity_convection_scale := a.vorticity_convection_scale,
              linear_coefficients := [0, 0, a.diffusivity], injection_mode := 4, injection_scale := 0,
              order := a.order, dealiasing_fraction := a.dealiasing_fraction,
              num_circle_points := a.num_circle_points, circle_radius := a.circle_radius }
            true :=
  fun a hdrag => NavierStokesVorticity_step_eq_general_with a 0 4 (by rw [zero_mul, hdrag])

open Exponax.Interface in
/-- the naive zeroth coefficient `a₀ = drag` is NOT the equivalent in the class's dimension `D = 2`: the generic symbol has
    `a₀ · Σ_d (i k_d)⁰ = 2·a₀`, so the regenerated operators differ at the mean mode for every `drag ≠ 0`. -/
theorem C13_navier_stokes_vorticity_zeroth_coefficient_is_drag_over_D :
    ∀ (N : ℕ) (L ν drag : ℂ),
      drag ≠ 0 →
        Gen.Steppers.NavierStokesVorticity_linear_operator (kappa (baseCfg 2 N L) 0) ν drag ≠
          Gen.Steppers.GeneralVorticityConvectionStepper_linear_operator (kappa (baseCfg 2 N L) 0) [drag, 0, ν] := by
  intro N L ν drag hr h
  rw [NavierStokesVorticity_linear_operator_eq, GeneralVorticityConvectionStepper_linear_operator_eq, sum_coeffs_three,
    psum_zero, kappa_length, show (((baseCfg 2 N L).D : ℕ) : ℂ) = 2 from Nat.cast_ofNat] at h
  exact hr (by linear_combination -h)

end Exponax
