import ExponaxModel.Proofs.EquivarianceAssembled
import ExponaxModel.Proofs.EquivarianceNDSteps
/-
C08 (continuation) — "stepping a state translated by whole grid cells gives the translated result for every autonomous
stepper and every state … every ETDRK order", for the ASSEMBLED, REGENERATED whole step.

`C08_translation_nd` / `C08_convection_translation_nd` (Properties/C08.lean) are stated for the ETDRK4 stage formulas with
abstract coefficient arrays.  Here the statement is made for the step the library actually assembles
(`Interface.X_step = baseStep`: regenerated `BaseStepper.__init__` + `step_fourier`, the class's regenerated
`_build_linear_operator` and `__init__ → _build_nonlinear_fun` wiring, the regenerated ETDRK coefficients — contour means with
the user's `num_circle_points`, `circle_radius` — and stage formulas of the REQUESTED order), for every order (0–4; for any other
`order` the model's `etdrkStep` is the identity, so no hypothesis on the order is needed), every dimension `D`, every grid
`N ≥ 1`, every integer shift vector `s` (entries beyond `D` are ignored, missing ones are `0`), every number of steps `n`, and
every multi-channel state `u : MC ℂ` — real or complex, any channel count (so in particular every real state).

  physCh D N v ch  = irfftn of channel `ch` of the spectral state `v`,      specMC D N u = rfftn of every channel of `u`,
  rollMC D N s u   = every channel rolled by `s`,                           rollND D N x s = the array `x` rolled by `s`.
-/
namespace Exponax
open Exponax.Nonlin Exponax.Interface Exponax.EquivND Exponax.EquivAssembled Exponax.SymmetryND
open Exponax.Gen.StepperWiring

/-- **GeneralConvectionStepper, whole regenerated step, every order, physical space.**
    `irfftn(step^n(rfftn(roll_s u))) = roll_s(irfftn(step^n(rfftn u)))` for every channel. -/
theorem C08_general_convection_stepper_commutes_with_translations (g : GeneralConvectionStepperArgs ℂ)
    (hN : 0 < g.num_points) (s : List ℤ) (n : ℕ) (u : MC ℂ) (ch : ℕ) :
    physCh g.num_spatial_dims g.num_points
        ((GeneralConvectionStepper_step g)^[n]
          (specMC g.num_spatial_dims g.num_points (rollMC g.num_spatial_dims g.num_points s u))) ch
      = rollND g.num_spatial_dims g.num_points
          (physCh g.num_spatial_dims g.num_points
            ((GeneralConvectionStepper_step g)^[n] (specMC g.num_spatial_dims g.num_points u)) ch) s :=
  GeneralConvectionStepper_physical_translation g hN s n u ch

/-- Fourier-space form: the whole regenerated step commutes with the multiplication of every stored mode of every channel by
    the shift phase `exp(−2πi k·s/N)`, for ANY spectral state (Hermitian or not) -/
theorem C08_general_convection_stepper_commutes_with_shift_phases (g : GeneralConvectionStepperArgs ℂ)
    (hN : 0 < g.num_points) (s : List ℤ) (u : ℕ → ℕ → ℂ) :
    GeneralConvectionStepper_step g (phaseMC g.num_spatial_dims g.num_points s * u)
      = phaseMC g.num_spatial_dims g.num_points s * GeneralConvectionStepper_step g u :=
  GeneralConvectionStepper_step_translation g hN s u

/-- the engine: one assembled ETDRK step of ANY order `p : ℕ`, coefficient arrays computed from ANY symbol array `lam`
    (diagonal symbols commute with shifts), ANY translation-equivariant term -/
theorem C08_assembled_etdrk_step_commutes_with_shift_phases (c : Cfg ℂ) (s : List ℤ) (C : ℕ) (T : MC ℂ → MC ℂ)
    (hT : TermEquivariant c s T) (p : ℕ) (dt : ℂ) (lam : ℕ → ℕ → ℂ) (M : ℕ) (r : ℂ) (u : ℕ → ℕ → ℂ) :
    etdrkStep p dt lam M r (liftTermND c C T) (phaseMC c.D c.N s * u)
      = phaseMC c.D c.N s * etdrkStep p dt lam M r (liftTermND c C T) u :=
  etdrkStep_translation_nd c s C T hT p dt lam M r u

/-- **Burgers**, whole regenerated step, every order and flag -/
theorem C08_burgers_commutes_with_translations (a : BurgersArgs ℂ) (hN : 0 < a.num_points) (s : List ℤ) (n : ℕ)
    (u : MC ℂ) (ch : ℕ) :
    physCh a.num_spatial_dims a.num_points
        ((Burgers_step a)^[n] (specMC a.num_spatial_dims a.num_points (rollMC a.num_spatial_dims a.num_points s u))) ch
      = rollND a.num_spatial_dims a.num_points
          (physCh a.num_spatial_dims a.num_points
            ((Burgers_step a)^[n] (specMC a.num_spatial_dims a.num_points u)) ch) s :=
  physical_translation_nd _ _ hN s _ (Burgers_step_translation a hN s) n u ch

/-- **Korteweg–de Vries**, whole regenerated step, every order, EVERY combination of the mixing flags, every `D` -/
theorem C08_kdv_commutes_with_translations (a : KortewegDeVriesArgs ℂ) (hN : 0 < a.num_points) (s : List ℤ) (n : ℕ)
    (u : MC ℂ) (ch : ℕ) :
    physCh a.num_spatial_dims a.num_points
        ((KortewegDeVries_step a)^[n]
          (specMC a.num_spatial_dims a.num_points (rollMC a.num_spatial_dims a.num_points s u))) ch
      = rollND a.num_spatial_dims a.num_points
          (physCh a.num_spatial_dims a.num_points
            ((KortewegDeVries_step a)^[n] (specMC a.num_spatial_dims a.num_points u)) ch) s :=
  physical_translation_nd _ _ hN s _ (KortewegDeVries_step_translation a hN s) n u ch

/-- **Kuramoto–Sivashinsky (conservative form)**, whole regenerated step, every order -/
theorem C08_ks_conservative_commutes_with_translations (a : KuramotoSivashinskyConservativeArgs ℂ)
    (hN : 0 < a.num_points) (s : List ℤ) (n : ℕ) (u : MC ℂ) (ch : ℕ) :
    physCh a.num_spatial_dims a.num_points
        ((KuramotoSivashinskyConservative_step a)^[n]
          (specMC a.num_spatial_dims a.num_points (rollMC a.num_spatial_dims a.num_points s u))) ch
      = rollND a.num_spatial_dims a.num_points
          (physCh a.num_spatial_dims a.num_points
            ((KuramotoSivashinskyConservative_step a)^[n] (specMC a.num_spatial_dims a.num_points u)) ch) s :=
  physical_translation_nd _ _ hN s _ (KuramotoSivashinskyConservative_step_translation a hN s) n u ch

/-- what "commutes with translations" means for a step map on `D`-dimensional `N`-point grids (the statement of the
    theorems above, for a generic step) -/
theorem C08_physically_equivariant_iff (D N : ℕ) (step : (ℕ → ℕ → ℂ) → (ℕ → ℕ → ℂ)) :
    PhysicallyEquivariant D N step ↔
      ∀ (s : List ℤ) (n : ℕ) (u : MC ℂ) (ch : ℕ),
        physCh D N (step^[n] (specMC D N (rollMC D N s u))) ch
          = rollND D N (physCh D N (step^[n] (specMC D N u)) ch) s :=
  Iff.rfl

/-- **further assembled steppers**: the gradient-norm, general-nonlinear, polynomial and linear generic
    steppers, Kuramoto–Sivashinsky (combustion form), Fisher–KPP, Navier–Stokes in vorticity form, and the five linear
    steppers with ANY velocity vector / diffusivity matrix / mixing flag — every order, `n` steps, physical space -/
theorem C08_assembled_steppers_commute_with_translations :
    (∀ g : GeneralGradientNormStepperArgs ℂ, 0 < g.num_points →
      PhysicallyEquivariant g.num_spatial_dims g.num_points (GeneralGradientNormStepper_step g)) ∧
    (∀ g : GeneralNonlinearStepperArgs ℂ, 0 < g.num_points →
      PhysicallyEquivariant g.num_spatial_dims g.num_points (GeneralNonlinearStepper_step g)) ∧
    (∀ g : GeneralPolynomialStepperArgs ℂ, 0 < g.num_points →
      PhysicallyEquivariant g.num_spatial_dims g.num_points (GeneralPolynomialStepper_step g)) ∧
    (∀ g : GeneralLinearStepperArgs ℂ, 0 < g.num_points →
      PhysicallyEquivariant g.num_spatial_dims g.num_points (GeneralLinearStepper_step g)) ∧
    (∀ a : KuramotoSivashinskyArgs ℂ, 0 < a.num_points →
      PhysicallyEquivariant a.num_spatial_dims a.num_points (KuramotoSivashinsky_step a)) ∧
    (∀ a : FisherKPPArgs ℂ, 0 < a.num_points →
      PhysicallyEquivariant a.num_spatial_dims a.num_points (FisherKPP_step a)) ∧
    (∀ a : NavierStokesVorticityArgs ℂ, 0 < a.num_points →
      PhysicallyEquivariant a.num_spatial_dims a.num_points (NavierStokesVorticity_step a)) ∧
    (∀ a : AdvectionArgs ℂ, 0 < a.num_points →
      PhysicallyEquivariant a.num_spatial_dims a.num_points (Advection_step a)) ∧
    (∀ a : DiffusionArgs ℂ, 0 < a.num_points →
      PhysicallyEquivariant a.num_spatial_dims a.num_points (Diffusion_step a)) ∧
    (∀ a : AdvectionDiffusionArgs ℂ, 0 < a.num_points →
      PhysicallyEquivariant a.num_spatial_dims a.num_points (AdvectionDiffusion_step a)) ∧
    (∀ a : DispersionArgs ℂ, 0 < a.num_points →
      PhysicallyEquivariant a.num_spatial_dims a.num_points (Dispersion_step a)) ∧
    (∀ a : HyperDiffusionArgs ℂ, 0 < a.num_points →
      PhysicallyEquivariant a.num_spatial_dims a.num_points (HyperDiffusion_step a)) :=
  ⟨GeneralGradientNormStepper_physical_translation, GeneralNonlinearStepper_physical_translation,
   GeneralPolynomialStepper_physical_translation, GeneralLinearStepper_physical_translation,
   fun a hN => physicallyEquivariant_of_phase _ _ hN _ (KuramotoSivashinsky_step_translation a hN),
   fun a hN => physicallyEquivariant_of_phase _ _ hN _ (FisherKPP_step_translation a hN),
   fun a hN => physicallyEquivariant_of_phase _ _ hN _ (NavierStokesVorticity_step_translation a hN),
   fun a hN => physicallyEquivariant_of_phase _ _ hN _ (Advection_step_translation a),
   fun a hN => physicallyEquivariant_of_phase _ _ hN _ (Diffusion_step_translation a),
   fun a hN => physicallyEquivariant_of_phase _ _ hN _ (AdvectionDiffusion_step_translation a),
   fun a hN => physicallyEquivariant_of_phase _ _ hN _ (Dispersion_step_translation a),
   fun a hN => physicallyEquivariant_of_phase _ _ hN _ (HyperDiffusion_step_translation a)⟩

/-- **the NON-autonomous case**: the generic vorticity stepper with a Kolmogorov injection
    `γ sin(m·2πx₁/L)` commutes with the shifts with `N ∣ m·s₁`, i.e. every shift along `x₀` and the
    forcing-preserving shifts along `x₁` (that it fails for other shifts is not proved); with a number
    `injection_scale = 0` (no injection) with every shift.  Real domain extent, `D = 2`; `n` steps, physical space. -/
theorem C08_vorticity_stepper_commutes_with_forcing_preserving_translations
    (g : GeneralVorticityConvectionStepperArgs ℂ) (isNumber : Bool) (ℓ : ℝ) (hL : g.domain_extent = (ℓ : ℂ))
    (hD : g.num_spatial_dims = 2) (hN : 0 < g.num_points) (s : List ℤ)
    (hs : (isNumber = true ∧ g.injection_scale = 0) ∨ (g.num_points : ℤ) ∣ (g.injection_mode : ℤ) * s.getD 1 0)
    (n : ℕ) (u : MC ℂ) (ch : ℕ) :
    physCh g.num_spatial_dims g.num_points
        ((GeneralVorticityConvectionStepper_step g isNumber)^[n]
          (specMC g.num_spatial_dims g.num_points (rollMC g.num_spatial_dims g.num_points s u))) ch
      = rollND g.num_spatial_dims g.num_points
          (physCh g.num_spatial_dims g.num_points
            ((GeneralVorticityConvectionStepper_step g isNumber)^[n] (specMC g.num_spatial_dims g.num_points u)) ch) s :=
  physical_translation_nd _ _ hN s _
    (GeneralVorticityConvectionStepper_step_translation g isNumber ℓ hL hD hN s hs) n u ch

/-- a 2-D, two-channel, ETDRK3 convection stepper on 8 points -/
example : ∃ g : GeneralConvectionStepperArgs ℂ, 0 < g.num_points ∧ g.order = 3 ∧ g.num_spatial_dims = 2 :=
  ⟨{ num_spatial_dims := 2, domain_extent := 1, num_points := 8, dt := 1, linear_coefficients := [0, 0, 1],
     convection_scale := 1, single_channel := false, conservative := false, order := 3,
     dealiasing_fraction := (2, 3), num_circle_points := 16, circle_radius := 1 }, by decide, rfl, rfl⟩

/-- equivariant terms exist (hypothesis of `C08_assembled_etdrk_step_commutes_with_shift_phases`) -/
example (c : Cfg ℂ) (hN : 0 < c.N) (s : List ℤ) : ∃ T : MC ℂ → MC ℂ, TermEquivariant c s T :=
  ⟨convection c 2 1 false true, convection_termEquivariant c hN 2 1 false true s⟩

/-- a forcing-preserving shift that is not trivial: `N = 8`, `m = 4`, shift `(3, 2)` -/
example : ((8 : ℕ) : ℤ) ∣ ((4 : ℕ) : ℤ) * ([3, 2] : List ℤ).getD 1 0 := by decide

end Exponax
