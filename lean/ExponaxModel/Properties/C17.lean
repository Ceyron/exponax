import ExponaxModel.Model.Layout
import ExponaxModel.Proofs.ReadOffSpectrum
import ExponaxModel.Proofs.ReadOffParseval
import ExponaxModel.Proofs.SpectralOpsEq
/-
C17 — radial spectrum: every mode lands in its documented bin.
Integer part: the half-open bins `[b−½, b+½)` of `get_spectrum`, written on `4|k|²`.
-/
namespace Exponax
open Exponax.Layout

/-- NO TIE: no integer wavenumber vector sits on a bin edge `b ± ½` (`4|k|²` is even, `(2b±1)²` is odd);
    so `>=`/`>` at the edges cannot matter and half-open binning coincides with rounding `|k|` -/
theorem C17_no_tie (k : List ℤ) (b : ℤ) : 4 * normSq k ≠ (2 * b + 1) * (2 * b + 1) := by
  have h : (2 * b + 1) * (2 * b + 1) = 4 * (b * b + b) + 1 := by ring
  rw [h]; omega

theorem C17_inBin_iff (k : List ℤ) (b : ℕ) :
    inBin k b = true ↔
      ((2 * (b : ℤ) - 1 ≤ 0 ∨ (2 * (b : ℤ) - 1) * (2 * (b : ℤ) - 1) ≤ 4 * normSq k) ∧
        4 * normSq k < (2 * (b : ℤ) + 1) * (2 * (b : ℤ) + 1)) := by
  rw [inBin_iff, sq, sq]

/-- strict form: bin `b ≥ 1` holds exactly the modes with `(2b−1)² < 4|k|² < (2b+1)²`, i.e. `round(|k|) = b` -/
theorem C17_inBin_strict (k : List ℤ) (b : ℕ) (hb : 1 ≤ b) :
    inBin k b = true ↔
      ((2 * (b : ℤ) - 1) * (2 * (b : ℤ) - 1) < 4 * normSq k ∧ 4 * normSq k < (2 * (b : ℤ) + 1) * (2 * (b : ℤ) + 1)) := by
  rw [C17_inBin_iff]
  have hne := C17_no_tie k ((b : ℤ) - 1)
  rw [show 2 * ((b : ℤ) - 1) + 1 = 2 * (b : ℤ) - 1 by ring] at hne
  have hb' : ¬ (2 * (b : ℤ) - 1 ≤ 0) := by omega
  rw [or_iff_right hb']
  exact and_congr_left' ⟨fun h => lt_of_le_of_ne h (Ne.symm hne), le_of_lt⟩

/-- bin 0 holds exactly the mean mode -/
theorem C17_bin_zero (k : List ℤ) : inBin k 0 = true ↔ normSq k = 0 := by
  rw [C17_inBin_iff]
  have := normSq_nonneg k
  constructor
  · rintro ⟨_, h⟩
    push_cast at h
    omega
  · intro h
    rw [h]
    simp

/-- UNIQUENESS: a mode contributes to at most one bin -/
theorem C17_bin_unique (k : List ℤ) (b b' : ℕ) (h : inBin k b = true) (h' : inBin k b' = true) : b = b' :=
  inBin_unique k b b' h h'

/-- modes outside the Nyquist sphere (`2|k| > 2(N/2)+1`) are in no bin `0 … N/2` -/
theorem C17_outside_dropped (k : List ℤ) (n b : ℕ) (hb : b ≤ n)
    (hout : (2 * (n : ℤ) + 1) * (2 * (n : ℤ) + 1) < 4 * normSq k) : inBin k b = false := by
  rw [Bool.eq_false_iff, Ne, C17_inBin_iff]
  rintro ⟨-, hc⟩
  have h1 : (2 * (b : ℤ) + 1) ≤ 2 * (n : ℤ) + 1 := by omega
  exact lt_irrefl _ ((hc.trans_le (mul_le_mul h1 h1 (by omega) (by omega))).trans hout)

/-- `binOf` (what the check compares with the implementation for every mode) returns the bin that holds the mode -/
theorem C17_binOf_sound (k : List ℤ) (bound b : ℕ) (h : binOf k bound = some b) : inBin k b = true ∧ b ≤ bound := by
  unfold binOf at h
  have := List.find?_some h
  have hm := List.mem_of_find?_eq_some h
  simp only [List.mem_range] at hm
  exact ⟨this, by omega⟩

/-- an on-axis mode `(0,…,0,b)` lies in bin `b`: every bin `0 … N/2` is non-empty, so the average binning
    never divides by zero -/
theorem C17_axis_mode_in_bin (b : ℕ) : inBin [0, (b : ℤ)] b = true ∧ inBin [(b : ℤ)] b = true ∧ inBin [0, 0, (b : ℤ)] b = true :=
  ⟨SmallGaps.inBin_axis 1 b, SmallGaps.inBin_axis 0 b, SmallGaps.inBin_axis 2 b⟩

example : inBin [3, 4] 5 = true := by decide
example : inBin [1, 1] 1 = true ∧ inBin [1, 1] 2 = false := by decide
example : binOf [2, -2, 1] 8 = some 3 := by decide

/-! ### through the model `Spectrum.spectrum` itself, every dimension (`Proofs/ReadOffSpectrum.lean`, `ReadOffParseval.lean`) -/

/-- AMPLITUDE READ-OFF: `a cos(κ·x + φ)` (κ ≠ 0 strictly below Nyquist, either sign of the last component, also the
    self-paired case κ_last = 0) shows `|a|` in the bin that contains `|κ|` and 0 in every other bin -/
theorem C17_amplitude_readoff (D N : ℕ) (hD : 1 ≤ D) (hN : 0 < N) (κ : List ℤ) (hκ : ExactLinear.BelowNyquist D N κ)
    (hne : ∃ d < D, κ.getD d 0 ≠ 0) (a φ : ℝ) (b : ℕ) (hb : b < N / 2 + 1) :
    (Spectrum.spectrum D N false false (ExactLinear.modeField D N κ a φ)).getD b 0 =
      if Layout.inBin κ b = true then ((|a| : ℝ) : ℂ) else 0 :=
  ReadOff.spectrum_amplitude_modeField D N hD hN κ hκ hne a φ b hb

/-- POWER: the same mode contributes `a²/4 = ½·mean(u²)` to that bin only -/
theorem C17_power_readoff (D N : ℕ) (hD : 1 ≤ D) (hN : 0 < N) (κ : List ℤ) (hκ : ExactLinear.BelowNyquist D N κ)
    (hne : ∃ d < D, κ.getD d 0 ≠ 0) (a φ : ℝ) (b : ℕ) (hb : b < N / 2 + 1) :
    (Spectrum.spectrum D N true false (ExactLinear.modeField D N κ a φ)).getD b 0 =
      if Layout.inBin κ b = true then ((a ^ 2 / 4 : ℝ) : ℂ) else 0 :=
  ReadOff.spectrum_power_modeField D N hD hN κ hκ hne a φ b hb

/-- 1-D: the FULL Parseval identity for every real state, sum and average binning alike -/
theorem C17_parseval_1d (N : ℕ) (hN : 0 < N) (average : Bool) (u : Array ℂ) (hu : ∀ j < N, (u.getD j 0).im = 0) :
    ∑ b ∈ Finset.range (N / 2 + 1), (Spectrum.spectrum 1 N true average u).getD b 0 =
      ((1 / 2 * (1 / (N : ℝ) * ∑ j ∈ Finset.range N, ‖u.getD j 0‖ ^ 2) : ℝ) : ℂ) := by
  -- in 1-D the model returns the per-mode power without binning
  have hM : numModes 1 N = N / 2 + 1 := by rw [numModes_eq]; simp
  have := ReadOff.sum_quantity_pow 1 N le_rfl hN u (by simpa using hu)
  rw [hM] at this
  simp only [pow_one] at this
  rw [← this]
  apply Finset.sum_congr rfl
  intro b hb
  unfold Spectrum.spectrum
  simp only [if_true]
  rw [DFT.tab_getD _ _ _ _ (by rw [hM]; exact Finset.mem_range.mp hb)]

/-- n-D: summed power + the power of the stored modes OUTSIDE the Nyquist sphere (which the binning drops, as the
    property says) = half the mean square of the state — every real state -/
theorem C17_parseval_nd (D N : ℕ) (hD : 1 ≤ D) (hN : 0 < N) (u : Array ℂ) (hu : ∀ j < N ^ D, (u.getD j 0).im = 0) :
    (∑ b ∈ Finset.range (N / 2 + 1), (Spectrum.spectrum D N true false u).getD b 0 +
        ∑ h ∈ Finset.range (Layout.numModes D N),
          if Layout.roundNorm (Layout.wnFlat D N h) < N / 2 + 1 then 0
          else Spectrum.quantity D N true (Transform.rfftnM D N u) h) =
      ((1 / 2 * (1 / ((N ^ D : ℕ) : ℝ) * ∑ j ∈ Finset.range (N ^ D), ‖u.getD j 0‖ ^ 2) : ℝ) : ℂ) :=
  ReadOff.spectrum_parseval_nd D N hD hN u hu

/-! ### the read-off code itself (`get_spectrum`, `get_fourier_coefficients`), regenerated from `_spectral.py` on every
run, is the model read-off the theorems above are about -/
open Exponax.SpectralOpsEq in
theorem C17_generated_get_spectrum (D N C : ℕ) (hD : 1 ≤ D) (hN : 0 < N) (hN2 : D = 1 ∨ 2 ≤ N) (power : Bool)
    (rb : String) (state : Nonlin.MC ℂ) :
    Gen.SpectralOps.get_spectrum D N C power rb state =
      Nonlin.tabC C (fun ch => Spectrum.spectrum D N power (decide (rb = "average")) (state.getD ch #[])) :=
  get_spectrum_eq D N C hD hN hN2 power rb state

open Exponax.SpectralOpsEq in
/-- the coefficient read-off divides the transform by the documented scaling of the mode (and rounds, if asked);
    an unknown compensation mode is an error -/
theorem C17_generated_get_fourier_coefficients [Gen.SpectralOps.HasRoundTo ℂ] (D N C : ℕ) (hD : 1 ≤ D) (hN : 0 < N)
    (m : String) (code : ℕ) (hm : (m, code) ∈ modeCodes) (round : Option ℕ) (state : Nonlin.MC ℂ) :
    Gen.SpectralOps.get_fourier_coefficients D N C (some m) round "ij" state =
      some (Nonlin.tab2 C (Layout.numModes D N) (fun ch h =>
        roundOpt round ((Transform.rfftnM D N (state.getD ch #[])).getD h 0 /
          Layout.scaling D N code (Layout.unflatten (Layout.wavenumberShape D N) h)))) :=
  get_fourier_coefficients_eq D N C hD hN m code hm round state

/-! ### radial_binning = "average" is the sum divided by the number of stored modes of the bin (every D, state, bin), and
every bin up to N/2 is populated -/

open Exponax.SmallGaps in
theorem C17_average_is_sum_over_count :
    ∀ (D N : ℕ) (p : Bool) (u : Array ℂ) (b : ℕ),
      (Spectrum.spectrum D N p true u).getD b 0 = (Spectrum.spectrum D N p false u).getD b 0 / ↑(binCount D N b) :=
  @Exponax.SmallGaps.spectrum_average_eq_sum_div_count

open Exponax.SmallGaps in
theorem C17_every_bin_is_populated :
    ∀ (D N b : ℕ), 1 ≤ D → 0 < N → b ≤ N / 2 → 0 < binCount D N b :=
  @Exponax.SmallGaps.binCount_pos

/-! ### read-off INCLUDING Nyquist wavenumbers (even N): a self-conjugate wave shows |a cos φ| (amplitude) in its bin, any other
wave with Nyquist components |a| resp. a²/4 as below Nyquist, and a Nyquist wave outside the sphere appears in no bin -/

open Exponax.SmallGaps3 in
theorem C17_amplitude_readoff_self_conjugate :
    ∀ (D N : ℕ),
      1 ≤ D →
        0 < N →
          ∀ (κ : List ℤ),
            SmallGaps2.AtMostNyquist D N κ →
              SmallGaps2.SelfConj D N κ →
                ∀ (a φ : ℝ),
                  ∀ b < N / 2 + 1,
                    (Spectrum.spectrum D N false false (ExactLinear.modeField D N κ a φ)).getD b 0 =
                      if Layout.inBin κ b = true then ↑|a * Real.cos φ| else 0 :=
  @Exponax.SmallGaps3.spectrum_amplitude_selfconj

open Exponax.SmallGaps3 in
theorem C17_amplitude_readoff_at_nyquist :
    ∀ (D N : ℕ),
      1 ≤ D →
        0 < N →
          ∀ (κ : List ℤ),
            SmallGaps2.AtMostNyquist D N κ →
              ¬SmallGaps2.SelfConj D N κ →
                ∀ (a φ : ℝ),
                  ∀ b < N / 2 + 1,
                    (Spectrum.spectrum D N false false (ExactLinear.modeField D N κ a φ)).getD b 0 =
                      if Layout.inBin κ b = true then ↑|a| else 0 :=
  @Exponax.SmallGaps3.spectrum_amplitude_nyquist

open Exponax.SmallGaps3 in
theorem C17_power_readoff_at_nyquist :
    ∀ (D N : ℕ),
      1 ≤ D →
        0 < N →
          ∀ (κ : List ℤ),
            SmallGaps2.AtMostNyquist D N κ →
              ¬SmallGaps2.SelfConj D N κ →
                ∀ (a φ : ℝ),
                  ∀ b < N / 2 + 1,
                    (Spectrum.spectrum D N true false (ExactLinear.modeField D N κ a φ)).getD b 0 =
                      if Layout.inBin κ b = true then ((a ^ 2 / 4 : ℝ) : ℂ) else 0 :=
  @Exponax.SmallGaps3.spectrum_power_nyquist

open Exponax.SmallGaps3 in
theorem C17_nyquist_wave_outside_sphere_dropped :
    ∀ (D N : ℕ),
      1 ≤ D →
        0 < N →
          ∀ (κ : List ℤ),
            SmallGaps2.AtMostNyquist D N κ →
              N / 2 + 1 ≤ Layout.roundNorm κ →
                ∀ (power : Bool) (a φ : ℝ),
                  ∀ b < N / 2 + 1, (Spectrum.spectrum D N power false (ExactLinear.modeField D N κ a φ)).getD b 0 = 0 := by
  intro D N hD hN κ hκ hout power a φ b hb
  have hnb : ¬ inBin κ b = true := by
    rw [inBin_iff_eq_roundNorm]; omega
  classical
  have h := spectrum_modeField_atMostNyquist D N hD hN κ hκ a φ b hb
  rw [if_neg hnb, if_neg hnb] at h
  cases power
  · exact h.1
  · exact h.2

end Exponax
