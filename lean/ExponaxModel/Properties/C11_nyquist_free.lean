import ExponaxModel.Properties.C11
import ExponaxModel.Proofs.C2RIsometryNyquistFree
/-
C11 — "advection and dispersion preserve the norm exactly on odd grids AND ON NYQUIST-FREE STATES".
`Properties/C11.lean` has the criterion (`C11_isometry_iff`) and discharges it on odd grids (`C11_advection_isometry_odd`,
`C11_dispersion_isometry_odd`).  Here the criterion is discharged on EVERY grid size, even included, for every real state
whose stored spectrum vanishes at the modes with a Nyquist component (`ExactLinear.BandLimited`): at a self-conjugate
stored mode either the conjugate partner carries the opposite wave vector (then a Hermitian-symmetric symbol gives a
Hermitian-consistent propagator) or the mode has a Nyquist component (then the state has no content there).
That the Nyquist-free hypothesis cannot be dropped on even grids is `C11_nyquist_loss`.
-/
namespace Exponax
open Exponax.Nonlin Exponax.Gen.Etdrk Finset

/-- every grid size: a stored mode on a self-conjugate column (`herm_weight = 1`) either has its conjugate partner
    `conjIdx` at the OPPOSITE wave vector, or it is not strictly below Nyquist (some `|k_d| = N/2`, `N` even) -/
theorem C11_selfconj_mode_negated_or_nyquist (D N h : ℕ) (hD : 0 < D) (hN : 0 < N) (hh : h < Layout.numModes D N)
    (hw : Transform.herm_weight D N h = 1) :
    (∀ d < D, (Layout.wnFlat D N (C2R.conjIdx D N h)).getD d 0 = -(Layout.wnFlat D N h).getD d 0)
      ∨ ¬ ExactLinear.BelowNyquist D N (Layout.wnFlat D N h) := by
  rw [← ExactLinear.nyqMode_iff_not_belowNyquist D N h hD hN hh]
  by_cases hq : C2R.NyqMode D N h
  · exact Or.inr hq
  · refine Or.inl fun d _ => ?_
    rw [C2R.wnFlat_conjIdx_of_not_nyq D N h hD hN hh hw hq]
    exact ExactLinear.negK_getD _ d

/-- the condition of `C11_isometry_iff` holds for the regenerated propagator `exp_term dt λ` of every
    Hermitian-symmetric symbol on every real-`dt`, every Nyquist-free state, EVERY grid size -/
theorem C11_isometry_condition_nyquist_free (D N : ℕ) (hD : 0 < D) (hN : 0 < N) (Λ : ℕ → ℂ)
    (hΛ : ExactLinear.HermSym D N Λ) (u : Array ℂ) (hb : ExactLinear.BandLimited D N u) (dt : ℝ) :
    ∀ h < Layout.numModes D N, Transform.herm_weight D N h = 1 →
      (exp_term (dt : ℂ) (Λ h) = (starRingEnd ℂ) (exp_term (dt : ℂ) (Λ (C2R.conjIdx D N h)))
        ∨ (Transform.rfftnM D N u).getD h 0 = 0) :=
  fun h hh hw => SmallGaps.isometry_condition_of_hermSym_bandLimited D N hD hN Λ hΛ u hb dt h hh hw

/-- THE PROPERTY on Nyquist-free states, general form: every `D ≥ 1`, EVERY `N ≥ 1` (even included), every real `dt`,
    every Hermitian-symmetric symbol with `Re λ = 0` on the stored modes, every real state whose stored spectrum vanishes at
    the modes with a Nyquist component: the step (regenerated `E0step`, `exp_term`; `rfftn` → multiply → `irfftn`)
    preserves the grid 2-norm exactly -/
theorem C11_isometry_nyquist_free_of_hermitian_imaginary_symbol (D N : ℕ) (hD : 0 < D) (hN : 0 < N) (u : Array ℂ)
    (hu : ∀ j < N ^ D, (u.getD j 0).im = 0) (hb : ExactLinear.BandLimited D N u) (dt : ℝ) (Λ : ℕ → ℂ)
    (hΛ : ExactLinear.HermSym D N Λ) (hre : ∀ h < Layout.numModes D N, (Λ h).re = 0) :
    ∑ j ∈ range (N ^ D), ((Transform.irfftnM D N (Transform.tab (Layout.numModes D N) fun h =>
        E0step (exp_term (dt : ℂ) (Λ h)) ((Transform.rfftnM D N u).getD h 0))).getD j 0).re ^ 2
      = ∑ j ∈ range (N ^ D), (u.getD j 0).re ^ 2 :=
  SmallGaps.linear_step_isometry_of_hermSym_bandLimited D N hD hN u hu hb dt Λ hΛ hre

/-- … and over whole rollouts: after ANY number `n` of steps the grid 2-norm of a real Nyquist-free state is unchanged -/
theorem C11_rollout_isometry_nyquist_free (D N : ℕ) (hD : 0 < D) (hN : 0 < N) (u : Array ℂ) (hsz : u.size = N ^ D)
    (hu : ∀ j < N ^ D, (u.getD j 0).im = 0) (hb : ExactLinear.BandLimited D N u) (dt : ℝ) (Λ : ℕ → ℂ)
    (hΛ : ExactLinear.HermSym D N Λ) (hre : ∀ h < Layout.numModes D N, (Λ h).re = 0) (n : ℕ) :
    ∑ j ∈ range (N ^ D), (((ExactLinear.linStep D N Λ (dt : ℂ))^[n] u).getD j 0).re ^ 2
      = ∑ j ∈ range (N ^ D), (u.getD j 0).re ^ 2 := by
  -- the iterate on a Nyquist-free state is one step of length `n·dt`
  rw [(ExactLinear.linStep_group D N hD hN Λ hΛ dt u ⟨hsz, hu, hb⟩).1 n]
  exact SmallGaps.linear_step_isometry_of_hermSym_bandLimited D N hD hN u hu hb ((n : ℝ) * dt) Λ hΛ hre

/-- advection `−v·∇` (real velocity vector `v`): norm preserved exactly for every real Nyquist-free state, every
    `D ≥ 1`, EVERY `N ≥ 1`, every real `dt` -/
theorem C11_advection_isometry_nyquist_free (c : Cfg ℂ) (hD : 0 < c.D) (hN : 0 < c.N) (s : ℝ) (hs : c.s = (s : ℂ))
    (v : ℕ → ℝ) (u : Array ℂ) (hu : ∀ j < c.N ^ c.D, (u.getD j 0).im = 0)
    (hb : ExactLinear.BandLimited c.D c.N u) (dt : ℝ) :
    ∑ j ∈ range (c.N ^ c.D), ((Transform.irfftnM c.D c.N (Transform.tab (Layout.numModes c.D c.N) fun h =>
        E0step (exp_term (dt : ℂ) (polySymbol c (pscale (-1) (gradInner c.D (fun d => ((v d : ℝ) : ℂ)) 1)) h))
          ((Transform.rfftnM c.D c.N u).getD h 0))).getD j 0).re ^ 2
      = ∑ j ∈ range (c.N ^ c.D), (u.getD j 0).re ^ 2 :=
  SmallGaps.advection_isometry_bandLimited c hD hN s hs v u hu hb dt

/-- dispersion `ξ·∇³` (real dispersivity vector `ξ`): the same -/
theorem C11_dispersion_isometry_nyquist_free (c : Cfg ℂ) (hD : 0 < c.D) (hN : 0 < c.N) (s : ℝ) (hs : c.s = (s : ℂ))
    (ξ : ℕ → ℝ) (u : Array ℂ) (hu : ∀ j < c.N ^ c.D, (u.getD j 0).im = 0)
    (hb : ExactLinear.BandLimited c.D c.N u) (dt : ℝ) :
    ∑ j ∈ range (c.N ^ c.D), ((Transform.irfftnM c.D c.N (Transform.tab (Layout.numModes c.D c.N) fun h =>
        E0step (exp_term (dt : ℂ) (polySymbol c (gradInner c.D (fun d => ((ξ d : ℝ) : ℂ)) 3) h))
          ((Transform.rfftnM c.D c.N u).getD h 0))).getD j 0).re ^ 2
      = ∑ j ∈ range (c.N ^ c.D), (u.getD j 0).re ^ 2 :=
  SmallGaps.dispersion_isometry_bandLimited c hD hN s hs ξ u hu hb dt

/-- dispersion in the mixed form `(ξ·∇)(∇·∇)`: the same -/
theorem C11_dispersion_mixed_isometry_nyquist_free (c : Cfg ℂ) (hD : 0 < c.D) (hN : 0 < c.N) (s : ℝ)
    (hs : c.s = (s : ℂ)) (ξ : ℕ → ℝ) (u : Array ℂ) (hu : ∀ j < c.N ^ c.D, (u.getD j 0).im = 0)
    (hb : ExactLinear.BandLimited c.D c.N u) (dt : ℝ) :
    ∑ j ∈ range (c.N ^ c.D), ((Transform.irfftnM c.D c.N (Transform.tab (Layout.numModes c.D c.N) fun h =>
        E0step (exp_term (dt : ℂ)
          (polySymbol c (pmul (gradInner c.D (fun d => ((ξ d : ℝ) : ℂ)) 1) (lapT c.D 1 2)) h))
          ((Transform.rfftnM c.D c.N u).getD h 0))).getD j 0).re ^ 2
      = ∑ j ∈ range (c.N ^ c.D), (u.getD j 0).re ^ 2 :=
  SmallGaps.dispersion_mixed_isometry_bandLimited c hD hN s hs ξ u hu hb dt

/-- the Nyquist-free states are exactly reachable: every finite superposition `Σ a_m cos(2π κ_m·j/N + φ_m)` of modes
    strictly below Nyquist is a real Nyquist-free state, so advection preserves its norm on every grid -/
theorem C11_advection_isometry_superposition (c : Cfg ℂ) (hD : 0 < c.D) (hN : 0 < c.N) (s : ℝ) (hs : c.s = (s : ℂ))
    (v : ℕ → ℝ) (ms : ExactLinear.Modes) (hms : ∀ m ∈ ms, ExactLinear.BelowNyquist c.D c.N m.1) (dt : ℝ) :
    ∑ j ∈ range (c.N ^ c.D), ((Transform.irfftnM c.D c.N (Transform.tab (Layout.numModes c.D c.N) fun h =>
        E0step (exp_term (dt : ℂ) (polySymbol c (pscale (-1) (gradInner c.D (fun d => ((v d : ℝ) : ℂ)) 1)) h))
          ((Transform.rfftnM c.D c.N (ExactLinear.stateOf c.D c.N ms)).getD h 0))).getD j 0).re ^ 2
      = ∑ j ∈ range (c.N ^ c.D), ((ExactLinear.stateOf c.D c.N ms).getD j 0).re ^ 2 :=
  SmallGaps.advection_isometry_bandLimited c hD hN s hs v _ (ExactLinear.stateOf_real c.D c.N ms)
    (ExactLinear.bandLimited_stateOf c.D c.N hD hN ms hms) dt

/-- non-vacuity on an EVEN grid: a configuration with `D = 2`, `N = 4`, a real Nyquist-free state of the right size (the
    mode `(1, 1)`), and a self-conjugate stored mode (index 5, wave vector `(1, 2)`) that IS a Nyquist mode, i.e. the case
    in which the odd-grid theorem does not apply and the band-limitedness is what is used -/
example : ∃ c : Cfg ℂ, ∃ s : ℝ, ∃ u : Array ℂ, c.s = (s : ℂ) ∧ 0 < c.D ∧ 0 < c.N ∧ c.N % 2 = 0 ∧
    u.size = c.N ^ c.D ∧ (∀ j < c.N ^ c.D, (u.getD j 0).im = 0) ∧ ExactLinear.BandLimited c.D c.N u ∧
    (5 : ℕ) < Layout.numModes c.D c.N ∧ Transform.herm_weight c.D c.N 5 = 1 := by
  have hms : ∀ m ∈ ([([1, 1], 2, 0.5)] : ExactLinear.Modes), ExactLinear.BelowNyquist 2 4 m.1 := by
    intro m hm
    simp only [List.mem_cons, List.mem_nil_iff, or_false] at hm
    subst hm
    exact ⟨rfl, by intro d hd; interval_cases d <;> simp⟩
  exact ⟨{ D := 2, N := 4, s := ((1 : ℝ) : ℂ), fp := 2, fq := 3 }, 1, ExactLinear.stateOf 2 4 [([1, 1], 2, 0.5)],
    rfl, by decide, by decide, by decide, by simp, ExactLinear.stateOf_real 2 4 _,
    ExactLinear.bandLimited_stateOf 2 4 (by norm_num) (by norm_num) _ hms, by decide, by decide⟩

end Exponax
