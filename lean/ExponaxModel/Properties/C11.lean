import ExponaxModel.Proofs.SymbolAlgebra
import ExponaxModel.Proofs.WaveAlgebra
import ExponaxModel.Proofs.C2RIsometry
import ExponaxModel.Proofs.StepperSymbols
import ExponaxModel.Proofs.WaveWholeNyquist
import ExponaxModel.Proofs.SymbolDissipation
import ExponaxModel.Proofs.DFTnD
/-
C11 — dissipative and dispersive linear steppers never amplify any state.
Per-mode bounds on the regenerated propagator + sign of the documented symbols + Parseval (half layout).
-/
namespace Exponax
open Exponax.Nonlin Exponax.Gen.Etdrk Finset

/-- `|e^{dt·λ}| = e^{dt·Re λ}` -/
theorem C11_abs_propagator (dt : ℝ) (lam : ℂ) : ‖exp_term (dt : ℂ) lam‖ = Real.exp (dt * lam.re) :=
  norm_exp_term_real dt lam

/-- no mode is amplified when `Re λ ≤ 0`, `dt ≥ 0` (any `dt`, however large) -/
theorem C11_mode_not_amplified (dt : ℝ) (lam u : ℂ) (hdt : 0 ≤ dt) (hl : lam.re ≤ 0) :
    ‖E0step (exp_term (dt : ℂ) lam) u‖ ≤ ‖u‖ := by
  rw [E0step_eq, norm_mul]
  exact mul_le_of_le_one_left (norm_nonneg u) (norm_exp_term_le_one dt lam hdt hl)

/-- modes with `Re λ < 0` strictly shrink -/
theorem C11_mode_strict (dt : ℝ) (lam : ℂ) (hdt : 0 < dt) (hl : lam.re < 0) : ‖exp_term (dt : ℂ) lam‖ < 1 :=
  norm_exp_term_lt_one dt lam hdt hl

/-- modes with `Re λ = 0` keep their modulus (advection, dispersion) -/
theorem C11_mode_isometry (dt : ℝ) (lam u : ℂ) (hl : lam.re = 0) : ‖E0step (exp_term (dt : ℂ) lam) u‖ = ‖u‖ := by
  rw [E0step_eq, norm_mul, norm_exp_term_eq_one dt lam hl, one_mul]

/-! ### signs of the documented symbols (general `D`) -/

theorem C11_re_advection (c : Cfg ℂ) (s : ℝ) (hs : c.s = (s : ℂ)) (h : ℕ) (v : ℕ → ℝ) :
    (polySymbol c (pscale (-1) (gradInner c.D (fun d => ((v d : ℝ) : ℂ)) 1)) h).re = 0 :=
  advection_symbol_re c s hs h v

theorem C11_re_dispersion (c : Cfg ℂ) (s : ℝ) (hs : c.s = (s : ℂ)) (h : ℕ) (ξ : ℕ → ℝ) :
    (polySymbol c (gradInner c.D (fun d => ((ξ d : ℝ) : ℂ)) 3) h).re = 0 ∧
    (polySymbol c (pmul (gradInner c.D (fun d => ((ξ d : ℝ) : ℂ)) 1) (lapT c.D 1 2)) h).re = 0 :=
  ⟨dispersion_symbol_re c s hs h ξ, dispersion_mixed_symbol_re c s hs h ξ⟩

/-- diffusion with a positive semidefinite matrix (scalar / diagonal / full) -/
theorem C11_re_diffusion (c : Cfg ℂ) (s : ℝ) (hs : c.s = (s : ℂ)) (h : ℕ) (A : ℕ → ℕ → ℝ)
    (hA : ∀ x : Fin c.D → ℝ, 0 ≤ ∑ i : Fin c.D, ∑ j : Fin c.D, A i j * x i * x j) :
    (polySymbol c (quadTerms c.D fun i j => ((A i j : ℝ) : ℂ)) h).re ≤ 0 :=
  diffusion_symbol_re_nonpos c s hs h A hA

theorem C11_re_diffusion_iso (c : Cfg ℂ) (s : ℝ) (hs : c.s = (s : ℂ)) (h : ℕ) (ν : ℝ) (hν : 0 ≤ ν) :
    (polySymbol c (lapT c.D ((ν : ℝ) : ℂ) 2) h).re ≤ 0 ∧ (polySymbol c (lapT c.D ((ν : ℝ) : ℂ) 2) h).im = 0 := by
  rw [diffusion_iso_symbol c s hs h ν, Complex.ofReal_re, Complex.ofReal_im]
  exact ⟨neg_nonpos.mpr (mul_nonneg (mul_nonneg hν (sq_nonneg s)) (Finset.sum_nonneg fun d _ => sq_nonneg _)), rfl⟩

/-- hyper-diffusion (both forms): real, `≤ 0` for `μ ≥ 0`, `< 0` on every non-constant mode when `μ > 0` -/
theorem C11_re_hyper (c : Cfg ℂ) (s : ℝ) (hs : c.s = (s : ℂ)) (h : ℕ) (μ : ℝ) :
    (polySymbol c (lapT c.D (((-μ : ℝ)) : ℂ) 4) h).im = 0 ∧
      (0 ≤ μ → (polySymbol c (lapT c.D (((-μ : ℝ)) : ℂ) 4) h).re ≤ 0) ∧
        (0 < μ → s ≠ 0 → (∃ d < c.D, wnAt c d h ≠ 0) → (polySymbol c (lapT c.D (((-μ : ℝ)) : ℂ) 4) h).re < 0) :=
  hyper_symbol_sign c s hs h μ

theorem C11_re_hyper_mixed (c : Cfg ℂ) (s : ℝ) (hs : c.s = (s : ℂ)) (h : ℕ) (μ : ℝ) :
    (polySymbol c (pscale (((-μ : ℝ)) : ℂ) (pmul (lapT c.D 1 2) (lapT c.D 1 2))) h).im = 0 ∧
      (0 ≤ μ → (polySymbol c (pscale (((-μ : ℝ)) : ℂ) (pmul (lapT c.D 1 2) (lapT c.D 1 2))) h).re ≤ 0) ∧
        (0 < μ → s ≠ 0 → (∃ d < c.D, wnAt c d h ≠ 0) →
          (polySymbol c (pscale (((-μ : ℝ)) : ℂ) (pmul (lapT c.D 1 2) (lapT c.D 1 2))) h).re < 0) :=
  hyper_mixed_symbol_sign c s hs h μ

/-- general linear family: only the even-order coefficients enter the real part -/
theorem C11_re_general_linear (c : Cfg ℂ) (s : ℝ) (hs : c.s = (s : ℂ)) (h : ℕ) (a : List ℝ) :
    (polySymbol c (generalLinear c.D (a.map fun r => ((r : ℝ) : ℂ))) h).re =
      ∑ j ∈ Finset.range a.length,
        if Even j then a.getD j 0 * (-1) ^ (j / 2) * s ^ j * ∑ d ∈ Finset.range c.D, (wnAt c d h : ℝ) ^ j else 0 := by
  rw [general_linear_symbol c s hs h a, Complex.re_sum]
  apply Finset.sum_congr rfl
  intro j _
  rw [Complex.re_mul_ofReal, I_pow_re]
  split_ifs <;> ring

/-! ### from modes to the L² norm of the state -/

/-- Parseval in the stored half layout, every `D ≥ 1`, `N ≥ 1`: the grid L² norm is the weighted sum of
    `|û_h|²`; so damping every stored coefficient cannot increase it -/
theorem C11_parseval (D N : ℕ) (hD : 0 < D) (hN : 0 < N) (u : Array ℂ) (hu : ∀ j < N ^ D, (u.getD j 0).im = 0) :
    ∑ j ∈ range (N ^ D), ‖u.getD j 0‖ ^ 2
      = (1 / ((N ^ D : ℕ) : ℝ)) * ∑ h ∈ range (Layout.numModes D N),
          (Transform.herm_weight D N h : ℝ) * ‖(Transform.rfftnM D N u).getD h 0‖ ^ 2 :=
  DFT.parseval_nd D N hD hN u hu

/-- weighted spectral energy does not grow under a per-mode contraction `|E_h| ≤ 1` -/
theorem C11_spectral_energy_contracts (M : ℕ) (w : ℕ → ℝ) (hw : ∀ h, 0 ≤ w h) (E uh : ℕ → ℂ)
    (hE : ∀ h < M, ‖E h‖ ≤ 1) :
    ∑ h ∈ range M, w h * ‖E h * uh h‖ ^ 2 ≤ ∑ h ∈ range M, w h * ‖uh h‖ ^ 2 := by
  refine Finset.sum_le_sum fun h hh => mul_le_mul_of_nonneg_left ?_ (hw h)
  rw [norm_mul, mul_pow]
  exact mul_le_of_le_one_left (sq_nonneg _) (pow_le_one₀ (norm_nonneg _) (hE h (Finset.mem_range.mp hh)))

/-- the wave stepper conserves the wave energy `|ω ĥ|² + |v̂|²` of every non-DC mode -/
theorem C11_wave_energy (c dt kn : ℝ) (h v : ℂ) (hc : c ≠ 0) (hkn : kn ≠ 0) :
    ‖((c * kn : ℝ) : ℂ) * (Wave.stepMode (c : ℂ) (dt : ℂ) (kn : ℂ) false h v).1‖ ^ 2 +
        ‖(Wave.stepMode (c : ℂ) (dt : ℂ) (kn : ℂ) false h v).2‖ ^ 2
      = ‖((c * kn : ℝ) : ℂ) * h‖ ^ 2 + ‖v‖ ^ 2 :=
  stepMode_energy c dt kn h v hc hkn

/-- long rollouts: a per-step bound is a bound for every number of steps -/
theorem C11_rollout (S : Type) (nrm : S → ℝ) (step : S → S) (hstep : ∀ u, nrm (step u) ≤ nrm u) (n : ℕ) (u : S) :
    nrm (step^[n] u) ≤ nrm u :=
  Function.Iterate.rec (fun w => nrm w ≤ nrm u) le_rfl (fun w hw => (hstep w).trans hw) n

/-! ### the whole step on EVERY real state (white noise, Nyquist content): the c2r transform is a contraction -/

/-- for ANY stored half spectrum `c` (Hermitian-consistent or not) the inverse real transform does not increase the
    Parseval-weighted energy — all D ≥ 1, N ≥ 1 -/
theorem C11_c2r_contraction (D N : ℕ) (hD : 0 < D) (hN : 0 < N) (c : Array ℂ) :
    ∑ j ∈ range (N ^ D), ((Transform.irfftnM D N c).getD j 0).re ^ 2 ≤
      1 / ((N ^ D : ℕ) : ℝ) * ∑ h ∈ range (Layout.numModes D N),
        (Transform.herm_weight D N h : ℝ) * ‖c.getD h 0‖ ^ 2 := C2R.c2r_contraction D N hD hN c

/-- THE PROPERTY for one step: every real state, every `dt ≥ 0`, every symbol with `Re ≤ 0` on the stored modes, with
    the regenerated `E0step` and `exp_term`:  `‖step u‖₂ ≤ ‖u‖₂` -/
theorem C11_step_never_amplifies (D N : ℕ) (hD : 0 < D) (hN : 0 < N) (u : Array ℂ)
    (hu : ∀ j < N ^ D, (u.getD j 0).im = 0) (dt : ℝ) (hdt : 0 ≤ dt) (L : ℕ → ℂ)
    (hL : ∀ h < Layout.numModes D N, (L h).re ≤ 0) :
    ∑ j ∈ range (N ^ D), ((Transform.irfftnM D N (Transform.tab (Layout.numModes D N) fun h =>
        E0step (exp_term (dt : ℂ) (L h)) ((Transform.rfftnM D N u).getD h 0))).getD j 0).re ^ 2
      ≤ ∑ j ∈ range (N ^ D), (u.getD j 0).re ^ 2 :=
  C2R.linear_step_no_amplification D N hD hN u hu (fun h => exp_term (dt : ℂ) (L h))
    (fun h hh => norm_exp_term_le_one dt (L h) hdt (hL h hh))

/-- … and for every state of every rollout (with or without the initial state), any number of steps -/
theorem C11_rollout_never_amplifies (D N : ℕ) (hD : 0 < D) (hN : 0 < N) (E : ℕ → ℂ)
    (hE : ∀ h < Layout.numModes D N, ‖E h‖ ≤ 1) (u : Array ℂ) (hu : ∀ j < N ^ D, (u.getD j 0).im = 0) (n : ℕ)
    (inc : Bool) (v : Array ℂ) (hv : v ∈ Loops.rollout (C2R.linStep D N E) n inc u) :
    ∑ j ∈ range (N ^ D), (v.getD j 0).re ^ 2 ≤ ∑ j ∈ range (N ^ D), (u.getD j 0).re ^ 2 := by
  have hscan : ∀ w ∈ Loops.scanStates (C2R.linStep D N E) n u,
      ∑ j ∈ range (N ^ D), (w.getD j 0).re ^ 2 ≤ ∑ j ∈ range (N ^ D), (u.getD j 0).re ^ 2 := by
    intro w hw
    rw [Loops.scanStates_eq_map] at hw
    obtain ⟨i, _, rfl⟩ := List.mem_map.mp hw
    exact C2R.linear_rollout_no_amplification D N hD hN E hE u hu (i + 1)
  unfold Loops.rollout at hv
  cases inc with
  | false => exact hscan v (by simpa using hv)
  | true =>
    rcases List.mem_cons.mp (by simpa using hv) with rfl | h
    · exact le_rfl
    · exact hscan v h

/-- EXACT energy budget of one step (no hypothesis on `E`): damping loss + the energy the c2r projection discards on
    the self-conjugate columns -/
theorem C11_energy_budget (D N : ℕ) (hD : 0 < D) (hN : 0 < N) (u : Array ℂ) (hu : ∀ j < N ^ D, (u.getD j 0).im = 0)
    (E : ℕ → ℂ) :
    ∑ j ∈ range (N ^ D), (u.getD j 0).re ^ 2 -
        ∑ j ∈ range (N ^ D), ((Transform.irfftnM D N (Transform.tab (Layout.numModes D N) fun h =>
          E h * (Transform.rfftnM D N u).getD h 0)).getD j 0).re ^ 2 =
      1 / ((N ^ D : ℕ) : ℝ) * ∑ h ∈ range (Layout.numModes D N),
          (Transform.herm_weight D N h : ℝ) * (1 - ‖E h‖ ^ 2) * ‖(Transform.rfftnM D N u).getD h 0‖ ^ 2 +
        1 / ((N ^ D : ℕ) : ℝ) * ∑ h ∈ range (Layout.numModes D N),
          (2 - (Transform.herm_weight D N h : ℝ)) / 4 * ‖E h - (starRingEnd ℂ) (E (C2R.conjIdx D N h))‖ ^ 2 *
            ‖(Transform.rfftnM D N u).getD h 0‖ ^ 2 := by
  have hpy := C2R.c2r_pythagoras D N hD hN
    (Transform.tab (Layout.numModes D N) (fun h => E h * (Transform.rfftnM D N u).getD h 0))
  have hpa := DFT.parseval_nd D N hD hN u hu
  rw [C2R.sum_norm_sq_real _ _ hu] at hpa
  have hB := Finset.sum_congr (s₁ := range (Layout.numModes D N)) rfl
    (fun h hh => C2R.discarded_term D N hD hN u hu E h (Finset.mem_range.mp hh))
  have hC : ∑ h ∈ range (Layout.numModes D N),
        (Transform.herm_weight D N h : ℝ) * (1 - ‖E h‖ ^ 2) * ‖(Transform.rfftnM D N u).getD h 0‖ ^ 2
      = ∑ h ∈ range (Layout.numModes D N), (Transform.herm_weight D N h : ℝ) * ‖(Transform.rfftnM D N u).getD h 0‖ ^ 2
        - ∑ h ∈ range (Layout.numModes D N),
            (Transform.herm_weight D N h : ℝ) * ‖E h‖ ^ 2 * ‖(Transform.rfftnM D N u).getD h 0‖ ^ 2 := by
    rw [← Finset.sum_sub_distrib]
    exact Finset.sum_congr rfl (fun h _ => by ring)
  rw [C2R.sum_weight_norm_sq_mul, hB] at hpy
  rw [hC, hpa]
  linear_combination hpy

/-- "advection and dispersion preserve the norm exactly on odd grids and on Nyquist-free states": for `|E| = 1` the
    norm is preserved IFF on every self-conjugate stored mode `E` is Hermitian-consistent or the state has no content -/
theorem C11_isometry_iff (D N : ℕ) (hD : 0 < D) (hN : 0 < N) (u : Array ℂ) (hu : ∀ j < N ^ D, (u.getD j 0).im = 0)
    (E : ℕ → ℂ) (hE : ∀ h < Layout.numModes D N, ‖E h‖ = 1) :
    (∑ j ∈ range (N ^ D), ((Transform.irfftnM D N (Transform.tab (Layout.numModes D N) fun h =>
        E h * (Transform.rfftnM D N u).getD h 0)).getD j 0).re ^ 2 = ∑ j ∈ range (N ^ D), (u.getD j 0).re ^ 2) ↔
      ∀ h < Layout.numModes D N, Transform.herm_weight D N h = 1 →
        (E h = (starRingEnd ℂ) (E (C2R.conjIdx D N h)) ∨ (Transform.rfftnM D N u).getD h 0 = 0) :=
  C2R.linear_step_isometry_iff_herm D N hD hN u hu E hE

/-- strict loss does occur otherwise: advection phase at the Nyquist mode of `N = 2` -/
theorem C11_nyquist_loss (θ : ℝ) (hθ : Real.sin θ ≠ 0) :
    ∑ j ∈ range 2, ((Transform.irfftnM 1 2 (Transform.tab (2 / 2 + 1) fun h =>
        C2R.advE θ h * (Transform.rfftnM 1 2 #[1, -1]).getD h 0)).getD j 0).re ^ 2
      < ∑ j ∈ range 2, ((#[1, -1] : Array ℂ).getD j 0).re ^ 2 := C2R.nyquist_counterexample θ hθ

/-! ### signs of the symbols REGENERATED from each class's `_build_linear_operator` (stored modes, real coefficients) -/
open Exponax.Gen.Steppers in
theorem C11_generated_symbol_signs (c : Cfg ℂ) (s : ℝ) (hs : c.s = (s : ℂ)) (h : ℕ) (v ξ : List ℝ) (mix : Bool)
    (A : List (List ℝ)) (μ : ℝ) (hv : v.length = c.D) (hξ : ξ.length = c.D) (hA : A.length = c.D)
    (hr : ∀ r ∈ A, r.length = c.D)
    (hpsd : ∀ x : Fin c.D → ℝ, 0 ≤ ∑ i : Fin c.D, ∑ j : Fin c.D, (A.getD i []).getD j 0 * x i * x j)
    (hμ : 0 ≤ μ) :
    (Advection_linear_operator (kappa c h) (ofRealL v)).re = 0 ∧
    (Dispersion_linear_operator (kappa c h) (ofRealL ξ) mix).re = 0 ∧
    (Diffusion_linear_operator (kappa c h) (ofRealM A)).re ≤ 0 ∧
    (HyperDiffusion_linear_operator (kappa c h) (μ : ℂ) mix).re ≤ 0 :=
  ⟨Advection_linear_operator_re_kappa c s hs h v hv, Dispersion_linear_operator_re_kappa c s hs h ξ mix hξ,
   Diffusion_linear_operator_re_nonpos_kappa c s hs h A hA hr hpsd,
   HyperDiffusion_linear_operator_re_nonpos_kappa c s hs h μ mix hμ⟩

example : (0 : ℝ) ≤ 1e6 ∧ ((-3 : ℂ)).re ≤ 0 := by norm_num

/-! ### wave energy in physical space: Σ v² + c² Σ |∇h|² (spectral gradient) is conserved by the whole step on every real
Nyquist-free pair of states and on every real state of an odd grid, over whole rollouts; with Nyquist content on an even
grid it is NOT (proved counterexample: the spectral derivative of the Nyquist mode is 0 while the stepper rotates it) -/

open Exponax.WaveWhole in
theorem C11_wave_energy_whole_state :
    ∀ (D N : ℕ),
      0 < D →
        0 < N →
          ∀ (c L t : ℝ),
            c ≠ 0 →
              0 < L →
                ∀ (u₀ u₁ : Array ℂ),
                  RealBL D N u₀ →
                    RealBL D N u₁ → waveEnergy D N L c (waveStep D N ↑L ↑t ↑c #[u₀, u₁]) = waveEnergy D N L c #[u₀, u₁] :=
  @Exponax.WaveWhole.waveStep_energy_bandLimited

open Exponax.WaveWhole in
theorem C11_wave_energy_rollout :
    ∀ (D N : ℕ),
      0 < D →
        0 < N →
          ∀ (c L t : ℝ),
            c ≠ 0 →
              0 < L →
                ∀ (u₀ u₁ : Array ℂ),
                  RealBL D N u₀ →
                    RealBL D N u₁ →
                      ∀ (n : ℕ), waveEnergy D N L c ((waveStep D N ↑L ↑t ↑c)^[n] #[u₀, u₁]) = waveEnergy D N L c #[u₀, u₁] :=
  fun D N hD hN c L t hc hL u₀ u₁ h₀ h₁ n => by
    rw [waveStep_iterate_bandLimited D N hD hN c L t hc hL u₀ u₁ h₀ h₁ n]
    exact waveStep_energy_bandLimited D N hD hN c L _ hc hL u₀ u₁ h₀ h₁

open Exponax.WaveWhole in
theorem C11_wave_energy_odd_grid :
    ∀ (D N : ℕ),
      0 < D →
        N % 2 = 1 →
          ∀ (c L t : ℝ),
            c ≠ 0 →
              0 < L →
                ∀ (u₀ u₁ : Array ℂ),
                  u₀.size = N ^ D →
                    u₁.size = N ^ D →
                      (∀ j < N ^ D, (u₀.getD j 0).im = 0) →
                        (∀ j < N ^ D, (u₁.getD j 0).im = 0) →
                          waveEnergy D N L c (waveStep D N ↑L ↑t ↑c #[u₀, u₁]) = waveEnergy D N L c #[u₀, u₁] :=
  fun D N hD hodd c L t hc hL u₀ u₁ hs₀ hs₁ hr₀ hr₁ =>
    waveStep_energy_bandLimited D N hD (by omega) c L t hc hL u₀ u₁
      ⟨hs₀, hr₀, ExactLinear.bandLimited_of_odd D N hD hodd u₀⟩ ⟨hs₁, hr₁, ExactLinear.bandLimited_of_odd D N hD hodd u₁⟩

open Exponax.WaveWhole in
theorem C11_wave_energy_nyquist_counterexample :
    ∀ (c L t : ℝ),
      c ≠ 0 →
        0 < L →
          Real.sin (waveOmega 1 c L [1] * t) ≠ 0 →
            waveEnergy 1 2 L c #[ExactLinear.nyqState, ExactLinear.vzero (2 ^ 1)] = 0 ∧
              0 < waveEnergy 1 2 L c (waveStep 1 2 ↑L ↑t ↑c #[ExactLinear.nyqState, ExactLinear.vzero (2 ^ 1)]) :=
  @Exponax.WaveWhole.wave_energy_nyquist_fails

/-! ### strictness and isometry: a positive-definite diffusivity strictly damps every non-constant mode; advection and
dispersion preserve the grid 2-norm of EVERY real state on odd grids (the Hermitian condition of `C11_isometry_iff`
discharged for the documented symbols) -/

open Exponax.SmallGaps in
theorem C11_re_diffusion_strict :
    ∀ (c : Nonlin.Cfg ℂ),
      1 ≤ c.D →
        0 < c.N →
          ∀ (s : ℝ),
            c.s = ↑s →
              s ≠ 0 →
                ∀ h < Layout.numModes c.D c.N,
                  h ≠ 0 →
                    ∀ (A : ℕ → ℕ → ℝ),
                      (∀ (x : Fin c.D → ℝ), x ≠ 0 → 0 < ∑ i : Fin c.D, ∑ j : Fin c.D, A ↑i ↑j * x i * x j) →
                        (Nonlin.polySymbol c (quadTerms c.D fun i j ↦ ↑(A i j)) h).re < 0 :=
  @Exponax.SmallGaps.diffusion_symbol_re_neg_stored

open Exponax.SmallGaps in
theorem C11_diffusion_mode_strictly_shrinks :
    ∀ (c : Nonlin.Cfg ℂ),
      1 ≤ c.D →
        0 < c.N →
          ∀ (s : ℝ),
            c.s = ↑s →
              s ≠ 0 →
                ∀ h < Layout.numModes c.D c.N,
                  h ≠ 0 →
                    ∀ (A : ℕ → ℕ → ℝ),
                      (∀ (x : Fin c.D → ℝ), x ≠ 0 → 0 < ∑ i : Fin c.D, ∑ j : Fin c.D, A ↑i ↑j * x i * x j) →
                        ∀ (dt : ℝ),
                          0 < dt →
                            ∀ (u : ℂ),
                              u ≠ 0 →
                                ‖Gen.Etdrk.exp_term (↑dt) (Nonlin.polySymbol c (quadTerms c.D fun i j ↦ ↑(A i j)) h)‖ < 1 ∧
                                  ‖Gen.Etdrk.E0step
                                        (Gen.Etdrk.exp_term (↑dt)
                                          (Nonlin.polySymbol c (quadTerms c.D fun i j ↦ ↑(A i j)) h))
                                        u‖ <
                                    ‖u‖ :=
  fun c hD hN s hs hs0 h hh h0 A hA dt hdt u hu => by
    have hre := diffusion_symbol_re_neg_stored c hD hN s hs hs0 h hh h0 A hA
    have h1 := norm_exp_term_lt_one dt _ hdt hre
    refine ⟨h1, ?_⟩
    show ‖_ * u‖ < ‖u‖
    rw [norm_mul]
    exact mul_lt_of_lt_one_left (norm_pos_iff.mpr hu) h1

open Exponax.SmallGaps in
theorem C11_advection_isometry_odd :
    ∀ (c : Nonlin.Cfg ℂ),
      0 < c.D →
        c.N % 2 = 1 →
          ∀ (s : ℝ),
            c.s = ↑s →
              ∀ (v : ℕ → ℝ) (u : Array ℂ),
                (∀ j < c.N ^ c.D, (u.getD j 0).im = 0) →
                  ∀ (dt : ℝ),
                    ∑ j ∈ Finset.range (c.N ^ c.D),
                        ((Transform.irfftnM c.D c.N
                                  (Transform.tab (Layout.numModes c.D c.N) fun h ↦
                                    Gen.Etdrk.E0step
                                      (Gen.Etdrk.exp_term (↑dt)
                                        (Nonlin.polySymbol c (pscale (-1) (gradInner c.D (fun d ↦ ↑(v d)) 1)) h))
                                      ((Transform.rfftnM c.D c.N u).getD h 0))).getD
                              j 0).re ^
                          2 =
                      ∑ j ∈ Finset.range (c.N ^ c.D), (u.getD j 0).re ^ 2 :=
  fun c hD hodd s hs v u hu dt =>
    advection_isometry_bandLimited c hD (Nat.odd_iff.mpr hodd).pos s hs v u hu
      (ExactLinear.bandLimited_of_odd c.D c.N hD hodd u) dt

open Exponax.SmallGaps in
theorem C11_dispersion_isometry_odd :
    ∀ (c : Nonlin.Cfg ℂ),
      0 < c.D →
        c.N % 2 = 1 →
          ∀ (s : ℝ),
            c.s = ↑s →
              ∀ (ξ : ℕ → ℝ) (u : Array ℂ),
                (∀ j < c.N ^ c.D, (u.getD j 0).im = 0) →
                  ∀ (dt : ℝ),
                    ∑ j ∈ Finset.range (c.N ^ c.D),
                        ((Transform.irfftnM c.D c.N
                                  (Transform.tab (Layout.numModes c.D c.N) fun h ↦
                                    Gen.Etdrk.E0step
                                      (Gen.Etdrk.exp_term (↑dt) (Nonlin.polySymbol c (gradInner c.D (fun d ↦ ↑(ξ d)) 3) h))
                                      ((Transform.rfftnM c.D c.N u).getD h 0))).getD
                              j 0).re ^
                          2 =
                      ∑ j ∈ Finset.range (c.N ^ c.D), (u.getD j 0).re ^ 2 :=
  fun c hD hodd s hs ξ u hu dt =>
    dispersion_isometry_bandLimited c hD (Nat.odd_iff.mpr hodd).pos s hs ξ u hu
      (ExactLinear.bandLimited_of_odd c.D c.N hD hodd u) dt

end Exponax
