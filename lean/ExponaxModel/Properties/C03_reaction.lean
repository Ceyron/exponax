import ExponaxModel.Proofs.AliasMultiReaction
import ExponaxModel.Proofs.AliasMultiExamples
/-
C03 (continuation) — the reaction terms as DOCUMENTED CONTINUOUS OPERATORS (library `Proofs/AliasMultiReaction.lean`).

`C03_single_channel_and_cahn_hilliard_nd` and `C03_gray_scott_nd` (Properties/C03.lean) give the discrete alias-free forms
(linear convolutions of the band spectra).  Here the same outputs are identified with the Fourier coefficients of the
documented continuous operator applied to the CONTINUOUS band-truncated field `P_K u = PKfield c s x` (the trigonometric
polynomial that interpolates the model's `ifft(mask·û)`, `C03_dealiased_state_is_band_truncated_field`):

  * Cahn–Hilliard: `CahnHilliardNonlinearFun.__call__` returns `laplace · fft(u³) · scale`, `scale = ν·c₃`; documented
    `uₜ = ν Δ(c₃u³ + …)`: the operator is `opCH b u = b·Σ_d ∂_d ∂_d (u³)` (sign `+`, honest derivatives `pderiv`),
  * Gray–Scott: `f(1 − u) − u v²` (channel 0), `−(f + k) v + u v²` (channel 1): `opGS0`, `opGS1`.

Hypothesis `4·Kc < N`: the cut-off of the documented fraction 1/2 for cubic terms (`C03_cutoff_cubic`).  `HasCoeffs s L f A`
says `f` is the trigonometric polynomial of band `L` with coefficient family `A` (unique: `hasCoeffs_unique`); the model
returns `N^D·A(k(h))` on retained modes (`N^D`: un-normalised forward transform) and `0` on dropped modes.
-/
namespace Exponax
open Exponax.Alias Exponax.Nonlin Exponax.Layout
open Exponax.AliasMulti Exponax.AliasND

/-- Cahn–Hilliard `b·Δ(u³)`, every `D ≥ 1`, 1/2 rule (`4·Kc < N`), real scale `s = 2π/L`:
    (1) `opCH b (P_K u) = b·Σ_d ∂_d∂_d((P_K u)³)` is the trigonometric polynomial of band `3·Kc` with coefficient family
        `chCoef s Kc b (ucoef c x)`: `r ↦ b·Σ_d (i s r_d)²·Σ_{p+q+t=r} U_p U_q U_t`, `U = x̂/N^D` on the box;
    (2) on every retained stored mode the model term returns `N^D ×` that coefficient at `k(h)` — the band truncation of the
        spectrum of the continuous operator applied to the continuous band-truncated field, no aliasing contribution;
    (3) it returns `0` on every dropped mode. -/
theorem C03_cahn_hilliard_is_continuous_operator_nd (c : Cfg ℂ) (hD : 0 < c.D) (hq : c.fq ≠ 0)
    (hK : 4 * Kc c < (c.N : ℤ)) (hN : 0 < c.N) (s : ℝ) (hs : c.s = (s : ℂ)) (b : ℂ) (x : Array ℂ)
    (hx : IsRealND c.D c.N x) :
    HasCoeffs s (Kc c + Kc c + Kc c) (opCH b (PKfield c s x)) (chCoef s (Kc c) b (ucoef c x)) ∧
    ∀ h, h < numModes c.D c.N →
      (mask c h = 1 → at2 (cahnHilliard c b #[Transform.rfftnM c.D c.N x]) 0 h
          = ((c.N ^ c.D : ℕ) : ℂ) * chCoef s (Kc c) b (ucoef c x) (kvec c.D c.N h)) ∧
      (mask c h = 0 → at2 (cahnHilliard c b #[Transform.rfftnM c.D c.N x]) 0 h = 0) := by
  refine ⟨opCH_hasCoeffs b (PKfield_hasCoeffs c s x), fun h hh => ?_⟩
  have := cahnHilliard_alias_free_nd c hD hq hK hN b x hx h hh
  refine ⟨fun hm => ?_, this.2⟩
  rw [this.1 hm, chCoef_model c hN s hs b x h]

/-- the two derivatives inside `opCH` are honest derivatives of differentiable functions: along every coordinate `d`,
    `t ↦ u³` has derivative `pderiv d (u³)` and `t ↦ pderiv d (u³)` has derivative `pderiv d (pderiv d (u³))`, for `u` the
    continuous band-truncated field -/
theorem C03_cahn_hilliard_derivatives_are_honest (c : Cfg ℂ) (s : ℝ) (x : Array ℂ) (d : Fin c.D) (ξ : Fin c.D → ℝ) :
    HasDerivAt (fun t : ℝ => (fun η => PKfield c s x η * PKfield c s x η * PKfield c s x η) (Function.update ξ d t))
      (pderiv d (fun η => PKfield c s x η * PKfield c s x η * PKfield c s x η) ξ) (ξ d) ∧
    HasDerivAt (fun t : ℝ => pderiv d (fun η => PKfield c s x η * PKfield c s x η * PKfield c s x η)
        (Function.update ξ d t))
      (pderiv d (pderiv d (fun η => PKfield c s x η * PKfield c s x η * PKfield c s x η)) ξ) (ξ d) :=
  opCH_derivs (PKfield_hasCoeffs c s x) d ξ

/-- the Cahn–Hilliard coefficient "computed without any aliasing error": sampling the continuous operator applied to the
    continuous band-truncated field on ANY finer grid `M > 4·Kc` and transforming gives (up to the normalisations
    `N^D / M^D`) exactly what the model returns on the retained modes -/
theorem C03_cahn_hilliard_fine_grid (c : Cfg ℂ) (hD : 0 < c.D) (hq : c.fq ≠ 0)
    (hK : 4 * Kc c < (c.N : ℤ)) (hN : 0 < c.N) (s : ℝ) (hs : c.s = (s : ℂ)) (hs0 : s ≠ 0) (b : ℂ) (x : Array ℂ)
    (hx : IsRealND c.D c.N x) (M : ℕ) (hM : 4 * Kc c < (M : ℤ)) (h : ℕ) (hh : h < numModes c.D c.N)
    (hm : mask c h = 1) :
    at2 (cahnHilliard c b #[Transform.rfftnM c.D c.N x]) 0 h
      = ((c.N ^ c.D : ℕ) : ℂ) / ((M ^ c.D : ℕ) : ℂ) *
          dftV c.D M (Transform.tab (M ^ c.D) fun j => opCH b (PKfield c s x) (gridPt s c.D M j))
            (kvec c.D c.N h) := by
  obtain ⟨hA, hmod⟩ := C03_cahn_hilliard_is_continuous_operator_nd c hD hq hK hN s hs b x hx
  rw [(hmod h hh).1 hm]
  exact hasCoeffs_fine_grid_stored c hD hq hs0 hA M (by omega) (by omega) h hm

/-- Gray–Scott reaction, every `D ≥ 1`, 1/2 rule (`4·Kc < N`), per channel.  With `u_K = PKfield c s xa`,
    `v_K = PKfield c s xb` the continuous band-truncated species:
    (1) `opGS0 f u_K v_K = f(1 − u_K) − u_K v_K²` and `opGS1 f k u_K v_K = −(f + k) v_K + u_K v_K²` are trigonometric
        polynomials of band `3·Kc` with coefficient families `gs0Coef`, `gs1Coef` (affine part exactly, cubic part the
        triple linear convolution `conv3 Kc U V V`);
    (2) on every retained stored mode, channel 0 / channel 1 of the model term is `N^D ×` the respective coefficient at
        `k(h)`;  (3) both channels are `0` on every dropped mode. -/
theorem C03_gray_scott_is_continuous_operator_nd (c : Cfg ℂ) (hD : 0 < c.D) (hq : c.fq ≠ 0)
    (hK : 4 * Kc c < (c.N : ℤ)) (hN : 0 < c.N) (s : ℝ) (feed kill : ℂ) (xa xb : Array ℂ)
    (hxa : IsRealND c.D c.N xa) (hxb : IsRealND c.D c.N xb) :
    (0 ≤ Kc c →
      HasCoeffs s (Kc c + Kc c + Kc c) (opGS0 feed (PKfield c s xa) (PKfield c s xb))
        (gs0Coef (Kc c) feed (ucoef c xa) (ucoef c xb)) ∧
      HasCoeffs s (Kc c + Kc c + Kc c) (opGS1 feed kill (PKfield c s xa) (PKfield c s xb))
        (gs1Coef (Kc c) feed kill (ucoef c xa) (ucoef c xb))) ∧
    ∀ h, h < numModes c.D c.N →
      (mask c h = 1 →
        at2 (reaction c 2 (grayScottReact feed kill)
            #[Transform.rfftnM c.D c.N xa, Transform.rfftnM c.D c.N xb]) 0 h
          = ((c.N ^ c.D : ℕ) : ℂ) * gs0Coef (Kc c) feed (ucoef c xa) (ucoef c xb) (kvec c.D c.N h) ∧
        at2 (reaction c 2 (grayScottReact feed kill)
            #[Transform.rfftnM c.D c.N xa, Transform.rfftnM c.D c.N xb]) 1 h
          = ((c.N ^ c.D : ℕ) : ℂ) * gs1Coef (Kc c) feed kill (ucoef c xa) (ucoef c xb) (kvec c.D c.N h)) ∧
      (mask c h = 0 →
        at2 (reaction c 2 (grayScottReact feed kill)
            #[Transform.rfftnM c.D c.N xa, Transform.rfftnM c.D c.N xb]) 0 h = 0 ∧
        at2 (reaction c 2 (grayScottReact feed kill)
            #[Transform.rfftnM c.D c.N xa, Transform.rfftnM c.D c.N xb]) 1 h = 0) := by
  refine ⟨fun hK0 => ⟨opGS0_hasCoeffs hK0 feed (PKfield_hasCoeffs c s xa) (PKfield_hasCoeffs c s xb),
    opGS1_hasCoeffs hK0 feed kill (PKfield_hasCoeffs c s xa) (PKfield_hasCoeffs c s xb)⟩, fun h hh => ?_⟩
  have := grayScott_alias_free_nd c hD hq hK hN feed kill xa xb hxa hxb h hh
  refine ⟨fun hm => ?_, this.2⟩
  have hk : ∀ d, |kvec c.D c.N h d| ≤ Kc c := (mask_nd_eq_one_iff c hq h).mp hm
  obtain ⟨e0, e1⟩ := this.1 hm
  rw [e0, e1]
  unfold gs0Coef gs1Coef
  rw [truncV_of_le _ _ _ hk, truncV_of_le _ _ _ hk, conv3_ucoef, rfftn_eq_dftV c.D c.N hN xa h hh,
    rfftn_eq_dftV c.D c.N hN xb h hh]
  unfold ucoef
  generalize linConv3 c.D c.N (Kc c) (dftV c.D c.N xa) (dftV c.D c.N xb) (dftV c.D c.N xb) (kvec c.D c.N h) = L3
  generalize dftV c.D c.N xa (kvec c.D c.N h) = Xa
  generalize dftV c.D c.N xb (kvec c.D c.N h) = Xb
  constructor
  · linear_combination -feed * natPow_mul_constCoef c hD hN h hh 1 + feed * natPow_mul_scaled c hN Xa
      + natPow_mul_scaled c hN L3
  · linear_combination (feed + kill) * natPow_mul_scaled c hN Xb - natPow_mul_scaled c hN L3

/-- the Gray–Scott coefficients computed on ANY finer grid `M > 4·Kc` (both channels) -/
theorem C03_gray_scott_fine_grid (c : Cfg ℂ) (hD : 0 < c.D) (hq : c.fq ≠ 0)
    (hK : 4 * Kc c < (c.N : ℤ)) (hN : 0 < c.N) (s : ℝ) (hs0 : s ≠ 0) (feed kill : ℂ) (xa xb : Array ℂ)
    (hxa : IsRealND c.D c.N xa) (hxb : IsRealND c.D c.N xb) (M : ℕ) (hM : 4 * Kc c < (M : ℤ)) (h : ℕ)
    (hh : h < numModes c.D c.N) (hm : mask c h = 1) :
    at2 (reaction c 2 (grayScottReact feed kill) #[Transform.rfftnM c.D c.N xa, Transform.rfftnM c.D c.N xb]) 0 h
      = ((c.N ^ c.D : ℕ) : ℂ) / ((M ^ c.D : ℕ) : ℂ) *
          dftV c.D M (Transform.tab (M ^ c.D) fun j =>
            opGS0 feed (PKfield c s xa) (PKfield c s xb) (gridPt s c.D M j)) (kvec c.D c.N h) ∧
    at2 (reaction c 2 (grayScottReact feed kill) #[Transform.rfftnM c.D c.N xa, Transform.rfftnM c.D c.N xb]) 1 h
      = ((c.N ^ c.D : ℕ) : ℂ) / ((M ^ c.D : ℕ) : ℂ) *
          dftV c.D M (Transform.tab (M ^ c.D) fun j =>
            opGS1 feed kill (PKfield c s xa) (PKfield c s xb) (gridPt s c.D M j)) (kvec c.D c.N h) := by
  obtain ⟨hA, hmod⟩ := C03_gray_scott_is_continuous_operator_nd c hD hq hK hN s feed kill xa xb hxa hxb
  obtain ⟨hA0, hA1⟩ := hA (Kc_nonneg_of_mask c hD hq h hm)
  obtain ⟨e0, e1⟩ := (hmod h hh).1 hm
  rw [e0, e1]
  exact ⟨hasCoeffs_fine_grid_stored c hD hq hs0 hA0 M (by omega) (by omega) h hm,
    hasCoeffs_fine_grid_stored c hD hq hs0 hA1 M (by omega) (by omega) h hm⟩

/-! ### non-vacuity: the hypotheses are satisfiable (fraction 1/2, `N = 8`, `Kc = 1`, `D = 2`, two different real species,
a retained non-mean mode, a dropped mode, a finer grid), and the theorems instantiated at the witness -/

example : ∃ (c : Cfg ℂ) (s : ℝ) (xa xb : Array ℂ) (M h h' : ℕ),
    0 < c.D ∧ c.fq ≠ 0 ∧ c.fp = 1 ∧ c.fq = 2 ∧ 4 * Kc c < (c.N : ℤ) ∧ 0 < c.N ∧ c.s = (s : ℂ) ∧ s ≠ 0 ∧ 0 ≤ Kc c ∧
    IsRealND c.D c.N xa ∧ IsRealND c.D c.N xb ∧ 4 * Kc c < (M : ℤ) ∧ c.N < M ∧
    h < numModes c.D c.N ∧ mask c h = 1 ∧ h ≠ 0 ∧ h' < numModes c.D c.N ∧ mask c h' = 0 := by
  refine ⟨cfg12 2, 1, ramp (8 ^ 2), Transform.tab (8 ^ 2) (fun _ => (1 : ℂ)), 32, 1, 2, by decide, by decide, rfl, rfl,
    by decide, by decide, cfg12_s 2, one_ne_zero, by decide, ramp_real 2 8, const_real 2 8, by decide, by decide,
    by decide, ?_, by decide, by decide, ?_⟩
  · rw [mask_nd_eq_one_iff _ (by decide)]
    decide
  · unfold mask
    rw [if_neg (by decide), if_neg (by decide)]

example (b : ℂ) :=
  C03_cahn_hilliard_is_continuous_operator_nd (cfg12 3) (by decide) (by decide) (by decide) (by decide) 1 (cfg12_s 3) b _
    (ramp_real 3 8)

example (feed kill : ℂ) :=
  C03_gray_scott_is_continuous_operator_nd (cfg12 2) (by decide) (by decide) (by decide) (by decide) 1 feed kill _ _
    (ramp_real 2 8) (const_real 2 8)

example (b : ℂ) (h : ℕ) (hh : h < numModes 2 8) (hm : mask (cfg12 2) h = 1) :=
  C03_cahn_hilliard_fine_grid (cfg12 2) (by decide) (by decide) (by decide) (by decide) 1 (cfg12_s 2) one_ne_zero b _
    (ramp_real 2 8) 32 (by decide) h hh hm

end Exponax
