import ExponaxModel.Proofs.Contour
/-
C02 — ETDRK steppers realise the order-p exponential Runge–Kutta scheme exactly.

Everything here is about `Gen.Etdrk.*`, the definitions regenerated from
`exponax/etdrk/*.py` on every run.
-/
set_option linter.unusedVariables false
namespace Exponax
open Exponax.Spec Exponax.Gen.Etdrk

/-! ### closed forms under the contour integral are the Cox–Matthews φ-combinations -/

theorem C02_cform_E1 (z r ζ : ℂ) :
    E1_scan_body_0 z r ζ = phi1 (r * ζ + z) :=
  E1_scan_body_0_eq z r ζ

theorem C02_cform_E2_1 (z r ζ : ℂ) :
    E2_scan_body_0 z r ζ = phi1 (r * ζ + z) :=
  C02_cform_E1 z r ζ

theorem C02_cform_E2_2 (z r ζ : ℂ) :
    E2_scan_body_1 z r ζ = phi2 (r * ζ + z) :=
  (E2_scan_body_1_eq z r ζ).trans (phi2_closed _).symm

/-- half-step coefficient: `(e^{w/2} − 1)/w = φ₁(w/2)/2` -/
theorem C02_cform_E3_1 (z r ζ : ℂ) :
    E3_scan_body_0 z r ζ = phi1 ((r * ζ + z) / 2) / 2 :=
  (E4_scan_body_0_eq z r ζ).trans (phi1_half_eq _).symm

theorem C02_cform_E3_2 (z r ζ : ℂ) :
    E3_scan_body_1 z r ζ = phi1 (r * ζ + z) :=
  C02_cform_E1 z r ζ

theorem C02_cform_E3_3 (z r ζ : ℂ) :
    E3_scan_body_2 z r ζ = phi1 (r * ζ + z) - 3 * phi2 (r * ζ + z) + 4 * phi3 (r * ζ + z) :=
  (E4_scan_body_1_eq z r ζ).trans (cformC_eq _).symm

theorem C02_cform_E4_5 (z r ζ : ℂ) :
    E4_scan_body_2 z r ζ = phi2 (r * ζ + z) - 2 * phi3 (r * ζ + z) :=
  (E4_scan_body_2_eq z r ζ).trans (cformF_eq _).symm

/-- the ETDRK4 stage formula applies `E4_scan_body_2` with the factor 2: Cox–Matthews' `2φ₂ − 4φ₃` -/
theorem C02_cform_E3_4 (z r ζ : ℂ) :
    E3_scan_body_3 z r ζ = 4 * phi2 (r * ζ + z) - 8 * phi3 (r * ζ + z) := by
  rw [E3_scan_body_3_eq, C02_cform_E4_5]
  ring

theorem C02_cform_E3_5 (z r ζ : ℂ) :
    E3_scan_body_4 z r ζ = 4 * phi3 (r * ζ + z) - phi2 (r * ζ + z) :=
  (E4_scan_body_3_eq z r ζ).trans (cformE_eq _).symm

theorem C02_cform_E4_1 (z r ζ : ℂ) :
    E4_scan_body_0 z r ζ = phi1 ((r * ζ + z) / 2) / 2 :=
  C02_cform_E3_1 z r ζ

theorem C02_cform_E4_4 (z r ζ : ℂ) :
    E4_scan_body_1 z r ζ = phi1 (r * ζ + z) - 3 * phi2 (r * ζ + z) + 4 * phi3 (r * ζ + z) :=
  C02_cform_E3_3 z r ζ

theorem C02_cform_E4_6 (z r ζ : ℂ) :
    E4_scan_body_3 z r ζ = 4 * phi3 (r * ζ + z) - phi2 (r * ζ + z) :=
  C02_cform_E3_5 z r ζ

/-! ### every stored coefficient is `dt ×` the contour mean of its φ-combination at `z = L·dt`

(`_exp_term = e^{dt·L}`, `_half_exp_term = e^{dt·L/2}`; the contour mean is over the `M`
nodes `z + r·ζ_j` produced by the regenerated `roots_of_unity`.) -/

theorem C02_exp_term (dt L : ℂ) : exp_term dt L = Complex.exp (dt * L) := by
  simp [exp_term]

theorem C02_half_exp_term_E3 (dt L r : ℂ) (M : ℕ) : E3_half_exp_term dt L M r = Complex.exp (dt * L / 2) := by
  simp only [E3_half_exp_term, hasExp_complex, qlit_eq]
  congr 1
  push_cast
  ring

theorem C02_half_exp_term_E4 (dt L r : ℂ) (M : ℕ) : E4_half_exp_term dt L M r = Complex.exp (dt * L / 2) :=
  C02_half_exp_term_E3 dt L r M

theorem C02_coef_E1_1 (dt L r : ℂ) (M : ℕ) :
    E1_coef_1 dt L M r = dt * contourMean (roots_of_unity M) r phi1 (L * dt) := by
  simp only [E1_coef_1, lit_eq]
  exact coef_as_contourMean dt (L * dt) r M _ _ (fun ζ => C02_cform_E1 (L * dt) r ζ)

theorem C02_coef_E2_1 (dt L r : ℂ) (M : ℕ) :
    E2_coef_1 dt L M r = dt * contourMean (roots_of_unity M) r phi1 (L * dt) :=
  C02_coef_E1_1 dt L r M

theorem C02_coef_E2_2 (dt L r : ℂ) (M : ℕ) :
    E2_coef_2 dt L M r = dt * contourMean (roots_of_unity M) r phi2 (L * dt) := by
  simp only [E2_coef_2, lit_eq]
  exact coef_as_contourMean dt (L * dt) r M _ _ (fun ζ => C02_cform_E2_2 (L * dt) r ζ)

theorem C02_coef_E3_1 (dt L r : ℂ) (M : ℕ) :
    E3_coef_1 dt L M r = dt * contourMean (roots_of_unity M) r (fun w => phi1 (w / 2) / 2) (L * dt) := by
  simp only [E3_coef_1, lit_eq]
  exact coef_as_contourMean dt (L * dt) r M _ _ (fun ζ => C02_cform_E3_1 (L * dt) r ζ)

theorem C02_coef_E3_2 (dt L r : ℂ) (M : ℕ) :
    E3_coef_2 dt L M r = dt * contourMean (roots_of_unity M) r phi1 (L * dt) :=
  C02_coef_E1_1 dt L r M

theorem C02_coef_E3_3 (dt L r : ℂ) (M : ℕ) :
    E3_coef_3 dt L M r = dt * contourMean (roots_of_unity M) r
      (fun w => phi1 w - 3 * phi2 w + 4 * phi3 w) (L * dt) := by
  simp only [E3_coef_3, lit_eq]
  exact coef_as_contourMean dt (L * dt) r M _ _ (fun ζ => C02_cform_E3_3 (L * dt) r ζ)

theorem C02_coef_E3_4 (dt L r : ℂ) (M : ℕ) :
    E3_coef_4 dt L M r = dt * contourMean (roots_of_unity M) r
      (fun w => 4 * phi2 w - 8 * phi3 w) (L * dt) := by
  simp only [E3_coef_4, lit_eq]
  exact coef_as_contourMean dt (L * dt) r M _ _ (fun ζ => C02_cform_E3_4 (L * dt) r ζ)

theorem C02_coef_E3_5 (dt L r : ℂ) (M : ℕ) :
    E3_coef_5 dt L M r = dt * contourMean (roots_of_unity M) r
      (fun w => 4 * phi3 w - phi2 w) (L * dt) := by
  simp only [E3_coef_5, lit_eq]
  exact coef_as_contourMean dt (L * dt) r M _ _ (fun ζ => C02_cform_E3_5 (L * dt) r ζ)

theorem C02_coef_E4_1 (dt L r : ℂ) (M : ℕ) :
    E4_coef_1 dt L M r = dt * contourMean (roots_of_unity M) r (fun w => phi1 (w / 2) / 2) (L * dt) :=
  C02_coef_E3_1 dt L r M

/-- ETDRK4 reuses the half-step coefficient for stages 2 and 3 -/
theorem C02_coef_E4_2_3 (dt L r : ℂ) (M : ℕ) :
    E4_coef_2 dt L M r = E4_coef_1 dt L M r ∧ E4_coef_3 dt L M r = E4_coef_1 dt L M r := ⟨rfl, rfl⟩

theorem C02_coef_E4_4 (dt L r : ℂ) (M : ℕ) :
    E4_coef_4 dt L M r = dt * contourMean (roots_of_unity M) r
      (fun w => phi1 w - 3 * phi2 w + 4 * phi3 w) (L * dt) :=
  C02_coef_E3_3 dt L r M

theorem C02_coef_E4_5 (dt L r : ℂ) (M : ℕ) :
    E4_coef_5 dt L M r = dt * contourMean (roots_of_unity M) r
      (fun w => phi2 w - 2 * phi3 w) (L * dt) := by
  simp only [E4_coef_5, lit_eq]
  exact coef_as_contourMean dt (L * dt) r M _ _ (fun ζ => C02_cform_E4_5 (L * dt) r ζ)

theorem C02_coef_E4_6 (dt L r : ℂ) (M : ℕ) :
    E4_coef_6 dt L M r = dt * contourMean (roots_of_unity M) r
      (fun w => 4 * phi3 w - phi2 w) (L * dt) :=
  C02_coef_E3_5 dt L r M

/-! ### the contour rule is exact on the degree-`< M` Taylor part, and avoids the singularity -/

theorem C02_contour_exact_poly (M : ℕ) (hM : 0 < M) (r z : ℂ) (a : ℕ → ℂ) :
    contourMean (roots_of_unity M) r (fun w => ∑ n ∈ Finset.range M, a n * (w - z) ^ n) z = a 0 := by
  -- the aliasing identity `contourMean_hasSum` on a series that stops before `M`
  refine (ContourTail.contourMean_hasSum M hM r z _ (fun n => if n < M then a n else 0) fun ζ _ => ?_).unique ?_
  · have h : HasSum (fun n => (if n < M then a n else 0) * (r * ζ) ^ n) _ :=
      hasSum_sum_of_ne_finset_zero (s := Finset.range M) fun n hn => by
        rw [if_neg (Finset.mem_range.not.mp hn), zero_mul]
    rw [Finset.sum_congr rfl fun n hn => by rw [if_pos (Finset.mem_range.mp hn)]] at h
    rwa [add_sub_cancel_right]
  · -- `m * M < M` only for `m = 0`
    have h : HasSum (fun m => (-1 : ℂ) ^ m * (if m * M < M then a (m * M) else 0) * r ^ (m * M)) _ :=
      hasSum_single 0 fun m hm => by
        rw [if_neg (not_lt.mpr (Nat.le_mul_of_pos_left M (Nat.pos_of_ne_zero hm))), mul_zero, zero_mul]
    rwa [zero_mul, if_pos hM, pow_zero, pow_zero, one_mul, mul_one] at h

/-- all nodes sit at distance `|r|` from `z`, so the closed forms are evaluated away from
    their removable singularity `w = 0` whenever `|z| ≠ |r|` (in particular at `z = 0`) -/
theorem C02_contour_avoids_zero (M j : ℕ) (r z : ℂ) (h : ‖z‖ ≠ ‖r‖) :
    r * root_of_unity M j + z ≠ 0 := by
  intro h0
  have h1 : r * root_of_unity M j = -z := by linear_combination h0
  have := congrArg norm h1
  rw [norm_mul, norm_root_of_unity, mul_one, norm_neg] at this
  exact h this.symm

/-! ### the stage formulas are the Cox–Matthews schemes (any commutative ring of "vectors":
    `ι → ℂ` with pointwise operations in particular; `N` is an arbitrary nonlinear map) -/

theorem C02_step_E0 {V : Type} [CommRing V] (E u : V) : E0step E u = E * u := rfl

theorem C02_step_E1 {V : Type} [CommRing V] (E a1 : V) (N : V → V) (u : V) :
    E1step E a1 N u = cm1 E a1 N u := rfl

theorem C02_step_E2 {V : Type} [CommRing V] (E a1 a2 : V) (N : V → V) (u : V) :
    E2step E a1 a2 N u = cm2 E a1 a2 N u := rfl

theorem C02_step_E3 {V : Type} [CommRing V] (E Eh ah a1 b1 b2 b3 : V) (N : V → V) (u : V) :
    E3step E Eh ah a1 b1 b2 b3 N u = cm3 E Eh ah a1 b1 b2 b3 N u := by
  simp only [E3step, cm3, lit_eq]

theorem C02_step_E4 {V : Type} [CommRing V] (E Eh ah b1 b2 b3 : V) (N : V → V) (u : V) :
    E4step E Eh ah ah ah b1 b2 b3 N u = cm4 E Eh ah b1 b2 b3 N u := by
  simp only [E4step, cm4, lit_eq]
  ring

/-! ### consequences for exact coefficients `dt·φ(z)` (per mode, `z = dt·λ ≠ 0`) -/

/-- zero nonlinearity: every order reduces to the linear propagator (order 0) -/
theorem C02_zero_nonlinearity (E Eh a1 a2 a3 a4 a5 a6 u : ℂ) :
    E1step E a1 (fun _ => 0) u = E0step E u ∧ E2step E a1 a2 (fun _ => 0) u = E0step E u ∧
    E3step E Eh a1 a2 a3 a4 a5 (fun _ => 0) u = E0step E u ∧
    E4step E Eh a1 a2 a3 a4 a5 a6 (fun _ => 0) u = E0step E u := by
  simp [E0step, E1step, E2step, E3step, E4step]

/-- constant nonlinearity `N ≡ c`: ETDRK1–4 with the exact coefficients return the exact solution
    `e^z u + dt φ₁(z) c` of `u' = λu + c` (the weights telescope to `φ₁`) -/
theorem C02_constant_nonlinearity_exact (dt z c u : ℂ) (hz : z ≠ 0) :
    let E := Complex.exp z
    let Eh := Complex.exp (z / 2)
    let ah := dt * (phi1 (z / 2) / 2)
    let exact := E * u + dt * phi1 z * c
    cm1 E (dt * phi1 z) (fun _ => c) u = exact ∧
    cm2 E (dt * phi1 z) (dt * phi2 z) (fun _ => c) u = exact ∧
    cm3 E Eh ah (dt * phi1 z) (dt * (phi1 z - 3 * phi2 z + 4 * phi3 z)) (dt * (4 * phi2 z - 8 * phi3 z))
        (dt * (4 * phi3 z - phi2 z)) (fun _ => c) u = exact ∧
    cm4 E Eh ah (dt * (phi1 z - 3 * phi2 z + 4 * phi3 z)) (dt * (phi2 z - 2 * phi3 z))
        (dt * (4 * phi3 z - phi2 z)) (fun _ => c) u = exact := by
  intro E Eh ah exact
  -- with `N ≡ c` the stages do not matter: each scheme returns `E u + (sum of its weights)·c`
  refine ⟨rfl, ?_, ?_, ?_⟩
  · simp only [cm2, sub_self, mul_zero, add_zero, exact]
  · simp only [cm3, exact]
    ring
  · simp only [cm4, lit_eq, exact]
    push_cast
    ring

/-! ### non-vacuity: the hypotheses are met by concrete non-trivial data -/

example : ‖(0 : ℂ)‖ ≠ ‖(1 : ℂ)‖ := by simp
example : (2 : ℂ) ≠ 0 := by norm_num
example : 0 < 16 := by norm_num

/-
Further C02 theorems: `Properties/C02_accuracy.lean` (the aliasing tail of the contour rule: stored coefficient = dt·φ-combination
up to an explicit, stiffness-uniform error), `Properties/C02_order.lean` (order p: proved on the linear test family for
p = 1..4 and for nonlinear N for p = 1..4, p = 3, 4 in the classical sense; what is not proved is listed in its header),
`Properties/C02_stored_complex.lean` (order p with the stored coefficients for complex symbols) and `Properties/C02_base.lean`
(the regenerated `BaseStepper` glue between a stepper and its integrator).
-/

end Exponax
