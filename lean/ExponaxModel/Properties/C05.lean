import ExponaxModel.Proofs.OperatorAlgebra
import ExponaxModel.Proofs.ReadOffND
import ExponaxModel.Proofs.SpectralOpsEq
import ExponaxModel.Proofs.ReadOffPoisson
import ExponaxModel.Proofs.DFTnD
/-
C05 — spectral differential operators are exact on band-limited fields.
`Nonlin.deriv`, `Nonlin.laplace`, `Nonlin.poissonStep`, `Nonlin.derivativeM` mirror `exponax/_spectral.py`
and `_poisson.py` (the regenerated `derivative` and `Poisson.*` are proved equal to them in `C05_generated_derivative`,
`C05_generated_poisson`, from `Proofs/SpectralOpsEq.lean`); `s = 2π/L` real, non-zero.
-/
namespace Exponax
open Exponax.Nonlin Exponax.Operator

/-- the derivative symbol of order `m` along axis `d`: `(i s k_d)^m` -/
theorem C05_derivative_symbol (c : Cfg ℂ) (s : ℝ) (hs : c.s = (s : ℂ)) (d h m : ℕ) :
    deriv c d h ^ m = Complex.I ^ m * (((s * (wnAt c d h : ℝ)) ^ m : ℝ) : ℂ) :=
  Exponax.deriv_pow c s hs d h m

/-- multiplying a mode by `(i s k_d)^m` IS the `m`-th derivative of the corresponding plane wave (any order) -/
theorem C05_derivative_exact_on_modes (c : Cfg ℂ) (d h m : ℕ) :
    (iteratedDeriv m fun x : ℝ => Complex.exp (deriv c d h * x)) =
      fun x : ℝ => deriv c d h ^ m * Complex.exp (deriv c d h * x) :=
  iteratedDeriv_planeWave _ m

/-- Laplace operator of even order `2n ≥ 2`: `(−1)^n s^{2n} Σ_d k_d^{2n}` (real) -/
theorem C05_laplace_symbol (c : Cfg ℂ) (s : ℝ) (hs : c.s = (s : ℂ)) (h n : ℕ) (hn : 1 ≤ n) :
    laplace c (2 * n) h = (((-1) ^ n * s ^ (2 * n) * ∑ d ∈ Finset.range c.D, (wnAt c d h : ℝ) ^ (2 * n) : ℝ) : ℂ) :=
  laplace_even c s hs h n hn

/-- gradient inner product of odd order: `i (−1)^n s^{2n+1} Σ_d v_d k_d^{2n+1}` (purely imaginary) -/
theorem C05_gradinner_symbol (c : Cfg ℂ) (s : ℝ) (hs : c.s = (s : ℂ)) (h n : ℕ) (v : ℕ → ℝ) :
    ∑ d ∈ Finset.range c.D, ((v d : ℝ) : ℂ) * deriv c d h ^ (2 * n + 1) =
      Complex.I * (((-1) ^ n * s ^ (2 * n + 1) * ∑ d ∈ Finset.range c.D, v d * (wnAt c d h : ℝ) ^ (2 * n + 1) : ℝ) : ℂ) := by
  push_cast
  rw [Finset.mul_sum, Finset.mul_sum]
  apply Finset.sum_congr rfl
  intro d _
  rw [Exponax.deriv_pow c s hs d h (2 * n + 1), I_pow_odd]
  push_cast
  ring

theorem poissonStep_eq (c : Cfg ℂ) (order h : ℕ) (f : ℂ) : poissonStep c order h f = poissonMode order c h f := by
  simp only [poissonStep, poissonMode]
  by_cases hl : laplace c order h = 0 <;> simp [HasIsZero.isZero, hl]

/-- POISSON, order 2: the solution has zero mean and its Laplacian is minus the right-hand side on every
    other stored mode (so `Δu = −(f − mean f)`) -/
theorem C05_poisson2 (c : Cfg ℂ) (s : ℝ) (hs : c.s = (s : ℂ)) (hs0 : s ≠ 0) (h : ℕ) (hD : 1 ≤ c.D) (hN : 0 < c.N)
    (hh : h < Layout.numModes c.D c.N) (f : ℂ) :
    poissonStep c 2 0 f = 0 ∧ (h ≠ 0 → laplace c 2 h * poissonStep c 2 h f = -f) := by
  rw [poissonStep_eq, poissonStep_eq]
  exact poisson_two_index c s hs hs0 h hD hN hh f

/-- POISSON, order 4: the same with the sum of pure fourth derivatives `Σ_d ∂_d⁴` (symbol `s⁴ Σ k_d⁴`) -/
theorem C05_poisson4 (c : Cfg ℂ) (s : ℝ) (hs : c.s = (s : ℂ)) (hs0 : s ≠ 0) (h : ℕ) (hD : 1 ≤ c.D) (hN : 0 < c.N)
    (hh : h < Layout.numModes c.D c.N) (f : ℂ) :
    (poissonStep c 4 0 f = 0 ∧ (h ≠ 0 → laplace c 4 h * poissonStep c 4 h f = -f)) ∧
    laplace c 4 h = ((s ^ 4 * ∑ d ∈ Finset.range c.D, (wnAt c d h : ℝ) ^ 4 : ℝ) : ℂ) := by
  rw [poissonStep_eq, poissonStep_eq]
  exact ⟨poisson_four_index c s hs hs0 h hD hN hh f, laplace_four c s hs h⟩

/-- the guard fires only at the mean mode -/
theorem C05_guard_only_dc (c : Cfg ℂ) (s : ℝ) (hs : c.s = (s : ℂ)) (hs0 : s ≠ 0) (h n : ℕ) (hn : 1 ≤ n) :
    laplace c (2 * n) h = 0 ↔ ∀ d < c.D, wnAt c d h = 0 :=
  laplace_even_eq_zero_iff c s hs hs0 h n hn

/-- transform pair used by `derivative`: exact on every real grid function (all `D ≥ 1`, `N ≥ 1`) -/
theorem C05_transform_roundtrip (D N : ℕ) (hD : 0 < D) (hN : 0 < N) (x : ℕ → ℝ) :
    Transform.irfftnM D N (Transform.rfftnM D N (Transform.tab (N ^ D) (fun j => ((x j : ℝ) : ℂ))))
      = Transform.tab (N ^ D) (fun j => ((x j : ℝ) : ℂ)) :=
  DFT.irfftn_rfftn_ofReal D N hD hN x

example : ∃ c : Cfg ℂ, ∃ s : ℝ, c.s = (s : ℂ) ∧ s ≠ 0 ∧ 1 ≤ c.D ∧ 0 < c.N :=
  ⟨{ D := 2, N := 6, s := ((2 : ℝ) : ℂ), fp := 0, fq := 0 }, 2, rfl, by norm_num, by decide, by decide⟩

/-! ### physical space, every dimension: the model routines on Nyquist-free states (`Proofs/ReadOff*.lean`)

`ExactLinear.stateOf D N ms` is the grid sample of `Σ a cos(2π κ·j/N + φ)`; `ReadOff.diffModes s m d` maps each mode to
its analytic `m`-th derivative along axis `d`: amplitude `a (s κ_d)^m`, phase `φ + mπ/2`. -/

/-- SPECTRAL DERIVATIVES ARE EXACT ON RESOLVED MODES: any order `m ≥ 0`, any axis, every D ≥ 1, odd or even N -/
theorem C05_derivative_exact (c : Cfg ℂ) (s : ℝ) (hs : c.s = (s : ℂ)) (hD : 0 < c.D) (hN : 0 < c.N) (m d : ℕ)
    (ms : ExactLinear.Modes) (hms : ∀ q ∈ ms, ExactLinear.BelowNyquist c.D c.N q.1) :
    derivativeM c m d (ExactLinear.stateOf c.D c.N ms) = ExactLinear.stateOf c.D c.N (ReadOff.diffModes s m d ms) :=
  ReadOff.derivativeM_stateOf c s hs hD hN m d ms hms

theorem C05_derivative_exact_single_mode (c : Cfg ℂ) (s : ℝ) (hs : c.s = (s : ℂ)) (hD : 0 < c.D) (hN : 0 < c.N)
    (κ : List ℤ) (hκ : ExactLinear.BelowNyquist c.D c.N κ) (m d : ℕ) (a φ : ℝ) :
    derivativeM c m d (ExactLinear.modeField c.D c.N κ a φ) =
      ExactLinear.modeField c.D c.N κ (a * (s * (κ.getD d 0 : ℤ)) ^ m) (φ + m * (Real.pi / 2)) :=
  ReadOff.derivativeM_modeField c s hs hD hN κ hκ m d a φ

/-- POISSON in physical space: the solver returns, for every Nyquist-free right-hand side, the field whose modes are
    divided by `s²|κ|²` (constant part dropped) … -/
theorem C05_poisson_physical (c : Cfg ℂ) (s : ℝ) (hs : c.s = (s : ℂ)) (hs0 : s ≠ 0) (hD : 0 < c.D) (hN : 0 < c.N)
    (ms : ExactLinear.Modes) (hms : ∀ q ∈ ms, ExactLinear.BelowNyquist c.D c.N q.1) :
    Transform.irfftnM c.D c.N (ReadOff.poissonSpec c 2 (Transform.rfftnM c.D c.N (ExactLinear.stateOf c.D c.N ms))) =
      ExactLinear.stateOf c.D c.N (ReadOff.poissonModes c.D s ms) := by
  rw [← SmallGaps2.poissonModesEven_one]
  exact SmallGaps2.poisson_even_stateOf c s hs hs0 hD hN 1 le_rfl ms hms

/-- … which solves `∇²u = −f` (apply the model Laplacian to the solution: `−f` comes back), with zero mean -/
theorem C05_poisson_solves (c : Cfg ℂ) (s : ℝ) (hs : c.s = (s : ℂ)) (hs0 : s ≠ 0) (hD : 0 < c.D) (hN : 0 < c.N)
    (κ : List ℤ) (hκ : ExactLinear.BelowNyquist c.D c.N κ) (hne : ∃ d < c.D, κ.getD d 0 ≠ 0) (a φ : ℝ) (fh : Array ℂ) :
    ReadOff.specApply c.D c.N (laplace c 2) (Transform.irfftnM c.D c.N
        (ReadOff.poissonSpec c 2 (Transform.rfftnM c.D c.N (ExactLinear.modeField c.D c.N κ a φ)))) =
      ExactLinear.modeField c.D c.N κ (-a) φ ∧ (ReadOff.poissonSpec c 2 fh).getD 0 0 = 0 :=
  ⟨SmallGaps2.poisson_even_solves_mode c s hs hs0 hD hN 1 le_rfl κ hκ hne a φ,
    ReadOff.poissonSpec_mean_zero c 2 two_ne_zero fh⟩

/-! ### the spectral-derivative and Poisson code itself, regenerated from `_spectral.py::derivative` and `_poisson.py`
on every run (`Gen.SpectralOps.*`), is the model operator the theorems above are about -/
open Exponax.SpectralOpsEq in
/-- `exponax.derivative` (single channel: one output row per axis; multi-channel: row `c·D + d`) is the model's
    spectral derivative `(i k_d 2π/L)^order` applied between the model transforms -/
theorem C05_generated_derivative (D N C : ℕ) (hD : 1 ≤ D) (hN : 0 < N) (L : ℂ) (order : ℕ) (field : MC ℂ) :
    Gen.SpectralOps.derivative D N 1 L order "ij" field =
        tabC D (fun d => derivativeM (cfg D N L) order d (field.getD 0 #[])) ∧
      (C ≠ 1 → Gen.SpectralOps.derivative D N C L order "ij" field =
        tabC (C * D) (fun p => derivativeM (cfg D N L) order (p % D) (field.getD (p / D) #[]))) :=
  ⟨derivative_single_eq D N hD hN L order field, fun hC => derivative_multi_eq D N C hC hD hN L order field⟩

open Exponax.SpectralOpsEq in
/-- `Poisson.__init__` stores `1/Δ̂` with `0` at every mode where the symbol vanishes, and `Poisson.step` divides by it
    between the transforms: the model's `poissonStep` -/
theorem C05_generated_poisson (D N C : ℕ) (hD : 1 ≤ D) (hN : 0 < N) (L : ℂ) (order : ℕ) (f : MC ℂ) :
    Gen.SpectralOps.Poisson_init_inv_operator D N L order =
        tab2 1 (Layout.numModes D N) (fun _ h =>
          if laplace (cfg D N L) order h = 0 then 0 else 1 / laplace (cfg D N L) order h) ∧
      Gen.SpectralOps.Poisson_step D N C L order f =
        tabC C (fun ch => Transform.irfftnM D N (Transform.tab (Layout.numModes D N) (fun h =>
          poissonStep (cfg D N L) order h ((Transform.rfftnM D N (f.getD ch #[])).getD h 0)))) :=
  ⟨Poisson_init_inv_operator_eq D N hD hN L order, Poisson_step_eq D N C hD hN L order f⟩

/-! ### Poisson of every even order in physical space (order 4: gain −1/(s⁴Σκ_d⁴), opposite sign to order 2; the operator
applied to the solution always returns −(f − mean f)), also through the regenerated `Poisson_step` -/

open Exponax.SmallGaps2 in
theorem C05_poisson4_physical :
    ∀ (c : Nonlin.Cfg ℂ) (s : ℝ),
      c.s = ↑s →
        s ≠ 0 →
          0 < c.D →
            0 < c.N →
              ∀ (ms : ExactLinear.Modes),
                (∀ q ∈ ms, ExactLinear.BelowNyquist c.D c.N q.1) →
                  Transform.irfftnM c.D c.N
                      (ReadOff.poissonSpec c 4 (Transform.rfftnM c.D c.N (ExactLinear.stateOf c.D c.N ms))) =
                    ExactLinear.stateOf c.D c.N (poissonModes4 c.D s ms) := by
  intro c s hs hs0 hD hN ms hms
  have := poisson_even_stateOf c s hs hs0 hD hN 2 (by norm_num) ms hms
  rwa [poissonModesEven_two] at this

open Exponax.SmallGaps2 in
theorem C05_poisson_even_order_solves :
    ∀ (c : Nonlin.Cfg ℂ) (s : ℝ),
      c.s = ↑s →
        s ≠ 0 →
          0 < c.D →
            0 < c.N →
              ∀ (n : ℕ),
                1 ≤ n →
                  ∀ (ms : ExactLinear.Modes),
                    (∀ q ∈ ms, ExactLinear.BelowNyquist c.D c.N q.1) →
                      ReadOff.specApply c.D c.N (Nonlin.laplace c (2 * n))
                          (Transform.irfftnM c.D c.N
                            (ReadOff.poissonSpec c (2 * n) (Transform.rfftnM c.D c.N (ExactLinear.stateOf c.D c.N ms)))) =
                        ExactLinear.stateOf c.D c.N (negOffMean c.D (2 * n) ms) :=
  @Exponax.SmallGaps2.poisson_even_solves

open Exponax.SmallGaps2 in
theorem C05_generated_poisson_even_physical :
    ∀ (D N C n : ℕ),
      1 ≤ n →
        1 ≤ D →
          0 < N →
            ∀ (L : ℝ),
              L ≠ 0 →
                ∀ (f : Nonlin.MC ℂ) (ms : ℕ → ExactLinear.Modes),
                  (∀ ch < C, ∀ q ∈ ms ch, ExactLinear.BelowNyquist D N q.1) →
                    (∀ ch < C, Array.getD f ch #[] = ExactLinear.stateOf D N (ms ch)) →
                      Gen.SpectralOps.Poisson_step D N C (↑L) (2 * n) f =
                        Nonlin.tabC C fun ch ↦ ExactLinear.stateOf D N (poissonModesEven D (2 * Real.pi / L) n (ms ch)) :=
  @Exponax.SmallGaps2.generated_poisson_even_physical

end Exponax
