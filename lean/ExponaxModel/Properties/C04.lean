import ExponaxModel.Proofs.LayoutLemmas
import ExponaxModel.Proofs.ExactLinearModes
import ExponaxModel.Proofs.ExactLinearIndex
import ExponaxModel.Proofs.SpectralLayoutEq
import ExponaxModel.Proofs.SpectralOpsEq
import ExponaxModel.Proofs.ReadOffCoefExtraction
import ExponaxModel.Proofs.SpectralLayoutXY
/-
C04 — grid, FFT and Fourier-coefficient conventions are mutually consistent.
Index / layout part (all `N`, no bound), then the DFT part: round trip (`Proofs/DFTnD.lean`) and single-mode
read-offs (from `SmallGaps2.rfftnM_modeField_nyquist`, `Proofs/ExactLinearModes.lean`).
-/
set_option linter.unusedVariables false
namespace Exponax
open Exponax.Layout Exponax.Transform Exponax.DFT Finset

/-- the stored leading-axis entry `i` names a wavenumber congruent to `i` modulo `N` … -/
theorem C04_fftfreq_congr (N i : ℕ) (hi : i < N) : (fftfreq N i - (i : ℤ)) % (N : ℤ) = 0 :=
  Int.emod_eq_zero_of_dvd (fftfreq_modEq N i).symm.dvd

/-- … inside the symmetric band `[-N/2, (N-1)/2]` (the Nyquist entry of an even grid is negative) -/
theorem C04_fftfreq_range (N i : ℕ) (hi : i < N) :
    -((N / 2 : ℕ) : ℤ) ≤ fftfreq N i ∧ fftfreq N i ≤ (((N - 1) / 2 : ℕ) : ℤ) :=
  ⟨fftfreq_lower N i hi, fftfreq_upper N i hi⟩

theorem C04_fftfreq_injective (N i j : ℕ) (hi : i < N) (hj : j < N) (h : fftfreq N i = fftfreq N j) : i = j :=
  fftfreq_injOn N i j hi hj h

/-- every wavenumber of the band is stored exactly once, at `k` (non-negative) or `k + N` (negative) -/
theorem C04_fftfreq_surjective (N : ℕ) (k : ℤ) (hN : 0 < N) (hlo : -((N / 2 : ℕ) : ℤ) ≤ k)
    (hhi : k ≤ (((N - 1) / 2 : ℕ) : ℤ)) :
    ∃ i, i < N ∧ fftfreq N i = k :=
  ⟨fftfreqInv N k, fftfreqInv_lt N k hN hlo hhi, fftfreq_fftfreqInv N k hN hlo hhi⟩

theorem C04_fftfreq_zero_iff (N i : ℕ) (hi : i < N) : fftfreq N i = 0 ↔ i = 0 :=
  fftfreq_eq_zero_iff N i hi

theorem C04_fftfreq_nyquist (N : ℕ) (hN : 0 < N) (he : N % 2 = 0) : fftfreq N (N / 2) = -((N / 2 : ℕ) : ℤ) :=
  fftfreq_nyquist N hN he

/-- last axis: `0 … N/2` -/
theorem C04_rfftfreq (N i : ℕ) : rfftfreq N i = (i : ℤ) := rfl

/-- the low-pass mask keeps exactly the modes with `|k_d| ≤ cutoff` on every axis -/
theorem C04_lowpass_iff (k : List ℤ) (c : ℤ) : lowPassSep k c 1 = true ↔ ∀ kd ∈ k, |kd| ≤ c := by
  simp only [lowPassSep_iff, mul_one]

theorem C04_lowpass_rational_iff (k : List ℤ) (p q : ℤ) : lowPassSep k p q = true ↔ ∀ kd ∈ k, |kd| * q ≤ p :=
  lowPassSep_iff k p q

/-- the Nyquist ("oddball") mask: everything on odd grids, `|k_d| ≤ N/2 − 1` on even grids -/
theorem C04_oddball_iff (N : ℕ) (k : List ℤ) :
    oddball N k = true ↔ (N % 2 = 1 ∨ ∀ kd ∈ k, |kd| ≤ ((N / 2 : ℕ) : ℤ) - 1) := by
  rcases Nat.mod_two_eq_zero_or_one N with h | h
  · rw [oddball_even_iff N k h, h, or_iff_right (by decide)]
  · simp only [oddball_odd N k h, h, true_or]

/-- grid: left-inclusive, right-exclusive, spacing `L/N` -/
theorem C04_grid (L : ℚ) (N j : ℕ) (hN : 0 < N) (hL : 0 < L) :
    gridCoord L N false j = (j : ℚ) * (L / N) ∧
    (j < N → 0 ≤ gridCoord L N false j ∧ gridCoord L N false j < L) ∧
    gridCoord L N false N = L ∧
    gridCoord L N false (j + 1) - gridCoord L N false j = L / N := by
  have hN' : (0 : ℚ) < N := by exact_mod_cast hN
  simp only [gridCoord, lit, Bool.false_eq_true, if_false]
  refine ⟨mul_div_assoc _ _ _, fun hj => ⟨by positivity, ?_⟩, mul_div_cancel_left₀ L hN'.ne', ?_⟩
  · rw [div_lt_iff₀ hN', mul_comm]
    exact mul_lt_mul_of_pos_left (by exact_mod_cast hj) hL
  · rw [← sub_div]
    congr 1
    push_cast
    ring

theorem C04_grid_len (N : ℕ) : gridLen N false = N ∧ gridLen N true = N + 1 := ⟨rfl, rfl⟩

theorem C04_grid_centered (L : ℚ) (N j : ℕ) :
    gridCoord L N true j = gridCoord L N false j - L / 2 := by
  simp [gridCoord, lit]

/-- scaling entries: `N` at DC / Nyquist entries, `N / denom` elsewhere -/
theorem C04_scaling_axis (N denom : ℕ) (isLast : Bool) (k : ℤ) :
    (axisScale N denom isLast k : ℚ) = if isSpecial N isLast k then (N : ℚ) else (N : ℚ) / denom := by
  unfold axisScale
  split <;> simp [lit]

/-- scaling array, "norm compensation": `N` per axis, i.e. the `N^D` the inverse transform divides by -/
theorem C04_scaling_norm_axis (N : ℕ) (isLast : Bool) (k : ℤ) : (axisScale N 1 isLast k : ℚ) = N := by
  rw [C04_scaling_axis, Nat.cast_one, div_one, ite_self]

/-- the three scaling arrays in closed form: `N^D / 2^(#axes that are halved)`; "norm compensation" is `N^D`
    (what the inverse transform divides by), "reconstruction" halves only non-DC/Nyquist last-axis columns,
    "coefficient extraction" halves every non-special axis -/
theorem C04_scaling_closed_form (D N mode : ℕ) (h : List ℕ) :
    (scaling D N mode h : ℚ) = (N : ℚ) ^ D / 2 ^ ((List.range D).countP (halved D N mode h)) :=
  scaling_eq D N mode h

theorem C04_scaling_norm (D N : ℕ) (h : List ℕ) : (scaling D N 0 h : ℚ) = (N : ℚ) ^ D :=
  scaling_mode_zero D N h

theorem C04_scaling_recon (D N : ℕ) (hD : 1 ≤ D) (h : List ℕ) :
    (scaling D N 1 h : ℚ) = if isSpecial N true (wn D N h (D - 1)) = true then (N : ℚ) ^ D else (N : ℚ) ^ D / 2 :=
  scaling_mode_one (K := ℚ) D N hD h

/-- the sphere mask keeps exactly `|k|₂ ≤ c` -/
theorem C04_sphere_iff (k : List ℤ) (c : ℤ) : lowPassSphere k c = true ↔ 0 ≤ c ∧ normSq k ≤ c ^ 2 := by
  rw [lowPassSphere_iff, normSq_eq_sum]

/-- every stored wavenumber is inside the band, and the even-grid Nyquist entry is stored at index `N/2` only -/
theorem C04_stored_band (D N : ℕ) (hD : 1 ≤ D) (hN : 0 < N) (i : ℕ) (hi : i < numModes D N) (k : ℤ)
    (hk : k ∈ wnFlat D N i) : |k| ≤ ((N / 2 : ℕ) : ℤ) :=
  mem_wnFlat_abs_le D N i hD hN hi k hk

/-- C-order flat index ↔ multi-index is a bijection on the stored range -/
theorem C04_flatten_unflatten (shape : List ℕ) (hpos : ∀ a ∈ shape, 0 < a) (i : ℕ) (hi : i < shapeSize shape) :
    flatten shape (unflatten shape i) = i :=
  flatten_unflatten shape hpos i hi

theorem C04_num_modes (D N : ℕ) : numModes D N = N ^ (D - 1) * (N / 2 + 1) := numModes_eq D N

/-- MODE SLICES: for every `D ≥ 1`, `N ≥ 2` each stored multi-index lies in exactly one block, and the block
    is the one named by the signs of its leading-axis wavenumbers (negative ⇒ right slice; the even-grid
    Nyquist row `−N/2` belongs to the negative block) -/
theorem C04_slices_partition (N : ℕ) (hN : 2 ≤ N) (hs : List ℕ) (hl : ℕ) (hhs : ∀ i ∈ hs, i < N)
    (hhl : hl < N / 2 + 1) :
    ∃! b, b ∈ modeBlocks (hs.length + 1) N ∧ inBlock b (hs ++ [hl]) = true :=
  ⟨_, (mem_modeBlocks_inBlock_iff N hN hs hl hhs hhl _).2 rfl,
    fun b hb => (mem_modeBlocks_inBlock_iff N hN hs hl hhs hhl b).1 hb⟩

theorem C04_slices_block (N : ℕ) (hN : 2 ≤ N) (hs : List ℕ) (hl : ℕ) (hhs : ∀ i ∈ hs, i < N)
    (hhl : hl < N / 2 + 1) (b : List (ℕ × ℕ)) :
    (b ∈ modeBlocks (hs.length + 1) N ∧ inBlock b (hs ++ [hl]) = true) ↔
      b = hs.map (fun i => signRange N (decide (fftfreq N i < 0))) ++ [(0, N / 2 + 1)] :=
  mem_modeBlocks_inBlock_iff N hN hs hl hhs hhl b

theorem C04_slices_count (D N : ℕ) : (modeBlocks D N).length = 2 ^ (D - 1) := modeBlocks_length D N

/-! ### transforms (`Transform.rfftnM` / `irfftnM` are the DFT sums `jnp.fft.rfftn/irfftn` compute; the
tie to the implementation — also on non-Hermitian input — is the numerical correspondence) -/

/-- ROUND TRIP: the inverse transform undoes the forward transform for every real state, every
    dimension `D ≥ 1`, every `N ≥ 1` (odd and even) -/
theorem C04_roundtrip (D N : ℕ) (hD : 0 < D) (hN : 0 < N) (x : ℕ → ℝ) :
    irfftnM D N (rfftnM D N (tab (N ^ D) (fun j => ((x j : ℝ) : ℂ)))) = tab (N ^ D) (fun j => ((x j : ℝ) : ℂ)) :=
  irfftn_rfftn_ofReal D N hD hN x

theorem C04_roundtrip_entry (D N : ℕ) (hD : 0 < D) (hN : 0 < N) (u : Array ℂ)
    (hu : ∀ j < N ^ D, (u.getD j 0).im = 0) (j : ℕ) (hj : j < N ^ D) :
    (irfftnM D N (rfftnM D N u)).getD j 0 = u.getD j 0 :=
  irfftn_rfftn D N hD hN u hu j hj

/-- SINGLE MODE (1-D): `a·cos(2πkx/L + φ)` sampled on the grid appears in exactly the stored mode `k`, with
    `(a/2)e^{iφ}·N` there (`a·cos φ·N` for the self-conjugate modes `k = 0`, `2k = N`) and `0` elsewhere -/
theorem C04_single_mode_1d (N : ℕ) (hN : 0 < N) (k h : ℕ) (hk : k ≤ N / 2) (hh : h ≤ N / 2) (a φ : ℝ) :
    (rfftnM 1 N (tab N (fun j => (((a * Real.cos (2 * Real.pi * k * j / N + φ)) : ℝ) : ℂ)))).getD h 0
      = if h = k then
          (if k = 0 ∨ 2 * k = N then (((a * Real.cos φ * N) : ℝ) : ℂ)
           else (a / 2 : ℂ) * Complex.exp (φ * Complex.I) * (N : ℂ))
        else 0 := by
  have hf : tab N (fun j => (((a * Real.cos (2 * Real.pi * k * j / N + φ)) : ℝ) : ℂ))
      = ExactLinear.modeField 1 N [(k : ℤ)] a φ := by
    rw [ExactLinear.modeField, pow_one]
    refine tab_congr N _ _ fun j hj => ?_
    rw [phaseK_one_of_lt N _ j hj, Int.cast_mul, Int.cast_natCast, Int.cast_natCast, mul_assoc (2 * Real.pi)]
  have hκ : SmallGaps2.AtMostNyquist 1 N [(k : ℤ)] :=
    ⟨rfl, fun d hd => by
      rw [Nat.lt_one_iff.mp hd, List.getD_cons_zero, Nat.abs_cast]
      exact_mod_cast (Nat.mul_le_mul_left 2 hk).trans (Nat.mul_div_le N 2)⟩
  obtain ⟨h1, h2⟩ := SmallGaps2.stored_eq_canonK_one N k h hN
  have hm : h < numModes 1 N := by
    rw [numModes_one]
    exact Nat.lt_succ_of_le hh
  rw [hf, SmallGaps2.rfftnM_modeField_nyquist 1 N one_pos hN _ hκ a φ h hm, wnFlat_one, pow_one]
  simp only [h1, h2]
  by_cases hhk : h = k
  · by_cases hsp : k = 0 ∨ 2 * k = N
    · rw [if_pos hhk, if_pos ⟨hhk, hsp⟩, if_pos hhk, if_pos hsp, ← mul_add, ← neg_mul, ← Complex.two_cos,
        Complex.ofReal_mul, Complex.ofReal_mul, Complex.ofReal_cos, Complex.ofReal_natCast]
      ring
    · rw [if_pos hhk, if_neg (fun h => hsp h.2), if_pos hhk, if_neg hsp, add_zero, mul_right_comm]
  · rw [if_neg hhk, if_neg (fun h => hhk h.1), if_neg hhk, add_zero]

/-- stored coefficient `h` is the DFT sum over the grid with the phase `k(h)·j` named by the wavenumber array -/
theorem C04_rfftn_formula (D N : ℕ) (hN : 0 < N) (u : Array ℂ) (h : ℕ) (hh : h < numModes D N) :
    (rfftnM D N u).getD h 0 = ∑ j ∈ range (N ^ D), u.getD j 0 * twiddle N (phaseK D N (wnFlat D N h) j) :=
  rfftnM_getD D N hN u h hh

/-- Parseval in the half layout with the "reconstruction" weights (1 on the last-axis DC/Nyquist columns, else 2) -/
theorem C04_parseval (D N : ℕ) (hD : 0 < D) (hN : 0 < N) (u : Array ℂ) (hu : ∀ j < N ^ D, (u.getD j 0).im = 0) :
    ∑ j ∈ range (N ^ D), ‖u.getD j 0‖ ^ 2
      = (1 / ((N ^ D : ℕ) : ℝ)) * ∑ h ∈ range (numModes D N), (herm_weight D N h : ℝ) * ‖(rfftnM D N u).getD h 0‖ ^ 2 :=
  parseval_nd D N hD hN u hu

example : (List.range 6).map (fftfreq 6) = [0, 1, 2, -3, -2, -1] := by decide
example : (List.range 5).map (fftfreq 5) = [0, 1, 2, -2, -1] := by decide
example : wavenumberShape 3 6 = [6, 6, 4] := by decide

/-! ### n-D single-mode read-off (every D ≥ 1, every N, every wavenumber vector strictly below Nyquist — negative
leading entries, either sign of the last entry, the self-paired case) -/

/-- `a cos(2π κ·j/N + φ)` appears in exactly the stored mode(s) with wavenumber `κ` / `−κ` that the wavenumber array
    names, with value `(a/2) N^D e^{±iφ}`, and nowhere else -/
theorem C04_single_mode_nd (D N : ℕ) (hD : 0 < D) (hN : 0 < N) (κ : List ℤ) (hκ : ExactLinear.BelowNyquist D N κ)
    (a φ : ℝ) (h : ℕ) (hh : h < numModes D N) :
    (Transform.rfftnM D N (ExactLinear.modeField D N κ a φ)).getD h 0 =
      (if wnFlat D N h = κ then (a : ℂ) / 2 * ((N ^ D : ℕ) : ℂ) * Complex.exp ((φ : ℂ) * Complex.I) else 0) +
        if wnFlat D N h = ExactLinear.negK κ then (a : ℂ) / 2 * ((N ^ D : ℕ) : ℂ) * Complex.exp (-((φ : ℂ) * Complex.I))
        else 0 :=
  ExactLinear.rfftnM_modeField D N hD hN κ hκ a φ h hh

/-- the wavenumber array is injective on stored indices, the last entry is never negative, and a wavenumber vector
    below Nyquist with non-negative last entry is stored exactly once — its negative is stored iff the last entry is 0 -/
theorem C04_stored_modes (D N : ℕ) (hD : 0 < D) (hN : 0 < N) (κ : List ℤ) (hκ : ExactLinear.BelowNyquist D N κ)
    (hl : 0 ≤ κ.getD (D - 1) 0) :
    (∃! h, h < numModes D N ∧ wnFlat D N h = κ) ∧
      ((∃ h < numModes D N, wnFlat D N h = ExactLinear.negK κ) ↔ κ.getD (D - 1) 0 = 0) :=
  ⟨ExactLinear.stored_existsUnique D N hD hN κ hκ hl, ExactLinear.partner_stored_iff D N hD hN κ hκ hl⟩

/-! ### the layout helpers of `_spectral.py` / `_utils.py`, REGENERATED from their source on every run
(`Gen.SpectralLayout.*`, per array entry), equal the model functions every theorem above speaks about -/
open Exponax.Gen.SpectralLayout in
theorem C04_generated_layout (D N : ℕ) (hD : 1 ≤ D) (hN : 0 < N) (h : List ℕ) (p q : ℤ) (hq : 0 < q) :
    build_wavenumbers D N "ij" h = wnVec D N h ∧
    wavenumber_shape D N = wavenumberShape D N ∧
    low_pass_filter_mask D N ((p : ℚ) / (q : ℚ)) true "ij" h = lowPassSep (wnVec D N h) p q ∧
    oddball_filter_mask D N h = oddball N (wnVec D N h) ∧
    build_scaling_array D N "norm_compensation" "ij" h = some (scaling D N 0 h) ∧
    build_scaling_array D N "reconstruction" "ij" h = some (scaling D N 1 h) ∧
    build_scaling_array D N "coef_extraction" "ij" h = some (scaling D N 2 h) :=
  ⟨build_wavenumbers_ij D N hD hN h, wavenumber_shape_eq D N, low_pass_filter_mask_sep D N hD hN p q hq h,
   oddball_filter_mask_eq D N hD hN h, build_scaling_array_norm_compensation D N hD hN h,
   build_scaling_array_reconstruction D N hD hN h, build_scaling_array_coef_extraction D N hD hN h⟩

/-- `indexing="xy"` in 2-D swaps the two wavenumber components consistently with the transform -/
theorem C04_generated_xy (N : ℕ) (hN : 0 < N) (h : List ℕ) :
    Gen.SpectralLayout.build_wavenumbers 2 N "xy" h = [wn 2 N h 1, wn 2 N h 0] := by
  -- the source reverses the list of axis vectors for `D = 2` AND `meshgrid` swaps the two axes: channel 0 is the wavenumber
  -- along the LAST (rfft) axis; the array keeps the shape `(2, N, N//2+1)`
  rw [build_wavenumbers_unfold 2 N hN]
  rfl

/-- regenerated mode slices resolve to the model's blocks; regenerated grid is left-inclusive / right-exclusive with
    spacing L/N; regenerated `wrap_bc` appends the periodic image -/
theorem C04_generated_slices_grid_wrap (D N : ℕ) {K : Type} [Field K] (L : K) (full zc : Bool) (idx : List ℕ)
    (u : List ℕ → K) (C c i : ℕ) (hN : 0 < N) (hc : c < C) :
    (Gen.SpectralLayout.get_modes_slices D N).map (fun b => (b.tail.zip (wavenumberShape D N)).map
        fun x => match x with | (s, len) => pySlice len s.1 s.2) = modeBlocks D N ∧
    Gen.SpectralLayout.make_grid D L N full zc "ij" idx = (List.range D).map (fun d => gridCoord L N zc (idx.getD d 0)) ∧
    Gen.SpectralLayout.wrap_bc u (C :: List.replicate D N) (c :: unflatten (List.replicate D (N + 1)) i) =
      u (c :: unflatten (List.replicate D N) (wrapSource D N i)) :=
  ⟨get_modes_slices_blocks D N, make_grid_ij D N L full zc idx, wrap_bc_eq u C D N c i hN hc⟩

/-- the list of translated functions is recorded: a new layout helper in the source breaks this until it is covered -/
theorem C04_generated_coverage : Gen.SpectralLayout.generated_functions.length = 15 := by
  rw [generated_functions_eq]; rfl

/-! ### `exponax.fft` / `exponax.ifft`, regenerated from `_spectral.py` on every run (axis selection, inference of the
omitted arguments), are the model transforms per channel; `ifft` without `num_points` can only infer it for D ≥ 2 -/
open Exponax.SpectralOpsEq in
theorem C04_generated_fft_ifft (C D N : ℕ) (hD : 1 ≤ D) (x : Nonlin.MC ℂ) :
    Gen.SpectralOps.fft [C] D N none x = some (Nonlin.tabC C (fun i => rfftnM D N (x.getD i #[]))) ∧
      Gen.SpectralOps.ifft [C] D N none (some N) x = some (Nonlin.tabC C (fun i => irfftnM D N (x.getD i #[]))) ∧
      Gen.SpectralOps.ifft [C] D N (some D) none x =
        (if 2 ≤ D then some (Nonlin.tabC C (fun i => irfftnM D N (x.getD i #[]))) else none) :=
  ⟨(fft_eq C D N hD x).2, (ifft_eq C D N hD x).2, ifft_infer_num_points C D N hD x⟩

/-! ### composed coefficient extraction: the regenerated `get_fourier_coefficients(..., "coef_extraction")` of the sampled
mode a·cos(κ·x + φ) is a·e^{iφ}·2^{n−1} at the stored index of κ (n = number of non-zero components of κ: exactly a·e^{iφ}
for axis-aligned waves, a·cos φ for κ = 0) and 0 at every other stored mode; the per-axis scaling product makes the factor
2^{n−1} for oblique waves (explicit 2-D instance) -/

open Exponax.SmallGaps in
theorem C04_coefficient_extraction_of_a_mode :
    ∀ [inst : Gen.SpectralOps.HasRoundTo ℂ] (D N : ℕ),
      1 ≤ D →
        0 < N →
          ∀ (κ : List ℤ),
            ExactLinear.BelowNyquist D N κ →
              ∀ (a φ : ℝ),
                Gen.SpectralOps.get_fourier_coefficients D N 1 (some "coef_extraction") none "ij"
                    #[ExactLinear.modeField D N κ a φ] =
                  some
                    (Nonlin.tab2 1 (Layout.numModes D N) fun x h ↦
                      (if Layout.wnFlat D N h = κ then ↑a / 2 * 2 ^ nzCount D κ * Complex.exp (↑φ * Complex.I) else 0) +
                        if Layout.wnFlat D N h = ExactLinear.negK κ then
                          ↑a / 2 * 2 ^ nzCount D κ * Complex.exp (-(↑φ * Complex.I))
                        else 0) :=
  @Exponax.SmallGaps.get_fourier_coefficients_modeField

open Exponax.SmallGaps in
theorem C04_coefficient_extraction_axis_aligned :
    ∀ [inst : Gen.SpectralOps.HasRoundTo ℂ] (D N : ℕ),
      1 ≤ D →
        0 < N →
          ∀ (κ : List ℤ),
            ExactLinear.BelowNyquist D N κ →
              nzCount D κ = 1 →
                ∀ (a φ : ℝ),
                  ∀ h < Layout.numModes D N,
                    Layout.wnFlat D N h = κ →
                      ∃ out,
                        Gen.SpectralOps.get_fourier_coefficients D N 1 (some "coef_extraction") none "ij"
                              #[ExactLinear.modeField D N κ a φ] =
                            some out ∧
                          Nonlin.at2 out 0 h = ↑a * Complex.exp (↑φ * Complex.I) := by
  intro _ D N hD hN κ hκ h1 a φ h hh hk
  obtain ⟨out, ho, hat, _, _, _⟩ := coef_extraction_readoff D N hD hN κ hκ a φ
  refine ⟨out, ho, ?_⟩
  have hne : ∃ d < D, κ.getD d 0 ≠ 0 := by
    by_contra hcon
    have : nzCount D κ = 0 := nzCount_zero D κ (fun d hd => by
      by_contra hx; exact hcon ⟨d, hd, hx⟩)
    omega
  rw [hat h hh hk hne, h1]; simp

open Exponax.SmallGaps in
theorem C04_coefficient_extraction_oblique_factor :
    ∀ [inst : Gen.SpectralOps.HasRoundTo ℂ] (a φ : ℝ),
      ∃ out,
        Gen.SpectralOps.get_fourier_coefficients 2 8 1 (some "coef_extraction") none "ij"
              #[ExactLinear.modeField 2 8 [1, 1] a φ] =
            some out ∧
          Nonlin.at2 out 0 6 = 2 * (↑a * Complex.exp (↑φ * Complex.I)) := by
  intro _ a φ
  have hκ : ExactLinear.BelowNyquist 2 8 [1, 1] := ⟨rfl, by intro d hd; interval_cases d <;> simp⟩
  obtain ⟨out, ho, hat, _, _, _⟩ := coef_extraction_readoff 2 8 (by norm_num) (by norm_num) [1, 1] hκ a φ
  refine ⟨out, ho, ?_⟩
  -- `κ = (1, 1)` is stored at flat index `1·5 + 1 = 6`
  rw [hat 6 (by decide) (by decide) ⟨0, by norm_num, by decide⟩]
  have : nzCount 2 [1, 1] = 2 := by decide
  rw [this]; ring

/-! ### indexing = "xy" for every D ≥ 2 (wavenumbers and grid swap their first two components, scaling arrays do not depend on the
indexing, the single-mode read-off holds on the xy grid with the xy wavenumber array), and the n-D read-off AT Nyquist
wavenumbers (stored representative `canonK`, self-conjugate modes carry a·cos φ) -/

open Exponax.SmallGaps2 in
theorem C04_xy_wavenumbers :
    ∀ (D N : ℕ),
      2 ≤ D →
        0 < N →
          ∀ (h : List ℕ),
            Gen.SpectralLayout.build_wavenumbers D N "xy" h = swap01 (Gen.SpectralLayout.build_wavenumbers D N "ij" h) ∧
              Gen.SpectralLayout.build_wavenumbers D N "xy" h = swap01 (Layout.wnVec D N h) ∧
                Gen.SpectralLayout.build_wavenumbers_shape D N "xy" = Gen.SpectralLayout.build_wavenumbers_shape D N "ij" :=
  @Exponax.SmallGaps2.build_wavenumbers_xy_swap

open Exponax.SmallGaps2 in
theorem C04_xy_grid :
    ∀ {K : Type} [inst : Field K] (D N : ℕ),
      2 ≤ D →
        ∀ (L : K) (full zc : Bool) (idx : List ℕ),
          Gen.SpectralLayout.make_grid D L N full zc "xy" idx =
              swap01 (Gen.SpectralLayout.make_grid D L N full zc "ij" idx) ∧
            Gen.SpectralLayout.make_grid D L N full zc "xy" idx =
                Gen.SpectralLayout.make_grid D L N full zc "ij" (swapIdx idx) ∧
              Gen.SpectralLayout.make_grid D L N full zc "xy" idx =
                List.map (fun d ↦ Layout.gridCoord L N zc (idx.getD (sw d) 0)) (List.range D) :=
  @Exponax.SmallGaps2.make_grid_xy_swap

open Exponax.SmallGaps2 in
theorem C04_xy_scaling_arrays :
    ∀ (D N : ℕ),
      1 ≤ D →
        0 < N →
          ∀ (mode : String) (h : List ℕ),
            Gen.SpectralLayout.build_scaling_array D N mode "xy" h = Gen.SpectralLayout.build_scaling_array D N mode "ij" h :=
  @Exponax.SmallGaps2.build_scaling_array_xy

open Exponax.SmallGaps2 in
theorem C04_single_mode_xy :
    ∀ (D N : ℕ),
      2 ≤ D →
        0 < N →
          ∀ (L : ℝ),
            L ≠ 0 →
              ∀ (κ : List ℤ),
                ExactLinear.BelowNyquist D N κ →
                  ∀ (a φ : ℝ),
                    ∀ h < Layout.numModes D N,
                      (Transform.rfftnM D N (sampledOnGrid D N L "xy" κ a φ)).getD h 0 =
                        (if
                              Gen.SpectralLayout.build_wavenumbers D N "xy"
                                  (Layout.unflatten (Layout.wavenumberShape D N) h) =
                                κ then
                            ↑a / 2 * ↑(N ^ D) * Complex.exp (↑φ * Complex.I)
                          else 0) +
                          if
                              Gen.SpectralLayout.build_wavenumbers D N "xy"
                                  (Layout.unflatten (Layout.wavenumberShape D N) h) =
                                ExactLinear.negK κ then
                            ↑a / 2 * ↑(N ^ D) * Complex.exp (-(↑φ * Complex.I))
                          else 0 := by
  intro D N hD hN L hL κ hκ a φ h hh
  rw [sampledOnGrid_xy D N hD hN L hL κ hκ.1, build_wavenumbers_xy_flat D N hD hN,
    ExactLinear.rfftnM_modeField D N (by omega) hN _ (belowNyquist_swap01 hD hκ) a φ h hh, negK_swap01]
  simp only [← swap01_eq_iff]

open Exponax.SmallGaps2 in
theorem C04_single_mode_nyquist_nd :
    ∀ (D N : ℕ),
      0 < D →
        0 < N →
          ∀ (κ : List ℤ),
            AtMostNyquist D N κ →
              ∀ (a φ : ℝ),
                ∀ h < Layout.numModes D N,
                  (Transform.rfftnM D N (ExactLinear.modeField D N κ a φ)).getD h 0 =
                    (if Layout.wnFlat D N h = canonK D N κ then ↑a / 2 * ↑(N ^ D) * Complex.exp (↑φ * Complex.I) else 0) +
                      if Layout.wnFlat D N h = canonK D N (ExactLinear.negK κ) then
                        ↑a / 2 * ↑(N ^ D) * Complex.exp (-(↑φ * Complex.I))
                      else 0 :=
  @Exponax.SmallGaps2.rfftnM_modeField_nyquist

open Exponax.SmallGaps2 in
theorem C04_single_mode_self_conjugate_nd :
    ∀ (D N : ℕ),
      0 < D →
        0 < N →
          ∀ (κ : List ℤ),
            AtMostNyquist D N κ →
              SelfConj D N κ →
                ∀ (a φ : ℝ),
                  ∀ h < Layout.numModes D N,
                    (Transform.rfftnM D N (ExactLinear.modeField D N κ a φ)).getD h 0 =
                      if Layout.wnFlat D N h = canonK D N κ then ↑(a * Real.cos φ * ↑(N ^ D)) else 0 :=
  @Exponax.SmallGaps2.rfftnM_modeField_selfconj

end Exponax
