import ExponaxModel.Proofs.LayoutLemmas
import ExponaxModel.Proofs.InterpExact
import ExponaxModel.Proofs.InterpQuery
import ExponaxModel.Proofs.SpectralOpsEq
import ExponaxModel.Proofs.InterpThereBack
import ExponaxModel.Proofs.DFTnD
/-
C15 — Fourier interpolation and resolution changes.
First the index part of `map_between_resolutions`: the block copy preserves wavenumbers (all parity
combinations of `N_old`, `N_new`, including `±1`).  `Interp.srcAxis` mirrors the slices of
`get_modes_slices(D, min(N_old, N_new))` resolved on the target and on the source axis.
Then exactness and mean preservation, arbitrary query points, the regenerated interpolation code, n-D round trips.
-/
set_option linter.unusedVariables false
namespace Exponax
open Exponax.Layout Exponax.Interp

theorem srcAxis_leading_band (m Nnew Nold i : ℕ) (hm : 2 ≤ m) (hn : m ≤ Nnew) (ho : m ≤ Nold) (hi : i < Nnew) :
    (srcAxis m Nnew Nold false i).isSome ↔
      (-((m / 2 : ℕ) : ℤ) ≤ fftfreq Nnew i ∧ fftfreq Nnew i ≤ (((m - 1) / 2 : ℕ) : ℤ)) := by
  rw [srcAxis_lead_wn m Nnew Nold i hm hn ho]
  by_cases h : -((m / 2 : ℕ) : ℤ) ≤ fftfreq Nnew i ∧ fftfreq Nnew i ≤ (((m - 1) / 2 : ℕ) : ℤ)
  · rw [if_pos ⟨hi, h⟩]
    exact iff_of_true rfl h
  · rw [if_neg fun h' => h h'.2]
    exact iff_of_false Bool.false_ne_true h

/-- leading axes: whenever target entry `i` is written, its source entry carries the SAME wavenumber -/
theorem C15_copy_preserves_wavenumber (Nold Nnew i j : ℕ) (ho : 2 ≤ Nold) (hn : 2 ≤ Nnew) (hi : i < Nnew)
    (h : srcAxis (min Nold Nnew) Nnew Nold false i = some j) :
    j < Nold ∧ fftfreq Nold j = fftfreq Nnew i :=
  srcAxis_lead_spec _ Nnew Nold i j (le_min ho hn) (min_le_right _ _) (min_le_left _ _) h

/-- exactly the wavenumbers `−m/2 ≤ k ≤ (m−1)/2`, `m = min(N_old, N_new)`, are copied -/
theorem C15_copy_band (Nold Nnew i : ℕ) (ho : 2 ≤ Nold) (hn : 2 ≤ Nnew) (hi : i < Nnew) :
    (srcAxis (min Nold Nnew) Nnew Nold false i).isSome ↔
      (-(((min Nold Nnew) / 2 : ℕ) : ℤ) ≤ fftfreq Nnew i ∧ fftfreq Nnew i ≤ ((((min Nold Nnew) - 1) / 2 : ℕ) : ℤ)) :=
  srcAxis_leading_band _ Nnew Nold i (le_min ho hn) (min_le_right _ _) (min_le_left _ _) hi

/-- last (rfft) axis: entries `0 … m/2` are copied to themselves -/
theorem C15_copy_last_axis (Nold Nnew i : ℕ) (hi : i < Nnew / 2 + 1) :
    srcAxis (min Nold Nnew) (Nnew / 2 + 1) (Nold / 2 + 1) true i =
      if i < (min Nold Nnew) / 2 + 1 then some i else none :=
  Interp.srcAxis_last Nold Nnew i hi

/-- same resolution: identity -/
theorem C15_same_resolution {K : Type} [Add K] [Sub K] [Mul K] [Div K] [Neg K] [Zero K] [One K] [NatCast K]
    [IntCast K] [HasExp K] [HasI K] [HasPi K] [HasRe K] (D N : ℕ) (b : Bool) (u : Array K) :
    mapBetween D N N b u = u := by
  simp [mapBetween]

/-- the interpolant's transform pair reproduces every real state on its own grid (all `D ≥ 1`, `N ≥ 1`) -/
theorem C15_grid_reproduction (D N : ℕ) (hD : 0 < D) (hN : 0 < N) (x : ℕ → ℝ) :
    Transform.irfftnM D N (Transform.rfftnM D N (Transform.tab (N ^ D) (fun j => ((x j : ℝ) : ℂ))))
      = Transform.tab (N ^ D) (fun j => ((x j : ℝ) : ℂ)) :=
  DFT.irfftn_rfftn_ofReal D N hD hN x

example : srcAxis 8 9 8 false 7 = some 6 := by decide
example : (List.range 9).map (srcAxis 8 9 8 false) = [some 0, some 1, some 2, some 3, none, some 4, some 5, some 6, some 7] := by decide
example : (List.range 8).map (srcAxis 7 8 9 false) = [some 0, some 1, some 2, some 3, none, some 6, some 7, some 8] := by decide

/-! ### exactness and mean preservation, through the model routines themselves (`Proofs/Interp*.lean`)

`Interp.BandLimitedN D Nold m u`: the transform of `u` vanishes at every stored mode with some `2|k_d| ≥ m`
(`m = min Nold Nnew`: strictly below BOTH Nyquist wavenumbers).  `Interp.gridPoint D N s j` is the physical point
`L·j_d/N` (`s = 2π/L`). -/

/-- every resolution change preserves the mean of ANY real state — every D ≥ 1, every pair of resolutions ≥ 1, both
    values of the Nyquist ("oddball") option -/
theorem C15_mean_preserved (D Nold Nnew : ℕ) (hD : 0 < D) (ho : 0 < Nold) (hn : 0 < Nnew) (ob : Bool) (u : Array ℂ)
    (hu : ∀ j < Nold ^ D, (u.getD j 0).im = 0) :
    (∑ j ∈ Finset.range (Nnew ^ D), (Interp.mapBetween D Nold Nnew ob u).getD j 0) / (Nnew : ℂ) ^ D =
      (∑ j ∈ Finset.range (Nold ^ D), u.getD j 0) / (Nold : ℂ) ^ D :=
  mapBetween_mean D Nold Nnew hD ho hn ob u hu

/-- the Fourier interpolant reproduces every real state at its own grid points — every D, N -/
theorem C15_interpolant_at_grid_points (D N : ℕ) (hD : 0 < D) (hN : 0 < N) (s : ℂ) (hs : s ≠ 0) (u : Array ℂ)
    (hu : ∀ j < N ^ D, (u.getD j 0).im = 0) (j : ℕ) (hj : j < N ^ D) :
    Interp.interpolate D N s u (Interp.gridPoint D N s j) = u.getD j 0 :=
  interpolate_gridPoint D N hD hN s hs u hu j hj

/-- mapping a band-limited state to ANY other resolution (finer or coarser, all parity combinations, N ± 1 included)
    samples its own Fourier interpolant on the new grid — every D -/
theorem C15_map_is_exact (D Nold Nnew : ℕ) (hD : 0 < D) (ho : 0 < Nold) (hn : 0 < Nnew) (hne : Nold ≠ Nnew) (ob : Bool)
    (s : ℂ) (hs : s ≠ 0) (u : Array ℂ) (hb : Interp.BandLimitedN D Nold (min Nold Nnew) u) (j : ℕ)
    (hj : j < Nnew ^ D) :
    (Interp.mapBetween D Nold Nnew ob u).getD j 0
      = Interp.interpolate D Nold s u (Interp.gridPoint D Nnew s j) :=
  mapBetween_nd_exact D Nold Nnew hD ho hn hne ob s hs u hb j hj

/-- up-sampling from an odd grid needs no hypothesis on the state at all -/
theorem C15_upsample_from_odd (D Nold Nnew : ℕ) (hD : 0 < D) (hodd : Nold % 2 = 1) (hlt : Nold < Nnew) (ob : Bool)
    (s : ℂ) (hs : s ≠ 0) (u : Array ℂ) (j : ℕ) (hj : j < Nnew ^ D) :
    (Interp.mapBetween D Nold Nnew ob u).getD j 0
      = Interp.interpolate D Nold s u (Interp.gridPoint D Nnew s j) :=
  mapBetween_nd_exact D Nold Nnew hD (by omega) (by omega) (by omega) ob s hs u
    (bandLimitedN_of_odd_up D Nold Nnew hD hodd hlt u) j hj

/-- mapping there and back returns the original (1-D; up-then-down and down-then-up) -/
theorem C15_round_trip_1d (Nold Nnew : ℕ) (hne : Nold ≠ Nnew) (ho : 0 < Nold) (hn : 0 < Nnew) (ob ob' : Bool)
    (u : Array ℂ) (hu : ∀ j < Nold, (u.getD j 0).im = 0) (hb : Interp.BandLimited1 Nold (min Nold Nnew) u) (j : ℕ)
    (hj : j < Nold) :
    (Interp.mapBetween 1 Nnew Nold ob' (Interp.mapBetween 1 Nold Nnew ob u)).getD j 0 = u.getD j 0 :=
  Interp.I2a_roundtrip Nold Nnew hne ho hn ob ob' u hu hb j hj

/-- integer refinement of an odd grid keeps every original sample, for any real state -/
theorem C15_refinement_keeps_samples (Nold p : ℕ) (ho : 0 < Nold) (hp : 2 ≤ p) (hodd : Nold % 2 = 1) (ob : Bool)
    (u : Array ℂ) (hu : ∀ j < Nold, (u.getD j 0).im = 0) (j : ℕ) (hj : j < Nold) :
    (Interp.mapBetween 1 Nold (p * Nold) ob u).getD (p * j) 0 = u.getD j 0 :=
  mapBetween_one_subsample_odd Nold p ho hp hodd ob u hu j hj

/-! ### arbitrary query points, inside or outside the domain (`Proofs/InterpQuery*.lean`) -/

/-- THE ANALYTIC VALUE AT ANY REAL QUERY POINT: the Fourier interpolant of a superposition of modes strictly below
    Nyquist returns `Σ a cos(Σ_d s κ_d x_d + φ)` at every real `x` — every D ≥ 1, every N -/
theorem C15_interpolant_is_analytic (D N : ℕ) (hD : 0 < D) (hN : 0 < N) (s : ℝ) (ms : ExactLinear.Modes)
    (hms : ∀ m ∈ ms, ExactLinear.BelowNyquist D N m.1) (x : List ℝ) :
    Interp.interpolate D N (s : ℂ) (ExactLinear.stateOf D N ms) (Interp.cx x) =
      ((ms.map fun m => m.2.1 * Real.cos (∑ d ∈ Finset.range D, s * (m.1.getD d 0 : ℤ) * x.getD d 0 + m.2.2)).sum : ℝ) :=
  Interp.U2_interpolate_stateOf D N hD hN s ms hms x

/-- periodic extension: shifting the query point by whole periods `L = 2π/s` along any axes does not change the value,
    for EVERY state; in particular the value outside the domain is the value at the wrapped point -/
theorem C15_interpolant_periodic (D N : ℕ) (s : ℂ) (hs : s ≠ 0) (u : Array ℂ) (x x' : List ℂ) (m : ℕ → ℤ)
    (h : ∀ d < D, x'.getD d 0 = x.getD d 0 + (m d : ℂ) * (2 * (Real.pi : ℂ) / s)) :
    Interp.interpolate D N s u x' = Interp.interpolate D N s u x :=
  Interp.U3_interpolate_periodic D N s hs u x x' m h

/-- every real band-limited grid state IS the sampling of a trigonometric polynomial, and the interpolant returns that
    polynomial at every real point -/
theorem C15_every_band_limited_state (D N : ℕ) (hD : 0 < D) (hN : 0 < N) (s : ℝ) (hs : s ≠ 0) (u : Array ℂ)
    (hsz : u.size = N ^ D) (hu : ∀ j < N ^ D, (u.getD j 0).im = 0) (hb : ExactLinear.BandLimited D N u) :
    ∃ ms, (∀ m ∈ ms, ExactLinear.BelowNyquist D N m.1) ∧ u = ExactLinear.stateOf D N ms ∧
      ∀ x : List ℝ, Interp.interpolate D N (s : ℂ) u (Interp.cx x) = ((Interp.trigPoly D s ms (Interp.cx x) : ℝ) : ℂ) ∧
        Interp.trigPoly D s ms (Interp.cx x) = Interp.trigPoly D s ms (Interp.cx (Interp.wrapPt s x)) := by
  obtain ⟨ms, hms, hst, _, hx, _⟩ := U4_interpolate_bandLimited D N hD hN s hs u hsz hu hb
  refine ⟨ms, hms, hst, fun x => ⟨hx (cx x) (fun d _ => cx_real x d), ?_⟩⟩
  -- periodicity (U3) carries the value at `x` to the wrapped point, where the interpolant is the polynomial again
  have h1 := hx (cx x) (fun d _ => cx_real x d)
  have h2 := hx (cx (wrapPt s x)) (fun d _ => cx_real _ d)
  rw [U3_interpolate_wrap D N s hs u x, h2] at h1
  exact_mod_cast h1.symm

/-- the Nyquist-free hypothesis is sharp: at the Nyquist wavenumber the interpolant differs from the analytic value -/
theorem C15_fails_at_nyquist :
    Interp.interpolate 1 2 ((1 : ℝ) : ℂ) (ExactLinear.modeField 1 2 [1] 1 (Real.pi / 2)) (Interp.cx [Real.pi / 2]) ≠
      ((1 * Real.cos (∑ d ∈ Finset.range 1, 1 * (([1] : List ℤ).getD d 0 : ℤ) * ([Real.pi / 2] : List ℝ).getD d 0
        + Real.pi / 2) : ℝ) : ℂ) := Interp.U1_fails_at_nyquist

/-! ### the interpolation code itself (`map_between_resolutions`, `FourierInterpolator`), regenerated from
`_interpolation.py` on every run, is the model the theorems above are about -/
open Exponax.SpectralOpsEq in
theorem C15_generated_map_between (D N Nnew C : ℕ) (hD : 1 ≤ D) (hN : 0 < N) (hNn : 0 < Nnew) (ob : Bool)
    (state : Nonlin.MC ℂ) :
    (N ≠ Nnew → Gen.SpectralOps.map_between_resolutions D N C Nnew ob state =
        Nonlin.tabC C (fun ch => Interp.mapBetween D N Nnew ob (state.getD ch #[]))) ∧
      Gen.SpectralOps.map_between_resolutions D N C N ob state = state :=
  ⟨fun h => map_between_resolutions_eq D N Nnew C h hD hN hNn ob state, map_between_resolutions_same D N C ob state⟩

open Exponax.SpectralOpsEq in
theorem C15_generated_interpolator (D N C : ℕ) (hD : 1 ≤ D) (hN : 0 < N) (L : ℂ) (state : Nonlin.MC ℂ) (x : List ℂ) :
    Gen.SpectralOps.FourierInterpolator_call D N C L "ij" state x =
      Transform.tab C (fun ch => Interp.interpolate D N (2 * Real.pi / L) (state.getD ch #[]) x) :=
  FourierInterpolator_call_eq D N C hD hN L state x

/-! ### there-and-back in EVERY dimension: for a real state band-limited below both Nyquist wavenumbers, mapping to another
resolution and back is the identity (both oddball options); from an odd grid upwards for every real state; real-valuedness is
needed (`irfftn` discards imaginary parts — counterexample) -/

open Exponax.SmallGaps in
theorem C15_round_trip_nd :
    ∀ (D Nold Nnew : ℕ),
      0 < D →
        0 < Nold →
          0 < Nnew →
            ∀ (ob ob' : Bool) (u : Array ℂ),
              u.size = Nold ^ D →
                (∀ j < Nold ^ D, (u.getD j 0).im = 0) →
                  Interp.BandLimitedN D Nold (min Nold Nnew) u →
                    Interp.mapBetween D Nnew Nold ob' (Interp.mapBetween D Nold Nnew ob u) = u :=
  @Exponax.SmallGaps.mapBetween_round_trip

open Exponax.SmallGaps in
theorem C15_round_trip_from_odd_grid :
    ∀ (D Nold Nnew : ℕ),
      0 < D →
        Nold % 2 = 1 →
          Nold ≤ Nnew →
            ∀ (ob ob' : Bool) (u : Array ℂ),
              u.size = Nold ^ D →
                (∀ j < Nold ^ D, (u.getD j 0).im = 0) →
                  Interp.mapBetween D Nnew Nold ob' (Interp.mapBetween D Nold Nnew ob u) = u := by
  intro D Nold Nnew hD hodd hle ob ob' u hsz hre
  rcases Nat.lt_or_ge Nold Nnew with hlt | hge
  · exact mapBetween_round_trip D Nold Nnew hD (by omega) (by omega) ob ob' u hsz hre
      (bandLimitedN_of_odd_up D Nold Nnew hD hodd hlt u)
  · obtain rfl : Nold = Nnew := by omega
    rw [mapBetween_self, mapBetween_self]

open Exponax.SmallGaps in
theorem C15_round_trip_needs_real_state :
    ∀ (ob ob' : Bool),
      Interp.mapBetween 1 2 1 ob' (Interp.mapBetween 1 1 2 ob #[Complex.I]) ≠ #[Complex.I] := by
  intro ob ob' h
  -- the inverse transform discards imaginary parts, so what comes back is real
  have hre : ((Interp.mapBetween 1 2 1 ob' (Interp.mapBetween 1 1 2 ob #[Complex.I])).getD 0 0).im = 0 := by
    unfold Interp.mapBetween
    rw [if_neg (by norm_num), if_neg (by norm_num)]
    exact DFT.irfftnM_im 1 1 _ 0
  rw [h] at hre
  simp at hre

end Exponax
