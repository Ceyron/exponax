import ExponaxModel.Properties.C14
import ExponaxModel.Proofs.RepeatedPhysicalNonlin
import ExponaxModel.Proofs.RepeatedPhysicalWavenumber
import ExponaxModel.Proofs.RepeatedPhysicalCounter
import ExponaxModel.Proofs.RepeatedPhysicalEtdrkCoef
/-
C14 — `RepeatedStepper(stepper, n)(u) = ifft(step_fourier^n(fft u))` against the naive loop
`(ifft ∘ step_fourier ∘ fft)^n (u)` between the MODEL transforms, general D ≥ 1, N ≥ 1.  They agree exactly when
`rfftn ∘ irfftn` is the identity on the spectra that occur: `Realisable` (Hermitian-consistent self-conjugate columns) is
equivalent to being the spectrum of a real grid state and to being a fixed point of `rfftn ∘ irfftn`; a step that preserves
it makes the two evaluations equal for every n (linear steps: iff the symbol is Hermitian on the self-conjugate columns —
every symbol g(−k) = conj g(k) on odd grids, real even-order symbols on every grid; ETD-type steps with a real nonlinearity).
The hypothesis is needed: multiplying the Nyquist bin by i (one derivative, even grid) separates the two — proved as a
counterexample.  This is why the C14 search compares RepeatedStepper with the loop on odd grids / even-order symbols /
Nyquist-free states only.
-/
namespace Exponax

open Exponax.C2R in
theorem C14_spectrum_round_trip_of_realisable :
    ∀ (D N : ℕ),
      0 < D → 0 < N → ∀ (C : Array ℂ), Realisable D N C → Transform.rfftnM D N (Transform.irfftnM D N C) = C :=
  @Exponax.C2R.rfftn_irfftn_of_realisable

open Exponax.C2R in
theorem C14_realisable_iff_round_trip :
    ∀ (D N : ℕ),
      0 < D → 0 < N → ∀ (C : Array ℂ), Realisable D N C ↔ Transform.rfftnM D N (Transform.irfftnM D N C) = C :=
  @Exponax.C2R.realisable_iff_fixed

open Exponax.C2R in
theorem C14_real_state_spectrum_realisable :
    ∀ (D N : ℕ),
      0 < D → 0 < N → ∀ (u : Array ℂ), RealState D N u → Realisable D N (Transform.rfftnM D N u) :=
  @Exponax.C2R.rfftn_realisable

open Exponax.C2R in
theorem C14_realisable_iff_spectrum_of_real_state :
    ∀ (D N : ℕ),
      0 < D → 0 < N → ∀ (C : Array ℂ), Realisable D N C ↔ ∃ u, RealState D N u ∧ C = Transform.rfftnM D N u :=
  @Exponax.C2R.realisable_iff_spectrum

open Exponax.C2R in
theorem C14_repeated_stepper_is_the_physical_loop :
    ∀ (D N : ℕ),
      0 < D →
        0 < N →
          ∀ (F : Array ℂ → Array ℂ),
            (∀ (C : Array ℂ), Realisable D N C → Realisable D N (F C)) →
              ∀ (u : Array ℂ),
                RealState D N u →
                  ∀ (n : ℕ),
                    Loops.repeatN (fun v ↦ Transform.irfftnM D N (F (Transform.rfftnM D N v))) n u =
                      Transform.irfftnM D N (Loops.repeatedStepFourier F n (Transform.rfftnM D N u)) :=
  @Exponax.C2R.repeatedStepper_eq_loop

open Exponax.C2R in
theorem C14_linear_step_preserves_realisable_iff :
    ∀ (D N : ℕ),
      0 < D →
        0 < N → ∀ (e : ℕ → ℂ), (∀ (C : Array ℂ), Realisable D N C → Realisable D N (diagStep D N e C)) ↔ HermSymbol D N e :=
  @Exponax.C2R.diag_preserves_realisable_iff

open Exponax.C2R in
theorem C14_symbol_condition_1d :
    ∀ (N : ℕ), 0 < N → ∀ (e : ℕ → ℂ), HermSymbol 1 N e ↔ (e 0).im = 0 ∧ (N % 2 = 0 → (e (N / 2)).im = 0) :=
  @Exponax.C2R.hermSymbol_1d_iff

open Exponax.C2R in
theorem C14_repeated_linear_odd_grid :
    ∀ (D N : ℕ),
      0 < D →
        N % 2 = 1 →
          ∀ (g : List ℤ → ℂ),
            (∀ (k : List ℤ), g (List.map (fun x ↦ -x) k) = (starRingEnd ℂ) (g k)) →
              ∀ (u : Array ℂ),
                RealState D N u →
                  ∀ (n : ℕ),
                    Loops.repeatN
                        (fun v ↦
                          Transform.irfftnM D N (diagStep D N (fun h ↦ g (Layout.wnFlat D N h)) (Transform.rfftnM D N v)))
                        n u =
                      Transform.irfftnM D N
                        (Loops.repeatedStepFourier (diagStep D N fun h ↦ g (Layout.wnFlat D N h)) n
                          (Transform.rfftnM D N u)) :=
  fun D N hD hodd g hg u hu n =>
    repeated_loop_diag D N hD (by omega) _ (odd_grid_hermSymbol_of_wavenumber D N hD hodd g hg) u hu n

open Exponax.C2R in
theorem C14_even_order_symbols_qualify_on_every_grid :
    ∀ (D N : ℕ),
      0 < D →
        0 < N →
          ∀ (g : List ℤ → ℂ),
            (∀ (k : List ℤ), (g k).im = 0) →
              (∀ (k k' : List ℤ),
                  k.length = k'.length → (∀ d < k.length, (k'.getD d 0).natAbs = (k.getD d 0).natAbs) → g k' = g k) →
                HermSymbol D N fun h ↦ g (Layout.wnFlat D N h) :=
  @Exponax.C2R.hermSymbol_of_abs_real

open Exponax.C2R in
theorem C14_repeated_linear_is_the_loop :
    ∀ (D N : ℕ),
      0 < D →
        0 < N →
          ∀ (e : ℕ → ℂ),
            HermSymbol D N e →
              ∀ (u : Array ℂ),
                RealState D N u →
                  ∀ (n : ℕ),
                    Loops.repeatN (fun v ↦ Transform.irfftnM D N (diagStep D N e (Transform.rfftnM D N v))) n u =
                      Transform.irfftnM D N (Loops.repeatedStepFourier (diagStep D N e) n (Transform.rfftnM D N u)) :=
  @Exponax.C2R.repeated_loop_diag

open Exponax.C2R in
theorem C14_repeated_etd_step_is_the_loop :
    ∀ (D N : ℕ),
      0 < D →
        0 < N →
          ∀ (e c : ℕ → ℂ),
            HermSymbol D N e →
              HermSymbol D N c →
                ∀ (𝒩 : Array ℂ → Array ℂ),
                  (∀ (v : Array ℂ), RealState D N v → ∀ j < N ^ D, ((𝒩 v).getD j 0).im = 0) →
                    ∀ (u : Array ℂ),
                      RealState D N u →
                        ∀ (n : ℕ),
                          Loops.repeatN
                              (fun v ↦
                                Transform.irfftnM D N
                                  ((fun C ↦
                                      addSpec D N (diagStep D N e C)
                                        (diagStep D N c (Transform.rfftnM D N (𝒩 (Transform.irfftnM D N C)))))
                                    (Transform.rfftnM D N v)))
                              n u =
                            Transform.irfftnM D N
                              (Loops.repeatedStepFourier
                                (fun C ↦
                                  addSpec D N (diagStep D N e C)
                                    (diagStep D N c (Transform.rfftnM D N (𝒩 (Transform.irfftnM D N C)))))
                                n (Transform.rfftnM D N u)) :=
  fun D N hD hN e c he hc 𝒩 h𝒩 u hu n =>
    repeatedStepper_eq_loop D N hD hN _
      (fun C hC => etd_step_preserves_realisable D N hD hN e c he hc 𝒩 h𝒩 C hC) u hu n

open Exponax.C2R in
theorem C14_repeated_differs_from_loop_at_nyquist :
    Loops.repeatN (fun v ↦ Transform.irfftnM 1 2 (FnyqI (Transform.rfftnM 1 2 v))) 2
        #[1, -1] ≠
      Transform.irfftnM 1 2 (Loops.repeatedStepFourier FnyqI 2 (Transform.rfftnM 1 2 #[1, -1])) := by
  rw [Loops.repeatedStepFourier, Loops.repeatN_eq_iterate, Loops.repeatN_eq_iterate]
  exact repeated_ne_loop_nyquist

open Exponax.C2R in
theorem C14_nyquist_counterexample_hypothesis_fails :
    ¬∀ (C : Array ℂ), Realisable 1 2 C → Realisable 1 2 (FnyqI C) := by
  intro H
  -- the Nyquist factor `I` of the symbol is not real
  have := ((diag_preserves_realisable_1d_iff 2 (by norm_num) nyqI).mp H).2 rfl
  simp [nyqI] at this

/-! ### instantiated on the REGENERATED ETDRK step formulas (`Gen.Etdrk.E0step … E4step` with the regenerated `exp_term`,
half-step factor and all fourteen contour coefficients): if the linear symbol is Hermitian on the self-conjugate columns
(`HermSymbol`; on odd grids: λ(−k) = conj λ(k)), `dt` and the contour radius are real and the nonlinear term is
pseudo-spectral (`m ⊙ rfftn(g(irfftn û))`, `g` real on real states, `m` a Hermitian multiplier such as the dealiasing
mask), then every stored coefficient array is a Hermitian symbol again (the conjugate of the contour mean over the roots of
unity is the mean over the conjugate roots — the same set), every ETDRK-p step (p = 0..4) maps realisable spectra to
realisable spectra, and the repeated stepper IS the physical-space loop, for every n and every real state -/

open Exponax.C2R in
theorem C14_realisable_of_tabulated_spectrum :
    ∀ (D N : ℕ),
      0 < D → 0 < N → ∀ (f : ℕ → ℂ), Realisable D N (Transform.tab (Layout.numModes D N) f) ↔ HermSpec D N f :=
  @Exponax.C2R.realisable_tab_iff

open Exponax.C2R in
theorem C14_every_etdrk_step_preserves_hermitian_consistency :
    ∀ (D N : ℕ) (e eh a1 a2 a3 a4 a5 a6 : ℕ → ℂ),
      HermSymbol D N e →
        HermSymbol D N eh →
          HermSymbol D N a1 →
            HermSymbol D N a2 →
              HermSymbol D N a3 →
                HermSymbol D N a4 →
                  HermSymbol D N a5 →
                    HermSymbol D N a6 →
                      ∀ (𝒩 : (ℕ → ℂ) → ℕ → ℂ),
                        (∀ (f : ℕ → ℂ), HermSpec D N f → HermSpec D N (𝒩 f)) →
                          ∀ (u : ℕ → ℂ),
                            HermSpec D N u →
                              HermSpec D N (Gen.Etdrk.E0step e u) ∧
                                HermSpec D N (Gen.Etdrk.E1step e a1 𝒩 u) ∧
                                  HermSpec D N (Gen.Etdrk.E2step e a1 a2 𝒩 u) ∧
                                    HermSpec D N (Gen.Etdrk.E3step e eh a1 a2 a3 a4 a5 𝒩 u) ∧
                                      HermSpec D N (Gen.Etdrk.E4step e eh a1 a2 a3 a4 a5 a6 𝒩 u) :=
  fun D N _ _ _ _ _ _ _ _ he heh h1 h2 h3 h4 h5 h6 _ h𝒩 u hu =>
    (Etdrk.etdrkAll_pred (hermSpec_stepRel D N) h𝒩 he heh h1 h2 h3 h4 h5 h6).mono fun _ h => h u hu

open Exponax.C2R in
theorem C14_etdrk4_step_preserves_realisable :
    ∀ (D N : ℕ),
      0 < D →
        0 < N →
          ∀ (e eh a1 a2 a3 a4 a5 a6 : ℕ → ℂ),
            HermSymbol D N e →
              HermSymbol D N eh →
                HermSymbol D N a1 →
                  HermSymbol D N a2 →
                    HermSymbol D N a3 →
                      HermSymbol D N a4 →
                        HermSymbol D N a5 →
                          HermSymbol D N a6 →
                            ∀ (𝒩 : (ℕ → ℂ) → ℕ → ℂ),
                              (∀ (f : ℕ → ℂ),
                                  Realisable D N (Transform.tab (Layout.numModes D N) f) →
                                    Realisable D N (Transform.tab (Layout.numModes D N) (𝒩 f))) →
                                ∀ (u : ℕ → ℂ),
                                  Realisable D N (Transform.tab (Layout.numModes D N) u) →
                                    Realisable D N
                                      (Transform.tab (Layout.numModes D N) (Gen.Etdrk.E4step e eh a1 a2 a3 a4 a5 a6 𝒩 u)) := by
  intro D N hD hN e eh a1 a2 a3 a4 a5 a6 he heh h1 h2 h3 h4 h5 h6 𝒩 h𝒩 u hu
  rw [nl_hyp_iff D N hD hN] at h𝒩
  rw [realisable_tab_iff D N hD hN] at hu ⊢
  exact Etdrk.E4step_pred (hermSpec_stepRel D N) h𝒩 he heh h1 h2 h3 h4 h5 h6 hu

open Exponax.C2R in
theorem C14_pseudo_spectral_term_preserves_realisable :
    ∀ (D N : ℕ),
      0 < D →
        0 < N →
          ∀ (m : ℕ → ℂ),
            HermSymbol D N m →
              ∀ (g : Array ℂ → Array ℂ),
                (∀ (v : Array ℂ), RealState D N v → ∀ j < N ^ D, ((g v).getD j 0).im = 0) →
                  ∀ (f : ℕ → ℂ),
                    Realisable D N (Transform.tab (Layout.numModes D N) f) →
                      Realisable D N (Transform.tab (Layout.numModes D N) (pseudoNl D N m g f)) :=
  @Exponax.C2R.pseudoNl_preserves_realisable

open Exponax.C2R in
theorem C14_exponential_of_hermitian_symbol :
    ∀ (D N : ℕ) (dt : ℝ) (lam : ℕ → ℂ),
      HermSymbol D N lam → HermSymbol D N fun h ↦ Gen.Etdrk.exp_term (↑dt) (lam h) :=
  @Exponax.C2R.hermSymbol_exp_term

open Exponax.C2R in
theorem C14_contour_coefficients_of_hermitian_symbol :
    ∀ (D N : ℕ) (dt r : ℝ) (M : ℕ) (lam : ℕ → ℂ),
      HermSymbol D N lam →
        (HermSymbol D N fun h ↦ Gen.Etdrk.E1_coef_1 (↑dt) (lam h) M ↑r) ∧
          (HermSymbol D N fun h ↦ Gen.Etdrk.E2_coef_1 (↑dt) (lam h) M ↑r) ∧
            (HermSymbol D N fun h ↦ Gen.Etdrk.E2_coef_2 (↑dt) (lam h) M ↑r) ∧
              (HermSymbol D N fun h ↦ Gen.Etdrk.E3_coef_1 (↑dt) (lam h) M ↑r) ∧
                (HermSymbol D N fun h ↦ Gen.Etdrk.E3_coef_2 (↑dt) (lam h) M ↑r) ∧
                  (HermSymbol D N fun h ↦ Gen.Etdrk.E3_coef_3 (↑dt) (lam h) M ↑r) ∧
                    (HermSymbol D N fun h ↦ Gen.Etdrk.E3_coef_4 (↑dt) (lam h) M ↑r) ∧
                      (HermSymbol D N fun h ↦ Gen.Etdrk.E3_coef_5 (↑dt) (lam h) M ↑r) ∧
                        (HermSymbol D N fun h ↦ Gen.Etdrk.E4_coef_1 (↑dt) (lam h) M ↑r) ∧
                          (HermSymbol D N fun h ↦ Gen.Etdrk.E4_coef_2 (↑dt) (lam h) M ↑r) ∧
                            (HermSymbol D N fun h ↦ Gen.Etdrk.E4_coef_3 (↑dt) (lam h) M ↑r) ∧
                              (HermSymbol D N fun h ↦ Gen.Etdrk.E4_coef_4 (↑dt) (lam h) M ↑r) ∧
                                (HermSymbol D N fun h ↦ Gen.Etdrk.E4_coef_5 (↑dt) (lam h) M ↑r) ∧
                                  HermSymbol D N fun h ↦ Gen.Etdrk.E4_coef_6 (↑dt) (lam h) M ↑r :=
  fun D N dt r M lam hl =>
    have c := hermSymbol_storedCoef D N dt r M lam hl
    ⟨c 0, c 1, c 2, c 3, c 4, c 5, c 6, c 7, c 8, c 9, c 10, c 11, c 12, c 13⟩

open Exponax.C2R in
theorem C14_regenerated_etdrk_steps_preserve_realisable :
    ∀ (D N : ℕ),
      0 < D →
        0 < N →
          ∀ (dt r : ℝ) (M : ℕ) (lam : ℕ → ℂ),
            HermSymbol D N lam →
              ∀ (𝒩 : (ℕ → ℂ) → ℕ → ℂ),
                (∀ (f : ℕ → ℂ),
                    Realisable D N (Transform.tab (Layout.numModes D N) f) →
                      Realisable D N (Transform.tab (Layout.numModes D N) (𝒩 f))) →
                  ∀ (u : ℕ → ℂ),
                    Realisable D N (Transform.tab (Layout.numModes D N) u) →
                      Realisable D N (Transform.tab (Layout.numModes D N) (etdrk0 dt lam u)) ∧
                        Realisable D N (Transform.tab (Layout.numModes D N) (etdrk1 dt r M lam 𝒩 u)) ∧
                          Realisable D N (Transform.tab (Layout.numModes D N) (etdrk2 dt r M lam 𝒩 u)) ∧
                            Realisable D N (Transform.tab (Layout.numModes D N) (etdrk3 dt r M lam 𝒩 u)) ∧
                              Realisable D N (Transform.tab (Layout.numModes D N) (etdrk4 dt r M lam 𝒩 u)) := by
  intro D N hD hN dt r M lam hl 𝒩 h𝒩 u hu
  simp only [realisable_tab_iff D N hD hN] at h𝒩 hu ⊢
  exact etdrk_steps_hermSpec_of_symbol D N dt r M lam hl 𝒩 h𝒩 u hu

open Exponax.C2R in
theorem C14_repeated_etdrk2_is_the_loop :
    ∀ (D N : ℕ),
      0 < D →
        0 < N →
          ∀ (dt r : ℝ) (M : ℕ) (lam : ℕ → ℂ),
            HermSymbol D N lam →
              ∀ (m : ℕ → ℂ),
                HermSymbol D N m →
                  ∀ (g : Array ℂ → Array ℂ),
                    (∀ (v : Array ℂ), RealState D N v → ∀ j < N ^ D, ((g v).getD j 0).im = 0) →
                      ∀ (u : Array ℂ),
                        RealState D N u →
                          ∀ (n : ℕ),
                            Loops.repeatN
                                (fun v ↦
                                  Transform.irfftnM D N
                                    (liftStep D N (etdrk2 dt r M lam (pseudoNl D N m g)) (Transform.rfftnM D N v)))
                                n u =
                              Transform.irfftnM D N
                                (Loops.repeatedStepFourier (liftStep D N (etdrk2 dt r M lam (pseudoNl D N m g))) n
                                  (Transform.rfftnM D N u)) :=
  @Exponax.C2R.repeatedStepper_eq_loop_etdrk2

open Exponax.C2R in
theorem C14_repeated_etdrk4_is_the_loop :
    ∀ (D N : ℕ),
      0 < D →
        0 < N →
          ∀ (dt r : ℝ) (M : ℕ) (lam : ℕ → ℂ),
            HermSymbol D N lam →
              ∀ (m : ℕ → ℂ),
                HermSymbol D N m →
                  ∀ (g : Array ℂ → Array ℂ),
                    (∀ (v : Array ℂ), RealState D N v → ∀ j < N ^ D, ((g v).getD j 0).im = 0) →
                      ∀ (u : Array ℂ),
                        RealState D N u →
                          ∀ (n : ℕ),
                            Loops.repeatN
                                (fun v ↦
                                  Transform.irfftnM D N
                                    (liftStep D N (etdrk4 dt r M lam (pseudoNl D N m g)) (Transform.rfftnM D N v)))
                                n u =
                              Transform.irfftnM D N
                                (Loops.repeatedStepFourier (liftStep D N (etdrk4 dt r M lam (pseudoNl D N m g))) n
                                  (Transform.rfftnM D N u)) :=
  @Exponax.C2R.repeatedStepper_eq_loop_etdrk4

open Exponax.C2R in
theorem C14_repeated_etdrk4_is_the_loop_odd_grid :
    ∀ (D N : ℕ),
      0 < D →
        N % 2 = 1 →
          ∀ (dt r : ℝ) (M : ℕ) (ℓ : List ℤ → ℂ),
            (∀ (k : List ℤ), ℓ (List.map (fun x ↦ -x) k) = (starRingEnd ℂ) (ℓ k)) →
              ∀ (m : ℕ → ℂ),
                HermSymbol D N m →
                  ∀ (g : Array ℂ → Array ℂ),
                    (∀ (v : Array ℂ), RealState D N v → ∀ j < N ^ D, ((g v).getD j 0).im = 0) →
                      ∀ (u : Array ℂ),
                        RealState D N u →
                          ∀ (n : ℕ),
                            Loops.repeatN
                                (fun v ↦
                                  Transform.irfftnM D N
                                    (liftStep D N (etdrk4 dt r M (fun h ↦ ℓ (Layout.wnFlat D N h)) (pseudoNl D N m g))
                                      (Transform.rfftnM D N v)))
                                n u =
                              Transform.irfftnM D N
                                (Loops.repeatedStepFourier
                                  (liftStep D N (etdrk4 dt r M (fun h ↦ ℓ (Layout.wnFlat D N h)) (pseudoNl D N m g))) n
                                  (Transform.rfftnM D N u)) :=
  -- the other orders follow in the same way from `repeatedStepper_eq_loop_etdrk0 … 3`
  fun D N hD hodd dt r M ℓ hℓ m hm g hg u hu n =>
    repeatedStepper_eq_loop_etdrk4 D N hD (by omega) dt r M _
      (odd_grid_hermSymbol_of_wavenumber D N hD hodd ℓ hℓ) m hm g hg u hu n

open Exponax.C2R in
theorem C14_odd_grid_exponential_symbol :
    ∀ (D N : ℕ),
      0 < D →
        N % 2 = 1 →
          ∀ (dt : ℝ) (ℓ : List ℤ → ℂ),
            (∀ (k : List ℤ), ℓ (List.map (fun x ↦ -x) k) = (starRingEnd ℂ) (ℓ k)) →
              HermSymbol D N fun h ↦ Gen.Etdrk.exp_term (↑dt) (ℓ (Layout.wnFlat D N h)) :=
  fun D N hD hodd dt ℓ hℓ => hermSymbol_exp_term D N dt _ (odd_grid_hermSymbol_of_wavenumber D N hD hodd ℓ hℓ)

end Exponax
