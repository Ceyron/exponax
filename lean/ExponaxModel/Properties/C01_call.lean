import ExponaxModel.Properties.C01
import ExponaxModel.Proofs.BaseStepperExact
import ExponaxModel.Proofs.StepperWiringArgs
/-
C01 — "ONE CALL returns the exact analytic solution": the capstones of `Properties/C01.lean`
(`C01_exact_state`, `C01_exact_every_band_limited_state`) are about `ExactLinear.linStep`, the ETDRK0 update between the model
transforms.  Here they are tied to the REGENERATED `BaseStepper.__call__` (`Gen.Base.BaseStepper_call`: shape guard → `step`
= regenerated `fft` → `step_fourier` → regenerated `ifft`; `Generated/BaseStepperGen.lean`, regenerated from
`exponax/_base_stepper.py` on every run) with the regenerated constructor dispatch `Gen.Base.BaseStepper_step_fourier`
(order 0 builds `ETDRK0(dt, linear_operator)`).

WHAT `sf` IS.  `BaseStepper_call a sf shape u` takes the stepper's `step_fourier` as a map on stored arrays
`MC ℂ = Array (Array ℂ)`; the regenerated `BaseStepper_step_fourier a (entrywiseOf lam) Nl : Spec → Option Spec` acts on
spectra as functions `Spec = ℕ → ℕ → ℂ` of (channel, stored mode).  Throughout

  sf = BaseStepperExact.liftStepFourier 1 (numModes D N) (BaseStepper_step_fourier a (entrywiseOf (fun _ h => lam h)) Nl)
     = fun uh => (BaseStepper_step_fourier a … (fun ch h => at2 uh ch h)).map (tab2 1 (numModes D N))

i.e. read the stored array entry by entry, run the regenerated step, tabulate the result to one channel of
`numModes D N` stored modes (`specOfMC` / `mcOfSpec`; their round trip is the identity on stored entries,
`BaseStepperExact.specOfMC_mcOfSpec`).  `lam : ℕ → ℂ` is the array `linear_operator` over stored modes (the same for the one
channel), `Nl` the stepper's nonlinear function (irrelevant at order 0).
-/
namespace Exponax
open Exponax.Layout Exponax.Transform Exponax.Nonlin Exponax.Gen.Etdrk Exponax.Gen.StepperWiring Exponax.Gen.Base
open Exponax.Interface Exponax.BaseStepperGenEq Exponax.BaseStepperExact Exponax.StepperWiringEq
open Exponax.EquivND (liftTermND)

/-- **the regenerated `__call__` of a one-channel, order-0 stepper IS `ExactLinear.linStep`**, for ANY symbol array
    `lam` over stored modes, any nonlinear function, any contour parameters, any complex `dt`, `L`, every `D ≥ 1`, every
    `N`: on a state of the configured shape `(1,) + (N,)*D` the call returns `irfftn(exp(dt·lam) ⊙ rfftn(u))` -/
theorem C01_call_is_exact_linear_step (a : BaseStepperArgs ℂ) (h0 : a.order = 0) (hC : a.num_channels = 1)
    (hD : 1 ≤ a.num_spatial_dims) (lam : ℕ → ℂ) (Nl : Spec → Spec) (u : Array ℂ) :
    BaseStepper_call a
        (liftStepFourier 1 (numModes a.num_spatial_dims a.num_points)
          (BaseStepper_step_fourier a (entrywiseOf (fun _ h => lam h)) Nl))
        (1 :: List.replicate a.num_spatial_dims a.num_points) #[u]
      = some #[ExactLinear.linStep a.num_spatial_dims a.num_points lam a.dt u] := by
  -- the shape guard accepts `(1,) + (N,)*D`; `step` transforms forward; `step_fourier` (ETDRK0, built by `__init__` from
  -- `dt` and `lam`) multiplies by `exp(dt·lam)`; `step` transforms back
  rw [BaseStepper_call_eq, if_pos (by rw [hC]), BaseStepper_step_eq a hD, hC, tabC_one]
  unfold liftStepFourier
  rw [BaseStepper_step_fourier_some a (by omega), h0]
  simp only [Option.map_some]
  rw [tabC_one, mcOfSpec_one]
  rfl

/-- … and it refuses every other shape -/
theorem C01_call_refuses_other_shapes (a : BaseStepperArgs ℂ) (hC : a.num_channels = 1)
    (sf : MC ℂ → Option (MC ℂ)) (shape : List ℕ)
    (hs : shape ≠ 1 :: List.replicate a.num_spatial_dims a.num_points) (u : MC ℂ) :
    BaseStepper_call a sf shape u = none := by
  rw [BaseStepper_call_eq, if_neg (by rw [hC]; exact hs)]

/-- **ONE CALL returns the analytic solution.**  A one-channel order-0 stepper on a real domain `L = ℓ` with real `dt = t`
    whose `_build_linear_operator` (`linop`, applied to the derivative operator `kappa (baseCfg D N L)` that `__init__`
    hands to it) is the symbol of the documented operator `Σ coef·∂^α` (`terms`, real coefficients): the regenerated
    `__call__` maps the grid sample of `Σ_m a_m cos(2π κ_m·j/N + φ_m)` (all `κ_m` strictly below Nyquist) to the grid
    sample of `Σ_m a_m e^{t Re λ_m} cos(2π κ_m·j/N + φ_m + t Im λ_m)`, `λ_m = P(i·(2π/ℓ)·κ_m)` the eigenvalue of
    `C01_symbol_is_eigenvalue` — every `D ≥ 1`, `N ≥ 1`, every real `t` (no CFL restriction; negative too) -/
theorem C01_call_returns_the_analytic_solution (a : BaseStepperArgs ℂ) (h0 : a.order = 0) (hC : a.num_channels = 1)
    (hD : 1 ≤ a.num_spatial_dims) (hN : 1 ≤ a.num_points) (ℓ t : ℝ) (hL : a.domain_extent = (ℓ : ℂ))
    (hdt : a.dt = (t : ℂ)) (linop : List ℂ → ℂ) (terms : List (ℂ × List ℕ))
    (hsym : ∀ h, linop (kappa (baseCfg a.num_spatial_dims a.num_points a.domain_extent) h)
        = polySymbol (baseCfg a.num_spatial_dims a.num_points a.domain_extent) terms h)
    (hre : ∀ q ∈ terms, q.1.im = 0) (Nl : Spec → Spec) (ms : ExactLinear.Modes)
    (hms : ∀ m ∈ ms, ExactLinear.BelowNyquist a.num_spatial_dims a.num_points m.1) :
    BaseStepper_call a
        (liftStepFourier 1 (numModes a.num_spatial_dims a.num_points)
          (BaseStepper_step_fourier a
            (entrywiseOf (fun _ h => linop (kappa (baseCfg a.num_spatial_dims a.num_points a.domain_extent) h))) Nl))
        (1 :: List.replicate a.num_spatial_dims a.num_points)
        #[ExactLinear.stateOf a.num_spatial_dims a.num_points ms]
      = some #[ExactLinear.stateOf a.num_spatial_dims a.num_points (ms.map fun m =>
          (m.1,
           m.2.1 * Real.exp (t * (polyAt (imagVec a.num_spatial_dims
              fun d => 2 * Real.pi / ℓ * (m.1.getD d 0 : ℤ)) terms).re),
           m.2.2 + t * (polyAt (imagVec a.num_spatial_dims
              fun d => 2 * Real.pi / ℓ * (m.1.getD d 0 : ℤ)) terms).im))] := by
  rw [C01_call_is_exact_linear_step a h0 hC hD
    (fun h => linop (kappa (baseCfg a.num_spatial_dims a.num_points a.domain_extent) h)) Nl]
  have hlam : (fun h => linop (kappa (baseCfg a.num_spatial_dims a.num_points a.domain_extent) h))
      = polySymbol (baseCfg a.num_spatial_dims a.num_points a.domain_extent) terms := funext hsym
  have hs : (baseCfg a.num_spatial_dims a.num_points a.domain_extent).s = ((2 * Real.pi / ℓ : ℝ) : ℂ) := by
    rw [hL, baseCfg_eq_cfg]
    exact SpectralOpsEq.cfg_s_real _ _ ℓ
  rw [hlam, hdt]
  exact congrArg (fun x => some #[x])
    (C01_exact_state (baseCfg a.num_spatial_dims a.num_points a.domain_extent) hD hN (2 * Real.pi / ℓ) hs terms hre
      t ms hms)

/-- the same for EVERY real grid state whose transform vanishes at and above Nyquist (it is such a superposition), and
    any symbol array with the Hermitian symmetry of a real operator: the call returns the mode-by-mode evolved state -/
theorem C01_call_every_band_limited_state (a : BaseStepperArgs ℂ) (h0 : a.order = 0) (hC : a.num_channels = 1)
    (hD : 1 ≤ a.num_spatial_dims) (hN : 1 ≤ a.num_points) (t : ℝ) (hdt : a.dt = (t : ℂ)) (lam : ℕ → ℂ)
    (hΛ : ExactLinear.HermSym a.num_spatial_dims a.num_points lam) (Nl : Spec → Spec) (u : Array ℂ)
    (hsz : u.size = a.num_points ^ a.num_spatial_dims)
    (hu : ∀ j < a.num_points ^ a.num_spatial_dims, (u.getD j 0).im = 0)
    (hb : ExactLinear.BandLimited a.num_spatial_dims a.num_points u) :
    ∃ ms, (∀ m ∈ ms, ExactLinear.BelowNyquist a.num_spatial_dims a.num_points m.1) ∧
      u = ExactLinear.stateOf a.num_spatial_dims a.num_points ms ∧
      BaseStepper_call a
          (liftStepFourier 1 (numModes a.num_spatial_dims a.num_points)
            (BaseStepper_step_fourier a (entrywiseOf (fun _ h => lam h)) Nl))
          (1 :: List.replicate a.num_spatial_dims a.num_points) #[u]
        = some #[ExactLinear.stateOf a.num_spatial_dims a.num_points
            (ExactLinear.evolve a.num_spatial_dims a.num_points lam t ms)] := by
  obtain ⟨ms, h1, h2, h3⟩ :=
    C01_exact_every_band_limited_state a.num_spatial_dims a.num_points hD hN lam hΛ u hsz hu hb
  refine ⟨ms, h1, h2, ?_⟩
  rw [C01_call_is_exact_linear_step a h0 hC hD lam Nl, hdt, h3 t]

/-! ### `Advection`: constructor arguments → regenerated `super().__init__` arguments, stored velocity, regenerated
`_build_linear_operator` and `_build_nonlinear_fun` → regenerated `__call__` -/

/-- the real velocity list as the stored complex attribute -/
noncomputable def realVec (w : List ℝ) : List ℂ := w.map (fun r : ℝ => (r : ℂ))

/-- the advection operator `−w·∇` has the purely imaginary eigenvalue `−i (2π/ℓ) w·κ` on the mode `κ`: the amplitude is
    kept, the phase moves by `−t (2π/ℓ) w·κ` -/
theorem advection_mode_evolved (D : ℕ) (ℓ t : ℝ) (w : List ℝ) (m : List ℤ × ℝ × ℝ) :
    (m.1,
      m.2.1 * Real.exp (t * (polyAt (imagVec D fun d => 2 * Real.pi / ℓ * (m.1.getD d 0 : ℤ))
        (pscale (-1) (gradInner D (fun d => ((w.getD d 0 : ℝ) : ℂ)) 1))).re),
      m.2.2 + t * (polyAt (imagVec D fun d => 2 * Real.pi / ℓ * (m.1.getD d 0 : ℤ))
        (pscale (-1) (gradInner D (fun d => ((w.getD d 0 : ℝ) : ℂ)) 1))).im)
      = (m.1, m.2.1, m.2.2 - t * (2 * Real.pi / ℓ * ∑ d ∈ Finset.range D, w.getD d 0 * ((m.1.getD d 0 : ℤ) : ℝ))) := by
  have hS : ∑ d ∈ Finset.range D, w.getD d 0 * (2 * Real.pi / ℓ * ((m.1.getD d 0 : ℤ) : ℝ)) ^ 1
      = 2 * Real.pi / ℓ * ∑ d ∈ Finset.range D, w.getD d 0 * ((m.1.getD d 0 : ℤ) : ℝ) := by
    rw [Finset.mul_sum]
    exact Finset.sum_congr rfl fun d _ => by ring
  rw [polyAt_pscale, polyAt_imag_gradInner, hS]
  generalize 2 * Real.pi / ℓ * ∑ d ∈ Finset.range D, w.getD d 0 * ((m.1.getD d 0 : ℤ) : ℝ) = S
  rw [pow_one, neg_one_mul, Complex.neg_re, Complex.neg_im, Complex.I_mul_re, Complex.I_mul_im, Complex.ofReal_im,
    Complex.ofReal_re, neg_zero, neg_zero, mul_zero, Real.exp_zero, mul_one, mul_neg, ← sub_eq_add_neg]

/-- **`Advection(D, ℓ, N, t, velocity=…)(u)` translates `u` by `t·w`**: whenever the STORED velocity is the real vector
    `w` of length `D` (a scalar argument is stored as `v·ones(D)`, see the corollary), the regenerated `__call__` — with
    the `step_fourier` that the regenerated `__init__` builds from `Advection_base_args` (one channel, order 0), the
    regenerated `Advection_linear_operator` on the stepper's own derivative operator and the regenerated nonlinear-function
    wiring — maps `Σ_m a_m cos(2π κ_m·j/N + φ_m)` to `Σ_m a_m cos(2π κ_m·j/N + φ_m − t·(2π/ℓ)·w·κ_m)`, the solution of
    `u_t + w·∇u = 0` after time `t`: amplitudes untouched, every `D ≥ 1`, `N ≥ 1`, every real `t`, `ℓ` -/
theorem C01_advection_call_returns_the_analytic_solution (a : AdvectionArgs ℂ) (hD : 1 ≤ a.num_spatial_dims)
    (hN : 1 ≤ a.num_points) (ℓ t : ℝ) (hL : a.domain_extent = (ℓ : ℂ)) (hdt : a.dt = (t : ℂ)) (w : List ℝ)
    (hw : w.length = a.num_spatial_dims) (hv : (Advection_attrs a).velocity = some (realVec w))
    (ms : ExactLinear.Modes) (hms : ∀ m ∈ ms, ExactLinear.BelowNyquist a.num_spatial_dims a.num_points m.1) :
    BaseStepper_call (Advection_base_args a)
        (liftStepFourier 1 (numModes a.num_spatial_dims a.num_points)
          (BaseStepper_step_fourier (Advection_base_args a)
            (entrywiseOf (fun _ h => Gen.Steppers.Advection_linear_operator
              (kappa (baseCfg a.num_spatial_dims a.num_points a.domain_extent) h)
              ((Advection_attrs a).velocity.getD [])))
            (liftTermND (baseCfg a.num_spatial_dims a.num_points a.domain_extent) (Advection_base_args a).num_channels
              (Advection_stepper_nonlinear_fun (baseCfg a.num_spatial_dims a.num_points a.domain_extent) a))))
        (1 :: List.replicate a.num_spatial_dims a.num_points)
        #[ExactLinear.stateOf a.num_spatial_dims a.num_points ms]
      = some #[ExactLinear.stateOf a.num_spatial_dims a.num_points (ms.map fun m =>
          (m.1, m.2.1,
           m.2.2 - t * (2 * Real.pi / ℓ *
             ∑ d ∈ Finset.range a.num_spatial_dims, w.getD d 0 * ((m.1.getD d 0 : ℤ) : ℝ))))] := by
  have hb := Advection_base_args_eq a
  have key := C01_call_returns_the_analytic_solution (Advection_base_args a) (by rw [hb]) (by rw [hb])
    (by rw [hb]; exact hD) (by rw [hb]; exact hN) ℓ t (by rw [hb]; exact hL) (by rw [hb]; exact hdt)
    (fun κ => Gen.Steppers.Advection_linear_operator κ (realVec w))
    (pscale (-1) (gradInner a.num_spatial_dims (fun d => ((w.getD d 0 : ℝ) : ℂ)) 1))
    (by
      intro h
      rw [hb, show realVec w = ofRealL w from rfl]
      have := Advection_linear_operator_polySymbol (baseCfg a.num_spatial_dims a.num_points a.domain_extent) h
        (ofRealL w) ((ofRealL_length w).trans hw)
      rwa [vfun_ofRealL] at this)
    (by
      intro q hq
      simp only [pscale, gradInner, List.map_map, List.mem_map, List.mem_range] at hq
      obtain ⟨d, _, rfl⟩ := hq
      simp)
    (liftTermND (baseCfg a.num_spatial_dims a.num_points a.domain_extent) (Advection_base_args a).num_channels
      (Advection_stepper_nonlinear_fun (baseCfg a.num_spatial_dims a.num_points a.domain_extent) a))
    ms (by rw [hb]; exact hms)
  rw [hv]
  simp only [Option.getD_some]
  rw [hb] at key ⊢
  simp only at key ⊢
  rw [key]
  refine congrArg (fun ms' : ExactLinear.Modes => some #[ExactLinear.stateOf a.num_spatial_dims a.num_points ms'])
    (List.map_congr_left fun m hm => ?_)
  exact advection_mode_evolved a.num_spatial_dims ℓ t w m

/-- a SCALAR velocity `v` (the default form; stored as `v·ones(D)`): translation of every mode by `t·v` along every axis -/
theorem C01_advection_scalar_call_returns_the_analytic_solution (a : AdvectionArgs ℂ) (hD : 1 ≤ a.num_spatial_dims)
    (hN : 1 ≤ a.num_points) (ℓ t : ℝ) (hL : a.domain_extent = (ℓ : ℂ)) (hdt : a.dt = (t : ℂ)) (v : ℝ)
    (hvel : a.velocity = .scalar (v : ℂ))
    (ms : ExactLinear.Modes) (hms : ∀ m ∈ ms, ExactLinear.BelowNyquist a.num_spatial_dims a.num_points m.1) :
    BaseStepper_call (Advection_base_args a)
        (liftStepFourier 1 (numModes a.num_spatial_dims a.num_points)
          (BaseStepper_step_fourier (Advection_base_args a)
            (entrywiseOf (fun _ h => Gen.Steppers.Advection_linear_operator
              (kappa (baseCfg a.num_spatial_dims a.num_points a.domain_extent) h)
              ((Advection_attrs a).velocity.getD [])))
            (liftTermND (baseCfg a.num_spatial_dims a.num_points a.domain_extent) (Advection_base_args a).num_channels
              (Advection_stepper_nonlinear_fun (baseCfg a.num_spatial_dims a.num_points a.domain_extent) a))))
        (1 :: List.replicate a.num_spatial_dims a.num_points)
        #[ExactLinear.stateOf a.num_spatial_dims a.num_points ms]
      = some #[ExactLinear.stateOf a.num_spatial_dims a.num_points (ms.map fun m =>
          (m.1, m.2.1,
           m.2.2 - t * (2 * Real.pi / ℓ *
             (v * ∑ d ∈ Finset.range a.num_spatial_dims, ((m.1.getD d 0 : ℤ) : ℝ)))))] := by
  have hv : (Advection_attrs a).velocity = some (realVec (List.replicate a.num_spatial_dims v)) := by
    rw [Advection_attrs_eq, hvel]
    simp [realVec]
  rw [C01_advection_call_returns_the_analytic_solution a hD hN ℓ t hL hdt (List.replicate a.num_spatial_dims v)
    (by simp) hv ms hms]
  refine congrArg (fun ms' : ExactLinear.Modes => some #[ExactLinear.stateOf a.num_spatial_dims a.num_points ms'])
    (List.map_congr_left fun m _ => ?_)
  have hd : ∀ d ∈ Finset.range a.num_spatial_dims,
      (List.replicate a.num_spatial_dims v).getD d 0 * ((m.1.getD d 0 : ℤ) : ℝ) = v * ((m.1.getD d 0 : ℤ) : ℝ) :=
    fun d hd => by
      rw [List.getD_eq_getElem?_getD, List.getElem?_replicate_of_lt (Finset.mem_range.mp hd), Option.getD_some]
  rw [Finset.sum_congr rfl hd, ← Finset.mul_sum]

/-! non-vacuity: a 2-D `Advection` with an anisotropic real velocity on a real domain, a state with two modes below
Nyquist; a general order-0 one-channel configuration whose operator is a documented polynomial -/
example : ∃ (a : AdvectionArgs ℂ) (ℓ t : ℝ) (w : List ℝ) (ms : ExactLinear.Modes),
    1 ≤ a.num_spatial_dims ∧ 1 ≤ a.num_points ∧ a.domain_extent = (ℓ : ℂ) ∧ a.dt = (t : ℂ) ∧
      w.length = a.num_spatial_dims ∧ (Advection_attrs a).velocity = some (realVec w) ∧ ms ≠ [] ∧
      ∀ m ∈ ms, ExactLinear.BelowNyquist a.num_spatial_dims a.num_points m.1 := by
  refine ⟨(⟨2, ((3 : ℝ) : ℂ), 8, ((5 : ℝ) : ℂ), .vector [((1 : ℝ) : ℂ), ((-2 : ℝ) : ℂ)]⟩ : AdvectionArgs ℂ), 3, 5, [1, -2], [([1, -3], 2, 0), ([0, 2], 1, 1)],
    by decide, by decide, rfl, rfl, rfl, ?_, by simp, ?_⟩
  · rw [Advection_attrs_eq]
    rfl
  · intro m hm
    simp only [List.mem_cons, List.not_mem_nil, or_false] at hm
    rcases hm with rfl | rfl
    · refine ⟨rfl, ?_⟩
      intro d hd
      interval_cases d <;> simp
    · refine ⟨rfl, ?_⟩
      intro d hd
      interval_cases d <;> simp

example : ∃ (a : BaseStepperArgs ℂ) (ℓ t : ℝ) (linop : List ℂ → ℂ) (terms : List (ℂ × List ℕ)),
    a.order = 0 ∧ a.num_channels = 1 ∧ 1 ≤ a.num_spatial_dims ∧ 1 ≤ a.num_points ∧ a.domain_extent = (ℓ : ℂ) ∧
      a.dt = (t : ℂ) ∧ terms ≠ [] ∧ (∀ q ∈ terms, q.1.im = 0) ∧
      ∀ h, linop (kappa (baseCfg a.num_spatial_dims a.num_points a.domain_extent) h)
        = polySymbol (baseCfg a.num_spatial_dims a.num_points a.domain_extent) terms h :=
  ⟨⟨2, ((3 : ℝ) : ℂ), 8, ((5 : ℝ) : ℂ), 1, 0, 16, 1⟩, 3, 5, fun κ => polyAt κ [(((7 : ℝ) : ℂ), [2, 0])],
    [(((7 : ℝ) : ℂ), [2, 0])], rfl, rfl, by decide, by decide, rfl, rfl, by simp, by simp,
    fun h => (polySymbol_eq_polyAt _ _ h).symm⟩

end Exponax
