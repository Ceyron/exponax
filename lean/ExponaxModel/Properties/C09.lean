import ExponaxModel.Proofs.SymbolAlgebra
import ExponaxModel.Proofs.StoredModes
import ExponaxModel.Proofs.ConserveMean
import ExponaxModel.Proofs.InvariantsConv
import ExponaxModel.Proofs.InvariantsRot3dLeray
import ExponaxModel.Proofs.LaminarEquilibriaExamples
import ExponaxModel.Proofs.ConserveMeanRot3dSteps
import ExponaxModel.Proofs.ConserveMeanRot3dCounter
import ExponaxModel.Proofs.AliasMore
/-
C09 — conserved quantities and equilibria survive the discretisation exactly.
Mean: zero mean-mode output of the conservative / Cahn–Hilliard / gradient-norm(zero-fix) terms in every dimension and
of the 2-D vorticity term for EVERY input spectrum; hence n ETDRK steps of any order keep the mean mode.  Equilibria:
fixed points of every regenerated stage formula.  Energy: the dealiased 1-D convection term does no work (spectral
triad identity and grid form); the dealiased 2-D vorticity term conserves enstrophy and energy; the 3-D rotational term
does no work on divergence-free velocities.  The 3-D mean read-off is stated as it is (it vanishes for divergence-free
input only).
-/
set_option linter.unusedVariables false
namespace Exponax
open Exponax.Nonlin Exponax.Gen.Etdrk Exponax.Spec

/-- conservation-form linear operators (every term carries a derivative) have symbol 0 at the mean mode … -/
theorem C09_symbol_zero_mean_mode (c : Cfg ℂ) (terms : List (ℂ × List ℕ)) (h : ℕ)
    (hk : ∀ d < c.D, wnAt c d h = 0) (hpos : ∀ t ∈ terms, ∃ d < c.D, 0 < t.2.getD d 0) :
    polySymbol c terms h = 0 := by
  rw [polySymbol_zero_mode c terms h hk]
  have : terms.filter (fun t => isConstTerm c.D t.2) = [] := by
    rw [List.filter_eq_nil_iff]
    intro t ht hc
    rw [isConstTerm_iff] at hc
    obtain ⟨d, hd, hp⟩ := hpos t ht
    rw [hc d hd] at hp
    exact lt_irrefl 0 hp
  rw [this]; rfl

/-- … so the propagator leaves the mean mode alone -/
theorem C09_exp_term_zero (dt : ℂ) : exp_term dt 0 = 1 := Conserve.exp_term_zero dt

/-- ETDRK keeps the mean: if the linear symbol vanishes at the mean mode (`E 0 = Eh 0 = 1`) and the nonlinear term
    has zero mean mode for every input, then every order returns `u 0` at mode 0 (spectra `ℕ → ℂ`, any
    coefficient arrays) -/
theorem C09_mean_preserved (E Eh a1 a2 a3 a4 a5 a6 : ℕ → ℂ) (hE : E 0 = 1) (hEh : Eh 0 = 1)
    (N : (ℕ → ℂ) → (ℕ → ℂ)) (hN : ∀ v, N v 0 = 0) (u : ℕ → ℂ) :
    (E0step E u) 0 = u 0 ∧ (E1step E a1 N u) 0 = u 0 ∧ (E2step E a1 a2 N u) 0 = u 0 ∧
    (E3step E Eh a1 a2 a3 a4 a5 N u) 0 = u 0 ∧ (E4step E Eh a1 a2 a3 a4 a5 a6 N u) 0 = u 0 := by
  simpa only [Function.iterate_one] using (Conserve.mean_all_orders E Eh a1 a2 a3 a4 a5 a6 N hE hN 1).mono fun _ h => h u

/-- … over any number of steps -/
theorem C09_mean_preserved_rollout (step : (ℕ → ℂ) → (ℕ → ℂ)) (hstep : ∀ u, step u 0 = u 0) (n : ℕ) (u : ℕ → ℂ) :
    (step^[n] u) 0 = u 0 :=
  Function.Iterate.rec (fun w => w 0 = u 0) rfl (fun w hw => (hstep w).trans hw) n

/-- FIXED POINTS (per mode, `z = dt·λ ≠ 0`, exact φ coefficients): an equilibrium `λ u + N(u) = 0` is a fixed point of
    every ETDRK order, for ANY nonlinear map `N` -/
theorem C09_fixed_point (dt lam u : ℂ) (N : ℂ → ℂ) (hdt : dt ≠ 0) (hlam : lam ≠ 0) (heq : lam * u + N u = 0) :
    let z := dt * lam
    let E := Complex.exp z
    let Eh := Complex.exp (z / 2)
    let ah := dt * (phi1 (z / 2) / 2)
    cm1 E (dt * phi1 z) N u = u ∧
    cm2 E (dt * phi1 z) (dt * phi2 z) N u = u ∧
    cm3 E Eh ah (dt * phi1 z) (dt * (phi1 z - 3 * phi2 z + 4 * phi3 z)) (dt * (4 * phi2 z - 8 * phi3 z))
        (dt * (4 * phi3 z - phi2 z)) N u = u ∧
    cm4 E Eh ah (dt * (phi1 z - 3 * phi2 z + 4 * phi3 z)) (dt * (phi2 z - 2 * phi3 z))
        (dt * (4 * phi3 z - phi2 z)) N u = u := by
  have hz := mul_ne_zero hdt hlam
  intro z E Eh ah
  rw [← C02_step_E2, ← C02_step_E3, ← C02_step_E4]
  exact ⟨Conserve.fixed_E1step dt lam u N hz heq, Conserve.fixed_E2step dt lam u N hz heq,
    Conserve.fixed_E3step dt lam u N hz heq, Conserve.fixed_E4step dt lam u N hz heq⟩

/-- the `λ = 0` case: if `N(u) = 0` every order with `E = Eh = 1` fixes `u`, whatever the coefficients -/
theorem C09_fixed_point_zero_symbol (a1 a2 a3 a4 a5 a6 u : ℂ) (N : ℂ → ℂ) (hN : N u = 0) :
    E1step 1 a1 N u = u ∧ E2step 1 a1 a2 N u = u ∧ E3step 1 1 a1 a2 a3 a4 a5 N u = u ∧
    E4step 1 1 a1 a2 a3 a4 a5 a6 N u = u :=
  (Conserve.fixed_of_lambda_zero a1 a2 a3 a4 a5 a6 u N hN).2

example : ((0.1 : ℂ)) ≠ 0 ∧ ((-2 : ℂ)) ≠ 0 ∧ (-2 : ℂ) * 1 + 2 = 0 := by norm_num

/-- MEAN of the nonlinear model terms, every dimension, every channel count, every input spectrum, every mask -/
theorem C09_conservative_terms_zero_mean (c : Cfg ℂ) (C : ℕ) (scale : ℂ) (single : Bool) (uh : MC ℂ) (ch : ℕ) :
    at2 (convection c C scale single true uh) ch 0 = 0 ∧ at2 (cahnHilliard c scale uh) ch 0 = 0 :=
  ⟨Conserve.convection_conservative_mean c C scale single uh ch, Conserve.cahnHilliard_mean c scale uh ch⟩

theorem C09_gradient_norm_zero_fix_mean (c : Cfg ℂ) (hN : 0 < c.N) (C : ℕ) (scale : ℂ) (uh : MC ℂ) (ch : ℕ) :
    at2 (gradientNorm c C scale true uh) ch 0 = 0 := Conserve.gradientNorm_zeroFix_mean c hN C scale uh ch

/-- the same on a 1-D dealiased real state with retained mean mode -/
theorem C09_gradient_norm_mean (c : Cfg ℂ) (hD : c.D = 1) (hq : c.fq ≠ 0) (hK : 3 * Alias.Kc c < (c.N : ℤ)) (hN : 0 < c.N)
    (s : ℝ) (hs : c.s = (s : ℂ)) (scale : ℂ) (x : Array ℂ) (hx : Alias.IsRealField c.N x) (hm : mask c 0 = 1) :
    at2 (gradientNorm c 1 scale true #[Transform.rfftnM 1 c.N x]) 0 0 = 0 :=
  C09_gradient_norm_zero_fix_mean c hN 1 scale _ 0

/-- the non-conservative 1-D form `u u_x` has zero mean on dealiased real states (it is `½(u²)_x` only without
    aliasing) -/
theorem C09_nonconservative_1d_mean (c : Cfg ℂ) (hD : c.D = 1) (hq : c.fq ≠ 0) (hK : 3 * Alias.Kc c < (c.N : ℤ))
    (hN : 0 < c.N) (s : ℝ) (hs : c.s = (s : ℂ)) (scale : ℂ) (x : Array ℂ) (hx : Alias.IsRealField c.N x)
    (single : Bool) :
    at2 (convection c 1 scale single false #[Transform.rfftnM 1 c.N x]) 0 0 = 0 := by
  obtain ⟨h1, h0⟩ := Alias.convection_nc_one_alias_free_of_cutoff c hD hq hK hN s hs scale x hx single 0
    (Nat.zero_le _)
  rcases Conserve.mask_zero_or_one c 0 with hm | hm
  · rw [h1 hm]
    rw [Conserve.sum_Icc_odd (Alias.Kc c) _ (fun m => by
      simp only [Nat.cast_zero, zero_sub, neg_neg]
      push_cast
      ring)]
    ring
  · exact h0 hm

/-- the 2-D vorticity convection term has zero mean for EVERY input spectrum, every `N ≥ 1`, any mask -/
theorem C09_vorticity_zero_mean (c : Cfg ℂ) (hD : c.D = 2) (hN : 0 < c.N) (s : ℝ) (hs : c.s = (s : ℂ)) (scale : ℂ)
    (uh : MC ℂ) : at2 (vorticity2d c scale none uh) 0 0 = 0 :=
  Conserve.vorticity2d_mean_nd c (hD ▸ Nat.two_pos) hN s hs scale uh

/-- the Leray projection keeps the mean mode -/
theorem C09_projection_mean (c : Cfg ℂ) (hN : 0 < c.N) (uh : MC ℂ) (d : ℕ) (hd : d < c.D) :
    at2 (leray c uh) d 0 = at2 uh d 0 := Conserve.leray_mean c hN uh d hd

/-- n steps of every ETDRK order keep the mean mode … -/
theorem C09_mean_all_orders_all_steps (E Eh a1 a2 a3 a4 a5 a6 : ℕ → ℂ) (Nl : (ℕ → ℂ) → ℕ → ℂ) (hE : E 0 = 1)
    (hN : ∀ v, Nl v 0 = 0) (n : ℕ) (u : ℕ → ℂ) :
    (E0step E)^[n] u 0 = u 0 ∧ (E1step E a1 Nl)^[n] u 0 = u 0 ∧ (E2step E a1 a2 Nl)^[n] u 0 = u 0 ∧
      (E3step E Eh a1 a2 a3 a4 a5 Nl)^[n] u 0 = u 0 ∧ (E4step E Eh a1 a2 a3 a4 a5 a6 Nl)^[n] u 0 = u 0 :=
  (Conserve.mean_all_orders E Eh a1 a2 a3 a4 a5 a6 Nl hE hN n).mono fun _ h => h u

/-- … in particular with the regenerated propagators of a symbol vanishing at the mean mode, and with the concrete
    model terms, ETDRK4 (Burgers / KdV / KS-conservative; Cahn–Hilliard; Navier–Stokes vorticity with or without injection is
    `C09_mean_vorticity_stepper`) -/
theorem C09_mean_concrete (c : Cfg ℂ) (scale : ℂ) (single : Bool) (dt r : ℂ) (M : ℕ) (L a1 a2 a3 a4 a5 a6 : ℕ → ℂ)
    (hL : L 0 = 0) (n : ℕ) (u : ℕ → ℂ) :
    ((E4step (fun h => exp_term dt (L h)) (fun h => E4_half_exp_term dt (L h) M r) a1 a2 a3 a4 a5 a6
        (Conserve.liftNl c (convection c 1 scale single true)))^[n] u) 0 = u 0 ∧
    ((E4step (fun h => exp_term dt (L h)) (fun h => E4_half_exp_term dt (L h) M r) a1 a2 a3 a4 a5 a6
        (Conserve.liftNl c (cahnHilliard c scale)))^[n] u) 0 = u 0 := by
  have hE : (fun h => exp_term dt (L h)) 0 = 1 := by simp [hL, exp_term]
  exact ⟨Conserve.mean_E4step_iterate _ _ a1 a2 a3 a4 a5 a6 _ hE
      (fun _ => Conserve.convection_conservative_mean c 1 scale single _ 0) n u,
    Conserve.mean_E4step_iterate _ _ a1 a2 a3 a4 a5 a6 _ hE (fun _ => Conserve.cahnHilliard_mean c scale _ 0) n u⟩

theorem C09_mean_vorticity_stepper (c : Cfg ℂ) (hD : c.D = 2) (hN : 0 < c.N) (s : ℝ) (hs : c.s = (s : ℂ))
    (scale : ℂ) (inj : Option (ℕ × ℂ)) (E Eh a1 a2 a3 a4 a5 a6 : ℕ → ℂ) (hE : E 0 = 1) (n : ℕ) (u : ℕ → ℂ) :
    ((E4step E Eh a1 a2 a3 a4 a5 a6 (Conserve.liftNl c (vorticity2d c scale inj)))^[n] u) 0 = u 0 :=
  Conserve.mean_E4step_iterate E Eh a1 a2 a3 a4 a5 a6 _ hE
    (fun _ => Conserve.vorticity2d_mean_inj c (hD ▸ Nat.two_pos) hN s hs scale inj _) n u

/-- EQUILIBRIA of the whole spectrum: `L u + N(u) = 0` mode by mode is a fixed point of the regenerated ETDRK4 step
    (coefficients exact where `L ≠ 0`, arbitrary where `L = 0`) -/
theorem C09_fixed_point_spectrum (dt r : ℂ) (M : ℕ) (hdt : dt ≠ 0) (L ah b1 b2 b3 u : ℕ → ℂ)
    (N : (ℕ → ℂ) → ℕ → ℂ)
    (hah : ∀ h, L h ≠ 0 → ah h = dt * (phi1 (dt * L h / 2) / 2))
    (hb1 : ∀ h, L h ≠ 0 → b1 h = dt * (phi1 (dt * L h) - 3 * phi2 (dt * L h) + 4 * phi3 (dt * L h)))
    (hb2 : ∀ h, L h ≠ 0 → b2 h = dt * (phi2 (dt * L h) - 2 * phi3 (dt * L h)))
    (hb3 : ∀ h, L h ≠ 0 → b3 h = dt * (4 * phi3 (dt * L h) - phi2 (dt * L h)))
    (heq : ∀ h, L h * u h + N u h = 0) :
    E4step (fun h => exp_term dt (L h)) (fun h => E4_half_exp_term dt (L h) M r) ah ah ah b1 b2 b3 N u = u := by
  have hh := Conserve.defect_exact_half_spectrum dt hdt L (fun h => E4_half_exp_term dt (L h) M r) ah u
    (fun h => C02_half_exp_term_E4 dt (L h) r M) hah
  -- the final weight `b1 + 4 b2 + b3` is `dt φ₁` wherever `L h ≠ 0`
  refine Etdrk.fixed_E4step_of_defect N u L (funext heq) _ _ ah ah ah b1 b2 b3 hh hh hh
    (Conserve.defect_exact_spectrum dt hdt L (b1 + 4 * b2 + b3) u fun h h0 => ?_)
  simp only [Pi.add_apply, Pi.mul_apply, Pi.ofNat_apply, hb1 h h0, hb2 h h0, hb3 h h0]
  ring

/-- ENERGY: the dealiased Burgers term does no work — triad identity on any truncated spectrum … -/
theorem C09_convection_no_work_spectral (K : ℤ) (X : ℤ → ℂ) :
    ∑ h ∈ Finset.Icc (-K) K, Alias.trunc K X (-h) * (h : ℂ) *
      ∑ m ∈ Finset.Icc (-K) K, Alias.trunc K X m * Alias.trunc K X (h - m) = 0 := by
  -- with `X = dft N x`, `K = Kc` the sum is `N²/(−scale·½·i s)` times the grid inner product of the band-truncated
  -- state with the conservative convection term
  have key : ∑ h ∈ Finset.Icc (-K) K, Alias.trunc K X (-h) * (h : ℂ) *
        ∑ m ∈ Finset.Icc (-K) K, Alias.trunc K X m * Alias.trunc K X (h - m)
      = -Conserve.triS (Finset.Icc (-K) K) (Alias.trunc K X) (fun _ _ c => (c : ℂ)) := by
    rw [Conserve.sum_Icc_neg, Conserve.triS_eq_c_outer, ← Finset.sum_neg_distrib]
    apply Finset.sum_congr rfl; intro c _
    rw [neg_neg, Finset.mul_sum, ← Finset.sum_neg_distrib]
    apply Finset.sum_congr rfl; intro m _
    rw [Conserve.trunc_eq_sum_ite K X m c, Finset.mul_sum, Finset.mul_sum, ← Finset.sum_neg_distrib]
    apply Finset.sum_congr rfl; intro b _
    split_ifs
    · push_cast; ring
    · ring
  rw [key, Conserve.triS_third_zero _ _ (fun c : ℤ => (c : ℂ)) fun a b c h => by
    exact_mod_cast congrArg (Int.cast (R := ℂ)) h, neg_zero]

/-- … and on the grid, through the model pipeline: `Σ_j u_j · N(u)_j = 0` for the conservative single-channel term
    with the 2/3 rule, any `N`, any real state -/
theorem C09_convection_no_work_grid (c : Cfg ℂ) (hD : c.D = 1) (hq : c.fq ≠ 0) (hK : 3 * Alias.Kc c < (c.N : ℤ))
    (hN : 0 < c.N) (s : ℝ) (hs : c.s = (s : ℂ)) (b : ℝ) (x : Array ℂ) (hx : Alias.IsRealField c.N x) :
    ∑ j ∈ Finset.range c.N, (nifft c (Transform.rfftnM 1 c.N x)).getD j 0 *
      (Transform.irfftnM 1 c.N ((convection c 1 (b : ℂ) true true #[Transform.rfftnM 1 c.N x]).getD 0 #[])).getD j 0
      = 0 := by
  have := Invariants.convection_no_work_nd c (hD ▸ Nat.one_pos) hq hK hN s hs b x
    (fun j hj => hx j (by rwa [hD, pow_one] at hj))
  rwa [hD, pow_one] at this

/-! ### 2-D vorticity form: enstrophy and energy; 3-D rotational form: energy (`Proofs/Invariants*.lean`) -/

/-- ENSTROPHY: the dealiased 2-D vorticity convection term does no work against the (truncated) vorticity -/
theorem C09_vorticity_enstrophy (c : Cfg ℂ) (hD : c.D = 2) (hq : c.fq ≠ 0) (hK : 3 * Alias.Kc c < (c.N : ℤ))
    (hN : 0 < c.N) (s : ℝ) (hs : c.s = (s : ℂ)) (b : ℝ) (x : Array ℂ) (hx : AliasND.IsRealND c.D c.N x) :
    ∑ j ∈ Finset.range (c.N ^ c.D), (nifft c (Transform.rfftnM c.D c.N x)).getD j 0 *
      (Transform.irfftnM c.D c.N ((vorticity2d c (b : ℂ) none #[Transform.rfftnM c.D c.N x]).getD 0 #[])).getD j 0 = 0 :=
  Invariants.vorticity2d_enstrophy_grid c hD hq hK hN s hs b x hx

/-- ENERGY: nor against the stream function `ψ = Δ⁻¹ω` -/
theorem C09_vorticity_energy (c : Cfg ℂ) (hD : c.D = 2) (hq : c.fq ≠ 0) (hK : 3 * Alias.Kc c < (c.N : ℤ))
    (hN : 0 < c.N) (s : ℝ) (hs : c.s = (s : ℂ)) (b : ℝ) (x : Array ℂ) (hx : AliasND.IsRealND c.D c.N x) :
    ∑ j ∈ Finset.range (c.N ^ c.D), (Invariants.psiGrid c (Transform.rfftnM c.D c.N x)).getD j 0 *
      (Transform.irfftnM c.D c.N ((vorticity2d c (b : ℂ) none #[Transform.rfftnM c.D c.N x]).getD 0 #[])).getD j 0 = 0 :=
  Invariants.vorticity2d_energy_grid c hD hq hK hN s hs b x hx

/-- the triad identities behind them hold for ANY truncated spectrum and any cut-off -/
theorem C09_vorticity_triads (c : Cfg ℂ) (K : ℤ) (X : (Fin c.D → ℤ) → ℂ) :
    (Invariants.triV K X fun _ q r => Invariants.vortWeight c q r) = 0 ∧
      (Invariants.triV K X fun p q r => AliasND.invLapSym c p * Invariants.vortWeight c q r) = 0 :=
  ⟨Invariants.vorticity2d_enstrophy_triad c K X, Invariants.vorticity2d_energy_triad c K X⟩

/-- 3-D ROTATIONAL FORM: `⟨u, P(u × ω)⟩ = 0` for every real velocity that is divergence-free on the retained modes
    (pointwise orthogonality survives aliasing: only `2K < N` is needed) … -/
theorem C09_rotational_no_work (c : Cfg ℂ) (hD : c.D = 3) (hq : c.fq ≠ 0) (hK : 2 * Alias.Kc c < (c.N : ℤ)) (hN : 0 < c.N)
    (s : ℝ) (hs : c.s = (s : ℂ)) (v : ℕ → Array ℂ) (hv : ∀ i < 3, AliasND.IsRealND c.D c.N (v i))
    (hdiv : ∀ h < modes c, mask c h = 1 →
      ∑ d ∈ Finset.range c.D, deriv c d h * (Transform.rfftnM c.D c.N (v d)).getD h 0 = 0) :
    ∑ i ∈ Finset.range 3, ∑ j ∈ Finset.range (c.N ^ c.D), (v i).getD j 0 *
      (Transform.irfftnM c.D c.N ((projected3d c none #[Transform.rfftnM c.D c.N (v 0), Transform.rfftnM c.D c.N (v 1),
        Transform.rfftnM c.D c.N (v 2)]).getD i #[])).getD j 0 = 0 := by
  -- the term is band-limited, so the untruncated `v i` pairs with it as its truncation `P_K (v i)` does
  refine (Finset.sum_congr rfl fun i hi => ?_).trans (Invariants.projected3d_no_work_real c hD hq hK hN s hs v hv hdiv)
  have hi' := Finset.mem_range.mp hi
  rw [Invariants.getD_three (fun d => Transform.rfftnM c.D c.N (v d)) i hi']
  exact Invariants.inner_irfftn_trunc c (by omega) hq hN hK (v i) (hv i hi') _
    (fun h hh hm => Invariants.projected3d_none_off_band c hD _ i h hi' hh hm)

/-- … in particular for the Leray projection of ANY real field (no divergence hypothesis) -/
theorem C09_rotational_no_work_projected (c : Cfg ℂ) (hD : c.D = 3) (hq : c.fq ≠ 0) (hK : 2 * Alias.Kc c < (c.N : ℤ))
    (hN : 0 < c.N) (s : ℝ) (hs : c.s = (s : ℂ)) (hs0 : s ≠ 0) (w : ℕ → Array ℂ)
    (hw : ∀ e < 3, AliasND.IsRealND c.D c.N (w e)) :
    ∑ i ∈ Finset.range 3, ∑ j ∈ Finset.range (c.N ^ c.D),
      (nifft c ((leray c #[Transform.rfftnM c.D c.N (w 0), Transform.rfftnM c.D c.N (w 1),
        Transform.rfftnM c.D c.N (w 2)]).getD i #[])).getD j 0 *
      (Transform.irfftnM c.D c.N ((projected3d c none (leray c #[Transform.rfftnM c.D c.N (w 0),
        Transform.rfftnM c.D c.N (w 1), Transform.rfftnM c.D c.N (w 2)])).getD i #[])).getD j 0 = 0 :=
  Invariants.projected3d_no_work c hD hq hK hN s hs _ (Invariants.leray_div_free c hD hq hK hN s hs hs0 w hw)

/-! ### constant equilibria on the model terms and the regenerated wiring (library `Proofs/Equilibria*.lean`): transport terms
vanish on constant states, reaction terms map constants to constants, so L(0)û + N(û) = 0 at the documented equilibria of
Fisher–KPP, Allen–Cahn, Swift–Hohenberg and Gray–Scott (regenerated operators and nonlinear functions); with the STORED contour
coefficients a constant equilibrium is a fixed point of every order exactly when the scalar defect e^z − 1 − z·mean φ₁ vanishes
at the mean-mode symbol — always for transport equations (L(0) = 0), and up to |λdt|·5·10⁻⁸ otherwise; the naive statement
"every equilibrium is exactly fixed with stored coefficients" is FALSE (counterexample with M = 1), because the contour mean
of φ₁ telescopes node by node with the node, not with z. -/

open Exponax.Equilibria Exponax.EquilibriaStored in
theorem C09_convection_vanishes_on_constants :
    ∀ (c : Nonlin.Cfg ℂ),
      0 < c.D →
        0 < c.N →
          ∀ (C : ℕ) (scale : ℂ) (single conservative : Bool) (uh : Nonlin.MC ℂ),
            MeanSpec c uh → ∀ (ch h : ℕ), Nonlin.at2 (Nonlin.convection c C scale single conservative uh) ch h = 0 :=
  @Exponax.Equilibria.convection_const

open Exponax.Equilibria Exponax.EquilibriaStored in
theorem C09_gradient_norm_vanishes_on_constants :
    ∀ (c : Nonlin.Cfg ℂ),
      0 < c.N →
        ∀ (C : ℕ) (scale : ℂ) (zeroFix : Bool) (uh : Nonlin.MC ℂ),
          MeanSpec c uh → ∀ (ch h : ℕ), Nonlin.at2 (Nonlin.gradientNorm c C scale zeroFix uh) ch h = 0 :=
  @Exponax.Equilibria.gradientNorm_const

open Exponax.Equilibria Exponax.EquilibriaStored in
theorem C09_reaction_maps_constants_to_constants :
    ∀ (c : Nonlin.Cfg ℂ),
      0 < c.D →
        0 < c.N →
          Nonlin.mask c 0 = 1 →
            ∀ (C : ℕ) (react : List ℂ → List ℂ) (u0 : ℕ → ℝ),
              Nonlin.reaction c C react (constSpec c C fun k ↦ ↑(u0 k)) =
                constSpec c C fun ch ↦ (react (List.map (fun k ↦ ↑(u0 k)) (List.range C))).getD ch 0 :=
  @Exponax.Equilibria.reaction_const

open Exponax.Equilibria Exponax.EquilibriaStored in
theorem C09_fisher_kpp_equilibria :
    ∀ (c : Nonlin.Cfg ℂ),
      0 < c.D →
        0 < c.N →
          ∀ (a : Gen.StepperWiring.FisherKPPArgs ℂ),
            Nonlin.mask (StepperWiringEq.withDF c a.dealiasing_fraction) 0 = 1 →
              ∀ (u0 : ℝ),
                u0 = 0 ∨ u0 = 1 →
                  ∀ (h : ℕ),
                    Gen.Steppers.FisherKPP_linear_operator (kappa c h) a.diffusivity a.reactivity *
                          Nonlin.at2 (constSpec c 1 fun x ↦ ↑u0) 0 h +
                        Nonlin.at2 (Gen.StepperWiring.FisherKPP_stepper_nonlinear_fun c a (constSpec c 1 fun x ↦ ↑u0)) 0 h =
                      0 := by
  intro c hD hN a hm u0 hroot h
  rw [StepperWiringEq.FisherKPP_stepper_nonlinear_fun_eq]
  refine polynomial_equilibrium (StepperWiringEq.withDF c a.dealiasing_fraction) hD hN hm 1 _
    (fun _ h => Gen.Steppers.FisherKPP_linear_operator (kappa c h) a.diffusivity a.reactivity) (fun _ => u0) ?_ 0 h
    (by norm_num)
  intro ch _
  rw [FisherKPP_linear_operator_mean, Alias.polyEval_quadratic]
  rcases hroot with h0 | h1
  · rw [h0]; simp
  · rw [h1]; simp

open Exponax.Equilibria Exponax.EquilibriaStored in
theorem C09_allen_cahn_equilibria :
    ∀ (c : Nonlin.Cfg ℂ),
      0 < c.D →
        0 < c.N →
          ∀ (a : Gen.StepperWiring.AllenCahnArgs ℂ),
            Nonlin.mask (StepperWiringEq.withDF c a.dealiasing_fraction) 0 = 1 →
              ∀ (u0 : ℝ),
                u0 = 0 ∨ a.first_order_coefficient + a.third_order_coefficient * ↑u0 ^ 2 = 0 →
                  ∀ (h : ℕ),
                    Gen.Steppers.AllenCahn_linear_operator (kappa c h) a.diffusivity a.first_order_coefficient *
                          Nonlin.at2 (constSpec c 1 fun x ↦ ↑u0) 0 h +
                        Nonlin.at2 (Gen.StepperWiring.AllenCahn_stepper_nonlinear_fun c a (constSpec c 1 fun x ↦ ↑u0)) 0 h =
                      0 := by
  intro c hD hN a hm u0 hroot h
  rw [StepperWiringEq.AllenCahn_stepper_nonlinear_fun_eq]
  refine polynomial_equilibrium (StepperWiringEq.withDF c a.dealiasing_fraction) hD hN hm 1 _
    (fun _ h => Gen.Steppers.AllenCahn_linear_operator (kappa c h) a.diffusivity a.first_order_coefficient)
    (fun _ => u0) ?_ 0 h (by norm_num)
  intro ch _
  rw [AllenCahn_linear_operator_mean]
  have hp : polyEval [0, 0, 0, a.third_order_coefficient] (u0 : ℂ) = a.third_order_coefficient * (u0 : ℂ) ^ 3 := by
    simp only [polyEval, List.foldl]; ring
  rw [hp]
  rcases hroot with h0 | h1
  · rw [h0]; simp
  · linear_combination (u0 : ℂ) * h1

open Exponax.Equilibria Exponax.EquilibriaStored in
theorem C09_swift_hohenberg_equilibria :
    ∀ (c : Nonlin.Cfg ℂ),
      0 < c.D →
        0 < c.N →
          ∀ (a : Gen.StepperWiring.SwiftHohenbergArgs ℂ),
            Nonlin.mask (StepperWiringEq.withDF c a.dealiasing_fraction) 0 = 1 →
              ∀ (u0 : ℝ),
                (a.reactivity - a.critical_number ^ 2) * ↑u0 + Nonlin.polyEval a.polynomial_coefficients ↑u0 = 0 →
                  ∀ (h : ℕ),
                    Gen.Steppers.SwiftHohenberg_linear_operator (kappa c h) a.reactivity a.critical_number *
                          Nonlin.at2 (constSpec c 1 fun x ↦ ↑u0) 0 h +
                        Nonlin.at2 (Gen.StepperWiring.SwiftHohenberg_stepper_nonlinear_fun c a (constSpec c 1 fun x ↦ ↑u0))
                          0 h =
                      0 := by
  intro c hD hN a hm u0 hroot h
  rw [StepperWiringEq.SwiftHohenberg_stepper_nonlinear_fun_eq]
  refine polynomial_equilibrium (StepperWiringEq.withDF c a.dealiasing_fraction) hD hN hm 1 _
    (fun _ h => Gen.Steppers.SwiftHohenberg_linear_operator (kappa c h) a.reactivity a.critical_number) (fun _ => u0)
    ?_ 0 h (by norm_num)
  intro ch _
  rw [SwiftHohenberg_linear_operator_mean]
  exact hroot

open Exponax.Equilibria Exponax.EquilibriaStored in
theorem C09_gray_scott_equilibria :
    ∀ (c : Nonlin.Cfg ℂ),
      0 < c.D →
        0 < c.N →
          ∀ (g : Gen.StepperWiring.GrayScottArgs ℂ),
            Nonlin.mask (StepperWiringEq.withDF c g.dealiasing_fraction) 0 = 1 →
              ∀ (a b : ℝ),
                g.feed_rate * (1 - ↑a) = ↑a * (↑b * ↑b) →
                  (g.feed_rate + g.kill_rate) * ↑b = ↑a * (↑b * ↑b) →
                    ∀ (ch h : ℕ),
                      ch < 2 →
                        (Gen.Steppers.GrayScott_linear_operator (kappa c h) g.diffusivity_1 g.diffusivity_2).getD ch 0 *
                              Nonlin.at2 (constSpec c 2 fun k ↦ ↑([a, b].getD k 0)) ch h +
                            Nonlin.at2
                              (Gen.StepperWiring.GrayScott_stepper_nonlinear_fun c g
                                (constSpec c 2 fun k ↦ ↑([a, b].getD k 0)))
                              ch h =
                          0 := by
  intro c hD hN g hm a b h1 h2 ch h hch
  rw [StepperWiringEq.GrayScott_stepper_nonlinear_fun_eq]
  have hc : constSpec c 2 (fun k => (([a, b] : List ℝ).getD k 0 : ℂ))
      = constSpec (StepperWiringEq.withDF c g.dealiasing_fraction) 2 (fun k => (([a, b] : List ℝ).getD k 0 : ℂ)) := rfl
  rw [hc, reaction_const (StepperWiringEq.withDF c g.dealiasing_fraction) hD hN hm 2 _
      (fun k => ([a, b] : List ℝ).getD k 0),
    at2_constSpec (StepperWiringEq.withDF c g.dealiasing_fraction) hD hN 2 _ ch h hch,
    at2_constSpec (StepperWiringEq.withDF c g.dealiasing_fraction) hD hN 2 _ ch h hch]
  have hreact : grayScottReact g.feed_rate g.kill_rate
      ((List.range 2).map (fun k => (((fun k => ([a, b] : List ℝ).getD k 0) k : ℝ) : ℂ))) = [0, 0] := by
    simp only [grayScottReact, List.range_succ, List.range_zero, List.nil_append, List.cons_append, List.map_cons,
      List.map_nil, List.getD_cons_zero, List.getD_cons_succ]
    rw [show g.feed_rate * (1 - (a : ℂ)) - (a : ℂ) * ((b : ℂ) * (b : ℂ)) = 0 by linear_combination h1,
      show -(g.feed_rate + g.kill_rate) * (b : ℂ) + (a : ℂ) * ((b : ℂ) * (b : ℂ)) = 0 by linear_combination -h2]
  rw [hreact]
  -- the linear symbol vanishes at the mean mode, so there even `N(û) = 0`
  split_ifs with h0
  · rw [h0, GrayScott_linear_operator_mean]
    interval_cases ch <;> simp
  · ring

open Exponax.Equilibria Exponax.EquilibriaStored in
theorem C09_constants_fixed_by_transport_steppers_stored :
    ∀ (c : Nonlin.Cfg ℂ),
      0 < c.D →
        0 < c.N →
          ∀ (F : Nonlin.MC ℂ → Nonlin.MC ℂ) (u0 : ℂ),
            (∀ (h : ℕ), Nonlin.at2 (F (constSpec c 1 fun x ↦ u0)) 0 h = 0) →
              ∀ (L : ℕ → ℂ),
                L 0 = 0 →
                  ∀ (dt r : ℂ) (M : ℕ),
                    Gen.Etdrk.E1step (fun h ↦ Gen.Etdrk.exp_term dt (L h)) (fun h ↦ Gen.Etdrk.E1_coef_1 dt (L h) M r)
                          (Conserve.liftNl c F) (constSpectrum c u0) =
                        constSpectrum c u0 ∧
                      Gen.Etdrk.E2step (fun h ↦ Gen.Etdrk.exp_term dt (L h)) (fun h ↦ Gen.Etdrk.E2_coef_1 dt (L h) M r)
                            (fun h ↦ Gen.Etdrk.E2_coef_2 dt (L h) M r) (Conserve.liftNl c F) (constSpectrum c u0) =
                          constSpectrum c u0 ∧
                        Gen.Etdrk.E3step (fun h ↦ Gen.Etdrk.exp_term dt (L h))
                              (fun h ↦ Gen.Etdrk.E3_half_exp_term dt (L h) M r) (fun h ↦ Gen.Etdrk.E3_coef_1 dt (L h) M r)
                              (fun h ↦ Gen.Etdrk.E3_coef_2 dt (L h) M r) (fun h ↦ Gen.Etdrk.E3_coef_3 dt (L h) M r)
                              (fun h ↦ Gen.Etdrk.E3_coef_4 dt (L h) M r) (fun h ↦ Gen.Etdrk.E3_coef_5 dt (L h) M r)
                              (Conserve.liftNl c F) (constSpectrum c u0) =
                            constSpectrum c u0 ∧
                          Gen.Etdrk.E4step (fun h ↦ Gen.Etdrk.exp_term dt (L h))
                              (fun h ↦ Gen.Etdrk.E4_half_exp_term dt (L h) M r) (fun h ↦ Gen.Etdrk.E4_coef_1 dt (L h) M r)
                              (fun h ↦ Gen.Etdrk.E4_coef_2 dt (L h) M r) (fun h ↦ Gen.Etdrk.E4_coef_3 dt (L h) M r)
                              (fun h ↦ Gen.Etdrk.E4_coef_4 dt (L h) M r) (fun h ↦ Gen.Etdrk.E4_coef_5 dt (L h) M r)
                              (fun h ↦ Gen.Etdrk.E4_coef_6 dt (L h) M r) (Conserve.liftNl c F) (constSpectrum c u0) =
                            constSpectrum c u0 := by
  intro c hD hN F u0 hF L hL dt r M
  apply stored_fixed_point_of_symbol_zero dt r M L _ (Conserve.liftNl c F)
  · intro h
    rw [liftNl_constSpectrum, hF h, add_zero, constSpectrum_apply c hD hN]
    split_ifs with h0
    · rw [h0, hL, zero_mul]
    · rw [mul_zero]
  · intro h hne
    rw [constSpectrum_support c hD hN u0 h hne, hL]

open Exponax.Equilibria Exponax.EquilibriaStored in
theorem C09_constant_equilibrium_fixed_stored :
    ∀ (c : Nonlin.Cfg ℂ),
      0 < c.D →
        0 < c.N →
          Nonlin.mask c 0 = 1 →
            ∀ (coeffs : List ℂ) (L : ℕ → ℂ) (u0 : ℝ),
              L 0 * ↑u0 + Nonlin.polyEval coeffs ↑u0 = 0 →
                ∀ (dt r : ℂ) (M : ℕ),
                  fpDefect dt (L 0) M r = 0 →
                    fpDefectHalf dt (L 0) M r = 0 →
                      Gen.Etdrk.E3step (fun h ↦ Gen.Etdrk.exp_term dt (L h))
                            (fun h ↦ Gen.Etdrk.E3_half_exp_term dt (L h) M r) (fun h ↦ Gen.Etdrk.E3_coef_1 dt (L h) M r)
                            (fun h ↦ Gen.Etdrk.E3_coef_2 dt (L h) M r) (fun h ↦ Gen.Etdrk.E3_coef_3 dt (L h) M r)
                            (fun h ↦ Gen.Etdrk.E3_coef_4 dt (L h) M r) (fun h ↦ Gen.Etdrk.E3_coef_5 dt (L h) M r)
                            (Conserve.liftNl c (Nonlin.polynomial c 1 coeffs)) (constSpectrum c ↑u0) =
                          constSpectrum c ↑u0 ∧
                        Gen.Etdrk.E4step (fun h ↦ Gen.Etdrk.exp_term dt (L h))
                            (fun h ↦ Gen.Etdrk.E4_half_exp_term dt (L h) M r) (fun h ↦ Gen.Etdrk.E4_coef_1 dt (L h) M r)
                            (fun h ↦ Gen.Etdrk.E4_coef_2 dt (L h) M r) (fun h ↦ Gen.Etdrk.E4_coef_3 dt (L h) M r)
                            (fun h ↦ Gen.Etdrk.E4_coef_4 dt (L h) M r) (fun h ↦ Gen.Etdrk.E4_coef_5 dt (L h) M r)
                            (fun h ↦ Gen.Etdrk.E4_coef_6 dt (L h) M r) (Conserve.liftNl c (Nonlin.polynomial c 1 coeffs))
                            (constSpectrum c ↑u0) =
                          constSpectrum c ↑u0 := by
  intro c hD hN hm coeffs L u0 hroot dt r M hd hdh
  have heq := polynomial_equilibrium_spectrum c hD hN hm coeffs L u0 hroot
  have supp := constSpectrum_support c hD hN (u0 : ℂ)
  exact ⟨stored_fixed_point_E3 dt r M L _ _ heq (fun h hu => by rw [supp h hu]; exact hd)
      (fun h hu => by rw [supp h hu]; exact hdh),
    stored_fixed_point_E4 dt r M L _ _ heq (fun h hu => by rw [supp h hu]; exact hd)
      (fun h hu => by rw [supp h hu]; exact hdh)⟩

open Exponax.Equilibria Exponax.EquilibriaStored in
theorem C09_fixed_point_stored_coefficients :
    ∀ (dt r : ℂ) (M : ℕ) (L u : ℕ → ℂ) (N : (ℕ → ℂ) → ℕ → ℂ),
      (∀ (h : ℕ), L h * u h + N u h = 0) →
        (∀ (h : ℕ), u h ≠ 0 → fpDefect dt (L h) M r = 0) →
          (∀ (h : ℕ), u h ≠ 0 → fpDefectHalf dt (L h) M r = 0) →
            Gen.Etdrk.E4step (fun h ↦ Gen.Etdrk.exp_term dt (L h)) (fun h ↦ Gen.Etdrk.E4_half_exp_term dt (L h) M r)
                (fun h ↦ Gen.Etdrk.E4_coef_1 dt (L h) M r) (fun h ↦ Gen.Etdrk.E4_coef_2 dt (L h) M r)
                (fun h ↦ Gen.Etdrk.E4_coef_3 dt (L h) M r) (fun h ↦ Gen.Etdrk.E4_coef_4 dt (L h) M r)
                (fun h ↦ Gen.Etdrk.E4_coef_5 dt (L h) M r) (fun h ↦ Gen.Etdrk.E4_coef_6 dt (L h) M r) N u =
              u :=
  @Exponax.EquilibriaStored.stored_fixed_point_E4

open Exponax.Equilibria Exponax.EquilibriaStored in
theorem C09_fixed_point_stored_needs_defect_hypothesis :
    ¬∀ (dt lam r : ℂ) (M : ℕ) (N : ℂ → ℂ) (u : ℂ),
        (∀ ζ ∈ Gen.Etdrk.roots_of_unity M, r * ζ + lam * dt ≠ 0) →
          lam * u + N u = 0 → Gen.Etdrk.E1step (Gen.Etdrk.exp_term dt lam) (Gen.Etdrk.E1_coef_1 dt lam M r) N u = u :=
  @Exponax.EquilibriaStored.stored_fixed_point_false

open Exponax.Equilibria Exponax.EquilibriaStored in
theorem C09_fixed_point_defect_default :
    ∀ (dt lam : ℝ),
      lam * dt ≤ 0 → ‖fpDefect (↑dt) (↑lam) 16 1‖ ≤ |lam * dt| * 5e-8 ∧ ‖fpDefectHalf (↑dt) (↑lam) 16 1‖ ≤ |lam * dt| * 5e-8 :=
  fun dt lam hz => by
    -- entries `0` and `8` of the table `storedCoef` are `E1_coef_1` and `E4_coef_1`
    have h := ContourTail.storedCoef_error_default dt lam hz
    constructor
    · rw [fpDefect_eq, norm_neg, norm_mul, Complex.norm_real, Real.norm_eq_abs, abs_mul, mul_assoc]
      exact mul_le_mul_of_nonneg_left (h 0) (abs_nonneg _)
    · rw [fpDefectHalf_eq, norm_neg, norm_mul, Complex.norm_real, Real.norm_eq_abs, abs_mul, mul_assoc]
      exact mul_le_mul_of_nonneg_left (h 8) (abs_nonneg _)

open Exponax.Equilibria Exponax.EquilibriaStored in
theorem C09_equilibrium_almost_fixed_default :
    ∀ (dt : ℝ) (L : ℕ → ℝ) (u : ℕ → ℂ) (N : (ℕ → ℂ) → ℕ → ℂ),
      (∀ (h : ℕ), ↑(L h) * u h + N u h = 0) →
        (∀ (h : ℕ), L h * dt ≤ 0) →
          ∀ (h : ℕ),
            ‖Gen.Etdrk.E1step (fun h ↦ Gen.Etdrk.exp_term ↑dt ↑(L h)) (fun h ↦ Gen.Etdrk.E1_coef_1 (↑dt) (↑(L h)) 16 1) N u
                    h -
                  u h‖ ≤
              |L h * dt| * 5e-8 * ‖u h‖ := by
  intro dt L u N heq hz h
  rw [stored_E1step_sub (dt : ℂ) 1 16 (fun h => (L h : ℂ)) u N heq h, norm_mul]
  exact mul_le_mul_of_nonneg_right (C09_fixed_point_defect_default dt (L h) (hz h)).1 (norm_nonneg _)

open Exponax.Equilibria Exponax.EquilibriaStored in
theorem C09_stored_weights_telescope :
    ∀ (dt lam r : ℂ) (M : ℕ),
      Gen.Etdrk.E4_coef_4 dt lam M r + 4 * Gen.Etdrk.E4_coef_5 dt lam M r + Gen.Etdrk.E4_coef_6 dt lam M r =
        Gen.Etdrk.E1_coef_1 dt lam M r :=
  @Exponax.EquilibriaStored.stored_E4_sum

/-! ### mean of the 3-D velocity stepper: the mean mode of the rotational term is mask(0)·Σ_x u_i (∇·u) — zero exactly on
divergence-free spectra (Nyquist-free retained band), so every ETDRK order and rollout of the velocity stepper keeps the mean of
each channel on divergence-free states; for a general (not divergence-free) spectrum it is NOT zero (counterexample) -/

open Exponax.SmallGaps3 in
theorem C09_velocity_term_mean_is_u_div_u :
    ∀ (c : Nonlin.Cfg ℂ),
      c.D = 3 →
        0 < c.N →
          ∀ (K : ℤ),
            MaskIn c K →
              2 * K < ↑c.N →
                ∀ (s : ℝ),
                  c.s = ↑s →
                    ∀ (uh : Nonlin.MC ℂ),
                      ∀ i < 3,
                        Nonlin.at2 (Nonlin.projected3d c none uh) i 0 =
                          Nonlin.mask c 0 * ∑ x ∈ Finset.range (c.N ^ c.D), Conserve.velGrid c uh i x * divGrid c uh x :=
  @Exponax.SmallGaps3.projected3d_mean_eq_div

open Exponax.SmallGaps3 in
theorem C09_velocity_term_zero_mean_on_divfree :
    ∀ (c : Nonlin.Cfg ℂ),
      c.D = 3 →
        0 < c.N →
          ∀ (K : ℤ),
            MaskIn c K →
              2 * K < ↑c.N →
                ∀ (s : ℝ),
                  c.s = ↑s →
                    ∀ (uh : Nonlin.MC ℂ),
                      (∀ h < Nonlin.modes c,
                          Nonlin.mask c h = 1 →
                            Nonlin.deriv c 0 h * Nonlin.at2 uh 0 h + Nonlin.deriv c 1 h * Nonlin.at2 uh 1 h +
                                Nonlin.deriv c 2 h * Nonlin.at2 uh 2 h =
                              0) →
                        ∀ (i : ℕ), Nonlin.at2 (Nonlin.projected3d c none uh) i 0 = 0 :=
  @Exponax.SmallGaps3.projected3d_mean_zero

open Exponax.SmallGaps3 in
theorem C09_mean_velocity_stepper :
    ∀ (c : Nonlin.Cfg ℂ),
      c.D = 3 →
        0 < c.N →
          ∀ (K : ℤ),
            MaskIn c K →
              2 * K < ↑c.N →
                ∀ (s : ℝ),
                  c.s = ↑s →
                    s ≠ 0 →
                      ∀ (inj : Option (ℕ × ℂ)),
                        (∀ (m : ℕ) (gam : ℂ), inj = some (m, gam) → 0 < m) →
                          ∀ (e eh a1 a2 a3 a4 a5 a6 : ℕ → ℂ),
                            e 0 = 1 →
                              ∀ (n : ℕ) (U : ℕ → ℕ → ℂ),
                                DivFree c U →
                                  ∀ (d : ℕ),
                                    have b := fun x h x_1 ↦ x h;
                                    have N := SmallGaps.liftModeFirst c 3 (Nonlin.projected3d c inj);
                                    (Gen.Etdrk.E0step (b e))^[n] U 0 d = U 0 d ∧
                                      (Gen.Etdrk.E1step (b e) (b a1) N)^[n] U 0 d = U 0 d ∧
                                        (Gen.Etdrk.E2step (b e) (b a1) (b a2) N)^[n] U 0 d = U 0 d ∧
                                          (Gen.Etdrk.E3step (b e) (b eh) (b a1) (b a2) (b a3) (b a4) (b a5) N)^[n] U 0 d =
                                              U 0 d ∧
                                            (Gen.Etdrk.E4step (b e) (b eh) (b a1) (b a2) (b a3) (b a4) (b a5) (b a6) N)^[n]
                                                U 0 d =
                                              U 0 d :=
  @Exponax.SmallGaps3.velocity_rollout_mean

open Exponax.SmallGaps3 in
theorem C09_velocity_mean_needs_divfree :
    Nonlin.at2 (Nonlin.projected3d c8 none uhC) 0 0 ≠ 0 :=
  @Exponax.SmallGaps3.projected3d_mean_counter

end Exponax
