import ExponaxModel.Properties.C05
import ExponaxModel.Proofs.StepperSymbols
import ExponaxModel.Proofs.SpectralOpsBasic
/-
C05 — "the Laplace and gradient-inner-product operators equal their analytic symbols", for the REGENERATED
`Gen.Steppers.laplace_op` / `Gen.Steppers.grad_inner` (translations of `build_laplace_operator` /
`build_gradient_inner_product_operator` in exponax/_spectral.py; Generated/Steppers.lean), evaluated at
κ = the derivative-operator column of a stored mode h:

* κ = `kappa c h` = `(i s k_d(h))_d`, the model's derivative symbols (`C05_derivative_symbol`), and
* κ = the column of the REGENERATED `build_derivative_operator` array (`Gen.SpectralOps.derivative_operator_entry`, default
  "ij" indexing) for a real domain extent `L` (`s = 2π/L`),

are tied to the analytic symbols of `C05_laplace_symbol` / `C05_gradinner_symbol`:
`(−1)^n s^{2n} Σ_d k_d^{2n}` (real) and `i (−1)^n s^{2n+1} Σ_d v_d k_d^{2n+1}` (purely imaginary).  A change of the regenerated
operator builders (a dropped power, a wrong contraction) breaks these theorems, not only the hand-written model's.
-/
namespace Exponax
open Exponax.Layout Exponax.Nonlin Exponax.Operator Exponax.Gen.Steppers

/-- regenerated `build_laplace_operator(order = 2n)`, n ≥ 1, on the derivative column of mode h:
    `(−1)^n s^{2n} Σ_d k_d^{2n}` -/
theorem C05_generated_laplace_operator_symbol (c : Cfg ℂ) (s : ℝ) (hs : c.s = (s : ℂ)) (h n : ℕ) (hn : 1 ≤ n) :
    laplace_op (kappa c h) (2 * n) =
      (((-1) ^ n * s ^ (2 * n) * ∑ d ∈ Finset.range c.D, (wnAt c d h : ℝ) ^ (2 * n) : ℝ) : ℂ) := by
  rw [laplace_op_kappa]
  exact C05_laplace_symbol c s hs h n hn

/-- regenerated `build_gradient_inner_product_operator(velocity = v, order = 2n+1)` on the derivative column of mode h, real
    velocity of the guarded shape `(D,)`: `i (−1)^n s^{2n+1} Σ_d v_d k_d^{2n+1}` -/
theorem C05_generated_gradient_inner_product_symbol (c : Cfg ℂ) (s : ℝ) (hs : c.s = (s : ℂ)) (h n : ℕ) (v : List ℝ)
    (hv : v.length = c.D) :
    grad_inner (kappa c h) (ofRealL v) (2 * n + 1) =
      Complex.I * (((-1) ^ n * s ^ (2 * n + 1) *
        ∑ d ∈ Finset.range c.D, v.getD d 0 * (wnAt c d h : ℝ) ^ (2 * n + 1) : ℝ) : ℂ) := by
  rw [grad_inner_eq _ _ _ (by simp [hv]), ← C05_gradinner_symbol c s hs h n (fun d => v.getD d 0)]
  unfold vdot
  rw [kappa_length]
  apply Finset.sum_congr rfl
  intro d hd
  rw [kappa_getD c h d (Finset.mem_range.mp hd)]
  have := congrFun (vfun_ofRealL v) d
  simp only [vfun] at this
  rw [this]

/-! ### the same with the column of the REGENERATED derivative-operator array -/

open Exponax.SpectralOpsEq Exponax.Gen.SpectralOps in
/-- the column of the regenerated `build_derivative_operator(D, L, N)` at mode h is `kappa` of the model configuration -/
theorem C05_generated_derivative_column (D N : ℕ) (hD : 1 ≤ D) (hN : 0 < N) (L : ℂ) (h : ℕ) :
    List.map (fun k => derivative_operator_entry D L N "ij" k h) (List.range D) = kappa (cfg D N L) h :=
  map_derivative_operator_entry D N hD hN L h

open Exponax.SpectralOpsEq Exponax.Gen.SpectralOps in
/-- regenerated Laplace builder on the regenerated derivative operator, real domain extent `L`, `s = 2π/L` -/
theorem C05_generated_laplace_operator_symbol_on_generated_derivative (D N : ℕ) (hD : 1 ≤ D) (hN : 0 < N) (L : ℝ)
    (h n : ℕ) (hn : 1 ≤ n) :
    laplace_op (List.map (fun k => derivative_operator_entry D (L : ℂ) N "ij" k h) (List.range D)) (2 * n) =
      (((-1) ^ n * (2 * Real.pi / L) ^ (2 * n) *
        ∑ d ∈ Finset.range D, (wnAt (cfg D N (L : ℂ)) d h : ℝ) ^ (2 * n) : ℝ) : ℂ) := by
  rw [C05_generated_derivative_column D N hD hN]
  exact C05_generated_laplace_operator_symbol (cfg D N (L : ℂ)) (2 * Real.pi / L)
    (cfg_s_real D N L) h n hn

open Exponax.SpectralOpsEq Exponax.Gen.SpectralOps in
/-- regenerated gradient-inner-product builder on the regenerated derivative operator -/
theorem C05_generated_gradient_inner_product_symbol_on_generated_derivative (D N : ℕ) (hD : 1 ≤ D) (hN : 0 < N) (L : ℝ)
    (h n : ℕ) (v : List ℝ) (hv : v.length = D) :
    grad_inner (List.map (fun k => derivative_operator_entry D (L : ℂ) N "ij" k h) (List.range D)) (ofRealL v)
        (2 * n + 1) =
      Complex.I * (((-1) ^ n * (2 * Real.pi / L) ^ (2 * n + 1) *
        ∑ d ∈ Finset.range D, v.getD d 0 * (wnAt (cfg D N (L : ℂ)) d h : ℝ) ^ (2 * n + 1) : ℝ) : ℂ) := by
  rw [C05_generated_derivative_column D N hD hN]
  exact C05_generated_gradient_inner_product_symbol (cfg D N (L : ℂ)) (2 * Real.pi / L)
    (cfg_s_real D N L) h n v hv

/-! ### non-vacuity: 2-D, 8 points, L = 2π (s = 1), velocity (1, −2) -/
open Exponax.SpectralOpsEq in
example : (cfg 2 8 ((2 * Real.pi : ℝ) : ℂ)).s = ((1 : ℝ) : ℂ) ∧ ([1, -2] : List ℝ).length = (cfg 2 8 ((2 * Real.pi : ℝ) : ℂ)).D ∧
    (1 : ℕ) ≤ 1 := by
  refine ⟨?_, rfl, le_refl 1⟩
  rw [cfg_s]
  have : (Real.pi : ℂ) ≠ 0 := by exact_mod_cast Real.pi_ne_zero
  push_cast
  field_simp

end Exponax
