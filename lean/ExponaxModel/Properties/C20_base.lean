import ExponaxModel.Proofs.BaseStepperGenEq
/-
C20 — `BaseStepper.__call__` as a whole (regenerated: the guard of `Generated/GuardsGen.lean`, then
`self.step(u)`): every shape but `(C,) + (N,)*D` is refused, the configured shape is stepped; unsupported orders are
refused by the constructor.
-/
namespace Exponax
open Exponax.Nonlin Exponax.Gen.StepperWiring Exponax.Gen.Base Exponax.BaseStepperGenEq

theorem C20_base_call_refuses_or_steps (a : BaseStepperArgs ℂ) (sf : MC ℂ → Option (MC ℂ)) (shape : List ℕ)
    (u : MC ℂ) :
    BaseStepper_call a sf shape u
      = if shape = a.num_channels :: List.replicate a.num_spatial_dims a.num_points then BaseStepper_step a sf u
        else none :=
  BaseStepper_call_eq a sf shape u

theorem BaseStepper_call_of_shape_ne (a : BaseStepperArgs ℂ) (sf : MC ℂ → Option (MC ℂ)) (shape : List ℕ) (u : MC ℂ)
    (hne : shape ≠ a.num_channels :: List.replicate a.num_spatial_dims a.num_points) :
    BaseStepper_call a sf shape u = none := by
  rw [BaseStepper_call_eq, if_neg hne]

/-- a batch axis, a wrong channel count, a missing axis: all refused -/
theorem C20_base_call_refuses_wrong_shapes (a : BaseStepperArgs ℂ) (sf : MC ℂ → Option (MC ℂ)) (u : MC ℂ) (B C' : ℕ)
    (hC : C' ≠ a.num_channels) :
    BaseStepper_call a sf (B :: a.num_channels :: List.replicate a.num_spatial_dims a.num_points) u = none ∧
    BaseStepper_call a sf (C' :: List.replicate a.num_spatial_dims a.num_points) u = none ∧
    BaseStepper_call a sf (List.replicate a.num_spatial_dims a.num_points) u = none := by
  -- the configured shape has `D + 1` axes
  have hlen : ∀ shape : List ℕ, shape.length ≠ a.num_spatial_dims + 1 →
      shape ≠ a.num_channels :: List.replicate a.num_spatial_dims a.num_points := fun shape hl h =>
    hl (by rw [h, List.length_cons, List.length_replicate])
  exact ⟨BaseStepper_call_of_shape_ne a sf _ u (hlen _ (by simp)),
    BaseStepper_call_of_shape_ne a sf _ u fun h => hC (List.cons.inj h).1,
    BaseStepper_call_of_shape_ne a sf _ u (hlen _ (by simp))⟩

theorem C20_base_unsupported_order_refused (a : BaseStepperArgs ℂ) (h : 4 < a.order) (lam : Interface.Spec)
    (N : Interface.Spec → Interface.Spec) (u : Interface.Spec) :
    BaseStepper_step_fourier a (entrywiseOf lam) N u = none :=
  BaseStepper_step_fourier_raises a h lam N u

end Exponax
