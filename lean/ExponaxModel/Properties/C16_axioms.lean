import ExponaxModel.Proofs.MetricsGenAxioms
/-
C16 — the metric laws for the NAMED metrics REGENERATED from `exponax/metrics/_spatial.py`
(`Gen.MetricsGen.MSE`, `RMSE`, `MAE`, `nMSE`, `nRMSE`, `nMAE`, `sMSE`, `sRMSE`, `sMAE`), over `ℝ`, whole multi-channel
states `List (Array ℝ)`, with the argument conventions of the generated definitions (`some r` / `none` reference,
`domain_extent` last).  `C16_zero_iff`, `C16_symmetric`, `C16_homogeneous`, `C16_scale_free` (C16.lean) are about the
hand-written model; here they are transferred through the `*_eq` theorems of `Proofs/MetricsGenEq.lean`.  None of the
statements needs `D ≥ 1` (they hold for every `D`); `N > 0`, `L > 0` are needed for positivity only, `L ≥ 0` for
homogeneity.
-/
namespace Exponax
open Exponax.Metrics Exponax.Gen.MetricsGen Exponax.MetricsGenAxioms

/-- the vocabulary of this file: `scaleState a u` is `a • u`, `OnGrid D N u` says every channel is a whole `(N,)*D`
    array, `ChannelsNonzero r` says no channel of `r` is identically zero -/
theorem C16_generated_metric_vocabulary (D N : ℕ) (a : ℝ) (u r : List (Array ℝ)) :
    scaleState a u = u.map (fun c => c.map (fun x => a * x)) ∧
    (OnGrid D N u ↔ ∀ c ∈ u, c.size = N ^ D) ∧
    (ChannelsNonzero r ↔ ∀ b ∈ r, ∃ x ∈ b.toList, x ≠ 0) := ⟨rfl, Iff.rfl, Iff.rfl⟩

/-- every named spatial metric of a state against itself is zero.  (For the normalized / symmetric variants of a
    state with an identically-zero channel the Python value is `0/0 = nan`; over `ℝ` the quotient is Lean's
    `0 / 0 = 0`.  `C16_generated_relative_denominators_positive` gives the denominators otherwise.) -/
theorem C16_generated_metrics_zero_for_identical (D N : ℕ) (L : ℝ) (u : List (Array ℝ)) :
    MSE D N u (some u) L = some 0 ∧ RMSE D N u (some u) L = some 0 ∧ MAE D N u (some u) L = some 0 ∧
    nMSE D N u u L = some 0 ∧ nRMSE D N u u L = some 0 ∧ nMAE D N u u L = some 0 ∧
    sMSE D N u u L = some 0 ∧ sRMSE D N u u L = some 0 ∧ sMAE D N u u L = some 0 := by
  have h2 := lit_two_pos.ne'
  have h1 := lit_one_pos.ne'
  have hh := qlit_half_pos.ne'
  simp only [MSE_eq, RMSE_eq, MAE_eq, nMSE_eq, nRMSE_eq, nMAE_eq, sMSE_eq, sRMSE_eq, sMAE_eq,
    spatialModel_self _ D N L _ _ h2 h1 u, spatialModel_self _ D N L _ _ h2 hh u,
    spatialModel_self _ D N L _ _ h1 h1 u, and_self]

/-- `MSE(u, u) = 0` -/
theorem C16_generated_MSE_zero_for_identical (D N : ℕ) (L : ℝ) (u : List (Array ℝ)) :
    MSE D N u (some u) L = some 0 :=
  (C16_generated_metrics_zero_for_identical D N L u).1

/-- the per-channel denominators of the normalized metrics (reference aggregates; the symmetric ones add the
    non-negative state aggregates) are positive when no reference channel vanishes identically -/
theorem C16_generated_relative_denominators_positive (D N : ℕ) (hN : 0 < N) (L : ℝ) (hL : 0 < L) (p q : ℝ) (hp : 0 < p)
    (hq : 0 < q) (r : List (Array ℝ)) (hr : ChannelsNonzero r) :
    ∀ x ∈ chanAgg D N L p q r, 0 < x := by
  intro x hx
  simp only [chanAgg, List.mem_map] at hx
  obtain ⟨b, hb, rfl⟩ := hx
  exact spatialAggregator_pos D N L p q hp hq hL hN b (hr b hb)

/-- `MSE`, `RMSE`, `MAE` and the symmetric variants `sMSE`, `sRMSE`, `sMAE` are symmetric in prediction and reference
    (whole arrays on the same grid, same number of channels) -/
theorem C16_generated_metrics_symmetric (D N : ℕ) (L : ℝ) (u r : List (Array ℝ)) (hlen : u.length = r.length)
    (hu : OnGrid D N u) (hr : OnGrid D N r) :
    MSE D N u (some r) L = MSE D N r (some u) L ∧ RMSE D N u (some r) L = RMSE D N r (some u) L ∧
    MAE D N u (some r) L = MAE D N r (some u) L ∧
    sMSE D N u r L = sMSE D N r u L ∧ sRMSE D N u r L = sRMSE D N r u L ∧ sMAE D N u r L = sMAE D N r u L := by
  have h := sameShape_of_grid D N u r hlen hu hr
  simp only [MSE_eq, RMSE_eq, MAE_eq, sMSE_eq, sRMSE_eq, sMAE_eq, spatialModel_zero_symm D N L _ _ u r h,
    spatialModel_two_symm D N L _ _ u r h, and_self]

/-- the normalized variants are NOT symmetric: on every grid (`N > 0`, `L > 0`, any `D`) the constant one-channel
    states `1` and `2` give `nMSE(1, 2) = 1/4` but `nMSE(2, 1) = 1`, and `nMAE(1, 2) = 1/2` but `nMAE(2, 1) = 1` -/
theorem C16_generated_normalized_not_symmetric (D N : ℕ) (hN : 0 < N) (L : ℝ) (hL : 0 < L) :
    OnGrid D N [constChan (N ^ D) 1] ∧ OnGrid D N [constChan (N ^ D) 2] ∧
    nMSE D N [constChan (N ^ D) 1] [constChan (N ^ D) 2] L = some (1 / 4) ∧
    nMSE D N [constChan (N ^ D) 2] [constChan (N ^ D) 1] L = some 1 ∧
    nMAE D N [constChan (N ^ D) 1] [constChan (N ^ D) 2] L = some (1 / 2) ∧
    nMAE D N [constChan (N ^ D) 2] [constChan (N ^ D) 1] L = some 1 := by
  have hK : (L / (N : ℝ)) ^ D ≠ 0 := (cell_pos D N L hL hN).ne'
  have hn : ((N ^ D : ℕ) : ℝ) ≠ 0 := by
    have : 0 < N ^ D := Nat.pow_pos hN
    exact_mod_cast this.ne'
  have hq : ∀ a b : ℝ, (L / (N : ℝ)) ^ D * (((N ^ D : ℕ) : ℝ) * a) / ((L / (N : ℝ)) ^ D * (((N ^ D : ℕ) : ℝ) * b)) = a / b :=
    fun a b => by rw [mul_div_mul_left _ _ hK, mul_div_mul_left _ _ hn]
  refine ⟨onGrid_const D N 1, onGrid_const D N 2, ?_, ?_, ?_, ?_⟩
  · rw [nMSE_eq, lit_one_real, lit_two_real, spatialModel_one_const, hq, Real.rpow_two, Real.rpow_two]
    norm_num
  · rw [nMSE_eq, lit_one_real, lit_two_real, spatialModel_one_const, hq, Real.rpow_two, Real.rpow_two]
    norm_num
  · rw [nMAE_eq, lit_one_real, spatialModel_one_const, hq, Real.rpow_one, Real.rpow_one]
    norm_num
  · rw [nMAE_eq, lit_one_real, spatialModel_one_const, hq, Real.rpow_one, Real.rpow_one]
    norm_num

/-- `MSE(a•u, a•r) = a² · MSE(u, r)`, with and without a reference state -/
theorem C16_generated_MSE_homogeneous (D N : ℕ) (L : ℝ) (hL : 0 ≤ L) (a : ℝ) (u r : List (Array ℝ)) :
    MSE D N (scaleState a u) (some (scaleState a r)) L = (MSE D N u (some r) L).map (fun v => a ^ 2 * v) ∧
    MSE D N (scaleState a u) none L = (MSE D N u none L).map (fun v => a ^ 2 * v) := by
  simp only [MSE_eq, MSE_none, Option.map_some, spatialModel_zero_scale D N L _ _ a hL,
    combine_zero_scale D N L _ _ a hL, abs_rpow_two_one, and_self]

/-- `RMSE` and `MAE` scale with `|a|`, with and without a reference state -/
theorem C16_generated_RMSE_homogeneous (D N : ℕ) (L : ℝ) (hL : 0 ≤ L) (a : ℝ) (u r : List (Array ℝ)) :
    RMSE D N (scaleState a u) (some (scaleState a r)) L = (RMSE D N u (some r) L).map (fun v => |a| * v) ∧
    RMSE D N (scaleState a u) none L = (RMSE D N u none L).map (fun v => |a| * v) ∧
    MAE D N (scaleState a u) (some (scaleState a r)) L = (MAE D N u (some r) L).map (fun v => |a| * v) ∧
    MAE D N (scaleState a u) none L = (MAE D N u none L).map (fun v => |a| * v) := by
  simp only [RMSE_eq, RMSE_none, MAE_eq, MAE_none, Option.map_some, spatialModel_zero_scale D N L _ _ a hL,
    combine_zero_scale D N L _ _ a hL, abs_rpow_two_half, abs_rpow_one_one, and_self]

/-- the normalized and the symmetric variants are scale-free: a common factor `a ≠ 0` does not change them -/
theorem C16_generated_normalized_scale_free (D N : ℕ) (L : ℝ) (hL : 0 ≤ L) (a : ℝ) (ha : a ≠ 0)
    (u r : List (Array ℝ)) :
    nMSE D N (scaleState a u) (scaleState a r) L = nMSE D N u r L ∧
    nRMSE D N (scaleState a u) (scaleState a r) L = nRMSE D N u r L ∧
    nMAE D N (scaleState a u) (scaleState a r) L = nMAE D N u r L ∧
    sMSE D N (scaleState a u) (scaleState a r) L = sMSE D N u r L ∧
    sRMSE D N (scaleState a u) (scaleState a r) L = sRMSE D N u r L ∧
    sMAE D N (scaleState a u) (scaleState a r) L = sMAE D N u r L := by
  simp only [nMSE_eq, nRMSE_eq, nMAE_eq, sMSE_eq, sRMSE_eq, sMAE_eq, spatialModel_one_scale D N L _ _ a hL ha,
    spatialModel_two_scale D N L _ _ a hL ha, and_self]

def C16PositiveDefinite (m : Option ℝ) (u r : List (Array ℝ)) : Prop :=
  ∃ v, m = some v ∧ 0 ≤ v ∧ (v = 0 ↔ u = r) ∧ (u ≠ r → 0 < v)

theorem C16_positiveDefinite_of (x : ℝ) (u r : List (Array ℝ)) (h : 0 ≤ x ∧ (x = 0 ↔ u = r)) :
    C16PositiveDefinite (some x) u r :=
  ⟨x, rfl, h.1, h.2, fun hne => lt_of_le_of_ne h.1 (fun he => hne (h.2.mp he.symm))⟩

/-- all three absolute metrics are non-negative, zero exactly for `u = r`, positive otherwise -/
theorem C16_generated_absolute_positive (D N : ℕ) (hN : 0 < N) (L : ℝ) (hL : 0 < L) (u r : List (Array ℝ))
    (hlen : u.length = r.length) (hu : OnGrid D N u) (hr : OnGrid D N r) :
    C16PositiveDefinite (MSE D N u (some r) L) u r ∧ C16PositiveDefinite (RMSE D N u (some r) L) u r ∧
    C16PositiveDefinite (MAE D N u (some r) L) u r := by
  have h := sameShape_of_grid D N u r hlen hu hr
  simp only [MSE_eq, RMSE_eq, MAE_eq]
  have pd := fun p q hp hq =>
    C16_positiveDefinite_of _ u r (spatialModel_zero_nonneg_eq_zero_iff D N L p q hp hq hL hN u r h)
  exact ⟨pd _ _ lit_two_pos lit_one_pos, pd _ _ lit_two_pos qlit_half_pos, pd _ _ lit_one_pos lit_one_pos⟩

/-- `MSE(u, r) > 0` when `u ≠ r` on the grid (and it is `0` only for `u = r`) -/
theorem C16_generated_MSE_positive (D N : ℕ) (hN : 0 < N) (L : ℝ) (hL : 0 < L) (u r : List (Array ℝ))
    (hlen : u.length = r.length) (hu : OnGrid D N u) (hr : OnGrid D N r) :
    ∃ v, MSE D N u (some r) L = some v ∧ 0 ≤ v ∧ (v = 0 ↔ u = r) ∧ (u ≠ r → 0 < v) :=
  (C16_generated_absolute_positive D N hN L hL u r hlen hu hr).1

/-- the normalized and symmetric variants too, when no channel of the reference vanishes identically -/
theorem C16_generated_relative_positive (D N : ℕ) (hN : 0 < N) (L : ℝ) (hL : 0 < L) (u r : List (Array ℝ))
    (hlen : u.length = r.length) (hu : OnGrid D N u) (hr : OnGrid D N r) (hnz : ChannelsNonzero r) :
    C16PositiveDefinite (nMSE D N u r L) u r ∧ C16PositiveDefinite (nRMSE D N u r L) u r ∧
    C16PositiveDefinite (nMAE D N u r L) u r ∧ C16PositiveDefinite (sMSE D N u r L) u r ∧
    C16PositiveDefinite (sRMSE D N u r L) u r ∧ C16PositiveDefinite (sMAE D N u r L) u r := by
  have h := sameShape_of_grid D N u r hlen hu hr
  simp only [nMSE_eq, nRMSE_eq, nMAE_eq, sMSE_eq, sRMSE_eq, sMAE_eq]
  have pd1 := fun p q hp hq =>
    C16_positiveDefinite_of _ u r (spatialModel_one_nonneg_eq_zero_iff D N L p q hp hq hL hN u r h hnz)
  have pd2 := fun p q hp hq =>
    C16_positiveDefinite_of _ u r (spatialModel_two_nonneg_eq_zero_iff D N L p q hp hq hL hN u r h hnz)
  exact ⟨pd1 _ _ lit_two_pos lit_one_pos, pd1 _ _ lit_two_pos qlit_half_pos, pd1 _ _ lit_one_pos lit_one_pos,
    pd2 _ _ lit_two_pos lit_one_pos, pd2 _ _ lit_two_pos qlit_half_pos, pd2 _ _ lit_one_pos lit_one_pos⟩

/-! ### non-vacuity: two different whole one-channel states on the `D = 1`, `N = 2` grid with a nowhere-vanishing
reference satisfy all hypotheses, so their `MSE` is positive -/

theorem onGrid_singleton (D N : ℕ) (a : Array ℝ) (ha : a.size = N ^ D) : OnGrid D N [a] :=
  List.forall_mem_singleton.2 ha

example : OnGrid 1 2 [#[1, 2]] ∧ OnGrid 1 2 [#[1, 3]] ∧ ChannelsNonzero [#[1, 3]] ∧
    ([#[1, 2]] : List (Array ℝ)) ≠ [#[1, 3]] ∧ ([#[1, 2]] : List (Array ℝ)).length = [#[1, 3]].length := by
  refine ⟨onGrid_singleton 1 2 _ rfl, onGrid_singleton 1 2 _ rfl, ?_, ?_, rfl⟩
  · exact List.forall_mem_singleton.2 ⟨1, by simp, one_ne_zero⟩
  · intro h
    norm_num at h

example : ∃ v, MSE 1 2 [#[1, 2]] (some [#[1, 3]]) (1 : ℝ) = some v ∧ 0 < v := by
  obtain ⟨v, hv, _, _, hpos⟩ := C16_generated_MSE_positive 1 2 (by norm_num) 1 one_pos [#[1, 2]] [#[1, 3]] rfl
    (onGrid_singleton 1 2 _ rfl) (onGrid_singleton 1 2 _ rfl)
  exact ⟨v, hv, hpos (by norm_num)⟩

end Exponax
