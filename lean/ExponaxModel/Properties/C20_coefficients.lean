import ExponaxModel.Properties.C20
import ExponaxModel.Proofs.StepperWiringArgs
/-
C20 — vector-valued coefficients are not broadcast.  The constructors of `Advection`, `AdvectionDiffusion` and
`Dispersion` (regenerated from their `__init__` by the wiring translator on every run) store a vector argument UNCHANGED and
expand only a scalar to `D` equal entries; the stored vector then meets the velocity-shape guard of
`build_gradient_inner_product_operator` (regenerated from `_spectral.py`), which accepts exactly the shape `(D,)`.  Hence a
coefficient vector of any length other than `D` — length 1 included — is refused, never spread over the axes.
Separate file because `Proofs/StepperWiringArgs.lean` builds on `Properties/C13.lean`.
-/
namespace Exponax

open Exponax.StepperWiringEq Exponax.Gen.StepperWiring in
/-- a vector argument is stored as it is (all three classes) -/
theorem C20_vector_coefficient_stored_unchanged (v : List ℂ) :
    Advection_init_velocity_vector v = v ∧ AdvectionDiffusion_init_velocity_vector v = v ∧
      Dispersion_init_dispersivity_vector v = v :=
  ⟨Advection_init_velocity_vector_eq v, AdvectionDiffusion_init_velocity_vector_eq v,
   Dispersion_init_dispersivity_vector_eq v⟩

open Exponax.StepperWiringEq Exponax.Gen.StepperWiring in
/-- only a scalar is expanded, to `D` equal entries -/
theorem C20_scalar_coefficient_replicated (D : ℕ) (v : ℂ) :
    Advection_init_velocity_scalar D v = List.replicate D v ∧
      AdvectionDiffusion_init_velocity_scalar D v = List.replicate D v ∧
      Dispersion_init_dispersivity_scalar D v = List.replicate D v :=
  ⟨Advection_init_velocity_scalar_eq D v, AdvectionDiffusion_init_velocity_scalar_eq D v,
   Dispersion_init_dispersivity_scalar_eq D v⟩

open Exponax.Guards Exponax.Gen.Guards Exponax.StepperWiringEq Exponax.Gen.StepperWiring in
/-- the stored vector of length `n` (stated for `Advection`; the other two classes store theirs the same way) passes
    the regenerated guard (odd order) iff `n = D` -/
theorem C20_vector_coefficient_guard (D n order : ℕ) (rest : List ℕ) (v : List ℂ) (hv : v.length = n)
    (ho : order % 2 = 1) :
    build_gradient_inner_product_operator_accepts (D :: rest) [(Advection_init_velocity_vector v).length] order = true
      ↔ n = D := by
  rw [Advection_init_velocity_vector_eq, hv, build_gradient_inner_product_operator_accepts_cons]
  simp [gradInnerOrderOk, velocityShapeOk, ho]

/-- non-vacuity: a length-1 vector in D = 2 is refused, a length-2 vector accepted -/
example : Exponax.Gen.Guards.build_gradient_inner_product_operator_accepts [2, 6, 4] [1] 1 = false ∧
    Exponax.Gen.Guards.build_gradient_inner_product_operator_accepts [2, 6, 4] [2] 1 = true := by decide

end Exponax
