import ExponaxModel.Properties.C18
import ExponaxModel.Proofs.ICOutputSpectrum
/-
C18 — the spectrum OF THE RETURNED ARRAY.

`C18_band_confined`, `C18_diffused_noise_contract` and `C18_gaussian_random_field_contract` describe the half spectrum
HANDED TO `irfftn`.  `irfftn` keeps only the Hermitian part of its argument, so "the output has no Fourier content
outside the cutoff", "the output has mean = offset" and "the output spectrum is the shaped white-noise spectrum" need
the handed-over spectrum to be realisable (Hermitian on the self-conjugate columns: last-axis wavenumber `0`, and Nyquist
for even `N`).  For REAL white noise (and a real offset / real intensity and extent) it is: the mask, the diffusion factor
and the power-law amplitude are real and depend on the `|k_d|` only.  Hence `rfftn(output) = handed-over spectrum` as
whole arrays, for every `D ≥ 1`, `N ≥ 1` (even `N` included).

"Real" is expressed on the model's complex arrays as `im = 0` on the `N^D` grid entries (the size of the noise array is
irrelevant: the transform reads through `getD`).
-/
namespace Exponax
open Exponax.IC Exponax.Layout Exponax.Transform

/-- truncated Fourier series, real white noise and real offset: the half spectrum of the RETURNED array is, as a whole
    array, the truncated spectrum that was handed to `irfftn` (`IC.truncatedSpectrum`, read off in `C18_band_confined`) -/
theorem C18_truncated_series_output_spectrum (D N cutoff : ℕ) (hD : 1 ≤ D) (hN : 1 ≤ N) (offset : ℂ)
    (ho : offset.im = 0) (noise : Array ℂ) (hn : ∀ j < N ^ D, (noise.getD j 0).im = 0) :
    rfftnM D N (IC.truncatedSeries D N cutoff offset noise) = IC.truncatedSpectrum D N cutoff offset noise := by
  rw [truncatedSeries_eq]
  exact C2R.rfftn_irfftn_of_realisable D N hD hN _
    (ICOut.truncatedSpectrum_realisable D N cutoff hD hN offset ho noise hn)

/-- … hence the RETURNED array has no Fourier content outside the cutoff box: every stored coefficient of the output
    is `offset·N^D` at the mean mode, the white-noise coefficient where all `|k_d| ≤ cutoff`, and ZERO at every other
    stored mode; and the output is a real grid state of `N^D` entries -/
theorem C18_truncated_series_output_band_confined (D N cutoff : ℕ) (hD : 1 ≤ D) (hN : 1 ≤ N) (offset : ℂ)
    (ho : offset.im = 0) (noise : Array ℂ) (hn : ∀ j < N ^ D, (noise.getD j 0).im = 0) :
    (∀ h < numModes D N,
      (rfftnM D N (IC.truncatedSeries D N cutoff offset noise)).getD h 0 =
        if h = 0 then offset * (N : ℂ) ^ D
        else if ∀ kd ∈ wnFlat D N h, |kd| ≤ (cutoff : ℤ) then (rfftnM D N noise).getD h 0 else 0) ∧
    (∀ h < numModes D N, h ≠ 0 → (∃ kd ∈ wnFlat D N h, (cutoff : ℤ) < |kd|) →
      (rfftnM D N (IC.truncatedSeries D N cutoff offset noise)).getD h 0 = 0) ∧
    C2R.RealState D N (IC.truncatedSeries D N cutoff offset noise) := by
  rw [C18_truncated_series_output_spectrum D N cutoff hD hN offset ho noise hn]
  exact ⟨fun h hh => truncatedSpectrum_getD D N cutoff offset noise h hh,
    fun h hh h0 hk => truncatedSpectrum_outside D N cutoff offset noise h hh h0 hk,
    ICOut.truncatedSeries_realState D N cutoff offset noise⟩

/-- … and the grid mean of the RETURNED array is the requested offset: `jnp.mean(output) = offset`, the grid sum is
    `offset·N^D` (both for ANY noise array — the mean mode is overwritten), and the stored mean mode of the output's
    spectrum is `offset·N^D` (real noise) -/
theorem C18_truncated_series_output_mean_is_offset (D N cutoff : ℕ) (hD : 1 ≤ D) (hN : 1 ≤ N) (offset : ℂ)
    (ho : offset.im = 0) (noise : Array ℂ) :
    IC.mean (IC.truncatedSeries D N cutoff offset noise) = offset ∧
    (∑ j ∈ Finset.range (N ^ D), (IC.truncatedSeries D N cutoff offset noise).getD j 0) = offset * (N : ℂ) ^ D ∧
    ((∀ j < N ^ D, (noise.getD j 0).im = 0) →
      (rfftnM D N (IC.truncatedSeries D N cutoff offset noise)).getD 0 0 = offset * (N : ℂ) ^ D) := by
  refine ⟨ICOut.mean_truncatedSeries D N cutoff hD hN offset ho noise,
    ICOut.sum_truncatedSeries D N cutoff hD hN offset ho noise, fun hn => ?_⟩
  rw [C18_truncated_series_output_spectrum D N cutoff hD hN offset ho noise hn]
  exact truncatedSpectrum_zero D N cutoff offset noise (shapeSize_pos _ (wavenumberShape_pos D N hN))

open Exponax.Gen.ICGen in
/-- the same about the REGENERATED `RandomTruncatedFourierSeries.__call__` when no normalisation is active (offset
    range not `(0, 0)`, `std_one = max_one = False`): the spectrum of what the generator returns is the truncated spectrum -/
theorem C18_generated_truncated_series_output_spectrum (D cutoff : ℕ) (orange : ℂ × ℂ) (N : ℕ) (hD : 1 ≤ D)
    (hN : 1 ≤ N) (hr : (HasIsZero.isZero orange.1 && HasIsZero.isZero orange.2) = false) (offset : ℂ)
    (ho : offset.im = 0) (noise : Array ℂ) (hn : ∀ j < N ^ D, (noise.getD j 0).im = 0) :
    rfftnM D N (RandomTruncatedFourierSeries_call D cutoff orange false false N noise offset)
      = IC.truncatedSpectrum D N cutoff offset noise := by
  rw [C18_generated_truncated_series, hr, ICOut.normalizeIc_off]
  exact C18_truncated_series_output_spectrum D N cutoff hD hN offset ho noise hn

/-- diffused noise, real white noise, real intensity `ν` and real extent `L` (no sign condition is needed; in
    particular `ν ≥ 0`, `L > 0`): the half spectrum of the un-normalised RETURNED array is, as a whole array,
    `kernel ⊙ rfftn(noise)` with `kernel_h = exp(−ν (2π/L)² |k(h)|²)` -/
theorem C18_diffused_noise_output_spectrum (D N : ℕ) (hD : 1 ≤ D) (hN : 1 ≤ N) (L ν : ℝ) (noise : Array ℂ)
    (hn : ∀ j < N ^ D, (noise.getD j 0).im = 0) :
    rfftnM D N (irfftnM D N (IC2.diffusedSpectrum D N (L : ℂ) (ν : ℂ) noise))
        = IC2.diffusedSpectrum D N (L : ℂ) (ν : ℂ) noise ∧
    IC2.diffusedSpectrum D N (L : ℂ) (ν : ℂ) noise
        = tab (numModes D N) (fun h => IC2.diffusionKernel D N (L : ℂ) (ν : ℂ) h * (rfftnM D N noise).getD h 0) ∧
    ∀ h < numModes D N,
      (rfftnM D N (irfftnM D N (IC2.diffusedSpectrum D N (L : ℂ) (ν : ℂ) noise))).getD h 0
        = ((Real.exp (-(ν * ((2 * Real.pi / L) * (2 * Real.pi / L)) * ((normSq (wnFlat D N h) : ℤ) : ℝ))) : ℝ) : ℂ)
            * (rfftnM D N noise).getD h 0 := by
  refine ⟨ICOut.rfftn_irfftn_diffusedSpectrum D N hD hN L ν noise hn, rfl, ?_⟩
  intro h hh
  rw [ICOut.rfftn_irfftn_diffusedSpectrum D N hD hN L ν noise hn]
  unfold IC2.diffusedSpectrum IC2.diffusionKernel
  rw [DFT.tab_getD _ _ _ _ hh]
  simp

open Exponax.Gen.IC2 in
/-- the same about the REGENERATED `DiffusedNoise.__call__` with all normalisation flags off: the spectrum of what the
    generator returns is `kernel ⊙ rfftn(white noise)` -/
theorem C18_generated_diffused_noise_output_spectrum {Key : Type} (wn : ℕ → Key → Array ℂ) (D N : ℕ) (L ν : ℝ)
    (key : Key) (hD : 1 ≤ D) (hN : 1 ≤ N) (hn : ∀ j < N ^ D, ((wn N key).getD j 0).im = 0) :
    rfftnM D N (DiffusedNoise_call wn (DiffusedNoise_init D (L : ℂ) (ν : ℂ) false false false) N key)
      = IC2.diffusedSpectrum D N (L : ℂ) (ν : ℂ) (wn N key) := by
  rw [(C18_diffused_noise_contract wn D N (L : ℂ) (ν : ℂ) false false false key hD hN).1, ICOut.normalizeIc_off]
  exact ICOut.rfftn_irfftn_diffusedSpectrum D N hD hN L ν (wn N key) hn

/-- Gaussian random field, real white noise: the half spectrum of the un-normalised RETURNED array is, as a whole
    array, the power-law shaped white-noise spectrum (mean mode untouched, other modes × `‖2π/L·k‖^(−e/2)`).  Holds
    for EVERY `L`, `e` because the model's real power (`HasRpow ℂ`) acts on real parts, so the amplitude is real -/
theorem C18_gaussian_random_field_output_spectrum (D N : ℕ) (hD : 1 ≤ D) (hN : 1 ≤ N) (L e : ℂ) (noise : Array ℂ)
    (hn : ∀ j < N ^ D, (noise.getD j 0).im = 0) :
    rfftnM D N (irfftnM D N (IC2.grfSpectrum D N L e noise)) = IC2.grfSpectrum D N L e noise ∧
    ∀ h < numModes D N,
      (rfftnM D N (irfftnM D N (IC2.grfSpectrum D N L e noise))).getD h 0
        = (rfftnM D N noise).getD h 0 * if h = 0 then 1 else HasRpow.rpow (IC2.wnNorm D N L h) (-e / 2) := by
  refine ⟨ICOut.rfftn_irfftn_grfSpectrum D N hD hN L e noise hn, ?_⟩
  intro h hh
  rw [ICOut.rfftn_irfftn_grfSpectrum D N hD hN L e noise hn]
  unfold IC2.grfSpectrum IC2.powerLawAmplitude
  rw [DFT.tab_getD _ _ _ _ hh]
  by_cases h0 : h = 0 <;> simp [h0]

open Exponax.Gen.IC2 in
/-- the same about the REGENERATED `GaussianRandomField.__call__` with all normalisation flags off -/
theorem C18_generated_gaussian_random_field_output_spectrum {Key : Type} (wn : ℕ → Key → Array ℂ) (D N : ℕ)
    (L e : ℂ) (key : Key) (hD : 1 ≤ D) (hN : 1 ≤ N) (hn : ∀ j < N ^ D, ((wn N key).getD j 0).im = 0) :
    rfftnM D N (GaussianRandomField_call wn (GaussianRandomField_init D L e false false false) N key)
      = IC2.grfSpectrum D N L e (wn N key) := by
  rw [(C18_gaussian_random_field_contract wn D N L e false false false key hD hN).1, ICOut.normalizeIc_off]
  exact ICOut.rfftn_irfftn_grfSpectrum D N hD hN L e (wn N key) hn

/-- the hypotheses are satisfiable: a real offset and a real, non-constant noise array on the even grid `N = 4`
    (`D = 1`), and on the `2 × 2` grid -/
example : ((3 : ℂ)).im = 0 ∧ (∀ j < 4 ^ 1, ((#[(1 : ℂ), -1, 2, 0] : Array ℂ).getD j 0).im = 0) ∧
    (∀ j < 2 ^ 2, ((#[(1 : ℂ), -1, 2, 0] : Array ℂ).getD j 0).im = 0) := by
  refine ⟨by simp, ?_, ?_⟩ <;>
  · intro j hj
    have : j = 0 ∨ j = 1 ∨ j = 2 ∨ j = 3 := by omega
    rcases this with rfl | rfl | rfl | rfl <;> simp

/-- … so the conclusions hold for them (cutoff `1` on `N = 4`: the Nyquist mode is removed from the OUTPUT) -/
example : rfftnM 1 4 (IC.truncatedSeries 1 4 1 3 #[(1 : ℂ), -1, 2, 0]) = IC.truncatedSpectrum 1 4 1 3 #[(1 : ℂ), -1, 2, 0] ∧
    IC.mean (IC.truncatedSeries 1 4 1 3 #[(1 : ℂ), -1, 2, 0]) = 3 := by
  have hn : ∀ j < 4 ^ 1, ((#[(1 : ℂ), -1, 2, 0] : Array ℂ).getD j 0).im = 0 := by
    intro j hj
    have : j = 0 ∨ j = 1 ∨ j = 2 ∨ j = 3 := by omega
    rcases this with rfl | rfl | rfl | rfl <;> simp
  exact ⟨C18_truncated_series_output_spectrum 1 4 1 (by norm_num) (by norm_num) 3 (by simp) _ hn,
    (C18_truncated_series_output_mean_is_offset 1 4 1 (by norm_num) (by norm_num) 3 (by simp) _).1⟩

/-- the stored modes outside the cutoff exist (so "zero outside" is not an empty statement): on `N = 4`, `D = 1`,
    cutoff `1`, the Nyquist mode `h = 2` is a stored non-mean mode with `|k| = 2 > 1` -/
example : (2 : ℕ) < numModes 1 4 ∧ (2 : ℕ) ≠ 0 ∧ ∃ kd ∈ wnFlat 1 4 2, ((1 : ℕ) : ℤ) < |kd| := by decide

/-- diffused noise with `ν = 1/10 ≥ 0`, `L = 1 > 0` on the `2 × 2` grid -/
example : rfftnM 2 2 (irfftnM 2 2 (IC2.diffusedSpectrum 2 2 ((1 : ℝ) : ℂ) (((1 : ℝ) / 10 : ℝ) : ℂ) #[(1 : ℂ), -1, 2, 0]))
    = IC2.diffusedSpectrum 2 2 ((1 : ℝ) : ℂ) (((1 : ℝ) / 10 : ℝ) : ℂ) #[(1 : ℂ), -1, 2, 0] := by
  refine (C18_diffused_noise_output_spectrum 2 2 (by norm_num) (by norm_num) 1 (1 / 10) _ ?_).1
  intro j hj
  have : j = 0 ∨ j = 1 ∨ j = 2 ∨ j = 3 := by omega
  rcases this with rfl | rfl | rfl | rfl <;> simp

end Exponax
