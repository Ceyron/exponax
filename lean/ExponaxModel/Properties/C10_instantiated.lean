import ExponaxModel.Properties.C10
import ExponaxModel.Proofs.IncompressibleSteps3d
/-
C10 — `C10_step_preserves` / `C10_rollout_preserves` instantiated with the 3-D rotational term itself (with or
without Kolmogorov injection): every ETDRK order and every rollout of the velocity stepper maps divergence-free spectra to
divergence-free spectra.  Separate file because the bridge lemma builds on `Properties/C10.lean` (no import cycle).
-/
set_option linter.unusedVariables false
namespace Exponax

open Exponax.SmallGaps in
theorem C10_proj3d_divfree_every_index :
    ∀ (c : Nonlin.Cfg ℂ) (s : ℝ),
      c.s = ↑s →
        s ≠ 0 →
          c.D ≤ 3 →
            ∀ (inj : Option (ℕ × ℂ)) (uh : Nonlin.MC ℂ) (h : ℕ),
              sumList
                  (List.map (fun d ↦ Nonlin.deriv c d h * Nonlin.at2 (Nonlin.projected3d c inj uh) d h) (List.range c.D)) =
                0 :=
  fun c s hs hs0 hD inj uh h => by
    rcases Nat.lt_or_ge h (Nonlin.modes c) with hh | hh
    · exact C10_proj3d_divfree c s hs hs0 hD inj uh h hh
    · apply Nonlin.sumList_range_zero
      intro d
      rw [Nonlin.projected3d_at2_out c inj uh d h (Or.inr hh), mul_zero]

open Exponax.SmallGaps in
theorem C10_velocity_step_preserves :
    ∀ (c : Nonlin.Cfg ℂ) (s : ℝ),
      c.s = ↑s →
        s ≠ 0 →
          c.D ≤ 3 →
            ∀ (inj : Option (ℕ × ℂ)) (e eh a1 a2 a3 a4 a5 a6 : ℕ → ℂ) (U : ℕ → ℕ → ℂ),
              DivFree c U →
                have b := fun x h x_1 ↦ x h;
                have N := liftModeFirst c 3 (Nonlin.projected3d c inj);
                DivFree c (Gen.Etdrk.E0step (b e) U) ∧
                  DivFree c (Gen.Etdrk.E1step (b e) (b a1) N U) ∧
                    DivFree c (Gen.Etdrk.E2step (b e) (b a1) (b a2) N U) ∧
                      DivFree c (Gen.Etdrk.E3step (b e) (b eh) (b a1) (b a2) (b a3) (b a4) (b a5) N U) ∧
                        DivFree c (Gen.Etdrk.E4step (b e) (b eh) (b a1) (b a2) (b a3) (b a4) (b a5) (b a6) N U) :=
  fun c s hs hs0 hD inj e eh a1 a2 a3 a4 a5 a6 U hU =>
    C10_step_preserves c e eh a1 a2 a3 a4 a5 a6 _ (projected3d_lift_divFree c s hs hs0 hD inj) U hU

open Exponax.SmallGaps in
theorem C10_velocity_rollout_preserves :
    ∀ (c : Nonlin.Cfg ℂ) (s : ℝ),
      c.s = ↑s →
        s ≠ 0 →
          c.D ≤ 3 →
            ∀ (inj : Option (ℕ × ℂ)) (e eh a1 a2 a3 a4 a5 a6 : ℕ → ℂ) (n : ℕ) (U : ℕ → ℕ → ℂ),
              DivFree c U →
                have b := fun x h x_1 ↦ x h;
                have N := liftModeFirst c 3 (Nonlin.projected3d c inj);
                DivFree c ((Gen.Etdrk.E0step (b e))^[n] U) ∧
                  DivFree c ((Gen.Etdrk.E1step (b e) (b a1) N)^[n] U) ∧
                    DivFree c ((Gen.Etdrk.E2step (b e) (b a1) (b a2) N)^[n] U) ∧
                      DivFree c ((Gen.Etdrk.E3step (b e) (b eh) (b a1) (b a2) (b a3) (b a4) (b a5) N)^[n] U) ∧
                        DivFree c ((Gen.Etdrk.E4step (b e) (b eh) (b a1) (b a2) (b a3) (b a4) (b a5) (b a6) N)^[n] U) :=
  fun c s hs hs0 hD inj e eh a1 a2 a3 a4 a5 a6 n U hU => by
    intro b N
    have S := fun W hW => C10_velocity_step_preserves c s hs hs0 hD inj e eh a1 a2 a3 a4 a5 a6 W hW
    exact ⟨C10_rollout_preserves c _ (fun W hW => (S W hW).1) n U hU,
      C10_rollout_preserves c _ (fun W hW => (S W hW).2.1) n U hU,
      C10_rollout_preserves c _ (fun W hW => (S W hW).2.2.1) n U hU,
      C10_rollout_preserves c _ (fun W hW => (S W hW).2.2.2.1) n U hU,
      C10_rollout_preserves c _ (fun W hW => (S W hW).2.2.2.2) n U hU⟩

end Exponax
