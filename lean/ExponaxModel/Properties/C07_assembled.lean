import ExponaxModel.Proofs.LinearAssembled
/-
C07 (continuation) — "for linear steppers the Jacobian is the linear map itself; the same holds through rollouts", on the
ASSEMBLED REGENERATED steps.

`Properties/C07.lean` (`C07_linear_jacobian_whole_state`, `C07_linear_rollout_jacobian`) proves the clause for the
hand-written model step `linearStepTerm` with an ARBITRARY coefficient array.  Here it is tied to the steps assembled from
the regenerated pieces (`Proofs/InterfaceAssembly2.lean`, `Proofs/InterfaceLinear.lean`: regenerated `__init__` wiring,
regenerated `_build_linear_operator`, regenerated `_build_nonlinear_fun`, regenerated ETDRK coefficients and stage
formulas): each of the six linear steppers, and every `n`-fold iterate, is a ℂ-linear map on whole stored spectra
`Spec = ℕ → ℕ → ℂ` (pointwise operations), hence its own linearisation: `step (u + h) − step u = step h` for every base
point and every increment, so the derivative at `u` in direction `h` (what `jax.jvp` / `jax.jacfwd` return) is `step h`,
independent of `u`.  `Spec` carries no norm (all sequences), so the statement is the algebraic one; the normed-space
`HasFDerivAt` form on the finite physical grid is `C07_linear_jacobian_whole_state`.
JAX's AD engine is observed by the check, not modelled.
-/
namespace Exponax
open Exponax.Interface Exponax.Gen.Etdrk Exponax.Gen.StepperWiring Exponax.Gen.Steppers

/-- **the six linear steppers are linear maps.**  For ALL constructor arguments (dimension, extent, resolution, `dt`,
    velocity scalar / vector, diffusivity scalar / vector / matrix, dispersivity, hyper-diffusivity, mixing flags,
    coefficient list) the assembled regenerated step of `GeneralLinearStepper`, `Advection`, `Diffusion`,
    `AdvectionDiffusion`, `Dispersion`, `HyperDiffusion` satisfies `step (a • u + v) = a • step u + step v` for every
    complex `a` and all spectra `u`, `v` (equivalently: it is `IsLinearMap ℂ`). -/
theorem C07_assembled_linear_steppers_are_linear_maps (a : ℂ) (u v : Spec) :
    (∀ g : GeneralLinearStepperArgs ℂ,
      GeneralLinearStepper_step g (a • u + v) = a • GeneralLinearStepper_step g u + GeneralLinearStepper_step g v) ∧
    (∀ x : AdvectionArgs ℂ, Advection_step x (a • u + v) = a • Advection_step x u + Advection_step x v) ∧
    (∀ x : DiffusionArgs ℂ, Diffusion_step x (a • u + v) = a • Diffusion_step x u + Diffusion_step x v) ∧
    (∀ x : AdvectionDiffusionArgs ℂ,
      AdvectionDiffusion_step x (a • u + v) = a • AdvectionDiffusion_step x u + AdvectionDiffusion_step x v) ∧
    (∀ x : DispersionArgs ℂ, Dispersion_step x (a • u + v) = a • Dispersion_step x u + Dispersion_step x v) ∧
    (∀ x : HyperDiffusionArgs ℂ,
      HyperDiffusion_step x (a • u + v) = a • HyperDiffusion_step x u + HyperDiffusion_step x v) :=
  ⟨fun g => GeneralLinearStepper_step_specLinear g a u v, fun x => Advection_step_specLinear x a u v,
   fun x => Diffusion_step_specLinear x a u v, fun x => AdvectionDiffusion_step_specLinear x a u v,
   fun x => Dispersion_step_specLinear x a u v, fun x => HyperDiffusion_step_specLinear x a u v⟩

/-- the same as Mathlib's `IsLinearMap ℂ` (additivity and homogeneity separately) -/
theorem C07_assembled_linear_steppers_isLinearMap :
    (∀ g : GeneralLinearStepperArgs ℂ, IsLinearMap ℂ (GeneralLinearStepper_step g)) ∧
    (∀ x : AdvectionArgs ℂ, IsLinearMap ℂ (Advection_step x)) ∧
    (∀ x : DiffusionArgs ℂ, IsLinearMap ℂ (Diffusion_step x)) ∧
    (∀ x : AdvectionDiffusionArgs ℂ, IsLinearMap ℂ (AdvectionDiffusion_step x)) ∧
    (∀ x : DispersionArgs ℂ, IsLinearMap ℂ (Dispersion_step x)) ∧
    (∀ x : HyperDiffusionArgs ℂ, IsLinearMap ℂ (HyperDiffusion_step x)) :=
  ⟨fun g => (GeneralLinearStepper_step_specLinear g).isLinearMap, fun x => (Advection_step_specLinear x).isLinearMap,
   fun x => (Diffusion_step_specLinear x).isLinearMap, fun x => (AdvectionDiffusion_step_specLinear x).isLinearMap,
   fun x => (Dispersion_step_specLinear x).isLinearMap, fun x => (HyperDiffusion_step_specLinear x).isLinearMap⟩

/-- **… through rollouts.**  Every `n`-fold iterate of each of the six assembled steps is a linear map. -/
theorem C07_assembled_linear_rollouts_are_linear_maps (n : ℕ) (a : ℂ) (u v : Spec) :
    (∀ g : GeneralLinearStepperArgs ℂ,
      (GeneralLinearStepper_step g)^[n] (a • u + v)
        = a • (GeneralLinearStepper_step g)^[n] u + (GeneralLinearStepper_step g)^[n] v) ∧
    (∀ x : AdvectionArgs ℂ,
      (Advection_step x)^[n] (a • u + v) = a • (Advection_step x)^[n] u + (Advection_step x)^[n] v) ∧
    (∀ x : DiffusionArgs ℂ,
      (Diffusion_step x)^[n] (a • u + v) = a • (Diffusion_step x)^[n] u + (Diffusion_step x)^[n] v) ∧
    (∀ x : AdvectionDiffusionArgs ℂ,
      (AdvectionDiffusion_step x)^[n] (a • u + v)
        = a • (AdvectionDiffusion_step x)^[n] u + (AdvectionDiffusion_step x)^[n] v) ∧
    (∀ x : DispersionArgs ℂ,
      (Dispersion_step x)^[n] (a • u + v) = a • (Dispersion_step x)^[n] u + (Dispersion_step x)^[n] v) ∧
    (∀ x : HyperDiffusionArgs ℂ,
      (HyperDiffusion_step x)^[n] (a • u + v)
        = a • (HyperDiffusion_step x)^[n] u + (HyperDiffusion_step x)^[n] v) :=
  ⟨fun g => (GeneralLinearStepper_step_specLinear g).iterate n a u v,
   fun x => (Advection_step_specLinear x).iterate n a u v,
   fun x => (Diffusion_step_specLinear x).iterate n a u v,
   fun x => (AdvectionDiffusion_step_specLinear x).iterate n a u v,
   fun x => (Dispersion_step_specLinear x).iterate n a u v,
   fun x => (HyperDiffusion_step_specLinear x).iterate n a u v⟩

/-- **the step is its own Jacobian, also through rollouts.**  For every number of steps `n` (one step: `n = 1`), every
    base point `u` and every increment `h` (of any size): `step^n (u + h) − step^n u = step^n h`.  The linearisation of
    the rollout at `u` applied to `h` is the rollout of `h`; it does not depend on `u`. -/
theorem C07_assembled_linear_step_is_its_own_jacobian (n : ℕ) (u h : Spec) :
    (∀ g : GeneralLinearStepperArgs ℂ,
      (GeneralLinearStepper_step g)^[n] (u + h) - (GeneralLinearStepper_step g)^[n] u
        = (GeneralLinearStepper_step g)^[n] h) ∧
    (∀ x : AdvectionArgs ℂ, (Advection_step x)^[n] (u + h) - (Advection_step x)^[n] u = (Advection_step x)^[n] h) ∧
    (∀ x : DiffusionArgs ℂ, (Diffusion_step x)^[n] (u + h) - (Diffusion_step x)^[n] u = (Diffusion_step x)^[n] h) ∧
    (∀ x : AdvectionDiffusionArgs ℂ,
      (AdvectionDiffusion_step x)^[n] (u + h) - (AdvectionDiffusion_step x)^[n] u
        = (AdvectionDiffusion_step x)^[n] h) ∧
    (∀ x : DispersionArgs ℂ,
      (Dispersion_step x)^[n] (u + h) - (Dispersion_step x)^[n] u = (Dispersion_step x)^[n] h) ∧
    (∀ x : HyperDiffusionArgs ℂ,
      (HyperDiffusion_step x)^[n] (u + h) - (HyperDiffusion_step x)^[n] u = (HyperDiffusion_step x)^[n] h) :=
  ⟨fun g => ((GeneralLinearStepper_step_specLinear g).iterate n).increment u h,
   fun x => ((Advection_step_specLinear x).iterate n).increment u h,
   fun x => ((Diffusion_step_specLinear x).iterate n).increment u h,
   fun x => ((AdvectionDiffusion_step_specLinear x).iterate n).increment u h,
   fun x => ((Dispersion_step_specLinear x).iterate n).increment u h,
   fun x => ((HyperDiffusion_step_specLinear x).iterate n).increment u h⟩

/-- the single step written out (`n = 1` of the previous theorem, without the iterate) for the generic linear stepper,
    together with the Jacobian's entries: the increment at mode `(ch, k)` is `exp(dt · λ_k) · h ch k` — a diagonal
    Jacobian with the propagator on the diagonal -/
theorem C07_assembled_general_linear_jacobian_entries (g : GeneralLinearStepperArgs ℂ) (u h : Spec) (ch k : ℕ) :
    GeneralLinearStepper_step g (u + h) - GeneralLinearStepper_step g u = GeneralLinearStepper_step g h ∧
    (GeneralLinearStepper_step g (u + h) - GeneralLinearStepper_step g u) ch k
      = Complex.exp (g.dt * Nonlin.polySymbol (cfgOf g.num_spatial_dims g.num_points g.domain_extent (0, 0))
          (generalLinear g.num_spatial_dims g.linear_coefficients) k) * h ch k := by
  have e := (GeneralLinearStepper_step_specLinear g).increment u h
  exact ⟨e, by rw [e, GeneralLinearStepper_step_apply]⟩

/-- **every order.**  The linear classes pass `order = 0` to `BaseStepper` (first clause: the regenerated base
    arguments).  The conclusion does not rest on that: `BaseStepper` assembled with ANY base arguments `b` — any order
    `b.order : ℕ` (0–4 the five ETDRK methods), `dt`, contour, grid —, ANY linear operator and the regenerated
    (identically zero) nonlinear function of the linear family is a linear map, so is every rollout, and it is its own
    linearisation; for `order ≤ 4` it is entrywise the multiplication by `exp_term dt λ`. -/
theorem C07_assembled_zero_nonlinear_fun_linear_for_every_order (b : BaseStepperArgs ℂ) (linop : List ℂ → ℂ)
    (g : GeneralLinearStepperArgs ℂ) :
    (GeneralLinearStepper_base_args g).order = 0 ∧
    (∀ (n : ℕ) (a : ℂ) (u v : Spec),
      (baseStep b linop (fun c => GeneralLinearStepper_stepper_nonlinear_fun c g))^[n] (a • u + v)
        = a • (baseStep b linop (fun c => GeneralLinearStepper_stepper_nonlinear_fun c g))^[n] u
          + (baseStep b linop (fun c => GeneralLinearStepper_stepper_nonlinear_fun c g))^[n] v) ∧
    (∀ (n : ℕ) (u h : Spec),
      (baseStep b linop (fun c => GeneralLinearStepper_stepper_nonlinear_fun c g))^[n] (u + h)
        - (baseStep b linop (fun c => GeneralLinearStepper_stepper_nonlinear_fun c g))^[n] u
        = (baseStep b linop (fun c => GeneralLinearStepper_stepper_nonlinear_fun c g))^[n] h) ∧
    (∀ (p : ℕ) (dt : ℂ) (lam : Spec) (M : ℕ) (r : ℂ) (a : ℂ) (u v : Spec),
      etdrkStep p dt lam M r (fun _ => 0) (a • u + v)
        = a • etdrkStep p dt lam M r (fun _ => 0) u + etdrkStep p dt lam M r (fun _ => 0) v) ∧
    (∀ (p : ℕ), p ≤ 4 → ∀ (dt : ℂ) (lam : Spec) (M : ℕ) (r : ℂ) (u : Spec) (ch k : ℕ),
      etdrkStep p dt lam M r (fun _ => 0) u ch k = exp_term dt (lam ch k) * u ch k) :=
  ⟨linear_family_order_eq_zero.1 g,
   fun n a u v => (baseStep_GeneralLinear_nonlin_specLinear b linop g).iterate n a u v,
   fun n u h => ((baseStep_GeneralLinear_nonlin_specLinear b linop g).iterate n).increment u h,
   fun p dt lam M r a u v => etdrkStep_zeroN_specLinear p dt lam M r a u v,
   fun p hp dt lam M r u ch k => etdrkStep_zeroN_apply p hp dt lam M r u ch k⟩

/-- order 0 alone: the exact propagator is linear whatever nonlinear map the class supplies (it is never evaluated) -/
theorem C07_assembled_order0_linear_for_any_nonlinear_fun (b : BaseStepperArgs ℂ) (hb : b.order = 0)
    (linop : List ℂ → ℂ) (nonlin : Nonlin.Cfg ℂ → Nonlin.MC ℂ → Nonlin.MC ℂ) (n : ℕ) (a : ℂ) (u v h : Spec) :
    (baseStep b linop nonlin)^[n] (a • u + v) = a • (baseStep b linop nonlin)^[n] u + (baseStep b linop nonlin)^[n] v ∧
    (baseStep b linop nonlin)^[n] (u + h) - (baseStep b linop nonlin)^[n] u = (baseStep b linop nonlin)^[n] h :=
  ⟨(baseStep_order0_specLinear b hb linop nonlin).iterate n a u v,
   ((baseStep_order0_specLinear b hb linop nonlin).iterate n).increment u h⟩

/-! non-vacuity: the theorems have no hypotheses beyond the constructor arguments; a concrete `GeneralLinearStepperArgs`
record exists, the step of a concrete `GeneralLinearStepper` is not the zero map (so linearity is not trivial), base
arguments with `order = 0` and with `order = 4` exist, and linearity is a real restriction on maps `Spec → Spec`. -/
example : ∃ g : GeneralLinearStepperArgs ℂ, g.num_spatial_dims = 1 ∧ g.linear_coefficients = [0, -1, 0.01] :=
  ⟨{ num_spatial_dims := 1, domain_extent := 1, num_points := 8, dt := 1, linear_coefficients := [0, -1, 0.01] },
   rfl, rfl⟩

example : ∃ (g : GeneralLinearStepperArgs ℂ) (u : Spec), GeneralLinearStepper_step g u ≠ 0 := by
  refine ⟨{ num_spatial_dims := 1, domain_extent := 1, num_points := 8, dt := 1, linear_coefficients := [] }, 1, ?_⟩
  intro h
  have h0 := congrFun (congrFun h 0) 0
  rw [GeneralLinearStepper_step_apply] at h0
  exact mul_ne_zero (Complex.exp_ne_zero _) one_ne_zero h0

example : ∃ b : BaseStepperArgs ℂ, b.order = 0 :=
  ⟨{ num_spatial_dims := 1, domain_extent := 1, num_points := 8, dt := 1, num_channels := 1, order := 0,
     num_circle_points := 16, circle_radius := 1 }, rfl⟩

example : ∃ b : BaseStepperArgs ℂ, b.order = 4 :=
  ⟨{ num_spatial_dims := 1, domain_extent := 1, num_points := 8, dt := 1, num_channels := 1, order := 4,
     num_circle_points := 16, circle_radius := 1 }, rfl⟩

example : ¬ SpecLinear (fun u : Spec => u * u) := by
  intro h
  have h1 := congrFun (congrFun (h 2 1 0) 0) 0
  norm_num at h1

end Exponax
