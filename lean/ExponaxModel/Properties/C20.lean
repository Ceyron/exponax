import ExponaxModel.Proofs.GuardsGenEq
/-
C20 — malformed states and unsupported configurations are rejected, not accepted.
First the decision logic (the accept/reject behaviour of every exported class is compared
exactly with these functions by the check), then the guards regenerated from the source, which are that logic.
-/
namespace Exponax
open Exponax.Layout Exponax.Guards

/-- a state is accepted iff its shape is exactly `(C, N, …, N)` with `D` spatial axes -/
theorem C20_accept_iff (C D N : ℕ) (shape : List ℕ) :
    acceptsShape C D N shape = true ↔ shape = C :: List.replicate D N :=
  acceptsShape_iff C D N shape

/-- no broadcasting: a different channel count is rejected -/
theorem C20_reject_channels (C C' D N : ℕ) (h : C' ≠ C) :
    acceptsShape C D N (C' :: List.replicate D N) = false :=
  acceptsShape_wrong_channels C C' D N _ h

/-- an extra leading (batch) axis is rejected -/
theorem C20_reject_batch_axis (B C D N : ℕ) :
    acceptsShape C D N (B :: C :: List.replicate D N) = false :=
  acceptsShape_wrong_ndim C D N _ (by simp)

/-- a missing spatial axis is rejected -/
theorem C20_reject_missing_axis (C D N : ℕ) :
    acceptsShape C (D + 1) N (C :: List.replicate D N) = false :=
  acceptsShape_missing_axis C D N

/-- any axis with a different number of points is rejected -/
theorem C20_reject_unequal_axis (C D N : ℕ) (sp : List ℕ) (h : ∃ n ∈ sp, n ≠ N) :
    acceptsShape C D N (C :: sp) = false := by
  obtain ⟨n, hn, hne⟩ := h
  rw [← Bool.not_eq_true, C20_accept_iff]
  intro hsp
  rw [(List.cons.inj hsp).2] at hn
  exact hne (List.eq_of_mem_replicate hn)

/-- accepted shapes are returned unchanged (the step is shape preserving by construction: the
    output has the shape the check accepted) -/
theorem C20_accepted_shape (C D N : ℕ) (shape : List ℕ) (h : acceptsShape C D N shape = true) :
    shape.length = D + 1 ∧ shape.head? = some C ∧ ∀ n ∈ shape.tail, n = N := by
  rw [C20_accept_iff] at h
  subst h
  refine ⟨by simp, rfl, ?_⟩
  intro n hn
  exact List.eq_of_mem_replicate hn

theorem C20_poisson_iff (D N : ℕ) (shape : List ℕ) :
    acceptsPoisson D N shape = true ↔ shape.drop 1 = List.replicate D N := by
  simp [acceptsPoisson, spatialShape]

theorem C20_dim_restriction (d D : ℕ) : dimOk (some d) D = true ↔ D = d := by simp [dimOk]
theorem C20_dim_unrestricted (D : ℕ) : dimOk none D = true := rfl

theorem C20_order_parity (order : ℕ) :
    (laplaceOrderOk order = true ↔ Even order) ∧ (gradInnerOrderOk order = true ↔ Odd order) := by
  simp [laplaceOrderOk, gradInnerOrderOk, Nat.even_iff, Nat.odd_iff]

/-- exactly one of the two operator families accepts a given order -/
theorem C20_order_exclusive (order : ℕ) : laplaceOrderOk order = !gradInnerOrderOk order := by
  simp only [laplaceOrderOk, gradInnerOrderOk]
  rcases Nat.mod_two_eq_zero_or_one order with h | h <;> simp [h]

/-- documented-invalid normalisation combinations of the generators -/
theorem C20_ic_options (zeroMean stdOne maxOne : Bool) :
    icNormOk zeroMean stdOne maxOne = false ↔ (zeroMean = false ∧ stdOne = true) ∨ (stdOne = true ∧ maxOne = true) := by
  revert zeroMean stdOne maxOne
  decide

theorem C20_metric_mode (mode : ℕ) (hasRef : Bool) :
    metricModeOk mode hasRef = false ↔ (hasRef = false ∧ mode ≠ 0) := by
  cases hasRef <;> simp [metricModeOk]

theorem C20_conv_channels (single : Bool) (C D : ℕ) :
    convChannelsOk single C D = true ↔ (single = true ∨ C = D) := by
  cases single <;> simp [convChannelsOk]

/-! ### the guards themselves, REGENERATED from every `if …: raise` of the source on every run
(`Gen.Guards.<Owner>_<function>_accepts` is `true` exactly when no raise site of that function is reached;
`harness/translate_guards.py`, 56 guarded functions, 77 raise sites) -/
open Exponax.Gen.Guards in
/-- every class with the stepper protocol accepts a state iff it has exactly the configured shape `(C, N, …, N)`;
    the forced stepper requires it of the state AND of the forcing -/
theorem C20_generated_call_guards (C D N : ℕ) (shape fshape : List ℕ) :
    (BaseStepper_call_accepts D N C shape = true ↔ shape = C :: List.replicate D N) ∧
    (RepeatedStepper_call_accepts D N C shape = true ↔ shape = C :: List.replicate D N) ∧
    (ForcedStepper_call_accepts D N C shape fshape = true ↔
      shape = C :: List.replicate D N ∧ fshape = C :: List.replicate D N) ∧
    (Poisson_call_accepts D N shape = true ↔ shape.drop 1 = List.replicate D N) :=
  ⟨BaseStepper_call_accepts_iff C D N shape, RepeatedStepper_call_accepts_iff C D N shape,
   ForcedStepper_call_accepts_iff D N C shape fshape, Poisson_call_accepts_iff shape D N⟩

open Exponax.Gen.Guards in
/-- no broadcasting over channels, no batch axis, no missing axis, no unequal axis — about the regenerated check -/
theorem C20_generated_rejects (C D N : ℕ) :
    (∀ C', C' ≠ C → BaseStepper_call_accepts D N C (C' :: List.replicate D N) = false) ∧
    (∀ B, BaseStepper_call_accepts D N C (B :: C :: List.replicate D N) = false) ∧
    (BaseStepper_call_accepts (D + 1) N C (C :: List.replicate D N) = false) ∧
    (∀ sp, (∃ n ∈ sp, n ≠ N) → BaseStepper_call_accepts D N C (C :: sp) = false) := by
  refine ⟨?_, ?_, ?_, ?_⟩
  · intro C' h
    rw [BaseStepper_call_accepts_eq]
    exact acceptsShape_wrong_channels C C' D N _ h
  · intro B
    rw [BaseStepper_call_accepts_eq]
    exact acceptsShape_wrong_ndim C D N _ (by simp)
  · rw [BaseStepper_call_accepts_eq]
    exact acceptsShape_missing_axis C D N
  · rintro sp ⟨n, hn, hne⟩
    rw [← Bool.not_eq_true, BaseStepper_call_accepts_iff]
    intro h
    simp only [List.cons.injEq, true_and] at h
    rw [h] at hn
    exact hne (List.eq_of_mem_replicate hn)

open Exponax.Gen.Guards in
/-- the dimension-restricted constructors and nonlinear terms accept exactly their documented dimension -/
theorem C20_generated_dimension_restrictions (D : ℕ) :
    (NavierStokesVorticity_init_accepts D = true ↔ D = 2) ∧
    (KolmogorovFlowVorticity_init_accepts D = true ↔ D = 2) ∧
    (GeneralVorticityConvectionStepper_init_accepts D = true ↔ D = 2) ∧
    (VorticityConvection2d_init_accepts D = true ↔ D = 2) ∧
    (NavierStokesVelocity_init_accepts D = true ↔ D = 3) ∧
    (KolmogorovFlowVelocity_init_accepts D = true ↔ D = 3) ∧
    (ProjectedConvection3d_init_accepts D = true ↔ D = 3) := by
  simp [NavierStokesVorticity_init_accepts_eq, KolmogorovFlowVorticity_init_accepts_eq,
    GeneralVorticityConvectionStepper_init_accepts_eq, VorticityConvection2d_init_accepts_eq,
    NavierStokesVelocity_init_accepts_eq, KolmogorovFlowVelocity_init_accepts_eq,
    ProjectedConvection3d_init_accepts_eq, dimOk]

open Exponax.Gen.Guards in
/-- operator order parity, generator option validation, convection channel count — regenerated = documented -/
theorem C20_generated_option_guards (order : ℕ) (zeroMean stdOne maxOne single conservative : Bool) (C D : ℕ)
    (rest : List ℕ) :
    (build_laplace_operator_accepts order = true ↔ order % 2 = 0) ∧
    (validate_normalization_options_accepts zeroMean stdOne maxOne = false ↔
      (zeroMean = false ∧ stdOne = true) ∨ (stdOne = true ∧ maxOne = true)) ∧
    (RandomTruncatedFourierSeries_init_accepts stdOne maxOne zeroMean = icNormOk zeroMean stdOne maxOne) ∧
    (ConvectionNonlinearFun_call_accepts single conservative D (C :: rest) = true ↔ (single = true ∨ C = D)) :=
  ⟨build_laplace_operator_accepts_iff order, validate_normalization_options_rejects_iff zeroMean stdOne maxOne,
   RandomTruncatedFourierSeries_init_accepts_eq zeroMean stdOne maxOne,
   ConvectionNonlinearFun_call_accepts_iff single conservative C D rest⟩

/-- coverage is recorded: 77 raise sites, and each of the four stepper-protocol classes guards its `__call__`
    (a guard that is deleted, or a new unguarded entry point, breaks this) -/
theorem C20_generated_coverage :
    Gen.Guards.generated_raise_sites = 77 ∧
      Gen.Guards.stepper_call_guards = [("BaseStepper", 1), ("ForcedStepper", 2), ("Poisson", 1), ("RepeatedStepper", 1)] :=
  ⟨generated_raise_sites_eq, stepper_call_guards_eq⟩

example : acceptsShape 2 3 16 [2, 16, 16, 16] = true := by decide
example : acceptsShape 2 3 16 [1, 16, 16, 16] = false := by decide
example : acceptsShape 1 2 16 [1, 16, 15] = false := by decide

end Exponax
