import ExponaxModel.Proofs.IncompressibleNyquistFree
/-
C10 — the EVEN-grid Nyquist-free case of `exponax.make_incompressible` (regenerated
`Gen.SpectralOps.make_incompressible`), both indexings.  `C10_make_incompressible_divfree` reaches only the stored modes
of Hermitian weight 2 (not the `k_last = 0` plane, not the Nyquist column) and the `…_odd_grid` theorems need `N` odd.
Here, for every REAL field whose components have no content at the stored modes with a Nyquist wavenumber component
(`C2R.NyqMode`: `N` even and `|k_d| = N/2` on some axis; on odd grids there are none), every `D ≥ 2`, EVERY `N ≥ 1`:
the Leray-projected spectrum is Hermitian-consistent at every stored mode, so the spectrum of the physical-space result
IS the Leray-projected spectrum, the result is divergence-free at EVERY stored mode, and `make_incompressible` is
idempotent.  Moreover every real field that is spectrally divergence-free at every stored mode is returned unchanged
(whole arrays; every `D ≥ 1`, `N ≥ 1`, any indexing string; needs no Nyquist hypothesis).
-/
set_option linter.unusedVariables false
namespace Exponax

open Exponax.IncompressibleXY Exponax.IncompressibleNyquistFree Exponax.SmallGaps2 in
/-- **Hermitian consistency of the projected spectrum, every grid.**  For a real field whose components are
    Nyquist-free, any `D ≥ 2`, any `N ≥ 1` (even included), the Leray-projected spectrum (`"xy"` convention,
    `lerayXY (specOf field)`) survives `rfftn ∘ irfftn` at EVERY stored mode `h` and every channel. -/
theorem C10_leray_spectrum_fixed_nyquist_free (D N : ℕ) (hD : 2 ≤ D) (hN : 0 < N) (field : Nonlin.MC ℂ)
    (hf : 2 ≤ field.size)
    (hreal : ∀ d < D, ∀ j < N ^ D, ((field.getD d #[]).getD j 0).im = 0)
    (hnf : ∀ d < D, ∀ h < Layout.numModes D N, C2R.NyqMode D N h →
      (Transform.rfftnM D N (field.getD d #[])).getD h 0 = 0)
    (h : ℕ) (hh : h < Layout.numModes D N) :
    FixedAt D N (lerayXY D N (specOf D N field)) h :=
  fixedAt_of_real_nyquist_free D N hD hN field hf hreal hnf h hh

open Exponax.IncompressibleXY Exponax.IncompressibleNyquistFree Exponax.SmallGaps2 in
/-- **`make_incompressible` agrees with the Leray projection in Fourier space at EVERY stored mode** (`"xy"`): for a real
    Nyquist-free field the spectrum of the physical-space result is exactly the projected spectrum — also on the
    self-conjugate columns of an even grid. -/
theorem C10_make_incompressible_xy_spectrum_is_leray_nyquist_free (D N : ℕ) (hD : 2 ≤ D) (hN : 0 < N)
    (field : Nonlin.MC ℂ) (hf : 2 ≤ field.size)
    (hreal : ∀ d < D, ∀ j < N ^ D, ((field.getD d #[]).getD j 0).im = 0)
    (hnf : ∀ d < D, ∀ h < Layout.numModes D N, C2R.NyqMode D N h →
      (Transform.rfftnM D N (field.getD d #[])).getD h 0 = 0)
    (d : ℕ) (hd : d < D) (h : ℕ) (hh : h < Layout.numModes D N) :
    (Transform.rfftnM D N ((Gen.SpectralOps.make_incompressible D N D "xy" field).getD d #[])).getD h 0
      = Nonlin.at2 (lerayXY D N (specOf D N field)) d h := by
  rw [make_incompressible_xy_getD D N hD hN field hf d hd]
  exact fixedAt_of_real_nyquist_free D N hD hN field hf hreal hnf h hh d hd

open Exponax.IncompressibleXY Exponax.IncompressibleNyquistFree Exponax.SmallGaps2 in
/-- … and for the default `"ij"`: the spectrum of the result is the model's `Nonlin.leray` of the spectrum of the field,
    at EVERY stored mode, every real Nyquist-free field, every `N`. -/
theorem C10_make_incompressible_spectrum_is_leray_nyquist_free (D N : ℕ) (hD : 2 ≤ D) (hN : 0 < N)
    (field : Nonlin.MC ℂ) (hf : 2 ≤ field.size)
    (hreal : ∀ d < D, ∀ j < N ^ D, ((field.getD d #[]).getD j 0).im = 0)
    (hnf : ∀ d < D, ∀ h < Layout.numModes D N, C2R.NyqMode D N h →
      (Transform.rfftnM D N (field.getD d #[])).getD h 0 = 0)
    (d : ℕ) (hd : d < D) (h : ℕ) (hh : h < Layout.numModes D N) :
    (Transform.rfftnM D N ((Gen.SpectralOps.make_incompressible D N D "ij" field).getD d #[])).getD h 0
      = Nonlin.at2 (Nonlin.leray (SpectralOpsEq.cfg D N 1) (specOf D N field)) d h := by
  have hf' : 2 ≤ (swapCh field).size := by rw [swapCh_size]; exact hf
  rw [make_incompressible_ij_of_xy D N hD hN field hf,
    swapCh_getD _ (by rw [make_incompressible_size]; exact hD),
    C10_make_incompressible_xy_spectrum_is_leray_nyquist_free D N hD hN (swapCh field) hf'
      (swapCh_real D N hD field hf hreal) (nyqFreeField_swapCh D N hD field hf hnf) (sw d) (sw_lt D d hD hd) h hh,
    at2_lerayXY D N hD, sw_sw, ← swapCh_specOf D N hD field hf, swapCh_swapCh]

open Exponax.IncompressibleXY Exponax.IncompressibleNyquistFree Exponax.SmallGaps2 in
/-- **divergence-free at EVERY stored mode, default `"ij"`, every grid.**  For every real field with Nyquist-free
    components, `D ≥ 2`, `N ≥ 1` (even included), the result of `make_incompressible` has zero spectral divergence
    `Σ_d build_derivative_operator(D, 1, N)[d, h] · rfftn(result)[d, h]` at every stored mode `h` — including the whole
    `k_last = 0` plane and the Nyquist column. -/
theorem C10_make_incompressible_divfree_nyquist_free (D N : ℕ) (hD : 2 ≤ D) (hN : 0 < N) (field : Nonlin.MC ℂ)
    (hf : 2 ≤ field.size)
    (hreal : ∀ d < D, ∀ j < N ^ D, ((field.getD d #[]).getD j 0).im = 0)
    (hnf : ∀ d < D, ∀ h < Layout.numModes D N, C2R.NyqMode D N h →
      (Transform.rfftnM D N (field.getD d #[])).getD h 0 = 0)
    (h : ℕ) (hh : h < Layout.numModes D N) :
    sumList ((List.range D).map (fun d => Gen.SpectralOps.derivative_operator_entry D (1 : ℂ) N "ij" d h *
      (Transform.rfftnM D N ((Gen.SpectralOps.make_incompressible D N D "ij" field).getD d #[])).getD h 0)) = 0 :=
  make_incompressible_ij_divfree_nyquist_free D N hD hN field hf hreal hnf h hh

open Exponax.IncompressibleXY Exponax.IncompressibleNyquistFree Exponax.SmallGaps2 in
/-- **idempotence, default `"ij"`, every grid**: `make_incompressible (make_incompressible u) = make_incompressible u`
    (equality of the arrays) for every real field with Nyquist-free components, `D ≥ 2`, `N ≥ 1`. -/
theorem C10_make_incompressible_idempotent_nyquist_free (D N : ℕ) (hD : 2 ≤ D) (hN : 0 < N) (field : Nonlin.MC ℂ)
    (hf : 2 ≤ field.size)
    (hreal : ∀ d < D, ∀ j < N ^ D, ((field.getD d #[]).getD j 0).im = 0)
    (hnf : ∀ d < D, ∀ h < Layout.numModes D N, C2R.NyqMode D N h →
      (Transform.rfftnM D N (field.getD d #[])).getD h 0 = 0) :
    Gen.SpectralOps.make_incompressible D N D "ij" (Gen.SpectralOps.make_incompressible D N D "ij" field)
      = Gen.SpectralOps.make_incompressible D N D "ij" field :=
  make_incompressible_ij_idem_nyquist_free D N hD hN field hf hreal hnf

open Exponax.IncompressibleXY Exponax.IncompressibleNyquistFree Exponax.SmallGaps2 in
/-- **divergence-free at EVERY stored mode, `indexing="xy"`, every grid** (divergence in the `"xy"` convention). -/
theorem C10_make_incompressible_xy_divfree_nyquist_free (D N : ℕ) (hD : 2 ≤ D) (hN : 0 < N) (field : Nonlin.MC ℂ)
    (hf : 2 ≤ field.size)
    (hreal : ∀ d < D, ∀ j < N ^ D, ((field.getD d #[]).getD j 0).im = 0)
    (hnf : ∀ d < D, ∀ h < Layout.numModes D N, C2R.NyqMode D N h →
      (Transform.rfftnM D N (field.getD d #[])).getD h 0 = 0)
    (h : ℕ) (hh : h < Layout.numModes D N) :
    sumList ((List.range D).map (fun d => Gen.SpectralOps.derivative_operator_entry D (1 : ℂ) N "xy" d h *
      (Transform.rfftnM D N ((Gen.SpectralOps.make_incompressible D N D "xy" field).getD d #[])).getD h 0)) = 0 :=
  make_incompressible_xy_divfree_nyquist_free D N hD hN field hf hreal hnf h hh

open Exponax.IncompressibleXY Exponax.IncompressibleNyquistFree Exponax.SmallGaps2 in
/-- **idempotence, `indexing="xy"`, every grid.** -/
theorem C10_make_incompressible_xy_idempotent_nyquist_free (D N : ℕ) (hD : 2 ≤ D) (hN : 0 < N)
    (field : Nonlin.MC ℂ) (hf : 2 ≤ field.size)
    (hreal : ∀ d < D, ∀ j < N ^ D, ((field.getD d #[]).getD j 0).im = 0)
    (hnf : ∀ d < D, ∀ h < Layout.numModes D N, C2R.NyqMode D N h →
      (Transform.rfftnM D N (field.getD d #[])).getD h 0 = 0) :
    Gen.SpectralOps.make_incompressible D N D "xy" (Gen.SpectralOps.make_incompressible D N D "xy" field)
      = Gen.SpectralOps.make_incompressible D N D "xy" field :=
  make_incompressible_xy_idem_nyquist_free D N hD hN field hf hreal hnf

open Exponax.IncompressibleXY Exponax.IncompressibleNyquistFree Exponax.SmallGaps2 in
/-- the result of `make_incompressible(·, "xy")` on a real Nyquist-free field is again Nyquist-free (and real, see
    `C10_make_incompressible_result_real`), so the theorems above apply to it again. -/
theorem C10_make_incompressible_xy_keeps_nyquist_free (D N : ℕ) (hD : 2 ≤ D) (hN : 0 < N) (field : Nonlin.MC ℂ)
    (hf : 2 ≤ field.size)
    (hreal : ∀ d < D, ∀ j < N ^ D, ((field.getD d #[]).getD j 0).im = 0)
    (hnf : ∀ d < D, ∀ h < Layout.numModes D N, C2R.NyqMode D N h →
      (Transform.rfftnM D N (field.getD d #[])).getD h 0 = 0) :
    ∀ d < D, ∀ h < Layout.numModes D N, C2R.NyqMode D N h →
      (Transform.rfftnM D N ((Gen.SpectralOps.make_incompressible D N D "xy" field).getD d #[])).getD h 0 = 0 :=
  fun d hd m hm hq => by
    rw [make_incompressible_xy_getD D N hD hN field hf d hd,
      fixedAt_of_real_nyquist_free D N hD hN field hf hreal hnf m hm d hd]
    exact leray_spectrum_nyqFree D N hD field hnf d hd m hm hq

open Exponax.IncompressibleXY Exponax.IncompressibleNyquistFree in
/-- every channel of the result of `make_incompressible` is a real grid state of `N^D` entries (any complex input, any
    indexing string) -/
theorem C10_make_incompressible_result_real (D N : ℕ) (hN : 0 < N) (ix : String) (field : Nonlin.MC ℂ)
    (d : ℕ) (hd : d < D) :
    C2R.RealState D N ((Gen.SpectralOps.make_incompressible D N D ix field).getD d #[]) :=
  make_incompressible_realState D N ix field d hd

open Exponax.IncompressibleXY Exponax.IncompressibleNyquistFree in
/-- **divergence-free fields are left unchanged — whole arrays.**  `make_incompressible(u, indexing) = u` for every real
    field `u` with `D` channels of `N^D` entries whose spectral divergence
    `Σ_d build_derivative_operator(D, 1, N, indexing)[d, h] · rfftn(u)[d, h]` vanishes at every stored mode: every
    `D ≥ 1`, every `N ≥ 1` (even included), every indexing string.  No hypothesis on the Nyquist modes is needed. -/
theorem C10_make_incompressible_fixes_divfree (D N : ℕ) (hD : 0 < D) (hN : 0 < N) (ix : String) (u : Nonlin.MC ℂ)
    (hsz : u.size = D) (hreal : ∀ d < D, C2R.RealState D N (u.getD d #[]))
    (hdiv : ∀ h < Layout.numModes D N,
      sumList ((List.range D).map (fun d => Gen.SpectralOps.derivative_operator_entry D (1 : ℂ) N ix d h *
        (Transform.rfftnM D N (u.getD d #[])).getD h 0)) = 0) :
    Gen.SpectralOps.make_incompressible D N D ix u = u := by
  rw [make_incompressible_spec]
  conv_rhs => rw [← NonlinFunsEq.tabC_getD_self D u hsz]
  apply Nonlin.tabC_congr; intro i hi
  have : Transform.tab (Layout.numModes D N) (fun h => projSpec D N ix u i h) = Transform.rfftnM D N (u.getD i #[]) := by
    apply C2R.array_ext_getD _ _ (Layout.numModes D N) (by simp) (DFT.rfftnM_size D N _)
    intro h hh
    rw [DFT.tab_getD _ _ _ _ hh]
    unfold projSpec
    rw [hdiv h hh, mul_zero, mul_zero, sub_zero]
  rw [this, C2R.irfftn_rfftn_of_realState D N hD hN _ (hreal i hi)]

open Exponax.IncompressibleXY Exponax.IncompressibleNyquistFree in
/-- special case: real, Nyquist-free, spectrally divergence-free `u` is returned unchanged
    (the Nyquist-free hypothesis `hnf` is not used — see `C10_make_incompressible_fixes_divfree`) -/
theorem C10_make_incompressible_fixes_divfree_nyquist_free (D N : ℕ) (hD : 2 ≤ D) (hN : 0 < N) (ix : String)
    (u : Nonlin.MC ℂ) (hsz : u.size = D) (hreal : ∀ d < D, C2R.RealState D N (u.getD d #[]))
    (hnf : ∀ d < D, ∀ h < Layout.numModes D N, C2R.NyqMode D N h →
      (Transform.rfftnM D N (u.getD d #[])).getD h 0 = 0)
    (hdiv : ∀ h < Layout.numModes D N,
      sumList ((List.range D).map (fun d => Gen.SpectralOps.derivative_operator_entry D (1 : ℂ) N ix d h *
        (Transform.rfftnM D N (u.getD d #[])).getD h 0)) = 0) :
    Gen.SpectralOps.make_incompressible D N D ix u = u :=
  C10_make_incompressible_fixes_divfree D N (by omega) hN ix u hsz hreal hdiv

open Exponax.IncompressibleNyquistFree in
/-- the Nyquist-free hypothesis above follows from `ExactLinear.BandLimited` of every component (no content at the stored
    modes that are not strictly below Nyquist) … -/
theorem C10_nyquist_free_of_band_limited (D N : ℕ) (field : Nonlin.MC ℂ)
    (hb : ∀ d < D, ExactLinear.BandLimited D N (field.getD d #[])) :
    ∀ d < D, ∀ h < Layout.numModes D N, C2R.NyqMode D N h →
      (Transform.rfftnM D N (field.getD d #[])).getD h 0 = 0 :=
  nyqFreeField_of_bandLimited D N field hb

open Exponax.IncompressibleNyquistFree in
/-- … and is vacuous on odd grids (the `…_odd_grid` theorems are special cases) -/
theorem C10_nyquist_free_of_odd_grid (D N : ℕ) (hodd : N % 2 = 1) (field : Nonlin.MC ℂ) :
    ∀ d < D, ∀ h < Layout.numModes D N, C2R.NyqMode D N h →
      (Transform.rfftnM D N (field.getD d #[])).getD h 0 = 0 :=
  nyqFreeField_of_odd D N hodd field

open Exponax.IncompressibleXY Exponax.IncompressibleNyquistFree in
/-- **non-vacuity on an EVEN grid** (`D = 2`, `N = 4`): a real two-channel field with Nyquist-free components exists
    (both channels the below-Nyquist cosine mode `(1, 1)`), on a grid that has Nyquist modes on the self-conjugate
    columns (stored index 5 = mode `(1, 2)`, Hermitian weight 1) — where `C10_make_incompressible_divfree` and the
    odd-grid theorems say nothing. -/
example : ∃ (field : Nonlin.MC ℂ), 2 ≤ field.size ∧
    (∀ d < 2, ∀ j < 4 ^ 2, ((field.getD d #[]).getD j 0).im = 0) ∧
    (∀ d < 2, ∀ h < Layout.numModes 2 4, C2R.NyqMode 2 4 h →
      (Transform.rfftnM 2 4 (field.getD d #[])).getD h 0 = 0) ∧
    (4 : ℕ) % 2 = 0 ∧ (5 : ℕ) < Layout.numModes 2 4 ∧ Transform.herm_weight 2 4 5 = 1 :=
  ⟨exField, by simp [exField], exField_real, exField_nyqFree, by decide, by decide, by decide⟩

open Exponax.IncompressibleXY Exponax.IncompressibleNyquistFree in
/-- **non-vacuity of `C10_make_incompressible_fixes_divfree` on the even `4 × 4` grid**: the output of
    `make_incompressible` on that field has the right size, is real and is spectrally divergence-free at every stored
    mode (by `C10_make_incompressible_divfree_nyquist_free`). -/
example : ∃ (u : Nonlin.MC ℂ), u.size = 2 ∧ (∀ d < 2, C2R.RealState 2 4 (u.getD d #[])) ∧
    (∀ h < Layout.numModes 2 4,
      sumList ((List.range 2).map (fun d => Gen.SpectralOps.derivative_operator_entry 2 (1 : ℂ) 4 "ij" d h *
        (Transform.rfftnM 2 4 (u.getD d #[])).getD h 0)) = 0) :=
  ⟨Gen.SpectralOps.make_incompressible 2 4 2 "ij" exField, make_incompressible_size 2 4 "ij" exField,
    fun d hd => C10_make_incompressible_result_real 2 4 (by norm_num) "ij" exField d hd,
    fun h hh => C10_make_incompressible_divfree_nyquist_free 2 4 (by norm_num) (by norm_num) exField
      (by simp [exField]) exField_real exField_nyqFree h hh⟩

end Exponax
